/-
  Association lists with the semantics of a Python `dict`:
  insertion-ordered, `insert` overwrites the value of an existing key *in place*,
  otherwise appends at the end.  Core Lean only.
-/
namespace PS

abbrev AList (κ ν : Type) := List (κ × ν)

namespace AList
variable {κ ν : Type} [DecidableEq κ]

def lookup (k : κ) : AList κ ν → Option ν
  | [] => none
  | (k', v) :: r => if k' = k then some v else lookup k r

def contains (k : κ) (d : AList κ ν) : Bool := (lookup k d).isSome

def insert (k : κ) (v : ν) : AList κ ν → AList κ ν
  | [] => [(k, v)]
  | (k', v') :: r => if k' = k then (k, v) :: r else (k', v') :: insert k v r

def erase (k : κ) : AList κ ν → AList κ ν
  | [] => []
  | (k', v') :: r => if k' = k then r else (k', v') :: erase k r

/-- Python `for (k, v) in xs: d[k] = v`. -/
def insertMany (d : AList κ ν) (xs : List (κ × ν)) : AList κ ν :=
  xs.foldl (fun d x => insert x.1 x.2 d) d

/-- Python `{k: v for (k, v) in xs}` / `dict(xs)`: later entries overwrite earlier ones. -/
def ofList (xs : List (κ × ν)) : AList κ ν := insertMany [] xs

def keys (d : AList κ ν) : List κ := d.map (·.1)
def values (d : AList κ ν) : List ν := d.map (·.2)

@[simp] theorem lookup_nil (k : κ) : lookup k ([] : AList κ ν) = none := rfl

theorem lookup_insert_self (k : κ) (v : ν) (d : AList κ ν) :
    lookup k (insert k v d) = some v := by
  induction d with
  | nil => simp [insert, lookup]
  | cons p r ih =>
    obtain ⟨k', v'⟩ := p
    by_cases h : k' = k
    · simp [insert, lookup, h]
    · simp [insert, lookup, h, ih]

theorem lookup_insert_ne {k k' : κ} (v : ν) (d : AList κ ν) (h : k' ≠ k) :
    lookup k' (insert k v d) = lookup k' d := by
  induction d with
  | nil => simp [insert, lookup, Ne.symm h]
  | cons p r ih =>
    obtain ⟨k2, v2⟩ := p
    by_cases h2 : k2 = k
    · subst h2
      simp [insert, lookup, Ne.symm h]
    · by_cases h3 : k2 = k'
      · subst h3; simp [insert, lookup, h2]
      · simp [insert, lookup, h2, h3, ih]

theorem lookup_insert (k k' : κ) (v : ν) (d : AList κ ν) :
    lookup k' (insert k v d) = if k' = k then some v else lookup k' d := by
  by_cases h : k' = k
  · subst h; simp [lookup_insert_self]
  · simp [h, lookup_insert_ne v d h]

theorem lookup_some_mem {k : κ} {v : ν} {d : AList κ ν} (h : lookup k d = some v) :
    (k, v) ∈ d := by
  induction d with
  | nil => simp [lookup] at h
  | cons p r ih =>
    obtain ⟨k', v'⟩ := p
    by_cases hk : k' = k
    · simp [lookup, hk] at h; subst h; subst hk; simp
    · simp [lookup, hk] at h; exact List.mem_cons_of_mem _ (ih h)

theorem lookup_isSome_iff_mem_keys {k : κ} {d : AList κ ν} :
    (lookup k d).isSome ↔ k ∈ keys d := by
  induction d with
  | nil => simp [lookup, keys]
  | cons p r ih =>
    obtain ⟨k', v'⟩ := p
    by_cases hk : k' = k
    · simp [lookup, keys, hk]
    · simp only [lookup, hk, if_false, keys, List.map_cons, List.mem_cons]
      constructor
      · intro h; exact Or.inr (ih.mp h)
      · intro h
        rcases h with h | h
        · exact absurd h.symm hk
        · exact ih.mpr h

end AList

/-- Python `all(...)` / `any(...)` over a list. -/
theorem List.all_append' {α} (p : α → Bool) (a b : List α) :
    (a ++ b).all p = (a.all p && b.all p) := by simp

end PS

namespace PS.AList
variable {κ ν : Type} [DecidableEq κ]

theorem lookup_of_mem_nodup {k : κ} {v : ν} {d : AList κ ν} (hnd : (keys d).Nodup)
    (h : (k, v) ∈ d) : lookup k d = some v := by
  induction d with
  | nil => cases h
  | cons p r ih =>
    obtain ⟨k', v'⟩ := p
    simp only [keys, List.map_cons, List.nodup_cons] at hnd
    rcases List.mem_cons.mp h with h | h
    · cases h; simp [lookup]
    · have hne : k' ≠ k := by
        intro hk; subst hk
        exact hnd.1 (List.mem_map.mpr ⟨(k', v), h, rfl⟩)
      simp only [lookup, hne, if_false]
      exact ih hnd.2 h

theorem contains_iff_lookup {k : κ} {d : AList κ ν} :
    contains k d = true ↔ ∃ v, lookup k d = some v := by
  unfold contains
  cases lookup k d <;> simp

end PS.AList
