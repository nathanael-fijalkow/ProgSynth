/-
  Model of synth/syntax/automata/tree_automaton.py  (property C07; reused by C05, C06).

  `DFTA σ Q` : deterministic bottom-up finite tree automaton, letters `σ`, states `Q`.
     rules  : Python `Dict[Tuple[V, Tuple[U, ...]], U]`  → `AList (σ × List Q) Q`
     finals : Python `Set[U]`                            → `List Q` (membership only)

  API (each definition names the lines it transcribes):
     read            tree_automaton.py:100-101
     run / runList   bottom-up run of the automaton on a `PS.Tree σ` (what `read` is for)
     accepts         the language of the automaton
     states          :67-87   (reachability fix-point)
     removeUnreachable :103-111, removeUnproductive :113-…, reduce
     readProduct     :133-157
     readUnionWith / readUnion :159-213 (`fusion`, default = pair of options)
     mapStates       :317-324
     minimiseWith / minimise :223-315 (Brainerd partition refinement)

  Python sets are lists here; where Python builds a set by adding elements one at a time the
  model uses `addNew` (append when absent), so these lists are duplicate free.  The order of
  a set never influences a result of this file except the *names* of the states returned by
  `minimise` (a state of the minimised automaton is the tuple of the members of a class);
  the initial orders of the two classes are therefore parameters (`minimiseCore`).
  Core Lean only.
-/
import PS.Basic
import PS.Model.Tree
namespace PS

/-- `set.add` on a list without duplicates. -/
def addNew {α : Type} [DecidableEq α] (acc : List α) (a : α) : List α :=
  if a ∈ acc then acc else acc ++ [a]

/-- Python `while changed:` loops that only ever add elements to a set: run `pass` until
    nothing was added (`fuel` bounds the number of passes). -/
def growLoop {α : Type} (pass : List α → List α) : Nat → List α → List α
  | 0, r => r
  | n + 1, r => if (pass r).length = r.length then r else growLoop pass n (pass r)

/-- Python `itertools.product(*cases)` (first component varies slowest). -/
def cartesian {α : Type} : List (List α) → List (List α)
  | [] => [[]]
  | c :: cs => c.flatMap (fun x => (cartesian cs).map (fun r => x :: r))

structure DFTA (σ Q : Type) where
  rules : AList (σ × List Q) Q
  finals : List Q
  deriving Repr

namespace DFTA
variable {σ Q Q₁ Q₂ X : Type} [DecidableEq σ] [DecidableEq Q] [DecidableEq Q₁] [DecidableEq Q₂]
  [DecidableEq X]

/-- `DFTA.read` (tree_automaton.py:100-101): `self.rules.get((letter, children), None)`. -/
def read (A : DFTA σ Q) (l : σ) (qs : List Q) : Option Q := AList.lookup (l, qs) A.rules

mutual
  /-- bottom-up run: the state reached on a tree, if every `read` on the way is defined -/
  def run (A : DFTA σ Q) : Tree σ → Option Q
    | .node l ks => match runList A ks with
      | some qs => A.read l qs
      | none => none
  def runList (A : DFTA σ Q) : List (Tree σ) → Option (List Q)
    | [] => some []
    | t :: ts => match run A t, runList A ts with
      | some q, some qs => some (q :: qs)
      | _, _ => none
end

/-- the language: trees whose run ends in a final state -/
def accepts (A : DFTA σ Q) (t : Tree σ) : Bool :=
  match run A t with
  | some q => decide (q ∈ A.finals)
  | none => false

/-- `DFTA.size` (:61-65) -/
def size (A : DFTA σ Q) : Nat := A.rules.length

/-! ### reachable states (`DFTA.states`, :67-87)
  The Python loop groups the rules by target and repeatedly adds every target that has a rule
  whose arguments are all reachable already, until a whole pass adds nothing.  One pass of the
  model goes over the rules in table order; the set obtained when nothing changes any more is
  the same (the least set closed under the rules). -/
def reachPass (A : DFTA σ Q) (r : List Q) : List Q :=
  A.rules.foldl (fun acc rule =>
    if rule.1.2.all (fun s => decide (s ∈ acc)) then addNew acc rule.2 else acc) r

def states (A : DFTA σ Q) : List Q := growLoop (reachPass A) (A.rules.length + 1) []

/-- `DFTA.alphabet` (:89-98) -/
def alphabet (A : DFTA σ Q) : List σ := A.rules.foldl (fun acc rule => addNew acc rule.1.1) []

/-- `__remove_unreachable__` (:103-111) -/
def removeUnreachable (A : DFTA σ Q) : DFTA σ Q :=
  let ns := A.states
  { rules := A.rules.filter (fun rule => decide (rule.2 ∈ ns) && rule.1.2.all (fun s => decide (s ∈ ns)))
    finals := A.finals.filter (fun q => decide (q ∈ ns)) }

/-! ### productive states (`__remove_unproductive__`, :113-…, as repaired by proposed fix C07-F1)
  backward fix-point from the final states: the arguments of a rule whose target is productive
  are productive; rules whose target is not productive are deleted. -/
def prodPass (A : DFTA σ Q) (p : List Q) : List Q :=
  A.rules.foldl (fun acc rule => if rule.2 ∈ acc then rule.1.2.foldl addNew acc else acc) p

/-- number of argument positions of the table: a bound on the number of passes -/
def argCount (A : DFTA σ Q) : Nat := (A.rules.map (fun rule => rule.1.2.length)).sum

def productive (A : DFTA σ Q) : List Q :=
  growLoop (prodPass A) (A.finals.length + A.argCount + 1) (A.finals.foldl addNew [])

def removeUnproductive (A : DFTA σ Q) : DFTA σ Q :=
  let p := A.productive
  { rules := A.rules.filter (fun rule => decide (rule.2 ∈ p)), finals := A.finals }

/-- `__remove_unproductive__` as it is in /repo BEFORE proposed fix C07-F1 (:113-125): a rule is
    deleted only when its target is neither final nor an argument of any remaining rule, until
    nothing changes.  Kept for the witness theorem `finding_C07_F1` only. -/
def removeUnproductiveOld (A : DFTA σ Q) : Nat → DFTA σ Q
  | 0 => A
  | fuel + 1 =>
    let consumed := A.finals ++ A.rules.flatMap (fun rule => rule.1.2)
    let rules' := A.rules.filter (fun rule => decide (rule.2 ∈ consumed))
    if rules'.length = A.rules.length then A
    else removeUnproductiveOld { rules := rules', finals := A.finals } fuel

/-- `DFTA.reduce` (:127-132) -/
def reduce (A : DFTA σ Q) : DFTA σ Q := removeUnproductive (removeUnreachable A)

/-! ### `read_product` (:133-157) -/
def productRules (A : DFTA σ Q₁) (B : DFTA σ Q₂) : List ((σ × List (Q₁ × Q₂)) × (Q₁ × Q₂)) :=
  A.rules.flatMap (fun r1 => B.rules.filterMap (fun r2 =>
    if r1.1.2.length ≠ r2.1.2.length ∨ r1.1.1 ≠ r2.1.1 then none
    else some ((r1.1.1, List.zip r1.1.2 r2.1.2), (r1.2, r2.2))))

def readProduct (A : DFTA σ Q₁) (B : DFTA σ Q₂) : DFTA σ (Q₁ × Q₂) :=
  { rules := AList.ofList (productRules A B)
    finals := A.finals.flatMap (fun d1 => B.finals.map (fun d2 => (d1, d2))) }

/-! ### `read_union` (:159-213) -/
section union
variable (fusion : Option Q₁ → Option Q₂ → X)

/-- `mapping_s[a]` (a `defaultdict(list)`: empty for a state that is not reachable) -/
def mappingS (sa : List Q₁) (sb : List Q₂) (a : Q₁) : List X :=
  if a ∈ sa then sb.map (fun b => fusion (some a) (some b)) ++ [fusion (some a) none] else []

/-- `mapping_o[b]` -/
def mappingO (sa : List Q₁) (sb : List Q₂) (b : Q₂) : List X :=
  if b ∈ sb then sa.map (fun a => fusion (some a) (some b)) ++ [fusion none (some b)] else []

def unionRules1 (A : DFTA σ Q₁) (sa : List Q₁) (sb : List Q₂) : List ((σ × List X) × X) :=
  A.rules.flatMap (fun r1 =>
    (cartesian (r1.1.2.map (mappingS fusion sa sb))).map (fun na => ((r1.1.1, na), fusion (some r1.2) none)))

def unionRules2 (B : DFTA σ Q₂) (sa : List Q₁) (sb : List Q₂) : List ((σ × List X) × X) :=
  B.rules.flatMap (fun r2 =>
    (cartesian (r2.1.2.map (mappingO fusion sa sb))).map (fun na => ((r2.1.1, na), fusion none (some r2.2))))

def unionRules3 (A : DFTA σ Q₁) (B : DFTA σ Q₂) : List ((σ × List X) × X) :=
  A.rules.flatMap (fun r1 => B.rules.filterMap (fun r2 =>
    if r1.1.2.length ≠ r2.1.2.length ∨ r1.1.1 ≠ r2.1.1 then none
    else some ((r1.1.1, List.zipWith (fun a b => fusion (some a) (some b)) r1.1.2 r2.1.2),
               fusion (some r1.2) (some r2.2))))

/-- the automaton built by `read_union` before its final `out.reduce()` -/
def unionRaw (A : DFTA σ Q₁) (B : DFTA σ Q₂) : DFTA σ X :=
  let sa := A.states
  let sb := B.states
  { rules := AList.ofList (unionRules1 fusion A sa sb ++ (unionRules2 fusion B sa sb ++ unionRules3 fusion A B))
    finals := (sa.filter (fun a => decide (a ∈ A.finals))).flatMap (mappingS fusion sa sb)
              ++ (sb.filter (fun b => decide (b ∈ B.finals))).flatMap (mappingO fusion sa sb) }

def readUnionWith (A : DFTA σ Q₁) (B : DFTA σ Q₂) : DFTA σ X := reduce (unionRaw fusion A B)
end union

/-- `read_union` with the default `fusion = lambda x, y: (x, y)` -/
def readUnion (A : DFTA σ Q₁) (B : DFTA σ Q₂) : DFTA σ (Option Q₁ × Option Q₂) :=
  readUnionWith (fun x y => (x, y)) A B

/-! ### `map_states` (:317-324) -/
def mapStates (f : Q → X) (A : DFTA σ Q) : DFTA σ X :=
  { rules := AList.ofList (A.rules.map (fun rule => ((rule.1.1, rule.1.2.map f), f rule.2)))
    finals := A.finals.map f }

/-! ### `minimise` (:223-315) -/

/-- `consumer_of[q]` (:234-247): the pairs (rule key, position) where `q` is consumed, in table
    order and then position order. -/
def consumers (A : DFTA σ Q) (q : Q) : List ((σ × List Q) × Nat) :=
  A.rules.flatMap (fun rule =>
    (List.range rule.1.2.length).filterMap (fun k =>
      if rule.1.2[k]? = some q then some (rule.1, k) else none))

/-- class of the target of the rule with key `S` (`state2cls[self.rules[S]]`) -/
def clsOfKey (A : DFTA σ Q) (s2c : AList Q Nat) (S : σ × List Q) : Option Nat :=
  (AList.lookup S A.rules).bind (fun d => AList.lookup d s2c)

/-- one half of `are_equivalent` (:260-269 resp. :271-277): every rule consuming `a` has a
    counterpart with `b` at that position whose target is in the same class. -/
def halfEquivalent (A : DFTA σ Q) (s2c : AList Q Nat) (a b : Q) : Bool :=
  (consumers A a).all (fun Sk =>
    let newS := (Sk.1.1, Sk.1.2.set Sk.2 b)
    match AList.lookup newS A.rules with
    | none => false
    | some out => AList.lookup out s2c == clsOfKey A s2c Sk.1)

/-- `are_equivalent(a, b)` (:259-278) -/
def areEquivalent (A : DFTA σ Q) (s2c : AList Q Nat) (a b : Q) : Bool :=
  halfEquivalent A s2c a b && halfEquivalent A s2c b a

structure MinState (Q : Type) where
  s2c : AList Q Nat          -- state2cls
  c2s : AList Nat (List Q)   -- cls2states
  n : Nat
  finished : Bool

/-- the `while cls:` loop (:286-310) for class `i`; `fuel` ≥ length of `cls` -/
def splitLoop (A : DFTA σ Q) (i : Nat) : Nat → List Q → MinState Q → MinState Q
  | 0, _, st => st
  | fuel + 1, cls, st =>
    match cls.getLast? with
    | none => st
    | some rep =>                                   -- representative = cls.pop()
      let rest := cls.dropLast
      let same := rest.filter (fun q => areEquivalent A st.s2c rep q)
      let next := rest.filter (fun q => !areEquivalent A st.s2c rep q)
      let newCls := rep :: same
      if next ≠ [] then
        let n := st.n + 1
        splitLoop A i fuel next
          { s2c := newCls.foldl (fun d q => AList.insert q n d) st.s2c
            c2s := AList.insert n newCls st.c2s, n := n, finished := false }
      else
        { st with c2s := AList.insert i newCls st.c2s }

/-- one pass `for i in range(n + 1)` (:283-310); `n` is read once, at the start -/
def minPass (A : DFTA σ Q) (st : MinState Q) : MinState Q :=
  (List.range (st.n + 1)).foldl (fun st i =>
    let cls := (AList.lookup i st.c2s).getD []
    splitLoop A i (cls.length + 1) cls st) { st with finished := true }

/-- `while not finished:` (:281-310) -/
def minLoop (A : DFTA σ Q) : Nat → MinState Q → Option (MinState Q)
  | 0, _ => none
  | fuel + 1, st =>
    let st' := minPass A st
    if st'.finished then some st' else minLoop A fuel st'

/-- `cls2states[state2cls[q]]` -/
def clsTuple (st : MinState Q) (q : Q) : List Q :=
  match AList.lookup q st.s2c with
  | some i => (AList.lookup i st.c2s).getD []
  | none => []

/-- `minimise` with the iteration orders of the two initial classes (non-final, final) given
    and a bound on the number of passes; `f` is the optional `mapping` argument. -/
def minimiseCore (f : List Q → X) (A : DFTA σ Q) (cls0 cls1 : List Q) (fuel : Nat) : Option (DFTA σ X) :=
  let s2c : AList Q Nat := AList.ofList (A.states.map (fun q => (q, if q ∈ A.finals then 1 else 0)))
  let st0 : MinState Q := { s2c := s2c, c2s := [(0, cls0), (1, cls1)], n := 1, finished := false }
  match minLoop A fuel st0 with
  | none => none
  | some st =>
    some { rules := AList.ofList (A.rules.map (fun rule =>
                      ((rule.1.1, rule.1.2.map (fun q => f (clsTuple st q))), f (clsTuple st rule.2))))
           finals := A.finals.map (fun q => f (clsTuple st q)) }

/-- `minimise(mapping)`; the two initial classes are taken in the order of `states`; every pass
    but the last creates a class, so `|states| + 2` passes are enough. -/
def minimiseWith (f : List Q → X) (A : DFTA σ Q) : Option (DFTA σ X) :=
  minimiseCore f A (A.states.filter (fun q => decide (q ∉ A.finals)))
    (A.states.filter (fun q => decide (q ∈ A.finals))) (A.states.length + 2)

/-- `minimise()` (`mapping=None`: a state is the tuple of the members of its class) -/
def minimise (A : DFTA σ Q) : Option (DFTA σ (List Q)) := minimiseWith id A

/-! ### specification vocabulary -/

/-- Python dict keys are unique: the invariant every table coming from Python satisfies. -/
def Det (A : DFTA σ Q) : Prop := (AList.keys A.rules).Nodup

/-- every state mentioned anywhere in the automaton -/
def allStates (A : DFTA σ Q) : List Q :=
  A.rules.flatMap (fun rule => rule.2 :: rule.1.2) ++ A.finals

/-- `allStates` without duplicates -/
def stateSet (A : DFTA σ Q) : List Q := (allStates A).foldl addNew []

/-- number of states of an automaton as Python counts them (`len(dfta.states)`) -/
def numStates (A : DFTA σ Q) : Nat := A.states.length

/-- Executable certificate that `c` (a naming of classes of states) is a congruence of the
    automaton on the states `S`: states with the same name are both final or both not, and
    replacing one by the other at one position of a rule leads to a rule whose target has the
    same name.  `minimise` returns `mapStates c A` for `c = clsTuple st`; the driver evaluates
    this certificate on the final partition of every run (theorem `C07_quotient`). -/
def congruenceCert (A : DFTA σ Q) (c : Q → X) (S : List Q) : Bool :=
  S.all fun q => S.all fun q' =>
    if c q = c q' then
      (decide (q ∈ A.finals) == decide (q' ∈ A.finals)) &&
      (consumers A q).all (fun Sk =>
        match AList.lookup Sk.1 A.rules, AList.lookup (Sk.1.1, Sk.1.2.set Sk.2 q') A.rules with
        | some d, some d' => decide (c d = c d')
        | some _, none => false
        | none, _ => true)
    else true

/-- the final partition of `minimise` (for the certificate) -/
def minimiseState (A : DFTA σ Q) (cls0 cls1 : List Q) (fuel : Nat) : Option (MinState Q) :=
  let s2c : AList Q Nat := AList.ofList (A.states.map (fun q => (q, if q ∈ A.finals then 1 else 0)))
  minLoop A fuel { s2c := s2c, c2s := [(0, cls0), (1, cls1)], n := 1, finished := false }

end DFTA
end PS
