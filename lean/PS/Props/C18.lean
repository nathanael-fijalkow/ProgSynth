/-
  C18 — Generated tasks are self-consistent and reproducible from the seed.

  Model: PS/Model/TaskGen.lean.
  Quantification: every type of type requests / argument types / programs / values / exceptions,
  every generator configuration `cfg` (max_tries, uniques, argument lists, variable usage, skip set,
  output validator — any function, also one accepting `None`), every evaluator `ev` with state
  that is *faithful* to a semantics `sem` under an invariant `Inv` (section A) and — discharging
  that hypothesis with property C11 — the model of the real `DSLEvaluator` for every DSL semantics,
  cache on or off, from every sound cache (section B); every state `s` of the generator object left
  by earlier calls (`seen`, `_failed_types`, statistics), every draw stream (type requests,
  programs per grammar, sample numbers, inputs per argument type), every number `n` of consecutive
  `generate_task` calls, every task among their results.  No bound on any length.

  The model has the repair of C18-F1 (commit ad479c3, in /repo).  The example loop of
  `generate_task` before that commit (`exLoopUnfixed`) ran once with a sample number of 0 and
  could return a task with one example: `finding_count_zero_before_fix`.
-/
import PS.Proofs.TaskGen
import PS.Props.C10
set_option linter.unusedSectionVars false
set_option linter.unusedVariables false
namespace PS.C18
open PS
open PS.C11 (Outcome)
open PS.C10 (Ev Faithful pureEv dslEv)

variable {T A P I V E St : Type} [DecidableEq T] [DecidableEq A] [DecidableEq P] [DecidableEq V]

/-! ## A. every faithful evaluator -/
section faithful
variable (cfg : Cfg T A P V E) {ev : Ev St P (List I) V E} {sem : P → List I → Outcome V E}
  {Inv : St → Prop} (hF : Faithful ev sem Inv)
include hF

/-- every example's output is the evaluation of the solution on its input (`None` exactly when
    the evaluation fails with an exception skipped by the evaluator or by the generator) -/
theorem C18_consistent (n : Nat) (s : State T A P I St) (hI : Inv s.es) :
    ∀ t ∈ tasksOf (run cfg ev n s), Consistent cfg.skip sem t :=
  fun t ht => let ⟨_, h⟩ := run_tasks cfg hF n s hI t ht; h.consistent

/-- with a validator that rejects `None` (e.g. `basic_output_validator`): every example output is
    a value and the semantics of the solution on the example input is that value -/
theorem C18_consistent_value (hv : cfg.valid none = false) (n : Nat) (s : State T A P I St)
    (hI : Inv s.es) :
    ∀ t ∈ tasksOf (run cfg ev n s), ∀ ex ∈ t.examples,
      ∃ v, ex.2 = some v ∧ sem t.solution ex.1 = .value v := by
  intro t ht ex hex
  obtain ⟨hc, _, _, hd, _⟩ := run_task_spec cfg hF n s hI t ht
  have hval := hd.2 ex hex
  cases ho : ex.2 with
  | none => rw [ho, hv] at hval; cases hval
  | some v => exact ⟨v, rfl, okIs_outOpt_some (ho ▸ hc ex hex)⟩

/-- the solution is one of the draws of the grammar of the task's type request -/
theorem C18_member (n : Nat) (s : State T A P I St) (hI : Inv s.es) :
    ∀ t ∈ tasksOf (run cfg ev n s), Member s.progs t :=
  fun t ht => let ⟨_, h⟩ := run_tasks cfg hF n s hI t ht; h.member

/-- … hence in the language of that grammar, whenever the grammar's sampler only returns
    programs of its language (`hL`; that is what property C09 says of the samplers, but `L` is
    any predicate here: the two models are not linked in Lean) -/
theorem C18_member_language (L : T → P → Prop) (n : Nat) (s : State T A P I St) (hI : Inv s.es)
    (hL : ∀ tr, ∀ p ∈ draws tr s.progs, L tr p) :
    ∀ t ∈ tasksOf (run cfg ev n s), L t.typeRequest t.solution :=
  fun t ht => hL _ _ (C18_member cfg hF n s hI t ht)

/-- every input has one component per argument of the type request, each a draw of the input
    sampler for that argument's type -/
theorem C18_inputs (n : Nat) (s : State T A P I St) (hI : Inv s.es) :
    ∀ t ∈ tasksOf (run cfg ev n s), InputsOK cfg.args s.inputs t :=
  fun t ht => let ⟨_, h⟩ := run_tasks cfg hF n s hI t ht; h.inputs

/-- outputs are pairwise distinct and accepted by the validator -/
theorem C18_distinct (n : Nat) (s : State T A P I St) (hI : Inv s.es) :
    ∀ t ∈ tasksOf (run cfg ev n s), Distinct cfg.valid t :=
  fun t ht => let ⟨_, h⟩ := run_tasks cfg hF n s hI t ht; h.distinct

/-- the number of examples is a sample number drawn for the type request (0 when a negative
    number is drawn) -/
theorem C18_count (n : Nat) (s : State T A P I St) (hI : Inv s.es) :
    ∀ t ∈ tasksOf (run cfg ev n s),
      ∃ k ∈ draws t.typeRequest s.samples, (t.examples.length : Int) = max k 0 :=
  fun t ht => let ⟨_, h⟩ := run_tasks cfg hF n s hI t ht; h.count

/-- … exactly the specification's clause when sample numbers are counts (not negative) -/
theorem C18_count_nonneg (n : Nat) (s : State T A P I St) (hI : Inv s.es)
    (hpos : ∀ tr, ∀ k ∈ draws tr s.samples, 0 ≤ k) :
    ∀ t ∈ tasksOf (run cfg ev n s), Count s.samples t := by
  intro t ht
  obtain ⟨k, hk, he⟩ := C18_count cfg hF n s hI t ht
  have := hpos _ k hk
  unfold Count
  rw [he, Int.max_eq_left this]
  exact hk

/-- `tries` accounting: examples ≤ tries ≤ max_tries -/
theorem C18_tries (n : Nat) (s : State T A P I St) (hI : Inv s.es) :
    ∀ t ∈ tasksOf (run cfg ev n s), t.examples.length ≤ t.tries ∧ t.tries ≤ cfg.maxTries :=
  fun t ht => let ⟨_, h⟩ := run_tasks cfg hF n s hI t ht; h.tries

/-- with `uniques`: the solutions of the tasks flagged `unique` are pairwise distinct, and none
    was in `seen` before -/
theorem C18_unique (hu : cfg.uniques = true) (n : Nat) (s : State T A P I St) (hI : Inv s.es) :
    (uniqueSols (tasksOf (run cfg ev n s))).Nodup ∧
    ∀ p ∈ uniqueSols (tasksOf (run cfg ev n s)), p ∉ s.seen :=
  run_unique cfg hF hu n s hI

end faithful

/-- equal configurations, evaluators, generator states and draw streams give equal results
    (tasks, exceptions and successor states): the model is a function of the streams.  That is
    already the type of `run` (no other input); the statement below is congruence. -/
theorem C18_deterministic (cfg cfg' : Cfg T A P V E) (ev ev' : Ev St P (List I) V E) (n n' : Nat)
    (s s' : State T A P I St) (hc : cfg = cfg') (he : ev = ev') (hn : n = n') (hs : s = s') :
    run cfg ev n s = run cfg' ev' n' s' := by
  subst hc he hn hs; rfl

/-- the tasks (and exceptions, generator states, remaining streams) do not depend on the evaluator
    or its state (cache contents, cache on/off), only on the semantics: two generators that
    differ only there produce the same results -/
theorem C18_evaluator_independent {St' : Type} (cfg : Cfg T A P V E)
    {ev : Ev St P (List I) V E} {ev' : Ev St' P (List I) V E} {sem : P → List I → Outcome V E}
    {Inv : St → Prop} {Inv' : St' → Prop} (hF : Faithful ev sem Inv) (hF' : Faithful ev' sem Inv')
    (n : Nat) (s : State T A P I St) (s' : State T A P I St') (hI : Inv s.es) (hI' : Inv' s'.es)
    (hs : s.forget = s'.forget) :
    (run cfg ev n s).map Out.forget = (run cfg ev' n s').map Out.forget ∧
    tasksOf (run cfg ev n s) = tasksOf (run cfg ev' n s') := by
  have h1 := run_forget cfg hF n s hI
  have h2 := run_forget cfg hF' n s' hI'
  have h : (run cfg ev n s).map Out.forget = (run cfg ev' n s').map Out.forget := by
    rw [h1, h2, hs]
  exact ⟨h, by rw [← tasksOf_forget (run cfg ev n s), h, tasksOf_forget]⟩

/-- termination of `while True`: each iteration that goes round again has consumed a type draw,
    so the loop never needs more iterations than there are type draws (any larger fuel gives the
    same result: the only way not to return is to exhaust a stream = `stuck`) -/
theorem C18_terminates (cfg : Cfg T A P V E) (ev : Ev St P (List I) V E) (s : State T A P I St)
    (fuel : Nat) (h : s.types.length < fuel) :
    taskLoop cfg ev fuel { s with failed := [] } = generateTask cfg ev s :=
  taskLoop_fuel cfg ev fuel (s.types.length + 1) { s with failed := [] } h (Nat.lt_succ_self _)

/-- the bounded loops are exact: they are recursions on a fuel instantiated with
    `max_tries - counter` (`max_tries + 1 - i` for the type loop); every fuel at least that large
    gives the same result, so no loop of the model ever stops because of its fuel -/
theorem C18_loops_exact (cfg : Cfg T A P V E) (ev : Ev St P (List I) V E) (seen : List P) (failed : List T)
    (nargs : Nat) (f : Nat) :
    (∀ sol ut ds, cfg.maxTries - ut ≤ f →
      uniqLoop seen cfg.maxTries f sol ut ds = uniqLoop seen cfg.maxTries (cfg.maxTries - ut) sol ut ds) ∧
    (∀ vu best tries ut ds, cfg.maxTries - tries ≤ f →
      varLoop seen cfg.maxTries nargs cfg.usedVars f vu best tries ut ds =
        varLoop seen cfg.maxTries nargs cfg.usedVars (cfg.maxTries - tries) vu best tries ut ds) ∧
    (∀ tr i ts, cfg.maxTries + 1 - i ≤ f →
      typeLoop failed cfg.maxTries f tr i ts = typeLoop failed cfg.maxTries (cfg.maxTries + 1 - i) tr i ts) ∧
    (∀ sol args samples tries exs ind es, cfg.maxTries - tries ≤ f →
      exLoop cfg ev sol args samples f tries exs ind es =
        exLoop cfg ev sol args samples (cfg.maxTries - tries) tries exs ind es) :=
  ⟨fun sol ut ds h => uniqLoop_fuel seen _ _ _ sol ut ds h (Nat.le_refl _),
   fun vu best tries ut ds h => varLoop_fuel seen _ nargs _ _ _ vu best tries ut ds h (Nat.le_refl _),
   fun tr i ts h => typeLoop_fuel failed _ _ _ tr i ts h (Nat.le_refl _),
   fun sol args samples tries exs ind es h => exLoop_fuel cfg ev sol args samples _ _ tries exs ind es h (Nat.le_refl _)⟩

/-! ## B. the real evaluator (property C11) -/
section dsl
variable {σ : Type} [DecidableEq σ] {V E : Type} [DecidableEq V]
  {T A : Type} [DecidableEq T] [DecidableEq A]

/-- all clauses for the model of `DSLEvaluator` (any DSL semantics `S`, cache on or off, started
    from any sound cache, e.g. the empty one) -/
theorem C18_dsl (S : C11.Sem σ V E) (useCache : Bool) (cfg : Cfg T A (Tree σ) V E) (n : Nat)
    (s : State T A (Tree σ) V (C11.Cache σ V)) (hc : C11.CacheSound S s.es) :
    ∀ t ∈ tasksOf (run cfg (dslEv S useCache) n s),
      Consistent cfg.skip (C11.specEval S) t ∧ Member s.progs t ∧ InputsOK cfg.args s.inputs t ∧
      Distinct cfg.valid t ∧
      (∃ k ∈ draws t.typeRequest s.samples, (t.examples.length : Int) = max k 0) ∧
      t.examples.length ≤ t.tries ∧ t.tries ≤ cfg.maxTries :=
  run_task_spec cfg (PS.C10.dslEv_faithful S useCache) n s hc

/-- cache on or off, empty or warmed up by any earlier evaluations: same tasks -/
theorem C18_dsl_cache_independent (S : C11.Sem σ V E) (uc uc' : Bool) (cfg : Cfg T A (Tree σ) V E)
    (n : Nat) (s s' : State T A (Tree σ) V (C11.Cache σ V)) (hc : C11.CacheSound S s.es)
    (hc' : C11.CacheSound S s'.es) (hs : s.forget = s'.forget) :
    tasksOf (run cfg (dslEv S uc) n s) = tasksOf (run cfg (dslEv S uc') n s') :=
  (C18_evaluator_independent cfg (PS.C10.dslEv_faithful S uc) (PS.C10.dslEv_faithful S uc') n s s'
    hc hc' hs).2

end dsl

/-! ## Non-vacuity and the finding -/
namespace Example

/-- type request 0 has one argument of type 0; program `p` denotes `x ↦ p * x`, program 5 fails on 0 -/
def cfg : Cfg Nat Nat Nat Int Unit :=
  { maxTries := 4, uniques := true, args := fun t => if t = 0 then [0] else [],
    usedVars := fun p => if p = 0 then 0 else 1, skip := fun _ => true,
    valid := fun o => o.isSome, keyError := () }

def sem : Nat → List Int → Outcome Int Unit := fun p inp =>
  match inp with
  | [x] => if p = 5 ∧ x = 0 then .skipped else .value (p * x)
  | _ => .raised ()

def s0 : State Nat Nat Nat Int Unit :=
  State.init [0, 1, 0] [(0, [0, 2, 2, 5]), (1, [7])] [(0, [2, 2]), (1, [9])]
    [(0, [1, 1, 2, 3, 3, 0, 4, 7, 8])] ()

theorem tasks_s0 : tasksOf (run cfg (pureEv sem) 2 s0) =
    [⟨0, 2, [([1], some 2), ([2], some 4)], 3, true⟩,
     ⟨0, 5, [([3], some 15), ([4], some 20)], 4, true⟩] := by decide +kernel

/-- two calls: the constant program 0 is replaced by 2 (variable usage), the duplicate output is
    rejected; the second call first draws type 1, fails (9 samples > max_tries) and goes round
    again with type 0, draws 2 again (seen: redrawn → 5), rejects a duplicate and a `None` -/
example : tasksOf (run cfg (pureEv sem) 2 s0) =
    [⟨0, 2, [([1], some 2), ([2], some 4)], 3, true⟩,
     ⟨0, 5, [([3], some 15), ([4], some 20)], 4, true⟩] := tasks_s0

example : Faithful (pureEv sem) sem (fun _ => True) := PS.C10.pureEv_faithful sem

example : ∀ t ∈ tasksOf (run cfg (pureEv sem) 2 s0), Consistent cfg.skip sem t ∧ Distinct cfg.valid t :=
  fun t ht => ⟨C18_consistent cfg (PS.C10.pureEv_faithful sem) 2 s0 trivial t ht,
               C18_distinct cfg (PS.C10.pureEv_faithful sem) 2 s0 trivial t ht⟩

example : (uniqueSols (tasksOf (run cfg (pureEv sem) 2 s0))) = [2, 5] := by rw [tasks_s0]; rfl

/-- **finding C18-F1** (`exLoopUnfixed`, the loop before ad479c3): with a sample number of 0 the
    example loop still ran and returned one example — the number of examples is not the number drawn -/
theorem finding_count_zero_before_fix :
    exLoopUnfixed cfg (pureEv sem) 2 [0] 0 cfg.maxTries 0 [] [(0, [1, 2])] () =
      .done 1 [([1], some 2)] [(0, [2])] () := by decide +kernel

/-- the loop of /repo (`exLoop`) does not run -/
example : exLoop cfg (pureEv sem) 2 [0] 0 cfg.maxTries 0 [] [(0, [1, 2])] () =
    .done 0 [] [(0, [1, 2])] () := by decide +kernel

end Example

end PS.C18
