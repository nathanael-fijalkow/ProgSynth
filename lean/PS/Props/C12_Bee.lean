/- C12, part bee (bee search): a filter or merge declarations remove only what they should.  Safety halves proved for every
   history.  The filter's liveness half is proved for the loop of /repo (`Env.fixF11 = true`, see the head of C02_Bee.lean; the
   loop before repair d763a26, `Env.fixF11 = false`, violates it: finding C12-F11; a rule with arguments of cost 0 violates it
   with either loop: finding C12-F9 = C02-F6); the merge's liveness half is compared only (and violated by the implementation:
   finding C12-F10). -/
import PS.Proofs.Enum.BeeOrderRun
import PS.Proofs.Enum.BeeDeleted
import PS.Proofs.Enum.BeeNodupRun
import PS.Proofs.Enum.BeeFull
import PS.Proofs.Enum.BeeTerm
import PS.Proofs.Enum.BeeLive
import PS.Props.C02_Bee
namespace PS.C12Bee
open PS PS.G PS.Bee PS.C02Bee

variable {S : Type} [DecidableEq S]

/-- **NO REJECTED PROGRAM IS YIELDED**, every history: whatever bee search yields along any interleaving of `next`
    calls and merge declarations is accepted by the filter (and is a member of the grammar) -/
theorem C12_Bee_accepted (E : Env S) (fuel : Nat) (acts : List Act) (g0 g : Gen S) (out : List Prog)
    (h0 : Gen.new E = some g0) (h : runActs E fuel acts g0 [] = some (g, out)) :
    ∀ p ∈ out, E.filter p = true ∧ gen E.G p E.G.start = true :=
  fun p hp => ((runActs_sound_new E h0 h).2 p hp).symm

/-- a program is yielded only if it is not in `_deleted` at that moment (in particular a program declared merged
    is not yielded by the step that follows) and it is accepted (that it costs the cost of the current round is part of
    `C02_Bee_sound_step`) -/
theorem C12_Bee_yield_not_deleted (E : Env S) (g g' : Gen S) (p : Prog) (h : step E g = some (g', some p))
    (hi : GInv E g) : g.st.deleted.contains p = false ∧ E.filter p = true :=
  ⟨((step_sound E g g' (some p) h hi).2 p rfl).2.2.2, ((step_sound E g g' (some p) h hi).2 p rfl).2.2.1⟩

/-- `merge_program(_, other)` puts `other` in `_deleted`, sets `_has_merged`, erases `other` (first occurrence) from
    every list of every bank whose non-terminal is in the rule table and has the type of `other`, and leaves the
    queues, the delayed combinations and the cost list alone (so combinations already queued and programs that
    CONTAIN `other` stay: finding C12-F10) -/
theorem C12_Bee_merge_effect (E : Env S) (g : Gen S) (other : Prog) (ty : Ty) :
    (merge E g other ty).st.deleted.contains other = true ∧ (merge E g other ty).st.hasMerged = true ∧
    (merge E g other ty).st.queued = g.st.queued ∧ (merge E g other ty).st.delayed = g.st.delayed ∧
    (merge E g other ty).st.costList = g.st.costList ∧
    ∀ nt b, (nt, b) ∈ (merge E g other ty).st.bank → nt ∈ AList.keys E.G.rules → nt.1 = ty →
      ∃ b0, (nt, b0) ∈ g.st.bank ∧ b = b0.map fun e => (e.1, e.2.erase other) := by
  refine ⟨merge_deletes E g other ty, rfl, rfl, rfl, rfl, ?_⟩
  · intro nt b hm hk hty
    obtain ⟨b0, hb0, rfl⟩ := mem_merge_bank hm
    exact ⟨b0, hb0, if_pos (by simp [hk, hty])⟩

example : (merge cE ((Gen.new cE).get (by decide +kernel)) (.node cOne []) cInt).st.deleted = [.node cOne []] := by
  decide +kernel

/-- **WITH A FILTER: EACH PROGRAM AT MOST ONCE** (any filter; partial: no merge declaration in the history; decidable
    hypotheses `dictOK`, `initFrontOK`: see C02_Bee_nodup_partial): yielded programs are pairwise distinct, accepted by the
    filter and members of the grammar -/
theorem C12_Bee_filter_nodup_partial (E : Env S) (hd : dictOK E = true) (hf : initFrontOK E = true) (fuel : Nat) (acts : List Act)
    (hacts : acts.all Act.isTake = true) (g0 g : Gen S) (out : List Prog) (h0 : Gen.new E = some g0)
    (h : runActs E fuel acts g0 [] = some (g, out)) :
    out.Nodup ∧ ∀ p ∈ out, E.filter p = true ∧ gen E.G p E.G.start = true :=
  ⟨C02_Bee_nodup_partial E hd hf fuel acts hacts g0 g out h0 h, C12_Bee_accepted E fuel acts g0 g out h0 h⟩

/-- **WITH A FILTER: EVERY PROGRAM ALL OF WHOSE SUB-PROGRAMS ARE ACCEPTED IS YIELDED, EXACTLY ONCE, AND NOTHING REJECTED**
    (repaired loop `Env.fixF11`, no merge declaration): when the generator has stopped, its output is duplicate-free, contains
    only accepted members, and contains every member all of whose sub-programs the filter accepts (of cost at most `maxCost`);
    for a filter closed under sub-programs this is exactly the accepted part of the language.  Decidable hypotheses as in
    `C02_Bee_complete_partial`.  (That the generator stops with a rejecting filter: `C12_Bee_filter_full`.) -/
theorem C12_Bee_filter_complete_partial (E : Env S) (h1 : nonnegW E = true) (h2 : posArgCosts E = true)
    (h3 : hasCosts E = true) (h4 : dictOK E = true) (h5 : initFrontOK E = true) (h6 : initCoverOK E = true)
    (hfix : E.fixF11 = true) (fuel : Nat) (acts : List Act) (hacts : acts.all Act.isTake = true) (g0 g : Gen S)
    (out : List Prog) (h0 : Gen.new E = some g0) (h : runActs E fuel acts g0 [] = some (g, out))
    (hstop : g.phase.isDone = true) :
    out.Nodup ∧ (∀ p ∈ out, E.filter p = true ∧ gen E.G p E.G.start = true) ∧
    ∀ p, gen E.G p E.G.start = true → Strict E p → (∀ m, E.maxCost = some m → pcost E p E.G.start ≤ m) → p ∈ out :=
  ⟨(C12_Bee_filter_nodup_partial E h4 h5 fuel acts hacts g0 g out h0 h).1, C12_Bee_accepted E fuel acts g0 g out h0 h,
   C02_Bee_complete_partial E h1 h2 h3 h4 h5 h6 hfix fuel acts hacts g0 g out h0 h hstop⟩

/-- **WITH A FILTER THE REPAIRED GENERATOR STOPS, AND THEN HAS YIELDED EXACTLY WHAT IT SHOULD** (what repair d763a26
    achieves; with `Env.fixF11 = false` the generator does not stop on the example with a rejecting filter:
    `finding_C12_F11`): for ANY filter there are a fuel and a number of `next` calls after which the generator has raised
    StopIteration; its output is duplicate-free, contains only accepted members, and contains every member (of cost at most
    the bound `m`) all of whose sub-programs are accepted -/
theorem C12_Bee_filter_full (E : Env S) (h1 : nonnegW E = true) (h2 : posArgCosts E = true) (h3 : hasCosts E = true)
    (h4 : dictOK E = true) (h5 : initFrontOK E = true) (h6 : initCoverOK E = true) (h7 : closedOK E = true)
    (hfix : E.fixF11 = true) (m : Int) (hmax : E.maxCost = some m) (g0 : Gen S) (h0 : Gen.new E = some g0) :
    ∃ fuel k g out, take E fuel k g0 [] = some (g, out, true) ∧ out.Nodup ∧
      (∀ p ∈ out, E.filter p = true ∧ gen E.G p E.G.start = true) ∧
      ∀ p, gen E.G p E.G.start = true → Strict E p → pcost E p E.G.start ≤ m → p ∈ out := by
  obtain ⟨fuel, k, g, out, ht⟩ := C02_Bee_terminates_partial E h1 h2 h3 h4 h5 h6 h7 hfix m hmax g0 h0
  obtain ⟨a, b, c⟩ := C12_Bee_filter_complete_partial E h1 h2 h3 h4 h5 h6 hfix fuel [.take k] (by simp [Act.isTake]) g0 g out h0
    (runActs_take ht []) (take_done ht)
  exact ⟨fuel, k, g, out, ht, a, b, fun p hg hs hm => c p hg hs (fun m' hm' => by rw [hmax] at hm'; cases hm'; exact hm)⟩

/-- **A MERGED PROGRAM IS NEVER YIELDED AGAIN**, every history: after `merge_program(_, other)` — whatever the state
    `g` reached before (any earlier history), whatever the later interleaving of `next` calls and further merges —
    `other` itself is not among the programs yielded afterwards (`_deleted` only grows and a program is yielded only
    if it is not in `_deleted`).  Programs that CONTAIN `other` may still be yielded: finding C12-F10. -/
theorem C12_Bee_merged_never_yielded (E : Env S) (fuel : Nat) (g g' : Gen S) (other : Prog) (ty : Ty) (acts : List Act)
    (out : List Prog) (hi : GInv E g) (h : runActs E fuel acts (merge E g other ty) [] = some (g', out)) :
    other ∉ out :=
  runActs_deleted E other fuel acts _ g' [] out h (merge_sound E g other ty hi) (merge_deletes E g other ty) (by simp)

/-- the same from the fresh enumerator: history `acts1`, then the merge, then history `acts2` -/
theorem C12_Bee_merged_never_yielded_run (E : Env S) (fuel : Nat) (g0 g1 g2 : Gen S) (other : Prog) (ty : Ty)
    (acts1 acts2 : List Act) (out1 out2 : List Prog) (h0 : Gen.new E = some g0)
    (h1 : runActs E fuel acts1 g0 [] = some (g1, out1))
    (h2 : runActs E fuel acts2 (merge E g1 other ty) [] = some (g2, out2)) : other ∉ out2 :=
  C12_Bee_merged_never_yielded E fuel g1 g2 other ty acts2 out2
    (runActs_sound_new E h0 h1).1 h2

/-- non-vacuity: merging `(+ 1 var0)` after two programs: the three remaining yields skip it -/
example : ((Gen.new cE).bind fun g => runActs cE 400 [.take 2] g []).bind (fun r =>
      (runActs cE 400 [.take 2] (merge cE r.1 (.node cPlus [.node cOne [], .node cX []]) cInt) []).map fun r2 => r2.2.length) = some 2 := by
  decide +kernel

/-- the order is kept with a filter and through merges (every history): C03_Bee_sorted is about every `Env`
    (any filter) and every list of actions; restated here for the C12 reader -/
theorem C12_Bee_sorted_with_filter_and_merges (E : Env S) (hw : nonnegW E = true) (hd : dictOK E = true) (fuel : Nat)
    (acts : List Act) (g0 g : Gen S) (out : List Prog) (h0 : Gen.new E = some g0)
    (h : runActs E fuel acts g0 [] = some (g, out)) :
    (out.map fun p => pcost E p E.G.start).Pairwise (· ≤ ·) :=
  (runActs_order_new E (nnw_of_check E hw) (dictOK_of_check E hd) h0 h).2

/-! ### finding C12-F11: with a rejecting filter the generator never reaches its stop condition -/

/-- the example grammar with a filter that rejects `(+ 1 1)` -/
def rE : Env Nat := { cE with filter := fun p => !(p == Tree.node cPlus [.node cOne [], .node cOne []]) }

theorem cG_int1 (p : Prog) (h : gen cG p (cn 1) = true) : p = .node cOne [] ∨ p = .node cX [] := by
  obtain ⟨f, kids⟩ := p
  obtain ⟨rs, args, hrs, hf, hk⟩ := gen_node_mem h
  simp only [cG, List.mem_cons, Prod.mk.injEq, List.mem_nil_iff, or_false, (by decide : cn 1 ≠ cn 0), false_and, false_or,
    true_and] at hrs
  subst hrs
  simp only [List.mem_cons, Prod.mk.injEq, List.mem_nil_iff, or_false] at hf
  rcases hf with ⟨rfl, rfl, _⟩ | ⟨rfl, rfl, _⟩ <;> cases kids <;> simp [genList] at hk ⊢

/-- the four programs of the example grammar other than `(+ 1 1)` -/
def rL : List Prog :=
  [.node cOne [], .node cPlus [.node cOne [], .node cX []], .node cPlus [.node cX [], .node cOne []],
   .node cPlus [.node cX [], .node cX []]]

theorem rE_accepted (p : Prog) (h : gen rE.G p rE.G.start = true) (hf : rE.filter p = true) : p ∈ rL := by
  obtain ⟨f, kids⟩ := p
  obtain ⟨rs, args, hrs, hfm, hk⟩ := gen_node_mem h
  simp only [rE, cE, cG, List.mem_cons, Prod.mk.injEq, List.mem_nil_iff, or_false, (by decide : cn 0 ≠ cn 1), false_and, or_false,
    true_and] at hrs
  subst hrs
  simp only [List.mem_cons, Prod.mk.injEq, List.mem_nil_iff, or_false] at hfm
  rcases hfm with ⟨rfl, rfl, _⟩ | ⟨rfl, rfl, _⟩
  · cases kids <;> simp [genList, rL] at hk ⊢
  · rcases kids with _ | ⟨k1, _ | ⟨k2, _ | _⟩⟩ <;> simp only [genList, Bool.and_true, Bool.and_false, Bool.and_eq_true] at hk
    · cases hk
    · cases hk
    · rcases cG_int1 k1 hk.1 with rfl | rfl <;> rcases cG_int1 k2 hk.2 with rfl | rfl
      · simp [rE] at hf
      all_goals simp [rL]
    · cases hk

/-- the first `next` yields `1`; after it a combination of `+` is queued, and the count stands at 4 -/
theorem rE_first : ((Gen.new rE).bind fun g => next rE 400 g).any (fun r =>
    r.2 == some (.node cOne []) && (r.1.st.queueOf (cn 0)).contains ⟨4, [0, 0], cPlus⟩ && !r.1.st.hasMerged &&
      decide (r.1.progs = 4) && r.1.phase matches .pend ..) = true := by
  decide +kernel

/-- the loop that stops on the program count (`Env.fixF11 = false`, the default of `cE` and `rE`): without the filter the
    generator stops after its five programs; with the filter it yields the four accepted programs, and a fifth `next` does not
    return within its 400 control points.  The proof shows that it returns within no fuel (`take_never_returns`: the program
    count 5 is never reached and the queues never run empty); `list(enumerator)` hung in that way before repair d763a26. -/
theorem finding_C12_F11 :
    ((Gen.new cE).bind fun g => take cE 400 6 g []).map (fun r => (r.2.1.length, r.2.2)) = some (5, true) ∧
    ((Gen.new rE).bind fun g => take rE 400 4 g []).map (fun r => (r.2.1.length, r.2.2)) = some (4, false) ∧
    ((Gen.new rE).bind fun g => take rE 400 5 g []) = none := by
  refine ⟨by decide +kernel, by decide +kernel, ?_⟩
  -- whatever the fuel: only four programs are accepted, so the count of five is never reached, and a `+` stays queued
  obtain ⟨⟨g1, o⟩, h1, hchk⟩ := (Option.any_eq_true _ _).mp rE_first
  obtain ⟨g0, h0, hn⟩ := Option.bind_eq_some_iff.mp h1
  simp only [Bool.and_eq_true, beq_iff_eq, List.contains_eq_mem, decide_eq_true_eq, Bool.not_eq_true'] at hchk
  obtain ⟨⟨⟨⟨rfl, hq⟩, hm⟩, hp⟩, hph⟩ := hchk
  have hw := nnw_of_check rE (by decide +kernel)
  rw [h0, Option.bind_some, take_succ_of_next hn]
  refine take_never_returns rE hw (posArgs_of_check rE (by decide +kernel)) rfl rL rE_accepted (by decide) 400 4 g1 _
    (run_after_next rE hw (dictOK_of_check rE (by decide +kernel)) (by decide +kernel) rL 400 g0 g1 _ h0 hn
      ⟨cn 0, _, _, _, hq, rfl⟩ ⟨hm, ?_⟩ (by simp [rL]) ?_) (by simp [rL])
  · split
    · simp_all
    · rw [hp]; rfl
  · revert hph; cases g1.phase <;> simp [Phase.isDone]

end PS.C12Bee
