/-
  C12, part beap — filter and merges during beap search (beap_search.py).

  FULL STATEMENT: with a filter, the output is duplicate-free, contains no rejected program and
  contains every program all of whose sub-programs are accepted; after `merge_program(rep, other)`
  exactly the not-yet-yielded programs not containing `other` are yielded; termination.

  SAFETY (first section) holds for every grammar, cost table, filter, fuel and every generator state, so after every
  HISTORY of `next` / `merge_program` calls (`After` lists the histories that start at a given state).
  THE FILTER HALF is proved for positive rule costs and histories without merge_program (C12_Beap_filter_*; no
  duplicates with a filter: C02_Beap_nodup, C02 part file).
  THE MERGE HALF is FALSE for `Env.fixEmptied = false`, in both directions (findings C12-F12, C12-F13): that is
  `_query_list_` before repair 3b898f0 (fixes_applied/C12-F13.diff); /repo has the repair, the model's default is still
  `false`.  For `Env.fixEmptied = true` "nothing that does not contain a merged program is lost" is proved
  (C12_Beap_merge_*; PS/Proofs/Enum/BeapM6.lean, BeapM7.lean, on the induction of BeapCompl*.lean taken without the
  marks in `_empties`); the converse ("only those") is false there too: finding C12-F12 (open).
  Every theorem of the three part files that does not assume `E.fixEmptied = true` holds for both values of the flag.
  Not proved: termination of one `next` call (existence of a sufficient fuel).
-/
import PS.Proofs.Enum.BeapFilter
import PS.Proofs.Enum.BeapM7
import PS.Props.C02_Beap
namespace PS.C12Beap
open PS PS.G PS.Beap PS.C02Beap

section
variable {S : Type} [DecidableEq S]

/-- `next(generator)` only yields programs accepted by the filter (any history) -/
theorem C12_Beap_yield_accepted (E : Env S) (fuel : Nat) (g g' : Gen S) (p : Prog)
    (h : Beap.next E fuel g = some (g', some p)) : E.filter p = true :=
  ((next_filter E fuel g _ h).2 p rfl).1

/-- the yielded program is not in `_deleted` (the set of rejected and merged programs) when it is yielded -/
theorem C12_Beap_yield_not_deleted (E : Env S) (fuel : Nat) (g g' : Gen S) (p : Prog)
    (h : Beap.next E fuel g = some (g', some p)) : p ∉ g'.st.deleted :=
  ((next_filter E fuel g _ h).2 p rfl).2

/-- `_deleted` only grows along `next` (along `merge_program`: C12_Beap_merge_deleted) -/
theorem C12_Beap_deleted_grows (E : Env S) (fuel : Nat) (g : Gen S) (r : Gen S × Option Prog) (q : Prog)
    (h : Beap.next E fuel g = some r) (hq : q ∈ g.st.deleted) : q ∈ r.1.st.deleted :=
  (next_filter E fuel g r h).1 q hq

/-- `merge_program(representative, other)` puts `other` in `_deleted` and removes nothing from it -/
theorem C12_Beap_merge_deleted (g : Gen S) (other q : Prog) (ok : NT S Unit → Bool) :
    other ∈ (Beap.merge g other ok).st.deleted ∧ (q ∈ g.st.deleted → q ∈ (Beap.merge g other ok).st.deleted) :=
  ⟨(merge_deleted g other ok).1, (merge_deleted g other ok).2 q⟩

/-- the histories that start at a given generator object -/
inductive After (E : Env S) (fuel : Nat) (g0 : Gen S) : Gen S → Prop
  | start : After E fuel g0 g0
  | next {g : Gen S} {r : Gen S × Option Prog} : After E fuel g0 g → Beap.next E fuel g = some r → After E fuel g0 r.1
  | merge {g : Gen S} (other : Prog) (ok : NT S Unit → Bool) : After E fuel g0 g → After E fuel g0 (Beap.merge g other ok)

theorem after_deleted (E : Env S) (fuel : Nat) (g0 g : Gen S) (h : After E fuel g0 g) (q : Prog)
    (hq : q ∈ g0.st.deleted) : q ∈ g.st.deleted := by
  induction h with
  | start => exact hq
  | next _ hn ih => exact (next_filter E fuel _ _ hn).1 q ih
  | merge other ok _ ih => exact (merge_deleted _ other ok).2 q ih

/-- **merge, safety for `other` itself**: once `merge_program(rep, other)` has been called, no later
    `next` — after any further history of `next` / `merge_program` calls — yields `other` -/
theorem C12_Beap_merged_never_yielded (E : Env S) (fuel : Nat) (g0 g g' : Gen S) (other p : Prog) (ok : NT S Unit → Bool)
    (ha : After E fuel (Beap.merge g0 other ok) g) (h : Beap.next E fuel g = some (g', some p)) : p ≠ other := by
  intro heq
  subst heq
  have h1 : p ∈ g.st.deleted := after_deleted E fuel _ g ha p (merge_deleted g0 p ok).1
  exact ((next_filter E fuel g _ h).2 p rfl).2 ((next_filter E fuel g _ h).1 p h1)

/-- a program rejected by the filter is never yielded, whatever the history -/
theorem C12_Beap_rejected_never_yielded (E : Env S) (fuel : Nat) (g g' : Gen S) (p : Prog) (hrej : E.filter p = false)
    (h : Beap.next E fuel g = some (g', some p)) : False := by
  have := C12_Beap_yield_accepted E fuel g g' p h
  rw [hrej] at this; cases this

/-- `merge_program` only removes programs from the banks -/
theorem C12_Beap_merge_banks_shrink (g : Gen S) (other : Prog) (ok : NT S Unit → Bool) (nt : NT S Unit) (ci : Nat) (p : Prog)
    (hp : p ∈ (Beap.merge g other ok).st.bankAt nt ci) : p ∈ g.st.bankAt nt ci :=
  merge_bankAt_subset g other ok nt ci p hp
end

/-! ### the merge half for `fixEmptied = false` (`_query_list_` before repair 3b898f0): findings C12-F12, C12-F13;
    non-vacuity of the safety theorems -/
def nX : NT Nat Unit := (Ty.base "int", (0, ()))
def nY : NT Nat Unit := (Ty.base "int", (1, ()))
/-- symbols: a=0 m=1 b=2;  `X -> a | m(Y, Y)`, `Y -> a | b` -/
def mG : TT Nat Unit :=
  { start := nX,
    rules := [ (nX, [(sy 0, ([], ())), (sy 1, ([(Ty.base "int", 1), (Ty.base "int", 1)], ()))]),
               (nY, [(sy 0, ([], ())), (sy 2, ([], ()))]) ] }
def mW (cb : Rat) : AList (NT Nat Unit) (AList Sym Rat) := [ (nX, [(sy 0, 1), (sy 1, 1)]), (nY, [(sy 0, 1), (sy 2, cb)]) ]
def mE (cb : Rat) (f : Prog → Bool) (fix : Bool := false) : Env Nat :=
  { G := mG, W := mW cb, filter := f, recursive := false, fixEmptied := fix }
def pa : Prog := .node (sy 0) []
def pb : Prog := .node (sy 2) []
def pm (x y : Prog) : Prog := .node (sy 1) [x, y]

/-- all costs 1: after `a`, `m(a,a)` and `merge_program(_, a)` the next program is `m(a,b)`, which contains the merged `a`
    (the tuples of the running `itertools.product` were built before the merge) -/
theorem finding_C12_F12_contains :
    (match take (mE 1 fun _ => true) 100 2 (Gen.new mG) [] with
     | some (g, ys, _) => (take (mE 1 fun _ => true) 100 1 (Beap.merge g pa fun _ => true) []).map (fun r => (ys, r.2.1))
     | none => none) = some ([pa, pm pa pa], [pm pa pb]) := by
  decide +kernel

/-- with `b` of cost 2: after `a`, `m(a,a)` and `merge_program(_, a)` the generator stops at once;
    `m(b,b)` (derivable, not containing `a`) is never yielded (`_bank[Y][0]` became empty, `_query_list_` answers
    "(False, [])", the element is treated as the end of a finite grammar and its successors are not pushed) -/
theorem finding_C12_F13_lost :
    (match take (mE 2 fun _ => true) 100 2 (Gen.new mG) [] with
     | some (g, ys, _) => (take (mE 2 fun _ => true) 100 10 (Beap.merge g pa fun _ => true) []).map (fun r => (ys, r.2.1, r.2.2))
     | none => none) = some ([pa, pm pa pa], [], true) ∧ gen mG (pm pb pb) nX = true := by
  decide +kernel

/-- with `Env.fixEmptied = true` (repair 3b898f0, beap_search.py:237: `return len(bank[cost_index]) == 0, bank[cost_index]`)
    the same history yields `m(b,b)`, the only remaining program that does not contain `a`, and stops -/
theorem C12_Beap_fix_F13_witness :
    (match take (mE 2 (fun _ => true) true) 100 2 (Gen.new mG) [] with
     | some (g, ys, _) => (take (mE 2 (fun _ => true) true) 100 10 (Beap.merge g pa fun _ => true) []).map (fun r => (ys, r.2.1, r.2.2))
     | none => none) = some ([pa, pm pa pa], [pm pb pb], true) := by
  decide +kernel

/-- without the merge the same run yields `m(a,b)`, `m(b,a)`, `m(b,b)` and stops -/
example : (take (mE 2 fun _ => true) 100 10 (Gen.new mG) []).map (fun r => (r.2.1, r.2.2))
    = some ([pa, pm pa pa, pm pa pb, pm pb pa, pm pb pb], true) :=
  tiny_run

/-- the run with the filter "is not the leaf `a`" -/
theorem run_notA : (take (mE 2 fun p => decide (p ≠ pa)) 100 10 (Gen.new mG) []).map (fun r => (r.2.1, r.2.2))
    = some ([pm pb pb], true) := by
  decide +kernel

/-- non-vacuity of C12_Beap_yield_accepted / C12_Beap_rejected_never_yielded: with the filter
    "is not the leaf `a`" the machine yields exactly `m(b,b)` — the only program all of whose
    sub-programs are accepted — and stops -/
example : (take (mE 2 fun p => decide (p ≠ pa)) 100 10 (Gen.new mG) []).map (fun r => (r.2.1, r.2.2))
    = some ([pm pb pb], true) :=
  run_notA

/-! ### the filter half: liveness (positive rule costs, no merge_program call in the history) -/
section
variable {S : Type} [DecidableEq S]

/-- **FILTER LIVENESS at the end (positive rule costs, any filter)**: when the generator has stopped, every
    program of the start symbol ALL OF WHOSE SUB-PROGRAMS ARE ACCEPTED by the filter (`clean`) has been yielded
    (no merge_program call in the history) -/
theorem C12_Beap_filter_complete (E : Env S) (hnd : RowsNodup E.G) (hst : StableAfter E) (hprod : Productive E)
    (hpos : PosW E) (fuel k : Nat) (g : Gen S) (ys : List Prog)
    (h : take E fuel k (Gen.new E.G) [] = some (g, ys, true))
    (q : Prog) (x : Rat) (hcl : clean E.filter q = true) (hx : costOf E q E.G.start = some x) : q ∈ ys :=
  C02_Beap_complete E hnd hst hprod hpos fuel k g ys h q x hcl hx

/-- **FILTER LIVENESS on every prefix** (finite and recursive grammars): when a program of cost `y` has been yielded,
    every program of strictly smaller cost all of whose sub-programs are accepted has been yielded -/
theorem C12_Beap_filter_prefix_complete (E : Env S) (hnd : RowsNodup E.G) (hst : StableAfter E) (hprod : Productive E)
    (hpos : PosW E) (fuel k : Nat) (g : Gen S) (ys : List Prog) (fin : Bool)
    (h : take E fuel k (Gen.new E.G) [] = some (g, ys, fin))
    (p q : Prog) (x y : Rat) (hp : p ∈ ys) (hy : costOf E p E.G.start = some y) (hcl : clean E.filter q = true)
    (hx : costOf E q E.G.start = some x) (hlt : x < y) : q ∈ ys :=
  prefix_complete E hnd hst hprod hpos fuel k (g, ys, fin) h p q x y hp hy hcl hx hlt

/-- **TERMINATION with a (rejecting) filter, partial form**: as C02_Beap_terminates_partial — the filter only removes
    programs from the output, so `|lang| + 1` calls of `next` reach the end whenever the run returns (explicit,
    decidable hypothesis: `take … = some …`) -/
theorem C12_Beap_filter_terminates_partial (E : Env S) (hnd : RowsNodup E.G) (hst : StableAfter E)
    (hprod : Productive E) (hpos : PosW E) (lang : List Prog)
    (hmem : ∀ q x, costOf E q E.G.start = some x → q ∈ lang)
    (fuel : Nat) (g : Gen S) (ys : List Prog) (fin : Bool)
    (h : take E fuel (lang.length + 1) (Gen.new E.G) [] = some (g, ys, fin)) : fin = true :=
  C02_Beap_terminates_partial E hnd hst hprod hpos lang hmem fuel g ys fin h
end

/-! non-vacuity with the rejecting filter "is not the leaf `a`" on `X -> a | m(Y,Y)`, `Y -> a | b` -/
def notA : Prog → Bool := fun p => decide (p ≠ pa)
def mRank (nt : NT Nat Unit) : Nat := if nt = nX then 1 else 0

/-! `mG`, `mW 2`, `mRank` are `C02Beap.tinyG`, the cost table of `C02Beap.tinyE`, `C02Beap.tinyRank`; `RowsNodup`, `Ranked`
    and `PosW` do not read the filter or the flag -/
theorem m_rowsNodup : RowsNodup mG := tiny_rowsNodup

theorem m_ranked (f : Prog → Bool) (fix : Bool := false) : Ranked (mE 2 f fix) mRank := tiny_ranked

theorem m_productive : Productive (mE 2 notA) := productive_of_check _ [(nX, pa), (nY, pa)] (by decide +kernel)

theorem m_posW : PosW (mE 2 notA) := tiny_posW
theorem m_stable : StableAfter (mE 2 notA) := stableAfter_of_ranked mRank (mE 2 notA) m_rowsNodup (m_ranked notA)

/-- non-vacuity of C12_Beap_filter_complete: the hypotheses hold for the rejecting filter, the generator stops (see
    the run above: output `[m(b,b)]`), and `m(b,b)` is clean and priced -/
example : ∃ g ys, take (mE 2 notA) 100 10 (Gen.new mG) [] = some (g, ys, true) ∧ pm pb pb ∈ ys := by
  obtain ⟨⟨g, ys, fin⟩, hp, hv⟩ := Option.map_eq_some_iff.mp run_notA
  obtain rfl : fin = true := (Prod.mk.inj hv).2
  exact ⟨g, ys, hp, C12_Beap_filter_complete (mE 2 notA) m_rowsNodup m_stable m_productive m_posW 100 10 g ys hp
    (pm pb pb) 5 (by decide +kernel) (by decide +kernel)⟩

/-- the other clean-looking candidates are not clean: `m(a,b)` contains the rejected `a` -/
example : clean notA (pm pa pb) = false ∧ clean notA (pm pb pb) = true := by decide +kernel

/-- C12_Beap_filter_prefix_complete / C12_Beap_filter_terminates_partial instantiated with the rejecting filter -/
example (fuel k : Nat) (g : Gen Nat) (ys : List Prog) (fin : Bool) (h : take (mE 2 notA) fuel k (Gen.new mG) [] = some (g, ys, fin))
    (p q : Prog) (x y : Rat) (hp : p ∈ ys) (hy : costOf (mE 2 notA) p nX = some y) (hcl : clean notA q = true)
    (hx : costOf (mE 2 notA) q nX = some x) (hlt : x < y) : q ∈ ys :=
  C12_Beap_filter_prefix_complete (mE 2 notA) m_rowsNodup m_stable m_productive m_posW fuel k g ys fin h p q x y hp hy hcl hx hlt

example (lang : List Prog) (hmem : ∀ q x, costOf (mE 2 notA) q nX = some x → q ∈ lang) (fuel : Nat) (g : Gen Nat) (ys : List Prog)
    (fin : Bool) (h : take (mE 2 notA) fuel (lang.length + 1) (Gen.new mG) [] = some (g, ys, fin)) : fin = true :=
  C12_Beap_filter_terminates_partial (mE 2 notA) m_rowsNodup m_stable m_productive m_posW lang hmem fuel g ys fin h

/-! ### the merge half with the repaired `_query_list_` (fix C12-F13, `Env.fixEmptied = true`) -/
section
variable {S : Type} [DecidableEq S]

/-- **LIVENESS OF THE MERGE HALF, partial**.  Explicit hypotheses: `E.fixEmptied = true` (the repaired `_query_list_` of
    fix C12-F13: an existing but empty bank entry is an allowed-empty cost index) and every `merge_program` call comes
    after the first `next` (constructor `Hist.merge`).  Then for EVERY history of `next` / `merge_program` calls from
    the fresh generator (`Beap.Hist`: `ys` the programs yielded so far, `ms` the programs merged so far): when the
    generator has stopped, every program of the start symbol all of whose sub-programs (itself included) are accepted
    by the filter and were not merged (`clean (effFilter E ms)`) HAS BEEN YIELDED — nothing that does not contain a
    merged program is lost (what finding C12-F13 broke).  The other half of "exactly" is false (finding C12-F12: a
    program that contains `other` can still be yielded after the merge); what holds there is
    C12_Beap_merged_never_yielded (`other` itself is never yielded again). -/
theorem C12_Beap_merge_complete_partial (E : Env S) (hfix : E.fixEmptied = true) (hnd : RowsNodup E.G) (hst : StableAfter E)
    (hprod : Productive E) (hpos : PosW E) (fuel : Nat) (g : Gen S) (ys ms : List Prog) (hh : Hist E fuel g ys ms)
    (hfin : g.finished = true) (q : Prog) (x : Rat) (hcl : clean (effFilter E ms) q = true)
    (hx : costOf E q E.G.start = some x) : q ∈ ys :=
  merge_complete E hfix hnd hst hprod hpos fuel g ys ms hh hfin q x hcl hx

/-- the same on every prefix of every history (finite and recursive grammars): when a program of cost `y` has been
    yielded, every program of strictly smaller cost that is clean for the effective filter has been yielded -/
theorem C12_Beap_merge_prefix_complete_partial (E : Env S) (hfix : E.fixEmptied = true) (hnd : RowsNodup E.G) (hst : StableAfter E)
    (hprod : Productive E) (hpos : PosW E) (fuel : Nat) (g : Gen S) (ys ms : List Prog) (hh : Hist E fuel g ys ms)
    (p q : Prog) (x y : Rat) (hp : p ∈ ys) (hy : costOf E p E.G.start = some y) (hcl : clean (effFilter E ms) q = true)
    (hx : costOf E q E.G.start = some x) (hlt : x < y) : q ∈ ys :=
  merge_prefix_complete E hfix hnd hst hprod hpos fuel g ys ms hh p q x y hp hy hcl hx hlt

/-- `merge_program` keeps the completeness invariants for the effective filter that also rejects `other` (the step
    lemma behind the two theorems above) -/
theorem C12_Beap_merge_step (E : Env S) (F F' : Prog → Bool) (g : Gen S) (other : Prog) (ok : NT S Unit → Bool) (ys : List Prog)
    (hF' : ∀ p, F' p = true → F p = true ∧ p ≠ other) (hg : GKm E F g ys) : GKm E F' (Beap.merge g other ok) ys :=
  merge_km E F F' g other ok ys hF' hg
end

/-! non-vacuity: the history of finding C12-F13 on the repaired code: `a`, `m(a,a)`, `merge_program(_, a)`, then the rest -/
def fixE : Env Nat := mE 2 (fun _ => true) true

theorem fix_ranked : Ranked fixE mRank := m_ranked (fun _ => true) true
theorem fix_productive : Productive fixE := productive_of_check _ [(nX, pa), (nY, pa)] (by decide +kernel)
theorem fix_posW : PosW fixE := tiny_posW
theorem fix_stable : StableAfter fixE := stableAfter_of_ranked mRank fixE m_rowsNodup fix_ranked

/-- the hypotheses of C12_Beap_merge_complete_partial hold for the history "2 × next, merge_program(_, a), next until the
    end" on the repaired code, the generator stops, and `m(b,b)` — clean for the effective filter "not `a`" — is in the
    output (cf. the kernel-evaluated run C12_Beap_fix_F13_witness) -/
example : ∃ g ys, Hist fixE 100 g ys [pa] ∧ g.finished = true ∧ pm pb pb ∈ ys := by
  have hw := C12_Beap_fix_F13_witness
  split at hw
  next g1 ys1 _ h1 =>
    obtain ⟨⟨g2, ys2, f2⟩, h2, hv⟩ := Option.map_eq_some_iff.mp hw
    obtain ⟨rfl, -, rfl⟩ : ys1 = [pa, pm pa pa] ∧ ys2 = [pm pb pb] ∧ f2 = true := by simpa using hv
    -- the witness restarts the output at `[]` after the merge; a history carries what was yielded before (`Iter.take_acc`)
    have h2' : take fixE 100 10 (Beap.merge g1 pa fun _ => true) [pa, pm pa pa] = some (g2, [pa, pm pa pa] ++ ys2, true) := by
      rw [take_eq, Iter.take_acc, ← take_eq]; exact congrArg _ h2
    have a1 := (hist_take fixE rfl m_rowsNodup fix_stable fix_productive fix_posW 100 [] 2 _ [] _ Hist.new h1).1
    have a2 : Hist fixE 100 (Beap.merge g1 pa fun _ => true) [pa, pm pa pa] [pa] :=
      Hist.merge g1 _ [] pa _ a1
        (hist_started fixE rfl m_rowsNodup fix_stable fix_productive fix_posW 100 g1 _ [] a1 (List.cons_ne_nil _ _))
    obtain ⟨a3, a4⟩ := hist_take fixE rfl m_rowsNodup fix_stable fix_productive fix_posW 100 [pa] 10 _ _ _ a2 h2'
    exact ⟨g2, _, a3, a4 rfl, C12_Beap_merge_complete_partial fixE rfl m_rowsNodup fix_stable fix_productive fix_posW 100 g2 _ [pa]
      a3 (a4 rfl) (pm pb pb) 5 (by decide +kernel) (by decide +kernel)⟩
  next => cases hw

/-- non-vacuity of C12_Beap_merge_step: the side condition on the two effective filters holds for `effFilter` -/
example (g : Gen Nat) (ys : List Prog) (ok : NT Nat Unit → Bool) (hg : GKm fixE (effFilter fixE []) g ys) :
    GKm fixE (effFilter fixE [pa]) (Beap.merge g pa ok) ys :=
  C12_Beap_merge_step fixE _ _ g pa ok ys (effFilter_cons fixE [] pa) hg

/-- what the effective filter excludes: `m(a,b)` contains the merged `a` (that it can still be yielded is finding
    C12-F12), `m(b,b)` does not -/
example : clean (effFilter fixE [pa]) (pm pa pb) = false ∧ clean (effFilter fixE [pa]) (pm pb pb) = true := by decide +kernel

end PS.C12Beap
