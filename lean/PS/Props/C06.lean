/-
  C06 — Turning an automaton into a grammar preserves the language and is unambiguous.
  Model: PS/Model/UcfgFromDfta.lean, PS/Model/Ucfg.lean, PS/Model/Dfta.lean.

  Every statement is for an arbitrary deterministic automaton (`Det`: no duplicate key in the rule
  table, which every Python dict satisfies) over the alphabet of derivable programs, any state
  type, every tree/program — no bound on sizes or depths.  The hypothesis about the state
  flattening `__d2state__` is that it does not merge two states the automaton mentions
  (`d2Injective`, decidable; evaluated by the driver on every case).  `__d2state__` before repair
  d2e87f5 (fixes_applied/C06-F1.diff; the model's `fixed = false`) violates it on automata
  produced by the library's own sharpening pipeline: finding C06-F1 below.  /repo has the repair
  (`fixed = true`).
-/
import PS.Proofs.UcfgFromDftaLang
import PS.Proofs.UcfgFromDftaCount
import PS.Proofs.UcfgFromDftaNodup
import PS.Proofs.UcfgFromDftaClean
import PS.Proofs.UcfgFromDftaTerm
import PS.Proofs.UcfgFromDftaCleanTerm
import PS.Proofs.FromCfg
import PS.Proofs.UcfgFromDftaCfg
import PS.Proofs.Mass
namespace PS.C06
open PS PS.G PS.U PS.U.FD DFTA

variable {Q U : Type} [DecidableEq Q] [DecidableEq U]

def InjOn (d : Q → UNT U) (A : DFTA Sym Q) : Prop :=
  ∀ q ∈ A.allStates, ∀ q' ∈ A.allStates, d q = d q' → q = q'

/-! ## `UCFG.from_DFTA` -/

/-- **termination (total correctness of the `while stack` loop).** For every automaton with a
    final state and every flattening, `from_DFTA` returns a grammar within
    `|starts| + (number of argument positions of the rule table) + 1` iterations. -/
theorem C06_fromDFTA_terminates (d : Q → UNT U) (A : DFTA Sym Q) (hf : A.finals ≠ []) :
    ∃ G, fromDFTA d A = some G :=
  fromDFTA_terminates d A hf

/-- **language.** `program in UCFG.from_DFTA(A)` (the possibility-list algorithm
    `__contains_rec__`) is exactly acceptance by `A`.
    Full statement (no hypothesis on `d`): FALSE for `__d2state__` before repair d2e87f5
    (`fixed = false`), see `finding_C06_F1`. -/
theorem C06_lang_partial (d : Q → UNT U) (A : DFTA Sym Q) (hd : A.Det) (hinj : InjOn d A)
    (G : UCFG U) (h : fromDFTA d A = some G) (t : Prog) :
    contains G t = A.accepts t :=
  contains_eq_accepts (built_of_build _ A _ G h) (plainFlat_ok d A hinj) hd t

/-- **unambiguity.** `reduce_derivations` finds exactly one derivation of every accepted
    program and none of any other program … -/
theorem C06_unambiguous_partial (d : Q → UNT U) (A : DFTA Sym Q) (hd : A.Det) (hinj : InjOn d A)
    (G : UCFG U) (h : fromDFTA d A = some G) (t : Prog) :
    (reduceAll G t).length = if A.accepts t = true then 1 else 0 :=
  reduceAll_length (built_of_build _ A _ G h) (plainFlat_ok d A hinj) hd t

/-- … in the specification's terms: at most one (start symbol, derivation) pair for every
    program whatsoever. -/
theorem C06_unambiguousOn_partial (d : Q → UNT U) (A : DFTA Sym Q) (hd : A.Det) (hinj : InjOn d A)
    (G : UCFG U) (h : fromDFTA d A = some G) (t : Prog) :
    unambiguousOn G t = true := by
  unfold unambiguousOn
  rw [allDerivs_length (built_of_build _ A _ G h) (plainFlat_ok d A hinj) hd t]
  split <;> simp

/-- `UCFG.from_DFTA_with_ngrams`, here and in the theorems that follow: every width `n`, also 0,
    negative = unbounded, and widths beyond the depth of the automaton; every number of iterations
    after which it returns -/
theorem C06_ngram_lang_partial (n : Int) (d : Q → UNT U) (A : DFTA Sym Q) (hd : A.Det)
    (hinj : InjOn d A) (fuel : Nat) (G : UCFG (List (Sym × Nat) × U))
    (h : fromDFTAWithNgrams n d A fuel = some G) (t : Prog) :
    contains G t = A.accepts t :=
  contains_eq_accepts (built_of_build _ A _ G h) (ngramFlat_ok n d A hinj) hd t

theorem C06_ngram_unambiguous_partial (n : Int) (d : Q → UNT U) (A : DFTA Sym Q) (hd : A.Det)
    (hinj : InjOn d A) (fuel : Nat) (G : UCFG (List (Sym × Nat) × U))
    (h : fromDFTAWithNgrams n d A fuel = some G) (t : Prog) :
    (reduceAll G t).length = if A.accepts t = true then 1 else 0 :=
  reduceAll_length (built_of_build _ A _ G h) (ngramFlat_ok n d A hinj) hd t

/-- **termination of `from_DFTA_with_ngrams`** (every width, also unbounded contexts): on an
    acyclic automaton whose states are not merged by the flattening, the `while stack` loop
    returns for every number of iterations beyond a bound (the size of the unfolding of the
    final states) — together with the two theorems above: total correctness. -/
theorem C06_ngram_terminates_partial (n : Int) (d : Q → UNT U) (A : DFTA Sym Q) (hinj : InjOn d A)
    (hac : Acyclic A) (hf : A.finals ≠ []) :
    ∃ fuel0, ∀ fuel, fuel0 ≤ fuel → ∃ G, fromDFTAWithNgrams n d A fuel = some G :=
  build_terminates_acyclic (ngramFlat n d) A (fun _ _ _ _ => rfl) hinj hac hf

/-! ## `programs()` -/

/-- **count.** For an ACYCLIC automaton, whenever `programs()` of the grammar returns `n` (memo
    table, any recursion budget), `n` is the NUMBER of programs the automaton accepts: the length
    of a duplicate-free list that contains exactly the accepted programs. -/
theorem C06_count_partial (d : Q → UNT U) (A : DFTA Sym Q) (hd : A.Det) (hinj : InjOn d A)
    (hac : Acyclic A) (G : UCFG U) (h : fromDFTA d A = some G) (fuel n : Nat)
    (hp : programs G fuel = some n) :
    ∃ L : List Prog, L.Nodup ∧ (∀ t, t ∈ L ↔ A.accepts t = true) ∧ n = L.length :=
  count_of_built (built_of_build _ A _ G h) (plainFlat_ok d A hinj) hd hac fuel n hp

theorem C06_ngram_count_partial (w : Int) (d : Q → UNT U) (A : DFTA Sym Q) (hd : A.Det)
    (hinj : InjOn d A) (hac : Acyclic A) (bfuel : Nat) (G : UCFG (List (Sym × Nat) × U))
    (h : fromDFTAWithNgrams w d A bfuel = some G) (fuel n : Nat) (hp : programs G fuel = some n) :
    ∃ L : List Prog, L.Nodup ∧ (∀ t, t ∈ L ↔ A.accepts t = true) ∧ n = L.length :=
  count_of_built (built_of_build _ A _ G h) (ngramFlat_ok w d A hinj) hd hac fuel n hp

/-- every start symbol of the grammar of an acyclic automaton completes all its derivations
    within (sum of the ranks) + 1 levels -/
theorem C06_bounded_partial (d : Q → UNT U) (A : DFTA Sym Q) (hinj : InjOn d A)
    (rank : Q → Nat) (hrank : ∀ r ∈ A.rules, ∀ a ∈ r.1.2, rank a < rank r.2)
    (G : UCFG U) (h : fromDFTA d A = some G) (s : UNT U) (hs : s ∈ G.starts) :
    boundedU G (levelOf A rank + 1) s = true :=
  bounded_starts (built_of_build _ A _ G h) (plainFlat_ok d A hinj) rank hrank s hs

/-- **`programs()` returns** on the grammar of an acyclic automaton, for every recursion budget
    beyond a bound computed from the ranking (the Python recursion is unbounded) — together with
    `C06_count_partial`: total correctness of `programs()`. -/
theorem C06_programs_terminates_partial (d : Q → UNT U) (A : DFTA Sym Q) (hinj : InjOn d A)
    (rank : Q → Nat) (hrank : ∀ r ∈ A.rules, ∀ a ∈ r.1.2, rank a < rank r.2)
    (G : UCFG U) (h : fromDFTA d A = some G) (fuel : Nat) (hf : levelOf A rank + 1 ≤ fuel) :
    ∃ n, programs G fuel = some n :=
  ⟨_, programs_of_bounded G _ fuel (C06_bounded_partial d A hinj rank hrank G h) hf⟩

/-! ## `UCFG.clean()` (run by `from_DFTA` by default) -/

/-- **`clean()` keeps the language** — of EVERY unambiguous grammar none of whose non-terminals
    has the type `UnknownType` (the type of the end-of-derivation marker, which `clean()` does not
    expand), for every number of iterations after which it returns. -/
theorem C06_clean_lang (G : UCFG U) (hK : ∀ k ∈ AList.keys G.rules, k.1 ≠ Ty.unknown) (fuel : Nat)
    (Gc : UCFG U) (h : clean G fuel = some Gc) (t : Prog) : contains Gc t = contains G t :=
  CL.clean_contains G hK fuel Gc h t

/-- **start symbols.** `clean()` returns a subset of the start symbols and keeps every start
    symbol from which some program derives … -/
theorem C06_clean_starts (G : UCFG U) (hK : ∀ k ∈ AList.keys G.rules, k.1 ≠ Ty.unknown) (fuel : Nat)
    (Gc : UCFG U) (h : clean G fuel = some Gc) (s : UNT U) :
    (s ∈ Gc.starts → s ∈ G.starts) ∧
    (s ∈ G.starts → ∀ t, derivs G t s ≠ [] → s ∈ Gc.starts ∧ derivs Gc t s ≠ []) :=
  ⟨CL.clean_starts_sub G fuel Gc h s, fun hs t hne => CL.clean_keeps G hK fuel Gc h t s hs hne⟩

/-- … and never creates a derivation. -/
theorem C06_clean_sound (G : UCFG U) (fuel : Nat) (Gc : UCFG U) (h : clean G fuel = some Gc)
    (t : Prog) (s : UNT U) (hne : derivs Gc t s ≠ []) : derivs G t s ≠ [] :=
  CL.clean_derivs_sub G fuel Gc h t s hne

/-- **what `clean()` guarantees**: its set `done` of (pending stack, non-terminal) pairs contains
    `([], S)` for every start symbol and is closed under `derive` (each pair is an end marker or
    has a row, and all results of `derive` on that row are in `done`); the non-terminal of every
    pair is in `reached`. -/
theorem C06_clean_done_closed (G : UCFG U) (fuel : Nat) (st : CleanSt U)
    (h : cleanState G fuel = some st) :
    (∀ s ∈ G.starts, ([], s) ∈ st.done) ∧
    (∀ c ∈ st.done, c.2.1 = Ty.unknown ∨ CL.Expanded G st.done c) ∧
    (∀ c ∈ st.done, c.2 ∈ st.reached) :=
  CL.clean_done_closed G fuel st h

/-- `from_DFTA` with its default `clean=True`: the language is still the automaton's, and every
    accepted program still has exactly one derivation, the others none. -/
theorem C06_clean_fromDFTA_partial (d : Q → UNT U) (A : DFTA Sym Q) (hd : A.Det) (hinj : InjOn d A)
    (G : UCFG U) (h : fromDFTA d A = some G) (hK : ∀ k ∈ AList.keys G.rules, k.1 ≠ Ty.unknown)
    (fuel : Nat) (Gc : UCFG U) (hc : clean G fuel = some Gc) (t : Prog) :
    contains Gc t = A.accepts t ∧
    (reduceAll Gc t).length = (if A.accepts t = true then 1 else 0) :=
  clean_of_built (built_of_build _ A _ G h) (plainFlat_ok d A hinj) hd hK fuel Gc hc t

/-- **`clean()` returns** on the grammar that `from_DFTA` builds from an acyclic automaton, for
    every number of iterations beyond a bound (the size of the exploration from the start
    configurations) — with `C06_clean_fromDFTA_partial`: total correctness of
    `UCFG.from_DFTA(dfta)` with its default `clean=True`. -/
theorem C06_clean_terminates_partial (d : Q → UNT U) (A : DFTA Sym Q) (hinj : InjOn d A)
    (hac : Acyclic A) (G : UCFG U) (h : fromDFTA d A = some G) :
    ∃ fuel0, ∀ fuel, fuel0 ≤ fuel → ∃ Gc, clean G fuel = some Gc :=
  clean_terminates_built (plainFlat d) A (fun _ _ _ _ => rfl) hinj hac G (built_of_build _ A _ G h)

/-- the same for `from_DFTA_with_ngrams(dfta, n, clean=True)`, together with its language -/
theorem C06_ngram_clean_partial (n : Int) (d : Q → UNT U) (A : DFTA Sym Q) (hd : A.Det)
    (hinj : InjOn d A) (hac : Acyclic A) (bfuel : Nat) (G : UCFG (List (Sym × Nat) × U))
    (h : fromDFTAWithNgrams n d A bfuel = some G) :
    (∃ fuel0, ∀ fuel, fuel0 ≤ fuel → ∃ Gc, clean G fuel = some Gc) ∧
    ((∀ k ∈ AList.keys G.rules, k.1 ≠ Ty.unknown) → ∀ fuel Gc, clean G fuel = some Gc →
      ∀ t, contains Gc t = A.accepts t) :=
  have hb := built_of_build _ A _ G h
  ⟨clean_terminates_built (ngramFlat n d) A (fun _ _ _ _ => rfl) hinj hac G hb,
    fun hK fuel Gc hc t => (clean_of_built hb (ngramFlat_ok n d A hinj) hd hK fuel Gc hc t).1⟩

/-- the non-terminals of the grammar carry the types of the flattened states: none is the
    end-of-derivation marker's `UnknownType` as soon as no state has that type (the side
    condition of the `clean()` theorems) -/
theorem C06_keys_typed (d : Q → UNT U) (A : DFTA Sym Q) (htyped : ∀ q ∈ A.allStates, (d q).1 ≠ Ty.unknown)
    (G : UCFG U) (h : fromDFTA d A = some G) : ∀ k ∈ AList.keys G.rules, k.1 ≠ Ty.unknown := by
  intro k hk
  obtain ⟨q, hq, e⟩ := build_keys_image (plainFlat d) A (fun _ _ _ _ => rfl) (fun _ => rfl) _ G h k hk
  have : k = d q := e
  rw [this]
  exact htyped q hq

/-- **`UCFG.from_DFTA(dfta)` as the library calls it (clean=True), total correctness**: for a
    duplicate-free acyclic table with a final state whose states are typed and not merged by the
    flattening, the construction returns, `clean()` returns, and the cleaned grammar contains
    exactly the accepted programs, each with exactly one derivation. -/
theorem C06_fromDFTA_clean_total_partial (d : Q → UNT U) (A : DFTA Sym Q) (hd : A.Det)
    (hinj : InjOn d A) (hac : Acyclic A) (hf : A.finals ≠ [])
    (htyped : ∀ q ∈ A.allStates, (d q).1 ≠ Ty.unknown) :
    ∃ G, fromDFTA d A = some G ∧ ∃ fuel0, ∀ fuel, fuel0 ≤ fuel → ∃ Gc, clean G fuel = some Gc ∧
      ∀ t, contains Gc t = A.accepts t ∧
        (reduceAll Gc t).length = (if A.accepts t = true then 1 else 0) := by
  obtain ⟨G, hG⟩ := C06_fromDFTA_terminates d A hf
  obtain ⟨fuel0, h0⟩ := C06_clean_terminates_partial d A hinj hac G hG
  refine ⟨G, hG, fuel0, fun fuel hfuel => ?_⟩
  obtain ⟨Gc, hGc⟩ := h0 fuel hfuel
  exact ⟨Gc, hGc, fun t => C06_clean_fromDFTA_partial d A hd hinj G hG
    (C06_keys_typed d A htyped G hG) fuel Gc hGc t⟩

/-! ## with the Python state values and `__d2state__` -/

/-- the three statements for `UCFG.from_DFTA(dfta, clean=False)` as the library calls it:
    whenever `__d2state__` (before repair d2e87f5: `fixed = false`, or as /repo has it:
    `fixed = true`) merges no two states of `dfta` -/
theorem C06_py_partial (fixed : Bool) (A : DFTA Sym PyVal) (hd : A.Det)
    (hinj : d2Injective fixed A = true) (G : UCFG PyVal) (h : fromDFTAPy fixed A = some G) (t : Prog) :
    contains G t = A.accepts t ∧
    (reduceAll G t).length = (if A.accepts t = true then 1 else 0) ∧
    unambiguousOn G t = true := by
  have hi : InjOn (d2 fixed) A := d2Injective_iff.mp hinj
  unfold fromDFTAPy at h
  split at h
  · exact ⟨C06_lang_partial _ A hd hi G h t, C06_unambiguous_partial _ A hd hi G h t,
      C06_unambiguousOn_partial _ A hd hi G h t⟩
  · cases h

theorem C06_py_ngram_partial (fixed : Bool) (n : Int) (A : DFTA Sym PyVal) (hd : A.Det)
    (hinj : d2Injective fixed A = true) (fuel : Nat) (G : UCFG (List (Sym × Nat) × PyVal))
    (h : fromDFTAWithNgramsPy fixed n A fuel = some G) (t : Prog) :
    contains G t = A.accepts t ∧
    (reduceAll G t).length = (if A.accepts t = true then 1 else 0) := by
  have hi : InjOn (d2 fixed) A := d2Injective_iff.mp hinj
  unfold fromDFTAWithNgramsPy at h
  split at h
  · exact ⟨C06_ngram_lang_partial n _ A hd hi fuel G h t,
      C06_ngram_unambiguous_partial n _ A hd hi fuel G h t⟩
  · cases h

/-- on automata all of whose states are plain `(type, x)` pairs (the output of `__cfg2dfta__`,
    hand-written automata) `__d2state__` is the identity, hence merges nothing: the hypothesis of
    the theorems holds, for both values of `fixed` -/
theorem C06_plain_states_injective (fixed : Bool) (A : DFTA Sym PyVal)
    (hp : ∀ q ∈ A.allStates, ∃ t x, q = PyVal.state t x) :
    d2Defined fixed A = true ∧ d2Injective fixed A = true := by
  refine ⟨?_, d2Injective_iff.mpr fun q hq q' hq' e => ?_⟩
  · unfold d2Defined
    rw [List.all_eq_true]
    intro q hq
    obtain ⟨t, x, rfl⟩ := hp q hq
    rw [d2state_state]
    rfl
  · obtain ⟨t, x, rfl⟩ := hp q hq
    obtain ⟨t', x', rfl⟩ := hp q' hq'
    unfold d2 at e
    rw [d2state_state, d2state_state] at e
    cases e
    rfl

/-- **everything, with decidable hypotheses only** (all evaluated by the driver on every case):
    a duplicate-free table, an acyclic automaton with a final state, `__d2state__` defined and
    injective on its states.  Then `UCFG.from_DFTA(dfta, clean=False)` returns a grammar `G`;
    `program in G` is acceptance; every accepted program has exactly one derivation, the others
    none; `programs()` returns (large enough recursion budget) and returns the number of accepted
    programs. -/
theorem C06_py_total_partial (fixed : Bool) (A : DFTA Sym PyVal) (hd : A.Det)
    (hdef : d2Defined fixed A = true) (hinj : d2Injective fixed A = true) (hac : acyclicB A = true)
    (hf : A.finals ≠ []) :
    ∃ G, fromDFTAPy fixed A = some G ∧
      (∀ t, contains G t = A.accepts t) ∧
      (∀ t, (reduceAll G t).length = if A.accepts t = true then 1 else 0) ∧
      ∃ n fuel0, (∀ fuel, fuel0 ≤ fuel → programs G fuel = some n) ∧
        ∃ L : List Prog, L.Nodup ∧ (∀ t, t ∈ L ↔ A.accepts t = true) ∧ n = L.length := by
  have hi : InjOn (d2 fixed) A := d2Injective_iff.mp hinj
  obtain ⟨G, hG⟩ := C06_fromDFTA_terminates (d2 fixed) A hf
  have hpy : fromDFTAPy fixed A = some G := by unfold fromDFTAPy; rw [if_pos hdef]; exact hG
  obtain ⟨rank, hrank⟩ := acyclic_of_acyclicB A hac
  have hb := C06_bounded_partial _ A hi rank hrank G hG
  -- every budget from `levelOf A rank + 1` on returns the same number, the sum of `countU` over the start symbols
  have hn := fun fuel hfuel => programs_of_bounded G (levelOf A rank + 1) fuel hb hfuel
  refine ⟨G, hpy, fun t => C06_lang_partial _ A hd hi G hG t, fun t => C06_unambiguous_partial _ A hd hi G hG t,
    _, levelOf A rank + 1, hn, ?_⟩
  exact C06_count_partial _ A hd hi ⟨rank, hrank⟩ G hG (levelOf A rank + 1) _ (hn _ (Nat.le_refl _))

/-! ## `UCFG.from_CFG` (a deterministic grammar) -/

/-- the grammar built from a CFG contains exactly the programs the CFG generates
    (`PS.G.gen`: plain top-down matching of the rule table) … -/
theorem C06_cfg_lang {S : Type} [DecidableEq S] (G : TT S Unit) (hk : (AList.keys G.rules).Nodup)
    (hr : ∀ e ∈ G.rules, (AList.keys e.2).Nodup) (t : Prog) :
    contains (fromCFG G) t = gen G t G.start := by
  rw [contains_eq_genU, FromCfg.genU_fromCFG G hk hr]

/-- … and gives each of them exactly one derivation, the others none -/
theorem C06_cfg_unambiguous {S : Type} [DecidableEq S] (G : TT S Unit) (hk : (AList.keys G.rules).Nodup)
    (hr : ∀ e ∈ G.rules, (AList.keys e.2).Nodup) (t : Prog) :
    (reduceAll (fromCFG G) t).length = if gen G t G.start = true then 1 else 0 := by
  rw [reduceAll_length_eq, FromCfg.allDerivs_fromCFG_length G hk hr]

/-- … and `programs()` of it, when it returns `n` for a grammar all of whose derivations finish
    within `k` levels (`PS.G.bounded`, i.e. a non-recursive grammar), is the NUMBER of programs the
    CFG generates: the length of the duplicate-free list `PS.G.lang G k G.start`, which contains
    exactly the generated programs -/
theorem C06_cfg_count {S : Type} [DecidableEq S] (G : TT S Unit) (hk : (AList.keys G.rules).Nodup)
    (hr : ∀ e ∈ G.rules, (AList.keys e.2).Nodup) (k : Nat) (hb : bounded G k G.start = true)
    (fuel n : Nat) (hp : programs (fromCFG G) fuel = some n) :
    n = (lang G k G.start).length ∧ (lang G k G.start).Nodup ∧
    ∀ t, t ∈ lang G k G.start ↔ gen G t G.start = true := by
  have hrn : RowsNodup G := fun nt rs hl => hr (nt, rs) (AList.lookup_some_mem hl)
  exact ⟨FromCfg.programs_fromCFG G hk hr k hb fuel n hp, lang_nodup G hrn k G.start,
    fun t => mem_lang_of_bounded G hrn k t G.start hb⟩

/-! ## non-vacuity, and finding C06-F1 -/
namespace Example
open PyVal

def tInt : Ty := .base "int"
def sa : Sym := Sym.prim "a" tInt
def sb : Sym := Sym.prim "b" tInt
def sf : Sym := Sym.prim "f" (.arrow tInt (.arrow tInt tInt))
def ta : Prog := .node sa []
def tb : Prog := .node sb []

/-- plain states `(int, i)`: `a → 0`, `b → 1`, `f(0,1) → 2`, `f(1,0) → 2`, `f(2, 0) → 3`; final 2, 3 -/
def st (i : Int) : PyVal := state tInt (.int i)
def plain : DFTA Sym PyVal :=
  { rules := [((sa, []), st 0), ((sb, []), st 1), ((sf, [st 0, st 1]), st 2), ((sf, [st 1, st 0]), st 2),
              ((sf, [st 2, st 0]), st 3)],
    finals := [st 2, st 3] }

/-- the decidable hypotheses of `C06_py_total_partial` on `plain`, evaluated once -/
theorem plain_hyp : plain.Det ∧ d2Defined false plain = true ∧ d2Injective false plain = true ∧
    acyclicB plain = true ∧ plain.finals ≠ [] := by
  decide +kernel

/-- `from_DFTA(plain, clean=False)` and what is observed of it below, evaluated once -/
theorem plain_grammar : ∃ G, fromDFTAPy false plain = some G ∧
    (G.starts.length = 2 ∧ G.rules.length = 4 ∧
      contains G (.node sf [ta, tb]) = true ∧ contains G (.node sf [ta, ta]) = false ∧
      (reduceAll G (.node sf [.node sf [tb, ta], ta])).length = 1) ∧
    programs G 10 = some 4 ∧ (∀ k ∈ AList.keys G.rules, k.1 ≠ Ty.unknown) ∧
    ∃ Gc, clean G 100 = some Gc ∧ Gc.rules.length = 4 ∧ Gc.starts.length = 2 := by
  decide +kernel

example : plain.Det := plain_hyp.1
example : d2Injective false plain = true := plain_hyp.2.2.1
example : ∃ G, fromDFTAPy false plain = some G ∧ G.starts.length = 2 ∧ G.rules.length = 4 ∧
    contains G (.node sf [ta, tb]) = true ∧ contains G (.node sf [ta, ta]) = false ∧
    (reduceAll G (.node sf [.node sf [tb, ta], ta])).length = 1 :=
  plain_grammar.imp fun _ h => ⟨h.1, h.2.1⟩
example : ∃ G, fromDFTAWithNgramsPy false 2 plain 100 = some G ∧ G.rules.length = 7 ∧
    contains G (.node sf [.node sf [tb, ta], ta]) = true := by decide +kernel


/-- the ranking that shows `plain` acyclic -/
def rk : PyVal → Nat
  | .tup [_, .int n] => n.toNat
  | _ => 0
example : Acyclic plain := ⟨rk, by decide +kernel⟩
example : ∃ G, fromDFTAPy false plain = some G ∧ programs G 10 = some 4 :=
  plain_grammar.imp fun _ h => ⟨h.1, h.2.2.1⟩

example : ∀ q ∈ plain.allStates, ∃ t x, q = PyVal.state t x := by
  have h : plain.allStates.all (fun q => [st 0, st 1, st 2, st 3].contains q) = true := by decide +kernel
  intro q hq
  have := List.all_eq_true.mp h q hq
  simp only [List.contains_iff_mem, List.mem_cons, List.not_mem_nil, or_false] at this
  rcases this with e | e | e | e <;> exact ⟨tInt, _, by rw [e]; rfl⟩
example : ∃ G Gc, fromDFTAPy false plain = some G ∧ clean G 100 = some Gc ∧ Gc.rules.length = 4 ∧
    Gc.starts.length = 2 ∧ (∀ k ∈ AList.keys G.rules, k.1 ≠ Ty.unknown) :=
  have ⟨G, h, _, _, hk, Gc, hc⟩ := plain_grammar
  ⟨G, Gc, h, hc.1, hc.2.1, hc.2.2, hk⟩

example : plain.Det ∧ d2Defined false plain = true ∧ d2Injective false plain = true ∧
    acyclicB plain = true ∧ plain.finals ≠ [] :=
  plain_hyp

/-- states of the shape the sharpening pipeline produces after two constraints and a sketch:
    a product `(class, state)` whose first component is a one-element class of `minimise`
    holding a product pair `(x, y)`:  `q x = ((( (int,x), (int,0) ),), (int,0))` -/
def q (x : Int) : PyVal := pair (tup [pair (st x) (st 0)]) (st 0)
/-- `a → q 1`, `b → q 2`, only `q 1` is final: the language is `{a}` -/
def nested : DFTA Sym PyVal := { rules := [((sa, []), q 1), ((sb, []), q 2)], finals := [q 1] }

example : nested.Det := by decide +kernel

/-- **finding C06-F1** (witness on the model with `fixed = false`, i.e. `__d2state__` before repair
    d2e87f5, `rest.append(__extract__(tt)[1])`): `__d2state__` sends the two
    states `q 1`, `q 2` to the same non-terminal `(int, ((int,0), 0))` — the component `x` is
    dropped — so `from_DFTA` answers a grammar that contains `b`, which the automaton rejects,
    and reports 2 programs for a language of 1. -/
theorem finding_C06_F1 :
    d2 false (q 1) = d2 false (q 2) ∧ d2Injective false nested = false ∧
    (∃ G, fromDFTAPy false nested = some G ∧ contains G tb = true ∧ programs G 10 = some 2) ∧
    nested.accepts tb = false ∧ nested.accepts ta = true :=
  by decide +kernel

/-- with the repair (`rest.append(__d2state__(tt)[1])`, fixes_applied/C06-F1.diff) the two states stay apart and
    the grammar is right on this automaton -/
theorem finding_C06_F1_repaired :
    d2 true (q 1) ≠ d2 true (q 2) ∧ d2Injective true nested = true ∧
    (∃ G, fromDFTAPy true nested = some G ∧ contains G tb = false ∧ contains G ta = true ∧
      programs G 10 = some 1) :=
  by decide +kernel

end Example
end PS.C06
