/-
  C01 — A depth-bounded grammar denotes exactly the well-typed programs of its DSL.
  Property theorems (models: PS/Model/Grammar.lean, PS/Model/Cfg.lean, PS/Model/CfgInfinite.lean;
  lemmas: PS/Proofs/*).

  How the pieces fit.  `wt P some` is the statement's set of terms.  `ruleSet` transcribes the
  rule-creation step of `CFG.depth_constraint`.  Two routes lead from it to the grammar.
  (1) `tableOK` is a *verified checker* that every check run evaluates on the rule table actually
  produced by the implementation: `C01_certified` says that a table accepted by the checker has
  exactly the language `wt` (membership being the implementation's stack-based
  `__contains_rec__`, theorem `C01_contains_gen`), so for every generated input the property is
  *proved* for the real output, not sampled.  (2) `buildTable` transcribes the constructor itself
  (worklist loop, then `clean`): `C01_construction` and the theorems around it prove the
  property of the model's output for every parameter set, `C01_infinite…` the corresponding
  statements for `CFG.infinite` (`buildTableInf`; it returns when `n_gram ≥ 0`).
-/
import PS.Proofs.Cfg
import PS.Proofs.Lang
import PS.Proofs.Programs
import PS.Proofs.Mass
import PS.Proofs.CfgBuild
import PS.Proofs.CfgPrograms
import PS.Proofs.CfgInfinite
import PS.Proofs.CfgInfiniteDepth
import PS.Proofs.CfgInfiniteFuel
namespace PS.G
open PS

/-- **Membership** by the deterministic stack-based derivation (with the arity check) is
    exactly top-down matching of the rule table — for every grammar and every program. -/
theorem C01_contains_gen {S : Type} [DecidableEq S] (G : TT S Unit) (t : Prog) :
    contains G t = gen G t G.start :=
  contains_eq_gen G t

/-- **Rule creation = well-typed terms**: the terms derivable when every non-terminal
    `(type, n-gram, depth)` carries the rules created for it are exactly the well-typed terms
    (depth bound, minimum variable depth, constant types, forbidden patterns as far as the
    n-gram shows the parent). For all parameters. -/
theorem C01_rules_wt (P : Params) (t : Prog) :
    genR P t (startNT P) = wt P (effParent P) t 0 none P.request.returns := by
  rw [genR_eq_genW]
  exact genW_eq_wt P t P.request.returns [] 0 (fun _ => rfl)

/-- **Certified tables**: for every rule table `G` accepted by the checker (whatever produced
    it — here: the implementation), membership in `G` is exactly well-typedness. In
    particular the table contains no term outside `wt` and misses none. -/
theorem C01_certified (P : Params) (G : CFG) (dead : List CNT) (rankR rankP : AList CNT Nat)
    (h : tableOK P G dead rankR rankP = true) (t : Prog) :
    contains G t = wt P (effParent P) t 0 none P.request.returns := by
  obtain ⟨hs, hkey, _, hrules, hdead, _, _⟩ := tableOK_parts h
  rw [C01_contains_gen, table_gen_eq P G dead hrules hdead t G.start hkey, hs, ← genR_eq_genW,
    C01_rules_wt]

/-- **The statement's language** (every child sees its parent, so *no* forbidden
    (parent, index, child) pattern occurs, whatever the arity of the child) — under the
    hypothesis that the n-gram is wide enough to hold the parent.
    Full statement (false on the unchanged tree for `n_gram ∈ {0,1}`, finding C01-F2, see
    `finding_C01_F2`):  ∀ P, tableOK … → contains G t = wtTop P t. -/
theorem C01_statement_partial (P : Params) (G : CFG) (dead : List CNT) (rankR rankP : AList CNT Nat)
    (h : tableOK P G dead rankR rankP = true) (hn : P.nGram ≥ 2 ∨ P.nGram < 0) (t : Prog) :
    contains G t = wtTop P t := by
  rw [C01_certified P G dead rankR rankP h t, effParent_wide hn]; rfl

/-- **Clean**: in a table accepted by the checker every non-terminal is reachable from the
    start symbol and productive (derives at least one program), and every argument of every
    rule is again a non-terminal of the table — "every rule left in the grammar is reachable
    and productive". -/
theorem C01_clean (P : Params) (G : CFG) (dead : List CNT) (rankR rankP : AList CNT Nat)
    (h : tableOK P G dead rankR rankP = true) :
    ∀ e ∈ G.rules, Reach G e.1 ∧ (∃ t, gen G t e.1 = true) ∧
      ∀ r ∈ e.2, ∀ a ∈ r.2.1, AList.contains (toNT a) G.rules = true := by
  obtain ⟨_, _, hnd, hrules, _, hreach, hprod⟩ := tableOK_parts h
  intro e he
  exact ⟨reach_of_cert G rankR hnd hreach e he, prod_of_cert G rankP hnd hprod e he,
    fun r hr => ((okRules_row hrules he).2.1 r hr).2⟩

/-- **Counting**: for a table accepted by the checker, whenever `programs()` returns a number
    (not -1) that number is the number of well-typed terms: there is a duplicate-free list of
    exactly the terms of the language, of that length. (Uses the counting theorems of C04.) -/
theorem C01_count (P : Params) (G : CFG) (dead : List CNT) (rankR rankP : AList CNT Nat)
    (h : tableOK P G dead rankR rankP = true) (n : Nat) (hp : programs G = some n) :
    ∃ L : List Prog, L.Nodup ∧ n = L.length ∧
      ∀ t, t ∈ L ↔ wt P (effParent P) t 0 none P.request.returns = true := by
  obtain ⟨_, _, hnd, hrules, _⟩ := tableOK_parts h
  exact lang_of_count G ⟨hnd, fun e he => (okRules_row hrules he).1⟩
    (Programs.programs_eq_count G hnd n hp) (C01_certified P G dead rankR rankP h)

namespace Example
def int : Ty := .base "int"
def plus : Sym := Sym.prim "+" (.arrow int (.arrow int int))
def one : Sym := Sym.prim "1" int
def P2 : Params := { prims := [plus, one], forbidden := [(("+", 0), ["+"])], request := .arrow int int,
                     maxDepth := 3, minVarDepth := 1, nGram := 2, recursive := false, constTypes := [] }
def P1 : Params := { P2 with nGram := 1 }
def leaf (s : Sym) : Prog := .node s []
/-- `(+ (+ 1 1) 1)` : the forbidden pattern ("+", 0, "+") -/
def bad : Prog := .node plus [.node plus [leaf one, leaf one], leaf one]
def good : Prog := .node plus [leaf one, .node plus [leaf one, leaf (Sym.var 0 int)]]
def boolT : Ty := .base "bool"
def gS : Sym := Sym.prim "g" (.arrow int (.arrow boolT int))
def hS : Sym := Sym.prim "h" (.arrow boolT boolT)
/-- a DSL where `clean` has work to do: `g : int -> bool -> int` and `h : bool -> bool` need the
    uninhabited type `bool` -/
def P3 : Params := { P2 with prims := [plus, one, gS, hS] }
/-- request `int -> bool`: the language is empty, the constructor fails -/
def P4 : Params := { P3 with request := .arrow int boolT }
/-- the table of `P3` when the worklist loop ends (10 non-terminals) -/
def tbl3 : Table := (closure P3 16 [startNT P3] []).getD []
/-- … and after `clean` (5 non-terminals) -/
def T3 : Table := (removeNonReachable (startNT P3) (removeNonProductive tbl3)).getD []
def tbl4 : Table := (closure P4 3 [startNT P4] []).getD []
/-- `f : bool -> int`, `true : bool`, request `int`: the only program is `(f true)` -/
def fS : Sym := Sym.prim "f" (.arrow boolT int)
def trueS : Sym := Sym.prim "true" boolT
def P5 : Params := { P2 with prims := [fS, trueS], forbidden := [], request := int }
def fTrue : Prog := .node fS [leaf trueS]
/-- a term of depth 6 of the unbounded language of `P2` -/
def deep : Prog := .node plus [leaf one, .node plus [leaf one, .node plus [leaf one, .node plus [leaf one, good]]]]
def GI3 : CFG := (buildTableInf P3 40).getD ⟨startNT P3, []⟩
def GI5 : CFG := (buildTableInf P5 10).getD ⟨startNT P5, []⟩
end Example

/-! ### the construction itself: worklist loop + `clean`, for every parameter set

  The theorems above certify a *given* table.  The ones below close the remaining quantifier:
  the model of `CFG.depth_constraint` (`buildTable` = worklist `closure`, then
  `removeNonProductive`, then `removeNonReachable`) produces, for EVERY parameter set, a table
  with exactly the specified language, all of whose non-terminals are reachable and productive.
  No well-formedness hypothesis on the parameters is needed. -/

/-- **`clean` keeps the language** of ANY rule table that is a dict of dicts. -/
theorem C01_clean_lang (start : CNT) (tbl T' : Table) (hwf : TableWF tbl)
    (h : removeNonReachable start (removeNonProductive tbl) = some T') (t : Prog) :
    contains (⟨start, T'⟩ : CFG) t = contains (⟨start, tbl⟩ : CFG) t := by
  rw [C01_contains_gen, C01_contains_gen]
  exact (clean_some start tbl T' hwf h).lang t

open Example in
/-- non-vacuity: on `P3` the loop ends with 10 non-terminals, `clean` succeeds and leaves 5 -/
theorem Example.tbl3_eq : closure P3 16 [startNT P3] [] = some tbl3 :=
  eq_some_getD _ [] (by decide +kernel)
open Example in
theorem Example.tbl3_wf : TableWF tbl3 :=
  cinvW_wf (closure_inv Example.tbl3_eq)
open Example in
theorem Example.T3_eq : removeNonReachable (startNT P3) (removeNonProductive tbl3) = some T3 :=
  eq_some_getD _ [] (by decide +kernel)
open Example in
theorem Example.build3 : buildTable P3 16 = some ⟨startNT P3, T3⟩ :=
  (buildTable_eq P3 16).trans
    (buildWith_eq_some ((closure_eq P3 16 _ _).symm.trans Example.tbl3_eq) Example.T3_eq)
open Example in
/-- the fuel bound is attained on `P3` and `P4`: one iteration less and the loop is not over -/
theorem Example.fuel34 : buildFuel P3 = 16 ∧ closure P3 15 [startNT P3] [] = none ∧
    buildFuel P4 = 3 ∧ closure P4 2 [startNT P4] [] = none := by decide +kernel
open Example in
/-- the sizes of the table of `P3` along `clean`, evaluated once for the examples below -/
theorem Example.tbl3_sizes : tbl3.length = 10 ∧ (removeNonProductive tbl3).length = 7 ∧ T3.length = 5 ∧
    (prodFix tbl3 (tbl3.length + 1) []).length = 7 := by decide +kernel
open Example in
theorem Example.tbl3_members :
    contains (⟨startNT P3, tbl3⟩ : CFG) good = true ∧ contains (⟨startNT P3, tbl3⟩ : CFG) bad = false := by
  decide +kernel
open Example in
example : TableWF tbl3 ∧ removeNonReachable (startNT P3) (removeNonProductive tbl3) = some T3 ∧
    tbl3.length = 10 ∧ T3.length = 5 ∧ contains (⟨startNT P3, tbl3⟩ : CFG) good = true :=
  ⟨Example.tbl3_wf, Example.T3_eq, Example.tbl3_sizes.1, Example.tbl3_sizes.2.2.1, Example.tbl3_members.1⟩

/-- **after `clean` every non-terminal is reachable and productive**, every argument of a
    remaining rule is a remaining non-terminal, every remaining rule is a rule of the original
    table, and a rule of a remaining non-terminal whose arguments are all productive is kept —
    for ANY dict-of-dicts table. -/
theorem C01_clean_reachable_productive (start : CNT) (tbl T' : Table) (hwf : TableWF tbl)
    (h : removeNonReachable start (removeNonProductive tbl) = some T') :
    AList.contains start T' = true ∧
    (∀ e ∈ T', Reach (⟨start, T'⟩ : CFG) e.1 ∧ (∃ t, gen (⟨start, T'⟩ : CFG) t e.1 = true) ∧
      (∀ r ∈ e.2, ∀ a ∈ r.2.1, AList.contains (toNT a) T' = true) ∧
      ∃ e0 ∈ tbl, e0.1 = e.1 ∧ (∀ r ∈ e.2, r ∈ e0.2) ∧
        ∀ r ∈ e0.2, (∀ a ∈ r.2.1, ∃ t, gen (⟨start, tbl⟩ : CFG) t (toNT a) = true) → r ∈ e.2) := by
  have hs := clean_some start tbl T' hwf h
  refine ⟨AList.mem_keys_iff_contains.mp hs.start_key, ?_⟩
  intro e he
  have hk : e.1 ∈ AList.keys T' := List.mem_map_of_mem he
  refine ⟨hs.reachable _ hk, hs.productive _ hk,
    fun r hr a ha => AList.mem_keys_iff_contains.mp (hs.closed e he r hr a ha), ?_⟩
  obtain ⟨e0, he0, h1, h2⟩ := hs.sub e he
  exact ⟨e0, he0, h1, h2, fun r hr hp => hs.kept e he e0 he0 h1 r hr hp⟩

open Example in
/-- non-vacuity: 3 of the 10 non-terminals are unproductive, 2 more become unreachable -/
example : (removeNonProductive tbl3).length = 7 ∧ T3.length = 5 ∧ ∀ e ∈ T3, Reach (⟨startNT P3, T3⟩ : CFG) e.1 :=
  ⟨Example.tbl3_sizes.2.1, Example.tbl3_sizes.2.2.1, fun e he =>
    ((C01_clean_reachable_productive _ tbl3 T3 Example.tbl3_wf Example.T3_eq).2 e he).1⟩

/-- **`clean` raises (KeyError on the start symbol) only when the language is empty.** -/
theorem C01_clean_fails_empty (start : CNT) (tbl : Table) (hwf : TableWF tbl)
    (h : removeNonReachable start (removeNonProductive tbl) = none) (t : Prog) :
    contains (⟨start, tbl⟩ : CFG) t = false := by
  rw [C01_contains_gen]
  exact clean_none start tbl hwf h t

open Example in
/-- non-vacuity: on `P4` (request `int -> bool`) the loop ends and `clean` fails -/
theorem Example.tbl4_eq : closure P4 3 [startNT P4] [] = some tbl4 :=
  eq_some_getD _ [] (by decide +kernel)
open Example in
example : tbl4.length = 3 ∧ removeNonReachable (startNT P4) (removeNonProductive tbl4) = none := by decide +kernel

/-- **`_remove_non_productive_` computes the least fixed point**: the set found by the
    `while changed` loop (model: `prodFix` with fuel `|table| + 1`, never exhausted) is exactly
    the set of non-terminals that derive a program. -/
theorem C01_clean_productive_fixpoint (start : CNT) (tbl : Table) (hwf : TableWF tbl) (nt : CNT) :
    nt ∈ prodFix tbl (tbl.length + 1) [] ↔ ∃ t, gen (⟨start, tbl⟩ : CFG) t nt = true :=
  mem_prodSet_iff start tbl hwf nt

open Example in
/-- non-vacuity: the fixed point is a proper, non-empty subset of the non-terminals -/
example : (prodFix tbl3 (tbl3.length + 1) []).length = 7 ∧ tbl3.length = 10 :=
  ⟨Example.tbl3_sizes.2.2.2, Example.tbl3_sizes.1⟩

/-- **`_remove_non_reachable_` computes the reachability closure**: the set found by the
    breadth-first loop (model: `reachFix`, fuel never exhausted) is exactly the set of
    non-terminals reachable from the start. -/
theorem C01_clean_reachable_closure (start : CNT) (tbl : Table)
    (hc : ∀ e ∈ tbl, ∀ r ∈ e.2, ∀ a ∈ r.2.1, toNT a ∈ AList.keys tbl)
    (hs : start ∈ AList.keys tbl) (nt : CNT) :
    nt ∈ reachFix tbl (tbl.length * tbl.length + tbl.length + 1) [start] [start] ↔
      Reach (⟨start, tbl⟩ : CFG) nt :=
  mem_reachSet_iff start tbl hc hs nt

open Example in
/-- non-vacuity: the hypotheses hold for the table of `P3` after `_remove_non_productive_`,
    5 of its 7 non-terminals are reachable -/
example : (∀ e ∈ removeNonProductive tbl3, ∀ r ∈ e.2, ∀ a ∈ r.2.1, toNT a ∈ AList.keys (removeNonProductive tbl3)) ∧
    startNT P3 ∈ AList.keys (removeNonProductive tbl3) ∧
    (reachFix (removeNonProductive tbl3) (7 * 7 + 7 + 1) [startNT P3] [startNT P3]).length = 5 :=
  ⟨removeNonProductive_closed (startNT P3) tbl3 Example.tbl3_wf, by decide +kernel⟩

/-- **Worklist invariant**: when the loop of `depth_constraint` ends (with whatever fuel), the
    table has distinct non-terminals, contains the start symbol, every non-terminal carries
    exactly the dict of the rules created for it, and the non-terminals are closed under
    "argument of a created rule of a member". -/
theorem C01_worklist_closed (P : Params) (fuel : Nat) (tbl : Table)
    (h : closure P fuel [startNT P] [] = some tbl) :
    (AList.keys tbl).Nodup ∧ AList.contains (startNT P) tbl = true ∧
    (∀ e ∈ tbl, e.2 = rulesDict (ruleSet P e.1)) ∧
    (∀ e ∈ tbl, ∀ r ∈ ruleSet P e.1, ∀ a ∈ r.2, AList.contains (toNT a) tbl = true) := by
  have hinv := closure_inv h
  exact ⟨hinv.nodup, cinvW_start_key hinv, hinv.rows,
    fun e he r hr a ha => AList.mem_keys_iff_contains.mp (cinvW_args hinv he hr ha)⟩

open Example in
/-- non-vacuity: the loop of `P3` ends with fuel 16 (and not with 15) -/
example : closure P3 16 [startNT P3] [] = some tbl3 ∧ closure P3 15 [startNT P3] [] = none :=
  ⟨Example.tbl3_eq, Example.fuel34.2.1⟩

/-- **The uncleaned table has the specified language**: from the start symbol the table built by
    the worklist loop derives exactly the well-typed terms. -/
theorem C01_worklist_lang (P : Params) (fuel : Nat) (tbl : Table)
    (h : closure P fuel [startNT P] [] = some tbl) (t : Prog) :
    contains (⟨startNT P, tbl⟩ : CFG) t = wt P (effParent P) t 0 none P.request.returns := by
  have hinv := closure_inv h
  rw [C01_contains_gen, closureWith_gen (ruleSet_functional P) hinv t _ (cinvW_start_key hinv),
    ← genR_eq_genW, C01_rules_wt]

open Example in
example : contains (⟨startNT P3, tbl3⟩ : CFG) good = true ∧ contains (⟨startNT P3, tbl3⟩ : CFG) bad = false :=
  Example.tbl3_members

/-- **Fuel adequacy**: the worklist loop ends within `buildFuel P` iterations (the number of
    pushes of a run that never finds a non-terminal already treated), and more fuel does not
    change the table. -/
theorem C01_construction_fuel (P : Params) (fuel : Nat) (hf : buildFuel P ≤ fuel) :
    ∃ tbl, closure P fuel [startNT P] [] = some tbl ∧
      ∀ fuel', fuel ≤ fuel' → closure P fuel' [startNT P] [] = some tbl := by
  simp only [closure_eq]
  exact closureWith_isSome_stable
    (closure_eq P .. ▸ closure_terminates P fuel [startNT P] [] (by simpa [buildFuel] using hf))

open Example in
/-- non-vacuity: the bound is attained on `P3` and `P4` -/
example : buildFuel P3 = 16 ∧ closure P3 15 [startNT P3] [] = none ∧
    buildFuel P4 = 3 ∧ closure P4 2 [startNT P4] [] = none := Example.fuel34

/-- … hence the constructor's answer does not depend on the fuel once it is adequate. -/
theorem C01_construction_fuel_indep (P : Params) (fuel : Nat) (hf : buildFuel P ≤ fuel) :
    buildTable P fuel = buildTable P (buildFuel P) := by
  obtain ⟨tbl, hc, _⟩ := C01_construction_fuel P (buildFuel P) (Nat.le_refl _)
  rw [closure_eq] at hc
  rw [buildTable_eq, buildTable_eq, buildWith_fuel hc hf]

open Example in
/-- non-vacuity: `buildFuel P3 = 16`, and with fuel 15 the answer differs (loop not over) -/
example : buildFuel P3 ≤ 1000 ∧ buildTable P3 15 = none ∧ (buildTable P3 (buildFuel P3)).isSome = true :=
  ⟨by rw [Example.fuel34.1]; decide, by unfold buildTable; rw [Example.fuel34.2.1],
    by rw [Example.fuel34.1, Example.build3]; rfl⟩

/-- **C01 for the construction — language**: whenever the model of `CFG.depth_constraint`
    returns a grammar, membership in it (the implementation's stack-based derivation) is exactly
    well-typedness. For every parameter set and every fuel. -/
theorem C01_construction_lang (P : Params) (fuel : Nat) (G : CFG) (h : buildTable P fuel = some G)
    (t : Prog) : contains G t = wt P (effParent P) t 0 none P.request.returns := by
  rw [buildTable_eq] at h
  rw [C01_contains_gen, buildWith_lang (ruleSet_functional P) h t, ← genR_eq_genW, C01_rules_wt]

open Example in
/-- non-vacuity: the constructor succeeds on `P3`; the grammar contains `good`, not `bad` -/
example : contains (⟨startNT P3, T3⟩ : CFG) good = true ∧ contains (⟨startNT P3, T3⟩ : CFG) bad = false ∧
    wt P3 (effParent P3) good 0 none P3.request.returns = true := by decide +kernel

/-- **C01 for the construction — the statement's language** when the n-gram is wide enough to
    hold the parent (finding C01-F2 otherwise, see `finding_C01_F2`). -/
theorem C01_construction_statement_partial (P : Params) (fuel : Nat) (G : CFG)
    (h : buildTable P fuel = some G) (hn : P.nGram ≥ 2 ∨ P.nGram < 0) (t : Prog) :
    contains G t = wtTop P t := by
  rw [C01_construction_lang P fuel G h t, effParent_wide hn]; rfl

open Example in
example : buildTable P3 16 = some ⟨startNT P3, T3⟩ ∧ (P3.nGram ≥ 2 ∨ P3.nGram < 0) ∧
    wtTop P3 good = true ∧ wtTop P3 bad = false := ⟨Example.build3, by decide +kernel, by decide +kernel, by decide +kernel⟩

/-- **C01 for the construction — clean**: the grammar starts at the start symbol of the type
    request, has distinct non-terminals and distinct symbols per non-terminal; every
    non-terminal is reachable from the start and productive, every argument of every rule is a
    non-terminal of the grammar, and the rules of a non-terminal are exactly the created rules
    all of whose arguments are productive. -/
theorem C01_construction_clean (P : Params) (fuel : Nat) (G : CFG) (h : buildTable P fuel = some G) :
    G.start = startNT P ∧ AList.contains G.start G.rules = true ∧ (AList.keys G.rules).Nodup ∧
    ∀ e ∈ G.rules, (AList.keys e.2).Nodup ∧ Reach G e.1 ∧ (∃ t, gen G t e.1 = true) ∧
      (∀ r ∈ e.2, ∀ a ∈ r.2.1, AList.contains (toNT a) G.rules = true) ∧
      (∀ f args, (f, (args, ())) ∈ e.2 ↔
        (f, args) ∈ ruleSet P e.1 ∧ ∀ a ∈ args, ∃ t, genR P t (toNT a) = true) := by
  rw [buildTable_eq] at h
  obtain ⟨h1, h2, h3, _, h5⟩ := buildWith_clean (ruleSet_functional P) h
  simp only [genR_eq_genW]
  exact ⟨h1, h2, h3, h5⟩

open Example in
/-- non-vacuity: in the grammar of `P3` the rule for `g` (argument `bool` unproductive) is
    created for the start symbol but not kept; the rule for `+` is kept -/
example : (ruleSet P3 (startNT P3)).any (fun r => r.1 == gS) = true ∧
    ((AList.lookup (startNT P3) T3).getD []).any (fun r => r.1 == gS) = false ∧
    ((AList.lookup (startNT P3) T3).getD []).any (fun r => r.1 == plus) = true := by decide +kernel

/-- **C01 for the construction — failure**: if the worklist loop has ended and the constructor
    fails (the KeyError of `clean` on the start symbol), the specified language is empty. -/
theorem C01_construction_empty (P : Params) (fuel : Nat)
    (hc : closure P fuel [startNT P] [] ≠ none) (h : buildTable P fuel = none) (t : Prog) :
    wt P (effParent P) t 0 none P.request.returns = false := by
  rw [closure_eq] at hc
  rw [buildTable_eq] at h
  rw [← C01_rules_wt, genR_eq_genW]
  exact buildWith_empty (ruleSet_functional P) hc h t

open Example in
theorem Example.build4 : buildTable P4 3 = none := by decide +kernel
open Example in
/-- non-vacuity: on `P4` the loop ends and the constructor fails -/
example : closure P4 3 [startNT P4] [] ≠ none ∧ buildTable P4 3 = none :=
  ⟨by rw [Example.tbl4_eq]; exact Option.some_ne_none _, Example.build4⟩

/-- **C01 for the construction — total form**: with adequate fuel (`buildFuel P` or more), for
    every parameter set, either the constructor returns a grammar whose language is exactly the
    specified one, or it fails and the specified language is empty. -/
theorem C01_construction (P : Params) (fuel : Nat) (hf : buildFuel P ≤ fuel) :
    (∃ G, buildTable P fuel = some G ∧
      ∀ t, contains G t = wt P (effParent P) t 0 none P.request.returns) ∨
    (buildTable P fuel = none ∧ ∀ t, wt P (effParent P) t 0 none P.request.returns = false) := by
  obtain ⟨tbl, hc, _⟩ := C01_construction_fuel P fuel hf
  cases hb : buildTable P fuel with
  | some G => exact Or.inl ⟨G, rfl, C01_construction_lang P fuel G hb⟩
  | none => exact Or.inr ⟨rfl, C01_construction_empty P fuel (by rw [hc]; simp) hb⟩

open Example in
/-- non-vacuity: both branches occur, with adequate fuel -/
example : buildFuel P3 ≤ 16 ∧ (buildTable P3 16).isSome = true ∧
    buildFuel P4 ≤ 3 ∧ buildTable P4 3 = none :=
  ⟨Nat.le_of_eq Example.fuel34.1, by rw [Example.build3]; rfl, Nat.le_of_eq Example.fuel34.2.2.1, Example.build4⟩

/-- **C01 for the construction — counting**: on every grammar returned by the constructor
    `programs()` returns a number (never -1, even with `recursive = True`: a depth-bounded grammar
    is acyclic), and that number is the number of well-typed terms: there is a duplicate-free
    list of exactly the terms of the language, of that length. -/
theorem C01_construction_count (P : Params) (fuel : Nat) (G : CFG) (h : buildTable P fuel = some G) :
    ∃ n, programs G = some n ∧ ∃ L : List Prog, L.Nodup ∧ n = L.length ∧
      ∀ t, t ∈ L ↔ wt P (effParent P) t 0 none P.request.returns = true := by
  obtain ⟨_, _, hnd, hall⟩ := C01_construction_clean P fuel G h
  obtain ⟨n, hn⟩ := buildTable_programs_isSome h
  exact ⟨n, hn, lang_of_count G ⟨hnd, fun e he => (hall e he).1⟩
    (Programs.programs_eq_count G hnd n hn) (C01_construction_lang P fuel G h)⟩

open Example in
/-- non-vacuity: the grammar of `P3` has 13 programs; so has the recursive variant's count a
    number -/
example : buildTable P3 16 = some ⟨startNT P3, T3⟩ ∧ programs (⟨startNT P3, T3⟩ : CFG) = some 13 ∧
    ((buildTable { P3 with recursive := true } 40).bind programs).isSome = true :=
  ⟨Example.build3, by decide +kernel, by decide +kernel⟩

/-! ### `CFG.infinite`: the grammar compiled without a depth bound

  Model: PS/Model/CfgInfinite.lean (`buildTableInf` = worklist `closureWith (ruleSetInf P)`, then
  the same `clean`).  Specification: `wtI` — well-typed applicative terms of ANY depth that respect
  the forbidden patterns (`wtITop` = every child sees its parent).  All theorems hold for every
  parameter set and every fuel at which the model returns (`maxDepth`, `minVarDepth` are ignored). -/

/-- **Rule creation of `CFG.infinite` = well-typed terms of every depth.** -/
theorem C01_infinite_rules_wt (P : Params) (t : Prog) :
    genW (ruleSetInf P) t (startNT P) = wtI P (effParent P) t none P.request.returns :=
  genW_eq_wtI P t P.request.returns [] 0 (fun _ => rfl)

open Example in
/-- non-vacuity: rule creation derives a term of depth 6, rejects the forbidden pattern -/
example : genW (ruleSetInf P2) deep (startNT P2) = true ∧ genW (ruleSetInf P2) bad (startNT P2) = false := by
  decide +kernel

/-- **C01 for `CFG.infinite` — language**: whenever the model of `CFG.infinite` returns a grammar,
    membership in it is exactly well-typedness at any depth. -/
theorem C01_infinite_lang (P : Params) (fuel : Nat) (G : CFG) (h : buildTableInf P fuel = some G)
    (t : Prog) : contains G t = wtI P (effParent P) t none P.request.returns := by
  rw [C01_contains_gen, buildWith_lang (ruleSetInf_functional P) (buildTableInf_eq P fuel ▸ h) t,
    C01_infinite_rules_wt]

open Example in
/-- non-vacuity: on `P3` the model of `CFG.infinite` returns a grammar with 3 non-terminals (6
    before `clean`); it contains a term of depth 6, not the forbidden pattern -/
theorem Example.buildI3 : buildTableInf P3 40 = some GI3 := eq_some_getD _ _ (by decide +kernel)
open Example in
example : GI3.rules.length = 3 ∧ (closureWith (ruleSetInf P3) 40 [startNT P3] []).map (·.length) = some 6 ∧
    contains GI3 deep = true ∧ contains GI3 bad = false := by decide +kernel

/-- **C01 for `CFG.infinite` — the statement's language** ("exactly the well-typed terms of every
    depth that respect the forbidden patterns") when the n-gram is wide enough to hold the parent.
    Full statement (false for `n_gram ∈ {0,1}`, finding C01-F2, see `finding_C01_F2_infinite`):
    ∀ P, buildTableInf P fuel = some G → contains G t = wtITop P t. -/
theorem C01_infinite_lang_partial (P : Params) (fuel : Nat) (G : CFG)
    (h : buildTableInf P fuel = some G) (hn : P.nGram ≥ 2 ∨ P.nGram < 0) (t : Prog) :
    contains G t = wtITop P t := by
  rw [C01_infinite_lang P fuel G h t, effParent_wide hn]; rfl

open Example in
example : buildTableInf P3 40 = some GI3 ∧ (P3.nGram ≥ 2 ∨ P3.nGram < 0) ∧
    wtITop P3 deep = true ∧ wtITop P3 bad = false := ⟨Example.buildI3, by decide +kernel, by decide +kernel, by decide +kernel⟩

open Example in
/-- **finding C01-F2** for `CFG.infinite`, on the model: with `n_gram = 1` rule creation derives
    the term that the statement forbids. -/
theorem finding_C01_F2_infinite :
    genW (ruleSetInf P1) bad (startNT P1) = true ∧ wtITop P1 bad = false := by decide +kernel

/-- **The unbounded specification is "well typed at some depth bound"**: `wtI` is the union over
    all depth bounds `D` of the bounded specification `wt` (with variables allowed at every
    level, `unb P D = { P with maxDepth := D, minVarDepth := 0 }`). -/
theorem C01_infinite_wt_depth (P : Params) (vis : Sym × Nat → Option (Sym × Nat)) (t : Prog)
    (parent : Option (Sym × Nat)) (ty : Ty) :
    wtI P vis t parent ty = true ↔ ∃ D, wt (unb P D) vis t 0 parent ty = true :=
  wtI_iff_exists_depth P vis t parent ty

open Example in
/-- non-vacuity: `deep` (depth 6) is well typed with bound 7, not with bound 6 -/
example : wtI P2 some deep none int = true ∧ wt (unb P2 7) some deep 0 none int = true ∧
    wt (unb P2 6) some deep 0 none int = false := by decide +kernel

/-- **The grammar of `CFG.infinite` is the union of the depth-bounded grammars** (built with
    `min_variable_depth = 0`): a program is a member iff it is a member of
    `CFG.depth_constraint(…, max_depth = D, min_variable_depth = 0, …)` for some `D`. -/
theorem C01_infinite_union (P : Params) (fuel : Nat) (G : CFG) (h : buildTableInf P fuel = some G)
    (t : Prog) :
    contains G t = true ↔
      ∃ D Gd, buildTable (unb P D) (buildFuel (unb P D)) = some Gd ∧ contains Gd t = true := by
  rw [C01_infinite_lang P fuel G h t, C01_infinite_wt_depth]
  -- `unb P D` has the n-gram width and the request of `P`
  exact exists_congr fun D => (mem_iff_of_total (C01_construction (unb P D) _ (Nat.le_refl _)) t).symm

open Example in
/-- non-vacuity: `good` (depth 3) is in the depth-3 grammar of `P2`, not in the depth-2 one -/
example : ((buildTable (unb P2 3) (buildFuel (unb P2 3))).map (fun Gd => contains Gd good)) = some true ∧
    ((buildTable (unb P2 2) (buildFuel (unb P2 2))).map (fun Gd => contains Gd good)) = some false := by
  decide +kernel

/-- **C01 for `CFG.infinite` — clean**: the grammar starts at the start symbol of the type
    request, which is a non-terminal and the first key of the table; non-terminals and symbols
    are distinct; every non-terminal is reachable and productive, every argument of every rule is
    a non-terminal with depth component 0, and the rules of a non-terminal are exactly the created
    rules all of whose arguments are productive. -/
theorem C01_infinite_clean (P : Params) (fuel : Nat) (G : CFG) (h : buildTableInf P fuel = some G) :
    G.start = startNT P ∧ AList.contains G.start G.rules = true ∧ (AList.keys G.rules).Nodup ∧
    G.rules.head?.map (·.1) = some G.start ∧
    ∀ e ∈ G.rules, (AList.keys e.2).Nodup ∧ Reach G e.1 ∧ (∃ t, gen G t e.1 = true) ∧
      (∀ r ∈ e.2, ∀ a ∈ r.2.1, AList.contains (toNT a) G.rules = true ∧ a.2.2 = 0) ∧
      (∀ f args, (f, (args, ())) ∈ e.2 ↔
        (f, args) ∈ ruleSetInf P e.1 ∧ ∀ a ∈ args, ∃ t, genW (ruleSetInf P) t (toNT a) = true) := by
  obtain ⟨h1, h2, h3, h4, h5⟩ := buildWith_clean (ruleSetInf_functional P) (buildTableInf_eq P fuel ▸ h)
  refine ⟨h1, h2, h3, h4, fun e he => ?_⟩
  obtain ⟨a1, a2, a3, a4, a5⟩ := h5 e he
  exact ⟨a1, a2, a3, fun r hr a ha =>
    ⟨a4 r hr a ha, ruleSetInf_depth P e.1 _ ((a5 r.1 r.2.1).mp hr).1 a ha⟩, a5⟩

open Example in
/-- non-vacuity: in the infinite grammar of `P3` the rule for `g` (argument `bool` unproductive) is
    created for the start symbol but not kept; the rule for `+` is kept -/
example : (ruleSetInf P3 (startNT P3)).any (fun r => r.1 == gS) = true ∧
    ((AList.lookup (startNT P3) GI3.rules).getD []).any (fun r => r.1 == gS) = false ∧
    ((AList.lookup (startNT P3) GI3.rules).getD []).any (fun r => r.1 == plus) = true := by decide +kernel

/-- **C01 for `CFG.infinite` — failure**: if the worklist loop has ended and the constructor fails
    (the KeyError of `clean` on the start symbol), there is no well-typed term of any depth. -/
theorem C01_infinite_empty (P : Params) (fuel : Nat)
    (hc : closureWith (ruleSetInf P) fuel [startNT P] [] ≠ none) (h : buildTableInf P fuel = none)
    (t : Prog) : wtI P (effParent P) t none P.request.returns = false := by
  rw [← C01_infinite_rules_wt]
  exact buildWith_empty (ruleSetInf_functional P) hc (buildTableInf_eq P fuel ▸ h) t

open Example in
/-- non-vacuity: on `P4` (request `int -> bool`) the loop ends and the constructor fails -/
example : closureWith (ruleSetInf P4) 40 [startNT P4] [] ≠ none ∧ buildTableInf P4 40 = none := by decide +kernel

/-- **C01 for `CFG.infinite` — counting, sound direction**: if `programs()` (on such a table: the
    non-terminals in dict order, `programsInf`) returns a number, the language is finite and that
    number is its size. Hence on an infinite language `programs()` answers -1. -/
theorem C01_infinite_count (P : Params) (fuel : Nat) (G : CFG) (h : buildTableInf P fuel = some G)
    (n : Nat) (hp : programsInf G = some n) :
    ∃ L : List Prog, L.Nodup ∧ n = L.length ∧
      ∀ t, t ∈ L ↔ wtI P (effParent P) t none P.request.returns = true := by
  obtain ⟨_, _, hnd, _, hall⟩ := C01_infinite_clean P fuel G h
  exact lang_of_count G ⟨hnd, fun e he => (hall e he).1⟩
    (programsInf_count G hnd n hp) (C01_infinite_lang P fuel G h)

open Example in
/-- non-vacuity: a DSL without function symbols at the requested type: `programs()` = 2 -/
example : ((buildTableInf { P5 with request := boolT, constTypes := [boolT] } 10).bind programsInf) = some 2 := by
  decide +kernel

/-- **What `programs()` really answers on a grammar of `CFG.infinite`**: -1 exactly when the
    language contains an application (the start symbol, first in dict order, has a rule with an
    argument whose count is not yet known) — NOT exactly when the language is infinite, see
    `finding_C01_infinite_programs`. -/
theorem C01_infinite_programs (P : Params) (fuel : Nat) (G : CFG) (h : buildTableInf P fuel = some G) :
    programsInf G = none ↔ ∃ f k ks, contains G (.node f (k :: ks)) = true :=
  programsInf_none_of_build (buildTableInf_eq P fuel ▸ h)

open Example in
/-- non-vacuity: both sides hold on `P3` (infinite language) -/
example : programsInf GI3 = none ∧ contains GI3 good = true := by decide +kernel

open Example in
/-- **candidate finding (C01, `programs()` / `is_recursive()` of `CFG.infinite`)** on the model:
    for `f : bool -> int`, `true : bool`, request `int`, every derivation ends within 2 levels and
    the language is the single program `(f true)`, yet `programs()` answers -1 ("recursive
    grammar"); the depth-bounded grammar of the same DSL reports 1. -/
theorem finding_C01_infinite_programs :
    buildTableInf P5 10 = some GI5 ∧ programsInf GI5 = none ∧
    bounded GI5 2 GI5.start = true ∧ lang GI5 2 GI5.start = [fTrue] ∧
    ((buildTable { P5 with maxDepth := 5 } 10).bind programs) = some 1 :=
  ⟨eq_some_getD _ _ (by decide +kernel), by decide +kernel, by decide +kernel, by decide +kernel, by decide +kernel⟩

/-- **Termination of `CFG.infinite` for `n_gram ≥ 0`** (fuel adequacy): the non-terminals that can
    be pushed lie in a finite universe — a type among the argument types of the applicable symbols
    (or the requested return type), an n-gram of at most `n_gram` (symbol, argument index) pairs,
    depth 0 — and an iteration pushes at most `kidBound P` of them, so the worklist loop ends
    within `infFuel P = 1 + |universe| · (kidBound P + 1)` iterations; more fuel does not change
    the table. -/
theorem C01_infinite_terminates (P : Params) (hn : 0 ≤ P.nGram) (fuel : Nat) (hf : infFuel P ≤ fuel) :
    ∃ tbl, closureWith (ruleSetInf P) fuel [startNT P] [] = some tbl ∧
      ∀ fuel', fuel ≤ fuel' → closureWith (ruleSetInf P) fuel' [startNT P] [] = some tbl :=
  closureWith_isSome_stable (infinite_terminates P hn fuel hf)

open Example in
theorem Example.fuelI3 : infFuel P3 = 21974 ∧ (closureWith (ruleSetInf P3) 17 [startNT P3] []).isSome = true ∧
    closureWith (ruleSetInf P3) 16 [startNT P3] [] = none := by decide +kernel
open Example in
/-- non-vacuity: `infFuel P3 = 21974` is adequate (the loop of `P3` actually ends after 17
    iterations, not after 16) -/
example : 0 ≤ P3.nGram ∧ infFuel P3 = 21974 ∧
    (closureWith (ruleSetInf P3) 17 [startNT P3] []).isSome = true ∧
    closureWith (ruleSetInf P3) 16 [startNT P3] [] = none :=
  ⟨by decide +kernel, Example.fuelI3⟩

/-- … hence the answer of the model of `CFG.infinite` does not depend on the fuel once adequate. -/
theorem C01_infinite_fuel_indep (P : Params) (hn : 0 ≤ P.nGram) (fuel : Nat) (hf : infFuel P ≤ fuel) :
    buildTableInf P fuel = buildTableInf P (infFuel P) := by
  obtain ⟨tbl, hc, _⟩ := C01_infinite_terminates P hn (infFuel P) (Nat.le_refl _)
  rw [buildTableInf_eq, buildTableInf_eq, buildWith_fuel hc hf]

open Example in
example : infFuel P3 ≤ 30000 ∧ buildTableInf P3 30000 = buildTableInf P3 (infFuel P3) :=
  have h : infFuel P3 ≤ 30000 := by rw [Example.fuelI3.1]; decide
  ⟨h, C01_infinite_fuel_indep P3 (by decide +kernel) 30000 h⟩

/-- **C01 for `CFG.infinite` — total form** (`n_gram ≥ 0`, adequate fuel): either the constructor
    returns a grammar whose members are exactly the well-typed terms of every depth, or it fails
    and there is no well-typed term at all. -/
theorem C01_infinite (P : Params) (hn : 0 ≤ P.nGram) (fuel : Nat) (hf : infFuel P ≤ fuel) :
    (∃ G, buildTableInf P fuel = some G ∧
      ∀ t, contains G t = wtI P (effParent P) t none P.request.returns) ∨
    (buildTableInf P fuel = none ∧ ∀ t, wtI P (effParent P) t none P.request.returns = false) := by
  obtain ⟨tbl, hc, _⟩ := C01_infinite_terminates P hn fuel hf
  cases hb : buildTableInf P fuel with
  | some G => exact Or.inl ⟨G, rfl, C01_infinite_lang P fuel G hb⟩
  | none => exact Or.inr ⟨rfl, C01_infinite_empty P fuel (by rw [hc]; simp) hb⟩

open Example in
/-- non-vacuity: both branches occur -/
example : 0 ≤ P3.nGram ∧ (buildTableInf P3 (infFuel P3)).isSome = true ∧
    0 ≤ P4.nGram ∧ buildTableInf P4 (infFuel P4) = none := by
  refine ⟨by decide +kernel, ?_, by decide +kernel, by decide +kernel⟩
  -- the loop ends after 17 iterations: the answer at `infFuel P3` is the one at fuel 40
  obtain ⟨tbl, h⟩ := Option.isSome_iff_exists.mp Example.fuelI3.2.1
  rw [buildTableInf_eq, Example.fuelI3.1, buildWith_fuel h (by decide : 17 ≤ 21974),
    ← buildWith_fuel h (by decide : 17 ≤ 40), ← buildTableInf_eq, Example.buildI3]
  rfl

/-- **Documented exclusion `n_gram < 0`**: without a depth bound an unbounded n-gram keeps growing,
    so there are infinitely many non-terminals and the worklist loop of `CFG.infinite` does not
    end — on the DSL {neg : int -> int, 1 : int} with `n_gram = -1` the model returns no table
    whatever the fuel (the implementation loops forever; the generator of the harness never
    produces this combination). -/
theorem C01_infinite_loops_neg (fuel : Nat) :
    NegExample.Pneg.nGram < 0 ∧
    closureWith (ruleSetInf NegExample.Pneg) fuel [startNT NegExample.Pneg] [] = none ∧
    buildTableInf NegExample.Pneg fuel = none := by
  have h := neg_loops_aux fuel [] 0 [] (fun k hk => by cases hk)
  exact ⟨by decide +kernel, h, buildWith_of_closure_none h⟩

/-- non-vacuity: with the same DSL and `n_gram = 2` the loop ends and the grammar contains
    `(neg (neg 1))` -/
example : ((buildTableInf { NegExample.Pneg with nGram := 2 } 10).map (fun G =>
    contains G (.node NegExample.negS [.node NegExample.negS [.node NegExample.oneS []]]))) = some true := by
  decide +kernel

open Example in
/-- the statement's language is not trivial: it contains `good`, rejects `bad` -/
example : wtTop P2 good = true ∧ wtTop P2 bad = false := by decide +kernel
open Example in
/-- **finding C01-F2** on the model: with `n_gram = 1` the rules generate the term that the
    statement forbids. -/
theorem finding_C01_F2 :
    genR P1 bad (startNT P1) = true ∧ wtTop P1 bad = false := by decide +kernel

end PS.G
