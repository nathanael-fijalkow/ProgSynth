/-
  C03, part hs — best-first order of heap search / bucket search.

  FULL STATEMENT (not proved for the whole machine): for every fuel, the probabilities of the
  yielded sequence are non-increasing (heap search), the bucket tuples non-decreasing (bucket
  search); every strictly more probable program was yielded before.
  It is FALSE on recursive grammars (finding_C03_HS_reentrant).

  Proved for all inputs: heapq (literal port of `_siftdown` / `_siftup`) RE-ESTABLISHES the heap
  invariant on push and pop and pop returns a minimum, for every strict weak order (`<` asymmetric,
  `not <` transitive; both are needed: the sift loops swap on `<` only), and the two orders used are
  such orders; hence every heap of the machine is valid in every reachable state and every pop returns a
  most probable element of its heap — any grammar, any filter.  On ACYCLIC grammars, for every fuel and
  every prefix of the run: the yielded probabilities are non-increasing (C03_HS_sorted; any threshold
  and filter: C03_HS_sorted_threshold; bucket tuples: C03_HS_bucket_sorted; the unambiguous-grammar
  machine with several start symbols: C03_HS_U_sorted, C03_HS_U_sorted_probU, C03_HS_U_bucket_sorted), and
  every strictly more probable member was yielded before (C03_HS_prefix_complete,
  C03_HS_bucket_prefix_complete, C03_HS_U_prefix_complete).
  NOT proved: recursive grammars (the statement is false there), TTCFGs that thread a state, thresholds
  of the unambiguous machine.
-/
import PS.Model.Enum.HeapSearch
import PS.Proofs.Enum.Heapq
import PS.Proofs.Enum.HeapSearch
import PS.Proofs.Enum.HeapInv
import PS.Model.Prob
import PS.Proofs.Enum.HSHeaps
import PS.Proofs.Enum.HSHyp
import PS.Proofs.Enum.HSCheck
import PS.Proofs.Enum.HSInst
import PS.Proofs.Enum.GInst
import PS.Proofs.Enum.UHeaps
import PS.Proofs.Enum.UCheck
import PS.Proofs.Enum.UProb
import PS.Proofs.Enum.UCompleteRun
import PS.Proofs.Enum.UProbRun
import PS.Proofs.Enum.UBucket
import PS.Props.C02_HS
namespace PS.C03HS
open PS PS.G PS.HS

/-- on a heap-ordered array the root is a minimum -/
theorem C03_HS_root_min {α : Type} (lt : α → α → Bool)
    (htrans : ∀ a b c, lt b a = false → lt c b = false → lt c a = false) (hrefl : ∀ a, lt a a = false)
    (h : List α) (hh : Heapq.IsHeap lt h) (i : Nat) (hi : i < h.length) :
    lt h[i] (h[0]'(by omega)) = false := Heapq.root_min lt htrans hrefl h hh i hi

example : Heapq.IsHeap (fun a b : Nat => decide (a < b)) [1, 3, 2] := by
  intro i hi h0
  match i, hi, h0 with
  | 1, _, _ => rfl
  | 2, _, _ => rfl
  | n + 3, hi, _ => exact absurd hi (by simp)

/-- the order of heap search (`-p < -q`, i.e. `q < p`) satisfies the hypotheses of `C03_HS_root_min` -/
theorem C03_HS_prob_order :
    (∀ a b c : Rat, (probOps 0).lt b a = false → (probOps 0).lt c b = false → (probOps 0).lt c a = false) ∧
    (∀ a : Rat, (probOps 0).lt a a = false) :=
  ⟨(probOps_weakOrder 0).ntrans, (probOps_weakOrder 0).irrefl⟩

theorem C03_HS_bucket_lt_irrefl (a : Bucket) : Bucket.lt a a = false := Bucket.lt_irrefl a
theorem C03_HS_bucket_lt_asymm (a b : Bucket) (h : Bucket.lt a b = true) : Bucket.lt b a = false :=
  Bucket.lt_asymm a b h
theorem C03_HS_bucket_lt_trans (a b c : Bucket) (h1 : Bucket.lt a b = true) (h2 : Bucket.lt b c = true) :
    Bucket.lt a c = true := Bucket.lt_trans a b c h1 h2

/-- `new_bucket += bucket_tuples[arg][S2]` is strictly monotone in the argument's bucket -/
theorem C03_HS_bucket_add_mono (a b c : Bucket) (h1 : a.length = b.length) (h2 : b.length = c.length)
    (h : Bucket.lt a b = true) : Bucket.lt (Bucket.add a c) (Bucket.add b c) = true :=
  Bucket.add_lt_add a b c h1 h2 h

example : Bucket.lt (Bucket.add [0, 1, 2] [1, 0, 0]) (Bucket.add [0, 2, 1] [1, 0, 0]) = true := by decide

/-- the successor of an argument (a less probable program) gives a program that is not more probable -/
theorem C03_HS_prob_mono (w a b rest : Rat) (hw : 0 ≤ w) (hr : 0 ≤ rest) (hab : b ≤ a) :
    w * b * rest ≤ w * a * rest := prob_mono w a b rest hw hr hab

example : (1 / 2 : Rat) * (1 / 4) * (1 / 8) ≤ (1 / 2) * (1 / 2) * (1 / 8) :=
  C03_HS_prob_mono _ _ _ _ (by decide +kernel) (by decide +kernel) (by decide +kernel)

/-- `Bucket(size).add_prob_uniform(p)` puts probability 1/2 of 3 buckets in the middle one -/
example : Bucket.ofProb 3 (1 / 2) = [0, 1, 0] := by decide +kernel

/-! ### heapq re-establishes its invariant -/

/-- the two orders used are strict weak orders (`<` asymmetric, `not <` transitive) -/
theorem C03_HS_prob_weakOrder (t : Rat) : Heapq.WeakOrder (probOps t).lt := probOps_weakOrder t

/-- `Bucket.__lt__` is a strict weak order on the tuples of one size (all the tuples of a run have
    length `size`); on tuples of different lengths `not <` is not transitive: `[1]`, `[]`, `[0]` -/
theorem C03_HS_bucket_weakOrder (n : Nat) :
    Heapq.WeakOrder (fun a b : { b : Bucket // b.length = n } => Bucket.lt a.1 b.1) := Bucket.weakOrder n

example : Bucket.lt [] [1] = false ∧ Bucket.lt [0] [] = false ∧ Bucket.lt [0] [1] = true := by decide

/-- the order of heap elements (`HeapElement.__lt__` compares the priorities only) inherits it -/
theorem C03_HS_ltE_weakOrder {π : Type} (ops : Prio π) (w : Heapq.WeakOrder ops.lt) :
    Heapq.WeakOrder (ltE ops) := ltE_weakOrder ops w

/-- **`heappush` re-establishes the heap invariant** (literal port of `_siftdown`), for every order
    whose `<` is asymmetric and whose `not <` is transitive -/
theorem C03_HS_heappush_inv {α : Type} (lt : α → α → Bool) (w : Heapq.WeakOrder lt) (h : List α) (x : α)
    (hh : Heapq.IsHeap lt h) : Heapq.IsHeap lt (Heapq.push lt h x) := Heapq.push_isHeap w h x hh

/-- **`heappop` re-establishes the heap invariant and returns a minimum** (literal port of
    `_siftup` = bubble the smaller child up to a leaf, then `_siftdown`) -/
theorem C03_HS_heappop_inv {α : Type} (lt : α → α → Bool) (w : Heapq.WeakOrder lt) (h : List α) (x : α)
    (h' : List α) (hh : Heapq.IsHeap lt h) (hp : Heapq.pop lt h = some (x, h')) :
    Heapq.IsHeap lt h' ∧ ∀ y ∈ h, lt y x = false := Heapq.pop_isHeap w h x h' hh hp

/-- **heapsort**: popping the heap built by successive pushes of `l` until it is empty yields a
    permutation of `l` in which no element is smaller than an earlier one -/
theorem C03_HS_heap_sorted {α : Type} (lt : α → α → Bool) (w : Heapq.WeakOrder lt) (l : List α) :
    (Heapq.drain lt l.length (Heapq.build lt l)).Perm l ∧
    (Heapq.drain lt l.length (Heapq.build lt l)).Pairwise (fun a b => lt b a = false) := by
  have hp := Heapq.build_perm lt l
  obtain ⟨h1, h2⟩ := Heapq.drain_sorted w l.length (Heapq.build lt l) (Heapq.build_isHeap w l)
    (by rw [hp.length_eq]; exact Nat.le_refl _)
  exact ⟨h1.trans hp, h2⟩

example : Heapq.drain (fun a b : Nat => decide (a < b)) 6 (Heapq.build (fun a b => decide (a < b)) [5, 1, 4, 1, 3, 2])
    = [1, 1, 2, 3, 4, 5] := by decide

example : Heapq.WeakOrder (fun a b : Nat => decide (a < b)) := Heapq.strictTotal_nat.toWeakOrder

example : Heapq.pop (fun a b : Nat => decide (a < b)) [1, 3, 2, 7, 4] = some (1, [2, 3, 4, 7]) := by decide

/-! ### the machine: every heap is valid in every reachable state (unconditional) -/
section Heaps
variable {S T π : Type} [DecidableEq S] [DecidableEq T]

/-- `HS.HInv E s`: every `heaps[nt]` satisfies heapq's invariant.  It holds initially and every
    `next(generator)` keeps it — any grammar, any filter, any strict weak order of priorities -/
theorem C03_HS_heaps_valid (E : Env S T π) (w : Heapq.WeakOrder E.ops.lt) (fuel : Nat) :
    HInv E (Gen.new E.G : Gen S T π).st ∧
    ∀ (g g' : Gen S T π) (r : Option Prog), HInv E g.st → HS.next E fuel g = some (g', r) → HInv E g'.st :=
  ⟨hinv_new E, fun g g' r hg h => next_hinv E w fuel g g' r hg h⟩

/-- hence every pop made by `query` returns an element of minimal priority (heap search: of maximal
    probability) of its heap, and leaves a valid heap -/
theorem C03_HS_pop_max (E : Env S T π) (w : Heapq.WeakOrder E.ops.lt) (s : St S T π) (hs : HInv E s)
    (nt : NT S T) (e : π × Prog) (h' : List (π × Prog))
    (hp : Heapq.pop (ltE E.ops) (s.heapOf nt) = some (e, h')) :
    (∀ y ∈ s.heapOf nt, E.ops.lt y.1 e.1 = false) ∧ HInv E (s.setHeap nt h') :=
  ⟨(Heapq.pop_isHeap (ltE_weakOrder E.ops w) _ _ _ (hs nt) hp).2, hs.pop w nt e h' hp⟩
end Heaps

/-! ### the order of the yielded sequence (acyclic context-free grammars, heap search, no filter) -/
section Order
variable {S : Type} [DecidableEq S]

/-- **the order invariant is preserved by `query`**: `HS.OInv E H0 s` says, for every non-terminal,
    (I4) no heap element is more probable than a program already popped, a recorded successor is not
    more probable than its predecessor, (I1) the arguments of every program ever pushed were popped
    for their non-terminals — or the enumeration of that non-terminal has not started and the
    argument is what its initial heap `H0` pops first.  Under `HS.OrdHyp` (priorities = probabilities,
    non-negative weights, the grammar is NOT recursive: `rank` decreases from a non-terminal to the
    non-terminals of its rules) and the precondition (I5) "the key was popped for the non-terminal
    (or is its first pop)", `query` keeps it.  `HS.NInv` contains `deleted = ∅`: this is the step of a run in which
    no program was rejected (no filter, no merge).
    On recursive grammars this is false (`finding_C03_HS_reentrant`). -/
theorem C03_HS_order_step (E : Env S Unit Rat) (rank : NT S Unit → Nat) (H : OrdHyp E rank)
    (H0 : NT S Unit → List (Rat × Prog)) (n : Nat)
    (s s' : St S Unit Rat) (nt : NT S Unit) (p r : Option Prog)
    (hs : SInv E s) (hn : NInv s) (hh : HInv E s) (ho : OInv E H0 s)
    (hp : ∀ x, p = some x → (∃ k, AList.lookup k (s.succOf nt) = some x) ∨ (s.succOf nt = [] ∧ FP E H0 nt x))
    (h : query E n s nt p = some (s', r)) : OInv E H0 s' :=
  (big_order H (big_of_query E h) hs hn hh ho trivial trivial hp).1

/-- **tie-breaking of heapq**: `heappush` replaces the root only by a strictly smaller element, so
    the first pop of a heap built by pushes is the first minimum in push order -/
theorem C03_HS_heappush_root {α : Type} (lt : α → α → Bool) (w : Heapq.WeakOrder lt) (h : List α) (x : α)
    (hh : Heapq.IsHeap lt h) : (Heapq.push lt h x).head? = Heapq.bestStep lt h.head? x :=
  Heapq.push_head w h x hh

example : (Heapq.push (fun a b : Nat × Nat => decide (a.1 < b.1)) [(1, 0), (3, 0)] (1, 7)).head? = some (1, 0) := by
  decide

/-- **the state `__init_heap__` builds**: `HS.preHeaps` (Proofs/Enum/HSBig.lean) is the prologue of `generator()` up to
    and including `__init_heap__`, without the first queries; in the state it returns every argument of an initial
    program is the first pop of its non-terminal (`HS.Base`) — acyclic grammar, no empty row, dict keys distinct.
    The reason is that the max-priority phase leaves the tables in sync (`HG.MaxOK`: `max_priority[(S, P)]` is `P`
    applied to the current `max_priority[Si]`, `max_priority[S]` is the first best of them in rule order; proved in
    Proofs/Enum/GInit.lean as part of `HG.KInv`). The proof does not use `hthr`. -/
theorem C03_HS_base (E : Env S Unit Rat) (rank : NT S Unit → Nat) (HI : InitHyp E rank)
    (w : Heapq.WeakOrder E.ops.lt) (hthr : E.ops.thr = none) (hk : (AList.keys E.G.rules).Nodup) (fuel : Nat) :
    ∀ s3, preHeaps E fuel (St.empty E.G) = some s3 → Base E s3 :=
  preHeaps_base E rank HI w hk fuel

/-- **BEST-FIRST ORDER** of heap search (`HeapSearch`, threshold 0, no filter) on an ACYCLIC
    context-free grammar: for every fuel and every number of steps the yielded probabilities
    are non-increasing.  Hypotheses (all decidable on a literal grammar, see the example):
    `OrdHyp` — priorities are the probabilities, weights non-negative, `rank` strictly decreases from
    a non-terminal to the non-terminals of its rules; `InitHyp` — dict rows have distinct keys, same
    acyclicity, no non-terminal with an empty row; the rule table has distinct keys.
    Without acyclicity the statement is false (`finding_C03_HS_reentrant`).
    The proof does not use `hthr` (`HS.take_sorted` holds with any threshold). -/
theorem C03_HS_sorted (E : Env S Unit Rat) (rank : NT S Unit → Nat) (H : OrdHyp E rank) (HI : InitHyp E rank)
    (hthr : E.ops.thr = none) (hk : (AList.keys E.G.rules).Nodup) (hf : ∀ p, E.filter p = true)
    (fuel k : Nat) (g' : Gen S Unit Rat) (out : List Prog) (b : Bool)
    (h : take E fuel k (Gen.new E.G) [] = some (g', out, b)) :
    out.Pairwise (fun p q => G.prob E.G E.W q E.G.start ≤ G.prob E.G E.W p E.G.start) :=
  take_sorted E rank H HI hk hf fuel k g' out b h

/-- **every strictly more probable program was yielded before** (complete runs): when the generator
    has stopped, a member `p` of the grammar that is strictly more probable than a yielded `q` occurs
    before `q` in the output.  (For a proper prefix of the run: `C03_HS_prefix_complete_nofilter`, for the code
    after fix 53c3acb.) -/
theorem C03_HS_more_probable_before (E : Env S Unit Rat) (rank : NT S Unit → Nat) (C : CompHyp E rank)
    (fuel k : Nat) (g' : Gen S Unit Rat) (l1 l2 : List Prog) (q p : Prog)
    (h : take E fuel k (Gen.new E.G) [] = some (g', l1 ++ q :: l2, true))
    (hp : contains E.G p = true) (hlt : G.prob E.G E.W q E.G.start < G.prob E.G E.W p E.G.start) : p ∈ l1 := by
  have hsorted := C03_HS_sorted E rank C.ord C.init C.thr C.keys C.nofilter fuel k g' _ true h
  exact Heapq.mem_left_of_sorted hsorted (take_complete E rank C fuel k g' _ h p hp) hlt

/-- any threshold, grammars outside `InitHyp`: the yielded probabilities are non-increasing PROVIDED the
    state produced by the prologue of `generator()` satisfies the order invariant for some reference heaps -/
theorem C03_HS_sorted_partial (E : Env S Unit Rat) (rank : NT S Unit → Nat) (H : OrdHyp E rank)
    (hnd : RowsNodup E.G) (hf : ∀ p, E.filter p = true) (fuel k : Nat)
    (hpro : ∀ s0, prologue E fuel (St.empty E.G) = some s0 → ∃ H0, OInv E H0 s0)
    (g' : Gen S Unit Rat) (out : List Prog) (b : Bool)
    (h : take E fuel k (Gen.new E.G) [] = some (g', out, b)) :
    out.Pairwise (fun p q => G.prob E.G E.W q E.G.start ≤ G.prob E.G E.W p E.G.start) :=
  take_sorted_of_pro H hnd hf fuel k hpro g' out b h

/-! non-vacuity: `S0 → 1 | + S1 S1`, `S1 → 1 | x` — equal to the grammar `C02HS.cG` and the weights `C02HS.cW`, so
    the hypotheses below are those proved there -/
def oInt : Ty := .base "int"
def oOne : Sym := Sym.prim "1" oInt
def oX : Sym := Sym.var 0 oInt
def oPlus : Sym := Sym.prim "+" (.arrow oInt (.arrow oInt oInt))
def oG : TT Nat Unit := ⟨(oInt, (0, ())), [((oInt, (0, ())), [(oOne, ([], ())), (oPlus, ([(oInt, 1), (oInt, 1)], ()))]),
                                          ((oInt, (1, ())), [(oOne, ([], ())), (oX, ([], ()))])]⟩
def oW : AList (NT Nat Unit) (AList Sym Rat) :=
  [((oInt, (0, ())), [(oOne, 1/2), (oPlus, 1/2)]), ((oInt, (1, ())), [(oOne, 1/4), (oX, 3/4)])]
def oE : Env Nat Unit Rat := { G := oG, W := oW, ops := probOps 0, filter := fun _ => true }
def oRank (nt : NT Nat Unit) : Nat := 1 - nt.2.1

theorem oHyp : OrdHyp oE oRank := C02HS.cE_hyp.ord

theorem oInit : InitHyp oE oRank := C02HS.cE_hyp.init

/-- the state produced by the prologue satisfies the order invariant (kernel evaluation) -/
theorem oPro : ∀ s0, prologue oE 50 (St.empty oG) = some s0 → ∃ H0, OInv oE H0 s0 := by
  have h : (prologue oE 50 (St.empty oG)).all (oinvB oE) = true := by decide +kernel
  intro s0 hs0
  rw [hs0] at h
  exact ⟨s0.heapOf, oinv_of_oinvB oE s0 h⟩

example : ∀ g' out b, take oE 50 10 (Gen.new oG) [] = some (g', out, b) →
    out.Pairwise (fun p q => G.prob oG oW q oG.start ≤ G.prob oG oW p oG.start) :=
  fun g' out b h => C03_HS_sorted oE oRank oHyp oInit rfl C02HS.cE_hyp.keys (fun _ => rfl) 50 10 g' out b h

example : ∀ g' out b, take oE 50 10 (Gen.new oG) [] = some (g', out, b) →
    out.Pairwise (fun p q => G.prob oG oW q oG.start ≤ G.prob oG oW p oG.start) :=
  fun g' out b h => C03_HS_sorted_partial oE oRank oHyp oInit.rows (fun _ => rfl) 50 10
    oPro g' out b h

example : (take oE 50 10 (Gen.new oG) []).map (fun r => r.2.1.map (fun p => G.prob oG oW p oG.start)) =
    some [1/2, 9/32, 3/32, 3/32, 1/32] := by decide +kernel
end Order

/-! ### finding: best-first order is violated on recursive grammars (re-entrant `query`) -/
section Reentrant
def rInt : Ty := .base "t"
def rF : Sym := Sym.prim "F" (.arrow rInt (.arrow rInt rInt))
def rg : Sym := Sym.prim "g" (.arrow rInt rInt)
def rb : Sym := Sym.prim "b" rInt
def rc : Sym := Sym.prim "c" rInt
/-- `CFG.infinite(DSL{F : t1 -> t1 -> t0, b : t0, g : t0 -> t1, c : t1}, t0, n_gram=1)`:
    `S0 → b | F S1 S1`, `S1 → c | g S0` -/
def rG : TT Nat Unit := ⟨(rInt, (0, ())), [((rInt, (0, ())), [(rb, ([], ())), (rF, ([(rInt, 1), (rInt, 1)], ()))]),
                                          ((rInt, (1, ())), [(rc, ([], ())), (rg, ([(rInt, 0)], ()))])]⟩
def rW : AList (NT Nat Unit) (AList Sym Rat) :=
  [((rInt, (0, ())), [(rb, 1/64), (rF, 63/64)]), ((rInt, (1, ())), [(rc, 1/2), (rg, 1/2)])]
def rE : Env Nat Unit Rat := { G := rG, W := rW, ops := probOps 0, filter := fun _ => true }
def rFcc : Prog := .node rF [.node rc [], .node rc []]

/-- (finding C03-F3) heap search yields `(F c c)` (63/256), then `b` (1/64) **before** `(F (g (F c c)) c)` (3969/65536 > 1/64):
    while `__add_successors__((F c c), S0)` is still running (the successors of `(F c c)` are not pushed
    yet), the nested `query(S1, c)` pops `(g (F c c))`, whose `__add_successors__` calls
    `query(S0, (F c c))`, which pops the heap of `S0` too early.  Same output on the implementation. -/
theorem finding_C03_HS_reentrant :
    (take rE 200 3 (Gen.new rG) []).map (fun r => r.2.1.map (fun p => (p, G.prob rG rW p rG.start))) =
      some [(rFcc, 63/256), (.node rb [], 1/64), (.node rF [.node rg [rFcc], .node rc []], 3969/65536)] ∧
    ((1 : Rat)/64 < 3969/65536) := by
  decide +kernel
end Reentrant

/-! ### threshold, filter, prefix completeness, bucket search: any priority type whose `combine` is
    monotone (PS/Proofs/Enum/G*.lean), the code after fix 53c3acb (`dropDeleted = false`) -/
section Generic
open PS.HG
variable {S : Type} [DecidableEq S]

/-- **best-first order with any threshold and any filter** (acyclic context-free
    grammar, every fuel, every prefix): the yielded probabilities are non-increasing.
    `HG.ProbHyp`: priorities `probOps t` with `0 ≤ t`, weights in `[0, 1]`, `rank` decreasing along
    the rules, distinct keys, no empty row, every rule has a weight, the code after fix 53c3acb. -/
theorem C03_HS_sorted_threshold (E : Env S Unit Rat) (rank : NT S Unit → Nat) (t : Rat) (P : ProbHyp E rank t)
    (fuel k : Nat) (g' : Gen S Unit Rat) (out : List Prog) (b : Bool)
    (h : take E fuel k (Gen.new E.G) [] = some (g', out, b)) :
    out.Pairwise (fun p q => G.prob E.G E.W q E.G.start ≤ G.prob E.G E.W p E.G.start) :=
  (prob_safe P fuel k g' out b h).2.2.2

/-- **PREFIX COMPLETENESS** (every fuel, every prefix `l1 ++ q :: l2` of the run, stopped or not):
    a member `p` of strictly larger probability than the yielded `q` — above the threshold, all of
    whose sub-programs are accepted by the filter — occurs before `q` -/
theorem C03_HS_prefix_complete (E : Env S Unit Rat) (rank : NT S Unit → Nat) (t : Rat) (P : ProbHyp E rank t)
    (fuel k : Nat) (g' : Gen S Unit Rat) (l1 l2 : List Prog) (q p : Prog) (b : Bool)
    (h : take E fuel k (Gen.new E.G) [] = some (g', l1 ++ q :: l2, b))
    (hp : contains E.G p = true) (hcl : clean E.filter p = true)
    (hthr : t < G.prob E.G E.W p E.G.start ∨ t = 0)
    (hlt : G.prob E.G E.W q E.G.start < G.prob E.G E.W p E.G.start) : p ∈ l1 :=
  prob_prefix_complete P fuel k g' l1 l2 q p b h (by rw [← contains_eq_gen]; exact hp) hcl hthr hlt

/-- the statement of C03 for heap search as it is used (threshold 0, no filter): once a program of
    probability `x` has been produced, every program of strictly larger probability has been produced.
    `ProbHyp E rank 0` also asks weights in [0, 1] and `dropDeleted = false`; the latter matters only once a program
    is rejected (`HG.NoDrop`), which does not happen here. -/
theorem C03_HS_prefix_complete_nofilter (E : Env S Unit Rat) (rank : NT S Unit → Nat) (P : ProbHyp E rank 0)
    (hf : ∀ p, E.filter p = true)
    (fuel k : Nat) (g' : Gen S Unit Rat) (l1 l2 : List Prog) (q p : Prog) (b : Bool)
    (h : take E fuel k (Gen.new E.G) [] = some (g', l1 ++ q :: l2, b))
    (hp : contains E.G p = true)
    (hlt : G.prob E.G E.W q E.G.start < G.prob E.G E.W p E.G.start) : p ∈ l1 :=
  C03_HS_prefix_complete E rank 0 P fuel k g' l1 l2 q p b h hp (clean_of_all _ hf p) (Or.inr rfl) hlt

/-- **bucket search: order by non-decreasing bucket tuple** (acyclic context-free grammar, any
    filter, every fuel, every prefix): every yielded program has a bucket tuple of the size of the
    search (`HG.bucketOf`: the sum of the buckets of its rules) and no later tuple is `<` an earlier one -/
theorem C03_HS_bucket_sorted (E : Env S Unit Bucket) (rank : NT S Unit → Nat) (size : Nat)
    (B : BucketHyp E rank size) (fuel k : Nat) (g' : Gen S Unit Bucket) (out : List Prog) (b : Bool)
    (h : take E fuel k (Gen.new E.G) [] = some (g', out, b)) :
    (∀ p ∈ out, (bucketOf E p).length = size) ∧
    out.Pairwise (fun p q => Bucket.lt (bucketOf E q) (bucketOf E p) = false) :=
  ⟨(bucket_safe B fuel k g' out b h).2.2.2.1, (bucket_safe B fuel k g' out b h).2.2.2.2⟩

/-- bucket search, prefix completeness: a member (all of whose sub-programs are accepted) whose
    bucket tuple is `<` the tuple of a yielded program has been yielded -/
theorem C03_HS_bucket_prefix_complete (E : Env S Unit Bucket) (rank : NT S Unit → Nat) (size : Nat)
    (B : BucketHyp E rank size) (fuel k : Nat) (g' : Gen S Unit Bucket) (out : List Prog) (b : Bool)
    (h : take E fuel k (Gen.new E.G) [] = some (g', out, b)) (p q : Prog) (hq : q ∈ out)
    (hp : contains E.G p = true) (hcl : clean E.filter p = true)
    (hlt : Bucket.lt (bucketOf E p) (bucketOf E q) = true) : p ∈ out :=
  bucket_prefix_complete B fuel k g' out b h p q hq (by rw [← contains_eq_gen]; exact hp) hcl hlt

/-! non-vacuity: the grammar of the section Order with threshold 1/16 (heap search) and with
    buckets of size 3 -/
def tE : Env Nat Unit Rat := { G := oG, W := oW, ops := probOps (1/16), filter := fun _ => true, dropDeleted := false }
def tE0 : Env Nat Unit Rat := { G := oG, W := oW, ops := probOps 0, filter := fun _ => true, dropDeleted := false }
def bE : Env Nat Unit Bucket := { G := oG, W := oW, ops := bucketOps 3, filter := fun _ => true, dropDeleted := false }

theorem tE_hyp : ProbHyp tE oRank (1/16) := C02HS.cEt_hyp
theorem tE0_hyp : ProbHyp tE0 oRank 0 :=
  { ops := rfl, thr_nonneg := Rat.le_refl, wunit := tE_hyp.wunit, init := ⟨oInit.rows, oInit.acyclic, oInit.nonempty⟩
    keys := tE_hyp.keys, wtotal := tE_hyp.wtotal, nodrop := rfl }
theorem bE_hyp : BucketHyp bE oRank 3 := C02HS.cEb_hyp

example : ∀ k g' out b, take tE 50 k (Gen.new oG) [] = some (g', out, b) →
    out.Pairwise (fun p q => G.prob oG oW q oG.start ≤ G.prob oG oW p oG.start) :=
  fun k g' out b h => C03_HS_sorted_threshold tE oRank (1/16) tE_hyp 50 k g' out b h

/-- with threshold 1/16 the program of probability 1/32 is not produced -/
example : (take tE 50 10 (Gen.new oG) []).map (fun r => (r.2.1.map (fun p => G.prob oG oW p oG.start), r.2.2)) =
    some ([1/2, 9/32, 3/32, 3/32], true) := by decide +kernel

/-- after 2 of the 5 programs (a proper prefix: the generator has not stopped) -/
example : (take tE0 50 2 (Gen.new oG) []).map (fun r => (r.2.1.map (fun p => G.prob oG oW p oG.start), r.2.2)) =
    some ([1/2, 9/32], false) := by decide +kernel
example : ∀ g' l1 l2 q p b, take tE0 50 2 (Gen.new oG) [] = some (g', l1 ++ q :: l2, b) → contains oG p = true →
    G.prob oG oW q oG.start < G.prob oG oW p oG.start → p ∈ l1 :=
  fun g' l1 l2 q p b h hp hlt =>
    C03_HS_prefix_complete_nofilter tE0 oRank tE0_hyp (fun _ => rfl) 50 2 g' l1 l2 q p b h hp hlt

example : ∀ k g' out b, take bE 50 k (Gen.new oG) [] = some (g', out, b) →
    (∀ p ∈ out, (bucketOf bE p).length = 3) ∧
    out.Pairwise (fun p q => Bucket.lt (bucketOf bE q) (bucketOf bE p) = false) :=
  fun k g' out b h => C03_HS_bucket_sorted bE oRank 3 bE_hyp 50 k g' out b h

example : (take bE 50 10 (Gen.new oG) []).map (fun r => (r.2.1.map (bucketOf bE), r.2.2)) =
    some ([[0, 1, 0], [0, 1, 2], [1, 1, 1], [1, 1, 1], [2, 1, 0]], true) := by decide +kernel
end Generic

/-! ## unambiguous machine -/
section UMachine
open PS.UHS
variable {U π : Type} [DecidableEq U]

/-- **every heap of the unambiguous-grammar machine is valid in every reachable state**:
    `UHS.HInv E s` — every `heaps[nt]` and the start heap `_start_heap` satisfy heapq's invariant.
    It holds for the fresh enumerator and every `next(generator)` keeps it: any grammar, any filter,
    any strict weak order of priorities (`kway = true`, the k-way merge at the start heap) -/
theorem C03_HS_U_heaps_valid (E : UHS.Env U π) (hk : E.kway = true) (w : Heapq.WeakOrder E.ops.lt) (fuel : Nat) :
    UHS.HInv E (UHS.St.empty E.G) ∧
    ∀ (k : Nat) (s s' : UHS.St U π) (r : Option Prog), UHS.HInv E s → UHS.next E fuel k s = some (s', r) → UHS.HInv E s' :=
  ⟨hinv_empty E, fun k _ _ _ hs h => hs.next hk w k h⟩

/-- `query(S, program)` keeps the heaps valid -/
theorem C03_HS_U_query_heaps (E : UHS.Env U π) (hk : E.kway = true) (w : Heapq.WeakOrder E.ops.lt) (n : Nat)
    (s s' : UHS.St U π) (nt : UHS.UNT U) (p r : Option Prog) (hs : UHS.HInv E s)
    (h : UHS.query E n s nt p = some (s', r)) : UHS.HInv E s' :=
  big_hinv E hk w (big_of_query E h) hs

/-- hence every pop made by `query` returns an element of minimal priority of its heap, and the pop
    of the start heap in `start_query` returns an entry of minimal adjusted priority (heap search: of
    maximal probability `start weight × probability from the start symbol`) -/
theorem C03_HS_U_pop_max (E : UHS.Env U π) (w : Heapq.WeakOrder E.ops.lt) (s : UHS.St U π) (hs : UHS.HInv E s) :
    (∀ (nt : UHS.UNT U) (e : π × Prog) (h' : List (π × Prog)),
      Heapq.pop (UHS.ltE E.ops) (s.heapOf nt) = some (e, h') → ∀ y ∈ s.heapOf nt, E.ops.lt y.1 e.1 = false) ∧
    (∀ (e : π × Prog × UHS.UNT U) (h' : List (π × Prog × UHS.UNT U)),
      Heapq.pop (UHS.ltS E.ops) s.startHeap = some (e, h') → ∀ y ∈ s.startHeap, E.ops.lt y.1 e.1 = false) :=
  ⟨fun nt _ _ hp => (Heapq.pop_isHeap (UHS.ltE_weakOrder E.ops w) _ _ _ (hs.1 nt) hp).2,
   fun _ _ hp => (Heapq.pop_isHeap (UHS.ltS_weakOrder E.ops w) _ _ _ hs.2 hp).2⟩

/-! non-vacuity: the three-start grammar `C02HS.Gu` under the names of this file (what is said of `C02HS.Eu`,
    `C02HS.Eub` there holds of `uE`, `uEb` by unfolding), heap search and bucket search -/
def uT : Ty := .base "int"
def u0 : UHS.UNT Nat := (uT, 0)
def u1 : UHS.UNT Nat := (uT, 1)
def u2 : UHS.UNT Nat := (uT, 2)
def uPlus : Sym := Sym.prim "+" (.arrow uT (.arrow uT uT))
def uOne : Sym := Sym.prim "1" uT
def uV0 : Sym := Sym.var 0 uT
/-- `S0 → 1 | var0`, `S1 → + S0 S0`, `S2 → + S0 S1 | + S1 S0`; three start symbols; 22 programs -/
def uG : UG Nat :=
  { starts := [(u2, 1/2), (u0, 1/4), (u1, 1/4)],
    rules := [(u1, [(uPlus, [([u0, u0], 1)])]), (u0, [(uOne, [([], 1/4)]), (uV0, [([], 3/4)])]),
              (u2, [(uPlus, [([u0, u1], 3/5), ([u1, u0], 2/5)])])] }
def uE : UHS.Env Nat Rat := { G := uG, ops := UHS.probOps 0, filter := fun _ => true, kway := true }

theorem uE_weak : Heapq.WeakOrder uE.ops.lt := UHS.probOps_weakOrder 0

example : ∀ k s s' r, UHS.HInv uE s → UHS.next uE 60 k s = some (s', r) → UHS.HInv uE s' :=
  (C03_HS_U_heaps_valid uE rfl uE_weak 60).2
example : (UHS.take uE 60 30 (UHS.St.empty uG) []).map (fun r => (r.2.1.length, r.2.2)) = some (22, true) :=
  C02HS.Eu_run

/-- **the order invariant of a non-terminal is kept by every call** (acyclic unambiguous grammar, no
    threshold; `UHS.OHyp`: `rank` decreases along the alternatives, strict weak order,
    `combine` monotone on the priorities of derivations, alternatives unambiguous, dict keys distinct).
    `UHS.NTInv E s nt`: `succ[nt]` is one chain from the sentinel; its first element is
    `max_priority[nt]` (the root of the heap built in phase 2 of `__init_non_terminal__` is the first
    strict minimum of the scan of phase 1: tie-breaking of heapq); the arguments of every program
    ever pushed for `nt` were popped for the non-terminals of its alternative `_keys[nt][program]`;
    no heap element is better than a popped program, a recorded successor is not better than its
    predecessor.  Under the precondition "the key was popped for `nt`" (`UHS.OPre`), `query(nt, key)`
    keeps it for `nt` and for every non-terminal of smaller rank (`UHS.Below`), and returns a program
    that is not better than the key. -/
theorem C03_HS_U_order_step (E : UHS.Env U π) (rank : UHS.UNT U → Nat) (Good : π → Prop) (H : OHyp E rank Good)
    (n : Nat) (s s' : UHS.St U π) (nt : UHS.UNT U) (p r : Option Prog) (hb : Base E s)
    (hpre : OPre E rank (.query nt p) s) (h : UHS.query E n s nt p = some (s', r)) :
    Below E rank (rank nt) s' ∧ NTInv E s' nt ∧ ∀ q, r = some q → ∀ k, p = some k → UHS.LE E nt k q := by
  obtain ⟨a, b, d, _⟩ := big_order H (big_of_query E h) hb trivial trivial hpre
  exact ⟨a, b.1, d⟩

/-- **BEST-FIRST ORDER of the unambiguous-grammar machine** on ACYCLIC unambiguous grammars with SEVERAL
    START SYMBOLS and start weights (every fuel, every number of steps): the keys
    `adjust_priority_for_start(priority from the start symbol, start)` of the yielded programs
    (`UHS.StartKey`; heap search: `start weight × probability from the start symbol`) are
    non-decreasing for `<` — for heap search the probabilities are non-increasing.
    `UHS.RHyp` = `OHyp` + the start languages are disjoint, `G.starts` is a set,
    `adjust_priority_for_start` is monotone; all decidable on a literal grammar (`UHS.rhyp_prob`).
    The hypotheses include `kway = true` (findings C02-F2 / C03-F1 are about `kway = false`, u_heap_search.py
    before repair 7721229): the start heap is a k-way merge of the sorted enumerations of the start symbols. -/
theorem C03_HS_U_sorted (E : UHS.Env U π) (rank : UHS.UNT U → Nat) (Good : π → Prop) (R : RHyp E rank Good)
    (fuel k : Nat) (s' : UHS.St U π) (out : List Prog) (b : Bool)
    (h : UHS.take E fuel k (UHS.St.empty E.G) [] = some (s', out, b)) :
    out.Pairwise (fun p q => ∀ kp kq, StartKey E p kp → StartKey E q kq → E.ops.lt kq kp = false) :=
  take_sorted R fuel k s' out b h

/-- heap search (`UHeapSearch`, threshold 0): the yielded probabilities are non-increasing -/
theorem C03_HS_U_sorted_prob (E : UHS.Env U Rat) (rank : UHS.UNT U → Nat) (hops : E.ops = UHS.probOps 0)
    (R : RHyp E rank (fun v : Rat => 0 ≤ v)) (fuel k : Nat) (s' : UHS.St U Rat) (out : List Prog) (b : Bool)
    (h : UHS.take E fuel k (UHS.St.empty E.G) [] = some (s', out, b)) :
    out.Pairwise (fun p q => ∀ nt w pr nt' w' pr', UHS.startW E nt = some w → HasPrio E p nt pr →
      UHS.startW E nt' = some w' → HasPrio E q nt' pr' → pr' * w' ≤ pr * w) := by
  refine (take_sorted R fuel k s' out b h).imp ?_
  intro p q hpq nt w pr nt' w' pr' hw hpr hw' hpr'
  exact (UHS.probLt_false_iff hops _ _).mp (hpq _ _ (startKey_prob hops hw hpr) (startKey_prob hops hw' hpr'))

/-- **BEST-FIRST ORDER IN TERMS OF THE SPECIFICATION**: on an acyclic unambiguous grammar the probabilities
    `U.probU` (PS/Model/Prob.lean: weight of the start symbol × product of the rule weights of the unique
    derivation) of the programs yielded by `UHeapSearch` are non-increasing — every fuel, every prefix,
    several start symbols.  (`UHS.startKey_probU`: the key of the start heap is `U.probU`.) -/
theorem C03_HS_U_sorted_probU (E : UHS.Env U Rat) (rank : UHS.UNT U → Nat) (hops : E.ops = UHS.probOps 0)
    (R : RHyp E rank (fun v : Rat => 0 ≤ v)) (hkeys : ∀ nt F, ((UHS.altsOf E nt F).map (·.1)).Nodup) (d0 : UHS.UNT U)
    (hun : ∀ p, PS.U.unambiguousOn (E.G.toUCFG d0) p = true) (fuel k : Nat) (s' : UHS.St U Rat) (out : List Prog) (b : Bool)
    (h : UHS.take E fuel k (UHS.St.empty E.G) [] = some (s', out, b)) :
    out.Pairwise (fun p q => PS.U.probU (E.G.toUCFG d0) E.G.toTags q ≤ PS.U.probU (E.G.toUCFG d0) E.G.toTags p) :=
  take_sorted_probU hops R hkeys d0 hun fuel k s' out b h

/-- **every strictly more probable program was yielded before** (complete runs): when the generator has
    stopped (it does: `C02_HS_U_full`), a member `p` that is strictly more probable than a yielded `q`
    occurs before `q` -/
theorem C03_HS_U_more_probable_before (E : UHS.Env U Rat) (rank : UHS.UNT U → Nat) (hops : E.ops = UHS.probOps 0)
    (R : RHyp E rank (fun v : Rat => 0 ≤ v)) (hnf : ∀ p, E.filter p = true) (hkeys : ∀ nt F, ((UHS.altsOf E nt F).map (·.1)).Nodup) (d0 : UHS.UNT U)
    (hun : ∀ p, PS.U.unambiguousOn (E.G.toUCFG d0) p = true) (fuel k : Nat) (s' : UHS.St U Rat) (l1 l2 : List Prog)
    (q p : Prog) (h : UHS.take E fuel k (UHS.St.empty E.G) [] = some (s', l1 ++ q :: l2, true))
    (hp : PS.U.genU (E.G.toUCFG d0) p = true)
    (hlt : PS.U.probU (E.G.toUCFG d0) E.G.toTags q < PS.U.probU (E.G.toUCFG d0) E.G.toTags p) : p ∈ l1 :=
  take_before_probU hops R hkeys d0 hun fuel k s' l1 l2 q p true h hp (PS.HG.clean_of_all E.filter hnf p) hlt

/-- **PREFIX COMPLETENESS** of the unambiguous-grammar machine (acyclic unambiguous grammars, several start
    symbols, no threshold, no filter; every fuel, every prefix of the run, stopped or not): once a program
    `q` has been yielded, every member whose key is strictly better than the key of `q` has been yielded.
    Idea (`UHS.front_all`, the frontier theorem `Frontier.front` on the tables of a quiescent state): every
    derivable program was popped for its non-terminal or is not better than some element of its heap, hence
    nothing better than a popped program is left (`UHS.prefixOK_all`); at the start heap, the entry of a start
    symbol is not worse than anything not yet taken from it and not better than anything taken (`UHS.OG.heap_ge`);
    a start symbol without an entry is exhausted (`UHS.OC.exh`, `UHS.exhausted_complete`). -/
theorem C03_HS_U_prefix_complete (E : UHS.Env U π) (rank : UHS.UNT U → Nat) (Good : π → Prop) (R : RHyp E rank Good)
    (hnf : ∀ p, E.filter p = true) (fuel k : Nat) (s' : UHS.St U π) (out : List Prog) (b : Bool)
    (h : UHS.take E fuel k (UHS.St.empty E.G) [] = some (s', out, b)) (p q : Prog) (hq : q ∈ out) (kp kq : π)
    (hkp : StartKey E p kp) (hkq : StartKey E q kq) (hlt : E.ops.lt kp kq = true) : p ∈ out :=
  take_prefix_complete R fuel k s' out b h p q hq kp kq hkp hkq hlt (PS.HG.clean_of_all E.filter hnf p)

/-- the statement of C03 for `UHeapSearch` in terms of the specification: in a prefix `l1 ++ q :: l2` of the
    enumeration, every member of probability `U.probU` strictly larger than that of `q` is in `l1` — once a
    program of probability x has been produced, every program of strictly larger probability has been -/
theorem C03_HS_U_prefix_complete_probU (E : UHS.Env U Rat) (rank : UHS.UNT U → Nat) (hops : E.ops = UHS.probOps 0)
    (R : RHyp E rank (fun v : Rat => 0 ≤ v)) (hnf : ∀ p, E.filter p = true) (hkeys : ∀ nt F, ((UHS.altsOf E nt F).map (·.1)).Nodup) (d0 : UHS.UNT U)
    (hun : ∀ p, PS.U.unambiguousOn (E.G.toUCFG d0) p = true) (fuel k : Nat) (s' : UHS.St U Rat) (l1 l2 : List Prog)
    (q p : Prog) (b : Bool) (h : UHS.take E fuel k (UHS.St.empty E.G) [] = some (s', l1 ++ q :: l2, b))
    (hp : PS.U.genU (E.G.toUCFG d0) p = true)
    (hlt : PS.U.probU (E.G.toUCFG d0) E.G.toTags q < PS.U.probU (E.G.toUCFG d0) E.G.toTags p) : p ∈ l1 :=
  take_before_probU hops R hkeys d0 hun fuel k s' l1 l2 q p b h hp (PS.HG.clean_of_all E.filter hnf p) hlt

/-- **the unambiguous bucket search: order by non-decreasing bucket tuple** (acyclic unambiguous grammars,
    several start symbols, every fuel, every prefix): the tuples
    `bucket of the program from its start symbol + Bucket(size).add_prob_uniform(start weight)` of the yielded
    programs are non-decreasing for `Bucket.__lt__`; and (prefix completeness) a member whose tuple is `<`
    the tuple of a yielded program has been yielded -/
theorem C03_HS_U_bucket_sorted (E : UHS.Env U UHS.Bucket) (rank : UHS.UNT U → Nat) (size : Nat)
    (R : RHyp E rank (fun b : UHS.Bucket => b.length = size)) (hnf : ∀ p, E.filter p = true) (fuel k : Nat) (s' : UHS.St U UHS.Bucket) (out : List Prog)
    (b : Bool) (h : UHS.take E fuel k (UHS.St.empty E.G) [] = some (s', out, b)) :
    out.Pairwise (fun p q => ∀ kp kq, StartKey E p kp → StartKey E q kq → E.ops.lt kq kp = false) ∧
    (∀ p q, q ∈ out → ∀ kp kq, StartKey E p kp → StartKey E q kq → E.ops.lt kp kq = true → p ∈ out) :=
  ⟨C03_HS_U_sorted E rank _ R fuel k s' out b h,
   fun p q hq kp kq hkp hkq hlt => C03_HS_U_prefix_complete E rank _ R hnf fuel k s' out b h p q hq kp kq hkp hkq hlt⟩

def uRank (nt : UHS.UNT Nat) : Nat := nt.2

theorem uE_rhyp : RHyp uE uRank (fun v : Rat => 0 ≤ v) := C02HS.Eu_rhyp

example : ∀ k s' out b, UHS.take uE 60 k (UHS.St.empty uG) [] = some (s', out, b) →
    out.Pairwise (fun p q => ∀ nt w pr nt' w' pr', UHS.startW uE nt = some w → HasPrio uE p nt pr →
      UHS.startW uE nt' = some w' → HasPrio uE q nt' pr' → pr' * w' ≤ pr * w) :=
  fun k s' out b h => C03_HS_U_sorted_prob uE uRank rfl uE_rhyp 60 k s' out b h

theorem uE_unamb : ∀ p, PS.U.unambiguousOn (uG.toUCFG u0) p = true := by
  intro p
  exact unambiguous_of_budet uE u0 C02HS.Eu_det (altKeys_of_check uE C02HS.Gu_altKeys) C02HS.Gu_starts p

example : ∀ k s' out b, UHS.take uE 60 k (UHS.St.empty uG) [] = some (s', out, b) →
    out.Pairwise (fun p q => PS.U.probU (uG.toUCFG u0) uG.toTags q ≤ PS.U.probU (uG.toUCFG u0) uG.toTags p) :=
  fun k s' out b h => C03_HS_U_sorted_probU uE uRank rfl uE_rhyp (altKeys_of_check uE C02HS.Gu_altKeys) u0 uE_unamb 60 k s' out b h

/-- after 6 of the 22 programs (a proper prefix: the generator has not stopped) -/
example : ∀ s' l1 l2 q p b, UHS.take uE 60 6 (UHS.St.empty uG) [] = some (s', l1 ++ q :: l2, b) →
    PS.U.genU (uG.toUCFG u0) p = true →
    PS.U.probU (uG.toUCFG u0) uG.toTags q < PS.U.probU (uG.toUCFG u0) uG.toTags p → p ∈ l1 :=
  fun s' l1 l2 q p b h hp hlt =>
    C03_HS_U_prefix_complete_probU uE uRank rfl uE_rhyp (fun _ => rfl) (altKeys_of_check uE C02HS.Gu_altKeys) u0 uE_unamb 60 6 s' l1 l2 q p b h hp hlt

/-- the probabilities of the first 6 of the 22 programs of the example, in the order of the enumeration -/
example : (UHS.take uE 60 6 (UHS.St.empty uG) []).map (fun r => r.2.1.map (PS.U.probU (uG.toUCFG u0) uG.toTags)) =
    some [3/16, 9/64, 81/640, 27/320, 1/16, 3/64] := by decide +kernel

def uEb : UHS.Env Nat UHS.Bucket := { G := uG, ops := UHS.bucketOps 3 false, filter := fun _ => true, kway := true }

theorem uEb_rhyp : RHyp uEb uRank (fun b : UHS.Bucket => b.length = 3) := C02HS.Eub_rhyp

example : ∀ k s' out b, UHS.take uEb 60 k (UHS.St.empty uG) [] = some (s', out, b) →
    out.Pairwise (fun p q => ∀ kp kq, StartKey uEb p kp → StartKey uEb q kq → uEb.ops.lt kq kp = false) :=
  fun k s' out b h => (C03_HS_U_bucket_sorted uEb uRank 3 uEb_rhyp (fun _ => rfl) 60 k s' out b h).1

example : (UHS.take uEb 60 30 (UHS.St.empty uG) []).map (fun r => (r.2.1.length, r.2.2)) = some (22, true) :=
  C02HS.Eub_run
end UMachine

end PS.C03HS
