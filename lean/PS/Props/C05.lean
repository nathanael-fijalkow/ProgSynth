/-
  C05 — Sharpening keeps exactly the programs that satisfy the written constraints.
  Model: PS/Model/Constraints.lean, ConstraintsParse.lean; specification: PS/Spec/Constraints.lean.
  Every statement is for an arbitrary deterministic base automaton over any alphabet and base
  state type, every token tree (any nesting, any combination of tokens — a nested pattern may
  repeat the head symbol of an enclosing pattern: no statement assumes that heads differ), every
  list of rules, and every tree — no bound on sizes.
-/
import PS.Proofs.ConstraintsCfg
import PS.Model.ConstraintsParse
import PS.Proofs.ConstraintsParse
import PS.Proofs.ConstraintsGrammar
namespace PS.C05
open PS DFTA

variable {σ Q : Type} [DecidableEq σ] [DecidableEq Q]

/-! ### construction steps: each adds a bottom-up attribute of the sub-tree -/

/-- **`__count__`.** The counting automaton reads a tree into the state the base automaton reads
    it into, with one more component: the number of occurrences of the counted symbols in the
    tree, saturated at `n` (at least) / `n + 1` (at most). -/
theorem C05_count_attribute (B : DFTA σ (St Q)) (hd : B.Det) (n : Nat) (S : List σ) (most : Bool)
    (t : Tree σ) :
    run (count B n S most) t = (run B t).map (fun d => ext d (min (cnt S t) (cmaxi n most))) :=
  (count_refines_cnt B hd n S most).run t

/-- **`__tag__`.** The tagging automaton adds one component: the value of `check` on the rule the
    base automaton takes at the root (evaluated, as the code does, on the states of the children
    and the target, each with a fresh 0 on top). -/
theorem C05_tag_attribute (B : DFTA σ (St Q)) (hd : B.Det) (check : Check σ Q) (l : σ) (ks : List (Tree σ)) :
    run (tag B check) (.node l ks) =
      (runList B ks).bind (fun qs => (B.read l qs).map (fun d => ext d (bit (check l (qs.map aug) (aug d))))) := by
  rw [(tag_refines B check hd).run]
  cases hr : run B (.node l ks) with
  | none =>
    rw [run_node] at hr
    cases hqs : runList B ks with
    | none => rfl
    | some qs => rw [hqs] at hr; simp only [Option.bind_some] at hr ⊢; rw [hr]; rfl
  | some d =>
    obtain ⟨qs, h1, h2, h3⟩ := topVal_tag B check hd hr
    rw [h1]; simp only [Option.bind_some, Option.map_some, h2, h3]; rfl

/-- **`__process__` below the top level** adds `width tok` components which are functions of the
    sub-tree alone (`attrs tok t`), the newest one being the bit "the sub-tree matches `tok`"
    in the documented sense (`matchesTok`).  `Uniform`: the final states of the input carry the
    same number of components (true of every automaton the pipeline builds; `__tuple_len__`
    looks at one of them). -/
theorem C05_process_attributes (tok : Tok σ) (B A : DFTA σ (St Q)) (L : Nat) (hd : B.Det)
    (hu : Uniform B L) (h : processInner B tok = some A) (t : Tree σ) :
    run A t = (run B t).map (fun d => extL d (attrs tok t)) ∧
    (width tok ≠ 0 → (attrs tok t).head? = some (bit (matchesTok tok t))) ∧
    A.accepts t = B.accepts t := by
  have r := processInner_refines tok B A L hd hu h
  exact ⟨r.run t, attrs_head tok t, r.accepts t⟩

/-- **sketch.**  `__process__(B, tok, local=False)` accepts exactly the trees of `B` whose root
    matches the pattern. -/
theorem C05_process_sketch (B A : DFTA σ (St Q)) (L : Nat) (hd : B.Det) (hu : Uniform B L) (tok : Tok σ)
    (h : processTop B tok false = some A) (t : Tree σ) :
    A.accepts t = (B.accepts t && satSketch tok t) :=
  (processTop_sketch B A L hd hu tok h).2 t

/-- **local rule.**  `__process__(B, (H a₁ … a_k), local=True)` accepts exactly the trees of `B`
    in which every occurrence of a symbol of `H` has arguments matching `a₁ … a_k`. -/
theorem C05_process_local (B A : DFTA σ (St Q)) (L : Nat) (hd : B.Det) (hu : Uniform B L) (H : List σ)
    (args : List (Tok σ)) (h : processTop B (.func H args) true = some A) (t : Tree σ) :
    A.accepts t = (B.accepts t && satLocal H args t) :=
  (processTop_local B A L hd hu H args h).2 t

/-- **`add_dfta_constraints`** (on parsed tokens, any base automaton): the returned automaton is
    deterministic and accepts a tree iff the base automaton accepts it, every local rule holds at
    every occurrence of its head symbols, and the root satisfies the sketch.  Uses the C07
    theorems for `read_product`, `reduce`, `minimise` between the rules. -/
theorem C05_sharpen_tokens (base : DFTA σ (St Q)) (L : Nat) (hd : base.Det) (hu : Uniform base L)
    (cs : List (Tok σ)) (sketch : Option (Tok σ)) (D : DFTA σ (UState Q))
    (h : addDftaConstraints base cs sketch = some D) (t : Tree σ) :
    D.accepts t = sharpenSpec base.accepts cs sketch t :=
  (addDftaConstraints_lang base L hd hu cs sketch D h).2 t

theorem C05_sharpen_det (base : DFTA σ (St Q)) (L : Nat) (hd : base.Det) (hu : Uniform base L)
    (cs : List (Tok σ)) (sketch : Option (Tok σ)) (D : DFTA σ (UState Q))
    (h : addDftaConstraints base cs sketch = some D) : D.Det :=
  (addDftaConstraints_lang base L hd hu cs sketch D h).1

/-- sharpening never adds a program to the base automaton … -/
theorem C05_never_adds_base (base : DFTA σ (St Q)) (L : Nat) (hd : base.Det) (hu : Uniform base L)
    (cs : List (Tok σ)) (sketch : Option (Tok σ)) (D : DFTA σ (UState Q))
    (h : addDftaConstraints base cs sketch = some D) (t : Tree σ) (ht : D.accepts t = true) :
    base.accepts t = true := by
  rw [C05_sharpen_tokens base L hd hu cs sketch D h t] at ht
  exact (sharpenSpec_iff.mp ht).1

/-- … and never removes one that satisfies every rule and the sketch. -/
theorem C05_never_removes_base (base : DFTA σ (St Q)) (L : Nat) (hd : base.Det) (hu : Uniform base L)
    (cs : List (Tok σ)) (sketch : Option (Tok σ)) (D : DFTA σ (UState Q))
    (h : addDftaConstraints base cs sketch = some D) (t : Tree σ) (hb : base.accepts t = true)
    (hc : ∀ c ∈ cs, satConstraint c t = true) (hs : ∀ sk, sketch = some sk → satSketch sk t = true) :
    D.accepts t = true := by
  rw [C05_sharpen_tokens base L hd hu cs sketch D h t]
  exact sharpenSpec_iff.mpr ⟨hb, hc, hs⟩

/-! ### non-vacuity: terms over the constants 1, 0 and the binary symbols +, - (all in the base language) -/
namespace Example
def one : Tree String := .node "1" []
def zero : Tree String := .node "0" []
def plus (a b : Tree String) : Tree String := .node "+" [a, b]
def minus (a b : Tree String) : Tree String := .node "-" [a, b]
def base0 : DFTA String Nat :=
  { rules := [(("1", []), 0), (("0", []), 0), (("+", [0, 0]), 0), (("-", [0, 0]), 0)], finals := [0] }
def base : DFTA String (St Nat) := liftBase base0
/-- `(+ 1 _)`: every `+` has `1` as its first argument -/
def rule1 : Tok String := .func ["+"] [.allow ["1"], .any]
/-- `(- #(1)<=1 (+ _ ^0))` -/
def rule2 : Tok String := .func ["-"] [.atMost ["1"] 1, .func ["+"] [.any, .allow ["1", "+", "-"]]]
example : base.Det ∧ Uniform base 0 := ⟨liftBase_det _, liftBase_uniform _⟩
example : (run (count base 1 ["1"] true) (plus one (plus one one))).map (·.2) = some [2] := by decide +kernel
/-- `rule1` below the top level, built once: what the three examples after it read off the automaton -/
theorem rule1_inner : ∃ A, processInner base rule1 = some A ∧
    ((localFinish A ["+"]).accepts (plus one (minus zero one)), (localFinish A ["+"]).accepts (plus zero one),
      (localFinish A ["+"]).accepts (minus (plus zero one) one)) = (true, false, false) ∧
    ((sketchFinish A).accepts (plus one (plus zero one)), (sketchFinish A).accepts (minus one one)) = (true, false) ∧
    (run A (plus one zero)).map (·.2) = some [1, 0, 1] := by
  have h : (processInner base rule1).map (fun A =>
      (((localFinish A ["+"]).accepts (plus one (minus zero one)), (localFinish A ["+"]).accepts (plus zero one),
        (localFinish A ["+"]).accepts (minus (plus zero one) one)),
       ((sketchFinish A).accepts (plus one (plus zero one)), (sketchFinish A).accepts (minus one one)),
       (run A (plus one zero)).map (·.2))) = some ((true, false, false), (true, false), some [1, 0, 1]) := by
    decide +kernel
  obtain ⟨A, hA, e⟩ := Option.map_eq_some_iff.mp h
  obtain ⟨h1, h23⟩ := Prod.mk.inj e
  exact ⟨A, hA, h1, Prod.mk.inj h23⟩
example : (processTop base rule1 true).map (fun A => (A.accepts (plus one (minus zero one)), A.accepts (plus zero one),
    A.accepts (minus (plus zero one) one))) = some (true, false, false) := by
  obtain ⟨A, hA, h, -, -⟩ := rule1_inner
  rw [show processTop base rule1 true = _ from (processTop_func base _ _ true).trans (congrArg (Option.map _) hA)]
  exact congrArg some h
example : (processTop base rule1 false).map (fun A => (A.accepts (plus one (plus zero one)), A.accepts (minus one one))) =
    some (true, false) := by
  obtain ⟨A, hA, -, h, -⟩ := rule1_inner
  rw [show processTop base rule1 false = _ from (processTop_func base _ _ false).trans (congrArg (Option.map _) hA)]
  exact congrArg some h
example : satLocal ["+"] [.allow ["1"], .any] (plus one (minus zero one)) = true ∧
    satLocal ["+"] [.allow ["1"], .any] (minus (plus zero one) one) = false := by decide +kernel
example : (processInner base rule1).map (fun A => (run A (plus one zero)).map (·.2)) =
    some (some (attrs rule1 (plus one zero))) ∧ attrs rule1 (plus one zero) = [1, 0, 1] := by
  obtain ⟨A, hA, -, -, h⟩ := rule1_inner
  have ha : attrs rule1 (plus one zero) = [1, 0, 1] := by decide +kernel
  rw [hA, ha]
  exact ⟨congrArg some h, rfl⟩
example : (attrs rule2 (minus one (plus zero one))).head? = some 1 ∧ width rule2 = 7 ∧
    matchesTok rule2 (minus one (plus zero one)) = true := by decide +kernel
end Example

/-! ### on a grammar: `__cfg2dfta__` -/
open PS.G

namespace Finding
def tInt : Ty := .base "int"
def tII : Ty := .arrow tInt (.arrow tInt tInt)
def sPlus : Sym := Sym.prim "+" tII
def sOne : Sym := Sym.prim "1" tInt
def sVar : Sym := Sym.var 0 tInt
def ctx (i : Nat) : CFGState := ([(sPlus, i)], 1)
/-- `CFG.depth_constraint(+,1 ; int -> int, max_depth = 2, min_variable_depth = 1)`: the variable is
    only allowed below the root -/
def g : CFG :=
  { start := (tInt, (([], 0), ())),
    rules := [((tInt, (([], 0), ())), [(sOne, ([], ())), (sPlus, ([(tInt, ctx 0), (tInt, ctx 1)], ()))]),
              ((tInt, (ctx 0, ())), [(sVar, ([], ())), (sOne, ([], ()))]),
              ((tInt, (ctx 1, ())), [(sVar, ([], ())), (sOne, ([], ()))])] }
/-- the same grammar with `min_variable_depth = 0` -/
def g0 : CFG :=
  { start := (tInt, (([], 0), ())),
    rules := [((tInt, (([], 0), ())), [(sVar, ([], ())), (sOne, ([], ())), (sPlus, ([(tInt, ctx 0), (tInt, ctx 1)], ()))]),
              ((tInt, (ctx 0, ())), [(sVar, ([], ())), (sOne, ([], ()))]),
              ((tInt, (ctx 1, ())), [(sVar, ([], ())), (sOne, ([], ()))])] }
end Finding

/-- **sharpening a grammar**, in terms of the (type, height) automaton `__cfg2dfta__` builds. -/
theorem C05_sharpen (G : CFG) (cs : List (Tok Sym)) (sketch : Option (Tok Sym)) (D : DFTA Sym (UState BaseSt))
    (h : addDftaConstraints (liftBase (cfg2dfta G)) cs sketch = some D) (t : Prog) :
    D.accepts t = sharpenSpec (cfg2dfta G).accepts cs sketch t :=
  (addDftaConstraints_cfg G cs sketch D h).2 t

/-- **`__cfg2dfta__` never loses a program of the grammar** (for tables of the shape
    `CFG.depth_constraint` builds: `wfCFG`, and `sigFunctional`: a symbol with given argument
    types is used at one type). -/
theorem C05_cfg2dfta_complete (G : CFG) (hwf : wfCFG G = true) (hsig : sigFunctional G = true) (t : Prog)
    (ht : gen G t G.start = true) : (cfg2dfta G).accepts t = true :=
  cfg2dfta_complete G hwf hsig t ht

/-- **`__cfg2dfta__` is exact under Hyp_C05** (`cfg2dftaExact G`: every rule of the automaton can be
    taken at every non-terminal of its type that leaves enough depth). -/
theorem C05_cfg2dfta_partial (G : CFG) (hwf : wfCFG G = true) (hsig : sigFunctional G = true)
    (hex : cfg2dftaExact G = true) (t : Prog) : (cfg2dfta G).accepts t = gen G t G.start :=
  cfg2dfta_exact G hwf hsig hex t

/-- non-vacuity: the depth-2 grammar of `+, 1` with `min_variable_depth = 0` satisfies all three
    hypotheses, and the automaton accepts `(+ 1 var0)` and `var0`, as the grammar does -/
example : wfCFG Finding.g0 = true ∧ sigFunctional Finding.g0 = true ∧ cfg2dftaExact Finding.g0 = true ∧
    gen Finding.g0 (.node Finding.sVar []) Finding.g0.start = true ∧
    (cfg2dfta Finding.g0).accepts (.node Finding.sPlus [.node Finding.sOne [], .node Finding.sVar []]) = true := by decide +kernel

/-  FULL STATEMENT (false on the code as it is, finding C05-F1):
      theorem C05_cfg2dfta (G : CFG) (hwf : wfCFG G) (t : Prog) : (cfg2dfta G).accepts t = gen G t G.start  -/

/-- **C05** for grammars on which `__cfg2dfta__` is exact: the sharpened automaton accepts a program
    iff it is in the grammar, every rule holds at every occurrence, and the root satisfies the
    sketch. -/
theorem C05_sharpen_partial (G : CFG) (hwf : wfCFG G = true) (hsig : sigFunctional G = true)
    (hex : cfg2dftaExact G = true) (cs : List (Tok Sym)) (sketch : Option (Tok Sym))
    (D : DFTA Sym (UState BaseSt)) (h : addDftaConstraints (liftBase (cfg2dfta G)) cs sketch = some D) (t : Prog) :
    D.accepts t = sharpenSpec (fun t => gen G t G.start) cs sketch t :=
  (C05_sharpen G cs sketch D h t).trans
    (sharpenSpec_congr cs sketch (C05_cfg2dfta_partial G hwf hsig hex t))

/-- without `cfg2dftaExact`, sharpening still **never removes** a program of the grammar that
    satisfies every rule and the sketch. -/
theorem C05_never_removes (G : CFG) (hwf : wfCFG G = true) (hsig : sigFunctional G = true)
    (cs : List (Tok Sym)) (sketch : Option (Tok Sym)) (D : DFTA Sym (UState BaseSt))
    (h : addDftaConstraints (liftBase (cfg2dfta G)) cs sketch = some D) (t : Prog)
    (hg : gen G t G.start = true) (hc : ∀ c ∈ cs, satConstraint c t = true)
    (hs : ∀ sk, sketch = some sk → satSketch sk t = true) : D.accepts t = true := by
  rw [C05_sharpen G cs sketch D h t]
  exact sharpenSpec_iff.mpr ⟨C05_cfg2dfta_complete G hwf hsig t hg, hc, hs⟩

/-- … and under `cfg2dftaExact` it **never adds** one. -/
theorem C05_never_adds_partial (G : CFG) (hwf : wfCFG G = true) (hsig : sigFunctional G = true)
    (hex : cfg2dftaExact G = true) (cs : List (Tok Sym)) (sketch : Option (Tok Sym))
    (D : DFTA Sym (UState BaseSt)) (h : addDftaConstraints (liftBase (cfg2dfta G)) cs sketch = some D) (t : Prog)
    (ht : D.accepts t = true) : gen G t G.start = true := by
  rw [C05_sharpen_partial G hwf hsig hex cs sketch D h t] at ht
  exact (sharpenSpec_iff.mp ht).1

/-! ### findings (witnesses on the model with the switches `fixF2 … fixF5` at their default `false`; the
  same inputs are cases of harness/c05.py corpus(), run on /repo with the switches listed under
  `model_fixes` in harness/meta/C05.json) -/

/-- **Finding C05-F1.** `__cfg2dfta__` keeps only (type, height): with `min_variable_depth = 1` the
    program `var0` is not in the grammar, but the automaton — hence every sharpened automaton, here
    with no rule at all — accepts it: sharpening ADDS a program.  The grammar is well formed and
    `cfg2dftaExact` (the hypothesis of `C05_sharpen_partial`) is false on it. -/
theorem finding_C05_F1 :
    wfCFG Finding.g = true ∧ sigFunctional Finding.g = true ∧ cfg2dftaExact Finding.g = false ∧
    gen Finding.g (.node Finding.sVar []) Finding.g.start = false ∧
    (cfg2dfta Finding.g).accepts (.node Finding.sVar []) = true ∧
    (addDftaConstraints (liftBase (cfg2dfta Finding.g)) [] none).map (fun D => D.accepts (.node Finding.sVar [])) = some true := by
  decide +kernel

/-! ### the parser (character level)
  `RTok`: a token tree as it is WRITTEN (names and numbers are character strings); `render`: its
  canonical text — one blank between the elements of a pattern, none elsewhere, sets after `#` and `>`
  in parentheses; `sem Sy`: its meaning — every name resolved to ALL the symbols of the grammar with
  that name (one name may be used at several types), complements taken in the grammar's symbols,
  `none` where the parser raises.  `renderOK` (decidable): names are plain (non-empty, none of
  ` \t\n\r(){},^>#<=`, not `_` alone), name lists are not empty, numbers are digit strings, a
  complemented head set excludes some symbol. -/

/-- **parser, exact.**  For every written rule (a function pattern of any nesting, or a single word
    `_` / `#…<=N` / `#…>=N` / `>…` / `>^…`), whatever the switches `fixF2 / fixF3 / fixF4 / fixF5` of the
    model: parsing the canonical text yields `sem Sy t`.  `sem` follows two of the switches: without
    `fixF2` an all-wildcard pattern collapses to `_` (finding C05-F2), without `fixF3` a name `varN` is
    resolved by position (finding C05-F3); the canonical text contains none of the strings of C05-F4
    and C05-F5. -/
theorem C05_parse (Sy : Syms) (t : RTok) (hok : renderOK Sy t = true) (hk : isFunc t = true ∨ isRuleWord t = true) :
    parse Sy (render t) = sem Sy t := by
  rcases hk with h | h
  · exact parse_render_func Sy t hok h
  · exact parse_render_word Sy t hok h

/-- **parser with `fixF2`** (repair 53279cd, fixes_applied/C05-F2.diff; /repo has it, the model's
    default is `false`): no pattern of the documented syntax collapses to `_`.  A name `varN` is
    still resolved as `Sy.fixF3` says, so the parse is the documented meaning when `fixF3` is on
    too. -/
theorem C05_parse_fixed (Sy : Syms) (h2 : Sy.fixF2 = true) (t : RTok) (hok : renderOK Sy t = true)
    (hk : isFunc t = true ∨ isRuleWord t = true) : parse Sy (render t) = sem (withF2 Sy) t := by
  have : withF2 Sy = Sy := by cases Sy; simp [withF2] at h2 ⊢; exact h2
  rw [this]; exact C05_parse Sy t hok hk

/-- **parser, either value of `fixF2`**: outside the decidable region of finding C05-F2
    (`noCollapse`: no pattern of the tree has only wildcard arguments) the parse is the one with the
    switch on. -/
theorem C05_parse_partial (Sy : Syms) (t : RTok) (hok : renderOK Sy t = true)
    (hk : isFunc t = true ∨ isRuleWord t = true) (hF2 : noCollapse Sy t = true) :
    parse Sy (render t) = sem (withF2 Sy) t := by
  rw [sem_withF2 Sy t hF2]; exact C05_parse Sy t hok hk

/-  FULL STATEMENT (false when `Sy.fixF2 = false`, finding C05-F2; for spacings other than `render`'s
    also when `Sy.fixF5 = false`, finding C05-F5):
      theorem C05_parse_full (Sy) (t) (hok : renderOK Sy t) : parse Sy (render t) = sem (withF2 Sy) t  -/

namespace Finding
def sy : Syms := { prims := [sPlus, Sym.prim "-" tII, sOne], vars := [sVar] }
/-- symbols of a grammar whose request is `int -> str -> int -> int` with the `str` unused -/
def sy2 : Syms := { prims := [sPlus, sOne], vars := [sVar, Sym.var 2 tInt] }
end Finding

namespace Finding
/-- `(+ 1 (- _ #(1,0)<=2))` -/
def rule : RTok := .func (.names ["+".toList]) [.set (.names ["1".toList]),
  .func (.names ["-".toList]) [.any, .cnt true ["1".toList, "0".toList] "2".toList]]
/-- `(+ (- _ _) _)` -/
def ruleW : RTok := .func (.names ["+".toList]) [.func (.names ["-".toList]) [.any, .any], .any]
end Finding

/-- non-vacuity of the three parser theorems, and the text they speak about -/
example : render Finding.rule = "(+ 1 (- _ #(1,0)<=2))".toList ∧ renderOK Finding.sy Finding.rule = true ∧
    noCollapse Finding.sy Finding.rule = true ∧ isFunc Finding.rule = true ∧
    (sem Finding.sy Finding.rule).isSome = true := by decide +kernel
/-- in the region of C05-F2 the parse (`_`) is not the documented meaning -/
example : render Finding.ruleW = "(+ (- _ _) _)".toList ∧ renderOK Finding.sy Finding.ruleW = true ∧
    noCollapse Finding.sy Finding.ruleW = false ∧ (sem Finding.sy Finding.ruleW).map isAny = some true ∧
    (sem (withF2 Finding.sy) Finding.ruleW).map isAny = some false := by decide +kernel

/-- **Finding C05-F2** (`fixF2 = false`: parsing.py before repair 53279cd, fixes_applied/C05-F2.diff;
    /repo has the repair).  A pattern all of whose arguments are `_` is parsed as `_`: the sketch
    `(+ _ _)` ("the program starts with +") and the nested pattern in `(+ (- _ _) _)` ("the first
    argument of every + is a -") are dropped without a message. -/
theorem finding_C05_F2 :
    (parse Finding.sy "(+ _ _)".toList).map isAny = some true ∧
    (parse Finding.sy "(+ (- _ _) _)".toList).map isAny = some true ∧
    (parse Finding.sy "(+ - _)".toList).map isAny = some false := by decide +kernel

/-- **Finding C05-F3** (`fixF3 = false`: parsing.py before repair 405a2a9, fixes_applied/C05-F3.diff;
    /repo has the repair).  `varN` is resolved by position among the variables the grammar uses: with
    variables 0 and 2 in use, `var1` denotes variable 2 and `var2` raises. -/
theorem finding_C05_F3 :
    (str2dp Finding.sy2 "var1".toList).map (fun l => l.map (·.idx)) = some [2] ∧
    str2dp Finding.sy2 "var2".toList = none := by decide +kernel

/-- **Finding C05-F4** (`fixF4 = false`: parsing.py before repair 808fc56, fixes_applied/C05-F4.diff;
    /repo has the repair).  A set in parentheses is not always unwrapped: `#(_)<=1` counts nothing
    (while `#_<=1` counts every symbol) and `^(1)` excludes nothing (it is parsed as `_`). -/
theorem finding_C05_F4 :
    (interpretWord Finding.sy "#(_)<=1".toList).map (fun t => match t with | .atMost S n => (S.length, n) | _ => (99, 99)) = some (0, 1) ∧
    (interpretWord Finding.sy "#_<=1".toList).map (fun t => match t with | .atMost S n => (S.length, n) | _ => (99, 99)) = some (4, 1) ∧
    (interpretWord Finding.sy "^(1)".toList).map isAny = some true ∧
    (interpretWord Finding.sy "^1".toList).map isAny = some false := by decide +kernel

/-- **Finding C05-F5** (`fixF5 = false`: parsing.py before repair e99fed5, fixes_applied/C05-F5.diff;
    /repo has the repair).  Blanks other than single separating blanks change a rule without a
    message: a leading blank makes the head set empty (`add_dfta_constraints` then skips the rule as
    "primitive not recognised"), two consecutive blanks insert an empty — unsatisfiable — argument
    pattern.  With `fixF5` the same strings are read as `(+ 1 _)`. -/
theorem finding_C05_F5 :
    (parse Finding.sy " (+ 1 _)".toList).map (fun t => match t with | .func H _ => H.length | _ => 99) = some 0 ∧
    (parse Finding.sy "(+ 1  _)".toList).map (fun t => match t with | .func H a => (H.length, a.length) | _ => (99, 99)) = some (1, 3) ∧
    (parse { Finding.sy with fixF5 := true } " (+ 1  _ )".toList).map
      (fun t => match t with | .func H [.allow S, .any] => (H.length, S.length) | _ => (99, 99)) = some (1, 1) ∧
    (parse Finding.sy "(+ 1 _)".toList).map
      (fun t => match t with | .func H [.allow S, .any] => (H.length, S.length) | _ => (99, 99)) = some (1, 1) := by decide +kernel

end PS.C05
