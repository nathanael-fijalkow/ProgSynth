/-
  C03, part cd — order of constant-delay search: "by non-increasing probability within the relative
  slack implied by the requested precision".

  The search orders programs by INTEGER costs (sums of `-int(log p / precision)`); its derivation
  queues are `CDQueue`s.  Proved here: what the queue guarantees for every arithmetic (the merge tolerance, `pop`
  takes the first CostTuple in cell order); with exact rationals and pushes inside the window of the queue, that `pop`
  returns the stored CostTuple of strictly smallest cost, so that the slack of the queue is exactly the merge tolerance
  (C03_Cd_queue_slack) and the queue is a monotone priority queue (C03_Cd_queue_sorted); on the machine, for exact
  rationals and acyclic grammars, that the claimed costs never decrease, under two Boolean hypotheses on states of the
  run (C03_Cd_sorted_partial).  With IEEE doubles the bucket index `int(cost / maxi * k)` can come out one too small and
  an element is popped with a cheaper CostTuple: finding C03-F5 (C03_Cd_misplaced_merge).  That expression is
  `mulFirst = false`, the code before repair 8568413 (fixes_applied/C03-F5.diff); /repo has `int(cost * k / maxi)`
  (`mulFirst = true`), the model's default is still `false`.
  NOT proved (compared on every case against the integer costs and exact probabilities computed by
  the harness, with the slack 16 of the repository's own order test): that the search keeps its pushes inside the
  window (false: finding C02-F5); that on the machine the window discipline makes `_cost_lists_derivation` sorted
  (the queue layer is proved for protocol runs only); the distance between the claimed cost of a program and its
  true cost (the merges accumulate along successor chains); recursive grammars; prefix completeness.
-/
import PS.Model.Enum.ConstantDelay
import PS.Proofs.Enum.CDQueue
import PS.Proofs.Enum.CDOrder
import PS.Proofs.Enum.CDSorted
import PS.Proofs.Enum.CDGOrderRun
namespace PS.C03Cd
open PS PS.CD

variable {α : Type}

/-- **merge tolerance**: a push that does not add a CostTuple appends its index tuples to ONE stored CostTuple whose
    cost is not more than 1 away as computed by the arithmetic (`abs(val.cost - element.cost) > 1` is false) and is
    kept.  This tolerance of one cost unit (= `precision` in log-probability) per merge is the only place where the
    queue gives up exactness -/
theorem C03_Cd_merge_slack (A : Arith α) (q q' : Q α) (e : CT α) (asserts : Bool) (hq : QWF q)
    (h : q.push A e asserts = some q') :
    q'.tuples.Perm (e :: q.tuples) ∨
    ∃ X Y val, q.tuples = X ++ val :: Y ∧ q'.tuples = X ++ { val with combs := val.combs ++ e.combs } :: Y ∧
      A.lt (A.ofInt 1) (A.abs (A.sub val.cost e.cost)) = false := by
  obtain ⟨_, ⟨added, h2⟩, _⟩ := qwf_push A q q' e asserts hq h
  cases added with
  | true => exact Or.inl h2
  | false => exact Or.inr h2

/-- with exact rationals: `|val.cost - e.cost| ≤ 1` -/
theorem C03_Cd_merge_slack_rat (q q' : Q Rat) (e : CT Rat) (asserts : Bool) (hq : QWF q)
    (h : q.push ratArith e asserts = some q') :
    q'.tuples.Perm (e :: q.tuples) ∨
    ∃ X Y val, q.tuples = X ++ val :: Y ∧ q'.tuples = X ++ { val with combs := val.combs ++ e.combs } :: Y ∧
      val.cost - e.cost ≤ 1 ∧ e.cost - val.cost ≤ 1 := by
  rcases C03_Cd_merge_slack ratArith q q' e asserts hq h with h1 | ⟨X, Y, val, h1, h2, h3⟩
  · exact Or.inl h1
  · exact Or.inr ⟨X, Y, val, h1, h2, ratA_close false val.cost e.cost h3⟩

example : (((Q.new ratArith 2000 4).bind (·.push ratArith ⟨100, [[0, 0]]⟩)).bind (·.push ratArith ⟨101, [[1, 0]]⟩)).map
    (fun q => q.tuples.map (fun t => (t.cost, t.combs))) = some [(100, [[0, 0], [1, 0]])] := by decide +kernel

/-- **pop returns the first CostTuple in cell order** (`Cell.tuples`: nested cells in index order) of the cell at
    `translation`, and leaves the others in place; `peek` returns the same CostTuple (C03_Cd_peek_pop) -/
theorem C03_Cd_pop_first (q q' : Q α) (p : CT α) (hq : QWF q) (h : q.pop = some (p, q')) :
    ∃ c c', q.cells[q.translation]? = some c ∧ q'.cells = q.cells.set q.translation c' ∧
      c.tuples = p :: c'.tuples := by
  obtain ⟨c, c', hget, hp, _, rfl⟩ := Q.pop_succ h
  exact ⟨c, c', hget, rfl, (popCell_spec c p c' (hq.cells c (List.mem_of_getElem? hget)) hp).2⟩

theorem C03_Cd_peek_pop (q q' : Q α) (p : CT α) (hq : QWF q) (h : q.pop = some (p, q')) : q.peek = some p :=
  (qwf_pop q q' p hq h).2.2.2.2.1

/-- the bucket index `int(cost / maxi * k)` (`mulFirst = false`) with exact rationals (non-negative relative costs); the
    form `int(cost * k / maxi)` of /repo has the same value (`lbiOf_floor`) -/
def bucket (cost maxi : Rat) (k : Nat) : Int := ratArith.trunc (ratArith.mul (ratArith.div cost maxi) (ratArith.ofNat k))

theorem bucket_eq (cost maxi : Rat) (k : Nat) (h0 : 0 ≤ cost) (hm : 0 < maxi) :
    bucket cost maxi k = (cost / maxi * (k : Rat)).floor :=
  lbiOf_floor false cost maxi k h0 hm

/-- **cell order is cost order**: the bucket index is monotone in the cost -/
theorem C03_Cd_bucket_mono (c1 c2 maxi : Rat) (k : Nat) (h0 : 0 ≤ c1) (h12 : c1 ≤ c2) (hm : 0 < maxi) :
    bucket c1 maxi k ≤ bucket c2 maxi k := by
  rw [bucket_eq c1 maxi k h0 hm, bucket_eq c2 maxi k (Rat.le_trans h0 h12) hm]
  apply Rat.floor_monotone
  apply Rat.mul_le_mul_of_nonneg_right
  · rw [Rat.div_def, Rat.div_def]
    exact Rat.mul_le_mul_of_nonneg_right h12 (Rat.le_of_lt (Rat.inv_pos.mpr hm))
  · exact_mod_cast Nat.zero_le k

theorem floor_eq_lt (x y : Rat) (h : x.floor = y.floor) : x - y < 1 := by
  have h1 := Rat.floor_le y
  have h2 := Rat.lt_floor_add_one x
  rw [h] at h2
  have : ((y.floor + 1 : Int) : Rat) = (y.floor : Rat) + 1 := by simp [Rat.intCast_add]
  rw [this] at h2
  grind

/-- **a cell is narrower than `maxi / k`**: two costs with the same bucket index differ by less than the
    bucket width (stated without division: `(c1 - c2) * k < maxi`, for both orders of `c1`, `c2`) -/
theorem C03_Cd_bucket_width (c1 c2 maxi : Rat) (k : Nat) (h1 : 0 ≤ c1) (h2 : 0 ≤ c2) (hm : 0 < maxi)
    (h : bucket c1 maxi k = bucket c2 maxi k) : (c1 - c2) * (k : Rat) < maxi ∧ (c2 - c1) * (k : Rat) < maxi := by
  have key : ∀ a b : Rat, 0 ≤ a → 0 ≤ b → bucket a maxi k = bucket b maxi k → (a - b) * (k : Rat) < maxi := by
    intro a b ha hb hab
    rw [bucket_eq a maxi k ha hm, bucket_eq b maxi k hb hm] at hab
    have := floor_eq_lt _ _ hab
    have e : a / maxi * (k : Rat) - b / maxi * (k : Rat) = ((a - b) * (k : Rat)) / maxi := by
      simp only [Rat.div_def]; grind
    rw [e] at this
    have := (Rat.div_lt_iff hm).mp this
    simpa using this
  exact ⟨key c1 c2 h1 h2 h, key c2 c1 h2 h1 h.symm⟩

example : bucket 29 50 50 = 29 ∧ bucket 4 49 49 = 4 := by decide +kernel

/-- `int(4 / 49 * 49)` with exact rationals -/
theorem C03_Cd_index_rat : ratArith.trunc (ratArith.mul (ratArith.div 4 49) (ratArith.ofNat 49)) = 4 := by
  decide +kernel

-- the same expression with IEEE doubles (Lean `Float` = C double = CPython float).  It prints 3; the build does not
-- compare what an `#eval` prints, so within Lean nothing rests on that value
#eval floatArith.trunc (floatArith.mul (floatArith.div (floatArith.ofInt 4) (floatArith.ofInt 49)) (floatArith.ofNat 49))

/-- **finding C03-F5, arithmetic-independent half**: if the arithmetic computes the index `i` for the
    element and cell `i` holds a CostTuple `val` that is not more than 1 away, the element is merged into
    `val` (it will be popped with `val`, at `val`'s cost) — whatever the true bucket of the element is.  `hmf`: the
    statement is about the expression `int(cost / maxi * k)`, the code before repair 8568413.  With exact rationals
    `int(4 / 49 * 49) = 4` (C03_Cd_index_rat); that IEEE doubles give 3, so that the element of cost 4 is merged into the
    CostTuple of cost 3, is not a theorem here: the `#eval` above prints it unchecked, and the witness case of
    harness/c03_cd.py (`maxi = 49, k = 49`) shows it on the float run of the model and on CPython when it is run against
    the code before the repair (harness/enumcd.py reads `mulFirst` off the source of `CDQueue.__push__`) -/
theorem C03_Cd_misplaced_merge (A : Arith α) (k f : Nat) (e val : CT α) (cost maxi : α) (cells : List (Cell α)) (tr i : Nat)
    (hz : A.isZero maxi = false) (hmf : A.mulFirst = false)
    (hi : ((A.trunc (A.mul (A.div cost maxi) (A.ofNat k)) + (tr : Int)) % (k : Int)).toNat = i)
    (hc : cells[i]? = some (.leaf val))
    (hclose : A.lt (A.ofInt 1) (A.abs (A.sub val.cost e.cost)) = false) :
    pushCells A k (f + 1) e cost maxi cells tr =
      some (cells.set i (.leaf { val with combs := val.combs ++ e.combs }), false) := by
  simp only [pushCells, hz, hmf, Bool.false_eq_true, if_false, hi, hc, hclose]

/-- THE ORDER CONTRACT OF THE QUEUE, from here to C03_Cd_pop_near_min: exact rationals, both forms of the bucket index
    (`ratA b`).  `QOrd q`: counters in sync, every stored CostTuple in the cell and nested sub-cell its cost maps to
    relative to `mini` / `translation`, `mini = start + maxi * n / k`.  It holds for `CDQueue(maxi, k)` with
    `maxi > 0` and after `clear()` -/
theorem C03_Cd_queue_init (b : Bool) (maxi0 : Int) (k0 : Nat) (q : Q Rat) (hm : 0 < maxi0)
    (h : Q.new (ratA b) maxi0 k0 = some q) : QOrd q ∧ QOrd q.clear :=
  ⟨qord_new b maxi0 k0 q hm h, qord_clear q (qord_new b maxi0 k0 q hm h)⟩

/-- **placement is kept by `push`** for every cost in the window `[mini, mini + maxi)` (any cost when the
    queue is fresh); `maxi` is `maxi0 * (k + 1) / k`, so a spread of `maxi0` always fits -/
theorem C03_Cd_push_placed (b asserts : Bool) (q q' : Q Rat) (e : CT Rat) (hq : QOrd q)
    (hwin : ∀ mini, q.mini = some mini → mini ≤ e.cost ∧ e.cost < mini + q.maxi)
    (h : q.push (ratA b) e asserts = some q') : QOrd q' :=
  qord_push b asserts q q' e hq hwin h

/-- **`update`** succeeds on a non-empty queue, keeps the invariant and the content, and leaves
    `translation` on a non-empty cell (so the next `pop` succeeds: C02_Cd_queue_pop_total) -/
theorem C03_Cd_update (b : Bool) (q : Q Rat) (hq : QOrd q) :
    ∃ q', q.update (ratA b) = some q' ∧ QOrd q' ∧ q'.cells = q.cells ∧ q'.nelements = q.nelements ∧
      (q.nelements ≠ 0 → ∃ c, q'.cells[q'.translation]? = some c ∧ c.tuples ≠ []) := by
  obtain ⟨q', h⟩ := qord_update_total b q hq
  exact ⟨q', h, qord_update b q q' hq h⟩

/-- **ORDER CONTRACT** (`pop` near the minimum — in fact AT the minimum): with exact rationals `pop` returns
    the stored CostTuple of strictly smallest cost; it lies in the first bucket `[mini, mini + maxi/k)`, so
    in particular within one bucket width `maxi / k` of every stored cost; nested cells (width
    `maxi / k^j` at depth `j`) are what makes the order exact inside a bucket.  The invariant is kept. -/
theorem C03_Cd_pop_near_min (q q' : Q Rat) (p : CT Rat) (hq : QOrd q) (h : q.pop = some (p, q')) :
    QOrd q' ∧ (∀ t ∈ q'.tuples, p.cost < t.cost) ∧
    ∃ mini, q.mini = some mini ∧ mini ≤ p.cost ∧ p.cost < mini + q.maxi / (q.k : Rat) :=
  qord_pop q q' p hq h

/-- non-vacuity and the whole protocol on a literal: unit 500, costs 100, 101 (merged), 150 (split into a nested
    cell), 1700 (another bucket): pops come out as 100 (with the merged tuple), 150, 1700 -/
example : (do
    let q ← Q.new (ratA true) 2000 4
    let q ← q.push (ratA true) ⟨100, [[0, 0]]⟩
    let q ← q.push (ratA true) ⟨1700, [[2, 2]]⟩
    let q ← q.push (ratA true) ⟨101, [[1, 0]]⟩
    let q ← q.push (ratA true) ⟨150, [[0, 1]]⟩
    let q ← q.update (ratA true)
    let (p1, q) ← q.pop
    let q ← q.update (ratA true)
    let (p2, q) ← q.pop
    let q ← q.update (ratA true)
    let (p3, _) ← q.pop
    pure [(p1.cost, p1.combs), (p2.cost, p2.combs), (p3.cost, p3.combs)]) =
    some [(100, [[0, 0], [1, 0]]), (150, [[0, 1]]), (1700, [[2, 2]])] := by decide +kernel

/-- tracking (`Tracked q G`): `G` lists every stored CostTuple with the pushes `(cost, index tuple)` merged into
    it; a group carries exactly the index tuples of its CostTuple and each member was pushed with a cost at most
    1 away from the cost of the CostTuple.  A fresh queue is tracked by `[]`; `push` extends the tracking by
    the pushes of the element, as a new group or inside ONE existing group -/
theorem C03_Cd_queue_slack_push (b asserts : Bool) (q q' : Q Rat) (e : CT Rat) (G : List (CT Rat × List Push))
    (hq : QWF q) (ht : Tracked q G) (h : q.push (ratA b) e asserts = some q') :
    ∃ G', Tracked q' G' ∧ (G'.flatMap (·.2)).Perm (G.flatMap (·.2) ++ ghostOf e) :=
  tracked_push b asserts q q' e G hq ht h

/-- **THE SLACK OF THE QUEUE** (exact rationals): under the placement invariant, `pop` returns the CostTuple `p`
    of strictly smallest cost together with its group `grp`: `p` carries exactly the index tuples of `grp`, each
    of them was pushed with a cost within 1 of `p.cost`, and EVERY POPPED PUSH IS CHEAPER THAN EVERY PUSH THAT
    STAYS IN THE QUEUE UP TO 2 COST UNITS (`m.1 < m'.1 + 2`; one unit = `precision` in log-probability).
    Invariant and tracking are kept, so the statement holds along every run of pushes (inside the window),
    updates and pops. -/
theorem C03_Cd_queue_slack (q q' : Q Rat) (p : CT Rat) (G : List (CT Rat × List Push)) (hq : QOrd q)
    (ht : Tracked q G) (h : q.pop = some (p, q')) :
    ∃ grp G', G.Perm ((p, grp) :: G') ∧ Tracked q' G' ∧ QOrd q' ∧ p.combs = grp.map (·.2) ∧
      (∀ m ∈ grp, m.1 - p.cost ≤ 1 ∧ p.cost - m.1 ≤ 1) ∧
      ∀ m ∈ grp, ∀ pr' ∈ G', ∀ m' ∈ pr'.2, m.1 < m'.1 + 2 :=
  tracked_pop q q' p G hq ht h

example (q : Q Rat) (h : q.tuples = []) : Tracked q [] := tracked_empty q h

/-- **THE POPPED COSTS ARE NON-DECREASING**, the queue is a monotone priority queue (exact rationals): run any script of
    `push` / `update` / `pop` on a queue satisfying the placement invariant such that every pushed cost is at least the
    cost of the last popped CostTuple (initially any lower bound `lo` of the content) and lies inside the window of the
    queue at that moment (`Monotone`, decidable on a script: `monotoneB`) — this is how `query_derivation` uses the queue
    when the cost lists of the argument non-terminals are non-decreasing: it pops `ct`, pushes successors of cost
    `ct.cost - cl[i] + cl[i+1] ≥ ct.cost`, updates.  Then the sequence of popped costs is non-decreasing, i.e. the
    derivation cost list `_cost_lists_derivation[args]` it produces is sorted; the invariant is kept. -/
theorem C03_Cd_queue_sorted (b : Bool) (ops : List QOp) (q q' : Q Rat) (lo : Rat) (out : List (CT Rat))
    (h : runOps b ops q [] = some (q', out)) (hq : QOrd q) (hl : LowerBound q lo) (hm : Monotone b ops q lo) :
    QOrd q' ∧ (out.map (·.cost)).Pairwise (· ≤ ·) :=
  runOps_sorted b ops q [] lo q' out h hq hl hm (by simp) (by simp)

theorem C03_Cd_monotone_check (b : Bool) (ops : List QOp) (q : Q Rat) (lo : Rat) (h : monotoneB b ops q lo = true) :
    Monotone b ops q lo := monotoneB_sound b ops q lo h

/-- **the machine respects the discipline**: when the cost lists `_cost_lists_nt` of the argument non-terminals are
    non-decreasing, every successor the model's `succLoop` pushes costs `ct.cost - cl[i] + cl[i+1] ≥ ct.cost`: every
    lower bound `lo ≤ ct.cost` of the derivation queue of `args` is kept (exact rationals, with or without assert) -/
theorem C03_Cd_successors_cost (b asserts : Bool) (args : List NT) (c lo : Rat) (comb : List Nat) (hlo : lo ≤ c)
    (s s' : St Rat) (h : succLoop (ratA b) asserts args c comb comb.length 0 s = some s')
    (hsorted : ∀ a cl, AList.lookup a s.costNt = some cl → cl.Pairwise (· ≤ ·))
    (q : Q Rat) (hq : AList.lookup args s.queueDer = some q) (hwf : QWF q) (hl : LowerBound q lo) :
    ∃ q', AList.lookup args s'.queueDer = some q' ∧ QWF q' ∧ LowerBound q' lo :=
  succLoop_lowerBound b asserts args c lo comb hlo _ _ s s' h hsorted q hq hwf hl

/-- a script in the style of `query_derivation`: pop, push successors, update -/
def opsEx : List QOp :=
  [.push ⟨100, [[0, 0]]⟩, .update, .pop, .push ⟨101, [[1, 0]]⟩, .push ⟨1700, [[0, 1]]⟩, .update, .pop,
   .push ⟨102, [[2, 0]]⟩, .push ⟨1701, [[1, 1]]⟩, .update, .pop, .update, .pop]

example : ((Q.new (ratA true) 2000 4).bind fun q => (runOps true opsEx q []).map fun r => r.2.map (·.cost)) =
      some [100, 101, 102, 1700] ∧
    ((Q.new (ratA true) 2000 4).map fun q => monotoneB true opsEx q 0) = some true := by
  constructor <;> decide +kernel

/-- the cost lists `_cost_lists_derivation[args]` only grow by appending (`CMono`), in every function of the query block
    and for every arithmetic, so a property of the final lists holds for all earlier ones -/
theorem C03_Cd_cost_lists_grow {α : Type} (E : Env α) (f : Nat) : COk E f := cok_all E f

/-- **the heap layer of the order argument on the machine** (exact rationals, acyclic grammar with rank function
    `rank`).  `OInv E s L` (PS/Proofs/Enum/CDGOrderInv.lean): every heap `_queue_nt[S]` satisfies the heap invariant of
    `heapq` for `Derivation.__lt__`, each of its elements costs at least every entry of `_cost_lists_nt[S]` and, for a
    rule with arguments, exactly `w + _cost_lists_derivation[args][comb]`; every list `_cost_lists_nt[S]` is
    non-decreasing; the popped elements `L` of suspended frames satisfy the same.  Every function of the query block
    keeps it, provided the non-terminals it works on rank below those of the suspended frames (what acyclicity gives
    along a run) and the lists `_cost_lists_derivation[args]` of the state it reaches are non-decreasing. -/
theorem C03_Cd_order_machine (E : Env Rat) (b : Bool) (hA : E.A = ratA b) (rank : NT → Nat) (hAcy : Acy E rank) (f : Nat) :
    OOk E rank f := ook_all E b hA rank hAcy f

/-- a yielded program is stored under the current cost index of `generator()`, which never decreases; the tables only
    grow (the derivation cost lists from the second call on: the prologue rewrites them).  `YG`: the frame `generator()`
    is suspended in is that of its own call `query(start, n)`. -/
theorem C03_Cd_yield_index {α : Type} (E : Env α) (fuel : Nat) (g g' : Gen α) (out : Option Prog)
    (h : next E fuel g = some (g', out)) (hY : YG E g) :
    YG E g' ∧ g'.phase ≠ .fresh ∧ BMono g.st g'.st ∧ (g.phase ≠ .fresh → CMono g.st g'.st) ∧
    (∀ p, out = some p → pidx g ≤ pidx g' ∧ InBankAt g'.st E.G.start (pidx g') p) := next_tables E fuel g g' out h hY

/-- **THE CLAIMED COSTS NEVER DECREASE** (partial: acyclic grammars, exact rationals, two Boolean hypotheses on states
    of the run).  From a new enumerator, `k` calls of `next`, at least one made (`hk`: the final phase is not `fresh`):
    if the state the prologue produced satisfies the order invariant (`oinvB`) and the cost lists
    `_cost_lists_derivation[args]` of the final state are non-decreasing (`derSortedB`: what C03_Cd_queue_sorted and
    C03_Cd_successors_cost guarantee as long as every push stays inside the window of its queue, i.e. outside finding
    C02-F5), then in the final state every cost list `_cost_lists_nt[S]` is non-decreasing, and the yielded programs
    `ys` are in non-decreasing order of claimed cost: for `p` yielded before `q` there are cost indices `ci ≤ cj` with
    `p ∈ _bank_nt[start][ci]`, `q ∈ _bank_nt[start][cj]` and `_cost_lists_nt[start][ci] ≤ _cost_lists_nt[start][cj]`. -/
theorem C03_Cd_sorted_partial (E : Env Rat) (b : Bool) (hA : E.A = ratA b) (rank : NT → Nat) (hacy : acyB E.G rank = true)
    (fuel k : Nat) (g g' : Gen Rat) (ys : List Prog) (fin : Bool) (hnew : Gen.new E = some g)
    (hstart : (prologue E fuel g.st).all (oinvB E) = true)
    (h : take E fuel k g [] = some (g', ys, fin)) (hfin : derSortedB g'.st = true) (hk : g'.phase ≠ .fresh) :
    (∀ S cl, AList.lookup S g'.st.costNt = some cl → cl.Pairwise (· ≤ ·)) ∧
    (∀ cl, AList.lookup E.G.start g'.st.costNt = some cl →
      ys.Pairwise fun p q => ∃ ci cj, InBankAt g'.st E.G.start ci p ∧ InBankAt g'.st E.G.start cj q ∧ ci ≤ cj ∧
        ∀ a c, cl[ci]? = some a → cl[cj]? = some c → a ≤ c) := by
  have hst : ∀ s, prologue E fuel g.st = some s → OInv E s [] := fun s hs =>
    oinvB_sound E s (by rw [hs] at hstart; simpa using hstart)
  obtain ⟨hgo, hP⟩ := take_new_order E b hA rank (acyB_sound E rank hacy) hnew hst h (derSortedB_sound _ hfin)
  have hs := (hgo.2 hk).sorted
  refine ⟨hs, fun cl hcl => hP.imp ?_⟩
  rintro p q ⟨ci, cj, h1, h2, h3⟩
  exact ⟨ci, cj, h2, h3, h1, fun a c ha hc => (pairwise_getElem?_le (hs _ cl hcl) ha hc h1).elim (· ▸ Rat.le_refl) id⟩

/-- non-vacuity: S → f(A, A) (3) | a (1) | g(A) (2), A → x (1) | y (3) | h(B) (2), B → c (0) | d (2) (acyclic with
    rank 2, 1, 0): the post-prologue state satisfies `oinvB`, the generator stops after the 21 programs of the language,
    the final derivation cost lists are sorted, and the final cost list of the start symbol is
    [1, 3, 4, 5, 6, 7, 8, 9, 10, 11] -/
def gAcy : Gram :=
  { start := 0,
    rules := [(0, [(0, ([1, 1], 3)), (1, ([], 1)), (2, ([1], 2))]), (1, [(3, ([], 1)), (4, ([], 3)), (5, ([2], 2))]),
              (2, [(6, ([], 0)), (7, ([], 2))])],
    ty := [(0, 0), (1, 0), (2, 0)] }
def envAcy : Env Rat := { A := ratArith, G := gAcy, k := 1, filter := fun _ => true }

example : envAcy.A = ratA false := rfl

example : ((Gen.new envAcy).map fun g => acyB gAcy (fun S => 2 - S) && (prologue envAcy 1000 g.st).all (oinvB envAcy) &&
    ((take envAcy 1000 40 g []).map fun r => derSortedB r.1.st && r.2.1.length == 21 && r.2.2 &&
      (AList.lookup 0 r.1.st.costNt == some [1, 3, 4, 5, 6, 7, 8, 9, 10, 11])).getD false) = some true := by decide +kernel

end PS.C03Cd
