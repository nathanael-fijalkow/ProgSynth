/-
  C02, part beap — beap search (beap_search.py) yields every program of a finite grammar exactly
  once, nothing outside the grammar, and stops.

  FULL STATEMENT (not proved as a whole):
    Acyclic G → costs defined → ∃ k, after k calls of `next` the generator has stopped and its output
    is a permutation of the language of G.
  Proved, for every filter and fuel:
  NOTHING OUTSIDE (C02_Beap_sound, after every history of `next` / `merge_program` calls, `Reach`), for every
  grammar with distinct dict keys (`RowsNodup`) and every cost table.
  The other three also assume `StableAfter` (the prologue ends in a fixpoint of `_reevaluate_`: proved for grammars
  flagged recursive and for acyclic ones, C03 part file), `Productive` (every non-terminal derives a program) and
  `PosW` (positive rule costs), and speak of runs from the fresh generator:
  EACH PROGRAM AT MOST ONCE (C02_Beap_nodup: every prefix of every run; it rests on the frontier rule of the
  successor loop, "increment position i until the first position whose new index is > 1", C02_Beap_frontier_*);
  EVERY PROGRAM (C02_Beap_complete; C02_Beap_full: without a filter the output of a stopped generator is a
  permutation of the language);
  TERMINATION relative to "the model run returns" (C02_Beap_terminates_partial; C02_Beap_fuel_mono, which needs none
  of these hypotheses; their sum C02_Beap_total_partial).
  Not proved: that a sufficient fuel exists (termination of one `next` call; no exception).  That is compared on
  every generated case (exact correspondence of yielded sequence and tables, independent language oracle).
  COST SOUNDNESS ("stored under its true cost index") is in the C03 part file (C03_Beap_bank_cost).
-/
import PS.Proofs.Enum.BeapSound
import PS.Proofs.Enum.BeapFrontier
import PS.Proofs.Enum.BeapNodupRun
import PS.Proofs.Enum.BeapComplFinal
import PS.Proofs.Enum.BeapFuel
namespace PS.C02Beap
open PS PS.G PS.Beap

section
variable {S : Type} [DecidableEq S]

/-- the generator objects reachable from the fresh one by any history of `next(generator)` and
    `merge_program(representative, other)` calls -/
inductive Reach (E : Env S) (fuel : Nat) : Gen S → Prop
  | new : Reach E fuel (Gen.new E.G)
  | next {g : Gen S} {r : Gen S × Option Prog} : Reach E fuel g → Beap.next E fuel g = some r → Reach E fuel r.1
  | merge {g : Gen S} (other : Prog) (ok : NT S Unit → Bool) : Reach E fuel g → Reach E fuel (Beap.merge g other ok)

theorem take_reach (E : Env S) (fuel : Nat) (k : Nat) (g : Gen S) (acc : List Prog) (r : Gen S × List Prog × Bool)
    (hg : Reach E fuel g) (h : take E fuel k g acc = some r) : Reach E fuel r.1 :=
  take_induct E fuel (I := fun g _ => Reach E fuel g) (Q := fun g _ _ => Reach E fuel g) (fun _ _ hi => hi)
    (fun _ _ _ hi hn => Reach.next hi hn) (fun _ _ _ _ hi hn => Reach.next hi hn) k g acc r hg h

/-- SOUNDNESS as a state invariant, for every history: the two tables (C02_Beap_bank_sound, C02_Beap_queue_sound), and
    every tuple the suspended `query(start, n)` still has to turn into a program builds one derivable from the start
    symbol (spec `G.gen`) -/
theorem C02_Beap_inv (E : Env S) (hnd : RowsNodup E.G) (fuel : Nat) (g : Gen S) (h : Reach E fuel g) : GInv E g := by
  induction h with
  | new => exact ginv_new E
  | next _ hn ih => exact (next_sound E hnd fuel _ _ ih hn).1
  | merge other ok _ ih => exact merge_sound E _ other ok ih

/-- NOTHING OUTSIDE THE LANGUAGE: whatever `next` yields, after any history, is derivable from the start symbol -/
theorem C02_Beap_sound (E : Env S) (hnd : RowsNodup E.G) (fuel : Nat) (g g' : Gen S) (p : Prog)
    (hr : Reach E fuel g) (h : Beap.next E fuel g = some (g', some p)) : gen E.G p E.G.start = true :=
  ((next_sound E hnd fuel g _ (C02_Beap_inv E hnd fuel g hr) h).2 p rfl).1

/-- every program stored in `_bank[S][i]` is derivable from `S` -/
theorem C02_Beap_bank_sound (E : Env S) (hnd : RowsNodup E.G) (fuel : Nat) (g : Gen S) (hr : Reach E fuel g)
    (nt : NT S Unit) (ci : Nat) (p : Prog) (hp : p ∈ g.st.bankAt nt ci) : gen E.G p nt = true :=
  (C02_Beap_inv E hnd fuel g hr).1.bank nt ci p hp

/-- every element of `_queues[S]` is a rule of `S` together with one cost index per argument -/
theorem C02_Beap_queue_sound (E : Env S) (hnd : RowsNodup E.G) (fuel : Nat) (g : Gen S) (hr : Reach E fuel g)
    (nt : NT S Unit) (el : HeapEl) (he : el ∈ g.st.queueOf nt) :
    ∃ rl, E.G.rule? nt el.P = some rl ∧ el.comb.length = rl.1.length :=
  (C02_Beap_inv E hnd fuel g hr).1.queue nt el he

/-- the sequence produced by `k` calls of `next` on the fresh generator consists of members -/
theorem C02_Beap_take_sound (E : Env S) (hnd : RowsNodup E.G) (fuel k : Nat) (g : Gen S) (ys : List Prog) (fin : Bool)
    (h : take E fuel k (Gen.new E.G) [] = some (g, ys, fin)) : ∀ p ∈ ys, gen E.G p E.G.start = true :=
  fun p hp => ((take_sound E hnd fuel k _ _ _ (ginv_new E) (fun _ h => by cases h) h).2 p hp).1

/-- `_query_list_(S, i)` keeps the invariant and returns programs derivable from `S` -/
theorem C02_Beap_query_sound (E : Env S) (fuel : Nat) (s s' : St S) (nt : NT S Unit) (ci : Nat) (empty : Bool)
    (ps : List Prog) (hs : SInv E s) (h : queryList E fuel s nt ci = some (s', empty, ps)) :
    SInv E s' ∧ ∀ p ∈ ps, gen E.G p nt = true :=
  (sound_all E fuel).ql h hs

/-- the heapq port keeps the multiset of the array -/
theorem C02_Beap_heapify_perm {α : Type} (lt : α → α → Bool) (h : List α) : (heapify lt h).Perm h := heapify_perm lt h
theorem C02_Beap_heappush_mem {α : Type} (lt : α → α → Bool) (h : List α) (x y : α) :
    y ∈ Heapq.push lt h x ↔ y = x ∨ y ∈ h := mem_push lt h x y
theorem C02_Beap_heappop_mem {α : Type} (lt : α → α → Bool) (h h' : List α) (x y : α)
    (hp : Heapq.pop lt h = some (x, h')) : y ∈ h ↔ y = x ∨ y ∈ h' := mem_of_pop lt h x h' hp y
end

/-! ### the frontier rule (no duplicates): every combination has exactly one producer -/

/-- **frontier rule**: `t` is pushed from the combination `c` (cost lists of lengths `lens`) iff `t = c + e_i`
    for a position `i` all of whose predecessors are 0 in `c` — i.e. `i` is the first non-zero coordinate
    of `t` — and the new index `t[i]` is inside the cost list of argument `i` -/
theorem C02_Beap_frontier_iff (c t lens : List Nat) :
    t ∈ succCombs c 0 lens ↔
      ∃ i, i < lens.length ∧ (∀ j, j < i → c.getD j 0 = 0) ∧ t = c.set i (c.getD i 0 + 1) ∧ c.getD i 0 + 1 < lens.getD i 0 := by
  rw [mem_succCombs]
  constructor
  · rintro ⟨i, _, h2, h3, h4, h5⟩
    exact ⟨i, by omega, fun j hj => h3 j (Nat.zero_le _) hj, h4, by simpa using h5⟩
  · rintro ⟨i, h2, h3, h4, h5⟩
    exact ⟨i, Nat.zero_le _, by omega, fun j _ hj => h3 j hj, h4, by simpa using h5⟩

/-- **a combination is pushed from at most one combination** (the bijection lemma: the producer of `t` is
    `t` with its first non-zero coordinate decremented) -/
theorem C02_Beap_frontier_unique_producer (c c' t lens : List Nat) (hc : c.length = lens.length) (hc' : c'.length = lens.length)
    (h : t ∈ succCombs c 0 lens) (h' : t ∈ succCombs c' 0 lens) : c = c' :=
  succCombs_producer_unique c c' t lens hc hc' h h'

/-- **every non-zero combination inside the box of the cost lists is pushed** from a combination inside the
    box whose coordinate sum is smaller by one (so, by induction on the sum, from `0ᵏ` every combination of
    the box is reached) -/
theorem C02_Beap_frontier_producer_exists (t lens : List Nat) (ht : t.length = lens.length)
    (hbox : ∀ j, j < t.length → t.getD j 0 < lens.getD j 0) (i : Nat) (hi : i < t.length)
    (hfirst : ∀ j, j < i → t.getD j 0 = 0) (hnz : 0 < t.getD i 0) :
    t ∈ succCombs (t.set i (t.getD i 0 - 1)) 0 lens ∧
      (∀ j, j < t.length → (t.set i (t.getD i 0 - 1)).getD j 0 < lens.getD j 0) ∧
      (t.set i (t.getD i 0 - 1)).getD i 0 + 1 = t.getD i 0 :=
  succCombs_producer_exists t lens ht hbox i hi hfirst hnz

/-- the combinations pushed from one combination are pairwise distinct -/
theorem C02_Beap_frontier_nodup (c lens : List Nat) (h : lens.length ≤ c.length) : (succCombs c 0 lens).Nodup :=
  succCombs_nodup c lens 0 (by omega)

/-- **the model's successor loop is the frontier rule**: after "Generate next combinations"
    (beap_search.py:177-193) the queue of `S` is, as a multiset, the queue before plus one element of rule `P`
    for each combination of `succCombs`, and no other queue changes -/
theorem C02_Beap_frontier_model {S : Type} [DecidableEq S] (nt : NT S Unit) (cost : Cost) (P : Sym) (comb : List Nat)
    (sargs : List (NT S Unit)) (s : St S) :
    ∃ pushed : List HeapEl,
      ((succLoop nt cost P comb s 0 sargs).queueOf nt).Perm (pushed ++ s.queueOf nt) ∧
      pushed.map (·.comb) = succCombs comb 0 (sargs.map fun a => (s.clOf a).length) ∧
      (∀ el ∈ pushed, el.P = P) ∧
      ∀ nt', nt' ≠ nt → (succLoop nt cost P comb s 0 sargs).queueOf nt' = s.queueOf nt' :=
  ⟨succEls cost P comb s 0 sargs, (succLoop_perm nt cost P comb sargs s 0).1, succEls_comb cost P comb s sargs 0,
    succEls_P cost P comb s sargs 0, (succLoop_perm nt cost P comb sargs s 0).2⟩

/-- non-vacuity: from `[0, 1, 0]` with cost lists of lengths 3, 3, 3 the loop pushes `[1,1,0]` and `[0,2,0]`
    (and stops: position 1 now has index 2 > 1); `[0,1,0]` is also what the unique-producer rule gives for `[0,2,0]` (first non-zero coordinate decremented) -/
example : succCombs [0, 1, 0] 0 [3, 3, 3] = [[1, 1, 0], [0, 2, 0]] := by decide
example : succCombs [0, 0, 0] 0 [3, 1, 3] = [[1, 0, 0], [0, 0, 1]] := by decide

/-! ### non-vacuity: the grammar of seeded/C03-2/demo.py
    `X -> p(Y) | m(X, Z) | a`, `Y -> q(Z) | b`, `Z -> r(X) | c`; the cheapest programs of `Y` and `Z`
    go through the recursive rules -/
def sy (k : Nat) : Sym := Sym.prim (toString k) Ty.unknown
def ntX : NT Nat Unit := (Ty.base "int", (0, ()))
def ntY : NT Nat Unit := (Ty.base "int", (1, ()))
def ntZ : NT Nat Unit := (Ty.base "int", (2, ()))
/-- symbols: p=0 m=1 a=2 q=3 b=4 r=5 c=6 -/
def demoG : TT Nat Unit :=
  { start := ntX,
    rules := [
      (ntX, [(sy 0, ([(Ty.base "int", 1)], ())), (sy 1, ([(Ty.base "int", 0), (Ty.base "int", 2)], ())), (sy 2, ([], ()))]),
      (ntY, [(sy 3, ([(Ty.base "int", 2)], ())), (sy 4, ([], ()))]),
      (ntZ, [(sy 5, ([(Ty.base "int", 0)], ())), (sy 6, ([], ()))])] }
def demoW : AList (NT Nat Unit) (AList Sym Rat) := [
      (ntX, [(sy 0, 2), (sy 1, 5), (sy 2, 1)]),
      (ntY, [(sy 3, 1), (sy 4, 6)]),
      (ntZ, [(sy 5, 1), (sy 6, 4)])]
def demoE : Env Nat := { G := demoG, W := demoW, filter := fun _ => true, recursive := true }

theorem demo_rowsNodup : RowsNodup demoG := rowsNodup_of_check demoG (by decide +kernel)

/-- the first three programs: `a` (cost 1), `p(q(r(a)))` (cost 5), `p(q(c))` (cost 7) — evaluated by the kernel -/
example : (take demoE 100 3 (Gen.new demoG) []).map (fun r => r.2.1) =
    some [.node (sy 2) [], .node (sy 0) [.node (sy 3) [.node (sy 5) [.node (sy 2) []]]],
          .node (sy 0) [.node (sy 3) [.node (sy 6) []]]] := by decide +kernel

/-- non-vacuity of C02_Beap_sound: a reachable generator and a yielded program -/
example : ∃ g p, Reach demoE 100 g ∧ ∃ g', Beap.next demoE 100 g = some (g', some p) :=
  ⟨Gen.new demoG, .node (sy 2) [], Reach.new, by
    have : (Beap.next demoE 100 (Gen.new demoG)).map (fun r => r.2) = some (some (.node (sy 2) [])) := by decide +kernel
    obtain ⟨⟨g', _⟩, h, rfl⟩ := Option.map_eq_some_iff.mp this
    exact ⟨g', h⟩⟩

theorem demo_productive : Productive demoE :=
  productive_of_check demoE [(ntX, .node (sy 2) []), (ntY, .node (sy 4) []), (ntZ, .node (sy 6) [])] (by decide +kernel)

theorem demo_posW : PosW demoE := posW_of_check demoE (by decide +kernel)


/-- **NO DUPLICATES**: the sequence of programs produced by `take k` from the fresh generator has no repetition —
    for every fuel and every k (every prefix of the run, finite or recursive grammar), every filter.
    Hypotheses: distinct dict keys, `StableAfter` (proved for grammars flagged recursive and for acyclic grammars,
    C03_Beap_stable_of_recursive / C03_Beap_stable_of_acyclic), every non-terminal derives a program, every rule cost
    is positive.  Idea: a ghost table of the popped (rule, combination) pairs; the pairs in a queue and the popped
    ones are pairwise distinct (frontier rule: unique producer), so every bank entry is duplicate-free (programs of
    different pairs differ by their head or by the cost of an argument), and programs yielded at different cost
    indices have different costs -/
theorem C02_Beap_nodup {S : Type} [DecidableEq S] (E : Env S) (hnd : RowsNodup E.G) (hst : StableAfter E) (hprod : Productive E)
    (hpos : PosW E) (fuel k : Nat) (g : Gen S) (ys : List Prog) (fin : Bool)
    (h : take E fuel k (Gen.new E.G) [] = some (g, ys, fin)) : ys.Nodup :=
  take_nodup E hnd hst hprod hpos fuel k (Gen.new E.G) [] [] _ (gc_new E) (go_new E) (gn_new E)
    (fun _ => ⟨fresh_empty E, rfl⟩) All2.nil List.nodup_nil h

/-- non-vacuity of C02_Beap_nodup: all its hypotheses hold on the (recursive) demo grammar -/
theorem C02_Beap_nodup_demo (fuel k : Nat) (g : Gen Nat) (ys : List Prog) (fin : Bool)
    (h : take demoE fuel k (Gen.new demoG) [] = some (g, ys, fin)) : ys.Nodup :=
  C02_Beap_nodup demoE demo_rowsNodup (stableAfter_of_rec demoE rfl) demo_productive demo_posW fuel k g ys fin h

/-- **COMPLETENESS at the end (positive rule costs)**: when the generator has stopped (`next` raised StopIteration:
    `take` returns the flag `true`), EVERY program of the start symbol all of whose sub-programs are accepted by
    the filter (`clean`; every priced derivation when no filter is installed) has been yielded.  The early-stop
    branch of `generator()` (`failed and not _failed_by_empties`, beap_search.py:132) is never taken on a
    generator on which no program was merged: the generator only stops when `_cost_lists[start]` is exhausted
    and `_queues[start]` is empty. -/
theorem C02_Beap_complete {S : Type} [DecidableEq S] (E : Env S) (hnd : RowsNodup E.G) (hst : StableAfter E) (hprod : Productive E)
    (hpos : PosW E) (fuel k : Nat) (g : Gen S) (ys : List Prog)
    (h : take E fuel k (Gen.new E.G) [] = some (g, ys, true))
    (q : Prog) (x : Rat) (hcl : clean E.filter q = true) (hx : costOf E q E.G.start = some x) : q ∈ ys :=
  complete_at_stop E hnd hst hprod hpos fuel k (g, ys, true) h rfl q x hcl hx

/-- **the output of a generator that has stopped is a permutation of the language** (no filter): no duplicates
    (C02_Beap_nodup), only priced derivations of the start symbol, all of them (C02_Beap_complete) -/
theorem C02_Beap_full {S : Type} [DecidableEq S] (E : Env S) (hf : ∀ t, E.filter t = true) (hnd : RowsNodup E.G) (hst : StableAfter E)
    (hprod : Productive E) (hpos : PosW E) (fuel k : Nat) (g : Gen S) (ys : List Prog)
    (h : take E fuel k (Gen.new E.G) [] = some (g, ys, true))
    (lang : List Prog) (hl : lang.Nodup) (hmem : ∀ q, q ∈ lang ↔ ∃ x, costOf E q E.G.start = some x) : ys.Perm lang := by
  refine (List.perm_ext_iff_of_nodup (C02_Beap_nodup E hnd hst hprod hpos fuel k g ys true h) hl).mpr (fun q => ⟨fun hq => ?_, fun hq => ?_⟩)
  · exact (hmem q).mpr (yields_priced E hnd hst hprod hpos fuel k _ h q hq)
  · obtain ⟨x, hx⟩ := (hmem q).mp hq
    exact C02_Beap_complete E hnd hst hprod hpos fuel k g ys h q x (clean_accept_all E.filter hf q) hx

/-- **TERMINATION on a finite language, partial form**: if the priced derivations of the start symbol all lie in a
    list `lang`, then `|lang| + 1` calls of `next` reach the end of the generator — whenever the model run returns
    at all.  Explicit hypothesis (decidable per case, checked by the harness on every generated case: the driver
    run returns and reports `finished`): `take E fuel (|lang|+1) … = some …`, i.e. the fuel suffices and no
    statement of beap_search.py raises.  NOT proved: that such a fuel exists (no unbounded sequence of empty cost
    levels inside one `next`). -/
theorem C02_Beap_terminates_partial {S : Type} [DecidableEq S] (E : Env S) (hnd : RowsNodup E.G) (hst : StableAfter E)
    (hprod : Productive E) (hpos : PosW E) (lang : List Prog)
    (hmem : ∀ q x, costOf E q E.G.start = some x → q ∈ lang)
    (fuel : Nat) (g : Gen S) (ys : List Prog) (fin : Bool)
    (h : take E fuel (lang.length + 1) (Gen.new E.G) [] = some (g, ys, fin)) : fin = true := by
  have hsub : ∀ q ∈ ys, q ∈ lang := fun q hq => by
    obtain ⟨x, hx⟩ := yields_priced E hnd hst hprod hpos fuel _ _ h q hq
    exact hmem q x hx
  have hnd' := C02_Beap_nodup E hnd hst hprod hpos fuel _ g ys fin h
  rw [take_eq] at h
  exact Iter.take_fin_of_finite lang h hnd' hsub (by simp)

/-! non-vacuity on a finite grammar (`is_recursive()` false, no re-evaluation): `X -> a | m(Y,Y)`, `Y -> a | b`
    (symbols here: a=0 m=1 b=2) -/
def tX : NT Nat Unit := (Ty.base "int", (0, ()))
def tY : NT Nat Unit := (Ty.base "int", (1, ()))
def tinyG : TT Nat Unit :=
  { start := tX,
    rules := [ (tX, [(sy 0, ([], ())), (sy 1, ([(Ty.base "int", 1), (Ty.base "int", 1)], ()))]),
               (tY, [(sy 0, ([], ())), (sy 2, ([], ()))]) ] }
def tinyE : Env Nat :=
  { G := tinyG, W := [ (tX, [(sy 0, 1), (sy 1, 1)]), (tY, [(sy 0, 1), (sy 2, 2)]) ],
    filter := fun _ => true, recursive := false }
def tinyRank (nt : NT Nat Unit) : Nat := if nt = tX then 1 else 0

theorem tiny_rowsNodup : RowsNodup tinyG := rowsNodup_of_check tinyG (by decide +kernel)

theorem tiny_ranked : Ranked tinyE tinyRank := ranked_of_check tinyE tinyRank (by decide)

theorem tiny_productive : Productive tinyE :=
  productive_of_check tinyE [(tX, .node (sy 0) []), (tY, .node (sy 0) [])] (by decide +kernel)

theorem tiny_posW : PosW tinyE := posW_of_check tinyE (by decide +kernel)
theorem tiny_stable : StableAfter tinyE := stableAfter_of_ranked tinyRank tinyE tiny_rowsNodup tiny_ranked

/-- the run on the finite grammar: five programs (costs 1, 3, 4, 4, 5), then the generator stops -/
theorem tiny_run : (take tinyE 100 10 (Gen.new tinyG) []).map (fun r => (r.2.1, r.2.2)) =
    some ([.node (sy 0) [], .node (sy 1) [.node (sy 0) [], .node (sy 0) []], .node (sy 1) [.node (sy 0) [], .node (sy 2) []],
           .node (sy 1) [.node (sy 2) [], .node (sy 0) []], .node (sy 1) [.node (sy 2) [], .node (sy 2) []]], true) := by
  decide +kernel

theorem tiny_stops : ∃ g ys, take tinyE 100 10 (Gen.new tinyG) [] = some (g, ys, true) := by
  obtain ⟨⟨g, ys, fin⟩, hp, hv⟩ := Option.map_eq_some_iff.mp tiny_run
  obtain rfl : fin = true := (Prod.mk.inj hv).2
  exact ⟨g, ys, hp⟩

/-- non-vacuity of C02_Beap_complete / C02_Beap_full: the hypotheses hold on the finite grammar, the generator does
    stop (tiny_run), and e.g. `m(b, b)` (cost 5) is a priced derivation — so it is in the output -/
example : ∃ g ys, take tinyE 100 10 (Gen.new tinyG) [] = some (g, ys, true) ∧
    Tree.node (sy 1) [.node (sy 2) [], .node (sy 2) []] ∈ ys := by
  obtain ⟨g, ys, hp⟩ := tiny_stops
  exact ⟨g, ys, hp, C02_Beap_complete tinyE tiny_rowsNodup tiny_stable tiny_productive tiny_posW 100 10 g ys hp _ 5
    (clean_accept_all _ (fun _ => rfl) _) (by decide +kernel)⟩

/-- non-vacuity of C02_Beap_full: on the finite grammar the generator stops and its output is a permutation of any
    duplicate-free enumeration of the priced derivations of the start symbol -/
example (lang : List Prog) (hl : lang.Nodup) (hmem : ∀ q, q ∈ lang ↔ ∃ x, costOf tinyE q tinyG.start = some x) :
    ∃ g ys, take tinyE 100 10 (Gen.new tinyG) [] = some (g, ys, true) ∧ ys.Perm lang := by
  obtain ⟨g, ys, hp⟩ := tiny_stops
  exact ⟨g, ys, hp, C02_Beap_full tinyE (fun _ => rfl) tiny_rowsNodup tiny_stable tiny_productive tiny_posW 100 10 g ys hp lang hl hmem⟩

/-- C02_Beap_terminates_partial on the finite grammar, for every fuel for which the run returns -/
example (lang : List Prog) (hmem : ∀ q x, costOf tinyE q tinyG.start = some x → q ∈ lang) (fuel : Nat) (g : Gen Nat) (ys : List Prog)
    (fin : Bool) (h : take tinyE fuel (lang.length + 1) (Gen.new tinyG) [] = some (g, ys, fin)) : fin = true :=
  C02_Beap_terminates_partial tinyE tiny_rowsNodup tiny_stable tiny_productive tiny_posW lang hmem fuel g ys fin h

/-- non-vacuity of C02_Beap_terminates_partial: with the five-element language list, six calls of `next` reach
    the end (and the hypothesis "the run returns" holds for fuel 100) -/
example : (take tinyE 100 6 (Gen.new tinyG) []).map (fun r => r.2.2) = some true := by decide +kernel

/-! ### the fuel is a proof artifact -/

/-- **the result of a run does not depend on the fuel**: when `take k` returns with fuel `fuel` it returns the same
    generator, the same programs and the same flag with every larger fuel (every grammar, cost table, filter, every
    generator state — also after merges) -/
theorem C02_Beap_fuel_mono {S : Type} [DecidableEq S] (E : Env S) (k : Nat) (g : Gen S) (acc : List Prog) (r : Gen S × List Prog × Bool)
    (fuel fuel' : Nat) (hle : fuel ≤ fuel') (h : take E fuel k g acc = some r) : take E fuel' k g acc = some r :=
  take_fuel_mono E k g acc r fuel fuel' hle h

/-- **the whole statement of C02 for beap search, relative to "the run returns for some fuel"** (no filter): if the
    priced derivations of the start symbol are exactly the members of the duplicate-free list `lang` and the model run
    of `|lang| + 1` calls of `next` returns for SOME fuel, then for EVERY larger fuel it returns the same result: the
    generator has stopped and its output is a permutation of `lang` -/
theorem C02_Beap_total_partial {S : Type} [DecidableEq S] (E : Env S) (hf : ∀ t, E.filter t = true) (hnd : RowsNodup E.G)
    (hst : StableAfter E) (hprod : Productive E) (hpos : PosW E) (lang : List Prog) (hl : lang.Nodup)
    (hmem : ∀ q, q ∈ lang ↔ ∃ x, costOf E q E.G.start = some x)
    (hret : ∃ fuel, (take E fuel (lang.length + 1) (Gen.new E.G) []).isSome = true) :
    ∃ fuel0 g ys, ys.Perm lang ∧ ∀ fuel, fuel0 ≤ fuel → take E fuel (lang.length + 1) (Gen.new E.G) [] = some (g, ys, true) := by
  obtain ⟨fuel0, h0⟩ := hret
  obtain ⟨⟨g, ys, fin⟩, hr⟩ := Option.isSome_iff_exists.mp h0
  obtain rfl : fin = true :=
    C02_Beap_terminates_partial E hnd hst hprod hpos lang (fun q x hx => (hmem q).mpr ⟨x, hx⟩) fuel0 g ys fin hr
  exact ⟨fuel0, g, ys, C02_Beap_full E hf hnd hst hprod hpos fuel0 _ g ys hr lang hl hmem,
    fun fuel hle => C02_Beap_fuel_mono E _ _ _ _ fuel0 fuel hle hr⟩

/-- non-vacuity: on the finite grammar the run returns for fuel 100 (tiny_run), so for every larger fuel; and for any
    duplicate-free enumeration of the language the conclusion of C02_Beap_total_partial holds -/
example (fuel : Nat) (h : 100 ≤ fuel) : (take tinyE fuel 10 (Gen.new tinyG) []).map (fun r => r.2.2) = some true := by
  obtain ⟨g, ys, hp⟩ := tiny_stops
  rw [C02_Beap_fuel_mono tinyE 10 _ _ _ 100 fuel h hp]
  rfl

example (lang : List Prog) (hl : lang.Nodup) (hmem : ∀ q, q ∈ lang ↔ ∃ x, costOf tinyE q tinyG.start = some x)
    (hret : ∃ fuel, (take tinyE fuel (lang.length + 1) (Gen.new tinyG) []).isSome = true) :
    ∃ fuel0 g ys, ys.Perm lang ∧ ∀ fuel, fuel0 ≤ fuel → take tinyE fuel (lang.length + 1) (Gen.new tinyG) [] = some (g, ys, true) :=
  C02_Beap_total_partial tinyE (fun _ => rfl) tiny_rowsNodup tiny_stable tiny_productive tiny_posW lang hl hmem hret

end PS.C02Beap
