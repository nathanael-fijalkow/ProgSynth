/-
  C02, part hs — heap search / bucket search: heap_search.py (deterministic grammars, model
  PS/Model/Enum/HeapSearch.lean) and u_heap_search.py (unambiguous grammars, model
  PS/Model/Enum/UHeapSearch.lean).

  FULL STATEMENT: for every finite grammar G with positive weights there is a number of `next`
    steps after which the machine has stopped and its output is a permutation of the language of G.

  Proved for all inputs: that the heapq port keeps the multiset; soundness (item 4) and no duplicates
  (item 5) as state invariants (soundness on context-free and on unambiguous grammars, no duplicates without a
  filter also on tree-traversing ones); on ACYCLIC grammars completeness when the generator
  stops (item 6), termination, and with them the full statement — heap search with threshold 0 and no
  filter (C02_HS_full), bucket search (C02_HS_bucket_full), the unambiguous-grammar machine with several
  start symbols (C02_HS_U_full, C02_HS_U_bucket_full); with a threshold `t ≥ 0` and weights in [0, 1] every
  member above it is yielded (C02_HS_threshold_full).  The liveness half with a filter is in Props/C12_HS.lean.
  The statement is false on state-threading TTCFGs, on recursive grammars and, for `kway = false` (u_heap_search.py
  before repair 7721229, the model's default), on unambiguous grammars with several start symbols: the `finding_*` theorems, witnesses evaluated by the
  kernel on the models.
  NOT proved: recursive grammars and state-threading TTCFGs (the statement is false there), thresholds of
  the unambiguous machine; they are checked on every generated case against the independent language
  oracle and by exact correspondence of the model with the implementation.
-/
import PS.Model.Enum.HeapSearch
import PS.Model.Enum.UHeapSearch
import PS.Proofs.Enum.Heapq
import PS.Proofs.Enum.HeapSearch
import PS.Proofs.Enum.HSSoundInit
import PS.Proofs.Enum.HSProb
import PS.Proofs.Enum.HSNodupRun
import PS.Proofs.Enum.HSCheck
import PS.Proofs.Enum.HSGrammar
import PS.Proofs.Enum.HSInst
import PS.Proofs.Enum.GInst
import PS.Proofs.Enum.USound
import PS.Proofs.Enum.UBridge
import PS.Proofs.Enum.UUnamb
import PS.Proofs.Enum.UCompleteRun
import PS.Proofs.Enum.UCheck
import PS.Proofs.Enum.UBucket
namespace PS.C02HS
open PS PS.G

/-- `heappush` keeps the multiset of the heap -/
theorem C02_HS_heappush_perm {α : Type} (lt : α → α → Bool) (h : List α) (x : α) :
    (Heapq.push lt h x).Perm (x :: h) := Heapq.push_perm lt h x

/-- `heappop` keeps the multiset of the heap -/
theorem C02_HS_heappop_perm {α : Type} (lt : α → α → Bool) (h : List α) (x : α) (h' : List α)
    (hp : Heapq.pop lt h = some (x, h')) : h.Perm (x :: h') := Heapq.pop_perm lt h x h' hp

/-- `heappop` raises exactly on the empty heap -/
theorem C02_HS_heappop_empty {α : Type} (lt : α → α → Bool) (h : List α) :
    Heapq.pop lt h = none ↔ h = [] := Heapq.pop_none_iff lt h

example : Heapq.pop (fun a b : Nat => decide (a < b)) (Heapq.push (fun a b => decide (a < b)) [1, 3, 2] 0) = some (0, [1, 3, 2]) := by
  decide

/-! ### finding C02-F2: several start symbols (u_heap_search.py start heap) -/
section F2
open PS.UHS
def iT : Ty := .base "int"
def s0 : UNT Nat := (iT, 0)
def s1 : UNT Nat := (iT, 1)
def s2 : UNT Nat := (iT, 2)
def plus : Sym := Sym.prim "+" (.arrow iT (.arrow iT iT))
def one : Sym := Sym.prim "1" iT
def v0 : Sym := Sym.var 0 iT
/-- `UCFG.from_DFTA(add_dfta_constraints(CFG.depth_constraint(DSL{+,1}, int -> int, 3), ["(+ ^+ _)"]))`
    with uniform probabilities: 2 + 4 + 8 = 14 programs -/
def G14 : UG Nat :=
  { starts := [(s2, 1/3), (s0, 1/3), (s1, 1/3)],
    rules := [(s1, [(plus, [([s0, s0], 1)])]), (s0, [(one, [([], 1/2)]), (v0, [([], 1/2)])]),
              (s2, [(plus, [([s0, s1], 1)])])] }
def E14 (kway : Bool) : Env Nat Rat := { G := G14, ops := probOps 0, filter := fun _ => true, kway := kway }

/-- `kway = false` (every program pushed on the heap of a start symbol goes on the start heap too: u_heap_search.py
    before repair 7721229, fixes_applied/C02-F2.diff, which /repo has) stops after 10 of the 14 programs -/
theorem finding_C02_F2 :
    (take (E14 false) 60 20 (St.empty G14) []).map (fun r => (r.2.1.length, r.2.2)) = some (10, true) := by
  decide +kernel

/-- `kway = true` (the start heap holds, per start symbol, the successor of the last program taken from it:
    `__push_next_from_start__`) produces all 14 programs -/
theorem C02_HS_fix_F2_witness :
    (take (E14 true) 60 20 (St.empty G14) []).map (fun r => (r.2.1.length, r.2.2)) = some (14, true) := by
  decide +kernel
end F2

/-! ### finding C02-F3: state-threading TTCFG -/
section F3
open PS.HS
def sy (k : Nat) : Sym := Sym.prim (toString k) Ty.unknown
/-- a size-bounded TTCFG over `+` (symbol 0), `2` (symbol 1), `1` (symbol 2): 22 programs -/
def w3G : TT Nat Nat :=
  { start := (Ty.base "int", (0, 2)),
    rules := [
    ((Ty.base "int", (0, 2)), [(sy 0, ([(Ty.base "int", 0), (Ty.base "int", 0)], 0)), (sy 1, ([], 1)), (sy 2, ([], 1))]),
    ((Ty.base "int", (0, 4)), [(sy 1, ([], 3)), (sy 2, ([], 3))]),
    ((Ty.base "int", (0, 6)), [(sy 1, ([], 5)), (sy 2, ([], 5))]),
    ((Ty.base "int", (0, 0)), [(sy 2, ([], 7)), (sy 1, ([], 7)), (sy 0, ([(Ty.base "int", 0), (Ty.base "int", 0)], 4))]),
    ((Ty.base "int", (0, 7)), [(sy 0, ([(Ty.base "int", 0), (Ty.base "int", 0)], 3)), (sy 2, ([], 8)), (sy 1, ([], 8))]),
    ((Ty.base "int", (0, 3)), [(sy 1, ([], 6)), (sy 2, ([], 6))])] }
def w3W : AList (NT Nat Nat) (AList Sym Rat) := [
    ((Ty.base "int", (0, 2)), [(sy 0, (1 : Rat) / 8), (sy 1, (15 : Rat) / 16), (sy 2, (9 : Rat) / 16)]),
    ((Ty.base "int", (0, 4)), [(sy 1, (7 : Rat) / 8), (sy 2, (11 : Rat) / 16)]),
    ((Ty.base "int", (0, 6)), [(sy 1, (15 : Rat) / 16), (sy 2, (15 : Rat) / 16)]),
    ((Ty.base "int", (0, 0)), [(sy 2, (9 : Rat) / 16), (sy 1, (3 : Rat) / 16), (sy 0, (9 : Rat) / 16)]),
    ((Ty.base "int", (0, 7)), [(sy 0, (15 : Rat) / 16), (sy 2, (1 : Rat) / 2), (sy 1, (3 : Rat) / 8)]),
    ((Ty.base "int", (0, 3)), [(sy 1, (3 : Rat) / 16), (sy 2, (3 : Rat) / 4)])]
def E3 : Env Nat Nat Rat := { G := w3G, W := w3W, ops := probOps 0, filter := fun _ => true }
/-- `(+ 2 (+ 1 1))`: symbol 0 is `+`, symbol 1 is `2`, symbol 2 is `1` -/
def lost : Prog := .node (sy 0) [.node (sy 1) [], .node (sy 0) [.node (sy 2) [], .node (sy 2) []]]

/-- heap search stops after 20 programs and never yields `lost`, which is a member of the grammar -/
theorem finding_C02_F3 :
    contains w3G lost = true ∧
    (take E3 200 40 (Gen.new w3G) []).map (fun r => (r.2.1.length, r.2.2, r.2.1.contains lost)) = some (20, true, false) := by
  decide +kernel
end F3

/-! ### soundness of the machine as a state invariant (item 4), context-free grammars -/
section Sound
open PS.HS
variable {S π : Type} [DecidableEq S]

/-- the invariant: `HS.SInv E s` says that for every non-terminal `nt`
    (1) every program of `hash_table_program[nt]` is derivable from `nt` (`gen`),
    (2) every element of `heaps[nt]` is in `hash_table_program[nt]`,
    (3) every value of `succ[nt]` is in `hash_table_program[nt]`;
    `HS.GInv E g` adds, before the prologue has run, that the max-priority tables hold derivable
    programs.  It holds for the fresh generator object … -/
theorem C02_HS_inv_init (E : Env S Unit π) : GInv E (Gen.new E.G) := ginv_new E

/-- … and every `next(generator)` keeps it and yields a program derivable from the start symbol
    (any priority type, any threshold, any filter, `dropDeleted` either way; `RowsNodup`: a Python
    dict has no repeated key) -/
theorem C02_HS_sound_step (E : Env S Unit π) (hnd : RowsNodup E.G) (fuel : Nat) (g g' : Gen S Unit π)
    (r : Option Prog) (hg : GInv E g) (h : HS.next E fuel g = some (g', r)) :
    GInv E g' ∧ ∀ p, r = some p → gen E.G p E.G.start = true := next_sound E hnd fuel g g' r hg h

/-- the inner step: `query(S, program)` keeps the table invariant and returns a program derivable from `S` -/
theorem C02_HS_query_sound (E : Env S Unit π) (n : Nat) (s s' : St S Unit π) (nt : NT S Unit)
    (p r : Option Prog) (hs : SInv E s) (h : query E n s nt p = some (s', r)) :
    SInv E s' ∧ ∀ q, r = some q → gen E.G q nt = true := query_sound E hs h

/-- **soundness**: whatever heap search / bucket search yields on a context-free grammar is a
    member of the grammar (`program in grammar` of the implementation, by `contains_eq_gen`) -/
theorem C02_HS_sound (E : Env S Unit π) (hnd : RowsNodup E.G) (fuel k : Nat) (g' : Gen S Unit π)
    (out : List Prog) (b : Bool) (h : take E fuel k (Gen.new E.G) [] = some (g', out, b)) :
    ∀ p ∈ out, contains E.G p = true :=
  fun p hp => (contains_eq_gen E.G p).trans (take_sound_new E hnd h p hp)

/-- the stored priority is the priority function applied to the program: `SInv` also says that
    the memo table of `compute_priority` agrees with the specification `prioSpec` and that every
    heap element `(priority, program)` of `nt` has `priority = prioSpec program nt`; for heap search
    (`probOps`) that is the probability of the program from `nt` (product of the rule weights) -/
theorem C02_HS_stored_priority (E : Env S Unit Rat) (t : Rat) (hops : E.ops = probOps t) (s : St S Unit Rat)
    (hs : SInv E s) (nt : NT S Unit) (e : Rat × Prog) (he : e ∈ s.heapOf nt) :
    gen E.G e.2 nt = true ∧ e.1 = prob E.G E.W e.2 nt := by
  have hg := hs.seen_gen nt e.2 (hs.heap_seen nt e he)
  exact ⟨hg, prioSpec_prob E t hops e.2 nt e.1 hg (hs.heap_prio nt e he)⟩

/-- `compute_priority(S, program)` returns the priority of the specification on derivable programs -/
theorem C02_HS_compute_priority (E : Env S Unit π) (c : AList (Prog × NT S Unit) π) (hc : CacheOK E c)
    (nt : NT S Unit) (prog : Prog) (hg : gen E.G prog nt = true) (c' : AList (Prog × NT S Unit) π) (v : π)
    (h : computePrio E c nt prog = some (c', v)) : prioSpec E prog nt = some v ∧ CacheOK E c' :=
  computePrio_spec E c hc nt prog hg c' v h

/-! non-vacuity: `S0 → 1 | + S1 S1`, `S1 → 1 | x` -/
def cInt : Ty := .base "int"
def cOne : Sym := Sym.prim "1" cInt
def cX : Sym := Sym.var 0 cInt
def cPlus : Sym := Sym.prim "+" (.arrow cInt (.arrow cInt cInt))
def cG : TT Nat Unit := ⟨(cInt, (0, ())), [((cInt, (0, ())), [(cOne, ([], ())), (cPlus, ([(cInt, 1), (cInt, 1)], ()))]),
                                          ((cInt, (1, ())), [(cOne, ([], ())), (cX, ([], ()))])]⟩
def cW : AList (NT Nat Unit) (AList Sym Rat) :=
  [((cInt, (0, ())), [(cOne, 1/2), (cPlus, 1/2)]), ((cInt, (1, ())), [(cOne, 1/4), (cX, 3/4)])]
def cE : Env Nat Unit Rat := { G := cG, W := cW, ops := probOps 0, filter := fun _ => true }

theorem cG_rows : RowsNodup cG := rowsNodup_of_all cG (by decide)

/-- the machine yields the 5 programs of the grammar and stops -/
example : (take cE 50 10 (Gen.new cG) []).map (fun r => (r.2.1.length, r.2.2)) = some (5, true) := by
  decide +kernel

example : ∀ g' out b, take cE 50 10 (Gen.new cG) [] = some (g', out, b) → ∀ p ∈ out, contains cG p = true :=
  fun g' out b h => C02_HS_sound cE cG_rows 50 10 g' out b h

/-- `(+ x 1)` from `S0`: 1/2 · 3/4 · 1/4 -/
example : prioSpec cE (.node cPlus [.node cX [], .node cOne []]) cG.start = some (3/32) := by decide +kernel
example : (computePrio cE [((.node cX [], (cInt, (1, ()))), 3/4), ((.node cOne [], (cInt, (1, ()))), 1/4)] cG.start
    (.node cPlus [.node cX [], .node cOne []])).map (·.2) = some (3/32) := by decide +kernel
end Sound

/-! ### no duplicates (item 5): heap search / bucket search without a filter -/
section Nodup
open PS.HS
variable {S T π : Type} [DecidableEq S] [DecidableEq T]

/-- the invariant `HS.NInv s` (any tree-traversing grammar, any priority type): for every `nt`
    the programs of `heaps[nt]` are pairwise distinct and belong to `hash_table_program[nt]`;
    every value of `succ[nt]` (= every program popped for `nt`) belongs to `hash_table_program[nt]`
    and is NOT in `heaps[nt]` any more; `succ[nt]` is injective; `deleted = ∅`.
    `query` keeps it, only adds entries to the `succ` tables (`Stable`) and returns the entry
    `succ[nt][program]` of the new state: a program enters `heaps[nt]` at most once (the push is
    guarded by `hash_table_program`), so what is popped for `nt` is pairwise distinct. -/
theorem C02_HS_query_nodup (E : Env S T π) (n : Nat) (s s' : St S T π) (nt : NT S T) (p r : Option Prog)
    (hs : NInv s) (h : query E n s nt p = some (s', r)) :
    NInv s' ∧ Stable s s' ∧ ∀ q, r = some q → AList.lookup p (s'.succOf nt) = some q :=
  query_nodup E hs h

/-- one `next(generator)`: the yielded sequence stays the chain of `succ[start]` from the sentinel -/
theorem C02_HS_nodup_step (E : Env S T π) (hf : ∀ p, E.filter p = true) (fuel : Nat) (g g' : Gen S T π)
    (out : List Prog) (r : Option Prog) (hg : NGInv E g out) (h : HS.next E fuel g = some (g', r)) :
    (∀ p, r = some p → NGInv E g' (out ++ [p])) ∧ (r = none → NGInv E g' out) :=
  next_nodup E hf fuel g g' out r hg h

/-- **no duplicates**: without a filter (`filter.accept` always true — the enumerators of C02; with a
    filter see C12) the sequence yielded by heap search / bucket search has no repeated program.
    Any tree-traversing grammar, any priority type, threshold, fuel and number of steps. -/
theorem C02_HS_nodup (E : Env S T π) (hf : ∀ p, E.filter p = true) (fuel k : Nat) (g' : Gen S T π)
    (out : List Prog) (b : Bool) (h : take E fuel k (Gen.new E.G) [] = some (g', out, b)) : out.Nodup :=
  (take_ngInv E hf fuel k _ _ _ _ _ (ngInv_new E) h).nodup

example : ∀ g' out b, take cE 50 10 (Gen.new cG) [] = some (g', out, b) → out.Nodup :=
  fun g' out b h => C02_HS_nodup cE (fun _ => rfl) 50 10 g' out b h
/-- also on the state-threading TTCFG of finding C02-F3 (which loses programs but repeats none) -/
example : ∀ g' out b, take E3 200 40 (Gen.new w3G) [] = some (g', out, b) → out.Nodup :=
  fun g' out b h => C02_HS_nodup E3 (fun _ => rfl) 200 40 g' out b h
end Nodup

/-! ### completeness (item 6, partial correctness): acyclic context-free grammars -/
section Complete
open PS.HS
variable {S : Type} [DecidableEq S]

/-- **COMPLETENESS when the generator stops** — heap search (`HeapSearch`, threshold 0, no filter) on an
    acyclic context-free grammar: if after `k` calls of `next` the generator has raised `StopIteration`
    (third component `true`), every member of the grammar was yielded.
    `HS.CompHyp` (all decidable on a literal grammar, see `HS.compHyp_of_checks`): priorities are the
    probabilities, weights non-negative and defined for every rule, `rank` strictly decreases from a
    non-terminal to the non-terminals of its rules, dict keys distinct, no empty row, every
    non-terminal used by a rule has a row, no filter.
    Proof (DESIGN B.2): the instance "nothing is rejected" (`HS.CompHyp.allW`) of `HG.take_stop_complete`
    (any priority type, filter, threshold) — (I2) seen = heap ∪ popped (`HG.CInv`), (I3) every popped
    program has, at every argument position, either the successor program pushed or an exhausted
    argument (`HG.big_i3`; `dropDeleted` does not matter while `deleted` is empty: `HG.NoDrop`), then the
    frontier theorem `PS.Frontier.front`: induction on the rank and on the chain steps left over the
    argument positions.
    That the generator does stop: `C02_HS_stops_partial`; on recursive grammars the statement is
    false (`finding_C02_HS_recursive`). -/
theorem C02_HS_complete (E : Env S Unit Rat) (rank : NT S Unit → Nat) (C : CompHyp E rank) (fuel k : Nat)
    (g' : Gen S Unit Rat) (out : List Prog) (h : take E fuel k (Gen.new E.G) [] = some (g', out, true)) :
    ∀ p, contains E.G p = true → p ∈ out := take_complete E rank C fuel k g' out h

/-- **exactly once**: when the generator stops, its output lists the language without repetition -/
theorem C02_HS_exactly_once (E : Env S Unit Rat) (rank : NT S Unit → Nat) (C : CompHyp E rank) (fuel k : Nat)
    (g' : Gen S Unit Rat) (out : List Prog) (h : take E fuel k (Gen.new E.G) [] = some (g', out, true)) :
    out.Nodup ∧ ∀ p, p ∈ out ↔ contains E.G p = true :=
  ⟨C02_HS_nodup E C.nofilter fuel k g' out true h,
   fun p => ⟨fun hp => C02_HS_sound E C.init.rows fuel k g' out true h p hp,
             fun hp => C02_HS_complete E rank C fuel k g' out h p hp⟩⟩

/-- in a quiescent state, a non-terminal whose heap is empty has popped every program derivable from it.
    `HS.Quiet` is a hypothesis here and no theorem concludes it; `C02_HS_complete` does not go through this statement
    but through its counterpart over `HG.Quiet` (`HG.exhausted_complete`), which the run is proved to keep. -/
theorem C02_HS_exhausted_complete (E : Env S Unit Rat) (rank : NT S Unit → Nat) (H : OrdHyp E rank)
    (hcl : Closed E.G) (H0 : NT S Unit → List (Rat × Prog)) (s : St S Unit Rat) (Q : Quiet E H0 s)
    (nt : NT S Unit) (hempty : s.heapOf nt = []) (p : Prog) (hg : gen E.G p nt = true) :
    ∃ k, AList.lookup k (s.succOf nt) = some p :=
  exhausted_complete H hcl Q _ nt rfl hempty p hg

/-- **TERMINATION of the generator loop, partial**: if the prologue of `generator()` (max-priority
    tables, initial heaps, first queries) returns for the given fuel, and the fuel is at least
    `(rank start + 1) * (max arity + 5)`, the generator raises `StopIteration` after finitely many `next`:
    every `next` returns (`HG.query_total`: the nesting of `query` / `__add_successors__` is bounded by the
    rank) and the yielded programs are distinct members of a finite language.
    Without `hpro`: `C02_HS_full`. -/
theorem C02_HS_stops_partial (E : Env S Unit Rat) (rank : NT S Unit → Nat) (C : CompHyp E rank) (fuel : Nat)
    (hfuel : (rank E.G.start + 1) * (maxArity E.G + 5) ≤ fuel)
    (hpro : prologue E fuel (St.empty E.G) ≠ none) :
    ∃ k g' out, take E fuel k (Gen.new E.G) [] = some (g', out, true) :=
  take_stops E rank C fuel hfuel hpro

/-- together: the generator stops and its output is the language, each program once -/
theorem C02_HS_total_partial (E : Env S Unit Rat) (rank : NT S Unit → Nat) (C : CompHyp E rank) (fuel : Nat)
    (hfuel : (rank E.G.start + 1) * (maxArity E.G + 5) ≤ fuel)
    (hpro : prologue E fuel (St.empty E.G) ≠ none) :
    ∃ k g' out, take E fuel k (Gen.new E.G) [] = some (g', out, true) ∧
      out.Nodup ∧ ∀ p, p ∈ out ↔ contains E.G p = true := by
  obtain ⟨k, g', out, h⟩ := take_stops E rank C fuel hfuel hpro
  exact ⟨k, g', out, h, C02_HS_exactly_once E rank C fuel k g' out h⟩

/-- **the prologue of `generator()` returns** (`__init_non_terminal__` / `_reevaluate_` / `__init_heap__`
    terminate) with fuel `HS.enoughFuel` = (1 + max rank) * (max arity + max row length + 5) -/
theorem C02_HS_prologue_total (E : Env S Unit Rat) (rank : NT S Unit → Nat) (C : CompHyp E rank)
    (hstart : E.G.start ∈ AList.keys E.G.rules) (fuel : Nat) (hfuel : enoughFuel E.G rank ≤ fuel) :
    ∃ s0, prologue E fuel (St.empty E.G) = some s0 := prologue_total E rank C hstart fuel hfuel

/-- **C02 FOR HEAP SEARCH ON ACYCLIC CONTEXT-FREE GRAMMARS (full statement)**: for every fuel at least
    `HS.enoughFuel` there is a number `k` of `next` steps after which the generator has stopped, and its
    output is a permutation of the language of the grammar (`lang`: the duplicate-free list of the
    members, `C04_lang`): every program exactly once.
    Hypotheses `HS.CompHyp` (decidable on a literal grammar: `HS.compHyp_of_checks`) and "the start symbol
    has a row".  Heap search = `HeapSearch` with threshold 0 and no filter. -/
theorem C02_HS_full (E : Env S Unit Rat) (rank : NT S Unit → Nat) (C : CompHyp E rank)
    (hstart : E.G.start ∈ AList.keys E.G.rules) (fuel : Nat) (hfuel : enoughFuel E.G rank ≤ fuel) :
    ∃ k g' out, take E fuel k (Gen.new E.G) [] = some (g', out, true) ∧
      out.Perm (lang E.G (rank E.G.start + 1) E.G.start) := by
  obtain ⟨k, g', out, h⟩ := take_total E rank C hstart fuel hfuel
  obtain ⟨hnd, hmem⟩ := C02_HS_exactly_once E rank C fuel k g' out h
  exact ⟨k, g', out, h, HG.perm_members E.G rank C.init.rows C.init.acyclic hnd hmem⟩

def cRank (nt : NT Nat Unit) : Nat := 1 - nt.2.1

theorem cE_hyp : CompHyp cE cRank :=
  compHyp_of_checks cE cRank rfl (by decide +kernel) (by decide) (by decide) (by decide) (by decide)
    (by decide +kernel) (by decide) (fun _ => rfl)

example : ∃ k g' out, take cE 50 k (Gen.new cG) [] = some (g', out, true) ∧
    out.Nodup ∧ ∀ p, p ∈ out ↔ contains cG p = true :=
  C02_HS_total_partial cE cRank cE_hyp 50 (by decide) (by decide +kernel)

/-- the full statement on the example: enough fuel is 2 * (2 + 2 + 5) = 18 -/
example : ∃ k g' out, take cE 18 k (Gen.new cG) [] = some (g', out, true) ∧
    out.Perm (lang cG 2 cG.start) :=
  C02_HS_full cE cRank cE_hyp (by decide) 18 (by decide)

/-- on the example grammar the generator stops after its 5 programs, which are exactly the language -/
example : ∀ g' out, take cE 50 10 (Gen.new cG) [] = some (g', out, true) →
    out.Nodup ∧ ∀ p, p ∈ out ↔ contains cG p = true :=
  fun g' out h => C02_HS_exactly_once cE cRank cE_hyp 50 10 g' out h
end Complete

/-! ### finding: heap search stops early on a recursive grammar (max-priority tables out of sync) -/
section Reentrant
open PS.HS
def rInt : Ty := .base "t"
def rF : Sym := Sym.prim "F" (.arrow rInt (.arrow rInt rInt))
def rg : Sym := Sym.prim "g" (.arrow rInt rInt)
def rb : Sym := Sym.prim "b" rInt
def rc : Sym := Sym.prim "c" rInt
def rn (k : Nat) : NT Nat Unit := (rInt, (k, ()))
/-- `CFG.infinite(DSL{F : t1 -> t1 -> t0, b : t0, g : t0 -> t1, c : t1}, t0, n_gram=2)` -/
def rG2 : TT Nat Unit := ⟨rn 0, [(rn 0, [(rb, ([], ())), (rF, ([(rInt, 1), (rInt, 2)], ()))]),
  (rn 1, [(rc, ([], ())), (rg, ([(rInt, 3)], ()))]), (rn 2, [(rc, ([], ())), (rg, ([(rInt, 3)], ()))]),
  (rn 3, [(rb, ([], ())), (rF, ([(rInt, 1), (rInt, 2)], ()))])]⟩
def rW2 : AList (NT Nat Unit) (AList Sym Rat) := [(rn 0, [(rb, 1/64), (rF, 63/64)]), (rn 1, [(rc, 1/2), (rg, 1/2)]),
  (rn 2, [(rc, 1/2), (rg, 1/2)]), (rn 3, [(rb, 1/64), (rF, 63/64)])]
def rE2 : Env Nat Unit Rat := { G := rG2, W := rW2, ops := probOps 0, filter := fun _ => true }
def rLost : Prog := .node rF [.node rg [.node rF [.node rc [], .node rc []]], .node rc []]

/-- (finding C03-F4, recorded under C03 whose statement covers recursive grammars)
    the language is infinite, heap search stops after 5 programs and never yields the member
    `(F (g (F c c)) c)`: `_reevaluate_` leaves `max_priority[(S1, g)] = (g b)` although
    `max_priority[S3]` became `(F c c)` (the tables are out of sync on a recursive grammar), so the
    initial program `(g b)` of `S1` makes `__add_successors__` call `query(S3, b)` before `b` was
    generated from `S3` ((I5) fails at initialisation) and `(g (F c c))` is never pushed.
    Same output on the implementation. -/
theorem finding_C02_HS_recursive :
    contains rG2 rLost = true ∧
    (take rE2 300 8 (Gen.new rG2) []).map (fun r => (r.2.1.length, r.2.2, r.2.1.contains rLost)) = some (5, true, false) := by
  decide +kernel
end Reentrant

/-! ### bucket search, threshold, filter: any priority type whose `combine` is monotone
    (PS/Proofs/Enum/G*.lean), the code after fix 53c3acb (`dropDeleted = false`) -/
section Generic
open PS.HS PS.HG
variable {S : Type} [DecidableEq S]

/-- no duplicates with a filter installed (heap search, any threshold `t ≥ 0`, every fuel, every prefix); the third
    conjunct of `C12_HS_filter_safe` -/
theorem C02_HS_filter_nodup (E : Env S Unit Rat) (rank : NT S Unit → Nat) (t : Rat) (P : ProbHyp E rank t)
    (fuel k : Nat) (g' : Gen S Unit Rat) (out : List Prog) (b : Bool)
    (h : take E fuel k (Gen.new E.G) [] = some (g', out, b)) : out.Nodup :=
  (prob_safe P fuel k g' out b h).2.1

/-- no duplicates with a filter installed (bucket search); the third conjunct of `C12_HS_bucket_filter_safe` -/
theorem C02_HS_bucket_filter_nodup (E : Env S Unit Bucket) (rank : NT S Unit → Nat) (size : Nat)
    (B : BucketHyp E rank size) (fuel k : Nat) (g' : Gen S Unit Bucket) (out : List Prog) (b : Bool)
    (h : take E fuel k (Gen.new E.G) [] = some (g', out, b)) : out.Nodup :=
  (bucket_safe B fuel k g' out b h).2.1

/-- **completeness above the threshold** (heap search with threshold `t`, no filter, every fuel):
    once the generator has stopped every member of probability `> t` was yielded; `C12_HS_filter_complete` where the
    filter accepts everything -/
theorem C02_HS_threshold_complete (E : Env S Unit Rat) (rank : NT S Unit → Nat) (t : Rat) (P : ProbHyp E rank t)
    (hf : ∀ p, E.filter p = true) (fuel k : Nat) (g' : Gen S Unit Rat) (out : List Prog)
    (h : take E fuel k (Gen.new E.G) [] = some (g', out, true)) (p : Prog) (hp : contains E.G p = true)
    (hthr : t < G.prob E.G E.W p E.G.start ∨ t = 0) : p ∈ out :=
  prob_stop_complete P fuel k g' out h p (by rw [← contains_eq_gen]; exact hp) (clean_of_all _ hf p) hthr

/-- **heap search with a threshold `t ≥ 0`** (`ProbHyp.thr_nonneg`; `t = 0` is no threshold): with enough fuel the generator stops; its
    output is duplicate-free, contains only members and contains every member of probability above
    the threshold -/
theorem C02_HS_threshold_full (E : Env S Unit Rat) (rank : NT S Unit → Nat) (t : Rat) (P : ProbHyp E rank t)
    (hf : ∀ p, E.filter p = true) (hclosed : HG.Closed E.G) (hstart : E.G.start ∈ AList.keys E.G.rules)
    (fuel : Nat) (hfuel : enoughFuelF E.G rank ≤ fuel) :
    ∃ k g' out, take E fuel k (Gen.new E.G) [] = some (g', out, true) ∧ out.Nodup ∧
      (∀ p ∈ out, contains E.G p = true) ∧
      (∀ p, contains E.G p = true → (t < G.prob E.G E.W p E.G.start ∨ t = 0) → p ∈ out) := by
  obtain ⟨k, g', out, h⟩ := prob_total P hclosed hstart fuel hfuel
  obtain ⟨a, b, _, _⟩ := prob_safe P fuel k g' out true h
  exact ⟨k, g', out, h, b, fun p hp => by rw [contains_eq_gen]; exact a p hp,
    fun p hp hthr => C02_HS_threshold_complete E rank t P hf fuel k g' out h p hp hthr⟩

/-- bucket search without a filter, every fuel: once the generator has stopped, the output is
    duplicate-free and is the language -/
theorem C02_HS_bucket_exactly_once (E : Env S Unit Bucket) (rank : NT S Unit → Nat) (size : Nat)
    (B : BucketHyp E rank size) (hf : ∀ p, E.filter p = true) (fuel k : Nat) (g' : Gen S Unit Bucket)
    (out : List Prog) (h : take E fuel k (Gen.new E.G) [] = some (g', out, true)) :
    out.Nodup ∧ ∀ p, p ∈ out ↔ contains E.G p = true := by
  obtain ⟨a, b, _, _⟩ := bucket_safe B fuel k g' out true h
  refine ⟨b, fun p => ⟨fun hp => by rw [contains_eq_gen]; exact a p hp, fun hp => ?_⟩⟩
  exact bucket_stop_complete B fuel k g' out h p (by rw [← contains_eq_gen]; exact hp) (clean_of_all _ hf p)

/-- **C02 FOR BUCKET SEARCH ON ACYCLIC CONTEXT-FREE GRAMMARS (full statement)**: for every fuel at
    least `HG.enoughFuelF` there is a number `k` of `next` steps after which the generator has stopped,
    and its output is a permutation of the language of the grammar -/
theorem C02_HS_bucket_full (E : Env S Unit Bucket) (rank : NT S Unit → Nat) (size : Nat)
    (B : BucketHyp E rank size) (hf : ∀ p, E.filter p = true) (hclosed : HG.Closed E.G)
    (hstart : E.G.start ∈ AList.keys E.G.rules) (fuel : Nat) (hfuel : enoughFuelF E.G rank ≤ fuel) :
    ∃ k g' out, take E fuel k (Gen.new E.G) [] = some (g', out, true) ∧
      out.Perm (lang E.G (rank E.G.start + 1) E.G.start) := by
  obtain ⟨k, g', out, h⟩ := bucket_total B hclosed hstart fuel hfuel
  obtain ⟨hnd, hmem⟩ := C02_HS_bucket_exactly_once E rank size B hf fuel k g' out h
  exact ⟨k, g', out, h, perm_members E.G rank B.init.rows B.init.acyclic hnd hmem⟩

/-! non-vacuity on the grammar `cG` -/
def cEt : Env Nat Unit Rat := { G := cG, W := cW, ops := probOps (1/16), filter := fun _ => true, dropDeleted := false }
def cEb : Env Nat Unit Bucket := { G := cG, W := cW, ops := bucketOps 3, filter := fun _ => true, dropDeleted := false }

theorem cEt_hyp : ProbHyp cEt cRank (1/16) :=
  { ops := rfl, thr_nonneg := by decide +kernel, wunit := wunit_of_all cEt (by decide +kernel)
    init := ⟨cE_hyp.init.rows, cE_hyp.init.acyclic, cE_hyp.init.nonempty⟩
    keys := cE_hyp.keys, wtotal := cE_hyp.wtotal, nodrop := rfl }
theorem cEb_hyp : BucketHyp cEb cRank 3 :=
  { ops := rfl, init := ⟨cE_hyp.init.rows, cE_hyp.init.acyclic, cE_hyp.init.nonempty⟩
    keys := cE_hyp.keys, wtotal := cE_hyp.wtotal, nodrop := rfl }
theorem cG_closed : HG.Closed cG := cE_hyp.closed

/-- enough fuel is 2 * (2 + 2 + 5 + 5) = 28 -/
example : ∃ k g' out, take cEb 28 k (Gen.new cG) [] = some (g', out, true) ∧ out.Perm (lang cG 2 cG.start) :=
  C02_HS_bucket_full cEb cRank 3 cEb_hyp (fun _ => rfl) cG_closed (by decide) 28 (by decide +kernel)

example : ∃ k g' out, take cEt 28 k (Gen.new cG) [] = some (g', out, true) ∧ out.Nodup ∧
    (∀ p ∈ out, contains cG p = true) ∧
    (∀ p, contains cG p = true → ((1/16 : Rat) < G.prob cG cW p cG.start ∨ (1/16 : Rat) = 0) → p ∈ out) :=
  C02_HS_threshold_full cEt cRank (1/16) cEt_hyp (fun _ => rfl) cG_closed (by decide) 28 (by decide +kernel)

/-- with threshold 1/16 heap search yields 4 of the 5 programs (not `(+ 1 1)`, probability 1/32) and stops -/
example : (take cEt 28 10 (Gen.new cG) []).map (fun r => (r.2.1.length, r.2.2)) = some (4, true) := by decide +kernel
example : (take cEb 28 10 (Gen.new cG) []).map (fun r => (r.2.1.length, r.2.2)) = some (5, true) := by decide +kernel
end Generic

/-! ## unambiguous machine -/
section UMachine
open PS.UHS
variable {U π : Type} [DecidableEq U]

/-- SOUNDNESS of the heap search / bucket search on unambiguous grammars (`UHSEnumerator`,
    u_heap_search.py; `Env.kway = true`, the k-way merge at the start heap that /repo has) as a state invariant.
    `UHS.SInv E s`: for every non-terminal `nt`
    (1) every element `(priority, program)` of `heaps[nt]` is in `hash_table_program[nt]` and `priority`
        is the priority of a derivation of `program` from `nt` (`UHS.HasPrio`: the rule priorities
        combined from left to right; heap search: the product of the rule weights),
    (2) every program of `hash_table_program[nt]`, every value of `succ[nt]`, `max_priority[nt]`,
        `max_priority[(nt, P, v)]` is derivable from `nt`,
    (3) `_keys[nt][program] = v` is an alternative of the head of `program` from whose non-terminals
        the arguments are derivable,
    (4) the memo table of `compute_priority` (`probabilities` / `bucket_tuples`) holds priorities of derivations,
    (5) every element `(priority, program, start)` of the start heap has `start` a start symbol and
        `priority = adjust_priority_for_start(priority of a derivation of program from start)`.
    It holds for the fresh enumerator … -/
theorem C02_HS_U_inv_init (E : UHS.Env U π) : UHS.SInv E (UHS.St.empty E.G) := sinv_empty E

/-- … `query(S, program)` keeps it and returns a program derivable from `S` (any priority type,
    threshold, filter, fuel; `UHS.GHyp`: dict keys distinct, the alternatives of one symbol have
    one arity, `kway = true`) … -/
theorem C02_HS_U_query_sound (E : UHS.Env U π) (H : GHyp E) (n : Nat) (s s' : UHS.St U π) (nt : UHS.UNT U)
    (p r : Option Prog) (hs : UHS.SInv E s) (h : UHS.query E n s nt p = some (s', r)) :
    UHS.SInv E s' ∧ ∀ q, r = some q → Der E q nt :=
  big_sound E H (big_of_query E h) hs trivial

/-- … and so does every `next(generator)`, which yields a program derivable from a start symbol -/
theorem C02_HS_U_sound_step (E : UHS.Env U π) (H : GHyp E) (fuel k : Nat) (s s' : UHS.St U π) (r : Option Prog)
    (hs : UHS.SInv E s) (h : UHS.next E fuel k s = some (s', r)) :
    UHS.SInv E s' ∧ ∀ p, r = some p → ∃ nt w, startW E nt = some w ∧ Der E p nt :=
  hs.next H k h

/-- the stored priority is the priority of a derivation of the program -/
theorem C02_HS_U_stored_priority (E : UHS.Env U π) (s : UHS.St U π) (hs : UHS.SInv E s) (nt : UHS.UNT U)
    (e : π × Prog) (he : e ∈ s.heapOf nt) : HasPrio E e.2 nt e.1 ∧ e.2 ∈ s.seenOf nt :=
  ⟨hs.heap_prio nt e he, hs.heap_seen nt e he⟩

/-- on the start heap: the priority adjusted by the weight of the start symbol -/
theorem C02_HS_U_start_priority (E : UHS.Env U π) (s : UHS.St U π) (hs : UHS.SInv E s)
    (e : π × Prog × UHS.UNT U) (he : e ∈ s.startHeap) :
    ∃ w pr, startW E e.2.2 = some w ∧ HasPrio E e.2.1 e.2.2 pr ∧ e.1 = E.ops.adjust pr w :=
  hs.start_ok e he

/-- **SOUNDNESS**: whatever heap search / bucket search on an unambiguous grammar yields is a member
    of the grammar — `U.genU`, the specification of PS/Model/Ucfg.lean (a derivation from a start
    symbol exists), for the rule table stripped of its weights.  Every grammar (recursive or not,
    ambiguous or not), priority type, threshold, filter, fuel, number of steps. -/
theorem C02_HS_U_sound (E : UHS.Env U π) (H : GHyp E) (d : UHS.UNT U) (fuel k : Nat) (s' : UHS.St U π)
    (out : List Prog) (b : Bool) (h : UHS.take E fuel k (UHS.St.empty E.G) [] = some (s', out, b)) :
    ∀ p ∈ out, PS.U.genU (E.G.toUCFG d) p = true := take_sound_genU H d h

/-! non-vacuity: three start symbols, two alternatives for `+` at `S2`:
    `S0 → 1 | var0`, `S1 → + S0 S0`, `S2 → + S0 S1 | + S1 S0`; 2 + 4 + 16 = 22 programs -/
def Gu : UG Nat :=
  { starts := [(s2, 1/2), (s0, 1/4), (s1, 1/4)],
    rules := [(s1, [(plus, [([s0, s0], 1)])]), (s0, [(one, [([], 1/4)]), (v0, [([], 3/4)])]),
              (s2, [(plus, [([s0, s1], 3/5), ([s1, s0], 2/5)])])] }
def Eu : UHS.Env Nat Rat := { G := Gu, ops := UHS.probOps 0, filter := fun _ => true, kway := true }
def Eub : UHS.Env Nat UHS.Bucket := { G := Gu, ops := UHS.bucketOps 3 false, filter := fun _ => true, kway := true }

/-! the Boolean checks on `Gu` that the hypotheses of both machines (`Eu`, `Eub`) are built from -/
theorem Gu_rows : rowsB Gu = true := by decide
theorem Gu_arity : arityB Gu = true := by decide
theorem Gu_budet : budetB Gu = true := by decide
theorem Gu_altKeys : altKeysB Gu = true := by decide
theorem Gu_flat : flatB Gu = true := by decide
theorem Gu_leafOne : leafOneB Gu = true := by decide
theorem Gu_starts : (Gu.starts.map (·.1)).Nodup := by decide

theorem Eu_hyp : GHyp Eu := GHyp.of_checks Eu Gu_rows Gu_arity rfl
theorem Eub_hyp : GHyp Eub := GHyp.of_checks Eub Gu_rows Gu_arity rfl

/-- the machine yields the 22 programs and stops (kernel evaluation; Props/C03_HS.lean speaks of the same
    two runs) -/
theorem Eu_run : (UHS.take Eu 60 30 (UHS.St.empty Gu) []).map (fun r => (r.2.1.length, r.2.2)) = some (22, true) := by
  decide +kernel
theorem Eub_run : (UHS.take Eub 60 30 (UHS.St.empty Gu) []).map (fun r => (r.2.1.length, r.2.2)) = some (22, true) := by
  decide +kernel

example : (UHS.take Eu 60 30 (UHS.St.empty Gu) []).map (fun r => (r.2.1.length, r.2.2)) = some (22, true) := Eu_run
example : (UHS.take Eub 60 30 (UHS.St.empty Gu) []).map (fun r => (r.2.1.length, r.2.2)) = some (22, true) := Eub_run

example : ∀ s' out b, UHS.take Eu 60 30 (UHS.St.empty Gu) [] = some (s', out, b) →
    ∀ p ∈ out, PS.U.genU (Gu.toUCFG s0) p = true :=
  fun s' out b h => C02_HS_U_sound Eu Eu_hyp s0 60 30 s' out b h
example : ∀ s' out b, UHS.take Eub 60 30 (UHS.St.empty Gu) [] = some (s', out, b) →
    ∀ p ∈ out, PS.U.genU (Gu.toUCFG s0) p = true :=
  fun s' out b h => C02_HS_U_sound Eub Eub_hyp s0 60 30 s' out b h

/-- NO DUPLICATES, the inner step: `UHS.NInv E s` says of every non-terminal what `HS.NInv` says
    (`C02_HS_query_nodup`), with a non-empty `deleted` set allowed under `UHS.NoReent` (`NInv.del_ok`).
    `query` keeps it, only adds entries to the `succ` tables (`UHS.Stable`) and returns the entry
    `succ[nt][program]` of the new state.  Any grammar, priority type, threshold. -/
theorem C02_HS_U_query_nodup (E : UHS.Env U π) (H : GHyp E) (n : Nat) (s s' : UHS.St U π) (nt : UHS.UNT U)
    (p r : Option Prog) (hs : NInv E s) (hss : UHS.SInv E s) (h : UHS.query E n s nt p = some (s', r)) :
    NInv E s' ∧ Stable s s' ∧ ∀ q, r = some q → AList.lookup p (s'.succOf nt) = some q :=
  big_nodup E H (big_of_query E h) hss trivial hs trivial

/-- **NO DUPLICATES** (every prefix, every fuel): the sequence yielded by heap search / bucket search
    on an UNAMBIGUOUS grammar has no repeated program.  `hunamb`: the specification `U.unambiguousOn`
    (at most one derivation from at most one start symbol) for every program — only the consequence
    "the languages of two start symbols are disjoint" is used; `hstarts`: `G.starts` is a set;
    `hf`: no filter (with a filter: `C02_HS_U_filter_nodup`).  Any grammar shape (recursive too),
    any priority type, threshold.
    Idea: the programs taken from one start symbol are the chain of `succ[start]` from the sentinel,
    which cannot repeat because `succ[start]` is injective (`UHS.chainR_nodup`); the start heap holds at
    most one entry per start symbol (`UHS.GInv`). -/
theorem C02_HS_U_nodup (E : UHS.Env U π) (H : GHyp E) (d : UHS.UNT U)
    (hunamb : ∀ p, PS.U.unambiguousOn (E.G.toUCFG d) p = true) (hstarts : (E.G.starts.map (·.1)).Nodup)
    (hf : ∀ p, E.filter p = true) (fuel k : Nat) (s' : UHS.St U π) (out : List Prog) (b : Bool)
    (h : UHS.take E fuel k (UHS.St.empty E.G) [] = some (s', out, b)) : out.Nodup :=
  (take_nodup E ⟨H, sdisj_of_unambiguous E d hunamb, hstarts, Or.inl hf⟩ fuel k s' out b h).1

/-- the same from the decidable criterion `UHS.BUDet` (a symbol and the non-terminals of its arguments
    determine the non-terminal: the shape produced by `UCFG.from_DFTA`), which implies unambiguity -/
theorem C02_HS_U_nodup_det (E : UHS.Env U π) (H : GHyp E) (hdet : BUDet E) (hstarts : (E.G.starts.map (·.1)).Nodup)
    (hf : ∀ p, E.filter p = true) (fuel k : Nat) (s' : UHS.St U π) (out : List Prog) (b : Bool)
    (h : UHS.take E fuel k (UHS.St.empty E.G) [] = some (s', out, b)) : out.Nodup :=
  (take_nodup E ⟨H, sdisj_of_budet E hdet, hstarts, Or.inl hf⟩ fuel k s' out b h).1

/-- with a filter installed, when `__add_successors__(p, S)` does not re-enter `query(S, ·)`
    (`UHS.NoReent`; true on acyclic grammars): no duplicates, and only accepted programs are yielded -/
theorem C02_HS_U_filter_nodup (E : UHS.Env U π) (H : GHyp E) (hdisj : SDisj E)
    (hstarts : (E.G.starts.map (·.1)).Nodup) (hre : NoReent E) (fuel k : Nat) (s' : UHS.St U π) (out : List Prog)
    (b : Bool) (h : UHS.take E fuel k (UHS.St.empty E.G) [] = some (s', out, b)) :
    out.Nodup ∧ ∀ p ∈ out, E.filter p = true :=
  take_nodup E ⟨H, hdisj, hstarts, Or.inr hre⟩ fuel k s' out b h

theorem Eu_det : BUDet Eu := budet_of_check Eu Gu_budet
theorem Eub_det : BUDet Eub := budet_of_check Eub Gu_budet

example : ∀ s' out b, UHS.take Eu 60 30 (UHS.St.empty Gu) [] = some (s', out, b) → out.Nodup :=
  fun s' out b h => C02_HS_U_nodup_det Eu Eu_hyp Eu_det Gu_starts (fun _ => rfl) 60 30 s' out b h
example : ∀ s' out b, UHS.take Eub 60 30 (UHS.St.empty Gu) [] = some (s', out, b) → out.Nodup :=
  fun s' out b h => C02_HS_U_nodup_det Eub Eub_hyp Eub_det Gu_starts (fun _ => rfl) 60 30 s' out b h

/-- **COMPLETENESS WHEN THE GENERATOR STOPS** — unambiguous-grammar machine (heap search
    `UHeapSearch` or any priority type with a monotone `combine`; no threshold, no filter) on an ACYCLIC
    UNAMBIGUOUS grammar with several start symbols: if after `k` calls of `next` the generator has raised
    `StopIteration`, every member of the grammar (`U.genU`) was yielded.
    `UHS.RHyp`: dict keys distinct, `rank` decreases along the alternatives, alternatives unambiguous, start
    languages disjoint, no threshold, and a set `Good` of priorities that holds those of all derivations, on which `<`
    is a strict weak order and `combine`, `adjust_priority_for_start` are monotone. Heap search: `Good` is `0 ≤ ·`, from
    the Boolean checks of `UHS.rhyp_prob` on a literal grammar (`weightsB`: weights non-negative).
    Proof: as `C02_HS_complete`, with the invariant `UHS.CInv` (also: the initial program of every
    alternative was pushed) kept by every call (`UHS.big_order`), so that an exhausted non-terminal has
    popped its whole language (`UHS.exhausted_complete`); when the start heap is empty every start symbol
    answered `None` and everything it popped was handed over (`UHS.OC`). -/
theorem C02_HS_U_complete (E : UHS.Env U π) (rank : UHS.UNT U → Nat) (Good : π → Prop) (R : RHyp E rank Good)
    (hf : ∀ p, E.filter p = true) (d : UHS.UNT U) (fuel k : Nat) (s' : UHS.St U π) (out : List Prog)
    (h : UHS.take E fuel k (UHS.St.empty E.G) [] = some (s', out, true)) :
    ∀ p, PS.U.genU (E.G.toUCFG d) p = true → p ∈ out :=
  fun p hp => take_complete_genU R d fuel k s' out h p hp (PS.HG.clean_of_all E.filter hf p)

/-- **exactly once**: when the generator stops, its output lists the language without repetition -/
theorem C02_HS_U_exactly_once (E : UHS.Env U π) (rank : UHS.UNT U → Nat) (Good : π → Prop) (R : RHyp E rank Good)
    (hf : ∀ p, E.filter p = true) (d : UHS.UNT U) (fuel k : Nat) (s' : UHS.St U π) (out : List Prog)
    (h : UHS.take E fuel k (UHS.St.empty E.G) [] = some (s', out, true)) :
    out.Nodup ∧ ∀ p, p ∈ out ↔ PS.U.genU (E.G.toUCFG d) p = true :=
  ⟨(take_nodup E R.nhyp fuel k s' out true h).1,
   fun p => ⟨fun hp => C02_HS_U_sound E R.ohyp.ghyp d fuel k s' out true h p hp,
             fun hp => C02_HS_U_complete E rank Good R hf d fuel k s' out h p hp⟩⟩

/-- the inner statement: in a quiescent state, an exhausted non-terminal has popped every program
    derivable from it all of whose sub-programs are accepted by the filter (`HG.clean`; no filter: every
    derivable program, `HG.clean_of_all`) -/
theorem C02_HS_U_exhausted_complete (E : UHS.Env U π) (rank : UHS.UNT U → Nat) (Good : π → Prop) (H : OHyp E rank Good)
    (s : UHS.St U π) (hb : Base E s) (hall : All E rank s) (nt : UHS.UNT U) (hf : Full E rank s nt)
    (hempty : s.heapOf nt = []) (p : Prog) (hg : Der E p nt) (hcl : PS.HG.clean E.filter p = true) :
    ∃ k, AList.lookup k (s.succOf nt) = some p :=
  exhausted_complete H hb hall (rank nt) nt rfl hf hempty p hg hcl

def uRank2 (nt : UHS.UNT Nat) : Nat := nt.2

theorem Gu_acyclic : acyclicB Gu uRank2 = true := by decide

theorem Eu_rhyp : RHyp Eu uRank2 (fun v : Rat => 0 ≤ v) :=
  rhyp_prob Eu uRank2 rfl rfl Gu_rows Gu_arity Gu_acyclic Gu_budet Gu_altKeys Gu_flat Gu_leafOne (by decide +kernel) Gu_starts

/-- on the three-start grammar the generator stops after its 22 programs, which are exactly the language -/
example : ∀ s' out, UHS.take Eu 60 30 (UHS.St.empty Gu) [] = some (s', out, true) →
    out.Nodup ∧ ∀ p, p ∈ out ↔ PS.U.genU (Gu.toUCFG s0) p = true :=
  fun s' out h => C02_HS_U_exactly_once Eu uRank2 _ Eu_rhyp (fun _ => rfl) s0 60 30 s' out h

/-- **every `query(S, program)` returns** (no KeyError, no failed assertion, fuel not exhausted) with fuel
    `(rank S + 1) · (L + Al + A + 6 + D)` in a state that satisfies the invariants, `L` / `Al` / `A` bounding
    the number of rules of a non-terminal, of alternatives of a rule and of arguments (`UHS.THyp`: also
    every non-terminal used has a row and no row is empty), `D` bounding the number of rejected programs
    (the pop loop skips each of them at most once per non-terminal: `UHS.addSucc_proc`, `UHS.undone_lt`) -/
theorem C02_HS_U_query_total (E : UHS.Env U π) (rank : UHS.UNT U → Nat) (Good : π → Prop) (H : OHyp E rank Good)
    (L Al A D : Nat) (T : THyp E L Al A) (nt : UHS.UNT U) (hrow : ∃ rs, AList.lookup nt E.G.rules = some rs)
    (n : Nat) (s : UHS.St U π) (p : Option Prog) (hn : (rank nt + 1) * (L + Al + A + 6 + D) ≤ n)
    (hb : Base E s) (hc : CacheC s) (hD : s.deleted.length ≤ D) (hpre : OPre E rank (.query nt p) s) :
    ∃ res, UHS.query E n s nt p = some res :=
  (low_all H T D (rank nt + 1)).query nt (Nat.lt_succ_self _) hrow n s p hn hb hc hD hpre

/-- **TERMINATION** (with or without filter): with fuel at least `(rank start + 1) · (L + Al + A + 6 + N)` for every
    start symbol and at least `N + 1`, `N` the length of the finite list `UHS.langList` that contains the
    language, the generator raises `StopIteration` after finitely many `next` (every `next` returns:
    `UHS.next_total`; the programs taken from the start heap are distinct members of a finite language) -/
theorem C02_HS_U_stops (E : UHS.Env U π) (rank : UHS.UNT U → Nat) (Good : π → Prop) (R : RHyp E rank Good)
    (L Al A : Nat) (T : THyp E L Al A) (fuel : Nat)
    (hf : FuelOK E rank (L + Al + A + 6 + (langList E rank).length) fuel) (hN : (langList E rank).length + 1 ≤ fuel) :
    ∃ k s' out, UHS.take E fuel k (UHS.St.empty E.G) [] = some (s', out, true) :=
  take_stops R T hf hN

/-- **C02 FOR THE UNAMBIGUOUS-GRAMMAR MACHINE ON ACYCLIC UNAMBIGUOUS GRAMMARS (full statement)**: for every
    sufficient fuel there is a number `k` of `next` steps after which the generator has stopped, and its
    output lists the language `U.genU` (several start symbols) without repetition: every program exactly once.
    Heap search = `UHeapSearch` with threshold 0 and no filter (`UHS.rhyp_prob`); the theorem holds for
    every priority type with a strict weak order on the priorities of derivations and a monotone `combine`. -/
theorem C02_HS_U_full (E : UHS.Env U π) (rank : UHS.UNT U → Nat) (Good : π → Prop) (R : RHyp E rank Good)
    (hnf : ∀ p, E.filter p = true) (L Al A : Nat) (T : THyp E L Al A) (d : UHS.UNT U) (fuel : Nat)
    (hf : FuelOK E rank (L + Al + A + 6 + (langList E rank).length) fuel) (hN : (langList E rank).length + 1 ≤ fuel) :
    ∃ k s' out, UHS.take E fuel k (UHS.St.empty E.G) [] = some (s', out, true) ∧
      out.Nodup ∧ ∀ p, p ∈ out ↔ PS.U.genU (E.G.toUCFG d) p = true := by
  obtain ⟨k, s', out, h⟩ := take_stops R T hf hN
  exact ⟨k, s', out, h, C02_HS_U_exactly_once E rank Good R hnf d fuel k s' out h⟩

/-- the example grammar: at most 2 rules per non-terminal, 2 alternatives, 2 arguments; max rank 2; the list
    `langList` has 22 entries: enough fuel is 3 · (2 + 2 + 2 + 6 + 22) = 102 -/
theorem Gu_thyp : thypB Gu 2 2 2 = true := by decide
theorem Gu_fuel : fuelB Gu uRank2 34 102 = true := by decide

theorem Eu_thyp : THyp Eu 2 2 2 := thyp_of_check Eu 2 2 2 Gu_thyp

theorem Eu_langList : (langList Eu uRank2).length = 22 := by decide +kernel

example : ∃ k s' out, UHS.take Eu 102 k (UHS.St.empty Gu) [] = some (s', out, true) ∧
    out.Nodup ∧ ∀ p, p ∈ out ↔ PS.U.genU (Gu.toUCFG s0) p = true :=
  C02_HS_U_full Eu uRank2 _ Eu_rhyp (fun _ => rfl) 2 2 2 Eu_thyp s0 102
    (by rw [Eu_langList]; exact fuelOK_of_check Eu uRank2 34 102 Gu_fuel) (by rw [Eu_langList]; decide)

/-- with that fuel the machine does stop after its 22 programs (kernel evaluation) -/
example : (UHS.take Eu 102 30 (UHS.St.empty Gu) []).map (fun r => (r.2.1.length, r.2.2)) = some (22, true) := by
  decide +kernel

/-- **C02 FOR THE UNAMBIGUOUS BUCKET SEARCH** (`BucketSearch` of u_heap_search.py, no filter) on acyclic
    unambiguous grammars with several start symbols: the instance of `C02_HS_U_full` for bucket tuples
    (`UHS.rhyp_bucket`: `Bucket.__lt__` is a strict weak order on the tuples of one size, `+=` and
    `add_prob_uniform` are monotone) — the generator stops and yields every program exactly once -/
theorem C02_HS_U_bucket_full (E : UHS.Env U UHS.Bucket) (rank : UHS.UNT U → Nat) (size : Nat)
    (R : RHyp E rank (fun b : UHS.Bucket => b.length = size)) (hnf : ∀ p, E.filter p = true) (L Al A : Nat)
    (T : THyp E L Al A) (d : UHS.UNT U) (fuel : Nat)
    (hf : FuelOK E rank (L + Al + A + 6 + (langList E rank).length) fuel) (hN : (langList E rank).length + 1 ≤ fuel) :
    ∃ k s' out, UHS.take E fuel k (UHS.St.empty E.G) [] = some (s', out, true) ∧
      out.Nodup ∧ ∀ p, p ∈ out ↔ PS.U.genU (E.G.toUCFG d) p = true :=
  C02_HS_U_full E rank _ R hnf L Al A T d fuel hf hN

theorem Eub_rhyp : RHyp Eub uRank2 (fun b : UHS.Bucket => b.length = 3) :=
  rhyp_bucket Eub uRank2 3 rfl rfl Gu_rows Gu_arity Gu_acyclic Gu_budet Gu_altKeys Gu_flat Gu_leafOne Gu_starts

theorem Eub_langList : (langList Eub uRank2).length = 22 := by decide +kernel

example : ∃ k s' out, UHS.take Eub 102 k (UHS.St.empty Gu) [] = some (s', out, true) ∧
    out.Nodup ∧ ∀ p, p ∈ out ↔ PS.U.genU (Gu.toUCFG s0) p = true :=
  C02_HS_U_bucket_full Eub uRank2 3 Eub_rhyp (fun _ => rfl) 2 2 2 (thyp_of_check Eub 2 2 2 Gu_thyp) s0 102
    (by rw [Eub_langList]; exact fuelOK_of_check Eub uRank2 34 102 Gu_fuel) (by rw [Eub_langList]; decide)
end UMachine

end PS.C02HS
