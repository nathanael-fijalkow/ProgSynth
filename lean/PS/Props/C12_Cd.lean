/-
  C12, part cd — filter and merges during constant-delay search.

  FULL STATEMENT: with a filter, each program at most once, every program all of whose sub-programs
  are accepted is yielded, none rejected; after `merge_program(rep, other)` exactly the not-yet-yielded
  programs not containing `other`; termination.

  Proved here, for every arithmetic, grammar, filter, fuel, state and history: safety at the yield site (what is
  yielded was accepted by the filter and is not in `_deleted`; `merge_program` only adds to `_deleted`) and, for
  grammars whose rows are dicts, each program at most once, with a filter and across merges of programs that are only
  derivable from non-terminals of their declared type (C12_Cd_filter_nodup, C12_Cd_hist_nodup with `ActsOK`).  That `merge_program` only removes from the banks is proved (`merge_bank_sub`, CDGMerge.lean) and
  used for C12_Cd_hist_nodup; no statement of this file says it (see C12_Cd_merge).
  The liveness half is FALSE on the code as it is: finding_C12_F6, kernel-evaluated on the model with exact rationals.
  The merge half is also false (finding C12-F5, witnessed on the implementation, see
  proposed_findings/cd.json): removing `other` from a bank can leave an empty cost level, which
  `query_derivation` takes for an exhausted argument and stops generating successors.
  NOT proved: the liveness half (false), the merge half (false), termination.
-/
import PS.Model.Enum.ConstantDelay
import PS.Proofs.Enum.CDSound
import PS.Proofs.Enum.CDGRun
import PS.Proofs.Enum.CDGMerge
namespace PS.C12Cd
open PS PS.CD

variable {α : Type}

/-- **`next(generator)` only yields programs accepted by the filter and not in `_deleted`** at that moment (so a program
    merged away or rejected earlier, which stays in `_deleted`, is not yielded by that step) -/
theorem C12_Cd_yield_accepted (E : Env α) (fuel : Nat) (g g' : Gen α) (p : Prog)
    (h : next E fuel g = some (g', some p)) : E.filter p = true ∧ p ∉ g'.st.deleted :=
  next_yield E fuel g g' p h

/-- every `yield` of `query(S, cost_index)`, inner or top-level -/
theorem C12_Cd_query_yield (E : Env α) (f : Nat) (s : St α) (fr : Frame α) (s' : St α) (fr' : Frame α) (p : Prog)
    (h : resume E f s fr = some (.yield s' fr' p)) : E.filter p = true ∧ p ∉ s'.deleted :=
  resume_yield E f s fr s' fr' p h

/-- every prefix of the output consists of accepted programs -/
theorem C12_Cd_take_accepted (E : Env α) (fuel k : Nat) (g g' : Gen α) (ys : List Prog) (fin : Bool)
    (h : take E fuel k g [] = some (g', ys, fin)) : ∀ p ∈ ys, E.filter p = true :=
  take_accepted E fuel k g [] g' ys fin h (by simp)

theorem C12_Cd_rejected_deleted (s : St α) (p q : Prog) :
    p ∈ (s.addDeleted p).deleted ∧ (q ∈ s.deleted → q ∈ (s.addDeleted p).deleted) :=
  ⟨mem_addDeleted s p, fun h => (addDeleted_deleted s p q).mpr (Or.inl h)⟩

/-- `merge_program(representative, other)`: `other` is in `_deleted`, nothing leaves `_deleted`.  The last two conjuncts are
    about `removeFirst other` (`programs.remove(other)`) on an arbitrary list `l`, not about `merge` or a bank: the list
    only loses elements, and loses exactly one occurrence of `other` when it had one.  That `merge` applies `removeFirst
    other` to every list of the banks it visits and leaves the others alone is `merge_lookup` (CDStep.lean), which is
    not part of this statement. -/
theorem C12_Cd_merge (E : Env α) (g : Gen α) (other : Prog) (ty : Nat) :
    other ∈ (merge E g other ty).st.deleted ∧ (∀ q ∈ g.st.deleted, q ∈ (merge E g other ty).st.deleted) ∧
    (∀ (l : List Prog) (x : Prog), x ∈ removeFirst other l → x ∈ l) ∧
    (∀ (l : List Prog), other ∈ l → (removeFirst other l).length + 1 = l.length) :=
  ⟨(merge_deleted E g other ty).1, (merge_deleted E g other ty).2, removeFirst_sub other, removeFirst_count other⟩

/-- S → c1 (cost 4) | f0(A) (cost 0), A → var0 (1) | var1 (3) | c1 (1); symbols: 0 = c1, 1 = f0, 2 = var0, 3 = var1 -/
def gF6 : Gram :=
  { start := 0,
    rules := [(0, [(0, ([], 4)), (1, ([1], 0))]), (1, [(2, ([], 1)), (3, ([], 3)), (0, ([], 1))])],
    ty := [(0, 0), (1, 0)] }

/-- the filter rejects every application of `f0` -/
def envF6 : Env Rat := { A := ratArith, G := gF6, k := 1, filter := fun p => p.label != 1 }

/-- the generator stops WITHOUT yielding `c1`, a program of the language all of whose sub-programs are accepted: the cost
    level 1 of S produces nothing but pushes a successor (allowed empty), the cost level 3 produces nothing and pushes no
    successor, which `generator()` takes for exhaustion although the heap of S still holds `c1` -/
theorem finding_C12_F6 :
    ((Gen.new envF6).bind fun g => take envF6 1000 10 g []).map (fun r => (r.2.1, r.2.2)) = some ([], true) ∧
    envF6.filter (.node 0 []) = true ∧ gF6.rule? 0 0 = some ([], 4) := by
  refine ⟨?_, ?_, ?_⟩ <;> decide +kernel

/-- non-vacuity of C12_Cd_yield_accepted: without the filter the same grammar yields (the run is defined
    and produces programs) -/
example : ((Gen.new { envF6 with filter := fun _ => true }).bind fun g =>
    take { envF6 with filter := fun _ => true } 1000 10 g []).map (fun r => (r.2.1.length, r.2.2)) = some (4, true) := by
  decide +kernel

/-- **NO DUPLICATES WITH A FILTER, NONE REJECTED.**  For every filter, arithmetic, grammar whose rows have distinct keys,
    `k`, fuel: the programs yielded by `k` calls of `next` on a new enumerator are pairwise distinct and each of them was
    accepted by the filter; the filter only makes `query` skip programs (`_deleted`), which never re-enter a bank.
    (Scope: no `merge_program` in the history.) -/
theorem C12_Cd_filter_nodup (E : Env α) (hG : RowsNodup E.G) (fuel k : Nat) (g g' : Gen α) (ys : List Prog) (fin : Bool)
    (hnew : Gen.new E = some g) (h : take E fuel k g [] = some (g', ys, fin)) :
    ys.Nodup ∧ (∀ p ∈ ys, E.filter p = true) ∧ BInv g'.st := by
  obtain ⟨a, b, _⟩ := take_new hG hnew h
  exact ⟨b, C12_Cd_take_accepted E fuel k g g' ys fin h, a.ninv.binv⟩

/-- non-vacuity: the grammar of finding C12-F6 with the filter rejecting every application of `f0`: the run is
    defined -/
example : ((Gen.new envF6).map fun g => (take envF6 1000 10 g []).isSome) = some true := by
  have h := finding_C12_F6.1
  cases hg : Gen.new envF6 with
  | none => simp [hg] at h
  | some g =>
    cases ht : take envF6 1000 10 g [] with
    | none => simp [hg, ht] at h
    | some r => simp [ht]

/-- **EACH PROGRAM AT MOST ONCE, WITH A FILTER AND MERGES.**  For every filter, arithmetic, grammar whose rows have distinct
    keys, `k`, fuel and every history of `next` / `merge_program(rep, other)` calls on a new enumerator in which every
    merged program is only derivable from non-terminals of its declared type: no program is yielded twice, and every
    yielded program is still in a bank of the start symbol or in `_deleted` (a program removed by a merge is in
    `_deleted` and never re-enters a bank). -/
theorem C12_Cd_hist_nodup (E : Env α) (hG : RowsNodup E.G) (fuel : Nat) (acts : List Act) (g g' : Gen α) (ys : List Prog)
    (hnew : Gen.new E = some g) (hacts : ActsOK E acts) (h : runHist E fuel acts g [] = some (g', ys)) :
    ys.Nodup ∧ (∀ q ∈ ys, InBank g'.st E.G.start q ∨ q ∈ g'.st.deleted) :=
  (runHist_new hG hnew hacts h).2

end PS.C12Cd
