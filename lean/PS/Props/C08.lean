/-
  C08 — splitting a probabilistic unambiguous grammar (grammar_splitter.py after the repairs
  C08-F1 and C08-F2).

  Every statement is for EVERY well-formed grammar (`WF`, a decidable check the driver evaluates on
  the grammar of every case) and EVERY operation trace of the balancing loop (whatever the floating
  point comparisons decided); the pipeline theorems take one number `splits > 0` as the quantity of
  nodes and as the number of groups, as `__split_into_nodes__` does (grammar_splitter.py:201,204).
  First the nodes: at every stage of
  `__split_into_nodes__` they are a prefix-free cover of the derivations of the grammar, so the
  cells of different groups are disjoint and their union is the language, and the masses add up.
  Then the fragment grammar `__pcfg_from__` builds for a group (`pcfgFrom`): up to the renaming of
  its non-terminals it has exactly the derivations in the cells of the group's nodes, each once,
  with its original probability divided by the mass of the group, and it is normalised.
  Hypotheses on the grammar are decidable.  The driver (Drv/C08.lean) evaluates `WF` and
  `normalised` on the grammar and on the model's fragments, `validB` on the nodes and `coverUpTo` on
  the groups of the implementation.  `tagsNorm` (every row of the weight table sums to 1), `posW`
  (positive weights) and, for `C08_fragment_normalised`, `closedG` / `posRows` (every non-terminal
  that occurs has a non-empty row of positive weights) are hypotheses on the input that no check
  evaluates; `normalised` sums `tagOf` over the alternatives of the rule table, `tagsNorm` sums the
  rows of `tags`, and no lemma relates the two.

  NOT proved: termination of the balancing loop, the number of fragments and the returned ratio
  (decided in floating point by the implementation; the operation trace is an input of the model),
  and that the model is the Python code (correspondence is tested on every case by the harness).
-/
import PS.Proofs.Splitter
import PS.Proofs.SplitterProb
import PS.Proofs.SplitterTotal
import PS.Proofs.SplitterNorm
namespace PS.Sp
open PS PS.G

variable {U : Type} [DecidableEq U]

/-- the start symbols are a cover -/
theorem C08_cover_start (pg : PUG U) (hw : WF pg = true) : IsCover pg.g (startNodes pg) :=
  cover_start (WF_sound hw)

/-- whatever `__split_nodes_until_quantity_reached__` returns is a cover -/
theorem C08_cover_nodes (pg : PUG U) (hw : WF pg = true) (quantity fuel : Nat) (nodes : List (Node U))
    (h : splitUntil pg quantity fuel (startNodes pg) = some nodes) : IsCover pg.g nodes :=
  splitUntil_cover (WF_sound hw) quantity fuel _ _ h (cover_start (WF_sound hw))

/-- every operation trace keeps the cover: swaps and takes move nodes, a split replaces a node
    by all its one-step extensions -/
theorem C08_cover_invariant (pg : PUG U) (hw : WF pg = true) (pgs pgs' : PG U) (trace : List Op)
    (hc : IsCover pg.g (flat pgs)) (h : applyTrace pg pgs trace = some pgs') :
    IsCover pg.g (flat pgs') :=
  applyTrace_cover (WF_sound hw) trace pgs pgs' h hc

/-- the whole of `__split_into_nodes__` for `splits > 0` (quantity of nodes and number of groups, as in
    the code), for whatever the balancing loop decided -/
theorem C08_cover_pipeline (pg : PUG U) (hw : WF pg = true) (splits fuel : Nat) (hs : 0 < splits)
    (nodes : List (Node U)) (trace : List Op) (pgs' : PG U)
    (h1 : splitUntil pg splits fuel (startNodes pg) = some nodes)
    (h2 : applyTrace pg (initGroups nodes splits) trace = some pgs') :
    IsCover pg.g (flat pgs') :=
  C08_cover_invariant pg hw _ _ trace
    (cover_of_perm (initGroups_perm nodes splits hs).symm (C08_cover_nodes pg hw splits fuel nodes h1)) h2

/-- **partition**: every derivation of the grammar lies in the cell of a node of exactly one
    group -/
theorem C08_partition (G : UG U) (pgs : PG U) (hc : IsCover G (flat pgs)) (s : UNT U) (w : List (Step U))
    (hd : Deriv G s w) :
    ∃ (i : Nat) (g : List (Node U) × Rat), pgs[i]? = some g ∧ (∃ n ∈ g.1, Matches n s w) ∧
      ∀ (j : Nat) (g' : List (Node U) × Rat), pgs[j]? = some g' → j ≠ i → ∀ n ∈ g'.1, ¬ Matches n s w := by
  obtain ⟨i, g, hg, h1, h2⟩ := unique_group (fun n => decide (Matches n s w)) pgs (hc.2 s w hd)
  refine ⟨i, g, hg, ?_, ?_⟩
  · have : 0 < g.1.countP (fun n => decide (Matches n s w)) := by omega
    obtain ⟨n, hn, hp⟩ := List.countP_pos_iff.mp this
    exact ⟨n, hn, of_decide_eq_true hp⟩
  · intro j g' hj hne n hn hm
    have := List.countP_eq_zero.mp (h2 j g' hj hne) n hn
    exact this (decide_eq_true hm)

/-- one split step conserves the mass (times the total weight of the rules, 1 when normalised) -/
theorem C08_mass_split (pg : PUG U) (hw : WF pg = true) (n : Node U) (kids : List (Node U))
    (h : nodeSplit pg n = (true, kids)) :
    (kids.map (·.prob)).sum = n.prob * ((alts pg.g n.S).map (fun pa => tagOf pg n.S pa.1 pa.2)).sum :=
  kids_mass (WF_sound hw) h

/-- **mass of a cell**: the derivations that start like the node and need at most `k` more steps
    weigh start weight × weight of the node's path × mass of the continuations -/
theorem C08_mass (pg : PUG U) (k : Nat) (n : Node U) :
    ((cell pg.g k n).map (fun d => derivProb pg d.1 d.2)).sum =
      (AList.lookup n.start pg.startTags).getD 0 * stepsProb pg n.steps * tailMass pg k n.config := by
  simp only [cell, List.map_map, Function.comp_def, derivProb, stepsProb_append, ← Rat.mul_assoc]
  rw [sum_map_mul_left, completions_mass]

/-- the weights required of a fragment (`cellSpec`: original probability / mass of the group) sum
    to 1 -/
theorem C08_reweight (pg : PUG U) (k : Nat) (group : List (Node U))
    (hm : ((group.flatMap (cell pg.g k)).map (fun d => derivProb pg d.1 d.2)).sum ≠ 0) :
    ((cellSpec pg k group).map (·.2)).sum = 1 := by
  simp only [cellSpec, List.map_map, Function.comp_def]
  exact (sum_map_div _ _ _).trans (rat_div_self _ hm)

def exS : UNT Nat := (Ty.base "t", 0)
def exA : UNT Nat := (Ty.base "t", 1)
def sF : Sym := Sym.prim "f" Ty.unknown
def sC : Sym := Sym.prim "c" Ty.unknown
def sA : Sym := Sym.prim "a" Ty.unknown
def sB : Sym := Sym.prim "b" Ty.unknown

/-- the grammar of the examples: S → f(A, A) | c,  A → a | b  with dyadic weights -/
def exG : PUG Nat :=
  { g := { starts := [exS], someStart := exS,
           rules := [(exS, [(sF, [[exA, exA]]), (sC, [[]])]), (exA, [(sA, [[]]), (sB, [[]])])] },
    tags := [(exS, [(sF, [([exA, exA], 3/4)]), (sC, [([], 1/4)])]), (exA, [(sA, [([], 1/2)]), (sB, [([], 1/2)])])],
    startTags := [(exS, 1)] }

example : WF exG = true := by decide +kernel
example : normalised exG = true := by decide +kernel
/-- three nodes: `c`, `f a ·`, `f b ·` -/
example : ((splitUntil exG 3 10 (startNodes exG)).map (·.length)) = some 3 := by decide +kernel
/-- a trace with a take, a swap and a split is applicable and keeps the cover of the 5 derivations -/
example : ((splitUntil exG 3 10 (startNodes exG)).bind (fun ns =>
    applyTrace exG (initGroups ns 2) [.swap 0 1 none 0, .splitIn 1, .swap 0 1 (some 0) 1])).map
      (fun pgs => (coverUpTo exG.g 5 (flat pgs), (flat pgs).length, (derivations exG.g 5).length)) = some (true, 4, 5) := by
  decide +kernel
example : Deriv exG.g exS [(exS, sF, [exA, exA]), (exA, sA, []), (exA, sB, [])] := by
  refine ⟨by simp [exG], ?_⟩
  decide +kernel
example : ((cell exG.g 5 ⟨3/8, [], exA, [sF, sA], [exS, exA], [[exA, exA], []]⟩).length,
    tailMass exG 5 [exA]) = (2, 1) := by decide +kernel

/-- `__try_split_node_in_group__` BEFORE the repair C08-F1 (grammar_splitter.py:102-123 of the
    unrepaired file, with the group read from `prob_groups[i][0]`): the i-th most probable node is
    split, but `group_a.pop(-i)` removes the node at position -i of the *unsorted* group. -/
def trySplitOld {U : Type} [DecidableEq U] (pg : PUG U) (pgs : PG U) (gi : Nat) : Option (PG U) :=
  match pgs[gi]? with
  | none => none
  | some ga =>
    match trySplitLoop pg ga.1 (orderOf ga.1) (ga.1.length + 1) 1 with
    | none => none
    | some (idx, kids) =>
      let i := (orderOf ga.1).length - (orderOf ga.1).idxOf idx
      if i ≥ ga.1.length then none else
      some (pgs.set gi (ga.1.eraseIdx (ga.1.length - i) ++ kids, ga.2))

def exNodeF : Node Nat := ⟨3/4, [exA], exA, [sF], [exS], [[exA, exA]]⟩
def exNodeC : Node Nat := ⟨1/4, [], (Ty.unknown, 0), [sC], [exS], [[]]⟩

/-- finding C08-F1 (witness on the model): the group `[f · ·, c]` is a cover; the unrepaired
    split step splits `f · ·` but removes `c`, so the result is not a cover. -/
theorem finding_C08_F1_old_split_step_loses_a_node :
    coverUpTo exG.g 5 (flat [([exNodeF, exNodeC], 1)]) = true ∧
    (trySplitOld exG [([exNodeF, exNodeC], 1)] 0).map (fun pgs => (coverUpTo exG.g 5 (flat pgs), (flat pgs).length))
      = some (false, 3) ∧
    (trySplit exG [([exNodeF, exNodeC], 1)] 0).map (fun pgs => (coverUpTo exG.g 5 (flat pgs), (flat pgs).length))
      = some (true, 3) := by
  decide +kernel

/-- **language of a fragment.**  `pcfgFrom` is the model of `__pcfg_from__`; its non-terminals are
    copies `(type, (u, k))` of the original `(type, u)`, `er` forgets the number `k` and `erStep`
    does so in a derivation step.  For every grammar, every group of valid, pairwise
    prefix-incomparable nodes (`PrefixFree`: what a part of a cover is) and every fuel with which the
    refilling loop `while to_fill` ran to completion (`fillDone`, see `C08_fragment_fuel`):
    the erasure is a bijection between the derivations of the fragment and the derivations of the
    original grammar that lie in the cell of a node of the group: into (1), onto (2), injective (3:
    the fragment is unambiguous, given that its derivations are read as programs through the
    original ones). -/
theorem C08_fragment_lang (pg : PUG U) (group : List (Node U)) (hv : ∀ n ∈ group, Valid pg.g n)
    (hpf : PrefixFree group) (fuel : Nat) (frag : PUG (U × Nat))
    (h : pcfgFrom pg group fuel = some frag) (hfuel : fillDone pg group fuel = true) :
    (∀ X w', Deriv frag.g X w' →
      Deriv pg.g (er X) (w'.map erStep) ∧ ∃ n ∈ group, Matches n (er X) (w'.map erStep)) ∧
    (∀ n ∈ group, ∀ s w, Deriv pg.g s w → Matches n s w →
      ∃ X w', Deriv frag.g X w' ∧ er X = s ∧ w'.map erStep = w) ∧
    (∀ X1 w1 X2 w2, Deriv frag.g X1 w1 → Deriv frag.g X2 w2 → er X1 = er X2 →
      w1.map erStep = w2.map erStep → X1 = X2 ∧ w1 = w2) := by
  obtain ⟨st, L, rfl, -, hf, -⟩ := pcfgFrom_facts hpf h hfuel
  exact ⟨fun X w' hd => frag_sound hf hv hd, fun n hn s w hd hm => frag_complete hf hv hpf hn hd hm,
    fun X1 w1 X2 w2 h1 h2 hX hw => frag_inj hf hpf h1 h2 hX hw⟩

/-- the nodes `f a ·` and `f b ·` of the example: same start symbol, same first rule, then they diverge -/
def exNodeFa : Node Nat := ⟨3/8, [], exA, [sF, sA], [exS, exA], [[exA, exA], []]⟩
def exNodeFb : Node Nat := ⟨3/8, [], exA, [sF, sB], [exS, exA], [[exA, exA], []]⟩

theorem exNodes_valid : ∀ n ∈ [exNodeFa, exNodeFb], Valid exG.g n := by
  intro n hn
  simp only [List.mem_cons, List.not_mem_nil, or_false] at hn
  rcases hn with rfl | rfl <;> (unfold Valid; decide +kernel)

/-- the fragment of `[f a ·, f b ·]`, built once: what the examples below read off it -/
theorem exFrag : ∃ fr, pcfgFrom exG [exNodeFa, exNodeFb] 10 = some fr ∧
    (derivations fr.g 6).map (fun d => derivProb fr d.1 d.2) = [1/4, 1/4, 1/4, 1/4] ∧
    (derivations fr.g 6).map (fun d => d.2.map (fun st => st.2.1.name)) =
      [["f", "a", "a"], ["f", "a", "b"], ["f", "b", "a"], ["f", "b", "b"]] ∧
    (tagsNorm fr, normalised fr, WF fr) = (true, true, true) := by decide +kernel

example : (∀ n ∈ [exNodeFa, exNodeFb], Valid exG.g n) ∧ PrefixFree [exNodeFa, exNodeFb] ∧
    (pcfgFrom exG [exNodeFa, exNodeFb] 10).isSome = true ∧ fillDone exG [exNodeFa, exNodeFb] 10 = true := by
  refine ⟨exNodes_valid, ?_, ?_, by decide +kernel⟩
  · unfold PrefixFree; decide +kernel
  · obtain ⟨fr, h, -⟩ := exFrag
    rw [h]; rfl
/-- the fragment of `[f a ·, f b ·]` has the 4 derivations `f a a, f a b, f b a, f b b` -/
example : ((pcfgFrom exG [exNodeFa, exNodeFb] 10).map (fun fr => (derivations fr.g 6).length)) = some 4 := by
  obtain ⟨fr, h, hd, -⟩ := exFrag
  rw [h]
  exact congrArg some ((List.length_map _).symm.trans (congrArg List.length hd))

/-- **probabilities in a fragment.**  Under the hypotheses of `C08_fragment_lang` except the validity
    of the nodes, if moreover every row of the weight table of the original grammar sums to 1
    (`tagsNorm`: the grammar is normalised), the probability carried by every node of the group is the probability of its
    derivation prefix (`C08_node_invariants`: an invariant of the node splitting) and is positive, then
    every derivation of the fragment has, in the fragment (start weight × rule weights after
    `normalise`), its original probability divided by the mass of the group (the sum of the
    probabilities of its nodes, i.e. the total original probability of the fragment's programs,
    `C08_mass`). -/
theorem C08_fragment_prob (pg : PUG U) (group : List (Node U)) (hpf : PrefixFree group) (hn : tagsNorm pg = true)
    (hprob : ∀ n ∈ group, n.prob = derivProb pg n.start n.steps) (hpos : ∀ n ∈ group, 0 < n.prob)
    (fuel : Nat) (frag : PUG (U × Nat))
    (h : pcfgFrom pg group fuel = some frag) (hfuel : fillDone pg group fuel = true)
    (X : UNT (U × Nat)) (w' : List (Step (U × Nat))) (hd : Deriv frag.g X w') :
    derivProb frag X w' = derivProb pg (er X) (w'.map erStep) / (group.map (·.prob)).sum := by
  obtain ⟨st, L, rfl, -, hf, hw⟩ := pcfgFrom_facts hpf h hfuel
  exact frag_prob hf hw hn hprob hpos hd

example : tagsNorm exG = true ∧ (∀ n ∈ [exNodeFa, exNodeFb], n.prob = derivProb exG n.start n.steps ∧ 0 < n.prob) := by
  decide +kernel
/-- the four derivations of the fragment of `[f a ·, f b ·]` (mass 3/4) have probability
    (3/4 · 1/2 · 1/2) / (3/4) = 1/4 each -/
example : ((pcfgFrom exG [exNodeFa, exNodeFb] 10).map (fun fr =>
    (derivations fr.g 6).map (fun d => derivProb fr d.1 d.2))) = some [1/4, 1/4, 1/4, 1/4] := by
  obtain ⟨fr, h, hd, -⟩ := exFrag
  rw [h]
  exact congrArg some hd

/-- **`__pcfg_from__` returns, and `while to_fill` terminates**: on valid nodes there is a fuel
    `fuel0` from which on the construction does not fail (no `assert`, no `IndexError`) and the
    refilling loop of the model runs to completion, so that the hypothesis `fillDone` of the theorems
    above is satisfiable for every input.  The statement only says that `fuel0` exists; the proof
    (`pcfgFrom_total`) takes `fillBound`, at most `|to_fill| + (|to_fill| + R) · (R + 1)` iterations,
    `R` the number of non-terminal occurrences on right-hand sides. -/
theorem C08_fragment_fuel (pg : PUG U) (group : List (Node U)) (hv : ∀ n ∈ group, Valid pg.g n) :
    ∃ fuel0, ∀ fuel, fuel0 ≤ fuel →
      (pcfgFrom pg group fuel).isSome = true ∧ fillDone pg group fuel = true :=
  pcfgFrom_total pg group hv

example : ∃ fuel0, ∀ fuel, fuel0 ≤ fuel → (pcfgFrom exG [exNodeFa, exNodeFb] fuel).isSome = true ∧
    fillDone exG [exNodeFa, exNodeFb] fuel = true :=
  C08_fragment_fuel _ _ exNodes_valid

/-- **the nodes of every group of the pipeline satisfy the hypotheses of the fragment theorems**
    (`NodesOK`): for every well-formed grammar with positive weights (`posW`), every number
    `splits > 0` (quantity of nodes and number of groups) and every operation trace of the balancing
    loop, the nodes of every group are valid, pairwise
    prefix-incomparable, carry the probability of their derivation prefix, and it is positive. -/
theorem C08_node_invariants (pg : PUG U) (hw : WF pg = true) (hp : posW pg = true) (splits fuel : Nat)
    (hs : 0 < splits) (nodes : List (Node U)) (trace : List Op) (pgs' : PG U)
    (h1 : splitUntil pg splits fuel (startNodes pg) = some nodes)
    (h2 : applyTrace pg (initGroups nodes splits) trace = some pgs') :
    ∀ g ∈ pgs', (∀ n ∈ g.1, Valid pg.g n ∧ n.prob = derivProb pg n.start n.steps ∧ 0 < n.prob) ∧ PrefixFree g.1 :=
  groups_ok (WF_sound hw) hp splits fuel hs nodes trace pgs' h1 h2

example : posW exG = true := by decide +kernel

/-- **the fragments of the whole pipeline**: for every well-formed grammar whose rows sum to 1
    (`tagsNorm`) with positive weights (`posW`), every number `splits > 0` (quantity of nodes and
    number of groups) and every operation trace of the balancing loop, the fragment built for any of
    the resulting groups, with a fuel for which `fillDone` holds, generates (up to the renaming of the
    non-terminals) exactly the derivations of the cells of the group's nodes, each exactly once, with
    its original probability divided by the mass of the group. -/
theorem C08_fragment_pipeline (pg : PUG U) (hw : WF pg = true) (hn : tagsNorm pg = true) (hp : posW pg = true)
    (splits fuel : Nat) (hs : 0 < splits) (nodes : List (Node U)) (trace : List Op) (pgs' : PG U)
    (h1 : splitUntil pg splits fuel (startNodes pg) = some nodes)
    (h2 : applyTrace pg (initGroups nodes splits) trace = some pgs')
    (g : List (Node U) × Rat) (hg : g ∈ pgs') (fuel' : Nat) (frag : PUG (U × Nat))
    (h : pcfgFrom pg g.1 fuel' = some frag) (hfuel : fillDone pg g.1 fuel' = true) :
    (∀ X w', Deriv frag.g X w' →
      Deriv pg.g (er X) (w'.map erStep) ∧ (∃ n ∈ g.1, Matches n (er X) (w'.map erStep)) ∧
      derivProb frag X w' = derivProb pg (er X) (w'.map erStep) / (g.1.map (·.prob)).sum) ∧
    (∀ n ∈ g.1, ∀ s w, Deriv pg.g s w → Matches n s w →
      ∃ X w', Deriv frag.g X w' ∧ er X = s ∧ w'.map erStep = w) ∧
    (∀ X1 w1 X2 w2, Deriv frag.g X1 w1 → Deriv frag.g X2 w2 → er X1 = er X2 →
      w1.map erStep = w2.map erStep → X1 = X2 ∧ w1 = w2) := by
  obtain ⟨hok, hpf⟩ := C08_node_invariants pg hw hp splits fuel hs nodes trace pgs' h1 h2 g hg
  obtain ⟨l1, l2, l3⟩ := C08_fragment_lang pg g.1 (fun n hn => (hok n hn).1) hpf fuel' frag h hfuel
  refine ⟨?_, l2, l3⟩
  intro X w' hd
  obtain ⟨a, b⟩ := l1 X w' hd
  exact ⟨a, b, C08_fragment_prob pg g.1 hpf hn (fun n hn => (hok n hn).2.1) (fun n hn => (hok n hn).2.2)
    fuel' frag h hfuel X w' hd⟩

/-- the pipeline on the example: 3 nodes in 2 groups, both fragments are built and refilled -/
example : ((splitUntil exG 3 10 (startNodes exG)).bind (fun ns => applyTrace exG (initGroups ns 2) [])).map
    (fun pgs => pgs.map (fun g => (g.1.length, (pcfgFrom exG g.1 10).isSome, fillDone exG g.1 10)))
    = some [(1, true, true), (2, true, true)] := by
  decide +kernel

/-- when the bound `k` is large enough for the continuations of the nodes to have their full mass
    (`tailMass … = 1`: every continuation has at most `k` steps and the grammar is normalised),
    the mass of the cells of a group is the sum of the probabilities of its nodes -/
theorem C08_group_mass (pg : PUG U) (k : Nat) (group : List (Node U))
    (hprob : ∀ n ∈ group, n.prob = derivProb pg n.start n.steps)
    (hk : ∀ n ∈ group, tailMass pg k n.config = 1) :
    ((group.flatMap (cell pg.g k)).map (fun d => derivProb pg d.1 d.2)).sum = (group.map (·.prob)).sum := by
  rw [sum_flatMap_rat]
  refine congrArg List.sum (List.map_congr_left fun n hn => ?_)
  rw [C08_mass, hk n hn, hprob n hn, Rat.mul_one]
  rfl

/-- **the fragment realises `cellSpec`** (the specification the harness compares the fragments of
    the implementation with): a derivation of the fragment has the probability that `cellSpec`
    lists for its erasure -/
theorem C08_fragment_cellSpec (pg : PUG U) (group : List (Node U)) (hpf : PrefixFree group) (hn : tagsNorm pg = true)
    (hprob : ∀ n ∈ group, n.prob = derivProb pg n.start n.steps) (hpos : ∀ n ∈ group, 0 < n.prob)
    (fuel : Nat) (frag : PUG (U × Nat))
    (h : pcfgFrom pg group fuel = some frag) (hfuel : fillDone pg group fuel = true)
    (k : Nat) (hk : ∀ n ∈ group, tailMass pg k n.config = 1)
    (e : (UNT U × List (Step U)) × Rat) (he : e ∈ cellSpec pg k group)
    (X : UNT (U × Nat)) (w' : List (Step (U × Nat))) (hd : Deriv frag.g X w')
    (hX : e.1 = (er X, w'.map erStep)) : derivProb frag X w' = e.2 := by
  rw [C08_fragment_prob pg group hpf hn hprob hpos fuel frag h hfuel X w' hd]
  simp only [cellSpec, List.mem_map] at he
  obtain ⟨d, _, rfl⟩ := he
  simp only at hX ⊢
  rw [C08_group_mass pg k group hprob hk, hX]

example : ∀ n ∈ [exNodeFa, exNodeFb], tailMass exG 5 n.config = 1 := by decide +kernel
example : (cellSpec exG 5 [exNodeFa, exNodeFb]).map (·.2) = [1/4, 1/4, 1/4, 1/4] := by decide +kernel

/-- **the fragment is normalised**: if every non-terminal that occurs in the original grammar
    (start symbols, right-hand sides) has a non-empty row of positive weights (`closedG`,
    `posRows`: decidable), then for a non-empty group (`group ≠ []`) of valid, prefix-incomparable
    nodes of positive probability every row of the weight table of the fragment sums to 1 (the
    fragment satisfies the hypothesis `tagsNorm` under which `C08_fragment_prob` was stated for the
    original grammar) and so do its start weights. -/
theorem C08_fragment_normalised (pg : PUG U) (hp : posRows pg = true) (hcl : closedG pg = true)
    (group : List (Node U)) (hne : group ≠ []) (hv : ∀ n ∈ group, Valid pg.g n) (hpf : PrefixFree group)
    (hpos : ∀ n ∈ group, 0 < n.prob) (fuel : Nat) (frag : PUG (U × Nat))
    (h : pcfgFrom pg group fuel = some frag) (hfuel : fillDone pg group fuel = true) :
    tagsNorm frag = true ∧ (frag.startTags.map (·.2)).sum = 1 := by
  obtain ⟨st, L, rfl, hst, hf, hw⟩ := pcfgFrom_facts hpf h hfuel
  exact ⟨frag_tagsNorm hp hcl (fun n hn => ⟨hv n hn, hpos n hn⟩) hst, frag_starts_norm hf hw hne hpos⟩

example : posRows exG = true ∧ closedG exG = true := by decide +kernel
/-- the fragment of `[f a ·, f b ·]` is normalised, also in the sense of `normalised` (sums over the
    alternatives of the rule table, what the driver evaluates on every case) -/
example : ((pcfgFrom exG [exNodeFa, exNodeFb] 10).map (fun fr => (tagsNorm fr, normalised fr, WF fr))) =
    some (true, true, true) := by
  obtain ⟨fr, h, -, -, hn⟩ := exFrag
  rw [h]
  exact congrArg some hn

omit [DecidableEq U] in
/-- the erasure does not change the program of a derivation (its pre-order word of symbols with
    arities, what the driver's `wordOf` prints): the bijection of `C08_fragment_lang` is a bijection
    between the programs of the fragment and the programs of the cells of the group -/
theorem C08_fragment_program (w' : List (Step (U × Nat))) :
    (w'.map erStep).map (fun st => (st.2.1, st.2.2.length)) = w'.map (fun st => (st.2.1, st.2.2.length)) := by
  simp [erStep, Function.comp_def]

example : ((pcfgFrom exG [exNodeFa, exNodeFb] 10).map (fun fr =>
    (derivations fr.g 6).map (fun d => d.2.map (fun st => st.2.1.name)))) =
    some [["f", "a", "a"], ["f", "a", "b"], ["f", "b", "a"], ["f", "b", "b"]] := by
  obtain ⟨fr, h, -, hd, -⟩ := exFrag
  rw [h]
  exact congrArg some hd

end PS.Sp
