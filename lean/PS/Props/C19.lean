/-
  Property C19 — prediction layers turn any tensor into a normalised, consistent grammar.

  The theorems are about the model PS/Model/Predictor.lean instantiated with the real numbers
  (`Real.exp`, `Real.log`); they hold for EVERY layer (any grammars, any abstraction function,
  any iteration order of the sets), every tensor `x : List ℝ`, every `0 < v < 1`, `0 ≤ ε`.
  What they do not cover: IEEE rounding and overflow (the compiled driver runs the same
  definitions on `Float`; the correspondence run states its tolerances).

  Hypotheses that appear:
    * `wfRules rules` — the keys of every rule table are distinct (true of every Python dict);
    * `hypEps …` — the ordering trick keeps its arguments of `log` positive: `m·ε < p` where
      `p = (v or 1)/(m+c)` (decidable on the numbers; with ε = 1e-7 it holds whenever a
      non-terminal has fewer than about 700 variables for v = 0.05);
    * the model returned a grammar (`= some tags`): no KeyError/IndexError, i.e. the layer was
      built from grammars containing the one asked for and the tensor is long enough.
-/
import PS.Proofs.Predictor
import PS.Proofs.PredictorIndex
import PS.Proofs.PredictorSoftmax
namespace PS.Predictor
open PS

/-! ## Deterministic layer -/

/-- **C19_norm (det).** At every non-terminal `S` that has at least one rule, the weights
    `exp(tag)` of the grammar built from ANY tensor sum to `1 - ε·(m(m-1)/2 + c·m)`
    (`specNorm`; exactly 1 when `total_variable_order = False`), where `m`, `c` are the numbers
    of variable and constant rules of `S`. -/
theorem C19_norm_det (L : Layer) (v ε : ℝ) (tvo : Bool) (rules : AList NT (AList DP (List NT)))
    (x : List ℝ) (tags : AList NT (AList DP ℝ))
    (h : tensor2logProbDet L v ε tvo rules x = some tags)
    (hv0 : 0 < v) (hv1 : v < 1) (hε : 0 ≤ ε) (hwf : wfRules rules = true) :
    List.Forall₂ (fun e t => t.1 = e.1 ∧
        (e.2 ≠ [] →
         hypEps v ε tvo (decide (0 < countKind .prim e.2)) (countKind .var e.2) (countKind .const e.2) = true →
         expSum t.2 = specNorm ε tvo (countKind .var e.2) (countKind .const e.2))) rules tags := by
  refine (allSomeL_forall₂ h).imp fun e t ⟨he, het⟩ => ⟨tagEntryDet_fst _ _ _ _ _ _ _ het, fun hne hhyp => ?_⟩
  have hnd := wfRules_mem hwf e he
  rw [expSum_eq_mass, specNorm_real]
  by_cases hmc : 0 < countKind .var e.2 + countKind .const e.2
  · exact (mass_by_kind (tagEntryDet_vars het hv0 hv1 hε hnd hmc hhyp)).1
  · -- a non-empty rule table without variables and constants has a primitive
    have htot := countKind_total e.2
    have hlen : 0 < e.2.length := List.length_pos_iff.mpr hne
    rw [tagEntryDet_novars het hnd (by omega) (by omega), show countKind .var e.2 = 0 by omega,
      show countKind .const e.2 = 0 by omega, epsTerm_zero, sub_zero]

/-- **C19_varmass (det).** Whenever `S` has a variable or a constant, variables and constants
    together receive exactly `variable_probability` if other rules exist (and everything
    otherwise), minus the ε-term of the ordering trick (`specVarMass`); the primitive rules
    receive the rest, `1 - variable_probability`. -/
theorem C19_varmass_det (L : Layer) (v ε : ℝ) (tvo : Bool) (rules : AList NT (AList DP (List NT)))
    (x : List ℝ) (tags : AList NT (AList DP ℝ))
    (h : tensor2logProbDet L v ε tvo rules x = some tags)
    (hv0 : 0 < v) (hv1 : v < 1) (hε : 0 ≤ ε) (hwf : wfRules rules = true) :
    List.Forall₂ (fun e t => t.1 = e.1 ∧
        (0 < countKind .var e.2 + countKind .const e.2 →
         hypEps v ε tvo (decide (0 < countKind .prim e.2)) (countKind .var e.2) (countKind .const e.2) = true →
         expSum (t.2.filter (fun z => z.1.kind ≠ .prim))
            = specVarMass v ε tvo (decide (0 < countKind .prim e.2)) (countKind .var e.2) (countKind .const e.2)
         ∧ expSum (t.2.filter (fun z => z.1.kind = .prim))
            = 1 - (if 0 < countKind .prim e.2 then v else 1))) rules tags := by
  refine (allSomeL_forall₂ h).imp fun e t ⟨he, het⟩ => ⟨tagEntryDet_fst _ _ _ _ _ _ _ het, fun hmc hhyp => ?_⟩
  obtain ⟨-, h1, h2⟩ := mass_by_kind (tagEntryDet_vars het hv0 hv1 hε (wfRules_mem hwf e he) hmc hhyp)
  rw [expSum_filter_eq_mass (fun P => decide (P.kind ≠ .prim)), expSum_filter_eq_mass (fun P => decide (P.kind = .prim)),
    specVarMass_real]
  exact ⟨h1, h2⟩

/-- **C19_positive (det).** Every rule weight `exp(tag)` is positive.  (Over ℝ this is a property
    of `exp`; its content is that every tag is a real number, which on floats means: finite —
    the arguments of `log` in the computation are positive under `hypEps`, see `next_nvl`,
    `assignSeq_spec`.) -/
theorem C19_positive_det (tags : AList NT (AList DP ℝ)) :
    ∀ e ∈ toProbDet tags, ∀ z ∈ e.2, 0 < z.2 := by
  intro e he z hz
  obtain ⟨e0, _, rfl⟩ := List.mem_map.mp he
  obtain ⟨z0, _, rfl⟩ := List.mem_map.mp hz
  exact Real.exp_pos _

/-- **C19_prim_weight (det).** Which entry of the tensor feeds which rule: for every non-terminal `S`
    and every primitive rule `P` of `S`, the tag is read at the position `posOf L S P` — the one
    `encode` marks for `(S, P)` (`C19_encode_det`) — of the slice-wise normalised tensor, and
    `exp(tag) = c · exp(y_P) / Σ_{Q primitive rule of S} exp(y_Q)`: the softmax re-normalised over the
    rules derivable from `S`, with `c = 1 - variable_probability` when `S` has variables or
    constants and `c = 1` otherwise.  (`prim` is the table `P ↦ y_P`, `y_P = (x[start:start+length])[index P]`.) -/
theorem C19_prim_weight_det (L : Layer) (v ε : ℝ) (tvo : Bool) (rules : AList NT (AList DP (List NT)))
    (x : List ℝ) (tags : AList NT (AList DP ℝ))
    (h : tensor2logProbDet L v ε tvo rules x = some tags) (hwf : wfRules rules = true) :
    List.Forall₂ (fun e t => t.1 = e.1 ∧
      ∃ prim : AList DP ℝ, AList.keys prim = (AList.keys e.2).filter (kindIs .prim) ∧
        ∀ P ∈ AList.keys e.2, P.kind = .prim →
          ∃ pos y, posOf L e.1 P = some pos ∧ AList.lookup P prim = some y
            ∧ (∃ key start length sym i, AList.lookup e.1 L.real2abs = some key
                ∧ AList.lookup key L.abs2index = some (start, length, sym) ∧ AList.lookup P sym = some i
                ∧ pos = start + i ∧ (slice (normalize L.abs2index x) start length)[i]? = some y)
            ∧ AList.lookup P t.2 = some (y + Real.log
                ((if countKind .var e.2 + countKind .const e.2 = 0 then 1 else 1 - v) / expSum prim))) rules tags := by
  refine (allSomeL_forall₂ h).imp fun e t ⟨he, het⟩ => ?_
  obtain ⟨key, start, length, sym, h1, h2, hP⟩ := tagEntryDet_prim het (wfRules_mem hwf e he)
  refine ⟨tagEntryDet_fst _ _ _ _ _ _ _ het,
    ((AList.keys e.2).filter (kindIs .prim)).map (fun P => (P, yAt sym (slice (normalize L.abs2index x) start length) P)),
    by simp [AList.keys, Function.comp_def], fun P hPm hkP => ?_⟩
  obtain ⟨i, hs, hpos, hy, htag⟩ := hP P hPm hkP
  exact ⟨_, _, hpos, by simp [lookup_map_graph, hPm, kindIs, hkP], ⟨key, start, length, sym, i, h1, h2, hs, rfl, hy⟩,
    by rw [expSum_eq_mass]; exact htag⟩

/-- **C19_consistent (det).** If `log_probability t` returns `lp` then the program has a
    derivation from the start symbol and `exp lp` is the product of the converted weights
    (`to_prob_det_grammar`) along that derivation — `derivWeightDet`, the probability the
    converted grammar gives to the derivation. -/
theorem C19_consistent_det (rules : AList NT (AList DP (List NT))) (start : NT)
    (tags : AList NT (AList DP ℝ)) (t : Prog) (lp : ℝ)
    (h : logProbabilityDet rules start tags t = some lp) :
    derivWeightDet rules start (toProbDet tags) t = some (Real.exp lp) :=
  consistent_det rules start tags t lp h

/-- **C19_encode (det).** If `encode t` returns a vector, then `t` has a derivation `d` from the
    start symbol and the vector is the indicator of exactly the positions
    `start(abs S) + index(P)` of the primitive rules `(S, P)` of `d` (all inside the tensor). -/
theorem C19_encode_det (L : Layer) (rules : AList NT (AList DP (List NT))) (start : NT) (t : Prog)
    (out : List ℕ) (h : encodeDet L rules start t = some out) :
    ∃ d i n, derivDet rules t start [] = some (d, i, n)
      ∧ out = indicator L.outputSize (positionsOf L d)
      ∧ ∀ p ∈ positionsOf L d, p < L.outputSize :=
  encode_det L rules start t out h

/-- `reduce_derivations` of a deterministic grammar is the fold of the reducer over the
    left-most derivation (used by both theorems above; stated for every reducer). -/
theorem C19_reduce_is_fold {β : Type} (rules : AList NT (AList DP (List NT)))
    (f : β → NT → DP → Option β) (t : Prog) (v : β) (start : NT) (info : List NT) :
    reduceDet rules f t v start info = viaDeriv f v (derivDet rules t start info) :=
  reduceDet_eq rules f t v start info

/-! ## Unambiguous layer (as in /repo: repair of C19-F2, commit 97880ac, present; start factor omitted as in C04-F1) -/

/-- **C19_norm (U).** At every non-terminal with at least one tagged alternative, the weights of
    all (rule, alternative) pairs sum to `1 - ε·(M(M-1)/2 + C·M)`, where `M`, `C` are the numbers
    of alternatives of variable and constant rules.  (`wfAlts`: the alternatives of a rule are
    distinct — they are dict keys.)  The case "variables without any alternative" (division by
    zero in the code) is excluded by `0 < M + C` resp. `0 < Np`. -/
theorem C19_norm_u (L : Layer) (v ε : ℝ) (tvo : Bool) (rules : AList NT (AList DP (List Alt)))
    (starts : List NT) (x : List ℝ) (tags : AList NT TagsU) (st : AList NT ℝ)
    (h : tensor2logProbU L v ε tvo rules starts x = some (tags, st))
    (hv0 : 0 < v) (hv1 : v < 1) (hε : 0 ≤ ε) (hwf : wfRules rules = true) (hwa : wfAlts rules = true) :
    List.Forall₂ (fun e t => t.1 = e.1 ∧
        ((0 < countAlts .var e.2 + countAlts .const e.2 ∨
            (countKind .var e.2 + countKind .const e.2 = 0 ∧ 0 < countAlts .prim e.2)) →
         hypEps v ε tvo (decide (0 < countAlts .prim e.2)) (countAlts .var e.2) (countAlts .const e.2) = true →
         massU t.2 = specNorm ε tvo (countAlts .var e.2) (countAlts .const e.2))) rules tags := by
  refine (allSomeL_forall₂ (tensor2logProbU_some h).1).imp fun e t ⟨he, het⟩ =>
    ⟨tagEntryU_fst _ _ _ _ _ _ _ het, fun hcase hhyp => ?_⟩
  have hnd := wfRules_mem hwf e he
  have halts := wfAlts_mem hwa e he
  rw [massU_eq, specNorm_real]
  rcases hcase with hmc | ⟨hmc0, hnp⟩
  · exact (mass_by_kind (tagEntryU_vars het hv0 hv1 hε hnd halts hmc hhyp).2.2).1
  · rw [tagEntryU_novars het hnd halts hmc0 hnp, countAlts_eq_zero (Nat.eq_zero_of_add_eq_zero_right hmc0),
      countAlts_eq_zero (Nat.eq_zero_of_add_eq_zero_left hmc0), epsTerm_zero, sub_zero]

/-- **C19_varmass (U).** Whenever a variable or constant alternative exists, the variable and
    constant alternatives together receive `variable_probability` (if a primitive alternative
    exists, else everything) minus the ε-term; the primitive alternatives receive the rest. -/
theorem C19_varmass_u (L : Layer) (v ε : ℝ) (tvo : Bool) (rules : AList NT (AList DP (List Alt)))
    (starts : List NT) (x : List ℝ) (tags : AList NT TagsU) (st : AList NT ℝ)
    (h : tensor2logProbU L v ε tvo rules starts x = some (tags, st))
    (hv0 : 0 < v) (hv1 : v < 1) (hε : 0 ≤ ε) (hwf : wfRules rules = true) (hwa : wfAlts rules = true) :
    List.Forall₂ (fun e t => t.1 = e.1 ∧
        (0 < countAlts .var e.2 + countAlts .const e.2 →
         hypEps v ε tvo (decide (0 < countAlts .prim e.2)) (countAlts .var e.2) (countAlts .const e.2) = true →
         massU (t.2.filter (fun z => z.1.kind ≠ .prim))
            = specVarMass v ε tvo (decide (0 < countAlts .prim e.2)) (countAlts .var e.2) (countAlts .const e.2)
         ∧ massU (t.2.filter (fun z => z.1.kind = .prim))
            = 1 - (if 0 < countAlts .prim e.2 then v else 1))) rules tags := by
  refine (allSomeL_forall₂ (tensor2logProbU_some h).1).imp fun e t ⟨he, het⟩ =>
    ⟨tagEntryU_fst _ _ _ _ _ _ _ het, fun hmc hhyp => ?_⟩
  obtain ⟨-, h1, h2⟩ := mass_by_kind
    (tagEntryU_vars het hv0 hv1 hε (wfRules_mem hwf e he) (wfAlts_mem hwa e he) hmc hhyp).2.2
  rw [massU_filter_eq (fun P => decide (P.kind ≠ .prim)), massU_filter_eq (fun P => decide (P.kind = .prim)),
    specVarMass_real]
  exact ⟨h1, h2⟩

/-- **C19_start_norm.** The start tags of the U-layer are normalised: `Σ_S exp(start_tag S) = 1`
    (for every tensor; `st ≠ []`: the grammar has a start symbol). -/
theorem C19_start_norm (L : Layer) (v ε : ℝ) (tvo : Bool) (rules : AList NT (AList DP (List Alt)))
    (starts : List NT) (x : List ℝ) (tags : AList NT TagsU) (st : AList NT ℝ)
    (h : tensor2logProbU L v ε tvo rules starts x = some (tags, st)) (hne : st ≠ []) :
    sumL (st.map (fun e => (ExpLog.exp e.2 : ℝ))) = 1 := by
  exact startTags_norm L starts _ _ (tensor2logProbU_some h).2 hne

/-- **C19_positive (U).** Every weight `exp(tag)` and start weight `exp(start_tag)` is positive (see
    the remark at `C19_positive_det`), hence so are the sums `normalise` divides by (`C19_toProb_u`). -/
theorem C19_positive_u (tags : AList NT TagsU) (st : AList NT ℝ) :
    (∀ e ∈ expTagsU tags, ∀ d ∈ e.2, ∀ z ∈ d.2, 0 < z.2) ∧ (∀ e ∈ expStartU st, 0 < e.2) := by
  constructor
  · intro e he d hd z hz
    obtain ⟨e0, _, rfl⟩ := List.mem_map.mp he
    obtain ⟨d0, _, rfl⟩ := List.mem_map.mp hd
    obtain ⟨z0, _, rfl⟩ := List.mem_map.mp hz
    exact Real.exp_pos _
  · intro e he
    obtain ⟨e0, _, rfl⟩ := List.mem_map.mp he
    exact Real.exp_pos _

/-- **C19_toProb (U).** `to_prob_u_grammar` = `exp` of every tag followed by `normalise`: every
    weight of `S` is divided by `Σ exp(tags of S)` (which is `specNorm`, i.e. 1 without the ordering
    trick, by `C19_norm_u`) and every start weight by `Σ exp(start tags)` (= 1 by `C19_start_norm`). -/
theorem C19_toProb_u (tags : AList NT TagsU) (st : AList NT ℝ) :
    toProbU tags st =
      (tags.map (fun e => (e.1, e.2.map (fun d => (d.1, d.2.map (fun z => (z.1, Real.exp z.2 / massU e.2)))))),
       st.map (fun e => (e.1, Real.exp e.2 / sumL (st.map (fun e => (ExpLog.exp e.2 : ℝ)))))) := by
  unfold toProbU normaliseU expTagsU expStartU massU
  simp [List.map_map, Function.comp_def]

/-- `to_prob_u_grammar` keeps `exp(tag)` unchanged at the non-terminals whose weights already sum
    to 1 (by `C19_norm_u`: every non-terminal when `total_variable_order = False`). -/
theorem C19_toProb_u_exact (tags : AList NT TagsU) (st : AList NT ℝ)
    (h : ∀ e ∈ tags, massU e.2 = 1) : (toProbU tags st).1 = expTagsU tags := by
  rw [C19_toProb_u]
  unfold expTagsU
  apply List.map_congr_left
  intro e he
  rw [h e he]
  simp

/-- **C19_consistent (U).** If `log_probability t` returns `lp`, then `exp lp` is what
    `ProbUGrammar.probability` — as implemented: the product of the RULE weights along the
    derivation, the start weight is not a factor (C04-F1) — returns on the weights `exp(tag)`.
    By `C19_toProb_u(_exact)` and `C19_norm_u` these are the weights of `to_prob_u_grammar()`
    exactly when `total_variable_order = False` (second statement), and up to the factor
    `specNorm` per step otherwise. -/
theorem C19_consistent_u (rules : AList NT (AList DP (List Alt))) (starts : List NT)
    (tags : AList NT TagsU) (st : AList NT ℝ) (t : Prog) (lp : ℝ)
    (h : logProbabilityU rules starts tags t = some lp) :
    probabilityU rules starts (expTagsU tags) t = Real.exp lp
    ∧ ((∀ e ∈ tags, massU e.2 = 1) → probabilityU rules starts (toProbU tags st).1 t = Real.exp lp) := by
  refine ⟨consistent_u rules starts tags t lp h, ?_⟩
  intro hm
  rw [C19_toProb_u_exact tags st hm]
  exact consistent_u rules starts tags t lp h

/-- The exact relation to the distribution that includes the start symbols, for ANY number of
    start symbols: the derivation found begins at a start symbol `S0`, and its probability
    (start weight × rule weights) is `exp(start tag of S0) · exp(log_probability t)`.
    The full statement of the property ("= probability of the derivation") therefore fails by
    exactly the start weight: known finding C04-F1 (= C19-F1), witness `finding_C19_F1`. -/
theorem C19_consistent_u_start (rules : AList NT (AList DP (List Alt))) (starts : List NT)
    (tags : AList NT TagsU) (st : AList NT ℝ) (t : Prog) (lp : ℝ)
    (h : logProbabilityU rules starts tags t = some lp) :
    ∃ S0 ∈ starts, ∃ d ∈ altsU rules t S0 [], ∀ s, AList.lookup S0 st = some s →
      derivWeightU (expTagsU tags) (expStartU st) S0 d = some (Real.exp s * Real.exp lp) :=
  consistent_u_start rules starts tags st t lp h

/-- **C19_consistent_u_partial.** Under the decidable hypothesis "single start symbol"
    (`starts = [S0]`, start table `st = [(S0, s)]`, normalised as `C19_start_norm` proves),
    `exp(log_probability t)` IS the probability of the derivation in the distribution including
    the start weight.
    Full statement (false, C04-F1): the same for every `starts`. -/
theorem C19_consistent_u_partial (rules : AList NT (AList DP (List Alt))) (S0 : NT)
    (tags : AList NT TagsU) (s : ℝ) (t : Prog) (lp : ℝ)
    (hnorm : sumL ([(S0, s)].map (fun e : NT × ℝ => (ExpLog.exp e.2 : ℝ))) = 1)
    (h : logProbabilityU rules [S0] tags t = some lp) :
    ∃ d ∈ altsU rules t S0 [], derivWeightU (expTagsU tags) (expStartU [(S0, s)]) S0 d = some (Real.exp lp) := by
  obtain ⟨S, hS, d, hd, hw⟩ := consistent_u_start rules [S0] tags [(S0, s)] t lp h
  have hSS : S = S0 := by simpa using hS
  subst hSS
  have hs1 : Real.exp s = 1 := by
    rw [sumL_eq] at hnorm; simpa using hnorm
  refine ⟨d, hd, ?_⟩
  rw [hw s (by simp [AList.lookup]), hs1, one_mul]

/-- **C19_encode (U).** `encode t` is the indicator of the positions of the primitive rules of the
    derivations of `t` (from every start symbol; exactly one derivation for an unambiguous grammar). -/
theorem C19_encode_u (L : Layer) (rules : AList NT (AList DP (List Alt))) (starts : List NT) (t : Prog)
    (out : List ℕ) (h : encodeU L rules starts t = some out) :
    out = indicator L.outputSize (positionsOf L (allStepsU rules starts t))
      ∧ ∀ p ∈ positionsOf L (allStepsU rules starts t), p < L.outputSize :=
  encode_u L rules starts t out h

/-! ## Non-vacuity: a literal layer on which every hypothesis holds -/
section Examples

def plus : DP := ⟨.prim, "+"⟩
def one : DP := ⟨.prim, "1"⟩
def x0 : DP := ⟨.var, "var0"⟩
def cst : DP := ⟨.const, "cst"⟩
/-- `S1 -> + S2 S3 | 1`, `S2 -> var0 | cst | 1`, `S3 -> var0 | 1` -/
def exRules : AList NT (AList DP (List NT)) :=
  [(1, [(plus, [2, 3]), (one, [])]), (2, [(x0, []), (cst, []), (one, [])]), (3, [(x0, []), (one, [])])]
def exAbs : NT → Abs := fun S => if S = 2 then some (plus, 0) else if S = 3 then some (plus, 1) else none
def exL : Layer := mkLayerDet exAbs (fun _ s => s) [exRules]
def exLlit : Layer :=
  ⟨[(1, none), (2, some (plus, 0)), (3, some (plus, 1))],
   [(none, [1]), (some (plus, 0), [2]), (some (plus, 1), [3])],
   [(none, [plus, one]), (some (plus, 0), [one]), (some (plus, 1), [one])],
   [],
   [(none, (0, 2, [(plus, 0), (one, 1)])), (some (plus, 0), (2, 1, [(one, 0)])), (some (plus, 1), (3, 1, [(one, 0)]))],
   4⟩
theorem exL_eq : exL = exLlit := by decide
/-- `(+ var0 1)` -/
def exProg : Prog := .node plus [.node x0 [], .node one []]

example : wfRules exRules = true := by decide
/-- whether the model returns a grammar does not depend on the values of the tensor: the kernel runs the
    model on the literal layer without evaluating a real number -/
theorem exL_tags : ∃ tags, tensor2logProbDet exL (1/5 : ℝ) (1/10^7) true exRules [0, 3, -2, 80] = some tags := by
  rw [exL_eq]
  exact ⟨_, rfl⟩

/-- the model returns a grammar on the literal layer (hypothesis `h` of C19_norm_det, C19_varmass_det) -/
example : ∃ tags, tensor2logProbDet exL (1/5 : ℝ) (1/10^7) true exRules [0, 3, -2, 80] = some tags := exL_tags
/-- the hypothesis of the ordering trick at `S2` (one variable, one constant, a primitive) -/
example : hypEps (1/5 : ℝ) (1/10^7) true (decide (0 < countKind .prim (exRules.lookup 2 |>.getD [])))
    (countKind .var (exRules.lookup 2 |>.getD [])) (countKind .const (exRules.lookup 2 |>.getD [])) = true := by
  have h1 : countKind .prim (exRules.lookup 2 |>.getD []) = 1 := by decide
  have h2 : countKind .var (exRules.lookup 2 |>.getD []) = 1 := by decide
  have h3 : countKind .const (exRules.lookup 2 |>.getD []) = 1 := by decide
  rw [h1, h2, h3]
  simp [hypEps]; norm_num
/-- `log_probability (+ var0 1)` is defined (hypothesis of C19_consistent_det) -/
example : ∃ lp, logProbabilityDet exRules 1
    ([(1, [(plus, (-1 : ℝ)), (one, -2)]), (2, [(one, -1), (x0, -2), (cst, -3)]), (3, [(one, -1), (x0, -2)])]) exProg = some lp := by
  exact ⟨_, rfl⟩
/-- `encode (+ var0 1)` marks `(None, +)` and `((+,1), 1)` (hypothesis of C19_encode_det) -/
example : encodeDet exL exRules 1 exProg = some [1, 0, 0, 1] := by decide

/-- the same grammar as an unambiguous grammar with the single start symbol `S1` -/
def exRulesU : AList NT (AList DP (List Alt)) :=
  [(1, [(plus, [[2, 3]]), (one, [[]])]), (2, [(x0, [[]]), (cst, [[]]), (one, [[]])]), (3, [(x0, [[]]), (one, [[]])])]
def exLU : Layer := mkLayerU exAbs (fun _ s => s) [(exRulesU, [1])]
def exLUlit : Layer :=
  ⟨[(1, none), (2, some (plus, 0)), (3, some (plus, 1))],
   [(none, [1]), (some (plus, 0), [2]), (some (plus, 1), [3])],
   [(none, [plus, one]), (some (plus, 0), [one]), (some (plus, 1), [one])],
   [none],
   [(none, (0, 2, [(plus, 0), (one, 1)])), (some (plus, 0), (2, 1, [(one, 0)])), (some (plus, 1), (3, 1, [(one, 0)]))],
   5⟩
theorem exLU_eq : exLU = exLUlit := by decide

example : wfRules exRulesU = true ∧ wfAlts exRulesU = true := by decide
theorem exLU_tags : ∃ tags st, tensor2logProbU exLU (1/5 : ℝ) (1/10^7) true exRulesU [1] [0, 3, -2, 80, 7]
    = some (tags, st) ∧ st ≠ [] := by
  rw [exLU_eq]
  exact ⟨_, _, rfl, List.cons_ne_nil _ _⟩

/-- hypothesis `h` of C19_norm_u, C19_varmass_u, C19_start_norm, with a non-empty start table -/
example : ∃ tags st, tensor2logProbU exLU (1/5 : ℝ) (1/10^7) true exRulesU [1] [0, 3, -2, 80, 7] = some (tags, st)
    ∧ st ≠ [] := exLU_tags
/-- hypothesis of C19_consistent_u / _start / _partial (single start symbol `S1`, start tag 0) -/
example : (∃ lp, logProbabilityU exRulesU [1]
    ([(1, [(plus, [([2, 3], (-1 : ℝ))]), (one, [([], -2)])]), (2, [(x0, [([], -2)]), (cst, [([], -3)]), (one, [([], -1)])]),
      (3, [(x0, [([], -2)]), (one, [([], -1)])])]) exProg = some lp)
    ∧ sumL ([((1 : NT), (0 : ℝ))].map (fun e : NT × ℝ => (ExpLog.exp e.2 : ℝ))) = 1 := by
  exact ⟨⟨_, rfl⟩, by simp [sumL]⟩
/-- hypothesis of C19_encode_u -/
example : encodeU exLU exRulesU [1] exProg = some [1, 0, 0, 1, 0] := by decide

end Examples

/-! ## Closed forms in the RAW tensor, and the slice table `abs2index`

  The theorems above speak about the tags as computed from the slice-wise normalised tensor.  The
  ones below are about the caller's RAW tensor `x` and about layers built by the constructors
  (`mkLayerDet`, `mkLayerU` = `__init__`), for ANY grammars, abstraction function and iteration
  order of the sets.  `rawAt L x S P` (PS/Proofs/PredictorSoftmax.lean) is `x[posOf L S P]`: the raw
  entry at the position that `encode` marks for the rule `(S, P)` (`C19_encode_det/_u`). -/

/-- **C19_prim_weight_raw (det).** The slice-wide log-softmax cancels: for every non-terminal `S`
    of the grammar asked for and every primitive rule `P` of `S`, the position `posOf L S P` is
    inside the tensor and

      `exp(tag(S,P)) = c · exp(x_P) / Σ_{Q primitive rule derivable from S} exp(x_Q)`

    where `x_Q = x[posOf L S Q]` are RAW tensor entries, `c = 1 - variable_probability` when `S`
    has variables or constants and `c = 1` otherwise. -/
theorem C19_prim_weight_raw_det {ρ : Type} (abstraction : NT → Abs) (iter : Abs → List DP → List DP)
    (grammars : List (AList NT (AList DP ρ))) (v ε : ℝ) (tvo : Bool)
    (rules : AList NT (AList DP (List NT))) (x : List ℝ) (tags : AList NT (AList DP ℝ))
    (h : tensor2logProbDet (mkLayerDet abstraction iter grammars) v ε tvo rules x = some tags)
    (hv1 : v < 1) (hwf : wfRules rules = true) :
    List.Forall₂ (fun e t => t.1 = e.1 ∧
      ∀ P ∈ AList.keys e.2, P.kind = .prim →
        ∃ pos tag, posOf (mkLayerDet abstraction iter grammars) e.1 P = some pos ∧ pos < x.length
          ∧ AList.lookup P t.2 = some tag
          ∧ Real.exp tag = (if countKind .var e.2 + countKind .const e.2 = 0 then 1 else 1 - v)
              * Real.exp (rawAt (mkLayerDet abstraction iter grammars) x e.1 P)
              / (((AList.keys e.2).filter (kindIs .prim)).map
                  (fun Q => Real.exp (rawAt (mkLayerDet abstraction iter grammars) x e.1 Q))).sum) rules tags := by
  have hc : Consec 0 (mkLayerDet abstraction iter grammars).abs2index := by
    rw [mkLayerDet_eq]; exact (mkLayerU_consec abstraction iter _).1
  refine (allSomeL_forall₂ h).imp fun e t ⟨he, het⟩ => ?_
  exact ⟨tagEntryDet_fst _ v ε tvo _ e t het, tagEntryDet_raw _ hc v ε tvo x e t het (wfRules_mem hwf e he) hv1⟩

/-- non-vacuity of `C19_prim_weight_raw_det`: its hypotheses hold on the literal layer of the
    examples above (`exL = mkLayerDet exAbs (fun _ s => s) [exRules]`) with the tensor `[0, 3, -2, 80]` -/
example : (∃ tags, tensor2logProbDet (mkLayerDet exAbs (fun _ s => s) [exRules]) (1/5 : ℝ) (1/10^7) true exRules
      [0, 3, -2, 80] = some tags) ∧ (1/5 : ℝ) < 1 ∧ wfRules exRules = true :=
  ⟨exL_tags, by norm_num, by decide⟩

theorem exL_rawAt (x : List ℝ) : rawAt exL x 1 plus = x.getD 0 0 ∧ rawAt exL x 1 one = x.getD 1 0 := by
  rw [exL_eq]
  constructor <;> simp [rawAt, posOf, exLlit, AList.lookup, plus, one]

/-- … and what the theorem says there: at `S1 -> + S2 S3 | 1` (raw entries 0 and 3, no variable) the
    weight of `+` is `e^0 / (e^0 + e^3)` -/
example (tags : AList NT (AList DP ℝ))
    (h : tensor2logProbDet exL (1/5 : ℝ) (1/10^7) true exRules [0, 3, -2, 80] = some tags) :
    ∃ t ∈ tags, t.1 = 1 ∧ ∃ tag, AList.lookup plus t.2 = some tag
      ∧ Real.exp tag = Real.exp 0 / (Real.exp 0 + Real.exp 3) := by
  obtain ⟨t, ht, h1, h2⟩ := forall₂_mem_left
    (C19_prim_weight_raw_det exAbs (fun _ s => s) [exRules] _ _ _ _ _ _ h (by norm_num) (by decide))
    (1, [(plus, [2, 3]), (one, [])]) (by simp [exRules])
  obtain ⟨pos, tag, -, -, a3, a4⟩ := h2 plus (List.mem_cons_self ..) rfl
  refine ⟨t, ht, h1, tag, a3, ?_⟩
  have hck : countKind Kind.var [(plus, [2, 3]), (one, ([] : List NT))]
      + countKind Kind.const [(plus, [2, 3]), (one, ([] : List NT))] = 0 := by decide
  have hf : List.filter (kindIs Kind.prim) (AList.keys [(plus, [2, 3]), (one, ([] : List NT))]) = [plus, one] := by
    decide
  dsimp only at a4
  rw [a4, hck, hf, if_pos rfl, List.map_cons, List.map_cons, List.map_nil, List.sum_cons, List.sum_cons, List.sum_nil,
    show mkLayerDet exAbs (fun _ s => s) [exRules] = exL from rfl, (exL_rawAt _).1, (exL_rawAt _).2]
  simp

/-- **C19_prim_weight_raw (U).** The same closed form for the unambiguous layer, per alternative:
    every alternative `k` of a primitive rule `P` of `S` has

      `exp(tag(S,P,k)) = c · exp(x_P) / Σ_{Q primitive rule of S} (number of alternatives of Q) · exp(x_Q)`

    (raw entries `x_Q = x[posOf L S Q]`); and — after fix 97880ac — the alternatives of the
    variables, numbered `j = 0, 1, …` in the order of the loops (`pairsOf`), have weight
    `vp/(M+C) - j·ε'` and every alternative of a constant `vp/(M+C) - M·ε'`, where `M`, `C` are
    the numbers of variable and constant alternatives, `vp = variable_probability` if a primitive
    alternative exists and 1 otherwise, `ε' = ε` with the ordering trick and 0 without. -/
theorem C19_prim_weight_raw_u {ρ : Type} (abstraction : NT → Abs) (iter : Abs → List DP → List DP)
    (grammars : List (AList NT (AList DP ρ) × List NT)) (v ε : ℝ) (tvo : Bool)
    (rules : AList NT (AList DP (List Alt))) (starts : List NT) (x : List ℝ)
    (tags : AList NT TagsU) (st : AList NT ℝ)
    (h : tensor2logProbU (mkLayerU abstraction iter grammars) v ε tvo rules starts x = some (tags, st))
    (hv0 : 0 < v) (hv1 : v < 1) (hε : 0 ≤ ε) (hwf : wfRules rules = true) (hwa : wfAlts rules = true) :
    List.Forall₂ (fun e t => t.1 = e.1 ∧
      (∀ r ∈ e.2, r.1.kind = .prim → ∀ k ∈ r.2,
        ∃ pos d tag, posOf (mkLayerU abstraction iter grammars) e.1 r.1 = some pos ∧ pos < x.length
          ∧ AList.lookup r.1 t.2 = some d ∧ AList.lookup k d = some tag
          ∧ Real.exp tag = (if countKind .var e.2 + countKind .const e.2 = 0 then 1 else 1 - v)
              * Real.exp (rawAt (mkLayerU abstraction iter grammars) x e.1 r.1)
              / ((e.2.filter (fun r => kindIs .prim r.1)).map
                  (fun r => (r.2.length : ℝ) * Real.exp (rawAt (mkLayerU abstraction iter grammars) x e.1 r.1))).sum)
      ∧ (0 < countAlts .var e.2 + countAlts .const e.2 →
          hypEps v ε tvo (decide (0 < countAlts .prim e.2)) (countAlts .var e.2) (countAlts .const e.2) = true →
          (∀ j (hj : j < (pairsOf (e.2.filter (fun p => kindIs .var p.1))).length), ∃ d tag,
              AList.lookup (pairsOf (e.2.filter (fun p => kindIs .var p.1)))[j].1 t.2 = some d
              ∧ AList.lookup (pairsOf (e.2.filter (fun p => kindIs .var p.1)))[j].2 d = some tag
              ∧ Real.exp tag = (if 0 < countAlts .prim e.2 then v else 1)
                    / ((countAlts .var e.2 : ℝ) + countAlts .const e.2) - j * (if tvo then ε else 0))
          ∧ (∀ q ∈ pairsOf (e.2.filter (fun p => kindIs .const p.1)), ∃ d tag,
              AList.lookup q.1 t.2 = some d ∧ AList.lookup q.2 d = some tag
              ∧ Real.exp tag = (if 0 < countAlts .prim e.2 then v else 1)
                    / ((countAlts .var e.2 : ℝ) + countAlts .const e.2)
                    - (countAlts .var e.2 : ℝ) * (if tvo then ε else 0)))) rules tags := by
  have hc := (mkLayerU_consec abstraction iter grammars).1
  refine (allSomeL_forall₂ (tensor2logProbU_some h).1).imp fun e t ⟨he, het⟩ => ?_
  obtain ⟨a1, a2⟩ := tagEntryU_raw _ hc v ε tvo x e t het hv0 hv1 hε (wfRules_mem hwf e he) (wfAlts_mem hwa e he)
  -- `innerLookup` spelt out as two dict accesses
  have two : ∀ {P : DP} {k : Alt} {p : ℝ → Prop}, (∃ tag, innerLookup t.2 P k = some tag ∧ p tag) →
      ∃ d tag, AList.lookup P t.2 = some d ∧ AList.lookup k d = some tag ∧ p tag := fun ⟨tag, b1, b2⟩ => by
    obtain ⟨d, d1, d2⟩ := innerLookup_some b1
    exact ⟨d, tag, d1, d2, b2⟩
  refine ⟨tagEntryU_fst _ v ε tvo _ e t het, fun r hr hk k hkm => ?_, fun hMC hhyp => ?_⟩
  · obtain ⟨pos, tag, b1, b2, b3, b4⟩ := a1 r hr hk k hkm
    obtain ⟨d, d1, d2⟩ := innerLookup_some b3
    exact ⟨pos, d, tag, b1, b2, d1, d2, b4⟩
  · exact ⟨fun j hj => two ((a2 hMC hhyp).1 j hj), fun q hq => two ((a2 hMC hhyp).2 q hq)⟩

/-- non-vacuity of `C19_prim_weight_raw_u` (and of `C19_start_weight_raw_u`, whose only hypothesis is the
    first conjunct): the hypotheses hold on `exLU = mkLayerU exAbs (fun _ s => s) [(exRulesU, [1])]` -/
example : (∃ tags st, tensor2logProbU (mkLayerU exAbs (fun _ s => s) [(exRulesU, [1])]) (1/5 : ℝ) (1/10^7) true
      exRulesU [1] [0, 3, -2, 80, 7] = some (tags, st))
    ∧ (0 : ℝ) < 1/5 ∧ (1/5 : ℝ) < 1 ∧ (0 : ℝ) ≤ 1/10^7 ∧ wfRules exRulesU = true ∧ wfAlts exRulesU = true := by
  obtain ⟨tags, st, h, -⟩ := exLU_tags
  exact ⟨⟨tags, st, h⟩, by norm_num, by norm_num, by norm_num, by decide, by decide⟩

/-- … and what the theorem says at `S2 -> var0 | cst | 1` (one variable alternative, one constant
    alternative, `hypEps` holds): `var0` has weight `(1/5)/2`, `cst` has `(1/5)/2 - 1e-7` -/
example (tags : AList NT TagsU) (st : AList NT ℝ)
    (h : tensor2logProbU exLU (1/5 : ℝ) (1/10^7) true exRulesU [1] [0, 3, -2, 80, 7] = some (tags, st)) :
    ∃ t ∈ tags, t.1 = 2 ∧ (∃ d tag, AList.lookup x0 t.2 = some d ∧ AList.lookup [] d = some tag
        ∧ Real.exp tag = (1/5 : ℝ) / 2)
      ∧ (∃ d tag, AList.lookup cst t.2 = some d ∧ AList.lookup [] d = some tag
        ∧ Real.exp tag = (1/5 : ℝ) / 2 - 1/10^7) := by
  obtain ⟨t, ht, h2, -, h3⟩ := forall₂_mem_left
    (C19_prim_weight_raw_u exAbs (fun _ s => s) [(exRulesU, [1])] _ _ _ _ _ _ _ _ h
      (by norm_num) (by norm_num) (by norm_num) (by decide) (by decide))
    (2, [(x0, [[]]), (cst, [[]]), (one, [[]])]) (by simp [exRulesU])
  refine ⟨t, ht, h2, ?_⟩
  have hV : countAlts .var [(x0, [[]]), (cst, [[]]), (one, ([[]] : List Alt))] = 1 := by decide
  have hC : countAlts .const [(x0, [[]]), (cst, [[]]), (one, ([[]] : List Alt))] = 1 := by decide
  have hP : countAlts .prim [(x0, [[]]), (cst, [[]]), (one, ([[]] : List Alt))] = 1 := by decide
  have hpv : pairsOf (List.filter (fun p => kindIs .var p.1) [(x0, [[]]), (cst, [[]]), (one, ([[]] : List Alt))])
      = [(x0, [])] := by decide
  have hpc : pairsOf (List.filter (fun p => kindIs .const p.1) [(x0, [[]]), (cst, [[]]), (one, ([[]] : List Alt))])
      = [(cst, [])] := by decide
  dsimp only at h3
  simp only [hV, hC, hP, hpv, hpc] at h3
  obtain ⟨b1, b2⟩ := h3 (by decide) (by simp [hypEps]; norm_num)
  constructor
  · obtain ⟨d, tag, c1, c2, c3⟩ := b1 0 (by decide)
    exact ⟨d, tag, c1, c2, by rw [c3]; norm_num⟩
  · obtain ⟨d, tag, c1, c2, c3⟩ := b2 (cst, []) (by simp)
    exact ⟨d, tag, c1, c2, by rw [c3]; norm_num⟩

/-- **C19_start_weight_raw (U).** The start tags are the softmax of RAW tensor entries: there is a
    table `d` (`start_tags` before its normalisation) whose entry for a start symbol `S` of the
    grammar asked for is the raw entry `x[output_size - len(all_starts_abs) + j]`, `j` the index of
    the abstraction of `S` in `all_starts_abs` — `__normalize__` does not touch that part — and
    `exp(start_tag S) = exp(d[S]) / Σ_{S'} exp(d[S'])`. -/
theorem C19_start_weight_raw_u {ρ : Type} (abstraction : NT → Abs) (iter : Abs → List DP → List DP)
    (grammars : List (AList NT (AList DP ρ) × List NT)) (v ε : ℝ) (tvo : Bool)
    (rules : AList NT (AList DP (List Alt))) (starts : List NT) (x : List ℝ)
    (tags : AList NT TagsU) (st : AList NT ℝ)
    (h : tensor2logProbU (mkLayerU abstraction iter grammars) v ε tvo rules starts x = some (tags, st)) :
    ∃ d : AList NT ℝ, AList.keys st = AList.keys d
      ∧ (∀ S t, AList.lookup S d = some t → S ∈ starts ∧ ∃ (j : ℕ) (a : Abs),
          (mkLayerU abstraction iter grammars).allStartsAbs[j]? = some a
          ∧ S ∈ ((mkLayerU abstraction iter grammars).abs2real.lookup a).getD []
          ∧ x[(mkLayerU abstraction iter grammars).outputSize
                - (mkLayerU abstraction iter grammars).allStartsAbs.length + j]? = some t)
      ∧ (∀ S t, AList.lookup S d = some t → ∃ tag, AList.lookup S st = some tag
          ∧ Real.exp tag = Real.exp t / (d.map (fun e => Real.exp e.2)).sum) := by
  obtain ⟨hc, hn⟩ := mkLayerU_consec abstraction iter grammars
  have hs := (tensor2logProbU_some h).2
  rw [startTagsU_normalize _ starts x hc hn] at hs
  obtain ⟨d, hd, hk, hcl⟩ := startTagsU_closed _ starts x _ hs
  refine ⟨d, hk, fun S t hl => ?_, hcl⟩
  obtain ⟨b1, j, a, b2, b3, b4⟩ := startRawU_from _ starts _ d hd S t hl
  exact ⟨b1, j, a, b2, b3, by rwa [List.getElem?_drop] at b4⟩

/-- **C19_index_bijection.** The slice table of a constructed layer (`iter k s` is the iteration
    order of the Python set `all_pairs[k]`: a permutation of it).  With `L = mkLayerU …`:
    1. distinct (abstraction key, primitive) pairs are read at distinct tensor positions
       `start + index`;
    2. an index lies inside its slice `[start, start+length)`, every slice lies before the start
       part of the tensor (`… + len(all_starts_abs) ≤ output_size`), only primitives are indexed;
    3. every position `p < output_size - len(all_starts_abs)` is the position of a pair (so the
       positions of the pairs are exactly `[0, output_size - len(all_starts_abs))`, the remaining
       `len(all_starts_abs)` positions are the start part, item 6);
    4. for every rule table `(S, r)` of every grammar given to the constructor: `real2abs[S]` is the
       abstraction of `S`, it has a slice, and every primitive rule of `S` has an index in that one
       slice (`posOf` is defined: no KeyError);
    5. the primitive rules of one non-terminal are read at pairwise distinct positions;
    6. `all_starts_abs` is duplicate free, contains the abstraction of every start symbol, and
       `output_size = Σ_k len(all_pairs[k]) + len(all_starts_abs)`. -/
theorem C19_index_bijection {ρ : Type} (abstraction : NT → Abs) (iter : Abs → List DP → List DP)
    (hiter : ∀ k s, (iter k s).Perm s) (grammars : List (AList NT (AList DP ρ) × List NT)) :
    (∀ (k1 k2 : Abs) (s1 l1 s2 l2 : ℕ) (sym1 sym2 : AList DP ℕ) (P1 P2 : DP) (i1 i2 : ℕ),
        AList.lookup k1 (mkLayerU abstraction iter grammars).abs2index = some (s1, l1, sym1) →
        AList.lookup k2 (mkLayerU abstraction iter grammars).abs2index = some (s2, l2, sym2) →
        AList.lookup P1 sym1 = some i1 → AList.lookup P2 sym2 = some i2 →
        s1 + i1 = s2 + i2 → k1 = k2 ∧ P1 = P2)
    ∧ (∀ (k : Abs) (s l : ℕ) (sym : AList DP ℕ) (P : DP) (i : ℕ),
        AList.lookup k (mkLayerU abstraction iter grammars).abs2index = some (s, l, sym) →
        AList.lookup P sym = some i →
        i < l ∧ s + l + (mkLayerU abstraction iter grammars).allStartsAbs.length
                  ≤ (mkLayerU abstraction iter grammars).outputSize ∧ P.kind = .prim)
    ∧ (∀ p, p + (mkLayerU abstraction iter grammars).allStartsAbs.length
              < (mkLayerU abstraction iter grammars).outputSize →
        ∃ k s l sym P i, AList.lookup k (mkLayerU abstraction iter grammars).abs2index = some (s, l, sym)
          ∧ AList.lookup P sym = some i ∧ p = s + i)
    ∧ (∀ g ∈ grammars, ∀ e ∈ g.1, ∃ s l sym,
        AList.lookup e.1 (mkLayerU abstraction iter grammars).real2abs = some (abstraction e.1)
        ∧ AList.lookup (abstraction e.1) (mkLayerU abstraction iter grammars).abs2index = some (s, l, sym)
        ∧ ∀ P ∈ AList.keys e.2, P.kind = .prim →
            ∃ i, AList.lookup P sym = some i ∧ i < l
              ∧ posOf (mkLayerU abstraction iter grammars) e.1 P = some (s + i))
    ∧ (∀ g ∈ grammars, ∀ e ∈ g.1, ∀ P ∈ AList.keys e.2, ∀ Q ∈ AList.keys e.2,
        P.kind = .prim → Q.kind = .prim →
        posOf (mkLayerU abstraction iter grammars) e.1 P = posOf (mkLayerU abstraction iter grammars) e.1 Q →
        P = Q)
    ∧ ((mkLayerU abstraction iter grammars).allStartsAbs.Nodup
        ∧ (∀ g ∈ grammars, ∀ S ∈ g.2, abstraction S ∈ (mkLayerU abstraction iter grammars).allStartsAbs)
        ∧ (mkLayerU abstraction iter grammars).outputSize
            = sumLens (mkLayerU abstraction iter grammars).allPairs
              + (mkLayerU abstraction iter grammars).allStartsAbs.length) := by
  refine ⟨index_inj abstraction iter grammars hiter, index_range abstraction iter grammars hiter, ?_, ?_, ?_,
    starts_spec abstraction iter grammars⟩
  · intro p hp
    apply index_cover abstraction iter grammars hiter p
    have := (starts_spec abstraction iter grammars).2.2
    omega
  · intro g hg e he
    obtain ⟨s, l, sym, a1, a2, _, a4⟩ := index_rules abstraction iter grammars hiter g hg e he
    exact ⟨s, l, sym, a1, a2, a4⟩
  · intro g hg e he P hP Q hQ hkP hkQ heq
    obtain ⟨s, l, sym, a1, a2, _, a4⟩ := index_rules abstraction iter grammars hiter g hg e he
    obtain ⟨i, b1, _, b3⟩ := a4 P hP hkP
    obtain ⟨i', c1, _, c3⟩ := a4 Q hQ hkQ
    rw [b3, c3] at heq
    exact (index_inj abstraction iter grammars hiter _ _ s l s l sym sym P Q i i' a2 a2 b1 c1
      (Option.some.inj heq)).2

/-- the deterministic constructor builds the same table (it is the unambiguous constructor
    without start symbols), so `C19_index_bijection` applies to it verbatim -/
theorem C19_index_bijection_det {ρ : Type} (abstraction : NT → Abs) (iter : Abs → List DP → List DP)
    (grammars : List (AList NT (AList DP ρ))) :
    mkLayerDet abstraction iter grammars = mkLayerU abstraction iter (grammars.map (fun g => (g, [])))
    ∧ (mkLayerDet abstraction iter grammars).allStartsAbs = [] :=
  ⟨mkLayerDet_eq abstraction iter grammars, mkLayerDet_allStartsAbs abstraction iter grammars⟩

/-- non-vacuity of `C19_index_bijection` on `exLU` (identity iteration order): every position
    `p < 4 = output_size - len(all_starts_abs)` is the position of a pair, and the two primitive
    rules of `S1` are read at different positions -/
example : (∀ p, p < 4 → ∃ k s l sym P i, AList.lookup k exLU.abs2index = some (s, l, sym)
      ∧ AList.lookup P sym = some i ∧ p = s + i)
    ∧ posOf exLU 1 plus ≠ posOf exLU 1 one := by
  have hb := C19_index_bijection exAbs (fun _ s => s) (fun _ s => List.Perm.refl s) [(exRulesU, [1])]
  constructor
  · intro p hp
    refine hb.2.2.1 p ?_
    show p + exLU.allStartsAbs.length < exLU.outputSize
    rw [exLU_eq]; simp [exLUlit]; omega
  · intro h
    have := hb.2.2.2.2.1 (exRulesU, [1]) (by simp) (1, [(plus, [[2, 3]]), (one, [[]])]) (by simp [exRulesU])
      plus (List.mem_cons_self ..) one (List.mem_cons_of_mem _ (List.mem_cons_self ..)) rfl rfl h
    exact absurd this (by decide)

/-! ## Findings (witnesses on the model): C19-F1 = C04-F1 is open in /repo; C19-F2 is repaired there (97880ac) -/

/-- **finding C19-F1 (= C04-F1)**: with several start symbols `exp(log_probability t)` (equivalently
    `ProbUGrammar.probability t`) differs from the probability of the derivation in the distribution
    that includes the start symbols by exactly the start weight.  Two start symbols `S1 -> a`,
    `S2 -> b`, all rule tags 0 (weight 1), start tags `log(1/2)` each (what the zero tensor gives):
    `log_probability a = 0`, `probability a = 1`, whereas the derivation `S1 -> a` has probability
    `1/2 = (start weight 1/2) × exp(log_probability a)`. -/
theorem finding_C19_F1 :
    let a : DP := ⟨.prim, "a"⟩
    let b : DP := ⟨.prim, "b"⟩
    let rules : AList NT (AList DP (List Alt)) := [(1, [(a, [[]])]), (2, [(b, [[]])])]
    let tags : AList NT TagsU := [(1, [(a, [([], 0)])]), (2, [(b, [([], 0)])])]
    let st : AList NT ℝ := [(1, Real.log (1/2)), (2, Real.log (1/2))]
    let d : List StepU := [⟨dummyNT, 1, a, [], []⟩]
    logProbabilityU rules [1, 2] tags (.node a []) = some (0 : ℝ)
    ∧ probabilityU rules [1, 2] (expTagsU tags) (.node a []) = (1 : ℝ)
    ∧ altsU rules (.node a []) 1 [] = [d] ∧ altsU rules (.node a []) 2 [] = []
    ∧ derivWeightU (expTagsU tags) (expStartU st) 1 d = some ((1/2 : ℝ) * Real.exp 0)
    ∧ Real.exp 0 ≠ (1/2 : ℝ) * Real.exp 0 := by
  intro a b rules tags st d
  -- the kernel runs the model on the literal grammar; what is left is arithmetic on the values
  exact ⟨(rfl : _ = some (((0 : ℕ) : ℝ) + 0)).trans (by simp),
    (rfl : _ = ((1 : ℕ) : ℝ) * Real.exp 0).trans (by simp), rfl, rfl,
    (rfl : _ = some (Real.exp (Real.log (1/2)) * Real.exp 0)).trans (by rw [Real.exp_log (by norm_num)]), by simp⟩

/-- **finding C19-F2** (`tagNTUOld` = the U-layer before 97880ac).  A non-terminal whose only rule
    is a variable with two alternatives (a variable used as a function): that code gives each
    alternative the whole share `1/len(variables)`, so the weights sum to 2 instead of 1; `tagNTU`
    (/repo) gives 1. -/
theorem finding_C19_F2 :
    let f : DP := ⟨.var, "var0"⟩
    massU (tagNTUOld (1/5 : ℝ) 0 false [(f, [])] [(f, [[1], [2]])] []) = 2
    ∧ massU (tagNTU (1/5 : ℝ) 0 false [(f, [])] [(f, [[1], [2]])] []) = 1 := by
  constructor
  · simp [tagNTUOld, massU, sumL, assignVarsU, assignAltsU, assignConstsU, setInner, AList.lookup, AList.insert]
    norm_num
  · simp [tagNTU, massU, sumL, assignVarsU, assignAltsU, assignConstsU, setInner, AList.lookup, AList.insert, nAlts]
    rw [Real.exp_neg, Real.exp_log (by norm_num : (0 : ℝ) < 2)]
    norm_num

end PS.Predictor
