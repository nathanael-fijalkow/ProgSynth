/-
  C17 — Instantiating constants expands templates without moving probability mass.

  Model: PS/Model/InstConst.lean (literal transcription of the four `instantiate_constants`
  and of `all_constants_instantiation`).  Specification: `isInst` (every slot of the template
  replaced independently by a value of its type), `prob` (product of the rule weights), row sums.

  The model takes a `Fix` saying which of the repairs fixes_applied/C17-F2/F3/F4.diff (commits
  5df344e, 3bc2ebd, a0276a2) are in the code: `Fix.repaired` (all three) is /repo, `Fix.asIs`
  (none) is the code before these commits.

  1. The `…_partial` theorems hold for EVERY `fx : Fix` — with or without any of the repairs —
     under the decidable hypotheses (evaluated by the driver on every case)
       rulesOK fx tbl d        rows are dicts; a key the code instantiates is a bare slot (finding
                               C17-F2 otherwise, unless `fx.f2`) with a duplicate-free value list
                               (finding C17-F3 otherwise, unless `fx.f3`); a constant the code leaves
                               alone has no value listed in the table for its type
       rulesNonEmpty fx tbl d  no slot has an empty value list (finding C17-F1 otherwise)
       progOK fx tbl t         every constant of the program has no value (C17-F2 unless `fx.f2`),
                               its type is in the table (C17-F4 unless `fx.f4`), no duplicate
                               values (C17-F3 unless `fx.f3`)
     The full statements (without hypotheses) are false for `Fix.asIs`: `finding_C17_F*`.
  2. For the repaired code the clauses of C17-F2/F3/F4 are gone: see "The repaired code" below.
-/
import PS.Proofs.InstConst
import PS.Proofs.InstConstProg
import PS.Proofs.InstConstMass
import PS.Proofs.InstConstLink
import PS.Proofs.InstConstU
import PS.Proofs.InstConstFix
import PS.Proofs.InstConstRepaired
namespace PS.IC
open PS PS.G

variable {S : Type} [DecidableEq S]

/-- **Language.** The instantiated grammar generates exactly the instantiations of the programs
    of the template grammar (from every non-terminal). -/
theorem C17_lang_partial (fx : Fix) (G : TT S Unit) (tbl : Tbl) (h : rulesOK fx tbl G.rules = true)
    (t' : Prog) (nt : NT S Unit) :
    gen (inst fx G tbl) t' nt = true ↔ ∃ t, gen G t nt = true ∧ isInst tbl t t' = true :=
  gen_inst_iff fx tbl G h t' nt

/-- the same for the implementation's membership test `program in grammar`
    (`DetGrammar.__contains__`, stack-based derivation) -/
theorem C17_lang_contains_partial (fx : Fix) (G : TT S Unit) (tbl : Tbl) (h : rulesOK fx tbl G.rules = true)
    (t' : Prog) :
    contains (inst fx G tbl) t' = true ↔ ∃ t, contains G t = true ∧ isInst tbl t t' = true := by
  rw [contains_eq_gen]
  simp only [contains_eq_gen]
  exact C17_lang_partial fx G tbl h t' G.start

/-- **Each instantiation comes from exactly one template**, namely `templ tbl t'`. -/
theorem C17_lang_unique_partial (fx : Fix) (G : TT S Unit) (tbl : Tbl) (h : rulesOK fx tbl G.rules = true)
    (t1 t2 t' : Prog) (nt : NT S Unit)
    (g1 : gen G t1 nt = true) (g2 : gen G t2 nt = true)
    (i1 : isInst tbl t1 t' = true) (i2 : isInst tbl t2 t' = true) : t1 = t2 :=
  templ_unique fx tbl G h g1 g2 i1 i2

/-- the rule table itself: under the hypothesis no insertion overwrites, every row is the
    concatenation of the expansions of its entries (in dict order) -/
theorem C17_rows_partial {ν : Type} (fx : Fix) (tbl : Tbl) (f : ν → Nat → ν) (row : AList Sym ν)
    (h : rowOK fx tbl row = true) :
    instRow fx tbl f row = row.flatMap (expand fx tbl f) ∧ (AList.keys (instRow fx tbl f row)).Nodup := by
  rw [instRow_eq_flatMap h]
  exact ⟨rfl, keys_flatMap_nodup h⟩

/-- **Program side.** `all_constants_instantiation` lists the instantiations of the program,
    each exactly once. -/
theorem C17_program_side_partial (fx : Fix) (tbl : Tbl) (t : Prog) (h : progOK fx tbl t = true) :
    ∃ l, allInst fx tbl t = some l ∧ l.Nodup ∧ ∀ t', t' ∈ l ↔ isInst tbl t t' = true :=
  (allInst_spec fx tbl).1 t h

/-- **Mass.** The instantiations of a template carry, in total, the template's probability. -/
theorem C17_mass_partial (fx : Fix) (G : TT S Unit) (tags : Tags S Unit) (tbl : Tbl)
    (hG : rulesOK fx tbl G.rules = true) (hT : rulesOK fx tbl tags = true)
    (hne : rulesNonEmpty fx tbl G.rules = true)
    (t : Prog) (nt : NT S Unit) (l : List Prog) (hg : gen G t nt = true) (hl : allInst fx tbl t = some l) :
    rsum (l.map fun t' => prob (inst fx G tbl) (instTags fx tags tbl) t' nt) = prob G tags t nt :=
  (mass fx tbl G tags hG hT hne).1 t nt l hg hl

/-- **Row sums** are preserved, hence … -/
theorem C17_rowsum_partial (fx : Fix) (tags : Tags S Unit) (tbl : Tbl)
    (h : rulesOK fx tbl tags = true) (hne : rulesNonEmpty fx tbl tags = true) (nt : NT S Unit)
    (row : AList Sym Rat) (hl : AList.lookup nt tags = some row) :
    ∃ row', AList.lookup nt (instTags fx tags tbl) = some row' ∧
      rsum (AList.values row') = rsum (AList.values row) := by
  refine ⟨instRow fx tbl (fun p n => p / (n : Rat)) row, ?_,
    rsum_instRow (rulesOK_row h hl) (rulesNonEmpty_row hne hl)⟩
  rw [lookup_instTags, hl]
  rfl

omit [DecidableEq S] in
/-- … **a normalised grammar stays normalised** (deterministic grammars). -/
theorem C17_normalised_partial (fx : Fix) (tags : Tags S Unit) (tbl : Tbl)
    (h : rulesOK fx tbl tags = true) (hne : rulesNonEmpty fx tbl tags = true)
    (hn : Normalised tags) : Normalised (instTags fx tags tbl) :=
  forall_mem_instRules fun e he =>
    (rsum_instRow (rulesOK_mem h he) (rulesNonEmpty_mem hne he)).trans (hn e he)

/-- the same for probabilistic unambiguous grammars (`ProbUGrammar`): the total weight of every
    non-terminal is preserved -/
theorem C17_normalised_u_partial {U : Type} (fx : Fix) (tags : UTags U) (tbl : Tbl)
    (h : rulesOK fx tbl tags = true) (hne : rulesNonEmpty fx tbl tags = true)
    (hn : NormalisedU tags) : NormalisedU (instUTags fx tags tbl) :=
  forall_mem_instRules fun e he =>
    (rsum_instURow (rulesOK_mem h he) (rulesNonEmpty_mem hne he)).trans (hn e he)

/-- rules of the instantiated unambiguous grammar: the list of alternatives of an instantiated
    symbol is the list of alternatives of its template symbol, and nothing else is there -/
theorem C17_ucfg_rules_partial {U : Type} [DecidableEq U] (fx : Fix) (R : UTable U) (tbl : Tbl)
    (h : rulesOK fx tbl R = true) (nt : UNT U) (row : AList Sym (List (List (UNT U))))
    (hl : AList.lookup nt R = some row) (k : Sym) (alts : List (List (UNT U))) :
    (∃ row', AList.lookup nt (instU fx R tbl) = some row' ∧ AList.lookup k row' = some alts) ↔
      ∃ P, AList.lookup P row = some alts ∧ symInst tbl P k = true := by
  unfold instU
  rw [lookup_instRules, hl]
  simp only [Option.map_some, Option.some.injEq, exists_eq_left']
  exact lookup_instRow_id_iff (rulesOK_row h hl) k alts

/-! ### non-vacuity: a small grammar `S → (+ A A) | 1`, `A → <int> | var0` -/
namespace Ex
def int : Ty := .base "int"
def bool : Ty := .base "bool"
def plus : Sym := Sym.prim "+" (.arrow int (.arrow int int))
def one : Sym := Sym.prim "1" int
def v0 : Sym := Sym.var 0 int
def slot : Sym := Sym.const int ""
def c (v : String) : Sym := Sym.const int v
def s0 : NT Nat Unit := (int, (0, ()))
def s1 : NT Nat Unit := (int, (1, ()))
def G : TT Nat Unit := ⟨s0, [(s0, [(plus, ([(int, 1), (int, 1)], ())), (one, ([], ()))]),
                              (s1, [(slot, ([], ())), (v0, ([], ()))])]⟩
def tags : Tags Nat Unit := [(s0, [(plus, 1/2), (one, 1/2)]), (s1, [(slot, 3/4), (v0, 1/4)])]
def tbl : Tbl := [(int, ["i:5", "i:6"]), (bool, [])]
def leaf (s : Sym) : Prog := .node s []
def t : Prog := .node plus [leaf slot, leaf v0]
def t' : Prog := .node plus [leaf (c "i:6"), leaf v0]
end Ex
open Ex

theorem Ex.rulesOK_G : rulesOK Fix.asIs tbl G.rules = true := by decide +kernel
theorem Ex.rulesOK_tags : rulesOK Fix.asIs tbl tags = true := by decide +kernel
theorem Ex.nonEmpty_G : rulesNonEmpty Fix.asIs tbl G.rules = true := by decide +kernel
theorem Ex.allInst_t : allInst Fix.asIs tbl t = some [.node plus [leaf (c "i:5"), leaf v0], t'] := by
  decide +kernel

example : rulesOK Fix.asIs tbl G.rules = true ∧ rulesOK Fix.asIs tbl tags = true ∧ rulesNonEmpty Fix.asIs tbl G.rules = true ∧
    rulesNonEmpty Fix.asIs tbl tags = true ∧ progOK Fix.asIs tbl t = true :=
  ⟨Ex.rulesOK_G, Ex.rulesOK_tags, Ex.nonEmpty_G, by decide +kernel, by decide +kernel⟩
example : gen G t G.start = true ∧ isInst tbl t t' = true ∧ gen (inst Fix.asIs G tbl) t' G.start = true ∧
    gen (inst Fix.asIs G tbl) t G.start = false ∧ templ tbl t' = t := by decide +kernel
example : allInst Fix.asIs tbl t = some [.node plus [leaf (c "i:5"), leaf v0], t'] := Ex.allInst_t
example : prob G tags t G.start = 3/32 ∧ prob (inst Fix.asIs G tbl) (instTags Fix.asIs tags tbl) t' G.start = 3/64 := by
  decide +kernel
example : normalisedB tags = true ∧ normalisedB (instTags Fix.asIs tags tbl) = true := by decide +kernel

/-! ### the model of `probability`, total mass, unambiguous grammars -/

/-- **The model of `ProbDetGrammar.probability` is the specification** `prob` (product of the
    rule weights along the derivation, 0 outside the language): for every grammar, every tag
    table (incomplete or unnormalised too) and every program.  No hypothesis.  (C04.) -/
theorem C17_prob_impl (G : TT S Unit) (tags : Tags S Unit) (t : Prog) :
    probability G tags t = prob G tags t G.start :=
  probability_eq_prob G tags t

example : probability G tags t = 3/32 ∧ probability (inst Fix.asIs G tbl) (instTags Fix.asIs tags tbl) t' = 3/64 ∧
    probability (inst Fix.asIs G tbl) (instTags Fix.asIs tags tbl) t = 0 := by decide +kernel

/-- **Mass, on what the code computes.** The values `probability` returns for the
    instantiations of a template of the grammar sum to the value it returns for the template. -/
theorem C17_mass_impl_partial (fx : Fix) (G : TT S Unit) (tags : Tags S Unit) (tbl : Tbl)
    (hG : rulesOK fx tbl G.rules = true) (hT : rulesOK fx tbl tags = true)
    (hne : rulesNonEmpty fx tbl G.rules = true)
    (t : Prog) (l : List Prog) (hg : contains G t = true) (hl : allInst fx tbl t = some l) :
    rsum (l.map (probability (inst fx G tbl) (instTags fx tags tbl))) = probability G tags t := by
  rw [probability_fun, C17_prob_impl]
  exact C17_mass_partial fx G tags tbl hG hT hne t G.start l (contains_eq_gen G t ▸ hg) hl

example : rsum ([.node plus [leaf (c "i:5"), leaf v0], t'].map
    (probability (inst Fix.asIs G tbl) (instTags Fix.asIs tags tbl))) = probability G tags t :=
  C17_mass_impl_partial Fix.asIs G tags tbl Ex.rulesOK_G Ex.rulesOK_tags Ex.nonEmpty_G t _
    (by decide +kernel) Ex.allInst_t

/-- **The enumerated language.** The programs of at most `k` levels of the instantiated grammar
    (C04's duplicate-free enumeration `lang`) are exactly the instantiations of the programs of
    at most `k` levels of the template grammar. -/
theorem C17_lang_enum_partial (fx : Fix) (G : TT S Unit) (tbl : Tbl) (h : rulesOK fx tbl G.rules = true)
    (k : Nat) (nt : NT S Unit) :
    (lang (inst fx G tbl) k nt).Nodup ∧
    ∀ t', t' ∈ lang (inst fx G tbl) k nt ↔ ∃ t ∈ lang G k nt, isInst tbl t t' = true :=
  ⟨lang_nodup _ (rowsNodup_inst h) k nt, mem_lang_inst fx tbl G h k nt⟩

example : (lang G 2 G.start).length = 5 ∧ (lang (inst Fix.asIs G tbl) 2 G.start).length = 10 ∧
    t ∈ lang G 2 G.start ∧ t' ∈ lang (inst Fix.asIs G tbl) 2 G.start := by decide +kernel

/-- **No probability mass is lost** (specification, every non-terminal, every depth budget):
    the probabilities of all programs of at most `k` levels of the instantiated grammar sum to
    the same value as those of the template grammar. -/
theorem C17_total_spec_partial (fx : Fix) (G : TT S Unit) (tags : Tags S Unit) (tbl : Tbl)
    (hG : rulesOK fx tbl G.rules = true) (hT : rulesOK fx tbl tags = true)
    (hne : rulesNonEmpty fx tbl G.rules = true) (k : Nat) (nt : NT S Unit) :
    ((lang (inst fx G tbl) k nt).map fun t' => prob (inst fx G tbl) (instTags fx tags tbl) t' nt).sum =
      ((lang G k nt).map fun t => prob G tags t nt).sum := by
  rw [← mass_eq_sum_prob, ← mass_eq_sum_prob]
  exact mass_inst fx tbl G tags hG hT hne k nt

/-- **No probability mass is lost** (what the code computes): the values of `probability` over
    the programs of the instantiated grammar sum to the same value as over the template grammar. -/
theorem C17_total_partial (fx : Fix) (G : TT S Unit) (tags : Tags S Unit) (tbl : Tbl)
    (hG : rulesOK fx tbl G.rules = true) (hT : rulesOK fx tbl tags = true)
    (hne : rulesNonEmpty fx tbl G.rules = true) (k : Nat) :
    ((lang (inst fx G tbl) k G.start).map (probability (inst fx G tbl) (instTags fx tags tbl))).sum =
      ((lang G k G.start).map (probability G tags)).sum := by
  rw [probability_fun, probability_fun]
  exact C17_total_spec_partial fx G tags tbl hG hT hne k G.start

/-- … hence **a distribution stays a distribution**: over a finite normalised grammar (C04's
    `Normalised`: the weights of the rules of every non-terminal sum to 1) the values of
    `probability` over the instantiated language sum to 1. -/
theorem C17_total_one_partial (fx : Fix) (G : TT S Unit) (tags : Tags S Unit) (tbl : Tbl)
    (hG : rulesOK fx tbl G.rules = true) (hT : rulesOK fx tbl tags = true)
    (hne : rulesNonEmpty fx tbl G.rules = true) (hk : (AList.keys G.rules).Nodup)
    (hn : PS.G.Normalised G tags) (k : Nat) (hb : bounded G k G.start = true) :
    ((lang (inst fx G tbl) k G.start).map (probability (inst fx G tbl) (instTags fx tags tbl))).sum = 1 := by
  rw [C17_total_partial fx G tags tbl hG hT hne k, probability_fun, ← mass_eq_sum_prob]
  exact mass_eq_one G tags hk hn k G.start hb

theorem ex_normalised : PS.G.Normalised G tags ∧ (AList.keys G.rules).Nodup ∧
    bounded G 2 G.start = true := by
  exact ⟨normalised_of_normalisedB (by decide +kernel), by decide, by decide⟩

/-- the hypotheses of `C17_total_one_partial` hold on the example: the 10 programs of the
    instantiated grammar have total probability 1 -/
example : ((lang (inst Fix.asIs G tbl) 2 G.start).map (probability (inst Fix.asIs G tbl) (instTags Fix.asIs tags tbl))).sum = 1 :=
  C17_total_one_partial Fix.asIs G tags tbl Ex.rulesOK_G Ex.rulesOK_tags Ex.nonEmpty_G
    ex_normalised.2.1 ex_normalised.1 2 ex_normalised.2.2

/-! #### unambiguous grammars (UCFG / ProbUGrammar) at language level

  `instUG` / `instUTg` (PS/Proofs/InstConstU.lean) are `UCFG.instantiate_constants` /
  `ProbUGrammar.instantiate_constants` on the grammar objects of C04 (`PS.U.UCFG`, `PS.U.UTags`):
  start symbols and start tags unchanged.  `PS.U.genU` / `PS.U.allDerivs` / `PS.U.probU` are C04's
  specification (stack-free derivations), `PS.U.contains` / `PS.U.probabilityU` the
  transcriptions of the code. -/

variable {V : Type} [DecidableEq V]

/-- **Language** of the instantiated unambiguous grammar = the instantiations of the programs of
    the template grammar (specification `genU`: existence of a derivation from a start symbol). -/
theorem C17_lang_u_partial (fx : Fix) (G : U.UCFG V) (tbl : Tbl) (h : rulesOK fx tbl G.rules = true) (t' : Prog) :
    U.genU (instUG fx G tbl) t' = true ↔ ∃ t, U.genU G t = true ∧ isInst tbl t t' = true :=
  genU_inst_iff fx tbl G h t'

/-- the same for the implementation's membership test (`UGrammar.__contains__`, possibility
    lists over the pending stack) -/
theorem C17_lang_u_contains_partial (fx : Fix) (G : U.UCFG V) (tbl : Tbl) (h : rulesOK fx tbl G.rules = true)
    (t' : Prog) :
    U.contains (instUG fx G tbl) t' = true ↔ ∃ t, U.contains G t = true ∧ isInst tbl t t' = true := by
  rw [U.contains_eq_genU]
  simp only [U.contains_eq_genU]
  exact C17_lang_u_partial fx G tbl h t'

/-- **each instantiation comes from exactly one template** -/
theorem C17_lang_u_unique_partial (fx : Fix) (G : U.UCFG V) (tbl : Tbl) (h : rulesOK fx tbl G.rules = true)
    (t1 t2 t' : Prog) (g1 : U.genU G t1 = true) (g2 : U.genU G t2 = true)
    (i1 : isInst tbl t1 t' = true) (i2 : isInst tbl t2 t' = true) : t1 = t2 :=
  templ_unique_u fx tbl G h g1 g2 i1 i2

/-- **derivations correspond one to one**: the derivations of an instantiation `t'` in the
    instantiated grammar are, in the same order and from the same start symbols, the derivations
    of its template `t` (symbols renamed back by `templSym`) — so **unambiguity is preserved**. -/
theorem C17_derivs_u_partial (fx : Fix) (G : U.UCFG V) (tbl : Tbl) (h : rulesOK fx tbl G.rules = true)
    (t t' : Prog) (hg : U.genU G t = true) (hi : isInst tbl t t' = true) :
    (U.allDerivs (instUG fx G tbl) t').map (fun sd => (sd.1, sd.2.map (derTempl tbl))) = U.allDerivs G t ∧
    U.unambiguousOn (instUG fx G tbl) t' = U.unambiguousOn G t :=
  ⟨allDerivs_inst fx tbl G h t t' (clean_of_genU fx tbl G h t hg) hi,
   unambiguousOn_inst fx tbl G h t t' hg hi⟩

/-- **Mass** (specification `probU`: start weight × product of the rule weights of the unique
    derivation): the instantiations of an unambiguous template share its probability. -/
theorem C17_mass_u_partial (fx : Fix) (G : U.UCFG V) (tg : U.UTags V) (tbl : Tbl)
    (hG : rulesOK fx tbl G.rules = true) (hT : rulesOK fx tbl tg.tags = true)
    (hne : rulesNonEmpty fx tbl G.rules = true) (t : Prog) (l : List Prog)
    (hg : U.genU G t = true) (hu : U.unambiguousOn G t = true) (hl : allInst fx tbl t = some l) :
    rsum (l.map (U.probU (instUG fx G tbl) (instUTg fx tg tbl))) = U.probU G tg t :=
  probU_mass fx tbl G tg hG hT hne t l hg hu hl

/-- **Mass, on what the code computes** (`ProbUGrammar.probability`: the `reduce_derivations`
    fold over the first alternative, without the start factor — finding C04-F1 — so no
    hypothesis on the start weights is needed here). -/
theorem C17_mass_u_impl_partial (fx : Fix) (G : U.UCFG V) (tg : U.UTags V) (tbl : Tbl)
    (hG : rulesOK fx tbl G.rules = true) (hT : rulesOK fx tbl tg.tags = true)
    (hne : rulesNonEmpty fx tbl G.rules = true) (t : Prog) (l : List Prog)
    (hg : U.contains G t = true) (hu : U.unambiguousOn G t = true) (hl : allInst fx tbl t = some l) :
    rsum (l.map (U.probabilityU (instUG fx G tbl) (instUTg fx tg tbl))) = U.probabilityU G tg t := by
  rw [U.contains_eq_genU] at hg
  exact probabilityU_mass fx tbl G tg hG hT hne t l hg hu hl

/-- **No mass is lost** (unambiguous grammars): the total weight of the derivations of at most
    `k` levels from every non-terminal is unchanged (C04's `massU`; = 1 at a non-terminal of a
    normalised grammar that is bounded at depth `k`: `U.Mass.massU_eq_one`). -/
theorem C17_total_u_partial (fx : Fix) (G : U.UCFG V) (tg : U.UTags V) (tbl : Tbl)
    (hG : rulesOK fx tbl G.rules = true) (hT : rulesOK fx tbl tg.tags = true)
    (hne : rulesNonEmpty fx tbl G.rules = true) (k : Nat) (nt : U.UNT V) :
    U.Mass.massU (instUG fx G tbl) (instUTg fx tg tbl) k nt = U.Mass.massU G tg k nt :=
  massU_inst fx tbl G tg hG hT hne k nt

/-! non-vacuity: `q0 → (+ q1 q1) | (+ q2 q1) | 1`, `q1 → <int> | var0`, `q2 → 1` (two alternatives
    for `+`; the template `(+ <int> var0)` has one derivation) -/
namespace ExU
def q0 : U.UNT Nat := (int, 0)
def q1 : U.UNT Nat := (int, 1)
def q2 : U.UNT Nat := (int, 2)
def GU : U.UCFG Nat :=
  ⟨[q0], [(q0, [(plus, [[q1, q1], [q2, q1]]), (one, [[]])]), (q1, [(slot, [[]]), (v0, [[]])]),
          (q2, [(one, [[]])])], q0⟩
def tgU : U.UTags Nat :=
  ⟨[(q0, [(plus, [([q1, q1], 1/4), ([q2, q1], 1/4)]), (one, [([], 1/2)])]),
    (q1, [(slot, [([], 3/4)]), (v0, [([], 1/4)])]), (q2, [(one, [([], 1)])])], [(q0, 1)]⟩
end ExU
open ExU

theorem ExU.rulesOK_GU : rulesOK Fix.asIs tbl GU.rules = true := by decide +kernel
theorem ExU.rulesOK_tgU : rulesOK Fix.asIs tbl tgU.tags = true := by decide +kernel
theorem ExU.nonEmpty_GU : rulesNonEmpty Fix.asIs tbl GU.rules = true := by decide +kernel
theorem ExU.contains_t : U.contains GU t = true := by decide +kernel
theorem ExU.unambiguous_t : U.unambiguousOn GU t = true := by decide +kernel

example : rulesOK Fix.asIs tbl GU.rules = true ∧ rulesOK Fix.asIs tbl tgU.tags = true ∧
    rulesNonEmpty Fix.asIs tbl GU.rules = true ∧ U.contains GU t = true ∧ U.genU GU t = true ∧
    U.unambiguousOn GU t = true :=
  ⟨ExU.rulesOK_GU, ExU.rulesOK_tgU, ExU.nonEmpty_GU, ExU.contains_t, by decide +kernel, ExU.unambiguous_t⟩
example : U.genU (instUG Fix.asIs GU tbl) t' = true ∧ U.genU (instUG Fix.asIs GU tbl) t = false ∧
    U.unambiguousOn (instUG Fix.asIs GU tbl) t' = true ∧ (U.allDerivs (instUG Fix.asIs GU tbl) t').length = 1 := by
  decide +kernel
example : U.probabilityU GU tgU t = 3/64 ∧ U.probU GU tgU t = 3/64 ∧
    U.probabilityU (instUG Fix.asIs GU tbl) (instUTg Fix.asIs tgU tbl) t' = 3/128 := by decide +kernel
example : rsum ([.node plus [leaf (c "i:5"), leaf v0], t'].map
    (U.probabilityU (instUG Fix.asIs GU tbl) (instUTg Fix.asIs tgU tbl))) = U.probabilityU GU tgU t :=
  C17_mass_u_impl_partial Fix.asIs GU tgU tbl ExU.rulesOK_GU ExU.rulesOK_tgU ExU.nonEmpty_GU t _
    ExU.contains_t ExU.unambiguous_t Ex.allInst_t
example : U.Mass.massU (instUG Fix.asIs GU tbl) (instUTg Fix.asIs tgU tbl) 2 q0 = 1 ∧ U.Mass.massU GU tgU 2 q0 = 1 := by
  decide +kernel

/-! ## The repaired code (`Fix.repaired`: fixes_applied/C17-F2.diff, C17-F3.diff, C17-F4.diff)

  The same statements without the clauses of the findings C17-F2, C17-F3 and C17-F4.  What is
  left is
    grammarWF tbl d      the rows are dicts, "" is not a value, and no constant of the grammar
                         already carries a value that the table lists for a type that still has a
                         slot in the grammar (then `<int>` and `5` would be two templates of the
                         instantiation `5`: "obtained exactly once" cannot hold for any code);
                         a grammar whose constants of a type all have values (an instantiated
                         grammar) satisfies it for every table — `C17_idempotent`;
    tagsWF tbl d tags    the same for the tags of a probabilistic grammar with rule table `d`
                         (they have no other slot types than the rules);
    slotsNonEmpty tbl d  no slot of the grammar has an empty value list — finding C17-F1, which
                         stays: the theorems that need it keep the suffix `_partial`.
  The program side needs no hypothesis at all. -/

/-- **Language** (repaired code). -/
theorem C17_lang (G : TT S Unit) (tbl : Tbl) (h : grammarWF tbl G.rules = true)
    (t' : Prog) (nt : NT S Unit) :
    gen (inst Fix.repaired G tbl) t' nt = true ↔ ∃ t, gen G t nt = true ∧ isInst tbl t t' = true :=
  lang_wf rfl rfl G tbl h t' nt

/-- the same for the membership test `program in grammar` -/
theorem C17_lang_contains (G : TT S Unit) (tbl : Tbl) (h : grammarWF tbl G.rules = true) (t' : Prog) :
    contains (inst Fix.repaired G tbl) t' = true ↔
      ∃ t, contains G t = true ∧ isInst tbl t t' = true := by
  rw [contains_eq_gen]
  simp only [contains_eq_gen]
  exact C17_lang G tbl h t' G.start

/-- **Each instantiation comes from exactly one template** (repaired code). -/
theorem C17_lang_unique (G : TT S Unit) (tbl : Tbl) (h : grammarWF tbl G.rules = true)
    (t1 t2 t' : Prog) (nt : NT S Unit)
    (g1 : gen G t1 nt = true) (g2 : gen G t2 nt = true)
    (i1 : isInst tbl t1 t' = true) (i2 : isInst tbl t2 t' = true) : t1 = t2 :=
  lang_unique_wf (fx := Fix.repaired) rfl rfl G tbl h t1 t2 t' nt g1 g2 i1 i2

/-- no insertion overwrites: every row of the new table is the concatenation of the expansions
    of the entries of the old row, keys distinct (repaired code) -/
theorem C17_rows {κ ν : Type} [DecidableEq κ] (tbl : Tbl) (f : ν → Nat → ν)
    (d : AList κ (AList Sym ν)) (h : grammarWF tbl d = true) (nt : κ) (row : AList Sym ν)
    (hl : AList.lookup nt d = some row) :
    instRow Fix.repaired tbl f row = row.flatMap (expand Fix.repaired tbl f) ∧
      (AList.keys (instRow Fix.repaired tbl f row)).Nodup :=
  rows_wf rfl rfl tbl f d h nt row hl

/-- **Program side** (repaired code): for EVERY program and EVERY table
    `all_constants_instantiation` lists the instantiations of the program, each exactly once —
    constants that already have a value, constants whose type is not in the table and value lists
    with duplicates included. -/
theorem C17_program_side (tbl : Tbl) (t : Prog) :
    ∃ l, allInst Fix.repaired tbl t = some l ∧ l.Nodup ∧ ∀ t', t' ∈ l ↔ isInst tbl t t' = true :=
  (allInst_spec Fix.repaired tbl).1 t ((progOK_of_fix rfl rfl rfl tbl).1 t)

/-- **Mass** (repaired code; C17-F1 stays). -/
theorem C17_mass_repaired_partial (G : TT S Unit) (tags : Tags S Unit) (tbl : Tbl)
    (hG : grammarWF tbl G.rules = true) (hT : tagsWF tbl G.rules tags = true)
    (hne : slotsNonEmpty tbl G.rules = true)
    (t : Prog) (nt : NT S Unit) (l : List Prog) (hg : gen G t nt = true)
    (hl : allInst Fix.repaired tbl t = some l) :
    rsum (l.map fun t' => prob (inst Fix.repaired G tbl) (instTags Fix.repaired tags tbl) t' nt) =
      prob G tags t nt :=
  mass_wf rfl rfl G tags tbl hG hT hne t nt l hg hl

/-- **Row sums** are preserved (repaired code; C17-F1 stays), hence … -/
theorem C17_rowsum_repaired_partial (tags : Tags S Unit) (tbl : Tbl)
    (h : grammarWF tbl tags = true) (hne : slotsNonEmpty tbl tags = true) (nt : NT S Unit)
    (row : AList Sym Rat) (hl : AList.lookup nt tags = some row) :
    ∃ row', AList.lookup nt (instTags Fix.repaired tags tbl) = some row' ∧
      rsum (AList.values row') = rsum (AList.values row) := by
  refine ⟨instRow Fix.repaired tbl (fun p n => p / (n : Rat)) row, ?_,
    rsum_instRow_wf (e := (nt, row)) rfl rfl tbl tags h hne (AList.lookup_some_mem hl)⟩
  rw [lookup_instTags, hl]
  rfl

/-- … **a normalised grammar stays normalised** (repaired code; C17-F1 stays). -/
theorem C17_normalised_repaired_partial (tags : Tags S Unit) (tbl : Tbl)
    (h : grammarWF tbl tags = true) (hne : slotsNonEmpty tbl tags = true)
    (hn : Normalised tags) : Normalised (instTags Fix.repaired tags tbl) :=
  forall_mem_instRules fun e he => (rsum_instRow_wf rfl rfl tbl tags h hne he).trans (hn e he)

/-- the same for probabilistic unambiguous grammars -/
theorem C17_normalised_u_repaired_partial {U : Type} [DecidableEq U] (tags : UTags U) (tbl : Tbl)
    (h : grammarWF tbl tags = true) (hne : slotsNonEmpty tbl tags = true)
    (hn : NormalisedU tags) : NormalisedU (instUTags Fix.repaired tags tbl) :=
  forall_mem_instRules fun e he => (rsum_instURow_wf rfl rfl tbl tags h hne he).trans (hn e he)

/-- rules of the instantiated unambiguous grammar (repaired code) -/
theorem C17_ucfg_rules {U : Type} [DecidableEq U] (R : UTable U) (tbl : Tbl)
    (h : grammarWF tbl R = true) (nt : UNT U) (row : AList Sym (List (List (UNT U))))
    (hl : AList.lookup nt R = some row) (k : Sym) (alts : List (List (UNT U))) :
    (∃ row', AList.lookup nt (instU Fix.repaired R tbl) = some row' ∧
        AList.lookup k row' = some alts) ↔
      ∃ P, AList.lookup P row = some alts ∧ symInst tbl P k = true := by
  have hc : ∀ P ∈ AList.keys row, covered (slotTys R) P :=
    covers_slotTys R (nt, row) (AList.lookup_some_mem hl)
  have h0 := C17_ucfg_rules_partial Fix.repaired R (restrict (slotTys R) tbl)
    (rulesOK_of_grammarWF rfl rfl h) nt row hl k alts
  unfold instU at h0 ⊢
  rw [instRules_restrict rfl _ (covers_slotTys R)] at h0
  rw [h0]
  exact exists_congr fun P => and_congr_right fun hP => by
    rw [symInst_restrict (hc P (AList.mem_keys_of_lookup hP))]

/-- **Mass, on what the code computes** (repaired code; C17-F1 stays). -/
theorem C17_mass_impl_repaired_partial (G : TT S Unit) (tags : Tags S Unit) (tbl : Tbl)
    (hG : grammarWF tbl G.rules = true) (hT : tagsWF tbl G.rules tags = true)
    (hne : slotsNonEmpty tbl G.rules = true)
    (t : Prog) (l : List Prog) (hg : contains G t = true) (hl : allInst Fix.repaired tbl t = some l) :
    rsum (l.map (probability (inst Fix.repaired G tbl) (instTags Fix.repaired tags tbl))) =
      probability G tags t := by
  rw [probability_fun, C17_prob_impl]
  exact C17_mass_repaired_partial G tags tbl hG hT hne t G.start l (contains_eq_gen G t ▸ hg) hl

/-- **The enumerated language** (repaired code). -/
theorem C17_lang_enum (G : TT S Unit) (tbl : Tbl) (h : grammarWF tbl G.rules = true)
    (k : Nat) (nt : NT S Unit) :
    (lang (inst Fix.repaired G tbl) k nt).Nodup ∧
    ∀ t', t' ∈ lang (inst Fix.repaired G tbl) k nt ↔ ∃ t ∈ lang G k nt, isInst tbl t t' = true :=
  ⟨lang_nodup _ (rowsNodup_inst_wf rfl rfl G tbl h) k nt, mem_lang_inst_wf rfl rfl G tbl h k nt⟩

/-- **No probability mass is lost** (specification; repaired code; C17-F1 stays). -/
theorem C17_total_spec_repaired_partial (G : TT S Unit) (tags : Tags S Unit) (tbl : Tbl)
    (hG : grammarWF tbl G.rules = true) (hT : tagsWF tbl G.rules tags = true)
    (hne : slotsNonEmpty tbl G.rules = true) (k : Nat) (nt : NT S Unit) :
    ((lang (inst Fix.repaired G tbl) k nt).map fun t' =>
        prob (inst Fix.repaired G tbl) (instTags Fix.repaired tags tbl) t' nt).sum =
      ((lang G k nt).map fun t => prob G tags t nt).sum := by
  rw [← mass_eq_sum_prob, ← mass_eq_sum_prob]
  exact mass_inst_wf (fx := Fix.repaired) rfl rfl G tags tbl hG hT hne k nt

/-- **No probability mass is lost** (what the code computes; repaired code; C17-F1 stays). -/
theorem C17_total_repaired_partial (G : TT S Unit) (tags : Tags S Unit) (tbl : Tbl)
    (hG : grammarWF tbl G.rules = true) (hT : tagsWF tbl G.rules tags = true)
    (hne : slotsNonEmpty tbl G.rules = true) (k : Nat) :
    ((lang (inst Fix.repaired G tbl) k G.start).map
        (probability (inst Fix.repaired G tbl) (instTags Fix.repaired tags tbl))).sum =
      ((lang G k G.start).map (probability G tags)).sum := by
  rw [probability_fun, probability_fun]
  exact C17_total_spec_repaired_partial G tags tbl hG hT hne k G.start

/-- … **a distribution stays a distribution** (repaired code; C17-F1 stays). -/
theorem C17_total_one_repaired_partial (G : TT S Unit) (tags : Tags S Unit) (tbl : Tbl)
    (hG : grammarWF tbl G.rules = true) (hT : tagsWF tbl G.rules tags = true)
    (hne : slotsNonEmpty tbl G.rules = true) (hk : (AList.keys G.rules).Nodup)
    (hn : PS.G.Normalised G tags) (k : Nat) (hb : bounded G k G.start = true) :
    ((lang (inst Fix.repaired G tbl) k G.start).map
      (probability (inst Fix.repaired G tbl) (instTags Fix.repaired tags tbl))).sum = 1 := by
  rw [C17_total_repaired_partial G tags tbl hG hT hne k, probability_fun, ← mass_eq_sum_prob]
  exact mass_eq_one G tags hk hn k G.start hb

/-- **Language** of the instantiated unambiguous grammar (repaired code). -/
theorem C17_lang_u (G : U.UCFG V) (tbl : Tbl) (h : grammarWF tbl G.rules = true) (t' : Prog) :
    U.genU (instUG Fix.repaired G tbl) t' = true ↔ ∃ t, U.genU G t = true ∧ isInst tbl t t' = true :=
  genU_inst_wf rfl rfl G tbl h t'

/-- the same for the implementation's membership test -/
theorem C17_lang_u_contains (G : U.UCFG V) (tbl : Tbl) (h : grammarWF tbl G.rules = true)
    (t' : Prog) :
    U.contains (instUG Fix.repaired G tbl) t' = true ↔
      ∃ t, U.contains G t = true ∧ isInst tbl t t' = true := by
  rw [U.contains_eq_genU]
  simp only [U.contains_eq_genU]
  exact C17_lang_u G tbl h t'

/-- **each instantiation comes from exactly one template** (unambiguous grammars, repaired code) -/
theorem C17_lang_u_unique (G : U.UCFG V) (tbl : Tbl) (h : grammarWF tbl G.rules = true)
    (t1 t2 t' : Prog) (g1 : U.genU G t1 = true) (g2 : U.genU G t2 = true)
    (i1 : isInst tbl t1 t' = true) (i2 : isInst tbl t2 t' = true) : t1 = t2 :=
  lang_u_unique_wf (fx := Fix.repaired) rfl rfl G tbl h t1 t2 t' g1 g2 i1 i2

/-- **derivations correspond one to one, unambiguity is preserved** (repaired code); the symbols
    are renamed back with respect to the part of the table that matters -/
theorem C17_derivs_u (G : U.UCFG V) (tbl : Tbl) (h : grammarWF tbl G.rules = true)
    (t t' : Prog) (hg : U.genU G t = true) (hi : isInst tbl t t' = true) :
    (U.allDerivs (instUG Fix.repaired G tbl) t').map
        (fun sd => (sd.1, sd.2.map (derTempl (restrict (slotTys G.rules) tbl)))) = U.allDerivs G t ∧
    U.unambiguousOn (instUG Fix.repaired G tbl) t' = U.unambiguousOn G t :=
  derivs_u_wf rfl rfl G tbl h t t' hg hi

/-- **Mass** (specification `probU`; repaired code; C17-F1 stays). -/
theorem C17_mass_u_repaired_partial (G : U.UCFG V) (tg : U.UTags V) (tbl : Tbl)
    (hG : grammarWF tbl G.rules = true) (hT : tagsWF tbl G.rules tg.tags = true)
    (hne : slotsNonEmpty tbl G.rules = true) (t : Prog) (l : List Prog)
    (hg : U.genU G t = true) (hu : U.unambiguousOn G t = true)
    (hl : allInst Fix.repaired tbl t = some l) :
    rsum (l.map (U.probU (instUG Fix.repaired G tbl) (instUTg Fix.repaired tg tbl))) = U.probU G tg t :=
  probU_mass_wf rfl rfl G tg tbl hG hT hne t l hg hu hl

/-- **Mass, on what the code computes** (`ProbUGrammar.probability`; repaired code; C17-F1 stays). -/
theorem C17_mass_u_impl_repaired_partial (G : U.UCFG V) (tg : U.UTags V) (tbl : Tbl)
    (hG : grammarWF tbl G.rules = true) (hT : tagsWF tbl G.rules tg.tags = true)
    (hne : slotsNonEmpty tbl G.rules = true) (t : Prog) (l : List Prog)
    (hg : U.contains G t = true) (hu : U.unambiguousOn G t = true)
    (hl : allInst Fix.repaired tbl t = some l) :
    rsum (l.map (U.probabilityU (instUG Fix.repaired G tbl) (instUTg Fix.repaired tg tbl))) =
      U.probabilityU G tg t := by
  rw [U.contains_eq_genU] at hg
  exact probabilityU_mass_wf rfl rfl G tg tbl hG hT hne t l hg hu hl

/-- **No mass is lost** (unambiguous grammars; repaired code; C17-F1 stays). -/
theorem C17_total_u_repaired_partial (G : U.UCFG V) (tg : U.UTags V) (tbl : Tbl)
    (hG : grammarWF tbl G.rules = true) (hT : tagsWF tbl G.rules tg.tags = true)
    (hne : slotsNonEmpty tbl G.rules = true) (k : Nat) (nt : U.UNT V) :
    U.Mass.massU (instUG Fix.repaired G tbl) (instUTg Fix.repaired tg tbl) k nt =
      U.Mass.massU G tg k nt :=
  massU_inst_wf rfl rfl G tg tbl hG hT hne k nt

omit [DecidableEq S] in
/-- **Instantiating an instantiated grammar**: when every constant of a type of the table already
    has a value (no slot of a table type is left — the situation after a first instantiation with
    the same types) the hypothesis `grammarWF` holds whatever values the grammar and the table
    contain, provided the rows are dicts, and the repaired code returns the grammar unchanged. -/
theorem C17_idempotent (G : TT S Unit) (tbl : Tbl)
    (hd : ∀ e ∈ G.rules, (AList.keys e.2).Nodup)
    (hs : ∀ e ∈ G.rules, ∀ P ∈ AList.keys e.2, slot? Fix.repaired tbl P = none) :
    grammarWF tbl G.rules = true ∧ inst Fix.repaired G tbl = G :=
  idempotent_wf G tbl hd hs

/-! ### non-vacuity (repaired code): `S → (+ A A) | 1 | (ite B A A)`, `A → <int> | var0 | 9`,
    `B → <bool>` — the constant `9` already has a value, `bool` is not a type of the table, the
    table lists the value 5 twice and has a type (`str`) without slot -/
namespace ExR
def slotB : Sym := Sym.const bool ""
def ite : Sym := Sym.prim "ite" (.arrow bool (.arrow int (.arrow int int)))
def s2 : NT Nat Unit := (bool, (2, ()))
def G2 : TT Nat Unit :=
  ⟨s0, [(s0, [(plus, ([(int, 1), (int, 1)], ())), (one, ([], ())),
              (ite, ([(bool, 2), (int, 1), (int, 1)], ()))]),
        (s1, [(slot, ([], ())), (v0, ([], ())), (c "i:9", ([], ()))]),
        (s2, [(slotB, ([], ()))])]⟩
def tags2 : Tags Nat Unit :=
  [(s0, [(plus, 1/4), (one, 1/4), (ite, 1/2)]), (s1, [(slot, 1/2), (v0, 1/4), (c "i:9", 1/4)]),
   (s2, [(slotB, 1)])]
def tbl2 : Tbl := [(int, ["i:5", "i:6", "i:5"]), (.base "str", ["s:'9'"])]
def t2 : Prog := .node ite [leaf slotB, leaf slot, leaf (c "i:9")]
def t2a : Prog := .node ite [leaf slotB, leaf (c "i:5"), leaf (c "i:9")]
def t2b : Prog := .node ite [leaf slotB, leaf (c "i:6"), leaf (c "i:9")]
/-- an unambiguous grammar with the same features: two alternatives for `+` -/
def GU2 : U.UCFG Nat :=
  ⟨[q0], [(q0, [(plus, [[q1, q1], [q2, q1]]), (one, [[]])]),
          (q1, [(slot, [[]]), (v0, [[]]), (c "i:9", [[]])]), (q2, [(one, [[]]), (slotB, [[]])])], q0⟩
def tgU2 : U.UTags Nat :=
  ⟨[(q0, [(plus, [([q1, q1], 1/4), ([q2, q1], 1/4)]), (one, [([], 1/2)])]),
    (q1, [(slot, [([], 1/2)]), (v0, [([], 1/4)]), (c "i:9", [([], 1/4)])]),
    (q2, [(one, [([], 1/2)]), (slotB, [([], 1/2)])])], [(q0, 1)]⟩
def G3 : TT Nat Unit := inst Fix.repaired G2 tbl2
def tbl3 : Tbl := [(int, ["i:5", "i:7"])]
def tu : Prog := .node plus [leaf slot, leaf (c "i:9")]
def tua : Prog := .node plus [leaf (c "i:5"), leaf (c "i:9")]
def tub : Prog := .node plus [leaf (c "i:6"), leaf (c "i:9")]
end ExR
open ExR

theorem ExR.wf_G2 : grammarWF tbl2 G2.rules = true := by decide +kernel
theorem ExR.wf_tags2 : tagsWF tbl2 G2.rules tags2 = true := by decide +kernel
theorem ExR.nonEmpty_G2 : slotsNonEmpty tbl2 G2.rules = true := by decide +kernel
theorem ExR.allInst_t2 : allInst Fix.repaired tbl2 t2 = some [t2a, t2b] := by decide +kernel

/-- the hypotheses of the repaired theorems hold; those for `Fix.asIs` do not (the value 9,
    the duplicate 5) -/
example : grammarWF tbl2 G2.rules = true ∧ tagsWF tbl2 G2.rules tags2 = true ∧
    slotsNonEmpty tbl2 G2.rules = true ∧ grammarWF tbl2 tags2 = true ∧ slotsNonEmpty tbl2 tags2 = true ∧
    rulesOK Fix.asIs tbl2 G2.rules = false ∧ progOK Fix.asIs tbl2 t2 = false :=
  ⟨ExR.wf_G2, ExR.wf_tags2, ExR.nonEmpty_G2, by decide +kernel, by decide +kernel, by decide +kernel,
    by decide +kernel⟩
example : gen G2 t2 G2.start = true ∧ isInst tbl2 t2 t2b = true ∧
    gen (inst Fix.repaired G2 tbl2) t2b G2.start = true ∧
    gen (inst Fix.repaired G2 tbl2) t2 G2.start = false := by decide +kernel
/-- program side: the valued constant and the `<bool>` slot are kept, the value 5 is used once;
    the code without the repair of C17-F4 raises `KeyError` -/
example : allInst Fix.repaired tbl2 t2 = some [t2a, t2b] ∧ allInst Fix.asIs tbl2 t2 = none :=
  ⟨ExR.allInst_t2, by decide +kernel⟩
example : normalisedB tags2 = true ∧ normalisedB (instTags Fix.repaired tags2 tbl2) = true ∧
    normalisedB (instTags Fix.asIs tags2 tbl2) = false := by decide +kernel
example : rsum ([t2a, t2b].map
    (probability (inst Fix.repaired G2 tbl2) (instTags Fix.repaired tags2 tbl2))) =
      probability G2 tags2 t2 :=
  C17_mass_impl_repaired_partial G2 tags2 tbl2 ExR.wf_G2 ExR.wf_tags2 ExR.nonEmpty_G2 t2 _
    (by decide +kernel) ExR.allInst_t2
example : probability G2 tags2 t2 = 1/16 ∧
    probability (inst Fix.repaired G2 tbl2) (instTags Fix.repaired tags2 tbl2) t2b = 1/32 := by
  decide +kernel

theorem exR_normalised : PS.G.Normalised G2 tags2 ∧ (AList.keys G2.rules).Nodup ∧
    bounded G2 2 G2.start = true := by
  exact ⟨normalised_of_normalisedB (by decide +kernel), by decide, by decide⟩

/-- the programs of the instantiated grammar have total probability 1 -/
example : ((lang (inst Fix.repaired G2 tbl2) 2 G2.start).map
    (probability (inst Fix.repaired G2 tbl2) (instTags Fix.repaired tags2 tbl2))).sum = 1 :=
  C17_total_one_repaired_partial G2 tags2 tbl2 ExR.wf_G2 ExR.wf_tags2 ExR.nonEmpty_G2
    exR_normalised.2.1 exR_normalised.1 2 exR_normalised.2.2
example : (lang G2 2 G2.start).length = 19 ∧ (lang (inst Fix.repaired G2 tbl2) 2 G2.start).length = 33 := by
  decide +kernel

/-- **instantiating twice** (the scenario of C17-F2): after `int ↦ [5, 6]` no slot of type int is
    left; the hypothesis holds for a second table that lists 5 again, and the repaired code
    returns the grammar unchanged — while the code without the repair changes its language -/
example : grammarWF tbl3 G3.rules = true ∧ inst Fix.repaired G3 tbl3 = G3 :=
  C17_idempotent G3 tbl3 (by decide +kernel) (by decide +kernel)
example : gen G3 t2b G3.start = true ∧ gen (inst Fix.asIs G3 tbl3) t2b G3.start = false ∧
    rulesOK Fix.asIs tbl3 G3.rules = false := by decide +kernel

theorem ExR.wf_GU2 : grammarWF tbl2 GU2.rules = true := by decide +kernel
theorem ExR.wf_tgU2 : tagsWF tbl2 GU2.rules tgU2.tags = true := by decide +kernel
theorem ExR.nonEmpty_GU2 : slotsNonEmpty tbl2 GU2.rules = true := by decide +kernel
theorem ExR.contains_tu : U.contains GU2 tu = true := by decide +kernel
theorem ExR.unambiguous_tu : U.unambiguousOn GU2 tu = true := by decide +kernel

example : grammarWF tbl2 GU2.rules = true ∧ tagsWF tbl2 GU2.rules tgU2.tags = true ∧
    slotsNonEmpty tbl2 GU2.rules = true ∧ U.contains GU2 tu = true ∧ U.genU GU2 tu = true ∧
    U.unambiguousOn GU2 tu = true ∧ rulesOK Fix.asIs tbl2 GU2.rules = false :=
  ⟨ExR.wf_GU2, ExR.wf_tgU2, ExR.nonEmpty_GU2, ExR.contains_tu, by decide +kernel, ExR.unambiguous_tu,
    by decide +kernel⟩
example : U.genU (instUG Fix.repaired GU2 tbl2) tub = true ∧
    U.genU (instUG Fix.repaired GU2 tbl2) tu = false ∧
    U.unambiguousOn (instUG Fix.repaired GU2 tbl2) tub = true := by decide +kernel
example : rsum ([tua, tub].map
    (U.probabilityU (instUG Fix.repaired GU2 tbl2) (instUTg Fix.repaired tgU2 tbl2))) =
      U.probabilityU GU2 tgU2 tu :=
  C17_mass_u_impl_repaired_partial GU2 tgU2 tbl2 ExR.wf_GU2 ExR.wf_tgU2 ExR.nonEmpty_GU2 tu _
    ExR.contains_tu ExR.unambiguous_tu (by decide +kernel)
example : U.Mass.massU (instUG Fix.repaired GU2 tbl2) (instUTg Fix.repaired tgU2 tbl2) 2 q0 = 1 ∧
    U.Mass.massU GU2 tgU2 2 q0 = 1 := by decide +kernel

/-! ### findings: the statements without the hypotheses are false for `Fix.asIs` (the code
    before the repairs); `fixed_C17_F*`: the same witnesses with the one repair switched on.
    C17-F1 is the only one that also holds of /repo (`Fix.repaired`). -/

/-- **C17-F1**: an empty value list for a slot of the grammar: the slot's rule disappears and
    its weight with it — a normalised grammar is no longer normalised, and the template
    `(+ <int> var0)` (`int ↦ []`) has no instantiation left: its mass 3/32 is lost. -/
theorem finding_C17_F1 :
    let tbl0 : Tbl := [(int, [])]
    rulesOK Fix.asIs tbl0 tags = true ∧ normalisedB tags = true ∧ normalisedB (instTags Fix.asIs tags tbl0) = false ∧
    rowSumsOf (instTags Fix.asIs tags tbl0) = [1, 1/4] ∧
    allInst Fix.asIs tbl0 t = some [] ∧ prob G tags t G.start = 3/32 := by
  decide +kernel

/-- **C17-F2**: constants that already carry a value are instantiated again: instantiating an
    already instantiated grammar changes its language (`(+ 5 var0)` ↦ `(+ 6 var0)`, `(+ 7 var0)`
    although `5` is not a slot) and loses mass (rows overwrite each other: total 1/4 + 3/8). -/
theorem finding_C17_F2 :
    let tbl1 : Tbl := [(int, ["i:5"])]
    let tbl2 : Tbl := [(int, ["i:6", "i:7"])]
    let tbl3 : Tbl := [(int, ["i:5", "i:7"])]
    let G1 := inst Fix.asIs G tbl1
    let t5 : Prog := .node plus [leaf (c "i:5"), leaf v0]
    rulesOK Fix.asIs tbl2 G1.rules = false ∧ gen G1 t5 G1.start = true ∧ isInst tbl2 t5 t5 = true ∧
    gen (inst Fix.asIs G1 tbl2) t5 G1.start = false ∧
    rowSumsOf (instTags Fix.asIs (instTags Fix.asIs tags tbl) tbl3) = [1, 5/8] := by
  decide +kernel

/-- with the repair of C17-F2 (alone: `⟨true, false, false⟩`) the witness of `finding_C17_F2` is
    instantiated correctly: the instantiated grammar is left unchanged by the second table (same
    language, no mass lost), and the hypothesis of the repaired theorems holds for it -/
theorem fixed_C17_F2 :
    let fx : Fix := ⟨true, false, false⟩
    let tbl1 : Tbl := [(int, ["i:5"])]
    let tbl2 : Tbl := [(int, ["i:6", "i:7"])]
    let tbl3 : Tbl := [(int, ["i:5", "i:7"])]
    let G1 := inst fx G tbl1
    let t5 : Prog := .node plus [leaf (c "i:5"), leaf v0]
    grammarWF tbl2 G1.rules = true ∧ grammarWF tbl3 (instTags fx tags tbl) = true ∧
    gen (inst fx G1 tbl2) t5 G1.start = true ∧
    allInst fx tbl2 t5 = some [t5] ∧
    rowSumsOf (instTags fx (instTags fx tags tbl) tbl3) = [1, 1] := by
  decide +kernel

/-- **C17-F3**: a value listed twice is divided by 2 but kept once. -/
theorem finding_C17_F3 :
    let tbl0 : Tbl := [(int, ["i:5", "i:5"])]
    rulesOK Fix.asIs tbl0 tags = false ∧ rowSumsOf (instTags Fix.asIs tags tbl0) = [1, 5/8] ∧
    allInst Fix.asIs tbl0 (leaf slot) = some [leaf (c "i:5"), leaf (c "i:5")] := by
  decide +kernel

/-- with the repair of C17-F3 (alone) the duplicate counts once -/
theorem fixed_C17_F3 :
    let fx : Fix := ⟨false, true, false⟩
    let tbl0 : Tbl := [(int, ["i:5", "i:5"])]
    rulesOK fx tbl0 tags = true ∧ rowSumsOf (instTags fx tags tbl0) = [1, 1] ∧
    allInst fx tbl0 (leaf slot) = some [leaf (c "i:5")] := by
  decide +kernel

/-- **C17-F4**: the program side raises `KeyError` (`none`) for a constant whose type is not in
    the table, while the grammar side keeps such a constant. -/
theorem finding_C17_F4 :
    let tbl0 : Tbl := [(bool, ["b:True"])]
    allInst Fix.asIs tbl0 t = none ∧ gen (inst Fix.asIs G tbl0) t G.start = true := by
  decide +kernel

/-- with the repair of C17-F4 (alone) the program side keeps the constant, as the grammar side -/
theorem fixed_C17_F4 :
    let fx : Fix := ⟨false, false, true⟩
    let tbl0 : Tbl := [(bool, ["b:True"])]
    allInst fx tbl0 t = some [t] ∧ gen (inst fx G tbl0) t G.start = true ∧
    progOK fx tbl0 t = true := by
  decide +kernel

end PS.IC
