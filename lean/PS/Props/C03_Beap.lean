/-
  C03, part beap — beap search (beap_search.py) yields programs by non-decreasing cost (non-increasing
  probability); when a program of cost c is produced, every strictly cheaper program was produced.

  FULL STATEMENT: for every fuel and every prefix of the run, the costs of the yielded programs are
  non-decreasing (PROVED: C03_Beap_order, positive rule costs) and every derivable program strictly cheaper
  than a yielded one was yielded before it (prefix completeness: PROVED, C03_Beap_prefix_complete, positive rule
  costs, finite and recursive grammars, any filter — "derivable" then reads "all sub-programs accepted").

  Everything here is for every grammar with distinct dict keys, every cost table, every fuel.  The order rests on
  the minimal costs computed by the prologue (beap_search.py:79-119), on the heap (port of CPython heapq) and on
  cost soundness of the query phase.  Hypotheses from the order part on: `StableAfter E` (the state returned by
  the prologue is a fixpoint of `_reevaluate_`: proved for every grammar flagged recursive,
  C03_Beap_stable_of_recursive, and for acyclic grammars without re-evaluation, C03_Beap_stable_of_acyclic) and
  `Productive E` (every non-terminal derives a program, so that no placeholder is left after the prologue); for
  the full statements also `PosW E` (every rule cost > 0, i.e. every probability < 1; with a zero-cost cycle
  query() does not terminate).
  Not proved: termination of one `next` call.  Still compared on every generated case: exact Fraction cost of
  every yielded program, brute-force expansion below a cost bound.
-/
import PS.Proofs.Enum.BeapHeadMin
import PS.Proofs.Enum.BeapOrderRun
import PS.Proofs.Enum.BeapOrderFinal
import PS.Proofs.Enum.BeapAcyclic
import PS.Proofs.Enum.BeapNodupRun
import PS.Proofs.Enum.BeapComplFinal
import PS.Props.C02_Beap
namespace PS.C03Beap
open PS PS.G PS.Beap PS.Heapq PS.C02Beap

section
variable {S : Type} [DecidableEq S]

/-- **minimal costs after the prologue, recursive grammars**: after `_init_non_terminal_(start); _reevaluate_()` on a
    grammar flagged recursive (`cfg.is_recursive()`), for every initialised non-terminal `S` the first cost
    `_cost_lists[S][0]` is the true minimum of the costs of the programs derivable from `S`: a lower bound of the
    cost of every derivable program (so it is finite — no 1e99 placeholder left — as soon as `S` derives a program)
    and the cost of a program derivable from `S`.  No hypothesis on the sign of the costs, on acyclicity or on the
    order of the rules: the statement holds whenever the prologue returns (the fixpoint loop has ended) -/
theorem C03_Beap_minCost (E : Env S) (hnd : RowsNodup E.G) (hrec : E.recursive = true) (fuel : Nat) (s' : St S)
    (h : prologue E fuel (St.empty E.G) = some s') (nt : NT S Unit) (c : Cost) (rest : List Cost)
    (hc : s'.clOf nt = c :: rest) :
    (∀ t k, costOf E t nt = some k → c.inf = 0 ∧ c.fin ≤ k) ∧
    (c.inf = 0 → ∃ t, gen E.G t nt = true ∧ costOf E t nt = some c.fin) :=
  prologue_minCost E hnd (stableAfter_of_rec E hrec) fuel s' h nt c rest hc

/-- **minimal costs at any fixpoint of `_reevaluate_`** (`Stable`), whatever the flag: the form that applies to acyclic
    grammars, where `_reevaluate_` is skipped.  `Stable` is a decidable check on the state (evaluated on every
    generated case by the driver op beap.init: `minCostOK`) -/
theorem C03_Beap_minCost_stable (E : Env S) (hnd : RowsNodup E.G) (fuel : Nat) (s' : St S)
    (h : prologue E fuel (St.empty E.G) = some s') (hst : Stable E s') (nt : NT S Unit) (c : Cost) (rest : List Cost)
    (hc : s'.clOf nt = c :: rest) :
    (∀ t k, costOf E t nt = some k → c.inf = 0 ∧ c.fin ≤ k) ∧
    (c.inf = 0 → ∃ t, gen E.G t nt = true ∧ costOf E t nt = some c.fin) :=
  minCost_spec E s' (prologue_minv E hnd fuel _ _ (minv_empty E) h) (prologue_headMin E fuel s' h).1
    (prologue_allRules E fuel s' h) hst nt c rest hc

/-- a first cost that is not a placeholder is the cost of a derivable program (any flag); this holds during the whole
    prologue (`MInv`), so also for the intermediate values that `_reevaluate_` improves -/
theorem C03_Beap_attained (E : Env S) (hnd : RowsNodup E.G) (fuel : Nat) (s' : St S)
    (h : prologue E fuel (St.empty E.G) = some s') (nt : NT S Unit) (c : Cost) (rest : List Cost)
    (hc : s'.clOf nt = c :: rest) (hfin : c.inf = 0) : ∃ t, gen E.G t nt = true ∧ costOf E t nt = some c.fin :=
  ((prologue_minv E hnd fuel _ _ (minv_empty E) h).cl nt c rest hc).2 hfin

/-- every initialised non-terminal has an element of every one of its rules in its queue (the initialisation is
    depth-first; the proof carries a ghost stack of the non-terminals in progress) -/
theorem C03_Beap_all_rules (E : Env S) (fuel : Nat) (s' : St S) (h : prologue E fuel (St.empty E.G) = some s')
    (nt : NT S Unit) (c : Cost) (rest : List Cost) (hc : s'.clOf nt = c :: rest) (P : Sym) (rl : List (Ty × S) × Unit)
    (hr : E.G.rule? nt P = some rl) : ∃ el ∈ s'.queueOf nt, el.P = P :=
  prologue_allRules E fuel s' h nt c rest hc P rl hr

/-- every queue is a heap for `HeapElement.__lt__` and `_cost_lists[S][0]` is a minimum of `_queues[S]` -/
theorem C03_Beap_head_min (E : Env S) (fuel : Nat) (s' : St S) (h : prologue E fuel (St.empty E.G) = some s') :
    (∀ nt, IsHeap ltE (s'.queueOf nt)) ∧
    ∀ nt c rest, s'.clOf nt = c :: rest → ∀ el ∈ s'.queueOf nt, Cost.lt el.cost c = false :=
  ⟨(prologue_headMin E fuel s' h).2, (prologue_headMin E fuel s' h).1⟩

/-- when `_reevaluate_` returns on a grammar flagged recursive, recomputing any queued cost changes nothing -/
theorem C03_Beap_reevaluate_fixpoint (E : Env S) (hrec : E.recursive = true) (fuel : Nat) (s s' : St S)
    (h : reevaluate E fuel s = some s') (nt : NT S Unit) (el : HeapEl) (hel : el ∈ s'.queueOf nt) :
    ∃ el', recost E s' nt el = some el' ∧ el'.cost = el.cost :=
  reevaluate_stable E hrec fuel s s' h nt el hel
end

/-! ### cost soundness and the order of the yielded sequence -/
section
variable {S : Type} [DecidableEq S]

/-- the hypothesis `StableAfter` (the state returned by the prologue is a fixpoint of `_reevaluate_`) holds on
    every grammar flagged recursive -/
theorem C03_Beap_stable_of_recursive (E : Env S) (hrec : E.recursive = true) : StableAfter E := stableAfter_of_rec E hrec

/-- **on an ACYCLIC grammar** (a rank decreasing along the rules) `_init_non_terminal_` alone reaches the
    fixpoint: the hypothesis `StableAfter` holds whether or not `_reevaluate_` runs (whatever `is_recursive()`) -/
theorem C03_Beap_stable_of_acyclic (E : Env S) (hnd : RowsNodup E.G) (rank : NT S Unit → Nat) (hrk : Ranked E rank) :
    StableAfter E := stableAfter_of_ranked rank E hnd hrk

/-- **minimal costs on acyclic grammars, without re-evaluation**: after the prologue `_cost_lists[S][0]` is the
    true minimum of the costs of the programs derivable from `S`, for every initialised `S` -/
theorem C03_Beap_minCost_acyclic (E : Env S) (hnd : RowsNodup E.G) (rank : NT S Unit → Nat) (hrk : Ranked E rank)
    (fuel : Nat) (s' : St S) (h : prologue E fuel (St.empty E.G) = some s') (nt : NT S Unit) (c : Cost) (rest : List Cost)
    (hc : s'.clOf nt = c :: rest) :
    (∀ t k, costOf E t nt = some k → c.inf = 0 ∧ c.fin ≤ k) ∧
    (c.inf = 0 → ∃ t, gen E.G t nt = true ∧ costOf E t nt = some c.fin) :=
  prologue_minCost E hnd (stableAfter_of_ranked rank E hnd hrk) fuel s' h nt c rest hc

/-- **COST SOUNDNESS as a state invariant** (`GC`), for every history of `next` / `merge_program` calls (also before the
    first `next`; no positivity hypothesis): every queue element of rule P and combination c carries the cost
    cost(P) + Σ_i _cost_lists[arg_i][c_i], every program of _bank[S][i] has cost _cost_lists[S][i], cost lists are
    only extended at their end -/
theorem C03_Beap_cost_inv (E : Env S) (hnd : RowsNodup E.G) (hst : StableAfter E) (hprod : Productive E) (fuel : Nat)
    (g : Gen S) (h : C02Beap.Reach E fuel g) : GC E g ∧ (g.started = false → Fresh E g.st ∧ g.frame = none) := by
  induction h with
  | new => exact ⟨gc_new E, fun _ => ⟨fresh_empty E, rfl⟩⟩
  | @next g r _ hn ih =>
    have q := next_cost E hnd hst hprod fuel g r ih.1 ih.2 hn
    refine ⟨q.gc, fun hs => ?_⟩
    rcases q.started with h1 | h1
    · rw [h1] at hs; cases hs
    · rw [h1] at hs ⊢; exact ih.2 hs
  | @merge g other ok _ ih =>
    refine ⟨merge_cost E g other ok ih.1, fun hs => ?_⟩
    have hs' : g.started = false := hs
    exact ⟨merge_fresh E g other ok (ih.2 hs').1, (ih.2 hs').2⟩

/-- **COST SOUNDNESS and the ORDER INVARIANTS as state invariants, for EVERY history** of `next` / `merge_program`
    calls from the fresh generator (`C02Beap.Reach`; `merge_program` may also be called before the first `next`) -/
theorem C03_Beap_inv (E : Env S) (hnd : RowsNodup E.G) (hst : StableAfter E) (hprod : Productive E) (hpos : PosW E) (fuel : Nat)
    (g : Gen S) (h : C02Beap.Reach E fuel g) :
    GC E g ∧ GO E g ∧ (g.started = false → Fresh E g.st ∧ g.frame = none) := by
  refine ⟨(C03_Beap_cost_inv E hnd hst hprod fuel g h).1, ?_, (C03_Beap_cost_inv E hnd hst hprod fuel g h).2⟩
  induction h with
  | new => exact go_new E
  | @next g r hr hn ih =>
    obtain ⟨hc, hf⟩ := C03_Beap_cost_inv E hnd hst hprod fuel g hr
    exact next_order E hnd hst hprod hpos fuel g r hc ih hf hn
  | merge other ok _ ih => exact merge_order E _ other ok ih

/-- every program of `_bank[S][i]` has cost `_cost_lists[S][i]`; every queue element is priced by its combination -/
theorem C03_Beap_bank_cost (E : Env S) (hnd : RowsNodup E.G) (hst : StableAfter E) (hprod : Productive E) (fuel : Nat)
    (g : Gen S) (h : C02Beap.Reach E fuel g) :
    (∀ nt ci p, p ∈ g.st.bankAt nt ci → ∃ c, (g.st.clOf nt)[ci]? = some c ∧ c.inf = 0 ∧ costOf E p nt = some c.fin) ∧
    (∀ nt el, el ∈ g.st.queueOf nt → ∃ rl w k, E.G.rule? nt el.P = some rl ∧ ruleW E nt el.P = some w ∧
      combCost g.st rl.1 el.comb = some k ∧ el.cost = Cost.ofRat (w + k)) := by
  have hc := (C03_Beap_cost_inv E hnd hst hprod fuel g h).1.1
  refine ⟨fun nt ci p hp => ?_, hc.queue⟩
  obtain ⟨c, h1, h2⟩ := hc.bank nt ci p hp
  exact ⟨c, h1, hc.fin nt c (List.mem_of_getElem? h1), h2⟩

/-- the program yielded while the generator's counter is `n` has cost `_cost_lists[start][n]`; `n` never decreases -/
theorem C03_Beap_yield_cost (E : Env S) (hnd : RowsNodup E.G) (hst : StableAfter E) (hprod : Productive E) (fuel : Nat)
    (g g' : Gen S) (p : Prog) (h : C02Beap.Reach E fuel g) (hn : Beap.next E fuel g = some (g', some p)) :
    (g.started = true → g.n ≤ g'.n) ∧ ∃ c, (g'.st.clOf E.G.start)[g'.n]? = some c ∧ costOf E p E.G.start = some c.fin := by
  obtain ⟨i1, i3⟩ := C03_Beap_cost_inv E hnd hst hprod fuel g h
  have q := next_cost E hnd hst hprod fuel g _ i1 i3 hn
  exact ⟨q.mono, (q.yield p rfl).2⟩

/-- the programs produced by `take k` from the fresh generator are yielded at non-decreasing indices of
    the (final) cost list of the start symbol -/
theorem C03_Beap_yield_index (E : Env S) (hnd : RowsNodup E.G) (hst : StableAfter E) (hprod : Productive E) (fuel k : Nat)
    (g : Gen S) (ys : List Prog) (fin : Bool) (h : take E fuel k (Gen.new E.G) [] = some (g, ys, fin)) :
    ∃ idx : List Nat, idx.Pairwise (· ≤ ·) ∧
      All2 (fun p i => ∃ c, (g.st.clOf E.G.start)[i]? = some c ∧ costOf E p E.G.start = some c.fin) ys idx :=
  take_new_index E hnd hst hprod fuel k (g, ys, fin) h

/-- **ORDER, relative to a Boolean check on the final state**: if the final `_cost_lists[start]` is
    non-decreasing (`sortedB`), the costs of the programs produced by `take k` are non-decreasing, and every
    one of them has a cost (is derivable).  The driver evaluates the check on every generated case -/
theorem C03_Beap_order_partial (E : Env S) (hnd : RowsNodup E.G) (hst : StableAfter E) (hprod : Productive E) (fuel k : Nat)
    (g : Gen S) (ys : List Prog) (fin : Bool) (h : take E fuel k (Gen.new E.G) [] = some (g, ys, fin))
    (hsorted : sortedB (g.st.clOf E.G.start) = true) :
    ys.Pairwise (fun p q => ∀ a b, costOf E p E.G.start = some a → costOf E q E.G.start = some b → a ≤ b) ∧
    ∀ p ∈ ys, ∃ a, costOf E p E.G.start = some a :=
  take_new_sorted E hnd hst hprod fuel k (g, ys, fin) h (clSorted_of_check E g.st hsorted)

end

/-! ### the order under positive rule costs -/
section
variable {S : Type} [DecidableEq S]

/-- **the order invariants, for every history** (spelt out in C03_Beap_costlists_increasing; also every cost is finite
    and positive).  Key lemma (`order_runs`, PS/Proofs/Enum/BeapOrderFull.lean; `order_all` is the same statement with
    the hypotheses before the run equation): a query running for S at cost x only
    asks for cost indices of cost < x, and such nested queries never touch a non-terminal whose last cost is ≥ x
    (`Prot`), so the tables of S do not change while its own query is suspended in the argument loop (re-entrance on
    recursive grammars) -/
theorem C03_Beap_order_inv (E : Env S) (hnd : RowsNodup E.G) (hst : StableAfter E) (hprod : Productive E) (hpos : PosW E)
    (fuel : Nat) (g : Gen S) (h : C02Beap.Reach E fuel g) : GO E g := (C03_Beap_inv E hnd hst hprod hpos fuel g h).2.1

/-- every cost list is strictly increasing; every queue element is at least as expensive as every entry of
    the cost list of its non-terminal; every queue is a heap -/
theorem C03_Beap_costlists_increasing (E : Env S) (hnd : RowsNodup E.G) (hst : StableAfter E) (hprod : Productive E)
    (hpos : PosW E) (fuel : Nat) (g : Gen S) (h : C02Beap.Reach E fuel g) (nt : NT S Unit) :
    (g.st.clOf nt).Pairwise (fun a b => a.fin < b.fin) ∧
    (∀ el c, el ∈ g.st.queueOf nt → c ∈ g.st.clOf nt → c.fin ≤ el.cost.fin) ∧
    Heapq.IsHeap ltE (g.st.queueOf nt) := by
  have := (C03_Beap_order_inv E hnd hst hprod hpos fuel g h).1
  exact ⟨this.mono nt, this.low nt, this.heap nt⟩

/-- **a completed cost index is exhausted**: once `_cost_lists[S]` has an entry after index `i` (i.e. `query(S, i)`
    has returned), every element still in `_queues[S]` is strictly more expensive than `_cost_lists[S][i]` — no
    derivation of cost `_cost_lists[S][i]` is left behind -/
theorem C03_Beap_cost_exhausted (E : Env S) (hnd : RowsNodup E.G) (hst : StableAfter E) (hprod : Productive E)
    (hpos : PosW E) (fuel : Nat) (g : Gen S) (h : C02Beap.Reach E fuel g) (nt : NT S Unit) (i : Nat) (c : Cost)
    (hc : (g.st.clOf nt)[i]? = some c) (hi : i + 1 < (g.st.clOf nt).length) (el : HeapEl) (hel : el ∈ g.st.queueOf nt) :
    c.fin < el.cost.fin := by
  obtain ⟨hmono, hlow, _⟩ := C03_Beap_costlists_increasing E hnd hst hprod hpos fuel g h nt
  exact Std.lt_of_lt_of_le (fin_lt_of_lt hmono hc (List.getElem?_eq_getElem hi) (Nat.lt_succ_self i))
    (hlow el _ hel (List.getElem_mem hi))

/-- **ORDER (full statement, positive rule costs)**: the costs of the programs produced by `take k` from the
    fresh generator are non-decreasing, for every fuel and every k; every yielded program has a cost
    (is derivable) -/
theorem C03_Beap_order (E : Env S) (hnd : RowsNodup E.G) (hst : StableAfter E) (hprod : Productive E) (hpos : PosW E)
    (fuel k : Nat) (g : Gen S) (ys : List Prog) (fin : Bool) (h : take E fuel k (Gen.new E.G) [] = some (g, ys, fin)) :
    ys.Pairwise (fun p q => ∀ a b, costOf E p E.G.start = some a → costOf E q E.G.start = some b → a ≤ b) ∧
    ∀ p ∈ ys, ∃ a, costOf E p E.G.start = some a :=
  take_new_sorted E hnd hst hprod fuel k (g, ys, fin) h
    (clSorted_of_oi E g.st (C03_Beap_order_inv E hnd hst hprod hpos fuel g (C02Beap.take_reach E fuel k _ _ _ .new h)).1)

/-- **PREFIX COMPLETENESS (full statement, positive rule costs, finite and recursive grammars)**: on every prefix
    of the run (every fuel, every k), when a program `p` of cost `y` has been yielded, EVERY program `q` of the
    start symbol of strictly smaller cost all of whose sub-programs are accepted by the filter (`clean`; every
    derivable program when no filter is installed) has been yielded.  Together with C03_Beap_order (`q` cannot
    come after `p` when it is strictly cheaper: the costs are non-decreasing) this is the user-facing statement of C03.
    Proof: PS/Proofs/Enum/BeapCompl*.lean (completed region `CRm`, frontier `FRm`, running query `FrKm`, over an
    effective filter; `CR`, `FR`, `FrK` are these at `E.filter` with the marks in `_empties`; one induction
    `compl_runs` over the five functions of `_query_list_` / `query`). -/
theorem C03_Beap_prefix_complete (E : Env S) (hnd : RowsNodup E.G) (hst : StableAfter E) (hprod : Productive E) (hpos : PosW E)
    (fuel k : Nat) (g : Gen S) (ys : List Prog) (fin : Bool) (h : take E fuel k (Gen.new E.G) [] = some (g, ys, fin))
    (p q : Prog) (x y : Rat) (hp : p ∈ ys) (hy : costOf E p E.G.start = some y) (hcl : clean E.filter q = true)
    (hx : costOf E q E.G.start = some x) (hlt : x < y) : q ∈ ys :=
  prefix_complete E hnd hst hprod hpos fuel k (g, ys, fin) h p q x y hp hy hcl hx hlt

/-- prefix completeness without a filter: every derivable program strictly cheaper than a yielded one was yielded -/
theorem C03_Beap_prefix_complete_nofilter (E : Env S) (hf : ∀ t, E.filter t = true) (hnd : RowsNodup E.G) (hst : StableAfter E)
    (hprod : Productive E) (hpos : PosW E)
    (fuel k : Nat) (g : Gen S) (ys : List Prog) (fin : Bool) (h : take E fuel k (Gen.new E.G) [] = some (g, ys, fin))
    (p q : Prog) (x y : Rat) (hp : p ∈ ys) (hy : costOf E p E.G.start = some y)
    (hx : costOf E q E.G.start = some x) (hlt : x < y) : q ∈ ys :=
  C03_Beap_prefix_complete E hnd hst hprod hpos fuel k g ys fin h p q x y hp hy (clean_accept_all E.filter hf q) hx hlt
end

/-- `HeapElement.__lt__` (lexicographic on (cost, combination)) is a strict weak order -/
theorem C03_Beap_lt_weak_order : WeakOrder ltE := ltE_weak

/-- the port of CPython `heapify` establishes the heap invariant on any array; push keeps it, pop returns a minimum -/
theorem C03_Beap_heapify_isHeap {α : Type} {lt : α → α → Bool} (w : WeakOrder lt) (h : List α) : IsHeap lt (heapify lt h) :=
  heapify_isHeap w h

theorem C03_Beap_heappush_isHeap (h : List HeapEl) (x : HeapEl) (hh : IsHeap ltE h) : IsHeap ltE (Heapq.push ltE h x) :=
  push_isHeap ltE_weak h x hh

theorem C03_Beap_heappop_min (h h' : List HeapEl) (x : HeapEl) (hh : IsHeap ltE h) (hp : Heapq.pop ltE h = some (x, h')) :
    IsHeap ltE h' ∧ ∀ y ∈ h, Cost.lt y.cost x.cost = false := by
  obtain ⟨h1, h2⟩ := pop_isHeap ltE_weak h x h' hh hp
  exact ⟨h1, fun y hy => cost_of_ltE_false _ _ (h2 y hy)⟩

/-! ### non-vacuity on the grammar of seeded/C03-2/demo.py (C02_Beap.demoE): the first costs after the
    prologue are X ↦ 1 (`a`), Y ↦ 3 (`q(r(a))`), Z ↦ 2 (`r(a)`): the cheapest programs of Y and Z go
    through the recursive rules, and the queue of X prices `m(X,Z)` at 5 + 1 + 2 = 8.
    The seeded change seeded/C03-2 (re-evaluate only the derivations whose cost is still a placeholder) falsifies
    C03_Beap_reevaluate_fixpoint / C03_Beap_minCost here: the patched implementation never re-prices a finite cost, so
    it leaves `p(Y)` at cost 7 (= 2 + 5, priced with `q(c)`) instead of 5 and is caught by the correspondence on the
    queues and by the order oracle -/
open PS.C02Beap in
theorem demo_minCost :
    (prologue demoE 100 (St.empty demoG)).map (fun s => (s.clOf ntX, s.clOf ntY, s.clOf ntZ,
        (s.queueOf ntX).map (fun e => (e.P.name, e.cost)))) =
      some ([Cost.ofRat 1], [Cost.ofRat 3], [Cost.ofRat 2],
        [("2", Cost.ofRat 1), ("1", Cost.ofRat 8), ("0", Cost.ofRat 5)]) := by
  decide +kernel

open PS.C02Beap in
/-- the hypotheses of C03_Beap_minCost hold on the demo grammar and its conclusion is not vacuous -/
example : ∃ s', prologue demoE 100 (St.empty demoG) = some s' ∧ s'.clOf ntY = [Cost.ofRat 3] := by
  obtain ⟨s, hp, hv⟩ := Option.map_eq_some_iff.mp demo_minCost
  exact ⟨s, hp, (Prod.mk.inj (Prod.mk.inj hv).2).1⟩

open PS.C02Beap in
/-- during the initialisation (before `_reevaluate_`) the first cost of Y is 5 (`q(c)`, not yet `q(r(a))` = 3)
    and the queue of X still holds a placeholder for `m(X,Z)`: re-evaluation is what makes the costs minimal -/
example : (initNT demoE 100 (St.empty demoG) ntX).map (fun s => (s.clOf ntY, (s.queueOf ntX).map (fun e => e.cost.inf))) =
    some ([Cost.ofRat 5], [0, 1, 0]) := by
  decide +kernel

open PS.C02Beap in
/-- non-vacuity of C03_Beap_order: all hypotheses hold on the demo grammar -/
example (fuel k : Nat) (g : Gen Nat) (ys : List Prog) (fin : Bool) (h : take demoE fuel k (Gen.new demoG) [] = some (g, ys, fin)) :
    ys.Pairwise (fun p q => ∀ a b, costOf demoE p demoG.start = some a → costOf demoE q demoG.start = some b → a ≤ b) :=
  (C03_Beap_order demoE demo_rowsNodup (stableAfter_of_rec demoE rfl) demo_productive demo_posW fuel k g ys fin h).1

open PS.C02Beap in
theorem demo_take12 : (take demoE 300 12 (Gen.new demoG) []).map (fun r => (sortedB (r.1.st.clOf demoG.start), r.2.1.map (fun p => costOf demoE p demoG.start))) =
    some (true, [some 1, some 5, some 7, some 8, some 8, some 9, some 10, some 11, some 12, some 12, some 12, some 12]) := by
  decide +kernel

open PS.C02Beap in
/-- non-vacuity of C03_Beap_order_partial: on the demo grammar the hypotheses hold for the first 12 programs
    (the Boolean check on the final cost list of the start symbol evaluates to true), and the costs are
    1, 5, 7, 8, 8, 9, 10, … -/
example : (take demoE 300 12 (Gen.new demoG) []).map (fun r => (sortedB (r.1.st.clOf demoG.start), r.2.1.map (fun p => costOf demoE p demoG.start))) =
    some (true, [some 1, some 5, some 7, some 8, some 8, some 9, some 10, some 11, some 12, some 12, some 12, some 12]) :=
  demo_take12

open PS.C02Beap in
example : ∃ g ys fin, take demoE 300 12 (Gen.new demoG) [] = some (g, ys, fin) ∧ sortedB (g.st.clOf demoG.start) = true ∧ ys.length = 12 := by
  obtain ⟨⟨g, ys, fin⟩, hp, hv⟩ := Option.map_eq_some_iff.mp demo_take12
  obtain ⟨h1, h2⟩ := Prod.mk.inj hv
  exact ⟨g, ys, fin, hp, h1, by simpa using congrArg List.length h2⟩

open PS.C02Beap in
/-- non-vacuity of C03_Beap_prefix_complete: all hypotheses hold on the (recursive) demo grammar; by the run above
    the premises are satisfiable (a program of cost 12 is yielded, programs of cost 1, 5, 7, … exist) -/
example (fuel k : Nat) (g : Gen Nat) (ys : List Prog) (fin : Bool) (h : take demoE fuel k (Gen.new demoG) [] = some (g, ys, fin))
    (p q : Prog) (x y : Rat) (hp : p ∈ ys) (hy : costOf demoE p demoG.start = some y)
    (hx : costOf demoE q demoG.start = some x) (hlt : x < y) : q ∈ ys :=
  C03_Beap_prefix_complete_nofilter demoE (fun _ => rfl) demo_rowsNodup (stableAfter_of_rec demoE rfl) demo_productive demo_posW
    fuel k g ys fin h p q x y hp hy hx hlt

/-! ### non-vacuity on a finite grammar that `is_recursive()` does not flag: `X -> a | m(Y,Y)`, `Y -> a | b` (`C02Beap.tinyG`, `C02Beap.tinyE` under other names) -/
def fX : NT Nat Unit := (Ty.base "int", (0, ()))
def fY : NT Nat Unit := (Ty.base "int", (1, ()))
def finG : TT Nat Unit :=
  { start := fX,
    rules := [ (fX, [(C02Beap.sy 0, ([], ())), (C02Beap.sy 1, ([(Ty.base "int", 1), (Ty.base "int", 1)], ()))]),
               (fY, [(C02Beap.sy 0, ([], ())), (C02Beap.sy 2, ([], ()))]) ] }
def finE : Env Nat :=
  { G := finG, W := [ (fX, [(C02Beap.sy 0, 1), (C02Beap.sy 1, 1)]), (fY, [(C02Beap.sy 0, 1), (C02Beap.sy 2, 2)]) ],
    filter := fun _ => true, recursive := false }
def finRank (nt : NT Nat Unit) : Nat := if nt = fX then 1 else 0

theorem fin_rowsNodup : RowsNodup finG := tiny_rowsNodup

theorem fin_ranked : Ranked finE finRank := tiny_ranked

theorem fin_productive : Productive finE := tiny_productive

/-- the full order theorem applies to this finite grammar although `recursive = false` (no re-evaluation) -/
example (fuel k : Nat) (g : Gen Nat) (ys : List Prog) (fin : Bool) (h : take finE fuel k (Gen.new finG) [] = some (g, ys, fin)) :
    ys.Pairwise (fun p q => ∀ a b, costOf finE p finG.start = some a → costOf finE q finG.start = some b → a ≤ b) :=
  (C03_Beap_order finE fin_rowsNodup (C03_Beap_stable_of_acyclic finE fin_rowsNodup finRank fin_ranked) fin_productive
    tiny_posW fuel k g ys fin h).1

/-- prefix completeness applies to the finite grammar as well -/
example (fuel k : Nat) (g : Gen Nat) (ys : List Prog) (fin : Bool) (h : take finE fuel k (Gen.new finG) [] = some (g, ys, fin))
    (p q : Prog) (x y : Rat) (hp : p ∈ ys) (hy : costOf finE p finG.start = some y)
    (hx : costOf finE q finG.start = some x) (hlt : x < y) : q ∈ ys :=
  C03_Beap_prefix_complete_nofilter finE (fun _ => rfl) fin_rowsNodup (C03_Beap_stable_of_acyclic finE fin_rowsNodup finRank fin_ranked)
    fin_productive tiny_posW fuel k g ys fin h p q x y hp hy hx hlt

/-- and the run is not vacuous: the five programs come out by cost 1, 3, 4, 4, 5 and the generator stops -/
example : (take finE 100 10 (Gen.new finG) []).map (fun r => (r.2.1.map (fun p => costOf finE p finG.start), r.2.2)) =
    some ([some 1, some 3, some 4, some 4, some 5], true) := by
  obtain ⟨r, hp, hv⟩ := Option.map_eq_some_iff.mp tiny_run
  obtain ⟨h1, h2⟩ := Prod.mk.inj hv
  rw [show take finE 100 10 (Gen.new finG) [] = some r from hp, Option.map_some, h1, h2]
  decide +kernel

end PS.C03Beap
