/-
  C13 — size/occurrence-bounded grammars and products denote the stated languages.
  Model: PS/Model/Ttcfg.lean (on PS/Model/Grammar.lean, Cfg.lean); lemmas: PS/Proofs/Ttcfg*.lean.

  Statement.  A size-bounded grammar contains exactly the well-typed programs with at most the
  given number of nodes, an occurrence-bounded grammar (when that language is finite) exactly
  those with at most k occurrences of the named primitive, both honouring the DSL's forbidden
  patterns and reporting the type request they were compiled for, and the product of two
  grammars with the same type request contains exactly the programs common to both.  After
  cleaning, every derivation that can be started can be completed, so the reported number of
  programs equals the size of the language.

  Two layers.  The certificate theorems (`C13_certified`, `C13_size_partial`, `C13_atmost_partial`,
  `C13_product_certified`, `C13_clean_partial`, `C13_count_partial`) hold for ANY table, whatever
  produced it, under the decidable hypotheses `subOK` / `closedOK`: verified checkers, evaluated in
  every generated case on the implementation's actual table and on the model's.  They are there
  because the worklist keyed by rule alone does not create every non-terminal a derivation reaches
  (finding C13-F2) and `clean()` leaves derivations that cannot be completed (C13-F5); soundness
  (`C13_size_sound_partial`, `C13_atmost_sound`, `C13_product_sound`) needs no certificate.
  From `C13_saturation_closed` on, the theorems are about the construction itself with the worklist
  keyed by rule and pending stack (`stackKey = true`): no certificate, and total correctness with
  explicit fuel (`C13_size_total`, `C13_atmost_total_partial`); `C13_product_size_total` gives the
  fuel for the product of two size-bounded grammars that have been built.

  Model and /repo.  /repo has four repairs of ttcfg.py (diffs in fixes_applied/), each a flag or a
  second function of the model; the theorems keep both sides:
    `actual = true`    f7d4c7d (C13-F3.diff)   `actual = false`    the arity charged before it
    `stackKey = true`  6d9766e (C13-F2.diff)   `stackKey = false`  the worklist keyed by rule alone
    `cleanFixed`       8ba7791 (C13-F6.diff)   `clean`             without the test for a missing start symbol
    `programsR`        875cb5a + 8ba7791 (C13-F5.diff, C13-F6.diff)   `programs`   the count before both
  The theorems `finding_C13_F2`, `_F3`, `_F5`, `_F6` show on the model what is wrong with the right-hand column.
-/
import PS.Proofs.TtcfgRun
import PS.Proofs.TtcfgCert
import PS.Proofs.TtcfgRows
import PS.Proofs.TtcfgSize
import PS.Proofs.TtcfgMul
import PS.Proofs.TtcfgClean
import PS.Proofs.TtcfgCountCert
import PS.Proofs.TtcfgSat
import PS.Proofs.TtcfgBuild
import PS.Proofs.TtcfgCleanLang
import PS.Proofs.TtcfgBuildTerm
import PS.Proofs.TtcfgCountS
import PS.Proofs.TtcfgNoRepair
import PS.Proofs.TtcfgCleanFirst
import PS.Proofs.TtcfgTotal
import PS.Proofs.TtcfgAtMostTerm
import PS.Proofs.TtcfgAtMostDiverge
import PS.Proofs.TtcfgTyped
import PS.Proofs.TtcfgMulTerm
namespace PS.T
open PS PS.G

/-! ## literals for the non-vacuity examples and the findings -/
namespace Ex
def a : Ty := .base "a"
def b : Ty := .base "b"
def c : Ty := .base "c"
def d : Ty := .base "d"
def x : Ty := .base "x"
def int : Ty := .base "int"
def fn (args : List Ty) (r : Ty) : Ty := Ty.mkFun args r
def leaf (s : Sym) : Prog := .node s []
-- arithmetic DSL with a forbidden pattern
def plus : Sym := Sym.prim "+" (fn [int, int] int)
def one : Sym := Sym.prim "1" int
def arith : Dsl := ⟨[plus, one], [(("+", 0), ["+"])]⟩
def v0 : Sym := Sym.var 0 int
def good : Prog := .node plus [leaf one, .node plus [leaf v0, leaf one]]     -- (+ 1 (+ var0 1))
def bad : Prog := .node plus [.node plus [leaf one, leaf one], leaf one]     -- (+ (+ 1 1) 1): forbidden
-- the DSL of finding C13-F2
def f : Sym := Sym.prim "f" (fn [a, b] c)
def g : Sym := Sym.prim "g" (fn [a, d] c)
def h : Sym := Sym.prim "h" (fn [x] a)
def x0 : Sym := Sym.prim "x0" x
def y : Sym := Sym.prim "y" b
def z : Sym := Sym.prim "z" d
def sib : Dsl := ⟨[f, g, h, x0, y, z], []⟩
def fhxy : Prog := .node f [.node h [leaf x0], leaf y]                       -- (f (h x0) y)
def ghxz : Prog := .node g [.node h [leaf x0], leaf z]                       -- (g (h x0) z)
-- the DSL of finding C13-F3
def map : Sym := Sym.prim "map" (fn [fn [int] int, int] int)
def succ : Sym := Sym.prim "succ" (fn [int] int)
def ho : Dsl := ⟨[map, succ, one], []⟩
def mapsucc1 : Prog := .node map [leaf succ, leaf one]                       -- (map succ 1)
-- the DSL of finding C13-F5: the second argument of f has no inhabitant
def xa : Sym := Sym.prim "x" a
def kc : Sym := Sym.prim "k" c
def unin : Dsl := ⟨[f, xa, kc], []⟩
-- empty language
def fa : Sym := Sym.prim "f" (fn [a] c)
def xb : Sym := Sym.prim "x" b
def empty : Dsl := ⟨[fa, xb], []⟩
def tableOf {S T : Type} : Res (TTG S T) → Option (TT S T)
  | .ok g => some g.G
  | _ => none
end Ex

/-- **`program in grammar`** (`__contains_rec__` + `TTCFG.derive`: the deterministic derivation
    with a pending stack of argument slots and a threaded state) **is the stack-free language of
    the rule table**, for every table with any state types and every program. -/
theorem C13_contains_run {S T : Type} [DecidableEq S] [DecidableEq T] (G : TT S T) (t : Prog) :
    PS.G.contains G t = inLang G t :=
  contains_eq_inLang G t

/-! ## rule creation = the statement's languages -/

/-- **size**: the rules created by `size_constraint` (every non-terminal `(type, n-gram, (size,
    future))` carrying the rules the worklist iteration creates for it) derive from the start
    symbol exactly the well-typed programs with at most `k` nodes and without a forbidden
    pattern (as far as the n-gram shows the parent).  Hypothesis (finding C13-F3): the transition
    counts the arguments actually taken (`actual = true`, /repo since f7d4c7d), or no primitive
    takes a function as an argument.
    Full statement (false for `actual = false`, see `finding_C13_F3`): the same without `hyp`. -/
theorem C13_size_rules_partial (dsl : Dsl) (hwf : wfDsl dsl = true) (request : Ty) (nG : Int) (k : Nat) (actual : Bool)
    (hyp : actual = true ∨ firstOrder dsl = true) (t : Prog) :
    (run (idealFn (sizeBuilder dsl nG k actual) dsl request) t (request.returns, []) (0, 0)).isSome
      = SizedVis dsl request nG k t :=
  size_ideal_lang dsl hwf request nG k actual hyp t

/-- … with `actual = true` (/repo since f7d4c7d) there is no hypothesis: every DSL, higher-order or not -/
theorem C13_size_rules (dsl : Dsl) (hwf : wfDsl dsl = true) (request : Ty) (nG : Int) (k : Nat) (t : Prog) :
    (run (idealFn (sizeBuilder dsl nG k true) dsl request) t (request.returns, []) (0, 0)).isSome
      = SizedVis dsl request nG k t :=
  size_ideal_lang dsl hwf request nG k true (Or.inl rfl) t

/-- **at most k occurrences**: likewise, for every DSL (finite language or not) -/
theorem C13_atmost_rules (dsl : Dsl) (hwf : wfDsl dsl = true) (request : Ty) (nG : Int) (name : String) (k : Nat)
    (t : Prog) :
    (run (idealFn (atMostBuilder dsl nG name k) dsl request) t (request.returns, []) k).isSome
      = AtMostOccVis dsl request nG name k t :=
  atMost_ideal_lang dsl hwf request nG name k t

/-- an n-gram of width ≥ 2 (or unbounded) shows the parent: the language seen through it is the
    statement's (finding C13-F7 = C01-F2 otherwise) -/
theorem C13_vis_statement (dsl : Dsl) (request : Ty) (nG : Int) (hn : nG ≥ 2 ∨ nG < 0) (k : Nat) (name : String)
    (t : Prog) :
    SizedVis dsl request nG k t = Sized dsl request k t ∧
    AtMostOccVis dsl request nG name k t = AtMostOcc dsl request name k t := by
  simp [SizedVis, Sized, AtMostOccVis, AtMostOcc, effParentT_some hn]

open Ex in
/-- the languages are not trivial: `(+ 1 (+ var0 1))` is in both, the forbidden
    `(+ (+ 1 1) 1)` in neither, and 5 nodes do not fit in 4 -/
example : Sized arith (fn [int] int) 5 good = true ∧ Sized arith (fn [int] int) 5 bad = false ∧
    Sized arith (fn [int] int) 4 good = false ∧ AtMostOcc arith (fn [int] int) "+" 2 good = true ∧
    AtMostOcc arith (fn [int] int) "+" 1 good = false := by decide +kernel

/-- **`__saturation_build__`**: the table it returns (before `clean`) has distinct keys, contains
    the start symbol and every row is exactly the row of the rule-creation step - for every
    builder, DSL, request and fuel. -/
theorem C13_saturation {S T : Type} [DecidableEq S] [DecidableEq T] (B : Builder S T) (prims : List Sym)
    (request : Ty) (stackKey : Bool) (fuel : Nat) (G : TT S T) (h : saturationTable B prims request stackKey fuel = some G) :
    G.start = startOf B request ∧ (AList.keys G.rules).Nodup ∧ AList.contains G.start G.rules = true ∧
    ∀ e ∈ G.rules, e.2 = rowDict B prims request e.1 :=
  have s := saturationTable_spec B prims request stackKey fuel G h
  ⟨s.start, s.nodup, s.hasStart, s.rows⟩

/-- the model's grammar derives only what the rule creation derives -/
theorem C13_model_sound {S T : Type} [DecidableEq S] [DecidableEq T] (B : Builder S T) (dsl : Dsl) (request : Ty)
    (stackKey : Bool) (fuel : Nat) (G0 G : TT S T) (h0 : saturationTable B dsl.prims request stackKey fuel = some G0)
    (h1 : clean G0 fuel = .ok G) (t : Prog) (hin : inLang G t = true) :
    (run (idealFn B dsl request) t (request.returns, B.init.1) B.init.2).isSome = true :=
  construct_sound B dsl request stackKey fuel ⟨G, request⟩ (construct_eq_ok.mpr ⟨G0, h0, h1, rfl⟩) t
    ((contains_eq_inLang G t).trans hin)

/-- **soundness of `size_constraint`, unconditional in the table**: whatever the worklist
    explored or dropped, the grammar it returns contains only well-typed programs with at most
    `k` nodes and no forbidden pattern (seen through the n-gram). -/
theorem C13_size_sound_partial (dsl : Dsl) (hwf : wfDsl dsl = true) (request : Ty) (k : Nat) (nG : Int) (actual : Bool)
    (hyp : actual = true ∨ firstOrder dsl = true) (stackKey : Bool) (fuel : Nat) (g : TTG Ctx (Nat × Nat))
    (h : sizeConstraint dsl request k nG actual stackKey fuel = .ok g) (t : Prog) (hin : PS.G.contains g.G t = true) :
    SizedVis dsl request nG k t = true := by
  rw [sizeConstraint_eq] at h
  exact (size_ideal_lang dsl hwf request nG k actual hyp t).symm.trans (construct_sound _ dsl request stackKey fuel g h t hin)

/-- **soundness of `at_most_k`, unconditional** -/
theorem C13_atmost_sound (dsl : Dsl) (hwf : wfDsl dsl = true) (request : Ty) (name : String) (k : Nat) (nG : Int)
    (stackKey : Bool) (fuel : Nat) (g : TTG Ctx Nat) (h : atMostK dsl request name k nG stackKey fuel = .ok g) (t : Prog)
    (hin : PS.G.contains g.G t = true) : AtMostOccVis dsl request nG name k t = true := by
  rw [atMostK_eq] at h
  exact (atMost_ideal_lang dsl hwf request nG name k t).symm.trans (construct_sound _ dsl request stackKey fuel g h t hin)

/-! ## certified tables: the language is exactly the statement's -/

/-- **certified checking**: a rule table `G` - whatever produced it; in every check run: the
    implementation's actual table - that the verified checker `subOK` accepts against the rule
    creation of a builder contains exactly the programs that rule creation derives. -/
theorem C13_certified {S T : Type} [DecidableEq S] [DecidableEq T] (B : Builder S T) (dsl : Dsl) (request : Ty)
    (G : TT S T) (outs : AList (NT S T) (List T)) (dead : List (NT S T))
    (hs : G.start = startOf B request) (h : subOK (rowDict B dsl.prims request) G outs dead = true) (t : Prog) :
    PS.G.contains G t = (run (idealFn B dsl request) t (request.returns, B.init.1) B.init.2).isSome := by
  rw [C13_contains_run, cert_lang _ G outs dead h t, hs]
  rfl

/-- **size-bounded grammars**: membership in a certified table of `size_constraint` ↔ `Sized`.
    Hypotheses: `hsub`, `subOK` accepts the table (classifier of C13-F2: the table misses no non-terminal a
    derivation reaches); `hyp`, `actual ∨ firstOrder` (C13-F3); `hn`, n-gram width ≥ 2 or unbounded (C13-F7).
    Full statement (false before the repairs 6d9766e and f7d4c7d, `finding_C13_F2`, `finding_C13_F3`):
      sizeConstraint dsl request k n false false fuel = .ok g → contains g.G t = Sized dsl request k t. -/
theorem C13_size_partial (dsl : Dsl) (hwf : wfDsl dsl = true) (request : Ty) (k : Nat) (nG : Int) (actual : Bool)
    (G : TT Ctx (Nat × Nat)) (outs : AList (NT Ctx (Nat × Nat)) (List (Nat × Nat))) (dead : List (NT Ctx (Nat × Nat)))
    (hs : G.start = startOf (sizeBuilder dsl nG k actual) request)
    (hsub : subOK (rowDict (sizeBuilder dsl nG k actual) dsl.prims request) G outs dead = true)
    (hyp : actual = true ∨ firstOrder dsl = true) (hn : nG ≥ 2 ∨ nG < 0) (t : Prog) :
    PS.G.contains G t = Sized dsl request k t := by
  rw [C13_certified (sizeBuilder dsl nG k actual) dsl request G outs dead hs hsub t]
  exact size_lang dsl hwf request nG hn k actual hyp t

/-- **occurrence-bounded grammars**: membership in a certified table of `at_most_k` ↔ `AtMostOcc`.
    Full statement (false before the repair 6d9766e for the same reason as C13-F2):
      atMostK dsl request name k n false fuel = .ok g → contains g.G t = AtMostOcc dsl request name k t. -/
theorem C13_atmost_partial (dsl : Dsl) (hwf : wfDsl dsl = true) (request : Ty) (name : String) (k : Nat) (nG : Int)
    (G : TT Ctx Nat) (outs : AList (NT Ctx Nat) (List Nat)) (dead : List (NT Ctx Nat))
    (hs : G.start = startOf (atMostBuilder dsl nG name k) request)
    (hsub : subOK (rowDict (atMostBuilder dsl nG name k) dsl.prims request) G outs dead = true)
    (hn : nG ≥ 2 ∨ nG < 0) (t : Prog) :
    PS.G.contains G t = AtMostOcc dsl request name k t := by
  rw [C13_certified (atMostBuilder dsl nG name k) dsl request G outs dead hs hsub t]
  exact atMost_lang dsl hwf request nG hn name k t

/-- **product = intersection**: the table built by `__mul_ttcfg__` derives exactly the programs
    both factors derive - for all grammars whose rules give a symbol the same argument types at
    non-terminals of the same type (grammars compiled from DSLs do) and the same start type. -/
theorem C13_product {S T U V : Type} [DecidableEq S] [DecidableEq T] [DecidableEq U] [DecidableEq V]
    (G1 : TT S T) (G2 : TT U V) (hag : ArgsAgree G1 G2) (hty : G1.start.1 = G2.start.1) (t : Prog) :
    PS.G.contains (mulRaw G1 G2) t = (PS.G.contains G1 t && PS.G.contains G2 t) :=
  mulRaw_lang G1 G2 hag hty t

/-- the hypothesis `ArgsAgree` follows from the decidable `typedOK` of both factors (evaluated by
    the driver on the implementation's factor tables in every product case) -/
theorem C13_product_typed {S T U V : Type} [DecidableEq S] [DecidableEq T] [DecidableEq U] [DecidableEq V]
    (G1 : TT S T) (G2 : TT U V) (h1 : typedOK G1 = true) (h2 : typedOK G2 = true)
    (hty : G1.start.1 = G2.start.1) (t : Prog) :
    PS.G.contains (mulRaw G1 G2) t = (PS.G.contains G1 t && PS.G.contains G2 t) :=
  C13_product G1 G2 (argsAgree_of_typed G1 G2 h1 h2) hty t

/-- … and the cleaned product `g1 * g2` contains only common programs (for every fuel) … -/
theorem C13_product_sound {S T U V : Type} [DecidableEq S] [DecidableEq T] [DecidableEq U] [DecidableEq V]
    (G1 : TT S T) (G2 : TT U V) (hag : ArgsAgree G1 G2) (hty : G1.start.1 = G2.start.1) (fuel : Nat)
    (G : TT (S × U) (T × V)) (h : mul G1 G2 fuel = .ok G) (t : Prog) (hin : PS.G.contains G t = true) :
    PS.G.contains G1 t = true ∧ PS.G.contains G2 t = true := by
  have h3 := clean_contains (mulRaw G1 G2) G fuel h t hin
  rwa [C13_product G1 G2 hag hty t, Bool.and_eq_true] at h3

/-- … and all of them when the cleaned table passes the verified checker against the raw
    product (evaluated on the implementation's product in every generated case). -/
theorem C13_product_certified {S T U V : Type} [DecidableEq S] [DecidableEq T] [DecidableEq U] [DecidableEq V]
    (G1 : TT S T) (G2 : TT U V) (hag : ArgsAgree G1 G2) (hty : G1.start.1 = G2.start.1)
    (G : TT (S × U) (T × V)) (outs : AList (NT (S × U) (T × V)) (List (T × V))) (dead : List (NT (S × U) (T × V)))
    (hs : G.start = (mulRaw G1 G2).start)
    (h : subOK (fun nt => (AList.lookup nt (mulRaw G1 G2).rules).getD []) G outs dead = true) (t : Prog) :
    PS.G.contains G t = (PS.G.contains G1 t && PS.G.contains G2 t) := by
  rw [C13_contains_run, cert_lang _ G outs dead h t, tableRows_fn, hs, ← C13_product G1 G2 hag hty t, C13_contains_run]
  rfl

/-- **`clean()` adds no program** (every table, fuel, program) -/
theorem C13_clean_sound {S T : Type} [DecidableEq S] [DecidableEq T] (G G' : TT S T) (fuel : Nat)
    (h : clean G fuel = .ok G') (t : Prog) (hin : PS.G.contains G' t = true) : PS.G.contains G t = true :=
  clean_contains G G' fuel h t hin

/-- **every derivation that can be started can be completed**: in a table accepted by the
    verified checker `closedOK`, from every configuration (pending argument slots + state) that
    the derivation machine of `TTCFG.derive` can reach from the start symbol, a final
    configuration (no slot pending) can be reached.
    Full statement (false, in /repo as well: `finding_C13_F5`, `finding_C13_F5_no_repair`): the same
    for the table returned by `clean`, without the hypothesis `closedOK`. -/
theorem C13_clean_partial {S T : Type} [DecidableEq S] [DecidableEq T] (G : TT S T)
    (outs : AList (NT S T) (List T)) (rk : AList (NT S T) Nat) (h : closedOK G outs rk = true)
    (c : Config S T) (hreach : Steps G ([(G.start.1, G.start.2.1)], G.start.2.2) c) :
    ∃ w, Steps G c ([], w) :=
  closed_complete G outs rk h c hreach

/-- … in particular every rule of every non-terminal derives a program -/
theorem C13_clean_productive {S T : Type} [DecidableEq S] [DecidableEq T] (G : TT S T)
    (outs : AList (NT S T) (List T)) (rk : AList (NT S T) Nat) (h : closedOK G outs rk = true) :
    ∀ e ∈ G.rules, ∀ r ∈ e.2, ∃ (kids : List Prog) (w : T),
      run G.rule? (.node r.1 kids) (e.1.1, e.1.2.1) e.1.2.2 = some w :=
  fun e he r hr => closed_productive G outs rk (closedCert_of_closedOK G outs rk h) _ e he (Nat.le_refl _) r hr

/-- **the reported number of programs is the size of the language**: on a table accepted by
    `closedOK`, whenever `programs()` returns `n`, the programs of the grammar are listed exactly
    once each by `langOf` and there are `n` of them.
    Full statement (false for `programs`, the count before the repairs 875cb5a and 8ba7791:
    `finding_C13_F5`, `finding_C13_F6`; for `programsR` it is `C13_programs`): the same for every
    table returned by a constructor. -/
theorem C13_count_partial {S T : Type} [DecidableEq S] [DecidableEq T] (G : TT S T)
    (outs : AList (NT S T) (List T)) (rk : AList (NT S T) Nat) (h : closedOK G outs rk = true)
    (fuel n : Nat) (hp : programs G fuel = some n) :
    ∃ L : List Prog, L.Nodup ∧ n = L.length ∧ ∀ t, t ∈ L ↔ PS.G.contains G t = true := by
  obtain ⟨h1, h2, h3⟩ := programs_count G outs rk h fuel n hp
  exact ⟨langOf G fuel, h1, h2, fun t => by rw [h3 t, C13_contains_run]⟩

/-- the grammar returned by the model of `size_constraint` reports the request it was compiled for -/
theorem C13_type_request_size (dsl : Dsl) (request : Ty) (k : Nat) (n : Int) (a sk : Bool) (fuel : Nat)
    (g : TTG Ctx (Nat × Nat)) (h : sizeConstraint dsl request k n a sk fuel = .ok g) : g.typeRequest = request := by
  rw [sizeConstraint_eq] at h
  exact construct_typeRequest h

theorem C13_type_request_atmost (dsl : Dsl) (request : Ty) (name : String) (k : Nat) (n : Int) (sk : Bool) (fuel : Nat)
    (g : TTG Ctx Nat) (h : atMostK dsl request name k n sk fuel = .ok g) : g.typeRequest = request := by
  rw [atMostK_eq] at h
  exact construct_typeRequest h

/-! ## non-vacuity of the certified theorems and the recorded findings (kernel evaluation of the
     model on concrete inputs) -/
namespace Ex
/-- DSL {+, 1}, request int, at most 3 nodes: the language is {1, (+ 1 1)} -/
def small : Dsl := ⟨[plus, one], []⟩
def S0 : NT Ctx (Nat × Nat) := (int, ([], (0, 0)))
def A : NT Ctx (Nat × Nat) := (int, ([(plus, 0)], (1, 2)))
def B : NT Ctx (Nat × Nat) := (int, ([(plus, 1)], (2, 1)))
def smallOuts : AList (NT Ctx (Nat × Nat)) (List (Nat × Nat)) := [(S0, [(1, 0), (3, 0)]), (A, [(2, 1)]), (B, [(3, 0)])]
def smallRk : AList (NT Ctx (Nat × Nat)) Nat := [(S0, 1), (A, 0), (B, 0)]
/-- run a check on the table a model constructor returns -/
def onTable {S T : Type} (r : Res (TTG S T)) (p : TT S T → Bool) : Bool :=
  match r with
  | .ok g => p g.G
  | _ => false
end Ex

open Ex in
/-- the hypotheses of C13_size_partial, C13_clean_partial and C13_count_partial hold on the table
    the model of `size_constraint` builds for {+, 1} / int / 3, with a certificate written by
    hand; `programs()` is 2, `(+ 1 1)` is a member, `(+ 1 (+ 1 1))` is not -/
example : onTable (sizeConstraint small int 3 2 false false 100) (fun G =>
    G.start == startOf (sizeBuilder small 2 3 false) int &&
    subOK (rowDict (sizeBuilder small 2 3 false) small.prims int) G smallOuts [] &&
    closedOK G smallOuts smallRk &&
    programs G 10 == some 2 &&
    PS.G.contains G (.node plus [leaf one, leaf one]) &&
    !(PS.G.contains G (.node plus [leaf one, .node plus [leaf one, leaf one]]))) = true := by decide +kernel

open Ex in
/-- a product: size ≤ 3 times size ≤ 1 over {+, 1} contains `1` and not `(+ 1 1)`; the
    factors agree on argument types (C13_product applies) -/
example : (match tableOf (sizeConstraint small int 3 2 false false 100), tableOf (sizeConstraint small int 1 2 false false 100) with
    | some G1, some G2 =>
      PS.G.contains (mulRaw G1 G2) (leaf one) && !(PS.G.contains (mulRaw G1 G2) (.node plus [leaf one, leaf one])) &&
      PS.G.contains G1 (.node plus [leaf one, leaf one])
    | _, _ => false) = true := by decide +kernel

open Ex in
/-- **finding C13-F2** on the model with `stackKey = false` (before 6d9766e): `size_constraint(dsl, c, 4)`
    over f: a→b→c, g: a→d→c, h: x→a, x0, y, z misses the 4-node program `(f (h x0) y)` (the second pending stack that
    reaches `(x, (h,0), (2,2))` is dropped) while it keeps `(g (h x0) z)`; `programs()` still
    reports 2 and no certificate exists: the table is not closed. -/
theorem finding_C13_F2 :
    Sized sib c 4 fhxy = true ∧ Sized sib c 4 ghxz = true ∧
    onTable (sizeConstraint sib c 4 2 false false 1000) (fun G =>
      !(PS.G.contains G fhxy) && PS.G.contains G ghxz && programs G 20 == some 2) = true ∧
    -- `stackKey = true` (work list keyed by rule AND pending stack, /repo since 6d9766e): both are members
    onTable (sizeConstraint sib c 4 2 false true 1000) (fun G =>
      PS.G.contains G fhxy && PS.G.contains G ghxz && programs G 20 == some 2) = true := by decide +kernel

open Ex in
/-- **finding C13-F3** on the model: `(map succ 1)` has 3 nodes but is not in
    `size_constraint(dsl, int, 3)` with `actual = false` - `succ` passed as a value is charged its
    declared argument; with `actual = true` (/repo since f7d4c7d) it is. -/
theorem finding_C13_F3 :
    Sized ho int 3 mapsucc1 = true ∧
    onTable (sizeConstraint ho int 3 2 false false 1000) (fun G => !(PS.G.contains G mapsucc1)) = true ∧
    onTable (sizeConstraint ho int 3 2 true false 1000) (fun G => PS.G.contains G mapsucc1) = true := by decide +kernel

open Ex in
/-- **finding C13-F5** on the model: f : a → b → c with b uninhabited.  The language of
    `size_constraint(dsl, c, 4)` is {k}, but `clean()` keeps the rule `f` (its FIRST argument is
    fine), so `programs` (the count before 875cb5a) reports 2 and the derivation `f x _` cannot be
    completed. -/
theorem finding_C13_F5 :
    onTable (sizeConstraint unin c 4 2 false false 1000) (fun G =>
      programs G 20 == some 2 && (langOf G 10).length == 1 && PS.G.contains G (leaf kc) &&
      (G.rule? (c, ([], (0, 0))) f).isSome &&
      !(AList.contains ((b, ([(f, 1)], (2, 1))) : NT Ctx (Nat × Nat)) G.rules)) = true := by decide +kernel

open Ex in
/-- **finding C13-F6** on the model: an empty language (no rule left, not even for the start
    symbol) is reported as 1 program by `programs` (the count before 8ba7791). -/
theorem finding_C13_F6 :
    onTable (sizeConstraint empty c 3 2 false false 1000) (fun G => G.rules.isEmpty && programs G 20 == some 1) = true := by
  decide +kernel

open Ex in
/-- **finding C13-F7** on the model: with `n_gram = 1` the forbidden `(+ (+ 1 1) 1)` is a member. -/
theorem finding_C13_F7 :
    Sized arith int 5 bad = false ∧
    onTable (sizeConstraint arith int 5 1 false false 1000) (fun G => PS.G.contains G bad) = true ∧
    onTable (sizeConstraint arith int 5 2 false false 1000) (fun G => !(PS.G.contains G bad)) = true := by decide +kernel

/-! ## the construction itself: the worklist closes, `clean()` keeps the language
     (`stackKey = true`, work list keyed by rule and pending stack: what `subOK` certifies per case
     in the `_partial` theorems is proved of the loop) -/

/-- **the worklist of `__saturation_build__` closes**: when the loop ends there is a set of
    (non-terminal, pending stack) pairs that contains the start configuration, is closed under
    every rule the rule creation gives any of its non-terminals (the next non-terminal, taken from
    the arguments and the pending stack, with the new state, is in the set again), and all its
    non-terminals have a row in the table returned - for every builder, DSL, request and fuel. -/
theorem C13_saturation_closed {S T : Type} [DecidableEq S] [DecidableEq T] (B : Builder S T) (prims : List Sym)
    (request : Ty) (fuel : Nat) (G : TT S T) (h : saturationTable B prims request true fuel = some G) :
    ∃ seen : List (NT S T × List (Ty × S)), ((request.returns, B.init), []) ∈ seen ∧
      (∀ (rule : NT S T) (stack : List (Ty × S)), (rule, stack) ∈ seen →
        ∀ (P : Sym) (args : List (Ty × S)) (st : T), rowsFn (rowDict B prims request) rule P = some (args, st) →
          ∀ (x : Ty × S) (rest : List (Ty × S)), args ++ stack = x :: rest → ((x.1, (x.2, st)), rest) ∈ seen) ∧
      ∀ x ∈ seen, AList.contains x.1 G.rules = true :=
  saturation_closed B prims request fuel G h

/-- **`__saturation_build__` is complete**: the table it returns (before `clean`) contains
    exactly the programs the rule creation derives from the start symbol - every builder, DSL,
    request, fuel, program. -/
theorem C13_saturation_complete {S T : Type} [DecidableEq S] [DecidableEq T] (B : Builder S T) (dsl : Dsl)
    (request : Ty) (fuel : Nat) (G : TT S T) (h : saturationTable B dsl.prims request true fuel = some G) (t : Prog) :
    PS.G.contains G t = (run (idealFn B dsl request) t (request.returns, B.init.1) B.init.2).isSome := by
  rw [C13_contains_run]
  exact saturation_lang B dsl request fuel G h t

open Ex in
/-- non-vacuity: the worklist of `size_constraint` over the DSL of finding C13-F2 ends, and its
    table contains both 4-node programs -/
example : (match saturationTable (sizeBuilder sib 2 4 true) sib.prims c true 1000 with
    | some G => PS.G.contains G fhxy && PS.G.contains G ghxz
    | none => false) = true := by decide +kernel

/-- **`clean()` preserves the language**: every table none of whose non-terminals has the
    end-marker type `UnknownType`, every fuel, every program.
    (Without the hypothesis the statement is false: `finding_C13_clean_unknown`.) -/
theorem C13_clean_lang {S T : Type} [DecidableEq S] [DecidableEq T] (G G' : TT S T) (hU : noUnknownKey G = true)
    (fuel : Nat) (h : clean G fuel = .ok G') (t : Prog) : PS.G.contains G' t = PS.G.contains G t := by
  rw [C13_contains_run, C13_contains_run]
  exact clean_lang G G' hU fuel h t

/-- … and so does `clean()` with the test for a missing start symbol in front (8ba7791) -/
theorem C13_cleanFixed_lang {S T : Type} [DecidableEq S] [DecidableEq T] (G G' : TT S T) (hU : noUnknownKey G = true)
    (fuel : Nat) (h : cleanFixed G fuel = .ok G') (t : Prog) : PS.G.contains G' t = PS.G.contains G t := by
  rw [C13_contains_run, C13_contains_run]
  exact cleanFixed_lang G G' hU fuel h t

namespace Ex
/-- a table with a non-terminal of the end-marker type: `S0 → x` (a leaf, ending in state 1) and
    an empty row for `(UnknownType, ("s", 1))` -/
def unk : TT String Nat := ⟨(int, ("s", 0)), [((int, ("s", 0)), [(xa, ([], 1))]), ((Ty.unknown, ("s", 1)), [])]⟩
end Ex

open Ex in
/-- **why the hypothesis**: on a table with a non-terminal of type `UnknownType`, `clean()` takes
    the end of the derivation of `x` for a deleted first argument and removes the only program. -/
theorem finding_C13_clean_unknown :
    noUnknownKey unk = false ∧ PS.G.contains unk (leaf xa) = true ∧
    (match clean unk 100 with
     | .ok G' => !(PS.G.contains G' (leaf xa)) && G'.rules.isEmpty
     | _ => false) = true := by decide +kernel

/-- **size-bounded grammars, the construction itself**: the grammar returned by the model of
    `TTCFG.size_constraint` (saturation, then clean) contains exactly the well-typed programs with
    at most `k` nodes and no forbidden pattern seen through the n-gram.  Hypotheses: the DSL is a
    list of primitives without `UnknownType` arguments; `actual ∨ firstOrder` (C13-F3; /repo is
    `actual = true`). -/
theorem C13_size_vis (dsl : Dsl) (hwf : wfDsl dsl = true) (request : Ty) (hU : noUnknownDsl dsl request = true)
    (k : Nat) (nG : Int) (actual : Bool) (hyp : actual = true ∨ firstOrder dsl = true) (fuel : Nat)
    (g : TTG Ctx (Nat × Nat)) (h : sizeConstraint dsl request k nG actual true fuel = .ok g) (t : Prog) :
    PS.G.contains g.G t = SizedVis dsl request nG k t := by
  rw [sizeConstraint_eq] at h
  exact (construct_spec _ dsl request hU _ (size_ideal_lang dsl hwf request nG k actual hyp) fuel g h).1 t

/-- **size-bounded grammars** (`actual = true`, `stackKey = true`: /repo; n-gram of width ≥ 2 or unbounded, C13-F7):
    `program in TTCFG.size_constraint(dsl, request, k, n)` ↔ the program is well typed, has at most
    `k` nodes and no forbidden pattern. -/
theorem C13_size (dsl : Dsl) (hwf : wfDsl dsl = true) (request : Ty) (hU : noUnknownDsl dsl request = true)
    (k : Nat) (nG : Int) (hn : nG ≥ 2 ∨ nG < 0) (fuel : Nat)
    (g : TTG Ctx (Nat × Nat)) (h : sizeConstraint dsl request k nG true true fuel = .ok g) (t : Prog) :
    PS.G.contains g.G t = Sized dsl request k t := by
  rw [C13_size_vis dsl hwf request hU k nG true (Or.inl rfl) fuel g h t, (C13_vis_statement dsl request nG hn k "" t).1]

/-- **occurrence-bounded grammars, the construction itself** (whenever the construction ends:
    finite language or not) -/
theorem C13_atmost_vis (dsl : Dsl) (hwf : wfDsl dsl = true) (request : Ty) (hU : noUnknownDsl dsl request = true)
    (name : String) (k : Nat) (nG : Int) (fuel : Nat)
    (g : TTG Ctx Nat) (h : atMostK dsl request name k nG true fuel = .ok g) (t : Prog) :
    PS.G.contains g.G t = AtMostOccVis dsl request nG name k t := by
  rw [atMostK_eq] at h
  exact (construct_spec _ dsl request hU _ (atMost_ideal_lang dsl hwf request nG name k) fuel g h).1 t

theorem C13_atmost (dsl : Dsl) (hwf : wfDsl dsl = true) (request : Ty) (hU : noUnknownDsl dsl request = true)
    (name : String) (k : Nat) (nG : Int) (hn : nG ≥ 2 ∨ nG < 0) (fuel : Nat)
    (g : TTG Ctx Nat) (h : atMostK dsl request name k nG true fuel = .ok g) (t : Prog) :
    PS.G.contains g.G t = AtMostOcc dsl request name k t := by
  rw [C13_atmost_vis dsl hwf request hU name k nG fuel g h t, (C13_vis_statement dsl request nG hn k name t).2]

open Ex in
/-- non-vacuity: the hypotheses hold and the constructors return - `size_constraint` on the
    arithmetic DSL with a forbidden pattern (request int → int, 5 nodes), `at_most_k` (at most one
    `x0`) on the DSL of finding C13-F2 -/
example : wfDsl arith = true ∧ noUnknownDsl arith (fn [int] int) = true ∧
    onTable (sizeConstraint arith (fn [int] int) 5 2 true true 10000) (fun G =>
      PS.G.contains G good && !(PS.G.contains G bad)) = true ∧
    onTable (atMostK sib c "x0" 1 2 true 1000) (fun G => PS.G.contains G fhxy) = true := by decide +kernel

/-- **`g1 * g2` (table of `__mul_ttcfg__`, then `clean`) contains exactly the programs common to
    both factors** - for all pairs of grammars that give a symbol the same argument types at
    non-terminals of the same type, have the same start type, and no end-marker non-terminal in
    the left factor; every fuel for which `clean` returns. -/
theorem C13_product_clean {S T U V : Type} [DecidableEq S] [DecidableEq T] [DecidableEq U] [DecidableEq V]
    (G1 : TT S T) (G2 : TT U V) (hag : ArgsAgree G1 G2) (hty : G1.start.1 = G2.start.1)
    (hU : noUnknownKey G1 = true) (fuel : Nat) (G : TT (S × U) (T × V)) (h : mul G1 G2 fuel = .ok G) (t : Prog) :
    PS.G.contains G t = (PS.G.contains G1 t && PS.G.contains G2 t) := by
  rw [C13_clean_lang (mulRaw G1 G2) G (mulRaw_noUnknown G1 G2 hU) fuel h t]
  exact C13_product G1 G2 hag hty t

/-- … and with `cleanFixed`, the `clean()` of /repo (empty product = empty table instead of KeyError) -/
theorem C13_product_cleanFixed {S T U V : Type} [DecidableEq S] [DecidableEq T] [DecidableEq U] [DecidableEq V]
    (G1 : TT S T) (G2 : TT U V) (hag : ArgsAgree G1 G2) (hty : G1.start.1 = G2.start.1)
    (hU : noUnknownKey G1 = true) (fuel : Nat) (G : TT (S × U) (T × V))
    (h : cleanFixed (mulRaw G1 G2) fuel = .ok G) (t : Prog) :
    PS.G.contains G t = (PS.G.contains G1 t && PS.G.contains G2 t) := by
  rw [C13_cleanFixed_lang (mulRaw G1 G2) G (mulRaw_noUnknown G1 G2 hU) fuel h t]
  exact C13_product G1 G2 hag hty t

open Ex in
/-- non-vacuity: size ≤ 3 times size ≤ 1 over {+, 1}: the cleaned product exists, the factors are
    typed, contain no end-marker, and it contains `1` only -/
example : (match tableOf (sizeConstraint small int 3 2 true true 100), tableOf (sizeConstraint small int 1 2 true true 100) with
    | some G1, some G2 =>
      typedOK G1 && typedOK G2 && noUnknownKey G1 &&
      (match mul G1 G2 100 with
       | .ok G => PS.G.contains G (leaf one) && !(PS.G.contains G (.node plus [leaf one, leaf one]))
       | _ => false)
    | _, _ => false) = true := by decide +kernel

/-- **`__saturation_build__` terminates** for every builder whose rules strictly decrease a rank
    of the configuration (non-terminal, pending stack): with either de-duplication the loop ends
    within `satBound b (rk start)` iterations, where `b` = number of variables of the request +
    number of primitives and `satBound b n = 1 + b + … + bⁿ`; and **more fuel does not change the
    table**. -/
theorem C13_saturation_terminates {S T : Type} [DecidableEq S] [DecidableEq T] (B : Builder S T) (prims : List Sym)
    (request : Ty) (stackKey : Bool) (rk : NT S T × List (Ty × S) → Nat)
    (hdec : ∀ (rule : NT S T) (stack : List (Ty × S)), ∀ p ∈ pushesOf B prims request rule stack,
      rk (entryKey p) < rk (rule, stack)) :
    (∀ fuel, satBound (request.arguments.length + prims.length) (rk ((request.returns, B.init), [])) ≤ fuel →
      (saturationTable B prims request stackKey fuel).isSome = true) ∧
    (∀ fuel extra G, saturationTable B prims request stackKey fuel = some G →
      saturationTable B prims request stackKey (fuel + extra) = some G) :=
  ⟨fun fuel hf => saturationTable_terminates B prims request stackKey rk hdec fuel hf,
   fun fuel extra G h => saturationTable_mono B prims request stackKey fuel extra G h⟩

/-- **the worklist of `size_constraint` always ends**: every rule created has `size ≤ max_size` and
    moves to `size + 1`, so `max_size + 1 - size` is a rank - every DSL, request, bound, n-gram. -/
theorem C13_saturation_terminates_size (dsl : Dsl) (request : Ty) (nG : Int) (maxSize : Nat) (actual stackKey : Bool)
    (fuel : Nat) (hf : satBound (request.arguments.length + dsl.prims.length) (maxSize + 1) ≤ fuel) :
    (saturationTable (sizeBuilder dsl nG maxSize actual) dsl.prims request stackKey fuel).isSome = true :=
  size_saturation_terminates dsl request nG maxSize actual stackKey fuel hf

/-- **the worklist of `at_most_k` ends when every primitive that takes an argument is the counted
    one** (`spendAll`, decidable): rank `occ_left · (A + 1) + |pending stack|`, `A` = total declared
    arity.  Full statement (false: with a binary primitive that is not counted the pending stack
    grows for ever - the language is infinite, or finite with an unproductive recursion, see the
    assumptions in harness/meta/C13.json): the same without `hsp`. -/
theorem C13_saturation_terminates_atmost_partial (dsl : Dsl) (request : Ty) (nG : Int) (name : String) (k : Nat)
    (hsp : spendAll dsl name = true) (stackKey : Bool) (fuel : Nat)
    (hf : satBound (request.arguments.length + dsl.prims.length) (k * (totalArity dsl + 1)) ≤ fuel) :
    (saturationTable (atMostBuilder dsl nG name k) dsl.prims request stackKey fuel).isSome = true :=
  atMost_saturation_terminates dsl request nG name k hsp stackKey fuel hf

open Ex in
/-- non-vacuity: {+, 1} / int / 3 nodes: the bound is 1 + 2 + 4 + 8 + 16 = 31 and the table exists
    at that fuel; `spendAll` holds for the counted primitive `+` -/
example : satBound (int.arguments.length + small.prims.length) (3 + 1) = 31 ∧
    (saturationTable (sizeBuilder small 2 3 true) small.prims int true 31).isSome = true ∧
    spendAll small "+" = true ∧
    (saturationTable (atMostBuilder small 2 "+" 1) small.prims int true
      (satBound (int.arguments.length + small.prims.length) (1 * (totalArity small + 1)))).isSome = true := by
  decide +kernel

/-- **`programsR`, the `programs()` of /repo (875cb5a), is the size of the language - of EVERY table**
    whose rows are dicts and that uses the end-marker type `UnknownType` neither as a non-terminal
    nor as an argument slot (three decidable hypotheses; no certificate, no closedness, cleaned
    or not): whenever it returns `n`, the programs of the grammar are listed once each by `langOf`
    and there are `n` of them.  (`programs`, the count before the repair: `C13_count_partial`,
    `finding_C13_F5`.) -/
theorem C13_programs {S T : Type} [DecidableEq S] [DecidableEq T] (G : TT S T) (hr : rowsNodup G = true)
    (hU : noUnknownKey G = true) (hA : noUnknownArg G = true) (fuel n : Nat) (hp : programsR G fuel = some n) :
    ∃ L : List Prog, L.Nodup ∧ n = L.length ∧ ∀ t, t ∈ L ↔ PS.G.contains G t = true := by
  obtain ⟨h1, h2, h3⟩ := programsR_count G hr hU hA fuel n hp
  exact ⟨langOf G fuel, h1, h2, fun t => by rw [h3 t, C13_contains_run]⟩

/-- **the reported number of programs of a size-bounded grammar** (`actual = true`,
    `stackKey = true`, `programsR`: /repo): `n` = the number of well-typed programs with at most `k`
    nodes and no forbidden pattern. -/
theorem C13_count_size (dsl : Dsl) (hwf : wfDsl dsl = true) (request : Ty) (hU : noUnknownDsl dsl request = true)
    (k : Nat) (nG : Int) (hn : nG ≥ 2 ∨ nG < 0) (fuel : Nat) (g : TTG Ctx (Nat × Nat))
    (h : sizeConstraint dsl request k nG true true fuel = .ok g) (fuel' n : Nat) (hp : programsR g.G fuel' = some n) :
    ∃ L : List Prog, L.Nodup ∧ n = L.length ∧ ∀ t, t ∈ L ↔ Sized dsl request k t = true := by
  rw [sizeConstraint_eq] at h
  exact (construct_spec _ dsl request hU _ (size_lang dsl hwf request nG hn k true (Or.inl rfl)) fuel g h).2 fuel' n hp

/-- … and of an occurrence-bounded grammar -/
theorem C13_count_atmost (dsl : Dsl) (hwf : wfDsl dsl = true) (request : Ty) (hU : noUnknownDsl dsl request = true)
    (name : String) (k : Nat) (nG : Int) (hn : nG ≥ 2 ∨ nG < 0) (fuel : Nat) (g : TTG Ctx Nat)
    (h : atMostK dsl request name k nG true fuel = .ok g) (fuel' n : Nat) (hp : programsR g.G fuel' = some n) :
    ∃ L : List Prog, L.Nodup ∧ n = L.length ∧ ∀ t, t ∈ L ↔ AtMostOcc dsl request name k t = true := by
  rw [atMostK_eq] at h
  exact (construct_spec _ dsl request hU _ (atMost_lang dsl hwf request nG hn name k) fuel g h).2 fuel' n hp

open Ex in
/-- non-vacuity, on the witness of C13-F5 (f : a → b → c, b uninhabited): the cleaned table keeps
    the rule `f`, `programs` (before 875cb5a) reports 2, `programsR` 1 = |{k}| -/
example : noUnknownDsl unin c = true ∧ wfDsl unin = true ∧
    onTable (sizeConstraint unin c 4 2 true true 1000) (fun G =>
      rowsNodup G && noUnknownKey G && noUnknownArg G &&
      programs G 20 == some 2 && programsR G 20 == some 1 && (langOf G 20).length == 1) = true := by decide +kernel

/-! ### where `clean()` falls short (C13-F5, second half) and why removing rules cannot repair it -/

/-- **criterion**: if the derivation machine of `G` can follow a sequence of symbols from the start
    configuration, using only rules that derivations of programs of `G` use, into a configuration
    whose next non-terminal has no rule in `G`, then EVERY table made of rules of `G` with the
    language of `G` has a derivation that can be started and cannot be completed. -/
theorem C13_no_repair_by_removal {S T : Type} [DecidableEq S] [DecidableEq T] (G G' : TT S T) (hstart : G'.start = G.start)
    (hsub : ∀ nt P val, G'.rule? nt P = some val → G.rule? nt P = some val)
    (hlang : ∀ t, PS.G.contains G' t = PS.G.contains G t)
    (ts : List Prog) (hts : ∀ t ∈ ts, PS.G.contains G t = true) (syms : List Sym)
    (a : Ty × S) (stk : List (Ty × S)) (v : T) (rs : List (NT S T × Sym))
    (hw : walk G.rule? syms ([(G.start.1, G.start.2.1)], G.start.2.2) = some ((a :: stk, v), rs))
    (hcover : ∀ x ∈ rs, ∃ t ∈ ts, x ∈ used G.rule? t (G.start.1, G.start.2.1) G.start.2.2)
    (hdead : inRules G (a.1, (a.2, v)) = false) :
    ∃ c, Steps G' ([(G'.start.1, G'.start.2.1)], G'.start.2.2) c ∧ ¬ ∃ w, Steps G' c ([], w) :=
  no_repair_of_witness G G' hstart hsub (fun t => by rw [← C13_contains_run, ← C13_contains_run]; exact hlang t)
    ts (fun t ht => by rw [← C13_contains_run]; exact hts t ht) syms a stk v rs hw hcover hdead

namespace Ex
namespace Sh
def m : Ty := .base "m"
def c1 : Ty := .base "c1"
def c2 : Ty := .base "c2"
def q : Ty := .base "q"
def r : Ty := .base "r"
def k1 : Sym := Sym.prim "k1" (fn [m, c1] r)
def k2 : Sym := Sym.prim "k2" (fn [m, c2] r)
def ff : Sym := Sym.prim "f" (fn [a, b] m)
def xx : Sym := Sym.prim "x" a
def hh : Sym := Sym.prim "h" (fn [a] a)
def yy : Sym := Sym.prim "y" b
def pp : Sym := Sym.prim "p" c1
def g2 : Sym := Sym.prim "g2" (fn [q, q] c2)
def q0 : Sym := Sym.prim "q0" q
/-- k1 : m → c1 → r, k2 : m → c2 → r, f : a → b → m, x : a, h : a → a, y : b, p : c1, g2 : q → q → c2, q0 : q -/
def dsl : Dsl := ⟨[k1, k2, ff, xx, hh, yy, pp, g2, q0], []⟩
def p1 : Prog := .node k1 [.node ff [.node hh [leaf xx], leaf yy], leaf pp]            -- (k1 (f (h x) y) p), 6 nodes
def p2 : Prog := .node k2 [.node ff [leaf xx, leaf yy], .node g2 [leaf q0, leaf q0]]    -- (k2 (f x y) (g2 q0 q0)), 7 nodes
/-- the grammar `size_constraint(dsl, r, 7)` as the model builds it (`actual = true`, `stackKey = true`) -/
def G : TT Ctx (Nat × Nat) := (tableOf (sizeConstraint dsl r 7 2 true true 3000)).getD ⟨(r, ([], (0, 0))), []⟩
end Sh
end Ex

open Ex Ex.Sh in
/-- **finding C13-F5, the part that no rule removal can repair.**  In `size_constraint(dsl, r, 7)`
    the non-terminal `(a, (f,0), (2,3))` of the first argument of `f` is shared by the derivations
    under `k1` and under `k2`.  Its rule `h` is needed by `(k1 (f (h x) y) p)`, but after
    `k2, f, h, x, y` the second argument of `k2` (the only term of type c2 has 3 nodes) does not
    fit: the non-terminal `(c2, (k2,1), (5,1))` has no rule.  Hence EVERY table made of rules of
    this grammar that has its language - whatever `clean()` is replaced by - has a derivation that
    can be started and cannot be completed.  (`programs`, the count before 875cb5a, gives 6,
    `programsR` 4 = the size of the language.) -/
theorem finding_C13_F5_no_repair :
    (programs G 30 = some 6 ∧ programsR G 30 = some 4 ∧ (langOf G 30).length = 4) ∧
    ∀ G' : TT Ctx (Nat × Nat), G'.start = G.start →
      (∀ nt P val, G'.rule? nt P = some val → G.rule? nt P = some val) →
      (∀ t, PS.G.contains G' t = PS.G.contains G t) →
      ∃ c, Steps G' ([(G'.start.1, G'.start.2.1)], G'.start.2.2) c ∧ ¬ ∃ w, Steps G' c ([], w) := by
  -- one evaluation of the table: the three counts, and the witness - the programs `p1`, `p2`
  -- and the symbols `k2, f, h, x, y`, which lead to `(c2, (k2,1), (5,1))`
  have h : (programs G 30 = some 6 ∧ programsR G 30 = some 4 ∧ (langOf G 30).length = 4) ∧
      stuckWitness G [p1, p2] [k2, ff, hh, xx, yy] = true := by decide +kernel
  exact ⟨h.1, fun G' hstart hsub hlang => no_repair_of_stuckWitness G _ _ h.2 G' hstart hsub
    (fun t => by rw [← C13_contains_run, ← C13_contains_run]; exact hlang t)⟩

/-- **what `clean()` removes**: the table returned is the original one restricted to a set of marks
    such that (1) a non-terminal of a configuration reachable from the start symbol that lost its
    row is DEAD (no program is derivable from it in the original table), (2) a rule that was removed
    from a kept non-terminal has a dead FIRST argument, (3) no non-terminal is invented. -/
theorem C13_clean_removes_only_dead {S T : Type} [DecidableEq S] [DecidableEq T] (G G' : TT S T)
    (hU : noUnknownKey G = true) (fuel : Nat) (h : clean G fuel = .ok G') :
    ∃ nr : Marks S T, G' = restrict G nr ∧
      (∀ c, Reach0 G c → AList.contains c.1 nr = true ∨ Dead G c.1) ∧
      (∀ rule l, AList.lookup rule nr = some l → ∀ P args st, G.rule? rule P = some (args, st) →
        P ∈ l ∨ ∃ a as, args = a :: as ∧ Dead G (a.1, (a.2, st))) ∧
      (∀ rule, AList.contains rule nr = true → inRules G rule = true) := by
  obtain ⟨nr, e, hinv⟩ := clean_result G G' hU fuel h
  exact ⟨nr, e, hinv.reach, hinv.kept, hinv.sub⟩

/-- **what `clean()` guarantees about its result**: the table returned is the original one
    restricted to a set of marks (kept symbols per kept non-terminal) such that at EVERY
    configuration (non-terminal, pending stack) that the machine of the kept rules reaches from the
    start symbol, if the non-terminal is kept then
      (1) its kept row is not empty, and
      (2) every kept rule that takes arguments has the non-terminal of its FIRST argument kept,
          provided it was a non-terminal of the original table.
    So a derivation can always be continued downwards along first arguments to a leaf; it can get
    stuck only after a complete sub-term, at the non-terminal of a LATER argument - which is
    exactly finding C13-F5, and `finding_C13_F5_no_repair` shows that this cannot be avoided by
    removing rules. -/
theorem C13_clean_first {S T : Type} [DecidableEq S] [DecidableEq T] (G G' : TT S T) (hU : noUnknownKey G = true)
    (fuel : Nat) (h : clean G fuel = .ok G') :
    ∃ nr : Marks S T, G' = restrict G nr ∧
      ∀ c, VSteps G nr (G.start, []) c → ∀ l, AList.lookup c.1 nr = some l →
        l ≠ [] ∧
        ∀ P ∈ l, ∀ (a : Ty × S) (as : List (Ty × S)) (st : T), G.rule? c.1 P = some (a :: as, st) →
          inRules G (a.1, (a.2, st)) = true → AList.contains (a.1, (a.2, st)) nr = true := by
  obtain ⟨nr, e, _, hg⟩ := clean_first G G' hU fuel h
  refine ⟨nr, e, ?_⟩
  intro c hc l hl
  exact ⟨((hg c hc) l hl).1, fun P hP a as st hr hin => goodC_first G nr c (hg c hc) l hl P hP a as st hr hin⟩

open Ex in
/-- non-vacuity: `clean` returns on the saturation table of the witness of C13-F5 and keeps the
    rule `f` (its first argument `a` is inhabited) although its second argument is not -/
example : (match saturationTable (sizeBuilder unin 2 4 true) unin.prims c true 1000 with
    | some G0 => noUnknownKey G0 && (match clean G0 1000 with
        | .ok G' => (G'.rule? (c, ([], (0, 0))) f).isSome && AList.contains ((a, ([(f, 0)], (1, 2))) : NT Ctx (Nat × Nat)) G'.rules &&
                    !(AList.contains ((b, ([(f, 1)], (2, 1))) : NT Ctx (Nat × Nat)) G'.rules)
        | _ => false)
    | none => false) = true := by decide +kernel

/-- **the table of `__saturation_build__` contains no junk**: every non-terminal with a row is the
    non-terminal of a configuration (non-terminal, pending stack) reachable from the start
    configuration by the pushes of the loop - either de-duplication, every builder, DSL, request,
    fuel.  Only this direction is stated.  The converse (for `stackKey = true`, every `SReach`
    configuration has a row) is no theorem: `C13_saturation_closed` gives the closed set of treated
    pairs, and `sreach_in_closed` puts `SReach` inside it only within the proof of
    `C13_saturation_diverges`. -/
theorem C13_saturation_exact {S T : Type} [DecidableEq S] [DecidableEq T] (B : Builder S T) (prims : List Sym)
    (request : Ty) (stackKey : Bool) (fuel : Nat) (G : TT S T) (h : saturationTable B prims request stackKey fuel = some G) :
    ∀ k, AList.contains k G.rules = true → ∃ stack, SReach B prims request (k, stack) :=
  saturation_exact B prims request stackKey fuel G h

open Ex in
/-- non-vacuity: the table of {+, 1} / int / 3 nodes has the three non-terminals S0, A, B -/
example : ((saturationTable (sizeBuilder small 2 3 true) small.prims int true 100).map (fun G =>
    AList.contains S0 G.rules && AList.contains A G.rules && AList.contains B G.rules)) = some true := by decide +kernel

/-! ## total correctness: the construction returns, within explicit fuel -/

/-- **`clean()` terminates** on every table whose machine of partial derivations has a rank (a
    function of (non-terminal, pending stack) decreasing along every step `clean()` follows; pass 1
    and the inner passes de-duplicate nothing, so on a recursive table they do not end): with
    `fuel ≥ satBound b (rk start) + |rules| + 1` (`b` = longest row; at most `|non-terminals| + 1`
    passes: a pass that reports a change removed a non-terminal) the model returns a table. -/
theorem C13_clean_terminates {S T : Type} [DecidableEq S] [DecidableEq T] (G : TT S T) (b : Nat)
    (hb : ∀ e ∈ G.rules, e.2.length ≤ b) (hr : rowsNodup G = true)
    (rk : CConfig S T → Nat) (hdec : ∀ c d, CStep G c d → rk d < rk c)
    (hs : inRules G G.start = true) (fuel : Nat)
    (hf : satBound b (rk (G.start, [])) + G.rules.length + 1 ≤ fuel) : ∃ G', clean G fuel = .ok G' :=
  clean_terminates G b hb hr rk hdec hs fuel hf

/-- **`programs()` terminates on non-recursive tables**: if `(m, ρ)` ranks the table (`m` never
    grows from a non-terminal's state to the state of one of its rules, `ρ` decreases from a
    non-terminal to the argument slots of its rules and is monotone in `m`), the recursion of
    `__compute__` is at most `ρ start + 2` deep. -/
theorem C13_programs_terminates {S T : Type} [DecidableEq S] [DecidableEq T] (G : TT S T) (hU : noUnknownKey G = true)
    (m : T → Nat) (ρ : Ty × S → T → Nat) (hR : Ranked G m ρ) (fuel : Nat)
    (hf : ρ (G.start.1, G.start.2.1) G.start.2.2 + 2 ≤ fuel) : (programsR G fuel).isSome = true :=
  programsR_terminates G hU m ρ hR fuel hf

/-- **`TTCFG.size_constraint`, total correctness** (`actual = true`, `stackKey = true`, `programsR`: /repo): for EVERY DSL (a list of
    primitives without `UnknownType` arguments), request, bound `k` and n-gram width ≥ 2 or unbounded,
    with `fuel ≥ sizeFuel = 2·(1 + b + … + b^(k+1)) + k + 3` (`b` = variables + primitives) the model
    of the constructor RETURNS a grammar `g`; it reports the request it was compiled for, contains
    exactly the well-typed programs with at most `k` nodes and no forbidden pattern, and `programs()`
    returns their number. -/
theorem C13_size_total (dsl : Dsl) (hwf : wfDsl dsl = true) (request : Ty) (hU : noUnknownDsl dsl request = true)
    (k : Nat) (nG : Int) (hn : nG ≥ 2 ∨ nG < 0) (fuel : Nat) (hf : sizeFuel dsl request k ≤ fuel) :
    ∃ g : TTG Ctx (Nat × Nat), sizeConstraint dsl request k nG true true fuel = .ok g ∧ g.typeRequest = request ∧
      (∀ t, PS.G.contains g.G t = Sized dsl request k t) ∧
      ∃ (n : Nat) (L : List Prog), programsR g.G fuel = some n ∧ L.Nodup ∧ n = L.length ∧
        ∀ t, t ∈ L ↔ Sized dsl request k t = true := by
  obtain ⟨g, hg, h2⟩ := size_total_ok dsl request hU nG k true true fuel hf
  obtain ⟨n, hp⟩ := Option.isSome_iff_exists.mp h2
  obtain ⟨L, hL⟩ := C13_count_size dsl hwf request hU k nG hn fuel g hg fuel n hp
  exact ⟨g, hg, C13_type_request_size dsl request k nG true true fuel g hg, C13_size dsl hwf request hU k nG hn fuel g hg,
    n, L, hp, hL⟩

open Ex in
/-- non-vacuity: {+, 1} / int / 3 nodes: `sizeFuel` = 2·31 + 6 = 68, and with that fuel the constructor
    returns a grammar with 2 programs -/
example : sizeFuel small int 3 = 68 ∧ wfDsl small = true ∧ noUnknownDsl small int = true ∧
    onTable (sizeConstraint small int 3 2 true true 68) (fun G => programsR G 68 == some 2) = true := by decide +kernel

/-- **`TTCFG.at_most_k`, total correctness under `uncountedRanked`** (decidable, with a ranking of
    the types as certificate: every primitive that is NOT the counted one takes, at every slot, only
    arguments of strictly smaller rank than the slot - the dependency graph of the types through the
    uncounted primitives - partial applications included - is acyclic; `spendAll` is the case of the empty ranking,
    `uncountedRanked_of_spendAll`).  With `fuel ≥ atMostFuel` the model of the constructor RETURNS a
    grammar that reports its request, contains exactly the well-typed programs with at most `k`
    occurrences of the primitive and no forbidden pattern, and `programs()` returns their number.
    Full statement (false on the code, `finding_C13_F9`): the same whenever the language is finite. -/
theorem C13_atmost_total_partial (dsl : Dsl) (hwf : wfDsl dsl = true) (request : Ty) (hU : noUnknownDsl dsl request = true)
    (name : String) (k : Nat) (nG : Int) (hn : nG ≥ 2 ∨ nG < 0) (rkT : AList Ty Nat)
    (hur : uncountedRanked dsl name rkT = true) (fuel : Nat) (hf : atMostFuel dsl request k rkT ≤ fuel) :
    ∃ g : TTG Ctx Nat, atMostK dsl request name k nG true fuel = .ok g ∧ g.typeRequest = request ∧
      (∀ t, PS.G.contains g.G t = AtMostOcc dsl request name k t) ∧
      ∃ (n : Nat) (L : List Prog), programsR g.G fuel = some n ∧ L.Nodup ∧ n = L.length ∧
        ∀ t, t ∈ L ↔ AtMostOcc dsl request name k t = true := by
  obtain ⟨g, hg, h2⟩ := atMost_total_ok dsl request hU nG name k rkT hur true fuel hf
  obtain ⟨n, hp⟩ := Option.isSome_iff_exists.mp h2
  obtain ⟨L, hL⟩ := C13_count_atmost dsl hwf request hU name k nG hn fuel g hg fuel n hp
  exact ⟨g, hg, C13_type_request_atmost dsl request name k nG true fuel g hg, C13_atmost dsl hwf request hU name k nG hn fuel g hg,
    n, L, hp, hL⟩

open Ex in
/-- non-vacuity: arithmetic with `+` counted (at most 1): the empty ranking is a certificate, the
    fuel bound is met and the constructor returns -/
example : uncountedRanked small "+" [] = true ∧ atMostFuel small int 1 [] ≤ 200 ∧
    onTable (atMostK small int "+" 1 2 true 200) (fun G => programsR G 200 == some 2) = true := by decide +kernel

open Ex in
/-- non-vacuity with a non-trivial ranking: f : a → b → c, g : a → d → c, h : x → a uncounted, `x0` counted -/
example : uncountedRanked sib "x0" [(c, 2), (fn [b] c, 2), (fn [d] c, 2), (a, 1)] = true ∧ spendAll sib "x0" = false := by decide +kernel

/-- **non-termination criterion for the worklist** (keyed by rule and pending stack): if
    configurations with arbitrarily long pending stacks are reachable by its pushes, the loop never
    ends - the model runs out of every fuel. -/
theorem C13_saturation_diverges {S T : Type} [DecidableEq S] [DecidableEq T] (B : Builder S T) (prims : List Sym)
    (request : Ty) (h : ∀ n : Nat, ∃ c, SReach B prims request c ∧ n ≤ c.2.length) :
    ∀ fuel, saturationTable B prims request true fuel = none :=
  not_terminates_of_unbounded B prims request h

open Ex.Dv in
/-- **finding C13-F9**: `TTCFG.at_most_k(dsl, a, "l", 1)` over g : a → a → a, l : a.  The
    occurrence-bounded language is FINITE - it is the single program `l` (`(g l l)` already needs two
    occurrences) - but the construction never returns: `g` can be derived again and again without
    spending an occurrence, every time with a longer pending stack.  (/repo: the call does not return.
    With `stackKey = false`, the worklist before 6d9766e, evaluating the model has the worklist of this
    example end with 4 rows and `atMostK` answer `.fuel` for every fuel tried (300, 3000): there it is `clean()`,
    which de-duplicates nothing, that does not end; no theorem says so.) -/
theorem finding_C13_F9 :
    (∀ t, AtMostOcc dsl a "l" 1 t = true ↔ t = .node l []) ∧
    (∀ rkT, uncountedRanked dsl "l" rkT = false) ∧
    ∀ fuel, (match atMostK dsl a "l" 1 2 true fuel with
      | .fuel => true
      | _ => false) = true := by
  refine ⟨dv_language, dv_unranked, fun fuel => ?_⟩
  unfold atMostK
  rw [dv_diverges fuel]

/-- **the product reports the type request of its factors** (`grammar.type_request =
    self.type_request`, 26a6c4e; the factors' requests are asserted equal) -/
theorem C13_type_request_product {S T U V : Type} [DecidableEq S] [DecidableEq T] [DecidableEq U] [DecidableEq V]
    (g1 : TTG S T) (g2 : TTG U V) (hreq : g1.typeRequest = g2.typeRequest) (fuel : Nat) (g : TTG (S × U) (T × V))
    (h : mulTTG g1 g2 fuel = .ok g) : g.typeRequest = g1.typeRequest ∧ g.typeRequest = g2.typeRequest := by
  obtain ⟨_, hr⟩ := mulTTG_eq_ok.mp h
  exact ⟨hr, by rw [hr]; exact hreq⟩

/-- **products of constructed grammars, no certificate**: for two grammars built by
    `__saturation_build__` + `clean()` (any two builders - size, occurrences -, the right one possibly
    over another DSL) for the same request, `g1 * g2` contains exactly the programs common to both.
    The hypotheses `ArgsAgree` / `typedOK` / `noUnknownKey` of `C13_product_clean` are proved for
    constructed grammars (`saturation_typedOK`, `clean_typedOK`, `clean_countHyps`). -/
theorem C13_product_constructed {S T U V : Type} [DecidableEq S] [DecidableEq T] [DecidableEq U] [DecidableEq V]
    (B1 : Builder S T) (B2 : Builder U V) (dsl1 dsl2 : Dsl) (request : Ty) (hd : noUnknownDsl dsl1 request = true)
    (f1 f2 : Nat) (G01 G1 : TT S T) (G02 G2 : TT U V)
    (s1 : saturationTable B1 dsl1.prims request true f1 = some G01) (c1 : clean G01 f1 = .ok G1)
    (s2 : saturationTable B2 dsl2.prims request true f2 = some G02) (c2 : clean G02 f2 = .ok G2)
    (hd2 : noUnknownDsl dsl2 request = true)
    (fuel : Nat) (G : TT (S × U) (T × V)) (h : cleanFixed (mulRaw G1 G2) fuel = .ok G) (t : Prog) :
    PS.G.contains G t = (PS.G.contains G1 t && PS.G.contains G2 t) := by
  exact (mulTTG_constructed B1 B2 dsl1 dsl2 request hd hd2 true true f1 f2 ⟨G1, request⟩ ⟨G2, request⟩
    (construct_eq_ok.mpr ⟨G01, s1, c1, rfl⟩) (construct_eq_ok.mpr ⟨G02, s2, c2, rfl⟩) fuel ⟨G, request⟩
    (mulTTG_eq_ok.mpr ⟨h, rfl⟩)).2 t

/-- … in particular for two size-bounded grammars: IF `g1 * g2` returns `g`, it reports `request` and
    is the intersection (that it returns: `C13_product_size_total`) -/
theorem C13_product_total (dsl : Dsl) (request : Ty) (hd : noUnknownDsl dsl request = true) (k1 k2 : Nat) (nG : Int) (fuel : Nat)
    (g1 g2 : TTG Ctx (Nat × Nat)) (h1 : sizeConstraint dsl request k1 nG true true fuel = .ok g1)
    (h2 : sizeConstraint dsl request k2 nG true true fuel = .ok g2) (fuel' : Nat)
    (g : TTG (Ctx × Ctx) ((Nat × Nat) × (Nat × Nat))) (h : mulTTG g1 g2 fuel' = .ok g) :
    g.typeRequest = request ∧ ∀ t, PS.G.contains g.G t = (PS.G.contains g1.G t && PS.G.contains g2.G t) := by
  rw [sizeConstraint_eq] at h1 h2
  exact mulTTG_constructed _ _ dsl dsl request hd hd true true fuel fuel g1 g2 h1 h2 fuel' g h

open Ex in
/-- non-vacuity: size ≤ 3 times size ≤ 1 over {+, 1}: the product object exists, reports `int`, contains `1` only -/
example : (match sizeConstraint small int 3 2 true true 100, sizeConstraint small int 1 2 true true 100 with
    | .ok g1, .ok g2 => (match mulTTG g1 g2 100 with
        | .ok g => g.typeRequest == int && PS.G.contains g.G (leaf one) && !(PS.G.contains g.G (.node plus [leaf one, leaf one]))
        | _ => false)
    | _, _ => false) = true := by decide +kernel

/-- **`clean()` returns on the product table**: the machine of `__mul_ttcfg__`'s table projects onto
    the machine of the left factor, so a rank of the left factor's machine bounds pass 1 and every
    inner pass; at most `|rules1|·|rules2| + 1` passes. -/
theorem C13_product_terminates {S T U V : Type} [DecidableEq S] [DecidableEq T] [DecidableEq U] [DecidableEq V]
    (G1 : TT S T) (G2 : TT U V) (hag : ArgsAgree G1 G2) (b : Nat)
    (hb : ∀ e ∈ G1.rules, e.2.length ≤ b) (hr1 : rowsNodup G1 = true)
    (rk1 : CConfig S T → Nat) (hdec1 : ∀ c d, CStep G1 c d → rk1 d < rk1 c) (fuel : Nat)
    (hf : satBound b (rk1 (projL ((mulRaw G1 G2).start, []))) + G1.rules.length * G2.rules.length + 1 ≤ fuel) :
    ∃ G, cleanFixed (mulRaw G1 G2) fuel = .ok G :=
  mul_clean_terminates G1 G2 hag b hb hr1 rk1 hdec1 fuel hf

/-- **the product of two size-bounded grammars returns**: GIVEN that both constructors returned
    `g1`, `g2` (which `C13_size_total` provides for `fuel ≥ sizeFuel`; it is a hypothesis here), with
    `fuel' ≥ satBound b (k1 + 1) + |rules of g1|·|rules of g2| + 1` so does `g1 * g2`; it reports
    `request` and contains exactly the programs common to both.  The bound is in terms of the sizes
    of the two tables built, not of `dsl`, `k1`, `k2`. -/
theorem C13_product_size_total (dsl : Dsl) (request : Ty) (hd : noUnknownDsl dsl request = true) (k1 k2 : Nat) (nG : Int)
    (fuel : Nat) (g1 g2 : TTG Ctx (Nat × Nat)) (h1 : sizeConstraint dsl request k1 nG true true fuel = .ok g1)
    (h2 : sizeConstraint dsl request k2 nG true true fuel = .ok g2) (fuel' : Nat)
    (hf : satBound (request.arguments.length + dsl.prims.length) (k1 + 1) + g1.G.rules.length * g2.G.rules.length + 1 ≤ fuel') :
    ∃ g, mulTTG g1 g2 fuel' = .ok g ∧ g.typeRequest = request ∧
      ∀ t, PS.G.contains g.G t = (PS.G.contains g1.G t && PS.G.contains g2.G t) := by
  rw [sizeConstraint_eq] at h1 h2
  -- `sizeRank k1` of the start configuration is `k1 + 1 - 0`, so `hf` is the bound asked for
  obtain ⟨g, hg⟩ := mulTTG_constructed_terminates _ _ dsl dsl request hd hd true true fuel fuel g1 g2 h1 h2 fuel'
    (sizeRank k1) (size_rank dsl request nG k1 true) hf
  exact ⟨g, hg, mulTTG_constructed _ _ dsl dsl request hd hd true true fuel fuel g1 g2 h1 h2 fuel' g hg⟩

end PS.T
