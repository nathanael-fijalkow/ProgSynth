/- C03, part bee (bee search): best-first order "by non-decreasing integer cost at the requested discretisation".
   Theorems about the machine PS.Bee (lean/PS/Model/Enum/BeeSearch.lean); the cost of a program is `pcost`, the
   sum of the integer costs int(-log p * 10^threshold) of the rules of its derivation (the cost table is data). -/
import PS.Proofs.Enum.BeeOrderRun
import PS.Proofs.Enum.BeeFull
import PS.Props.C02_Bee
namespace PS.C03Bee
open PS PS.G PS.Bee PS.Heapq PS.C02Bee

variable {S : Type} [DecidableEq S]

/-- `HeapElement.__lt__` (dataclass order on `(cost, combination)`, lists compared as Python compares lists) is a
    strict weak order, so the heapq port keeps its invariant on the queues and pops a cheapest element -/
theorem C03_Bee_heapElement_weakOrder : WeakOrder ltE := ltE_weakOrder

example : ltE ⟨3, [0, 1], cOne⟩ ⟨3, [1, 0], cPlus⟩ = true ∧ ltE ⟨3, [1], cOne⟩ ⟨3, [1, 0], cOne⟩ = true ∧
    ltE ⟨4, [], cOne⟩ ⟨3, [9], cOne⟩ = false := by decide

/-- `_next_cheapest_` returns the least cost among ALL queued elements (not only the roots), on states whose
    queues satisfy the heap invariant `HAll`.  For reachable states `HAll` is proved as part of the order invariant
    (`C03_Bee_order_step`), hence under `nonnegW` and `dictOK` only, although the writes keep it without them (BeeHeap). -/
theorem C03_Bee_next_cheapest_min (s : St S) (hh : HAll s) (nts : List (NT S Unit)) (c : Int)
    (h : nextCheapest s = (nts, some c)) :
    (∀ nt l, (nt, l) ∈ s.queued → ∀ e ∈ l, c ≤ e.cost) ∧ ∃ nt l e, (nt, l) ∈ s.queued ∧ e ∈ l ∧ e.cost = c :=
  nextCheapest_min s hh nts c h

/-- the order invariant is kept by every step (non-negative cost table): `GOrd E g b` = the global cost list is
    strictly increasing with entries ≥ 0, every queue is a heap, every queued element costs at least the cost of
    the current round (between rounds: at least every entry of the cost list), every delayed combination
    really needs a cost index that does not exist yet, and `b` is a lower bound of all of this -/
theorem C03_Bee_order_step (E : Env S) (hw : nonnegW E = true) (g g' : Gen S) (out : Option Prog) (b : Int)
    (h : step E g = some (g', out)) (hi : GInv E g) (ho : GOrd E g b) : GOrd E g' b :=
  step_order E (nnw_of_check E hw) g g' out b h hi ho

/-- **BEST-FIRST ORDER, every history**: with a non-negative cost table (probabilities ≤ 1) on a rule table
    without duplicate keys, the programs yielded by bee search along ANY interleaving of `next` calls and merge
    declarations, with any filter, rule order and fuel — on finite AND recursive grammars, for every prefix —
    come by non-decreasing integer cost -/
theorem C03_Bee_sorted (E : Env S) (hw : nonnegW E = true) (hd : dictOK E = true) (fuel : Nat) (acts : List Act)
    (g0 g : Gen S) (out : List Prog) (h0 : Gen.new E = some g0) (h : runActs E fuel acts g0 [] = some (g, out)) :
    (out.map fun p => pcost E p E.G.start).Pairwise (· ≤ ·) :=
  (runActs_order_new E (nnw_of_check E hw) (dictOK_of_check E hd) h0 h).2

/-- the global cost list is strictly increasing after any history, and every queued element costs at least
    every entry of it -/
theorem C03_Bee_cost_list_increasing (E : Env S) (hw : nonnegW E = true) (hd : dictOK E = true) (fuel : Nat)
    (acts : List Act) (g0 g : Gen S) (out : List Prog) (h0 : Gen.new E = some g0)
    (h : runActs E fuel acts g0 [] = some (g, out)) :
    g.st.costList.Pairwise (· < ·) ∧ ∀ nt q, (nt, q) ∈ g.st.queued → ∀ e ∈ q, ∀ x ∈ g.st.costList, x ≤ e.cost := by
  obtain ⟨⟨b, ho⟩, _⟩ := runActs_order_new E (nnw_of_check E hw) (dictOK_of_check E hd) h0 h
  obtain ⟨low, hos⟩ := ost_of_gord E g b ho
  exact ⟨hos.mono, fun nt q hm e he x hx => Int.le_trans (hos.cl_le x hx) (hos.q nt q hm e he).1⟩

/-- non-vacuity: the example table passes the checks and yields costs 1, 4, 5, 5, 6 -/
example : nonnegW cE = true ∧ dictOK cE = true := by decide
example : ((Gen.new cE).bind fun g => runActs cE 1000 [.take 10] g []).map (fun r => r.2.map fun p => pcost cE p cG.start) =
    some [1, 4, 5, 5, 6] := by
  obtain ⟨r, h, hr⟩ := Option.map_eq_some_iff.mp cE_run
  rw [h, Option.map_some, hr]; decide +kernel

/-! ### PREFIX COMPLETENESS (repaired loop, no merge declaration; finite AND recursive grammars)

False when a rule with arguments costs 0: finding C03-F8 = C02-F6 below; the hypothesis `posArgCosts` is the complement of
that classifier. -/

/-- **PREFIX COMPLETENESS**: under the decidable hypotheses `nonnegW`, `posArgCosts`, `hasCosts`, `dictOK`, `initFrontOK`,
    `initCoverOK`, for every grammar (finite or recursive), cost table, rule order, filter, fuel and every history of `next`
    calls: in a prefix `l1 ++ q :: l2` of the output, every member of the grammar of strictly smaller cost than `q` all of
    whose sub-programs are accepted by the filter is in `l1` -/
theorem C03_Bee_prefix_complete_partial (E : Env S) (h1 : nonnegW E = true) (h2 : posArgCosts E = true)
    (h3 : hasCosts E = true) (h4 : dictOK E = true) (h5 : initFrontOK E = true) (h6 : initCoverOK E = true)
    (hfix : E.fixF11 = true) (fuel : Nat) (acts : List Act) (hacts : acts.all Act.isTake = true) (g0 g : Gen S)
    (out : List Prog) (h0 : Gen.new E = some g0) (h : runActs E fuel acts g0 [] = some (g, out))
    (l1 : List Prog) (q : Prog) (l2 : List Prog) (hout : out = l1 ++ q :: l2) (p : Prog)
    (hp : gen E.G p E.G.start = true) (hs : Strict E p) (hlt : pcost E p E.G.start < pcost E q E.G.start) : p ∈ l1 :=
  (run_new E (hyp_of_checks E h1 h2 h3 h4 h5 h6) hfix hacts h0 h).2.pc l1 q l2 hout p hp hs hlt

/-- the state form: when a program of cost c is yielded, every accepted member of strictly smaller cost is already in the
    bank of the start symbol -/
theorem C03_Bee_yield_bank_complete (E : Env S) (h1 : nonnegW E = true) (h2 : posArgCosts E = true)
    (h3 : hasCosts E = true) (h4 : dictOK E = true) (h5 : initFrontOK E = true) (h6 : initCoverOK E = true)
    (hfix : E.fixF11 = true) (g g' : Gen S) (q : Prog) (h : step E g = some (g', some q)) (ha : All E g) :
    ∀ p, gen E.G p E.G.start = true → Strict E p → pcost E p E.G.start < pcost E q E.G.start →
      ∃ ci, inBank g.st E.G.start ci p :=
  (step_all E (hyp_of_checks E h1 h2 h3 h4 h5 h6) hfix g g' (some q) h ha).2 q rfl

/-- `b -> a0 | g a`, `a -> h c`, `c -> k` with costs a0: 5, g: 0, h: 0, k: 1 -/
def pG : TT Nat Unit := ⟨(fT "b", (0, ())), [((fT "b", (0, ())), [(Sym.prim "a0" .unknown, ([], ())), (Sym.prim "g" .unknown, ([(fT "a", 1)], ()))]),
                                             ((fT "a", (1, ())), [(Sym.prim "h" .unknown, ([(fT "c", 2)], ()))]),
                                             ((fT "c", (2, ())), [(Sym.prim "k" .unknown, ([], ()))])]⟩
def pW : AList (NT Nat Unit) (AList Sym Int) :=
  [((fT "b", (0, ())), [(Sym.prim "a0" .unknown, 5), (Sym.prim "g" .unknown, 0)]), ((fT "a", (1, ())), [(Sym.prim "h" .unknown, 0)]),
   ((fT "c", (2, ())), [(Sym.prim "k" .unknown, 1)])]
def pE : Env Nat := { G := pG, W := pW, progs0 := 2 }

/-- the machine yields `a0` (cost 5) although `(g (h k))` (cost 1) was never yielded: the combination `g[0]` is
    popped before `(h k)` is in the bank of its argument (both have cost 1 because `g` and `h` cost 0) -/
theorem finding_C03_F8 :
    ((Gen.new pE).bind fun g => take pE 1000 1 g []).map (fun r => r.2.1) = some [.node (Sym.prim "a0" .unknown) []] ∧
    gen pG fProg pG.start = true ∧ pcost pE fProg pG.start = 1 ∧ pcost pE (.node (Sym.prim "a0" .unknown) []) pG.start = 5 ∧
    posArgCosts pE = false := by
  decide +kernel

end PS.C03Bee
