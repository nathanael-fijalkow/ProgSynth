/-
  C11 — Program evaluation is compositional and independent of the cache and its history.
  Model: PS/Model/Evaluator.lean, lemmas: PS/Proofs/Evaluator.lean.
  All statements are for every semantics `S` (every `leaf`, `apply`, `skip`), every program,
  every input and every history of earlier evaluations and cache clearings.
-/
import PS.Proofs.Evaluator
import PS.Proofs.Worklist
namespace PS.C11
open PS

variable {σ V E : Type} [DecidableEq σ] [DecidableEq V]

/-- From any sound cache state, with the cache on or off, `eval` returns the
    compositional outcome (value / None for a skippable exception / the propagated
    exception) and leaves a sound cache. -/
theorem C11_eval (S : Sem σ V E) (useCache : Bool) (c : Cache σ V) (p : Tree σ) (inp : List V)
    (hc : CacheSound S c) :
    (eval S useCache c p inp).2 = specEval S p inp ∧ CacheSound S (eval S useCache c p inp).1 := by
  have hs1 := prepCache_sound hc useCache inp
  exact evalCore_spec useCache p hs1 (memoOf_sound hs1 useCache inp)

/-- Every cache state reachable by any sequence of evaluations and cache
    clearings on one evaluator is sound. -/
theorem C11_history (S : Sem σ V E) (useCache : Bool) (h : List (Op σ V)) :
    CacheSound S (runHistory S useCache h) := by
  refine foldl_inv (CacheSound S) (runOp S useCache) h (fun c hc op _ => ?_) [] (.nil S)
  cases op with
  | eval p inp => exact (C11_eval S useCache c p inp hc).2
  | clear => exact .nil S

/-- Whatever was evaluated or cleared before on the same
    evaluator, with the cache on or off, `eval p input` returns the compositional outcome. -/
theorem C11_independent (S : Sem σ V E) (useCache : Bool) (h : List (Op σ V)) (p : Tree σ)
    (inp : List V) :
    (eval S useCache (runHistory S useCache h) p inp).2 = specEval S p inp :=
  (C11_eval S useCache _ p inp (C11_history S useCache h)).1

/-- cache on (after any history) and cache off (fresh) give the same outcome -/
theorem C11_cache_on_off (S : Sem σ V E) (h : List (Op σ V)) (p : Tree σ) (inp : List V) :
    (eval S true (runHistory S true h) p inp).2 = (eval S false [] p inp).2 := by
  rw [C11_independent S true h p inp]
  exact (C11_independent S false [] p inp).symm

omit [DecidableEq σ] [DecidableEq V] in
/-- the outcome is `None` exactly when the compositional evaluation raises a skippable
    exception; any other exception propagates unchanged -/
theorem C11_skip (S : Sem σ V E) (p : Tree σ) (inp : List V) (e : E)
    (h : denote S inp p = .error e) :
    specEval S p inp = if S.skip e then .skipped else .raised e := by
  simp [specEval, outcomeOf, h]

/-! ### non-vacuity: a partial semantics, and the history of finding C11-F1 (the code before
    6ad64d6 read a cached evaluation failure back as an ordinary value) -/
namespace Example
/-- labels: 0 = `1`, 1 = `var0`, 2 = `div`, 3 = `seven` (a function ignoring its argument) -/
def S : Sem Nat Int String where
  leaf := fun l inp => match l with
    | 0 => .ok 1
    | 1 => match inp with | x :: _ => .ok x | [] => .error "IndexError"
    | 2 => .ok 1000      -- function values encoded as integers ≥ 1000
    | 3 => .ok 2000
    | _ => .error "KeyError"
  apply := fun f v =>
    if f == 1000 then .ok (3000 + 1)            -- (div 1): partial application, numerator 1
    else if f == 3001 then (if v == 0 then .error "ZeroDivisionError" else .ok (1 / v))
    else if f == 2000 then .ok 7
    else .error "TypeError"
  skip := fun e => e == "ZeroDivisionError"
  keyError := "KeyError"
def divp : Tree Nat := .node 2 [.node 0 [], .node 1 []]       -- (div 1 var0)
def big : Tree Nat := .node 3 [divp]                           -- (seven (div 1 var0))
-- after evaluating the failing sub-program, the larger program still fails (None) …
example : (eval S true (runHistory S true [.eval divp [0]]) big [0]).2 = .skipped := by decide +kernel
-- … exactly as with the cache off, and both succeed on another input
example : (eval S false [] big [0]).2 = .skipped := by decide +kernel
example : (eval S true (runHistory S true [.eval divp [0], .eval divp [2]]) big [2]).2 = .value 7 := by decide +kernel
end Example

end PS.C11
