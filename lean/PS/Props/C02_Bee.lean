/- C02, part bee (bee search): theorems about the machine PS.Bee (lean/PS/Model/Enum/BeeSearch.lean), the
   small-step transcription of synth/syntax/grammars/enumeration/bee_search.py.  The soundness theorems are about every
   grammar, cost table, rule order, filter, fuel and HISTORY (interleaving of `take k` and `merge_program`); from the
   no-duplicates section on the history has no merge declaration (`acts.all Act.isTake`) and the table passes the decidable
   checks named in each statement; completeness and termination are about the loop with `Env.fixF11 = true`.
   `Env.fixF11 = true` is the generator loop of /repo (bee_search.py:173-180: `while True:`, left when the cheapest queued
   cost exceeds the cost of the most expensive program; repair d763a26, fixes_applied/C12-F11.diff); `false`, the model's
   default, is the loop before that repair, which stops on the program count. -/
import PS.Proofs.Enum.BeeSound
import PS.Proofs.Enum.BeeNodupRun
import PS.Proofs.Enum.BeeComp
import PS.Proofs.Enum.BeeFull
import PS.Proofs.Enum.BeeTerm
import Mathlib.Data.List.Perm.Subperm
namespace PS.C02Bee
open PS PS.G PS.Bee

variable {S : Type} [DecidableEq S]

def cInt : Ty := .base "int"
def cOne : Sym := Sym.prim "1" cInt
def cX : Sym := Sym.var 0 cInt
def cPlus : Sym := Sym.prim "+" (.arrow cInt (.arrow cInt cInt))
def cn (k : Nat) : NT Nat Unit := (cInt, (k, ()))
/-- `int0 -> 1 | (+ int1 int1)`, `int1 -> 1 | var0`: five programs -/
def cG : TT Nat Unit := ⟨cn 0, [(cn 0, [(cOne, ([], ())), (cPlus, ([(cInt, 1), (cInt, 1)], ()))]),
                               (cn 1, [(cOne, ([], ())), (cX, ([], ()))])]⟩
def cW : AList (NT Nat Unit) (AList Sym Int) := [(cn 0, [(cOne, 1), (cPlus, 2)]), (cn 1, [(cOne, 1), (cX, 2)])]
def cE : Env Nat := { G := cG, W := cW, progs0 := 5 }

def fT (n : String) : Ty := .base n
/-- the chain grammar of finding C02-F6: `b -> g a`, `a -> h c`, `c -> k`, every rule of probability 1 = cost 0 -/
def fG : TT Nat Unit := ⟨(fT "b", (0, ())), [((fT "b", (0, ())), [(Sym.prim "g" .unknown, ([(fT "a", 1)], ()))]),
                                             ((fT "a", (1, ())), [(Sym.prim "h" .unknown, ([(fT "c", 2)], ()))]),
                                             ((fT "c", (2, ())), [(Sym.prim "k" .unknown, ([], ()))])]⟩
def fW : AList (NT Nat Unit) (AList Sym Int) :=
  [((fT "b", (0, ())), [(Sym.prim "g" .unknown, 0)]), ((fT "a", (1, ())), [(Sym.prim "h" .unknown, 0)]),
   ((fT "c", (2, ())), [(Sym.prim "k" .unknown, 0)])]
def fE : Env Nat := { G := fG, W := fW, progs0 := 1 }
def fProg : Prog := .node (Sym.prim "g" .unknown) [.node (Sym.prim "h" .unknown) [.node (Sym.prim "k" .unknown) []]]

/-! ### SOUNDNESS as a state invariant

`GInv E g` = `SInv` on the tables (every program of `_bank[S][i]` is derivable from `S` — specification
`PS.G.gen` — and `_cost_list[i]` is its true cost `pcost`, the sum of the costs of the rules of its derivation;
every queued `HeapElement` carries the real cost of its combination) + the data of the suspended loops
(`cost_index` points at the cost of the round; the pending candidate programs are members of that cost). -/

/-- the enumerator built by `__init__` satisfies the invariant -/
theorem C02_Bee_inv_init (E : Env S) (g0 : Gen S) (h : Gen.new E = some g0) : GInv E g0 := (ginv_new E g0 h).1

/-- one control point to the next keeps the invariant; a yielded program is derivable from the start symbol,
    its cost is the cost of the round, the filter accepts it and it was not deleted -/
theorem C02_Bee_sound_step (E : Env S) (g g' : Gen S) (out : Option Prog) (h : step E g = some (g', out))
    (hi : GInv E g) :
    GInv E g' ∧ ∀ p, out = some p → gen E.G p E.G.start = true ∧ g.phase.cost? = some (pcost E p E.G.start) ∧
      E.filter p = true ∧ g.st.deleted.contains p = false := step_sound E g g' out h hi

/-- `merge_program` keeps the invariant -/
theorem C02_Bee_merge_inv (E : Env S) (g : Gen S) (other : Prog) (ty : Ty) (hi : GInv E g) :
    GInv E (merge E g other ty) := merge_sound E g other ty hi

/-- **NOTHING OUTSIDE THE LANGUAGE**, every history: whatever bee search yields, along any interleaving of
    `next` calls and merge declarations, with any filter, cost table and fuel, is derivable from the start symbol -/
theorem C02_Bee_sound (E : Env S) (fuel : Nat) (acts : List Act) (g0 g : Gen S) (out : List Prog)
    (h0 : Gen.new E = some g0) (h : runActs E fuel acts g0 [] = some (g, out)) :
    ∀ p ∈ out, gen E.G p E.G.start = true :=
  fun p hp => ((runActs_sound_new E h0 h).2 p hp).1

/-- the state invariant after any history: every program of a bank is derivable from the bank's non-terminal
    and is stored under the index of its true cost -/
theorem C02_Bee_bank_sound (E : Env S) (fuel : Nat) (acts : List Act) (g0 g : Gen S) (out : List Prog)
    (h0 : Gen.new E = some g0) (h : runActs E fuel acts g0 [] = some (g, out)) :
    ∀ nt b, (nt, b) ∈ g.st.bank → ∀ ci ps, (ci, ps) ∈ b → ∀ p ∈ ps,
      gen E.G p nt = true ∧ g.st.costList[ci]? = some (pcost E p nt) :=
  (runActs_sound_new E h0 h).1.st.bank

/-- every queued element carries the real cost of its combination, after any history -/
theorem C02_Bee_queue_sound (E : Env S) (fuel : Nat) (acts : List Act) (g0 g : Gen S) (out : List Prog)
    (h0 : Gen.new E = some g0) (h : runActs E fuel acts g0 [] = some (g, out)) :
    ∀ nt q, (nt, q) ∈ g.st.queued → ∀ e ∈ q, realCost E g.st.costList nt e.P e.combo = some e.cost :=
  (runActs_sound_new E h0 h).1.st.queue

theorem cE_run : ((Gen.new cE).bind fun g => runActs cE 1000 [.take 10] g []).map (·.2) =
    some [.node cOne [], .node cPlus [.node cOne [], .node cOne []], .node cPlus [.node cOne [], .node cX []],
      .node cPlus [.node cX [], .node cOne []], .node cPlus [.node cX [], .node cX []]] := by
  decide +kernel

/-- non-vacuity: on the example the machine runs, yields the five programs and stops -/
example : ((Gen.new cE).bind fun g => runActs cE 1000 [.take 10] g []).map (fun r => r.2.length) = some 5 := by
  obtain ⟨r, h, hr⟩ := Option.map_eq_some_iff.mp cE_run
  rw [h, Option.map_some, hr]; rfl
example : ((Gen.new cE).bind fun g => runActs cE 1000 [.take 3, .merge (.node cOne []) cInt, .take 1] g []).map
    (fun r => r.2.length) = some 4 := by
  decide +kernel

/-! ### NO DUPLICATES (any filter, no merge declaration)

The frontier rule "increment index i until the first index > 1" (bee_search.py:223-231) is `PS.CD.succs` (shared with
constant-delay search, `C02_Cd_successor_bijection`: every non-zero index tuple has exactly one predecessor).  The state
invariant `GN` (PS/Proofs/Enum/BeeNodup.lean): for every rule the PENDING combinations (queued or delayed, all rows)
form a frontier of the successor forest (no tuple twice, none an ancestor of another); every banked program has a SOURCE,
an expanded combination (strict ancestor of a pending one) of its rule whose i-th index is the bank index of the i-th
argument; a program occurs in at most one index of the bank of a non-terminal, once.  A popped combination is still
pending, so no banked program can have it as source: every candidate program is new.
Hypotheses (decidable on the case, evaluated by the driver): `dictOK` (looking a listed rule up finds it) and
`initFrontOK` (the fresh enumerator queues no (rule, combination) pair twice and only roots; it is evaluated on the case, no
theorem derives it from the rule table).  Full statement incl. merge declarations: NOT proved (after a merge, `other`
leaves the banks, the source of its parents is gone; the implementation still yields each program at most once in every
compared case). -/

/-- one step keeps the no-duplicates invariant; banks only grow; a yielded program was in no index of the start symbol's
    bank before the step and is in it afterwards -/
theorem C02_Bee_nodup_step (E : Env S) (g g' : Gen S) (out : Option Prog) (h : step E g = some (g', out)) (hi : GN E g) :
    GN E g' ∧ (∀ nt ci p, inBank g.st nt ci p → inBank g'.st nt ci p) ∧
      ∀ p, out = some p → (∀ cj, ¬ inBank g.st E.G.start cj p) ∧ ∃ ci, inBank g'.st E.G.start ci p :=
  step_nodup E g g' out h hi

/-- **EACH PROGRAM AT MOST ONCE** (partial: no merge declaration in the history; any filter, grammar — finite or
    recursive —, cost table, rule order, fuel): the yielded sequence is duplicate-free -/
theorem C02_Bee_nodup_partial (E : Env S) (hd : dictOK E = true) (hf : initFrontOK E = true) (fuel : Nat) (acts : List Act)
    (hacts : acts.all Act.isTake = true) (g0 g : Gen S) (out : List Prog) (h0 : Gen.new E = some g0)
    (h : runActs E fuel acts g0 [] = some (g, out)) : out.Nodup :=
  (runActs_nodup_new E (dictOK_of_check E hd) hf hacts h0 h).2

/-- **A PROGRAM ENTERS `_bank[S]` AT MOST ONCE**: after any such history every list of every bank is duplicate-free and a
    program sits in at most one cost index of a non-terminal's bank -/
theorem C02_Bee_bank_nodup_partial (E : Env S) (hd : dictOK E = true) (hf : initFrontOK E = true) (fuel : Nat) (acts : List Act)
    (hacts : acts.all Act.isTake = true) (g0 g : Gen S) (out : List Prog) (h0 : Gen.new E = some g0)
    (h : runActs E fuel acts g0 [] = some (g, out)) :
    (∀ nt ci ps, AList.lookup ci (g.st.bankOf nt) = some ps → ps.Nodup) ∧
    (∀ nt ci cj p, inBank g.st nt ci p → inBank g.st nt cj p → ci = cj) ∧
    ∀ nt P, Frontier (pend g.st nt P) := by
  have := (runActs_nodup_new E (dictOK_of_check E hd) hf hacts h0 h).1.st
  exact ⟨this.bankNd, this.bankU, this.front⟩

/-- **THE FRONTIER RULE REACHES EVERY INDEX COMBINATION, EACH ONCE**: after any history without merge declarations, for
    every rule `(S, P)` of the table and every index combination `c` of the rule's arity, `c` is expanded (popped: a strict
    ancestor of a pending combination), or pending (queued or delayed), or a descendant of a pending combination — and the
    pending combinations are pairwise distinct and none is an ancestor of another, so `c` is in exactly one of the three
    cases and is (or will be) pushed exactly once.  Decidable hypotheses: `dictOK`, `initFrontOK`, `initCoverOK` (the
    fresh enumerator holds the root `(0,…,0)` of every listed rule). -/
theorem C02_Bee_frontier_cover_partial (E : Env S) (hd : dictOK E = true) (hf : initFrontOK E = true)
    (hc : initCoverOK E = true) (fuel : Nat) (acts : List Act) (hacts : acts.all Act.isTake = true) (g0 g : Gen S)
    (out : List Prog) (h0 : Gen.new E = some g0) (h : runActs E fuel acts g0 [] = some (g, out)) :
    ∀ nt P args, ruleArgs E nt P = some args → ∀ c : List Nat, c.length = args.length →
      Frontier (pend g.st nt P) ∧ Cov (pend g.st nt P) c ∧ (Done (pend g.st nt P) c → c ∉ pend g.st nt P) := by
  intro nt P args ha c hcl
  have hdict := dictOK_of_check E hd
  have h1 := (runActs_nodup_new E hdict hf hacts h0 h).1.st.front nt P
  have h2 := runActs_cover E fuel acts g0 g [] out hacts h (gn_new E hdict hf g0 h0) (cov_new E hc g0 h0) nt P args ha c hcl
  exact ⟨h1, h2, fun hd' => Done.not_mem h1 hd'⟩

/-- **COMPLETE WHEN THE COUNT IS REACHED** (partial correctness of stopping on the program count `G.programs()`, which is
    what the loop with `Env.fixF11 = false` does; the statement does not depend on the flag).  If `L` lists the members of
    the grammar and the enumerator has yielded at least `L.length` programs (no merge declaration; any filter), then it has
    yielded EXACTLY the language, each program once: soundness + no duplicates + counting.  (That the count IS reached —
    termination — is not proved: it is false when a rule with arguments costs 0, finding C02-F6, and with a rejecting filter,
    finding C12-F11.) -/
theorem C02_Bee_count_complete_partial (E : Env S) (hd : dictOK E = true) (hf : initFrontOK E = true) (fuel : Nat)
    (acts : List Act) (hacts : acts.all Act.isTake = true) (g0 g : Gen S) (out : List Prog) (h0 : Gen.new E = some g0)
    (h : runActs E fuel acts g0 [] = some (g, out)) (L : List Prog) (hL : ∀ p, gen E.G p E.G.start = true → p ∈ L)
    (hcount : L.length ≤ out.length) : out.Perm L := by
  have hnd := C02_Bee_nodup_partial E hd hf fuel acts hacts g0 g out h0 h
  have hsub : out ⊆ L := fun p hp => hL p (C02_Bee_sound E fuel acts g0 g out h0 h p hp)
  exact (List.subperm_of_subset hnd hsub).perm_of_length_le hcount

example : dictOK cE = true ∧ initFrontOK cE = true ∧ initCoverOK cE = true := by decide +kernel
example : ((Gen.new cE).bind fun g => runActs cE 1000 [.take 3, .take 10] g []).map (fun r => decide r.2.Nodup && decide (r.2.length = 5)) = some true := by
  decide +kernel

/-! ### the local steps of completeness (the global statement, for the repaired loop, is the next section)

The four parts of the argument: (i) the frontier rule reaches every index combination exactly once (DESIGN B.1) —
`C02_Bee_frontier_cover_partial`;
(ii) an expansion offers EVERY program that can be built from the argument banks at its indices, and takes the "failed"
branch only when there is none — below; (iii) each offered program is banked unless rejected or deleted — below;
(iv) no program arrives in an argument bank AFTER a combination using its index was expanded: true only when rules with
arguments cost > 0 (`posArgCosts`), false otherwise (finding C02-F6); proved under that hypothesis as part of `PS.Bee.step_comp`
("no late arrival", PS/Proofs/Enum/BeeComp.lean). -/

/-- (ii) "Generate programs" (bee_search.py:233-252): if every argument bank at the popped combination's index is non-empty,
    every tuple of argument programs from those banks is in the product that is offered to `_add_program_` -/
theorem C02_Bee_expansion_offers_all (s : St S) (combo : List Nat) (args : List (Ty × S)) (aps : List (List Prog))
    (h : argsPossibles s combo args 0 = some (some aps)) (kids : List Prog) (hlen : kids.length = args.length)
    (hk : ∀ (j : Nat) (a : Ty × S) (k : Prog) (v : Nat), args[j]? = some a → kids[j]? = some k → combo[j]? = some v →
      inBank s (a.1, (a.2, ())) v k)
    (hcombo : args.length ≤ combo.length) : kids ∈ product aps := offers_all s combo args aps h kids hlen hk

/-- (ii) the "failed" branch (bee_search.py:237-242) is taken only when NO program can be built from the banks -/
theorem C02_Bee_failed_branch_empty (s : St S) (combo : List Nat) (args : List (Ty × S))
    (h : argsPossibles s combo args 0 = some none) :
    ¬ ∃ kids : List Prog, kids.length = args.length ∧
      ∀ (j : Nat) (a : Ty × S) (k : Prog) (v : Nat), args[j]? = some a → kids[j]? = some k → combo[j]? = some v →
        inBank s (a.1, (a.2, ())) v k := by
  rintro ⟨kids, hlen, hk⟩
  exact no_offer s combo args 0 h ⟨kids, hlen, fun j a k v ha hkj hv => hk j a k v ha hkj (by rwa [Nat.zero_add] at hv)⟩

/-- (iii) `_add_program_`: an offered program is banked at the cost index, or the filter rejects it (and it is recorded in
    `_deleted`), or it was already in `_deleted` -/
theorem C02_Bee_add_program_cases (E : Env S) (s : St S) (nt : NT S Unit) (p : Prog) (ci : Nat) :
    ((addProgram E s nt p ci).2 = true ∧ inBank (addProgram E s nt p ci).1 nt ci p) ∨
    ((addProgram E s nt p ci).2 = false ∧ E.filter p = false ∧ (addProgram E s nt p ci).1.deleted.contains p = true) ∨
    ((addProgram E s nt p ci).2 = false ∧ s.deleted.contains p = true) := by
  rcases addProgram_cases E s nt p ci with ⟨hd, h⟩ | ⟨_, hf, h⟩ | ⟨_, _, h⟩
  · exact Or.inr (Or.inr ⟨congrArg Prod.snd h, hd⟩)
  · exact Or.inr (Or.inl ⟨congrArg Prod.snd h, hf, by rw [h]; simp⟩)
  · have hb : (addProgram E s nt p ci).2 = true := congrArg Prod.snd h
    exact Or.inl ⟨hb, (addProgram_inBank E s nt p ci nt ci p).mpr (Or.inr ⟨hb, rfl, rfl, rfl⟩)⟩

/-! ### COMPLETENESS of the repaired generator loop (`Env.fixF11 = true`: the code after fix d763a26, which stops when the
cheapest queued cost exceeds the cost of the most expensive program)

Invariants proved for every step (PS/Proofs/Enum/BeeCost.lean, BeeComp.lean, BeeBelow.lean, BeeFull.lean), any filter, no merge
declaration, under the decidable hypotheses `nonnegW`, `posArgCosts` (rules with arguments cost > 0: the negation is the
classifier of finding C02-F6), `hasCosts`, `dictOK`, `initFrontOK`, `initCoverOK`:
(P) every pending combination's parent has a cost that is an entry of the cost list (it was popped in that round), hence every
expanded combination costs at most the current round's cost; "no late arrival" (`realCost_gt` and the case `offer` of
`step_comp`): a combination that uses the index of the current round's cost at an argument position costs strictly more, so no
program enters a bank at an index used by an expanded combination; (D) every program that can be built from an expanded
combination and the argument banks at its indices is banked, or still in the suspended product, unless the filter rejects it.
With coverage (`C02_Bee_frontier_cover_partial`) and the order invariant: in every reachable state every accepted member
cheaper than all queued and offered programs is in its bank (`bank_complete`). -/

/-- **COMPLETE WHEN STOPPED**: when the repaired generator has stopped, it has yielded every member of the grammar all of whose
    sub-programs the filter accepts (and whose cost is at most `maxCost`, the bound handed to the loop) — finite or recursive
    grammar (`maxCost = none`: then it only stops on empty queues), any filter, rule order, fuel; no merge declaration -/
theorem C02_Bee_complete_partial (E : Env S) (h1 : nonnegW E = true) (h2 : posArgCosts E = true) (h3 : hasCosts E = true)
    (h4 : dictOK E = true) (h5 : initFrontOK E = true) (h6 : initCoverOK E = true) (hfix : E.fixF11 = true)
    (fuel : Nat) (acts : List Act) (hacts : acts.all Act.isTake = true) (g0 g : Gen S) (out : List Prog)
    (h0 : Gen.new E = some g0) (h : runActs E fuel acts g0 [] = some (g, out)) (hstop : g.phase.isDone = true) :
    ∀ p, gen E.G p E.G.start = true → Strict E p → (∀ m, E.maxCost = some m → pcost E p E.G.start ≤ m) → p ∈ out := by
  obtain ⟨ha, hr⟩ := run_new E (hyp_of_checks E h1 h2 h3 h4 h5 h6) hfix hacts h0 h
  exact ha.complete hr hstop

/-- **EXACTLY THE LANGUAGE, EACH PROGRAM ONCE, WHEN STOPPED** (no filter): if `L` lists the members, all of cost at most
    `maxCost`, the output of the stopped generator is a permutation of `L` -/
theorem C02_Bee_full_partial (E : Env S) (h1 : nonnegW E = true) (h2 : posArgCosts E = true) (h3 : hasCosts E = true)
    (h4 : dictOK E = true) (h5 : initFrontOK E = true) (h6 : initCoverOK E = true) (hfix : E.fixF11 = true)
    (hnofilter : ∀ p, E.filter p = true) (fuel : Nat) (acts : List Act) (hacts : acts.all Act.isTake = true) (g0 g : Gen S)
    (out : List Prog) (h0 : Gen.new E = some g0) (h : runActs E fuel acts g0 [] = some (g, out))
    (hstop : g.phase.isDone = true) (L : List Prog) (hL : ∀ p, p ∈ L ↔ gen E.G p E.G.start = true) (hLnd : L.Nodup)
    (hmax : ∀ m, E.maxCost = some m → ∀ p ∈ L, pcost E p E.G.start ≤ m) : out.Perm L := by
  have hnd := C02_Bee_nodup_partial E h4 h5 fuel acts hacts g0 g out h0 h
  apply (List.perm_ext_iff_of_nodup hnd hLnd).mpr
  intro p
  constructor
  · intro hp; exact (hL p).mpr (C02_Bee_sound E fuel acts g0 g out h0 h p hp)
  · intro hp
    exact C02_Bee_complete_partial E h1 h2 h3 h4 h5 h6 hfix fuel acts hacts g0 g out h0 h hstop p ((hL p).mp hp)
      (fun q _ => hnofilter q) (fun m hm => hmax m hm p hp)

/-- the same for a single `take` that ended with StopIteration -/
theorem C02_Bee_full_take_partial (E : Env S) (h1 : nonnegW E = true) (h2 : posArgCosts E = true) (h3 : hasCosts E = true)
    (h4 : dictOK E = true) (h5 : initFrontOK E = true) (h6 : initCoverOK E = true) (hfix : E.fixF11 = true)
    (hnofilter : ∀ p, E.filter p = true) (fuel k : Nat) (g0 g : Gen S) (out : List Prog) (h0 : Gen.new E = some g0)
    (h : take E fuel k g0 [] = some (g, out, true)) (L : List Prog) (hL : ∀ p, p ∈ L ↔ gen E.G p E.G.start = true)
    (hLnd : L.Nodup) (hmax : ∀ m, E.maxCost = some m → ∀ p ∈ L, pcost E p E.G.start ≤ m) : out.Perm L :=
  C02_Bee_full_partial E h1 h2 h3 h4 h5 h6 hfix hnofilter fuel [.take k] (by simp [Act.isTake]) g0 g out h0
    (runActs_take h []) (take_done h) L hL hLnd hmax

/-- **TERMINATION** of the repaired generator loop when a bound `maxCost = some m` is handed to it (finite grammar), any
    filter: there are a fuel and a number of `next` calls after which the generator has raised StopIteration.  Proof
    (PS/Proofs/Enum/BeeStrict.lean, BeeTotal.lean, BeeTerm.lean): no step raises (`step_total`: indices of queued / delayed
    combinations exist, every argument non-terminal has a bank: `closedOK`); a lexicographic measure decreases with every
    step (`step_term`): the costs of the rounds strictly increase (its case `round`, from the invariant `StrictQ` that
    `step_strict` keeps: rules with arguments cost > 0) and stay ≤ m, the non-terminals still to be handled in the round,
    the elements of the round's cost in the current queue (what a pop pushes back is strictly more expensive), the candidate
    programs of the suspended product. -/
theorem C02_Bee_terminates_partial (E : Env S) (h1 : nonnegW E = true) (h2 : posArgCosts E = true) (h3 : hasCosts E = true)
    (h4 : dictOK E = true) (h5 : initFrontOK E = true) (h6 : initCoverOK E = true) (h7 : closedOK E = true)
    (hfix : E.fixF11 = true) (m : Int) (hmax : E.maxCost = some m) (g0 : Gen S) (h0 : Gen.new E = some g0) :
    ∃ fuel k g out, take E fuel k g0 [] = some (g, out, true) := by
  have H := hyp_of_checks E h1 h2 h3 h4 h5 h6
  exact take_terminates E H (closed_of_check E h7) hfix m hmax _ g0 rfl (tinv_new E H g0 h0) []

/-- **C02 FOR BEE SEARCH (repaired loop), the full statement on a grammar whose members all cost at most `m`**: the
    generator stops, and its output is a permutation of the language — every program exactly once, nothing else.
    All hypotheses are decidable checks on the case (the cost bound and the list `L` of members are data). -/
theorem C02_Bee_full (E : Env S) (h1 : nonnegW E = true) (h2 : posArgCosts E = true) (h3 : hasCosts E = true)
    (h4 : dictOK E = true) (h5 : initFrontOK E = true) (h6 : initCoverOK E = true) (h7 : closedOK E = true)
    (hfix : E.fixF11 = true) (hnofilter : ∀ p, E.filter p = true) (m : Int) (hmax : E.maxCost = some m) (g0 : Gen S)
    (h0 : Gen.new E = some g0) (L : List Prog) (hL : ∀ p, p ∈ L ↔ gen E.G p E.G.start = true) (hLnd : L.Nodup)
    (hLm : ∀ p ∈ L, pcost E p E.G.start ≤ m) :
    ∃ fuel k g out, take E fuel k g0 [] = some (g, out, true) ∧ out.Perm L := by
  obtain ⟨fuel, k, g, out, ht⟩ := C02_Bee_terminates_partial E h1 h2 h3 h4 h5 h6 h7 hfix m hmax g0 h0
  exact ⟨fuel, k, g, out, ht, C02_Bee_full_take_partial E h1 h2 h3 h4 h5 h6 hfix hnofilter fuel k g0 g out h0 ht L hL hLnd
    (fun m' hm' p hp => by rw [hmax] at hm'; cases hm'; exact hLm p hp)⟩

/-- the example grammar with the repaired loop: the most expensive program `(+ var0 var0)` costs 6 -/
def cF : Env Nat := { cE with fixF11 := true, maxCost := some 6 }
example : nonnegW cF = true ∧ posArgCosts cF = true ∧ hasCosts cF = true ∧ dictOK cF = true ∧ initFrontOK cF = true ∧
    initCoverOK cF = true ∧ closedOK cF = true := by decide +kernel
example : ((Gen.new cF).bind fun g => take cF 1000 10 g []).map (fun r => (r.2.1.length, r.2.2)) = some (5, true) := by
  decide +kernel

/-! ### finding C02-F6: a rule with arguments of cost 0 loses programs -/

/-- on the chain grammar `b -> g a, a -> h c, c -> k` with every rule of probability 1 (integer cost 0) the
    machine — like `list(enumerate_prob_grammar(ProbDetGrammar.uniform(cfg)))` — stops without yielding the
    only program `(g (h k))` of the language -/
theorem finding_C02_F6 :
    ((Gen.new fE).bind fun g => take fE 1000 5 g []).map (fun r => (r.2.1, r.2.2)) = some ([], true) ∧
    gen fG fProg fG.start = true ∧ posArgCosts fE = false := by
  decide +kernel

end PS.C02Bee
