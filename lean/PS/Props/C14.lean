/-
  C14 — Polymorphic primitives expand to exactly their admissible ground instances.
  Model: PS/Model/Dsl.lean (`instantiate`, a transcription of
  `DSL.instantiate_polymorphic_types` with the repairs C14-F2 and C14-F3), specification:
  PS/Spec/Dsl.lean (`Instances`: simultaneous admissible substitution over the documented
  universe, one alternative per sum, unit arguments dropped; `specInstances`: its executable
  form, proved equal in `C14_spec_exec`), lemmas: PS/Proofs/Dsl.lean, PS/Proofs/DslSpec.lean.

  All statements are for every list of declared primitives `P` and every bound.
  `WF P`  : the types have the shapes the library's constructors build (an arrow has two
            components, a sum built by `|` at least two alternatives, leaves none).
  `UnitSafe P b` (decidable; evaluated by the driver for every test case): no instance,
            before the unit pass, has both a unit argument and an argument that is a
            function returning unit.  It is needed because of finding C14-F4
            (`finding_C14_F4_unit`, `finding_C14_F4_twice` below) for the code WITHOUT the
            repair fixes_applied/C14-F4.diff.
  The model takes a flag `fx`: `true` = /repo (commit df1a234: the `elif` branch of
  `Arrow.without_unit_arguments` removed), `false` = the code before that commit.  The `…_partial` theorems hold for both values under
  `UnitSafe`; their namesakes without the suffix are for the repaired code and need no `UnitSafe`.
-/
import PS.Proofs.Dsl
import PS.Proofs.DslSpec
namespace PS.C14
open PS Ty Dsl

/-- shapes built by the constructors of type_system.py -/
def WF (P : List Prim) : Prop := ∀ p ∈ P, Ty.wf p.2 = true

/-- outside the region of finding C14-F4 -/
def UnitSafe (P : List Prim) (bound : Nat) : Prop := ∀ y ∈ preUnit P bound, unitSafe y.2 = true

instance (P : List Prim) : Decidable (WF P) := by unfold WF; infer_instance
instance (P : List Prim) (b : Nat) : Decidable (UnitSafe P b) := by unfold UnitSafe; infer_instance

theorem unitStepOK_of_safe {fx : Bool} {P : List Prim} {bound : Nat} (hU : UnitSafe P bound) :
    UnitStepOK fx P bound := fun y hy => unitStep_safe y (hU y hy)

theorem unitStepOK_fixed (P : List Prim) (bound : Nat) : UnitStepOK true P bound :=
  fun y _ => unitStep_fixed y

/-- After instantiation no primitive has a polymorphic type or a sum type
    (code with or without the repair of C14-F4). -/
theorem C14_ground (fx : Bool) (P : List Prim) (bound : Nat) (hP : WF P) :
    ∀ r ∈ instantiate fx P bound, Ty.isPolymorphic r.2 = false ∧ Ty.hasSum r.2 = false :=
  instantiate_ground fx P bound hP

/-- No primitive is present twice (the model has the repair of C14-F2, commit 906f2cb; the code
    before it produced duplicates in the sum pass and the unit pass). -/
theorem C14_once (fx : Bool) (P : List Prim) (bound : Nat) : (instantiate fx P bound).Nodup :=
  nodup_dedup _

/-! ### the code with or without the repair, outside the region of C14-F4 (`UnitSafe`) -/

/-- The primitives after instantiation are exactly the specified
    instances: same name; type = unit arguments dropped from a choice of one alternative per
    sum of the declared type under a simultaneous substitution of its type variables by
    types of the universe (base types except unit, lists, lists of lists, one-argument
    functions between base types) within the bound that every variable of that name accepts.
    Full statement (without `UnitSafe`) is violated by the code without the repair: see
    `finding_C14_F4_unit`; for the code with the repair see `C14_sound_complete`. -/
theorem C14_sound_complete_partial (fx : Bool) (P : List Prim) (bound : Nat) (hP : WF P)
    (hU : UnitSafe P bound) (r : Prim) : r ∈ instantiate fx P bound ↔ Instances P bound r :=
  mem_instantiate_spec hP (unitStepOK_of_safe hU) r

theorem C14_sound_partial (fx : Bool) (P : List Prim) (bound : Nat) (hP : WF P) (hU : UnitSafe P bound) :
    ∀ r ∈ instantiate fx P bound, Instances P bound r :=
  fun r hr => (C14_sound_complete_partial fx P bound hP hU r).mp hr

theorem C14_complete_partial (fx : Bool) (P : List Prim) (bound : Nat) (hP : WF P) (hU : UnitSafe P bound) :
    ∀ r, Instances P bound r → r ∈ instantiate fx P bound :=
  fun r hr => (C14_sound_complete_partial fx P bound hP hU r).mpr hr

/-- No primitive keeps a unit argument, the other arguments and the result are
    those of the chosen instance. -/
theorem C14_unit_partial (fx : Bool) (P : List Prim) (bound : Nat) (hU : UnitSafe P bound) :
    ∀ r ∈ instantiate fx P bound, hasUnitArg r.2 = false ∧
      ∃ y ∈ preUnit P bound, r.1 = y.1 ∧
        Ty.arguments r.2 = (Ty.arguments y.2).filter (fun a => a != Ty.unit) ∧
        Ty.returns r.2 = Ty.returns y.2 :=
  instantiate_unit (unitStepOK_of_safe hU)

/-- Instantiating twice (with any second bound) changes nothing. -/
theorem C14_idempotent_partial (fx : Bool) (P : List Prim) (bound bound' : Nat) (hP : WF P)
    (hU : UnitSafe P bound) :
    instantiate fx (instantiate fx P bound) bound' = instantiate fx P bound :=
  instantiate_idem bound' hP (unitStepOK_of_safe hU)

/-- The universe of the model is the documented one. -/
theorem C14_universe (P : List Prim) (u : Ty) : u ∈ typeUniverse (basicTypes P) ↔ InUniverse P u :=
  mem_typeUniverse P u

/-- `all_versions` = the choices of one alternative for every sum. -/
theorem C14_versions (t c : Ty) : c ∈ versions t ↔ Choice t c := mem_versions_iff t c

/-- The list `specInstances`
    (PS/Spec/Dsl.lean: enumeration of one candidate per variable name, all versions, unit
    arguments dropped — the list the driver prints and the harness compares with the code)
    contains exactly the primitives satisfying the predicate `Instances`.  No hypothesis. -/
theorem C14_spec_exec (P : List Prim) (bound : Nat) (r : Prim) :
    r ∈ specInstances P bound ↔ Instances P bound r :=
  mem_specInstances P bound r

theorem C14_spec_exec_once (P : List Prim) (bound : Nat) : (specInstances P bound).Nodup :=
  nodup_specInstances P bound

/-- model and executable specification have the same elements (both without repetition:
    `C14_once`, `C14_spec_exec_once`).
    Full statement (without `UnitSafe`) is violated by the code without the repair. -/
theorem C14_model_eq_spec_exec_partial (fx : Bool) (P : List Prim) (bound : Nat) (hP : WF P)
    (hU : UnitSafe P bound) (r : Prim) : r ∈ instantiate fx P bound ↔ r ∈ specInstances P bound := by
  rw [C14_sound_complete_partial fx P bound hP hU r, C14_spec_exec]

/-! ### the code with the repair of C14-F4 (fixes_applied/C14-F4.diff): no `UnitSafe` -/

/-- For EVERY well-formed list of declarations and every
    bound the primitives after instantiation are exactly the specified instances. -/
theorem C14_sound_complete (P : List Prim) (bound : Nat) (hP : WF P) (r : Prim) :
    r ∈ instantiate true P bound ↔ Instances P bound r :=
  mem_instantiate_spec hP (unitStepOK_fixed P bound) r

theorem C14_sound (P : List Prim) (bound : Nat) (hP : WF P) :
    ∀ r ∈ instantiate true P bound, Instances P bound r :=
  fun r hr => (C14_sound_complete P bound hP r).mp hr

theorem C14_complete (P : List Prim) (bound : Nat) (hP : WF P) :
    ∀ r, Instances P bound r → r ∈ instantiate true P bound :=
  fun r hr => (C14_sound_complete P bound hP r).mpr hr

/-- No primitive keeps a unit argument; the other arguments —
    functions returning unit included — and the result are those of the chosen instance. -/
theorem C14_unit (P : List Prim) (bound : Nat) :
    ∀ r ∈ instantiate true P bound, hasUnitArg r.2 = false ∧
      ∃ y ∈ preUnit P bound, r.1 = y.1 ∧
        Ty.arguments r.2 = (Ty.arguments y.2).filter (fun a => a != Ty.unit) ∧
        Ty.returns r.2 = Ty.returns y.2 :=
  instantiate_unit (unitStepOK_fixed P bound)

theorem C14_idempotent (P : List Prim) (bound bound' : Nat) (hP : WF P) :
    instantiate true (instantiate true P bound) bound' = instantiate true P bound :=
  instantiate_idem bound' hP (unitStepOK_fixed P bound)

theorem C14_model_eq_spec_exec (P : List Prim) (bound : Nat) (hP : WF P) (r : Prim) :
    r ∈ instantiate true P bound ↔ r ∈ specInstances P bound := by
  rw [C14_sound_complete P bound hP r, C14_spec_exec]

/-- the repaired `without_unit_arguments` is the specified removal of the unit arguments on every
    type -/
theorem C14_without_unit (t : Ty) : withoutUnit true t = dropUnit t := withoutUnit_fixed_eq_dropUnit t

/-! ### finding C14-F4: `without_unit_arguments` rewrites function arguments returning unit -/

def tInt : Ty := Ty.prim "int"

/-- `f : unit -> (int -> unit) -> int` becomes `f : int -> int`, not `(int -> unit) -> int` -/
theorem finding_C14_F4_unit :
    let decl := Ty.arrow Ty.unit (Ty.arrow (Ty.arrow tInt Ty.unit) tInt)
    instantiate false [("f", decl)] 1 = [("f", Ty.arrow tInt tInt)] ∧
    dropUnit decl = Ty.arrow (Ty.arrow tInt Ty.unit) tInt ∧
    ¬ UnitSafe [("f", decl)] 1 := by
  decide +kernel

/-- `f : unit -> (unit -> unit) -> int` keeps a unit argument, and a second instantiation
    changes it again -/
theorem finding_C14_F4_twice :
    let decl := Ty.arrow Ty.unit (Ty.arrow (Ty.arrow Ty.unit Ty.unit) tInt)
    instantiate false [("f", decl)] 1 = [("f", Ty.arrow Ty.unit tInt)] ∧
    instantiate false (instantiate false [("f", decl)] 1) 1 = [("f", tInt)] := by
  decide +kernel

/-- with the repair both declarations are instantiated as specified: the function arguments are
    kept, the unit argument is dropped, and a second instantiation changes nothing -/
theorem fixed_C14_F4 :
    let d1 := Ty.arrow Ty.unit (Ty.arrow (Ty.arrow tInt Ty.unit) tInt)
    let d2 := Ty.arrow Ty.unit (Ty.arrow (Ty.arrow Ty.unit Ty.unit) tInt)
    instantiate true [("f", d1)] 1 = [("f", Ty.arrow (Ty.arrow tInt Ty.unit) tInt)] ∧
    instantiate true [("f", d2)] 1 = [("f", Ty.arrow (Ty.arrow Ty.unit Ty.unit) tInt)] ∧
    instantiate true (instantiate true [("f", d2)] 1) 1 = instantiate true [("f", d2)] 1 ∧
    WF [("f", d1)] ∧ WF [("f", d2)] := by
  decide +kernel

/-! ### non-vacuity -/
namespace Example
def tBool : Ty := Ty.prim "bool"
/-- `map : ('a -> 'b) -> 'a list -> 'b list`, `c : int`, `d : bool`,
    `pick : 'a[int | bool] -> unit -> 'a`, `opt : int | unit -> bool` -/
def P : List Prim :=
  [("map", Ty.arrow (Ty.arrow (Ty.poly "a") (Ty.poly "b")) (Ty.arrow (Ty.list (Ty.poly "a")) (Ty.list (Ty.poly "b")))),
   ("c", tInt), ("d", tBool),
   ("pick", Ty.arrow (Ty.fpoly "a" [Ty.sum [tInt, tBool]]) (Ty.arrow Ty.unit (Ty.fpoly "a" [Ty.sum [tInt, tBool]]))),
   ("opt", Ty.arrow (Ty.sum [tInt, Ty.unit]) tBool)]

/-- `P` at bound 1, evaluated once: well formed and outside the region of C14-F4; instances of `map`
    and `opt` are present; there are 10 instances -/
theorem P_ok : (WF P ∧ UnitSafe P 1) ∧
    ("map", Ty.arrow (Ty.arrow tInt tBool) (Ty.arrow (Ty.list tInt) (Ty.list tBool))) ∈ instantiate false P 1 ∧
    (("opt", tBool) ∈ instantiate false P 1 ∧ ("opt", Ty.arrow tInt tBool) ∈ instantiate false P 1) ∧
    (instantiate false P 1).length = 10 := by
  decide +kernel

/-- what the executable specification says of `pick` at bound 2 -/
theorem pick_spec : ("pick", Ty.arrow tBool tBool) ∈ specInstances P 2 ∧
    ("pick", Ty.arrow (Ty.list tInt) (Ty.list tInt)) ∉ specInstances P 2 := by
  decide +kernel

/-- `pick` without `map` at bound 3, evaluated once -/
theorem pick_drop : ("pick", Ty.arrow (Ty.list tInt) (Ty.list tInt)) ∉ instantiate false (P.drop 1) 3 ∧
    ("pick", Ty.arrow tInt tInt) ∈ instantiate false (P.drop 1) 3 := by
  decide +kernel

example : WF P ∧ UnitSafe P 1 := P_ok.1
-- instances that are present …
example : ("map", Ty.arrow (Ty.arrow tInt tBool) (Ty.arrow (Ty.list tInt) (Ty.list tBool))) ∈ instantiate false P 1 := P_ok.2.1
example : ("pick", Ty.arrow tBool tBool) ∈ instantiate false P 2 := by decide +kernel
example : ("opt", tBool) ∈ instantiate false P 1 ∧ ("opt", Ty.arrow tInt tBool) ∈ instantiate false P 1 := P_ok.2.2.1
-- … and their number: 4 for map, 2 for pick, 2 for opt, c, d
example : (instantiate false P 1).length = 10 := P_ok.2.2.2
-- the restricted variable does not take a list type even when the bound allows it
example : ("pick", Ty.arrow (Ty.list tInt) (Ty.list tInt)) ∉ instantiate false (P.drop 1) 3 := pick_drop.1
example : ("pick", Ty.arrow tInt tInt) ∈ instantiate false (P.drop 1) 3 := pick_drop.2
-- the executable specification: elements, the declarative fact obtained through `C14_spec_exec`,
-- and agreement with the model through `C14_model_eq_spec_exec_partial`
example : ("pick", Ty.arrow tBool tBool) ∈ specInstances P 2 := pick_spec.1
example : Instances P 2 ("pick", Ty.arrow tBool tBool) :=
  (C14_spec_exec P 2 _).mp pick_spec.1
example : ¬ Instances P 2 ("pick", Ty.arrow (Ty.list tInt) (Ty.list tInt)) :=
  fun h => pick_spec.2 ((C14_spec_exec P 2 _).mpr h)
example : (specInstances P 1).length = 10 ∧ (specInstances P 1).Nodup :=
  ⟨by decide +kernel, C14_spec_exec_once P 1⟩
example : ("map", Ty.arrow (Ty.arrow tInt tBool) (Ty.arrow (Ty.list tInt) (Ty.list tBool))) ∈ specInstances P 1 :=
  (C14_model_eq_spec_exec_partial false P 1 P_ok.1.1 P_ok.1.2 _).mp P_ok.2.1
-- the repaired code on a DSL inside the region of C14-F4: a unit argument next to a
-- callback that returns unit (`each : unit | int -> ('a -> unit) -> 'a list -> unit`)
def Q : List Prim :=
  P ++ [("each", Ty.arrow (Ty.sum [Ty.unit, tInt])
          (Ty.arrow (Ty.arrow (Ty.poly "a") Ty.unit) (Ty.arrow (Ty.list (Ty.poly "a")) Ty.unit)))]
/-- `Q` at bound 1, evaluated once -/
theorem Q_ok : (WF Q ∧ ¬ UnitSafe Q 1) ∧
    ("each", Ty.arrow (Ty.arrow tInt Ty.unit) (Ty.arrow (Ty.list tInt) Ty.unit)) ∈ instantiate true Q 1 ∧
    ("each", Ty.arrow (Ty.arrow tInt Ty.unit) (Ty.arrow (Ty.list tInt) Ty.unit)) ∉ instantiate false Q 1 ∧
    ("each", Ty.arrow tInt (Ty.arrow (Ty.list tInt) Ty.unit)) ∈ instantiate false Q 1 := by
  decide +kernel
example : WF Q ∧ ¬ UnitSafe Q 1 := Q_ok.1
example : ("each", Ty.arrow (Ty.arrow tInt Ty.unit) (Ty.arrow (Ty.list tInt) Ty.unit)) ∈ instantiate true Q 1 ∧
    ("each", Ty.arrow (Ty.arrow tInt Ty.unit) (Ty.arrow (Ty.list tInt) Ty.unit)) ∉ instantiate false Q 1 ∧
    ("each", Ty.arrow tInt (Ty.arrow (Ty.list tInt) Ty.unit)) ∈ instantiate false Q 1 := Q_ok.2
example : Instances Q 1 ("each", Ty.arrow (Ty.arrow tInt Ty.unit) (Ty.arrow (Ty.list tInt) Ty.unit)) :=
  (C14_sound_complete Q 1 Q_ok.1.1 _).mp Q_ok.2.1
end Example

end PS.C14
