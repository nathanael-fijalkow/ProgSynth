/-
  C12, part hs — filter and merges during heap search / bucket search.

  FULL STATEMENT: with a filter, the output is duplicate-free, contains no rejected program and
  contains every program all of whose sub-programs are accepted; after `merge_program(rep, other)`
  exactly the not-yet-yielded programs not containing `other` are yielded; termination.

  Proved for all inputs and fuels, safety at the yield site: what `next` yields was accepted; `St.addDeleted` (the
  `self.deleted.add(program)` the yield loop does on a rejected program) puts the program in `deleted`; after
  `merge_program(rep, other)`, `other ∈ deleted`.
  The merge half of the statement is FALSE (finding_C12_F1; not repaired in /repo).
  The liveness half with a filter was false before fix 53c3acb (finding C12-F4: a successor that is
  already in `deleted` is not pushed, `Env.dropDeleted = true`, which cuts the successor graph).  For the
  code after it (`Env.dropDeleted = false`) the filter half is PROVED on acyclic grammars, for every fuel —
  heap search with any threshold (C12_HS_filter_full), bucket search (C12_HS_bucket_filter_full), the
  unambiguous-grammar machine with several start symbols (C12_HS_U_filter_full): every yielded program is
  an accepted member, no program is yielded twice, every member all of whose sub-programs (itself
  included) the filter accepts — `HG.clean` — and, for heap search, whose probability is above the
  threshold is yielded, the generator stops.
  The hypotheses (`HG.ProbHyp`, `HG.BucketHyp`) are Boolean checks on a literal grammar
  (`HG.probHyp_of_checks`, `HG.bucketHyp_of_checks`); termination asks besides that every non-terminal used by a rule
  has a row (`HG.Closed`) and that the start symbol has one; acyclicity is needed (findings C03-F3/C03-F4).
  Not proved: the merge half (false, C12-F1), recursive grammars, thresholds of the unambiguous machine.
-/
import PS.Model.Enum.HeapSearch
import PS.Model.Enum.UHeapSearch
import PS.Proofs.Enum.HeapSearch
import PS.Proofs.Enum.GInst
import PS.Proofs.Enum.UUnamb
import PS.Proofs.Enum.UFrame
import PS.Proofs.Enum.UCompleteRun
import PS.Proofs.Enum.UCheck
namespace PS.C12HS
open PS PS.G

section
variable {S T π : Type} [DecidableEq S] [DecidableEq T]
open PS.HS

/-- `next(generator)` only yields programs accepted by the filter; the yielded program becomes `current` -/
theorem C12_HS_yield_accepted (E : Env S T π) (fuel : Nat) (g g' : Gen S T π) (p : Prog)
    (h : next E fuel g = some (g', some p)) : E.filter p = true ∧ g'.current = some p :=
  next_yield E fuel g g' p h

/-- `St.addDeleted`, the model of `self.deleted.add(program)` of the yield loop: the program is in `deleted`
    afterwards, nothing leaves it. (That the loop does this to every rejected program is `nextLoop` of the model, not
    this statement.) -/
theorem C12_HS_rejected_deleted (s : St S T π) (p q : Prog) :
    p ∈ (s.addDeleted p).deleted ∧ (q ∈ s.deleted → q ∈ (s.addDeleted p).deleted) :=
  ⟨mem_addDeleted s p, addDeleted_mono s p q⟩

/-- `merge_program(representative, other)` puts `other` in `deleted` -/
theorem C12_HS_merge_deleted (E : Env S T π) (g : Gen S T π) (other : Prog) :
    other ∈ (merge E g other).st.deleted := merge_deleted E g other
end

section
variable {U π : Type} [DecidableEq U]
/-- the same for the unambiguous-grammar machine -/
theorem C12_HS_U_yield_accepted (E : UHS.Env U π) (fuel k : Nat) (s s' : UHS.St U π) (p : Prog)
    (h : UHS.next E fuel k s = some (s', some p)) : E.filter p = true := UHS.next_yield E fuel k s s' p h
end

/-! ### finding C12-F1 and non-vacuity -/
section F1
open PS.HS
def sy (k : Nat) : Sym := Sym.prim (toString k) Ty.unknown
/-- start: `var0` (0) | `0` (1) | `+` (2) over two leaf non-terminals -/
def wmG : TT Nat Nat :=
  { start := (Ty.base "int", (2, 2)),
    rules := [
    ((Ty.base "int", (2, 2)), [(sy 0, ([], 0)), (sy 1, ([], 0)), (sy 2, ([(Ty.base "int", 0), (Ty.base "int", 1)], 1))]),
    ((Ty.base "int", (0, 1)), [(sy 0, ([], 3)), (sy 1, ([], 3))]),
    ((Ty.base "int", (1, 3)), [(sy 0, ([], 4)), (sy 1, ([], 4))])] }
def wmW : AList (NT Nat Nat) (AList Sym Rat) := [
    ((Ty.base "int", (2, 2)), [(sy 0, (1 : Rat) / 4), (sy 1, (1 : Rat) / 4), (sy 2, (1 : Rat) / 4)]),
    ((Ty.base "int", (0, 1)), [(sy 0, (1 : Rat) / 2), (sy 1, (1 : Rat) / 2)]),
    ((Ty.base "int", (1, 3)), [(sy 0, (1 : Rat) / 2), (sy 1, (1 : Rat) / 2)])]
def Em (f : Prog → Bool) : Env Nat Nat Rat := { G := wmG, W := wmW, ops := probOps 0, filter := f }
def zero : Prog := .node (sy 1) []
def zeroPlusVar : Prog := .node (sy 2) [.node (sy 1) [], .node (sy 0) []]

/-- after three programs, `merge_program(_, 0)`; the next program yielded is `(+ 0 var0)`, which contains the merged
    `0`: against "exactly the not-yet-yielded programs not containing `other` are yielded". It was pushed before the
    merge, and `deleted` is tested on whole programs only. (`Em` takes the default `dropDeleted = true`,
    `__add_successors__` before repair 53c3acb.) -/
theorem finding_C12_F1 :
    (match take (Em fun _ => true) 100 3 (Gen.new wmG) [] with
     | some (g, ys, _) => (take (Em fun _ => true) 100 1 (merge (Em fun _ => true) g zero) []).map (fun r => (ys.contains zero, r.2.1))
     | none => none) = some (true, [zeroPlusVar]) := by
  decide +kernel

/-- non-vacuity of C12_HS_yield_accepted: with the filter "is not the leaf `0`" the machine yields
    `var0` and `(+ var0 var0)` — the programs all of whose sub-programs are accepted — and stops
    (the rejected leaf enters `deleted` and is skipped in every heap) -/
example : (take (Em fun p => decide (p ≠ zero)) 100 10 (Gen.new wmG) []).map (fun r => (r.2.1.length, r.2.2, r.2.1.contains zero))
    = some (2, true, false) := by
  decide +kernel
end F1

/-! ### the filter half on acyclic context-free grammars -/
section Filter
open PS.HS PS.HG
variable {S : Type} [DecidableEq S]

/-- **C12, safety with a filter (heap search, any threshold, every fuel, every prefix of the run)**:
    the yielded programs are members of the grammar, are accepted by the filter and are pairwise distinct -/
theorem C12_HS_filter_safe (E : Env S Unit Rat) (rank : NT S Unit → Nat) (t : Rat) (P : ProbHyp E rank t)
    (fuel k : Nat) (g' : Gen S Unit Rat) (out : List Prog) (b : Bool)
    (h : take E fuel k (Gen.new E.G) [] = some (g', out, b)) :
    (∀ p ∈ out, contains E.G p = true) ∧ (∀ p ∈ out, E.filter p = true) ∧ out.Nodup := by
  obtain ⟨a, b', c, _⟩ := prob_safe P fuel k g' out b h
  exact ⟨fun p hp => by rw [contains_eq_gen]; exact a p hp, c, b'⟩

/-- **C12, completeness relative to the filter (heap search)**: once the generator has stopped, every
    member all of whose sub-programs are accepted (`clean`) and whose probability is above the threshold
    (no condition when the threshold is 0) was yielded -/
theorem C12_HS_filter_complete (E : Env S Unit Rat) (rank : NT S Unit → Nat) (t : Rat) (P : ProbHyp E rank t)
    (fuel k : Nat) (g' : Gen S Unit Rat) (out : List Prog)
    (h : take E fuel k (Gen.new E.G) [] = some (g', out, true)) (p : Prog)
    (hp : contains E.G p = true) (hcl : clean E.filter p = true)
    (hthr : t < G.prob E.G E.W p E.G.start ∨ t = 0) : p ∈ out :=
  prob_stop_complete P fuel k g' out h p (by rw [← contains_eq_gen]; exact hp) hcl hthr

/-- **C12, termination with a filter (heap search)**; `HG.enoughFuelF` is `HS.enoughFuel` with the number of members
    added to the cost per rank: one `query` pops at most that many rejected programs before the one it returns -/
theorem C12_HS_filter_terminates (E : Env S Unit Rat) (rank : NT S Unit → Nat) (t : Rat) (P : ProbHyp E rank t)
    (hclosed : HG.Closed E.G) (hstart : E.G.start ∈ AList.keys E.G.rules) (fuel : Nat)
    (hfuel : enoughFuelF E.G rank ≤ fuel) :
    ∃ k g' out, take E fuel k (Gen.new E.G) [] = some (g', out, true) := prob_total P hclosed hstart fuel hfuel

/-- **C12, THE FILTER HALF FOR HEAP SEARCH ON ACYCLIC CONTEXT-FREE GRAMMARS**: with enough fuel the
    generator stops; its output is duplicate-free, contains only accepted members, and contains every
    member above the threshold all of whose sub-programs are accepted -/
theorem C12_HS_filter_full (E : Env S Unit Rat) (rank : NT S Unit → Nat) (t : Rat) (P : ProbHyp E rank t)
    (hclosed : HG.Closed E.G) (hstart : E.G.start ∈ AList.keys E.G.rules) (fuel : Nat)
    (hfuel : enoughFuelF E.G rank ≤ fuel) :
    ∃ k g' out, take E fuel k (Gen.new E.G) [] = some (g', out, true) ∧ out.Nodup ∧
      (∀ p ∈ out, contains E.G p = true ∧ E.filter p = true) ∧
      (∀ p, contains E.G p = true → clean E.filter p = true → (t < G.prob E.G E.W p E.G.start ∨ t = 0) → p ∈ out) := by
  obtain ⟨k, g', out, h⟩ := C12_HS_filter_terminates E rank t P hclosed hstart fuel hfuel
  obtain ⟨a, b, c⟩ := C12_HS_filter_safe E rank t P fuel k g' out true h
  exact ⟨k, g', out, h, c, fun p hp => ⟨a p hp, b p hp⟩,
    fun p hp hcl hthr => C12_HS_filter_complete E rank t P fuel k g' out h p hp hcl hthr⟩

/-- the same for bucket search: safety -/
theorem C12_HS_bucket_filter_safe (E : Env S Unit Bucket) (rank : NT S Unit → Nat) (size : Nat)
    (B : BucketHyp E rank size) (fuel k : Nat) (g' : Gen S Unit Bucket) (out : List Prog) (b : Bool)
    (h : take E fuel k (Gen.new E.G) [] = some (g', out, b)) :
    (∀ p ∈ out, contains E.G p = true) ∧ (∀ p ∈ out, E.filter p = true) ∧ out.Nodup := by
  obtain ⟨a, b', c, _⟩ := bucket_safe B fuel k g' out b h
  exact ⟨fun p hp => by rw [contains_eq_gen]; exact a p hp, c, b'⟩

/-- bucket search: completeness relative to the filter -/
theorem C12_HS_bucket_filter_complete (E : Env S Unit Bucket) (rank : NT S Unit → Nat) (size : Nat)
    (B : BucketHyp E rank size) (fuel k : Nat) (g' : Gen S Unit Bucket) (out : List Prog)
    (h : take E fuel k (Gen.new E.G) [] = some (g', out, true)) (p : Prog)
    (hp : contains E.G p = true) (hcl : clean E.filter p = true) : p ∈ out :=
  bucket_stop_complete B fuel k g' out h p (by rw [← contains_eq_gen]; exact hp) hcl

/-- bucket search: termination with a filter -/
theorem C12_HS_bucket_filter_terminates (E : Env S Unit Bucket) (rank : NT S Unit → Nat) (size : Nat)
    (B : BucketHyp E rank size) (hclosed : HG.Closed E.G) (hstart : E.G.start ∈ AList.keys E.G.rules) (fuel : Nat)
    (hfuel : enoughFuelF E.G rank ≤ fuel) :
    ∃ k g' out, take E fuel k (Gen.new E.G) [] = some (g', out, true) := bucket_total B hclosed hstart fuel hfuel

/-- **C12, the filter half for bucket search on acyclic context-free grammars** -/
theorem C12_HS_bucket_filter_full (E : Env S Unit Bucket) (rank : NT S Unit → Nat) (size : Nat)
    (B : BucketHyp E rank size) (hclosed : HG.Closed E.G) (hstart : E.G.start ∈ AList.keys E.G.rules) (fuel : Nat)
    (hfuel : enoughFuelF E.G rank ≤ fuel) :
    ∃ k g' out, take E fuel k (Gen.new E.G) [] = some (g', out, true) ∧ out.Nodup ∧
      (∀ p ∈ out, contains E.G p = true ∧ E.filter p = true) ∧
      (∀ p, contains E.G p = true → clean E.filter p = true → p ∈ out) := by
  obtain ⟨k, g', out, h⟩ := C12_HS_bucket_filter_terminates E rank size B hclosed hstart fuel hfuel
  obtain ⟨a, b, c⟩ := C12_HS_bucket_filter_safe E rank size B fuel k g' out true h
  exact ⟨k, g', out, h, c, fun p hp => ⟨a p hp, b p hp⟩,
    fun p hp hcl => C12_HS_bucket_filter_complete E rank size B fuel k g' out h p hp hcl⟩

/-! non-vacuity: `S0 → 1 | + S1 S1`, `S1 → 1 | x`, the filter rejects the leaf `1` -/
def fInt : Ty := .base "int"
def fOne : Sym := Sym.prim "1" fInt
def fX : Sym := Sym.var 0 fInt
def fPlus : Sym := Sym.prim "+" (.arrow fInt (.arrow fInt fInt))
def fG : TT Nat Unit := ⟨(fInt, (0, ())), [((fInt, (0, ())), [(fOne, ([], ())), (fPlus, ([(fInt, 1), (fInt, 1)], ()))]),
                                          ((fInt, (1, ())), [(fOne, ([], ())), (fX, ([], ()))])]⟩
def fW : AList (NT Nat Unit) (AList Sym Rat) :=
  [((fInt, (0, ())), [(fOne, 1/2), (fPlus, 1/2)]), ((fInt, (1, ())), [(fOne, 1/4), (fX, 3/4)])]
def fRank (nt : NT Nat Unit) : Nat := 1 - nt.2.1
def fFilter (p : Prog) : Bool := decide (p ≠ .node fOne [])
/-- heap search, threshold 0, filter "is not the leaf `1`", the code after fix 53c3acb -/
def fE : Env Nat Unit Rat := { G := fG, W := fW, ops := probOps 0, filter := fFilter, dropDeleted := false }
/-- bucket search (size 3) with the same filter -/
def fB : Env Nat Unit Bucket := { G := fG, W := fW, ops := bucketOps 3, filter := fFilter, dropDeleted := false }

theorem fE_hyp : ProbHyp fE fRank 0 :=
  probHyp_of_checks fE fRank 0 rfl (by decide) (by decide +kernel) (by decide) (by decide) (by decide) (by decide)
    (by decide +kernel) rfl

theorem fB_hyp : BucketHyp fB fRank 3 :=
  { ops := rfl, init := ⟨fE_hyp.init.rows, fE_hyp.init.acyclic, fE_hyp.init.nonempty⟩
    keys := fE_hyp.keys, wtotal := fE_hyp.wtotal, nodrop := rfl }

theorem fG_closed : HG.Closed fG := closed_of_allG fG (by decide)

/-- enough fuel is 2 * (2 + 2 + 5 + 5) = 28 -/
example : ∃ k g' out, take fE 28 k (Gen.new fG) [] = some (g', out, true) ∧ out.Nodup ∧
    (∀ p ∈ out, contains fG p = true ∧ fFilter p = true) ∧
    (∀ p, contains fG p = true → clean fFilter p = true → ((0 : Rat) < G.prob fG fW p fG.start ∨ (0 : Rat) = 0) → p ∈ out) :=
  C12_HS_filter_full fE fRank 0 fE_hyp fG_closed (by decide) 28 (by decide +kernel)

example : ∃ k g' out, take fB 28 k (Gen.new fG) [] = some (g', out, true) ∧ out.Nodup ∧
    (∀ p ∈ out, contains fG p = true ∧ fFilter p = true) ∧
    (∀ p, contains fG p = true → clean fFilter p = true → p ∈ out) :=
  C12_HS_bucket_filter_full fB fRank 3 fB_hyp fG_closed (by decide) 28 (by decide +kernel)

/-- what the machines do on the example: only `(+ x x)`, the one member all of whose sub-programs
    are accepted, is yielded (the rejected leaf enters `deleted` and is skipped in the heap of the
    argument non-terminal as well), then the generator stops -/
example : (take fE 28 10 (Gen.new fG) []).map (fun r => (r.2.1, r.2.2)) =
    some ([.node fPlus [.node fX [], .node fX []]], true) := by
  decide +kernel
/-- bucket search on the same input yields the 4 accepted members: the argument non-terminal had
    popped the leaf `1` (bucket `[0,0,1]`, before `x`, bucket `[1,0,0]`) before it was rejected, so the
    programs that contain it are still built — the statement is an inclusion, not an equality -/
example : (take fB 28 10 (Gen.new fG) []).map (fun r => (r.2.1.length, r.2.2, r.2.1.all fFilter)) =
    some (4, true, true) := by
  decide +kernel
/-- a clean member: `(+ x x)` -/
example : clean fFilter (.node fPlus [.node fX [], .node fX []]) = true := by decide +kernel
end Filter

/-! ## unambiguous machine -/
section UMachine
open PS.UHS
variable {U π : Type} [DecidableEq U]

/-- **C12, safety with a filter, unambiguous-grammar machine** (heap search and bucket search of
    u_heap_search.py, any threshold, every fuel, every prefix of the run) on ACYCLIC grammars whose start
    languages are disjoint: the yielded programs are members of the grammar (`U.genU`), are accepted by
    the filter and are pairwise distinct.  Acyclicity gives `UHS.NoReent` (`__add_successors__(p, S)` does
    not re-enter `query(S, ·)`, `UHS.noReent_of_acyclic`), which the skip loop
    `while succ in self.deleted` of `query` needs to keep `succ[S]` a function. -/
theorem C12_HS_U_filter_safe (E : UHS.Env U π) (H : GHyp E) (rank : UHS.UNT U → Nat) (hac : Acyclic E rank)
    (hdisj : SDisj E) (hstarts : (E.G.starts.map (·.1)).Nodup) (d : UHS.UNT U) (fuel k : Nat) (s' : UHS.St U π)
    (out : List Prog) (b : Bool) (h : UHS.take E fuel k (UHS.St.empty E.G) [] = some (s', out, b)) :
    (∀ p ∈ out, PS.U.genU (E.G.toUCFG d) p = true) ∧ (∀ p ∈ out, E.filter p = true) ∧ out.Nodup := by
  obtain ⟨a, b'⟩ := take_nodup E ⟨H, hdisj, hstarts, Or.inr (noReent_of_acyclic E H rank hac)⟩ fuel k s' out b h
  exact ⟨take_sound_genU H d h, b', a⟩

omit [DecidableEq U] in
/-- a program rejected at the yield site is in `deleted` afterwards, and `deleted` only grows there -/
theorem C12_HS_U_rejected_deleted (s : UHS.St U π) (p q : Prog) :
    p ∈ (s.addDeleted p).deleted ∧ (q ∈ s.deleted → q ∈ (s.addDeleted p).deleted) :=
  ⟨UHS.mem_addDeleted s p, UHS.addDeleted_mono s p q⟩

/-- **C12, COMPLETENESS RELATIVE TO THE FILTER, unambiguous-grammar machine** (acyclic unambiguous grammars,
    several start symbols, no threshold; any priority type with a monotone `combine`): once the generator
    has stopped, every member all of whose sub-programs (itself included) the filter accepts — `HG.clean` —
    was yielded.  The rejected programs enter `deleted` at the yield site and are skipped by the pop loop of
    every non-terminal (`while succ in self.deleted`), their successors still being pushed: the skip
    branch too keeps `UHS.NTInv` and `UHS.CInv` (what was ever pushed is in the heap, was popped, or was
    skipped as a rejected program; `UHS.big_order`, case `pop_deleted`). -/
theorem C12_HS_U_filter_complete (E : UHS.Env U π) (rank : UHS.UNT U → Nat) (Good : π → Prop) (R : RHyp E rank Good)
    (d : UHS.UNT U) (fuel k : Nat) (s' : UHS.St U π) (out : List Prog)
    (h : UHS.take E fuel k (UHS.St.empty E.G) [] = some (s', out, true)) (p : Prog)
    (hp : PS.U.genU (E.G.toUCFG d) p = true) (hcl : PS.HG.clean E.filter p = true) : p ∈ out :=
  take_complete_genU R d fuel k s' out h p hp hcl

/-- with a filter installed the yielded keys are still in best-first order (every fuel, every prefix) -/
theorem C12_HS_U_filter_sorted (E : UHS.Env U π) (rank : UHS.UNT U → Nat) (Good : π → Prop) (R : RHyp E rank Good)
    (fuel k : Nat) (s' : UHS.St U π) (out : List Prog) (b : Bool)
    (h : UHS.take E fuel k (UHS.St.empty E.G) [] = some (s', out, b)) :
    out.Pairwise (fun p q => ∀ kp kq, StartKey E p kp → StartKey E q kq → E.ops.lt kq kp = false) :=
  take_sorted R fuel k s' out b h

/-- **prefix completeness with a filter** (every fuel, every prefix of the run): once a program `q` has been
    yielded, every member all of whose sub-programs are accepted and whose key is strictly better than the
    key of `q` has been yielded -/
theorem C12_HS_U_filter_prefix_complete (E : UHS.Env U π) (rank : UHS.UNT U → Nat) (Good : π → Prop) (R : RHyp E rank Good)
    (fuel k : Nat) (s' : UHS.St U π) (out : List Prog) (b : Bool)
    (h : UHS.take E fuel k (UHS.St.empty E.G) [] = some (s', out, b)) (p q : Prog) (hq : q ∈ out) (kp kq : π)
    (hkp : StartKey E p kp) (hkq : StartKey E q kq) (hlt : E.ops.lt kp kq = true)
    (hcl : PS.HG.clean E.filter p = true) : p ∈ out :=
  take_prefix_complete R fuel k s' out b h p q hq kp kq hkp hkq hlt hcl

/-- **C12, termination with a filter, unambiguous-grammar machine**: with enough fuel the generator stops;
    the pop loop skips every rejected program at most once per non-terminal (a program taken out of a heap
    never comes back: `UHS.addSucc_proc`), and `next` loops at most once per rejected program -/
theorem C12_HS_U_filter_terminates (E : UHS.Env U π) (rank : UHS.UNT U → Nat) (Good : π → Prop) (R : RHyp E rank Good)
    (L Al A : Nat) (T : THyp E L Al A) (fuel : Nat)
    (hf : FuelOK E rank (L + Al + A + 6 + (langList E rank).length) fuel) (hN : (langList E rank).length + 1 ≤ fuel) :
    ∃ k s' out, UHS.take E fuel k (UHS.St.empty E.G) [] = some (s', out, true) :=
  take_stops R T hf hN

/-- **C12, THE FILTER HALF FOR THE UNAMBIGUOUS-GRAMMAR MACHINE** (acyclic unambiguous grammars, several start
    symbols): with enough fuel the generator stops; its output is duplicate-free, contains only accepted
    members, and contains every member all of whose sub-programs are accepted -/
theorem C12_HS_U_filter_full (E : UHS.Env U π) (rank : UHS.UNT U → Nat) (Good : π → Prop) (R : RHyp E rank Good)
    (L Al A : Nat) (T : THyp E L Al A) (d : UHS.UNT U) (fuel : Nat)
    (hf : FuelOK E rank (L + Al + A + 6 + (langList E rank).length) fuel) (hN : (langList E rank).length + 1 ≤ fuel) :
    ∃ k s' out, UHS.take E fuel k (UHS.St.empty E.G) [] = some (s', out, true) ∧ out.Nodup ∧
      (∀ p ∈ out, PS.U.genU (E.G.toUCFG d) p = true ∧ E.filter p = true) ∧
      (∀ p, PS.U.genU (E.G.toUCFG d) p = true → PS.HG.clean E.filter p = true → p ∈ out) := by
  obtain ⟨k, s', out, h⟩ := take_stops R T hf hN
  obtain ⟨a, b, c⟩ := C12_HS_U_filter_safe E R.ohyp.ghyp rank R.ohyp.acyclic R.disj R.starts_nodup d fuel k s' out true h
  exact ⟨k, s', out, h, c, fun p hp => ⟨a p hp, b p hp⟩,
    fun p hp hcl => C12_HS_U_filter_complete E rank Good R d fuel k s' out h p hp hcl⟩

/-! non-vacuity: three start symbols, two alternatives for `+` at `S2`; the filter rejects the leaf `1` -/
def mT : Ty := .base "int"
def m0 : UHS.UNT Nat := (mT, 0)
def m1 : UHS.UNT Nat := (mT, 1)
def m2 : UHS.UNT Nat := (mT, 2)
def mPlus : Sym := Sym.prim "+" (.arrow mT (.arrow mT mT))
def mOne : Sym := Sym.prim "1" mT
def mV0 : Sym := Sym.var 0 mT
def mG : UG Nat :=
  { starts := [(m2, 1/2), (m0, 1/4), (m1, 1/4)],
    rules := [(m1, [(mPlus, [([m0, m0], 1)])]), (m0, [(mOne, [([], 1/4)]), (mV0, [([], 3/4)])]),
              (m2, [(mPlus, [([m0, m1], 3/5), ([m1, m0], 2/5)])])] }
def mFilter (p : Prog) : Bool := decide (p ≠ .node mOne [])
def mE : UHS.Env Nat Rat := { G := mG, ops := UHS.probOps 0, filter := mFilter, kway := true }
def mRank (nt : UHS.UNT Nat) : Nat := nt.2

theorem mE_rhyp : RHyp mE mRank (fun v : Rat => 0 ≤ v) :=
  rhyp_prob mE mRank rfl rfl (by decide) (by decide) (by decide) (by decide) (by decide) (by decide) (by decide)
    (by decide +kernel) (by decide)

example : ∀ k s' out b, UHS.take mE 60 k (UHS.St.empty mG) [] = some (s', out, b) →
    (∀ p ∈ out, PS.U.genU (mG.toUCFG m0) p = true) ∧ (∀ p ∈ out, mFilter p = true) ∧ out.Nodup :=
  fun k s' out b h => C12_HS_U_filter_safe mE mE_rhyp.ohyp.ghyp mRank mE_rhyp.ohyp.acyclic mE_rhyp.disj
    mE_rhyp.starts_nodup m0 60 k s' out b h

example : ∀ s' out, UHS.take mE 60 30 (UHS.St.empty mG) [] = some (s', out, true) → ∀ p,
    PS.U.genU (mG.toUCFG m0) p = true → PS.HG.clean mFilter p = true → p ∈ out :=
  fun s' out h p hp hcl => C12_HS_U_filter_complete mE mRank _ mE_rhyp m0 60 30 s' out h p hp hcl

theorem mE_langList : (langList mE mRank).length = 22 := by decide +kernel

example : ∃ k s' out, UHS.take mE 102 k (UHS.St.empty mG) [] = some (s', out, true) ∧ out.Nodup ∧
    (∀ p ∈ out, PS.U.genU (mG.toUCFG m0) p = true ∧ mFilter p = true) ∧
    (∀ p, PS.U.genU (mG.toUCFG m0) p = true → PS.HG.clean mFilter p = true → p ∈ out) :=
  C12_HS_U_filter_full mE mRank _ mE_rhyp 2 2 2 (thyp_of_check mE 2 2 2 (by decide)) m0 102
    (by rw [mE_langList]; exact fuelOK_of_check mE mRank 34 102 (by decide)) (by rw [mE_langList]; decide)

/-- what the machine does on the example: the leaf `1` is rejected when the start symbol `S0` hands it
    over; the 17 other programs that contain it are still yielded, 21 of the 22 in all (the statement is an inclusion) -/
example : (UHS.take mE 60 30 (UHS.St.empty mG) []).map (fun r => (r.2.1.length, r.2.2, r.2.1.all mFilter)) =
    some (21, true, true) := by decide +kernel
end UMachine

end PS.C12HS
