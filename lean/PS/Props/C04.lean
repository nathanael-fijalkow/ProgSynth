/-
  C04 — Probabilistic grammars define a probability distribution over their language.
  Models: PS/Model/Prob.lean (tagged_det_grammar.py, tagged_u_grammar.py) on top of
  PS/Model/Grammar.lean (det_grammar.py / ttcfg.py), PS/Model/Cfg.lean (`CFG.programs`) and
  PS/Model/Ucfg.lean (u_grammar.py / u_cfg.py).

  Statement: the probability reported for a program is the product of the probabilities of the
  rules of its unique derivation (times the probability of its start symbol when there are
  several), 0 outside the language; on a finite grammar these probabilities sum to 1 over the
  language and the reported number of programs is the size of the language.

  * `prob` / `probU` are the statement's probability (stack-free derivations `derivation` /
    `derivs`); `probabilityDet` / `probabilityU` transcribe the code (pending stack,
    `reduce_derivations`, exceptions).
  * `lang G k nt` enumerates the derivable terms of at most `k` levels; `bounded G k nt` says all
    derivations finish within `k` levels.
  * several start symbols: the code omits the start factor — finding C04-F1, `finding_C04_F1`;
    the U theorems about the code are `_partial` under "every start symbol has weight 1"
    (a single start symbol with normalised start weights).
-/
import PS.Proofs.ProbDet
import PS.Proofs.Mass
import PS.Proofs.Programs
import PS.Proofs.Ucfg
import PS.Proofs.UMass
import PS.Proofs.UOps
import PS.Proofs.FromCfg
import PS.Proofs.C04CountT
import PS.Proofs.C04CountU
namespace PS.G
open PS

variable {S : Type} [DecidableEq S]

/-! ## Deterministic grammars (ProbDetGrammar) -/

/-- **probability = product of the rule weights of the unique derivation**, 0 outside the
    language: for EVERY tagged grammar (weights may be incomplete or unnormalised), program and
    start non-terminal. -/
theorem C04_prob_det (G : TT S Unit) (tags : Tags S Unit) (t : Prog) :
    probabilityDet G tags t = prob G tags t G.start :=
  probabilityDet_eq_prob G tags t

theorem C04_prob_det_from (G : TT S Unit) (tags : Tags S Unit) (t : Prog) (nt : NT S Unit) :
    probabilityDetFrom G tags t nt = prob G tags t nt :=
  probabilityDetFrom_eq_prob G tags t nt

/-- the fold of `reduce_derivations` (pending stack) is the fold over the stack-free derivation,
    for every reducer -/
theorem C04_reduce_derivations {α : Type} (G : TT S Unit)
    (f : α → NT S Unit → Sym → (List (Ty × S) × Unit) → α) (t : Prog) (v : α)
    (h : gen G t G.start = true) :
    reduceDerivations G f v t = some ((derivation G t G.start).foldl (stepDer G f) v) := by
  unfold reduceDerivations
  exact reduceRec_derivation G f t G.start [] v h

/-- **0 outside the language** — tree-traversing grammars with any state type included -/
theorem C04_outside_zero {T : Type} [DecidableEq T] (G : TT S T) (tags : Tags S T) (t : Prog)
    (h : contains G t = false) : probabilityDet G tags t = 0 :=
  probabilityDet_outside G tags t h

/-- … in terms of the specification's membership -/
theorem C04_outside_zero_gen (G : TT S Unit) (tags : Tags S Unit) (t : Prog)
    (h : gen G t G.start = false) : probabilityDet G tags t = 0 := by
  rw [C04_prob_det]; simp [prob, h]

/-- **the enumeration `lang` is the language**: exactly the derivable terms of at most `k`
    levels, each once -/
theorem C04_lang (G : TT S Unit) (h : RowsNodup G) (k : Nat) (nt : NT S Unit) :
    (∀ t, t ∈ lang G k nt ↔ (gen G t nt = true ∧ Tree.depth t ≤ k)) ∧ (lang G k nt).Nodup :=
  ⟨fun t => mem_lang_iff G h k t nt, lang_nodup G h k nt⟩

/-- when all derivations finish within `k` levels, `lang G k nt` is the whole language -/
theorem C04_lang_complete (G : TT S Unit) (h : RowsNodup G) (k : Nat) (nt : NT S Unit)
    (hb : bounded G k nt = true) (t : Prog) : t ∈ lang G k nt ↔ gen G t nt = true :=
  mem_lang_of_bounded G h k t nt hb

/-- **the probabilities sum to 1 over the language**: normalised weights, finite grammar.
    Stated for the code's `probabilityDet`. -/
theorem C04_sum_one (G : TT S Unit) (tags : Tags S Unit) (hk : (AList.keys G.rules).Nodup)
    (hn : Normalised G tags) (k : Nat) (hb : bounded G k G.start = true) :
    ((lang G k G.start).map (fun t => probabilityDet G tags t)).sum = 1 := by
  rw [← mass_eq_sum_probabilityDet]
  exact mass_eq_one G tags hk hn k G.start hb

/-- the recursion behind it: Σ over `nt` = Σ over its rules of weight × Π of the Σ's of the
    arguments -/
theorem C04_mass_step (G : TT S Unit) (tags : Tags S Unit) (h : RowsNodup G) (k : Nat) (nt : NT S Unit)
    (rs : AList Sym (List (Ty × S) × Unit)) (hl : AList.lookup nt G.rules = some rs) :
    mass G tags (k + 1) nt
      = (rs.map (fun r => weight tags nt r.1 * (r.2.1.map (fun a => mass G tags k (argNT a))).prod)).sum :=
  mass_succ G tags h k nt rs hl

/-- **counting**: Σ over rules Π over arguments is the size of the enumeration -/
theorem C04_count (G : TT S Unit) (k : Nat) (nt : NT S Unit) : count G k nt = (lang G k nt).length :=
  count_eq_length G k nt

/-- **`CFG.programs()`**: whenever it returns a number (not -1), all derivations are finite and
    the number is the size of the language — whatever the order of the table -/
theorem C04_programs (G : CFG) (hk : (AList.keys G.rules).Nodup) (n : Nat) (h : programs G = some n) :
    ∃ k, bounded G k G.start = true ∧ n = (lang G k G.start).length := by
  obtain ⟨k, hb, hn⟩ := Programs.programs_eq_count G hk n h
  exact ⟨k, hb, by rw [hn, count_eq_length]⟩

/-- **uniform()** is normalised (no empty row, dict keys distinct) … -/
theorem C04_uniform_normalised (G : TT S Unit) (hk : (AList.keys G.rules).Nodup)
    (hr : ∀ e ∈ G.rules, e.2 ≠ [] ∧ (AList.keys e.2).Nodup) : Normalised G (uniform G) :=
  uniform_normalised G hk hr

/-- … hence a distribution on a finite grammar -/
theorem C04_uniform_sum_one (G : TT S Unit) (hk : (AList.keys G.rules).Nodup)
    (hr : ∀ e ∈ G.rules, e.2 ≠ [] ∧ (AList.keys e.2).Nodup) (k : Nat) (hb : bounded G k G.start = true) :
    ((lang G k G.start).map (fun t => probabilityDet G (uniform G) t)).sum = 1 :=
  C04_sum_one G (uniform G) hk (uniform_normalised G hk hr) k hb

omit [DecidableEq S] in
/-- **normalise()**: every row keeps its key and its symbols and, when its total is not 0,
    sums to 1 afterwards (Python raises ZeroDivisionError for a zero total) -/
theorem C04_normalise {T : Type} (tags : Tags S T) :
    ∀ e ∈ normalise tags, ∃ e' ∈ tags, e.1 = e'.1 ∧ AList.keys e.2 = AList.keys e'.2 ∧
      (rowSum e'.2 ≠ 0 → rowSum e.2 = 1) := by
  intro e he
  obtain ⟨e', he', h1, h2⟩ := normalise_rows tags e he
  exact ⟨e', he', h1, by rw [h2, keys_normaliseRow], fun h => by rw [h2]; exact rowSum_normaliseRow _ h⟩

/-- **pcfg_from_samples**: every row of learnt weights sums to 1 (non-terminals never visited
    get no row) -/
theorem C04_from_samples (G : TT S Unit) (hk : (AList.keys G.rules).Nodup)
    (hr : ∀ e ∈ G.rules, (AList.keys e.2).Nodup) (samples : List Prog) (tags : Tags S Unit)
    (h : fromSamples G samples = .ok tags) : ∀ e ∈ tags, rowSum e.2 = 1 :=
  fromSamples_rows G hk hr samples tags h

/-! ### non-vacuity -/
namespace Ex04
def int : Ty := .base "int"
def one : Sym := Sym.prim "1" int
def x : Sym := Sym.var 0 int
def plus : Sym := Sym.prim "+" (.arrow int (.arrow int int))
def n0 : NT Nat Unit := (int, (0, ()))
def n1 : NT Nat Unit := (int, (1, ()))
/-- `S0 → 1 | + S1 S1`,  `S1 → 1 | x` -/
def G0 : TT Nat Unit := ⟨n0, [(n0, [(one, ([], ())), (plus, ([(int, 1), (int, 1)], ()))]),
                              (n1, [(one, ([], ())), (x, ([], ()))])]⟩
def tags0 : Tags Nat Unit := [(n0, [(one, 1/2), (plus, 1/2)]), (n1, [(one, 1/4), (x, 3/4)])]
def leaf (s : Sym) : Prog := .node s []
def t1 : Prog := .node plus [leaf one, leaf x]
def bad : Prog := .node plus [leaf one]
end Ex04
open Ex04 in
example : probabilityDet G0 tags0 t1 = 3/32 ∧ probabilityDet G0 tags0 bad = 0 ∧ gen G0 t1 G0.start = true := by
  decide +kernel
open Ex04 in
theorem ex_normalised : Normalised G0 tags0 ∧ (AList.keys G0.rules).Nodup ∧ bounded G0 2 G0.start = true := by
  exact ⟨normalised_of_normalisedB (by decide +kernel), by decide, by decide⟩
open Ex04 in
/-- the hypotheses of `C04_sum_one` hold on a grammar with 5 programs -/
example : ((lang G0 2 G0.start).map (fun t => probabilityDet G0 tags0 t)).sum = 1 ∧ (lang G0 2 G0.start).length = 5 :=
  ⟨C04_sum_one G0 tags0 ex_normalised.2.1 ex_normalised.1 2 ex_normalised.2.2, by decide⟩
open Ex04 in
example : (fromSamples G0 [t1, leaf one, t1]).toOption
    = some [(n0, [(one, 1/3), (plus, 2/3)]), (n1, [(one, 1/2), (x, 1/2)])] := by
  decide +kernel

end PS.G

/-! ## Unambiguous grammars (ProbUGrammar) -/
namespace PS.U
open PS PS.G PS.U.Mass

variable {U : Type} [DecidableEq U]

/-- **derivations**: the stack-based `__reduce_derivations_rec__` over possibility lists lists
    exactly the stack-free derivations, in the same order, from all start symbols -/
theorem C04_reduce_u (G : UCFG U) (t : Prog) :
    (reduceAll G t).map (fun p => p.map Step.rule) = (allDerivs G t).map (·.2) :=
  reduceAll_derivs G t

/-- **membership** by possibility lists = existence of a derivation -/
theorem C04_contains_u (G : UCFG U) (t : Prog) : contains G t = genU G t :=
  contains_eq_genU G t

/-- **probability = start weight × product of the rule weights of the unique derivation**, 0
    outside the language.
    Full statement (FALSE for the code when there are several start symbols, finding C04-F1, see
    `finding_C04_F1`):  unambiguousOn G t → probabilityU G tg t = probU G tg t.
    Proved under the decidable hypothesis that every start symbol has weight 1 — i.e. a single
    start symbol with normalised start weights (`C04_prob_u_single`). -/
theorem C04_prob_u_partial (G : UCFG U) (tg : UTags U) (t : Prog)
    (hu : unambiguousOn G t = true) (hs : ∀ s ∈ G.starts, startWeight tg s = 1) :
    probabilityU G tg t = probU G tg t :=
  probabilityU_eq_probU G tg t hu hs

theorem C04_prob_u_single (G : UCFG U) (tg : UTags U) (t : Prog) (s : UNT U)
    (hst : G.starts = [s]) (hw : (G.starts.map (startWeight tg)).sum = 1)
    (hu : unambiguousOn G t = true) : probabilityU G tg t = probU G tg t := by
  apply C04_prob_u_partial G tg t hu
  intro s' hs'
  rw [hst] at hs' hw
  simp only [List.mem_cons, List.not_mem_nil, or_false] at hs'
  subst hs'
  simpa [Rat.add_zero] using hw

/-- **0 outside the language**, any number of start symbols -/
theorem C04_outside_zero_u (G : UCFG U) (tg : UTags U) (t : Prog) (h : contains G t = false) :
    probabilityU G tg t = 0 := by
  rw [C04_contains_u] at h
  exact probabilityU_of_no_deriv G tg t (genU_eq_false_iff.mp h)

/-- **the statement's distribution** (specification level, several start symbols allowed):
    start weight × derivation weights sum to 1 over all derivations of a finite grammar -/
theorem C04_spec_u_total (G : UCFG U) (tg : UTags U) (hn : NormalisedU G tg) (k : Nat)
    (hb : ∀ s ∈ G.starts, boundedU G k s = true)
    (hs : (G.starts.map (startWeight tg)).sum = 1) :
    (G.starts.map (fun s => startWeight tg s * massU G tg k s)).sum = 1 :=
  spec_total_one G tg hn k hb hs

/-- **the code's probabilities sum to 1 over the programs** of a finite unambiguous grammar with
    one start symbol. (`langU` lists one term per derivation; unambiguity makes them distinct
    programs.)  Several start symbols: false for the code, `finding_C04_F1`. -/
theorem C04_sum_one_u_partial (G : UCFG U) (tg : UTags U) (hn : NormalisedU G tg) (s : UNT U)
    (hst : G.starts = [s]) (hw : startWeight tg s = 1) (k : Nat) (hb : boundedU G k s = true)
    (hu : ∀ t, unambiguousOn G t = true) :
    ((langU G k s).map (fun t => probabilityU G tg t)).sum = 1 := by
  have hw' : (G.starts.map (startWeight tg)).sum = 1 := by rw [hst]; simp [hw, Rat.add_zero]
  have h := Cnt.probU_sum_one_starts G tg hn k (by rw [hst]; simpa using hb) hw' hu
  rw [Cnt.langAll_single hst] at h
  rw [funext fun t => C04_prob_u_single G tg t s hst hw' (hu t)]
  exact h

/-- **`UCFG.from_CFG`** yields an unambiguous grammar with the same language: every program has
    exactly one derivation if it is in the CFG and none otherwise — so the hypothesis
    `unambiguousOn` of the theorems above holds for every grammar obtained this way -/
theorem C04_from_cfg {S : Type} [DecidableEq S] (G : TT S Unit) (hk : (AList.keys G.rules).Nodup)
    (hr : ∀ e ∈ G.rules, (AList.keys e.2).Nodup) (t : Prog) :
    unambiguousOn (fromCFG G) t = true ∧ genU (fromCFG G) t = gen G t G.start ∧
    (fromCFG G).starts.length = 1 :=
  ⟨FromCfg.fromCFG_unambiguous G hk hr t, FromCfg.genU_fromCFG G hk hr t, rfl⟩

/-- **uniform()** for unambiguous grammars is normalised (every alternative of a non-terminal gets
    1/(number of alternatives of that non-terminal), every start symbol 1/(number of starts)) -/
theorem C04_uniform_u_normalised (G : UCFG U) (hk : (AList.keys G.rules).Nodup)
    (hr : ∀ e ∈ G.rules, (AList.keys e.2).Nodup ∧ (∃ r ∈ e.2, r.2 ≠ []) ∧ ∀ r ∈ e.2, r.2.Nodup)
    (hs : G.starts.Nodup) (hne : G.starts ≠ []) :
    NormalisedU G (uniformU G) ∧ (G.starts.map (startWeight (uniformU G))).sum = 1 :=
  ⟨Ops.uniformU_normalised G hk hr, Ops.uniformU_starts G hs hne⟩

omit [DecidableEq U] in
/-- **normalise()** for unambiguous grammars: a row with non-zero total sums to 1 afterwards, and
    so do the start weights -/
theorem C04_normalise_u (tg : UTags U) :
    (∀ e ∈ (normaliseU tg).tags, ∃ e' ∈ tg.tags, e.1 = e'.1 ∧ (rowSumU e'.2 ≠ 0 → rowSumU e.2 = 1)) ∧
    ((tg.startTags.map (·.2)).sum ≠ 0 → ((normaliseU tg).startTags.map (·.2)).sum = 1) :=
  ⟨Ops.rowSumU_normaliseU tg, Ops.startSum_normaliseU tg⟩

/-- **counting** derivations -/
theorem C04_count_u (G : UCFG U) (k : Nat) (nt : UNT U) : countU G k nt = (langU G k nt).length :=
  Ops.countU_eq_length G k nt

/-- **`UCFG.programs()`** (memoised recursion): on a finite grammar the number returned is the
    number of derivations from the start symbols (= programs, when unambiguous) -/
theorem C04_programs_u (G : UCFG U) (fuel n k : Nat) (h : programs G fuel = some n)
    (hb : ∀ s ∈ G.starts, boundedU G k s = true) :
    n = (G.starts.map (fun s => (langU G k s).length)).sum :=
  Ops.programs_eq_length G fuel n k h hb

namespace Ex04
def int : Ty := .base "int"
def a : Sym := Sym.prim "a" int
def b : Sym := Sym.prim "b" int
def f : Sym := Sym.prim "f" (.arrow int int)
def q0 : UNT Nat := (int, 0)
def q1 : UNT Nat := (int, 1)
/-- two start symbols: `q0 → a`, `q1 → b | f q0` -/
def G2 : UCFG Nat := ⟨[q0, q1], [(q0, [(a, [[]])]), (q1, [(b, [[]]), (f, [[q0]])])], q0⟩
/-- the same rule table with the one start symbol `q1` -/
def G1 : UCFG Nat := ⟨[q1], [(q0, [(a, [[]])]), (q1, [(b, [[]]), (f, [[q0]])])], q1⟩
def ta : Prog := .node a []
def tb : Prog := .node b []
def tfa : Prog := .node f [.node a []]
end Ex04

open Ex04 in
/-- hypotheses of `C04_prob_u_partial` / `C04_sum_one_u_partial` are satisfiable: one start, the
    uniform weights, a language of two programs -/
example : unambiguousOn G1 tfa = true ∧ startWeight (uniformU G1) q1 = 1 ∧
    probabilityU G1 (uniformU G1) tfa = 1/2 ∧ probU G1 (uniformU G1) tfa = 1/2 ∧
    langU G1 2 q1 = [tb, tfa] ∧ boundedU G1 2 q1 = true ∧ programs G1 5 = some 2 ∧ programs G2 5 = some 3 := by
  decide +kernel

open Ex04 in
/-- **finding C04-F1** on the model: with two start symbols (uniform weights: start weights
    1/2, 1/2) the code reports 1 for the program `a` whose probability is 1/2, and the reported
    probabilities of the three programs of the language sum to 2 instead of 1. -/
theorem finding_C04_F1 :
    unambiguousOn G2 ta = true ∧
    probabilityU G2 (uniformU G2) ta = 1 ∧ probU G2 (uniformU G2) ta = 1/2 ∧
    (([ta, tb, tfa].map (fun t => probabilityU G2 (uniformU G2) t)).sum = 2) ∧
    (([ta, tb, tfa].map (fun t => probU G2 (uniformU G2) t)).sum = 1) := by
  decide +kernel

end PS.U

/-! ## The reported number of programs (second half of the statement), TTCFG-based and
     unambiguous grammars, any number of start symbols -/
namespace PS.G
open PS

/-- **`ProbDetGrammar.programs()` over a TTCFG** (`TTCFG.programs()`, memoised dictionaries of
    counts per final state; /repo after fix 875cb5a = `PS.T.programsR`): for every table whose
    rows are dicts and that does not use the end-marker type `UnknownType` as a key or as an
    argument slot (three decidable hypotheses, evaluated by the driver on every case), whenever
    it returns `n` there is a duplicate-free list of `n` programs that contains exactly the
    programs of the grammar (`program in grammar`, equivalently the stack-free specification
    `PS.T.inLang`), and every program outside it has probability 0. -/
theorem C04_programs_ttcfg {S T : Type} [DecidableEq S] [DecidableEq T] (G : TT S T) (tags : Tags S T)
    (hr : PS.T.rowsNodup G = true) (hU : PS.T.noUnknownKey G = true) (hA : PS.T.noUnknownArg G = true)
    (fuel n : Nat) (hp : PS.T.programsR G fuel = some n) :
    ∃ L : List Prog, L.Nodup ∧ n = L.length ∧
      (∀ t, t ∈ L ↔ contains G t = true) ∧ (∀ t, t ∈ L ↔ PS.T.inLang G t = true) ∧
      (∀ t, t ∉ L → probabilityDet G tags t = 0) := by
  obtain ⟨h1, h2, h3⟩ := CntT.programsR_contains G hr hU hA fuel n hp
  refine ⟨_, h1, h2, h3, fun t => by rw [h3 t, PS.T.contains_eq_inLang], ?_⟩
  intro t ht
  apply C04_outside_zero G tags t
  cases hc : contains G t with
  | false => rfl
  | true => exact absurd ((h3 t).mpr hc) ht

/-- … and on a table with a trivial state (a CFG handed to the TTCFG code) the number is the
    length of the enumeration `lang` of `C04_lang`, the number `CFG.programs()` reports
    (`C04_programs`): the two transcriptions count the same language. -/
theorem C04_programs_ttcfg_cfg {S : Type} [DecidableEq S] (G : TT S Unit) (hr : PS.T.rowsNodup G = true)
    (hU : PS.T.noUnknownKey G = true) (hA : PS.T.noUnknownArg G = true) (fuel n : Nat)
    (hp : PS.T.programsR G fuel = some n) (hrn : RowsNodup G) (k : Nat)
    (hb : bounded G k G.start = true) : n = (lang G k G.start).length :=
  CntT.programsR_eq_lang G hr hU hA fuel n hp hrn k hb

namespace Ex04T
def int : Ty := .base "int"
def a : Sym := Sym.prim "a" int
def b : Sym := Sym.prim "b" int
def f : Sym := Sym.prim "f" (.arrow int int)
/-- a table with a non-trivial state component: `(int,(0,0)) → f (int,1) | a`, `(int,(1,0)) → a | b` -/
def GT : TT Nat Nat := ⟨(int, (0, 0)),
  [((int, (0, 0)), [(f, ([(int, 1)], 0)), (a, ([], 5))]), ((int, (1, 0)), [(a, ([], 7)), (b, ([], 7))])]⟩
end Ex04T

open Ex04T in
/-- non-vacuity of `C04_programs_ttcfg`: the hypotheses hold, `programs()` returns 3, the language
    has the three programs `a`, `(f a)`, `(f b)` -/
example : PS.T.rowsNodup GT = true ∧ PS.T.noUnknownKey GT = true ∧ PS.T.noUnknownArg GT = true ∧
    PS.T.programsR GT 10 = some 3 ∧ (PS.T.langOf GT 10).length = 3 ∧
    contains GT (.node f [.node b []]) = true ∧ contains GT (.node b []) = false := by
  decide +kernel

end PS.G

namespace PS.U
open PS PS.G PS.U.Mass PS.U.Cnt

variable {U : Type} [DecidableEq U]

/-- **`ProbUGrammar.programs()` counts derivations**, any number of start symbols: on a finite
    grammar (`boundedU` for every start symbol; rows are dicts) the number returned is the length
    of the enumeration `langAll` from all start symbols, in which every program occurs as many
    times as it has (start symbol, derivation) pairs — in particular it contains exactly the
    programs of the grammar. No unambiguity needed. -/
theorem C04_programs_u_derivations (G : UCFG U)
    (hr : ∀ nt rs, AList.lookup nt G.rules = some rs → (AList.keys rs).Nodup) (fuel n k : Nat)
    (h : programs G fuel = some n) (hb : ∀ s ∈ G.starts, boundedU G k s = true) :
    n = (langAll G k).length ∧
    (∀ t, (langAll G k).count t = (allDerivs G t).length) ∧
    (∀ t, t ∈ langAll G k ↔ contains G t = true) :=
  ⟨programs_eq_length_langAll G fuel n k h hb, count_langAll G hr k hb, mem_langAll_contains G hr k hb⟩

/-- **`ProbUGrammar.programs()` = the size of the language** of a finite UNAMBIGUOUS grammar, any
    number of start symbols: `n` is the length of a duplicate-free list that contains exactly
    the programs of the grammar. (For the grammars `UCFG.from_DFTA` builds the unambiguity
    hypothesis is a theorem: `C06_unambiguousOn_partial`; for `from_CFG`: `C04_from_cfg`.) -/
theorem C04_programs_ucfg (G : UCFG U)
    (hr : ∀ nt rs, AList.lookup nt G.rules = some rs → (AList.keys rs).Nodup) (fuel n k : Nat)
    (h : programs G fuel = some n) (hb : ∀ s ∈ G.starts, boundedU G k s = true)
    (hu : ∀ t, unambiguousOn G t = true) :
    ∃ L : List Prog, L.Nodup ∧ n = L.length ∧ ∀ t, t ∈ L ↔ contains G t = true :=
  ⟨langAll G k, langAll_nodup G hr k hb hu,
    (C04_programs_u_derivations G hr fuel n k h hb).1,
    (C04_programs_u_derivations G hr fuel n k h hb).2.2⟩

/-- **the statement's probabilities sum to 1 over the language**, several start symbols, start
    weights included: normalised rows, start weights summing to 1, finite unambiguous grammar.
    (The CODE omits the start factor — finding C04-F1, `finding_C04_F1` — so this is about the
    specification `probU`; with one start symbol of weight 1 the code agrees:
    `C04_sum_one_u_partial`.) -/
theorem C04_sum_one_u (G : UCFG U) (tg : UTags U) (hn : NormalisedU G tg) (k : Nat)
    (hb : ∀ s ∈ G.starts, boundedU G k s = true)
    (hs : (G.starts.map (startWeight tg)).sum = 1) (hu : ∀ t, unambiguousOn G t = true) :
    (langAll G k).Nodup ∧ (∀ t, t ∈ langAll G k ↔ contains G t = true) ∧
    ((langAll G k).map (fun t => probU G tg t)).sum = 1 :=
  ⟨langAll_nodup G hn.rowsNodup k hb hu, mem_langAll_contains G hn.rowsNodup k hb,
    probU_sum_one_starts G tg hn k hb hs hu⟩

/-- finding C04-F1 made quantitative, for every unambiguous grammar and every program with its
    unique (start symbol, derivation) pair `(s, d)` all of whose rules carry a weight: the CODE
    reports the product of the rule weights of `d`, the STATEMENT asks for that product times the
    weight of the start symbol `s`. -/
theorem C04_prob_u_code (G : UCFG U) (tg : UTags U) (t : Prog) (s : UNT U) (d : Der U)
    (h : allDerivs G t = [(s, d)]) (hw : ∀ x ∈ d, (tagOfU tg x.1 x.2.1 x.2.2).isSome = true) :
    probabilityU G tg t = derWeightU tg d ∧ probU G tg t = startWeight tg s * derWeightU tg d := by
  -- `hw` is not used: a rule without weight makes the code's value and the product both 0
  have _ := hw
  exact ⟨probabilityU_of_one_deriv G tg t s d h, by rw [probU, h]⟩

open Ex04 in
/-- non-vacuity of `C04_programs_ucfg` / `C04_sum_one_u` on the grammar with TWO start symbols of
    `finding_C04_F1`: rows are dicts, both start symbols are bounded, every program has at most
    one derivation (checked on the language), `programs()` = 3 = |language|, the statement's
    probabilities (uniform weights: start weights 1/2, 1/2) sum to 1 -/
example : langAll G2 2 = [ta, tb, tfa] ∧ programs G2 5 = some 3 ∧
    (G2.starts.all (fun s => boundedU G2 2 s)) = true ∧
    ((langAll G2 2).all (fun t => unambiguousOn G2 t)) = true ∧
    (G2.starts.map (startWeight (uniformU G2))).sum = 1 ∧
    ((langAll G2 2).map (fun t => probU G2 (uniformU G2) t)).sum = 1 := by
  decide +kernel

end PS.U
