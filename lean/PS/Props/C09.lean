/-
  C09 — sampling draws programs / values with the probabilities of the grammar / weight vector.

  Statement (properties.jsonl): after seeding, every sampled program belongs to the grammar, the
  long-run frequency of each program converges to the probability the grammar reports for it, two
  samplers initialised with the same non-zero seed produce the same sequence; this holds for the
  native alias sampler and for the pure-Python fallback, and the lexicon / list / union value
  samplers honour their weight vectors.

  Proved for ALL inputs about the model `PS.Sampler` (PS/Model/Sampler.lean, PS/Model/SamplerU.lean)
  of the fallback sampler, the value samplers and `sample_program`.  "Long-run frequency" is
  rendered as the distribution the tables induce under a uniform column and a coin of bias
  `proba[col]` (`C09_alias`, `C09_coin`), and for `sample_program` as the distribution under
  independent draws that follow the rule weights (`C09_sample_dist`); "same seed, same sequence"
  as: the sampled sequence is a function of the draw streams (`C09_seed_det`).
  Not reachable by a theorem (assumptions, supported by the statistical part of harness/c09.py):
  the native `vose.Sampler`, NumPy's generator (uniformity / independence / reproducibility of
  the streams), and float rounding in the tables.
-/
import PS.Proofs.Sampler
import PS.Proofs.SamplerGrammar
import PS.Proofs.SamplerU
import PS.Proofs.SamplerValue
import Mathlib.Data.List.Nodup
namespace PS.Props.C09
open PS PS.Sampler

/-- For every weight vector whose total is not zero (no sign or normalisation
    hypothesis), the probability that `sample_1` returns `k` — column uniform, heads with
    probability `proba[col]` — is the normalised weight of `k`. -/
theorem C09_alias (ws : List Rat) (hs : ws.sum ≠ 0) (k : Nat) :
    aliasDist (build ws) k = normalised ws k :=
  aliasDist_build ws hs k

theorem C09_alias_normalised (ws : List Rat) (hs : ws.sum = 1) (k : Nat) :
    aliasDist (build ws) k = ws.getD k 0 := by
  rw [C09_alias ws (by rw [hs]; decide) k, normalised, hs]
  simp

example : aliasDist (build [2, 1, 1]) 0 = 1 / 2 := by
  rw [C09_alias _ (by decide +kernel)]; decide +kernel
example : ([1/8, 1/2, 1/8, 1/4] : List Rat).sum = 1 := by decide +kernel
example : build [7/10, 1/10, 1/10, 1/10] = ⟨[0, 0, 0, 0], [1, 2/5, 2/5, 2/5]⟩ := by decide +kernel
example : (List.range 4).map (aliasDist (build [7/10, 1/10, 1/10, 1/10])) = [7/10, 1/10, 1/10, 1/10] := by
  decide +kernel

/-- finding C09-F2 (`buildOld` = the code before a3e3cc5, fixes_applied/C09-F2.diff): with
    `avg = 1/n` the tables built from the unnormalised weights 2,1,1 are uniform, whereas the statement (and
    `vose.Sampler`) asks for 1/2, 1/4, 1/4 -/
theorem finding_unnormalised :
    (List.range 3).map (aliasDist (buildOld [2, 1, 1])) = [1/3, 1/3, 1/3] ∧
    (List.range 3).map (normalised [2, 1, 1]) = [1/2, 1/4, 1/4] := by decide +kernel

/-- for non-negative weights with positive total every coin bias is a probability, so that
    "heads with probability `proba[col]`" is what `uniform() < proba[col]` does -/
theorem C09_proba_range (ws : List Rat) (hpos : ∀ w ∈ ws, 0 ≤ w) (hs : 0 < ws.sum) :
    ∀ p ∈ (build ws).proba, 0 ≤ p ∧ p ≤ 1 :=
  build_proba_range ws hpos hs

example : (∀ w ∈ ([0, 3, 1] : List Rat), 0 ≤ w) ∧ 0 < ([0, 3, 1] : List Rat).sum := by decide +kernel
example : (build [0, 3, 1]).proba = [0, 1, 3/4] := by decide +kernel

/-- both tables have one entry per weight and every alias is a valid index: `sample_1` never
    leaves `0..n-1` -/
theorem C09_tables (ws : List Rat) :
    (build ws).alias.length = ws.length ∧ (build ws).proba.length = ws.length ∧
    ∀ a ∈ (build ws).alias, a < ws.length :=
  ⟨(build_lengths ws).1, (build_lengths ws).2, build_alias_lt ws⟩

theorem C09_sample1_range (ws : List Rat) (col : Nat) (u : Rat) (hc : col < ws.length) :
    sample1 (build ws) col u < ws.length :=
  sample1_lt _ _ (build_lengths ws).1 (build_alias_lt ws) hc u

example : sample1 (build [2, 1, 1]) 1 (7/8) = 0 := by decide +kernel
example : sample1 (build [2, 1, 1]) 1 (1/8) = 1 := by decide +kernel

/-- the `while len(small) > 0 and len(large) > 0` loop, which removes one index per iteration,
    exits with one work list empty after at most `|small|+|large|` iterations -/
theorem C09_loop_exit (avg : Rat) (fuel : Nat) (small large : List Nat) (st : St)
    (h : small.length + large.length ≤ fuel) :
    (pairLoop avg fuel small large st).1 = [] ∨ (pairLoop avg fuel small large st).2.1 = [] :=
  pairLoop_exit avg fuel small large st h

/-- the biased coin, counting form: when `proba[col] = h/m`, exactly `h` of the `m` equally
    spaced values `u = i/m` return the column and `m-h` return its alias -/
theorem C09_coin (T : Tables) (m col h : Nat) (hm : 0 < m) (hh : h ≤ m)
    (hp : T.proba.getD col 0 = (h : Rat) / (m : Rat)) (hne : T.alias.getD col 0 ≠ col) :
    coinCount T m col col = h ∧ coinCount T m col (T.alias.getD col 0) = m - h :=
  coinCount_heads T m col h hm hh hp hne

example : coinCount (build [2, 1, 1]) 4 1 1 = 3 ∧ coinCount (build [2, 1, 1]) 4 1 0 = 1 := by decide +kernel

/-- LexiconSampler: the probability of drawing the value `v` is the total normalised weight of
    the positions holding `v` -/
theorem C09_lexicon {α : Type} [DecidableEq α] (lexicon : List α) (probs : Option (List Rat))
    (hs : (lexWeights lexicon.length probs).sum ≠ 0) (v : α) :
    lexDist lexicon probs v = lexSpec lexicon probs v := by
  unfold lexDist lexSpec
  simp only []
  congr 1
  apply List.map_congr_left
  intro i _
  exact C09_alias _ hs i

example : lexDist ["a", "b", "a"] (some [2, 1, 1]) "a" = 3 / 4 := by decide +kernel
example : lexDist ["a", "b", "a"] none "a" = 2 / 3 := by decide +kernel
example : (lexWeights 3 none).sum ≠ 0 := by decide +kernel

/-- ListSampler given plain probabilities: index `i` of the length sampler means length `i+1` -/
theorem C09_length_table (ps : List Rat) (i : Nat) (h : i < ps.length) :
    (lengthTable ps)[i]? = some (i + 1, ps.getD i 0) := by
  simp [lengthTable, h]

/-- ListSampler: a value of list type is a list whose length is the entry of the length table
    selected by the next draw of the length sampler -/
theorem C09_list_shape (md : Int) (mapping : List Nat) (t : VTy) (d d' : LDraws) (v : Val)
    (h : listSampleFor md mapping (.list t) d = some (v, d')) :
    ∃ i r len vs, d.lens = i :: r ∧ mapping[i]? = some len ∧ v = Tree.node none vs ∧ vs.length = len := by
  unfold listSampleFor at h
  split at h
  · split at h; · cases h
    rename_i i r hl
    split at h; · cases h
    rename_i len hm
    obtain ⟨vs, hv, hlen⟩ := list_shape_aux _ _ _ _ _ h
    exact ⟨i, r, len, vs, hl, hm, hv, hlen⟩
  · cases h

example : (listSampleFor (-1) [1, 2, 3] (.list (.list (.base "int"))) ⟨[1, 0, 2], ["x", "y", "z", "w"]⟩).map (·.1) =
    some (Tree.node none [Tree.node none [Tree.leaf (some "x")],
                          Tree.node none [Tree.leaf (some "y"), Tree.leaf (some "z"), Tree.leaf (some "w")]]) := by
  decide +kernel

/-- UnionSampler: the sampler registered for the requested type, else the fallback -/
theorem C09_union_dispatch {σ : Type} (samplers : AList VTy σ) (fallback : Option σ) (t : VTy) :
    (∀ s, AList.lookup t samplers = some s → unionPick samplers fallback t = some s) ∧
    (AList.lookup t samplers = none → unionPick samplers fallback t = fallback) := by
  constructor
  · intro s h; simp [unionPick, h]
  · intro h; simp [unionPick, h]

/-- rule tables are Python dicts: no symbol occurs twice at a non-terminal -/
def KeysNodup (G : DetG) : Prop :=
  ∀ S rules, AList.lookup S G = some rules → (rules.map (·.1)).Nodup

/-- every program returned by `ProbDetGrammar.sample_program` is a program of the grammar — for
    every grammar whose rows are dicts, every content of the draw streams, every start non-terminal, every pending
    information stack and every recursion bound -/
theorem C09_sample_member (G : DetG) (hG : KeysNodup G) (fuel : Nat) (d : Draws) (S : NT)
    (info : List NT) (t : Tree Sym) (d' : Draws)
    (h : sampleDet G fuel d S info = some (t, d')) : derives G S t = true :=
  sampleDet_derives G hG fuel d S info t d' h

/-- with independent draws distributed as the rule weights, the probability that
    `sample_program` returns `t` is the product of the weights of the rules used in `t` (and 0
    outside the language) — what `ProbDetGrammar.probability` reports; for programs whose depth
    the recursion bound `fuel` admits, and rows that are dicts -/
theorem C09_sample_dist (G : DetG) (hG : KeysNodup G) (fuel : Nat) (S : NT) (t : Tree Sym)
    (hd : Tree.depth t ≤ fuel) :
    Dist.mass (sampleDist G fuel S) t = prob G S t :=
  sampleDist_mass G hG fuel S t hd

def exG : DetG := [(0, [(10, ([1, 1], 1/2)), (11, ([], 1/2))]), (1, [(11, ([], 1/4)), (12, ([], 3/4))])]

example : KeysNodup exG := by
  intro S rules h
  simp only [exG, AList.lookup] at h
  split at h
  · cases h; decide
  · split at h
    · cases h; decide
    · cases h
example : sampleProgram exG 5 [(0, [0, 1]), (1, [1, 0, 1])] 0 =
    some (Tree.node 10 [Tree.leaf 12, Tree.leaf 11], [(0, [1]), (1, [1])]) := by decide +kernel
example : derives exG 0 (Tree.node 10 [Tree.leaf 12, Tree.leaf 11]) = true := by decide +kernel
example : Dist.mass (sampleDist exG 3 0) (Tree.node 10 [Tree.leaf 12, Tree.leaf 11]) = 3 / 32 := by decide +kernel
example : prob exG 0 (Tree.node 10 [Tree.leaf 12, Tree.leaf 11]) = 3 / 32 := by decide +kernel

/-- the same for `ProbUGrammar.sample_program` (start draw, rule draw, alternative draw), for
    grammars whose rows are dicts and in which the arity of a symbol does not depend on the rule -/
theorem C09_sampleU_member (G : UG) (ar : Sym → Nat) (hK : UKeysNodup G) (hR : URanked G ar)
    (starts : List NT) (fuel : Nat) (d : UDraws) (t : Tree Sym) (d' : UDraws)
    (h : sampleProgramU G starts fuel d = some (t, d')) :
    ∃ S ∈ starts, derivesU G S t = true :=
  sampleProgramU_derives G ar hK hR starts fuel d t d' h

def exU : UG := [(0, [(10, [([1, 1], 1/4), ([2, 1], 1/4)]), (11, [([], 1/2)])]), (1, [(11, [([], 1)])]), (2, [(12, [([], 1)])])]

example : (sampleProgramU exU [0] 5 ⟨[0], [(0, [0]), (1, [0, 0]), (2, [0])], [((0, 10), [1])]⟩).map (·.1) =
    some (Tree.node 10 [Tree.leaf 12, Tree.leaf 11]) := by
  decide +kernel
example : derivesU exU 0 (Tree.node 10 [Tree.leaf 12, Tree.leaf 11]) = true := by decide +kernel

/-- `ProbUGrammar.init_sampling(seed)` gives pairwise distinct seeds to the rule samplers, the start
    sampler and the alternative samplers (two alias samplers with equal seeds return the same
    stream, which would contradict the independence assumed by `C09_sample_dist`) -/
theorem C09_seeds_distinct (seed nTags nRules : Nat) : (allSeedsU seed nTags nRules).Nodup := by
  rw [allSeedsU_eq_range]
  exact nodup_map_add_range _ _

/-- the same for `ProbDetGrammar.init_sampling(seed)` -/
theorem C09_det_seeds_distinct (seed nTags : Nat) : (detSeeds seed nTags).Nodup :=
  nodup_map_add_range seed nTags

example : allSeedsU 5 3 2 = [5, 6, 7, 8, 9, 10] := by decide

/-- finding C09-F4 (`allSeedsOld` = the code before 28466c8, fixes_applied/C09-F4.diff): with
    `seed + 7 * i` for the alternatives of the i-th non-terminal, a grammar with 8 non-terminals
    already has two samplers with the same seed (alternatives of the 2nd = rules of the 8th, and
    alternatives of the 1st = rules of the 1st) -/
theorem finding_seed_collision : ¬ (allSeedsOld 5 [1, 1, 1, 1, 1, 1, 1, 2]).Nodup := by decide

/-- same seed ⇒ same sequence, in the model: the sequence of sampled programs is a function of
    the grammar and of the draw streams only (there is no other state).  That is already the
    type of `sampleSeq`; the statement below is congruence and adds nothing to it.  On the
    implementation this is a correspondence observable (two samplers / two `init_sampling(seed)`,
    equal seeds). -/
theorem C09_seed_det (G : DetG) (fuel : Nat) (start : NT) (n : Nat) (d₁ d₂ : Draws) (h : d₁ = d₂) :
    sampleSeq G fuel start n d₁ = sampleSeq G fuel start n d₂ := by
  rw [h]

end PS.Props.C09
