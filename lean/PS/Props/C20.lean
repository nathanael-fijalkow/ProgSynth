/-
  C20 — Filters compose as predicates; obs-equivalence keeps one representative.
  Model: PS/Model/Filter.lean.
-/
import PS.Proofs.Filter
namespace PS.C20

/-- `(f & g).accept(x) == (f.accept(x) and g.accept(x))` for all filters, whatever their
    nesting (both operands may already be intersections). -/
theorem C20_and (env : Nat → Bool) (f g : Flt) :
    accept env (mkInter f g) = (accept env f && accept env g) := by
  unfold mkInter
  split <;> simp [accept, acceptAll, acceptAll_append, Bool.and_comm]

/-- `(f | g).accept(x) == (f.accept(x) or g.accept(x))`. -/
theorem C20_or (env : Nat → Bool) (f g : Flt) :
    accept env (mkUnion f g) = (accept env f || accept env g) := by
  unfold mkUnion
  split <;> simp [accept, acceptAny, acceptAny_append, Bool.or_comm]

/-- `(-f).accept(x) == not f.accept(x)` (including the shortcut `-(-f) is f`). -/
theorem C20_neg (env : Nat → Bool) (f : Flt) :
    accept env (mkNeg f) = !(accept env f) := by
  cases f <;> simp [mkNeg, accept]

/-- `reject` is always the negation of `accept`. -/
theorem C20_reject (env : Nat → Bool) (f : Flt) : reject env f = !(accept env f) := rfl

/-- Every expression written with `&`, `|`, `-` accepts exactly the conjunction /
    disjunction / negation of what its atoms accept. -/
theorem C20_expr (env : Nat → Bool) (e : Expr) : accept env (build e) = sem env e := by
  induction e with
  | atom i => simp [build, accept, sem]
  | and a b iha ihb => simp [build, sem, C20_and, iha, ihb]
  | or a b iha ihb => simp [build, sem, C20_or, iha, ihb]
  | neg a ih => simp [build, sem, C20_neg, ih]

-- non-vacuity: the doubly nested case (finding C20-F1: the dispatch of the code before 1eaa923
-- recursed forever on it)
example : accept (fun i => i % 2 == 0)
    (build (.and (.and (.atom 0) (.atom 2)) (.and (.atom 4) (.atom 1)))) = false := by decide +kernel
example : accept (fun i => i % 2 == 0)
    (build (.or (.or (.atom 1) (.atom 3)) (.or (.atom 5) (.atom 0)))) = true := by decide +kernel

/-- **C20 (obs-equivalence).**  For every sequence of presentations (with repetitions),
    the filter's verdicts are exactly: "evaluates on all reference inputs and no previously
    accepted program of the same type with the same outputs is a different program". -/
theorem C20_obseq (items : List Item) : run items = specRun items := by
  apply runFrom_spec
  intro k
  simp [accs, AList.lookup]

/-- Re-presenting an accepted program accepts it again: if `it` is accepted after history
    `hist` (as specified), it is accepted again right after. -/
theorem C20_represent (hist : List (Item × Bool)) (it : Item)
    (h : specAccept hist it = true) :
    specAccept (hist ++ [(it, true)]) it = true := by
  unfold specAccept at *
  simp only [Bool.and_eq_true, List.all_append, List.all_cons, List.all_nil] at *
  refine ⟨h.1, h.2, ?_⟩
  simp

/-- Accepted presentations are pairwise distinguishable: two accepted presentations of
    different programs (different hashes) never have the same type and the same outputs. -/
theorem C20_distinguishable (hist : List (Item × Bool)) (it : Item)
    (h : specAccept hist it = true) :
    ∀ jb ∈ hist, jb.2 = true → jb.1.h ≠ it.h → ¬ (jb.1.ty = it.ty ∧ jb.1.outs = it.outs) := by
  intro jb hjb hacc hne ⟨h1, h2⟩
  unfold specAccept at h
  simp only [Bool.and_eq_true, List.all_eq_true] at h
  have := h.2 jb hjb
  simp [hacc, h1, h2, hne] at this

/-- Every behaviour seen has a representative: a presentation that evaluates and is rejected
    is rejected *because* an accepted one with the same type and outputs exists. -/
theorem C20_representative (hist : List (Item × Bool)) (it : Item)
    (hev : it.outs.isSome = true) (h : specAccept hist it = false) :
    ∃ jb ∈ hist, jb.2 = true ∧ jb.1.ty = it.ty ∧ jb.1.outs = it.outs := by
  unfold specAccept at h
  simp only [hev, Bool.true_and] at h
  rw [List.all_eq_false] at h
  obtain ⟨jb, hjb, hx⟩ := h
  refine ⟨jb, hjb, ?_⟩
  simp only [Bool.not_eq_true, Bool.not_eq_false', Bool.and_eq_true, beq_iff_eq] at hx
  exact ⟨hx.1.1.1, hx.1.1.2, hx.1.2⟩

-- non-vacuity: a history with a failure, a duplicate behaviour and a re-presentation
example : run [⟨0, "int", 10, some ["1"]⟩, ⟨1, "int", 11, some ["1"]⟩, ⟨2, "int", 12, none⟩,
               ⟨0, "int", 10, some ["1"]⟩, ⟨3, "bool", 13, some ["1"]⟩]
    = [true, false, false, true, true] := by decide +kernel

end PS.C20
