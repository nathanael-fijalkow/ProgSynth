/-
  C16 — Equal types/programs hash equally and survive persistence across processes.
  Model and specification: PS/Model/HashEq.lean.

  `pyEq h a b` / `pyHash h a` are the LITERAL model of `a == b` / `hash(a)` (class-by-class `__eq__`,
  reflected `__eq__` of the subclass first, CPython's set algorithms with hash pre-test, the
  constructors' cached-hash expressions) in a process whose builtin hash functions are `h`;
  `h` ranges over ALL functions (`HashFns`), the only law being `h.Lawful`: the hash of a
  frozenset does not depend on the order of its entries.  No bound on sizes or depths.
-/
import PS.Proofs.HashEq
import PS.Proofs.HashEqAssign
namespace PS.C16
open PS

/-! ## equality is an equivalence relation, whatever the hash seed -/

/-- the literal `==` is the structural specification `eqS` (sums and restricted variables as
    sets, variables by index, …) — in particular it does not depend on the hash functions -/
theorem C16_pyEq_eq_spec (h : HashFns) (hl : h.Lawful) (a b : T) : pyEq h a b = eqS a b :=
  pyEq_eq_spec h hl a b

theorem C16_eq_seed_independent (h h' : HashFns) (hl : h.Lawful) (hl' : h'.Lawful) (a b : T) :
    pyEq h a b = pyEq h' a b := by
  rw [pyEq_eq_spec h hl, pyEq_eq_spec h' hl']

theorem C16_eq_refl (h : HashFns) (hl : h.Lawful) (a : T) : pyEq h a a = true := by
  rw [pyEq_eq_spec h hl]; exact eqS_refl a

theorem C16_eq_symm (h : HashFns) (hl : h.Lawful) (a b : T) : pyEq h a b = pyEq h b a := by
  rw [pyEq_eq_spec h hl, pyEq_eq_spec h hl]; exact eqS_comm a b

theorem C16_eq_trans (h : HashFns) (hl : h.Lawful) (a b c : T) :
    pyEq h a b = true → pyEq h b c = true → pyEq h a c = true := by
  rw [pyEq_eq_spec h hl, pyEq_eq_spec h hl, pyEq_eq_spec h hl]; exact eqS_trans a b c

/-! ## equal objects have equal hashes and are interchangeable as keys -/

theorem C16_pyHash_eq_spec (h : HashFns) (hl : h.Lawful) (a : T) : pyHash h a = hashS h a :=
  pyHash_eq_spec h hl a

/-- `a == b → hash(a) == hash(b)`, for every pair of objects and every hash seed -/
theorem C16_eq_hash (h : HashFns) (hl : h.Lawful) (a b : T) :
    pyEq h a b = true → pyHash h a = pyHash h b := by
  rw [pyEq_eq_spec h hl, pyHash_eq_spec h hl, pyHash_eq_spec h hl]
  exact eqS_hashS h hl a b

/-- looking `a` up in a set/dict that holds `b` succeeds exactly when `a == b` -/
theorem C16_memkey (h : HashFns) (hl : h.Lawful) (a b : T) : memKey h a b = pyEq h a b := by
  rw [memKey_eq_spec h hl, pyEq_eq_spec h hl]

/-- equal objects are interchangeable as keys: they find, and are found by, the same entries -/
theorem C16_memkey_congr (h : HashFns) (hl : h.Lawful) (a a' b : T) (he : pyEq h a a' = true) :
    memKey h a b = memKey h a' b ∧ memKey h b a = memKey h b a' := by
  rw [pyEq_eq_spec h hl] at he
  simp only [memKey_eq_spec h hl]
  exact ⟨eqS_congr_left he b, by rw [eqS_comm b a, eqS_comm b a']; exact eqS_congr_left he b⟩

/-! ## persistence: the reducers rebuild the object, with the hash of the NEW process -/

/-- the constructors cache exactly `hash(object)` -/
theorem C16_cached_hash (h : HashFns) (hl : h.Lawful) (t : T) : cached (build h t) = pyHash h t :=
  cached_build h hl t

/-- pickling in a process with hash functions `h` and unpickling in a process with `h'` yields
    the object the constructors would build in the new process (fields and cached hashes) -/
theorem C16_pickle_id (h h' : HashFns) (t : T) (hw : wf t = true) :
    unpickle h' (pickle (build h t)) = build h' t := by
  rw [pickle_eq_erase, erase_build, unpickle_eq_build h' t hw]

theorem C16_pickle_eq (h h' : HashFns) (hl' : h'.Lawful) (t : T) (hw : wf t = true) :
    pyEq h' (erase (unpickle h' (pickle (build h t)))) t = true := by
  rw [C16_pickle_id h h' t hw, erase_build]; exact C16_eq_refl h' hl' t

/-- the rebuilt object carries the hash of the NEW process (nothing of `h` survives) -/
theorem C16_pickle_hash (h h' : HashFns) (hl' : h'.Lawful) (t : T) (hw : wf t = true) :
    cached (unpickle h' (pickle (build h t))) = pyHash h' t := by
  rw [C16_pickle_id h h' t hw]; exact cached_build h' hl' t

/-- hence a loaded object finds and is found by exactly the keys its original would -/
theorem C16_pickle_memkey (h h' : HashFns) (t b : T) (hw : wf t = true) :
    memKey h' (erase (unpickle h' (pickle (build h t)))) b = memKey h' t b ∧
    memKey h' b (erase (unpickle h' (pickle (build h t)))) = memKey h' b t := by
  rw [C16_pickle_id h h' t hw, erase_build]; exact ⟨rfl, rfl⟩

/-- objects coming out of the constructors satisfy the invariant the theorems above assume -/
theorem C16_constLab_wf (v : PyVal) (r : String) (hv : Bool) : (constLab v r hv).wf = true := by
  cases hv <;> cases hn : v.isNone <;> simp [constLab, Lab.wf, hn]

/-! ## `Constant.assign` / `reset` -/

/-- assigning (or resetting) a constant that is not inside another program leaves exactly the
    object a fresh constructor call would build — cached hash included -/
theorem C16_assign_partial (h : HashFns) (hv hv' : Bool) (v v' : PyVal) (r r' : String) (ks : List T) :
    assignAt h hv' v' r' [] (build h (.node (.pconst hv v r) ks)) = build h (.node (.pconst hv' v' r') ks) := by
  rw [build, construct, assignAt, build]

/- (code without the repair of C16-F7)  The full statement — for every path `p` to a constant,
     `cached (assignAt h hv v r p (build h t)) = pyHash h (erase (assignAt h hv v r p (build h t)))` —
   is FALSE for `p ≠ []` (finding C16-F7): `assign` recomputes the constant's own hash only, the
   enclosing `Function`/`Lambda` objects keep the hash cached at construction. -/

/-- a (lawful) toy instance of the hash functions, small enough for kernel evaluation -/
def hToy : HashFns where
  str _ := 1
  int n := n
  bool b := if b then 1 else 0
  tuple l := l.foldl (fun acc x => acc * 31 + x) 7
  fset l := l.foldl (· + ·) 0

theorem hToy_lawful : hToy.Lawful :=
  fun _ _ hp => hp.foldl_eq' (fun x _ y _ z => Int.add_right_comm z x y) 0

def intT : T := .node (.tprim "int") []
def fPrim : T := .node (.pprim "f") [.node .tarrow [intT, intT]]
def appConst (hv : Bool) (v : PyVal) (r : String) : T := .node (.pfun false) [fPrim, .node (.pconst hv v r) [intT]]

/-- C16-F7 on the model: `(f <int>)`, then `assign(5)` on the constant: the program now equals the
    freshly built `(f 5)` but still carries the hash computed when it was constructed -/
theorem finding_assign_stale_hash :
    let o := assignAt hToy true (.atom (.int 5)) "5" [1] (build hToy (appConst false (.atom .none) "None"))
    let fresh := appConst true (.atom (.int 5)) "5"
    pyEq hToy (erase o) fresh = true ∧ cached o ≠ pyHash hToy fresh ∧
      cached o = pyHash hToy (appConst false (.atom .none) "None") := by
  decide +kernel

/-! ### the repair of C16-F7 in rejected_fixes/C16-F7.diff, which /repo does not have
   (`Program.__hash__` there returns the cached `self.hash`: `objHash h false`)

  With the repair `Program.__hash__` recomputes the hash of a `Function`/`Lambda` from its
  sub-programs whenever a constant has been assigned or reset since the hash was cached
  (`hashAfter`, PS/Model/HashEq.lean).  The statement that is false without it is then true, for
  every program, every history of `assign`/`reset` calls on its constants (at any depth) and
  every hash seed.  `validOps`: each call targets a constant reached through `Function`/`Lambda`
  objects only (the only way a constant occurs in a program). -/

/-- **after any history of assignments the hash of the program is the hash of a freshly built
    equal program** (repaired code): `hash(o) = hash(fresh)` for every `fresh == o` -/
theorem C16_assign (h : HashFns) (hl : h.Lawful) (t : T) (ops : List Op)
    (hv : validOps h ops (build h t) = true) :
    let o := runOps h ops (build h t)
    objHash h true o = pyHash h (erase o) ∧
    ∀ fresh : T, pyEq h (erase o) fresh = true → objHash h true o = pyHash h fresh := by
  intro o
  have h1 : objHash h true o = pyHash h (erase o) := hashAfter_runOps h hl t ops hv
  exact ⟨h1, fun fresh he => by rw [h1]; exact C16_eq_hash h hl _ _ he⟩

/-- hence the mutated program finds, and is found by, exactly the keys an equal fresh program
    would (what `a in {b}` computes with the repaired `__hash__`) -/
theorem C16_assign_memkey (h : HashFns) (hl : h.Lawful) (t : T) (ops : List Op)
    (hv : validOps h ops (build h t) = true) (b : T) :
    let o := runOps h ops (build h t)
    (pyHash h b == objHash h true o && pyEq h b (erase o)) = pyEq h b (erase o) := by
  intro o
  rw [(C16_assign h hl t ops hv).1]
  show memKey h (erase o) b = pyEq h b (erase o)
  rw [C16_memkey h hl, C16_eq_symm h hl]

/-- the witness of the finding with the repair: `(f <int>)`, `assign(5)`: the hash is now that of
    the fresh `(f 5)`; then `reset()`: the hash of `(f <int>)` again -/
theorem fixed_assign_stale_hash :
    let ops : List Op := [⟨[1], true, .atom (.int 5), "5"⟩]
    let ops2 : List Op := ops ++ [⟨[1], false, .atom .none, "None"⟩]
    let t := appConst false (.atom .none) "None"
    validOps hToy ops2 (build hToy t) = true ∧
    objHash hToy true (runOps hToy ops (build hToy t)) = pyHash hToy (appConst true (.atom (.int 5)) "5") ∧
    objHash hToy false (runOps hToy ops (build hToy t)) ≠ pyHash hToy (appConst true (.atom (.int 5)) "5") ∧
    objHash hToy true (runOps hToy ops2 (build hToy t)) = pyHash hToy t := by
  decide +kernel

-- non-vacuity of `C16_assign`: a constant under a lambda under a function, two assignments
example :
    let t : T := .node (.pfun false) [fPrim, .node .plam [appConst false (.atom .none) "None", intT]]
    let ops : List Op := [⟨[1, 0, 1], true, .atom (.int 5), "5"⟩, ⟨[1, 0, 1], true, .atom (.int 7), "7"⟩]
    validOps hToy ops (build hToy t) = true ∧
    erase (runOps hToy ops (build hToy t))
      = .node (.pfun false) [fPrim, .node .plam [appConst true (.atom (.int 7)) "7", intT]] := by
  decide +kernel

/-! ## non-vacuity -/

def boolT : T := .node (.tprim "bool") []
-- permuted / duplicated sums are equal and hash equally (C16-F1), nested sums are not flattened
theorem toy_sum_eq : pyEq hToy (.node .tsum [intT, boolT]) (.node .tsum [boolT, intT, intT]) = true := by
  decide +kernel
example : pyEq hToy (.node .tsum [intT, boolT]) (.node .tsum [boolT, intT, intT]) = true := toy_sum_eq
example : pyHash hToy (.node .tsum [intT, boolT]) = pyHash hToy (.node .tsum [boolT, intT, intT]) :=
  C16_eq_hash hToy hToy_lawful _ _ toy_sum_eq
example : pyEq hToy (.node .tsum [.node .tsum [intT, boolT]]) (.node .tsum [intT, boolT]) = false := by decide +kernel
-- a restricted variable never equals the plain variable of the same name, either way round
example : pyEq hToy (.node (.tpoly "a") []) (.node (.tfpoly "a") [intT]) = false ∧
    pyEq hToy (.node (.tfpoly "a") [intT]) (.node (.tpoly "a") []) = false := by decide +kernel
-- variables are identified by their index, typed or not
example : pyEq hToy (.node (.pvar 0) [intT]) (.node (.pvar 0) [.node .unknown []]) = true := by decide +kernel
-- 1 and True are ==, but print differently: the constants differ
example : valEq (.atom (.int 1)) (.atom (.bool true)) = true ∧
    pyEq hToy (.node (.pconst true (.atom (.int 1)) "1") [intT]) (.node (.pconst true (.atom (.bool true)) "True") [intT]) = false := by
  decide +kernel
-- a well-formed object with a constant
example : wf (appConst true (.atom (.int 5)) "5") = true := by decide +kernel

end PS.C16
