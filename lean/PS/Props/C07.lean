/-
  C07 — Tree-automaton operations are the language operations they are named after.
  Model: PS/Model/Dfta.lean.
  The statements about `states`, `reduce`, product, union, renamings and quotients are for
  arbitrary partial deterministic automata (`Det`: the rule table has no duplicate key, which
  every Python dict satisfies), any alphabet, any state type, and every tree — no bound on sizes
  or depths.  Of `minimise`, determinism and termination hold as generally; its language needs
  `AllReach`, its minimality `Trim`, and `reduce` establishes both (`C07_reduce_trim`).
-/
import PS.Proofs.Dfta
import PS.Proofs.DftaUnion
import PS.Proofs.DftaQuot
import PS.Proofs.DftaMin
import PS.Proofs.DftaMinimal
namespace PS.C07
open PS DFTA

variable {σ Q Q₁ Q₂ X : Type} [DecidableEq σ] [DecidableEq Q] [DecidableEq Q₁] [DecidableEq Q₂]
  [DecidableEq X]

/-- **states.** `DFTA.states` is exactly the set of states some tree is read into (and it has
    no duplicates, so `len(dfta.states)` counts them). -/
theorem C07_states (A : DFTA σ Q) (hd : A.Det) (q : Q) :
    q ∈ A.states ↔ ∃ t, run A t = some q :=
  mem_states_iff A hd q

theorem C07_states_nodup (A : DFTA σ Q) (hd : A.Det) : A.states.Nodup := states_nodup A hd

/-- **reduce.** Removing unreachable and unproductive states keeps the language (and the
    table deterministic). -/
theorem C07_reduce (A : DFTA σ Q) (hd : A.Det) (t : Tree σ) :
    (reduce A).accepts t = A.accepts t :=
  accepts_reduce A hd t

theorem C07_reduce_det (A : DFTA σ Q) (hd : A.Det) : (reduce A).Det := reduce_det A hd

/-- **read_product.** The product reads a tree into the pair of the two runs (defined iff
    both are) … -/
theorem C07_product_run (A : DFTA σ Q₁) (B : DFTA σ Q₂) (ha : A.Det) (hb : B.Det) (t : Tree σ) :
    run (readProduct A B) t = optPair (run A t) (run B t) :=
  run_product A B ha hb t

/-- … hence accepts exactly the intersection of the two languages. -/
theorem C07_product (A : DFTA σ Q₁) (B : DFTA σ Q₂) (ha : A.Det) (hb : B.Det) (t : Tree σ) :
    (readProduct A B).accepts t = (A.accepts t && B.accepts t) :=
  accepts_product A B ha hb t

theorem C07_product_det (A : DFTA σ Q₁) (B : DFTA σ Q₂) : (readProduct A B).Det :=
  readProduct_det A B

/-- **read_union**, for every injective `fusion` (before the final `reduce`): a tree is read
    into the fusion of the two partial runs as soon as one of them is defined. -/
theorem C07_union_run (fusion : Option Q₁ → Option Q₂ → X)
    (hinj : ∀ a b a' b', fusion a b = fusion a' b' → a = a' ∧ b = b')
    (A : DFTA σ Q₁) (B : DFTA σ Q₂) (ha : A.Det) (hb : B.Det) (t : Tree σ) :
    run (unionRaw fusion A B) t = optFuse fusion (run A t) (run B t) :=
  run_unionRaw fusion hinj A B ha hb t

theorem C07_union_fusion (fusion : Option Q₁ → Option Q₂ → X)
    (hinj : ∀ a b a' b', fusion a b = fusion a' b' → a = a' ∧ b = b')
    (A : DFTA σ Q₁) (B : DFTA σ Q₂) (ha : A.Det) (hb : B.Det) (t : Tree σ) :
    (readUnionWith fusion A B).accepts t = (A.accepts t || B.accepts t) :=
  accepts_readUnionWith fusion hinj A B ha hb t

/-- `read_union` with the default fusion accepts exactly the union of the two languages. -/
theorem C07_union (A : DFTA σ Q₁) (B : DFTA σ Q₂) (ha : A.Det) (hb : B.Det) (t : Tree σ) :
    (readUnion A B).accepts t = (A.accepts t || B.accepts t) :=
  accepts_readUnionWith _ (fun _ _ _ _ => Prod.mk.inj) A B ha hb t

theorem C07_union_det (A : DFTA σ Q₁) (B : DFTA σ Q₂) : (readUnion A B).Det :=
  reduce_det _ (unionRaw_det _ A B)

/-- **map_states.** A renaming that is injective on the states mentioned by the automaton
    (rules and final states) changes nothing: same runs up to the renaming, same language. -/
theorem C07_map_run (f : Q → X) (A : DFTA σ Q) (hd : A.Det)
    (hinj : ∀ x, x ∈ allStates A → ∀ y, y ∈ allStates A → f x = f y → x = y) (t : Tree σ) :
    run (mapStates f A) t = (run A t).map f :=
  run_mapStates f A hd hinj t

theorem C07_map (f : Q → X) (A : DFTA σ Q) (hd : A.Det)
    (hinj : ∀ x, x ∈ allStates A → ∀ y, y ∈ allStates A → f x = f y → x = y) (t : Tree σ) :
    (mapStates f A).accepts t = A.accepts t :=
  accepts_mapStates f A hd hinj t

/-- **quotients.** Renaming the states by ANY map `c` that passes the executable congruence
    certificate (same-named states are both final or both not; replacing one by the other at
    one position of a rule leads to a rule whose target has the same name) keeps the language.
    `C07_map` is the special case of an injective `c`. -/
theorem C07_quotient (c : Q → X) (A : DFTA σ Q) (hd : A.Det)
    (hc : congruenceCert A c (stateSet A) = true) (t : Tree σ) :
    (mapStates c A).accepts t = A.accepts t :=
  accepts_quotient A hd c _ (allStates_subset_stateSet A) hc t

/-- **minimise, determinism.** Whatever partition the refinement loop ends with, for every
    initial class order, every `mapping` and every number of passes, the returned table has no
    duplicate key. -/
theorem C07_min_det (f : List Q → X) (A : DFTA σ Q) (cls0 cls1 : List Q) (fuel : Nat) (M : DFTA σ X)
    (h : minimiseCore f A cls0 cls1 fuel = some M) : M.Det :=
  minimiseCore_det f A cls0 cls1 fuel M h

/-- **minimise, language (certificate form).** `minimise` returns the quotient of its input
    by its final partition `st`, and whenever that partition passes the congruence certificate
    — which the driver evaluates on the model's final partition in every correspondence run —
    the minimised automaton accepts exactly the trees the input accepts.
    (It does whenever every state is reachable: `C07_min_cert`, whence the certificate-free
    `C07_min_lang`.) -/
theorem C07_min_lang_cert (f : List Q → X) (A : DFTA σ Q) (hd : A.Det) (cls0 cls1 : List Q)
    (fuel : Nat) (M : DFTA σ X) (h : minimiseCore f A cls0 cls1 fuel = some M) :
    ∃ st, minimiseState A cls0 cls1 fuel = some st ∧
      M = mapStates (fun q => f (clsTuple st q)) A ∧
      (congruenceCert A (fun q => f (clsTuple st q)) (stateSet A) = true →
        ∀ t, M.accepts t = A.accepts t) := by
  obtain ⟨st, hst, rfl⟩ := minimiseCore_eq f A cls0 cls1 fuel M h
  exact ⟨st, hst, rfl, fun hc t => accepts_quotient A hd _ _ (allStates_subset_stateSet A) hc t⟩

/-! ### non-vacuity: cyclic automata over {z/0, s/1, f/2} -/
namespace Example
def z : Tree String := .node "z" []
def s (t : Tree String) : Tree String := .node "s" [t]
def f (a b : Tree String) : Tree String := .node "f" [a, b]
/-- odd numbers; state 7 is unreachable, state 2 is an unproductive cycle -/
def odd : DFTA String Nat :=
  { rules := [(("z", []), 0), (("s", [0]), 1), (("s", [1]), 0), (("s", [7]), 1), (("f", [0, 0]), 2),
              (("f", [2, 2]), 2)], finals := [1] }
/-- numbers divisible by three -/
def three : DFTA String Nat :=
  { rules := [(("z", []), 0), (("s", [0]), 1), (("s", [1]), 2), (("s", [2]), 0)], finals := [0] }
theorem odd_det : odd.Det := by decide +kernel
theorem three_det : three.Det := by decide +kernel
example : odd.Det := odd_det
example : three.Det := three_det
example : odd.states = [0, 1, 2] := by decide +kernel
example : (reduce odd).rules = [(("z", []), 0), (("s", [0]), 1), (("s", [1]), 0)] := by decide +kernel
example : (readProduct odd three).accepts (s (s (s z))) = true := by decide +kernel
example : (readProduct odd three).accepts (s z) = false := by decide +kernel
set_option maxRecDepth 8000 in
example : (readUnion odd three).accepts (s z) = true ∧ (readUnion odd three).accepts (s (s z)) = false := by
  rw [C07_union odd three odd_det three_det, C07_union odd three odd_det three_det]
  decide +kernel
example : (mapStates (· + 10) odd).accepts (s z) = true := by decide +kernel
/-- numbers modulo 4, final: 1 and 3 — minimises to the two states of `odd` -/
def mod4 : DFTA String Nat :=
  { rules := [(("z", []), 0), (("s", [0]), 1), (("s", [1]), 2), (("s", [2]), 3), (("s", [3]), 0)], finals := [1, 3] }
example : (minimise mod4).map (fun M => M.rules) =
    some [(("z", []), [2, 0]), (("s", [[2, 0]]), [3, 1]), (("s", [[3, 1]]), [2, 0])] := by decide +kernel
example : (minimiseState mod4 [0, 2] [1, 3] 6).map
    (fun st => congruenceCert mod4 (clsTuple st) (stateSet mod4)) = some true := by decide +kernel
-- a non-injective renaming that is not a congruence fails the certificate
example : congruenceCert mod4 (fun q => q % 3) (stateSet mod4) = false := by decide +kernel
end Example

/-! ### non-vacuity of the `minimise` theorems
  trees over {a/0, b/0, f/2}; a partial table with a binary letter; states 2 and 3 are
  equivalent, 0 and 1 are not (f(0,1) is defined, f(1,1) is not). -/
namespace MinExample
def par : DFTA String Nat :=
  { rules := [(("a", []), 0), (("b", []), 1), (("f", [0, 1]), 2), (("f", [1, 0]), 3),
              (("f", [2, 2]), 0), (("f", [2, 3]), 0), (("f", [3, 2]), 0), (("f", [3, 3]), 0)],
    finals := [2, 3] }
/-- a three-state automaton for the same language: the quotient of `par` by 2 ~ 3 -/
def par3 : DFTA String Nat := mapStates (fun q => if q = 3 then 2 else q) par
example : par3.rules = [(("a", []), 0), (("b", []), 1), (("f", [0, 1]), 2), (("f", [1, 0]), 2),
    (("f", [2, 2]), 0)] ∧ par3.finals = [2, 2] := by decide +kernel
/-- `par` and `minimise par`, evaluated once for the examples below -/
theorem par_facts : par.Det ∧ Trim par ∧ ∃ M, minimise par = some M ∧
    M.rules = [(("a", []), [0]), (("b", []), [1]), (("f", [[0], [1]]), [2, 3]), (("f", [[1], [0]]), [2, 3]),
      (("f", [[2, 3], [2, 3]]), [0])] ∧ numStates M = 3 := by
  decide +kernel
end MinExample

/-- **minimise, the certificate always holds.** The partition the refinement loop ends with
    (for every order of the two initial classes and every number of passes after which it
    returns) passes the executable congruence certificate, for every injective naming `f` of
    the classes — provided every state the automaton mentions is reachable (`AllReach`, the
    part of "reduced" the code needs: without it the Python raises `KeyError`). -/
theorem C07_min_cert (f : List Q → X) (hf : ∀ a b, f a = f b → a = b) (A : DFTA σ Q) (hd : A.Det)
    (hr : AllReach A) (cls0 cls1 : List Q) (h01 : InitOK A cls0 cls1) (fuel : Nat) (st : MinState Q)
    (h : minimiseState A cls0 cls1 fuel = some st) :
    congruenceCert A (fun q => f (clsTuple st q)) (stateSet A) = true :=
  minimiseState_cert A hr cls0 cls1 h01 fuel st h f hf

/-- **minimise, language** (general form: every order of the two initial classes, every
    injective `mapping`, every number of passes after which the loop returns). -/
theorem C07_min_lang_core (f : List Q → X) (hf : ∀ a b, f a = f b → a = b) (A : DFTA σ Q)
    (hd : A.Det) (hr : AllReach A) (cls0 cls1 : List Q) (h01 : InitOK A cls0 cls1) (fuel : Nat)
    (M : DFTA σ X) (h : minimiseCore f A cls0 cls1 fuel = some M) (t : Tree σ) :
    M.accepts t = A.accepts t :=
  minimiseCore_lang f hf A hd hr cls0 cls1 h01 fuel M h t

/-- **minimise, language.** Minimising a deterministic automaton all of whose states are
    reachable (in particular a reduced one, `C07_reduce_allReach`) leaves its language
    unchanged. -/
theorem C07_min_lang (A : DFTA σ Q) (hd : A.Det) (hr : AllReach A) (M : DFTA σ (List Q))
    (h : minimise A = some M) (t : Tree σ) : M.accepts t = A.accepts t :=
  minimiseCore_lang id (fun _ _ e => e) A hd hr _ _ (initOK_filter A) _ M h t

example : MinExample.par.Det ∧ AllReach MinExample.par ∧
    (minimise MinExample.par).map (fun M => M.rules) =
      some [(("a", []), [0]), (("b", []), [1]), (("f", [[0], [1]]), [2, 3]), (("f", [[1], [0]]), [2, 3]),
            (("f", [[2, 3], [2, 3]]), [0])] := by
  obtain ⟨hd, htrim, M, hM, hr, -⟩ := MinExample.par_facts
  rw [hM]
  exact ⟨hd, htrim.1, congrArg some hr⟩

/-- **minimise, termination.** The `while not finished` loop ends: every pass but the last
    creates a class, classes are disjoint non-empty sets of reachable states (but possibly the
    two initial ones), so `|states| + 1` passes are always enough — the model's `|states| + 2`
    never runs out, for ANY automaton (no hypothesis), any class order and any `mapping`. -/
theorem C07_min_terminates_core (f : List Q → X) (A : DFTA σ Q) (cls0 cls1 : List Q)
    (h01 : InitOK A cls0 cls1) (fuel : Nat) (hfuel : A.states.length + 1 ≤ fuel) :
    ∃ M, minimiseCore f A cls0 cls1 fuel = some M :=
  minimiseCore_terminates f A cls0 cls1 h01 fuel hfuel

theorem C07_min_terminates (A : DFTA σ Q) : ∃ M, minimise A = some M :=
  minimiseCore_terminates id A _ _ (initOK_filter A) _ (by omega)

example : ∃ M, minimise MinExample.par = some M ∧ numStates M = 3 :=
  MinExample.par_facts.2.2.imp fun _ h => ⟨h.1, h.2.2⟩

/-- **reduce returns a trim automaton** (`Trim`: every state it mentions is reachable, and every
    reachable state is productive), i.e. the precondition of the `minimise` theorems. -/
theorem C07_reduce_trim (A : DFTA σ Q) (hd : A.Det) : Trim (reduce A) := trim_reduce A hd

theorem C07_reduce_allReach (A : DFTA σ Q) (hd : A.Det) : AllReach (reduce A) := (trim_reduce A hd).1

example : Trim (reduce Example.odd) ∧ ¬ AllReach Example.odd := by
  decide +kernel

/-- **minimise, minimality** (general form: every class order, injective `mapping`, number of
    passes).  No deterministic automaton with the same language has fewer states than the
    result of minimising a trim automaton (`numStates` = `len(dfta.states)`). -/
theorem C07_min_minimal_core (f : List Q → X) (hf : ∀ a b, f a = f b → a = b) (A : DFTA σ Q)
    (hd : A.Det) (htrim : Trim A) (cls0 cls1 : List Q) (h01 : InitOK A cls0 cls1) (fuel : Nat)
    (M : DFTA σ X) (h : minimiseCore f A cls0 cls1 fuel = some M)
    (B : DFTA σ Q₂) (hb : B.Det) (hl : ∀ t, B.accepts t = A.accepts t) :
    numStates M ≤ numStates B :=
  minimiseCore_minimal f hf A hd htrim cls0 cls1 h01 fuel M h B hb hl

theorem C07_min_minimal (A : DFTA σ Q) (hd : A.Det) (htrim : Trim A) (M : DFTA σ (List Q))
    (h : minimise A = some M) (B : DFTA σ Q₂) (hb : B.Det) (hl : ∀ t, B.accepts t = A.accepts t) :
    numStates M ≤ numStates B :=
  minimiseCore_minimal id (fun _ _ e => e) A hd htrim _ _ (initOK_filter A) _ M h B hb hl

/-- non-vacuity: `par3` (3 states) has the language of `par` (4 states; it is its quotient by
    2 ~ 3, certificate by evaluation), `par` is trim, and the theorem bounds the 3 states of
    `minimise par` by the 3 states of `par3`. -/
example : ∃ M, minimise MinExample.par = some M ∧ numStates M = 3 ∧ numStates MinExample.par3 = 3 ∧
    numStates M ≤ numStates MinExample.par3 := by
  obtain ⟨hd, htrim, M, hM, -, h3⟩ := MinExample.par_facts
  have hd3 : MinExample.par3.Det := by decide +kernel
  refine ⟨M, hM, h3, by decide +kernel, C07_min_minimal _ hd htrim _ hM _ hd3 ?_⟩
  intro t
  exact C07_quotient _ _ hd (by decide +kernel) t

/-- **reduce, then minimise** (how the library uses it): the result exists, is deterministic,
    has the language of the original automaton and the least number of states among all
    deterministic automata with that language. -/
theorem C07_min_reduce (A : DFTA σ Q) (hd : A.Det) :
    ∃ M, minimise (reduce A) = some M ∧ M.Det ∧ (∀ t, M.accepts t = A.accepts t) ∧
      ∀ (B : DFTA σ Q₂), B.Det → (∀ t, B.accepts t = A.accepts t) → numStates M ≤ numStates B := by
  obtain ⟨M, hM⟩ := C07_min_terminates (reduce A)
  have hd' := reduce_det A hd
  have htrim := trim_reduce A hd
  refine ⟨M, hM, C07_min_det id (reduce A) _ _ _ M hM, ?_, ?_⟩
  · intro t
    rw [C07_min_lang (reduce A) hd' htrim.1 M hM t, accepts_reduce A hd t]
  · intro B hb hl
    exact C07_min_minimal (reduce A) hd' htrim M hM B hb (fun t => by rw [hl, accepts_reduce A hd t])

example : ∃ M, minimise (reduce Example.odd) = some M ∧ numStates M = 2 := by decide +kernel

def deadCycle : DFTA String Nat := { rules := [(("z", []), 0), (("s", [0]), 0)], finals := [] }
/-- **Finding C07-F1.**  On the two rules `z -> 0`, `s(0) -> 0` with no final state the language is
    empty, yet `__remove_unproductive__` before repair d6bf5be (fixes_applied/C07-F1.diff; the
    model's `removeUnproductiveOld`) keeps both rules — state 0 is "consumed" by its own cycle —,
    so that `reduce()` returned an automaton that is not trim and `minimise()` of it one that is
    not minimal.  /repo has the repair and the model's `reduce` follows it: the empty table. -/
theorem finding_C07_F1 :
    (removeUnproductiveOld (removeUnreachable deadCycle) 5).rules = deadCycle.rules ∧
    (reduce deadCycle).rules = [] := by decide +kernel

/-- productivity (`Trim`, not only `AllReach`) is needed for `C07_min_minimal`: the dead cycle
    (all states reachable, none productive, empty language) is "minimised" to one state while
    the empty table, with the same language, has none.  (Not a defect: `minimise` is documented
    for reduced automata, and `reduce` returns the empty table here.) -/
example : AllReach deadCycle ∧ ¬ Trim deadCycle ∧
    (∃ M, minimise deadCycle = some M ∧ numStates M = 1) ∧
    numStates ({ rules := [], finals := [] } : DFTA String Nat) = 0 ∧
    ∀ t, ({ rules := [], finals := [] } : DFTA String Nat).accepts t = deadCycle.accepts t := by
  refine ⟨by decide +kernel, by decide +kernel, by decide +kernel,
    by decide +kernel, ?_⟩
  intro t
  rw [accepts_of_finals_nil rfl, accepts_of_finals_nil rfl]

end PS.C07
