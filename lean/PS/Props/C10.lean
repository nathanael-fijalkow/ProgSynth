/-
  C10 — A PBE solver yields exactly the enumerated programs consistent with all examples,
  in enumeration order; True stops, False resumes at the next program; naive and cut-off agree;
  on acceptance the statistics grew by the rank of the accepted program.

  Model: PS/Model/Solver.lean, lemmas: PS/Proofs/Solver.lean.
  Quantification: every program type, every evaluator `ev` with state that is *faithful* to a
  semantics `spec` under an invariant `Inv` (section A), and — discharging that hypothesis with
  property C11 — the model of the real `DSLEvaluator` for every DSL semantics `S`, cache on or off,
  after every earlier session (tasks, `reset_stats`, `clear_cache`) begun with an empty cache
  (section B); every
  enumeration `es`, every task (`exs`, any number of examples), every answer stream `as`
  (possibly shorter than needed: the generator is then left suspended), every clock `dl`
  ("deadline passed before iteration i"), every state `s` of the solver object left by earlier
  tasks.  No bound on any length.

  The model has repair C10-F1 (fbd5e58, fixes_applied/C10-F1.diff), as /repo does: the naive score on
  a task without examples is 1, not a division by zero.
-/
import PS.Proofs.Solver
import PS.Proofs.SolverRestartStats
import PS.Proofs.SolverRestartGrammarRows
import PS.Proofs.SolverRestartFuel
import PS.Props.C11
set_option linter.unusedSectionVars false
namespace PS.C10
open PS
open PS.C11 (Outcome)

variable {St P I V E : Type} [DecidableEq V]

/-! ## A. every faithful evaluator -/

theorem C10_sat_iff (spec : P → I → Outcome V E) (exs : List (I × V)) (p : P) :
    sat spec exs p = true ↔ ∀ ex ∈ exs, spec p ex.1 = .value ex.2 := by
  simp only [sat, List.all_eq_true, matchesOut_iff]

/-- The programs yielded are exactly, in order, the programs of the enumeration that
    satisfy every example — among those enumerated before an outside event (deadline, escaping
    exception) — up to and including the first one answered True (one more than the number of
    answers when the caller stops answering). -/
theorem C10_yields {ev : Ev St P I V E} {spec : P → I → Outcome V E} {Inv : St → Prop}
    (hF : Faithful ev spec Inv) (k : Kind) (exs : List (I × V)) (s : Solver P) (st : St) (hst : Inv st)
    (es : List P) (dl as : List Bool) :
    (solve (test k ev exs) s st es dl as).yielded =
      upToAccepted ((es.take (horizon (verdict k spec exs) es dl)).filter (sat spec exs)) as := by
  obtain ⟨hT, hv⟩ := refines_of_faithful hF k exs
  exact yields_spec hT hv es _ st dl as hst

/-- When the clock never strikes and no evaluation raises a
    non-skippable exception: the yielded programs are `es.filter satisfies`, up to and including
    the first answered True. -/
theorem C10_yields_undisturbed {ev : Ev St P I V E} {spec : P → I → Outcome V E} {Inv : St → Prop}
    (hF : Faithful ev spec Inv) (k : Kind) (exs : List (I × V)) (s : Solver P) (st : St) (hst : Inv st)
    (es : List P) (dl as : List Bool) (hdl : ∀ b ∈ dl, b = false)
    (hne : ∀ p ∈ es, ∀ ex ∈ exs, raisedOf (spec p ex.1) = none) :
    (solve (test k ev exs) s st es dl as).yielded = upToAccepted (es.filter (sat spec exs)) as := by
  rw [C10_yields hF k exs s st hst es dl as, horizon_full k spec exs es dl hdl hne, List.take_length]

/-- Whatever the answers, the clock, the solver history and the evaluator
    state: every yielded program was enumerated and its evaluation on every example input equals
    the example output. -/
theorem C10_never_wrong {ev : Ev St P I V E} {spec : P → I → Outcome V E} {Inv : St → Prop}
    (hF : Faithful ev spec Inv) (k : Kind) (exs : List (I × V)) (s : Solver P) (st : St) (hst : Inv st)
    (es : List P) (dl as : List Bool) (p : P)
    (hp : p ∈ (solve (test k ev exs) s st es dl as).yielded) :
    p ∈ es ∧ ∀ ex ∈ exs, spec p ex.1 = .value ex.2 := by
  rw [C10_yields hF k exs s st hst es dl as] at hp
  have h := upToAccepted_sublist _ _ p hp
  rw [List.mem_filter] at h
  exact ⟨List.mem_of_mem_take h.1, (C10_sat_iff spec exs p).mp h.2⟩

/-- A program that satisfies every example and that the solver went past
    (its position is below the final value of the counter `_programs`) was yielded. -/
theorem C10_never_skips {ev : Ev St P I V E} {spec : P → I → Outcome V E} {Inv : St → Prop}
    (hF : Faithful ev spec Inv) (k : Kind) (exs : List (I × V)) (s : Solver P) (st : St) (hst : Inv st)
    (pre : List P) (q : P) (post : List P) (dl as : List Bool)
    (hq : ∀ ex ∈ exs, spec q ex.1 = .value ex.2)
    (hpast : pre.length < (solve (test k ev exs) s st (pre ++ q :: post) dl as).solver.programs) :
    q ∈ (solve (test k ev exs) s st (pre ++ q :: post) dl as).yielded := by
  obtain ⟨pre', post', he, h, hn⟩ := solve_ledger hF k exs s st hst (pre ++ q :: post) dl as
  rw [hn] at hpast
  rw [h.yielded]
  exact List.mem_filter.mpr ⟨mem_prefix_of_split he hpast, (C10_sat_iff spec exs q).mpr hq⟩

/-- If the generator ends because the enumeration is
    exhausted, *every* satisfying program of the enumeration was yielded (and the statistics are
    left untouched: `_close_task_solving_` is not called on this path). -/
theorem C10_exhausted {ev : Ev St P I V E} {spec : P → I → Outcome V E} {Inv : St → Prop}
    (hF : Faithful ev spec Inv) (k : Kind) (exs : List (I × V)) (s : Solver P) (st : St) (hst : Inv st)
    (es : List P) (dl as : List Bool)
    (hend : (solve (test k ev exs) s st es dl as).status = .finished .exhausted) :
    (solve (test k ev exs) s st es dl as).yielded = es.filter (sat spec exs) ∧
    (solve (test k ev exs) s st es dl as).solver.statsPrograms = s.statsPrograms ∧
    (solve (test k ev exs) s st es dl as).solver.programs = es.length := by
  obtain ⟨pre, post, he, h, hn⟩ := solve_ledger hF k exs s st hst es dl as
  rw [h.exhausted hend, List.append_nil] at he
  subst he
  exact ⟨h.yielded, (h.unclosed (by rw [hend]; nofun) (by rw [hend]; nofun)).1, hn⟩

/-- When a solution is accepted, it is the program at some position `pre.length` of
    the enumeration, every satisfying program before it was yielded (and refused), and
    `get_stats("programs")` grew by `pre.length + 1`, its 1-based rank — whatever the statistics
    accumulated by earlier tasks. -/
theorem C10_rank {ev : Ev St P I V E} {spec : P → I → Outcome V E} {Inv : St → Prop}
    (hF : Faithful ev spec Inv) (k : Kind) (exs : List (I × V)) (s : Solver P) (st : St) (hst : Inv st)
    (es : List P) (dl as : List Bool)
    (hend : (solve (test k ev exs) s st es dl as).status = .finished .accepted) :
    ∃ pre p post, es = pre ++ p :: post ∧ (∀ ex ∈ exs, spec p ex.1 = .value ex.2) ∧
      (solve (test k ev exs) s st es dl as).yielded = pre.filter (sat spec exs) ++ [p] ∧
      (solve (test k ev exs) s st es dl as).solver.statsPrograms = s.statsPrograms + (pre.length + 1) ∧
      (solve (test k ev exs) s st es dl as).solver.statsLast = some p := by
  obtain ⟨_, post, rfl, h, hn⟩ := solve_ledger hF k exs s st hst es dl as
  obtain ⟨pre, p, rfl, hp, h1, h2, _⟩ := h.accepted hend
  refine ⟨pre, p, post, List.append_assoc .., (C10_sat_iff spec exs p).mp hp, ?_, ?_, h2⟩
  · rw [h.yielded, List.filter_append, List.filter_cons_of_pos hp, List.filter_nil]
  · rw [h1, hn, List.length_append]; rfl

/-- When the deadline strikes before `es[pre.length]`: what satisfied before was
    yielded, the statistics grew by the number `pre.length` of programs tested. -/
theorem C10_timeout {ev : Ev St P I V E} {spec : P → I → Outcome V E} {Inv : St → Prop}
    (hF : Faithful ev spec Inv) (k : Kind) (exs : List (I × V)) (s : Solver P) (st : St) (hst : Inv st)
    (es : List P) (dl as : List Bool)
    (hend : (solve (test k ev exs) s st es dl as).status = .finished .timeout) :
    ∃ pre p post, es = pre ++ p :: post ∧
      (solve (test k ev exs) s st es dl as).yielded = pre.filter (sat spec exs) ∧
      (solve (test k ev exs) s st es dl as).solver.statsPrograms = s.statsPrograms + pre.length ∧
      (solve (test k ev exs) s st es dl as).solver.statsLast = some p := by
  obtain ⟨pre, _, rfl, h, hn⟩ := solve_ledger hF k exs s st hst es dl as
  obtain ⟨p, post, rfl, h1, h2, _⟩ := h.timeout hend
  exact ⟨pre, p, post, rfl, h.yielded, by rw [h1, hn]; rfl, h2⟩

/-- Let `p` be the first program of the enumeration that passes the test (those of
    `pre` are rejected, the clock does not strike up to `p`).  Then `p` is yielded first, and
      * answering True ends the generator at once (nothing else is yielded, accepted),
      * answering False resumes the search at the next program: what follows is what the
        enumeration `post` gives with the remaining answers and clock,
      * not answering leaves the generator suspended. -/
theorem C10_resume {ev : Ev St P I V E} {spec : P → I → Outcome V E} {Inv : St → Prop}
    (hF : Faithful ev spec Inv) (k : Kind) (exs : List (I × V)) (s : Solver P) (st : St) (hst : Inv st)
    (pre : List P) (p : P) (post : List P) (dl as : List Bool)
    (hpre : ∀ q ∈ pre, verdict k spec exs q = .ok false) (hp : verdict k spec exs p = .ok true)
    (hdl : ∀ b ∈ dl.take (pre.length + 1), b = false) :
    (solve (test k ev exs) s st (pre ++ p :: post) dl (true :: as)).yielded = [p] ∧
    (solve (test k ev exs) s st (pre ++ p :: post) dl (true :: as)).status = .finished .accepted ∧
    (solve (test k ev exs) s st (pre ++ p :: post) dl (false :: as)).yielded =
      p :: specYields (verdict k spec exs) (sat spec exs) post (dl.drop (pre.length + 1)) as ∧
    (solve (test k ev exs) s st (pre ++ p :: post) dl []).yielded = [p] ∧
    (solve (test k ev exs) s st (pre ++ p :: post) dl []).status = .suspended := by
  obtain ⟨hT, hv⟩ := refines_of_faithful hF k exs
  obtain ⟨s', st', h1, hinv⟩ := advance_to_yield hT p post hp pre (initTask s) st dl hst hpre hdl
  unfold solve
  rw [h1]
  refine ⟨by simp [drive, send, drive_finished], by simp [drive, send, drive_finished], ?_,
          by simp [drive], by simp [drive]⟩
  simp only [drive, send, Bool.false_eq_true, if_false]
  rw [yields_spec hT hv post s' st' _ as hinv]

/-- Whenever the naive test reaches a verdict, the cut-off test reaches
    the same verdict; whenever the cut-off test accepts, so does the naive test.  (The scores
    differ; and the naive test, which evaluates every example, may propagate an exception of an
    example the cut-off test never evaluates.) -/
theorem C10_naive_cutoff {ev₁ : Ev St P I V E} {St₂ : Type} {ev₂ : Ev St₂ P I V E}
    {spec : P → I → Outcome V E} {Inv₁ : St → Prop} {Inv₂ : St₂ → Prop}
    (hF₁ : Faithful ev₁ spec Inv₁) (hF₂ : Faithful ev₂ spec Inv₂) (exs : List (I × V))
    (st₁ : St) (st₂ : St₂) (h₁ : Inv₁ st₁) (h₂ : Inv₂ st₂) (p : P) :
    (∀ b, (testNaive ev₁ exs st₁ p).2.map Prod.fst = .ok b → (testCutoff ev₂ exs st₂ p).2.map Prod.fst = .ok b) ∧
    ((testCutoff ev₂ exs st₂ p).2.map Prod.fst = .ok true → (testNaive ev₁ exs st₁ p).2.map Prod.fst = .ok true) := by
  have e1 := (test_refines hF₁ .naive exs st₁ p h₁).2
  have e2 := (test_refines hF₂ .cutoff exs st₂ p h₂).2
  simp only [test] at e1 e2
  rw [e1, e2]
  exact ⟨fun b h => verdict_naive_cutoff spec exs p b h, fun h => verdict_cutoff_naive_true spec exs p h⟩

/-- If no evaluation of an enumerated program on an example input raises
    a non-skippable exception, a naive and a cut-off solver (each with its own evaluator, in any
    faithful state, with the same statistics) yield the same programs, end in the same way and
    report the same statistics. -/
theorem C10_naive_cutoff_runs {ev₁ : Ev St P I V E} {St₂ : Type} {ev₂ : Ev St₂ P I V E}
    {spec : P → I → Outcome V E} {Inv₁ : St → Prop} {Inv₂ : St₂ → Prop}
    (hF₁ : Faithful ev₁ spec Inv₁) (hF₂ : Faithful ev₂ spec Inv₂) (exs : List (I × V))
    (s : Solver P) (st₁ : St) (st₂ : St₂) (h₁ : Inv₁ st₁) (h₂ : Inv₂ st₂) (es : List P) (dl as : List Bool)
    (hne : ∀ p ∈ es, ∀ ex ∈ exs, raisedOf (spec p ex.1) = none) :
    (solve (test .naive ev₁ exs) s st₁ es dl as).yielded = (solve (test .cutoff ev₂ exs) s st₂ es dl as).yielded ∧
    (solve (test .naive ev₁ exs) s st₁ es dl as).status = (solve (test .cutoff ev₂ exs) s st₂ es dl as).status ∧
    (solve (test .naive ev₁ exs) s st₁ es dl as).solver.statsPrograms =
      (solve (test .cutoff ev₂ exs) s st₂ es dl as).solver.statsPrograms ∧
    (solve (test .naive ev₁ exs) s st₁ es dl as).solver.statsLast =
      (solve (test .cutoff ev₂ exs) s st₂ es dl as).solver.statsLast := by
  have hag : ∀ p ∈ es, verdict .naive spec exs p = verdict .cutoff spec exs p := fun p hp => by
    rw [verdict_of_no_raise .naive spec exs p (hne p hp), verdict_of_no_raise .cutoff spec exs p (hne p hp)]
  obtain ⟨g1, g2, g3, g4, _⟩ :=
    runs_agree (refines_of_faithful hF₁ .naive exs).1 (refines_of_faithful hF₂ .cutoff exs).1 es
      (initTask s) st₁ dl as h₁ (initTask s) st₂ h₂ hag ⟨rfl, rfl, rfl, rfl⟩
  exact ⟨g1, g2, g3, g4⟩

/-- The documented post-condition of `_test_`: the score is a fraction in [0, 1]
    (denominator positive — no division by zero, also on a task without examples), and it is 1
    whenever the test accepts — for both solvers, every evaluator and every evaluator state. -/
theorem C10_score (k : Kind) (ev : Ev St P I V E) (exs : List (I × V)) (st : St) (p : P) (b : Bool) (sc : Score)
    (h : (test k ev exs st p).2 = .ok (b, sc)) :
    0 < sc.den ∧ sc.num ≤ sc.den ∧ (b = true → sc.num = sc.den) := by
  cases k with
  | naive => exact testNaive_score ev exs st p b sc h
  | cutoff => exact testCutoff_score ev exs st p b sc h

/-- A run leaves the evaluator in a faithful state: the next task on the
    same evaluator starts from a state to which all the theorems above apply again. -/
theorem C10_evaluator_state {ev : Ev St P I V E} {spec : P → I → Outcome V E} {Inv : St → Prop}
    (hF : Faithful ev spec Inv) (k : Kind) (exs : List (I × V)) (s : Solver P) (st : St) (hst : Inv st)
    (es : List P) (dl as : List Bool) :
    Inv (solve (test k ev exs) s st es dl as).st :=
  run_inv (refines_of_faithful hF k exs).1 es _ st dl as hst

/-- After any sequence of tasks (each with its own enumeration, examples, clock and
    answers), `reset_stats()` and `clear_cache()` calls on one solver and one evaluator, the evaluator
    is in a faithful state. -/
theorem C10_session {ev : Ev St P I V E} {spec : P → I → Outcome V E} {Inv : St → Prop}
    (hF : Faithful ev spec Inv) (clear : St → St) (hclear : ∀ st, Inv (clear st)) (k : Kind)
    (ops : List (Op P I V)) (s : Solver P) (st : St) (hst : Inv st) :
    Inv (runSession k ev clear s st ops).2 := by
  induction ops generalizing s st with
  | nil => exact hst
  | cons op rest ih =>
    simp only [runSession]
    apply ih
    cases op with
    | task t => exact C10_evaluator_state hF k t.examples s st hst t.es t.dl t.answers
    | resetStats => exact hst
    | clearCache => exact hclear st

/-! ## B. the real evaluator (property C11 discharges `Faithful`) -/
section dsl
variable {σ : Type} [DecidableEq σ]

/-- the model of `DSLEvaluator.eval` is faithful to the compositional semantics on sound caches -/
theorem dslEv_faithful (S : C11.Sem σ V E) (useCache : Bool) :
    Faithful (dslEv S useCache) (C11.specEval S) (C11.CacheSound S) :=
  ⟨fun c p i hc => by
    have := C11.C11_eval S useCache c p i hc
    exact ⟨this.2, this.1⟩⟩

/-- the cache left by any session (tasks, `reset_stats`, `clear_cache`) started on a fresh evaluator -/
theorem C10_dsl_session_sound (S : C11.Sem σ V E) (useCache : Bool) (k : Kind)
    (ops : List (Op (Tree σ) (List V) V)) (s : Solver (Tree σ)) :
    C11.CacheSound S (runSession k (dslEv S useCache) C11.clearCache s [] ops).2 :=
  C10_session (dslEv_faithful S useCache) C11.clearCache (fun _ => .nil S) k ops s []
    (.nil S)

/-- For every DSL semantics (total, partial, higher-order), cache on
    or off, after every earlier session `before` (tasks, `reset_stats`, `clear_cache`) on the same
    solver and evaluator, begun with an empty cache: the yielded programs are exactly the programs of
    the enumeration — among those enumerated before a deadline or an escaping exception — whose
    *compositional* value on every example input is the example output, in order, up to the first
    one answered True. -/
theorem C10_dsl_yields (S : C11.Sem σ V E) (useCache : Bool) (k : Kind)
    (before : List (Op (Tree σ) (List V) V)) (s₀ : Solver (Tree σ))
    (exs : List (List V × V)) (es : List (Tree σ)) (dl as : List Bool) :
    let r := runSession k (dslEv S useCache) C11.clearCache s₀ [] before
    (solve (test k (dslEv S useCache) exs) r.1 r.2 es dl as).yielded =
      upToAccepted ((es.take (horizon (verdict k (C11.specEval S) exs) es dl)).filter
        (sat (C11.specEval S) exs)) as := by
  intro r
  exact C10_yields (dslEv_faithful S useCache) k exs r.1 r.2
    (C10_dsl_session_sound S useCache k before s₀) es dl as

/-- The real evaluator after any earlier session begun with an empty cache: every yielded program
    is enumerated and its compositional value on every example input is the example output; on
    acceptance the accepted program is the last one yielded and `get_stats("programs")` grew by its
    1-based rank `pre.length + 1`. -/
theorem C10_dsl_never_wrong_and_rank (S : C11.Sem σ V E) (useCache : Bool) (k : Kind)
    (before : List (Op (Tree σ) (List V) V)) (s₀ : Solver (Tree σ))
    (exs : List (List V × V)) (es : List (Tree σ)) (dl as : List Bool) :
    let r := runSession k (dslEv S useCache) C11.clearCache s₀ [] before
    let run := solve (test k (dslEv S useCache) exs) r.1 r.2 es dl as
    (∀ p ∈ run.yielded, p ∈ es ∧ ∀ ex ∈ exs, C11.specEval S p ex.1 = .value ex.2) ∧
    (run.status = .finished .accepted →
      ∃ pre p post, es = pre ++ p :: post ∧ run.yielded.getLast? = some p ∧
        run.solver.statsPrograms = r.1.statsPrograms + (pre.length + 1)) := by
  intro r run
  have hs := C10_dsl_session_sound S useCache k before s₀
  refine ⟨fun p hp => C10_never_wrong (dslEv_faithful S useCache) k exs r.1 r.2 hs es dl as p hp, ?_⟩
  intro hend
  obtain ⟨pre, p, post, he, _, hy, h1, _⟩ := C10_rank (dslEv_faithful S useCache) k exs r.1 r.2 hs es dl as hend
  exact ⟨pre, p, post, he, by rw [hy]; simp, h1⟩

end dsl

/-! ## non-vacuity -/
namespace Example
/-- programs are numbers: 0 ↦ `1`, 1 ↦ `var0`, 2 ↦ `var0 + 1`, 3 ↦ `1 / var0` (skippable failure at 0),
    4 ↦ `1 + var0`, 5 ↦ raises a non-skippable exception on input 1 -/
def spec : Nat → Int → Outcome Int String
  | 0, _ => .value 1
  | 1, i => .value i
  | 2, i => .value (i + 1)
  | 3, i => if i = 0 then .skipped else .value (1 / i)
  | 4, i => .value (1 + i)
  | 5, i => if i = 1 then .raised "TypeError" else .value 1
  | _, _ => .skipped
def exs : List (Int × Int) := [(0, 1), (1, 2)]
def run (k : Kind) (es : List Nat) (dl as : List Bool) := solve (test k (pureEv spec) exs) Solver.init () es dl as

-- reject, failing primitive in between, resume after False, accept the second solution: rank 5
example : (run .naive [0, 1, 2, 3, 4, 2] [] [false, true]).yielded = [2, 4] := by decide +kernel
example : (run .cutoff [0, 1, 2, 3, 4, 2] [] [false, true]).status = .finished .accepted := by decide +kernel
example : (run .cutoff [0, 1, 2, 3, 4, 2] [] [false, true]).solver.statsPrograms = 5 := by decide +kernel
-- exhausted: every solution yielded, statistics untouched
example : (run .naive [0, 2, 4] [] [false, false]).yielded = [2, 4] ∧
    (run .naive [0, 2, 4] [] [false, false]).status = .finished .exhausted ∧
    (run .naive [0, 2, 4] [] [false, false]).solver.statsPrograms = 0 := by decide +kernel
-- deadline before the third program; caller stops answering
example : (run .naive [0, 2, 4] [false, false, true] [false]).status = .finished .timeout := by decide +kernel
example : (run .naive [0, 2, 4] [] []).status = .suspended := by decide +kernel
-- hypotheses of C10_resume are satisfiable
example : (∀ q ∈ [0, 1], verdict .cutoff spec exs q = .ok false) ∧ verdict .cutoff spec exs 2 = .ok true :=
  ⟨by intro q hq; simp at hq; rcases hq with rfl | rfl <;> rfl, rfl⟩
-- an escaping exception: program 5 passes example (0,1), then raises on input 1 — for both tests;
-- on examples where the first one already fails, only the naive test raises (why the run-level
-- agreement needs its hypothesis)
example : verdict .naive spec [(0, 7), (1, 2)] 5 = .error "TypeError" ∧
          verdict .cutoff spec [(0, 7), (1, 2)] 5 = .ok false := ⟨rfl, rfl⟩
-- hypothesis of C10_naive_cutoff_runs / C10_yields_undisturbed (no escaping exception) on a non-trivial enumeration
example : ∀ p ∈ [0, 1, 2, 3, 4], ∀ ex ∈ exs, raisedOf (spec p ex.1) = none := by decide +kernel
-- hypothesis of C10_never_skips: the counter went past position 1 (program 2, a solution)
example : [0].length < (run .naive ([0] ++ 2 :: [4]) [] [false, false]).solver.programs := by decide +kernel
-- statistics accumulate over tasks: a second task on the same solver, accepted at rank 2, after 5 programs
example : (solve (test .cutoff (pureEv spec) exs) (run .cutoff [0, 1, 2, 3, 4, 2] [] [false, true]).solver ()
    [1, 4] [] [true]).solver.statsPrograms = 5 + 2 := by decide +kernel
-- scores: program 0 passes one of two examples: naive 1/2; cut-off 1/2 as well (stopped at the second)
example : (test .naive (pureEv spec) exs () 0).2 = .ok (false, ⟨1, 2⟩) := rfl
example : (test .cutoff (pureEv spec) exs () 1).2 = .ok (false, ⟨0, 2⟩) := rfl
-- a task without examples: every program is a solution, for both solvers (C10-F1 repaired)
example : (solve (test .naive (pureEv spec) []) Solver.init () [0, 3] [] [false, false]).yielded = [0, 3] := by decide +kernel

/-- the real evaluator (C11 model) over the C11 example semantics: `(div 1 var0)` fails on 0 -/
def S := C11.Example.S
example : (solve (test .naive (dslEv S true) [([0], 7)]) Solver.init [] [C11.Example.divp, C11.Example.big] [] [true]).yielded
    = [] := by decide +kernel
example : (solve (test .cutoff (dslEv S true) [([2], 7)]) Solver.init [] [C11.Example.divp, C11.Example.big] [] [true]).yielded
    = [C11.Example.big] := by decide +kernel
end Example

/-
  RestartPBESolver (synth/pbe/solvers/restart_pbe_solver.py) over MetaPBESolver
  (pbe_solver.py:132-193); model: PS/Model/SolverRestart.lean, lemmas: PS/Proofs/SolverRestart*.lean.
  Quantification: every enumerator interface (`prm.stream`: finite or infinite streams), every restart
  criterion (any Bool function of the solver object), every restart function (enumerator × `_data` →
  enumerator), both sub-solvers, every faithful evaluator, every task, answer stream, clock, prior
  state `s` of the solver object, and every amount `fuel` of loop iterations (the real loop need not
  terminate).  `segProgs prm k spec exs fuel s en` is the SEGMENTED enumeration: segment i is the
  prefix of the i-th enumerator's stream consumed before the (i+1)-th restart (`C10_restart_segments`).
  Switches `prm.fixNext` / `prm.fixStats` (no default; the harness reads them off the source text):
  `true` = with repair C10-F2 (bf7743d) / C10-F3 (3cc4a10), `false` = the code before that repair
  (fixes_applied/C10-F2.diff, C10-F3.diff).  /repo has both repairs.
-/
section restart
variable {En : Type}

/-- The restart solver behaves as the plain solver (section A) run on the
    segmented enumeration: same yielded programs, corresponding end (`toBase`: the end of the
    segmented enumeration — StopIteration when `fixNext = false`, normal end when `fixNext = true`, or
    fuel used up — is the plain solver's "exhausted"), same counter `_programs`, same evaluator state. -/
theorem C10_restart_refines {ev : Ev St P I V E} {spec : P → I → Outcome V E} {Inv : St → Prop}
    (hF : Faithful ev spec Inv) (prm : Params En P) (k : Kind) (exs : List (I × V)) (fuel : Nat)
    (s : RSolver P) (st : St) (hst : Inv st) (en : En) (dl as : List Bool) (bs : Solver P) :
    (solveR prm (test k ev exs) fuel s st en dl as).yielded =
      (solve (test k ev exs) bs st (segProgs prm k spec exs fuel s en) dl as).yielded ∧
    (solveR prm (test k ev exs) fuel s st en dl as).status.toBase =
      (solve (test k ev exs) bs st (segProgs prm k spec exs fuel s en) dl as).status ∧
    (solveR prm (test k ev exs) fuel s st en dl as).solver.self.programs =
      (solve (test k ev exs) bs st (segProgs prm k spec exs fuel s en) dl as).solver.programs ∧
    (solveR prm (test k ev exs) fuel s st en dl as).st =
      (solve (test k ev exs) bs st (segProgs prm k spec exs fuel s en) dl as).st :=
  sim (refinesS_of_faithful hF k exs) fuel (initTaskR s) st en 0 dl as (initTask bs) hst rfl

/-- `C10_yields` over the segmented enumeration. -/
theorem C10_restart_yields {ev : Ev St P I V E} {spec : P → I → Outcome V E} {Inv : St → Prop}
    (hF : Faithful ev spec Inv) (prm : Params En P) (k : Kind) (exs : List (I × V)) (fuel : Nat)
    (s : RSolver P) (st : St) (hst : Inv st) (en : En) (dl as : List Bool) :
    (solveR prm (test k ev exs) fuel s st en dl as).yielded =
      upToAccepted (((segProgs prm k spec exs fuel s en).take
        (horizon (verdict k spec exs) (segProgs prm k spec exs fuel s en) dl)).filter (sat spec exs)) as := by
  rw [(C10_restart_refines hF prm k exs fuel s st hst en dl as Solver.init).1]
  exact C10_yields hF k exs Solver.init st hst _ dl as

/-- Every yielded program was produced by one of the enumerators (it is
    an entry of the segmented enumeration, at its position of its enumerator's stream) and its
    evaluation on every example input equals the example output. -/
theorem C10_restart_never_wrong {ev : Ev St P I V E} {spec : P → I → Outcome V E} {Inv : St → Prop}
    (hF : Faithful ev spec Inv) (prm : Params En P) (k : Kind) (exs : List (I × V)) (fuel : Nat)
    (s : RSolver P) (st : St) (hst : Inv st) (en : En) (dl as : List Bool) (p : P)
    (hp : p ∈ (solveR prm (test k ev exs) fuel s st en dl as).yielded) :
    (∃ e ∈ segOf prm k spec exs fuel s en, e.p = p ∧ prm.stream e.en e.pos = some p) ∧
    ∀ ex ∈ exs, spec p ex.1 = .value ex.2 := by
  rw [(C10_restart_refines hF prm k exs fuel s st hst en dl as Solver.init).1] at hp
  obtain ⟨h1, h2⟩ := C10_never_wrong hF k exs Solver.init st hst _ dl as p hp
  refine ⟨?_, h2⟩
  obtain ⟨e, he, hep⟩ := List.mem_map.mp h1
  obtain ⟨pre, post, hsplit⟩ := List.append_of_mem he
  exact ⟨e, he, hep, hep ▸ (segRun_entry fuel (initTaskR s) en 0 pre e post hsplit).stream⟩

/-- `C10_never_skips` over the segmented enumeration. -/
theorem C10_restart_never_skips {ev : Ev St P I V E} {spec : P → I → Outcome V E} {Inv : St → Prop}
    (hF : Faithful ev spec Inv) (prm : Params En P) (k : Kind) (exs : List (I × V)) (fuel : Nat)
    (s : RSolver P) (st : St) (hst : Inv st) (en : En) (dl as : List Bool)
    (pre : List P) (q : P) (post : List P) (hseg : segProgs prm k spec exs fuel s en = pre ++ q :: post)
    (hq : ∀ ex ∈ exs, spec q ex.1 = .value ex.2)
    (hpast : pre.length < (solveR prm (test k ev exs) fuel s st en dl as).solver.self.programs) :
    q ∈ (solveR prm (test k ev exs) fuel s st en dl as).yielded := by
  obtain ⟨h1, _, h3, _⟩ := C10_restart_refines hF prm k exs fuel s st hst en dl as Solver.init
  rw [h1]
  rw [h3] at hpast
  rw [hseg] at hpast ⊢
  exact C10_never_skips hF k exs Solver.init st hst pre q post dl as hq hpast

/-- If the generator ends because the current enumerator's stream ended
    (normally when `fixNext = true`, with StopIteration → RuntimeError when `fixNext = false`), every
    satisfying program of the segmented enumeration was yielded, and the statistics are untouched
    (`_close_task_solving_` is not called on this path, as for the plain solver). -/
theorem C10_restart_exhausted {ev : Ev St P I V E} {spec : P → I → Outcome V E} {Inv : St → Prop}
    (hF : Faithful ev spec Inv) (prm : Params En P) (k : Kind) (exs : List (I × V)) (fuel : Nat)
    (s : RSolver P) (st : St) (hst : Inv st) (en : En) (dl as : List Bool)
    (hend : (solveR prm (test k ev exs) fuel s st en dl as).status = .finished .exhausted ∨
            (solveR prm (test k ev exs) fuel s st en dl as).status = .finished .stopIteration) :
    (solveR prm (test k ev exs) fuel s st en dl as).yielded =
      (segProgs prm k spec exs fuel s en).filter (sat spec exs) ∧
    (solveR prm (test k ev exs) fuel s st en dl as).solver.self.statsPrograms = s.self.statsPrograms ∧
    (solveR prm (test k ev exs) fuel s st en dl as).solver.statsRestarts = s.statsRestarts ∧
    (solveR prm (test k ev exs) fuel s st en dl as).solver.self.programs =
      (segProgs prm k spec exs fuel s en).length := by
  obtain ⟨pre, post, he, h, hn⟩ := restart_ledger hF prm k exs fuel s st hst en dl as
  rw [h.streamEnd hend, List.append_nil] at he
  have hfr := h.unclosed (by rcases hend with h' | h' <;> rw [h'] <;> nofun)
    (by rcases hend with h' | h' <;> rw [h'] <;> nofun)
  exact ⟨by rw [h.yielded, segProgs, he], hfr.selfStatsPrograms, hfr.statsRestarts,
    by rw [hn, segProgs, List.length_map, he]⟩

/-- Full statement (violated by the code before repair bf7743d, finding
    C10-F2): *a run never ends with an exception that no evaluation raised*.  Proved under the
    decidable hypothesis `fixNext = true`, "the repair `next(gen, None)` is in place" (it is in
    /repo); without it the end of an enumerator's stream is a `StopIteration` inside the generator,
    i.e. a RuntimeError (`finding_C10_restart_stop_iteration` below). -/
theorem C10_restart_ends_normally_partial (prm : Params En P) (T : St → P → St × Except E (Bool × Score))
    (hfix : prm.fixNext = true) (fuel : Nat) (s : RSolver P) (st : St) (en : En) (dl as : List Bool) :
    (solveR prm T fuel s st en dl as).status ≠ .finished .stopIteration := by
  intro h
  have := (end_of_stream (prm := prm) (T := T) fuel (initTaskR s) st en 0 dl as).2 h
  rw [hfix] at this; cases this

/-- … and with `fixNext = false` (the code before repair C10-F2) a run never ends *normally* at the
    end of a stream -/
theorem C10_restart_never_exhausted_unrepaired (prm : Params En P) (T : St → P → St × Except E (Bool × Score))
    (hfix : prm.fixNext = false) (fuel : Nat) (s : RSolver P) (st : St) (en : En) (dl as : List Bool) :
    (solveR prm T fuel s st en dl as).status ≠ .finished .exhausted := by
  intro h
  have := (end_of_stream (prm := prm) (T := T) fuel (initTaskR s) st en 0 dl as).1 h
  rw [hfix] at this; cases this

/-- When a solution is accepted, it is the program of an entry `e` of the
    segmented enumeration, at rank `pre.length + 1`; every satisfying program before it was yielded
    (and refused); the task is closed: `get_stats("programs")` is `statsBase + rank` — where
    `statsBase` is the meta solver's previous value when `fixStats = true` (repair C10-F3) and the
    *sub-solver's* value when `fixStats = false` —, `get_stats("restarts")` grew by the number of restarts (segments started
    after the first entry), 'program_probability' is that of the accepted program. -/
theorem C10_restart_rank {ev : Ev St P I V E} {spec : P → I → Outcome V E} {Inv : St → Prop}
    (hF : Faithful ev spec Inv) (prm : Params En P) (k : Kind) (exs : List (I × V)) (fuel : Nat)
    (s : RSolver P) (st : St) (hst : Inv st) (en : En) (dl as : List Bool)
    (hend : (solveR prm (test k ev exs) fuel s st en dl as).status = .finished .accepted) :
    ∃ pre e post, segOf prm k spec exs fuel s en = pre ++ e :: post ∧
      (∀ ex ∈ exs, spec e.p ex.1 = .value ex.2) ∧
      (solveR prm (test k ev exs) fuel s st en dl as).yielded = (pre.map (·.p)).filter (sat spec exs) ++ [e.p] ∧
      (solveR prm (test k ev exs) fuel s st en dl as).solver.self.statsPrograms =
        statsBase prm.fixStats (initTaskR s) + (pre.length + 1) ∧
      (solveR prm (test k ev exs) fuel s st en dl as).solver.statsRestarts =
        s.statsRestarts + starts (pre ++ [e]).tail ∧
      (solveR prm (test k ev exs) fuel s st en dl as).solver.self.statsLast = some e.p := by
  obtain ⟨_, post, he, h, hn⟩ := restart_ledger hF prm k exs fuel s st hst en dl as
  obtain ⟨pre, e, sc, rfl, hte, hsol⟩ := h.accepted hend
  have he' := he.trans (List.append_assoc ..)
  have g := segRun_entry fuel (initTaskR s) en 0 pre e post he'
  have hp : sat spec exs e.p = true :=
    ((pureTest_sound k spec exs).1 e.p true (congrArg (Except.map Prod.fst) hte)).symm
  refine ⟨pre, e, post, he', (C10_sat_iff spec exs e.p).mp hp, ?_, ?_, ?_, ?_⟩
  · rw [h.yielded, List.map_append, List.filter_append, List.map_singleton, List.filter_cons_of_pos hp,
      List.filter_nil]
  · rw [h.stats he (Or.inl hend), hn, List.length_append]; rfl
  · rw [hsol, closeR_statsRestarts]
    simp [testedS, countedS, g.restarts, g.frame.statsRestarts, initTaskR]
  · rw [hsol]; exact (closeR_statsLast _ _ _).1

set_option linter.unusedSimpArgs false in
/-- Full statement (violated by the code before repair 3cc4a10, finding C10-F3):
    *on acceptance `get_stats("programs")` grew by the rank of the accepted program in the segmented
    enumeration, whatever the statistics accumulated by earlier tasks*.  Proved under the decidable
    hypothesis that the repair C10-F3 is in place (`fixStats = true`; it is in /repo) or that the meta
    solver's and the sub-solver's counts agree before the task (in a session: no task was closed since
    the construction of the solver or the last `reset_stats`, see `C10_restart_session`); witness of
    the violation: `finding_C10_restart_stats_not_cumulative`. -/
theorem C10_restart_rank_partial {ev : Ev St P I V E} {spec : P → I → Outcome V E} {Inv : St → Prop}
    (hF : Faithful ev spec Inv) (prm : Params En P) (k : Kind) (exs : List (I × V)) (fuel : Nat)
    (s : RSolver P) (st : St) (hst : Inv st) (en : En) (dl as : List Bool)
    (hyp : prm.fixStats = true ∨ s.self.statsPrograms = s.sub.statsPrograms)
    (hend : (solveR prm (test k ev exs) fuel s st en dl as).status = .finished .accepted) :
    ∃ pre e post, segOf prm k spec exs fuel s en = pre ++ e :: post ∧
      (solveR prm (test k ev exs) fuel s st en dl as).solver.self.statsPrograms =
        s.self.statsPrograms + (pre.length + 1) ∧
      (solveR prm (test k ev exs) fuel s st en dl as).solver.statsRestarts =
        s.statsRestarts + starts (pre ++ [e]).tail := by
  obtain ⟨pre, e, post, h1, _, _, h4, h5, _⟩ := C10_restart_rank hF prm k exs fuel s st hst en dl as hend
  refine ⟨pre, e, post, h1, ?_, h5⟩
  rw [h4]
  rcases hyp with h | h
  · simp [statsBase, h, initTaskR, initTask]
  · cases hfx : prm.fixStats <;> simp [statsBase, hfx, h, initTaskR, initTask]

/-- When the deadline strikes before the entry `e` of the segmented
    enumeration is tested: what satisfied before was yielded, the task is closed with
    `get_stats("programs") = statsBase + number of programs tested`, 'restarts' grew by the number
    of restarts. -/
theorem C10_restart_timeout {ev : Ev St P I V E} {spec : P → I → Outcome V E} {Inv : St → Prop}
    (hF : Faithful ev spec Inv) (prm : Params En P) (k : Kind) (exs : List (I × V)) (fuel : Nat)
    (s : RSolver P) (st : St) (hst : Inv st) (en : En) (dl as : List Bool)
    (hend : (solveR prm (test k ev exs) fuel s st en dl as).status = .finished .timeout) :
    ∃ pre e post, segOf prm k spec exs fuel s en = pre ++ e :: post ∧
      (solveR prm (test k ev exs) fuel s st en dl as).yielded = (pre.map (·.p)).filter (sat spec exs) ∧
      (solveR prm (test k ev exs) fuel s st en dl as).solver.self.statsPrograms =
        statsBase prm.fixStats (initTaskR s) + pre.length ∧
      (solveR prm (test k ev exs) fuel s st en dl as).solver.statsRestarts =
        s.statsRestarts + starts (pre ++ [e]).tail ∧
      (solveR prm (test k ev exs) fuel s st en dl as).solver.self.statsLast = some e.p := by
  obtain ⟨pre, _, he, h, hn⟩ := restart_ledger hF prm k exs fuel s st hst en dl as
  obtain ⟨e, post, rfl, hsol⟩ := h.timeout hend
  have g := segRun_entry fuel (initTaskR s) en 0 pre e post he
  refine ⟨pre, e, post, he, h.yielded, ?_, ?_, ?_⟩
  · rw [h.stats he (Or.inr hend), hn]
  · rw [hsol, closeR_statsRestarts]
    simp [g.restarts, g.frame.statsRestarts, initTaskR]
  · rw [hsol]; exact (closeR_statsLast _ _ _).1

/-- `C10_resume` over the segmented enumeration: answering False resumes the search at its next
    program — the next program of the current enumerator, or the first program of the restarted
    one; answering True closes the task (`C10_restart_rank`). -/
theorem C10_restart_resume {ev : Ev St P I V E} {spec : P → I → Outcome V E} {Inv : St → Prop}
    (hF : Faithful ev spec Inv) (prm : Params En P) (k : Kind) (exs : List (I × V)) (fuel : Nat)
    (s : RSolver P) (st : St) (hst : Inv st) (en : En) (dl as : List Bool)
    (pre : List P) (p : P) (post : List P) (hseg : segProgs prm k spec exs fuel s en = pre ++ p :: post)
    (hpre : ∀ q ∈ pre, verdict k spec exs q = .ok false) (hp : verdict k spec exs p = .ok true)
    (hdl : ∀ b ∈ dl.take (pre.length + 1), b = false) :
    (solveR prm (test k ev exs) fuel s st en dl (true :: as)).yielded = [p] ∧
    (solveR prm (test k ev exs) fuel s st en dl (true :: as)).status = .finished .accepted ∧
    (solveR prm (test k ev exs) fuel s st en dl (false :: as)).yielded =
      p :: specYields (verdict k spec exs) (sat spec exs) post (dl.drop (pre.length + 1)) as ∧
    (solveR prm (test k ev exs) fuel s st en dl []).yielded = [p] ∧
    (solveR prm (test k ev exs) fuel s st en dl []).status = .suspended := by
  obtain ⟨b1, b2, b3, b4, b5⟩ := C10_resume hF k exs Solver.init st hst pre p post dl as hpre hp hdl
  obtain ⟨t1, t2, _, _⟩ := C10_restart_refines hF prm k exs fuel s st hst en dl (true :: as) Solver.init
  obtain ⟨f1, _, _, _⟩ := C10_restart_refines hF prm k exs fuel s st hst en dl (false :: as) Solver.init
  obtain ⟨n1, n2, _, _⟩ := C10_restart_refines hF prm k exs fuel s st hst en dl [] Solver.init
  rw [hseg] at t1 t2 f1 n1 n2
  exact ⟨by rw [t1, b1], toBase_accepted (by rw [t2, b2]), by rw [f1, b3], by rw [n1, b4],
    toBase_suspended (by rw [n2, b5])⟩

/-- What the segmented enumeration is.  (1) Its first entry is the first
    program of the given enumerator.  (2) Every entry is the program at its position of its
    enumerator's stream, and the solver object then holds: `_programs` = number of entries before,
    `_data` = the earlier programs of positive score with their scores, in order.  (3) After an entry
    `a` the next entry `b` is the next program of the same enumerator when the criterion — evaluated on
    the solver object after the bookkeeping for `a` — does not fire; when it fires, `b` is the first
    program of the enumerator `restart a.en _data`, `_restarts` is one more and `_last_size` is
    `len(_data)`. -/
theorem C10_restart_segments [DecidableEq V] (prm : Params En P) (k : Kind) (spec : P → I → Outcome V E)
    (exs : List (I × V)) (fuel : Nat) (s : RSolver P) (en : En) :
    (∀ e post, segOf prm k spec exs fuel s en = e :: post → e.en = en ∧ e.pos = 0) ∧
    (∀ pre e post, segOf prm k spec exs fuel s en = pre ++ e :: post →
      prm.stream e.en e.pos = some e.p ∧ e.s.self.programs = pre.length ∧
      e.s.data = dataOf (pureTest k spec exs) (pre.map (·.p))) ∧
    (∀ pre a b post, segOf prm k spec exs fuel s en = pre ++ a :: b :: post →
      ∃ s2 : RSolver P,
        s2.data = dataOf (pureTest k spec exs) ((pre ++ [a]).map (·.p)) ∧ s2.restarts = a.s.restarts ∧
        s2.lastSize = a.s.lastSize ∧ s2.self.programs = pre.length + 1 ∧
        ((prm.criterion s2 = false ∧ b.en = a.en ∧ b.pos = a.pos + 1 ∧ b.s.restarts = a.s.restarts ∧
            b.s.lastSize = a.s.lastSize) ∨
         (prm.criterion s2 = true ∧ b.en = prm.restart a.en s2.data ∧ b.pos = 0 ∧
            b.s.restarts = a.s.restarts + 1 ∧ b.s.lastSize = s2.data.length))) := by
  refine ⟨?_, ?_, ?_⟩
  · intro e post h
    obtain ⟨_, h2, h3, _⟩ := segRun_head h
    exact ⟨h2, h3⟩
  · intro pre e post h
    have g := segRun_entry fuel (initTaskR s) en 0 pre e post h
    exact ⟨g.stream, g.programs.trans (Nat.zero_add _), g.data⟩
  · intro pre a b post h
    obtain ⟨s2, h1, h2, h3, h4, h5⟩ := segRun_step fuel (initTaskR s) en 0 pre a b post h
    exact ⟨s2, h1, h2, h3, h4.trans (congrArg (· + 1) (Nat.zero_add _)), h5⟩

/-- With a criterion that never fires, on an enumerator whose stream is
    a list `es`, given more fuel than `es` has programs (`es.length < fuel`), the restart solver
    behaves exactly like the plain solver of section A run on `es` from the meta solver's own fields
    `s.self`: same yielded programs, same end (the end of `es` being StopIteration when
    `fixNext = false`, a normal end when `fixNext = true`; never out of fuel), same counter, same
    evaluator state, no restart, and the same `get_stats("programs")` under the hypothesis that the
    meta solver's count equals `statsBase` before the task (it does whenever `fixStats = true`). -/
theorem C10_restart_no_restart {ev : Ev St P I V E} {spec : P → I → Outcome V E} {Inv : St → Prop}
    (hF : Faithful ev spec Inv) (prm : Params En P) (k : Kind) (exs : List (I × V)) (fuel : Nat)
    (s : RSolver P) (st : St) (hst : Inv st) (en : En) (dl as : List Bool)
    (hc : ∀ s, prm.criterion s = false) (es : List P) (hs : ∀ i, prm.stream en i = es[i]?)
    (hfuel : es.length < fuel) :
    (solveR prm (test k ev exs) fuel s st en dl as).yielded = (solve (test k ev exs) s.self st es dl as).yielded ∧
    (solveR prm (test k ev exs) fuel s st en dl as).status.toBase = (solve (test k ev exs) s.self st es dl as).status ∧
    (solveR prm (test k ev exs) fuel s st en dl as).status ≠ .outOfFuel ∧
    (solveR prm (test k ev exs) fuel s st en dl as).solver.self.programs =
      (solve (test k ev exs) s.self st es dl as).solver.programs ∧
    (solveR prm (test k ev exs) fuel s st en dl as).st = (solve (test k ev exs) s.self st es dl as).st ∧
    (solveR prm (test k ev exs) fuel s st en dl as).solver.restarts = 0 ∧
    (statsBase prm.fixStats (initTaskR s) = s.self.statsPrograms →
      (solveR prm (test k ev exs) fuel s st en dl as).solver.self.statsPrograms =
        (solve (test k ev exs) s.self st es dl as).solver.statsPrograms) := by
  have hT := refinesS_of_faithful hF k exs
  have hseg := segProgs_no_restart hc hs k spec exs hfuel s
  obtain ⟨h1, h2, h3, h4⟩ := C10_restart_refines hF prm k exs fuel s st hst en dl as s.self
  rw [hseg, solve, base_cut hT es _ st dl as hst] at h1 h2 h3 h4
  obtain ⟨pre, post, he, h, _⟩ := restart_ledger hF prm k exs fuel s st hst en dl as
  obtain ⟨_, _, _, hb, _⟩ := solve_ledger hF k exs s.self st hst es dl as
  refine ⟨h1, h2, h.not_outOfFuel ?_, h3, h4, by rw [solveR, no_restart_restarts hc]; rfl,
    fun hbase => h.statsPrograms_eq he hb h2 h3 hbase rfl⟩
  -- the segmented enumeration is at most as long as `es`
  have hle := cutAtError_length (pureTest k spec exs) es
  rw [← hseg, segProgs, List.length_map, he] at hle
  omega

/-- The fuel of the model restricts nothing: a run that ends within its fuel
    (accepted, deadline, end of a stream, exception, or left suspended by the caller) is the same —
    yielded programs, end, solver object, evaluator state — with any larger amount of fuel.
    (A run that uses up every amount of fuel is a `solve` that never returns: a criterion that fires
    before a new program is reached re-enumerates the same programs for ever.) -/
theorem C10_restart_fuel (prm : Params En P) (T : St → P → St × Except E (Bool × Score)) (fuel k : Nat)
    (s : RSolver P) (st : St) (en : En) (dl as : List Bool)
    (h : (solveR prm T fuel s st en dl as).status ≠ .outOfFuel) :
    solveR prm T (fuel + k) s st en dl as = solveR prm T fuel s st en dl as :=
  fuel_mono k fuel (initTaskR s) st en 0 dl as h

theorem C10_restart_evaluator_state {ev : Ev St P I V E} {spec : P → I → Outcome V E} {Inv : St → Prop}
    (hF : Faithful ev spec Inv) (prm : Params En P) (k : Kind) (exs : List (I × V)) (fuel : Nat)
    (s : RSolver P) (st : St) (hst : Inv st) (en : En) (dl as : List Bool) :
    Inv (solveR prm (test k ev exs) fuel s st en dl as).st := by
  rw [(C10_restart_refines hF prm k exs fuel s st hst en dl as Solver.init).2.2.2]
  exact C10_evaluator_state hF k exs Solver.init st hst _ dl as

/-- the sub-solver of a meta solver never counts a program: its `_programs` stays 0 and its
    `_stats["programs"]` never moves (only `RestartPBESolver.solve` increments a counter, its own) -/
def SubIdle (s : RSolver P) : Prop := s.sub.statsPrograms = 0 ∧ s.sub.programs = 0

/-- closing a task adds the sub-solver's counter, 0, to its statistics -/
theorem SubIdle.closeR {s : RSolver P} (h : SubIdle s) (fx : Bool) (p : P) : SubIdle (closeR fx s p) :=
  ⟨show s.sub.statsPrograms + s.sub.programs = 0 by rw [h.1, h.2], h.2⟩

theorem SubIdle.frame {s s' : RSolver P} (h : SubIdle s) (hf : Frame s s') : SubIdle s' :=
  ⟨hf.subStatsPrograms.trans h.1, hf.subPrograms.trans h.2⟩

theorem C10_restart_sub_idle {ev : Ev St P I V E} {spec : P → I → Outcome V E} {Inv : St → Prop}
    (hF : Faithful ev spec Inv) (prm : Params En P) (k : Kind) (exs : List (I × V)) (fuel : Nat)
    (s : RSolver P) (st : St) (hst : Inv st) (en : En) (dl as : List Bool) (hs : SubIdle s) :
    SubIdle (solveR prm (test k ev exs) fuel s st en dl as).solver := by
  obtain ⟨pre, post, he, h, _⟩ := restart_ledger hF prm k exs fuel s st hst en dl as
  have h0 : SubIdle (initTaskR s) := ⟨hs.1, rfl⟩
  by_cases hc : (solveR prm (test k ev exs) fuel s st en dl as).status = .finished .accepted ∨
      (solveR prm (test k ev exs) fuel s st en dl as).status = .finished .timeout
  · obtain ⟨s', p, hf, hsol⟩ := h.closed he hc
    rw [hsol]
    exact (h0.frame hf).closeR _ _
  · exact h0.frame (h.unclosed (fun a => hc (Or.inl a)) (fun a => hc (Or.inr a)))

/-- After any sequence of tasks (each with its own enumerator, examples,
    clock, answers and fuel), `reset_stats()` and `clear_cache()` calls on one restart solver and one
    evaluator: the evaluator is in a faithful state, and — from a solver whose sub-solver is idle, in
    particular a new one — the sub-solver is still idle. -/
theorem C10_restart_session {ev : Ev St P I V E} {spec : P → I → Outcome V E} {Inv : St → Prop}
    (hF : Faithful ev spec Inv) (clear : St → St) (hclear : ∀ st, Inv (clear st)) (prm : Params En P) (k : Kind)
    (ops : List (ROp P I V En)) (s : RSolver P) (st : St) (hst : Inv st) (hs : SubIdle s) :
    Inv (runSessionR prm k ev clear s st ops).2 ∧ SubIdle (runSessionR prm k ev clear s st ops).1 := by
  induction ops generalizing s st with
  | nil => exact ⟨hst, hs⟩
  | cons op rest ih =>
    simp only [runSessionR]
    cases op with
    | task t en fuel =>
      exact ih _ _ (C10_restart_evaluator_state hF prm k t.examples fuel s st hst en t.dl t.answers)
        (C10_restart_sub_idle hF prm k t.examples fuel s st hst en t.dl t.answers hs)
    | resetStats => exact ih _ _ hst ⟨rfl, hs.2⟩
    | clearCache => exact ih _ _ (hclear st) hs

theorem subIdle_init : SubIdle (RSolver.init : RSolver P) := ⟨rfl, rfl⟩

/-- What `get_stats("programs")` is when `fixStats = false` (the code before repair C10-F3): after
    any earlier session on a new restart solver, an accepted task leaves `get_stats("programs")`
    *equal to the rank* of the accepted program in this task's segmented enumeration — the counts of
    the earlier tasks are lost (while 'restarts' does accumulate, `C10_restart_rank`). -/
theorem C10_restart_stats_as_is {ev : Ev St P I V E} {spec : P → I → Outcome V E} {Inv : St → Prop}
    (hF : Faithful ev spec Inv) (clear : St → St) (hclear : ∀ st, Inv (clear st)) (prm : Params En P)
    (hfx : prm.fixStats = false) (k : Kind) (before : List (ROp P I V En)) (st₀ : St) (hst : Inv st₀)
    (exs : List (I × V)) (fuel : Nat) (en : En) (dl as : List Bool) :
    let r := runSessionR prm k ev clear RSolver.init st₀ before
    (solveR prm (test k ev exs) fuel r.1 r.2 en dl as).status = .finished .accepted →
    ∃ pre e post, segOf prm k spec exs fuel r.1 en = pre ++ e :: post ∧
      (solveR prm (test k ev exs) fuel r.1 r.2 en dl as).solver.self.statsPrograms = pre.length + 1 := by
  intro r hend
  obtain ⟨hinv, hidle⟩ := C10_restart_session hF clear hclear prm k before RSolver.init st₀ hst subIdle_init
  obtain ⟨pre, e, post, h1, _, _, h4, _⟩ := C10_restart_rank hF prm k exs fuel r.1 r.2 hinv en dl as hend
  refine ⟨pre, e, post, h1, ?_⟩
  rw [h4]
  have h0 : r.1.sub.statsPrograms = 0 := hidle.1
  simp [statsBase, hfx, initTaskR, initTask, h0]

section dslR
variable {σ : Type} [DecidableEq σ]

/-- The real evaluator (C11 model of `DSLEvaluator.eval`, every DSL semantics,
    cache on or off), after every earlier session on the same restart solver and evaluator: the
    yielded programs are exactly the programs of the segmented enumeration whose *compositional*
    value on every example input is the example output, in order, up to the first one answered True;
    none of them is wrong. -/
theorem C10_restart_dsl_yields (S : C11.Sem σ V E) (useCache : Bool) (prm : Params En (Tree σ)) (k : Kind)
    (before : List (ROp (Tree σ) (List V) V En)) (exs : List (List V × V)) (fuel : Nat) (en : En)
    (dl as : List Bool) :
    let r := runSessionR prm k (dslEv S useCache) C11.clearCache RSolver.init [] before
    let es := segProgs prm k (C11.specEval S) exs fuel r.1 en
    (solveR prm (test k (dslEv S useCache) exs) fuel r.1 r.2 en dl as).yielded =
      upToAccepted ((es.take (horizon (verdict k (C11.specEval S) exs) es dl)).filter (sat (C11.specEval S) exs)) as ∧
    ∀ p ∈ (solveR prm (test k (dslEv S useCache) exs) fuel r.1 r.2 en dl as).yielded,
      ∀ ex ∈ exs, C11.specEval S p ex.1 = .value ex.2 := by
  intro r es
  have hs := (C10_restart_session (dslEv_faithful S useCache) C11.clearCache (fun _ => .nil S) prm k
    before RSolver.init [] (.nil S) subIdle_init).1
  exact ⟨C10_restart_yields (dslEv_faithful S useCache) prm k exs fuel r.1 r.2 hs en dl as,
    fun p hp => (C10_restart_never_wrong (dslEv_faithful S useCache) prm k exs fuel r.1 r.2 hs en dl as p hp).2⟩

end dslR

end restart

/-! ### non-vacuity and findings (restart) -/
namespace ExampleR
open Example (spec exs)

/-- enumerators are numbered: 0 ↦ the stream `1, var0, var0+1, 1/var0, 1+var0`; every restarted
    enumerator n+1 ↦ `1+var0, 1, var0+1`; enumerator 99 is empty -/
def stream : Nat → Nat → Option Nat
  | 0, i => [0, 1, 2, 3, 4][i]?
  | 99, _ => none
  | _, i => [4, 0, 2][i]?

/-- restart when two new data items were saved; the restarted enumerator is the next number -/
def prm (fixNext fixStats : Bool) : Params Nat Nat :=
  ⟨stream, fun s => decide (s.data.length - s.lastSize > 1), fun en _ => en + 1, fixNext, fixStats⟩

def run (fx fs : Bool) (k : Kind) (s : RSolver Nat) (en : Nat) (dl as : List Bool) :=
  solveR (prm fx fs) (test k (pureEv spec) exs) 50 s () en dl as

-- scores under the naive test: program 0 passes one example of two (saved), 1 none, 2 both (a solution, saved
-- after it was refused): the criterion fires after program 2; the search restarts on enumerator 1
example : segProgs (prm false false) .naive spec exs 7 RSolver.init 0 = [0, 1, 2, 4, 0, 4, 0] := by decide +kernel
example : (segOf (prm false false) .naive spec exs 7 RSolver.init 0).map (fun e => (e.en, e.pos)) =
    [(0, 0), (0, 1), (0, 2), (1, 0), (1, 1), (2, 0), (2, 1)] := by decide +kernel
-- refuse the first solution, refuse the second (found after the restart), accept the third: rank 6, two restarts
example : (run false false .naive RSolver.init 0 [] [false, false, true]).yielded = [2, 4, 4] := by decide +kernel
example : (run false false .naive RSolver.init 0 [] [false, false, true]).status = .finished .accepted := by decide +kernel
example : (run false false .naive RSolver.init 0 [] [false, false, true]).solver.self.statsPrograms = 6 := by decide +kernel
example : (run false false .naive RSolver.init 0 [] [false, false, true]).solver.statsRestarts = 2 := by decide +kernel
example : (run false false .naive RSolver.init 0 [] [false, false, true]).solver.data.map (·.1) = [0, 2, 4, 0] := by decide +kernel
-- the cut-off test gives program 0 the score 1/2 as well, program 1 the score 0
example : (run false false .cutoff RSolver.init 0 [] [false]).yielded = [2, 4] := by decide +kernel
-- the caller stops answering; deadline before the fifth program
example : (run false false .naive RSolver.init 0 [] []).status = .suspended := by decide +kernel
example : (run false false .naive RSolver.init 0 [false, false, false, false, true] [false, false]).status
    = .finished .timeout := by decide +kernel
-- a criterion that fires for ever: the fuel runs out (the real solver does not return)
example : (solveR (prm false false) (test .naive (pureEv spec) exs) 50 RSolver.init () 0 [] (List.replicate 60 false)).status
    = .outOfFuel := by decide +kernel
-- hypotheses of C10_restart_resume
example : segProgs (prm false false) .naive spec exs 7 RSolver.init 0 = [0, 1] ++ 2 :: [4, 0, 4, 0] ∧
    (∀ q ∈ [0, 1], verdict .naive spec exs q = .ok false) ∧ verdict .naive spec exs 2 = .ok true :=
  ⟨by decide, by intro q hq; simp at hq; rcases hq with rfl | rfl <;> rfl, rfl⟩
-- hypothesis of C10_restart_never_skips
example : [0, 1].length < (run false false .naive RSolver.init 0 [] [false]).solver.self.programs := by decide +kernel
-- hypothesis of C10_restart_no_restart: a criterion that never fires, a list as stream
example : ∀ i, stream 0 i = [0, 1, 2, 3, 4][i]? := fun _ => rfl

/-- **finding C10-F2** (`fixNext = false`, the code before repair bf7743d): an enumeration that is
    exhausted without an accepted solution ends the generator with `StopIteration` raised inside it —
    a RuntimeError for the caller — where the plain solver ends normally; with the repair
    `next(gen, None)` (`fixNext = true`) it ends normally. -/
theorem finding_C10_restart_stop_iteration :
    (solveR (prm false false) (test .naive (pureEv spec) exs) 50 RSolver.init () 99 [] []).status
      = .finished .stopIteration ∧
    (solve (test .naive (pureEv spec) exs) Solver.init () [] [] []).status = .finished .exhausted ∧
    (solveR (prm true false) (test .naive (pureEv spec) exs) 50 RSolver.init () 99 [] []).status
      = .finished .exhausted ∧
    -- … also after programs were tested and a solution refused: enumerator 3 serves `1+var0, 1, var0+1` once
    (solveR ⟨stream, fun _ => false, fun en _ => en, false, false⟩ (test .naive (pureEv spec) exs) 50
      RSolver.init () 3 [] [false, false]).status = .finished .stopIteration ∧
    (solveR ⟨stream, fun _ => false, fun en _ => en, false, false⟩ (test .naive (pureEv spec) exs) 50
      RSolver.init () 3 [] [false, false]).yielded = [4, 2] := by decide +kernel

/-- **finding C10-F3** (`fixStats = false`, the code before repair 3cc4a10): a second task on the
    same restart solver.  The first task accepts at rank 3, the second at rank 1:
    `get_stats("programs")` is 1 afterwards — it *fell* by 2 instead of growing by 1 — while 'restarts'
    and the plain solver's 'programs' accumulate; and `_stats["time"]` holds three summands after two
    tasks.  With the repair (`fixStats = true`): 3 + 1 and two summands. -/
theorem finding_C10_restart_stats_not_cumulative :
    let s1 := (run false false .naive RSolver.init 0 [] [true]).solver
    let s2 := (run false false .naive s1 3 [] [true]).solver
    s1.self.statsPrograms = 3 ∧ s2.self.statsPrograms = 1 ∧ s2.self.statsCloses = 3 ∧
    ¬ (s1.self.statsPrograms = s1.sub.statsPrograms) ∧
    (let t1 := (run false true .naive RSolver.init 0 [] [true]).solver
     let t2 := (run false true .naive t1 3 [] [true]).solver
     t2.self.statsPrograms = 3 + 1 ∧ t2.self.statsCloses = 2) := by decide +kernel

end ExampleR

section grammar
open PS.G PS.C10.RG
variable {S : Type} [DecidableEq S]

/-- What `_restart_` (restart_pbe_solver.py:99-115) hands to
    `enumerator.clone`: for every grammar `G`, every weight table `tags0` that tags every rule of `G`
    (e.g. `ProbDetGrammar.uniform(G)`, or the result of an earlier restart), all data derivable in `G`
    (they were enumerated from it) and every prior, the computation does not raise and returns
    `normalise u` where
      * `u` tags exactly the rules `tags0` tags, and the result still tags every rule of `G`
        (so the statement applies to the next restart);
      * the weight of a rule in `u` is its accumulated score (Σ over the data of score × number of
        uses of the rule in the derivation of the program) plus `prior × 1/|row|` when `prior > 0`;
      * the result's weights are those of `u` divided by the sum of their row — *proportional to the
        accumulated scores* (plus prior) — and every row whose sum is not 0 sums to 1 (*normalised*);
      * with `prior > 0` and non-negative scores every rule of `G` whose weight in `uniform G` is
        positive has a positive weight in `u` (*full support*). -/
theorem C10_restart_grammar (G : TT S Unit) (tags0 : Tags S Unit) (data : List (Prog × Rat)) (prior : Rat)
    (hcov : Covers G tags0) (hdata : ∀ d ∈ data, gen G d.1 G.start = true) :
    ∃ u, restartTags G tags0 data prior = some (normalise u) ∧
      (∀ nt P, (tagOf u nt P).isSome = (tagOf tags0 nt P).isSome) ∧
      Covers G (normalise u) ∧
      (∀ nt P, (tagOf tags0 nt P).isSome = true →
        weight u nt P = accScore G data nt P + (if 0 < prior then prior * weight (uniform G) nt P else 0)) ∧
      (∀ nt row, AList.lookup nt u = some row →
        (∀ P, weight (normalise u) nt P = weight u nt P / rowSum row) ∧
        AList.lookup nt (normalise u) = some (normaliseRow row) ∧
        (rowSum row ≠ 0 → rowSum (normaliseRow row) = 1)) ∧
      (0 < prior → (∀ d ∈ data, 0 ≤ d.2) → ∀ nt P, (G.rule? nt P).isSome = true →
        0 < weight (uniform G) nt P → 0 < weight u nt P) := by
  obtain ⟨u, h1, -, h2, h3⟩ := restartTags_spec G tags0 data prior hcov hdata
  refine ⟨u, h1, h2, ?_, h3, fun nt row h => normalise_weights u nt row h, ?_⟩
  · intro nt P h
    rw [isSome_tagOf_normalise, h2]
    exact hcov nt P h
  · intro hp hnn nt P hr hu
    rw [h3 nt P (hcov nt P hr)]
    simp only [hp, if_true]
    exact add_pos_of_nonneg_of_pos (accScore_nonneg G data hnn nt P) (Rat.mul_pos hp hu)

/-- With a positive prior and non-negative scores (they are
    fractions in [0, 1]: `C10_score`), on a grammar every non-terminal of which has a rule, from a
    table whose rows mirror the grammar's (`ProbDetGrammar.uniform(G)`: `covers_uniform`,
    `rowsOf_uniform`; or the result of an earlier restart — the conclusion re-establishes the
    hypotheses): `_restart_` does not raise and the grammar it hands to `clone` is a probability
    distribution with full support — every row sums to exactly 1 and every rule has a positive weight. -/
theorem C10_restart_grammar_distribution (G : TT S Unit) (tags0 : Tags S Unit) (data : List (Prog × Rat))
    (prior : Rat)
    (hG : ∀ nt rs, AList.lookup nt G.rules = some rs → rs ≠ [] ∧ (AList.keys rs).Nodup)
    (hcov : Covers G tags0) (hrows : RowsOf G tags0) (hdata : ∀ d ∈ data, gen G d.1 G.start = true)
    (hnn : ∀ d ∈ data, 0 ≤ d.2) (hp : 0 < prior) :
    ∃ t, restartTags G tags0 data prior = some t ∧ Covers G t ∧ RowsOf G t ∧
      ∀ nt row, AList.lookup nt t = some row →
        rowSum row = 1 ∧ ∀ P ∈ AList.keys row, 0 < weight t nt P :=
  restartTags_distribution G tags0 data prior hG hcov hrows hdata hnn hp

/-- Model = specification: the weight `_restart_` gives to rule `P` of a
    non-terminal is `specWeight` — (accumulated score of `P` + prior/|row|) divided by the sum of
    these numbers over the rules of the non-terminal: *proportional to the accumulated scores*,
    smoothed by the prior. -/
theorem C10_restart_grammar_spec (G : TT S Unit) (tags0 : Tags S Unit) (data : List (Prog × Rat)) (prior : Rat)
    (hcov : Covers G tags0) (hrows : RowsOf G tags0) (hdata : ∀ d ∈ data, gen G d.1 G.start = true) :
    ∃ t, restartTags G tags0 data prior = some t ∧
      ∀ nt rs, AList.lookup nt G.rules = some rs → (AList.keys rs).Nodup →
        ∀ P ∈ AList.keys rs, weight t nt P = specWeight G data prior nt (AList.keys rs) P :=
  restartTags_specWeight G tags0 data prior hcov hrows hdata

namespace ExampleG
/-- a grammar with two non-terminals: `int@0 → f(int@1) | a`, `int@1 → a | b` -/
def int : Ty := .base "int"
def f : Sym := .prim "f" (.arrow int int)
def a : Sym := .prim "a" int
def b : Sym := .prim "b" int
def nt0 : NT Nat Unit := (int, (0, ()))
def nt1 : NT Nat Unit := (int, (1, ()))
def G : TT Nat Unit := ⟨nt0, [(nt0, [(f, ([(int, 1)], ())), (a, ([], ()))]), (nt1, [(a, ([], ())), (b, ([], ()))])]⟩
def fa : Prog := .node f [.node a []]
def data : List (Prog × Rat) := [(fa, 1 / 2), (.node a [], 1), (fa, 1)]

-- hypotheses: the data are derivable; the uniform table tags every rule (covers_uniform)
example : ∀ d ∈ data, gen G d.1 G.start = true := by decide +kernel
example : Covers G (uniform G) := covers_uniform G
example : RowsOf G (uniform G) := rowsOf_uniform G
example : ∀ nt rs, AList.lookup nt G.rules = some rs → rs ≠ [] ∧ (AList.keys rs).Nodup := by
  intro nt rs h
  simp only [G, AList.lookup] at h
  split at h
  · cases h; exact ⟨by simp, by decide⟩
  · split at h
    · cases h; exact ⟨by simp, by decide⟩
    · cases h
example : ∀ d ∈ data, (0 : Rat) ≤ d.2 := by decide +kernel
-- accumulated scores: f@0 used by `f a` twice (1/2 + 1), a@0 once (1), a@1 twice (3/2), b@1 never
example : accScore G data nt0 f = 3 / 2 ∧ accScore G data nt0 a = 1 ∧ accScore G data nt1 a = 3 / 2 ∧
    accScore G data nt1 b = 0 := by decide +kernel
-- the grammar after the restart with prior 1/4: (3/2 + 1/8) / (5/2 + 1/4), …; `b` keeps a positive weight
example : (restartTags G (uniform G) data (1 / 4)).map (fun t => (weight t nt0 f, weight t nt0 a, weight t nt1 a, weight t nt1 b))
    = some (13 / 22, 9 / 22, 13 / 14, 1 / 14) := by decide +kernel
example : specWeight G data (1 / 4) nt1 [a, b] b = 1 / 14 := by decide +kernel
-- without prior: proportional to the scores alone, `b` gets 0
example : (restartTags G (uniform G) data 0).map (fun t => (weight t nt0 f, weight t nt1 b)) = some (3 / 5, 0) := by
  decide +kernel
end ExampleG
end grammar

end PS.C10
