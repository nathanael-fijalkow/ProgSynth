/-
  C02, part cd — constant-delay search (constant_delay.py) and its bucketed queue
  (constant_delay_queue.py).

  FULL STATEMENT: iterating the enumerator over a finite grammar yields every program exactly once,
  nothing else, and terminates.

  Proved, for EVERY arithmetic (hence for the IEEE doubles the implementation computes with): the queue loses and
  invents nothing on every state satisfying its invariant `QWF` (counters in sync with the content, which
  `CDQueue(maxi, k)`, `clear`, `push`, `pop` establish / keep); the frontier rule generates every index tuple from
  exactly one expansion; along every history of `next` / `merge_program` calls on a new enumerator every yielded
  program is derivable from the start symbol (C02_Cd_sound, every grammar) and none is yielded twice (C02_Cd_nodup,
  C02_Cd_nodup_hist: every grammar whose rows are dicts, recursive ones included; for a history with merges under the
  hypothesis `ActsOK` that every merged program is only derivable from non-terminals of its declared type).
  Programs are NOT stored under their true cost: a merged CostTuple keeps the cost of its first member, so the cost
  index of a program is its claimed cost, within the merge tolerance of C03_Cd_merge_slack.
  Two findings against the statement.  finding_C02_F4 (all rule costs equal: ZeroDivisionError) is kernel-evaluated here
  on the model with exact rationals and `fixM = false`, the code before repair e8aa920 (fixes_applied/C02-F4.diff);
  /repo has the repair, the model's default is still `false`.  Finding C02-F5 (an AssertionError of `push` in the middle
  of an enumeration, open in /repo) is only compared.
  NOT proved (only compared, see harness/meta/parts/C02_cd.json): completeness and termination of the search.
-/
import PS.Model.Enum.ConstantDelay
import PS.Proofs.Enum.CDQueue
import PS.Proofs.Enum.CDTuples
import PS.Proofs.Enum.CDSound
import PS.Proofs.Enum.CDGBanks
import PS.Proofs.Enum.CDHeapInv
import PS.Proofs.Enum.CDGRun
import PS.Proofs.Enum.CDGMerge
namespace PS.C02Cd
open PS PS.CD

variable {α : Type}

/-- S → c1 (4) | f0(A) (0), A → var0 (1) | var1 (3) | c1 (1) -/
def gEx0 : Gram :=
  { start := 0,
    rules := [(0, [(0, ([], 4)), (1, ([1], 0))]), (1, [(2, ([], 1)), (3, ([], 3)), (0, ([], 1))])],
    ty := [(0, 0), (1, 0)] }

/-- `CDQueue(maxi, k)` is well formed and empty -/
theorem C02_Cd_queue_new (A : Arith α) (maxi0 : Int) (k0 : Nat) (q : Q α) (h : Q.new A maxi0 k0 = some q) :
    QWF q ∧ q.tuples = [] ∧ q.contents = [] := qwf_new A maxi0 k0 q h

example : ∃ q, Q.new ratArith 7 3 = some q ∧ q.k = 4 := ⟨_, rfl, rfl⟩

/-- `clear()` -/
theorem C02_Cd_queue_clear (q : Q α) (h : QWF q) : QWF q.clear ∧ q.clear.contents = [] :=
  ⟨(qwf_clear q h).1, (qwf_clear q h).2.2⟩

/-- **push loses and invents nothing** (any arithmetic, with or without the `assert`) -/
theorem C02_Cd_queue_push (A : Arith α) (q q' : Q α) (e : CT α) (asserts : Bool) (hq : QWF q)
    (h : q.push A e asserts = some q') :
    QWF q' ∧ q'.contents.Perm (q.contents ++ e.combs) ∧
      (q'.nelements = q.nelements + 1 ∨ q'.nelements = q.nelements) := by
  obtain ⟨h1, _, h3, _⟩ := qwf_push A q q' e asserts hq h
  -- `push` writes `nelements := if added then q.nelements + 1 else q.nelements`
  obtain ⟨q1, mini, cells, added, _, _, rfl⟩ := Q.push_succ h
  exact ⟨h1, h3, by cases added <;> simp⟩

/-- **pop returns a stored CostTuple, removes exactly it, and it is what `peek` announced** -/
theorem C02_Cd_queue_pop (q q' : Q α) (p : CT α) (hq : QWF q) (h : q.pop = some (p, q')) :
    QWF q' ∧ q.tuples.Perm (p :: q'.tuples) ∧ q.contents.Perm (p.combs ++ q'.contents) ∧
      q'.nelements + 1 = q.nelements ∧ q.peek = some p := by
  obtain ⟨h1, h2, h3, h4, h5, _, _⟩ := qwf_pop q q' p hq h
  exact ⟨h1, h2, h3, h4, h5⟩

/-- on a well-formed queue `pop` succeeds as soon as the cell at `translation` holds something -/
theorem C02_Cd_queue_pop_total (q : Q α) (c : Cell α) (hq : QWF q) (hc : q.cells[q.translation]? = some c)
    (hne : c.tuples ≠ []) : ∃ r, q.pop = some r := by
  obtain ⟨⟨p, c'⟩, hp⟩ := pop_total.1 c (hq.cells c (List.mem_of_getElem? hc)) hne
  have hpos : q.nelements ≠ 0 := by
    obtain ⟨X, Y, hx, _⟩ := tuplesList_split hc c
    simp [hq.count, Q.tuples, hx, hne]
  refine ⟨(p, { q with cells := q.cells.set q.translation c', nelements := q.nelements - 1 }), ?_⟩
  simp [Q.pop, hc, hp, hpos]

/-- non-vacuity: a queue (exact rationals) after three pushes, two of them merged, one split away -/
example : ((((Q.new ratArith 2000 4).bind (·.push ratArith ⟨100, [[0, 0]]⟩)).bind (·.push ratArith ⟨101, [[1, 0]]⟩)).bind
      (·.push ratArith ⟨150, [[0, 1]]⟩)).map (fun q => (q.nelements, q.pop.map (·.1.combs))) =
    some (2, some [[0, 0], [1, 0]]) := by decide +kernel

/-- **the frontier rule is a bijection** ("increment index i until the first index > 1", constant_delay.py:302-317):
    `t` is pushed when `c` is expanded iff `t` is not the all-zero tuple and `c` is its predecessor (decrement the
    first non-zero index), so every index combination is generated by exactly one expansion -/
theorem C02_Cd_successor_bijection (c t : List Nat) : t ∈ succs c ↔ (nonzero t = true ∧ parent t = c) :=
  mem_succs_iff c t

example : succs [0, 0, 2] = [[1, 0, 2], [0, 1, 2], [0, 0, 3]] ∧ succs [1, 0, 2] = [[2, 0, 2]] ∧
    parent [0, 1, 2] = [0, 0, 2] := by decide

theorem C02_Cd_successors_nodup (c : List Nat) : (succs c).Nodup := succs_nodup c

theorem C02_Cd_successors_unique_parent (c c' t : List Nat) (h : t ∈ succs c) (h' : t ∈ succs c') : c = c' :=
  succs_disjoint c c' t h h'

theorem C02_Cd_successors_cover (t : List Nat) (h : nonzero t = true) : t ∈ succs (parent t) := succs_cover t h

/-- the loop of the code (cost lists of any lengths, positions skipped or the loop ended when the next
    index does not exist) pushes only successors of the expanded tuple, each of the right length -/
theorem C02_Cd_loop_pushes_successors (lens comb : List Nat) :
    ∀ t ∈ succIdx lens comb comb.length 0, t ∈ succs comb ∧ t.length = comb.length := by
  intro t h
  exact ⟨succIdx_sub lens comb t h, succs_length _ _ (succIdx_sub lens comb t h)⟩

example : succIdx [5, 1, 5] [0, 0, 2] 3 0 = [[1, 0, 2], [0, 0, 3]] := by decide

/-- **the code path the machine runs**: the successor loop of `query_derivation` in the model (`succLoop`, every
    arithmetic, with or without the assert) changes nothing in the state but the derivation queue of `args`,
    keeps that queue well formed, and the index tuples it adds to it are pairwise distinct successors of the
    expanded tuple in the sense of C02_Cd_successor_bijection, of the same length -/
theorem C02_Cd_succLoop (A : Arith α) (asserts : Bool) (args : List NT) (c : α) (comb : List Nat)
    (s s' : St α) (h : succLoop A asserts args c comb comb.length 0 s = some s') (q : Q α)
    (hq : AList.lookup args s.queueDer = some q) (hwf : QWF q) :
    (∃ q' pushed, AList.lookup args s'.queueDer = some q' ∧ QWF q' ∧ q'.contents.Perm (q.contents ++ pushed) ∧
      pushed.Nodup ∧ ∀ t ∈ pushed, t ∈ succs comb ∧ t.length = comb.length) ∧
    s' = { s with queueDer := s'.queueDer } ∧
    (∀ a, a ≠ args → AList.lookup a s'.queueDer = AList.lookup a s.queueDer) := by
  obtain ⟨q', _, _, _, _, _, h6, h7⟩ := succLoop_spec A asserts args c comb _ _ _ _ h q hq hwf
  exact ⟨succLoop_pushes_successors A asserts args c comb s s' h q hq hwf, h6, h7⟩

/-- **NO DUPLICATE INDEX COMBINATION** (the purpose of the frontier rule): start from the frontier `{(0,…,0)}`;
    repeatedly take ANY tuple `c` of the frontier (any pop order, so any costs, any merge of CostTuples) and replace
    it by pairwise distinct successors of `c` — all of `succs c`, or the sub-list the loop pushes when cost lists end
    (C02_Cd_succLoop: what the machine pushes has exactly these two properties).  Then frontier and expanded tuples
    together stay duplicate-free: each index combination of a derivation is expanded at most once. -/
theorem C02_Cd_frontier_nodup (n : Nat) (b : Front) (h : Front.Reach ⟨[List.replicate n 0], []⟩ b) :
    (b.F ++ b.D).Nodup := front_reach_nodup n b h

/-- the invariant behind it is kept by every expansion -/
theorem C02_Cd_frontier_step (a b : Front) (ha : FrontInv a) (h : Front.Step a b) : FrontInv b := front_step ha h

example : Front.Reach ⟨[List.replicate 2 0], []⟩ ⟨[[0, 1], [2, 0]], [[1, 0], [0, 0]]⟩ := by
  have s1 : Front.Step ⟨[] ++ [0, 0] :: [], []⟩ ⟨[] ++ [] ++ [[1, 0], [0, 1]], [[0, 0]]⟩ :=
    .expand [] [] [] [0, 0] [[1, 0], [0, 1]] (by decide) (by decide)
  have s2 : Front.Step ⟨[] ++ [1, 0] :: [[0, 1]], [[0, 0]]⟩ ⟨[] ++ [[0, 1]] ++ [[2, 0]], [[1, 0], [0, 0]]⟩ :=
    .expand [] [[0, 1]] [[0, 0]] [1, 0] [[2, 0]] (by decide) (by decide)
  exact .step (.step (.refl _) s1) s2

/-- **NO DUPLICATE PROGRAM FOR A RULE, one level of the construction.**  `lvl a i` stands for the bank
    `_bank_nt[a][i]`.  If the banks of the argument non-terminals are duplicate-free and pairwise disjoint across
    cost indices, and the index tuples `cs` are pairwise distinct (C02_Cd_frontier_nodup), then all the programs
    `P(t1,…,tn)` built from the products `itertools.product(*pools)` of these index tuples are pairwise distinct. -/
theorem C02_Cd_rule_programs_nodup (lvl : NT → Nat → List Prog) (P : Sym) (args : List NT) (cs : List (List Nat))
    (hn : ∀ a i, (lvl a i).Nodup) (hd : ∀ a ∈ args, LevelsDisjoint lvl a) (hcs : cs.Nodup)
    (hlen : ∀ c ∈ cs, c.length = args.length) :
    ((cs.flatMap fun c => cartesian (poolsOf lvl args c)).map (fun t => (Tree.node P t : Prog))).Nodup :=
  rule_programs_nodup lvl P args cs hn hd hcs hlen

theorem C02_Cd_product_index_unique (lvl : NT → Nat → List Prog) (args : List NT) (c c' : List Nat) (t : List Prog)
    (h1 : c.length = args.length) (h2 : c'.length = args.length) (hd : ∀ a ∈ args, LevelsDisjoint lvl a)
    (ht : t ∈ cartesian (poolsOf lvl args c)) (ht' : t ∈ cartesian (poolsOf lvl args c')) : c = c' :=
  cartesian_index_unique lvl args c c' t h1 h2 hd ht ht'

example : ((([[0, 0], [1, 0], [0, 1]] : List (List Nat)).flatMap fun c =>
      cartesian (poolsOf (fun a i => [Tree.node (10 * a + i) []]) [1, 2] c)).map (fun t => (Tree.node 7 t : Prog))).length = 3 := by
  decide

/-- **ONE PENDING DERIVATION PER RULE** (every arithmetic, grammar with dict rows, `k`, filter, fuel, history; recursive
    grammars and re-entrant queries included): at every `yield` point and after every `merge_program`, every heap
    `_queue_nt[S]` holds at most one `Derivation` per symbol `P`, so each pair (rule, derivation index) is expanded at
    most once.  Inside the machine (C02_Cd_heap_limbo) the invariant is carried with the "limbo" set of the symbols
    popped by suspended `query` frames and not yet re-pushed: a popped element `(P, j)` is absent from its heap while
    `query_derivation` runs — nested and re-entrant calls cannot bring `P` back — and its successor `(P, j+1)` is
    pushed exactly once. -/
theorem C02_Cd_one_pending_per_rule (E : Env α) (hG : RowsNodup E.G) (fuel : Nat) (acts : List Act) (g g' : Gen α)
    (ys : List Prog) (hnew : Gen.new E = some g) (h : runHist E fuel acts g [] = some (g', ys)) :
    ∀ S heap, AList.lookup S g'.st.queueNt = some heap → (heap.map (·.P)).Nodup := by
  have := (runHist_hinv E hG fuel acts g [] g' ys h (gen_new_hinv E g hnew)).1
  intro S heap hl
  exact (this S heap hl).1

/-- **NO INDEX TUPLE TWICE, ON THE MACHINE**: `TInv s Λ` = every derivation queue is well formed and its index tuples,
    together with those of a popped CostTuple still waiting in a suspended `query_derivation` (the limbo `Λ`), form the
    frontier of C02_Cd_frontier_step for some set `D` of expanded tuples.  Every function of the query block keeps it
    (C02_Cd_tuples_machine: `combLoop` expands the tuples in limbo one by one with exactly what C02_Cd_succLoop says it
    pushes; nested and re-entrant calls run with the limbo set unchanged), and so do `next` and `merge_program`.
    PARTIAL in one respect: the invariant is assumed for a started generator, i.e. for the state the prologue produced
    (each queue then holds the single tuple (0,…,0); checked on every case by the correspondence; C02_Cd_tuples_nodup
    has it from C02_Cd_prologue_queues for a new enumerator).  From there it holds along every history, and every
    derivation queue has pairwise distinct index tuples. -/
theorem C02_Cd_tuples_nodup_partial (E : Env α) (fuel : Nat) (acts : List Act) (g g' : Gen α) (ys : List Prog)
    (hg : TGInv g) (h : runHist E fuel acts g [] = some (g', ys)) :
    TGInv g' ∧ ∀ args q, AList.lookup args g'.st.queueDer = some q → q.contents.Nodup := by
  have := runHist_tinv E fuel acts g [] g' ys h hg
  exact ⟨this, fun args q hq => tinv_contents_nodup this.1 args q hq⟩

theorem C02_Cd_tuples_machine (E : Env α) (f : Nat) : TOk E f := tok_all E f

/-- non-vacuity of the hypothesis `TGInv`: a started generator whose derivation queue of `(1, 2)` holds the initial tuple
    `(0, 0)` (the shape of every queue after the prologue) satisfies it; such a queue exists -/
example (q1 q2 : Q Rat) (h1 : Q.new ratArith 5 3 = some q1) (h2 : q1.push ratArith ⟨7, [[0, 0]]⟩ = some q2)
    (h3 : q2.contents = [[0, 0]]) : TGInv ({ st := { queueDer := [([1, 2], q2)] }, phase := .stopped } : Gen Rat) := by
  refine ⟨?_, by simp⟩
  intro args q hq
  simp only [AList.lookup] at hq
  split at hq
  · simp only [Option.some.injEq] at hq; subst hq
    refine ⟨(qwf_push ratArith q1 q2 _ true (qwf_new ratArith 5 3 q1 h1).1 h2).1, [], ?_⟩
    rw [h3]
    simpa [noT] using front_init 2
  · simp at hq

example : ((Q.new ratArith 5 3).bind fun q1 => (q1.push ratArith ⟨7, [[0, 0]]⟩).map (·.contents)) = some [[0, 0]] := by
  decide +kernel

/-- C02_Cd_one_pending_per_rule inside the machine, for every function of the query block and every limbo set -/
theorem C02_Cd_heap_limbo (E : Env α) (f : Nat) : HOk E f := hok_all E f

example : RowsNodup gEx0 := .of_all _ (by decide)

/-- SOUNDNESS as a state invariant.  `GInv E g` (PS/Proofs/Enum/CDSound.lean): every program in every bank
    `_bank_nt[S][ci]` is derivable from `S` (`derives`, the specification of the language); every pool stored in
    `_bank_derivation[args][ci]` refers, position by position, to a bank of the corresponding argument non-terminal
    (the aliasing of the Python lists); every derivation queue is well formed and all its index tuples have one index
    per argument; the suspended top-level `query` belongs to the start symbol, its pending tuples are derivable.
    It holds for the object `CDSearch.__init__` builds. -/
theorem C02_Cd_inv_init (E : Env α) (g : Gen α) (h : Gen.new E = some g) : GInv E g := gen_new_ginv E g h

/-- **one step**: `next(generator)` — prologue (`_init_non_terminal_`, `_reevaluate_`, `__compute_bounds__`)
    included — keeps the invariant, and what it yields is a program of the language -/
theorem C02_Cd_sound_step (E : Env α) (fuel : Nat) (g g' : Gen α) (out : Option Prog)
    (h : next E fuel g = some (g', out)) (hg : GInv E g) :
    GInv E g' ∧ ∀ p, out = some p → derives E.G E.G.start p = true :=
  next_sound E fuel g g' out h hg

/-- `merge_program(representative, other)` keeps the invariant -/
theorem C02_Cd_sound_merge (E : Env α) (g : Gen α) (other : Prog) (ty : Nat) (hg : GInv E g) :
    GInv E (merge E g other ty) := merge_ginv E g other ty hg

/-- every inner function of the machine (`query`, `query_derivation`, `_query_list_` and their loops) keeps
    the invariant of the tables; `query_derivation` returns pools of the right non-terminals -/
theorem C02_Cd_query_sound (E : Env α) (f : Nat) : Snd E f := snd_all E f

/-- **SOUNDNESS**: for every grammar, arithmetic (floats included), parameter `k`, filter, fuel and every
    history of `next` / `merge_program` calls on a new enumerator, every yielded program is derivable from the
    start symbol ("nothing outside the language"), and the invariant holds in the final state -/
theorem C02_Cd_sound (E : Env α) (fuel : Nat) (acts : List Act) (g g' : Gen α) (ys : List Prog)
    (hnew : Gen.new E = some g) (h : runHist E fuel acts g [] = some (g', ys)) :
    (∀ p ∈ ys, derives E.G E.G.start p = true) ∧ GInv E g' := by
  obtain ⟨h1, h2⟩ := runHist_sound E fuel acts g [] g' ys h (gen_new_ginv E g hnew) (by simp)
  exact ⟨h2, h1⟩

/-- non-vacuity: S → c1 (4) | f0(A) (0), A → var0 (1) | var1 (3) | c1 (1): a history with a merge yields 4
    derivable programs -/
def gEx : Gram :=
  { start := 0,
    rules := [(0, [(0, ([], 4)), (1, ([1], 0))]), (1, [(2, ([], 1)), (3, ([], 3)), (0, ([], 1))])],
    ty := [(0, 0), (1, 0)] }
def envEx : Env Rat := { A := ratArith, G := gEx, k := 1, filter := fun _ => true }

example : ((Gen.new envEx).bind fun g => runHist envEx 1000 [.take 2, .merge (.node 2 []) 0, .take 10] g []).map
    (fun r => (r.2.length, r.2.all (derives gEx 0))) = some (4, true) := by decide +kernel

/-- S → f(S1) | a ; S1 → g(S2) | b ; S2 → c | d, all rules of cost 69 (uniform probabilities 1/2 at
    precision 1e-2) -/
def equalCosts : Gram :=
  { start := 0,
    rules := [(0, [(0, ([1], 69)), (1, ([], 69))]), (1, [(2, ([2], 69)), (3, ([], 69))]), (2, [(4, ([], 69)), (5, ([], 69))])],
    ty := [(0, 0), (1, 0), (2, 0)] }

def envF4 : Env Rat := { A := ratArith, G := equalCosts, k := 5, filter := fun _ => true }

/-- all rule costs equal (e.g. uniform probabilities on a grammar whose non-terminals have the same number of rules):
    `int(self.M) = 0`, `CDQueue(0, k)` has `maxi = 0` and the first push divides by zero: the enumerator raises instead
    of enumerating (the model is undefined for every fuel we try; the implementation raises ZeroDivisionError).
    The implementation meant is `CDQueue(int(self.M), k)`, the code before repair e8aa920, which is `fixM = false`, the
    default that `envF4` takes; /repo has `CDQueue(max(1, int(self.M)), k)` (constant_delay.py:108), `fixM = true`. -/
theorem finding_C02_F4 : bigM equalCosts = some 0 ∧
    ((Gen.new envF4).bind fun g => take envF4 1000 1 g []).isNone = true := by
  constructor <;> decide +kernel

/-- **the stored pools are those of expanded index tuples, once each.**  `TInv2 s Λ` (PS/Proofs/Enum/CDGPoss.lean): every
    derivation queue is well formed, its index tuples (with those in limbo `Λ`) have one index per argument and form
    the frontier of a duplicate-free expansion with expanded set `D`, and every list of pools stored in
    `_bank_derivation[args][ci]` is `refsOf args comb` — the references `(args[i], comb[i])` — of some `comb ∈ D`; no
    list of pools is stored twice.  Every function of the query block keeps it, for every limbo set (nested and
    re-entrant queries), arithmetic, grammar, filter, fuel. -/
theorem C02_Cd_pools_once (E : Env α) (f : Nat) : TOk2 E f := tok2_all E f

/-- what `TInv2` says about `_bank_derivation[args]` at any moment -/
theorem C02_Cd_pools_nodup (s : St α) (Λ : List NT → List (List Nat)) (h : TInv2 s Λ) (args : List NT) :
    (∀ b c l, AList.lookup args s.bankDer = some b → AList.lookup c b = some l → l.Nodup) ∧
    (∀ c c' ps, PossAt s.bankDer args c ps → PossAt s.bankDer args c' ps → c = c') := tinv2_possU h args

/-- **the bank invariant on the machine.**  `NInv E s L` (PS/Proofs/Enum/CDGBanks.lean): `BInv` — in the banks of every
    non-terminal no program occurs twice in one list or under two cost indices — and the provenance of the stored
    programs: every `P(kids)` in a bank of `S` was built from a list of pools stored in `_bank_derivation[args][c]`
    with `kids[i]` in pool `i`, where `c` is smaller than the derivation index of the pending `Derivation` of `P` in
    the heap of `S` (`HeapC`) and than that of any popped element of a suspended frame (`LimboC`, limbo set `L`).
    Every function of the query block keeps it (given the heap invariant of C02_Cd_heap_limbo and the invariant of
    C02_Cd_pools_once, which they keep as well), and what `query` yields is new to the banks of its non-terminal in the
    state it was resumed from, and in them afterwards (`ResN`). -/
theorem C02_Cd_banks_machine (E : Env α) (f : Nat) : NOk E f := nok_all E f

/-- the banks only grow (no `merge_program` inside the query block) -/
theorem C02_Cd_banks_grow (E : Env α) (f : Nat) : MOk E f := mok_all E f

/-- **one `next`** keeps the invariant of the generator object (`GI`: before the prologue, empty banks and the hypothesis
    on the state the prologue will produce; afterwards the heap invariant, `TInv2`, `NInv` and the invariant `FrOK` of the
    suspended top-level query), and a yielded program is not in any bank of the start symbol before the call and is in
    one afterwards -/
theorem C02_Cd_next_nodup (E : Env α) (hG : RowsNodup E.G) (fuel : Nat) (g g' : Gen α) (out : Option Prog)
    (h : next E fuel g = some (g', out)) (hg : GI E fuel g) :
    GI E fuel g' ∧ BMono g.st g'.st ∧ ∀ p, out = some p → ¬ InBank g.st E.G.start p ∧ InBank g'.st E.G.start p :=
  next_gi E hG fuel g g' out h hg

/-- **the prologue**: from a new enumerator, the state `_init_non_terminal_(start)`, `_reevaluate_()` and
    `__compute_bounds__()` produce satisfies `TInv2` with nothing in limbo (every derivation queue holds nothing or the
    single index tuple (0,…,0), no pools are stored); `hS`, `hE` are facts proved separately (soundness invariant, banks
    untouched by the prologue) -/
theorem C02_Cd_prologue_queues (E : Env α) (fuel : Nat) (g : Gen α) (hnew : Gen.new E = some g) (s : St α)
    (hp : prologue E fuel g.st = some s) (hS : SInv E s) (hE : BanksEmpty s) : TInv2 s noT :=
  prologue_tinv2 E fuel g hnew s hp hS hE

/-- **NO DUPLICATE PROGRAMS.**  For every arithmetic (the IEEE doubles of the implementation included), every grammar
    whose rows have distinct keys (Python dicts; recursive grammars included), every `k`, filter and fuel: `k` calls of
    `next` on a new enumerator yield pairwise distinct programs, each stored in a bank of the start symbol, and
    afterwards the banks of every non-terminal are duplicate-free and pairwise disjoint across cost indices: every
    program enters the banks of a non-terminal at most once.  (Scope: no `merge_program` in the history.) -/
theorem C02_Cd_nodup (E : Env α) (hG : RowsNodup E.G) (fuel k : Nat) (g g' : Gen α) (ys : List Prog) (fin : Bool)
    (hnew : Gen.new E = some g) (h : take E fuel k g [] = some (g', ys, fin)) :
    ys.Nodup ∧ (∀ p ∈ ys, InBank g'.st E.G.start p) ∧ BInv g'.st := by
  obtain ⟨a, b, c, _⟩ := take_new hG hnew h
  exact ⟨b, c, a.ninv.binv⟩

/-- what `BInv` says in plain terms -/
theorem C02_Cd_banks_disjoint (s : St α) (h : BInv s) (S : NT) (b : AList Nat (List Prog)) (hb : AList.lookup S s.bankNt = some b) :
    (∀ ci l, AList.lookup ci b = some l → l.Nodup) ∧
    (∀ ci cj l1 l2 p, AList.lookup ci b = some l1 → AList.lookup cj b = some l2 → p ∈ l1 → p ∈ l2 → ci = cj) :=
  ⟨fun ci l hl => h.1 S b ci l hb hl, fun ci cj l1 l2 p h1 h2 m1 m2 => h.2 S ci cj p ⟨b, l1, hb, h1, m1⟩ ⟨b, l2, hb, h2, m2⟩⟩

/-- non-vacuity.  A recursive grammar with a re-entrant non-terminal: S → f(S, A) (3) | a (1) | g(A) (2),
    A → x (1) | y (3) | h(A) (2): its rows have distinct keys, and 14 calls of
    `next` yield 14 programs (pairwise distinct by the theorem).  An acyclic one with a shared argument tuple:
    S → f(A, A) (3) | a (1) | g(A) (2), A → x (1) | y (3) | h(B) (2), B → c (0) | d (2): the generator stops after the
    21 programs of the language. -/
def gRec : Gram :=
  { start := 0,
    rules := [(0, [(0, ([0, 1], 3)), (1, ([], 1)), (2, ([1], 2))]), (1, [(3, ([], 1)), (4, ([], 3)), (5, ([1], 2))])],
    ty := [(0, 0), (1, 0)] }
def envRec : Env Rat := { A := ratArith, G := gRec, k := 1, filter := fun _ => true }
def gAcy : Gram :=
  { start := 0,
    rules := [(0, [(0, ([1, 1], 3)), (1, ([], 1)), (2, ([1], 2))]), (1, [(3, ([], 1)), (4, ([], 3)), (5, ([2], 2))]),
              (2, [(6, ([], 0)), (7, ([], 2))])],
    ty := [(0, 0), (1, 0), (2, 0)] }
def envAcy : Env Rat := { A := ratArith, G := gAcy, k := 1, filter := fun _ => true }

theorem rowsNodup_of_all (G : Gram) (h : (G.rules.all fun r => decide ((r.2.map (·.1)).Nodup)) = true) : RowsNodup G :=
  .of_all G h

example : RowsNodup gRec ∧ RowsNodup gAcy := ⟨rowsNodup_of_all _ (by decide), rowsNodup_of_all _ (by decide)⟩

example : ((Gen.new envRec).bind fun g => (take envRec 1000 14 g []).map fun r => (r.2.1.length, r.2.2)) = some (14, false) := by
  decide +kernel

example : ((Gen.new envAcy).bind fun g => (take envAcy 1000 40 g []).map fun r => (r.2.1.length, r.2.2)) = some (21, true) := by
  decide +kernel

/-- **`merge_program` keeps the bank invariant** when `other` sits only in banks of non-terminals of the declared type -/
theorem C02_Cd_merge_banks (E : Env α) (g : Gen α) (L : NT → List (Sym × Nat)) (other : Prog) (ty : Nat)
    (hN : NInv E g.st L) (hM : MergeOK E g other ty) : NInv E (merge E g other ty).st L := ninv_merge other ty hN hM

/-- the Boolean form of `TyOK`: every non-terminal of the rule table that derives `other` has the declared type -/
def tyOKB (E : Env α) (other : Prog) (ty : Nat) : Bool :=
  E.G.rules.all fun r => !derives E.G r.1 other || matched E ty r.1

theorem tyOKB_sound (E : Env α) (other : Prog) (ty : Nat) (h : tyOKB E other ty = true) : TyOK E other ty := by
  intro S hd
  cases hl : AList.lookup S E.G.rules with
  | none => cases other with | node P kids => simp [derives, Gram.rule?, hl] at hd
  | some rs => simpa [hd] using List.all_eq_true.mp h (S, rs) (AList.lookup_some_mem hl)

/-- **NO DUPLICATE PROGRAMS ALONG EVERY HISTORY.**  For every arithmetic, grammar whose rows have distinct keys (recursive
    ones included), `k`, filter, fuel and every history of `next(generator)` and `merge_program(representative, other)`
    calls on a new enumerator in which every merged program is only derivable from non-terminals of its declared type
    (`ActsOK`: `TyOK` for each merge): the yielded programs are pairwise distinct, and in the final state the banks of
    every non-terminal are duplicate-free and pairwise disjoint across cost indices. -/
theorem C02_Cd_nodup_hist (E : Env α) (hG : RowsNodup E.G) (fuel : Nat) (acts : List Act) (g g' : Gen α) (ys : List Prog)
    (hnew : Gen.new E = some g) (hacts : ActsOK E acts) (h : runHist E fuel acts g [] = some (g', ys)) :
    ys.Nodup ∧ BInv g'.st := by
  obtain ⟨a, b⟩ := runHist_new hG hnew hacts h
  exact ⟨b.1, a.1.ninv.binv⟩

/-- non-vacuity: the history with a merge of the soundness example (`envEx`): the rows have distinct keys, the merged
    program `var0` is derivable from the non-terminal 1 only, whose type is the declared one, and the history yields 4
    programs -/
example : RowsNodup gEx ∧ ActsOK envEx [.take 2, .merge (.node 2 []) 0, .take 10] := by
  refine ⟨rowsNodup_of_all _ (by decide), ?_⟩
  exact ⟨tyOKB_sound envEx _ _ (by decide), trivial⟩

/-- **no index tuple twice in a derivation queue, from a new enumerator** (the hypothesis of C02_Cd_tuples_nodup_partial on the
    post-prologue state is discharged by C02_Cd_prologue_queues): along every history as in C02_Cd_nodup_hist, the index tuples
    of every derivation queue of the final state are pairwise distinct -/
theorem C02_Cd_tuples_nodup (E : Env α) (hG : RowsNodup E.G) (fuel : Nat) (acts : List Act) (g g' : Gen α) (ys : List Prog)
    (hnew : Gen.new E = some g) (hacts : ActsOK E acts) (h : runHist E fuel acts g [] = some (g', ys))
    (args : List NT) (q : Q α) (hq : AList.lookup args g'.st.queueDer = some q) : q.contents.Nodup :=
  tinv_contents_nodup (runHist_new hG hnew hacts h).1.tinv2.tinv args q hq

end PS.C02Cd
