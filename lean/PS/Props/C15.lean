/-
  C15 — Textual types and programs parse to the objects they denote: first types (`auto_type`),
  then programs (`parse_program`).  Model: PS/Model/Parse.lean; the notation of types and its
  denotation ⟦·⟧: PS/Model/TyExpr.lean.
-/
import PS.Proofs.ParseType
import PS.Proofs.ParseProg
import PS.Proofs.ParseTypeChars
import PS.Proofs.ParseProgChars
namespace PS.C15
open PS TyExpr

/-- **Token level.**  For every expression `e` of the documented notation (any nesting; names are
    words, `optional` is not a generic's name), the stack / infix-stack / or_flag machine of
    `auto_type`, run on the token stream of `e`, returns exactly the object `⟦e⟧`. -/
theorem C15_type_tokens (s : Bool) (e : TyExpr) (hwf : e.wf = true) :
    autoTypeToks s e.toks = .ok e.denote :=
  top_of_I (parse_all e hwf).2.1

/-- n-ary function types are right-nested arrows: `a -> b -> c` denotes `Arrow(a, Arrow(b, c))`,
    and this is what the parser returns. -/
theorem C15_type_arrows_right (s : Bool) (a b c : TyExpr) (h : (arrow a (arrow b c)).wf = true) :
    autoTypeToks s (arrow a (arrow b c)).toks
      = .ok (TyO.arrow a.denote (TyO.arrow b.denote c.denote)) := by
  rw [C15_type_tokens s _ h]; rfl

/-- a parenthesised arrow on the left is an argument of function type -/
theorem C15_type_arrows_left (s : Bool) (a b c : TyExpr) (h : (arrow (arrow a b) c).wf = true) :
    autoTypeToks s (arrow (arrow a b) c).toks
      = .ok (TyO.arrow (TyO.arrow a.denote b.denote) c.denote) := by
  rw [C15_type_tokens s _ h]; rfl

/-- the alternatives of `a | b` are those of `a` and those of `b` (in the order chosen by the
    library's `__or__`; equality of Sum objects ignores the order) -/
theorem C15_union_members (a b : TyO) : (members (tyOr a b)).Perm (members a ++ members b) := by
  have single : ∀ t : TyO, (∀ ts, t = .node .sum ts → False) → members t = [t] := by
    intro ⟨l, ks⟩ h
    cases l <;> first | rfl | exact absurd rfl (h ks)
  unfold tyOr
  split
  · exact List.perm_append_comm
  · next hb => rw [single b hb]; exact (List.perm_append_singleton _ _).symm
  · next ha => rw [single a ha]; exact List.Perm.refl _
  · next ha hb _ => rw [single a ha, single b hb]; exact List.Perm.refl _

-- non-vacuity: `'a list -> ('a -> 'b[int | bool]) -> 'b[int | bool] optional`
def exFb : TyExpr := .fvar "b".toList (.union (.prim "int".toList) (.prim "bool".toList))
def exE : TyExpr :=
  arrow (.generic "list".toList (.var "a".toList)) (arrow (arrow (.var "a".toList) exFb) (.optional exFb))
-- In the evaluations below a literal is first turned into its character list by
-- `String.toList_ofList` (the literal unifies with `String.ofList [..]`): left to itself the
-- kernel decodes the literal's UTF-8 bytes, which costs more than running the model on it.
theorem exE_wf : exE.wf = true := by decide +kernel
theorem render_exE : render (fun k => if k % 3 = 0 then 1 else 0) exE
    = " 'a list-> ('a-> 'b[int |bool] )->'b [int| bool]optional ".toList := by
  rw [String.toList_ofList]; decide +kernel
example : exE.wf = true ∧ autoTypeToks true exE.toks = .ok exE.denote ∧
    render (fun k => if k % 3 = 0 then 1 else 0) exE
      = " 'a list-> ('a-> 'b[int |bool] )->'b [int| bool]optional ".toList :=
  ⟨exE_wf, C15_type_tokens true _ exE_wf, render_exE⟩

/-- **Character level, tokenizer.**  For every well-formed expression `e` of the notation and
    EVERY spacing `sp : Nat → Nat` (any number of blanks, including none, before and after every
    token, after `(` and `[`, before `)` and `]`, at both ends of the text; `render` itself adds
    the one blank the notation requires between two adjacent words, e.g. `int list`), the
    character-level tokenizer of `auto_type` (`strip`, `__matching__`, `__next_token__`, the
    recursive calls on the text enclosed by parentheses / brackets) cuts the text `render sp e`
    into exactly the token tree of `e`.  No spacing is excluded: an operator is always followed
    by the start of an operand (a letter, `'` or `(`, where the infix token stops), never by
    `|`, `[` or another operator. -/
theorem C15_type_tokenize (s : Bool) (sp : Spacing) (e : TyExpr) (hwf : e.wf = true) :
    tokenize s ((render sp e).length + 1) (render sp e) = .ok e.toks :=
  tokenize_render sp e hwf

/-- **Character level, end to end.**  `auto_type` (the model `autoTypeText`, with the fuel the
    driver runs it with) applied to the text of `e` under any spacing returns exactly `⟦e⟧`. -/
theorem C15_type (s : Bool) (sp : Spacing) (e : TyExpr) (hwf : e.wf = true) :
    autoTypeText s (render sp e) = .ok e.denote := by
  unfold autoTypeText
  rw [autoType_of_tokenize _ _ _ (C15_type_tokenize s sp e hwf)]
  exact C15_type_tokens s e hwf

/-- the character-level machine agrees with the token-level machine on every text that the
    tokenizer accepts (also outside the notation) -/
theorem C15_type_machine (s : Bool) (d : Nat) (el : Str) (ts : List Tok) (h : tokenize s d el = .ok ts) :
    autoType s d el = autoTypeToks s ts :=
  autoType_of_tokenize d el ts h

-- non-vacuity: the nested type above written with odd spacing (no blank around `->`, blanks
-- inside the parentheses and brackets, between `'b` and `[`, at both ends)
example : autoTypeText true " 'a list-> ('a-> 'b[int |bool] )->'b [int| bool]optional ".toList
    = .ok exE.denote := by
  rw [← render_exE]; exact C15_type true _ exE exE_wf
-- the same text is really cut into the token tree of `exE` (8 top-level tokens), and no
-- blank at all is needed where no two words meet: `('a->'b)->'a`
example : tokenize true 99 " 'a list-> ('a-> 'b[int |bool] )->'b [int| bool]optional ".toList
    = .ok exE.toks ∧ exE.toks.length = 8 := by
  rw [String.toList_ofList]; decide +kernel
example : render (fun _ => 0) (arrow (arrow (.var "a".toList) (.var "b".toList)) (.var "a".toList))
      = "('a->'b)->'a".toList ∧
    autoTypeText true "('a->'b)->'a".toList
      = .ok (TyO.arrow (TyO.arrow (TyO.poly "a".toList) (TyO.poly "b".toList)) (TyO.poly "a".toList)) := by
  have e : render (fun _ => 0) (arrow (arrow (.var "a".toList) (.var "b".toList)) (.var "a".toList))
      = "('a->'b)->'a".toList := by decide +kernel
  exact ⟨e, by rw [← e]; exact C15_type true _ _ (by decide +kernel)⟩

/-! ## malformed type texts (finding C15-F4 and its repair)

  The type parser of the model takes a flag `s`: `true` = /repo (commit f101e39,
  fixes_applied/C15-F4.diff: four assertions), `false` = the code before that commit (a closing
  bracket where a token must start is read as an infix operator; infix operators and `|` that miss
  an operand are silently dropped).  All theorems above hold for both values of `s`: the
  assertions of the repair never fire on a text of the notation.  With the repair the malformed
  texts of the finding are rejected, for every expression and every spacing: -/

/-- **an infix operator that misses its right operand** (`int ->`, `'a list -> int *`):
    `AssertionError`, for every well-formed `e`, every operator symbol and every spacing -/
theorem C15_reject_dangling_after (sp : Spacing) (e : TyExpr) (hwf : e.wf = true) (w : Str)
    (hw : goodOp w = true) :
    autoTypeText true (renderToks sp (e.toks ++ [.node (.op w) []]) none 0).1 = .error .assertion := by
  obtain ⟨h1, h2⟩ := readable_snoc e hwf (.node (.op w) []) (by simp [tokOK, labelOK, hw])
  rw [autoTypeText_renderToks sp _ h1 h2]
  exact reject_op_after e hwf w

/-- **an infix operator that misses its left operand** (`-> int`, `-> int list`) -/
theorem C15_reject_dangling_before (sp : Spacing) (e : TyExpr) (hwf : e.wf = true) (w : Str)
    (hw : goodOp w = true) :
    autoTypeText true (renderToks sp (.node (.op w) [] :: e.toks) none 0).1 = .error .assertion := by
  obtain ⟨h1, h2⟩ := readable_cons e hwf w hw
  rw [autoTypeText_renderToks sp _ h1 h2]
  exact reject_op_before w e.toks

/-- **a `|` that misses its right alternative** (`int |`) -/
theorem C15_reject_dangling_bar (sp : Spacing) (e : TyExpr) (hwf : e.wf = true) :
    autoTypeText true (renderToks sp (e.toks ++ [.node .bar []]) none 0).1 = .error .assertion := by
  obtain ⟨h1, h2⟩ := readable_snoc e hwf (.node .bar []) (by simp [tokOK, labelOK])
  rw [autoTypeText_renderToks sp _ h1 h2]
  exact reject_bar_after e hwf

/-- token level: two infix operators in a row (`int -> -> int`) are rejected whatever follows -/
theorem C15_reject_double_operator (e : TyExpr) (hwf : e.wf = true) (w1 w2 : Str) (ts : List Tok) :
    autoTypeToks true (e.toks ++ .node (.op w1) [] :: .node (.op w2) [] :: ts) = .error .assertion :=
  reject_op_op e hwf w1 w2 ts

/-- **an unmatched closing bracket**: wherever the parser is about to read a token (at the start
    of the text or after any number of tokens) and finds `)` or `]`, it raises — for every rest of
    the text, every state of the machine and inside every nesting of parentheses -/
theorem C15_reject_unmatched_close (rec : Str → Res TyO) (fuel : Nat) (c : Char) (rest : Str)
    (st : St) (hc : c = ')' ∨ c = ']') :
    nextToken true (c :: rest) = .error .assertion ∧
    loopC true rec (fuel + 1) (c :: rest) st = .error .assertion :=
  ⟨nextToken_close c rest hc, loopC_close rec fuel c rest st hc⟩

-- non-vacuity: the texts of the finding and a few more, with odd spacing
example : render (fun _ => 0) exE = "'a list->('a->'b[int|bool])->'b[int|bool]optional".toList ∧
    (renderToks (fun k => k % 2) (exE.toks ++ [.node (.op "->".toList) []]) none 0).1
      = "'a  list-> ('a ->'b [int |bool ]) ->'b [int |bool ]optional ->".toList ∧
    (renderToks (fun k => k % 2) (.node (.op "*".toList) [] :: exE.toks) none 0).1
      = "* 'a list ->( 'a-> 'b[ int| bool] )-> 'b[ int| bool] optional".toList := by
  repeat rw [String.toList_ofList]
  decide +kernel
example : autoTypeText true "int)".toList = .error .assertion ∧
    autoTypeText true "int ->".toList = .error .assertion ∧
    autoTypeText true "-> int".toList = .error .assertion ∧
    autoTypeText true "-> int list".toList = .error .assertion ∧
    autoTypeText true "int |".toList = .error .assertion ∧
    autoTypeText true "int -> -> int".toList = .error .assertion ∧
    autoTypeText true "(int ->) -> int".toList = .error .assertion ∧
    autoTypeText true "'a[int]] -> int".toList = .error .assertion ∧
    autoTypeText true "(int -> int)) list".toList = .error .assertion := by
  repeat rw [String.toList_ofList]
  decide +kernel

/-- **Finding C15-F4** (the code without the repair): the same texts are accepted — the closing
    bracket is read as an infix operator and dropped like the other dangling operators; when the
    text has other operators the dropped one is not even the dangling one (`int -> bool *` is
    read as the generic `*` applied to int and bool: the arrow is lost). -/
theorem finding_C15_F4 :
    autoTypeText false "int)".toList = .ok (TyO.prim "int".toList) ∧
    autoTypeText false "int ->".toList = .ok (TyO.prim "int".toList) ∧
    autoTypeText false "-> int".toList = .ok (TyO.prim "int".toList) ∧
    autoTypeText false "int |".toList = .ok (TyO.prim "int".toList) ∧
    autoTypeText false "-> int list".toList
      = .ok (TyO.arrow (TyO.prim "int".toList) (TyO.prim "list".toList)) ∧
    autoTypeText false "int -> bool *".toList
      = .ok (.node (.generic "*".toList true) [TyO.prim "int".toList, TyO.prim "bool".toList]) := by
  repeat rw [String.toList_ofList]
  decide +kernel

/-! ## programs

  `goodProg dsl tr consts t` (PS/Model/Parse.lean, decidable, evaluated by the driver on every
  generated program) is the explicit guard: applicative term whose heads are leaves with at
  least one and at most arity-many arguments; names and printed constants are non-empty words
  without blank or parenthesis; a primitive is the first primitive of the DSL with its name; no
  primitive is called `var<n>`; a constant has a value that is a key of the table, is not a
  primitive's name and does not start with `var`; a variable has the type given by the request.
  Without the guard the round trip fails on the model: `finding_duplicate_names`. -/

/-- **Word level (characters).**  A leaf satisfying the guard, printed and surrounded by any
    parentheses, is parsed back to itself, with its type, by `parse_program`'s word branch
    (`strip("()")`, primitive table, `var<n>` with the type taken from the request, constants
    table). -/
theorem C15_program_word (dsl : Dsl) (tr : TyO) (consts : Consts) (l : PL) (o c : Str)
    (ho : ∀ x ∈ o, isParen x = true) (hc : ∀ x ∈ c, isParen x = true)
    (h : goodLeaf dsl tr consts l = true) :
    parseAtom dsl tr consts (o ++ leafWord l ++ c) = .ok (.node l []) :=
  parseAtom_leaf dsl tr consts l o c ho hc h

/-- **Round trip for one-word programs (characters).** -/
theorem C15_program_leaf (dsl : Dsl) (tr : TyO) (consts : Consts) (chk : Bool) (l : PL)
    (h : goodProg dsl tr consts (.node l []) = true) :
    parseProgram dsl tr consts chk (printProg (.node l [])) = .ok (.node l []) ∧
    progType (.node l []) = (match l with | .prim _ ty => ty | .var _ ty => ty | .const ty _ _ => ty | .app => progType (.node l [])) := by
  have hnapp : l ≠ .app := by rintro rfl; simp [goodProg] at h
  have hl := (goodProg_leaf hnapp h).2
  have hb : ' ' ∉ leafWord l := fun hmem => goodWord_no_blank (leafWord_good hl) _ hmem rfl
  refine ⟨?_, by cases l <;> simp [progType]⟩
  unfold parseProgram
  rw [printProg_leaf hnapp, if_neg hb]
  simpa using parseAtom_leaf dsl tr consts l [] [] (by simp) (by simp) hl

/-- **Structure level.**  For every applicative term `t` satisfying the guard, `parse_stack`,
    given the words of `str(t)` (as parsed leaves, in order) and the call counts of the
    bookkeeping loop, rebuilds exactly `t` — any arity, partial applications (fewer arguments
    than the head's type takes), function-typed variables as heads, functions as arguments. -/
theorem C15_program_stack (dsl : Dsl) (tr : TyO) (consts : Consts) (t : Prog)
    (h : goodProg dsl tr consts t = true) (fuel : Nat) (hf : Tree.depth t ≤ fuel) :
    ∃ L' C', parseStack fuel (leaves t) (calls t) = .ok (t, L', C') := by
  obtain ⟨L', C', h1, _⟩ := stack_ok dsl tr consts t h fuel [] [] hf
  exact ⟨L', C', by simpa using h1⟩

/-- the type of the rebuilt program is the type of the original (it *is* the original) -/
theorem C15_program_type (dsl : Dsl) (tr : TyO) (consts : Consts) (t : Prog)
    (h : goodProg dsl tr consts t = true) (fuel : Nat) (hf : Tree.depth t ≤ fuel) :
    ∃ q L' C', parseStack fuel (leaves t) (calls t) = .ok (q, L', C') ∧ progType q = progType t := by
  obtain ⟨L', C', h1⟩ := C15_program_stack dsl tr consts t h fuel hf
  exact ⟨t, L', C', h1, rfl⟩

/-- **Round trip, characters, end to end.**  For every DSL, type request, constants table and
    every term `t` satisfying the decidable guard `goodProg` (any arity, partial applications,
    function-typed variables as heads, calls as arguments, valued constants), parsing the
    printed form of `t` returns `t` itself — hence with the same type: `split(" ")`, the word
    parser, the call-count bookkeeping loop, `parse_stack` and (when `check` is set and the
    constants table maps every printed value to itself, `goodConsts`) the final re-print
    comparison all succeed.  Excluded by the guards: duplicated primitive names (C15-F5),
    names / printed constants containing blanks or parentheses, primitives called `var<n>`,
    constants without value. -/
theorem C15_program (dsl : Dsl) (tr : TyO) (consts : Consts) (chk : Bool) (t : Prog)
    (h : goodProg dsl tr consts t = true) (hc : chk = true → goodConsts consts = true) :
    parseProgram dsl tr consts chk (printProg t) = .ok t := by
  obtain ⟨l, ks⟩ := t
  by_cases hl : l = .app
  · subst hl
    exact parseProgram_print_app dsl tr consts chk ks h hc
  · obtain ⟨rfl, _⟩ := goodProg_leaf hl h
    exact (C15_program_leaf dsl tr consts chk l h).1

/-- the parsed program has the type of the original -/
theorem C15_program_same_type (dsl : Dsl) (tr : TyO) (consts : Consts) (chk : Bool) (t : Prog)
    (h : goodProg dsl tr consts t = true) (hc : chk = true → goodConsts consts = true) :
    ∃ q, parseProgram dsl tr consts chk (printProg t) = .ok q ∧ progType q = progType t :=
  ⟨t, C15_program dsl tr consts chk t h hc, rfl⟩

/-! ### non-vacuity and the finding -/

def tInt : TyO := TyO.prim "int".toList
def tBool : TyO := TyO.prim "bool".toList
def exDsl : Dsl := [("+".toList, TyO.arrow tInt (TyO.arrow tInt tInt)), ("1".toList, tInt),
                    ("app".toList, TyO.arrow (TyO.arrow tInt tInt) (TyO.arrow tInt tInt))]
def exTr : TyO := TyO.arrow (TyO.arrow tInt tInt) (TyO.arrow tInt tInt)
def exConsts : Consts := [("5".toList, (tInt, "5".toList))]
def pPlus : Prog := .node (.prim "+".toList (TyO.arrow tInt (TyO.arrow tInt tInt))) []
def pApp : Prog := .node (.prim "app".toList (TyO.arrow (TyO.arrow tInt tInt) (TyO.arrow tInt tInt))) []
/-- `(app (+ 5) (var0 var1))`: a partial application as argument, a function-typed variable as
    head, a valued constant -/
def exProg : Prog :=
  mkFunction pApp [mkFunction pPlus [.node (.const tInt "5".toList true) []],
                   mkFunction (.node (.var 0 (TyO.arrow tInt tInt)) []) [.node (.var 1 tInt) []]]

theorem exProg_good : goodProg exDsl exTr exConsts exProg = true := by decide +kernel
theorem print_exProg : printProg exProg = "(app (+ 5) (var0 var1))".toList := by
  rw [String.toList_ofList]; decide +kernel
theorem exConsts_good : goodConsts exConsts = true := by decide +kernel
example : goodProg exDsl exTr exConsts exProg = true ∧ goodConsts exConsts = true ∧
    printProg exProg = "(app (+ 5) (var0 var1))".toList ∧ calls exProg = [2, 1, 0, 1, 0] ∧
    (leaves exProg).map printProg = ["app", "+", "5", "var0", "var1"].map String.toList :=
  ⟨exProg_good, exConsts_good, print_exProg, by decide +kernel, by decide +kernel⟩
example : ∃ L' C', parseStack 3 (leaves exProg) (calls exProg) = .ok (exProg, L', C') :=
  C15_program_stack exDsl exTr exConsts exProg exProg_good 3 (by decide +kernel)

-- the end-to-end round trip on the concrete text, with the re-print check
example : parseProgram exDsl exTr exConsts true "(app (+ 5) (var0 var1))".toList = .ok exProg := by
  rw [← print_exProg]
  exact C15_program exDsl exTr exConsts true exProg exProg_good (fun _ => exConsts_good)

/-- **Finding C15-F5** (open).  With two primitives of the same name (what
    `instantiate_polymorphic_types` produces for `id : 'a -> 'a`), the parser resolves the name
    to the first one: the printed form of `(id t)` with `id : bool -> bool` is read back as
    another program (of type `int`), so the round trip fails without the guard. -/
def dupDsl : Dsl := [("1".toList, tInt), ("t".toList, tBool),
                     ("id".toList, TyO.arrow tInt tInt), ("id".toList, TyO.arrow tBool tBool)]
def dupProg : Prog :=
  mkFunction (.node (.prim "id".toList (TyO.arrow tBool tBool)) []) [.node (.prim "t".toList tBool) []]

theorem finding_duplicate_names :
    goodProg dupDsl tInt [] dupProg = false ∧
    printProg dupProg = "(id t)".toList ∧
    parseAtom dupDsl tInt [] "(id".toList = .ok (.node (.prim "id".toList (TyO.arrow tInt tInt)) []) ∧
    (.node (.prim "id".toList (TyO.arrow tInt tInt)) [] : Prog) ≠ .node (.prim "id".toList (TyO.arrow tBool tBool)) [] := by
  decide +kernel

end PS.C15
