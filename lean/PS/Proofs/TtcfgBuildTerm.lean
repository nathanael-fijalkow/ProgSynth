/-
  C13: termination of the worklist of `__saturation_build__` (fuel adequacy).

  The argument is a rank: if every entry an iteration pushes has a strictly smaller rank `rk`
  (of the pair non-terminal, pending stack) than the entry that was popped, and an iteration pushes
  at most `b` entries (`b` = number of variables of the request + number of primitives), then the
  entry of rank `n` costs at most `satBound b n = 1 + b + … + bⁿ` iterations, with either
  de-duplication.

  For `size_constraint` the rank is `max_size + 1 - size` (every rule created has `size ≤ max_size`
  and moves to `size + 1`), so termination is unconditional.  For `at_most_k` the rank `atMostRankC`
  and the termination theorem are in TtcfgAtMostTerm.lean; what its statement is written with
  (`spendAll`, `totalArity`) and the case analysis of the transition (`atMostTransition_true`) stand at
  the end of this file.  The rank argument itself is `wloop_terminates`, stated for the stack loop
  `wloop` of TtcfgLoop.lean; the two passes of `clean` take it from here (TtcfgCleanTerm.lean).
-/
import PS.Proofs.TtcfgBuild
import PS.Proofs.ListSum
namespace PS.T
open PS PS.G

variable {S T : Type} [DecidableEq S] [DecidableEq T]

/-- `1 + b + b² + … + bⁿ` -/
def satBound (b : Nat) : Nat → Nat
  | 0 => 1
  | n + 1 => 1 + b * satBound b n

theorem satBound_pos (b n : Nat) : 1 ≤ satBound b n := by
  cases n <;> simp [satBound]

theorem satBound_mono (b : Nat) : ∀ (m n : Nat), m ≤ n → satBound b m ≤ satBound b n
  | 0, n, _ => satBound_pos b n
  | m + 1, 0, h => by omega
  | m + 1, n + 1, h => by
    simp only [satBound]
    have := satBound_mono b m n (by omega)
    have := Nat.mul_le_mul_left b this
    omega

/-- the bound of an entry pays for its own iteration and for the bounds of what it pushes: at
    most `b` entries of smaller rank -/
theorem satBound_pushes {α : Type} (b : Nat) (rk : α → Nat) (x : α) (ps todo : List α)
    (hlen : ps.length ≤ b) (hlt : ∀ p ∈ ps, rk p < rk x) :
    ((ps.reverse ++ todo).map (fun p => satBound b (rk p))).sum + 1 ≤
      ((x :: todo).map (fun p => satBound b (rk p))).sum := by
  rw [List.map_append, List.sum_append, List.map_reverse, List.sum_reverse, List.map_cons, List.sum_cons]
  cases hr : rk x with
  | zero =>
    cases ps with
    | nil => simp [satBound]; omega
    | cons p ps => have := hlt p (List.mem_cons_self ..); omega
  | succ n =>
    have hsum := sum_map_le (fun p => satBound b (rk p)) (satBound b n) ps
      (fun p hp => satBound_mono _ _ _ (by have := hlt p hp; omega))
    have := Nat.mul_le_mul_right (satBound b n) hlen
    simp only [satBound]
    omega

theorem wloop_terminates {α σ : Type} (body : α → σ → Res (List α × σ)) (b : Nat) (rk : α → Nat)
    (I : List α → σ → Prop)
    (step : ∀ x todo s, I (x :: todo) s → ∃ ps s', body x s = .ok (ps, s') ∧ ps.length ≤ b ∧
      (∀ p ∈ ps, rk p < rk x) ∧ I (ps.reverse ++ todo) s') :
    ∀ (fuel : Nat) (todo : List α) (s : σ), I todo s → (todo.map (fun x => satBound b (rk x))).sum ≤ fuel →
      ∃ r, wloop body fuel todo s = .ok r ∧ I [] r := by
  unfold wloop
  refine gloop_terminates .fuel .ok (stackStep body) (fun todo _ => (todo.map (fun x => satBound b (rk x))).sum) I ?_
  intro x todo s hI
  obtain ⟨ps, s', hb, hlen, hlt, hI'⟩ := step x todo s hI
  have := satBound_pushes b rk x ps todo hlen hlt
  exact ⟨ps.reverse ++ todo, s', by rw [stackStep, hb], by omega, hI'⟩

omit [DecidableEq S] [DecidableEq T] in
theorem pushesOf_length (B : Builder S T) (prims : List Sym) (request : Ty) (rule : NT S T) (stack : List (Ty × S)) :
    (pushesOf B prims request rule stack).length ≤ request.arguments.length + prims.length :=
  Nat.le_trans (List.length_filterMap_le _ _) (rowList_length B prims request rule)

theorem satLoop_terminates (B : Builder S T) (prims : List Sym) (request : Ty) (stackKey : Bool)
    (rk : NT S T × List (Ty × S) → Nat)
    (hdec : ∀ (rule : NT S T) (stack : List (Ty × S)), ∀ p ∈ pushesOf B prims request rule stack,
      rk (entryKey p) < rk (rule, stack))
    (fuel : Nat) (todo : List (Entry S T)) (seen : List (NT S T × List (Ty × S))) (tbl : Table S T)
    (h : (todo.map (fun x => satBound (request.arguments.length + prims.length) (rk (entryKey x)))).sum ≤ fuel) :
    ∃ r, satLoop B prims request stackKey fuel todo seen tbl = some r ∧ r.length ≤ tbl.length +
      (todo.map (fun x => satBound (request.arguments.length + prims.length) (rk (entryKey x)))).sum := by
  obtain ⟨r, hw, hr⟩ := wloop_terminates (satBody B prims request stackKey) (request.arguments.length + prims.length)
    (fun x => rk (entryKey x))
    (fun todo' s => s.2.length + (todo'.map (fun x => satBound (request.arguments.length + prims.length) (rk (entryKey x)))).sum
      ≤ tbl.length + (todo.map (fun x => satBound (request.arguments.length + prims.length) (rk (entryKey x)))).sum)
    (fun x todo' s hI => by
      unfold satBody
      cases satSkip stackKey x s.1 s.2
      · have := satBound_pushes _ (fun x => rk (entryKey x)) x _ todo' (pushesOf_length B prims request (entryKey x).1 (entryKey x).2)
          (hdec _ _)
        have := setDefault_length_le (entryKey x).1 (rowDict B prims request (entryKey x).1) s.2
        exact ⟨_, _, rfl, pushesOf_length B prims request _ _, hdec _ _, by simp only; omega⟩
      · exact ⟨[], s, rfl, Nat.zero_le _, nofun, by simp only [List.map_cons, List.sum_cons] at hI; simpa using by omega⟩)
    fuel todo (seen, tbl) (Nat.le_refl _) h
  exact ⟨r.2, (satLoop_eq B prims request stackKey fuel todo seen tbl r.2).mpr ⟨r.1, hw⟩, by simpa using hr⟩

theorem satLoop_mono (B : Builder S T) (prims : List Sym) (request : Ty) (stackKey : Bool) (extra : Nat)
    (fuel : Nat) (todo : List (Entry S T)) (seen : List (NT S T × List (Ty × S))) (tbl r : Table S T)
    (h : satLoop B prims request stackKey fuel todo seen tbl = some r) :
    satLoop B prims request stackKey (fuel + extra) todo seen tbl = some r := by
  obtain ⟨seen', hw⟩ := (satLoop_eq B prims request stackKey fuel todo seen tbl r).mp h
  exact (satLoop_eq B prims request stackKey _ todo seen tbl r).mpr ⟨seen', wloop_mono _ extra fuel _ _ _ hw⟩

theorem saturationTable_bound (B : Builder S T) (prims : List Sym) (request : Ty) (stackKey : Bool)
    (rk : NT S T × List (Ty × S) → Nat)
    (hdec : ∀ (rule : NT S T) (stack : List (Ty × S)), ∀ p ∈ pushesOf B prims request rule stack,
      rk (entryKey p) < rk (rule, stack))
    (fuel : Nat) (hf : satBound (request.arguments.length + prims.length) (rk ((request.returns, B.init), [])) ≤ fuel) :
    ∃ G, saturationTable B prims request stackKey fuel = some G ∧
      G.rules.length ≤ satBound (request.arguments.length + prims.length) (rk ((request.returns, B.init), [])) := by
  obtain ⟨tbl, hl, hlen⟩ := satLoop_terminates B prims request stackKey rk hdec fuel
    [((request.returns, B.init.1), B.init.2, [])] [] [] (by simpa [entryKey] using hf)
  exact ⟨_, saturationTable_eq_some.mpr ⟨tbl, hl, rfl⟩, by simpa [entryKey] using hlen⟩

theorem saturationTable_terminates (B : Builder S T) (prims : List Sym) (request : Ty) (stackKey : Bool)
    (rk : NT S T × List (Ty × S) → Nat)
    (hdec : ∀ (rule : NT S T) (stack : List (Ty × S)), ∀ p ∈ pushesOf B prims request rule stack,
      rk (entryKey p) < rk (rule, stack))
    (fuel : Nat) (hf : satBound (request.arguments.length + prims.length) (rk ((request.returns, B.init), [])) ≤ fuel) :
    (saturationTable B prims request stackKey fuel).isSome = true := by
  obtain ⟨G, hG, _⟩ := saturationTable_bound B prims request stackKey rk hdec fuel hf
  rw [hG]; rfl

theorem saturationTable_mono (B : Builder S T) (prims : List Sym) (request : Ty) (stackKey : Bool) (fuel extra : Nat)
    (G : TT S T) (h : saturationTable B prims request stackKey fuel = some G) :
    saturationTable B prims request stackKey (fuel + extra) = some G := by
  obtain ⟨tbl, hl, rfl⟩ := saturationTable_eq_some.mp h
  exact saturationTable_eq_some.mpr ⟨tbl, satLoop_mono B prims request stackKey extra fuel _ _ _ tbl hl, rfl⟩

omit [DecidableEq S] [DecidableEq T] in
theorem mem_pushesOf (B : Builder S T) (prims : List Sym) (request : Ty) (rule : NT S T) (stack : List (Ty × S))
    (p : Entry S T) (hp : p ∈ pushesOf B prims request rule stack) :
    ∃ c ∈ candidates prims request rule.1, (B.transition rule c.1).1 = true ∧
      decorate B rule c.1 c.2 ++ stack = p.1 :: p.2.2 ∧ p.2.1 = (B.transition rule c.1).2 := by
  obtain ⟨⟨P, val⟩, hr, hm, hs⟩ := mem_pushesOf_iff.mp hp
  obtain ⟨c, hc, rfl, ht, rfl⟩ := (mem_rowList B prims request rule P val).mp hr
  exact ⟨c, hc, ht, hm, hs.symm⟩

theorem sizeTransition_size (dsl : Dsl) (maxSize : Nat) (actual : Bool) (nt : NT Ctx (Nat × Nat)) (P : Sym)
    (h : (sizeTransition dsl maxSize actual nt P).1 = true) :
    nt.2.2.1 ≤ maxSize ∧ (sizeTransition dsl maxSize actual nt P).2.1 = nt.2.2.1 + 1 := by
  revert h
  fun_cases sizeTransition dsl maxSize actual nt P with
  | case1 | case2 => nofun
  | case3 _ _ _ hs | case4 _ _ _ hs | case5 _ _ _ hs | case6 _ _ _ hs => exact fun _ => ⟨Nat.le_of_not_gt hs, rfl⟩

def sizeRank (maxSize : Nat) (c : NT Ctx (Nat × Nat) × List (Ty × Ctx)) : Nat := maxSize + 1 - c.1.2.2.1

theorem size_rank (dsl : Dsl) (request : Ty) (nG : Int) (maxSize : Nat) (actual : Bool)
    (rule : NT Ctx (Nat × Nat)) (stack : List (Ty × Ctx)) :
    ∀ p ∈ pushesOf (sizeBuilder dsl nG maxSize actual) dsl.prims request rule stack,
      sizeRank maxSize (entryKey p) < sizeRank maxSize (rule, stack) := by
  intro p hp
  obtain ⟨c, _, ht, _, hs⟩ := mem_pushesOf _ _ _ _ _ p hp
  obtain ⟨h1, h2⟩ := sizeTransition_size dsl maxSize actual rule c.1 ht
  unfold sizeRank entryKey
  simp only
  rw [hs]
  change maxSize + 1 - (sizeTransition dsl maxSize actual rule c.1).2.1 < _
  rw [h2]
  omega

theorem size_saturation_terminates (dsl : Dsl) (request : Ty) (nG : Int) (maxSize : Nat) (actual stackKey : Bool)
    (fuel : Nat) (hf : satBound (request.arguments.length + dsl.prims.length) (maxSize + 1) ≤ fuel) :
    (saturationTable (sizeBuilder dsl nG maxSize actual) dsl.prims request stackKey fuel).isSome = true :=
  saturationTable_terminates _ dsl.prims request stackKey (sizeRank maxSize)
    (size_rank dsl request nG maxSize actual) fuel (by simpa [sizeRank, sizeBuilder] using hf)

/-- every primitive that takes an argument is the counted one: then every application spends an
    occurrence and the language is finite -/
def spendAll (dsl : Dsl) (name : String) : Bool :=
  dsl.prims.all (fun p => p.ty.arguments.isEmpty || decide (symStr p = name))

def totalArity (dsl : Dsl) : Nat := (dsl.prims.map (fun p => p.ty.arguments.length)).sum

theorem atMostTransition_true {dsl : Dsl} {name : String} {nt : NT Ctx Nat} {P : Sym}
    (h : (atMostTransition dsl name nt P).1 = true) :
    (symStr P ≠ name ∧ (atMostTransition dsl name nt P).2 = nt.2.2) ∨
    (symStr P = name ∧ 0 < nt.2.2 ∧ (atMostTransition dsl name nt P).2 = nt.2.2 - 1) := by
  revert h
  fun_cases atMostTransition dsl name nt P with
  | case1 => nofun
  | case2 _ _ hne => exact fun _ => Or.inl ⟨hne, rfl⟩
  | case3 _ _ he => exact fun h => Or.inr ⟨by simpa using he, by simpa using h, rfl⟩

end PS.T
