/-
  C15 — helper lemmas, character level, programs: `split(" ")` cuts the printed form of an
  applicative term into its words, the word branch of `parse_program` reads every word back,
  the bookkeeping loop computes the call counts, and the re-print check succeeds.
-/
import PS.Proofs.ParseProg
namespace PS.C15
open PS

theorem splitBlank_ne_nil (s : Str) : splitBlank s ≠ [] := by
  fun_cases splitBlank s <;> simp_all

theorem splitBlank_noblank (w : Str) (h : ∀ x ∈ w, x ≠ ' ') : splitBlank w = [w] := by
  induction w with
  | nil => rfl
  | cons c r ih =>
    rw [splitBlank, ih (fun x hx => h x (by simp [hx]))]
    simp [h c (by simp)]

theorem splitBlank_append_blank (u v : Str) :
    splitBlank (u ++ ' ' :: v) = splitBlank u ++ splitBlank v := by
  fun_induction splitBlank u with
  | case1 =>
    rw [List.nil_append, splitBlank]
    fun_cases splitBlank v <;> simp_all
  | case2 c r h ih => exact absurd h (splitBlank_ne_nil r)
  | case3 r w ws h ih => rw [List.cons_append, splitBlank, ih, h]; simp
  | case4 c r w ws h hc ih => rw [List.cons_append, splitBlank, ih, h]; simp [hc]

def closes (c : Nat) : Str := List.replicate c ')'

mutual
  /-- the words of `str(t)` followed by `c` closing parentheses (of enclosing calls) -/
  def words (c : Nat) : Prog → List Str
    | .node .app [] => [closes c]
    | .node .app (f :: args) => ('(' :: printProg f) :: wordsL (c + 1) args
    | .node l _ => [leafWord l ++ closes c]
  /-- the words of an argument list whose last word carries `c` closing parentheses -/
  def wordsL (c : Nat) : List Prog → List Str
    | [] => []
    | [a] => words c a
    | a :: b :: as => words 0 a ++ wordsL c (b :: as)
end

/-- the text of an argument list without its leading blank -/
def printArgs1 : List Prog → Str
  | [] => []
  | a :: as => printProg a ++ printArgs as

theorem closes_succ (c : Nat) : ')' :: closes c = closes (c + 1) := by
  simp [closes, List.replicate_succ]

theorem closes_no_blank (c : Nat) : ∀ x ∈ closes c, x ≠ ' ' := by
  intro x hx
  have : x = ')' := (List.mem_replicate.mp hx).2
  subst this; decide

theorem closes_paren (c : Nat) : ∀ x ∈ closes c, isParen x = true := by
  intro x hx
  have : x = ')' := (List.mem_replicate.mp hx).2
  subst this; decide

theorem goodWord_no_blank {w : Str} (h : goodWord w = true) : ∀ x ∈ w, x ≠ ' ' := by
  intro x hx
  simp only [goodWord, Bool.and_eq_true, List.all_eq_true] at h
  have := h.2 x hx
  simp only [bne_iff_ne, ne_eq] at this
  exact this.1.1

theorem printProg_leaf {l : PL} (hl : l ≠ .app) : printProg (.node l []) = leafWord l := by
  cases l <;> first | exact absurd rfl hl | simp [printProg, leafWord]

theorem good_leaf_shape {dsl : Dsl} {tr : TyO} {consts : Consts} {f : Prog}
    (hl : isLeaf f = true) (hg : goodProg dsl tr consts f = true) :
    ∃ l, f = .node l [] ∧ goodLeaf dsl tr consts l = true ∧ printProg f = leafWord l := by
  obtain ⟨l, ks⟩ := f
  have hnapp : l ≠ .app := fun e => isLeaf_not_app hl ks (e ▸ rfl)
  obtain ⟨rfl, h2⟩ := goodProg_leaf hnapp hg
  exact ⟨l, rfl, h2, printProg_leaf hnapp⟩

theorem mapM_cons_ok {α β} {f : α → Res β} {a : α} {l : List α} {b : β} {bs : List β}
    (h1 : f a = .ok b) (h2 : l.mapM f = .ok bs) : (a :: l).mapM f = .ok (b :: bs) := by
  rw [List.mapM_cons, h1, h2]; rfl

theorem mapM_append_ok {α β} {f : α → Res β} {l1 l2 : List α} {b1 b2 : List β}
    (h1 : l1.mapM f = .ok b1) (h2 : l2.mapM f = .ok b2) : (l1 ++ l2).mapM f = .ok (b1 ++ b2) := by
  rw [List.mapM_append, h1, h2]; rfl

theorem closeLoop_closes (c : Nat) (d : Char) (r : Str) (hd : d ≠ ')') :
    ∀ (level : Int) (levels : List Nat), c ≤ levels.length →
      closeLoop (closes c ++ d :: r) level levels = .ok (level - c, levels.drop c) := by
  induction c with
  | zero => intro level levels _; simp [closes, closeLoop, hd]
  | succ c ih =>
    intro level levels hc
    cases levels with
    | nil => simp at hc
    | cons top ls =>
      rw [← closes_succ]
      show closeLoop (')' :: (closes c ++ d :: r)) level (top :: ls) = _
      rw [closeLoop]
      simp only [if_true]
      rw [ih (level - 1) ls (by simpa using hc)]
      have e : level - 1 - (c : Int) = level - ((c + 1 : Nat) : Int) := by
        rw [Int.natCast_succ, Int.sub_sub, Int.add_comm 1]
      rw [e]; rfl

theorem incrAt_length (fc : List Nat) (i : Nat) : (incrAt fc i).length = fc.length := by
  induction fc generalizing i with
  | nil => rfl
  | cons x xs ih => cases i <;> simp [incrAt, ih]

theorem incrAt_append (F : List Nat) (x : Nat) (S : List Nat) :
    incrAt (F ++ x :: S) F.length = F ++ (x + 1) :: S := by
  induction F with
  | nil => rfl
  | cons y F ih => simp [incrAt, ih]

theorem reverse_word_closes (w : Str) (c : Nat) (hw : goodWord w = true) :
    ∃ d r, (w ++ closes c).reverse = closes c ++ d :: r ∧ d ≠ ')' := by
  have hne := goodWord_ne_nil hw
  have hnp := goodWord_not_paren hw
  refine ⟨w.getLast hne, w.dropLast.reverse, ?_, ?_⟩
  · rw [List.reverse_append]
    have : (closes c).reverse = closes c := by simp [closes]
    rw [this]
    congr 1
    conv => lhs; rw [← List.dropLast_concat_getLast hne]
    simp
  · intro e
    have := hnp _ (List.getLast_mem hne)
    rw [e] at this
    revert this; decide

/-- a word that is an argument, possibly closing `c` calls -/
theorem bookLoop_leaf (w : Str) (c : Nat) (rest : List Str) (fc : List Nat) (level : Int)
    (top : Nat) (ls : List Nat) (hw : goodWord w = true) (hl : 0 < level) (hc : c ≤ ls.length + 1) :
    bookLoop ((w ++ closes c) :: rest) fc level (top :: ls) =
      bookLoop rest (incrAt fc top ++ [0]) (level - c) ((top :: ls).drop c) := by
  obtain ⟨d, r, e, hd⟩ := reverse_word_closes w c hw
  have hhead : (w ++ closes c).head? ≠ some '(' := by
    cases w with
    | nil => exact absurd rfl (goodWord_ne_nil hw)
    | cons x xs =>
      have := goodWord_not_paren hw x (by simp)
      intro h
      simp only [List.cons_append, List.head?_cons, Option.some.injEq] at h
      rw [h] at this; revert this; decide
  rw [bookLoop]
  simp only [hl, if_true, hhead, if_false]
  rw [e, closeLoop_closes c d r hd level (top :: ls) (by simpa using hc)]

/-- the head word of a call written as an argument -/
theorem bookLoop_head (w : Str) (rest : List Str) (fc : List Nat) (level : Int)
    (top : Nat) (ls : List Nat) (hw : goodWord w = true) (hl : 0 < level) :
    bookLoop (('(' :: w) :: rest) fc level (top :: ls) =
      bookLoop rest (incrAt fc top ++ [0]) (level + 1) (fc.length :: top :: ls) := by
  obtain ⟨d, r, e, hd⟩ := reverse_word_closes w 0 hw
  simp only [closes, List.replicate_zero, List.append_nil, List.nil_append] at e
  rw [bookLoop]
  simp only [hl, if_true, List.head?_cons]
  rw [List.reverse_cons, e, List.cons_append, closeLoop]
  simp [hd, incrAt_length]

/-- the head word of the outermost call -/
theorem bookLoop_head0 (w : Str) (rest : List Str) (hw : goodWord w = true) :
    bookLoop (('(' :: w) :: rest) [] 0 [] = bookLoop rest [0] 1 [0] := by
  obtain ⟨d, r, e, hd⟩ := reverse_word_closes w 0 hw
  simp only [closes, List.replicate_zero, List.append_nil, List.nil_append] at e
  rw [bookLoop]
  simp only [Int.lt_irrefl, if_false, List.head?_cons, if_true]
  rw [List.reverse_cons, e, List.cons_append, closeLoop]
  simp [hd]

/-- what `split(" ")`, the word parser and the bookkeeping loop do on the words of `t`
    (written in argument position, followed by `c` closing parentheses) -/
structure WordsOK (dsl : Dsl) (tr : TyO) (consts : Consts) (t : Prog) : Prop where
  split : ∀ c, splitBlank (printProg t ++ closes c) = words c t
  atoms : ∀ c, (words c t).mapM (parseAtom dsl tr consts) = .ok (leaves t)
  book : ∀ (c : Nat) (F : List Nat) (x : Nat) (S ls : List Nat) (level : Int) (rest : List Str),
    0 < level → c ≤ ls.length + 1 →
    bookLoop (words c t ++ rest) (F ++ x :: S) level (F.length :: ls) =
      bookLoop rest (F ++ (x + 1) :: (S ++ calls t)) (level - c) ((F.length :: ls).drop c)
  depth : Tree.depth t ≤ (leaves t).length

structure WordsLOK (dsl : Dsl) (tr : TyO) (consts : Consts) (ts : List Prog) : Prop where
  split : ∀ c, splitBlank (printArgs1 ts ++ closes c) = wordsL c ts
  atoms : ∀ c, (wordsL c ts).mapM (parseAtom dsl tr consts) = .ok (leavesL ts)
  book : ∀ (c : Nat) (F : List Nat) (x : Nat) (S ls : List Nat) (level : Int) (rest : List Str),
    0 < level → c ≤ ls.length + 1 →
    bookLoop (wordsL c ts ++ rest) (F ++ x :: S) level (F.length :: ls) =
      bookLoop rest (F ++ (x + ts.length) :: (S ++ callsL ts)) (level - c) ((F.length :: ls).drop c)
  depth : Tree.depthList ts ≤ (leavesL ts).length
  pos : 0 < (leavesL ts).length

theorem words_leaf {dsl : Dsl} {tr : TyO} {consts : Consts} {l : PL} {ks : List Prog} (hnapp : l ≠ .app)
    (h : goodProg dsl tr consts (.node l ks) = true) : WordsOK dsl tr consts (.node l ks) := by
  obtain ⟨rfl, hg⟩ := goodProg_leaf hnapp h
  have hw := leafWord_good hg
  have hwords : ∀ c, words c (.node l []) = [leafWord l ++ closes c] := by
    intro c; cases l <;> first | exact absurd rfl hnapp | rfl
  refine ⟨?_, ?_, ?_, ?_⟩
  · intro c
    rw [hwords, printProg_leaf hnapp]
    apply splitBlank_noblank
    intro x hx
    rcases List.mem_append.mp hx with h | h
    · exact goodWord_no_blank hw x h
    · exact closes_no_blank c x h
  · intro c
    rw [hwords, leaves_leaf hnapp]
    have := parseAtom_leaf dsl tr consts l [] (closes c) (by simp) (closes_paren c) hg
    exact mapM_cons_ok (by simpa using this) rfl
  · intro c F x S ls level rest hl hc
    rw [hwords, calls_leaf hnapp]
    show bookLoop ((leafWord l ++ closes c) :: rest) _ _ _ = _
    rw [bookLoop_leaf _ c rest _ level _ ls hw hl hc, incrAt_append]
    simp
  · rw [leaves_leaf hnapp]; simp [Tree.depth, Tree.depthList]

theorem printArgs_cons (a : Prog) (as : List Prog) :
    printArgs (a :: as) = ' ' :: printArgs1 (a :: as) := by
  simp [printArgs, printArgs1]

/-- the printed form of a call, with the blank after the head word made explicit -/
theorem printProg_app (f a : Prog) (as : List Prog) :
    printProg (.node .app (f :: a :: as)) = '(' :: printProg f ++ ' ' :: (printArgs1 (a :: as) ++ [')']) := by
  rw [printProg, printApp]
  · simp [printArgs_cons]
  · intro h; cases h

theorem wordsL_ok_of {dsl : Dsl} {tr : TyO} {consts : Consts} (ts : List Prog)
    (ih : ∀ t ∈ ts, goodProg dsl tr consts t = true → WordsOK dsl tr consts t)
    (h : goodProgs dsl tr consts ts = true) (hne : ts ≠ []) : WordsLOK dsl tr consts ts := by
  induction ts with
  | nil => exact absurd rfl hne
  | cons a as ihas =>
    obtain ⟨hga, hgs⟩ := goodProgs_cons h
    have A := ih a List.mem_cons_self hga
    cases as with
    | nil =>
      refine ⟨?_, ?_, ?_, ?_, ?_⟩
      · intro c; simpa [printArgs1, printArgs, wordsL] using A.split c
      · intro c; simpa [wordsL, leavesL] using A.atoms c
      · intro c F x S ls level rest hl hc
        simpa [wordsL, callsL] using A.book c F x S ls level rest hl hc
      · have := A.depth
        simp only [Tree.depthList, leavesL, List.append_nil]; omega
      · have := leaves_ne_nil a hga
        simp only [leavesL, List.append_nil]
        exact List.length_pos_iff.mpr this
    | cons b bs =>
      have L := ihas (fun t ht => ih t (List.mem_cons_of_mem _ ht)) hgs (List.cons_ne_nil _ _)
      refine ⟨?_, ?_, ?_, ?_, ?_⟩
      · intro c
        have e : printArgs1 (a :: b :: bs) ++ closes c
            = (printProg a ++ closes 0) ++ ' ' :: (printArgs1 (b :: bs) ++ closes c) := by
          rw [printArgs1, printArgs_cons]; simp [closes]
        rw [e, splitBlank_append_blank, A.split 0, L.split c, wordsL]
      · intro c
        rw [wordsL, leavesL]
        exact mapM_append_ok (A.atoms 0) (L.atoms c)
      · intro c F x S ls level rest hl hc
        rw [wordsL, List.append_assoc, A.book 0 F x S ls level _ hl (Nat.zero_le _)]
        have e : level - ((0 : Nat) : Int) = level := by simp
        rw [e, List.drop_zero, L.book c F (x + 1) (S ++ calls a) ls level rest hl hc]
        simp only [callsL, List.length_cons, List.append_assoc]
        congr 3
        omega
      · have := A.depth
        have := L.depth
        simp only [Tree.depthList, leavesL, List.length_append] at *
        omega
      · have := L.pos
        simp only [leavesL, List.length_append] at *
        omega

theorem words_ok (dsl : Dsl) (tr : TyO) (consts : Consts) :
    (t : Prog) → goodProg dsl tr consts t = true → WordsOK dsl tr consts t := by
  refine Tree.ind fun l ks ih h => ?_
  by_cases hl : l = .app
  · subst hl
    obtain ⟨f, a, as, rfl, hf, hlen, hgf, hgs⟩ := goodProg_app h
    obtain ⟨l, rfl, hgl, hpf⟩ := good_leaf_shape hf hgf
    have hw := leafWord_good hgl
    have L := wordsL_ok_of (a :: as) (fun t ht => ih t (List.mem_cons_of_mem _ ht)) hgs (List.cons_ne_nil _ _)
    have hwords : ∀ c, words c (.node .app (.node l [] :: a :: as))
        = ('(' :: leafWord l) :: wordsL (c + 1) (a :: as) := by
      intro c; rw [words, hpf]
    have hleaves : leaves (.node .app (.node l [] :: a :: as))
        = .node l [] :: leavesL (a :: as) := by
      rw [leaves, leavesL, isLeaf_leaves hf]; rfl
    have hcalls : calls (.node .app (.node l [] :: a :: as))
        = (a :: as).length :: callsL (a :: as) := by
      rw [calls]
    refine ⟨?_, ?_, ?_, ?_⟩
    · intro c
      rw [hwords, ← L.split (c + 1)]
      have e : printProg (.node .app (.node l [] :: a :: as)) ++ closes c
          = ('(' :: leafWord l) ++ ' ' :: (printArgs1 (a :: as) ++ closes (c + 1)) := by
        rw [printProg_app, hpf, ← closes_succ]; simp
      rw [e, splitBlank_append_blank, splitBlank_noblank]
      · rfl
      · intro x hx
        rcases List.mem_cons.mp hx with e | e
        · subst e; decide
        · exact goodWord_no_blank hw x e
    · intro c
      rw [hwords, hleaves]
      have := parseAtom_leaf dsl tr consts l ['('] [] (by simp [isParen]) (by simp) hgl
      exact mapM_cons_ok (by simpa using this) (L.atoms (c + 1))
    · intro c F x S ls level rest hl hc
      rw [hwords, hcalls]
      show bookLoop (('(' :: leafWord l) :: (wordsL (c + 1) (a :: as) ++ rest)) _ _ _ = _
      rw [bookLoop_head _ _ _ level _ ls hw hl, incrAt_append]
      have e1 : F ++ (x + 1) :: S ++ [0] = (F ++ (x + 1) :: S) ++ 0 :: [] := by simp
      have e2 : (F ++ x :: S).length = (F ++ (x + 1) :: S).length := by simp
      rw [e1, e2, L.book (c + 1) (F ++ (x + 1) :: S) 0 [] (F.length :: ls) (level + 1) rest
        (by omega) (by simp; omega)]
      have e3 : level + 1 - ((c + 1 : Nat) : Int) = level - (c : Int) := by
        rw [Int.natCast_succ, Int.add_sub_add_right]
      rw [e3]
      simp
    · have := L.depth
      have hp := L.pos
      rw [hleaves]
      simp only [Tree.depth, Tree.depthList, List.length_cons] at this ⊢
      omega
  · exact words_leaf hl h

theorem wordsL_ok (dsl : Dsl) (tr : TyO) (consts : Consts) :
    (ts : List Prog) → goodProgs dsl tr consts ts = true → ts ≠ [] → WordsLOK dsl tr consts ts :=
  fun ts => wordsL_ok_of ts fun t _ => words_ok dsl tr consts t

theorem replaceAll_same (old : Str) : ∀ (fuel : Nat) (s : Str), replaceAll fuel s old old = s := by
  intro fuel
  induction fuel with
  | zero => intro s; rfl
  | succ fuel ih =>
    intro s
    cases s with
    | nil => rfl
    | cons c r =>
      rw [replaceAll]
      by_cases h : old.isPrefixOf (c :: r) = true ∧ old ≠ []
      · rw [if_pos h, ih, List.prefix_iff_eq_append.mp (List.isPrefixOf_iff_prefix.mp h.1)]
      · rw [if_neg h, ih]

theorem checkRepr_id (consts : Consts) (h : goodConsts consts = true) (s : Str) :
    checkRepr consts s = s := by
  unfold checkRepr
  induction consts generalizing s with
  | nil => rfl
  | cons kv rest ih =>
    simp only [goodConsts, List.all_cons, Bool.and_eq_true, beq_iff_eq] at h
    rw [List.foldl_cons]
    have e : kv.1 = kv.2.2 := h.1
    simp only [e, replaceAll_same]
    exact ih (by simpa [goodConsts] using h.2) s

theorem bookLoop_nil (fc : List Nat) (level : Int) (levels : List Nat) :
    bookLoop [] fc level levels = .ok fc := by simp [bookLoop]

theorem parseProgram_print_app (dsl : Dsl) (tr : TyO) (consts : Consts) (chk : Bool)
    (ks : List Prog) (h : goodProg dsl tr consts (.node .app ks) = true)
    (hc : chk = true → goodConsts consts = true) :
    parseProgram dsl tr consts chk (printProg (.node .app ks)) = .ok (.node .app ks) := by
  obtain ⟨f, a, as, rfl, hf, hlen, hgf, hgs⟩ := goodProg_app h
  obtain ⟨l, rfl, hgl, hpf⟩ := good_leaf_shape hf hgf
  have hw := leafWord_good hgl
  have W := words_ok dsl tr consts _ h
  have L := wordsL_ok dsl tr consts (a :: as) hgs (by simp)
  have hsplit : splitBlank (printProg (.node .app (.node l [] :: a :: as)))
      = words 0 (.node .app (.node l [] :: a :: as)) := by
    simpa [closes] using W.split 0
  have hblank : ' ' ∈ printProg (.node .app (.node l [] :: a :: as)) := by
    rw [printProg_app]; simp
  have hbook : bookLoop (words 0 (.node .app (.node l [] :: a :: as))) [] 0 []
      = .ok (calls (.node .app (.node l [] :: a :: as))) := by
    rw [words, hpf, bookLoop_head0 _ _ hw]
    have := L.book 1 [] 0 [] [] 1 [] (by decide) (by simp)
    simp only [List.append_nil, List.nil_append, List.length_nil] at this
    rw [this, bookLoop_nil, calls]
    simp
  obtain ⟨L', C', hstack, _⟩ := stack_ok dsl tr consts _ h
    ((leaves (.node .app (.node l [] :: a :: as))).length + 1) [] []
    (Nat.le_succ_of_le W.depth)
  simp only [List.append_nil] at hstack
  unfold parseProgram
  simp only [hblank, if_true, hsplit, W.atoms 0, hbook, hstack]
  cases chk with
  | false => simp
  | true => simp [checkRepr_id consts (hc rfl)]

end PS.C15
