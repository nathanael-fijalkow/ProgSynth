/-
  C05, parser: brackets.  `__next_level__` finds the bracket closing a group, or runs to the
  end of a group whose closing brackets were stripped; `__parse_next_word__` cuts the next word.
-/
import PS.Proofs.ConstraintsParseWords
set_option linter.unusedSectionVars false
namespace PS.C05
open PS PS.G

/-- strings whose brackets `(` `)` match -/
inductive Bal : Str → Prop
  | nil : Bal []
  | chr (c : Char) (b : Str) : c ≠ '(' → c ≠ ')' → Bal b → Bal (c :: b)
  | grp (b1 b2 : Str) : Bal b1 → Bal b2 → Bal ('(' :: (b1 ++ ')' :: b2))

/-- balanced strings with brackets left open at the end -/
inductive OBal : Str → Prop
  | bal (b : Str) : Bal b → OBal b
  | opn (b u : Str) : Bal b → OBal u → OBal (b ++ '(' :: u)

theorem Bal.append {a b : Str} (ha : Bal a) (hb : Bal b) : Bal (a ++ b) := by
  induction ha with
  | nil => exact hb
  | chr c x h1 h2 _ ih => exact .chr c _ h1 h2 ih
  | grp b1 b2 h1 _ _ ih2 =>
    have : '(' :: (b1 ++ ')' :: b2) ++ b = '(' :: (b1 ++ ')' :: (b2 ++ b)) := by simp
    rw [this]; exact .grp _ _ h1 ih2

theorem Bal.plain {s : Str} (h : ∀ c ∈ s, c ≠ '(' ∧ c ≠ ')') : Bal s := by
  induction s with
  | nil => exact .nil
  | cons c cs ih =>
    exact .chr c cs (h c List.mem_cons_self).1 (h c List.mem_cons_self).2
      (ih (fun x hx => h x (List.mem_cons_of_mem _ hx)))

theorem Bal.paren {b : Str} (h : Bal b) : Bal ('(' :: (b ++ [')'])) := .grp b [] h .nil

theorem OBal.append_bal {a u : Str} (ha : Bal a) (hu : OBal u) : OBal (a ++ u) := by
  cases hu with
  | bal b hb => exact .bal _ (ha.append hb)
  | opn b u' hb hu' =>
    rw [← List.append_assoc]; exact .opn _ _ (ha.append hb) hu'

theorem nextLevelGo_open (cs : Str) (i lvl : Nat) :
    nextLevelGo ('(' :: cs) i lvl = nextLevelGo cs (i + 1) (lvl + 1) := by
  simp only [nextLevelGo, if_true, show ('(' : Char) ≠ ')' by decide, if_false]

theorem nextLevelGo_close (cs : Str) (i lvl : Nat) :
    nextLevelGo (')' :: cs) i lvl = if lvl = 1 then i else nextLevelGo cs (i + 1) (lvl - 1) := by
  simp only [nextLevelGo, show (')' : Char) ≠ '(' by decide, if_false, if_true]

theorem nextLevelGo_bal {b : Str} (hb : Bal b) (tail : Str) (i lvl : Nat) (hl : lvl ≥ 1) :
    nextLevelGo (b ++ tail) i lvl = nextLevelGo tail (i + b.length) lvl := by
  induction hb generalizing i lvl tail with
  | nil => simp
  | chr c x h1 h2 _ ih =>
    simp only [List.cons_append, nextLevelGo, h1, h2, if_false]
    rw [ih tail (i + 1) lvl hl]
    simp only [List.length_cons]; congr 1; omega
  | grp b1 b2 _ _ ih1 ih2 =>
    have e : '(' :: (b1 ++ ')' :: b2) ++ tail = '(' :: (b1 ++ (')' :: (b2 ++ tail))) := by simp
    rw [e, nextLevelGo_open, ih1 (')' :: (b2 ++ tail)) (i + 1) (lvl + 1) (by omega), nextLevelGo_close,
      if_neg (by omega), Nat.add_sub_cancel, ih2 tail _ lvl hl]
    simp only [List.length_cons, List.length_append]; congr 1; omega

theorem nextLevelGo_obal {u : Str} (hu : OBal u) (i lvl : Nat) (hl : lvl ≥ 1) :
    nextLevelGo u i lvl = i + u.length - 1 := by
  induction hu generalizing i lvl with
  | bal b hb =>
    have := nextLevelGo_bal hb [] i lvl hl
    simp only [List.append_nil] at this
    rw [this]; simp [nextLevelGo]
  | opn b u' hb _ ih =>
    rw [nextLevelGo_bal hb _ i lvl hl, nextLevelGo_open, ih _ (lvl + 1) (by omega)]
    simp only [List.length_append, List.length_cons]; omega

theorem nextLevel_group {b : Str} (hb : Bal b) (rest : Str) :
    nextLevel ('(' :: (b ++ ')' :: rest)) = b.length + 1 := by
  rw [nextLevel, nextLevelGo_open, nextLevelGo_bal hb _ _ 1 (by omega), nextLevelGo_close, if_pos rfl]
  omega

theorem nextLevel_open {u : Str} (hu : OBal u) : nextLevel ('(' :: u) = u.length := by
  rw [nextLevel, nextLevelGo_open, nextLevelGo_obal hu _ 1 (by omega)]
  omega

/-- `__parse_next_word__` without the detour through `-1` -/
theorem parseNextWord_eq (s : Str) : parseNextWord s =
    if s.head? = some '(' then (s.take (nextLevel s + 1), nextLevel s + 2)
    else (s.take ((findSub [' '] s).getD s.length), (findSub [' '] s).getD s.length + 1) := by
  unfold parseNextWord
  split
  · simp only [Int.toNat_natCast_add_one]; rfl
  · cases findSub [' '] s with
    | none => simp only [Option.getD_none, Int.sub_add_cancel, Int.toNat_natCast]; congr 1; omega
    | some i => simp only [Option.getD_some, Int.sub_add_cancel, Int.toNat_natCast]; congr 1; omega

theorem pnw_group {b : Str} (hb : Bal b) (rest : Str) :
    parseNextWord ('(' :: (b ++ ')' :: rest)) = ('(' :: (b ++ [')']), b.length + 3) := by
  rw [parseNextWord_eq, List.head?_cons, if_pos rfl, nextLevel_group hb rest, List.take_succ_cons,
    show (b ++ ')' :: rest) = (b ++ [')']) ++ rest by simp, List.take_left' (by simp)]

theorem pnw_open {u : Str} (hu : OBal u) :
    parseNextWord ('(' :: u) = ('(' :: u, u.length + 2) := by
  rw [parseNextWord_eq, List.head?_cons, if_pos rfl, nextLevel_open hu, List.take_of_length_le (by simp)]

theorem pnw_word (w rest : Str) (c : Char) (r : Str) (hw : w = c :: r) (hc : c ≠ '(') (hsp : ' ' ∉ w) :
    parseNextWord (w ++ ' ' :: rest) = (w, w.length + 1) ∧ parseNextWord w = (w, w.length + 1) := by
  have f1 : findSub [' '] (w ++ ' ' :: rest) = some w.length := findSub_at ' ' [] w rest hsp
  have hh : ∀ x : Str, ¬ (w ++ x).head? = some '(' := by subst hw; simpa using hc
  constructor
  · rw [parseNextWord_eq, if_neg (hh _), f1, Option.getD_some, List.take_left' rfl]
  · rw [parseNextWord_eq, if_neg (by simpa using hh []), findSub_none ' ' [] w hsp, Option.getD_none, List.take_length]

end PS.C05
