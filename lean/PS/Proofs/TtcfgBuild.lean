/-
  C13: completeness of the worklist of `__saturation_build__` keyed by rule key and pending stack
  (`stackKey = true` in the model; /repo from 6d9766e on).

  When the loop ends, the set `seen` of treated (rule key, pending stack) pairs contains the start
  configuration, is closed under every push of every treated pair, and every treated key has a row.
  Hence a derivation of the rule creation (`idealFn`) started in a treated configuration only meets
  keys of the table, and the language of the table is that of the rule creation.  Conversely, with
  either de-duplication, every non-terminal of the table is that of a configuration reachable from
  the start by the pushes of the loop (`SReach`): the table contains no junk.

  Composed with `clean` (`construct_*`): the start symbol and soundness for either de-duplication; the
  language for `stackKey = true` under `noUnknownDsl`, the decidable condition on the DSL that keeps the
  end-marker type out of the keys built, which is what `clean_lang` asks of a table.
-/
import PS.Proofs.TtcfgSat
import PS.Proofs.TtcfgCleanLang
namespace PS.T
open PS PS.G

variable {S T : Type} [DecidableEq S] [DecidableEq T]

/-- work-list invariant: every push of a treated pair is treated or still pending -/
def WInv (B : Builder S T) (prims : List Sym) (request : Ty) (seen : List (NT S T × List (Ty × S)))
    (todo : List (Entry S T)) : Prop :=
  ∀ x ∈ seen, ∀ p ∈ pushesOf B prims request x.1 x.2, entryKey p ∈ seen ∨ p ∈ todo

theorem satLoop_closed (B : Builder S T) (prims : List Sym) (request : Ty) :
    ∀ (fuel : Nat) (todo : List (Entry S T)) (seen : List (NT S T × List (Ty × S))) (tbl r : Table S T),
      WInv B prims request seen todo → (∀ x ∈ seen, AList.contains x.1 tbl = true) →
      satLoop B prims request true fuel todo seen tbl = some r →
      ∃ seen', (∀ x ∈ seen, x ∈ seen') ∧ (∀ x ∈ todo, entryKey x ∈ seen') ∧
        WInv B prims request seen' [] ∧ (∀ x ∈ seen', AList.contains x.1 r = true) := by
  intro fuel todo seen tbl r hw hs h
  revert hw hs
  refine satLoop_induct B prims request true (fun todo seen tbl r => WInv B prims request seen todo →
    (∀ x ∈ seen, AList.contains x.1 tbl = true) →
    ∃ seen', (∀ x ∈ seen, x ∈ seen') ∧ (∀ x ∈ todo, entryKey x ∈ seen') ∧
      WInv B prims request seen' [] ∧ (∀ x ∈ seen', AList.contains x.1 r = true)) ?_ ?_ ?_ fuel todo seen tbl r h
  · exact fun seen tbl hw hs => ⟨seen, fun _ hx => hx, nofun, hw, hs⟩
  · intro x todo seen tbl r hskip ih hw hs
    have hmem : entryKey x ∈ seen := by simpa [satSkip] using hskip
    obtain ⟨seen', i1, i2, i3, i4⟩ := ih
      (fun y hy p hp => by
        rcases hw y hy p hp with h1 | h1
        · exact Or.inl h1
        · rcases List.mem_cons.mp h1 with rfl | h2
          · exact Or.inl hmem
          · exact Or.inr h2) hs
    exact ⟨seen', i1, List.forall_mem_cons.mpr ⟨i1 _ hmem, i2⟩, i3, i4⟩
  · intro x todo seen tbl r _ ih hw hs
    have hc := contains_setDefault (entryKey x).1 (rowDict B prims request (entryKey x).1) tbl
    obtain ⟨seen', i1, i2, i3, i4⟩ := ih
      (fun y hy p hp => by
        rcases List.mem_cons.mp hy with rfl | hm
        · exact Or.inr (List.mem_append_left _ (List.mem_reverse.mpr hp))
        · rcases hw y hm p hp with h1 | h1
          · exact Or.inl (List.mem_cons_of_mem _ h1)
          · rcases List.mem_cons.mp h1 with rfl | h2
            · exact Or.inl (List.mem_cons_self ..)
            · exact Or.inr (List.mem_append_right _ h2))
      (List.forall_mem_cons.mpr ⟨by simp [hc], fun y hy => by simp [hc, hs y hy]⟩)
    exact ⟨seen', fun y hy => i1 y (List.mem_cons_of_mem _ hy),
      List.forall_mem_cons.mpr ⟨i1 _ (List.mem_cons_self ..), fun y hy => i2 y (List.mem_append_right _ hy)⟩, i3, i4⟩

/-- a set of (rule key, pending stack) pairs closed under the pushes of the loop -/
def Closed (B : Builder S T) (prims : List Sym) (request : Ty) (seen : List (NT S T × List (Ty × S))) : Prop :=
  ∀ (rule : NT S T) (stack : List (Ty × S)), (rule, stack) ∈ seen →
    ∀ (P : Sym) (args : List (Ty × S)) (st : T), rowsFn (rowDict B prims request) rule P = some (args, st) →
      ∀ (x : Ty × S) (rest : List (Ty × S)), args ++ stack = x :: rest → ((x.1, (x.2, st)), rest) ∈ seen

omit [DecidableEq S] [DecidableEq T] in
theorem closed_of_winv (B : Builder S T) (prims : List Sym) (request : Ty) (seen : List (NT S T × List (Ty × S)))
    (h : WInv B prims request seen []) : Closed B prims request seen := by
  intro rule stack hm P args st hr x rest hx
  have hmem : (P, (args, st)) ∈ rowList B prims request rule :=
    AList.lookup_ofList_some (xs := rowList B prims request rule) hr
  rcases h (rule, stack) hm (x, st, rest) (mem_pushesOf_iff.mpr ⟨(P, (args, st)), hmem, hx, rfl⟩) with h1 | h1
  · exact h1
  · cases h1

theorem rule_of_key (rows : NT S T → Row S T) (G : TT S T) (hrows : ∀ e ∈ G.rules, e.2 = rows e.1)
    (nt : NT S T) (hk : AList.contains nt G.rules = true) (P : Sym) : G.rule? nt P = rowsFn rows nt P := by
  obtain ⟨row, hrow⟩ := AList.contains_iff_lookup.mp hk
  have := hrows _ (AList.lookup_some_mem hrow)
  simp only at this
  rw [TT.rule?_of_lookup hrow, this]
  rfl

theorem closed_run (B : Builder S T) (prims : List Sym) (request : Ty) (seen : List (NT S T × List (Ty × S)))
    (G : TT S T) (hcl : Closed B prims request seen) (hkeys : ∀ x ∈ seen, AList.contains x.1 G.rules = true)
    (hrows : ∀ e ∈ G.rules, e.2 = rowDict B prims request e.1)
    (t : Prog) (a : Ty × S) (v w : T) (stk : List (Ty × S)) (hin : ((a.1, (a.2, v)), stk) ∈ seen)
    (hr : run (rowsFn (rowDict B prims request)) t a v = some w) : run G.rule? t a v = some w :=
  ((run_within (rowsFn (rowDict B prims request)) G.rule? (fun nt stk => (nt, stk) ∈ seen)
    (fun nt stk f args st _ _ hin h1 _ =>
      ⟨by rw [rule_of_key _ G hrows _ (hkeys _ hin) f]; exact h1,
       fun x rest e _ => hcl _ _ hin f args st h1 x rest e⟩)).1 t a v w stk hin hr).1

theorem saturation_closed (B : Builder S T) (prims : List Sym) (request : Ty) (fuel : Nat) (G : TT S T)
    (h : saturationTable B prims request true fuel = some G) :
    ∃ seen, ((request.returns, B.init), []) ∈ seen ∧ Closed B prims request seen ∧
      ∀ x ∈ seen, AList.contains x.1 G.rules = true := by
  obtain ⟨tbl, hl, rfl⟩ := saturationTable_eq_some.mp h
  obtain ⟨seen', _, i2, i3, i4⟩ := satLoop_closed B prims request fuel _ [] [] tbl nofun nofun hl
  exact ⟨seen', i2 _ (List.mem_singleton.mpr rfl), closed_of_winv B prims request seen' i3, i4⟩

theorem saturation_complete (B : Builder S T) (prims : List Sym) (request : Ty) (fuel : Nat) (G : TT S T)
    (h : saturationTable B prims request true fuel = some G) (t : Prog) (w : T)
    (hr : run (rowsFn (rowDict B prims request)) t (request.returns, B.init.1) B.init.2 = some w) :
    run G.rule? t (request.returns, B.init.1) B.init.2 = some w := by
  obtain ⟨seen, hin, hcl, hkeys⟩ := saturation_closed B prims request fuel G h
  have hrows := (saturationTable_spec B prims request true fuel G h).rows
  exact closed_run B prims request seen G hcl hkeys hrows t (request.returns, B.init.1) B.init.2 w [] hin hr

theorem saturation_lang (B : Builder S T) (dsl : Dsl) (request : Ty) (fuel : Nat) (G : TT S T)
    (h : saturationTable B dsl.prims request true fuel = some G) (t : Prog) :
    inLang G t = (run (idealFn B dsl request) t (request.returns, B.init.1) B.init.2).isSome := by
  have hs := (saturationTable_spec B dsl.prims request true fuel G h).start
  unfold inLang
  rw [hs]
  simp only [startOf]
  exact isSome_eq_of_imp (run_mono _ _ (saturation_rule B dsl request true fuel G h) t _ _)
    (saturation_complete B dsl.prims request fuel G h t)

/-- neither the request's return type nor a declared argument of a primitive is the end marker
    `UnknownType` of `TTCFG.derive` (decidable; true of every DSL built from type strings) -/
def noUnknownDsl (dsl : Dsl) (request : Ty) : Bool :=
  decide (request.returns ≠ Ty.unknown) && dsl.prims.all (fun p => p.ty.arguments.all (fun a => decide (a ≠ Ty.unknown)))

omit [DecidableEq S] [DecidableEq T] in
theorem rowList_types (B : Builder S T) (prims : List Sym) (request : Ty) (rule : NT S T)
    (r : Sym × (List (Ty × S) × T)) (hr : r ∈ rowList B prims request rule) (y : Ty × S) (hy : y ∈ r.2.1) :
    ∃ p ∈ prims, y.1 ∈ p.ty.arguments := by
  obtain ⟨P, val⟩ := r
  obtain ⟨c, hc, h1, _, hv⟩ := (mem_rowList B prims request rule P val).mp hr
  subst hv
  have ha := mem_decorate_ty hy
  rcases (mem_candidates _ _ _ _).mp hc with ⟨j, _, ec⟩ | ⟨hp, he⟩
  · rw [ec] at ha; cases ha
  · exact ⟨c.1, hp, endsWith_sub _ _ _ he _ ha⟩

theorem satLoop_types (B : Builder S T) (prims : List Sym) (request : Ty) (stackKey : Bool) (Q : Ty → Prop)
    (hQ : ∀ p ∈ prims, ∀ a ∈ p.ty.arguments, Q a)
    (fuel : Nat) (todo : List (Entry S T)) (seen : List (NT S T × List (Ty × S))) (tbl r : Table S T)
    (h : satLoop B prims request stackKey fuel todo seen tbl = some r) :
    (∀ e ∈ tbl, Q e.1.1) → (∀ x ∈ todo, Q x.1.1 ∧ ∀ y ∈ x.2.2, Q y.1) → ∀ e ∈ r, Q e.1.1 := by
  refine satLoop_induct B prims request stackKey (fun todo seen tbl r => (∀ e ∈ tbl, Q e.1.1) →
    (∀ x ∈ todo, Q x.1.1 ∧ ∀ y ∈ x.2.2, Q y.1) → ∀ e ∈ r, Q e.1.1) ?_ ?_ ?_ fuel todo seen tbl r h
  · exact fun _ _ ht _ => ht
  · exact fun x todo seen tbl r _ ih ht hd => ih ht (List.forall_mem_cons.mp hd).2
  · intro x todo seen tbl r _ ih ht hd
    obtain ⟨⟨hq1, hq2⟩, hd'⟩ := List.forall_mem_cons.mp hd
    refine ih ?_ ?_
    · intro e he
      rcases mem_setDefault _ _ _ he with h1 | rfl
      · exact ht e h1
      · exact hq1
    · intro p hp
      rcases List.mem_append.mp hp with h1 | h1
      · obtain ⟨r0, hr0, hm, _⟩ := mem_pushesOf_iff.mp (List.mem_reverse.mp h1)
        have hall : ∀ y ∈ p.1 :: p.2.2, Q y.1 := by
          rw [← hm]
          intro y hy
          rcases List.mem_append.mp hy with h2 | h2
          · obtain ⟨p, hp, ha⟩ := rowList_types B prims request _ r0 hr0 y h2
            exact hQ p hp _ ha
          · exact hq2 y h2
        exact List.forall_mem_cons.mp hall
      · exact hd' p h1

theorem saturation_noUnknown (B : Builder S T) (dsl : Dsl) (request : Ty) (stackKey : Bool) (fuel : Nat) (G : TT S T)
    (hd : noUnknownDsl dsl request = true) (h : saturationTable B dsl.prims request stackKey fuel = some G) :
    noUnknownKey G = true := by
  unfold noUnknownDsl at hd
  simp only [Bool.and_eq_true, decide_eq_true_eq, List.all_eq_true] at hd
  obtain ⟨tbl, hl, rfl⟩ := saturationTable_eq_some.mp h
  have := satLoop_types B dsl.prims request stackKey (fun a => a ≠ Ty.unknown) (fun p hp a ha => hd.2 p hp a ha)
    fuel _ [] [] tbl hl nofun
    (by intro x hx; rw [List.mem_singleton.mp hx]; exact ⟨hd.1, nofun⟩)
  unfold noUnknownKey
  rw [List.all_eq_true]
  intro e he
  simpa using this e he

theorem construct_start (B : Builder S T) (dsl : Dsl) (request : Ty) (stackKey : Bool) (fuel : Nat) (g : TTG S T)
    (h : construct B dsl request stackKey fuel = .ok g) : g.G.start = startOf B request := by
  obtain ⟨G0, h0, h1, _⟩ := construct_eq_ok.mp h
  rw [clean_start G0 g.G fuel h1]
  exact (saturationTable_spec B dsl.prims request stackKey fuel G0 h0).start

theorem construct_sound (B : Builder S T) (dsl : Dsl) (request : Ty) (stackKey : Bool) (fuel : Nat) (g : TTG S T)
    (h : construct B dsl request stackKey fuel = .ok g) (t : Prog) (hin : PS.G.contains g.G t = true) :
    (run (idealFn B dsl request) t (request.returns, B.init.1) B.init.2).isSome = true := by
  obtain ⟨G0, h0, h1, _⟩ := construct_eq_ok.mp h
  obtain ⟨w, hr⟩ := inLang_iff.mp ((contains_eq_inLang g.G t).symm.trans hin)
  rw [construct_start B dsl request stackKey fuel g h] at hr
  have h3 := run_mono _ _ (saturation_rule B dsl request stackKey fuel G0 h0) t _ _ w
    (clean_sound G0 g.G fuel h1 t _ _ w hr)
  exact Option.isSome_iff_exists.mpr ⟨w, h3⟩

theorem construct_lang (B : Builder S T) (dsl : Dsl) (request : Ty) (hU : noUnknownDsl dsl request = true)
    (fuel : Nat) (g : TTG S T) (h : construct B dsl request true fuel = .ok g) (t : Prog) :
    inLang g.G t = (run (idealFn B dsl request) t (request.returns, B.init.1) B.init.2).isSome := by
  obtain ⟨G0, h0, h1, _⟩ := construct_eq_ok.mp h
  rw [clean_lang G0 g.G (saturation_noUnknown B dsl request true fuel G0 hU h0) fuel h1 t,
    saturation_lang B dsl request fuel G0 h0 t]

/-- reachable from the start configuration by the pushes of the loop -/
inductive SReach (B : Builder S T) (prims : List Sym) (request : Ty) : NT S T × List (Ty × S) → Prop where
  | start : SReach B prims request ((request.returns, B.init), [])
  | push (rule : NT S T) (stack : List (Ty × S)) (p : Entry S T) :
      SReach B prims request (rule, stack) → p ∈ pushesOf B prims request rule stack → SReach B prims request (entryKey p)

theorem satLoop_keys_reach (B : Builder S T) (prims : List Sym) (request : Ty) (stackKey : Bool)
    (fuel : Nat) (todo : List (Entry S T)) (seen : List (NT S T × List (Ty × S))) (tbl r : Table S T)
    (h : satLoop B prims request stackKey fuel todo seen tbl = some r) :
    (∀ x ∈ todo, SReach B prims request (entryKey x)) →
    (∀ k, AList.contains k tbl = true → ∃ stack, SReach B prims request (k, stack)) →
    ∀ k, AList.contains k r = true → ∃ stack, SReach B prims request (k, stack) := by
  refine satLoop_induct B prims request stackKey (fun todo seen tbl r =>
    (∀ x ∈ todo, SReach B prims request (entryKey x)) →
    (∀ k, AList.contains k tbl = true → ∃ stack, SReach B prims request (k, stack)) →
    ∀ k, AList.contains k r = true → ∃ stack, SReach B prims request (k, stack)) ?_ ?_ ?_ fuel todo seen tbl r h
  · exact fun _ _ _ ht => ht
  · exact fun x todo seen tbl r _ ih hd ht => ih (List.forall_mem_cons.mp hd).2 ht
  · intro x todo seen tbl r _ ih hd ht
    obtain ⟨hcur, hd'⟩ := List.forall_mem_cons.mp hd
    refine ih ?_ ?_
    · intro p hp
      rcases List.mem_append.mp hp with h1 | h1
      · exact SReach.push _ _ p hcur (List.mem_reverse.mp h1)
      · exact hd' p h1
    · intro k hk
      rw [contains_setDefault] at hk
      by_cases he : k = (entryKey x).1
      · exact ⟨(entryKey x).2, by rw [he]; exact hcur⟩
      · exact ht k (by simpa [he] using hk)

/-- one inclusion only: every key is reachable.  That every reachable configuration is treated holds for
    `stackKey = true` and is `sreach_in_closed` on the `seen` set of `satLoop_closed`. -/
theorem saturation_exact (B : Builder S T) (prims : List Sym) (request : Ty) (stackKey : Bool) (fuel : Nat) (G : TT S T)
    (h : saturationTable B prims request stackKey fuel = some G) :
    ∀ k, AList.contains k G.rules = true → ∃ stack, SReach B prims request (k, stack) := by
  obtain ⟨tbl, hl, rfl⟩ := saturationTable_eq_some.mp h
  exact satLoop_keys_reach B prims request stackKey fuel _ [] [] tbl hl
    (by intro x hx; rw [List.mem_singleton.mp hx]; exact SReach.start)
    (by intro k hk; simp [AList.contains, AList.lookup] at hk)

omit [DecidableEq S] [DecidableEq T] in
theorem sreach_in_closed (B : Builder S T) (prims : List Sym) (request : Ty) (seen : List (NT S T × List (Ty × S)))
    (hs : ((request.returns, B.init), []) ∈ seen) (hw : WInv B prims request seen []) :
    ∀ c, SReach B prims request c → c ∈ seen := by
  intro c hc
  induction hc with
  | start => exact hs
  | push rule stack p _ hp ih =>
    rcases hw (rule, stack) ih p hp with h1 | h1
    · exact h1
    · cases h1

end PS.T
