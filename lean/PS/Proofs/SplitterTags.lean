/- C08, fragment grammar: the weight of a rule of the fragment is its raw weight divided by the total of its row
   (`tagOf_frag`); so a copied row keeps the original weights when the rows of the original grammar sum to 1, and
   a step of a path after the first one has weight 1. -/
import PS.Proofs.SplitterFacts
namespace PS.Sp
open PS PS.G

variable {U : Type} [DecidableEq U]

def rawTag {κ : Type} [DecidableEq κ] (row : AList Sym (AList (List κ) Rat)) (P : Sym) (a : List κ) : Rat :=
  (AList.lookup₂ row P a).getD 0

def tagsNorm (pg : PUG U) : Bool := pg.tags.all (fun e => rowSum e.2 == 1)

theorem zero_div (x : Rat) : (0 : Rat) / x = 0 := by rw [Rat.div_def, Rat.zero_mul]

theorem tagOf_eq (pg : PUG U) (S : UNT U) (P : Sym) (a : List (UNT U)) :
    tagOf pg S P a = match AList.lookup S pg.tags with
      | none => 0
      | some d => rawTag d P a := by
  unfold tagOf rawTag AList.lookup₂
  cases AList.lookup S pg.tags with
  | none => rfl
  | some d =>
    dsimp only
    cases AList.lookup P d <;> rfl

/-- a row after `ProbUGrammar.normalise` -/
def normRow {κ : Type} (row : AList Sym (AList (List κ) Rat)) : AList Sym (AList (List κ) Rat) :=
  row.map (fun r => (r.1, r.2.map (fun vp => (vp.1, vp.2 / rowSum row))))

theorem tagOf_frag (pg : PUG U) (st : FragSt U) (Y : UNT (U × Nat)) (P : Sym) (a : List (UNT (U × Nat))) :
    tagOf (fragOf pg st) Y P a =
      rawTag ((AList.lookup Y st.probs).getD []) P a / rowSum ((AList.lookup Y st.probs).getD []) := by
  rw [tagOf_eq]
  have htags : (fragOf pg st).tags = normaliseTags st.probs := rfl
  rw [htags]
  have : normaliseTags st.probs = st.probs.map (fun e => (e.1, normRow e.2)) := rfl
  rw [this, AList.lookup_map_val fun _ => normRow]
  cases AList.lookup Y st.probs with
  | none => exact (zero_div _).symm
  | some row =>
    simp only [Option.map_some, Option.getD_some, rawTag, normRow]
    rw [AList.lookup₂_map_val₂ fun _ _ _ (x : Rat) => x / rowSum row, AList.lookup₂]
    cases AList.lookup P row with
    | none => exact (zero_div _).symm
    | some dv =>
      simp only [Option.bind_some]
      cases AList.lookup a dv with
      | none => exact (zero_div _).symm
      | some x => rfl

omit [DecidableEq U] in
theorem rowSum_copy (row : AList Sym (AList (List (UNT U)) Rat)) :
    rowSum (row.map (fun r => (r.1, r.2.map (fun vp => (vp.1.map free, vp.2))))) = rowSum row := by
  simp [rowSum, List.map_map, Function.comp_def]

theorem rawTag_copy (row : AList Sym (AList (List (UNT U)) Rat)) (P : Sym) (a : List (UNT U)) :
    rawTag (row.map (fun r => (r.1, r.2.map (fun vp => (vp.1.map free, vp.2))))) P (a.map free) = rawTag row P a := by
  unfold rawTag AList.lookup₂
  rw [AList.lookup_map_val fun _ (dv : AList (List (UNT U)) Rat) => dv.map (fun vp => (vp.1.map free, vp.2))]
  cases AList.lookup P row with
  | none => rfl
  | some dv =>
    simp only [Option.map_some, Option.bind_some]
    rw [AList.lookup_map_key (fun v : List (UNT U) => v.map free) (fun _ _ h => map_free_injective h)]

theorem tagOf_copy {pg : PUG U} (hn : tagsNorm pg = true) {st : FragSt U} {Y : UNT (U × Nat)}
    (hY : AList.lookup Y st.probs = some (copyP pg (er Y))) (P : Sym) (a : List (UNT U)) :
    tagOf (fragOf pg st) Y P (a.map free) = tagOf pg (er Y) P a := by
  rw [tagOf_frag, hY, Option.getD_some, tagOf_eq]
  simp only [copyP]
  cases hl : AList.lookup (er Y) pg.tags with
  | none => exact zero_div _
  | some row =>
    simp only [Option.getD_some]
    rw [rawTag_copy, rowSum_copy]
    have : rowSum row = 1 := by
      have hm := AList.lookup_some_mem hl
      have := List.all_eq_true.mp hn _ hm
      simpa using this
    rw [this, Rat.div_def, Rat.inv_def]
    exact Rat.mul_one _

theorem tagOf_chain (pg : PUG U) {st : FragSt U} {X : UNT (U × Nat)} {P : Sym} {m : List (UNT (U × Nat))}
    (h : AList.lookup X st.probs = some [(P, [(m, 1)])]) : tagOf (fragOf pg st) X P m = 1 := by
  rw [tagOf_frag, h]
  simp only [Option.getD_some, rawTag, AList.lookup₂, Option.bind_some, rowSum, AList.lookup, if_true, Option.getD_some, List.map_cons, List.map_nil, List.sum_cons,
    List.sum_nil]
  decide +kernel

theorem RowOK.rawTag {rR rP} {L : List (Lay U)} {X : UNT (U × Nat)} (h : RowOK rR rP L X) {l : Lay U} (hl : l ∈ L)
    (hsp : l.sp = X) {P : Sym} {m : List (UNT (U × Nat))} {t : List (Step (U × Nat))} (hs : l.steps' = (X, P, m) :: t) :
    rawTag rP P m = l.n.prob := by
  rw [PS.Sp.rawTag, (h.tag P m l.n.prob).mpr ⟨l, hl, hsp, by rw [hs]; rfl, rfl⟩]
  rfl

end PS.Sp
