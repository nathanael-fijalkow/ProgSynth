/- Sums, products and counts over lists: sums and products of rationals and their signs, bounds on sums of naturals
   and on a running maximum, the number of elements that pass a filter.  Core Lean only. -/
namespace PS

theorem rat_div_self (a : Rat) (h : a ≠ 0) : a / a = 1 :=
  (Rat.div_def _ _).trans (Rat.mul_inv_cancel _ h)

theorem sum_map_mul_left {α : Type} (l : List α) (c : Rat) (g : α → Rat) :
    (l.map (fun x => c * g x)).sum = c * (l.map g).sum := by
  induction l with
  | nil => simp [Rat.mul_zero]
  | cons x xs ih => simp only [List.map_cons, List.sum_cons, ih, Rat.mul_add]

theorem sum_map_mul_right {α : Type} (l : List α) (c : Rat) (g : α → Rat) :
    (l.map (fun x => g x * c)).sum = (l.map g).sum * c := by
  induction l with
  | nil => simp [Rat.zero_mul]
  | cons x xs ih => simp only [List.map_cons, List.sum_cons, ih, Rat.add_mul]

theorem sum_map_div {α : Type} (l : List α) (g : α → Rat) (s : Rat) :
    (l.map (fun e => g e / s)).sum = (l.map g).sum / s := by
  simp only [Rat.div_def]
  exact sum_map_mul_right l s⁻¹ g

theorem sum_map_add {α : Type} (g h : α → Rat) (l : List α) :
    (l.map fun x => g x + h x).sum = (l.map g).sum + (l.map h).sum := by
  induction l with
  | nil => simp [Rat.add_zero]
  | cons x xs ih => simp only [List.map_cons, List.sum_cons, ih, Rat.add_assoc, Rat.add_left_comm]

theorem sum_map_const {β : Type} (l : List β) (c : Rat) :
    (l.map (fun _ => c)).sum = (l.length : Rat) * c := by
  induction l with
  | nil => simp [Rat.zero_mul]
  | cons a l ih =>
    simp only [List.map_cons, List.sum_cons, ih, List.length_cons]
    rw [Rat.natCast_add, Rat.add_mul, Rat.add_comm]
    congr 1
    exact (Rat.one_mul c).symm

theorem sum_map_zero {α : Type} (g : α → Rat) (l : List α) (h : ∀ x ∈ l, g x = 0) : (l.map g).sum = 0 := by
  rw [List.map_congr_left h, sum_map_const, Rat.mul_zero]

theorem sum_flatMap_rat {α β : Type} (l : List α) (g : α → List β) (f : β → Rat) :
    ((l.flatMap g).map f).sum = (l.map (fun x => ((g x).map f).sum)).sum := by
  induction l with
  | nil => simp
  | cons x xs ih =>
    simp only [List.flatMap_cons, List.map_append, List.sum_append, List.map_cons, List.sum_cons, ih]

theorem sum_exchange {α β : Type} (c : β → Rat) (f : α → β → Rat) (A : List α) (B : List β) :
    (A.map fun x => (B.map fun y => c y * f x y).sum).sum = (B.map fun y => c y * (A.map fun x => f x y).sum).sum := by
  induction B with
  | nil => exact sum_map_zero _ _ fun _ _ => rfl
  | cons b bs ih => simp only [List.map_cons, List.sum_cons]; rw [sum_map_add, ih, sum_map_mul_left]

theorem sum_flatMap_map {α β γ : Type} (g : α → β → γ) (hf : γ → Rat) (u : α → Rat) (w : β → Rat)
    (l : List α) (m : List β) (h : ∀ a ∈ l, ∀ b, hf (g a b) = u a * w b) :
    ((l.flatMap fun a => m.map (g a)).map hf).sum = (l.map u).sum * (m.map w).sum := by
  rw [sum_flatMap_rat, ← sum_map_mul_right]
  refine congrArg List.sum (List.map_congr_left fun a ha => ?_)
  rw [List.map_map, ← sum_map_mul_left]
  exact congrArg List.sum (List.map_congr_left fun b _ => h a ha b)

theorem natCast_mul_one_div (n : Nat) (h : n ≠ 0) : (n : Rat) * (1 / (n : Rat)) = 1 := by
  have hn : (n : Rat) ≠ 0 := fun h0 => h (Rat.natCast_eq_zero_iff.mp h0)
  rw [Rat.div_def, Rat.one_mul, Rat.mul_inv_cancel _ hn]

theorem natCast_sum {β : Type} (l : List β) (g : β → Nat) :
    (((l.map g).sum : Nat) : Rat) = (l.map (fun c => (g c : Rat))).sum := by
  induction l with
  | nil => rfl
  | cons a l ih => simp only [List.map_cons, List.sum_cons, Rat.natCast_add, ih]

theorem prod_append (a b : List Rat) : (a ++ b).prod = a.prod * b.prod := by
  induction a with
  | nil => simp [Rat.one_mul]
  | cons x xs ih => simp only [List.cons_append, List.prod_cons, ih, Rat.mul_assoc]

/-! ### a product of factors some of which may be absent (`KeyError`) -/

def optMul (acc w : Option Rat) : Option Rat := acc.bind fun c => w.map (c * ·)

theorem foldl_optMul_none {α : Type} (w : α → Option Rat) (l : List α) :
    l.foldl (fun acc x => optMul acc (w x)) none = none := by
  induction l with
  | nil => rfl
  | cons x l ih => exact ih

/-- The fold `acc := acc * w x` that the first absent factor aborts: when it comes through, its value is the product
    of the factors; when it is lost, a factor is absent, and the product with absent factors counted as 0 (what the bare
    `except` of `probability` returns) is 0. -/
theorem foldl_optMul {α : Type} (w : α → Option Rat) :
    ∀ (l : List α) (c : Rat),
      (∀ v, l.foldl (fun acc x => optMul acc (w x)) (some c) = some v → v = c * (l.map fun x => (w x).getD 0).prod) ∧
      (l.foldl (fun acc x => optMul acc (w x)) (some c) = none → (l.map fun x => (w x).getD 0).prod = 0)
  | [], c => ⟨fun v h => by cases h; exact (Rat.mul_one c).symm, fun h => nomatch h⟩
  | x :: l, c => by
    rw [List.foldl_cons, List.map_cons, List.prod_cons]
    cases hw : w x with
    | none =>
      refine ⟨fun v h => ?_, fun _ => Rat.zero_mul _⟩
      rw [show optMul (some c) none = none from rfl, foldl_optMul_none] at h
      cases h
    | some u =>
      obtain ⟨h1, h2⟩ := foldl_optMul w l (c * u)
      exact ⟨fun v h => by rw [h1 v h, Rat.mul_assoc]; rfl, fun h => by rw [h2 h, Rat.mul_zero]⟩

theorem prod_eq_one_of_forall {α : Type} (l : List α) (g : α → Rat) (h : ∀ x ∈ l, g x = 1) :
    (l.map g).prod = 1 := by
  induction l with
  | nil => simp
  | cons x xs ih =>
    simp only [List.map_cons, List.prod_cons]
    rw [h x (by simp), ih (fun y hy => h y (by simp [hy])), Rat.mul_one]

theorem sum_nonneg : ∀ (l : List Rat), (∀ x ∈ l, 0 ≤ x) → 0 ≤ l.sum
  | [], _ => Rat.le_refl
  | a :: l, h => by
    rw [List.sum_cons]
    exact Rat.add_nonneg (h a List.mem_cons_self) (sum_nonneg l (fun x hx => h x (List.mem_cons_of_mem _ hx)))

theorem sum_pos : ∀ (l : List Rat), (∀ x ∈ l, 0 ≤ x) → ∀ x0 ∈ l, 0 < x0 → 0 < l.sum
  | a :: l, h0, x0, hx0, hpos => by
    rw [List.sum_cons]
    have hl := sum_nonneg l (fun x hx => h0 x (List.mem_cons_of_mem _ hx))
    have ha := h0 a List.mem_cons_self
    rcases List.mem_cons.mp hx0 with rfl | h
    · grind
    · have := sum_pos l (fun x hx => h0 x (List.mem_cons_of_mem _ hx)) x0 h hpos
      grind

theorem sum_pos_of_mem {α : Type} (f : α → Rat) (xs : List α) (h : ∀ x ∈ xs, 0 < f x) (x0 : α) (hx0 : x0 ∈ xs) :
    0 < (xs.map f).sum :=
  sum_pos _ (fun y hy => by obtain ⟨x, hx, rfl⟩ := List.mem_map.mp hy; exact Rat.le_of_lt (h x hx))
    (f x0) (List.mem_map.mpr ⟨x0, hx0, rfl⟩) (h x0 hx0)

theorem le_foldl_max (l : List Nat) (b x : Nat) (h : x ∈ l ∨ x ≤ b) : x ≤ l.foldl max b := by
  induction l generalizing b with
  | nil => exact h.elim (fun h => nomatch h) id
  | cons y r ih =>
    refine ih (max b y) (h.elim (fun h => ?_) fun h => .inr (Nat.le_trans h (Nat.le_max_left _ _)))
    exact (List.mem_cons.mp h).elim (fun e => .inr (e ▸ Nat.le_max_right _ _)) .inl

theorem le_sum_of_mem {n : Nat} : ∀ {l : List Nat}, n ∈ l → n ≤ l.sum
  | y :: ys, h => by
    rw [List.sum_cons]
    rcases List.mem_cons.mp h with rfl | h
    · exact Nat.le_add_right _ _
    · exact Nat.le_trans (le_sum_of_mem h) (Nat.le_add_left _ _)

theorem le_sum_map_of_mem {α : Type} (f : α → Nat) (l : List α) (x : α) (h : x ∈ l) : f x ≤ (l.map f).sum :=
  le_sum_of_mem (List.mem_map_of_mem h)

theorem sum_map_le {α : Type} (f : α → Nat) (m : Nat) :
    ∀ l : List α, (∀ x ∈ l, f x ≤ m) → (l.map f).sum ≤ l.length * m
  | [], _ => Nat.zero_le _
  | x :: xs, h => by
    rw [List.map_cons, List.sum_cons, List.length_cons, Nat.succ_mul, Nat.add_comm]
    exact Nat.add_le_add (sum_map_le f m xs (fun y hy => h y (List.mem_cons_of_mem _ hy))) (h x List.mem_cons_self)

theorem filter_length_lt {α : Type} (P P' : α → Bool) (l : List α) (himp : ∀ q, q ∈ l → P' q = true → P q = true)
    (h : ∃ q0, q0 ∈ l ∧ P q0 = true ∧ P' q0 = false) : (l.filter P').length < (l.filter P).length := by
  obtain ⟨q0, h0, h1, h2⟩ := h
  obtain ⟨a, b, rfl⟩ := List.append_of_mem h0
  have ha : a.countP P' ≤ a.countP P := List.countP_mono_left fun x hx => himp x (List.mem_append_left _ hx)
  have hb : b.countP P' ≤ b.countP P :=
    List.countP_mono_left fun x hx => himp x (List.mem_append_right _ (List.mem_cons_of_mem _ hx))
  simp only [← List.countP_eq_length_filter, List.countP_append, List.countP_cons, h1, h2, if_true, Bool.false_eq_true,
    if_false]
  omega

end PS
