/-
  C05, parser: what `interpretWord` returns on each kind of word of the documented syntax (`interp_*`,
  the right-hand sides written out; `tokOf_atom` in PS/Proofs/ConstraintsParse.lean identifies them
  with `sem`), also on a sub-tree word that lost its closing bracket to the `strip(")(")` of the
  enclosing pattern.
-/
import PS.Proofs.ConstraintsParseChars
set_option linter.unusedSectionVars false
namespace PS.C05
open PS PS.G

variable (Sy : Syms)

theorem isSpace_eq_false {c : Char} : isSpace c = false ↔ c ≠ ' ' ∧ c ≠ '\t' ∧ c ≠ '\n' ∧ c ≠ '\r' := by
  simp only [isSpace, Bool.or_eq_false_iff, decide_eq_false_iff_not, and_assoc]

theorem joinNames_ne_any {ns : List Str} (h : namesOK ns = true) : joinNames ns ≠ ['_'] := by
  intro e
  have := splitOn_joinNames h
  rw [e] at this
  simp [splitOn] at this
  rw [← this] at h
  simp [namesOK, nameOK] at h

theorem joinNames_noparen {ns : List Str} (h : namesOK ns = true) : ∀ c ∈ joinNames ns, isStripParen c = false := by
  intro c hc
  have : c ≠ '(' ∧ c ≠ ')' ∧ c ≠ '{' ∧ c ≠ '}' := by
    refine ⟨?_, ?_, ?_, ?_⟩ <;> (rintro rfl; exact joinNames_notin h _ (by decide) (by decide) hc)
  simp [isStripParen, this]

theorem joinNames_isSpace {ns : List Str} (h : namesOK ns = true) : ∀ c ∈ joinNames ns, isSpace c = false := by
  intro c hc
  refine isSpace_eq_false.mpr ⟨?_, ?_, ?_, ?_⟩ <;> (rintro rfl; exact joinNames_notin h _ (by decide) (by decide) hc)

theorem str2dp_names {ns : List Str} (h : namesOK ns = true) (pre post : Str)
    (hpre : ∀ c ∈ pre, isStripParen c = true) (hpost : ∀ c ∈ post, isStripParen c = true) :
    str2dp Sy (pre ++ joinNames ns ++ post) = resolveNames Sy ns.eraseDups := by
  have hs : stripChars isStripParen (pre ++ joinNames ns ++ post) = joinNames ns :=
    stripChars_mid _ pre _ post hpre hpost (joinNames_ne_nil h)
      (fun c hc => joinNames_noparen h c (List.mem_of_mem_head? hc))
      (fun c hc => joinNames_noparen h c (List.mem_of_getLast? hc))
  unfold str2dp
  have hcond : (if Sy.fixF4 then stripChars isStripParen (pre ++ joinNames ns ++ post) else pre ++ joinNames ns ++ post) ≠ ['_'] := by
    split
    · rw [hs]; exact joinNames_ne_any h
    · -- stripping both sides: the name list itself would be `_`
      exact fun e => joinNames_ne_any h (hs.symm.trans ((congrArg (stripChars isStripParen) e).trans (by decide)))
  rw [if_neg hcond]
  simp only [hs, splitOn_joinNames h]

theorem interp_set_names {ns : List Str} (h : namesOK ns = true) :
    interpretWord Sy (joinNames ns) = (resolveNames Sy ns.eraseDups).map .allow := by
  unfold interpretWord
  rw [stripChars_id _ _ (joinNames_isSpace h)]
  cases hj : joinNames ns with
  | nil => exact absurd hj (joinNames_ne_nil h)
  | cons c r =>
    have hc := joinNames_head h (c := c) (by rw [hj]; rfl)
    obtain ⟨_, _, _, _, _, _, _, _, _, h1, h2, h3, _⟩ := not_special_facts hc
    have hne : c :: r ≠ ['_'] := by rw [← hj]; exact joinNames_ne_any h
    simp only [startsWith_single, beq_iff_eq, h1.symm, h2.symm, h3.symm, hne, if_false]
    rw [← hj]
    have := str2dp_names Sy h [] [] (by simp) (by simp)
    simpa using congrArg (Option.map Tok.allow) this

theorem interp_set_neg {ns : List Str} (h : namesOK ns = true) :
    interpretWord Sy ('^' :: joinNames ns) = some (match resolveNeg Sy ns with
      | none => .any
      | some S => .allow S) := by
  unfold interpretWord
  have hsp : stripChars isSpace ('^' :: joinNames ns) = '^' :: joinNames ns :=
    stripChars_id _ _ (List.forall_mem_cons.mpr ⟨by decide, joinNames_isSpace h⟩)
  rw [hsp]
  simp only [startsWith_single, beq_self_eq_true, if_true, List.drop_succ_cons, List.drop_zero]
  have hs : (if Sy.fixF4 then stripChars isStripParen (joinNames ns) else joinNames ns) = joinNames ns := by
    split
    · exact stripChars_id _ _ (joinNames_noparen h)
    · rfl
  rw [hs, splitOn_joinNames h]
  unfold resolveNeg
  simp only
  split <;> rfl

theorem interp_count_core (body ds : Str) (most : Bool)
    (hbs : ∀ c ∈ body, isSpace c = false) (hb2 : '<' ∉ body) (hb3 : '>' ∉ body) (hd : digitsOK ds = true) :
    interpretWord Sy ('#' :: (body ++ (if most then '<' else '>') :: '=' :: ds)) =
      (match str2dp Sy body, parseNat ds with
        | some content, some n => some (if most then .atMost content n else .atLeast content n)
        | _, _ => none) := by
  have hdc := digits_char hd
  -- both operators at once: `op` is the one written, the other one occurs nowhere
  generalize hop : (if most then '<' else '>') = op
  have hop' : (most = true ∧ op = '<') ∨ (most = false ∧ op = '>') := by
    cases most
    · exact .inr ⟨rfl, hop.symm⟩
    · exact .inl ⟨rfl, hop.symm⟩
  have hall : ∀ c ∈ '#' :: (body ++ op :: '=' :: ds), isSpace c = false := by
    intro c hc
    simp only [List.mem_cons, List.mem_append] at hc
    rcases hc with rfl | hc | rfl | rfl | hc
    · decide
    · exact hbs c hc
    · rcases hop' with ⟨-, rfl⟩ | ⟨-, rfl⟩ <;> decide
    · decide
    · refine isSpace_eq_false.mpr ⟨?_, ?_, ?_, ?_⟩ <;> exact ne_of_isDigit (hdc c hc) (by decide)
  have hw : ' ' ∉ body ++ op :: '=' :: ds := fun hm => by
    exact (isSpace_eq_false.mp (hall ' ' (List.mem_cons_of_mem _ hm))).1 rfl
  have other : ∀ a, a = '<' ∨ a = '>' → a ≠ op → a ∉ body →
      findSub [a, '='] (body ++ op :: '=' :: ds) = none := by
    intro a ha hne hb
    apply findSub_none
    simp only [List.mem_append, List.mem_cons, not_or]
    refine ⟨hb, hne, ?_, fun hm => ?_⟩
    · rcases ha with rfl | rfl <;> decide
    · have := digit_not (hdc a hm)
      rcases ha with rfl | rfl
      · exact this.2.1 rfl
      · exact this.2.2.1 rfl
  have f1 : findSub [op, '='] (body ++ op :: '=' :: ds) = some body.length :=
    findSub_at op ['='] body ds (by rcases hop' with ⟨-, rfl⟩ | ⟨-, rfl⟩ <;> assumption)
  have t1 : List.take body.length (body ++ op :: '=' :: ds) = body := List.take_left' rfl
  have t2 : List.drop (body.length + 2) (body ++ op :: '=' :: ds) = ds := by
    rw [List.drop_append]; simp
  have t3 : (body ++ op :: '=' :: ds)[body.length]? = some op := by
    rw [List.getElem?_append_right (Nat.le_refl _)]; simp
  have hne : ('#' :: (body ++ op :: '=' :: ds)) ≠ ['_'] := by simp
  unfold interpretWord
  rw [stripChars_id isSpace _ hall]
  simp only [startsWith_single, List.drop_succ_cons, List.drop_zero, show ('^' == '#') = false by decide,
    show ('>' == '#') = false by decide, show ('#' == '#') = true by decide, Bool.false_eq_true, if_false,
    if_true, hne]
  rw [removeChar_id ' ' _ hw]
  rcases hop' with ⟨rfl, rfl⟩ | ⟨rfl, rfl⟩
  · rw [f1, other '>' (.inr rfl) (by decide) hb3]
    simp only [t1, t2, t3]
    cases str2dp Sy body <;> cases parseNat ds <;> simp
  · rw [other '<' (.inl rfl) (by decide) hb2, f1]
    simp only [t1, t2, t3]
    cases str2dp Sy body <;> cases parseNat ds <;> simp

theorem interp_cnt {ns : List Str} (h : namesOK ns = true) (ds : Str) (hd : digitsOK ds = true) (most : Bool) :
    interpretWord Sy (render (.cnt most ns ds)) =
      (match resolveNames Sy ns.eraseDups, parseNat ds with
        | some S, some n => some (if most then .atMost S n else .atLeast S n)
        | _, _ => none) := by
  have hb : ('(' :: (joinNames ns ++ [')'])) = ['('] ++ joinNames ns ++ [')'] := by simp
  have := interp_count_core Sy ('(' :: (joinNames ns ++ [')'])) ds most
    (by
      intro c hc
      simp only [List.mem_cons, List.mem_append, List.mem_nil_iff, or_false] at hc
      rcases hc with e | e | e
      · subst e; decide
      · exact joinNames_isSpace h c e
      · subst e; decide)
    (by
      simp only [List.mem_cons, List.mem_append, List.mem_nil_iff, or_false, not_or]
      exact ⟨by decide, joinNames_notin h '<' (by decide) (by decide), by decide⟩)
    (by
      simp only [List.mem_cons, List.mem_append, List.mem_nil_iff, or_false, not_or]
      exact ⟨by decide, joinNames_notin h '>' (by decide) (by decide), by decide⟩) hd
  rw [hb, str2dp_names Sy h ['('] [')'] (by decide) (by decide)] at this
  rw [← this]
  simp [render]

theorem interp_cntAll (ds : Str) (hd : digitsOK ds = true) (most : Bool) :
    interpretWord Sy (render (.cntAll most ds)) =
      (parseNat ds).map (fun n => if most then .atMost (Sy.prims ++ Sy.vars) n else .atLeast (Sy.prims ++ Sy.vars) n) := by
  have := interp_count_core Sy ['_'] ds most (by decide) (by decide) (by decide) hd
  have hs : str2dp Sy ['_'] = some (Sy.prims ++ Sy.vars) := by
    unfold str2dp
    have : (if Sy.fixF4 then stripChars isStripParen ['_'] else ['_']) = ['_'] := by
      split
      · decide
      · rfl
    rw [if_pos this]
  rw [hs] at this
  simp only [render]
  rw [show ('#' :: '_' :: (if most then '<' else '>') :: '=' :: ds) = '#' :: (['_'] ++ (if most then '<' else '>') :: '=' :: ds) by simp, this]
  cases parseNat ds <;> rfl

theorem interp_sub {ns : List Str} (h : namesOK ns = true) (force : Bool) (post : Str) (hpost : post = [')'] ∨ post = []) :
    interpretWord Sy ('>' :: ((if force then [] else ['^']) ++ '(' :: (joinNames ns ++ post))) =
      (resolveNames Sy ns.eraseDups).map (fun S => if force then .forceSub S else .forbidSub S) := by
  have hp : ∀ c ∈ post, isStripParen c = true ∧ isSpace c = false := by
    intro c hc
    rcases hpost with e | e <;> subst e
    · simp only [List.mem_singleton] at hc; subst hc; decide
    · cases hc
  have hall : ∀ c ∈ '>' :: ((if force then [] else ['^']) ++ '(' :: (joinNames ns ++ post)), isSpace c = false := by
    intro c hc
    simp only [List.mem_cons, List.mem_append] at hc
    rcases hc with e | e | e | e | e
    · subst e; decide
    · cases force
      · simp only [Bool.false_eq_true, if_false, List.mem_singleton] at e; subst e; decide
      · simp at e
    · subst e; decide
    · exact joinNames_isSpace h c e
    · exact (hp c e).2
  unfold interpretWord
  rw [stripChars_id isSpace _ hall]
  simp only [startsWith_single, show ('^' == '>') = false by decide, show ('>' == '>') = true by decide,
    Bool.false_eq_true, if_false, if_true, List.drop_succ_cons, List.drop_zero]
  have key := str2dp_names Sy h ['('] post (by decide) (fun c hc => (hp c hc).1)
  cases force with
  | true =>
    simp only [if_true, List.nil_append, startsWith_single, show ('^' == '(') = false by decide,
      Bool.false_eq_true, if_false]
    rw [show ('(' :: (joinNames ns ++ post)) = ['('] ++ joinNames ns ++ post by simp, key]
  | false =>
    simp only [Bool.false_eq_true, if_false, List.singleton_append, startsWith_single,
      show ('^' == '^') = true by decide, if_true, List.drop_succ_cons, List.drop_zero]
    rw [show ('(' :: (joinNames ns ++ post)) = ['('] ++ joinNames ns ++ post by simp, key]

theorem interp_any : interpretWord Sy ['_'] = some .any := by
  unfold interpretWord
  have : stripChars isSpace ['_'] = ['_'] := by decide
  rw [this]
  simp [startsWith_single]

end PS.C05
