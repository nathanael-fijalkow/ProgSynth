/-
  C13: the counting rule of `TTCFG.programs`.
  A dictionary of end states is read as a weighted multiset, `W d F = Σ_{(v, c) ∈ d} c · F v` for an arbitrary
  weight `F`; quantifying over `F` is what lets the counts of two consecutive arguments be composed without
  regrouping sums by state.  The invariant (`RecOk`): a dictionary returned by `__compute__` is, as a weighted
  multiset, the end states of the enumeration `langT`, and that enumeration is complete; the slots of a rule are
  read as a continuation (`chainLocal_cont`), which is how `seqsT` recurses.  `langT` is sound and without
  repetition, so such a dictionary for the start symbol has the size of the language as its total.
  Instances: TtcfgCountCert.lean (tables accepted by `closedOK`), TtcfgCountR.lean (`computeR`, the `__compute__` of /repo since 875cb5a).
-/
import PS.Proofs.TtcfgClean
import PS.Proofs.ListSum
namespace PS.T
open PS PS.G

section Weights
variable {T : Type} [DecidableEq T]

def W (d : AList T Nat) (F : T → Nat) : Nat := (d.map (fun e => e.2 * F e.1)).sum

omit [DecidableEq T] in
@[simp] theorem W_nil (F : T → Nat) : W ([] : AList T Nat) F = 0 := rfl

omit [DecidableEq T] in
theorem W_cons (e : T × Nat) (d : AList T Nat) (F : T → Nat) : W (e :: d) F = e.2 * F e.1 + W d F := by
  simp [W]

omit [DecidableEq T] in
theorem W_congr (d : AList T Nat) (F F' : T → Nat) (h : ∀ e ∈ d, F e.1 = F' e.1) : W d F = W d F' := by
  induction d with
  | nil => rfl
  | cons e d ih =>
    rw [W_cons, W_cons, h e (List.mem_cons_self ..), ih (fun e' he' => h e' (List.mem_cons_of_mem _ he'))]

theorem W_insert_none (k : T) (v : Nat) (F : T → Nat) (d : AList T Nat) (h : AList.lookup k d = none) :
    W (AList.insert k v d) F = W d F + v * F k := by
  fun_induction AList.insert k v d with
  | case1 => simp [W]
  | case2 v' r => simp [AList.lookup] at h
  | case3 k' v' r hk ih => rw [W_cons, W_cons, ih (by simpa [AList.lookup, hk] using h)]; omega

theorem W_insert_some (k : T) (v m : Nat) (F : T → Nat) (d : AList T Nat) (h : AList.lookup k d = some m) :
    W (AList.insert k v d) F + m * F k = W d F + v * F k := by
  fun_induction AList.insert k v d with
  | case1 => cases h
  | case2 v' r => cases (by simpa [AList.lookup] using h : v' = m); simp only [W_cons]; omega
  | case3 k' v' r hk ih => have := ih (by simpa [AList.lookup, hk] using h); simp only [W_cons]; omega

theorem W_addTo (k : T) (n : Nat) (d : AList T Nat) (F : T → Nat) : W (addTo k n d) F = W d F + n * F k := by
  unfold addTo
  cases h : AList.lookup k d with
  | none => exact W_insert_none k n F d h
  | some m =>
    have := W_insert_some k (m + n) m F d h
    rw [Nat.add_mul] at this
    simp only
    omega

theorem W_addScaled (cnt : Nat) (F : T → Nat) : ∀ (sub acc : AList T Nat),
    W (addScaled cnt sub acc) F = W acc F + cnt * W sub F
  | [], acc => by simp [addScaled]
  | e :: sub, acc => by
    have ih := W_addScaled cnt F sub (addTo e.1 (e.2 * cnt) acc)
    unfold addScaled at ih ⊢
    rw [List.foldl_cons, ih, W_addTo, W_cons, Nat.mul_add]
    have : e.2 * cnt * F e.1 = cnt * (e.2 * F e.1) := by
      rw [Nat.mul_comm e.2 cnt, Nat.mul_assoc]
    omega

theorem addTo_all {Q : T → Prop} {k : T} (n : Nat) {d : AList T Nat} (hk : Q k) (hd : ∀ e ∈ d, Q e.1) :
    ∀ e ∈ addTo k n d, Q e.1 := by
  intro e he
  have h : e.1 = k ∨ e ∈ d := by
    unfold addTo at he
    split at he <;> exact (AList.mem_insert he).imp_left (congrArg Prod.fst)
  exact h.elim (fun h => h ▸ hk) (hd e)

theorem addScaled_all {Q : T → Prop} (cnt : Nat) : ∀ (sub acc : AList T Nat), (∀ e ∈ sub, Q e.1) → (∀ e ∈ acc, Q e.1) →
    ∀ e ∈ addScaled cnt sub acc, Q e.1
  | [], _, _, ha => ha
  | x :: sub, acc, hs, ha => by
    have ih := addScaled_all (Q := Q) cnt sub (addTo x.1 (x.2 * cnt) acc)
      (fun e he => hs e (List.mem_cons_of_mem _ he)) (addTo_all _ (hs x (List.mem_cons_self ..)) ha)
    unfold addScaled at ih ⊢
    rwa [List.foldl_cons]

theorem exists_key_of_W_pos (v : T) : ∀ d : AList T Nat, 0 < W d (fun x => if x = v then 1 else 0) → ∃ e ∈ d, e.1 = v
  | [], h => by simp at h
  | e :: d, h => by
    rw [W_cons] at h
    by_cases he : e.1 = v
    · exact ⟨e, List.mem_cons_self .., he⟩
    · simp only [he, if_false, Nat.mul_zero, Nat.zero_add] at h
      obtain ⟨e', he', h'⟩ := exists_key_of_W_pos v d h
      exact ⟨e', List.mem_cons_of_mem _ he', h'⟩

theorem W_pos_of (v : T) (F : T → Nat) (hF : 0 < F v) : ∀ d : AList T Nat,
    0 < W d (fun x => if x = v then 1 else 0) → 0 < W d F
  | [], h => by simp at h
  | e :: d, h => by
    rw [W_cons] at h ⊢
    by_cases he : e.1 = v
    · rcases Nat.eq_zero_or_pos e.2 with h0 | h0
      · simp only [h0, Nat.zero_mul, Nat.zero_add] at h ⊢
        exact W_pos_of v F hF d h
      · exact Nat.lt_of_lt_of_le (Nat.mul_pos h0 (he ▸ hF)) (Nat.le_add_right _ _)
    · simp only [he, if_false, Nat.mul_zero, Nat.zero_add] at h
      exact Nat.lt_of_lt_of_le (W_pos_of v F hF d h) (Nat.le_add_left _ _)

/-- the counterpart of `W` for an enumeration of (term, end state) pairs: `W d F = SumL L F` for every `F`
    says that `d` holds, per end state, the number of entries of `L` that end in it -/
def SumL {α : Type} (L : List (α × T)) (F : T → Nat) : Nat := (L.map (fun x => F x.2)).sum

omit [DecidableEq T] in
theorem SumL_append {α : Type} (L L' : List (α × T)) (F : T → Nat) : SumL (L ++ L') F = SumL L F + SumL L' F := by
  simp [SumL]

omit [DecidableEq T] in
theorem SumL_map {α β : Type} (L : List (α × T)) (g : α × T → β × T) (hg : ∀ x, (g x).2 = x.2) (F : T → Nat) :
    SumL (L.map g) F = SumL L F := by
  simp [SumL, List.map_map, Function.comp_def, hg]

omit [DecidableEq T] in
theorem SumL_flatMap {γ β : Type} (L : List γ) (f : γ → List (β × T)) (F : T → Nat) :
    SumL (L.flatMap f) F = (L.map (fun x => SumL (f x) F)).sum := by
  induction L with
  | nil => rfl
  | cons x L ih => rw [List.flatMap_cons, SumL_append, ih]; simp

omit [DecidableEq T] in
theorem SumL_one_length {α : Type} (L : List (α × T)) : SumL L (fun _ => 1) = L.length := by
  induction L with
  | nil => rfl
  | cons x L ih => simp [SumL] at ih ⊢; omega

end Weights

variable {S T : Type} [DecidableEq S] [DecidableEq T]

omit [DecidableEq S] [DecidableEq T] in
theorem mem_seqsT_nil {rec : Ty × S → T → List (Prog × T)} {kids : List Prog} {v w : T} :
    (kids, w) ∈ seqsT rec [] v ↔ kids = [] ∧ w = v := by
  simp [seqsT]

omit [DecidableEq S] [DecidableEq T] in
/-- same shape as `runList_args_cons` -/
theorem mem_seqsT_cons {rec : Ty × S → T → List (Prog × T)} {a : Ty × S} {as : List (Ty × S)} {kids : List Prog}
    {v w : T} : (kids, w) ∈ seqsT rec (a :: as) v ↔
      ∃ k ks v1, kids = k :: ks ∧ (k, v1) ∈ rec a v ∧ (ks, w) ∈ seqsT rec as v1 := by
  simp only [seqsT, List.mem_flatMap, List.mem_map, Prod.mk.injEq]
  exact ⟨fun ⟨tw, htw, kw, hkw, h1, h2⟩ => ⟨tw.1, kw.1, tw.2, h1.symm, htw, h2 ▸ hkw⟩,
    fun ⟨k, ks, v1, e, hk, hks⟩ => ⟨(k, v1), hk, (ks, w), hks, e.symm, rfl⟩⟩

omit [DecidableEq S] [DecidableEq T] in
theorem SumL_seqsT_cons (rec : Ty × S → T → List (Prog × T)) (a : Ty × S) (as : List (Ty × S)) (v : T) (F : T → Nat) :
    SumL (seqsT rec (a :: as) v) F = SumL (rec a v) (fun v1 => SumL (seqsT rec as v1) F) := by
  simp only [seqsT]
  rw [SumL_flatMap]
  unfold SumL
  congr 1
  apply List.map_congr_left
  intro tw _
  simp [List.map_map, Function.comp_def]

omit [DecidableEq S] in
theorem SumL_pos_of_mem {α : Type} (L : List (α × T)) (x : α × T) (h : x ∈ L) :
    0 < SumL L (fun y => if y = x.2 then 1 else 0) := by
  have := le_sum_map_of_mem (fun y : α × T => if y.2 = x.2 then 1 else 0) L x h
  rwa [if_pos rfl] at this

theorem stepLocal_cons_eq_some {rec : NT S T → Option (AList T Nat)} {base : Ty × S} {v : T} {cnt : Nat}
    {rest acc r : AList T Nat} : stepLocal rec base ((v, cnt) :: rest) acc = some r ↔
      ∃ sub, rec (base.1, (base.2, v)) = some sub ∧ stepLocal rec base rest (addScaled cnt sub acc) = some r := by
  rw [stepLocal]
  cases rec (base.1, (base.2, v)) <;> simp

theorem chainLocal_cons_eq_some {rec : NT S T → Option (AList T Nat)} {base : Ty × S} {info : List (Ty × S)}
    {loc loc' : AList T Nat} : chainLocal rec (base :: info) loc = some loc' ↔
      ∃ nl, stepLocal rec base loc [] = some nl ∧ chainLocal rec info nl = some loc' := by
  rw [chainLocal]
  cases stepLocal rec base loc [] <;> simp

theorem rowCounts_cons_eq_some {rec : NT S T → Option (AList T Nat)} {state : NT S T} {r : Sym × List (Ty × S) × T}
    {rs : Row S T} {out out' : AList T Nat} : rowCounts rec state (r :: rs) out = some out' ↔
      ∃ loc loc', rec (deriveWith [] state r.2.1 r.2.2).2 = some loc ∧
        chainLocal rec (deriveWith [] state r.2.1 r.2.2).1 loc = some loc' ∧
        rowCounts rec state rs (addScaled 1 loc' out) = some out' := by
  rw [rowCounts]
  cases rec (deriveWith [] state r.2.1 r.2.2).2 with
  | none => simp
  | some loc => cases h : chainLocal rec (deriveWith [] state r.2.1 r.2.2).1 loc <;> simp [h]

theorem seqsT_nil_spec (G : TT S T) (k : Nat) (st : T) :
    (∀ F : T → Nat, W [(st, 1)] F = SumL (seqsT (langT G k) [] st) F) ∧
    (∀ kids w, runList G.rule? kids [] st = some w → (kids, w) ∈ seqsT (langT G k) [] st) := by
  refine ⟨fun F => by simp [W, seqsT, SumL], fun kids w hrun => ?_⟩
  obtain ⟨rfl, rfl⟩ := (runList_args_nil _).mp hrun
  exact mem_seqsT_nil.mpr ⟨rfl, rfl⟩

theorem langT_succ_spec (G : TT S T) (k : Nat) (nt : NT S T) (row : Row S T) (hrow : AList.lookup nt G.rules = some row)
    (d : AList T Nat)
    (hW : ∀ F : T → Nat, W d F = (row.map (fun r => SumL (seqsT (langT G k) r.2.1 r.2.2) F)).sum)
    (hC : ∀ r ∈ row, ∀ kids w, runList G.rule? kids r.2.1 r.2.2 = some w → (kids, w) ∈ seqsT (langT G k) r.2.1 r.2.2) :
    (∀ F : T → Nat, W d F = SumL (langT G (k + 1) (nt.1, nt.2.1) nt.2.2) F) ∧
    (∀ t w, run G.rule? t (nt.1, nt.2.1) nt.2.2 = some w → (t, w) ∈ langT G (k + 1) (nt.1, nt.2.1) nt.2.2) := by
  have hnt : ((nt.1, (nt.2.1, nt.2.2)) : NT S T) = nt := rfl
  refine ⟨fun F => ?_, fun t w hrun => ?_⟩
  · rw [hW F]
    simp only [langT, hnt, hrow]
    rw [SumL_flatMap]
    congr 1
    apply List.map_congr_left
    intro r _
    rw [SumL_map (g := fun kw : List Prog × T => (Tree.node r.1 kw.1, kw.2)) (hg := fun _ => rfl)]
  · cases t with
    | node f kids =>
      obtain ⟨args, st, hr, hrun⟩ := (run_eq_some _).mp hrun
      have hin : (f, (args, st)) ∈ row := by
        rw [hnt, TT.rule?_of_lookup hrow] at hr
        exact AList.lookup_some_mem hr
      simp only [langT, hnt, hrow, List.mem_flatMap, List.mem_map]
      exact ⟨(f, (args, st)), hin, (kids, w), hC _ hin kids w hrun, rfl⟩

section Inv
variable (G : TT S T) (outs : AList (NT S T) (List T)) (rk : AList (NT S T) Nat)

/-- `RecOk` at `Mk nt` = "`nt` has no row", `Ok nt` = "`nt` has a row", `Kd` = the end states `outs` lists: what
    `compute` satisfies on a table with a closedness certificate (`compute` is the `__compute__` before 875cb5a, for
    which every missing non-terminal ends a derivation).  `compute_spec` (TtcfgCountCert) hands it to the `RecOk`
    lemmas as `⟨R.marker, R.key⟩`. -/
structure RecSpec (rec : NT S T → Option (AList T Nat)) (k : Nat) : Prop where
  marker : ∀ nt d, rec nt = some d → AList.lookup nt G.rules = none → d = [(nt.2.2, 1)]
  key : ∀ nt d, rec nt = some d → AList.contains nt G.rules = true →
    (∀ e ∈ d, e.1 ∈ outsOf outs nt) ∧
    (∀ F : T → Nat, W d F = SumL (langT G k (nt.1, nt.2.1) nt.2.2) F) ∧
    (∀ t w, run G.rule? t (nt.1, nt.2.1) nt.2.2 = some w → (t, w) ∈ langT G k (nt.1, nt.2.1) nt.2.2)

/-- the shape of `RecSpec` and of `RecSpecR` (TtcfgCountR): a call on a non-terminal in `Mk` returns the dictionary of the
    end marker; a call on one in `Ok` returns the end states of the enumeration `langT`, all in `Kd`, and that
    enumeration is complete -/
structure RecOk (Mk Ok : NT S T → Prop) (Kd : NT S T → T → Prop) (rec : NT S T → Option (AList T Nat)) (k : Nat) :
    Prop where
  marker : ∀ nt d, rec nt = some d → Mk nt → d = [(nt.2.2, 1)]
  key : ∀ nt d, rec nt = some d → Ok nt →
    (∀ e ∈ d, Kd nt e.1) ∧
    (∀ F : T → Nat, W d F = SumL (langT G k (nt.1, nt.2.1) nt.2.2) F) ∧
    (∀ t w, run G.rule? t (nt.1, nt.2.1) nt.2.2 = some w → (t, w) ∈ langT G k (nt.1, nt.2.1) nt.2.2)

variable {G outs rk} {Mk Ok : NT S T → Prop} {Kd : NT S T → T → Prop} {rec : NT S T → Option (AList T Nat)} {k : Nat}

theorem stepLocal_spec (R : RecOk G Mk Ok Kd rec k) (base : Ty × S) (P Q : T → Prop)
    (hPQ : ∀ v, P v → Ok (base.1, (base.2, v)) ∧ ∀ w, Kd (base.1, (base.2, v)) w → Q w) :
    ∀ (loc acc r : AList T Nat), (∀ e ∈ loc, P e.1) → (∀ e ∈ acc, Q e.1) → stepLocal rec base loc acc = some r →
      (∀ e ∈ loc, ∃ sub, rec (base.1, (base.2, e.1)) = some sub) ∧
      (∀ e ∈ r, Q e.1) ∧
      (∀ F : T → Nat, W r F = W acc F + W loc (fun v => SumL (langT G k base v) F))
  | [], acc, r, _, hacc, h => by
    simp only [stepLocal, Option.some.injEq] at h
    subst h
    exact ⟨(fun _ he => nomatch he), hacc, fun F => by simp⟩
  | (v, cnt) :: rest, acc, r, hloc, hacc, h => by
    obtain ⟨sub, hsub, h⟩ := stepLocal_cons_eq_some.mp h
    obtain ⟨hok, hQ⟩ := hPQ v (hloc (v, cnt) (List.mem_cons_self ..))
    obtain ⟨hk1, hk2', _⟩ := R.key _ sub hsub hok
    have hk2 : ∀ F : T → Nat, W sub F = SumL (langT G k base v) F := hk2'
    obtain ⟨ih1, ih2, ih3⟩ := stepLocal_spec R base P Q hPQ rest (addScaled cnt sub acc) r
      (fun e he => hloc e (List.mem_cons_of_mem _ he))
      (addScaled_all cnt sub acc (fun e he => hQ _ (hk1 e he)) hacc) h
    refine ⟨?_, ih2, ?_⟩
    · intro e he
      rcases List.mem_cons.mp he with e1 | hm
      · subst e1; exact ⟨sub, hsub⟩
      · exact ih1 e hm
    · intro F
      rw [ih3 F, W_addScaled, W_cons, hk2 F]
      simp only
      omega

/-- The third part is the completeness half.  "`v` is a key of `loc` with a positive count" is written
    `0 < W loc (indicator of v)` so that it goes through the weight equation of `stepLocal_spec` to the next
    dictionary (`W_pos_of`), with no lemma on the keys `addScaled` produces. -/
theorem chainLocal_cont (R : RecOk G Mk Ok Kd rec k) :
    ∀ (info : List (Ty × S)) (P P' : T → Prop) (loc loc' : AList T Nat),
      ChainOk Ok Kd info P P' → (∀ e ∈ loc, P e.1) → chainLocal rec info loc = some loc' →
      (∀ e ∈ loc', P' e.1) ∧
      (∀ F : T → Nat, W loc' F = W loc (fun v => SumL (seqsT (langT G k) info v) F)) ∧
      (∀ v, 0 < W loc (fun x => if x = v then 1 else 0) → ∀ kids w, runList G.rule? kids info v = some w →
        (kids, w) ∈ seqsT (langT G k) info v)
  | [], P, P', loc, loc', hch, hloc, h => by
    simp only [chainLocal, Option.some.injEq] at h
    subst h
    refine ⟨fun e he => hch _ (hloc e he), fun F => W_congr _ _ _ (fun e _ => by simp [seqsT, SumL]), ?_⟩
    intro v _ kids w hrun
    exact (seqsT_nil_spec G k v).2 kids w hrun
  | base :: info, P, P', loc, loc', hch, hloc, h => by
    obtain ⟨Q, hPQ, hch⟩ := hch
    obtain ⟨nl, hnl, h⟩ := chainLocal_cons_eq_some.mp h
    obtain ⟨s1, s2, s3⟩ := stepLocal_spec R base P Q hPQ loc [] nl hloc (fun _ he => nomatch he) hnl
    obtain ⟨c1, c2, c3⟩ := chainLocal_cont R info Q P' nl loc' hch s2 h
    refine ⟨c1, fun F => ?_, ?_⟩
    · rw [c2 F, s3, W_nil, Nat.zero_add]
      exact W_congr _ _ _ (fun e _ => (SumL_seqsT_cons _ base info e.1 F).symm)
    · intro v hpos kids w hrun
      obtain ⟨k0, ks, v1, rfl, h1, hrest⟩ := (runList_args_cons _).mp hrun
      obtain ⟨e, he, rfl⟩ := exists_key_of_W_pos v loc hpos
      obtain ⟨sub, hsub⟩ := s1 e he
      have hlast := (R.key _ sub hsub (hPQ _ (hloc e he)).1).2.2 k0 v1 h1
      have hv1 : 0 < W nl (fun x => if x = v1 then 1 else 0) := by
        rw [s3, W_nil, Nat.zero_add]
        exact W_pos_of e.1 _ (SumL_pos_of_mem _ (k0, v1) hlast) loc hpos
      exact mem_seqsT_cons.mpr ⟨k0, ks, v1, rfl, hlast, c3 v1 hv1 ks w hrest⟩

theorem rowCounts_spec (R : RecOk G Mk Ok Kd rec k) (state : NT S T) :
    ∀ (rs : Row S T) (out out' : AList T Nat),
      (∀ r ∈ rs, ChainOk Ok Kd r.2.1 (· ∈ [r.2.2]) (Kd state) ∧
        (r.2.1 = [] → Mk (Ty.unknown, (state.2.1, r.2.2)))) →
      (∀ e ∈ out, Kd state e.1) → rowCounts rec state rs out = some out' →
      (∀ e ∈ out', Kd state e.1) ∧
      (∀ F : T → Nat, W out' F = W out F + (rs.map (fun r => SumL (seqsT (langT G k) r.2.1 r.2.2) F)).sum) ∧
      (∀ r ∈ rs, ∀ kids w, runList G.rule? kids r.2.1 r.2.2 = some w → (kids, w) ∈ seqsT (langT G k) r.2.1 r.2.2)
  | [], out, out', _, hout, h => by
    simp only [rowCounts, Option.some.injEq] at h
    subst h
    exact ⟨hout, fun F => by simp, fun _ hr => nomatch hr⟩
  | r :: rs, out, out', hrs, hout, h => by
    obtain ⟨loc, loc', hrec, hl, h'⟩ := rowCounts_cons_eq_some.mp h
    obtain ⟨P, args, st⟩ := r
    obtain ⟨hch, hmk⟩ := hrs _ (List.mem_cons_self ..)
    simp only at hch hmk hrec hl
    have rule_ok : (∀ e ∈ loc', Kd state e.1) ∧
        (∀ F : T → Nat, W loc' F = SumL (seqsT (langT G k) args st) F) ∧
        (∀ kids w, runList G.rule? kids args st = some w → (kids, w) ∈ seqsT (langT G k) args st) := by
      cases args with
      | nil =>
        simp only [deriveWith, List.nil_append, chainLocal, Option.some.injEq] at hrec hl
        subst hl
        have := R.marker _ loc hrec (hmk rfl)
        simp only at this
        subst this
        obtain ⟨w1, w2⟩ := seqsT_nil_spec G k st
        refine ⟨fun e he => ?_, w1, w2⟩
        rw [List.mem_singleton.mp he]
        exact hch st (List.mem_singleton.mpr rfl)
      | cons a as =>
        -- the first argument is counted by the call itself, the others are continued from its end states
        simp only [deriveWith, List.append_nil] at hrec hl
        obtain ⟨Q, hPQ, hch⟩ := hch
        obtain ⟨hok, hQ⟩ := hPQ st (List.mem_singleton.mpr rfl)
        obtain ⟨k1, k2, k3⟩ := R.key _ loc hrec hok
        obtain ⟨c1, c2, c3⟩ := chainLocal_cont R as Q (Kd state) loc loc' hch (fun e he => hQ _ (k1 e he)) hl
        refine ⟨c1, fun F => by rw [c2 F, k2, SumL_seqsT_cons], fun kids w hrun => ?_⟩
        obtain ⟨k0, ks, v1, rfl, h1, hrest⟩ := (runList_args_cons _).mp hrun
        have hlast := k3 k0 v1 h1
        exact mem_seqsT_cons.mpr ⟨k0, ks, v1, rfl, hlast,
          c3 v1 (by rw [k2]; exact SumL_pos_of_mem _ (k0, v1) hlast) ks w hrest⟩
    obtain ⟨r1, r2, r3⟩ := rule_ok
    obtain ⟨i1, i2, i3⟩ := rowCounts_spec R state rs (addScaled 1 loc' out) out'
      (fun r hr => hrs r (List.mem_cons_of_mem _ hr)) (addScaled_all 1 loc' out r1 hout) h'
    refine ⟨i1, ?_, ?_⟩
    · intro F
      rw [i2 F, W_addScaled, r2 F]
      simp only [List.map_cons, List.sum_cons]
      omega
    · intro r hr kids w hrun
      rcases List.mem_cons.mp hr with e | hm
      · subst e; exact r3 kids w hrun
      · exact i3 r hm kids w hrun

end Inv

/-- rows are Python dicts -/
def RowsNodupT (G : TT S T) : Prop := ∀ e ∈ G.rules, (AList.keys e.2).Nodup

theorem seqsT_run (G : TT S T) (k : Nat)
    (ih : ∀ (t : Prog) (w : T) (slot : Ty × S) (v : T), (t, w) ∈ langT G k slot v → run G.rule? t slot v = some w) :
    ∀ (args : List (Ty × S)) (kids : List Prog) (v w : T), (kids, w) ∈ seqsT (langT G k) args v →
      runList G.rule? kids args v = some w
  | [], kids, v, w, h => by
    obtain ⟨rfl, rfl⟩ := mem_seqsT_nil.mp h
    exact (runList_args_nil _).mpr ⟨rfl, rfl⟩
  | a :: as, kids, v, w, h => by
    obtain ⟨k0, ks, v1, rfl, h1, h2⟩ := mem_seqsT_cons.mp h
    exact (runList_args_cons _).mpr ⟨k0, ks, v1, rfl, ih k0 v1 a v h1, seqsT_run G k ih as ks v1 w h2⟩

theorem langT_sound (G : TT S T) (hr : RowsNodupT G) : ∀ (k : Nat) (t : Prog) (w : T) (slot : Ty × S) (v : T),
    (t, w) ∈ langT G k slot v → run G.rule? t slot v = some w
  | 0, _, _, _, _, h => by simp [langT] at h
  | k + 1, t, w, slot, v, h => by
    simp only [langT] at h
    cases hrow : AList.lookup (slot.1, (slot.2, v)) G.rules with
    | none => simp [hrow] at h
    | some row =>
      simp only [hrow, List.mem_flatMap, List.mem_map, Prod.mk.injEq] at h
      obtain ⟨r, hrm, kw, hkw, h1, h2⟩ := h
      subst h1 h2
      rw [run]
      have hl : G.rule? (slot.1, (slot.2, v)) r.1 = some r.2 :=
        TT.rule?_eq_some.mpr ⟨_, hrow, AList.lookup_of_mem_nodup (hr _ (AList.lookup_some_mem hrow)) hrm⟩
      rw [hl]
      exact seqsT_run G k (langT_sound G hr k) r.2.1 kw.1 r.2.2 kw.2 hkw

/-- distinct FIRST components: more than `Nodup` of the pairs, and what survives dropping the end states
    in `langOf` -/
def Pd {α β : Type} (L : List (α × β)) : Prop := L.Pairwise (fun x y => x.1 ≠ y.1)

omit [DecidableEq S] [DecidableEq T] in
theorem seqs_pd (rec : Ty × S → T → List (Prog × T)) (hrec : ∀ a v, Pd (rec a v)) :
    ∀ (args : List (Ty × S)) (v : T), Pd (seqsT rec args v)
  | [], v => by simp [seqsT, Pd]
  | a :: as, v => by
    unfold Pd
    simp only [seqsT]
    rw [List.pairwise_flatMap]
    constructor
    · intro tw _
      rw [List.pairwise_map]
      exact (seqs_pd rec hrec as tw.2).imp (fun hne he => hne (List.cons.inj he).2)
    · refine (hrec a v).imp ?_
      intro tw tw' hne x hx y hy he
      simp only [List.mem_map] at hx hy
      obtain ⟨kw, _, rfl⟩ := hx
      obtain ⟨kw', _, rfl⟩ := hy
      exact hne (List.cons.inj he).1

theorem langT_pd (G : TT S T) (hr : RowsNodupT G) : ∀ (k : Nat) (slot : Ty × S) (v : T), Pd (langT G k slot v)
  | 0, _, _ => by simp [langT, Pd]
  | k + 1, slot, v => by
    unfold Pd
    simp only [langT]
    cases hrow : AList.lookup (slot.1, (slot.2, v)) G.rules with
    | none => simp
    | some row =>
      simp only
      rw [List.pairwise_flatMap]
      constructor
      · intro r _
        rw [List.pairwise_map]
        exact (seqs_pd (langT G k) (langT_pd G hr k) r.2.1 r.2.2).imp
          (fun hne he => hne (Tree.node.inj he).2)
      · have hnd := hr _ (AList.lookup_some_mem hrow)
        unfold AList.keys at hnd
        rw [List.nodup_iff_pairwise_ne, List.pairwise_map] at hnd
        refine hnd.imp ?_
        intro r r' hne x hx y hy he
        simp only [List.mem_map] at hx hy
        obtain ⟨kw, _, rfl⟩ := hx
        obtain ⟨kw', _, rfl⟩ := hy
        exact hne (Tree.node.inj he).1

omit [DecidableEq T] in
theorem total_eq_W (d : AList T Nat) : (d.map (·.2)).sum = W d (fun _ => 1) := by
  simp [W]

theorem langOf_nodup (G : TT S T) (hr : RowsNodupT G) (k : Nat) : (langOf G k).Nodup := by
  unfold langOf
  rw [List.nodup_iff_pairwise_ne, List.pairwise_map]
  exact langT_pd G hr k _ _

theorem langOf_sound (G : TT S T) (hr : RowsNodupT G) (k : Nat) (t : Prog) (ht : t ∈ langOf G k) :
    inLang G t = true := by
  unfold langOf at ht
  obtain ⟨tw, htw, rfl⟩ := List.mem_map.mp ht
  exact inLang_iff.mpr ⟨tw.2, langT_sound G hr k tw.1 tw.2 _ _ htw⟩

theorem count_of_spec (G : TT S T) (hr : RowsNodupT G) (k : Nat) (d : AList T Nat)
    (hW : ∀ F : T → Nat, W d F = SumL (langT G k (G.start.1, G.start.2.1) G.start.2.2) F)
    (hC : ∀ t w, run G.rule? t (G.start.1, G.start.2.1) G.start.2.2 = some w →
      (t, w) ∈ langT G k (G.start.1, G.start.2.1) G.start.2.2) :
    (langOf G k).Nodup ∧ (d.map (·.2)).sum = (langOf G k).length ∧ ∀ t, t ∈ langOf G k ↔ inLang G t = true := by
  refine ⟨langOf_nodup G hr k, ?_, fun t => ⟨langOf_sound G hr k t, fun hin => ?_⟩⟩
  · rw [total_eq_W, hW, SumL_one_length]
    simp [langOf]
  · obtain ⟨w, hrun⟩ := inLang_iff.mp hin
    exact List.mem_map.mpr ⟨(t, w), hC t w hrun, rfl⟩

end PS.T
