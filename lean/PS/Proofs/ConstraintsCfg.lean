/-
  C05: the embedding `liftBase` of a base automaton into extensible states, and the table
  `__cfg2dfta__` writes: it is the dict of the list `allWrites G`, hence deterministic.
-/
import PS.Proofs.ConstraintsSharpen
set_option linter.unusedSectionVars false
namespace PS.C05
open PS DFTA PS.G

variable {σ Q : Type} [DecidableEq σ] [DecidableEq Q]

theorem liftBase_det (B : DFTA σ Q) : (liftBase B).Det := mapStates_det _ B

theorem liftBase_uniform (B : DFTA σ Q) : Uniform (liftBase B) 0 := by
  intro q hq
  obtain ⟨d, _, e⟩ := List.mem_map.mp hq
  rw [← e]; rfl

theorem liftBase_accepts (B : DFTA σ Q) (hd : B.Det) (t : Tree σ) : (liftBase B).accepts t = B.accepts t :=
  accepts_mapStates _ B hd (fun _ _ _ _ e => (Prod.mk.inj e).1) t

/-- `max(i for _, i in nargs)` of `__cfg2dfta__`; the proofs about heights use `lvl`
    (PS/Proofs/ConstraintsGrammar.lean), which also covers the constant case. -/
def maxh (qs : List BaseSt) : Nat := (qs.map (·.2)).foldl max 0

/-- the dict writes of `__cfg2dfta__` for one grammar rule -/
def writes (md : Nat) (ty : Ty) (r : Sym × (List (Ty × CFGState) × Unit)) : List ((Sym × List BaseSt) × BaseSt) :=
  if r.2.1.length = 0 then [((r.1, []), (r.1.ty, 0))]
  else (cartesian (r.2.1.map (fun a => (List.range md).map (fun j => (a.1, j))))).filterMap (fun nargs =>
    if maxh nargs + 1 ≥ md then none else some ((r.1, nargs), (ty, maxh nargs + 1)))

def allWrites (G : CFG) : List ((Sym × List BaseSt) × BaseSt) :=
  G.rules.flatMap (fun e => e.2.flatMap (writes (maxDepth G) e.1.1))

theorem cfg2dftaStep_eq (md : Nat) (ty : Ty) (acc : AList (Sym × List BaseSt) BaseSt)
    (r : Sym × (List (Ty × CFGState) × Unit)) :
    cfg2dftaStep md ty acc r = AList.insertMany acc (writes md ty r) := by
  unfold cfg2dftaStep writes
  simp only
  split
  · rfl
  · rw [AList.insertMany, List.foldl_filterMap]
    congr 1
    funext acc nargs
    unfold maxh
    split <;> rfl

theorem raw_rules_eq (G : CFG) : (cfg2dftaRaw G).rules = AList.ofList (allWrites G) := by
  unfold cfg2dftaRaw allWrites AList.ofList AList.insertMany
  simp only [List.foldl_flatMap]
  congr 1
  funext acc e
  congr 1
  funext acc r
  exact cfg2dftaStep_eq _ _ _ _

theorem cfg2dftaRaw_det (G : CFG) : (cfg2dftaRaw G).Det := by
  unfold DFTA.Det
  rw [raw_rules_eq]
  exact AList.keys_nodup_ofList _

theorem cfg2dfta_det (G : CFG) : (cfg2dfta G).Det := reduce_det _ (cfg2dftaRaw_det G)

theorem cfg2dfta_accepts (G : CFG) (t : Tree Sym) : (cfg2dfta G).accepts t = (cfg2dftaRaw G).accepts t :=
  accepts_reduce _ (cfg2dftaRaw_det G) t

theorem addDftaConstraints_cfg (G : CFG) (cs : List (Tok Sym)) (sketch : Option (Tok Sym))
    (D : DFTA Sym (UState BaseSt)) (h : addDftaConstraints (liftBase (cfg2dfta G)) cs sketch = some D) :
    D.Det ∧ ∀ t, D.accepts t = sharpenSpec (cfg2dfta G).accepts cs sketch t := by
  obtain ⟨hd, hl⟩ := addDftaConstraints_lang _ 0 (liftBase_det _) (liftBase_uniform _) cs sketch D h
  exact ⟨hd, fun t => (hl t).trans (sharpenSpec_congr cs sketch (liftBase_accepts _ (cfg2dfta_det G) t))⟩

end PS.C05
