/- C17, probabilities: the instantiations of a template share its probability; row sums.
   Every statement here comes from one fact, `sum_expand`: the keys made of a key `P` of a row each
   get the share `share fx tbl P` of what `P` had, and there are as many of them as shares. -/
import PS.Proofs.InstConstProg
import PS.Proofs.Mass
import PS.Proofs.ProbDet
import Mathlib.Algebra.Order.Field.Rat
namespace PS.IC
open PS PS.G

theorem rsum_eq_sum (l : List Rat) : rsum l = l.sum := by
  induction l with
  | nil => rfl
  | cons x xs ih => rw [rsum, ih, List.sum_cons]

variable {ν : Type} {fx : Fix} {tbl : Tbl}

def share (fx : Fix) (tbl : Tbl) (P : Sym) : Rat :=
  match slot? fx tbl P with
  | some vals => 1 / (vals.length : Rat)
  | none => 1

theorem share_mul (fx : Fix) (tbl : Tbl) (P : Sym) (c : Rat) :
    share fx tbl P * c =
      match slot? fx tbl P with
      | some vals => c / (vals.length : Rat)
      | none => c := by
  unfold share
  cases slot? fx tbl P with
  | none => exact Rat.one_mul c
  | some vals => simp only; rw [Rat.div_def, Rat.div_def, Rat.one_mul, Rat.mul_comm]

theorem slot?_ne_nil {row : AList Sym ν} (h : rowNonEmpty fx tbl row = true) {P : Sym}
    (hP : P ∈ AList.keys row) : slot? fx tbl P ≠ some [] := by
  intro hs
  have := List.all_eq_true.mp h P hP
  rw [hs] at this
  cases this

theorem sum_expand {f : ν → Nat → ν} {e : Sym × ν} (hne : slot? fx tbl e.1 ≠ some [])
    (g : Sym × ν → Rat) (c : Rat) (hg : ∀ x ∈ expand fx tbl f e, g x = share fx tbl e.1 * c) :
    ((expand fx tbl f e).map g).sum = c := by
  rw [List.map_congr_left hg, sum_map_const]
  unfold expand share
  cases hs : slot? fx tbl e.1 with
  | none => simp only [List.length_singleton, Rat.one_mul]; exact Rat.one_mul c
  | some vals =>
    have hv : vals.length ≠ 0 := fun h => hne (hs ▸ congrArg some (List.length_eq_zero_iff.mp h))
    simp only [List.length_map]
    rw [← Rat.mul_assoc, natCast_mul_one_div _ hv, Rat.one_mul]

theorem expand_ne_nil {f : ν → Nat → ν} {e : Sym × ν} (hne : slot? fx tbl e.1 ≠ some []) :
    expand fx tbl f e ≠ [] := by
  fun_cases expand fx tbl f e with
  | case1 vals hs => exact fun h => hne (hs ▸ congrArg some (List.map_eq_nil_iff.mp h))
  | case2 => exact List.cons_ne_nil _ _

theorem sum_flatMap_expand {f : ν → Nat → ν} {row : AList Sym ν} (hne : rowNonEmpty fx tbl row = true)
    (g c : Sym × ν → Rat)
    (hg : ∀ e ∈ row, ∀ x ∈ expand fx tbl f e, g x = share fx tbl e.1 * c e) :
    ((row.flatMap (expand fx tbl f)).map g).sum = (row.map c).sum := by
  rw [sum_flatMap_rat]
  exact congrArg List.sum (List.map_congr_left fun e he =>
    sum_expand (slot?_ne_nil hne (List.mem_map.mpr ⟨e, he, rfl⟩)) g (c e) (hg e he))

theorem sum_allInstSym {P : Sym} {hs : List Sym} (e : allInstSym fx tbl P = some hs)
    (hne : slot? fx tbl P ≠ some []) (g : Sym → Rat) (c : Rat)
    (hg : ∀ k, produces fx tbl P k → g k = share fx tbl P * c) : (hs.map g).sum = c := by
  rw [allInstSym_eq e, AList.keys, List.map_map]
  exact sum_expand (e := (P, ())) hne _ c fun x hx => hg x.1 (mem_expand.mp hx).1

theorem allInstSym_ne_nil {P : Sym} {hs : List Sym} (e : allInstSym fx tbl P = some hs)
    (hne : slot? fx tbl P ≠ some []) : hs ≠ [] := by
  rw [allInstSym_eq e, AList.keys, ne_eq, List.map_eq_nil_iff]
  exact expand_ne_nil (e := (P, ())) hne

theorem rsum_instRow {row : AList Sym Rat} (h : rowOK fx tbl row = true)
    (hne : rowNonEmpty fx tbl row = true) :
    rsum (AList.values (instRow fx tbl (fun p n => p / (n : Rat)) row)) = rsum (AList.values row) := by
  rw [instRow_eq_flatMap h, rsum_eq_sum, rsum_eq_sum]
  refine sum_flatMap_expand hne (·.2) (·.2) fun e _ x hx => ?_
  rw [share_mul]
  exact (mem_expand.mp hx).2

theorem rsum_values_div {κ : Type} (d : AList κ Rat) (n : Rat) :
    rsum (AList.values (d.map fun kv => (kv.1, kv.2 / n))) = rsum (AList.values d) / n := by
  unfold AList.values
  rw [rsum_eq_sum, rsum_eq_sum, List.map_map]
  exact sum_map_div d (·.2) n

theorem rsum_instURow {κ : Type} {row : AList Sym (AList κ Rat)} (h : rowOK fx tbl row = true)
    (hne : rowNonEmpty fx tbl row = true) :
    uRowSum (instRow fx tbl (fun d n => d.map (fun kv => (kv.1, kv.2 / (n : Rat)))) row) = uRowSum row := by
  unfold uRowSum
  rw [instRow_eq_flatMap h, rsum_eq_sum, rsum_eq_sum]
  refine sum_flatMap_expand hne (fun e => rsum (AList.values e.2)) (fun e => rsum (AList.values e.2))
    fun e _ x hx => ?_
  rw [share_mul, (mem_expand.mp hx).2]
  cases slot? fx tbl e.1 with
  | none => rfl
  | some vals => exact rsum_values_div e.2 _

theorem slot?_ne_nil_of_lookup₂ {κ : Type} [DecidableEq κ] {d : AList κ (AList Sym ν)}
    (h : rulesNonEmpty fx tbl d = true) {nt : κ} {P : Sym} {v : ν} (hl : AList.lookup₂ d nt P = some v) :
    slot? fx tbl P ≠ some [] := by
  obtain ⟨row, hr, hP⟩ := AList.lookup₂_eq_some.mp hl
  exact slot?_ne_nil (rulesNonEmpty_row h hr) (AList.mem_keys_of_lookup hP)

section grammar
variable {S : Type} [DecidableEq S]

theorem tag?_eq_lookup₂ {T : Type} [DecidableEq T] (tags : Tags S T) (nt : NT S T) (P : Sym) :
    tag? tags nt P = AList.lookup₂ tags nt P := by
  unfold tag? AList.lookup₂
  cases AList.lookup nt tags <;> rfl

theorem tagD_inst_of_produces {tags : Tags S Unit} (h : rulesOK fx tbl tags = true)
    (nt : NT S Unit) {P k : Sym} (hP : slotFix fx tbl P) (hp : produces fx tbl P k) :
    (tag? (instTags fx tags tbl) nt k).getD 0 = share fx tbl P * (tag? tags nt P).getD 0 := by
  rw [tag?_eq_lookup₂, tag?_eq_lookup₂, instTags, lookup₂_inst_of_produces h _ nt hP hp]
  cases AList.lookup₂ tags nt P with
  | none => exact (Rat.mul_zero _).symm
  | some v => rw [share_mul]; rfl

theorem mass (fx : Fix) (tbl : Tbl) (G : TT S Unit) (tags : Tags S Unit)
    (hG : rulesOK fx tbl G.rules = true) (hT : rulesOK fx tbl tags = true)
    (hne : rulesNonEmpty fx tbl G.rules = true) :
    (∀ (t : Prog) (nt : NT S Unit) (l : List Prog), gen G t nt = true → allInst fx tbl t = some l →
      rsum (l.map fun t' => prob (inst fx G tbl) (instTags fx tags tbl) t' nt) = prob G tags t nt) ∧
    ∀ (ks : List Prog) (args : List (Ty × S)) (poss : List (List Prog)),
      genList G ks args = true → allInstList fx tbl ks = some poss →
      rsum ((product poss).map fun ks' => probList (inst fx G tbl) (instTags fx tags tbl) ks' args) =
        probList G tags ks args := by
  simp only [rsum_eq_sum]
  refine Tree.ind₂ (fun P kids ih nt l hg ha => ?_) (fun args poss hg ha => ?_)
    (fun k ks ih1 ih2 args poss hg ha => ?_)
  · obtain ⟨args, u, hr, hg⟩ := gen_node hg
    have hr' := (TT.rule?_eq_lookup₂ G nt P).symm.trans hr
    have hok := slotFix_of_lookup₂ hG hr'
    have hnz := slot?_ne_nil_of_lookup₂ hne hr'
    obtain ⟨hs, e1, hl⟩ := allInst_node ha
    have hprod := produces_of_allInstSym e1
    rcases hl with ⟨rfl, _⟩ | ⟨poss, e2, rfl⟩
    · -- no head: the slot has no value, excluded by `rulesNonEmpty`
      exact absurd rfl (allInstSym_ne_nil e1 hnz)
    · have hfac : ∀ k ∈ hs, ∀ ks',
          prob (inst fx G tbl) (instTags fx tags tbl) (Tree.node k ks') nt =
            (tag? (instTags fx tags tbl) nt k).getD 0 *
              probList (inst fx G tbl) (instTags fx tags tbl) ks' args := by
        intro k hk ks'
        rw [prob, rule?_inst_of_produces hG nt hok (hprod k hk), hr]
      rw [sum_flatMap_map (fun f' ks => Tree.node f' ks)
          (fun t' => prob (inst fx G tbl) (instTags fx tags tbl) t' nt) _ _ _ _ hfac,
        ih args poss hg e2, prob, hr]
      simp only
      congr 1
      -- the heads share the tag of the template symbol
      exact sum_allInstSym e1 hnz _ _ fun k hp => tagD_inst_of_produces hT nt hok hp
  · rw [genList_nil hg]
    cases ha
    simp [product, probList]
  · obtain ⟨t, s, as, rfl, hg1, hg2⟩ := genList_cons hg
    obtain ⟨l, ls, e1, e2, rfl⟩ := allInstList_cons ha
    rw [sum_product_cons
      (fun ks' => probList (inst fx G tbl) (instTags fx tags tbl) ks' ((t, s) :: as))
      (fun x => prob (inst fx G tbl) (instTags fx tags tbl) x (t, (s, ())))
      (fun r => probList (inst fx G tbl) (instTags fx tags tbl) r as) l ls
      (fun x r => by simp only [probList]),
      ih1 _ l hg1 e1, ih2 as ls hg2 e2]
    simp only [probList]

theorem massList (fx : Fix) (tbl : Tbl) (G : TT S Unit) (tags : Tags S Unit)
      (hG : rulesOK fx tbl G.rules = true) (hT : rulesOK fx tbl tags = true)
      (hne : rulesNonEmpty fx tbl G.rules = true) :
      ∀ (ks : List Prog) (args : List (Ty × S)) (poss : List (List Prog)),
        genList G ks args = true → allInstList fx tbl ks = some poss →
        rsum ((product poss).map fun ks' => probList (inst fx G tbl) (instTags fx tags tbl) ks' args) =
          probList G tags ks args :=
  (mass fx tbl G tags hG hT hne).2

end grammar

end PS.IC
