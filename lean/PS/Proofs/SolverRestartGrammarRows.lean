/- C10, restart part: the rows of the table `_restart_` builds mirror the rows of the grammar (same keys), hence
   with a positive prior every row has a positive sum: the result is normalised and has full support. -/
import PS.Proofs.SolverRestartGrammar
set_option linter.unusedSimpArgs false
set_option linter.unusedSectionVars false
namespace PS.C10.RG
open PS PS.G

variable {S : Type} [DecidableEq S]

theorem rowSum_eq_weights (t : Tags S Unit) (nt : NT S Unit) (row : AList Sym Rat)
    (h : AList.lookup nt t = some row) (hn : (AList.keys row).Nodup) :
    rowSum row = ((AList.keys row).map (fun P => weight t nt P)).sum := by
  unfold rowSum
  rw [← map_lookup_self (0 : Rat) row hn]
  simp only [AList.keys, List.map_map, Function.comp_def]
  congr 1
  apply List.map_congr_left
  intro c _
  simp [weight, tagOf, h]

theorem add_pos_of_nonneg_of_pos {a b : Rat} (ha : 0 ≤ a) (hb : 0 < b) : 0 < a + b := by grind

theorem accScore_nonneg (G : TT S Unit) (data : List (Prog × Rat)) (hnn : ∀ d ∈ data, 0 ≤ d.2)
    (nt : NT S Unit) (P : Sym) : 0 ≤ accScore G data nt P := by
  refine sum_nonneg _ fun x hx => ?_
  obtain ⟨d, hd, rfl⟩ := List.mem_map.mp hx
  exact Rat.mul_nonneg (hnn d hd) (by exact_mod_cast Nat.zero_le _)

/-- `hG`: every non-terminal of the grammar has a rule, and the keys of a Python dict are distinct.  With a positive
    prior every weight before `normalise` is positive, so `rs ≠ []` makes every row sum positive and `normalise`
    divides by a non-zero number. -/
theorem restartTags_distribution (G : TT S Unit) (tags0 : Tags S Unit) (data : List (Prog × Rat)) (prior : Rat)
    (hG : ∀ nt rs, AList.lookup nt G.rules = some rs → rs ≠ [] ∧ (AList.keys rs).Nodup)
    (hcov : Covers G tags0) (hrows : RowsOf G tags0) (hdata : ∀ d ∈ data, gen G d.1 G.start = true)
    (hnn : ∀ d ∈ data, 0 ≤ d.2) (hp : 0 < prior) :
    ∃ t, restartTags G tags0 data prior = some t ∧ Covers G t ∧ RowsOf G t ∧
      ∀ nt row, AList.lookup nt t = some row →
        rowSum row = 1 ∧ ∀ P ∈ AList.keys row, 0 < weight t nt P := by
  obtain ⟨u, h1, hr, h2, h3⟩ := restartTags_spec G tags0 data prior hcov hdata
  have hru := hr hrows
  refine ⟨normalise u, h1, ?_, hru.mapRows (fun _ r => normaliseRow r) fun _ r => keys_normaliseRow r, ?_⟩
  · intro nt P h
    rw [isSome_tagOf_normalise, h2]
    exact hcov nt P h
  · intro nt row' hl
    have hl' := hl
    unfold normalise at hl'
    rw [AList.lookup_map_val (fun _ (r : AList Sym Rat) => normaliseRow r)] at hl'
    cases hr : AList.lookup nt u with
    | none => rw [hr] at hl'; cases hl'
    | some row =>
      rw [hr] at hl'
      simp only [Option.map_some, Option.some.injEq] at hl'
      obtain ⟨rs, g1, g2⟩ := hru nt row hr
      obtain ⟨hne, hnd⟩ := hG nt rs g1
      have hpos : ∀ P ∈ AList.keys row, 0 < weight u nt P := by
        intro P hP
        rw [g2] at hP
        have hsome : (AList.lookup P rs).isSome = true := AList.lookup_isSome_iff_mem_keys.mpr hP
        have hrule : (G.rule? nt P).isSome = true := by simp [TT.rule?, g1, hsome]
        rw [h3 nt P (hcov nt P hrule)]
        simp only [hp, if_true]
        rw [weight_uniform_row G nt rs P g1 hsome]
        have hlen : (0 : Rat) < (rs.length : Rat) := by
          have : 0 < rs.length := List.length_pos_iff.mpr hne
          exact_mod_cast this
        have hu : (0 : Rat) < 1 / (rs.length : Rat) := by
          rw [Rat.div_def]; exact Rat.mul_pos (by decide) (Rat.inv_pos.mpr hlen)
        exact add_pos_of_nonneg_of_pos (accScore_nonneg G data hnn nt P) (Rat.mul_pos hp hu)
      have hsum : 0 < rowSum row := by
        rw [rowSum_eq_weights u nt row hr (by rw [g2]; exact hnd)]
        obtain ⟨r0, hr0⟩ := List.exists_mem_of_ne_nil rs hne
        exact sum_pos_of_mem _ _ hpos r0.1 (by rw [g2]; exact List.mem_map_of_mem hr0)
      obtain ⟨n1, _, n3⟩ := normalise_weights u nt row hr
      refine ⟨by rw [← hl']; exact n3 (fun h => by rw [h] at hsum; exact absurd hsum (by decide)), ?_⟩
      intro P hP
      rw [← hl', keys_normaliseRow] at hP
      rw [n1 P, Rat.div_def]
      exact Rat.mul_pos (hpos P hP) (Rat.inv_pos.mpr hsum)

theorem restartTags_specWeight (G : TT S Unit) (tags0 : Tags S Unit) (data : List (Prog × Rat)) (prior : Rat)
    (hcov : Covers G tags0) (hrows : RowsOf G tags0) (hdata : ∀ d ∈ data, gen G d.1 G.start = true) :
    ∃ t, restartTags G tags0 data prior = some t ∧
      ∀ nt rs, AList.lookup nt G.rules = some rs → (AList.keys rs).Nodup →
        ∀ P ∈ AList.keys rs, weight t nt P = specWeight G data prior nt (AList.keys rs) P := by
  obtain ⟨u, h1, hr, h2, h3⟩ := restartTags_spec G tags0 data prior hcov hdata
  have hru := hr hrows
  refine ⟨normalise u, h1, ?_⟩
  intro nt rs hrs hnd P hP
  have hrule : ∀ Q ∈ AList.keys rs, (G.rule? nt Q).isSome = true := by
    intro Q hQ
    rw [TT.rule?_of_lookup hrs]
    exact AList.lookup_isSome_iff_mem_keys.mpr hQ
  have hsu : (tagOf u nt P).isSome = true := by rw [h2]; exact hcov nt P (hrule P hP)
  obtain ⟨w, hw⟩ := Option.isSome_iff_exists.mp hsu
  obtain ⟨row, hrow, -⟩ := AList.lookup₂_eq_some.mp ((tagOf_eq_lookup₂ u nt P).symm.trans hw)
  obtain ⟨rs', g1, g2⟩ := hru nt row hrow
  rw [hrs] at g1
  cases g1
  obtain ⟨n1, _, _⟩ := normalise_weights u nt row hrow
  have hwu : ∀ Q ∈ AList.keys rs, weight u nt Q =
      accScore G data nt Q + (if 0 < prior then prior else 0) * (1 / ((AList.keys rs).length : Rat)) := by
    intro Q hQ
    rw [h3 nt Q (hcov nt Q (hrule Q hQ)),
      weight_uniform_row G nt rs Q hrs (AList.lookup_isSome_iff_mem_keys.mpr hQ)]
    have : (AList.keys rs).length = rs.length := by simp [AList.keys]
    rw [this]
    by_cases hp : 0 < prior <;> simp [hp, Rat.zero_mul]
  rw [n1 P, rowSum_eq_weights u nt row hrow (by rw [g2]; exact hnd), g2]
  unfold specWeight
  simp only
  rw [hwu P hP]
  congr 1
  congr 1
  exact List.map_congr_left (fun Q hQ => hwu Q hQ)

end PS.C10.RG
