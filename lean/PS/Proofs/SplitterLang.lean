/- C08, fragment grammar: what the tables of a fragment look like (`Facts`, established in SplitterFacts for
   `pcfgFrom`) and what follows for its derivations: every derivation of the fragment is the renamed path of a node
   followed by a free copy of an original continuation (`decomp`, `deriv_frag`), hence soundness, completeness and
   injectivity of the erasure (`frag_sound`, `frag_complete`, `frag_inj`). -/
import PS.Proofs.SplitterPath
namespace PS.Sp
open PS PS.G

variable {U : Type} [DecidableEq U]

/-- The copies chosen for one node of the group.  Non-terminals of the fragment are copies
    `(type, (u, i))` of original ones: `er` forgets the number `i`, `idx` reads it, `free s` is the
    copy number 0; `renPath` is the renaming `pathLoop` applies to the path of a node. -/
structure Lay (U : Type) where
  /-- the node; its path is `n.steps`, a leftmost derivation from `n.start` -/
  n : Node U
  /-- the copy of `n.start` that is a start symbol of the fragment -/
  sp : UNT (U × Nat)
  /-- the counter of fresh copies before the path of `n` is renamed -/
  lo : Nat
  /-- the counter after it -/
  hi : Nat
  /-- the steps of the path of `n`, renamed -/
  steps' : List (Step (U × Nat))
  /-- what is pending at the end of the path: the stack of the node, each original non-terminal
      paired with the copy that stands for it -/
  pend : List (UNT U × UNT (U × Nat))

/-- `X` is derived as in the original grammar: its rows are the copied rows of `er X` -/
def IsCopy (pg : PUG U) (R : AList (UNT (U × Nat)) (AList Sym (List (List (UNT (U × Nat))))))
    (T : AList (UNT (U × Nat)) (AList Sym (AList (List (UNT (U × Nat))) Rat))) (X : UNT (U × Nat)) : Prop :=
  AList.lookup X R = some (copyR pg (er X)) ∧ AList.lookup X T = some (copyP pg (er X))

/-- The shape of the rule table `F` of the fragment built for `group` and of the weight table `T`
    before `normalise` (every use takes `T := st.probs`; the fragment's own table is
    `normaliseTags st.probs`, and `IsCopy` compares with the raw `copyP`), with the layouts `L` of
    the nodes: the fragment consists of the renamed paths, each a chain of one-rule non-terminals
    below a start copy, and of copies that are derived as in the original grammar (`IsCopy`). -/
structure Facts (pg : PUG U) (group : List (Node U)) (F : UG (U × Nat))
    (T : AList (UNT (U × Nat)) (AList Sym (AList (List (UNT (U × Nat))) Rat))) (L : List (Lay U)) : Prop where
  lays : L.map (·.n) = group
  path : ∀ l ∈ L, renPath l.lo [(l.n.start, l.sp)] l.n.steps = some (l.hi, l.steps', l.pend)
  spEr : ∀ l ∈ L, er l.sp = l.n.start
  spSame : ∀ l1 ∈ L, ∀ l2 ∈ L, l1.n.start = l2.n.start → l1.sp = l2.sp
  starts : ∀ X, X ∈ F.starts ↔ ∃ l ∈ L, l.sp = X
  /-- below the first step a renamed path is a chain: the non-terminal of a step has that step as
      its only rule -/
  chain : ∀ l ∈ L, ∀ s ∈ l.steps'.tail, AList.lookup s.1 F.rules = some [(s.2.1, [s.2.2])]
  pendC : ∀ l ∈ L, ∀ e ∈ l.pend, IsCopy pg F.rules T e.2
  /-- the copies derived as in the original grammar — free copies and copies pending at the end of
      a path — only lead to free copies that are again derived as in the original grammar -/
  closed : ∀ X, (idx X = 0 ∨ ∃ l ∈ L, ∃ e ∈ l.pend, e.2 = X) → IsCopy pg F.rules T X →
    ∀ S' ∈ rhsSyms pg (er X), IsCopy pg F.rules T (free S')
  /-- a start copy none of whose nodes has the empty path has exactly the first renamed steps of
      its nodes as alternatives (a node with the empty path makes it a copy instead: `pendC`) -/
  startRow : ∀ X, (∃ l ∈ L, l.sp = X) → (∀ l ∈ L, l.sp = X → l.n.steps ≠ []) →
    ∀ Q a, (Q, a) ∈ alts F X ↔ ∃ l ∈ L, l.sp = X ∧ l.steps'.head? = some (X, Q, a)

/-- `X` is a free copy or a copy pending at the end of a path, and is derived as in the original -/
def Cp (pg : PUG U) (F : UG (U × Nat)) (T : AList (UNT (U × Nat)) (AList Sym (AList (List (UNT (U × Nat))) Rat)))
    (L : List (Lay U)) (X : UNT (U × Nat)) : Prop :=
  IsCopy pg F.rules T X ∧ (idx X = 0 ∨ ∃ l ∈ L, ∃ e ∈ l.pend, e.2 = X)

theorem alts_copy {pg : PUG U} {F : UG (U × Nat)} {T} {X : UNT (U × Nat)} (h : IsCopy pg F.rules T X) :
    alts F X = (alts pg.g (er X)).map (fun pa => (pa.1, pa.2.map free)) := by
  simp only [alts, h.1, copyR]
  cases AList.lookup (er X) pg.g.rules with
  | none => rfl
  | some rs =>
    simp only [Option.getD_some, List.flatMap_map, List.map_flatMap, List.map_map]
    rfl

theorem mem_rhsSyms {pg : PUG U} {S : UNT U} {P : Sym} {a : List (UNT U)} (h : (P, a) ∈ alts pg.g S) :
    ∀ S' ∈ a, S' ∈ rhsSyms pg S := fun _ hS' =>
  have ⟨r, hr, _, ha⟩ := mem_alts.mp h
  List.mem_flatMap.mpr ⟨r, hr, List.mem_flatMap.mpr ⟨a, ha, hS'⟩⟩

/-- the renaming of an original continuation from a stack of copies -/
def lift : List (UNT (U × Nat)) → List (Step U) → List (Step (U × Nat))
  | X :: c, (_, P, a) :: w => (X, P, a.map free) :: lift (a.map free ++ c) w
  | _, _ => []

section
variable {pg : PUG U} {group : List (Node U)} {F : UG (U × Nat)}
  {T : AList (UNT (U × Nat)) (AList Sym (AList (List (UNT (U × Nat))) Rat))} {L : List (Lay U)}

theorem copy_next (hf : Facts pg group F T L) {X : UNT (U × Nat)} {c : List (UNT (U × Nat))}
    (hc : ∀ Y ∈ X :: c, Cp pg F T L Y) {P : Sym} {a : List (UNT U)} (ha : (P, a) ∈ alts pg.g (er X)) :
    ∀ Y ∈ a.map free ++ c, Cp pg F T L Y := by
  intro Y hY
  rcases List.mem_append.mp hY with hY | hY
  · obtain ⟨S', hS', rfl⟩ := List.mem_map.mp hY
    exact ⟨hf.closed X (hc X (by simp)).2 (hc X (by simp)).1 S' (mem_rhsSyms ha S' hS'), Or.inl rfl⟩
  · exact hc Y (List.mem_cons_of_mem _ hY)

theorem copy_complete (hf : Facts pg group F T L) (w : List (Step U)) : ∀ (c : List (UNT (U × Nat))),
    (∀ Y ∈ c, Cp pg F T L Y) → run pg.g (c.map er) w = some [] →
      run F c (lift c w) = some [] ∧ (lift c w).map erStep = w := by
  induction w with
  | nil =>
    intro c _ h
    cases c with
    | nil => exact ⟨rfl, rfl⟩
    | cons => cases h
  | cons st w ih =>
    intro c hc h
    cases c with
    | nil => cases h
    | cons X c =>
      obtain ⟨P, a, w', e, ha, h'⟩ := run_cons_complete _ _ _ _ h
      cases e
      obtain ⟨ih1, ih2⟩ := ih (a.map free ++ c) (copy_next hf hc ha) (by rw [List.map_append, map_er_free]; exact h')
      have hmem : (P, a.map free) ∈ alts F X := by
        rw [alts_copy (hc X List.mem_cons_self).1]
        exact List.mem_map.mpr ⟨(P, a), ha, rfl⟩
      exact ⟨by rw [lift, run, if_pos ⟨rfl, hmem⟩]; exact ih1, by rw [lift, List.map_cons, ih2, erStep, map_er_free]⟩

theorem copy_sound (hf : Facts pg group F T L) (w' : List (Step (U × Nat))) (c : List (UNT (U × Nat)))
    (hc : ∀ Y ∈ c, Cp pg F T L Y) (h : run F c w' = some []) :
    run pg.g (c.map er) (w'.map erStep) = some [] ∧ w' = lift c (w'.map erStep) := by
  fun_induction run F c w' with
  | case1 c => cases h; exact ⟨rfl, rfl⟩
  | case2 => cases h
  | case3 X c s w' hcond ih =>
    obtain ⟨X', Q, a'⟩ := s
    obtain ⟨rfl, hQa⟩ : X' = X ∧ (Q, a') ∈ alts F X := hcond
    rw [alts_copy (hc X' List.mem_cons_self).1] at hQa
    obtain ⟨⟨P, a⟩, ha, hpa⟩ := List.mem_map.mp hQa
    cases hpa
    obtain ⟨ih1, ih2⟩ := ih (copy_next hf hc ha) h
    refine ⟨?_, ?_⟩
    · simp only [List.map_cons, erStep, map_er_free, run, ha, and_self, if_true]
      simp only [List.map_append, map_er_free] at ih1
      exact ih1
    · simp only [List.map_cons, erStep, map_er_free, lift]
      rw [← ih2]
  | case4 => cases h

theorem Facts.mem (hf : Facts pg group F T L) {l : Lay U} (hl : l ∈ L) : l.n ∈ group :=
  hf.lays ▸ List.mem_map_of_mem hl

theorem Facts.pairwise (hf : Facts pg group F T L) (hpf : PrefixFree group) :
    L.Pairwise (fun a b => a.n.start = b.n.start → ¬ a.n.steps <+: b.n.steps ∧ ¬ b.n.steps <+: a.n.steps) :=
  List.pairwise_map.mp (show PrefixFree (L.map (·.n)) from hf.lays ▸ hpf)

/-- `PrefixFree` is a `Pairwise` over the list and so speaks of `l1` before `l2` only; the relation is symmetric,
    which `forall_of_forall_of_flip` turns into a statement about any two members. -/
theorem lay_eq (hf : Facts pg group F T L) (hpf : PrefixFree group) {l1 l2 : Lay U} (h1 : l1 ∈ L) (h2 : l2 ∈ L)
    (hs : l1.n.start = l2.n.start) (hp : l1.n.steps <+: l2.n.steps) : l1 = l2 :=
  have hP := hf.pairwise hpf
  (List.Pairwise.forall_of_forall_of_flip (R := fun a b => a = b ∨ _) (fun _ _ => Or.inl rfl) (hP.imp Or.inr)
    (hP.imp fun h => Or.inr fun he => (h he.symm).symm) h1 h2).resolve_right fun h => (h hs).1 hp

theorem path_nil (hf : Facts pg group F T L) {l : Lay U} (hl : l ∈ L) (h : l.n.steps = []) :
    l.steps' = [] ∧ l.pend = [(l.n.start, l.sp)] := by
  rcases renPath_start (hf.path l hl) with ⟨_, h2⟩ | ⟨P, v, w, r0, h1, _⟩
  · exact h2
  · rw [h] at h1; cases h1

theorem pendOK_lay (hf : Facts pg group F T L) {l : Lay U} (hl : l ∈ L) :
    l.steps'.map erStep = l.n.steps ∧ PendOK l.pend :=
  renPath_er l.n.steps l.lo [(l.n.start, l.sp)] _
    (fun _ he => List.eq_of_mem_singleton he ▸ hf.spEr l hl) (hf.path l hl)

omit [DecidableEq U] in
theorem names_er {p : List (UNT U × UNT (U × Nat))} (h : PendOK p) : (names p).map er = srcs p := by
  rw [names, srcs, List.map_map]
  exact List.map_congr_left h

theorem pend_config (hf : Facts pg group F T L) {l : Lay U} (hl : l ∈ L) (hv : Valid pg.g l.n) :
    srcs l.pend = l.n.config :=
  renPath_srcs pg.g l.n.steps l.lo [(l.n.start, l.sp)] _ l.n.config (hf.path l hl) hv.2.2.2.1

theorem cp_pend (hf : Facts pg group F T L) {l : Lay U} (hl : l ∈ L) : ∀ Y ∈ names l.pend, Cp pg F T L Y := by
  intro Y hY
  obtain ⟨e, he, rfl⟩ := List.mem_map.mp hY
  exact ⟨hf.pendC l hl e he, Or.inr ⟨l, hl, e, he, rfl⟩⟩

theorem alts_chain {F : UG (U × Nat)} {X : UNT (U × Nat)} {P : Sym} {m : List (UNT (U × Nat))}
    (h : AList.lookup X F.rules = some [(P, [m])]) : alts F X = [(P, m)] := by
  simp [alts, h]

theorem no_nil_of_cons (hf : Facts pg group F T L) (hpf : PrefixFree group) {l : Lay U} (hl : l ∈ L)
    (hne : l.n.steps ≠ []) : ∀ l2 ∈ L, l2.sp = l.sp → l2.n.steps ≠ [] := by
  intro l2 hl2 hsp hnil
  have hs : l2.n.start = l.n.start := by rw [← hf.spEr l2 hl2, ← hf.spEr l hl, hsp]
  cases lay_eq hf hpf hl2 hl hs (by rw [hnil]; exact List.nil_prefix)
  exact hne hnil

theorem run_path (hf : Facts pg group F T L) (hpf : PrefixFree group) {l : Lay U} (hl : l ∈ L) :
    run F [l.sp] l.steps' = some (names l.pend) := by
  refine renPath_run F l.n.steps l.lo [(l.n.start, l.sp)] _ (hf.path l hl) (fun s hs => ?_)
  replace hs : s ∈ l.steps' := hs
  rcases renPath_start (hf.path l hl) with ⟨_, h2, _⟩ | ⟨P, v, w, r0, h1, h2, -⟩
  · rw [h2] at hs; cases hs
  · have hne : l.n.steps ≠ [] := by rw [h1]; exact List.cons_ne_nil _ _
    rw [h2] at hs
    rcases List.mem_cons.mp hs with rfl | hs
    · -- the first step is a rule of the start copy
      exact (hf.startRow l.sp ⟨l, hl, rfl⟩ (no_nil_of_cons hf hpf hl hne) _ _).mpr ⟨l, hl, rfl, by rw [h2]; rfl⟩
    · rw [alts_chain (hf.chain l hl s (by rw [h2]; exact hs))]
      exact List.mem_singleton.mpr rfl

theorem decomp (hf : Facts pg group F T L) {X : UNT (U × Nat)} {w' : List (Step (U × Nat))}
    (hd : Deriv F X w') :
    ∃ l ∈ L, l.sp = X ∧ ∃ rem, w' = l.steps' ++ rem ∧ run F (names l.pend) rem = some [] := by
  obtain ⟨l0, hl0, hsp0⟩ := (hf.starts X).mp hd.1
  by_cases hex : ∃ l ∈ L, l.sp = X ∧ l.n.steps = []
  · obtain ⟨l, hl, rfl, hnil⟩ := hex
    obtain ⟨h1, h2⟩ := path_nil hf hl hnil
    exact ⟨l, hl, rfl, w', by rw [h1]; rfl, by rw [h2]; exact hd.2⟩
  · have hall : ∀ l ∈ L, l.sp = X → l.n.steps ≠ [] := fun l hl hsp hnil => hex ⟨l, hl, hsp, hnil⟩
    obtain ⟨Q, a, w1, rfl, hQa, hrun⟩ := run_cons_complete F _ _ _ hd.2
    obtain ⟨l, hl, rfl, hhead⟩ := (hf.startRow X ⟨l0, hl0, hsp0⟩ hall Q a).mp hQa
    refine ⟨l, hl, rfl, ?_⟩
    rcases renPath_start (hf.path l hl) with ⟨h, _⟩ | ⟨P, v, w, r0, -, hst, hpend, -, h0⟩
    · exact absurd h (hall l hl rfl)
    · rw [hst] at hhead
      cases hhead
      rw [List.append_nil] at hrun
      -- the rest of the path is forced: every later step is the only rule of its left-hand side
      obtain ⟨rem, hr1, hr2⟩ := renPath_forced F w _ _ r0 w1 h0
        (fun s hs pa hpa => List.mem_singleton.mp (alts_chain (hf.chain l hl s (by rw [hst]; exact hs)) ▸ hpa))
        (by rw [names, zip_fresh_snd]; exact hrun)
      exact ⟨rem, by rw [hst, hr1]; rfl, by rw [hpend]; exact hr2⟩

theorem deriv_frag (hf : Facts pg group F T L) {X : UNT (U × Nat)} {w' : List (Step (U × Nat))} (hd : Deriv F X w') :
    ∃ l ∈ L, l.sp = X ∧ ∃ rem, run pg.g (srcs l.pend) rem = some [] ∧ w' = l.steps' ++ lift (names l.pend) rem := by
  obtain ⟨l, hl, hsp, rem', rfl, hrun⟩ := decomp hf hd
  obtain ⟨h1, h2⟩ := copy_sound hf rem' _ (cp_pend hf hl) hrun
  rw [names_er (pendOK_lay hf hl).2] at h1
  exact ⟨l, hl, hsp, rem'.map erStep, h1, congrArg _ h2⟩

theorem lift_pend (hf : Facts pg group F T L) {l : Lay U} (hl : l ∈ L) {rem : List (Step U)}
    (hr : run pg.g (srcs l.pend) rem = some []) :
    run F (names l.pend) (lift (names l.pend) rem) = some [] ∧
      (l.steps' ++ lift (names l.pend) rem).map erStep = l.n.steps ++ rem := by
  obtain ⟨c1, c2⟩ := copy_complete hf rem (names l.pend) (cp_pend hf hl)
    (by rw [names_er (pendOK_lay hf hl).2]; exact hr)
  exact ⟨c1, by rw [List.map_append, (pendOK_lay hf hl).1, c2]⟩

theorem frag_sound (hf : Facts pg group F T L) (hv : ∀ n ∈ group, Valid pg.g n)
    {X : UNT (U × Nat)} {w' : List (Step (U × Nat))} (hd : Deriv F X w') :
    Deriv pg.g (er X) (w'.map erStep) ∧ ∃ n ∈ group, Matches n (er X) (w'.map erStep) := by
  obtain ⟨l, hl, rfl, rem, hr, rfl⟩ := deriv_frag hf hd
  have hval := hv _ (hf.mem hl)
  rw [(lift_pend hf hl hr).2, hf.spEr l hl]
  rw [pend_config hf hl hval] at hr
  exact ⟨⟨hval.1, by rw [run_append, hval.2.2.2.1]; exact hr⟩, l.n, hf.mem hl, rfl, List.prefix_append _ _⟩

theorem frag_complete (hf : Facts pg group F T L) (hv : ∀ n ∈ group, Valid pg.g n) (hpf : PrefixFree group)
    {n : Node U} (hn : n ∈ group) {s : UNT U} {w : List (Step U)} (hd : Deriv pg.g s w) (hm : Matches n s w) :
    ∃ X w', Deriv F X w' ∧ er X = s ∧ w'.map erStep = w := by
  rw [← hf.lays] at hn
  obtain ⟨l, hl, rfl⟩ := List.mem_map.mp hn
  obtain ⟨rfl, rem, rfl⟩ := hm
  have hval := hv _ (hf.mem hl)
  have hr := hd.2
  rw [run_append, hval.2.2.2.1, ← pend_config hf hl hval] at hr
  obtain ⟨c1, c2⟩ := lift_pend hf hl hr
  exact ⟨l.sp, _, ⟨(hf.starts _).mpr ⟨l, hl, rfl⟩, by rw [run_append, run_path hf hpf hl]; exact c1⟩,
    hf.spEr l hl, c2⟩

theorem frag_inj (hf : Facts pg group F T L) (hpf : PrefixFree group)
    {X1 X2 : UNT (U × Nat)} {w1 w2 : List (Step (U × Nat))} (hd1 : Deriv F X1 w1) (hd2 : Deriv F X2 w2)
    (hX : er X1 = er X2) (hw : w1.map erStep = w2.map erStep) : X1 = X2 ∧ w1 = w2 := by
  obtain ⟨l1, hl1, rfl, rem1, hr1, rfl⟩ := deriv_frag hf hd1
  obtain ⟨l2, hl2, rfl, rem2, hr2, rfl⟩ := deriv_frag hf hd2
  rw [(lift_pend hf hl1 hr1).2, (lift_pend hf hl2 hr2).2] at hw
  rw [hf.spEr l1 hl1, hf.spEr l2 hl2] at hX
  -- the paths of the two nodes are prefixes of the same derivation
  have hll : l1 = l2 := by
    rcases List.prefix_or_prefix_of_prefix (List.prefix_append l1.n.steps rem1)
      (hw ▸ List.prefix_append l2.n.steps rem2) with h | h
    · exact lay_eq hf hpf hl1 hl2 hX h
    · exact (lay_eq hf hpf hl2 hl1 hX.symm h).symm
  subst hll
  cases List.append_cancel_left hw
  exact ⟨rfl, rfl⟩

end

end PS.Sp
