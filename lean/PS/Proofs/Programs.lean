/-
  `CFG.programs()` (cfg.py:37-53, model `PS.G.programs`) is correct whenever it succeeds:
  if it returns a number (not -1), every derivation from the start is finite and the number is
  the number of terms of the language — whatever the order in which the table is processed
  (the success of the fill certifies that the order was a valid one).
-/
import PS.Model.Cfg
import PS.Model.Prob
import PS.Proofs.Mass
namespace PS.G.Programs
open PS PS.G

section
variable {S : Type} [DecidableEq S] (G : TT S Unit) {nt : NT S Unit} {rs : AList Sym (List (Ty × S) × Unit)}
  (hl : AList.lookup nt G.rules = some rs)
include hl

theorem count_succ_eq (k : Nat) :
    count G (k + 1) nt = (rs.map (fun r => (r.2.1.map (fun a => count G k (argNT a))).foldl (· * ·) 1)).sum := by
  simp only [count, hl]; rfl

end

theorem bounded_le {S : Type} [DecidableEq S] (G : TT S Unit) (k k' : Nat) (nt : NT S Unit)
    (h : bounded G k nt = true) (hle : k ≤ k') : bounded G k' nt = true := by
  induction hle with
  | refl => exact h
  | step _ ih => exact bounded_mono G _ nt ih

theorem count_eq_of_bounded {S : Type} [DecidableEq S] (G : TT S Unit) (k k' : Nat)
    (nt : NT S Unit) (h : bounded G k nt = true) (h' : bounded G k' nt = true) :
    count G k nt = count G k' nt := by
  rw [count_eq_prods, count_eq_prods]
  exact Prods.count_eq_of_bounded _ nt (bounded_prods G k nt h) (bounded_prods G k' nt h')

theorem exists_uniform {α : Type} (p : Nat → α → Prop) (mono : ∀ k k' x, k ≤ k' → p k x → p k' x)
    (l : List α) (h : ∀ x ∈ l, ∃ k, p k x) : ∃ K, ∀ x ∈ l, p K x := by
  induction l with
  | nil => exact ⟨0, fun _ hx => nomatch hx⟩
  | cons x xs ih =>
    obtain ⟨K, hK⟩ := ih (fun a ha => h a (List.mem_cons_of_mem _ ha))
    obtain ⟨k, hk⟩ := h x List.mem_cons_self
    exact ⟨max K k, List.forall_mem_cons.mpr ⟨mono _ _ x (Nat.le_max_right ..) hk,
      fun a ha => mono _ _ a (Nat.le_max_left ..) (hK a ha)⟩⟩

theorem exists_uniform_rules (G : CFG) (rs : AList Sym (List (Ty × CFGState) × Unit))
    (h : ∀ r ∈ rs, ∀ a ∈ r.2.1, ∃ k, bounded G k (toNT a) = true) :
    ∃ K, ∀ r ∈ rs, ∀ a ∈ r.2.1, bounded G K (toNT a) = true :=
  exists_uniform (fun K r => ∀ a ∈ r.2.1, bounded G K (toNT a) = true)
    (fun _ _ _ hle hr a ha => bounded_le G _ _ _ (hr a ha) hle) rs
    fun r hr => exists_uniform (fun K a => bounded G K (toNT a) = true)
      (fun _ _ _ hle ha => bounded_le G _ _ _ ha hle) r.2.1 (h r hr)

/-- the invariant of the fill: every entry of `count` is the number of terms of its
    non-terminal, all of whose derivations are finite -/
def Inv (G : CFG) (cnt : AList (Ty × CFGState) Nat) : Prop :=
  ∀ a c, AList.lookup a cnt = some c →
    ∃ k, bounded G k (toNT a) = true ∧ c = count G k (toNT a)

theorem inv_nil (G : CFG) : Inv G [] := by
  intro a c h; simp at h

theorem inv_step (G : CFG) (nt : CNT) (rs : AList Sym (List (Ty × CFGState) × Unit))
    (cnt : AList (Ty × CFGState) Nat) (hl : AList.lookup nt G.rules = some rs)
    (hinv : Inv G cnt)
    (hall : (rs.map (fun r => (r.2.1.map (fun a => AList.lookup a cnt)))).all
              (fun l => l.all Option.isSome) = true) :
    Inv G (AList.insert (nt.1, nt.2.1)
      (((rs.map (fun r => (r.2.1.map (fun a => AList.lookup a cnt)))).map
          (fun l => (l.map (fun o => o.getD 0)).foldl (· * ·) 1)).sum) cnt) := by
  -- every argument has an entry, hence is bounded with the right count
  have hsome : ∀ r ∈ rs, ∀ a ∈ r.2.1, ∃ k, bounded G k (toNT a) = true ∧
      (AList.lookup a cnt).getD 0 = count G k (toNT a) := by
    intro r hr a ha
    simp only [List.all_eq_true, List.mem_map, forall_exists_index, and_imp,
      forall_apply_eq_imp_iff₂] at hall
    obtain ⟨c, hc⟩ := Option.isSome_iff_exists.mp (hall r hr a ha)
    rw [hc]
    exact hinv a c hc
  obtain ⟨K, hK⟩ := exists_uniform_rules G rs fun r hr a ha => (hsome r hr a ha).imp fun _ h => h.1
  refine AList.forall_insert (fun a c _ => hinv a c) ⟨K + 1, bounded_succ.mpr ⟨_, hl, hK⟩, ?_⟩
  show _ = count G (K + 1) nt
  -- `count_succ_eq` speaks of `argNT`, the goal of `toNT`: the same function at `S := CFGState`, by unfolding
  rw [List.map_map, count_succ_eq G hl]
  refine congrArg List.sum (List.map_congr_left fun r hr => congrArg (List.foldl _ 1) ?_)
  rw [List.map_map]
  refine List.map_congr_left fun a ha => ?_
  obtain ⟨k, hk, hck⟩ := hsome r hr a ha
  exact hck.trans (count_eq_of_bounded G k K (toNT a) hk (hK r hr a ha))

theorem inv_fill (G : CFG) (hk : (AList.keys G.rules).Nodup) (tbl : Table)
    (cnt cnt' : AList (Ty × CFGState) Nat) (hmem : ∀ e ∈ tbl, e ∈ G.rules)
    (hinv : Inv G cnt) (h : programsFill tbl cnt = some cnt') : Inv G cnt' := by
  induction tbl generalizing cnt with
  | nil => cases h; exact hinv
  | cons e rest ih =>
    obtain ⟨nt, rs⟩ := e
    obtain ⟨he, hrest⟩ := List.forall_mem_cons.mp hmem
    rw [programsFill] at h
    split at h
    · rename_i hall
      exact ih _ hrest (inv_step G nt rs cnt (AList.lookup_of_mem_nodup hk he) hinv hall) h
    · cases h

theorem mem_insertByDepth (x y : CNT × AList Sym (List (Ty × CFGState) × Unit))
    (l : List (CNT × AList Sym (List (Ty × CFGState) × Unit))) :
    y ∈ insertByDepth x l ↔ y = x ∨ y ∈ l := by
  fun_induction insertByDepth x l with
  | case1 => simp
  | case2 z zs h => exact List.mem_cons
  | case3 z zs h ih => rw [List.mem_cons, ih, List.mem_cons, or_left_comm]

theorem mem_sortByDepthDesc (tbl : Table) (y : CNT × AList Sym (List (Ty × CFGState) × Unit)) :
    y ∈ sortByDepthDesc tbl ↔ y ∈ tbl := by
  induction tbl with
  | nil => rfl
  | cons x xs ih =>
    have : sortByDepthDesc (x :: xs) = insertByDepth x (sortByDepthDesc xs) := rfl
    rw [this, mem_insertByDepth, ih, List.mem_cons]

/-- `count G k` is `(lang G k start).length` (`count_eq_length`) -/
theorem programs_eq_count (G : CFG) (hk : (AList.keys G.rules).Nodup) (n : Nat)
    (h : programs G = some n) :
    ∃ k, bounded G k G.start = true ∧ n = count G k G.start := by
  unfold programs at h
  split at h
  · cases h
  · rename_i cnt hfill
    exact inv_fill G hk (sortByDepthDesc G.rules) [] cnt
      (fun e he => (mem_sortByDepthDesc G.rules e).mp he) (inv_nil G) hfill _ n h

end PS.G.Programs
