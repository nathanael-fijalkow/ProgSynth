/- C10, restart part: what `_restart_` computes (model `PS.C10.RG.restartTags`), as a weight calculus on
   two-level association lists: scaling, adding a score along a derivation, adding the uniform prior,
   normalising; each of these keeps the keys of the rows (`RowsOf`). -/
import PS.Model.SolverRestart
import PS.Proofs.ProbDet
set_option linter.unusedSimpArgs false
set_option linter.unusedSectionVars false
namespace PS.C10.RG
open PS PS.G

variable {S : Type} [DecidableEq S]

/-- every rule of `G` has a tag: all `_restart_` needs in order not to raise (`KeyError` at `+=`).  `RowsOf` goes the
    other way, each row of the table has exactly the keys of the grammar's row; only the statements about row sums
    (`rowSum_eq_weights`) need it. -/
def Covers (G : TT S Unit) (tags : Tags S Unit) : Prop :=
  ∀ nt P, (G.rule? nt P).isSome = true → (tagOf tags nt P).isSome = true

def RowsOf (G : TT S Unit) (t : Tags S Unit) : Prop :=
  ∀ nt row, AList.lookup nt t = some row →
    ∃ rs, AList.lookup nt G.rules = some rs ∧ AList.keys row = AList.keys rs

theorem rowsOf_map {β : Type} (G : TT S Unit) (d : AList (NT S Unit) β) (F : NT S Unit → β → AList Sym Rat)
    (h : ∀ nt b, AList.lookup nt d = some b →
      ∃ rs, AList.lookup nt G.rules = some rs ∧ AList.keys (F nt b) = AList.keys rs) :
    RowsOf G (d.map (fun e => (e.1, F e.1 e.2))) := by
  intro nt row hl
  rw [AList.lookup_map_val F] at hl
  cases hr : AList.lookup nt d with
  | none => rw [hr] at hl; cases hl
  | some b => rw [hr] at hl; cases hl; exact h nt b hr

theorem rowsOf_uniform (G : TT S Unit) : RowsOf G (uniform G) :=
  rowsOf_map G G.rules (fun _ (rs : AList Sym (List (Ty × S) × Unit)) => rs.map fun r => (r.1, 1 / (rs.length : Rat)))
    fun _ rs hl => ⟨rs, hl, AList.keys_map_val (fun _ _ => 1 / (rs.length : Rat)) rs⟩

theorem RowsOf.mapRows {G : TT S Unit} {t : Tags S Unit} (h : RowsOf G t)
    (F : NT S Unit → AList Sym Rat → AList Sym Rat) (hF : ∀ nt row, AList.keys (F nt row) = AList.keys row) :
    RowsOf G (t.map (fun e => (e.1, F e.1 e.2))) :=
  rowsOf_map G t F fun nt row hl => let ⟨rs, h1, h2⟩ := h nt row hl; ⟨rs, h1, (hF nt row).trans h2⟩

theorem tagOf_scale (c : Rat) (tags : Tags S Unit) (nt : NT S Unit) (P : Sym) :
    tagOf (scaleTags c tags) nt P = (tagOf tags nt P).map (fun w => c * w) := by
  rw [scaleTags, tagOf_map₂ tags (fun _ _ _ w => c * w), tagOf_eq_bind]
  cases AList.lookup nt tags <;> rfl

theorem weight_scale (c : Rat) (tags : Tags S Unit) (nt : NT S Unit) (P : Sym) :
    weight (scaleTags c tags) nt P = c * weight tags nt P := by
  unfold weight
  rw [tagOf_scale]
  cases tagOf tags nt P with
  | none => simp [Rat.mul_zero]
  | some w => rfl

/-- one `pcfg.probabilities[S][P] += score` on a rule that has a tag -/
theorem addScore_some (G : TT S Unit) (sc : Rat) (tags : Tags S Unit) (nt : NT S Unit) (P : Sym)
    (x : List (Ty × S) × Unit) (h : (tagOf tags nt P).isSome = true) :
    ∃ tags', addScore sc (some tags) nt P x = some tags' ∧ (RowsOf G tags → RowsOf G tags') ∧
      ∀ nt' P', tagOf tags' nt' P' =
        if nt' = nt ∧ P' = P then (tagOf tags nt P).map (· + sc) else tagOf tags nt' P' := by
  obtain ⟨w, ht⟩ := Option.isSome_iff_exists.mp h
  obtain ⟨row, hr, hw⟩ := AList.lookup₂_eq_some.mp ((tagOf_eq_lookup₂ tags nt P).symm.trans ht)
  refine ⟨AList.insert nt (AList.insert P (w + sc) row) tags, by simp [addScore, hr, hw], ?_, ?_⟩
  · intro hrows nt' row' hl
    rw [AList.lookup_insert] at hl
    by_cases hn : nt' = nt
    · subst hn
      simp only [if_true, Option.some.injEq] at hl
      obtain ⟨rs, h1, h2⟩ := hrows nt' row hr
      exact ⟨rs, h1, by rw [← hl, AList.keys_insert_of_lookup_some _ hw]; exact h2⟩
    · simp only [hn, if_false] at hl
      exact hrows nt' row' hl
  intro nt' P'
  unfold tagOf
  rw [AList.lookup_insert]
  by_cases hn : nt' = nt
  · subst hn
    simp only [if_true, true_and, hr]
    rw [AList.lookup_insert]
    by_cases hp : P' = P
    · subst hp; simp [hw]
    · simp [hp]
  · simp [hn]

theorem uses_cons (x : NT S Unit × Sym) (d : List (NT S Unit × Sym)) (nt : NT S Unit) (P : Sym) :
    uses (x :: d) nt P = uses d nt P + if x = (nt, P) then 1 else 0 := by
  simp [uses, List.countP_cons]

/-- the fold of `reduce_derivations` over a derivation all of whose entries have a tag -/
theorem fold_addScore (G : TT S Unit) (sc : Rat) (d : List (NT S Unit × Sym)) :
    ∀ (tags : Tags S Unit), (∀ x ∈ d, (G.rule? x.1 x.2).isSome = true) → Covers G tags →
    ∃ tags', d.foldl (stepDer G (addScore sc)) (some tags) = some tags' ∧ (RowsOf G tags → RowsOf G tags') ∧
      (∀ nt P, (tagOf tags' nt P).isSome = (tagOf tags nt P).isSome) ∧
      (∀ nt P, (tagOf tags nt P).isSome = true → weight tags' nt P = weight tags nt P + sc * (uses d nt P : Rat)) := by
  induction d with
  | nil =>
    intro tags _ _
    exact ⟨tags, rfl, id, fun _ _ => rfl, fun nt P _ => by simp [uses, Rat.mul_zero, Rat.add_zero]⟩
  | cons x rest ih =>
    intro tags hd hc
    have hx := hd x (by simp)
    obtain ⟨r, hr⟩ := Option.isSome_iff_exists.mp hx
    obtain ⟨t1, h1, hr1, h2⟩ := addScore_some G sc tags x.1 x.2 r (hc x.1 x.2 hx)
    have hsome1 : ∀ nt P, (tagOf t1 nt P).isSome = (tagOf tags nt P).isSome := by
      intro nt P
      rw [h2]
      by_cases hq : nt = x.1 ∧ P = x.2
      · obtain ⟨rfl, rfl⟩ := hq; simp
      · simp [hq]
    have hc1 : Covers G t1 := fun nt P hh => by rw [hsome1]; exact hc nt P hh
    obtain ⟨t2, g1, gr, g2, g3⟩ := ih t1 (fun y hy => hd y (by simp [hy])) hc1
    refine ⟨t2, ?_, gr ∘ hr1, fun nt P => by rw [g2, hsome1], ?_⟩
    · simp only [List.foldl_cons, stepDer, hr]
      rw [h1]; exact g1
    · intro nt P hs
      rw [g3 nt P (by rw [hsome1]; exact hs), uses_cons]
      unfold weight
      rw [h2]
      by_cases hq : x = (nt, P)
      · subst hq
        obtain ⟨w, hw⟩ := Option.isSome_iff_exists.mp hs
        rw [if_pos ⟨rfl, rfl⟩, if_pos rfl, hw, Rat.natCast_add, Rat.mul_add, Rat.add_comm (sc * _), ← Rat.add_assoc]
        exact congrArg (w + · + _) (Rat.mul_one sc).symm
      · rw [if_neg fun h => hq (Prod.ext h.1.symm h.2.symm), if_neg hq]; rfl

/-- after `for program, score in _data: pcfg.reduce_derivations(…)` every tagged rule holds its initial weight
    plus its accumulated score -/
theorem accumulate_spec (G : TT S Unit) (data : List (Prog × Rat)) :
    ∀ (tags : Tags S Unit), Covers G tags → (∀ d ∈ data, gen G d.1 G.start = true) →
    ∃ acc, accumulate G tags data = some acc ∧ (RowsOf G tags → RowsOf G acc) ∧
      (∀ nt P, (tagOf acc nt P).isSome = (tagOf tags nt P).isSome) ∧
      (∀ nt P, (tagOf tags nt P).isSome = true → weight acc nt P = weight tags nt P + accScore G data nt P) := by
  induction data with
  | nil =>
    intro tags _ _
    exact ⟨tags, rfl, id, fun _ _ => rfl, fun nt P _ => by simp [accScore, Rat.add_zero]⟩
  | cons d rest ih =>
    intro tags hc hd
    obtain ⟨p, sc⟩ := d
    have hg := hd (p, sc) (by simp)
    obtain ⟨t1, h1, hr1, h2, h3⟩ := fold_addScore G sc (derivation G p G.start) tags
      (fun x hx => derivation_rule G p G.start x hx) hc
    have hc1 : Covers G t1 := fun nt P hh => by rw [h2]; exact hc nt P hh
    obtain ⟨acc, g1, gr, g2, g3⟩ := ih t1 hc1 (fun e he => hd e (by simp [he]))
    refine ⟨acc, ?_, gr ∘ hr1, fun nt P => by rw [g2, h2], ?_⟩
    · simp only [accumulate]
      rw [reduceDerivations_derivation G (addScore sc) p (some tags) hg, h1]
      exact g1
    · intro nt P hs
      rw [g3 nt P (by rw [h2]; exact hs), h3 nt P hs]
      simp only [accScore, List.map_cons, List.sum_cons]
      rw [Rat.add_assoc]

theorem tagOf_addTags (a b : Tags S Unit) (nt : NT S Unit) (P : Sym) :
    tagOf (addTags a b) nt P = (tagOf a nt P).map (· + weight b nt P) := by
  rw [addTags, tagOf_map₂ a (fun nt _ P w => w + weight b nt P), tagOf_eq_bind]
  cases AList.lookup nt a <;> rfl

theorem isSome_tagOf_normalise (t : Tags S Unit) (nt : NT S Unit) (P : Sym) :
    (tagOf (normalise t) nt P).isSome = (tagOf t nt P).isSome := by
  rw [tagOf_normalise, tagOf_eq_bind]
  cases AList.lookup nt t with
  | none => rfl
  | some row => exact Option.isSome_map

theorem covers_uniform (G : TT S Unit) : Covers G (uniform G) := by
  intro nt P h
  rw [uniform, tagOf_map₂ G.rules (fun _ rs _ _ => 1 / (rs.length : Rat))]
  obtain ⟨val, h⟩ := Option.isSome_iff_exists.mp h
  obtain ⟨rs, hl, hP⟩ := TT.rule?_eq_some.mp h
  simp [hl, hP]

/-- `_restart_` returns `normalise u` for a table `u` with the same tagged rules whose weights are
    *accumulated score + prior × uniform weight* -/
theorem restartTags_spec (G : TT S Unit) (tags0 : Tags S Unit) (data : List (Prog × Rat)) (prior : Rat)
    (hcov : Covers G tags0) (hdata : ∀ d ∈ data, gen G d.1 G.start = true) :
    ∃ u, restartTags G tags0 data prior = some (normalise u) ∧ (RowsOf G tags0 → RowsOf G u) ∧
      (∀ nt P, (tagOf u nt P).isSome = (tagOf tags0 nt P).isSome) ∧
      (∀ nt P, (tagOf tags0 nt P).isSome = true →
        weight u nt P = accScore G data nt P + (if 0 < prior then prior * weight (uniform G) nt P else 0)) := by
  have hs0 : ∀ nt P, (tagOf (scaleTags 0 tags0) nt P).isSome = (tagOf tags0 nt P).isSome := by
    intro nt P; rw [tagOf_scale]; cases tagOf tags0 nt P <;> rfl
  have hc0 : Covers G (scaleTags 0 tags0) := fun nt P h => by rw [hs0]; exact hcov nt P h
  obtain ⟨acc, h1, hr, h2, h3⟩ := accumulate_spec G data (scaleTags 0 tags0) hc0 hdata
  have hracc : RowsOf G tags0 → RowsOf G acc := fun h =>
    hr (h.mapRows (fun _ (row : AList Sym Rat) => row.map fun r => (r.1, 0 * r.2))
      fun _ row => AList.keys_map_val (fun _ w => 0 * w) row)
  have hw : ∀ nt P, (tagOf tags0 nt P).isSome = true → weight acc nt P = accScore G data nt P := by
    intro nt P hs
    rw [h3 nt P (by rw [hs0]; exact hs), weight_scale, Rat.zero_mul, Rat.zero_add]
  unfold restartTags
  rw [h1]
  by_cases hp : 0 < prior
  · refine ⟨addTags acc (scaleTags prior (uniform G)), by simp [hp], fun h => (hracc h).mapRows
      (fun k (row : AList Sym Rat) => row.map fun r => (r.1, r.2 + weight (scaleTags prior (uniform G)) k r.1))
      fun k row => AList.keys_map_val (fun q w => w + weight (scaleTags prior (uniform G)) k q) row, ?_, ?_⟩
    · intro nt P
      rw [tagOf_addTags, ← hs0, ← h2]
      cases tagOf acc nt P <;> rfl
    · intro nt P hs
      have hsa : (tagOf acc nt P).isSome = true := by rw [h2, hs0]; exact hs
      obtain ⟨w, hwv⟩ := Option.isSome_iff_exists.mp hsa
      have : weight (addTags acc (scaleTags prior (uniform G))) nt P =
          weight acc nt P + weight (scaleTags prior (uniform G)) nt P := by
        unfold weight
        rw [tagOf_addTags, hwv]
        rfl
      rw [this, hw nt P hs, weight_scale]
      simp [hp]
  · refine ⟨acc, by simp [hp], hracc, fun nt P => by rw [h2, hs0], ?_⟩
    intro nt P hs
    rw [hw nt P hs]
    simp [hp, Rat.add_zero]

theorem normalise_weights (u : Tags S Unit) (nt : NT S Unit) (row : AList Sym Rat)
    (h : AList.lookup nt u = some row) :
    (∀ P, weight (normalise u) nt P = weight u nt P / rowSum row) ∧
    AList.lookup nt (normalise u) = some (normaliseRow row) ∧
    (rowSum row ≠ 0 → rowSum (normaliseRow row) = 1) := by
  refine ⟨?_, ?_, rowSum_normaliseRow row⟩
  · intro P
    rw [weight, weight, tagOf_normalise, tagOf_eq_bind, h]
    simp only [Option.bind_some]
    cases AList.lookup P row with
    | none => simp [Rat.div_def, Rat.zero_mul]
    | some w => rfl
  · unfold normalise
    rw [AList.lookup_map_val (fun _ (r : AList Sym Rat) => normaliseRow r), h]
    rfl

end PS.C10.RG
