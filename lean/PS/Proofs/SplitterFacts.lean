/- C08, fragment grammar: the tables `pcfgFrom` builds for a prefix-free group have the shape `Facts` and the
   weights `Weights`; the refilling loop `fillLoop` changes no start weight and no row of a numbered copy. -/
import PS.Proofs.SplitterStep
namespace PS.Sp
open PS PS.G

variable {U : Type} [DecidableEq U]

/-- `done` are the nodes added so far -/
theorem go_ind {pg : PUG U} {I : FragSt U → List (Node U) → Prop}
    (step : ∀ {st st1 : FragSt U} {done : List (Node U)} {n : Node U},
      I st done → addNode pg st n = some st1 → I st1 (done ++ [n])) :
    ∀ (group : List (Node U)) {st st' : FragSt U} {done : List (Node U)}, I st done →
      pcfgFrom.go pg st group = some st' → I st' (done ++ group)
  | [], _, _, done, hI, h => by
    cases h
    rw [List.append_nil]
    exact hI
  | n :: rest, st, _, done, hI, h => by
    rw [pcfgFrom.go] at h
    cases ha : addNode pg st n with
    | none => rw [ha] at h; cases h
    | some st1 =>
      rw [ha] at h
      rw [← List.singleton_append, ← List.append_assoc]
      exact go_ind step rest (step hI ha) h

theorem go_inv {pg : PUG U} {group : List (Node U)} {st' : FragSt U} (hpf : PrefixFree group)
    (h : pcfgFrom.go pg ⟨0, [], [], [], [], []⟩ group = some st') :
    ∃ L, L.map (·.n) = group ∧ GoInv pg st' L := by
  refine go_ind (I := fun st done => PrefixFree done → ∃ L, L.map (·.n) = done ∧ GoInv pg st L) ?_ group
    (done := []) (fun _ => ⟨[], rfl, goInv_init pg⟩) h hpf
  intro st st1 done n ih ha hpw
  obtain ⟨hd, -, hn⟩ := List.pairwise_append.mp hpw
  obtain ⟨L, rfl, hi⟩ := ih hd
  obtain ⟨lay, hlay, hi1⟩ := addNode_inv hi
    (fun l hl hs => hn l.n (List.mem_map_of_mem hl) n (List.mem_singleton.mpr rfl) hs) ha
  exact ⟨L ++ [lay], by rw [List.map_append, List.map_singleton, hlay], hi1⟩

/-- invariant of `while to_fill`: the free copies that exist are copies, and the non-terminals on
    the right-hand sides of the copies in `P0` and of the free copies are copied or still to fill -/
structure FillInv (pg : PUG U) (P0 : UNT (U × Nat) → Prop) (st : FragSt U) : Prop where
  fr : ∀ S, AList.lookup (free S) st.rules = none ∨ IsCopy pg st.rules st.probs (free S)
  next : ∀ X, (idx X = 0 ∨ P0 X) → IsCopy pg st.rules st.probs X →
    ∀ S' ∈ rhsSyms pg (er X), S' ∈ st.toFill ∨ IsCopy pg st.rules st.probs (free S')

theorem fillLoop_inv (pg : PUG U) (I : FragSt U → Prop)
    (hpop : ∀ st S rest, I st → st.toFill = rest ++ [S] → AList.contains (free S) st.rules = true →
      I { st with toFill := rest })
    (hcopy : ∀ st S rest, I st → st.toFill = rest ++ [S] → AList.lookup (free S) st.rules = none →
      I (copyRules pg { st with toFill := rest } S (free S)))
    (fuel : Nat) (st : FragSt U) (h : I st) : I (fillLoop pg fuel st) := by
  fun_induction fillLoop pg fuel st with
  | case1 => exact h
  | case2 => exact h
  | case3 f st S restRev hrev st1 hc ih =>
    exact ih (hpop st S restRev.reverse h (by simpa using congrArg List.reverse hrev) hc)
  | case4 f st S restRev hrev st1 hc ih =>
    refine ih (hcopy st S restRev.reverse h (by simpa using congrArg List.reverse hrev) ?_)
    cases hl : AList.lookup (free S) st.rules with
    | none => rfl
    | some v => exact absurd (show AList.contains (free S) st1.rules = true by simp [st1, AList.contains, hl]) hc

theorem fillLoop_frame (pg : PUG U) (fuel : Nat) (st : FragSt U) :
    (∀ Y, idx Y ≠ 0 → rows (fillLoop pg fuel st) Y = rows st Y) ∧
    (fillLoop pg fuel st).startProbs = st.startProbs :=
  fillLoop_inv pg (fun s => (∀ Y, idx Y ≠ 0 → rows s Y = rows st Y) ∧ s.startProbs = st.startProbs)
    (fun _ _ _ h _ _ => h)
    (fun _ S _ h _ _ => ⟨fun Y hY =>
      (rows_copyRules ..).trans ((if_neg (fun he : Y = free S => hY (he ▸ rfl))).trans (h.1 Y hY)), h.2⟩)
    fuel st ⟨fun _ _ => rfl, rfl⟩

theorem fillInv_fillLoop (pg : PUG U) (P0 : UNT (U × Nat) → Prop) (fuel : Nat) (st : FragSt U)
    (h : FillInv pg P0 st) : FillInv pg P0 (fillLoop pg fuel st) := by
  refine fillLoop_inv pg (FillInv pg P0) ?_ ?_ fuel st h
  · intro st S rest hi htf hc
    have hS : IsCopy pg st.rules st.probs (free S) :=
      (hi.fr S).resolve_left (fun h => by simp [AList.contains, h] at hc)
    refine ⟨hi.fr, fun X hX hXc S' hS' => ?_⟩
    rcases hi.next X hX hXc S' hS' with h | h
    · rw [htf] at h
      rcases List.mem_append.mp h with h | h
      · exact Or.inl h
      · exact Or.inr (List.eq_of_mem_singleton h ▸ hS)
    · exact Or.inr h
  · intro st S rest hi htf hnone
    -- copies stay copies, and `free S` becomes one
    have hother : ∀ X, X ≠ free S → rows (copyRules pg { st with toFill := rest } S (free S)) X = rows st X :=
      fun X hne => (rows_copyRules ..).trans (if_neg hne)
    have hne : ∀ X, IsCopy pg st.rules st.probs X → X ≠ free S := fun X hX he => by
      rw [he] at hX; rw [hX.1] at hnone; cases hnone
    have hpres : ∀ X, IsCopy pg st.rules st.probs X →
        IsCopy pg (copyRules pg { st with toFill := rest } S (free S)).rules
          (copyRules pg { st with toFill := rest } S (free S)).probs X :=
      fun X hX => isCopy_rows.mpr ((hother X (hne X hX)).trans (isCopy_rows.mp hX))
    have hnew : IsCopy pg (copyRules pg { st with toFill := rest } S (free S)).rules
        (copyRules pg { st with toFill := rest } S (free S)).probs (free S) :=
      isCopy_rows.mpr ((rows_copyRules ..).trans (if_pos rfl))
    refine ⟨fun S2 => ?_, fun X hX hXc S' hS' => ?_⟩
    · by_cases he : free S2 = free S
      · exact Or.inr (he ▸ hnew)
      · exact (hi.fr S2).imp (fun h => (congrArg Prod.fst (hother _ he)).trans h) (hpres _)
    · by_cases he : X = free S
      · subst he
        exact Or.inl (List.mem_append.mpr (Or.inr hS'))
      · rcases hi.next X hX (isCopy_rows.mpr ((hother X he).symm.trans (isCopy_rows.mp hXc))) S' hS' with h | h
        · rw [htf] at h
          rcases List.mem_append.mp h with h | h
          · exact Or.inl (List.mem_append_left _ h)
          · exact Or.inr (List.eq_of_mem_singleton h ▸ hnew)
        · exact Or.inr (hpres _ h)

theorem mem_alts_lookup {G : UG U} {S : UNT U} {Q : Sym} {a : List (UNT U)}
    (hnd : (AList.keys ((AList.lookup S G.rules).getD [])).Nodup) :
    (Q, a) ∈ alts G S ↔ a ∈ (AList.lookup Q ((AList.lookup S G.rules).getD [])).getD [] := by
  rw [mem_alts]
  generalize (AList.lookup S G.rules).getD [] = rs at hnd ⊢
  constructor
  · rintro ⟨r, hr, rfl, ha⟩
    rw [AList.lookup_of_mem_nodup hnd hr]
    exact ha
  · intro h
    cases hq : AList.lookup Q rs with
    | none => rw [hq] at h; cases h
    | some as => rw [hq] at h; exact ⟨(Q, as), AList.lookup_some_mem hq, rfl, h⟩

/-- the clause `Facts.startRow`, for a rule table whose row of `X` is `rR` -/
theorem RowOK.alts {rR rP} {L : List (Lay U)} {X : UNT (U × Nat)} (h : RowOK rR rP L X) {F : UG (U × Nat)}
    (hF : (AList.lookup X F.rules).getD [] = rR) (Q : Sym) (a : List (UNT (U × Nat))) :
    (Q, a) ∈ alts F X ↔ ∃ l ∈ L, l.sp = X ∧ l.steps'.head? = some (X, Q, a) := by
  rw [mem_alts_lookup (hF ▸ h.nd), hF]
  exact h.mem Q a

def fragOf (pg : PUG U) (st : FragSt U) : PUG (U × Nat) :=
  { g := { starts := AList.keys st.startProbs, rules := st.rules,
           someStart := (AList.keys st.startProbs).headD (Ty.unknown, (pg.g.someStart.2, 0)) },
    tags := normaliseTags st.probs, startTags := normaliseStarts st.startProbs }

/-- the state of `__pcfg_from__` before the grammar is assembled -/
def fragState (pg : PUG U) (group : List (Node U)) (fuel : Nat) : Option (FragSt U) :=
  (pcfgFrom.go pg ⟨0, [], [], [], [], []⟩ group).map (fillLoop pg fuel)

theorem pcfgFrom_eq (pg : PUG U) (group : List (Node U)) (fuel : Nat) :
    pcfgFrom pg group fuel = (fragState pg group fuel).map (fragOf pg) := by
  unfold pcfgFrom fragState
  cases pcfgFrom.go pg ⟨0, [], [], [], [], []⟩ group <;> rfl

/-- the weights in the final tables: the steps of a path after the first have weight 1, the row of the
    start copy of a node with a path is as `RowOK` says, and the start copies weigh what their nodes weigh -/
structure Weights (st : FragSt U) (L : List (Lay U)) : Prop where
  chain : ∀ l ∈ L, ∀ s ∈ l.steps'.tail, AList.lookup s.1 st.probs = some [(s.2.1, [(s.2.2, 1)])]
  startT : ∀ l ∈ L, l.n.steps ≠ [] → RowOK ((rows st l.sp).1.getD []) ((rows st l.sp).2.getD []) L l.sp
  spVal : ∀ l ∈ L, AList.lookup l.sp st.startProbs = some (spMass L l.sp)
  spTot : (st.startProbs.map (·.2)).sum = (L.map (·.n.prob)).sum
  spNil : ∀ l ∈ L, l.n.steps = [] → spMass L l.sp = l.n.prob

theorem facts_of_pcfgFrom {pg : PUG U} {group : List (Node U)} {fuel : Nat} {st : FragSt U}
    (hpf : PrefixFree group) (h : fragState pg group fuel = some st) (hfuel : st.toFill = []) :
    ∃ L, Facts pg group (fragOf pg st).g st.probs L ∧ Weights st L := by
  obtain ⟨stG, hg, rfl⟩ := Option.map_eq_some_iff.mp h
  obtain ⟨L, hL, hi⟩ := go_inv hpf hg
  have hok : ∀ l ∈ L, ∀ e ∈ l.pend, er e.2 = e.1 := fun l hl => (renPath_er l.n.steps l.lo [(l.n.start, l.sp)] _
    (fun _ he => List.eq_of_mem_singleton he ▸ hi.spEr l hl) (hi.path l hl)).2
  have hFill0 : FillInv pg (fun X => ∃ l ∈ L, ∃ e ∈ l.pend, e.2 = X) stG := by
    refine ⟨fun S => Or.inl (congrArg Prod.fst (hi.keys (free S) (Or.inl rfl))), ?_⟩
    rintro X (hX | ⟨l, hl, e, he, rfl⟩) hXc S' hS'
    · cases (congrArg Prod.fst (hi.keys X (Or.inl hX))).symm.trans hXc.1
    · exact Or.inl ((hi.pendC l hl e he).2 S' (hok l hl e he ▸ hS'))
  have r1 := fillInv_fillLoop pg _ fuel stG hFill0
  obtain ⟨r2, r3⟩ := fillLoop_frame pg fuel stG
  have hposSp : ∀ l ∈ L, idx l.sp ≠ 0 := fun l hl => Nat.ne_of_gt (hi.spPos l hl)
  have hchain := fun l hl s hs =>
    (r2 s.1 (Nat.ne_zero_of_lt (lay_tail_idx (hi.path l hl) (hi.spLo l hl) s hs).1)).trans (hi.chain l hl s hs)
  have hw : Weights (fillLoop pg fuel stG) L :=
    ⟨fun l hl s hs => congrArg Prod.snd (hchain l hl s hs),
      fun l hl hne => by rw [r2 l.sp (hposSp l hl)]; exact hi.startT l hl hne,
      r3.symm ▸ hi.spVal, r3.symm ▸ hi.spTot, hi.spNil⟩
  refine ⟨L, ?_, hw⟩
  refine ⟨hL, hi.path, hi.spEr, fun l1 h1 l2 h2 hs => ?_, fun X => ?_, fun l hl s hs => ?_,
    fun l hl e he => ?_, fun X hX hXc S' hS' => ?_, ?_⟩
  · exact Option.some.inj (((hi.nsIff _ _).mpr ⟨l1, h1, hs, rfl⟩).symm.trans ((hi.nsIff _ _).mpr ⟨l2, h2, rfl, rfl⟩))
  · show X ∈ AList.keys (fillLoop pg fuel stG).startProbs ↔ _
    rw [r3, ← AList.lookup_isSome_iff_mem_keys]
    constructor
    · intro hs
      refine Classical.byContradiction (fun hno => ?_)
      rw [hi.spNone X (fun l hl he => hno ⟨l, hl, he⟩)] at hs
      cases hs
    · rintro ⟨l, hl, rfl⟩
      rw [hi.spVal l hl]; rfl
  · exact congrArg Prod.fst (hchain l hl s hs)
  · have hidx : idx e.2 ≠ 0 :=
      ((hi.own hl).lhs e.2
        (List.mem_append_right _ (List.mem_map_of_mem he))).elim (fun h => h ▸ hposSp l hl) (fun h => Nat.ne_zero_of_lt h.1)
    exact isCopy_rows.mpr ((r2 e.2 hidx).trans (hok l hl e he ▸ (hi.pendC l hl e he).1))
  · exact (r1.next X hX hXc S' hS').resolve_left (fun h => by rw [hfuel] at h; cases h)
  · rintro X ⟨l0, hl0, rfl⟩ hall Q a
    exact (hw.startT l0 hl0 (hall l0 hl0 rfl)).alts rfl Q a

/-- the refilling loop ran to completion with this fuel (`while to_fill` exited) -/
def fillDone (pg : PUG U) (group : List (Node U)) (fuel : Nat) : Bool :=
  match fragState pg group fuel with
  | some st => st.toFill.isEmpty
  | none => false

theorem pcfgFrom_some {pg : PUG U} {group : List (Node U)} {fuel : Nat} {frag : PUG (U × Nat)}
    (h : pcfgFrom pg group fuel = some frag) (hd : fillDone pg group fuel = true) :
    ∃ st, fragState pg group fuel = some st ∧ frag = fragOf pg st ∧ st.toFill = [] := by
  rw [pcfgFrom_eq] at h
  unfold fillDone at hd
  cases hs : fragState pg group fuel with
  | none => rw [hs] at h; cases h
  | some st =>
    rw [hs] at h hd
    simp only [Option.map_some, Option.some.injEq] at h
    exact ⟨st, rfl, h.symm, by simpa using hd⟩

theorem pcfgFrom_facts {pg : PUG U} {group : List (Node U)} {fuel : Nat} {frag : PUG (U × Nat)}
    (hpf : PrefixFree group) (h : pcfgFrom pg group fuel = some frag)
    (hfuel : fillDone pg group fuel = true) :
    ∃ st L, frag = fragOf pg st ∧ fragState pg group fuel = some st ∧
      Facts pg group (fragOf pg st).g st.probs L ∧ Weights st L := by
  obtain ⟨st, hst, rfl, htf⟩ := pcfgFrom_some h hfuel
  obtain ⟨L, hf, hw⟩ := facts_of_pcfgFrom hpf hst htf
  exact ⟨st, L, rfl, hst, hf, hw⟩

theorem Weights.startMass {pg : PUG U} {group : List (Node U)} {F : UG (U × Nat)}
    {T : AList (UNT (U × Nat)) (AList Sym (AList (List (UNT (U × Nat))) Rat))} {st : FragSt U}
    {L : List (Lay U)}
    (hw : Weights st L) (hf : Facts pg group F T L) :
    (st.startProbs.map (·.2)).sum = (group.map (·.prob)).sum := by
  rw [hw.spTot, ← hf.lays, List.map_map]
  rfl

end PS.Sp
