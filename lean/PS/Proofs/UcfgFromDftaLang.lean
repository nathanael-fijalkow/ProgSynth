/-
  C06: the grammar built from an automaton has exactly one derivation for every
  accepted tree and none for the others.
  Key fact (`derivs_length`): for a key `k` of the table standing for the state `q`
  (`proj k = d q`), the derivations of `t` from `k` are as many as `[run A t = some q]`.
-/
import PS.Proofs.UcfgFromDfta
import PS.Proofs.Ucfg
namespace PS.U.FD
open PS PS.G PS.U DFTA

variable {Q U V : Type} [DecidableEq Q] [DecidableEq U] [DecidableEq V]
set_option linter.unusedSectionVars false

/-- what the theorems need of the flattening: `proj` undoes `child`/`root`, and `d` is injective
    on the states the automaton mentions -/
structure FlatOK (F : Flat Q U V) (A : DFTA Sym Q) : Prop where
  proj_child : ∀ tgt P i x, F.proj (F.child tgt P i x) = x
  proj_root : ∀ x, F.proj (F.root x) = x
  inj : ∀ q ∈ A.allStates, ∀ q' ∈ A.allStates, F.d q = F.d q' → q = q'

theorem plainFlat_ok (d : Q → UNT U) (A : DFTA Sym Q)
    (inj : ∀ q ∈ A.allStates, ∀ q' ∈ A.allStates, d q = d q' → q = q') : FlatOK (plainFlat d) A :=
  { proj_child := fun _ _ _ _ => rfl, proj_root := fun _ => rfl, inj := inj }

theorem ngramFlat_ok (n : Int) (d : Q → UNT U) (A : DFTA Sym Q)
    (inj : ∀ q ∈ A.allStates, ∀ q' ∈ A.allStates, d q = d q' → q = q') : FlatOK (ngramFlat n d) A :=
  { proj_child := fun _ _ _ _ => rfl, proj_root := fun _ => rfl, inj := inj }

def isAlt (F : Flat Q U V) (k : UNT V) (f : Sym) (r : (Sym × List Q) × Q) : Bool :=
  matchesTgt F k r && decide (r.1.1 = f)

theorem matchesTgt_of_isAlt {F : Flat Q U V} {k : UNT V} {f : Sym} {r : (Sym × List Q) × Q}
    (h : isAlt F k f r = true) : matchesTgt F k r = true :=
  (Bool.and_eq_true_iff.mp h).1

/-- the alternatives of the symbol `f` at the key `k`: one per rule `f(args) → dst` of the automaton whose target
    flattens to `proj k`, in table order -/
def altsOf (F : Flat Q U V) (A : DFTA Sym Q) (k : UNT V) (f : Sym) : List (List (UNT V)) :=
  (A.rules.filter (isAlt F k f)).map (fun r => newArgs F k f r.1.2)

theorem lookup_foldl_appendAlt (F : Flat Q U V) (k : UNT V) (f : Sym) :
    ∀ (rules : List ((Sym × List Q) × Q)) (row : Row V),
      AList.lookup f (rules.foldl (fun row r =>
          if matchesTgt F k r then appendAlt r.1.1 (newArgs F k r.1.1 r.1.2) row else row) row) =
        if (rules.filter (isAlt F k f)).map
              (fun r => newArgs F k f r.1.2) = [] then AList.lookup f row
        else some ((AList.lookup f row).getD [] ++
          (rules.filter (isAlt F k f)).map
              (fun r => newArgs F k f r.1.2)) := by
  intro rules
  induction rules with
  | nil => intro row; simp
  | cons r rs ih =>
    intro row
    rw [List.foldl_cons, ih]
    by_cases hp : isAlt F k f r = true
    · obtain ⟨hm, hf⟩ := Bool.and_eq_true_iff.mp hp
      rw [if_pos hm, List.filter_cons_of_pos hp, List.map_cons, if_neg (List.cons_ne_nil _ _), appendAlt,
        of_decide_eq_true hf, AList.lookup_insert_self]
      split
      · rename_i hL; rw [hL]
      · simp only [Option.getD_some, List.append_assoc, List.cons_append, List.nil_append]
    · rw [List.filter_cons_of_neg hp]
      suffices h : AList.lookup f (if matchesTgt F k r = true then
          appendAlt r.1.1 (newArgs F k r.1.1 r.1.2) row else row) = AList.lookup f row by rw [h]
      split
      · rename_i hm
        exact AList.lookup_insert_ne _ _ fun e => hp (Bool.and_eq_true_iff.mpr ⟨hm, decide_eq_true e.symm⟩)
      · rfl

theorem lookup_rowFor (F : Flat Q U V) (A : DFTA Sym Q) (k : UNT V) (f : Sym) :
    AList.lookup f (rowFor F A k) = if altsOf F A k f = [] then none else some (altsOf F A k f) := by
  unfold rowFor altsOf
  rw [lookup_foldl_appendAlt]
  simp

theorem mem_of_mem_keys {κ ν : Type} {k : κ} {d : AList κ ν} (h : k ∈ AList.keys d) :
    ∃ v, (k, v) ∈ d := by
  obtain ⟨e, he, hk⟩ := List.mem_map.mp h
  exact ⟨e.2, by rw [← hk]; exact he⟩

theorem alts_of_built {F : Flat Q U V} {A : DFTA Sym Q} {G : UCFG V} (hb : Built F A G)
    (k : UNT V) (hk : k ∈ AList.keys G.rules) (f : Sym) :
    G.alts? k f = if altsOf F A k f = [] then none else some (altsOf F A k f) := by
  rw [UCFG.alts?_of_lookup (hb.lookup hk)]
  exact lookup_rowFor F A k f

theorem derivs_node {F : Flat Q U V} {A : DFTA Sym Q} {G : UCFG V} (hb : Built F A G)
    (k : UNT V) (hk : k ∈ AList.keys G.rules) (f : Sym) (kids : List Prog) :
    derivs G (.node f kids) k =
      (altsOf F A k f).flatMap (fun args => (derivsList G kids args).map (fun r => (k, f, args) :: r)) := by
  rw [derivs, alts_of_built hb k hk f]
  by_cases h : altsOf F A k f = []
  · simp [h]
  · simp [h]

theorem sum_indicator {α : Type} [DecidableEq α] (a : α) (l : List α) (hn : l.Nodup) :
    (l.map (fun x => if x = a then 1 else 0)).sum = if a ∈ l then 1 else 0 := by
  rw [PS.G.sum_map_if_eq, Nat.mul_one, hn.count]

theorem sum_zero {α : Type} (l : List α) (g : α → Nat) (h : ∀ x ∈ l, g x = 0) : (l.map g).sum = 0 :=
  PS.G.sum_eq_zero l g h

section Key
variable {F : Flat Q U V} {A : DFTA Sym Q} {G : UCFG V}

theorem derivs_length (hb : Built F A G) (ok : FlatOK F A) (hd : A.Det) :
    ∀ (t : Prog) (k : UNT V) (q : Q), k ∈ AList.keys G.rules → q ∈ A.allStates →
      F.proj k = F.d q → (derivs G t k).length = if run A t = some q then 1 else 0 := by
  -- for the children: the argument non-terminals of a rule, from position `i` on
  refine (Tree.ind₂ (Q := fun ks =>
      ∀ (tgt : UNT V) (P : Sym) (i : Nat) (args : List Q), (∀ a ∈ args, a ∈ A.allStates) →
      (∀ x ∈ (args.zipIdx i).map (fun ai => F.child tgt P ai.2 (F.d ai.1)), x ∈ AList.keys G.rules) →
      (derivsList G ks ((args.zipIdx i).map (fun ai => F.child tgt P ai.2 (F.d ai.1)))).length =
        if runList A ks = some args then 1 else 0) ?_ ?_ ?_).1
  · intro f kids ih k q hk hq hkq
    rw [derivs_node hb k hk f kids, length_flatMap_map, altsOf, List.map_map, sum_filter_map,
      run_node]
    -- every summand, by the induction hypothesis on the children: only the rule
    -- `f(runList A kids) → q` contributes
    have hsum : ∀ r ∈ A.rules,
        (if isAlt F k f r = true then
            ((fun a => (derivsList G kids a).length) ∘ fun r => newArgs F k f r.1.2) r else 0) =
          if runList A kids = some r.1.2 ∧ r.1.1 = f ∧ r.2 = q then 1 else 0 := by
      rintro ⟨⟨l, args⟩, dst⟩ hr
      have hst := mem_allStates_of_rule A hr
      have hmq : matchesTgt F k ((l, args), dst) = true ↔ dst = q := by
        rw [matchesTgt, decide_eq_true_eq, hkq]
        exact ⟨fun h => ok.inj dst hst.1 q hq h, fun h => h ▸ rfl⟩
      by_cases hia : isAlt F k f ((l, args), dst) = true
      · obtain ⟨hm, hf⟩ := Bool.and_eq_true_iff.mp hia
        obtain rfl : l = f := of_decide_eq_true hf
        rw [if_pos hia, Function.comp, newArgs, ih k l 0 args hst.2 (hb.closed k hk _ hr hm)]
        simp only [hmq.mp hm, and_self, and_true]
      · rw [if_neg hia, if_neg]
        rintro ⟨_, rfl, rfl⟩
        exact hia (Bool.and_eq_true_iff.mpr ⟨hmq.mpr rfl, decide_eq_true rfl⟩)
    rw [List.map_congr_left hsum]
    cases hrl : runList A kids with
    | none => simp
    | some qs =>
      -- `Det` (at most one rule per symbol and argument states) is on the keys; the rules themselves are then
      -- distinct, which is what `sum_indicator` asks for
      have hnd : A.rules.Nodup :=
        List.Pairwise.of_map (fun r => r.1) (fun a b h e => h (e ▸ rfl)) hd
      have hind : ∀ r ∈ A.rules, (if some qs = some r.1.2 ∧ r.1.1 = f ∧ r.2 = q then 1 else 0) =
          if r = ((f, qs), q) then 1 else 0 := by
        rintro ⟨⟨l, args⟩, dst⟩ _
        simp only [Option.some.injEq, Prod.mk.injEq, eq_comm (a := qs), and_assoc, and_left_comm]
      rw [List.map_congr_left hind, sum_indicator _ _ hnd, Option.bind_some]
      have := read_eq_some_iff A hd f qs q
      by_cases hmem : ((f, qs), q) ∈ A.rules
      · rw [if_pos hmem, if_pos (this.mpr hmem)]
      · rw [if_neg hmem, if_neg (fun e => hmem (this.mp e))]
  · intro tgt P i args _ _
    cases args <;> simp [derivsList, List.zipIdx_cons]
  · intro k ks ihk ihks tgt P i args hst hkeys
    cases args with
    | nil =>
      simp only [List.zipIdx_nil, List.map_nil, derivsList, List.length_nil, runList_cons]
      cases run A k with
      | none => simp
      | some q => cases runList A ks <;> simp
    | cons a as =>
      simp only [List.zipIdx_cons, List.map_cons] at hkeys ⊢
      rw [derivsList, runList_cons, length_flatMap_const,
        ihk (F.child tgt P i (F.d a)) a (hkeys _ List.mem_cons_self)
          (hst a List.mem_cons_self) (ok.proj_child tgt P i (F.d a)),
        ihks tgt P (i + 1) as (fun x hx => hst x (List.mem_cons_of_mem _ hx))
          (fun x hx => hkeys x (List.mem_cons_of_mem _ hx))]
      cases run A k with
      | none => simp
      | some q =>
        cases runList A ks with
        | none => simp
        | some qs => by_cases hq : q = a <;> by_cases hqs : qs = as <;> simp [hq, hqs]

end Key

theorem mem_finals_allStates (A : DFTA Sym Q) (q : Q) (h : q ∈ A.finals) : q ∈ A.allStates :=
  List.mem_append_right _ h

theorem startsOf_nodup (F : Flat Q U V) (A : DFTA Sym Q) : (startsOf F A).Nodup :=
  foldl_addNew_nodup _ _ List.nodup_nil

theorem mem_startsOf (F : Flat Q U V) (A : DFTA Sym Q) (s : UNT V) :
    s ∈ startsOf F A ↔ ∃ q ∈ A.finals, F.root (F.d q) = s := by
  unfold startsOf
  rw [mem_foldl_addNew]
  simp

theorem allDerivs_length {F : Flat Q U V} {A : DFTA Sym Q} {G : UCFG V} (hb : Built F A G)
    (ok : FlatOK F A) (hd : A.Det) (t : Prog) :
    (allDerivs G t).length = if A.accepts t = true then 1 else 0 := by
  unfold accepts
  rw [length_allDerivs, hb.starts_eq]
  have hkey : ∀ s ∈ startsOf F A, ∃ q ∈ A.finals, F.root (F.d q) = s ∧
      (derivs G t s).length = if run A t = some q then 1 else 0 := by
    intro s hs
    obtain ⟨q, hqf, hqs⟩ := (mem_startsOf F A s).mp hs
    exact ⟨q, hqf, hqs, derivs_length hb ok hd t s q (hb.starts s (hb.starts_eq ▸ hs))
      (mem_finals_allStates A q hqf) (by rw [← hqs, ok.proj_root])⟩
  cases hr : run A t with
  | none =>
    rw [sum_zero _ _ fun s hs => by obtain ⟨q, _, _, h⟩ := hkey s hs; rw [h, hr]; rfl]
    rfl
  | some q0 =>
    -- the start symbol of `q0` is that of no other final state
    have hinj : ∀ q ∈ A.finals, F.root (F.d q) = F.root (F.d q0) → q = q0 := fun q hq e =>
      ok.inj q (mem_finals_allStates A q hq) q0 (mem_allStates_of_run A hr) (by
        have := congrArg F.proj e
        rwa [ok.proj_root, ok.proj_root] at this)
    rw [List.map_congr_left (g := fun s => if s = F.root (F.d q0) then 1 else 0) fun s hs => by
        obtain ⟨q, hqf, rfl, h⟩ := hkey s hs
        rw [h, hr]
        by_cases e : q0 = q
        · rw [e, if_pos rfl, if_pos rfl]
        · rw [if_neg fun h => e (Option.some.inj h), if_neg fun h => e (hinj q hqf h).symm],
      sum_indicator _ _ (startsOf_nodup F A)]
    by_cases hf : q0 ∈ A.finals
    · rw [if_pos ((mem_startsOf F A _).mpr ⟨q0, hf, rfl⟩)]
      simp [hf]
    · rw [if_neg fun h => by
        obtain ⟨q, hqf, e⟩ := (mem_startsOf F A _).mp h
        exact hf (hinj q hqf e ▸ hqf)]
      simp [hf]

theorem genU_eq_accepts {F : Flat Q U V} {A : DFTA Sym Q} {G : UCFG V} (hb : Built F A G)
    (ok : FlatOK F A) (hd : A.Det) (t : Prog) : genU G t = A.accepts t :=
  genU_of_length (allDerivs_length hb ok hd t)

theorem contains_eq_accepts {F : Flat Q U V} {A : DFTA Sym Q} {G : UCFG V} (hb : Built F A G)
    (ok : FlatOK F A) (hd : A.Det) (t : Prog) : contains G t = A.accepts t := by
  rw [contains_eq_genU, genU_eq_accepts hb ok hd]

theorem reduceAll_length {F : Flat Q U V} {A : DFTA Sym Q} {G : UCFG V} (hb : Built F A G)
    (ok : FlatOK F A) (hd : A.Det) (t : Prog) :
    (reduceAll G t).length = if A.accepts t = true then 1 else 0 := by
  rw [reduceAll_length_eq, allDerivs_length hb ok hd]

end PS.U.FD
