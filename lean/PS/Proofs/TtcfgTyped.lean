/-
  C13: the grammars returned by the constructors are typed (`typedOK`: every rule gives its
  symbol the argument types that the symbol's type has at the type of the non-terminal) - so the
  hypothesis `ArgsAgree` of the product theorems holds of them without a certificate per case.
-/
import PS.Proofs.TtcfgAtMostDiverge
import PS.Proofs.TtcfgCountS
import PS.Proofs.TtcfgMul
namespace PS.T
open PS PS.G

variable {S T : Type} [DecidableEq S] [DecidableEq T]

theorem saturation_typedOK (B : Builder S T) (prims : List Sym) (request : Ty) (stackKey : Bool) (fuel : Nat) (G : TT S T)
    (h : saturationTable B prims request stackKey fuel = some G) : typedOK G = true := by
  have hrows := (saturationTable_spec B prims request stackKey fuel G h).rows
  unfold typedOK
  rw [List.all_eq_true]
  intro e he
  rw [List.all_eq_true]
  intro r hr
  rw [hrows e he] at hr
  have hml := rowDict_mem B prims request e.1 r hr
  obtain ⟨P, val⟩ := r
  obtain ⟨c, hc, h1, _, hv⟩ := (mem_rowList B prims request e.1 P val).mp hml
  subst h1
  have ha := candidate_args prims request e.1.1 c hc
  simp only [beq_iff_eq]
  rw [ha, hv]
  simp only [decorate_map_fst]

theorem restrict_typedOK (G : TT S T) (nr : Marks S T) (h : typedOK G = true) : typedOK (restrict G nr) = true :=
  restrict_all G nr (fun nt r => r.1.ty.endsWith nt.1 == some (r.2.1.map (·.1))) h

theorem clean_typedOK (G G' : TT S T) (hU : noUnknownKey G = true) (fuel : Nat) (h : clean G fuel = .ok G')
    (ht : typedOK G = true) : typedOK G' = true := by
  obtain ⟨nr, rfl, _⟩ := clean_result G G' hU fuel h
  exact restrict_typedOK G nr ht

theorem construct_typedOK (B : Builder S T) (dsl : Dsl) (request : Ty) (hd : noUnknownDsl dsl request = true)
    (stackKey : Bool) (fuel : Nat) (g : TTG S T) (h : construct B dsl request stackKey fuel = .ok g) : typedOK g.G = true := by
  obtain ⟨G0, h0, h1, _⟩ := construct_eq_ok.mp h
  exact clean_typedOK G0 g.G (saturation_noUnknown B dsl request stackKey fuel G0 hd h0) fuel h1
    (saturation_typedOK B dsl.prims request stackKey fuel G0 h0)

end PS.T
