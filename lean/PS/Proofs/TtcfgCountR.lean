/-
  C13: `programsR`, the `programs()` of /repo (ttcfg.py:286-320; since 875cb5a, fixes_applied/C13-F5.diff, a missing
  non-terminal that is not the end marker counts 0, `computeR`), is the size of the language - for every table whose rows are
  dicts and in which the end-marker type occurs neither as a non-terminal nor as an argument slot;
  no closedness certificate, no hypothesis on `clean()`.
  `RecSpecR` is the instance of `RecOk` (TtcfgCount.lean) without the outcome sets, in which the
  specified calls are those on a non-terminal that is not the end marker.
-/
import PS.Proofs.TtcfgCount
import PS.Proofs.TtcfgCleanLang
namespace PS.T
open PS PS.G

variable {S T : Type} [DecidableEq S] [DecidableEq T]

def noUnknownArg (G : TT S T) : Bool :=
  G.rules.all (fun e => e.2.all (fun r => r.2.1.all (fun a => decide (a.1 ≠ Ty.unknown))))

/-- decidable form of `RowsNodupT` -/
def rowsNodup (G : TT S T) : Bool := G.rules.all (fun e => decide ((AList.keys e.2).Nodup))

section InvR
variable (G : TT S T)

structure RecSpecR (rec : NT S T → Option (AList T Nat)) (k : Nat) : Prop where
  marker : ∀ nt d, rec nt = some d → nt.1 = Ty.unknown → d = [(nt.2.2, 1)]
  key : ∀ nt d, rec nt = some d → nt.1 ≠ Ty.unknown →
    (∀ F : T → Nat, W d F = SumL (langT G k (nt.1, nt.2.1) nt.2.2) F) ∧
    (∀ t w, run G.rule? t (nt.1, nt.2.1) nt.2.2 = some w → (t, w) ∈ langT G k (nt.1, nt.2.1) nt.2.2)

variable {G}

omit [DecidableEq S] [DecidableEq T] in
theorem chainOk_of_noUnknown (P : T → Prop) : ∀ info : List (Ty × S), (∀ b ∈ info, b.1 ≠ Ty.unknown) →
    ChainOk (fun nt : NT S T => nt.1 ≠ Ty.unknown) (fun _ _ => True) info P (fun _ => True)
  | [], _ => fun _ _ => trivial
  | base :: info, h => ⟨fun _ => True, fun _ _ => ⟨h base (List.mem_cons_self ..), fun _ _ => trivial⟩,
      chainOk_of_noUnknown _ info (fun b hb => h b (List.mem_cons_of_mem _ hb))⟩

theorem RecSpecR.ok {rec : NT S T → Option (AList T Nat)} {k : Nat} (R : RecSpecR G rec k) :
    RecOk G (fun nt => nt.1 = Ty.unknown) (fun nt => nt.1 ≠ Ty.unknown) (fun _ _ => True) rec k :=
  ⟨R.marker, fun nt d h hu => ⟨fun _ _ => trivial, R.key nt d h hu⟩⟩

end InvR

theorem computeR_spec (G : TT S T) (hU : noUnknownKey G = true) (hA : noUnknownArg G = true) :
    ∀ k : Nat, RecSpecR G (computeR G k) k
  | 0 => ⟨by intro nt d h; simp [computeR] at h, by intro nt d h; simp [computeR] at h⟩
  | k + 1 => by
    have R := computeR_spec G hU hA k
    constructor
    · intro nt d h hu
      cases hl : AList.lookup nt G.rules with
      | some row =>
        exact absurd hu (noUnknown_inRules G hU nt (AList.contains_of_lookup hl))
      | none =>
        simp only [computeR, hl, hu, if_true, Option.some.injEq] at h
        exact h.symm
    · intro nt d h hu
      have hnt : ((nt.1, (nt.2.1, nt.2.2)) : NT S T) = nt := rfl
      cases hrow : AList.lookup nt G.rules with
      | none =>
        simp only [computeR, hrow, hu, if_false, Option.some.injEq] at h
        subst h
        refine ⟨?_, ?_⟩
        · intro F; simp [langT, hnt, hrow, W, SumL]
        · intro t w hrun
          cases (run_of_lookup_none hrow t).symm.trans hrun
      | some row =>
        simp only [computeR, hrow] at h
        have hmem := AList.lookup_some_mem hrow
        have hargs : ∀ r ∈ row, ∀ a ∈ r.2.1, a.1 ≠ Ty.unknown := by
          simp only [noUnknownArg, List.all_eq_true, decide_eq_true_eq] at hA
          exact hA _ hmem
        obtain ⟨-, s2, s3⟩ := rowCounts_spec R.ok nt row [] d
          (fun r hr => ⟨chainOk_of_noUnknown _ _ (hargs r hr), fun _ => rfl⟩) (fun _ _ => trivial) h
        exact langT_succ_spec G k nt row hrow d (fun F => by rw [s2 F, W_nil, Nat.zero_add]) s3

omit [DecidableEq S] [DecidableEq T] in
theorem rowsNodupT_of (G : TT S T) (h : rowsNodup G = true) : RowsNodupT G := by
  unfold rowsNodup at h
  rw [List.all_eq_true] at h
  intro e he
  simpa using h e he

/-- C13, `programsR` (the `programs()` of /repo): whenever it returns `n` (fuel = recursion depth), `n` is the size of the language -
    for every table whose rows are dicts and that does not use the end-marker type. -/
theorem programsR_count (G : TT S T) (hr : rowsNodup G = true) (hU : noUnknownKey G = true)
    (hA : noUnknownArg G = true) (fuel n : Nat) (hp : programsR G fuel = some n) :
    (langOf G fuel).Nodup ∧ n = (langOf G fuel).length ∧ ∀ t, t ∈ langOf G fuel ↔ inLang G t = true := by
  have hr' := rowsNodupT_of G hr
  have hst : ((G.start.1, (G.start.2.1, G.start.2.2)) : NT S T) = G.start := rfl
  unfold programsR at hp
  by_cases hc : AList.contains G.start G.rules = true
  · simp only [hc, if_true] at hp
    cases hd : computeR G fuel G.start with
    | none => simp [hd] at hp
    | some d =>
      simp only [hd, Option.map_some, Option.some.injEq] at hp
      subst hp
      obtain ⟨k2, k3⟩ := (computeR_spec G hU hA fuel).key G.start d hd (noUnknown_inRules G hU G.start hc)
      exact count_of_spec G hr' fuel d k2 k3
  · simp only [hc, Bool.false_eq_true, if_false, Option.some.injEq] at hp
    subst hp
    have hn : AList.lookup G.start G.rules = none := AList.not_contains_iff.mp hc
    have hempty : langOf G fuel = [] := by
      unfold langOf
      cases fuel with
      | zero => simp [langT]
      | succ k => simp [langT, hst, hn]
    refine ⟨langOf_nodup G hr' fuel, by simp [hempty], fun t => ⟨langOf_sound G hr' fuel t, fun hin => ?_⟩⟩
    cases (inLang_of_lookup_none hn t).symm.trans hin

end PS.T
