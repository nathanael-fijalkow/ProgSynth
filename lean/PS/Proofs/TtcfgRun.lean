/-
  C13: the stack-free semantics `run` of a tree-traversing grammar.  That the membership test
  (`DetGrammar.__contains_rec__` with `TTCFG.derive`: a pending stack of argument slots and a state threaded
  through the derivation) computes it, for every state type, is `containsRec_run` in PS/Proofs/Grammar.lean; here:
  membership from the start symbol (`contains_eq_inLang`), and the one induction behind the completeness of the
  worklist and of `clean()` (`run_within`).
-/
import PS.Model.Ttcfg
import PS.Proofs.Grammar
namespace PS.T
open PS PS.G

variable {S T : Type} [DecidableEq S] [DecidableEq T]

theorem isSome_eq_of_imp {α : Type} {a b : Option α} (h1 : ∀ w, a = some w → b = some w)
    (h2 : ∀ w, b = some w → a = some w) : a.isSome = b.isSome := by
  cases ha : a with
  | some w => rw [h1 w ha]
  | none =>
    cases hb : b with
    | none => rfl
    | some w => rw [h2 w hb] at ha; cases ha

def Live (ρ : RuleFn S T) (nt : NT S T) : Prop := ∃ t w, run ρ t (nt.1, nt.2.1) nt.2.2 = some w

omit [DecidableEq S] [DecidableEq T] in
/-- A derivation stays inside a closed set of configurations.  `R nt stk`: the machine of partial
    derivations (`TTCFG.derive`) may be at the non-terminal `nt` with the argument slots `stk` pending.
    If `R` is closed under the steps the machine makes with a rule that some complete derivation uses,
    towards a non-terminal that derives something, and `ρ'` has each such rule, then every derivation of
    `ρ` that starts in `R` is a derivation of `ρ'`, and the configuration it leaves behind is in `R`.
    The worklist of `__saturation_build__` (`closed_run`) and both phases of `clean()`
    (`clean_complete_run`) are complete by this. -/
theorem run_within (ρ ρ' : RuleFn S T) (R : NT S T → List (Ty × S) → Prop)
    (hstep : ∀ nt stk f args st kids w, R nt stk → ρ nt f = some (args, st) → runList ρ kids args st = some w →
      ρ' nt f = some (args, st) ∧
      ∀ x rest, args ++ stk = x :: rest → Live ρ (x.1, (x.2, st)) → R (x.1, (x.2, st)) rest) :
    (∀ (t : Prog) (a : Ty × S) (v w : T) (stk : List (Ty × S)),
      R (a.1, (a.2, v)) stk → run ρ t a v = some w →
      run ρ' t a v = some w ∧ ∀ x rest, stk = x :: rest → Live ρ (x.1, (x.2, w)) → R (x.1, (x.2, w)) rest) ∧
    (∀ (ks : List Prog) (args : List (Ty × S)) (v w : T) (stk : List (Ty × S)),
      (∀ x rest, args ++ stk = x :: rest → Live ρ (x.1, (x.2, v)) → R (x.1, (x.2, v)) rest) →
      runList ρ ks args v = some w →
      runList ρ' ks args v = some w ∧ ∀ x rest, stk = x :: rest → Live ρ (x.1, (x.2, w)) → R (x.1, (x.2, w)) rest) := by
  apply Tree.ind₂
  · intro f kids ih a v w stk hin hr
    obtain ⟨args, st, h1, hr⟩ := (run_eq_some _).mp hr
    obtain ⟨h2, hcl⟩ := hstep _ stk f args st kids w hin h1 hr
    obtain ⟨i1, i2⟩ := ih args st w stk hcl hr
    exact ⟨(run_eq_some _).mpr ⟨args, st, h2, i1⟩, i2⟩
  · intro args v w stk hin hr
    obtain ⟨rfl, rfl⟩ := (runList_nil_eq_some _).mp hr
    exact ⟨rfl, hin⟩
  · intro k ks iht ihl args v w stk hin hr
    obtain ⟨a, as, v1, rfl, h1, hr⟩ := (runList_cons_eq_some _).mp hr
    obtain ⟨k1, k2⟩ := iht a v v1 (as ++ stk) (hin a (as ++ stk) rfl ⟨k, v1, h1⟩) h1
    obtain ⟨i1, i2⟩ := ihl as v1 w stk k2 hr
    exact ⟨(runList_cons_eq_some _).mpr ⟨a, as, v1, rfl, k1, i1⟩, i2⟩

theorem inLang_iff {G : TT S T} {t : Prog} :
    inLang G t = true ↔ ∃ w, run G.rule? t (G.start.1, G.start.2.1) G.start.2.2 = some w :=
  Option.isSome_iff_exists

theorem run_of_lookup_none {G : TT S T} {nt : NT S T} (h : AList.lookup nt G.rules = none) :
    ∀ t : Prog, run G.rule? t (nt.1, nt.2.1) nt.2.2 = none
  | .node f kids => by
    rw [run, show ((nt.1, nt.2.1).1, ((nt.1, nt.2.1).2, nt.2.2)) = nt from rfl, TT.rule?_of_lookup_none h]

theorem inLang_of_lookup_none {G : TT S T} (h : AList.lookup G.start G.rules = none) (t : Prog) : inLang G t = false := by
  rw [inLang, run_of_lookup_none h]
  rfl

theorem contains_eq_inLang (G : TT S T) (t : Prog) : PS.G.contains G t = inLang G t := by
  have h := (containsRec_run G).1 t G.start []
  unfold PS.G.contains inLang
  cases hr : run G.rule? t (G.start.1, G.start.2.1) G.start.2.2 with
  | none => rw [hr] at h; simpa [Agree] using h
  | some w => rw [hr] at h; simpa [Agree, AdvT] using h.1

end PS.T
