/-
  C13: termination of `TTCFG.clean()` (fuel adequacy of the model, ttcfg.py:209-266) on every
  table whose machine of partial derivations has a rank: a function of the configuration
  (non-terminal, pending stack) that decreases along every step `clean()` follows.

  Pass 1 has no de-duplication, it walks every partial derivation: it ends within
  `satBound b (rk start)` iterations, `b` = longest row.  So does every inner pass, and a pass that
  reports a change removed a non-terminal, so there are at most `|non-terminals| + 1` passes.  Hence
  with `fuel ≥ satBound b (rk start) + |rules| + 1` the model of `clean()` does not run out of fuel.
-/
import PS.Proofs.TtcfgCleanLang
import PS.Proofs.TtcfgBuildTerm
import PS.Proofs.TtcfgCountR
namespace PS.T
open PS PS.G

section AL
variable {κ ν : Type} [DecidableEq κ]

theorem erase_of_not_contains (k : κ) (d : AList κ ν) (h : AList.lookup k d = none) : AList.erase k d = d := by
  fun_induction AList.erase k d with
  | case1 => rfl
  | case2 v2 r => simp [AList.lookup] at h
  | case3 k2 v2 r h2 ih => rw [ih (by simpa [AList.lookup, h2] using h)]

theorem keys_erase_length (k : κ) (d : AList κ ν) (v : ν) (h : AList.lookup k d = some v) :
    (AList.keys (AList.erase k d)).length + 1 = (AList.keys d).length := by
  fun_induction AList.erase k d with
  | case1 => cases h
  | case2 v2 r => rfl
  | case3 k2 v2 r h2 ih => simpa [AList.keys] using ih (by simpa [AList.lookup, h2] using h)
end AL

variable {S T : Type} [DecidableEq S] [DecidableEq T]

theorem reachLoop_terminates (G : TT S T) (b : Nat) (hb : ∀ e ∈ G.rules, e.2.length ≤ b) (hr : rowsNodup G = true)
    (rk : CConfig S T → Nat) (hdec : ∀ c d, CStep G c d → rk d < rk c)
    (fuel : Nat) (todo : List (CConfig S T)) (nr : Marks S T) (hin : ∀ c ∈ todo, inRules G c.1 = true)
    (h : (todo.map (fun c => satBound b (rk c))).sum ≤ fuel) : ∃ nr', reachLoop G fuel todo nr = .ok nr' := by
  obtain ⟨nr', hw, _⟩ := wloop_terminates (reachBody G) b rk (fun todo _ => ∀ c ∈ todo, inRules G c.1 = true)
    (fun c todo nr hin => by
      obtain ⟨hc, hin'⟩ := List.forall_mem_cons.mp hin
      obtain ⟨row, hrow⟩ := AList.contains_iff_lookup.mp hc
      have hmem := AList.lookup_some_mem hrow
      have hpush : ∀ p ∈ reachPushes G c row, inRules G p.1 = true ∧ rk p < rk c := by
        intro p hp
        obtain ⟨r, hrm, hi, rfl⟩ := mem_reachPushes.mp hp
        exact ⟨hi, hdec _ _ (CStep.mk c.1 c.2 r.1 r.2.1 r.2.2
          (TT.rule?_eq_some.mpr ⟨row, hrow, AList.lookup_of_mem_nodup (rowsNodupT_of G hr _ hmem) hrm⟩) hi)⟩
      refine ⟨reachPushes G c row, _, by unfold reachBody; rw [hrow],
        Nat.le_trans (List.length_filterMap_le _ _) (hb _ hmem), fun p hp => (hpush p hp).2, fun p hp => ?_⟩
      rcases List.mem_append.mp hp with h1 | h1
      · exact (hpush p (List.mem_reverse.mp h1)).1
      · exact hin' p h1)
    fuel todo nr hin h
  exact ⟨nr', by rw [reachLoop_eq]; exact hw⟩

/-- `len`: no row longer than `b`, the bound on the pushes of one iteration that `wloop_terminates` asks for.
    `keys` is carried so that `len` survives `erase`, which takes out the first entry of a key and would
    uncover a second one. -/
structure TInv (b : Nat) (nr : Marks S T) : Prop where
  keys : (AList.keys nr).Nodup
  len : ∀ rule l, AList.lookup rule nr = some l → l.length ≤ b

theorem tinv_erase (b : Nat) (nr : Marks S T) (rule : NT S T) (h : TInv b nr) : TInv b (AList.erase rule nr) :=
  ⟨(keys_erase_sublist rule nr).nodup h.keys, fun rule' l hl => h.len rule' l (lookup_erase_some h.keys hl).2⟩

/-- the measure `|keys| + [changed]` does not grow.  `hJ`: the fold over the symbols of a row goes on after
    an earlier symbol has dropped the row; a second `drop` then erases nothing and sets the flag, which keeps
    the measure only because the flag is set already.  At the start of the fold `hJ` holds because the row is there. -/
theorem passStep_term (G : TT S T) (b : Nat) (rule : NT S T) (info : List (Ty × S))
    (st st' : Marks S T × Bool × List (CConfig S T)) (P : Sym) (h : PassCase G rule info st P st') (hinv : TInv b st.1)
    (hJ : AList.lookup rule st.1 = none → st.2.1 = true) :
    TInv b st'.1 ∧ (AList.lookup rule st'.1 = none → st'.2.1 = true) ∧
    (AList.keys st'.1).length + (if st'.2.1 then 1 else 0) ≤ (AList.keys st.1).length + (if st.2.1 then 1 else 0) := by
  cases h with
  | skip _ => exact ⟨hinv, hJ, Nat.le_refl _⟩
  | drop args s _ _ _ _ _ =>
    refine ⟨tinv_erase b _ rule hinv, fun _ => rfl, ?_⟩
    cases hl : AList.lookup rule st.1 with
    | none => rw [erase_of_not_contains rule st.1 hl, hJ hl]; simp
    | some l =>
      have := keys_erase_length rule st.1 l hl
      by_cases hch : st.2.1 = true <;> simp [hch] <;> omega
  | shrink args s l _ _ _ _ hl _ =>
    refine ⟨⟨AList.keys_insert_nodup _ _ hinv.keys,
      forall_lookup_insert hinv.len (Nat.le_trans (List.length_erase_le ..) (hinv.len rule l hl))⟩, ?_, ?_⟩
    · intro hn; rw [AList.lookup_insert_self] at hn; cases hn
    · rw [AList.keys_insert_of_lookup_some _ hl]
      exact Nat.le_refl _
  | push _ _ _ _ _ => exact ⟨hinv, hJ, Nat.le_refl _⟩

theorem passFold_term (G : TT S T) (b : Nat) (rule : NT S T) (info : List (Ty × S)) :
    ∀ (L : List Sym) (st : Marks S T × Bool × List (CConfig S T)), TInv b st.1 →
      (AList.lookup rule st.1 = none → st.2.1 = true) →
      TInv b (L.foldl (passStep G rule info) st).1 ∧
      (AList.keys (L.foldl (passStep G rule info) st).1).length + (if (L.foldl (passStep G rule info) st).2.1 then 1 else 0) ≤
        (AList.keys st.1).length + (if st.2.1 then 1 else 0)
  | [], st, h, _ => ⟨h, Nat.le_refl _⟩
  | P :: L, st, h, hJ => by
    rw [List.foldl_cons]
    obtain ⟨j1, j2, j5⟩ := passStep_term G b rule info st _ P (passStep_case G rule info st P) h hJ
    obtain ⟨i1, i4⟩ := passFold_term G b rule info L _ j1 j2
    exact ⟨i1, Nat.le_trans i4 j5⟩

/-- the inequality: a pass that reports a change that was not there before has removed a non-terminal -/
theorem passLoop_terminates (G : TT S T) (b : Nat) (rk : CConfig S T → Nat) (hdec : ∀ c d, CStep G c d → rk d < rk c)
    (fuel : Nat) (todo : List (CConfig S T)) (nr : Marks S T) (ch : Bool) (hinv : TInv b nr)
    (h : (todo.map (fun c => satBound b (rk c))).sum ≤ fuel) :
    ∃ res, passLoop G fuel todo nr ch = .ok res ∧ TInv b res.1 ∧
      (AList.keys res.1).length + (if res.2 then 1 else 0) ≤ (AList.keys nr).length + (if ch then 1 else 0) := by
  obtain ⟨res, hw, hres⟩ := wloop_terminates (passBody G) b rk
    (fun _ s => TInv b s.1 ∧
      (AList.keys s.1).length + (if s.2 then 1 else 0) ≤ (AList.keys nr).length + (if ch then 1 else 0))
    (fun c todo s hI => by
      obtain ⟨hinv, hm⟩ := hI
      unfold passBody
      cases hl : AList.lookup c.1 s.1 with
      | none => exact ⟨[], s, rfl, Nat.zero_le _, nofun, hinv, hm⟩
      | some l =>
        cases l with
        | nil =>
          refine ⟨[], _, rfl, Nat.zero_le _, nofun, tinv_erase b s.1 c.1 hinv, ?_⟩
          have := keys_erase_length c.1 s.1 [] hl
          by_cases hch : s.2 = true <;> simp [hch] at hm ⊢ <;> omega
        | cons p ps =>
          obtain ⟨i1, i4⟩ := passFold_term G b c.1 c.2 (p :: ps) (s.1, s.2, []) hinv
            (by intro hn; rw [hl] at hn; cases hn)
          obtain ⟨ext, he, hlen, hext⟩ := passFold_pushes G c.1 c.2 (p :: ps) (s.1, s.2, [])
          rw [List.nil_append] at he
          refine ⟨_, _, rfl, ?_, fun q hq => hdec _ _ (hext q (he ▸ hq)).1, i1, Nat.le_trans i4 hm⟩
          rw [he]
          exact Nat.le_trans hlen (hinv.len c.1 (p :: ps) hl))
    fuel todo (nr, ch) ⟨hinv, Nat.le_refl _⟩ h
  exact ⟨res, by rw [passLoop_eq]; exact hw, hres⟩

theorem passes_terminates (G : TT S T) (b : Nat) (rk : CConfig S T → Nat) (hdec : ∀ c d, CStep G c d → rk d < rk c)
    (fuel : Nat) (hf : satBound b (rk (G.start, [])) ≤ fuel) :
    ∀ (n : Nat) (nr : Marks S T), TInv b nr → (AList.keys nr).length < n → ∃ nr', passes G fuel n nr = .ok nr'
  | 0, _, _, h => by omega
  | n + 1, nr, hinv, hn => by
    rw [passes]
    obtain ⟨res, r1, r2, r3⟩ := passLoop_terminates G b rk hdec fuel [(G.start, [])] nr false hinv (by simpa using hf)
    obtain ⟨nr1, ch1⟩ := res
    rw [r1]
    cases ch1 with
    | false => exact ⟨nr1, rfl⟩
    | true =>
      simp only
      simp only [if_true, Bool.false_eq_true, if_false] at r3
      exact passes_terminates G b rk hdec fuel hf n nr1 r2 (by omega)

theorem clean_terminates (G : TT S T) (b : Nat) (hb : ∀ e ∈ G.rules, e.2.length ≤ b) (hr : rowsNodup G = true)
    (rk : CConfig S T → Nat) (hdec : ∀ c d, CStep G c d → rk d < rk c)
    (hs : inRules G G.start = true) (fuel : Nat)
    (hf : satBound b (rk (G.start, [])) + G.rules.length + 1 ≤ fuel) : ∃ G', clean G fuel = .ok G' := by
  obtain ⟨nr, hnr⟩ := reachLoop_terminates G b hb hr rk hdec fuel [(G.start, [])] []
    (List.forall_mem_singleton.mpr hs) (by simp; omega)
  obtain ⟨m1, _, _⟩ := reachLoop_spec G fuel _ [] nr hnr (marksOK_nil G)
  have msub := (reachLoop_marks G fuel _ [] nr hnr).2 (fun _ _ h => nomatch h)
  have hinv : TInv b nr := by
    refine ⟨m1.keys, ?_⟩
    intro rule l hl
    obtain ⟨row, hrow, hs'⟩ := msub rule l hl
    have h1 : l.length ≤ (row.map (·.1)).length :=
      List.Nodup.length_le_of_subset (m1.vals rule l hl) (fun P hP => by
        obtain ⟨r, hr', e⟩ := hs' P hP
        exact List.mem_map.mpr ⟨r, hr', e⟩)
    have := hb _ (AList.lookup_some_mem hrow)
    simp only [List.length_map] at h1 this
    omega
  have hkeys : (AList.keys nr).length ≤ G.rules.length := by
    have : (AList.keys nr).length ≤ (AList.keys G.rules).length :=
      List.Nodup.length_le_of_subset m1.keys (fun k hk => AList.lookup_isSome_iff_mem_keys.mp
        ((pinv_of_reach G fuel nr hnr).sub k (AList.lookup_isSome_iff_mem_keys.mpr hk)))
    simpa [AList.keys] using this
  obtain ⟨nr', hp⟩ := passes_terminates G b rk hdec fuel (by omega) fuel nr hinv (by omega)
  exact ⟨_, clean_eq_ok.mpr ⟨nr, nr', hnr, hp, rfl⟩⟩

end PS.T
