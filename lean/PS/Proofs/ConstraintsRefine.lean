/-
  C05: every construction step adds a bottom-up attribute of the sub-tree.
  `Refines B A w val`: the automaton `A` reads a tree into the state `B` reads it into, with the
  `w` components `val t` (a function of the tree alone) put on top; final states correspond.
  A construction that obeys a read law (`ReadLaw`: `__tag__`, `__count__`) is one such step; steps compose
  (`Refines.trans`).
-/
import PS.Proofs.ConstraintsTable
set_option linter.unusedSectionVars false
namespace PS.C05
open PS DFTA

variable {σ Q : Type} [DecidableEq σ] [DecidableEq Q]

def extL (d : St Q) (cs : List Nat) : St Q := (d.1, cs ++ d.2)

@[simp] theorem extL_nil (d : St Q) : extL d [] = d := rfl
theorem extL_extL (d : St Q) (a b : List Nat) : extL (extL d a) b = extL d (b ++ a) := by
  simp [extL, List.append_assoc]
theorem ext_eq_extL (d : St Q) (v : Nat) : ext d v = extL d [v] := rfl

structure Refines (B A : DFTA σ (St Q)) (w : Nat) (val : Tree σ → List Nat) : Prop where
  det : A.Det
  run : ∀ t, run A t = (run B t).map (fun d => extL d (val t))
  len : ∀ t d, DFTA.run B t = some d → (val t).length = w
  finDown : ∀ q ∈ A.finals, ∃ d ∈ B.finals, ∃ cs : List Nat, cs.length = w ∧ q = extL d cs
  finUp : ∀ t d, DFTA.run B t = some d → d ∈ B.finals → extL d (val t) ∈ A.finals
  finNe : B.finals ≠ [] → A.finals ≠ []

theorem Refines.refl (B : DFTA σ (St Q)) (hd : B.Det) : Refines B B 0 (fun _ => []) where
  det := hd
  run t := by cases DFTA.run B t <;> simp
  len _ _ _ := rfl
  finDown q hq := ⟨q, hq, [], rfl, rfl⟩
  finUp _ d _ hd := by simpa using hd
  finNe h := h

theorem Refines.trans {B A C : DFTA σ (St Q)} {w1 w2 : Nat} {v1 v2 : Tree σ → List Nat}
    (h1 : Refines B A w1 v1) (h2 : Refines A C w2 v2) :
    Refines B C (w2 + w1) (fun t => v2 t ++ v1 t) where
  det := h2.det
  run t := by
    rw [h2.run, h1.run]
    cases DFTA.run B t with
    | none => rfl
    | some d => simp [extL_extL]
  len t d hd := by
    have ha : DFTA.run A t = some (extL d (v1 t)) := by rw [h1.run, hd]; rfl
    simp [h1.len t d hd, h2.len t _ ha]
  finDown q hq := by
    obtain ⟨a, ha, cs2, hl2, e2⟩ := h2.finDown q hq
    obtain ⟨d, hd, cs1, hl1, e1⟩ := h1.finDown a ha
    exact ⟨d, hd, cs2 ++ cs1, by simp [hl1, hl2], by rw [e2, e1, extL_extL]⟩
  finUp t d hd hf := by
    have ha : DFTA.run A t = some (extL d (v1 t)) := by rw [h1.run, hd]; rfl
    have := h2.finUp t _ ha (h1.finUp t d hd hf)
    rwa [extL_extL] at this
  finNe h := h2.finNe (h1.finNe h)

theorem Refines.congr {B A : DFTA σ (St Q)} {w : Nat} {v v' : Tree σ → List Nat}
    (h : Refines B A w v) (hv : ∀ t d, DFTA.run B t = some d → v t = v' t) : Refines B A w v' where
  det := h.det
  run t := by
    rw [h.run]
    cases hr : DFTA.run B t with
    | none => rfl
    | some d => simp [hv t d hr]
  len t d hd := by rw [← hv t d hd]; exact h.len t d hd
  finDown := h.finDown
  finUp t d hd hf := by rw [← hv t d hd]; exact h.finUp t d hd hf
  finNe := h.finNe

theorem Refines.accepts {B A : DFTA σ (St Q)} {w : Nat} {v : Tree σ → List Nat}
    (h : Refines B A w v) (t : Tree σ) : A.accepts t = B.accepts t := by
  refine accepts_of_run (fun t d => extL d (v t)) h.run (fun t d hr => ⟨fun hq => ?_, h.finUp t d hr⟩) t
  -- a final state of `A` is a final state of `B` under `w` components: the same ones, by their number
  obtain ⟨d', hd', cs, hl, e⟩ := h.finDown _ hq
  obtain ⟨e1, e2⟩ := Prod.mk.inj e
  have := (List.append_inj e2 (by rw [h.len t d hr, hl])).2
  rwa [show d = d' from Prod.ext e1 this]

/-- `A'` reads like `B` on the states without their newest component, and puts `g` (of the rule taken)
    on top; `OK` describes the states `A'` produces. -/
structure ReadLaw (B A' : DFTA σ (St Q)) (g : σ → List (St Q) → St Q → Nat) (OK : St Q → Prop) : Prop where
  form : ∀ s, OK s → ∃ q v, s = ext q v
  read : ∀ l ss, (∀ s ∈ ss, OK s) → A'.read l ss = (B.read l (ss.map drop1)).map (fun d => ext d (g l ss d))
  ok : ∀ l ss d, (∀ s ∈ ss, OK s) → B.read l (ss.map drop1) = some d → OK (ext d (g l ss d))

def topVal (A' : DFTA σ (St Q)) (t : Tree σ) : Nat := ((DFTA.run A' t).map lastVal).getD 0

theorem topVal_of_run {A : DFTA σ (St Q)} {t : Tree σ} {s : St Q} (h : DFTA.run A t = some s) :
    topVal A t = lastVal s := by
  unfold topVal; rw [h]; rfl

namespace ReadLaw
variable {B A' : DFTA σ (St Q)} {g : σ → List (St Q) → St Q → Nat} {OK : St Q → Prop}

theorem sim (h : ReadLaw B A' g OK) : Sim A' B drop1 OK where
  inv l ss q hss hq := by
    rw [h.read l ss hss, Option.map_eq_some_iff] at hq
    obtain ⟨d, hb, rfl⟩ := hq
    exact h.ok l ss d hss hb
  read l ss hss := by
    rw [h.read l ss hss, Option.map_map]
    exact Option.map_id'.symm

theorem run (h : ReadLaw B A' g OK) (t : Tree σ) :
    DFTA.run A' t = (DFTA.run B t).map (fun d => extL d [topVal A' t]) := by
  rw [h.sim.run t]
  cases hr : DFTA.run A' t with
  | none => rfl
  | some s =>
    obtain ⟨q, v, rfl⟩ := h.form s (h.sim.reached hr)
    rw [topVal_of_run hr]; rfl

theorem root (h : ReadLaw B A' g OK) {l : σ} {ks : List (Tree σ)} {d : St Q}
    (hd : DFTA.run B (.node l ks) = some d) :
    ∃ ss, runList A' ks = some ss ∧ runList B ks = some (ss.map drop1) ∧ B.read l (ss.map drop1) = some d ∧
      topVal A' (.node l ks) = g l ss d := by
  have hA := h.run (.node l ks)
  rw [hd, run_node] at hA
  cases hss : runList A' ks with
  | none => rw [hss] at hA; cases hA
  | some ss =>
    have hall : ∀ s ∈ ss, OK s :=
      optAll_forall (runList_eq_optAll A' ks ▸ hss) fun _ _ _ e => h.sim.reached e
    have hB : runList B ks = some (ss.map drop1) := by
      rw [runList_eq_optAll, optAll_congr _ _ ks fun t _ => h.sim.run t, optAll_comp_map, ← runList_eq_optAll, hss]
      rfl
    have hbd : B.read l (ss.map drop1) = some d := by rw [run_node, hB] at hd; exact hd
    refine ⟨ss, rfl, hB, hbd, ?_⟩
    rw [hss, Option.bind_some, h.read l ss hall, hbd] at hA
    exact (congrArg lastVal (Option.some.inj hA)).symm

theorem refines (h : ReadLaw B A' g OK) (hdet : A'.Det)
    (hdown : ∀ q ∈ A'.finals, ∃ d ∈ B.finals, ∃ v, q = ext d v)
    (hup : ∀ d ∈ B.finals, ∀ v, OK (ext d v) → ext d v ∈ A'.finals)
    (hne : B.finals ≠ [] → A'.finals ≠ []) : Refines B A' 1 (fun t => [topVal A' t]) where
  det := hdet
  run := h.run
  len _ _ _ := rfl
  finDown q hq := by
    obtain ⟨d, hd, v, rfl⟩ := hdown q hq
    exact ⟨d, hd, [v], rfl, rfl⟩
  finUp t d hr hf := by
    have h1 := h.run t
    rw [hr] at h1
    exact hup d hf _ (h.sim.reached h1)
  finNe := hne

end ReadLaw

section tag
variable (B : DFTA σ (St Q)) (check : Check σ Q)

theorem tag_law (hd : B.Det) :
    ReadLaw B (tag B check) (fun l ss d => tagBitOf check l (ss.map drop1) d) (TagOK check B) where
  form := fun _ ⟨q, v, e, _⟩ => ⟨q, v, e⟩
  read := read_tag check B hd
  ok l _ d _ h := tagBit_ok check B hd l _ d h

theorem tag_refines (hd : B.Det) : Refines B (tag B check) 1 (fun t => [topVal (tag B check) t]) := by
  refine (tag_law B check hd).refines (tag_det check B) ?_ ?_
    fun h e => h (List.map_eq_nil_iff.mp (List.append_eq_nil_iff.mp e).1)
  · intro q hq
    rcases List.mem_append.mp hq with h | h
    · obtain ⟨d, hd', rfl⟩ := List.mem_map.mp h
      exact ⟨d, hd', 0, rfl⟩
    · obtain ⟨a, ha, rfl⟩ := List.mem_map.mp h
      obtain ⟨d, hd', rfl⟩ := List.mem_map.mp (List.mem_filter.mp ha).1
      exact ⟨d, hd', 1, rfl⟩
  · rintro d hf v ⟨q, v', e, hv⟩
    obtain ⟨rfl, rfl⟩ := ext_inj e
    rcases hv with rfl | ⟨rfl, ha⟩
    · exact List.mem_append_left _ (List.mem_map.mpr ⟨d, hf, rfl⟩)
    · exact List.mem_append_right _ (List.mem_map.mpr
        ⟨aug d, List.mem_filter.mpr ⟨List.mem_map.mpr ⟨d, hf, rfl⟩, decide_eq_true ha⟩, rfl⟩)

theorem topVal_tag (hd : B.Det) {l : σ} {ks : List (Tree σ)} {d : St Q} (hr : DFTA.run B (.node l ks) = some d) :
    ∃ qs, runList B ks = some qs ∧ B.read l qs = some d ∧
      topVal (tag B check) (.node l ks) = tagBitOf check l qs d := by
  obtain ⟨ss, _, h2, h3, h4⟩ := (tag_law B check hd).root hr
  exact ⟨_, h2, h3, h4⟩

end tag

section count
variable (B : DFTA σ (St Q)) (n : Nat) (S : List σ) (most : Bool)

theorem count_law (hd : B.Det) :
    ReadLaw B (count B n S most) (fun l ss _ => countVal (cmaxi n most) S l ss) (CountOK (cmaxi n most)) where
  form := fun _ ⟨q, v, e, _⟩ => ⟨q, v, e⟩
  read := read_count B n S most hd
  ok l ss d _ _ := countVal_ok n S most l ss d

theorem count_refines (hd : B.Det) :
    Refines B (count B n S most) 1 (fun t => [topVal (count B n S most) t]) := by
  refine (count_law B n S most hd).refines (count_det B n S most) ?_ ?_
    fun h e => h (List.map_eq_nil_iff.mp (List.append_eq_nil_iff.mp e).1)
  · intro q hq
    rcases List.mem_append.mp hq with h | h
    · obtain ⟨d, hd', rfl⟩ := List.mem_map.mp h
      exact ⟨d, hd', 0, rfl⟩
    · obtain ⟨a, ha, hq'⟩ := List.mem_flatMap.mp h
      obtain ⟨d, hd', rfl⟩ := List.mem_map.mp ha
      obtain ⟨rfl, q', v, rfl, _⟩ := (mem_alternatives _ d q).mp hq'
      exact ⟨_, hd', v, rfl⟩
  · intro d hf v hv
    exact List.mem_append_right _ (List.mem_flatMap.mpr
      ⟨aug d, List.mem_map.mpr ⟨d, hf, rfl⟩, (mem_alternatives _ d _).mpr ⟨rfl, hv⟩⟩)

end count

end PS.C05
