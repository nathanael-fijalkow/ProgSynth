/-
  C15 — token trees that the tokenizer can read back (`tokOK`, `chainOK`: an operator is followed
  by the start of an operand), and the token stream of an expression of the notation is one.
  Token level only: no character occurs here.
-/
import PS.Proofs.ParseType
namespace PS.C15
open PS TyExpr

def Tok.isOp : Tok → Bool
  | .node (.op _) _ => true
  | _ => false
def Tok.operandStart : Tok → Bool
  | .node (.name _) _ => true
  | .node (.pvar _) _ => true
  | .node .paren _ => true
  | _ => false
/-- an operator is followed by the start of an operand (otherwise the infix token of
    `__next_token__` would swallow the next `|`, `[` or operator written without a blank) -/
def pairOK (t u : Tok) : Bool := !t.isOp || u.operandStart
def chainOK : List Tok → Bool
  | t :: u :: r => pairOK t u && chainOK (u :: r)
  | _ => true

def labelOK : TokL → Bool
  | .name w => goodName w
  | .pvar w => goodName w
  | .op w => goodOp w
  | _ => true

mutual
  def tokOK : Tok → Bool
    | .node .paren ks => toksOK ks && chainOK ks
    | .node .brack ks => toksOK ks && chainOK ks
    | .node l ks => labelOK l && ks.isEmpty
  def toksOK : List Tok → Bool
    | [] => true
    | t :: ts => tokOK t && toksOK ts
end

theorem toksOK_append (x y : List Tok) : toksOK (x ++ y) = (toksOK x && toksOK y) := by
  induction x with
  | nil => simp [toksOK]
  | cons t x ih => simp [toksOK, ih, Bool.and_assoc]

theorem chainOK_append (x y : List Tok) (hx : chainOK x = true) (hy : chainOK y = true)
    (h : ∀ t u, x.getLast? = some t → y.head? = some u → pairOK t u = true) : chainOK (x ++ y) = true := by
  induction x with
  | nil => exact hy
  | cons t x ih =>
    cases x with
    | nil =>
      cases y with
      | nil => rfl
      | cons u r => simp [chainOK, hy, h t u rfl rfl]
    | cons t' x =>
      simp only [chainOK, Bool.and_eq_true] at hx
      have := ih hx.2 (fun a b ha hb => h a b (by simpa [List.getLast?_cons_cons] using ha) hb)
      show chainOK (t :: t' :: (x ++ y)) = true
      simp only [chainOK, Bool.and_eq_true]
      exact ⟨hx.1, this⟩

theorem chainOK_seam {x y : List Tok} (hx : chainOK x = true) (hy : chainOK y = true)
    (h : (∃ r t, x = r ++ [t] ∧ Tok.isOp t = false) ∨ ∃ u r, y = u :: r ∧ Tok.operandStart u = true) :
    chainOK (x ++ y) = true := by
  refine chainOK_append x y hx hy (fun a b ha hb => ?_)
  rcases h with ⟨r, t, rfl, ht⟩ | ⟨u, r, rfl, hu⟩
  · have : a = t := by simpa using ha.symm
    simp [pairOK, this, ht]
  · have : b = u := by simpa using hb.symm
    simp [pairOK, this, hu]

structure Good (ts : List Tok) : Prop where
  ok : toksOK ts = true
  chain : chainOK ts = true
  head : ∃ t r, ts = t :: r ∧ Tok.operandStart t = true
  last : ∃ r t, ts = r ++ [t] ∧ Tok.isOp t = false

theorem good_single (t : Tok) (h1 : tokOK t = true) (h2 : Tok.operandStart t = true)
    (h3 : Tok.isOp t = false) : Good [t] :=
  ⟨by simp [toksOK, h1], rfl, ⟨t, [], rfl, h2⟩, ⟨[], t, rfl, h3⟩⟩

theorem good_wrap (b : Bool) {body : List Tok} (h : Good body) : Good (wrap b body) := by
  cases b with
  | true => simpa [wrap] using h
  | false =>
    simp only [wrap, Bool.false_eq_true, if_false]
    exact good_single _ (by simp [tokOK, h.ok, h.chain]) rfl rfl

theorem good_mid {x y : List Tok} (m : Tok) (hx : Good x) (hm : tokOK m = true) (hy : Good y) :
    Good (x ++ m :: y) := by
  obtain ⟨t, r, ex, ht⟩ := hx.head
  obtain ⟨r', t', ey, ht'⟩ := hy.last
  exact ⟨by simp [toksOK_append, toksOK, hx.ok, hm, hy.ok],
    chainOK_seam hx.chain (chainOK_seam (x := [m]) rfl hy.chain (.inr hy.head)) (.inl hx.last),
    ⟨t, r ++ m :: y, by simp [ex], ht⟩, ⟨x ++ m :: r', t', by simp [ey], ht'⟩⟩

theorem good_snoc {x : List Tok} (m : Tok) (hx : Good x) (hm : tokOK m = true)
    (hop : Tok.isOp m = false) : Good (x ++ [m]) := by
  obtain ⟨t, r, ex, ht⟩ := hx.head
  exact ⟨by simp [toksOK_append, toksOK, hx.ok, hm], chainOK_seam hx.chain rfl (.inl hx.last),
    ⟨t, r ++ [m], by simp [ex], ht⟩, ⟨x, m, rfl, hop⟩⟩

theorem toksAt_good (e : TyExpr) (hwf : e.wf = true) (lvl : Nat) : Good (toksAt lvl e) := by
  induction e generalizing lvl with
  | prim n =>
    exact good_single _ (by simpa [tokOK, labelOK, wf] using hwf) rfl rfl
  | var n =>
    exact good_single _ (by simpa [tokOK, labelOK, wf] using hwf) rfl rfl
  | fvar n r ih =>
    simp only [wf, Bool.and_eq_true] at hwf
    have g := ih hwf.2 0
    simp only [toksAt]
    apply good_wrap
    have : Good ([.node (.pvar n) []] ++ [.node .brack (toksAt 0 r)]) :=
      good_snoc _ (good_single _ (by simp [tokOK, labelOK, hwf.1]) rfl rfl)
        (by simp [tokOK, g.ok, g.chain]) rfl
    simpa using this
  | infx op a b iha ihb =>
    simp only [wf, Bool.and_eq_true] at hwf
    simp only [toksAt]
    apply good_wrap
    have := good_mid (.node (.op op) []) (iha hwf.1.2 1) (by simp [tokOK, labelOK, hwf.1.1]) (ihb hwf.2 0)
    simpa using this
  | generic n a iha =>
    simp only [wf, Bool.and_eq_true] at hwf
    simp only [toksAt]
    apply good_wrap
    exact good_snoc _ (iha hwf.2 1) (by simp [tokOK, labelOK, hwf.1.1]) rfl
  | optional a iha =>
    simp only [wf] at hwf
    simp only [toksAt]
    apply good_wrap
    exact good_snoc _ (iha hwf 1) (by simp [tokOK, labelOK, goodName_OPTIONAL]) rfl
  | union a b iha ihb =>
    simp only [wf, Bool.and_eq_true] at hwf
    simp only [toksAt]
    apply good_wrap
    have := good_mid (.node .bar []) (iha hwf.1 1) (by simp [tokOK, labelOK]) (ihb hwf.2 3)
    simpa using this

/-! ## the malformed streams of finding C15-F4 (an operator before or after an expression, `|` after it) are readable too -/

theorem readable_snoc (e : TyExpr) (hwf : e.wf = true) (m : Tok) (hm : tokOK m = true) :
    toksOK (e.toks ++ [m]) = true ∧ chainOK (e.toks ++ [m]) = true := by
  have g := toksAt_good e hwf 0
  exact ⟨by simp [TyExpr.toks, toksOK_append, toksOK, g.ok, hm], chainOK_seam g.chain rfl (.inl g.last)⟩

theorem readable_cons (e : TyExpr) (hwf : e.wf = true) (w : Str) (hw : goodOp w = true) :
    toksOK (.node (.op w) [] :: e.toks) = true ∧ chainOK (.node (.op w) [] :: e.toks) = true := by
  have g := toksAt_good e hwf 0
  exact ⟨by simp [TyExpr.toks, toksOK, tokOK, labelOK, hw, g.ok],
    chainOK_seam (x := [_]) rfl g.chain (.inr g.head)⟩

end PS.C15
