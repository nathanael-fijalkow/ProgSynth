/-
  `UCFG.from_CFG` (u_cfg.py:255-268): the unambiguous grammar built from a deterministic CFG has
  the same rules (each with a single alternative), hence exactly one derivation per derivable
  term, none otherwise: it is unambiguous and has the language of the CFG.

  Hypotheses `hk`, `hr`: the rule tables have distinct keys (always true of a Python dict).
-/
import PS.Proofs.Ucfg
namespace PS.U.FromCfg
open PS PS.G PS.U

variable {S : Type} [DecidableEq S]

def toU (nt : NT S Unit) : UNT S := (nt.1, nt.2.1)

omit [DecidableEq S] in
theorem toU_injective {a b : NT S Unit} (h : toU a = toU b) : a = b := by
  obtain ⟨t, s, u⟩ := a
  obtain ⟨t', s', u'⟩ := b
  simp only [toU, Prod.mk.injEq] at h
  cases u; cases u'
  rw [h.1, h.2]

theorem rules_fromCFG (G : TT S Unit) (hk : (AList.keys G.rules).Nodup)
    (hr : ∀ e ∈ G.rules, (AList.keys e.2).Nodup) :
    (fromCFG G).rules = G.rules.map fun e => (toU e.1, e.2.map fun r => (r.1, [r.2.1])) := by
  have hnd : (G.rules.map fun e : NT S Unit × _ => toU e.1).Nodup := by
    have := nodup_map_of_inj (toU (S := S)) (fun _ _ => toU_injective) hk
    rwa [AList.keys, List.map_map] at this
  show G.rules.foldl (fun acc e => AList.insert (toU e.1) (e.2.foldl (fun d r => AList.insert r.1 [r.2.1] d) []) acc) [] = _
  rw [AList.foldl_insert_eq_map (fun e : NT S Unit × _ => toU e.1) _ hnd]
  exact List.map_congr_left fun e he => by
    rw [AList.foldl_insert_eq_map (fun r : Sym × List (Ty × S) × Unit => r.1) (fun r => [r.2.1]) (hr e he)]

theorem lookup_fromCFG (G : TT S Unit) (hk : (AList.keys G.rules).Nodup)
    (hr : ∀ e ∈ G.rules, (AList.keys e.2).Nodup) (nt : NT S Unit) :
    AList.lookup (toU nt) (fromCFG G).rules =
      (AList.lookup nt G.rules).map (fun rs => rs.map (fun r => (r.1, [r.2.1]))) := by
  rw [rules_fromCFG G hk hr, ← AList.lookup_map_val (fun _ rs => rs.map fun r => (r.1, [r.2.1])) nt G.rules,
    ← AList.lookup_map_key toU (fun _ _ => toU_injective) nt, List.map_map]
  rfl

theorem alts_fromCFG (G : TT S Unit) (hk : (AList.keys G.rules).Nodup)
    (hr : ∀ e ∈ G.rules, (AList.keys e.2).Nodup) (nt : NT S Unit) (f : Sym) :
    (fromCFG G).alts? (toU nt) f = (G.rule? nt f).map (fun r => [r.1]) := by
  unfold UCFG.alts? TT.rule?
  rw [lookup_fromCFG G hk hr]
  cases AList.lookup nt G.rules with
  | none => rfl
  | some rs => exact AList.lookup_map_val (fun _ r => [r.1]) f rs

theorem derivs_fromCFG_length (G : TT S Unit) (hk : (AList.keys G.rules).Nodup)
    (hr : ∀ e ∈ G.rules, (AList.keys e.2).Nodup) :
    (∀ (t : Prog) (nt : NT S Unit),
      (derivs (fromCFG G) t (toU nt)).length = if gen G t nt = true then 1 else 0) ∧
    ∀ (ks : List Prog) (args : List (Ty × S)),
      (derivsList (fromCFG G) ks args).length = if genList G ks args = true then 1 else 0 := by
  refine Tree.ind₂ (fun f kids ih nt => ?_) (fun args => ?_) (fun k ks ih1 ih2 args => ?_)
  · rw [derivs, gen, alts_fromCFG G hk hr]
    cases h : G.rule? nt f with
    | none => simp
    | some r =>
      simp only [Option.map_some, List.flatMap_cons, List.flatMap_nil, List.append_nil,
        List.length_map]
      exact ih r.1
  · cases args <;> simp [derivsList, genList]
  · cases args with
    | nil => simp [derivsList, genList]
    | cons a as =>
      rw [derivsList, genList, length_flatMap_const, ih2 as,
        show (derivs (fromCFG G) k a).length = _ from ih1 (a.1, (a.2, ()))]
      cases gen G k (a.1, (a.2, ())) <;> cases genList G ks as <;> rfl

theorem allDerivs_fromCFG_length (G : TT S Unit) (hk : (AList.keys G.rules).Nodup)
    (hr : ∀ e ∈ G.rules, (AList.keys e.2).Nodup) (t : Prog) :
    (allDerivs (fromCFG G) t).length = if gen G t G.start = true then 1 else 0 := by
  rw [length_allDerivs]
  show ([toU G.start].map _).sum = _
  simp only [List.map_cons, List.map_nil, List.sum_cons, List.sum_nil, Nat.add_zero]
  exact (derivs_fromCFG_length G hk hr).1 t G.start

theorem fromCFG_unambiguous (G : TT S Unit) (hk : (AList.keys G.rules).Nodup)
    (hr : ∀ e ∈ G.rules, (AList.keys e.2).Nodup) (t : Prog) :
    unambiguousOn (fromCFG G) t = true := by
  unfold unambiguousOn
  rw [allDerivs_fromCFG_length G hk hr t]
  split <;> simp

theorem genU_fromCFG (G : TT S Unit) (hk : (AList.keys G.rules).Nodup)
    (hr : ∀ e ∈ G.rules, (AList.keys e.2).Nodup) (t : Prog) :
    genU (fromCFG G) t = gen G t G.start :=
  genU_of_length (allDerivs_fromCFG_length G hk hr t)

end PS.U.FromCfg
