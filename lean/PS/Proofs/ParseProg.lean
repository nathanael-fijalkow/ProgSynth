/-
  C15 — the program parser: `parse_stack` rebuilds an applicative term from
  its leaves (in print order) and the per-word call counts computed by the bookkeeping loop.
-/
import PS.Model.Parse
import PS.Proofs.Strip
import PS.Proofs.Tree
namespace PS.C15
open PS

mutual
  /-- the words of the printed program, as leaf programs, in print order -/
  def leaves : Prog → List Prog
    | .node .app ks => leavesL ks
    | .node l ks => [.node l ks]
  def leavesL : List Prog → List Prog
    | [] => []
    | t :: ts => leaves t ++ leavesL ts
end

mutual
  /-- `function_calls`: for every word, the number of arguments written after it inside its
      own parentheses (0 for a word that is not the head of a call) -/
  def calls : Prog → List Nat
    | .node .app [] => []
    | .node .app (_ :: args) => args.length :: callsL args
    | .node _ _ => [0]
  def callsL : List Prog → List Nat
    | [] => []
    | t :: ts => calls t ++ callsL ts
end

theorem leaves_leaf {l : PL} (hl : l ≠ .app) (ks : List Prog) : leaves (.node l ks) = [.node l ks] := by
  cases l <;> first | rfl | exact absurd rfl hl

theorem calls_leaf {l : PL} (hl : l ≠ .app) (ks : List Prog) : calls (.node l ks) = [0] := by
  cases l <;> first | rfl | exact absurd rfl hl

theorem isLeaf_leaves {f : Prog} (h : isLeaf f = true) : leaves f = [f] := by
  obtain ⟨l, ks⟩ := f
  exact leaves_leaf (fun e => by subst e; cases h) ks

theorem isLeaf_not_app {f : Prog} (h : isLeaf f = true) : ∀ ks, f ≠ .node .app ks := by
  intro ks hf; subst hf; simp [isLeaf] at h

theorem goodProg_app {dsl : Dsl} {tr : TyO} {consts : Consts} {ks : List Prog}
    (h : goodProg dsl tr consts (.node .app ks) = true) :
    ∃ f a as, ks = f :: a :: as ∧ isLeaf f = true ∧
      (a :: as).length ≤ (arguments (progType f)).length ∧
      goodProg dsl tr consts f = true ∧ goodProgs dsl tr consts (a :: as) = true := by
  match ks, h with
  | [], h => simp [goodProg] at h
  | [_], h => simp [goodProg] at h
  | f :: a :: as, h =>
    simp only [goodProg, goodProgs, Bool.and_eq_true, decide_eq_true_eq] at h
    exact ⟨f, a, as, rfl, h.1.1, h.1.2, h.2.1, by simp [goodProgs, h.2.2.1, h.2.2.2]⟩

theorem goodProgs_cons {dsl : Dsl} {tr : TyO} {consts : Consts} {a : Prog} {as : List Prog}
    (h : goodProgs dsl tr consts (a :: as) = true) :
    goodProg dsl tr consts a = true ∧ goodProgs dsl tr consts as = true := by
  simpa [goodProgs] using h

theorem goodProg_leaf {dsl : Dsl} {tr : TyO} {consts : Consts} {l : PL} {ks : List Prog}
    (hl : l ≠ .app) (h : goodProg dsl tr consts (.node l ks) = true) :
    ks = [] ∧ goodLeaf dsl tr consts l = true := by
  cases l <;> first | exact absurd rfl hl | simpa [goodProg] using h

theorem leaves_ne_nil {dsl : Dsl} {tr : TyO} {consts : Consts} (t : Prog)
    (h : goodProg dsl tr consts t = true) : leaves t ≠ [] := by
  obtain ⟨l, ks⟩ := t
  cases l with
  | app =>
    obtain ⟨f, a, as, rfl, hf, _, _, _⟩ := goodProg_app h
    simp [leaves, leavesL, isLeaf_leaves hf]
  | _ => simp [leaves]

theorem tyArguments_not_arrow (fuel : Nat) {t : TyO} (h : isArrow t = false) :
    tyArguments fuel t = [] := by
  obtain ⟨l, ks⟩ := t
  cases l <;> first | (cases fuel <;> rfl) | cases h

theorem arguments_isArrow {t : TyO} (h : 0 < (arguments t).length) : isArrow t = true := by
  cases hi : isArrow t with
  | true => rfl
  | false => rw [arguments, tyArguments_not_arrow _ hi] at h; exact absurd h (Nat.lt_irrefl 0)

/-- the result of reading one operand: the term, and — unless the operand was the very last
    word, which `parse_stack` returns without removing it — exactly the remaining words -/
def StackOk (t : Prog) (fuel : Nat) (L : List Prog) (C : List Nat) : Prop :=
  ∃ L' C', parseStack fuel (leaves t ++ L) (calls t ++ C) = .ok (t, L', C') ∧ (L ≠ [] → L' = L ∧ C' = C)

def ArgsOk (ts : List Prog) (fuel : Nat) (L : List Prog) (C : List Nat) : Prop :=
  ∃ L' C', parseStack.args fuel ts.length (leavesL ts ++ L) (callsL ts ++ C) = .ok (ts, L', C') ∧
    (L ≠ [] → L' = L ∧ C' = C)

theorem stack_leaf {dsl : Dsl} {tr : TyO} {consts : Consts} {l : PL} {ks : List Prog} (hl : l ≠ .app)
    (hg : goodProg dsl tr consts (.node l ks) = true) (fuel : Nat) (L : List Prog) (C : List Nat)
    (hd : Tree.depth (.node l ks) ≤ fuel) : StackOk (.node l ks) fuel L C := by
  obtain ⟨rfl, _⟩ := goodProg_leaf hl hg
  unfold StackOk
  rw [leaves_leaf hl, calls_leaf hl]
  cases fuel with
  | zero => simp [Tree.depth] at hd
  | succ fuel =>
    cases L with
    | nil => exact ⟨[.node l []], 0 :: C, by simp [parseStack], by simp⟩
    | cons x L2 => exact ⟨x :: L2, C, by simp [parseStack], by simp⟩

theorem parseStack_call {fuel n : Nat} {f x : Prog} {xs : List Prog} {cs : List Nat}
    (harrow : isArrow (progType f) = true) (hn : 0 < n) :
    parseStack (fuel + 1) (f :: x :: xs) (n :: cs) =
      match parseStack.args fuel ((arguments (progType f)).take n).length (x :: xs) cs with
      | .error e => .error e
      | .ok (as, l, fcs) => .ok (mkFunction f as, l, fcs) := by
  rw [parseStack]
  · simp only [harrow, hn, and_self, if_true]; rfl
  · intro h; cases h

theorem args_ok_of {dsl : Dsl} {tr : TyO} {consts : Consts} (ts : List Prog)
    (ih : ∀ t ∈ ts, goodProg dsl tr consts t = true → ∀ fuel L C, Tree.depth t ≤ fuel → StackOk t fuel L C)
    (h : goodProgs dsl tr consts ts = true) (fuel : Nat) (L : List Prog) (C : List Nat)
    (hd : Tree.depthList ts ≤ fuel) : ArgsOk ts fuel L C := by
  induction ts with
  | nil => exact ⟨L, C, by simp [leavesL, callsL, parseStack.args], fun _ => ⟨rfl, rfl⟩⟩
  | cons a as ihas =>
    obtain ⟨hga, hgas⟩ := goodProgs_cons h
    obtain ⟨L1, C1, h1, hex1⟩ := ih a List.mem_cons_self hga fuel (leavesL as ++ L) (callsL as ++ C)
      (Nat.le_trans (Nat.le_max_left _ _) hd)
    have ihas := ihas (fun t ht => ih t (List.mem_cons_of_mem _ ht)) hgas (Nat.le_trans (Nat.le_max_right _ _) hd)
    cases as with
    | nil =>
      refine ⟨L1, C1, ?_, ?_⟩
      · simp only [leavesL, callsL, List.length_cons, List.length_nil, List.append_assoc] at h1 ⊢
        rw [parseStack.args, h1]
        simp [parseStack.args]
      · intro hL
        exact hex1 (by simpa [leavesL] using hL)
    | cons b bs =>
      have hne : leavesL (b :: bs) ++ L ≠ [] := by
        have := leaves_ne_nil b (goodProgs_cons hgas).1
        simp [leavesL, this]
      obtain ⟨e1, e2⟩ := hex1 hne
      subst e1; subst e2
      obtain ⟨L2, C2, h2, hex2⟩ := ihas
      refine ⟨L2, C2, ?_, hex2⟩
      have e : leavesL (a :: b :: bs) ++ L = leaves a ++ (leavesL (b :: bs) ++ L) := by
        simp [leavesL, List.append_assoc]
      have e' : callsL (a :: b :: bs) ++ C = calls a ++ (callsL (b :: bs) ++ C) := by
        simp [callsL, List.append_assoc]
      rw [e, e', List.length_cons, parseStack.args, h1]
      simp only [h2]

theorem stack_ok (dsl : Dsl) (tr : TyO) (consts : Consts) :
    (t : Prog) → goodProg dsl tr consts t = true → ∀ fuel L C, Tree.depth t ≤ fuel → StackOk t fuel L C := by
  refine Tree.ind fun l ks ih h fuel L C hd => ?_
  by_cases hl : l = .app
  · subst hl
    obtain ⟨f, a, as, rfl, hf, hlen, _, hgs⟩ := goodProg_app h
    cases fuel with
    | zero => simp [Tree.depth] at hd
    | succ fuel =>
      have hd2 : Tree.depthList (a :: as) ≤ fuel := Nat.le_trans (Nat.le_max_right f.depth _)
        (Nat.le_of_add_le_add_left (Nat.add_comm fuel 1 ▸ hd : 1 + Tree.depthList (f :: a :: as) ≤ 1 + fuel))
      obtain ⟨L', C', hargs, hex⟩ :=
        args_ok_of (a :: as) (fun t ht => ih t (List.mem_cons_of_mem _ ht)) hgs fuel L C hd2
      refine ⟨L', C', ?_, hex⟩
      -- the first argument has at least one word
      obtain ⟨x, xs, hx⟩ : ∃ x xs, leavesL (a :: as) ++ L = x :: xs := by
        cases hl : leaves a with
        | nil => exact absurd hl (leaves_ne_nil a (goodProgs_cons hgs).1)
        | cons x xs => exact ⟨x, xs ++ (leavesL as ++ L), by simp [leavesL, hl]⟩
      rw [leaves, leavesL, isLeaf_leaves hf, calls, List.singleton_append, List.cons_append,
        List.cons_append, hx,
        parseStack_call (arguments_isArrow (Nat.lt_of_lt_of_le (by simp) hlen)) (by simp),
        List.length_take_of_le hlen, ← hx, hargs]
      rfl
  · exact stack_leaf hl h fuel L C hd

theorem args_ok (dsl : Dsl) (tr : TyO) (consts : Consts) :
    (ts : List Prog) → goodProgs dsl tr consts ts = true → ∀ fuel L C, Tree.depthList ts ≤ fuel → ArgsOk ts fuel L C :=
  fun ts => args_ok_of ts fun t _ => stack_ok dsl tr consts t

/-! ## single words -/

theorem parseNat_showNat (k : Nat) : parseNat (showNat k) = some k := by
  unfold parseNat showNat
  rw [Nat.toList_repr]
  have h1 : Nat.toDigits 10 k ≠ [] := Nat.toDigits_ne_nil
  have h2 : (Nat.toDigits 10 k).all Char.isDigit = true := by
    rw [List.all_eq_true]
    intro c hc
    exact Nat.isDigit_of_mem_toDigits (by decide) (by decide) hc
  simp [h1, h2]

theorem goodWord_ne_nil {w : Str} (h : goodWord w = true) : w ≠ [] := by
  intro e; subst e; simp [goodWord] at h

theorem goodWord_not_paren {w : Str} (h : goodWord w = true) : ∀ x ∈ w, isParen x = false := by
  intro x hx
  simp only [goodWord, Bool.and_eq_true, List.all_eq_true] at h
  have := h.2 x hx
  simp only [bne_iff_ne, ne_eq] at this
  simp [isParen, this.1.2, this.2]

theorem strip_word (o c w : Str) (ho : ∀ x ∈ o, isParen x = true) (hc : ∀ x ∈ c, isParen x = true)
    (hw : goodWord w = true) : stripParens (o ++ w ++ c) = w := by
  have hnp := goodWord_not_paren hw
  have hne := goodWord_ne_nil hw
  exact stripBy_mid ho hc (starts_of_all hne hnp) (ends_of_all hne hnp)

/-- through `String.toList_ofList`: evaluating `VAR` itself would decode the literal's UTF-8 bytes -/
theorem VAR_eq : VAR = ['v', 'a', 'r'] := by unfold VAR; rw [String.toList_ofList]

theorem showNat_goodWord (k : Nat) : goodWord (VAR ++ showNat k) = true := by
  unfold goodWord showNat
  rw [Nat.toList_repr]
  simp only [List.all_append, Bool.and_eq_true, Bool.not_eq_true']
  refine ⟨by simp [VAR_eq], by rw [VAR_eq]; decide, ?_⟩
  rw [List.all_eq_true]
  intro c hc
  have hd : c.isDigit = true := Nat.isDigit_of_mem_toDigits (by decide) (by decide) hc
  simp [ne_of_isDigit hd (x := ' ') (by decide), ne_of_isDigit hd (x := '(') (by decide),
    ne_of_isDigit hd (x := ')') (by decide)]

def leafWord : PL → Str
  | .prim n _ => n
  | .var k _ => VAR ++ showNat k
  | .const _ v _ => v
  | .app => []

theorem leafWord_good {dsl : Dsl} {tr : TyO} {consts : Consts} {l : PL}
    (h : goodLeaf dsl tr consts l = true) : goodWord (leafWord l) = true := by
  cases l with
  | prim n ty => simp [goodLeaf] at h; exact h.1
  | var k ty => exact showNat_goodWord k
  | const ty v hv => simp [goodLeaf] at h; exact h.1.1.1.2
  | app => simp [goodLeaf] at h

theorem parseAtom_leaf (dsl : Dsl) (tr : TyO) (consts : Consts) (l : PL) (o c : Str)
    (ho : ∀ x ∈ o, isParen x = true) (hc : ∀ x ∈ c, isParen x = true)
    (h : goodLeaf dsl tr consts l = true) :
    parseAtom dsl tr consts (o ++ leafWord l ++ c) = .ok (.node l []) := by
  unfold parseAtom
  simp only [strip_word o c _ ho hc (leafWord_good h)]
  cases l with
  | prim n ty =>
    simp only [goodLeaf, Bool.and_eq_true, beq_iff_eq] at h
    simp [leafWord, h.2]
  | var k ty =>
    simp only [goodLeaf, Bool.and_eq_true, Option.isNone_iff_eq_none] at h
    have hp : VAR.isPrefixOf (VAR ++ showNat k) = true := List.isPrefixOf_iff_prefix.mpr (List.prefix_append _ _)
    have hd : (VAR ++ showNat k).drop 3 = showNat k := by simp [VAR_eq]
    simp only [leafWord, h.2, hp, hd, parseNat_showNat, if_true]
    by_cases ha : isArrow tr = true
    · simp only [ha, if_true] at h ⊢
      have := h.1
      simp only [beq_iff_eq] at this
      simp [this]
    · simp only [ha] at h ⊢
      have := h.1
      simp at this
      simp [this]
  | const ty v hv =>
    simp only [goodLeaf, Bool.and_eq_true, Option.isNone_iff_eq_none, Bool.not_eq_true',
      beq_iff_eq] at h
    obtain ⟨⟨⟨⟨h1, _⟩, h3⟩, h4⟩, h5⟩ := h
    simp [leafWord, h3, h4, h5, h1]
  | app => simp [goodLeaf] at h

end PS.C15
