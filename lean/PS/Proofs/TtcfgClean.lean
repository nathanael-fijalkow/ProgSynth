/-
  C13: clean tables.
  * `clean` only removes rules: whatever its result derives, the original table derives.
  * the verified checker `closedOK`: in a table accepted by it every derivation that can be
    started can be completed - stated on the explicit machine of partial derivations
    (pending stack of argument slots + threaded state), which is what `TTCFG.derive` runs.
  That machine (`Step`, `Steps`, with `steps_of_run`) is defined here and is the one TtcfgNoRepair.lean
  speaks of.  What `clean` returns is `restrict G nr'` for the marks `nr'` of the last pass (`clean_eq_ok`); the
  `restrict_*` lemmas say what the rules of a restricted table are, for every set of marks.
-/
import PS.Proofs.TtcfgCert
namespace PS.T
open PS PS.G

variable {S T : Type} [DecidableEq S] [DecidableEq T]

theorem rule_mem_row (G : TT S T) (rule : NT S T) (P : Sym) (val : List (Ty × S) × T)
    (h : G.rule? rule P = some val) : ∃ row, AList.lookup rule G.rules = some row ∧ (P, val) ∈ row := by
  obtain ⟨row, hl, h⟩ := TT.rule?_eq_some.mp h
  exact ⟨row, hl, AList.lookup_some_mem h⟩

theorem restrict_mem (G : TT S T) (nr : Marks S T) (e : NT S T × Row S T) (he : e ∈ (restrict G nr).rules) :
    ∃ l, (e.1, l) ∈ nr ∧ e.2 = l.filterMap (fun P => match G.rule? e.1 P with
      | some v => some (P, v)
      | none => none) := by
  simp only [restrict, List.mem_map] at he
  obtain ⟨e0, he0, rfl⟩ := he
  exact ⟨e0.2, he0, rfl⟩

theorem keys_restrict (G : TT S T) (nr : Marks S T) : AList.keys (restrict G nr).rules = AList.keys nr := by
  simp [restrict, AList.keys, Function.comp_def]

theorem restrict_row (G : TT S T) (nr : Marks S T) (e : NT S T × Row S T) (he : e ∈ (restrict G nr).rules)
    (r : Sym × List (Ty × S) × T) (hr : r ∈ e.2) : G.rule? e.1 r.1 = some r.2 := by
  obtain ⟨l, _, hrow⟩ := restrict_mem G nr e he
  rw [hrow, List.mem_filterMap] at hr
  obtain ⟨P, _, hP⟩ := hr
  cases hrl : G.rule? e.1 P with
  | none => simp [hrl] at hP
  | some v =>
    simp only [hrl, Option.some.injEq] at hP
    subst hP
    exact hrl

theorem restrict_all (G : TT S T) (nr : Marks S T) (p : NT S T → Sym × List (Ty × S) × T → Bool)
    (h : G.rules.all (fun e => e.2.all (p e.1)) = true) : (restrict G nr).rules.all (fun e => e.2.all (p e.1)) = true := by
  rw [List.all_eq_true]
  intro e he
  rw [List.all_eq_true]
  exact fun r hr => TT.rule?_of_all (p := fun nt P val => p nt (P, val)) h (restrict_row G nr e he r hr)

theorem rule_restrict (G : TT S T) (nr : Marks S T) (nt : NT S T) (P : Sym) (val : List (Ty × S) × T)
    (h : (restrict G nr).rule? nt P = some val) : G.rule? nt P = some val := by
  obtain ⟨row, h1, h2⟩ := rule_mem_row (restrict G nr) nt P val h
  exact restrict_row G nr (nt, row) (AList.lookup_some_mem h1) (P, val) h2

theorem clean_eq_ok {G G' : TT S T} {fuel : Nat} : clean G fuel = .ok G' ↔
    ∃ nr nr', reachLoop G fuel [(G.start, [])] [] = .ok nr ∧ passes G fuel fuel nr = .ok nr' ∧ G' = restrict G nr' := by
  unfold clean
  cases reachLoop G fuel [(G.start, [])] [] with
  | ok nr =>
    dsimp only
    cases hp : passes G fuel fuel nr <;> simp [hp, eq_comm]
  | fuel => simp
  | keyError => simp

theorem clean_sound (G G' : TT S T) (fuel : Nat) (h : clean G fuel = .ok G') (t : Prog) (slot : Ty × S) (v w : T)
    (hr : run G'.rule? t slot v = some w) : run G.rule? t slot v = some w := by
  obtain ⟨_, nr', _, _, rfl⟩ := clean_eq_ok.mp h
  exact run_mono _ _ (rule_restrict G nr') t slot v w hr

theorem clean_start (G G' : TT S T) (fuel : Nat) (h : clean G fuel = .ok G') : G'.start = G.start := by
  obtain ⟨_, _, _, _, rfl⟩ := clean_eq_ok.mp h
  rfl

/-- a configuration: the pending argument slots (the first one is being derived next) and the
    state reached -/
abbrev Config (S T : Type) := List (Ty × S) × T

/-- one derivation step: `TTCFG.derive` at the non-terminal made of the first pending slot and
    the current state -/
inductive Step (G : TT S T) : Config S T → Config S T → Prop where
  | mk (a : Ty × S) (stk : List (Ty × S)) (v : T) (P : Sym) (args : List (Ty × S)) (st : T) :
      G.rule? (a.1, (a.2, v)) P = some (args, st) → Step G (a :: stk, v) (args ++ stk, st)

inductive Steps (G : TT S T) : Config S T → Config S T → Prop where
  | refl (c : Config S T) : Steps G c c
  | cons (c d e : Config S T) : Step G c d → Steps G d e → Steps G c e

theorem Steps.trans {G : TT S T} {c d e : Config S T} (h1 : Steps G c d) (h2 : Steps G d e) : Steps G c e := by
  induction h1 with
  | refl _ => exact h2
  | cons c d' _ hs _ ih => exact Steps.cons c d' e hs (ih h2)

theorem steps_of_run (G : TT S T) :
    (∀ (t : Prog) (a : Ty × S) (v w : T) (stk : List (Ty × S)),
      run G.rule? t a v = some w → Steps G (a :: stk, v) (stk, w)) ∧
    (∀ (ks : List Prog) (args : List (Ty × S)) (v w : T) (stk : List (Ty × S)),
      runList G.rule? ks args v = some w → Steps G (args ++ stk, v) (stk, w)) := by
  apply Tree.ind₂
  · intro f kids ih a v w stk hr
    obtain ⟨args, st, h1, hr⟩ := (run_eq_some _).mp hr
    exact Steps.cons _ _ _ (Step.mk a stk v f args st h1) (ih args st w stk hr)
  · intro args v w stk hr
    obtain ⟨rfl, rfl⟩ := (runList_nil_eq_some _).mp hr
    exact Steps.refl _
  · intro k ks iht ihl args v w stk hr
    obtain ⟨a, as, v1, rfl, h1, hr⟩ := (runList_cons_eq_some _).mp hr
    exact Steps.trans (iht a v v1 (as ++ stk) h1) (ihl as v1 w stk hr)

structure ClosedCert (G : TT S T) (outs : AList (NT S T) (List T)) (rk : AList (NT S T) Nat) : Prop where
  nodup : (AList.keys G.rules).Nodup
  start : AList.contains G.start G.rules = true
  rowKeys : ∀ e ∈ G.rules, (AList.keys e.2).Nodup
  notUnknown : ∀ e ∈ G.rules, e.1.1 ≠ Ty.unknown
  rowNe : ∀ e ∈ G.rules, e.2 ≠ []
  chainOk : ∀ e ∈ G.rules, ∀ r ∈ e.2,
    ChainOk (fun nt => AList.contains nt G.rules = true ∧ rankOf rk nt < rankOf rk e.1)
      (fun nt w => w ∈ outsOf outs nt) r.2.1 (· = r.2.2) (· ∈ outsOf outs e.1)

theorem closedCert_of_closedOK (G : TT S T) (outs : AList (NT S T) (List T)) (rk : AList (NT S T) Nat)
    (h : closedOK G outs rk = true) : ClosedCert G outs rk := by
  unfold closedOK at h
  simp only [Bool.and_eq_true, decide_eq_true_eq, List.all_eq_true] at h
  obtain ⟨⟨hnd, hstart⟩, hrows⟩ := h
  refine ⟨hnd, hstart, fun e he => (hrows e he).1.1.1, fun e he => (hrows e he).1.1.2,
    fun e he hn => by simpa [hn] using (hrows e he).1.2, fun e he r hr => ?_⟩
  have := (hrows e he).2 r hr
  cases hch : chain G outs [] (fun nt => decide (rankOf rk nt < rankOf rk e.1)) r.2.1 [r.2.2] with
  | none => simp [hch] at this
  | some V =>
    simp only [hch] at this
    exact (chainOk_of_chain _ _ _ hch).mono
      (fun nt h => have hc := h.1.elim id (fun h' => nomatch h'.2); ⟨hc, by simpa using h.2 hc⟩)
      (fun nt w hk hw => ⟨hk.1.elim id (fun h' => nomatch h'.2), hw⟩) _ _ _ _ _
      (fun v hv => List.mem_singleton.mpr hv) (fun v hv => by simpa using List.all_eq_true.mp this v hv)

theorem tableRows_fn (G : TT S T) : rowsFn (fun nt => (AList.lookup nt G.rules).getD []) = G.rule? := by
  funext nt P
  show AList.lookup P ((AList.lookup nt G.rules).getD []) = G.rule? nt P
  cases h : AList.lookup nt G.rules with
  | none => rw [TT.rule?_of_lookup_none h]; rfl
  | some row => rw [TT.rule?_of_lookup h]; rfl

/-- a language certificate of the table against itself -/
theorem subCert_of_closedCert (G : TT S T) (outs : AList (NT S T) (List T)) (rk : AList (NT S T) Nat)
    (C : ClosedCert G outs rk) : SubCert (fun nt => (AList.lookup nt G.rules).getD []) G outs [] := by
  have hlook : ∀ e ∈ G.rules, AList.lookup e.1 G.rules = some e.2 :=
    fun e he => AList.lookup_of_mem_nodup C.nodup he
  refine ⟨C.nodup, ?_, ?_, (by intro d hd; cases hd), (by intro d hd; cases hd), Or.inl C.start⟩
  · intro e he
    simp only [hlook e he, Option.getD_some]
    unfold rowSub
    rw [List.all_eq_true]
    intro r hr
    have := AList.lookup_of_mem_nodup (C.rowKeys e he) hr
    simp [this]
  · intro e he r hr
    simp only [hlook e he, Option.getD_some] at hr
    have := AList.lookup_of_mem_nodup (C.rowKeys e he) hr
    exact (C.chainOk e he r hr).mono (fun _ h => Or.inl h.1) (fun _ _ _ h => h.2) _ _ _ _ _ (fun _ h => h)
      (fun v hv => ⟨by rw [this]; rfl, hv⟩)

theorem closed_outs (G : TT S T) (outs : AList (NT S T) (List T)) (rk : AList (NT S T) Nat)
    (C : ClosedCert G outs rk) (t : Prog) (a : Ty × S) (v w : T)
    (hk : AList.contains (a.1, (a.2, v)) G.rules = true) (hr : run G.rule? t a v = some w) :
    w ∈ outsOf outs (a.1, (a.2, v)) := by
  have S := subCert_of_closedCert G outs rk C
  have := (cert_run _ G outs [] S).1 t a v w (by rw [tableRows_fn]; exact hr)
  exact (this.1 hk).2

omit [DecidableEq S] [DecidableEq T] in
theorem ChainOk.exists_run {ρ : RuleFn S T} {Ok : NT S T → Prop} {Kd : NT S T → T → Prop} :
    ∀ (info : List (Ty × S)) (P P' : T → Prop) (v : T), ChainOk Ok Kd info P P' → P v →
      (∀ nt, Ok nt → ∃ t w, run ρ t (nt.1, nt.2.1) nt.2.2 = some w ∧ Kd nt w) →
      ∃ ks w, runList ρ ks info v = some w ∧ P' w
  | [], _, _, v, h, hv, _ => ⟨[], v, (runList_nil_eq_some _).mpr ⟨rfl, rfl⟩, h v hv⟩
  | a :: as, _, _, v, ⟨Q, hQ, h⟩, hv, hOk => by
    obtain ⟨t, w0, hrun, hk⟩ := hOk _ (hQ v hv).1
    obtain ⟨ks, w, hks, hw⟩ := ChainOk.exists_run as Q _ w0 h ((hQ v hv).2 w0 hk) hOk
    exact ⟨t :: ks, w, (runList_cons_eq_some _).mpr ⟨a, as, w0, rfl, hrun, hks⟩, hw⟩

/-- `hp`, "every rule of `nt` derives a term", is a hypothesis so that the lemma serves inside the rank
    induction of `closed_productive`, where `hp` is the induction hypothesis, and after it (`closed_live`). -/
theorem ClosedCert.live_of {G : TT S T} {outs : AList (NT S T) (List T)} {rk : AList (NT S T) Nat}
    (C : ClosedCert G outs rk) {nt : NT S T} (hkey : AList.contains nt G.rules = true)
    (hp : ∀ row, (nt, row) ∈ G.rules → ∀ r ∈ row, ∃ kids w, run G.rule? (.node r.1 kids) (nt.1, nt.2.1) nt.2.2 = some w) :
    ∃ t w, run G.rule? t (nt.1, nt.2.1) nt.2.2 = some w ∧ w ∈ outsOf outs nt := by
  obtain ⟨row, hrow⟩ := AList.contains_iff_lookup.mp hkey
  have hmem := AList.lookup_some_mem hrow
  cases row with
  | nil => exact absurd rfl (C.rowNe _ hmem)
  | cons r0 row' =>
    obtain ⟨kids0, w0, hrun0⟩ := hp _ hmem r0 (List.mem_cons_self ..)
    exact ⟨_, w0, hrun0, closed_outs G outs rk C _ (nt.1, nt.2.1) nt.2.2 w0 hkey hrun0⟩

theorem closed_productive (G : TT S T) (outs : AList (NT S T) (List T)) (rk : AList (NT S T) Nat)
    (C : ClosedCert G outs rk) : ∀ n : Nat, ∀ e ∈ G.rules, rankOf rk e.1 ≤ n → ∀ r ∈ e.2,
      ∃ (kids : List Prog) (w : T), run G.rule? (.node r.1 kids) (e.1.1, e.1.2.1) e.1.2.2 = some w := by
  intro n
  induction n using Nat.strongRecOn with
  | _ n ih =>
    intro e he hrk r hr
    -- the non-terminals on the chain of the rule have a smaller rank
    obtain ⟨ks, w, hks, _⟩ := (C.chainOk e he r hr).exists_run (ρ := G.rule?) _ _ _ r.2.2 rfl
      (fun nt ⟨hkey, hlt⟩ => C.live_of hkey (fun row hm => ih (rankOf rk nt) (by omega) (nt, row) hm (Nat.le_refl _)))
    exact ⟨ks, w, (run_eq_some _).mpr ⟨r.2.1, r.2.2, TT.rule?_eq_some.mpr
      ⟨e.2, AList.lookup_of_mem_nodup C.nodup he, AList.lookup_of_mem_nodup (C.rowKeys e he) hr⟩, hks⟩⟩

theorem closed_live (G : TT S T) (outs : AList (NT S T) (List T)) (rk : AList (NT S T) Nat) (C : ClosedCert G outs rk)
    (nt : NT S T) (hkey : AList.contains nt G.rules = true) :
    ∃ t w, run G.rule? t (nt.1, nt.2.1) nt.2.2 = some w ∧ w ∈ outsOf outs nt :=
  C.live_of hkey (fun row hm => closed_productive G outs rk C _ (nt, row) hm (Nat.le_refl _))

/-- the pending slots can all be entered, whatever state the previous ones end in -/
def Good (G : TT S T) (outs : AList (NT S T) (List T)) (c : Config S T) : Prop :=
  ChainOk (fun nt => AList.contains nt G.rules = true) (fun nt w => w ∈ outsOf outs nt) c.1 (· = c.2) (fun _ => True)

theorem good_step (G : TT S T) (outs : AList (NT S T) (List T)) (rk : AList (NT S T) Nat) (C : ClosedCert G outs rk)
    (c d : Config S T) (hg : Good G outs c) (hs : Step G c d) : Good G outs d := by
  cases hs with
  | mk a stk v P args st hrule =>
    obtain ⟨Q, hQ, hrest⟩ := hg
    -- the rule is a rule of a key: its chain ends in the outcomes of the key, from which the rest can be entered
    obtain ⟨row, hrow, hrule⟩ := TT.rule?_eq_some.mp hrule
    exact ChainOk.append args stk _ _ _
      ((C.chainOk _ (AList.lookup_some_mem hrow) _ (AList.lookup_some_mem hrule)).mono (fun _ h => h.1)
        (fun _ _ _ h => h) _ _ _ _ _ (fun _ h => h) (fun w hw => (hQ v rfl).2 w hw)) hrest

theorem good_steps (G : TT S T) (outs : AList (NT S T) (List T)) (rk : AList (NT S T) Nat) (C : ClosedCert G outs rk)
    (c d : Config S T) (hs : Steps G c d) : Good G outs c → Good G outs d := by
  induction hs with
  | refl _ => exact id
  | cons c d' _ h1 _ ih => exact fun hg => ih (good_step G outs rk C c d' hg h1)

theorem good_complete (G : TT S T) (outs : AList (NT S T) (List T)) (rk : AList (NT S T) Nat) (C : ClosedCert G outs rk)
    (stk : List (Ty × S)) (v : T) (hg : Good G outs (stk, v)) : ∃ w, Steps G (stk, v) ([], w) := by
  obtain ⟨ks, w, hks, _⟩ := ChainOk.exists_run stk _ _ v hg rfl (closed_live G outs rk C)
  exact ⟨w, by simpa using (steps_of_run G).2 ks stk v w [] hks⟩

theorem closed_complete (G : TT S T) (outs : AList (NT S T) (List T)) (rk : AList (NT S T) Nat)
    (h : closedOK G outs rk = true) (c : Config S T)
    (hreach : Steps G ([(G.start.1, G.start.2.1)], G.start.2.2) c) : ∃ w, Steps G c ([], w) := by
  have C := closedCert_of_closedOK G outs rk h
  have hg0 : Good G outs ([(G.start.1, G.start.2.1)], G.start.2.2) :=
    ⟨fun _ => True, fun v hv => ⟨hv ▸ C.start, fun _ _ => trivial⟩, fun _ h => h⟩
  exact good_complete G outs rk C c.1 c.2 (good_steps G outs rk C _ c hreach hg0)

theorem clean_contains (G G' : TT S T) (fuel : Nat) (h : clean G fuel = .ok G') (t : Prog)
    (hin : PS.G.contains G' t = true) : PS.G.contains G t = true := by
  rw [contains_eq_inLang] at hin ⊢
  obtain ⟨w, hr⟩ := inLang_iff.mp hin
  rw [clean_start G G' fuel h] at hr
  exact inLang_iff.mpr ⟨w, clean_sound G G' fuel h t _ _ w hr⟩

end PS.T
