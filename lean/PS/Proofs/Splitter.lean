/- C08: all that the node splitting and the balancing loop do to the list of nodes is to permute it and to replace
   a node by its one-step extensions.  An invariant closed under these two (`SplitClosed`) holds of the groups of
   the whole pipeline; `IsCover` and `NodesOK` are such invariants. -/
import PS.Model.Splitter
import PS.Proofs.ListSum
namespace PS.Sp
open PS PS.G

variable {U : Type} [DecidableEq U]

structure WFp (pg : PUG U) : Prop where
  tags_keys : AList.keys pg.tags = AList.keys pg.g.rules
  rules_ok : ∀ S rs, (S, rs) ∈ pg.g.rules → S.1 ≠ Ty.unknown ∧ (AList.keys rs).Nodup ∧ (alts pg.g S).Nodup ∧
    ∀ r ∈ rs, ∀ args ∈ r.2, ∀ a ∈ args, a.1 ≠ Ty.unknown
  starts_nodup : pg.g.starts.Nodup
  starts_ok : ∀ s ∈ pg.g.starts, s ∈ AList.keys pg.startTags ∧ s.1 ≠ Ty.unknown
  stkeys_nodup : (AList.keys pg.startTags).Nodup
  stkeys_sub : ∀ s ∈ AList.keys pg.startTags, s ∈ pg.g.starts

theorem WF_sound {pg : PUG U} (h : WF pg = true) : WFp pg := by
  simp only [WF, wfRules, Bool.and_eq_true, List.all_eq_true, decide_eq_true_eq, bne_iff_ne, ne_eq,
    List.contains_iff_mem] at h
  obtain ⟨⟨⟨⟨⟨⟨h1, _⟩, h3⟩, h4⟩, h5⟩, h6⟩, h7⟩ := h
  refine ⟨h3, ?_, h7, ?_, h4, h6⟩
  · intro S rs hm
    obtain ⟨⟨⟨a, b⟩, c⟩, d⟩ := h1 (S, rs) hm
    refine ⟨a, b, c, ?_⟩
    intro r hr args ha x hx
    exact (d r hr).2 args ha x hx
  · intro s hs
    exact h5 s hs

theorem run_append (G : UG U) (w1 w2 : List (Step U)) (c : List (UNT U)) :
    run G c (w1 ++ w2) = (run G c w1).bind (fun c' => run G c' w2) := by
  fun_induction run G c w1 with
  | case1 => rfl
  | case2 => rfl
  | case3 S rest st w h ih => simp only [List.cons_append, run, h, and_self, if_true, ih]
  | case4 S rest st w h => simp only [List.cons_append, run, h, if_false, Option.bind_none]

theorem run_nil_config (G : UG U) (w : List (Step U)) (c : List (UNT U)) (h : run G [] w = some c) :
    w = [] ∧ c = [] := by
  cases w with
  | nil => simp [run] at h; exact ⟨rfl, h⟩
  | cons a b => simp [run] at h

theorem run_cons_complete (G : UG U) (S : UNT U) (rest : List (UNT U)) (w : List (Step U))
    (h : run G (S :: rest) w = some []) :
    ∃ P args w', w = (S, P, args) :: w' ∧ (P, args) ∈ alts G S ∧ run G (args ++ rest) w' = some [] := by
  cases w with
  | nil => cases h
  | cons st w' =>
    obtain ⟨S', P, args⟩ := st
    simp only [run] at h
    split at h
    · rename_i hc
      exact ⟨P, args, w', by rw [hc.1], hc.2, h⟩
    · cases h

theorem steps_child (pg : PUG U) (n : Node U) (P : Sym) (d : List (UNT U) × UNT U × List (UNT U))
    (h1 : n.program.length = n.history.length) (h2 : n.choices.length = n.history.length) :
    (child pg n P d).steps = n.steps ++ [(n.S, P, d.2.2)] := by
  simp only [Node.steps, child]
  rw [List.zip_append (by rw [h1, h2]), List.zip_append (by simp [h1, h2])]
  simp

theorem start_child (pg : PUG U) (n : Node U) (P : Sym) (d : List (UNT U) × UNT U × List (UNT U)) :
    (child pg n P d).start = n.start := by
  simp only [Node.start, child]
  cases n.history <;> simp

omit [DecidableEq U] in
/-- the stack after one more rule -/
theorem config_deriveOne (G : UG U) (info args : List (UNT U))
    (hi : ∀ x ∈ info, x.1 ≠ Ty.unknown) (ha : ∀ x ∈ args, x.1 ≠ Ty.unknown) :
    (if (deriveOne G info args).2.1 = Ty.unknown then [] else (deriveOne G info args).2 :: (deriveOne G info args).1)
      = args ++ info := by
  cases args with
  | cons a as => simp [deriveOne, ha a (by simp)]
  | nil =>
    cases info with
    | cons i is => simp [deriveOne, hi i (by simp)]
    | nil => simp [deriveOne]

theorem nodeSplit_eq {pg : PUG U} (hw : WFp pg) {n : Node U} {kids : List (Node U)}
    (h : nodeSplit pg n = (true, kids)) :
    (∃ rs, (n.S, rs) ∈ pg.g.rules) ∧
    kids = (alts pg.g n.S).map (fun pa => child pg n pa.1
      ((deriveOne pg.g n.info pa.2).1, (deriveOne pg.g n.info pa.2).2, pa.2)) := by
  unfold nodeSplit at h
  split at h
  · rename_i hc
    have hk : n.S ∈ AList.keys pg.g.rules := by
      rw [← hw.tags_keys]; exact AList.lookup_isSome_iff_mem_keys.mp hc
    have hl := AList.lookup_isSome_iff_mem_keys.mpr hk
    cases hlk : AList.lookup n.S pg.g.rules with
    | none => rw [hlk] at hl; cases hl
    | some rs =>
      have hmem := AList.lookup_some_mem hlk
      refine ⟨⟨rs, hmem⟩, ?_⟩
      rw [hlk] at h
      simp only [Prod.mk.injEq, true_and] at h
      rw [← h]
      have hnd := (hw.rules_ok _ _ hmem).2.1
      simp only [alts, hlk, List.map_flatMap, List.map_map]
      -- both sides are flatMaps over rs; compare the bodies on members
      have key : ∀ r ∈ rs, (derive pg.g n.info n.S r.1).map (child pg n r.1) =
          r.2.map ((fun pa : Sym × List (UNT U) => child pg n pa.1
            ((deriveOne pg.g n.info pa.2).1, (deriveOne pg.g n.info pa.2).2, pa.2)) ∘ fun a => (r.1, a)) := by
        intro r hr
        have : AList.lookup r.1 rs = some r.2 := AList.lookup_of_mem_nodup hnd (by cases r; exact hr)
        simp [derive, hlk, this, Function.comp_def]
      rw [List.flatMap_def, List.flatMap_def, List.map_congr_left key]
  · cases h

theorem mem_alts {G : UG U} {S : UNT U} {P : Sym} {a : List (UNT U)} :
    (P, a) ∈ alts G S ↔ ∃ r ∈ (AList.lookup S G.rules).getD [], r.1 = P ∧ a ∈ r.2 := by
  unfold alts
  cases AList.lookup S G.rules with
  | none => simp
  | some rs =>
    simp only [Option.getD_some, List.mem_flatMap, List.mem_map, Prod.mk.injEq]
    exact ⟨fun ⟨r, hr, _, ha', h1, h2⟩ => ⟨r, hr, h1, h2 ▸ ha'⟩, fun ⟨r, hr, h1, h2⟩ => ⟨r, hr, a, h2, h1, rfl⟩⟩

theorem config_of_rules {pg : PUG U} (hw : WFp pg) {n : Node U} {rs} (hm : (n.S, rs) ∈ pg.g.rules) :
    n.config = n.S :: n.info := by
  simp [Node.config, (hw.rules_ok _ _ hm).1]

theorem kids_valid {pg : PUG U} (hw : WFp pg) {n : Node U} {kids : List (Node U)}
    (hv : Valid pg.g n) (h : nodeSplit pg n = (true, kids)) : ∀ k ∈ kids, Valid pg.g k := by
  obtain ⟨⟨rs, hm⟩, hk⟩ := nodeSplit_eq hw h
  have hc := config_of_rules hw hm
  obtain ⟨v1, v2, v3, v4, v5⟩ := hv
  rw [hc] at v4 v5
  intro k hkm
  rw [hk] at hkm
  simp only [List.mem_map] at hkm
  obtain ⟨⟨P, args⟩, hpa, rfl⟩ := hkm
  obtain ⟨r, hr, _, hargs⟩ := mem_alts.mp hpa
  obtain ⟨rs', hl⟩ : ∃ rs', AList.lookup n.S pg.g.rules = some rs' := by
    cases hl : AList.lookup n.S pg.g.rules with
    | none => rw [hl] at hr; cases hr
    | some rs' => exact ⟨rs', rfl⟩
  rw [hl] at hr
  have hargsok : ∀ x ∈ args, x.1 ≠ Ty.unknown :=
    (hw.rules_ok _ _ (AList.lookup_some_mem hl)).2.2.2 r hr args hargs
  have hinfo : ∀ x ∈ n.info, x.1 ≠ Ty.unknown := fun x hx => v5 x (by simp [hx])
  have hcfg : (child pg n P ((deriveOne pg.g n.info args).1, (deriveOne pg.g n.info args).2, args)).config
      = args ++ n.info := by
    simp only [Node.config, child]
    exact config_deriveOne pg.g n.info args hinfo hargsok
  refine ⟨?_, ?_, ?_, ?_, ?_⟩
  · rw [start_child]; exact v1
  · simp [child, v2]
  · simp [child, v3]
  · rw [start_child, steps_child pg n P _ v2 v3, run_append, v4, hcfg]
    simp [run, hpa]
  · rw [hcfg]
    intro x hx
    rcases List.mem_append.mp hx with hx | hx
    · exact hargsok x hx
    · exact hinfo x hx

/-- the children of a node cover exactly the node's cell -/
theorem kids_count {pg : PUG U} (hw : WFp pg) {n : Node U} {kids : List (Node U)}
    (hv : Valid pg.g n) (h : nodeSplit pg n = (true, kids)) (s : UNT U) (w : List (Step U))
    (hd : Deriv pg.g s w) :
    kids.countP (fun k => decide (Matches k s w)) = if Matches n s w then 1 else 0 := by
  obtain ⟨⟨rs, hm⟩, hk⟩ := nodeSplit_eq hw h
  have hc := config_of_rules hw hm
  obtain ⟨v1, v2, v3, v4, v5⟩ := hv
  rw [hc] at v4
  rw [hk, List.countP_map]
  by_cases hmt : Matches n s w
  · rw [if_pos hmt]
    obtain ⟨hs, rem, hrem⟩ := hmt
    subst hrem
    have hrun := hd.2
    rw [← hs, run_append, v4] at hrun
    simp only [Option.bind_some] at hrun
    obtain ⟨P, args, w', rfl, hpa, _⟩ := run_cons_complete _ _ _ _ hrun
    have hcount : (alts pg.g n.S).count (P, args) = 1 := by
      rw [List.Nodup.count (hw.rules_ok _ _ hm).2.2.1]; simp [hpa]
    rw [← hcount, List.count_eq_countP]
    apply List.countP_congr
    intro pa _
    simp only [Function.comp, Matches, start_child, steps_child pg n pa.1 _ v2 v3, hs, true_and,
      decide_eq_true_eq, List.prefix_append_right_inj, List.cons_prefix_cons, List.nil_prefix, and_true,
      Prod.mk.injEq, beq_iff_eq]
    constructor
    · intro h; exact Prod.ext h.1 h.2
    · intro h; rw [h]; exact ⟨rfl, rfl⟩
  · rw [if_neg hmt]
    apply List.countP_eq_zero.mpr
    intro pa _
    simp only [Function.comp, decide_eq_true_eq]
    intro hk2
    apply hmt
    obtain ⟨h1, h2⟩ := hk2
    rw [start_child] at h1
    rw [steps_child pg n pa.1 _ v2 v3] at h2
    exact ⟨h1, List.IsPrefix.trans (List.prefix_append _ _) h2⟩

theorem cover_of_perm {G : UG U} {ns ns' : List (Node U)} (hp : ns.Perm ns') (h : IsCover G ns) :
    IsCover G ns' :=
  ⟨fun n hn => h.1 n (hp.mem_iff.mpr hn), fun s w hd => by rw [← hp.countP_eq]; exact h.2 s w hd⟩

/-- an invariant of node lists that permutations keep and that still holds when a node is replaced
    by its one-step extensions: all that the node splitting and the balancing loop ever do -/
structure SplitClosed (pg : PUG U) (I : List (Node U) → Prop) : Prop where
  perm : ∀ {a b : List (Node U)}, a.Perm b → I a → I b
  split : ∀ {ns kids : List (Node U)} {nd : Node U}, I (nd :: ns) → nodeSplit pg nd = (true, kids) → I (kids ++ ns)

theorem SplitClosed.replace {pg : PUG U} {I : List (Node U) → Prop} (hI : SplitClosed pg I)
    {ns ns' kids : List (Node U)} {nd : Node U} (h : I ns) (hnd : nd ∈ ns) (hs : nodeSplit pg nd = (true, kids))
    (hp : (nd :: ns').Perm (kids ++ ns)) : I ns' := by
  have he := List.perm_cons_erase hnd
  refine hI.perm ?_ (hI.split (hI.perm he h) hs)
  exact (hp.trans ((he.append_left kids).trans List.perm_middle)).cons_inv.symm

theorem cover_closed {pg : PUG U} (hw : WFp pg) : SplitClosed pg (IsCover pg.g) where
  perm := cover_of_perm
  split := by
    intro ns kids nd h hs
    have hv := h.1 nd List.mem_cons_self
    refine ⟨fun n hn => ?_, fun s w hd => ?_⟩
    · rcases List.mem_append.mp hn with h1 | h1
      · exact kids_valid hw hv hs n h1
      · exact h.1 n (List.mem_cons_of_mem _ h1)
    · have h1 := h.2 s w hd
      rw [List.countP_cons] at h1
      rw [List.countP_append, kids_count hw hv hs s w hd]
      rw [Nat.add_comm]
      simpa only [decide_eq_true_eq] using h1

omit [DecidableEq U] in
theorem perm_cons_eraseIdx {α : Type} : ∀ (l : List α) (i : Nat) (x : α), l[i]? = some x →
    l.Perm (x :: l.eraseIdx i)
  | [], _, _, h => by simp at h
  | a :: l, 0, x, h => by simp at h; subst h; simp
  | a :: l, i + 1, x, h => by
    simp at h
    have := perm_cons_eraseIdx l i x h
    simp only [List.eraseIdx_cons_succ]
    exact (List.Perm.cons a this).trans (List.Perm.swap x a _)

omit [DecidableEq U] in
/-- replacing the group `g` by `l'`, where `l'` with `a` is a rearrangement of `g` with `b` -/
theorem flat_set_perm {a b l' : List (Node U)} {m : Rat} {g : List (Node U) × Rat} : ∀ {pgs : PG U} {i : Nat},
    pgs[i]? = some g → (a ++ l').Perm (b ++ g.1) → (a ++ flat (pgs.set i (l', m))).Perm (b ++ flat pgs)
  | [], _, h, _ => by simp at h
  | x :: r, 0, h, hp => by
    simp only [List.getElem?_cons_zero, Option.some.injEq] at h; subst h
    simp only [flat, List.set_cons_zero, List.flatMap_cons, ← List.append_assoc]
    exact hp.append_right _
  | x :: r, i + 1, h, hp => by
    have ih := flat_set_perm (m := m) (pgs := r) (i := i) (by simpa using h) hp
    simp only [flat, List.set_cons_succ, List.flatMap_cons] at ih ⊢
    exact (List.perm_append_comm_assoc _ _ _).trans ((ih.append_left x.1).trans (List.perm_append_comm_assoc _ _ _))

omit [DecidableEq U] in
theorem mem_flat_of_getElem {pgs : PG U} {i : Nat} {g : List (Node U) × Rat} (h : pgs[i]? = some g)
    {n : Node U} (hn : n ∈ g.1) : n ∈ flat pgs := by
  simp only [flat, List.mem_flatMap]
  exact ⟨g, List.mem_of_getElem? h, hn⟩

omit [DecidableEq U] in
theorem insertByMass_perm (x : List (Node U) × Rat) : ∀ l : PG U, (insertByMass x l).Perm (x :: l)
  | [] => by simp [insertByMass]
  | y :: r => by
    simp only [insertByMass]
    split
    · exact (List.Perm.cons y (insertByMass_perm x r)).trans (List.Perm.swap x y r)
    · exact List.Perm.refl _

omit [DecidableEq U] in
theorem sortByMass_perm : ∀ l : PG U, (sortByMass l).Perm l
  | [] => by simp [sortByMass]
  | x :: r => by
    simp only [sortByMass, List.foldr_cons]
    exact (insertByMass_perm x _).trans (List.Perm.cons x (sortByMass_perm r))

omit [DecidableEq U] in
theorem flat_perm {a b : PG U} (h : a.Perm b) : (flat a).Perm (flat b) := List.Perm.flatMap_right _ h

omit [DecidableEq U] in
theorem moveNode_perm {pgs pgs' : PG U} {src idx dst : Nat} (h : moveNode pgs src idx dst = some pgs') :
    (flat pgs').Perm (flat pgs) := by
  revert h
  fun_cases moveNode pgs src idx dst with
  | case1 | case2 | case3 => exact nofun
  | case4 gs hgs nd hnd pgs1 gd hgd =>
    intro h; cases h
    -- the node leaves the group `src` …
    have p1 : (nd :: flat pgs1).Perm (flat pgs) :=
      flat_set_perm (a := [nd]) (b := []) hgs (perm_cons_eraseIdx gs.1 idx nd hnd).symm
    -- … and enters the group `dst`
    exact (flat_set_perm (a := []) (b := [nd]) hgd (List.perm_append_singleton nd gd.1)).trans p1

omit [DecidableEq U] in
theorem applySwap_perm {pgs pgs' : PG U} {gi j : Nat} {k : Option Nat} {l : Nat}
    (h : applySwap pgs gi j k l = some pgs') : (flat pgs').Perm (flat pgs) := by
  unfold applySwap at h
  split at h
  · cases h
  · rename_i pgs1 h1
    split at h
    · cases h
    · rename_i pgs2 h2
      cases h
      refine ((flat_perm (sortByMass_perm _)).trans (moveNode_perm h2)).trans ?_
      cases k with
      | none => cases h1; exact .refl _
      | some k => exact moveNode_perm h1

theorem trySplitLoop_spec (pg : PUG U) (ga : List (Node U)) (order : List Nat)
    (f i : Nat) (idx : Nat) (kids : List (Node U)) (h : trySplitLoop pg ga order f i = some (idx, kids)) :
    ∃ nd, ga[idx]? = some nd ∧ nodeSplit pg nd = (true, kids) := by
  fun_induction trySplitLoop pg ga order f i with
  | case5 _ _ _ _ _ nd hnd _ hs => cases h; exact ⟨nd, hnd, hs⟩
  | case6 _ _ _ _ _ _ _ _ _ _ ih => exact ih h
  | _ => cases h

section
variable {pg : PUG U} {I : List (Node U) → Prop}

theorem trySplit_inv (hI : SplitClosed pg I) {pgs pgs' : PG U} {gi : Nat}
    (h : trySplit pg pgs gi = some pgs') (hc : I (flat pgs)) : I (flat pgs') := by
  revert h
  fun_cases trySplit pg pgs gi with
  | case1 | case2 => exact nofun
  | case3 ga hga idx kids hl =>
    intro h; cases h
    obtain ⟨nd, hnd, hs⟩ := trySplitLoop_spec pg ga.1 _ _ _ _ _ hl
    refine hI.replace hc (mem_flat_of_getElem hga (List.mem_of_getElem? hnd)) hs ?_
    exact flat_set_perm (a := [nd]) hga
      (((perm_cons_eraseIdx ga.1 idx nd hnd).symm.append_right kids).trans List.perm_append_comm)

theorem applyTrace_inv (hI : SplitClosed pg I) (tr : List Op) (pgs pgs' : PG U)
    (h : applyTrace pg pgs tr = some pgs') (hc : I (flat pgs)) : I (flat pgs') := by
  fun_induction applyTrace pg pgs tr with
  | case1 => cases h; exact hc
  | case2 => cases h
  | case3 pgs op tr pgs1 h1 ih =>
    refine ih h ?_
    cases op with
    | swap gi j k l => exact hI.perm (applySwap_perm h1).symm hc
    | splitIn gi => exact trySplit_inv hI h1 hc

end

theorem applyTrace_cover {pg : PUG U} (hw : WFp pg) (tr : List Op) (pgs pgs' : PG U) :
    applyTrace pg pgs tr = some pgs' → IsCover pg.g (flat pgs) → IsCover pg.g (flat pgs') :=
  applyTrace_inv (cover_closed hw) tr pgs pgs'

omit [DecidableEq U] in
theorem group_sublist_flat {pgs : PG U} {g : List (Node U) × Rat} (h : g ∈ pgs) : g.1.Sublist (flat pgs) := by
  rw [flat, List.flatMap_def]
  exact List.sublist_flatten_of_mem (List.mem_map_of_mem h)

omit [DecidableEq U] in
theorem unique_group (p : Node U → Bool) : ∀ (pgs : PG U), (flat pgs).countP p = 1 →
    ∃ (i : Nat) (g : List (Node U) × Rat), pgs[i]? = some g ∧ g.1.countP p = 1 ∧
      ∀ (j : Nat) (g' : List (Node U) × Rat), pgs[j]? = some g' → j ≠ i → g'.1.countP p = 0
  | [], h => by cases h
  | x :: r, h => by
    have h' : (x.1 ++ flat r).countP p = 1 := h
    rw [List.countP_append] at h'
    rcases Nat.add_eq_one_iff.mp h' with ⟨hx, hr⟩ | ⟨hx, hr⟩
    · obtain ⟨i, g, hg, h1, h2⟩ := unique_group p r hr
      refine ⟨i + 1, g, hg, h1, fun j g' hj hne => ?_⟩
      cases j with
      | zero => cases hj; exact hx
      | succ j => exact h2 j g' hj (fun e => hne (congrArg (· + 1) e))
    · refine ⟨0, x, rfl, hx, fun j g' hj hne => ?_⟩
      cases j with
      | zero => exact absurd rfl hne
      | succ j =>
        exact Nat.le_zero.mp (hr ▸ (group_sublist_flat (List.mem_of_getElem? (l := r) hj)).countP_le (p := p))

theorem cover_start {pg : PUG U} (hw : WFp pg) : IsCover pg.g (startNodes pg) := by
  refine ⟨?_, ?_⟩
  · intro n hn
    simp only [startNodes, List.mem_map] at hn
    obtain ⟨kp, hkp, rfl⟩ := hn
    have hk : kp.1 ∈ AList.keys pg.startTags := List.mem_map.mpr ⟨kp, hkp, rfl⟩
    have hs := hw.stkeys_sub _ hk
    have hu := (hw.starts_ok _ hs).2
    refine ⟨hs, rfl, rfl, ?_, ?_⟩
    · simp [Node.start, Node.steps, Node.config, run, hu]
    · simp [Node.config, hu]
  · intro s w hd
    have hk := (hw.starts_ok s hd.1).1
    have hc : (AList.keys pg.startTags).count s = 1 := by
      rw [List.Nodup.count hw.stkeys_nodup]; simp [hk]
    rw [← hc, List.count_eq_countP]
    simp only [startNodes, AList.keys, List.countP_map]
    apply List.countP_congr
    intro kp _
    simp [Function.comp, Matches, Node.start, Node.steps]

theorem splitSome_spec (pg : PUG U) (f i : Nat) (nodes kids rest : List (Node U))
    (h : splitSome pg f i nodes = some (kids, rest)) :
    ∃ nd, nodes.Perm (nd :: rest) ∧ nodeSplit pg nd = (true, kids) := by
  fun_induction splitSome pg f i nodes with
  | case4 _ _ nodes _ nd hnd _ hs => cases h; exact ⟨nd, perm_cons_eraseIdx nodes _ nd hnd, hs⟩
  | case5 _ _ nodes _ nd hnd _ _ ih =>
    obtain ⟨nd', hp', hs'⟩ := ih h
    exact ⟨nd', ((perm_cons_eraseIdx nodes _ nd hnd).trans (List.perm_append_comm (l₁ := [nd]))).trans hp', hs'⟩
  | _ => cases h

omit [DecidableEq U] in
theorem insertNode_perm (nodes : List (Node U)) (k : Node U) : (insertNode nodes k).Perm (k :: nodes) := by
  simp only [insertNode, insertAt]
  exact List.perm_middle.trans (by rw [List.take_append_drop])

omit [DecidableEq U] in
theorem foldl_insertNode_perm : ∀ (kids rest : List (Node U)), (kids.foldl insertNode rest).Perm (kids ++ rest)
  | [], rest => by simp
  | k :: ks, rest => by
    simp only [List.foldl_cons, List.cons_append]
    exact (foldl_insertNode_perm ks _).trans
      ((List.Perm.append_left ks (insertNode_perm rest k)).trans List.perm_middle)

theorem splitUntil_inv {pg : PUG U} {I : List (Node U) → Prop} (hI : SplitClosed pg I) (q f : Nat)
    (nodes res : List (Node U)) (h : splitUntil pg q f nodes = some res) (hc : I nodes) : I res := by
  fun_induction splitUntil pg q f nodes with
  | case1 => cases h
  | case2 => cases h; exact hc
  | case3 => cases h
  | case4 f nodes _ kids rest hs ih =>
    obtain ⟨nd, hp, hsp⟩ := splitSome_spec pg _ _ _ _ _ hs
    exact ih h (hI.perm (foldl_insertNode_perm kids rest).symm (hI.split (hI.perm hp hc) hsp))
  | case5 => cases h; exact hc

theorem splitUntil_cover {pg : PUG U} (hw : WFp pg) (q f : Nat) (nodes res : List (Node U)) :
    splitUntil pg q f nodes = some res → IsCover pg.g nodes → IsCover pg.g res :=
  splitUntil_inv (cover_closed hw) q f nodes res

omit [DecidableEq U] in
theorem flat_map_mass (gs : List (List (Node U))) (m : List (Node U) → Rat) :
    flat (gs.map (fun g => (g, m g))) = gs.flatten := by
  rw [flat, List.flatMap_map, List.flatMap_id']

omit [DecidableEq U] in
theorem flatten_singletons (l : List (Node U)) : (l.map (fun n => [n])).flatten = l := by
  rw [← List.flatMap_def, List.flatMap_singleton']

omit [DecidableEq U] in
theorem initGroups_perm (nodes : List (Node U)) (splits : Nat) (h : 0 < splits) :
    (flat (initGroups nodes splits)).Perm nodes := by
  unfold initGroups
  refine (flat_perm (sortByMass_perm _)).trans ?_
  rw [flat_map_mass]
  cases hn : nodes.take splits with
  | nil =>
    have : nodes = [] := by
      cases nodes with
      | nil => rfl
      | cons a r => cases splits with
        | zero => omega
        | succ k => simp at hn
    simp [this]
  | cons a t =>
    simp only [List.map_cons, List.flatten_cons, flatten_singletons]
    have e : nodes = (a :: t) ++ nodes.drop splits := by rw [← hn, List.take_append_drop]
    conv => rhs; rw [e]
    simp only [List.cons_append, List.nil_append]
    exact List.Perm.cons a List.perm_append_comm

theorem sum_map_mul_left {α : Type} (l : List α) (c : Rat) (f : α → Rat) :
    (l.map (fun x => c * f x)).sum = c * (l.map f).sum :=
  PS.sum_map_mul_left l c f

theorem kids_mass {pg : PUG U} (hw : WFp pg) {n : Node U} {kids : List (Node U)}
    (h : nodeSplit pg n = (true, kids)) :
    (kids.map (·.prob)).sum = n.prob * ((alts pg.g n.S).map (fun pa => tagOf pg n.S pa.1 pa.2)).sum := by
  rw [(nodeSplit_eq hw h).2, List.map_map, ← sum_map_mul_left]
  rfl

theorem stepsProb_append (pg : PUG U) : ∀ (a b : List (Step U)),
    stepsProb pg (a ++ b) = stepsProb pg a * stepsProb pg b
  | [], b => by simp [stepsProb]
  | st :: a, b => by simp only [List.cons_append, stepsProb, stepsProb_append pg a b, Rat.mul_assoc]

theorem completions_mass (pg : PUG U) : ∀ (k : Nat) (c : List (UNT U)),
    ((completions pg.g k c).map (stepsProb pg)).sum = tailMass pg k c
  | 0, [] => by simp [completions, tailMass, stepsProb, Rat.add_zero]
  | k + 1, [] => by simp [completions, tailMass, stepsProb, Rat.add_zero]
  | 0, S :: rest => by simp [completions, tailMass]
  | k + 1, S :: rest => by
    simp only [completions, tailMass]
    rw [sum_flatMap_rat]
    refine congrArg List.sum (List.map_congr_left fun pa _ => ?_)
    rw [List.map_map, ← completions_mass pg k (pa.2 ++ rest), ← sum_map_mul_left]
    rfl

def PrefixFree (group : List (Node U)) : Prop :=
  group.Pairwise (fun a b => a.start = b.start → ¬ a.steps <+: b.steps ∧ ¬ b.steps <+: a.steps)

def posW (pg : PUG U) : Bool :=
  pg.g.rules.all (fun e => (alts pg.g e.1).all (fun pa => decide (0 < tagOf pg e.1 pa.1 pa.2))) &&
  pg.startTags.all (fun e => decide (0 < e.2))

/-- what `C08_fragment_lang` / `C08_fragment_prob` require of the nodes of a group -/
def NodesOK (pg : PUG U) (ns : List (Node U)) : Prop :=
  (∀ n ∈ ns, Valid pg.g n ∧ n.prob = derivProb pg n.start n.steps ∧ 0 < n.prob) ∧ PrefixFree ns

omit [DecidableEq U] in
theorem prefixRel_symm (a b : Node U)
    (h : a.start = b.start → ¬ a.steps <+: b.steps ∧ ¬ b.steps <+: a.steps) :
    b.start = a.start → ¬ b.steps <+: a.steps ∧ ¬ a.steps <+: b.steps :=
  fun he => (h he.symm).symm

theorem nodesOK_closed {pg : PUG U} (hw : WFp pg) (hp : posW pg = true) : SplitClosed pg (NodesOK pg) where
  perm hab h := ⟨fun n hn => h.1 n (hab.mem_iff.mpr hn),
    (List.Perm.pairwise_iff (fun {x y} => prefixRel_symm x y) hab).mp h.2⟩
  split := by
    intro ns kids nd h hs
    obtain ⟨hnd1, hst⟩ := List.pairwise_cons.mp h.2
    obtain ⟨hval, hprob, hpos⟩ := h.1 nd List.mem_cons_self
    obtain ⟨⟨rs, hm⟩, hk⟩ := nodeSplit_eq hw hs
    -- a child extends the path of the node by one rule of `nd.S`
    have hkid : ∀ k ∈ kids, k.start = nd.start ∧ ∃ pa ∈ alts pg.g nd.S,
        k.steps = nd.steps ++ [(nd.S, pa.1, pa.2)] ∧ k.prob = nd.prob * tagOf pg nd.S pa.1 pa.2 := by
      intro k hk'
      rw [hk] at hk'
      obtain ⟨pa, hpa, rfl⟩ := List.mem_map.mp hk'
      exact ⟨start_child _ _ _ _, pa, hpa, steps_child pg nd pa.1 _ hval.2.1 hval.2.2.1, rfl⟩
    have hlast : ∀ x y : Sym × List (UNT U),
        nd.steps ++ [(nd.S, x.1, x.2)] <+: nd.steps ++ [(nd.S, y.1, y.2)] → x = y := by
      intro x y hpre
      have := List.append_cancel_left (hpre.eq_of_length (by simp))
      simp only [List.cons.injEq, Prod.mk.injEq, and_true, true_and] at this
      exact Prod.ext this.1 this.2
    refine ⟨fun n hn => ?_, List.pairwise_append.mpr ⟨?_, hst, ?_⟩⟩
    · rcases List.mem_append.mp hn with hn | hn
      · obtain ⟨hs1, pa, hpa, hs2, hs3⟩ := hkid n hn
        refine ⟨kids_valid hw hval hs n hn, ?_, ?_⟩
        · rw [hs1, hs2, hs3, hprob]
          simp only [derivProb, stepsProb_append, stepsProb, Rat.mul_one, Rat.mul_assoc]
        · rw [hs3]
          simp only [posW, Bool.and_eq_true, List.all_eq_true, decide_eq_true_eq] at hp
          exact Rat.mul_pos hpos (hp.1 (nd.S, rs) hm pa hpa)
      · exact h.1 n (List.mem_cons_of_mem _ hn)
    · -- siblings differ in their last step
      rw [hk]
      refine List.pairwise_map.mpr (List.Pairwise.imp ?_ (hw.rules_ok _ _ hm).2.2.1)
      intro pa pa' hne _
      rw [steps_child pg nd pa.1 _ hval.2.1 hval.2.2.1, steps_child pg nd pa'.1 _ hval.2.1 hval.2.2.1]
      exact ⟨fun h => hne (hlast pa pa' h), fun h => hne (hlast pa' pa h).symm⟩
    · -- a child is comparable with another node only if the node was
      intro k hk' r hr hsame
      obtain ⟨hs1, pa, _, hs2, _⟩ := hkid k hk'
      have hR := hnd1 r hr (hs1.symm.trans hsame)
      rw [hs2]
      refine ⟨fun hpre => hR.1 ((List.prefix_append _ _).trans hpre), fun hpre => ?_⟩
      rcases List.prefix_concat_iff.mp hpre with h1 | h1
      · exact hR.1 (by rw [h1]; exact List.prefix_append _ _)
      · exact hR.2 h1

theorem nodesOK_start {pg : PUG U} (hw : WFp pg) (hp : posW pg = true) : NodesOK pg (startNodes pg) := by
  constructor
  · intro n hn
    refine ⟨(cover_start hw).1 n hn, ?_, ?_⟩
    · simp only [startNodes, List.mem_map] at hn
      obtain ⟨kp, hkp, rfl⟩ := hn
      have : AList.lookup kp.1 pg.startTags = some kp.2 := AList.lookup_of_mem_nodup hw.stkeys_nodup hkp
      simp [derivProb, Node.start, Node.steps, stepsProb, this, Rat.mul_one]
    · simp only [startNodes, List.mem_map] at hn
      obtain ⟨kp, hkp, rfl⟩ := hn
      simp only [posW, Bool.and_eq_true, List.all_eq_true, decide_eq_true_eq] at hp
      exact hp.2 kp hkp
  · unfold PrefixFree startNodes
    apply List.pairwise_map.mpr
    have := hw.stkeys_nodup
    unfold AList.keys at this
    have := List.pairwise_map.mp this
    refine List.Pairwise.imp ?_ this
    intro a b hne hsame
    exact absurd hsame hne

theorem groups_ok {pg : PUG U} (hw : WFp pg) (hp : posW pg = true) (splits fuel : Nat) (hs : 0 < splits)
    (nodes : List (Node U)) (trace : List Op) (pgs' : PG U)
    (h1 : splitUntil pg splits fuel (startNodes pg) = some nodes)
    (h2 : applyTrace pg (initGroups nodes splits) trace = some pgs') :
    ∀ g ∈ pgs', NodesOK pg g.1 := by
  have hI := nodesOK_closed hw hp
  have a := splitUntil_inv hI splits fuel _ _ h1 (nodesOK_start hw hp)
  have b := applyTrace_inv hI trace _ _ h2 (hI.perm (initGroups_perm nodes splits hs).symm a)
  intro g hg
  have hsub := group_sublist_flat hg
  exact ⟨fun n hn => b.1 n (hsub.subset hn), List.Pairwise.sublist hsub b.2⟩

end PS.Sp
