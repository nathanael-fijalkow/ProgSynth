/- Total probability mass of a normalised probabilistic grammar (property C04):
   Σ over `lang G k nt` of `prob` = 1 once every derivation from `nt` finishes within `k` levels.
   At the end, what `bounded` gives for `lang` and `count` (the depth bound; one more level changes nothing), taken
   from PS/Proofs/Prods.lean through `bounded_prods`; `bounded_mono` has an induction of its own because
   `bounded_prods` goes one way only. -/
import PS.Model.Prob
import PS.Proofs.Lang
import PS.Proofs.ListSum
namespace PS.G
open PS

variable {S : Type} [DecidableEq S]

/-- `F a x` is the value of element `x` chosen for slot `a` -/
theorem sum_product {α β : Type} (F : α → β → Rat) (L : α → List β) (as : List α) :
    ((product (as.map L)).map (fun xs => ((as.zip xs).map (fun p => F p.1 p.2)).prod)).sum
      = (as.map (fun a => ((L a).map (F a)).sum)).prod := by
  induction as with
  | nil => simp [product, Rat.add_zero]
  | cons a as ih =>
    simp only [List.map_cons, product, List.prod_cons]
    rw [sum_flatMap_rat]
    simp only [List.map_map, Function.comp_def, List.zip_cons_cons, List.map_cons, List.prod_cons]
    rw [← ih]
    simp only [sum_map_mul_left]
    rw [sum_map_mul_right]

theorem sum_product_cons {α : Type} (F : List α → Rat) (u : α → Rat) (w : List α → Rat) (l : List α)
    (ls : List (List α)) (h : ∀ x r, F (x :: r) = u x * w r) :
    ((product (l :: ls)).map F).sum = (l.map u).sum * ((product ls).map w).sum :=
  sum_flatMap_map (fun x r => x :: r) F u w l (product ls) (fun x _ r => h x r)

theorem derWeight_append (tags : Tags S Unit) (a b : List (NT S Unit × Sym)) :
    derWeight tags (a ++ b) = derWeight tags a * derWeight tags b := by
  simp only [derWeight, List.map_append, prod_append]

theorem prob_of_gen (G : TT S Unit) (tags : Tags S Unit) (t : Prog) (nt : NT S Unit)
    (h : gen G t nt = true) : prob G tags t nt = derWeight tags (derivation G t nt) := by
  simp [prob, h]

theorem derWeight_derivationList (G : TT S Unit) (tags : Tags S Unit) :
    ∀ (kids : List Prog) (args : List (Ty × S)), genList G kids args = true →
      derWeight tags (derivationList G kids args)
        = ((args.zip kids).map (fun p => prob G tags p.2 (argNT p.1))).prod
  | [], [] => by intro _; simp [derivationList, derWeight]
  | [], _ :: _ => by intro h; simp [genList] at h
  | _ :: _, [] => by intro h; simp [genList] at h
  | k :: ks, (t, s) :: as => by
    intro h
    simp only [genList, Bool.and_eq_true] at h
    simp only [derivationList, derWeight_append, List.zip_cons_cons, List.map_cons, List.prod_cons]
    rw [derWeight_derivationList G tags ks as h.2]
    rw [prob_of_gen G tags k (argNT (t, s)) h.1]
    rfl

theorem prob_node (G : TT S Unit) (tags : Tags S Unit) (nt : NT S Unit) (f : Sym)
    (args : List (Ty × S)) (kids : List Prog)
    (hr : G.rule? nt f = some (args, ()))
    (hk : genList G kids args = true) :
    prob G tags (.node f kids) nt
      = weight tags nt f * ((args.zip kids).map (fun p => prob G tags p.2 (argNT p.1))).prod := by
  have hg : gen G (.node f kids) nt = true := by rw [gen, hr]; exact hk
  rw [prob_of_gen G tags _ nt hg, derivation, hr]
  simp only [derWeight, List.map_cons, List.prod_cons]
  rw [← derWeight_derivationList G tags kids args hk]
  rfl

theorem mass_succ (G : TT S Unit) (tags : Tags S Unit) (h : RowsNodup G) (k : Nat) (nt : NT S Unit)
    (rs : AList Sym (List (Ty × S) × Unit)) (hl : AList.lookup nt G.rules = some rs) :
    mass G tags (k + 1) nt
      = (rs.map (fun r => weight tags nt r.1 * (r.2.1.map (fun a => mass G tags k (argNT a))).prod)).sum := by
  unfold mass
  simp only [lang, hl]
  rw [sum_flatMap_rat]
  apply congrArg
  apply List.map_congr_left
  intro r hr
  obtain ⟨f, args, u⟩ := r
  cases u
  have hrule : G.rule? nt f = some (args, ()) := by
    simp only [TT.rule?, hl]
    exact AList.lookup_of_mem_nodup (h nt rs hl) hr
  simp only [List.map_map, Function.comp_def]
  have e1 : (product (args.map (fun a => lang G k (a.1, (a.2, ()))))).map
        (fun kids => prob G tags (Tree.node f kids) nt)
      = (product (args.map (fun a => lang G k (a.1, (a.2, ()))))).map
        (fun kids => weight tags nt f *
          ((args.zip kids).map (fun p => prob G tags p.2 (argNT p.1))).prod) := by
    apply List.map_congr_left
    intro kids hm
    have hg := ((mem_product_lang G h k kids args).mp hm).1
    exact prob_node G tags nt f args kids hrule hg
  rw [e1, sum_map_mul_left]
  apply congrArg
  exact sum_product (fun a t => prob G tags t (argNT a)) (fun a => lang G k (argNT a)) args

theorem rowsNodup_of_normalised (G : TT S Unit) (tags : Tags S Unit) (hn : Normalised G tags) :
    RowsNodup G := by
  intro nt rs hl
  exact (hn (nt, rs) (AList.lookup_some_mem hl)).2

/-- the test the driver evaluates establishes `Normalised` -/
theorem normalised_of_normalisedB {G : TT S Unit} {tags : Tags S Unit} (h : normalisedB G tags = true) :
    Normalised G tags := by
  intro e he
  have := List.all_eq_true.mp h e he
  rw [Bool.and_eq_true, decide_eq_true_eq, decide_eq_true_eq] at this
  exact this

theorem mass_eq_one (G : TT S Unit) (tags : Tags S Unit) (hk : (AList.keys G.rules).Nodup)
    (hn : Normalised G tags) (k : Nat) (nt : NT S Unit) (hb : bounded G k nt = true) :
    mass G tags k nt = 1 := by
  -- `hk` is not used (`Normalised` holds what the induction needs); the statements that end here carry it
  have _ := hk
  induction k generalizing nt with
  | zero => simp [bounded] at hb
  | succ k ih =>
    obtain ⟨rs, hl, hb⟩ := bounded_succ.mp hb
    rw [mass_succ G tags (rowsNodup_of_normalised G tags hn) k nt rs hl]
    have e : rs.map (fun r => weight tags nt r.1 *
          (r.2.1.map (fun a => mass G tags k (argNT a))).prod)
        = rs.map (fun r => weight tags nt r.1) := by
      apply List.map_congr_left
      intro r hr
      rw [prod_eq_one_of_forall _ _ (fun a ha => ih (argNT a) (hb r hr a ha)), Rat.mul_one]
    rw [e]
    exact (hn (nt, rs) (AList.lookup_some_mem hl)).1

theorem bounded_mono (G : TT S Unit) (k : Nat) (nt : NT S Unit) (h : bounded G k nt = true) :
    bounded G (k + 1) nt = true := by
  induction k generalizing nt with
  | zero => simp [bounded] at h
  | succ k ih =>
    obtain ⟨rs, hl, h⟩ := bounded_succ.mp h
    exact bounded_succ.mpr ⟨rs, hl, fun r hr a ha => ih (argNT a) (h r hr a ha)⟩

theorem depth_le_of_bounded (G : TT S Unit) (h : RowsNodup G) (k : Nat) (t : Prog) (nt : NT S Unit)
    (hb : bounded G k nt = true) (hg : gen G t nt = true) : Tree.depth t ≤ k :=
  Prods.depth_le_of_bounded _ k t nt (bounded_prods G k nt hb)
    (by rw [(nders_prods G h).1, hg]; exact Nat.one_pos)

theorem mem_lang_of_bounded (G : TT S Unit) (h : RowsNodup G) (k : Nat) (t : Prog) (nt : NT S Unit)
    (hb : bounded G k nt = true) : t ∈ lang G k nt ↔ gen G t nt = true := by
  rw [mem_lang_iff G h k t nt]
  exact ⟨fun h => h.1, fun hg => ⟨hg, depth_le_of_bounded G h k t nt hb hg⟩⟩

theorem count_stable (G : TT S Unit) (k : Nat) (nt : NT S Unit) (hb : bounded G k nt = true) :
    count G (k + 1) nt = count G k nt := by
  rw [count_eq_prods, count_eq_prods]
  exact Prods.count_stable _ k nt (bounded_prods G k nt hb)

end PS.G
