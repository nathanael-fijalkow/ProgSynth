/-
  Lemmas about PS/Model/Dfta.lean (property C07; the constraint automata of C05 stand on them too).
  A construction keeps the language when a map of states carries the old runs onto the new ones
  (`Sim`): so for `removeUnreachable`, and for every renaming `c` under which equally named states can
  replace each other in any rule (`Swap`, `Cong`) — the injective renamings of `map_states` and the
  quotients of DftaQuot / DftaMin / DftaMinimal.  `removeUnproductive` loses runs and `read_product`
  pairs two of them; they are read directly.  What `reduce` returns is trim (`Trim`, `trim_reduce`): the
  hypothesis of the theorems about `minimise`.
-/
import PS.Model.Dfta
import PS.Proofs.AList
import PS.Proofs.Tree
import PS.Proofs.OptAll
import PS.Proofs.Worklist
import Mathlib.Data.List.Perm.Subperm
set_option linter.unusedSectionVars false
namespace PS

theorem optAll_eq_some_iff {α β : Type} (f : α → Option β) (xs : List α) (ys : List β) :
    optAll f xs = some ys ↔ List.Forall₂ (fun x y => f x = some y) xs ys := by
  rw [optAll_eq_some_iff_map, ← List.forall₂_eq_eq_eq, List.forall₂_map_left_iff, List.forall₂_map_right_iff]

theorem mem_cartesian {α : Type} (cs : List (List α)) (xs : List α) :
    xs ∈ cartesian cs ↔ List.Forall₂ (· ∈ ·) xs cs := by
  induction cs generalizing xs with
  | nil => simp [cartesian]
  | cons c cs ih =>
    simp only [cartesian, List.mem_flatMap, List.mem_map, ih, List.forall₂_cons_right_iff]
    constructor
    · rintro ⟨x, hx, r, hr, e⟩; exact ⟨x, r, hx, hr, e.symm⟩
    · rintro ⟨x, r, hx, hr, e⟩; exact ⟨x, hx, r, hr, e.symm⟩

theorem forall₂_congr_left {α β : Type} {R S : α → β → Prop} {xs : List α} {ys : List β}
    (h : ∀ x ∈ xs, ∀ y, R x y ↔ S x y) : List.Forall₂ R xs ys ↔ List.Forall₂ S xs ys := by
  induction xs generalizing ys with
  | nil => simp
  | cons x xs ih =>
    simp only [List.forall₂_cons_left_iff, h x List.mem_cons_self,
      ih fun x' hx' => h x' (List.mem_cons_of_mem _ hx')]

namespace DFTA
variable {σ Q : Type} [DecidableEq σ] [DecidableEq Q]

instance (A : DFTA σ Q) : Decidable A.Det := inferInstanceAs (Decidable (AList.keys A.rules).Nodup)

theorem run_node (A : DFTA σ Q) (l : σ) (ks : List (Tree σ)) :
    run A (.node l ks) = (runList A ks).bind (A.read l) := by
  rw [run]; cases runList A ks <;> rfl

@[simp] theorem runList_nil (A : DFTA σ Q) : runList A [] = some [] := by rw [runList]

theorem runList_cons (A : DFTA σ Q) (t : Tree σ) (ts : List (Tree σ)) :
    runList A (t :: ts) = (run A t).bind (fun q => (runList A ts).map (fun qs => q :: qs)) := by
  rw [runList]; cases run A t <;> cases runList A ts <;> rfl

theorem read_eq_some_iff (A : DFTA σ Q) (hd : A.Det) (l : σ) (qs : List Q) (q : Q) :
    A.read l qs = some q ↔ ((l, qs), q) ∈ A.rules :=
  AList.lookup_iff_mem hd

theorem runList_eq_optAll (A : DFTA σ Q) (ks : List (Tree σ)) : runList A ks = optAll (run A) ks := by
  induction ks with
  | nil => rfl
  | cons k ks ih => rw [runList_cons, optAll_cons, ih]

theorem runList_eq_some_iff (A : DFTA σ Q) (ts : List (Tree σ)) (qs : List Q) :
    runList A ts = some qs ↔ List.Forall₂ (fun t q => run A t = some q) ts qs := by
  rw [runList_eq_optAll, optAll_eq_some_iff]

theorem accepts_iff (A : DFTA σ Q) (t : Tree σ) :
    A.accepts t = true ↔ ∃ q, run A t = some q ∧ q ∈ A.finals := by
  unfold accepts
  cases run A t with
  | none => simp
  | some q => simp

def Reach (A : DFTA σ Q) (q : Q) : Prop := ∃ t, run A t = some q

theorem exists_runList (A : DFTA σ Q) (qs : List Q) (h : ∀ q ∈ qs, Reach A q) :
    ∃ ts, runList A ts = some qs := by
  induction qs with
  | nil => exact ⟨[], runList_nil A⟩
  | cons q qs ih =>
    obtain ⟨t, ht⟩ := h q List.mem_cons_self
    obtain ⟨ts, hts⟩ := ih fun q' hq' => h q' (List.mem_cons_of_mem _ hq')
    exact ⟨t :: ts, by rw [runList_cons, ht, hts]; rfl⟩

theorem reach_of_rule (A : DFTA σ Q) (hd : A.Det) {l : σ} {args : List Q} {d : Q}
    (hr : ((l, args), d) ∈ A.rules) (h : ∀ a ∈ args, Reach A a) : Reach A d := by
  obtain ⟨ts, hts⟩ := exists_runList A args h
  exact ⟨.node l ts, by rw [run_node, hts]; exact (read_eq_some_iff A hd l args d).mpr hr⟩

section sim
variable {Q' : Type} [DecidableEq Q']

/-- `h` may look at the tree: the constraint automata extend a state by a value computed from the
    tree read into it (`Refines.accepts`, PS/Proofs/ConstraintsRefine.lean). -/
theorem accepts_of_run {A : DFTA σ Q} {A' : DFTA σ Q'} (h : Tree σ → Q → Q')
    (hrun : ∀ t, run A' t = (run A t).map (h t))
    (hfin : ∀ t q, run A t = some q → (h t q ∈ A'.finals ↔ q ∈ A.finals)) (t : Tree σ) :
    A'.accepts t = A.accepts t := by
  unfold accepts
  rw [hrun t]
  cases hq : run A t with
  | none => rfl
  | some q => exact decide_eq_decide.mpr (hfin t q hq)

/-- `h` carries the runs of `A` onto runs of `A'`: on argument states with the invariant `P` (which the
    reads of `A` keep), `A'` reads the `h`-image of what `A` reads.  Instances: a sub-table on the
    reachable states (`h = id`), a renaming by a congruence (`Cong.sim`), an added component seen from
    the automaton that carries it (`h` drops the component, PS/Proofs/ConstraintsRefine.lean).
    `removeUnproductive` is none, since the runs that end in an unproductive state have no image:
    it goes through `run_restrict` (downwards, on the states `P`) and `run_mono` (upwards). -/
structure Sim (A : DFTA σ Q) (A' : DFTA σ Q') (h : Q → Q') (P : Q → Prop) : Prop where
  inv : ∀ l qs q, (∀ x ∈ qs, P x) → A.read l qs = some q → P q
  read : ∀ l qs, (∀ x ∈ qs, P x) → A'.read l (qs.map h) = (A.read l qs).map h

namespace Sim
variable {A : DFTA σ Q} {A' : DFTA σ Q'} {h : Q → Q'} {P : Q → Prop}

theorem run_inv (s : Sim A A' h P) :
    ∀ t, run A' t = (run A t).map h ∧ (∀ q, run A t = some q → P q) := by
  apply Tree.ind
  intro l ks ih
  rw [run_node, run_node, runList_eq_optAll, runList_eq_optAll,
    optAll_congr _ (fun k => (run A k).map h) ks fun k hk => (ih k hk).1, optAll_comp_map]
  cases hqs : optAll (run A) ks with
  | none => simp
  | some qs =>
    have hqP := optAll_forall hqs fun k hk => (ih k hk).2
    exact ⟨s.read l qs hqP, fun q => s.inv l qs q hqP⟩

theorem run (s : Sim A A' h P) (t : Tree σ) : DFTA.run A' t = (DFTA.run A t).map h := (s.run_inv t).1

theorem reached (s : Sim A A' h P) {t : Tree σ} {q : Q} (hq : DFTA.run A t = some q) : P q :=
  (s.run_inv t).2 q hq

theorem accepts (s : Sim A A' h P) (hfin : ∀ q, P q → (h q ∈ A'.finals ↔ q ∈ A.finals)) (t : Tree σ) :
    A'.accepts t = A.accepts t :=
  accepts_of_run (fun _ => h) s.run (fun _ q hq => hfin q (s.reached hq)) t

end Sim

theorem run_restrict (A A' : DFTA σ Q) (P : Q → Prop)
    (hdown : ∀ l qs q, A.read l qs = some q → P q → (∀ x ∈ qs, P x) ∧ A'.read l qs = some q) :
    ∀ t q, run A t = some q → P q → run A' t = some q := by
  apply Tree.ind
  intro l ks ih q hq hp
  rw [run_node, runList_eq_optAll] at hq ⊢
  obtain ⟨qs, hqs, hr⟩ := Option.bind_eq_some_iff.mp hq
  obtain ⟨hall, hr'⟩ := hdown l qs q hr hp
  rw [optAll_mono (fun k hk x hx hkx => ih k hk x hkx (hall x hx)) hqs]
  exact hr'

theorem run_mono (A A' : DFTA σ Q) (hsub : ∀ l qs q, A'.read l qs = some q → A.read l qs = some q)
    (t : Tree σ) (q : Q) (h : run A' t = some q) : run A t = some q :=
  run_restrict A' A (fun _ => True) (fun l qs q hr _ => ⟨fun _ _ => trivial, hsub l qs q hr⟩) t q h trivial

end sim

/-- one step of `reachPass` -/
def reachStep (acc : List Q) (rule : (σ × List Q) × Q) : List Q :=
  if rule.1.2.all (fun s => decide (s ∈ acc)) then addNew acc rule.2 else acc

theorem reachStep_append (acc : List Q) (rule : (σ × List Q) × Q) :
    ∃ ext, reachStep acc rule = acc ++ ext := by
  unfold reachStep; split
  · exact addNew_append _ _
  · exact ⟨[], by simp⟩

structure ReachInv (A : DFTA σ Q) (r : List Q) : Prop where
  nodup : r.Nodup
  reach : ∀ q ∈ r, Reach A q
  sub : r ⊆ A.rules.map (·.2)

theorem states_spec (A : DFTA σ Q) (hd : A.Det) :
    ReachInv A A.states ∧ ∀ rule ∈ A.rules, reachStep A.states rule = A.states := by
  refine growLoop_closed reachStep reachStep_append A.rules A.rules.length (ReachInv A) (fun acc ha x hx => ?_)
    (fun r hr => by simpa using (List.subperm_of_subset hr.nodup hr.sub).length_le) _ []
    ⟨List.nodup_nil, by simp, by simp⟩ (by omega)
  unfold reachStep; split
  · rename_i hall
    obtain ⟨⟨l, args⟩, d⟩ := x
    simp only [List.all_eq_true, decide_eq_true_eq] at hall
    refine ⟨addNew_nodup _ _ ha.nodup, ?_, ?_⟩
    · intro q hq
      rcases (mem_addNew _ _ _).mp hq with e | e
      · exact ha.reach q e
      · exact e ▸ reach_of_rule A hd hx (fun a haa => ha.reach a (hall a haa))
    · intro q hq
      rcases (mem_addNew _ _ _).mp hq with e | e
      · exact ha.sub e
      · exact e ▸ List.mem_map.mpr ⟨_, hx, rfl⟩
  · exact ha

theorem states_closed (A : DFTA σ Q) (hd : A.Det) {l : σ} {args : List Q} {d : Q}
    (hr : ((l, args), d) ∈ A.rules) (h : ∀ a ∈ args, a ∈ A.states) : d ∈ A.states := by
  have := (states_spec A hd).2 _ hr
  unfold reachStep at this
  simp only [List.all_eq_true, decide_eq_true_eq] at this
  rw [if_pos h] at this
  exact addNew_eq_self _ _ this

theorem mem_states_of_run (A : DFTA σ Q) (hd : A.Det) : ∀ t q, run A t = some q → q ∈ A.states := by
  apply Tree.ind
  intro l ks ih q hq
  rw [run_node, runList_eq_optAll] at hq
  obtain ⟨qs, hqs, hr⟩ := Option.bind_eq_some_iff.mp hq
  exact states_closed A hd (AList.lookup_some_mem hr) (optAll_forall hqs ih)

theorem mem_states_iff (A : DFTA σ Q) (hd : A.Det) (q : Q) : q ∈ A.states ↔ Reach A q :=
  ⟨fun h => (states_spec A hd).1.reach q h, fun ⟨t, ht⟩ => mem_states_of_run A hd t q ht⟩

theorem states_nodup (A : DFTA σ Q) (hd : A.Det) : A.states.Nodup := (states_spec A hd).1.nodup

theorem removeUnreachable_det (A : DFTA σ Q) (hd : A.Det) : (removeUnreachable A).Det :=
  (AList.keys_filter_sublist _ _).nodup hd

theorem sim_removeUnreachable (A : DFTA σ Q) (hd : A.Det) :
    Sim A (removeUnreachable A) id (· ∈ A.states) where
  inv l qs q hqs hq := states_closed A hd (AList.lookup_some_mem hq) hqs
  read l qs hqs := by
    rw [List.map_id, Option.map_id_fun, id]
    refine Option.ext fun q => (AList.lookup_filter_some _ hd).trans ⟨And.left, fun hq => ⟨hq, ?_⟩⟩
    simp only [Bool.and_eq_true, decide_eq_true_eq, List.all_eq_true]
    exact ⟨states_closed A hd (AList.lookup_some_mem hq) hqs, hqs⟩

theorem run_removeUnreachable (A : DFTA σ Q) (hd : A.Det) (t : Tree σ) :
    run (removeUnreachable A) t = run A t := by
  simpa using (sim_removeUnreachable A hd).run t

theorem accepts_removeUnreachable (A : DFTA σ Q) (hd : A.Det) (t : Tree σ) :
    (removeUnreachable A).accepts t = A.accepts t :=
  (sim_removeUnreachable A hd).accepts (fun q hq => by simp [removeUnreachable, hq]) t

/-- one step of `prodPass` -/
def prodStep (acc : List Q) (rule : (σ × List Q) × Q) : List Q :=
  if rule.2 ∈ acc then rule.1.2.foldl addNew acc else acc

theorem prodStep_append (acc : List Q) (rule : (σ × List Q) × Q) :
    ∃ ext, prodStep acc rule = acc ++ ext := by
  unfold prodStep; split
  · exact foldl_grow_append addNew addNew_append _ _
  · exact ⟨[], by simp⟩

/-- invariant of the `productive` loop, relative to a predicate `C` that contains the final
    states and is closed backwards along the rules (used with `C` = co-reachable) -/
structure ProdInv (A : DFTA σ Q) (C : Q → Prop) (p : List Q) : Prop where
  nodup : p.Nodup
  finals : ∀ q ∈ A.finals, q ∈ p
  sound : ∀ q ∈ p, C q
  sub : p ⊆ A.finals ++ A.rules.flatMap (fun rule => rule.1.2)

theorem productive_spec (A : DFTA σ Q) (C : Q → Prop) (hF : ∀ q ∈ A.finals, C q)
    (hC : ∀ l args d, ((l, args), d) ∈ A.rules → C d → ∀ a ∈ args, C a) :
    ProdInv A C A.productive ∧ ∀ rule ∈ A.rules, prodStep A.productive rule = A.productive := by
  refine growLoop_closed prodStep prodStep_append A.rules (A.finals.length + A.argCount) (ProdInv A C)
    (fun acc ha x hx => ?_)
    (fun r hr => by simpa [argCount, List.length_flatMap] using (List.subperm_of_subset hr.nodup hr.sub).length_le)
    _ _ ⟨foldl_addNew_nodup _ _ List.nodup_nil, ?_, ?_, ?_⟩ (by omega)
  · unfold prodStep; split
    · rename_i hmem
      obtain ⟨⟨l, args⟩, d⟩ := x
      refine ⟨foldl_addNew_nodup _ _ ha.nodup, ?_, ?_, ?_⟩
      · intro q hq; exact (mem_foldl_addNew _ _ _).mpr (Or.inl (ha.finals q hq))
      · intro q hq
        rcases (mem_foldl_addNew _ _ _).mp hq with e | e
        · exact ha.sound q e
        · exact hC l args d hx (ha.sound d hmem) q e
      · intro q hq
        rcases (mem_foldl_addNew _ _ _).mp hq with e | e
        · exact ha.sub e
        · exact List.mem_append_right _ (List.mem_flatMap.mpr ⟨_, hx, e⟩)
    · exact ha
  · intro q hq; exact (mem_foldl_addNew _ _ _).mpr (Or.inr hq)
  · intro q hq
    rcases (mem_foldl_addNew _ _ _).mp hq with e | e
    · cases e
    · exact hF q e
  · intro q hq
    rcases (mem_foldl_addNew _ _ _).mp hq with e | e
    · cases e
    · exact List.mem_append_left _ e

theorem productive_induction (A : DFTA σ Q) (C : Q → Prop) (hF : ∀ q ∈ A.finals, C q)
    (hC : ∀ l args d, ((l, args), d) ∈ A.rules → C d → ∀ a ∈ args, C a) : ∀ q ∈ A.productive, C q :=
  (productive_spec A C hF hC).1.sound

theorem finals_subset_productive (A : DFTA σ Q) : ∀ q ∈ A.finals, q ∈ A.productive :=
  (productive_spec A (fun _ => True) (fun _ _ => trivial) (fun _ _ _ _ _ _ _ => trivial)).1.finals

theorem productive_closed (A : DFTA σ Q) {l : σ} {args : List Q} {d : Q}
    (hr : ((l, args), d) ∈ A.rules) (hd : d ∈ A.productive) : ∀ a ∈ args, a ∈ A.productive := by
  have := (productive_spec A (fun _ => True) (fun _ _ => trivial) (fun _ _ _ _ _ _ _ => trivial)).2 _ hr
  unfold prodStep at this
  rw [if_pos hd] at this
  intro a ha
  have h2 := foldl_grow_stable addNew addNew_append args A.productive (by rw [this]) a ha
  exact addNew_eq_self _ _ h2

theorem removeUnproductive_det (A : DFTA σ Q) (hd : A.Det) : (removeUnproductive A).Det :=
  (AList.keys_filter_sublist _ _).nodup hd

theorem run_removeUnproductive (A : DFTA σ Q) (hd : A.Det) :
    ∀ t q, run A t = some q → q ∈ A.productive → run (removeUnproductive A) t = some q :=
  run_restrict A (removeUnproductive A) (· ∈ A.productive) fun _ _ _ hr hp =>
    ⟨productive_closed A (AList.lookup_some_mem hr) hp,
      (AList.lookup_filter_some _ hd).mpr ⟨hr, by simpa using hp⟩⟩

theorem accepts_removeUnproductive (A : DFTA σ Q) (hd : A.Det) (t : Tree σ) :
    (removeUnproductive A).accepts t = A.accepts t := by
  have hsub : ∀ l qs q, (removeUnproductive A).read l qs = some q → A.read l qs = some q :=
    fun l qs q h => ((AList.lookup_filter_some _ hd).mp h).1
  rw [Bool.eq_iff_iff, accepts_iff, accepts_iff]
  constructor
  · rintro ⟨q, hq, hf⟩
    exact ⟨q, run_mono A _ hsub t q hq, hf⟩
  · rintro ⟨q, hq, hf⟩
    exact ⟨q, run_removeUnproductive A hd t q hq (finals_subset_productive A q hf), hf⟩

theorem reduce_det (A : DFTA σ Q) (hd : A.Det) : (reduce A).Det :=
  removeUnproductive_det _ (removeUnreachable_det A hd)

theorem accepts_reduce (A : DFTA σ Q) (hd : A.Det) (t : Tree σ) :
    (reduce A).accepts t = A.accepts t := by
  unfold reduce
  rw [accepts_removeUnproductive _ (removeUnreachable_det A hd), accepts_removeUnreachable A hd]

theorem mem_allStates_of_rule (A : DFTA σ Q) {l : σ} {args : List Q} {d : Q}
    (hr : ((l, args), d) ∈ A.rules) : d ∈ allStates A ∧ ∀ a ∈ args, a ∈ allStates A := by
  unfold allStates
  constructor
  · exact List.mem_append_left _ (List.mem_flatMap.mpr ⟨_, hr, List.mem_cons_self⟩)
  · intro a ha
    exact List.mem_append_left _ (List.mem_flatMap.mpr ⟨_, hr, List.mem_cons_of_mem _ ha⟩)

theorem rule_of_run (A : DFTA σ Q) (t : Tree σ) (q : Q) (h : run A t = some q) :
    ∃ l args, ((l, args), q) ∈ A.rules := by
  obtain ⟨l, ks⟩ := t
  rw [run_node] at h
  obtain ⟨qs, _, hr⟩ := Option.bind_eq_some_iff.mp h
  exact ⟨l, qs, AList.lookup_some_mem hr⟩

theorem mem_allStates_of_run (A : DFTA σ Q) {t : Tree σ} {q : Q} (h : run A t = some q) :
    q ∈ allStates A :=
  let ⟨_, _, hr⟩ := rule_of_run A t q h
  (mem_allStates_of_rule A hr).1

theorem mem_allStates_iff (A : DFTA σ Q) (q : Q) :
    q ∈ allStates A ↔ (∃ l args d, ((l, args), d) ∈ A.rules ∧ (q = d ∨ q ∈ args)) ∨ q ∈ A.finals := by
  unfold allStates
  simp only [List.mem_append, List.mem_flatMap, List.mem_cons]
  constructor
  · rintro (⟨⟨⟨l, args⟩, d⟩, hr, h⟩ | h)
    · exact Or.inl ⟨l, args, d, hr, h⟩
    · exact Or.inr h
  · rintro (⟨l, args, d, hr, h⟩ | h)
    · exact Or.inl ⟨_, hr, h⟩
    · exact Or.inr h

/-- every state the automaton mentions (in a rule or as a final state) is reachable.  This is
    the part of "reduced" that `minimise` needs for its result to have the same language; the
    Python code raises `KeyError` when it does not hold (`consumer_of` / `state2cls` only have
    the reachable states as keys). -/
def AllReach (A : DFTA σ Q) : Prop := ∀ q ∈ allStates A, q ∈ A.states

instance (A : DFTA σ Q) : Decidable (AllReach A) := inferInstanceAs (Decidable (∀ q ∈ allStates A, q ∈ A.states))

theorem allReach_removeUnreachable (A : DFTA σ Q) (hd : A.Det) : AllReach (removeUnreachable A) := by
  have hst : ∀ q, q ∈ A.states → q ∈ (removeUnreachable A).states := by
    intro q hq
    obtain ⟨t, ht⟩ := (mem_states_iff A hd q).mp hq
    exact mem_states_of_run _ (removeUnreachable_det A hd) t q (by rw [run_removeUnreachable A hd]; exact ht)
  intro q hq
  apply hst
  rcases (mem_allStates_iff _ q).mp hq with ⟨l, args, d, hr, h⟩ | h
  · have := (List.mem_filter.mp hr).2
    simp only [Bool.and_eq_true, decide_eq_true_eq, List.all_eq_true] at this
    rcases h with e | e
    · rw [e]; exact this.1
    · exact this.2 q e
  · have := (List.mem_filter.mp h).2
    simpa using this

theorem productive_removeUnproductive (A : DFTA σ Q) (q : Q) :
    q ∈ (removeUnproductive A).productive ↔ q ∈ A.productive := by
  have h21 : ∀ q ∈ (removeUnproductive A).productive, q ∈ A.productive := by
    refine productive_induction (removeUnproductive A) (fun q => q ∈ A.productive) ?_ ?_
    · intro q hq; exact finals_subset_productive A q hq
    · intro l args d hr hdp a ha
      exact productive_closed A (List.mem_filter.mp hr).1 hdp a ha
  have h12 : ∀ q ∈ A.productive, q ∈ (removeUnproductive A).productive := by
    refine productive_induction A (fun q => q ∈ (removeUnproductive A).productive) ?_ ?_
    · intro q hq; exact finals_subset_productive (removeUnproductive A) q hq
    · intro l args d hr hdp a ha
      have hr' : ((l, args), d) ∈ (removeUnproductive A).rules :=
        List.mem_filter.mpr ⟨hr, by simpa using h21 d hdp⟩
      exact productive_closed _ hr' hdp a ha
  exact ⟨h21 q, h12 q⟩

/-- what `reduce` establishes (`trim_reduce`).  The first half is what `minimise` needs to keep the
    language (without it the Python raises `KeyError`); the second is needed for minimality only:
    with an unproductive state, "undefined" in a competitor cannot be told from "defined", and a
    smaller automaton for the same language may exist (`deadCycle`, PS/Props/C07.lean). -/
def Trim (A : DFTA σ Q) : Prop := AllReach A ∧ ∀ q ∈ A.states, q ∈ A.productive

instance (A : DFTA σ Q) : Decidable (Trim A) := inferInstanceAs (Decidable (_ ∧ _))

theorem trim_removeUnproductive (A : DFTA σ Q) (hd : A.Det) (hall : AllReach A) :
    Trim (removeUnproductive A) := by
  have hd2 := removeUnproductive_det A hd
  -- a productive reachable state of `A` is still reachable
  have hkeep : ∀ q, q ∈ A.states → q ∈ A.productive → q ∈ (removeUnproductive A).states := by
    intro q hq hp
    obtain ⟨t, ht⟩ := (mem_states_iff A hd q).mp hq
    exact mem_states_of_run _ hd2 t q (run_removeUnproductive A hd t q ht hp)
  constructor
  · intro q hq
    rcases (mem_allStates_iff _ q).mp hq with ⟨l, args, d, hr, h⟩ | h
    · obtain ⟨hr1, hr2⟩ := List.mem_filter.mp hr
      have hdp : d ∈ A.productive := by simpa using hr2
      rcases h with e | e
      · rw [e]; exact hkeep d (hall d (mem_allStates_of_rule A hr1).1) hdp
      · exact hkeep q (hall q ((mem_allStates_of_rule A hr1).2 q e)) (productive_closed A hr1 hdp q e)
    · exact hkeep q (hall q (List.mem_append_right _ h)) (finals_subset_productive A q h)
  · intro q hq
    rw [productive_removeUnproductive]
    obtain ⟨t, ht⟩ := (mem_states_iff _ hd2 q).mp hq
    obtain ⟨l, args, hr⟩ := rule_of_run _ t q ht
    simpa using (List.mem_filter.mp hr).2

theorem trim_reduce (A : DFTA σ Q) (hd : A.Det) : Trim (reduce A) :=
  trim_removeUnproductive _ (removeUnreachable_det A hd) (allReach_removeUnreachable A hd)

theorem reduce_rules_sub (A : DFTA σ Q) : ∀ x ∈ (reduce A).rules, x ∈ A.rules := by
  intro x hx
  unfold reduce removeUnproductive removeUnreachable at hx
  simp only at hx
  exact (List.mem_filter.mp (List.mem_filter.mp hx).1).1

theorem reduce_finals_sub (A : DFTA σ Q) : ∀ x ∈ (reduce A).finals, x ∈ A.finals := by
  intro x hx
  unfold reduce removeUnproductive removeUnreachable at hx
  simp only at hx
  exact (List.mem_filter.mp hx).1

section product
variable {Q₁ Q₂ X : Type} [DecidableEq Q₁] [DecidableEq Q₂] [DecidableEq X]

theorem map_eq_zipWith_iff {P : Type} (z : Q₁ → Q₂ → X) (g : P → X) (π₁ : P → Option Q₁)
    (π₂ : P → Option Q₂) (hg : ∀ p a b, g p = z a b ↔ π₁ p = some a ∧ π₂ p = some b)
    (ps : List P) (as : List Q₁) (bs : List Q₂) (hl : as.length = bs.length) :
    ps.map g = List.zipWith z as bs ↔ optAll π₁ ps = some as ∧ optAll π₂ ps = some bs := by
  rw [optAll_eq_some_iff, optAll_eq_some_iff]
  induction ps generalizing as bs with
  | nil => cases as <;> cases bs <;> simp at hl ⊢
  | cons p ps ih =>
    match as, bs, hl with
    | [], [], _ => simp
    | a :: as, b :: bs, hl =>
      simp only [List.length_cons, Nat.add_right_cancel_iff] at hl
      simp only [List.map_cons, List.zipWith_cons_cons, List.cons.injEq, hg, ih as bs hl,
        List.forall₂_cons, and_and_and_comm]

/-- the shape shared by `productRules` and the third loop of `read_union`: `z` pairs argument states
    into a key, `w` pairs the targets; a queried argument `p : P` is written `g p` in the key and has
    the two sides `π₁ p`, `π₂ p` (in the union one side may be missing).  The table is written
    last-write-wins, which is harmless: by `hg` the key determines both argument lists and both
    inputs are deterministic, so all entries under one key carry one value
    (`AList.lookup_ofList_eq`). -/
theorem lookup_pairRules {P : Type} (A : DFTA σ Q₁) (B : DFTA σ Q₂) (ha : A.Det) (hb : B.Det)
    (z w : Q₁ → Q₂ → X) (g : P → X) (π₁ : P → Option Q₁) (π₂ : P → Option Q₂)
    (hg : ∀ p a b, g p = z a b ↔ π₁ p = some a ∧ π₂ p = some b) (l : σ) (ps : List P) :
    AList.lookup (l, ps.map g) (AList.ofList (A.rules.flatMap fun r1 => B.rules.filterMap fun r2 =>
      if r1.1.2.length ≠ r2.1.2.length ∨ r1.1.1 ≠ r2.1.1 then none
      else some ((r1.1.1, List.zipWith z r1.1.2 r2.1.2), w r1.2 r2.2))) =
    (optPair ((optAll π₁ ps).bind (A.read l)) ((optAll π₂ ps).bind (B.read l))).map
      fun d => w d.1 d.2 := by
  apply AList.lookup_ofList_eq
  intro v
  simp only [List.mem_flatMap, List.mem_filterMap, Option.map_eq_some_iff, optPair_eq_some_iff,
    Option.bind_eq_some_iff, read_eq_some_iff A ha, read_eq_some_iff B hb]
  constructor
  · rintro ⟨⟨⟨l1, a1⟩, d1⟩, h1, ⟨⟨l2, a2⟩, d2⟩, h2, h3⟩
    split at h3
    · cases h3
    · rename_i hc
      simp only [not_or, not_not, ne_eq] at hc
      simp only [Option.some.injEq, Prod.mk.injEq] at h3
      obtain ⟨⟨e1, e2⟩, e3⟩ := h3
      obtain ⟨hs1, hs2⟩ := (map_eq_zipWith_iff z g π₁ π₂ hg ps a1 a2 hc.1).mp e2.symm
      subst e1
      exact ⟨(d1, d2), ⟨⟨a1, hs1, h1⟩, a2, hs2, hc.2 ▸ h2⟩, e3⟩
  · rintro ⟨d, ⟨⟨a1, hs1, h1⟩, a2, hs2, h2⟩, e3⟩
    have hl : a1.length = a2.length := by
      rw [optAll_length hs1, optAll_length hs2]
    refine ⟨_, h1, _, h2, ?_⟩
    simp only [hl, ne_eq, not_true_eq_false, or_self, if_false, Option.some.injEq, Prod.mk.injEq, true_and]
    exact ⟨((map_eq_zipWith_iff z g π₁ π₂ hg ps a1 a2 hl).mpr ⟨hs1, hs2⟩).symm, e3⟩

theorem readProduct_det (A : DFTA σ Q₁) (B : DFTA σ Q₂) : (readProduct A B).Det := AList.keys_nodup_ofList _

theorem read_product (A : DFTA σ Q₁) (B : DFTA σ Q₂) (ha : A.Det) (hb : B.Det) (l : σ)
    (ps : List (Q₁ × Q₂)) :
    (readProduct A B).read l ps = optPair (A.read l (ps.map Prod.fst)) (B.read l (ps.map Prod.snd)) := by
  have h := lookup_pairRules A B ha hb Prod.mk Prod.mk id (fun p => some p.1) (fun p => some p.2)
    (fun p a b => by simp [Prod.ext_iff]) l ps
  rw [List.map_id, optAll_some, optAll_some] at h
  exact h.trans Option.map_id'

theorem optAll_optPair {α β γ : Type} (f : α → Option β) (g : α → Option γ) (xs : List α) :
    optAll (fun x => optPair (f x) (g x)) xs =
      (optPair (optAll f xs) (optAll g xs)).map fun p => List.zip p.1 p.2 := by
  induction xs with
  | nil => rfl
  | cons x xs ih =>
    rw [optAll_cons, optAll_cons, optAll_cons, ih]
    cases f x <;> cases g x <;> cases optAll f xs <;> cases optAll g xs <;> rfl

theorem run_product (A : DFTA σ Q₁) (B : DFTA σ Q₂) (ha : A.Det) (hb : B.Det) :
    ∀ t, run (readProduct A B) t = optPair (run A t) (run B t) := by
  apply Tree.ind
  intro l ks ih
  rw [run_node, run_node, run_node, runList_eq_optAll, runList_eq_optAll, runList_eq_optAll,
    optAll_congr _ _ ks ih, optAll_optPair]
  cases hqa : optAll (run A) ks with
  | none => rfl
  | some as =>
    cases hqb : optAll (run B) ks with
    | none => exact (optPair_none_right _).symm
    | some bs =>
      have hl : as.length = bs.length := by
        rw [optAll_length hqa, optAll_length hqb]
      show (readProduct A B).read l (List.zip as bs) = _
      rw [read_product A B ha hb, List.map_fst_zip (by omega), List.map_snd_zip (by omega)]
      rfl

theorem accepts_product (A : DFTA σ Q₁) (B : DFTA σ Q₂) (ha : A.Det) (hb : B.Det) (t : Tree σ) :
    (readProduct A B).accepts t = (A.accepts t && B.accepts t) := by
  rw [Bool.eq_iff_iff, Bool.and_eq_true, accepts_iff, accepts_iff, accepts_iff, run_product A B ha hb t]
  simp only [optPair_eq_some_iff, readProduct, List.mem_flatMap, List.mem_map]
  constructor
  · rintro ⟨_, ⟨h1, h2⟩, d1, hd1, d2, hd2, rfl⟩
    exact ⟨⟨d1, h1, hd1⟩, d2, h2, hd2⟩
  · rintro ⟨⟨a, h1, hd1⟩, b, h2, hd2⟩
    exact ⟨(a, b), ⟨h1, h2⟩, a, hd1, b, hd2, rfl⟩

end product

section mapStates
variable {X : Type} [DecidableEq X]

theorem mapStates_det (f : Q → X) (A : DFTA σ Q) : (mapStates f A).Det := AList.keys_nodup_ofList _

def Swap (A : DFTA σ Q) (R : Q → Q → Prop) (a b : Q) : Prop :=
  ∀ l pre post d, A.read l (pre ++ a :: post) = some d →
    ∃ d', A.read l (pre ++ b :: post) = some d' ∧ R d d'

theorem Swap.refl {A : DFTA σ Q} {R : Q → Q → Prop} (hR : ∀ d, R d d) (a : Q) : Swap A R a a :=
  fun _ _ _ d h => ⟨d, h, hR d⟩

theorem Swap.trans {A : DFTA σ Q} {R R' R'' : Q → Q → Prop} {a b c : Q} (h1 : Swap A R a b)
    (h2 : Swap A R' b c) (hR : ∀ x y z, R x y → R' y z → R'' x z) : Swap A R'' a c := by
  intro l pre post d hd
  obtain ⟨d1, r1, e1⟩ := h1 l pre post d hd
  obtain ⟨d2, r2, e2⟩ := h2 l pre post d1 r1
  exact ⟨d2, r2, hR _ _ _ e1 e2⟩

theorem Swap.mono {A : DFTA σ Q} {R R' : Q → Q → Prop} {a b : Q} (h : Swap A R a b)
    (hR : ∀ x y, R x y → R' x y) : Swap A R' a b := by
  intro l pre post d hd
  obtain ⟨d', r, e⟩ := h l pre post d hd
  exact ⟨d', r, hR _ _ e⟩

/-- `c` names the states so that equally named states are both final or both not, and can
    replace each other in every rule with equally named targets -/
def Cong (A : DFTA σ Q) (c : Q → X) : Prop :=
  ∀ q ∈ allStates A, ∀ q' ∈ allStates A, c q = c q' →
    (q ∈ A.finals ↔ q' ∈ A.finals) ∧ Swap A (fun d d' => c d = c d') q q'

theorem cong_of_inj (f : Q → X) (A : DFTA σ Q)
    (hinj : ∀ x, x ∈ allStates A → ∀ y, y ∈ allStates A → f x = f y → x = y) : Cong A f := by
  intro q hq q' hq' e
  rw [hinj q hq q' hq' e]
  exact ⟨Iff.rfl, Swap.refl (R := fun d d' => f d = f d') (fun _ => rfl) q'⟩

/-- several positions: replace one at a time -/
theorem Cong.swaps {A : DFTA σ Q} {c : Q → X} (hc : Cong A c) (l : σ) (args qs pre : List Q) (d : Q)
    (ha : ∀ a ∈ args, a ∈ allStates A) (hq : ∀ q ∈ qs, q ∈ allStates A)
    (he : args.map c = qs.map c) (hr : A.read l (pre ++ args) = some d) :
    ∃ d', A.read l (pre ++ qs) = some d' ∧ c d = c d' := by
  induction args generalizing qs pre d with
  | nil =>
    obtain rfl := List.map_eq_nil_iff.mp he.symm
    exact ⟨d, hr, rfl⟩
  | cons a args ih =>
    cases qs with
    | nil => cases he
    | cons q qs =>
      rw [List.map_cons, List.map_cons, List.cons.injEq] at he
      obtain ⟨d1, r1, e1⟩ :=
        (hc a (ha a List.mem_cons_self) q (hq q List.mem_cons_self) he.1).2 l pre args d hr
      rw [List.append_cons] at r1 ⊢
      obtain ⟨d2, r2, e2⟩ := ih qs (pre ++ [q]) d1 (fun x hx => ha x (List.mem_cons_of_mem _ hx))
        (fun x hx => hq x (List.mem_cons_of_mem _ hx)) he.2 r1
      exact ⟨d2, r2, e1.trans e2⟩

/-- `mapStates` writes the renamed rules last-write-wins, and many rules may be renamed to one key.
    Overwriting cannot matter: by `Cong.swaps` all rules whose arguments are named `qs.map c` have
    targets of one name, which is what `AList.lookup_ofList_eq` asks for. -/
theorem read_cong (c : Q → X) (A : DFTA σ Q) (hd : A.Det) (hc : Cong A c) (l : σ) (qs : List Q)
    (hqs : ∀ x ∈ qs, x ∈ allStates A) :
    (mapStates c A).read l (qs.map c) = (A.read l qs).map c := by
  apply AList.lookup_ofList_eq
  intro v
  rw [List.mem_map, Option.map_eq_some_iff]
  constructor
  · rintro ⟨⟨⟨l', args⟩, d⟩, hr, he⟩
    simp only [Prod.mk.injEq] at he
    obtain ⟨⟨rfl, e2⟩, rfl⟩ := he
    obtain ⟨d', hr', e'⟩ := hc.swaps l' args qs [] d (mem_allStates_of_rule A hr).2 hqs e2
      ((read_eq_some_iff A hd _ _ _).mpr hr)
    exact ⟨d', hr', e'.symm⟩
  · rintro ⟨d, hr, rfl⟩
    exact ⟨((l, qs), d), (read_eq_some_iff A hd _ _ _).mp hr, rfl⟩

theorem Cong.sim {c : Q → X} {A : DFTA σ Q} (hc : Cong A c) (hd : A.Det) :
    Sim A (mapStates c A) c (· ∈ allStates A) where
  inv _ _ _ _ hq := (mem_allStates_of_rule A (AList.lookup_some_mem hq)).1
  read := read_cong c A hd hc

theorem run_cong (c : Q → X) (A : DFTA σ Q) (hd : A.Det) (hc : Cong A c) (t : Tree σ) :
    run (mapStates c A) t = (run A t).map c :=
  (hc.sim hd).run t

theorem accepts_cong (c : Q → X) (A : DFTA σ Q) (hd : A.Det) (hc : Cong A c) (t : Tree σ) :
    (mapStates c A).accepts t = A.accepts t := by
  refine (hc.sim hd).accepts (fun q hq => ⟨fun hf => ?_, fun hf => List.mem_map.mpr ⟨q, hf, rfl⟩⟩) t
  obtain ⟨q', hq', e⟩ := List.mem_map.mp hf
  exact (hc q' (List.mem_append_right _ hq') q hq e).1.mp hq'

theorem read_mapStates (f : Q → X) (A : DFTA σ Q) (hd : A.Det)
    (hinj : ∀ x, x ∈ allStates A → ∀ y, y ∈ allStates A → f x = f y → x = y)
    (l : σ) (qs : List Q) (hqs : ∀ x ∈ qs, x ∈ allStates A) :
    (mapStates f A).read l (qs.map f) = (A.read l qs).map f :=
  read_cong f A hd (cong_of_inj f A hinj) l qs hqs

theorem run_mapStates (f : Q → X) (A : DFTA σ Q) (hd : A.Det)
    (hinj : ∀ x, x ∈ allStates A → ∀ y, y ∈ allStates A → f x = f y → x = y) (t : Tree σ) :
    run (mapStates f A) t = (run A t).map f :=
  run_cong f A hd (cong_of_inj f A hinj) t

theorem accepts_mapStates (f : Q → X) (A : DFTA σ Q) (hd : A.Det)
    (hinj : ∀ x, x ∈ allStates A → ∀ y, y ∈ allStates A → f x = f y → x = y) (t : Tree σ) :
    (mapStates f A).accepts t = A.accepts t :=
  accepts_cong f A hd (cong_of_inj f A hinj) t

end mapStates

theorem accepts_of_finals_nil {A : DFTA σ Q} (h : A.finals = []) (t : Tree σ) : A.accepts t = false := by
  unfold accepts
  cases run A t <;> simp [h]

end DFTA
end PS
