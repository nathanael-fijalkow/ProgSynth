/-
  A grammar read as a function `ν → List (Sym × List ν)`: the productions of a non-terminal, one
  entry per alternative.  A tree-traversing grammar with trivial state (`prodsOf`, PS/Proofs/Lang.lean) and an
  unambiguous grammar (`PS.U.prodsU`, PS/Proofs/Ucfg.lean) are both of this form, and their
  enumerations, counters and finiteness tests are `Prods.lang`, `Prods.count`, `Prods.bounded` of it.
  What is proved here once: the enumeration lists a term of depth `≤ k` as many times as it has
  derivations (`count_lang`), the counter is its length, and on a finite non-terminal both are stable.
-/
import PS.Proofs.Product
namespace PS.G
open PS

theorem sum_eq_zero {α : Type} (l : List α) (g : α → Nat) (h : ∀ x ∈ l, g x = 0) : (l.map g).sum = 0 := by
  induction l with
  | nil => rfl
  | cons x xs ih =>
    simp only [List.map_cons, List.sum_cons, h x (by simp), ih (fun y hy => h y (by simp [hy]))]

theorem count_map_pair {α β γ : Type} [DecidableEq α] [BEq β] [LawfulBEq β] [BEq γ] [LawfulBEq γ]
    (g : α → β → γ)
    (hinj : ∀ a b a' b', g a b = g a' b' → a = a' ∧ b = b') (a a' : α) (b : β) (l : List β) :
    (l.map (g a')).count (g a b) = if a' = a then l.count b else 0 := by
  induction l with
  | nil => simp
  | cons x xs ih =>
    rw [List.map_cons, List.count_cons, List.count_cons, ih]
    by_cases ha : a' = a
    · subst ha
      by_cases hx : x = b
      · subst hx; simp
      · have : ¬g a' x = g a' b := fun e => hx (hinj _ _ _ _ e).2
        simp [hx, this]
    · have : ¬g a' x = g a b := fun e => ha (hinj _ _ _ _ e).1
      simp [ha, this]

theorem count_map_node (f g : Sym) (ks : List Prog) (l : List (List Prog)) :
    (l.map (fun k => (Tree.node g k : Prog))).count (Tree.node f ks) = if g = f then l.count ks else 0 :=
  count_map_pair Tree.node (fun _ _ _ _ e => by cases e; exact ⟨rfl, rfl⟩) f g ks l

/-- occurrences of a list of children in a product of enumerations -/
def pc : List Prog → List (List Prog) → Nat
  | [], [] => 1
  | [], _ :: _ => 0
  | _ :: _, [] => 0
  | k :: ks, l :: ls => l.count k * pc ks ls

theorem count_map_cons (x k : Prog) (ks : List Prog) (l : List (List Prog)) :
    (l.map (fun r => x :: r)).count (k :: ks) = if x = k then l.count ks else 0 :=
  count_map_pair List.cons (fun _ _ _ _ e => by cases e; exact ⟨rfl, rfl⟩) k x ks l

theorem sum_map_if_eq {α : Type} [DecidableEq α] (l : List α) (k : α) (c : Nat) :
    (l.map (fun x => if x = k then c else 0)).sum = l.count k * c := by
  induction l with
  | nil => simp
  | cons x xs ih =>
    rw [List.map_cons, List.sum_cons, ih, List.count_cons]
    by_cases h : x = k
    · simp [h, Nat.add_mul, Nat.add_comm]
    · simp [h]

theorem count_product : ∀ (ks : List Prog) (ls : List (List Prog)), (product ls).count ks = pc ks ls
  | [], [] => by simp [product, pc]
  | k :: ks, [] => by simp [product, pc]
  | [], l :: ls => by
    rw [product, pc, List.count_flatMap]
    apply sum_eq_zero
    intro x _
    simp only [Function.comp]
    rw [List.count_eq_zero]
    intro h
    obtain ⟨r, _, e⟩ := List.mem_map.mp h
    cases e
  | k :: ks, l :: ls => by
    rw [product, pc, List.count_flatMap]
    have : (l.map (List.count (k :: ks) ∘ fun x => (product ls).map (fun r => x :: r))) =
        l.map (fun x => if x = k then pc ks ls else 0) := by
      apply List.map_congr_left
      intro x _
      simp only [Function.comp]
      rw [count_map_cons, count_product ks ls]
    rw [this, sum_map_if_eq]

theorem nat_sum_map_flatMap {α β : Type} (g : α → List β) (h : β → Nat) (l : List α) :
    ((l.flatMap g).map h).sum = (l.map (fun x => ((g x).map h).sum)).sum := by
  induction l with
  | nil => simp
  | cons x xs ih =>
    simp only [List.flatMap_cons, List.map_append, List.sum_append, List.map_cons, List.sum_cons, ih]

theorem sum_lookup {ν : Type} (rs : AList Sym ν) (hn : (AList.keys rs).Nodup) (f : Sym) (g : ν → Nat) :
    (rs.map (fun r => if r.1 = f then g r.2 else 0)).sum =
      match AList.lookup f rs with
      | some v => g v
      | none => 0 := by
  induction rs with
  | nil => rfl
  | cons r rs ih =>
    obtain ⟨f', v⟩ := r
    simp only [AList.keys, List.map_cons, List.nodup_cons] at hn
    simp only [List.map_cons, List.sum_cons, AList.lookup]
    by_cases h : f' = f
    · subst h
      simp only [if_true]
      have hz : (rs.map (fun r => if r.1 = f' then g r.2 else 0)).sum = 0 := by
        apply sum_eq_zero
        intro x hx
        have : ¬ x.1 = f' := fun e => hn.1 (List.mem_map.mpr ⟨x, hx, e⟩)
        simp [this]
      omega
    · simp only [h, if_false, Nat.zero_add]
      exact ih hn.2

abbrev Prods (ν : Type) := ν → List (Sym × List ν)

namespace Prods
variable {ν : Type} (p : Prods ν)

/-- terms derivable from `n` within `k` levels, one entry per derivation -/
def lang : Nat → ν → List Prog
  | 0, _ => []
  | k + 1, n => (p n).flatMap (fun r =>
      (product (r.2.map (fun a => lang k a))).map (fun kids => Tree.node r.1 kids))

def count : Nat → ν → Nat
  | 0, _ => 0
  | k + 1, n => ((p n).map (fun r => (r.2.map (fun a => count k a)).prod)).sum

/-- every derivation from `n` is complete within `k` levels -/
def bounded : Nat → ν → Bool
  | 0, _ => false
  | k + 1, n => (p n).all (fun r => r.2.all (fun a => bounded k a))

/- the number of derivations of a term from a non-terminal: choose a production with the head of
   the term, derive child `i` from argument `i` -/
mutual
  def nders : Prog → ν → Nat
    | .node f ks, n => ((p n).map (fun r => if r.1 = f then ndersList ks r.2 else 0)).sum
  def ndersList : List Prog → List ν → Nat
    | [], [] => 1
    | k :: ks, a :: as => nders k a * ndersList ks as
    | _, _ => 0
end

theorem count_eq_length (k : Nat) (n : ν) : count p k n = (lang p k n).length := by
  induction k generalizing n with
  | zero => rfl
  | succ k ih =>
    simp only [count, lang, List.length_flatMap, List.length_map, product_length, List.map_map]
    exact congrArg List.sum (List.map_congr_left fun r _ =>
      congrArg List.prod (List.map_congr_left fun a _ => ih a))

/-- The list half of `count_lang`, by recursion on the children.  `ih` is `count_lang` at level `k`: its induction
    hypothesis where `count_lang` calls this, the theorem itself afterwards. -/
theorem pc_lang (k : Nat)
    (ih : ∀ (t : Prog) (n : ν), (lang p k n).count t = if Tree.depth t ≤ k then nders p t n else 0) :
    ∀ (ks : List Prog) (as : List ν),
      pc ks (as.map (fun a => lang p k a)) = if Tree.depthList ks ≤ k then ndersList p ks as else 0
  | [], [] => by simp [pc, ndersList, Tree.depthList]
  | [], _ :: _ => by simp [pc, ndersList]
  | _ :: _, [] => by simp [pc, ndersList]
  | t :: ks, a :: as => by
    rw [List.map_cons, pc, ih, pc_lang k ih ks as, ndersList, Tree.depthList]
    by_cases h1 : Tree.depth t ≤ k <;> by_cases h2 : Tree.depthList ks ≤ k <;> simp [h1, h2, Nat.max_le]

theorem count_lang (k : Nat) (t : Prog) (n : ν) :
    (lang p k n).count t = if Tree.depth t ≤ k then nders p t n else 0 := by
  induction k generalizing t n with
  | zero => obtain ⟨f, ks⟩ := t; simp [lang, Tree.depth]
  | succ k ih =>
    obtain ⟨f, ks⟩ := t
    have hd : Tree.depth (Tree.node f ks) ≤ k + 1 ↔ Tree.depthList ks ≤ k := by
      simp only [Tree.depth, Nat.add_comm 1, Nat.add_le_add_iff_right]
    rw [lang, nders, List.count_flatMap]
    simp only [hd]
    have h1 : (p n).map (List.count (Tree.node f ks) ∘ fun r =>
          (product (r.2.map (fun a => lang p k a))).map (fun kids => Tree.node r.1 kids)) =
        (p n).map (fun r => if Tree.depthList ks ≤ k then (if r.1 = f then ndersList p ks r.2 else 0) else 0) :=
      List.map_congr_left fun r _ => by
        simp only [Function.comp]
        rw [count_map_node, count_product, pc_lang p k ih]
        by_cases h : r.1 = f <;> simp [h]
    rw [h1]
    by_cases h : Tree.depthList ks ≤ k
    · simp only [h, if_true]
    · simp only [h, if_false]; exact sum_eq_zero _ _ fun _ _ => rfl

theorem mem_lang_iff (k : Nat) (t : Prog) (n : ν) :
    t ∈ lang p k n ↔ 0 < nders p t n ∧ Tree.depth t ≤ k := by
  rw [← List.count_pos_iff, count_lang]
  by_cases h : Tree.depth t ≤ k <;> simp [h]

theorem mem_product_lang (k : Nat) (ks : List Prog) (as : List ν) :
    ks ∈ product (as.map (fun a => lang p k a)) ↔ 0 < ndersList p ks as ∧ Tree.depthList ks ≤ k := by
  rw [← List.count_pos_iff, count_product, pc_lang p k (count_lang p k)]
  by_cases h : Tree.depthList ks ≤ k <;> simp [h]

theorem lang_nodup (h : ∀ t n, nders p t n ≤ 1) (k : Nat) (n : ν) : (lang p k n).Nodup := by
  rw [List.nodup_iff_count]
  intro t
  rw [count_lang]
  split
  · exact h t n
  · exact Nat.zero_le 1

theorem bounded_succ {k : Nat} {n : ν} :
    bounded p (k + 1) n = true ↔ ∀ r ∈ p n, ∀ a ∈ r.2, bounded p k a = true := by
  simp only [bounded, List.all_eq_true]

theorem bounded_mono (k : Nat) (n : ν) (h : bounded p k n = true) : bounded p (k + 1) n = true := by
  induction k generalizing n with
  | zero => cases h
  | succ k ih =>
    rw [bounded_succ] at h ⊢
    exact fun r hr a ha => ih a (h r hr a ha)

theorem bounded_le {k k' : Nat} (n : ν) (h : bounded p k n = true) (hle : k ≤ k') : bounded p k' n = true := by
  induction hle with
  | refl => exact h
  | step _ ih => exact bounded_mono p _ n ih

theorem count_stable (k : Nat) (n : ν) (h : bounded p k n = true) : count p (k + 1) n = count p k n := by
  induction k generalizing n with
  | zero => cases h
  | succ k ih =>
    rw [bounded_succ] at h
    rw [count, count]
    exact congrArg List.sum (List.map_congr_left fun r hr =>
      congrArg List.prod (List.map_congr_left fun a ha => ih a (h r hr a ha)))

theorem count_stable_le {k k' : Nat} (n : ν) (h : bounded p k n = true) (hle : k ≤ k') :
    count p k' n = count p k n := by
  induction hle with
  | refl => rfl
  | step hle' ih => rw [count_stable p _ n (bounded_le p n h hle'), ih]

theorem count_eq_of_bounded {k k' : Nat} (n : ν) (h : bounded p k n = true) (h' : bounded p k' n = true) :
    count p k n = count p k' n :=
  (Nat.le_total k k').elim (fun hle => (count_stable_le p n h hle).symm) (count_stable_le p n h')

/-- The list half of `depth_le_of_bounded`, which hands over its induction hypothesis as `ih`. -/
theorem ndersList_pos (k : Nat)
    (ih : ∀ (t : Prog) (n : ν), bounded p k n = true → 0 < nders p t n → Tree.depth t ≤ k) :
    ∀ (ks : List Prog) (as : List ν), (∀ a ∈ as, bounded p k a = true) → 0 < ndersList p ks as →
      Tree.depthList ks ≤ k
  | [], _, _, _ => Nat.zero_le k
  | _ :: _, [], _, h => by simp [ndersList] at h
  | t :: ks, a :: as, hb, h => by
    rw [ndersList] at h
    rw [Tree.depthList, Nat.max_le]
    exact ⟨ih t a (hb a (by simp)) (Nat.pos_of_mul_pos_right h),
      ndersList_pos k ih ks as (fun x hx => hb x (by simp [hx])) (Nat.pos_of_mul_pos_left h)⟩

theorem depth_le_of_bounded (k : Nat) (t : Prog) (n : ν) (hb : bounded p k n = true)
    (hd : 0 < nders p t n) : Tree.depth t ≤ k := by
  induction k generalizing t n with
  | zero => cases hb
  | succ k ih =>
    obtain ⟨f, ks⟩ := t
    rw [bounded_succ] at hb
    rw [nders] at hd
    -- a positive sum has a positive term
    have : ∃ r ∈ p n, 0 < (if r.1 = f then ndersList p ks r.2 else 0) := by
      false_or_by_contra
      rename_i hno
      rw [sum_eq_zero _ _ fun r hr => Nat.eq_zero_of_not_pos fun hp => hno ⟨r, hr, hp⟩] at hd
      cases hd
    obtain ⟨r, hr, hpos⟩ := this
    split at hpos
    · have := ndersList_pos p k ih ks r.2 (hb r hr) hpos
      simp only [Tree.depth]; omega
    · cases hpos

theorem count_lang_of_bounded (k : Nat) (t : Prog) (n : ν) (hb : bounded p k n = true) :
    (lang p k n).count t = nders p t n := by
  rw [count_lang]
  split
  · rfl
  · rename_i h
    exact (Nat.eq_zero_of_not_pos fun hp => h (depth_le_of_bounded p k t n hb hp)).symm

end Prods

end PS.G
