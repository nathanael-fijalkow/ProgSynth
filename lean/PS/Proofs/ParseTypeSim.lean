/-
  C15 — the character-level machine `autoType` run on a text that the tokenizer cuts into `ts`
  is the token-level machine `autoTypeToks` on `ts` (no rendering is involved).
-/
import PS.Proofs.ParseType
namespace PS.C15
open PS TyExpr

variable {sx : Bool}

theorem step_paren_w (w : Str) (sub : Res TyO) (st : St) : step sx .paren w sub st = step sx .paren [] sub st := rfl
theorem step_brack_w (w : Str) (sub : Res TyO) (st : St) : step sx .brack w sub st = step sx .brack [] sub st := rfl
theorem step_or_w (w : Str) (sub : Res TyO) (st : St) : step sx .or w sub st = step sx .or [] sub st := rfl

def subOf (rec : Str → Res TyO) (k : Kind) (w : Str) : Res TyO :=
  match k with
  | .paren => rec w
  | .brack => rec w
  | _ => .error .fuel

theorem loopC_step {rec : Str → Res TyO} {fuel : Nat} {text : Str} {st : St} {w : Str} {k : Kind}
    {idx : Nat} (ht : text ≠ []) (hn : nextToken sx text = .ok (w, k, idx)) :
    loopC sx rec (fuel + 1) text st =
      match step sx k w (subOf rec k w) st with
      | .error e => .error e
      | .ok st' => loopC sx rec fuel (strip (text.drop idx)) st' := by
  rw [loopC]; simp only [ht, if_false, hn]; rfl

theorem loopC_follows (t : Tok) (ts : List Tok) (rec : Str → Res TyO) (fuel : Nat) (text : Str)
    (st : St) (w : Str) (k : Kind) (idx : Nat) (ht : text ≠ [])
    (hn : nextToken sx text = .ok (w, k, idx))
    (hs : step sx k w (subOf rec k w) st = stepT sx t st)
    (hrest : ∀ st', loopC sx rec fuel (strip (text.drop idx)) st' = loopT sx ts st') :
    loopC sx rec (fuel + 1) text st = loopT sx (t :: ts) st := by
  rw [loopC_step ht hn, hs]
  cases h : stepT sx t st with
  | error e => rw [loopT_cons_err h]
  | ok st' => rw [loopT_cons_ok h]; exact hrest st'

def tokOf (rec : Str → Res (List Tok)) (k : Kind) (w : Str) : Res Tok :=
  match k with
  | .paren => (rec w).map (fun ks => .node .paren ks)
  | .brack => (rec w).map (fun ks => .node .brack ks)
  | .none => .ok (.node (.name w) [])
  | .poly => .ok (.node (.pvar w) [])
  | .infx => .ok (.node (.op w) [])
  | .or => .ok (.node .bar [])

theorem tokenizeLoop_succ {rec : Str → Res (List Tok)} {fuel : Nat} {text w : Str} {k : Kind}
    {idx : Nat} (ht : text ≠ []) (hn : nextToken sx text = .ok (w, k, idx)) :
    tokenizeLoop sx rec (fuel + 1) text =
      match tokOf rec k w with
      | .error e => .error e
      | .ok t => match tokenizeLoop sx rec fuel (strip (text.drop idx)) with
        | .error e => .error e
        | .ok ts => .ok (t :: ts) := by
  rw [tokenizeLoop]; simp only [ht, if_false, hn]; rfl

theorem tokenizeLoop_step {rec : Str → Res (List Tok)} {fuel : Nat} {text w : Str} {k : Kind}
    {idx : Nat} {t : Tok} {ts : List Tok} (ht : text ≠ [])
    (hn : nextToken sx text = .ok (w, k, idx)) (hk : tokOf rec k w = .ok t)
    (hr : tokenizeLoop sx rec fuel (strip (text.drop idx)) = .ok ts) :
    tokenizeLoop sx rec (fuel + 1) text = .ok (t :: ts) := by
  rw [tokenizeLoop_succ ht hn, hk]; simp only [hr]

theorem step_of_tokOf {rec : Str → Res TyO} {rect : Str → Res (List Tok)}
    (ih : ∀ w ks, rect w = .ok ks → rec w = autoTypeToks sx ks) {k : Kind} {w : Str} {t : Tok}
    (hk : tokOf rect k w = .ok t) (st : St) : step sx k w (subOf rec k w) st = stepT sx t st := by
  cases k
  case paren | brack =>
    cases hr : rect w with
    | error e => simp [tokOf, hr, Except.map] at hk
    | ok ks =>
      simp only [tokOf, hr, Except.map] at hk; cases hk
      unfold stepT; rw [← ih w ks hr]; rfl
  all_goals (cases hk; unfold stepT; rfl)

theorem loopC_of_tokenizeLoop (d : Nat)
    (ih : ∀ w ks, tokenize sx d w = .ok ks → autoType sx d w = autoTypeToks sx ks) :
    ∀ (fuel : Nat) (text : Str) (ts : List Tok) (st : St),
      tokenizeLoop sx (tokenize sx d) fuel text = .ok ts → loopC sx (autoType sx d) fuel text st = loopT sx ts st := by
  intro fuel text ts st h
  -- of the six ways through `tokenizeLoop`, four fail and one is the empty text
  fun_induction tokenizeLoop sx (tokenize sx d) fuel text generalizing ts st with
  | case2 => cases h; simp [loopC, loopT]
  | case6 fuel text ht w k idx hn _ t hk ts' hl ihf =>
    cases h
    exact loopC_follows t ts' _ fuel text st w k idx ht hn (step_of_tokOf ih hk st) (fun st' => ihf ts' st' hl)
  | _ => cases h

theorem autoType_of_tokenize : ∀ (d : Nat) (el : Str) (ts : List Tok),
    tokenize sx d el = .ok ts → autoType sx d el = autoTypeToks sx ts := by
  intro d
  induction d with
  | zero => intro el ts h; simp [tokenize] at h
  | succ d ih =>
    intro el ts h
    rw [tokenize] at h
    have := loopC_of_tokenizeLoop d ih (el.length + 1) (strip el) ts {} h
    rw [autoType, this, autoTypeToks]

end PS.C15
