/- C08, fragment grammar: `addNode` preserves the invariant `GoInv`, part by part. -/
import PS.Proofs.SplitterInv
namespace PS.Sp
open PS PS.G

variable {U : Type} [DecidableEq U]

theorem LaysOK.snoc {L : List (Lay U)} {c : Nat} (h : LaysOK L c) {lay : Lay U}
    (hp : renPath lay.lo [(lay.n.start, lay.sp)] lay.n.steps = some (lay.hi, lay.steps', lay.pend))
    (h0 : 0 < idx lay.sp) (h1 : idx lay.sp ≤ lay.lo) (hc : c ≤ lay.lo) (her : er lay.sp = lay.n.start)
    (hsp : ∀ l ∈ L, idx lay.sp ≤ l.lo ∨ l.hi < idx lay.sp) : LaysOK (L ++ [lay]) lay.hi where
  path := forall_mem_snoc h.path hp
  spPos := forall_mem_snoc h.spPos h0
  spLo := forall_mem_snoc h.spLo h1
  hiLe := forall_mem_snoc (fun l hl => Nat.le_trans (h.hiLe l hl) (Nat.le_trans hc (lay_own hp h1).le))
    (Nat.le_refl _)
  spEr := forall_mem_snoc h.spEr her
  spIdx := forall_mem_snoc
    (fun l hl => forall_mem_snoc (h.spIdx l hl) (hsp l hl))
    (forall_mem_snoc
      (fun _ hl' => Or.inl (Nat.le_trans (h.sp_le hl') hc))
      (Or.inl h1))

theorem StartsOK.getD {st : FragSt U} {L : List (Lay U)} (h : StartsOK st L) (X : UNT (U × Nat)) :
    (AList.lookup X st.startProbs).getD 0 = spMass L X := by
  by_cases hx : ∃ l ∈ L, l.sp = X
  · obtain ⟨l, hl, rfl⟩ := hx
    rw [h.spVal l hl]; rfl
  · have hx' : ∀ l ∈ L, l.sp ≠ X := fun l hl he => hx ⟨l, hl, he⟩
    rw [h.spNone X hx', spMass_none L X hx']; rfl

theorem StartsOK.snoc {st st2 : FragSt U} {L : List (Lay U)} (h : StartsOK st L) {lay : Lay U}
    (hA : ∀ s, AList.lookup s st2.newStarts = if s = lay.n.start then some lay.sp else AList.lookup s st.newStarts)
    (hB : ∀ X, AList.lookup X st2.startProbs =
      if X = lay.sp then some ((AList.lookup lay.sp st.startProbs).getD 0 + lay.n.prob) else AList.lookup X st.startProbs)
    (hC : (st2.startProbs.map (·.2)).sum = (st.startProbs.map (·.2)).sum + lay.n.prob)
    (hsame : ∀ l ∈ L, l.n.start = lay.n.start → l.sp = lay.sp)
    (hne : ∀ l ∈ L, l.sp = lay.sp → l.n.steps ≠ [] ∧ lay.n.steps ≠ []) : StartsOK st2 (L ++ [lay]) where
  nsIff s x := by
    rw [hA]
    split
    · rename_i hs
      subst hs
      constructor
      · intro hx
        exact ⟨lay, List.mem_append_cons_self, rfl, Option.some.inj hx⟩
      · rintro ⟨l, hl, h1, rfl⟩
        rcases List.mem_append.mp hl with hl | hl
        · rw [hsame l hl h1]
        · rw [List.eq_of_mem_singleton hl]
    · rename_i hs
      rw [h.nsIff]
      constructor
      · rintro ⟨l, hl, h1⟩
        exact ⟨l, List.mem_append.mpr (Or.inl hl), h1⟩
      · rintro ⟨l, hl, h1, h2⟩
        rcases List.mem_append.mp hl with hl | hl
        · exact ⟨l, hl, h1, h2⟩
        · exact absurd (List.eq_of_mem_singleton hl ▸ h1).symm hs
  spVal l hl := by
    rw [hB, spMass_append]
    split
    · rename_i he
      rw [he, h.getD, if_pos rfl]
    · rename_i he
      rcases List.mem_append.mp hl with hl | hl
      · rw [h.spVal l hl, if_neg (Ne.symm he), Rat.add_zero]
      · exact absurd (congrArg Lay.sp (List.eq_of_mem_singleton hl)) he
  spNone X hX := by
    rw [hB, if_neg (Ne.symm (hX lay (List.mem_append_cons_self)))]
    exact h.spNone X (fun l hl => hX l (List.mem_append_left _ hl))
  spTot := by
    rw [hC, h.spTot, List.map_append, List.sum_append]
    simp only [List.map_cons, List.map_nil, List.sum_cons, List.sum_nil, Rat.add_zero]
  spNil l hl hnil := by
    rw [spMass_append]
    rcases List.mem_append.mp hl with hl | hl
    · rw [if_neg (fun he => (hne l hl he.symm).1 hnil), Rat.add_zero]
      exact h.spNil l hl hnil
    · cases List.eq_of_mem_singleton hl
      rw [if_pos rfl, spMass_none L _ (fun l' hl' he => (hne l' hl' he).2 hnil), Rat.zero_add]

theorem renPath_nil_pending {c : Nat} {w : List (Step U)} {r} (h : renPath c [] w = some r) : w = [] := by
  cases w with
  | nil => rfl
  | cons => cases h

/-- the first renamed rule of a new node differs from those of the earlier nodes with its start copy:
    its arguments carry new numbers, or it has none, both paths are that single rule, and one is a
    prefix of the other -/
theorem head_fresh {L : List (Lay U)} {c : Nat} (hl : LaysOK L c) {n : Node U} {sp : UNT (U × Nat)} {lo hi' : Nat}
    {steps' : List (Step (U × Nat))} {pend : List (UNT U × UNT (U × Nat))} (hc : c ≤ lo)
    (hr : renPath lo [(n.start, sp)] n.steps = some (hi', steps', pend)) (her : er sp = n.start)
    (hpf : ∀ l ∈ L, l.n.start = n.start → ¬ l.n.steps <+: n.steps ∧ ¬ n.steps <+: l.n.steps)
    {P : Sym} {m : List (UNT (U × Nat))} {t : List (Step (U × Nat))} (hs : steps' = (sp, P, m) :: t) :
    ∀ l ∈ L, l.sp = sp → l.steps'.head? ≠ some (sp, P, m) := by
  intro a ha hspa he
  have hst : a.n.start = n.start := by rw [← hl.spEr a ha, hspa, her]
  rcases renPath_start (hl.path a ha) with ⟨-, e, -⟩ | ⟨Pa, va, wa, ra, ea, e, -, -, ha0⟩
  · rw [e] at he; cases he
  rcases renPath_start hr with ⟨-, e', -⟩ | ⟨Pb, vb, wb, rb, eb, e', -, -, hb0⟩
  · rw [e'] at hs; cases hs
  rw [e] at he
  rw [e'] at hs
  have h3 := (List.cons.inj hs).1
  have hPb : Pb = P := congrArg (·.2.1) h3
  have hmb : (freshList lo vb).2 = m := congrArg (·.2.2) h3
  subst hPb hmb
  obtain ⟨hP, hm⟩ : Pa = Pb ∧ (freshList a.lo va).2 = (freshList lo vb).2 := by
    simp only [List.head?_cons, Option.some.injEq, Prod.mk.injEq] at he
    exact ⟨he.2.1, he.2.2⟩
  cases vb with
  | nil =>
    have hva : va = [] := List.eq_nil_of_length_eq_zero ((freshList_length va a.lo).symm.trans
      (congrArg List.length hm))
    subst hva
    cases renPath_nil_pending ha0
    cases renPath_nil_pending hb0
    exact (hpf a ha hst).1 (by rw [ea, eb, hst, hP]; exact List.prefix_refl _)
  | cons x vb =>
    have hx : (x.1, (x.2, lo + 1)) ∈ (freshList lo (x :: vb)).2 := List.mem_cons_self
    have o4a := (hl.own ha).args _ (e ▸ List.mem_cons_self) _ (hm ▸ hx)
    exact absurd (Nat.le_trans o4a.2 (Nat.le_trans (hl.hiLe a ha) hc)) (Nat.not_le.mpr (Nat.lt_succ_self lo))

/-- `st2` is the state after the allocation of the start copy `sp` -/
theorem TablesOK.snoc {pg : PUG U} {st st2 st' : FragSt U} {L : List (Lay U)} (hl : LaysOK L st.counter)
    (ht : TablesOK pg st L) {n : Node U} {sp : UNT (U × Nat)} {hi' : Nat} {steps' : List (Step (U × Nat))}
    {pend : List (UNT U × UNT (U × Nat))}
    (h2 : ∀ Y, rows st2 Y = rows st Y) (h2f : st2.toFill = st.toFill) (hlo : st.counter ≤ st2.counter)
    (hr : renPath st2.counter [(n.start, sp)] n.steps = some (hi', steps', pend))
    (h0 : 0 < idx sp) (h1 : idx sp ≤ st2.counter) (her : er sp = n.start)
    (hspL : ∀ l ∈ L, idx sp ≤ l.lo ∨ l.hi < idx sp)
    (hnew : (∃ l ∈ L, l.sp = sp) ∨ st.counter < idx sp)
    (hpf : ∀ l ∈ L, l.n.start = n.start → ¬ l.n.steps <+: n.steps ∧ ¬ n.steps <+: l.n.steps)
    (hst' : copyAll pg { addSteps n.prob 0 st2 steps' with counter := hi' } pend = st') :
    TablesOK pg st' (L ++ [⟨n, sp, st2.counter, hi', steps', pend⟩]) := by
  have o := lay_own hr h1
  obtain ⟨frame, hpath, c2, c3, hcnt, -, -⟩ := addPath_spec pg n.prob st2 hi' o.nodup hst'
  rw [show rows st2 = rows st from funext h2] at frame hpath
  -- a name that is not the start copy and has an old number is not touched
  have frame' : ∀ Y, Y ≠ sp → idx Y ≤ st2.counter → rows st' Y = rows st Y := fun Y hne hle =>
    frame Y (fun hm => (o.lhs Y hm).elim hne (fun h => absurd hle (Nat.not_le.mpr h.1)))
  have hold : ∀ l ∈ L, ∀ Y, l.lo < idx Y ∧ idx Y ≤ l.hi → rows st' Y = rows st Y := by
    intro l hl' Y hY
    refine frame' Y (fun he => ?_) (Nat.le_trans hY.2 (Nat.le_trans (hl.hiLe l hl') hlo))
    subst he
    exact (hspL l hl').elim (fun h => absurd hY.1 (Nat.not_lt.mpr h)) (fun h => absurd hY.2 (Nat.not_le.mpr h))
  have holdsp : ∀ l ∈ L, l.sp ≠ sp → rows st' l.sp = rows st l.sp := fun l hl' hne =>
    frame' l.sp hne (Nat.le_trans (hl.sp_le hl') hlo)
  have hstart : ∀ l ∈ L, l.sp = sp → l.n.start = n.start := fun l hl' he => by rw [← hl.spEr l hl', he, her]
  constructor
  · intro X hX
    rw [hcnt] at hX
    have hno : ∀ Y ∈ targets steps' ++ names pend, Y ≠ X := by
      intro Y hY he
      subst he
      rcases o.lhs Y hY with rfl | h
      · exact hX.elim (fun e => absurd e (Nat.ne_of_gt h0)) (fun e => absurd (Nat.le_trans h1 o.le) (Nat.not_le.mpr e))
      · exact hX.elim (fun e => absurd h.1 (e ▸ Nat.not_lt_zero _)) (fun e => absurd h.2 (Nat.not_le.mpr e))
    rw [frame X (fun hm => hno X hm rfl)]
    exact ht.keys X (hX.imp id (Nat.lt_of_le_of_lt (Nat.le_trans hlo o.le)))
  · refine forall_mem_snoc (fun l hl' s hs => ?_) (fun s hs => ?_)
    · rw [hold l hl' s.1 (lay_tail_idx (hl.path l hl') (hl.spLo l hl') s hs)]
      exact ht.chain l hl' s hs
    · cases hst : steps' with
      | nil => rw [hst] at hs; cases hs
      | cons s0 t =>
        rw [hst] at hs
        have hfr := lay_tail_idx hr h1 s (by rw [hst]; exact hs)
        rw [((hpath s0 t hst).2 s hs), ht.keys s.1 (Or.inr (Nat.lt_of_le_of_lt hlo hfr.1))]
        rfl
  · refine forall_mem_snoc (fun l hl' e he => ?_) (fun e he => c2 e he)
    have hrw : rows st' e.2 = rows st e.2 := by
      rcases renPath_start (hl.path l hl') with ⟨hnil, -, hp⟩ | ⟨P, v, w, r0, hc, -⟩
      · rw [hp] at he
        rw [List.eq_of_mem_singleton he]
        exact holdsp l hl' (fun hsp => (hpf l hl' (hstart l hl' hsp)).1 (hnil ▸ List.nil_prefix))
      · exact hold l hl' e.2 (lay_fresh (hl.path l hl') (hl.spLo l hl') (hc ▸ List.cons_ne_nil _ _) e.2
          (List.mem_append_right _ (List.mem_map_of_mem he)))
    rw [hrw]
    exact ⟨(ht.pendC l hl' e he).1, fun S' hS' => c3 S' (h2f ▸ (ht.pendC l hl' e he).2 S' hS')⟩
  · -- the row of `sp` before the node
    have hrow : n.steps ≠ [] → RowOK ((rows st sp).1.getD []) ((rows st sp).2.getD []) L sp := by
      intro hn
      rcases hnew with ⟨l0, hl0, e0⟩ | hlt
      · exact e0 ▸ ht.startT l0 hl0 (fun hnil => (hpf l0 hl0 (hstart l0 hl0 e0)).1 (hnil ▸ List.nil_prefix))
      · rw [ht.keys sp (Or.inr hlt)]
        exact RowOK.empty (fun l hl' he => absurd (he ▸ hl.sp_le hl') (Nat.not_le.mpr hlt))
    intro l hl' hne
    by_cases hlsp : l.sp = sp
    · have hn : n.steps ≠ [] := by
        rcases List.mem_append.mp hl' with hlL | hlL
        · exact fun hnil => (hpf l hlL (hstart l hlL hlsp)).2 (hnil ▸ List.nil_prefix)
        · cases List.eq_of_mem_singleton hlL
          exact hne
      rcases renPath_start hr with ⟨hnil, -⟩ | ⟨P, v, w, r0, -, e1, -⟩
      · exact absurd hnil hn
      · rw [hlsp, (hpath _ _ e1).1]
        exact (hrow hn).step (lay := ⟨n, sp, st2.counter, hi', steps', pend⟩) rfl e1
          (head_fresh hl hlo hr her hpf e1)
    · have hlL : l ∈ L := (List.mem_append.mp hl').elim id
        (fun h => absurd (congrArg Lay.sp (List.eq_of_mem_singleton h)) hlsp)
      rw [holdsp l hlL hlsp]
      exact (ht.startT l hlL hne).frame (fun he => hlsp he.symm)

theorem addNode_inv {pg : PUG U} {st st' : FragSt U} {L : List (Lay U)} {n : Node U} (hi : GoInv pg st L)
    (hpf : ∀ l ∈ L, l.n.start = n.start → ¬ l.n.steps <+: n.steps ∧ ¬ n.steps <+: l.n.steps)
    (h : addNode pg st n = some st') : ∃ lay : Lay U, lay.n = n ∧ GoInv pg st' (L ++ [lay]) := by
  rw [addNode_eq] at h
  have hL := hi.toLaysOK
  -- a start copy with the next number is not one of the earlier nodes
  have hnext : ∀ l ∈ L, idx l.sp ≤ st.counter := fun l hl => hL.sp_le hl
  obtain ⟨a1, a2, a3, a4, aA, aB, aC⟩ := alloc_spec st n (fun hn => hi.spNone _ (fun l hl he => by
    have := hnext l hl
    rw [he, spOf_none hn] at this
    exact Nat.not_succ_le_self _ this))
  have hsp : er (spOf st n) = n.start ∧ 0 < idx (spOf st n) ∧ idx (spOf st n) ≤ (st2Of st n).counter ∧
      st.counter ≤ (st2Of st n).counter ∧ (∀ l ∈ L, idx (spOf st n) ≤ l.lo ∨ l.hi < idx (spOf st n)) ∧
      ((∃ l ∈ L, l.sp = spOf st n) ∨ st.counter < idx (spOf st n)) ∧
      (∀ l ∈ L, l.n.start = n.start → l.sp = spOf st n) := by
    rcases a4 with ⟨hl, hc⟩ | ⟨hl, hc⟩
    · obtain ⟨l0, hl0, e1, e2⟩ := (hi.nsIff _ _).mp hl
      rw [hc, ← e2]
      exact ⟨(hL.spEr l0 hl0).trans e1, hL.spPos l0 hl0, hnext l0 hl0, Nat.le_refl _,
        fun l hl' => hL.spIdx l hl' l0 hl0, Or.inl ⟨l0, hl0, rfl⟩,
        fun l hl' hs => Option.some.inj (((hi.nsIff _ _).mpr ⟨l, hl', hs, rfl⟩).symm.trans (e2 ▸ hl))⟩
    · rw [hc, spOf_none hl]
      refine ⟨rfl, Nat.succ_pos _, Nat.le_refl _, Nat.le_succ _,
        fun l hl' => Or.inr (Nat.lt_succ_of_le (hL.hiLe l hl')), Or.inr (Nat.lt_succ_self _), fun l hl' hs => ?_⟩
      have := (hi.nsIff _ _).mpr ⟨l, hl', hs, rfl⟩
      rw [hl] at this
      cases this
  obtain ⟨her, h0, h1, hlo, hspL, hnew, hsame⟩ := hsp
  generalize spOf st n = sp at *
  generalize st2Of st n = st2 at *
  cases hr : renPath st2.counter [(n.start, sp)] n.steps with
  | none => rw [hr] at h; cases h
  | some r =>
    obtain ⟨hi', steps', pend⟩ := r
    rw [hr] at h
    have h' : copyAll pg { addSteps n.prob 0 st2 steps' with counter := hi' } pend = st' := Option.some.inj h
    obtain ⟨-, -, -, -, hcnt, c5, c6⟩ := addPath_spec pg n.prob st2 hi' (lay_own hr h1).nodup h'
    refine ⟨⟨n, sp, st2.counter, hi', steps', pend⟩, rfl, ?_, ?_, ?_⟩
    · rw [hcnt]
      exact hL.snoc hr h0 h1 hlo her hspL
    · exact hi.toTablesOK.snoc hL (fun Y => by rw [rows, rows, a1, a2]) a3 hlo hr h0 h1 her hspL hnew hpf h'
    · exact hi.toStartsOK.snoc (st2 := st') (lay := ⟨n, sp, st2.counter, hi', steps', pend⟩)
        (fun s => c6 ▸ aA s) (fun X => c5 ▸ aB X) (c5 ▸ aC) hsame (fun l hl he =>
          have hp := hpf l hl (by rw [← hL.spEr l hl, he, her])
          ⟨fun hnil => hp.1 (hnil ▸ List.nil_prefix), fun hnil => hp.2 (hnil ▸ List.nil_prefix)⟩)

end PS.Sp
