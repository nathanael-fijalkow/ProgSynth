/- C17, program side: `allInst` lists the instantiations of a template exactly once. -/
import PS.Proofs.InstConst
namespace PS.IC
open PS PS.G

theorem nodup_flatMap_map {α β γ : Type} (g : α → β → γ)
    (hinj : ∀ {a b a' b'}, g a b = g a' b' → a = a' ∧ b = b') {l : List α} {m : List β}
    (hl : l.Nodup) (hm : m.Nodup) : (l.flatMap fun a => m.map (g a)).Nodup :=
  AList.nodup_flatMap hl (fun a _ => hm.map fun b b' e => (hinj e).2) fun a _ a' _ z hz hz' => by
    obtain ⟨b, _, rfl⟩ := List.mem_map.mp hz
    obtain ⟨b', _, e⟩ := List.mem_map.mp hz'
    exact (hinj e).1.symm

theorem mem_flatMap_map {α β γ : Type} (g : α → β → γ) {l : List α} {m : List β} {x : γ} :
    x ∈ (l.flatMap fun a => m.map (g a)) ↔ ∃ a ∈ l, ∃ b ∈ m, x = g a b := by
  simp only [List.mem_flatMap, List.mem_map, eq_comm]

theorem mem_flatMap_map_inj {α β γ : Type} (g : α → β → γ)
    (hinj : ∀ {a b a' b'}, g a b = g a' b' → a = a' ∧ b = b') {l : List α} {m : List β} {a : α} {b : β} :
    g a b ∈ (l.flatMap fun a => m.map (g a)) ↔ a ∈ l ∧ b ∈ m := by
  rw [mem_flatMap_map]
  constructor
  · rintro ⟨a', ha, b', hb, e⟩
    obtain ⟨rfl, rfl⟩ := hinj e
    exact ⟨ha, hb⟩
  · rintro ⟨ha, hb⟩
    exact ⟨a, ha, b, hb, rfl⟩

/-- the program side makes the test of the grammar side: the heads are the keys made of `P`, but for
    the `KeyError` of a constant whose type is not a key -/
theorem allInstSym_eq_slot? (fx : Fix) (tbl : Tbl) (P : Sym) :
    allInstSym fx tbl P = match slot? fx tbl P with
      | some vals => some (vals.map fun v => Sym.const P.ty v)
      | none => if fx.isConst P = true ∧ fx.f4 = false then none else some [P] := by
  unfold slot?
  fun_cases allInstSym fx tbl P with
  | case5 hk => simp [mt (fun h => (isConst_iff.mp h).1) hk]
  | _ => simp [*]

theorem allInstSym_eq {fx : Fix} {tbl : Tbl} {P : Sym} {hs : List Sym} (e : allInstSym fx tbl P = some hs) :
    hs = AList.keys (expand fx tbl (fun (u : Unit) _ => u) (P, ())) := by
  rw [allInstSym_eq_slot?] at e
  unfold expand AList.keys
  split at e
  · next hv => cases e; rw [hv, List.map_map]; rfl
  · next hv => rw [hv]; split at e <;> cases e; rfl

theorem produces_of_allInstSym {fx : Fix} {tbl : Tbl} {P : Sym} {hs : List Sym}
    (e : allInstSym fx tbl P = some hs) : ∀ k ∈ hs, produces fx tbl P k := by
  intro k hk
  rw [allInstSym_eq e] at hk
  exact (mem_keys_expand (e := (P, ()))).mp hk

theorem allInst_node {fx : Fix} {tbl : Tbl} {f : Sym} {kids : List Prog} {l : List Prog}
    (h : allInst fx tbl (.node f kids) = some l) :
    ∃ hs, allInstSym fx tbl f = some hs ∧
      (hs = [] ∧ l = [] ∨ ∃ poss, allInstList fx tbl kids = some poss ∧
        l = hs.flatMap fun f' => (product poss).map fun ks => Tree.node f' ks) := by
  rw [allInst] at h
  split at h
  · cases h
  · next e1 => cases h; exact ⟨[], e1, Or.inl ⟨rfl, rfl⟩⟩
  · next a r e1 =>
    split at h
    · cases h
    · next poss e2 => cases h; exact ⟨_, e1, Or.inr ⟨poss, e2, rfl⟩⟩

theorem allInstList_cons {fx : Fix} {tbl : Tbl} {k : Prog} {ks : List Prog} {poss : List (List Prog)}
    (h : allInstList fx tbl (k :: ks) = some poss) :
    ∃ l ls, allInst fx tbl k = some l ∧ allInstList fx tbl ks = some ls ∧ poss = l :: ls := by
  rw [allInstList] at h
  split at h
  · next l ls e1 e2 => cases h; exact ⟨l, ls, e1, e2, rfl⟩
  · cases h

theorem allInstSym_spec {fx : Fix} {tbl : Tbl} {P : Sym} (h : symOK fx tbl P = true) :
    ∃ hs, allInstSym fx tbl P = some hs ∧ hs.Nodup ∧ ∀ k, k ∈ hs ↔ symInst tbl P k = true := by
  unfold symOK at h
  -- a constant with a value passes `symOK` only under the repair of C17-F2, and then the code leaves it alone
  have hname : ∀ vals, slot? fx tbl P = some vals → P.name = "" := by
    intro vals hs
    obtain ⟨hk, hn, _⟩ := slot?_some hs
    by_cases hn' : P.name = ""
    · exact hn'
    · rw [if_neg hn'] at h
      simp only [hk, decide_true, Bool.not_true, Bool.false_or] at h
      exact hn h
  have hspec : ∀ hs, allInstSym fx tbl P = some hs → ∀ k, k ∈ hs ↔ symInst tbl P k = true :=
    fun hs e k => by rw [allInstSym_eq e, mem_keys_expand]; exact produces_iff_symInst_of_name hname
  rw [allInstSym_eq_slot?] at hspec ⊢
  cases hs : slot? fx tbl P with
  | some vals =>
    obtain ⟨hk, _, vals0, hl, rfl⟩ := slot?_some hs
    rw [if_pos (hname _ hs), hl] at h
    simp only [hk, decide_true, Bool.not_true, Bool.false_or, decide_eq_true_eq] at h
    exact ⟨_, rfl, h.map fun a b e => (const_inj e).2, hspec _ (by rw [hs])⟩
  | none =>
    have : ¬(fx.isConst P = true ∧ fx.f4 = false) := by
      rintro ⟨hc, h4⟩
      obtain ⟨hk, hn⟩ := isConst_iff.mp hc
      rcases slot?_none hs with hk' | hl | ⟨h2, hn'⟩
      · exact hk' hk
      · by_cases hn' : P.name = ""
        · simp [hk, hn', hl, h4] at h
        · simp [hk, hn'] at h; exact hn' (hn h)
      · exact hn' (hn h2)
    exact ⟨[P], if_neg this, List.nodup_singleton P, hspec _ (by rw [hs]; exact if_neg this)⟩

theorem allInst_spec (fx : Fix) (tbl : Tbl) :
    (∀ (t : Prog), progOK fx tbl t = true →
      ∃ l, allInst fx tbl t = some l ∧ l.Nodup ∧ ∀ t', t' ∈ l ↔ isInst tbl t t' = true) ∧
    ∀ (ks : List Prog), progOKList fx tbl ks = true →
      ∃ poss, allInstList fx tbl ks = some poss ∧ (product poss).Nodup ∧
        ∀ ks', ks' ∈ product poss ↔ isInstList tbl ks ks' = true := by
  refine Tree.ind₂ (fun f kids ih h => ?_) (fun _ => ⟨[], rfl, by simp [product], fun ks' => ?_⟩)
    (fun k ks ih1 ih2 h => ?_)
  · rw [progOK, Bool.and_eq_true] at h
    obtain ⟨hs, e1, nd1, m1⟩ := allInstSym_spec h.1
    obtain ⟨poss, e2, nd2, m2⟩ := ih h.2
    have key : ∀ t', t' ∈ (hs.flatMap fun f' => (product poss).map (fun ks => Tree.node f' ks)) ↔
        isInst tbl (.node f kids) t' = true := by
      intro t'
      obtain ⟨k, kids'⟩ := t'
      rw [mem_flatMap_map_inj _ Tree.node.inj, isInst, Bool.and_eq_true, ← m1 k, ← m2 kids']
    cases hs with
    | nil =>
      refine ⟨[], by unfold allInst; rw [e1], List.nodup_nil, ?_⟩
      intro t'
      rw [← key t']
      simp
    | cons a r =>
      refine ⟨_, by unfold allInst; rw [e1, e2], ?_, key⟩
      exact nodup_flatMap_map _ Tree.node.inj nd1 nd2
  · cases ks' <;> simp [product, isInstList]
  · rw [progOKList, Bool.and_eq_true] at h
    obtain ⟨l, e1, nd1, m1⟩ := ih1 h.1
    obtain ⟨ls, e2, nd2, m2⟩ := ih2 h.2
    refine ⟨l :: ls, by unfold allInstList; rw [e1, e2], ?_, ?_⟩
    · exact nodup_flatMap_map _ List.cons.inj nd1 nd2
    · intro ks'
      rw [product]
      cases ks' with
      | nil => simp [isInstList]
      | cons k' r' => rw [mem_flatMap_map_inj _ List.cons.inj, isInstList, Bool.and_eq_true, ← m1 k', ← m2 r']

theorem allInstList_spec (fx : Fix) (tbl : Tbl) : ∀ (ks : List Prog), progOKList fx tbl ks = true →
      ∃ poss, allInstList fx tbl ks = some poss ∧ (product poss).Nodup ∧
        ∀ ks', ks' ∈ product poss ↔ isInstList tbl ks ks' = true :=
  (allInst_spec fx tbl).2

end PS.IC
