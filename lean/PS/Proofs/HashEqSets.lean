/-
  C16: CPython's set algorithms (`mkSet`, `symDiffEmpty`) over a Bool-valued
  equivalence relation: they compute set equality modulo the relation, and any function that
  respects the relation sees the same multiset of values on the representatives.
-/
import PS.Model.HashEq
namespace PS.C16
open PS

variable {α : Type}

structure IsEquiv (R : α → α → Bool) : Prop where
  refl : ∀ x, R x x = true
  symm : ∀ x y, R x y = true → R y x = true
  trans : ∀ x y z, R x y = true → R y z = true → R x z = true

def NodupR (R : α → α → Bool) (l : List α) : Prop := l.Pairwise (fun x y => R x y = false)

/-- `A` and `B` have the same elements modulo `R`: each side finds a match on the other, `R`
    always taking the element of `A` first (the form in which `eqS` compares the kids of a sum).
    The hypotheses of `symm` and `trans` speak of the elements of `A` only, as an induction on
    trees provides them. -/
structure SetEq (R : α → α → Bool) (A B : List α) : Prop where
  left : ∀ x ∈ A, ∃ y ∈ B, R x y = true
  right : ∀ y ∈ B, ∃ x ∈ A, R x y = true

theorem SetEq.refl {R : α → α → Bool} {A : List α} (h : ∀ x ∈ A, R x x = true) : SetEq R A A :=
  ⟨fun x hx => ⟨x, hx, h x hx⟩, fun x hx => ⟨x, hx, h x hx⟩⟩

theorem SetEq.symm {R : α → α → Bool} {A B : List α}
    (hs : ∀ x ∈ A, ∀ y, R x y = true → R y x = true) (h : SetEq R A B) : SetEq R B A :=
  ⟨fun y hy => let ⟨x, hx, e⟩ := h.right y hy; ⟨x, hx, hs x hx y e⟩,
   fun x hx => let ⟨y, hy, e⟩ := h.left x hx; ⟨y, hy, hs x hx y e⟩⟩

theorem SetEq.trans {R : α → α → Bool} {A B C : List α}
    (ht : ∀ x ∈ A, ∀ y z, R x y = true → R y z = true → R x z = true)
    (h1 : SetEq R A B) (h2 : SetEq R B C) : SetEq R A C :=
  ⟨fun x hx => let ⟨y, hy, e⟩ := h1.left x hx; let ⟨z, hz, e'⟩ := h2.left y hy
      ⟨z, hz, ht x hx y z e e'⟩,
   fun z hz => let ⟨y, hy, e'⟩ := h2.right z hz; let ⟨x, hx, e⟩ := h1.right y hy
      ⟨x, hx, ht x hx y z e e'⟩⟩

theorem setMem_iff (R : α → α → Bool) (s : List α) (t : α) :
    setMem R s t = true ↔ ∃ e ∈ s, R e t = true := by
  simp [setMem, List.any_eq_true]

theorem setMem_false (R : α → α → Bool) (s : List α) (t : α) (h : setMem R s t = false) :
    ∀ e ∈ s, R e t = false := by
  simpa [setMem, List.any_eq_false] using h

theorem subset_setAdd (R : α → α → Bool) (s : List α) (t x : α) (hx : x ∈ s) : x ∈ setAdd R s t := by
  unfold setAdd; split
  · exact hx
  · exact List.mem_append_left _ hx

theorem mem_setAdd (R : α → α → Bool) (s : List α) (t x : α) (hx : x ∈ setAdd R s t) : x ∈ s ∨ x = t := by
  unfold setAdd at hx; split at hx
  · exact Or.inl hx
  · rcases List.mem_append.mp hx with h | h
    · exact Or.inl h
    · exact Or.inr (by simpa using h)

theorem nodup_setAdd (R : α → α → Bool) (s : List α) (t : α) (hs : NodupR R s) : NodupR R (setAdd R s t) := by
  unfold setAdd
  cases hm : setMem R s t with
  | true => simpa using hs
  | false =>
    simp only [Bool.false_eq_true, if_false]
    unfold NodupR
    rw [List.pairwise_append]
    refine ⟨hs, by simp, ?_⟩
    intro a ha b hb
    have : b = t := by simpa using hb
    subst this
    exact setMem_false R s b hm a ha

theorem mem_foldl_setAdd (R : α → α → Bool) (l acc : List α) (x : α)
    (hx : x ∈ l.foldl (setAdd R) acc) : x ∈ acc ∨ x ∈ l := by
  induction l generalizing acc with
  | nil => exact Or.inl hx
  | cons t l ih =>
    rcases ih _ hx with h | h
    · rcases mem_setAdd R acc t x h with h | h
      · exact Or.inl h
      · subst h; exact Or.inr (by simp)
    · exact Or.inr (List.mem_cons_of_mem _ h)

theorem cover_foldl_setAdd (R : α → α → Bool) (hR : IsEquiv R) (l acc : List α) (x : α)
    (hx : (∃ e ∈ acc, R e x = true) ∨ x ∈ l) : ∃ e ∈ l.foldl (setAdd R) acc, R e x = true := by
  induction l generalizing acc with
  | nil =>
    rcases hx with h | h
    · exact h
    · cases h
  | cons t l ih =>
    apply ih
    rcases hx with ⟨e, he, hr⟩ | h
    · exact Or.inl ⟨e, subset_setAdd R acc t e he, hr⟩
    · rcases List.mem_cons.mp h with h | h
      · subst h
        cases hm : setMem R acc x with
        | true =>
          obtain ⟨e, he, hr⟩ := (setMem_iff R acc x).mp hm
          exact Or.inl ⟨e, subset_setAdd R acc x e he, hr⟩
        | false =>
          refine Or.inl ⟨x, ?_, hR.refl x⟩
          unfold setAdd; simp [hm]
      · exact Or.inr h

theorem nodup_foldl_setAdd (R : α → α → Bool) (l acc : List α) (h : NodupR R acc) :
    NodupR R (l.foldl (setAdd R) acc) := by
  induction l generalizing acc with
  | nil => exact h
  | cons t l ih => exact ih _ (nodup_setAdd R acc t h)

theorem mem_mkSet (R : α → α → Bool) (l : List α) (x : α) (hx : x ∈ mkSet R l) : x ∈ l := by
  rcases mem_foldl_setAdd R l [] x hx with h | h
  · cases h
  · exact h

theorem cover_mkSet (R : α → α → Bool) (hR : IsEquiv R) (l : List α) (x : α) (hx : x ∈ l) :
    ∃ e ∈ mkSet R l, R e x = true := cover_foldl_setAdd R hR l [] x (Or.inr hx)

theorem nodup_mkSet (R : α → α → Bool) (l : List α) : NodupR R (mkSet R l) :=
  nodup_foldl_setAdd R l [] List.Pairwise.nil

theorem setEq_mkSet (R : α → α → Bool) (hR : IsEquiv R) (l : List α) : SetEq R (mkSet R l) l :=
  ⟨fun x hx => ⟨x, mem_mkSet R l x hx, hR.refl x⟩, cover_mkSet R hR l⟩

theorem setDiscard_eq_eraseP (R : α → α → Bool) (s : List α) (t : α) : setDiscard R s t = s.eraseP (R · t) := by
  induction s with
  | nil => rfl
  | cons e s ih => rw [setDiscard, ih, List.eraseP_cons, Bool.cond_eq_ite]

theorem setDiscard_sublist (R : α → α → Bool) (s : List α) (t : α) : (setDiscard R s t).Sublist s :=
  setDiscard_eq_eraseP R s t ▸ List.eraseP_sublist

theorem mem_setDiscard_of (R : α → α → Bool) (s : List α) (t x : α) (hx : x ∈ s) (hr : R x t = false) :
    x ∈ setDiscard R s t :=
  setDiscard_eq_eraseP R s t ▸ (List.mem_eraseP_of_neg (by simp [hr])).mpr hx

theorem setDiscard_not_match (R : α → α → Bool) (hR : IsEquiv R) (s : List α) (t x : α)
    (hs : NodupR R s) (hm : setMem R s t = true) (hx : x ∈ setDiscard R s t) : R x t = false := by
  fun_induction setDiscard R s t with
  | case1 => cases hx
  | case2 e s t he =>
    -- `e` matches `t` and goes; a second match `x` would match `e`
    refine Bool.eq_false_iff.mpr fun hxt => ?_
    have h1 : R e x = true := hR.trans e t x he (hR.symm x t hxt)
    rw [(List.pairwise_cons.mp hs).1 x hx] at h1; cases h1
  | case3 e s t he ih =>
    rcases List.mem_cons.mp hx with rfl | h
    · exact Bool.eq_false_iff.mpr he
    · exact ih (List.pairwise_cons.mp hs).2 (by simpa [setMem, he] using hm) h

theorem setEq_discard (R : α → α → Bool) (hR : IsEquiv R) {C O : List α} {t : α} (hC : NodupR R C)
    (hO : ∀ t' ∈ O, R t t' = false) (hm : setMem R C t = true) :
    SetEq R (setDiscard R C t) O ↔ SetEq R C (t :: O) := by
  constructor
  · intro ⟨h2, h1⟩
    constructor
    · intro e he
      cases hr : R e t with
      | true => exact ⟨t, by simp, hr⟩
      | false =>
        obtain ⟨t', ht', hr'⟩ := h2 e (mem_setDiscard_of R C t e he hr)
        exact ⟨t', List.mem_cons_of_mem _ ht', hr'⟩
    · intro t' ht'
      rcases List.mem_cons.mp ht' with h | h
      · subst h; exact (setMem_iff R C t').mp hm
      · obtain ⟨e, he, hr⟩ := h1 t' h
        exact ⟨e, (setDiscard_sublist R C t).subset he, hr⟩
  · intro ⟨h2, h1⟩
    constructor
    · intro e he
      have heC := (setDiscard_sublist R C t).subset he
      have hne := setDiscard_not_match R hR C t e hC hm he
      obtain ⟨t', ht', hr'⟩ := h2 e heC
      rcases List.mem_cons.mp ht' with h | h
      · subst h; rw [hne] at hr'; cases hr'
      · exact ⟨t', h, hr'⟩
    · intro t' ht'
      obtain ⟨e, he, hr⟩ := h1 t' (List.mem_cons_of_mem _ ht')
      refine ⟨e, mem_setDiscard_of R C t e he ?_, hr⟩
      cases hrt : R e t with
      | false => rfl
      | true =>
        have : R t t' = true := hR.trans t e t' (hR.symm e t hrt) hr
        rw [hO t' ht'] at this; cases this

theorem symfold_nil_iff (R : α → α → Bool) (hR : IsEquiv R) (O C : List α)
    (hO : NodupR R O) (hC : NodupR R C) : O.foldl (symStep R) C = [] ↔ SetEq R C O := by
  induction O generalizing C with
  | nil =>
    constructor
    · intro h
      simp only [List.foldl_nil] at h
      subst h
      exact ⟨fun _ h => (nomatch h), fun _ h => (nomatch h)⟩
    · intro ⟨h2, _⟩
      cases C with
      | nil => rfl
      | cons e C => obtain ⟨t, ht, _⟩ := h2 e (by simp); cases ht
  | cons t O ih =>
    have hO' := List.pairwise_cons.mp hO
    simp only [List.foldl_cons]
    cases hm : setMem R C t with
    | true =>
      have hstep : symStep R C t = setDiscard R C t := by simp [symStep, hm]
      rw [hstep, ih _ hO'.2 (List.Pairwise.sublist (setDiscard_sublist R C t) hC)]
      exact setEq_discard R hR hC hO'.1 hm
    | false =>
      have hstep : symStep R C t = C ++ [t] := by simp [symStep, hm]
      have hnd : NodupR R (C ++ [t]) := by
        have := nodup_setAdd R C t hC
        simpa [setAdd, hm] using this
      rw [hstep, ih _ hO'.2 hnd]
      -- neither side holds: `t` matches nothing in `O` on the left, nothing in `C` on the right
      constructor
      · intro ⟨h2, _⟩
        obtain ⟨t', ht', hr⟩ := h2 t (by simp)
        rw [hO'.1 t' ht'] at hr; cases hr
      · intro ⟨_, h1⟩
        obtain ⟨e, he, hr⟩ := h1 t (by simp)
        rw [setMem_false R C t hm e he] at hr; cases hr

theorem setEq_mkSet_iff (R : α → α → Bool) (hR : IsEquiv R) (A B : List α) :
    SetEq R (mkSet R A) (mkSet R B) ↔ SetEq R A B := by
  have sy : ∀ {A B : List α}, SetEq R A B → SetEq R B A := SetEq.symm fun x _ => hR.symm x
  have tr : ∀ {A B C : List α}, SetEq R A B → SetEq R B C → SetEq R A C :=
    SetEq.trans fun x _ => hR.trans x
  have a := setEq_mkSet R hR A
  have b := setEq_mkSet R hR B
  exact ⟨fun h => tr (sy a) (tr h b), fun h => tr a (tr h (sy b))⟩

/-- CPython's `len(set(o).symmetric_difference(s)) == 0` decides equality of sets modulo `R` -/
theorem symDiffEmpty_iff (R : α → α → Bool) (hR : IsEquiv R) (o s : List α) :
    symDiffEmpty R o s = true ↔ SetEq R s o := by
  unfold symDiffEmpty
  rw [List.isEmpty_iff, symfold_nil_iff R hR _ _ (nodup_mkSet R o) (nodup_mkSet R s),
    setEq_mkSet_iff R hR]

theorem perm_map_of_cover (R : α → α → Bool) (hR : IsEquiv R) (f : α → Int) (L1 L2 : List α)
    (h1 : NodupR R L1) (h2 : NodupR R L2) (c : SetEq R L1 L2)
    (hf : ∀ x ∈ L1, ∀ y, R x y = true → f x = f y) :
    (L1.map f).Perm (L2.map f) := by
  have sy : ∀ {A B : List α}, SetEq R A B → SetEq R B A := SetEq.symm fun x _ => hR.symm x
  induction L1 generalizing L2 with
  | nil =>
    cases L2 with
    | nil => exact List.Perm.refl _
    | cons y L2 => obtain ⟨x, hx, _⟩ := c.right y (by simp); cases hx
  | cons a L1 ih =>
    have h1' := List.pairwise_cons.mp h1
    obtain ⟨b, hb, hab⟩ := c.left a (by simp)
    have hba := hR.symm a b hab
    -- `a` and its match in `L2` go; what is left of each side still covers the other
    have c' : SetEq R L1 (setDiscard R L2 a) :=
      sy ((setEq_discard R hR h2 h1'.1 ((setMem_iff R L2 a).mpr ⟨b, hb, hba⟩)).mpr (sy c))
    have hrec := ih _ h1'.2 (h2.sublist (setDiscard_sublist R L2 a)) c' fun x hx => hf x (List.mem_cons_of_mem _ hx)
    obtain ⟨b', l₁, l₂, _, hb', rfl, he⟩ := List.exists_of_eraseP (p := (R · a)) hb hba
    rw [setDiscard_eq_eraseP, he] at hrec
    rw [List.map_cons, hf a (by simp) b' (hR.symm b' a hb')]
    exact (hrec.cons _).trans (by simpa using List.perm_middle.symm)
theorem perm_mkSet_map (R : α → α → Bool) (hR : IsEquiv R) (f : α → Int) (l1 l2 : List α)
    (c : SetEq R l1 l2) (hf : ∀ x ∈ l1, ∀ y, R x y = true → f x = f y) :
    ((mkSet R l1).map f).Perm ((mkSet R l2).map f) :=
  perm_map_of_cover R hR f _ _ (nodup_mkSet R l1) (nodup_mkSet R l2)
    ((setEq_mkSet_iff R hR l1 l2).mpr c) (fun x hx => hf x (mem_mkSet R l1 x hx))

/-! ### congruence: the algorithms only look at the relation on the elements they are given -/

theorem setMem_congr (R R' : α → α → Bool) (U : α → Prop) (hRR : ∀ x y, U x → U y → R x y = R' x y)
    (s : List α) (t : α) (hs : ∀ x ∈ s, U x) (ht : U t) : setMem R s t = setMem R' s t := by
  induction s with
  | nil => rfl
  | cons e s ih =>
    simp only [setMem, List.any_cons] at ih ⊢
    rw [hRR e t (hs e (by simp)) ht, ih (fun x hx => hs x (List.mem_cons_of_mem _ hx))]

theorem foldl_setAdd_congr (R R' : α → α → Bool) (U : α → Prop) (hRR : ∀ x y, U x → U y → R x y = R' x y)
    (l acc : List α) (hl : ∀ x ∈ l, U x) (ha : ∀ x ∈ acc, U x) :
    l.foldl (setAdd R) acc = l.foldl (setAdd R') acc := by
  induction l generalizing acc with
  | nil => rfl
  | cons t l ih =>
    simp only [List.foldl_cons]
    have e : setAdd R acc t = setAdd R' acc t := by
      unfold setAdd; rw [setMem_congr R R' U hRR acc t ha (hl t (by simp))]
    rw [e]
    apply ih _ (fun x hx => hl x (List.mem_cons_of_mem _ hx))
    intro x hx
    rcases mem_setAdd R' acc t x hx with h | h
    · exact ha x h
    · subst h; exact hl x (by simp)

theorem mkSet_congr (R R' : α → α → Bool) (U : α → Prop) (hRR : ∀ x y, U x → U y → R x y = R' x y)
    (l : List α) (hl : ∀ x ∈ l, U x) : mkSet R l = mkSet R' l :=
  foldl_setAdd_congr R R' U hRR l [] hl (by simp)

theorem setDiscard_congr (R R' : α → α → Bool) (U : α → Prop) (hRR : ∀ x y, U x → U y → R x y = R' x y)
    (s : List α) (t : α) (hs : ∀ x ∈ s, U x) (ht : U t) : setDiscard R s t = setDiscard R' s t := by
  induction s with
  | nil => rfl
  | cons e s ih =>
    unfold setDiscard
    rw [hRR e t (hs e (by simp)) ht, ih (fun x hx => hs x (List.mem_cons_of_mem _ hx))]

theorem symfold_congr (R R' : α → α → Bool) (U : α → Prop) (hRR : ∀ x y, U x → U y → R x y = R' x y)
    (O C : List α) (hO : ∀ x ∈ O, U x) (hC : ∀ x ∈ C, U x) :
    O.foldl (symStep R) C = O.foldl (symStep R') C := by
  induction O generalizing C with
  | nil => rfl
  | cons t O ih =>
    simp only [List.foldl_cons]
    have ht := hO t (by simp)
    have e : symStep R C t = symStep R' C t := by
      unfold symStep
      rw [setMem_congr R R' U hRR C t hC ht, setDiscard_congr R R' U hRR C t hC ht]
    rw [e]
    apply ih _ (fun x hx => hO x (List.mem_cons_of_mem _ hx))
    intro x hx
    unfold symStep at hx
    split at hx
    · exact hC x ((setDiscard_sublist R' C t).subset hx)
    · rcases List.mem_append.mp hx with h | h
      · exact hC x h
      · have : x = t := by simpa using h
        subst this; exact ht

theorem symDiffEmpty_congr (R R' : α → α → Bool) (U : α → Prop) (hRR : ∀ x y, U x → U y → R x y = R' x y)
    (o s : List α) (ho : ∀ x ∈ o, U x) (hs : ∀ x ∈ s, U x) :
    symDiffEmpty R o s = symDiffEmpty R' o s := by
  unfold symDiffEmpty
  rw [mkSet_congr R R' U hRR o ho, mkSet_congr R R' U hRR s hs,
      symfold_congr R R' U hRR _ _ (fun x hx => ho x (mem_mkSet R' o x hx)) (fun x hx => hs x (mem_mkSet R' s x hx))]

theorem mkSet_pairs (R : α → α → Bool) (f : α → Int) (l : List α) :
    (mkSet (fun (e t : α × Int) => R e.1 t.1) (l.map (fun x => (x, f x)))).map (·.2) = (mkSet R l).map f := by
  have key : ∀ (l acc : List α),
      (l.map (fun x => (x, f x))).foldl (setAdd (fun (e t : α × Int) => R e.1 t.1)) (acc.map (fun x => (x, f x)))
        = (l.foldl (setAdd R) acc).map (fun x => (x, f x)) := by
    intro l
    induction l with
    | nil => intro acc; rfl
    | cons t l ih =>
      intro acc
      simp only [List.map_cons, List.foldl_cons]
      have e : setAdd (fun (e t : α × Int) => R e.1 t.1) (acc.map (fun x => (x, f x))) (t, f t)
          = (setAdd R acc t).map (fun x => (x, f x)) := by
        unfold setAdd setMem
        simp only [List.any_map, Function.comp_def]
        split <;> simp
      rw [e, ih]
  have := key l []
  simp only [List.map_nil] at this
  unfold mkSet
  rw [this, List.map_map]
  rfl

end PS.C16
