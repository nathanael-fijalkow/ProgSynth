/-
  C05, parser: `parse Sy (render t) = sem Sy t`, character level, canonical spacing (one blank
  between the elements of a pattern), for a function pattern (`parse_render_func`) and for a rule
  that is a single word (`parse_render_word`).  A set alone is excluded: `assemble` reads it as the
  head of a pattern without arguments.
-/
import PS.Proofs.ConstraintsParseSplit
import PS.Proofs.Tree
set_option linter.unusedSectionVars false
namespace PS.C05
open PS PS.G

def setOK : RSet → Bool
  | .names ns => namesOK ns
  | .neg ns => namesOK ns

mutual
  /-- names are plain (non-empty, none of ` \t\n\r(){},^>#<=`, not `_` alone), name lists
      are not empty, numbers are digit strings, and a complemented HEAD set excludes some symbol of the
      grammar (otherwise the parser sees `_` in head position and fails an assertion) -/
  def renderOK (Sy : Syms) : RTok → Bool
    | .any => true
    | .set s => setOK s
    | .cntAll _ ds => digitsOK ds
    | .cnt _ ns ds => namesOK ns && digitsOK ds
    | .sub _ ns => namesOK ns
    | .func h args => setOK h && (match h with
        | .neg ns => (resolveNeg Sy ns).isSome
        | .names _ => true) && renderOKs Sy args
  def renderOKs (Sy : Syms) : List RTok → Bool
    | [] => true
    | a :: as => renderOK Sy a && renderOKs Sy as
end

theorem renderOKs_cons {Sy : Syms} {a : RTok} {as : List RTok} :
    renderOKs Sy (a :: as) = true ↔ renderOK Sy a = true ∧ renderOKs Sy as = true := by
  rw [renderOKs, Bool.and_eq_true]

def isFunc : RTok → Bool
  | .func _ _ => true
  | _ => false

mutual
  /-- the rendering without its trailing closing brackets (what `strip(")(")` of an enclosing pattern
      leaves of the last element) -/
  def renderT : RTok → Str
    | .sub force ns => '>' :: ((if force then [] else ['^']) ++ '(' :: joinNames ns)
    | .func h args => '(' :: (renderSet h ++ renderArgsT args)
    | .any => ['_']
    | .set s => renderSet s
    | .cntAll most ds => render (.cntAll most ds)
    | .cnt most ns ds => render (.cnt most ns ds)
  def renderArgsT : List RTok → Str
    | [] => []
    | [a] => ' ' :: renderT a
    | a :: b :: as => ' ' :: (render a ++ renderArgsT (b :: as))
end

abbrev notParen (c : Char) : Prop := c ≠ '(' ∧ c ≠ ')'

abbrev Plain (s : Str) : Prop := ∀ c ∈ s, notParen c ∧ c ≠ ' ' ∧ c ≠ '\n'

theorem Plain.bal {s : Str} (h : Plain s) : Bal s := Bal.plain fun c hc => (h c hc).1

theorem Plain.cons {c : Char} {s : Str} (hc : notParen c ∧ c ≠ ' ' ∧ c ≠ '\n') (hs : Plain s) : Plain (c :: s) :=
  List.forall_mem_cons.mpr ⟨hc, hs⟩

theorem renderSet_ne_nil {s : RSet} (h : setOK s = true) : renderSet s ≠ [] := by
  cases s with
  | names ns => exact joinNames_ne_nil h
  | neg ns => simp [renderSet]

theorem names_plain {ns : List Str} (h : namesOK ns = true) : Plain (joinNames ns) := by
  intro c hc
  refine ⟨⟨?_, ?_⟩, ?_, ?_⟩ <;> (rintro rfl; exact joinNames_notin h _ (by decide) (by decide) hc)

theorem renderSet_plain {s : RSet} (h : setOK s = true) : Plain (renderSet s) := by
  cases s with
  | names ns => exact names_plain h
  | neg ns => exact Plain.cons (by decide) (names_plain h)

theorem digits_plain {ds : Str} (h : digitsOK ds = true) : Plain ds := by
  intro c hc
  refine ⟨⟨?_, ?_⟩, ?_, ?_⟩ <;> exact ne_of_isDigit (digits_char h c hc) (by decide)

theorem bound_plain (most : Bool) {ds : Str} (h : digitsOK ds = true) : Plain ((if most then '<' else '>') :: '=' :: ds) :=
  Plain.cons (by cases most <;> decide) (Plain.cons (by decide) (digits_plain h))

/-- `t` is `f` without its trailing closing brackets, and ends in a character that `strip` keeps.
    The argument of `strip` in `parse_specification` is `")("`, and `")( "` with fix C05-F5 (the flag
    `fixF5`, passed as `b` to `stripP`); the last character is required to be neither a bracket nor a
    blank, so what follows holds for both. -/
structure Trunc (f t : Str) : Prop where
  bal : Bal f
  obal : OBal t
  close : ∃ k, f = t ++ List.replicate k ')'
  last : ∃ u c, t = u ++ [c] ∧ notParen c ∧ c ≠ ' '
  nonl : '\n' ∉ f

namespace Trunc

theorem plain {s : Str} (h : Plain s) (hne : s ≠ []) : Trunc s s :=
  ⟨h.bal, .bal _ h.bal, ⟨0, (List.append_nil s).symm⟩,
    ⟨_, _, (List.dropLast_concat_getLast hne).symm, (h _ (List.getLast_mem hne)).1, (h _ (List.getLast_mem hne)).2.1⟩,
    fun hm => (h _ hm).2.2 rfl⟩

theorem prepend {a f t : Str} (h : Trunc f t) (ha : Bal a) (hn : '\n' ∉ a) : Trunc (a ++ f) (a ++ t) := by
  obtain ⟨k, hk⟩ := h.close
  obtain ⟨u, c, hu, hc⟩ := h.last
  exact ⟨ha.append h.bal, OBal.append_bal ha h.obal, ⟨k, by rw [hk, List.append_assoc]⟩,
    ⟨a ++ u, c, by rw [hu, List.append_assoc], hc⟩, fun hm => (List.mem_append.mp hm).elim hn h.nonl⟩

theorem group {f t : Str} (h : Trunc f t) : Trunc ('(' :: (f ++ [')'])) ('(' :: t) := by
  obtain ⟨k, hk⟩ := h.close
  obtain ⟨u, c, hu, hc⟩ := h.last
  exact ⟨h.bal.paren, .opn [] t .nil h.obal, ⟨k + 1, by rw [hk, List.replicate_succ']; simp⟩,
    ⟨'(' :: u, c, by rw [hu]; rfl, hc⟩, by simp [h.nonl]⟩

theorem append_plain {f t p : Str} (h : Trunc f t) (hp : Plain p) (hne : p ≠ []) : Trunc (f ++ p) (f ++ p) := by
  obtain ⟨u, c, hu, hc⟩ := (plain hp hne).last
  have hb := h.bal.append hp.bal
  exact ⟨hb, .bal _ hb, ⟨0, (List.append_nil _).symm⟩, ⟨f ++ u, c, by rw [hu, List.append_assoc], hc⟩,
    fun hm => (List.mem_append.mp hm).elim h.nonl fun hq => (hp _ hq).2.2 rfl⟩

theorem ne_nil {f t : Str} (h : Trunc f t) : t ≠ [] := by
  obtain ⟨u, c, hu, _⟩ := h.last
  rw [hu]; simp

theorem head {f t : Str} (h : Trunc f t) {c : Char} {r : Str} (hf : f = c :: r) : ∃ r', t = c :: r' := by
  obtain ⟨k, hk⟩ := h.close
  cases ht : t with
  | nil => exact absurd ht h.ne_nil
  | cons d r' =>
    rw [hk, ht] at hf
    exact ⟨r', by rw [(List.cons.inj hf).1]⟩

theorem mem {f t : Str} (h : Trunc f t) {c : Char} (hc : c ∈ t) : c ∈ f := by
  obtain ⟨k, hk⟩ := h.close
  rw [hk]; exact List.mem_append_left _ hc

theorem stripP_plain (b : Bool) {c : Char} (hc : notParen c ∧ c ≠ ' ') : stripP b c = false := by
  simp [stripP, hc.1.1, hc.1.2, hc.2]

theorem strip {f t : Str} (h : Trunc f t) (b : Bool) {c : Char} {r : Str} (ht : t = c :: r) (hc : notParen c ∧ c ≠ ' ')
    (m n : Nat) :
    stripChars (stripP b) (removeChar '\n' (List.replicate m '(' ++ t ++ List.replicate n ')')) = t := by
  obtain ⟨u, d, hu, hd⟩ := h.last
  rw [removeChar_id]
  · refine stripChars_mid (stripP b) _ t _ (fun x hx => ?_) (fun x hx => ?_) h.ne_nil (fun x hx => ?_) (fun x hx => ?_)
    · rw [(List.mem_replicate.mp hx).2]; simp [stripP]
    · rw [(List.mem_replicate.mp hx).2]; simp [stripP]
    · rw [ht] at hx; cases hx; exact stripP_plain b hc
    · rw [hu, List.getLast?_concat] at hx; cases hx; exact stripP_plain b hd
  · simp only [List.mem_append, List.mem_replicate, not_or]
    exact ⟨⟨fun e => absurd e.2 (by decide), fun hm => h.nonl (h.mem hm)⟩, fun e => absurd e.2 (by decide)⟩

end Trunc

theorem Trunc.pattern {hd : RSet} (hs : setOK hd = true) (args : List RTok)
    (ha : args ≠ [] → Trunc (renderArgs args) (renderArgsT args)) :
    Trunc (renderSet hd ++ renderArgs args) (renderSet hd ++ renderArgsT args) := by
  cases args with
  | nil => simpa [renderArgs, renderArgsT] using Trunc.plain (renderSet_plain hs) (renderSet_ne_nil hs)
  | cons a as => exact (ha (by simp)).prepend (renderSet_plain hs).bal fun hm => (renderSet_plain hs _ hm).2.2 rfl

mutual
  /-- The key fact about the documented syntax: a rendering is its truncation `renderT` followed by
      closing brackets only, both are bracket-balanced as `Trunc` says, and the truncation ends in a
      character that is neither a bracket nor a blank.  So when `parse_specification` strips an
      enclosing pattern (`Trunc.strip`), of its last element exactly `renderT` is left, and
      `__next_level__` still finds the ends of the groups inside. -/
  theorem shape (Sy : Syms) : ∀ t, renderOK Sy t = true → Trunc (render t) (renderT t)
    | .any, _ => .plain (by decide) (by decide)
    | .set s, h => .plain (renderSet_plain h) (renderSet_ne_nil h)
    | .cntAll most ds, h => .plain (Plain.cons (by decide) (Plain.cons (by decide) (bound_plain most h))) (by simp [render])
    | .cnt most ns ds, h => by
      simp only [renderOK, Bool.and_eq_true] at h
      have := (((Trunc.plain (names_plain h.1) (joinNames_ne_nil h.1)).group.prepend (a := ['#']) (Bal.plain (by decide))
        (by decide)).append_plain (bound_plain most h.2) (by simp))
      simpa [render, renderT] using this
    | .sub force ns, h =>
      (Trunc.plain (names_plain h) (joinNames_ne_nil h)).group.prepend (a := '>' :: (if force then [] else ['^']))
        (Bal.plain (by cases force <;> decide)) (by cases force <;> decide)
    | .func hd args, h => by
      simp only [renderOK, Bool.and_eq_true] at h
      exact (Trunc.pattern h.1.1 args fun hne => shapeArgs Sy args hne h.2).group
  theorem shapeArgs (Sy : Syms) : ∀ args, args ≠ [] → renderOKs Sy args = true → Trunc (renderArgs args) (renderArgsT args)
    | [], hne, _ => absurd rfl hne
    | [a], _, h => by
      simpa [renderArgs, renderArgsT] using
        (shape Sy a (renderOKs_cons.mp h).1).prepend (a := [' ']) (Bal.plain (by decide)) (by decide)
    | a :: b :: as, _, h => by
      have s := shape Sy a (renderOKs_cons.mp h).1
      exact (shapeArgs Sy (b :: as) (by simp) (renderOKs_cons.mp h).2).prepend
        (a := ' ' :: render a) (.chr ' ' _ (by decide) (by decide) s.bal) (by simp [s.nonl])
end

/-- `shape` one level down: the inside of a function pattern is again a `Trunc` pair, the form in which
    the recursive call of `parse_specification` meets it after `strip` -/
theorem func_inner (Sy : Syms) (h : RSet) (args : List RTok) (hok : renderOK Sy (.func h args) = true) :
    setOK h = true ∧ renderOKs Sy args = true ∧
      Trunc (renderSet h ++ renderArgs args) (renderSet h ++ renderArgsT args) := by
  simp only [renderOK, Bool.and_eq_true] at hok
  exact ⟨hok.1.1, hok.2, Trunc.pattern hok.1.1 args fun hne => shapeArgs Sy args hne hok.2⟩

theorem Plain.word {s : Str} (h : Plain s) (hne : s ≠ []) : ' ' ∉ s ∧ ∃ c r, s = c :: r ∧ notParen c ∧ c ≠ ' ' := by
  cases s with
  | nil => exact absurd rfl hne
  | cons c r => exact ⟨fun hm => (h _ hm).2.1 rfl, c, r, rfl, (h c List.mem_cons_self).1, (h c List.mem_cons_self).2.1⟩

theorem atom_word (Sy : Syms) (t : RTok) (hok : renderOK Sy t = true) (hf : isFunc t = false) :
    ' ' ∉ render t ∧ ∃ c r, render t = c :: r ∧ notParen c ∧ c ≠ ' ' := by
  cases t with
  | any => exact Plain.word (by decide) (by decide)
  | set s => exact Plain.word (renderSet_plain hok) (renderSet_ne_nil hok)
  | cntAll most ds =>
    exact Plain.word (Plain.cons (by decide) (Plain.cons (by decide) (bound_plain most hok))) (by simp [render])
  | cnt most ns ds =>
    simp only [renderOK, Bool.and_eq_true] at hok
    have h1 : ' ' ∉ joinNames ns := fun hm => (names_plain hok.1 _ hm).2.1 rfl
    have h2 : ' ' ∉ ds := fun hm => (digits_plain hok.2 _ hm).2.1 rfl
    exact ⟨by cases most <;> simp [render, h1, h2], '#', _, rfl, by decide⟩
  | sub force ns =>
    have h1 : ' ' ∉ joinNames ns := fun hm => (names_plain hok _ hm).2.1 rfl
    exact ⟨by cases force <;> simp [render, h1], '>', _, rfl, by decide⟩
  | func _ _ => cases hf

def tokOf (Sy : Syms) (rec : Str → Option (Tok Sym)) (w : Str) : Option (Tok Sym) :=
  if startsWith ['('] w then rec w else interpretWord Sy w

theorem tokOf_word (Sy : Syms) (rec : Str → Option (Tok Sym)) {w : Str} {c : Char} {r : Str} (hw : w = c :: r)
    (hc : c ≠ '(') : tokOf Sy rec w = interpretWord Sy w := by
  rw [tokOf, hw, startsWith_single, if_neg (by simpa using hc.symm)]

/-- the loop of synth/filter/constraints/parsing.py:246-255 (`parseWords` in the model) on the part
    of the string that is still to be read -/
def parseRest (Sy : Syms) (rec : Str → Option (Tok Sym)) : Nat → Str → Option (List (Tok Sym))
  | 0, _ => none
  | steps + 1, rem =>
    if rem = [] then some [] else
    if Sy.fixF5 && (parseNextWord rem).1.isEmpty then parseRest Sy rec steps (rem.drop (parseNextWord rem).2) else
    match tokOf Sy rec (parseNextWord rem).1, parseRest Sy rec steps (rem.drop (parseNextWord rem).2) with
    | some t, some ts => some (t :: ts)
    | _, _ => none

theorem parseWords_eq (Sy : Syms) (rec : Str → Option (Tok Sym)) (steps : Nat) (spec : Str) (idx : Nat) :
    parseWords Sy rec steps spec idx = parseRest Sy rec steps (spec.drop idx) := by
  have hne : ∀ {spec : Str} {idx}, idx < spec.length → spec.drop idx ≠ [] := fun h e => by
    rw [List.drop_eq_nil_iff] at e; omega
  fun_induction parseWords Sy rec steps spec idx with
  | case1 => rfl
  | case2 steps spec idx h spec' wi he ih => rw [parseRest, if_neg (hne h), if_pos he, ih]
  | case3 steps spec idx h spec' wi he tok ht =>
    rw [parseRest, if_neg (hne h), if_neg he, show tokOf Sy rec (parseNextWord (spec.drop idx)).1 = none from ht]
  | case4 steps spec idx h spec' wi he tok t ht hr ih =>
    rw [parseRest, if_neg (hne h), if_neg he, show tokOf Sy rec (parseNextWord (spec.drop idx)).1 = some t from ht, ← ih, hr]
  | case5 steps spec idx h spec' wi he tok t ht ts hr ih =>
    rw [parseRest, if_neg (hne h), if_neg he, show tokOf Sy rec (parseNextWord (spec.drop idx)).1 = some t from ht, ← ih, hr]
  | case6 steps spec idx h => rw [parseRest, if_pos (List.drop_eq_nil_iff.mpr (Nat.le_of_not_lt h))]

/-- what the loop reads: the elements separated by one blank, the last one truncated (`renderT`) by
    the `strip` of the pattern they stand in -/
def wordsT : List RTok → Str
  | [] => []
  | [a] => renderT a
  | a :: b :: as => render a ++ ' ' :: wordsT (b :: as)

theorem renderArgsT_eq (args : List RTok) (h : args ≠ []) : renderArgsT args = ' ' :: wordsT args := by
  induction args with
  | nil => exact absurd rfl h
  | cons a as ih =>
    cases as with
    | nil => simp [renderArgsT, wordsT]
    | cons b bs => simp [renderArgsT, wordsT, ih (by simp)]

theorem tokOf_atom (Sy : Syms) (rec : Str → Option (Tok Sym)) (t : RTok) (hok : renderOK Sy t = true)
    (hf : isFunc t = false) : tokOf Sy rec (render t) = sem Sy t ∧ tokOf Sy rec (renderT t) = sem Sy t := by
  obtain ⟨-, c, r, hr, hc⟩ := atom_word Sy t hok hf
  obtain ⟨r', hr'⟩ := (shape Sy t hok).head hr
  rw [tokOf_word Sy rec hr hc.1.1, tokOf_word Sy rec hr' hc.1.1]
  cases t with
  | any => exact ⟨interp_any Sy, interp_any Sy⟩
  | set s =>
    cases s with
    | names ns => exact ⟨interp_set_names Sy hok, interp_set_names Sy hok⟩
    | neg ns => exact ⟨interp_set_neg Sy hok, interp_set_neg Sy hok⟩
  | cntAll most ds => exact ⟨interp_cntAll Sy ds hok most, interp_cntAll Sy ds hok most⟩
  | cnt most ns ds =>
    simp only [renderOK, Bool.and_eq_true] at hok
    exact ⟨interp_cnt Sy hok.1 ds hok.2 most, interp_cnt Sy hok.1 ds hok.2 most⟩
  | sub force ns => exact ⟨interp_sub Sy hok force [')'] (.inl rfl), by simpa [renderT, sem] using interp_sub Sy hok force [] (.inr rfl)⟩
  | func _ _ => cases hf

/-- `__parse_next_word__` cuts exactly one element of a pattern, whole before a blank and truncated at the
    end of a stripped pattern: a function pattern by the bracket matching of `__next_level__`, the other
    elements because they hold no blank -/
theorem pnw_tok (Sy : Syms) (a : RTok) (hok : renderOK Sy a = true) :
    (∀ rest, parseNextWord (render a ++ ' ' :: rest) = (render a, (render a).length + 1)) ∧
    parseNextWord (renderT a) = (renderT a, (renderT a).length + 1) := by
  cases hf : isFunc a with
  | true =>
    cases a with
    | func h args =>
      obtain ⟨_, _, sh⟩ := func_inner Sy h args hok
      constructor
      · intro rest
        simp only [render]
        rw [show ('(' :: (renderSet h ++ renderArgs args ++ [')']) ++ ' ' :: rest) =
          '(' :: ((renderSet h ++ renderArgs args) ++ ')' :: (' ' :: rest)) by simp, pnw_group sh.bal]
        simp [Nat.add_assoc]
      · simp only [renderT]
        rw [pnw_open sh.obal]; simp
    | _ => cases hf
  | false =>
    obtain ⟨hsp, c, r, hr, hc⟩ := atom_word Sy a hok hf
    have sh := shape Sy a hok
    obtain ⟨r', hr'⟩ := sh.head hr
    exact ⟨fun rest => (pnw_word _ rest c r hr hc.1.1 hsp).1,
      (pnw_word _ [] c r' hr' hc.1.1 fun hm => hsp (sh.mem hm)).2⟩

theorem tokOf_tok (Sy : Syms) (rec : Str → Option (Tok Sym)) (a : RTok) (hok : renderOK Sy a = true)
    (hrec : isFunc a = true → rec (render a) = sem Sy a ∧ rec (renderT a) = sem Sy a) :
    tokOf Sy rec (render a) = sem Sy a ∧ tokOf Sy rec (renderT a) = sem Sy a := by
  cases hf : isFunc a with
  | true =>
    cases a with
    | func h args => exact hrec hf
    | _ => cases hf
  | false => exact tokOf_atom Sy rec a hok hf

theorem renderT_ne_nil (Sy : Syms) (a : RTok) (hok : renderOK Sy a = true) : renderT a ≠ [] :=
  (shape Sy a hok).ne_nil

theorem render_ne_nil (Sy : Syms) (a : RTok) (hok : renderOK Sy a = true) : render a ≠ [] := by
  obtain ⟨u, c, hu, _⟩ := (shape Sy a hok).last
  exact List.ne_nil_of_mem ((shape Sy a hok).mem (c := c) (by simp [hu]))

theorem parseRest_nil (Sy : Syms) (rec : Str → Option (Tok Sym)) (n : Nat) : parseRest Sy rec (n + 1) [] = some [] := by
  simp [parseRest]

theorem parseRest_step (Sy : Syms) (rec : Str → Option (Tok Sym)) (n : Nat) (rem w : Str) (k : Nat)
    (hrem : rem ≠ []) (hp : parseNextWord rem = (w, k)) (hw : w ≠ []) :
    parseRest Sy rec (n + 1) rem = (match tokOf Sy rec w, parseRest Sy rec n (rem.drop k) with
      | some t, some ts => some (t :: ts)
      | _, _ => none) := by
  rw [parseRest]
  have : w.isEmpty = false := by cases w <;> simp at hw ⊢
  simp only [hrem, if_false, hp, this, Bool.and_false, Bool.false_eq_true]

theorem parseRest_last (Sy : Syms) (rec : Str → Option (Tok Sym)) (n : Nat) (w : Str) (hne : w ≠ [])
    (hp : parseNextWord w = (w, w.length + 1)) :
    parseRest Sy rec (n + 2) w = (tokOf Sy rec w).map (fun t => [t]) := by
  rw [parseRest_step Sy rec _ _ _ _ hne hp hne, List.drop_of_length_le (Nat.le_succ _), parseRest_nil]
  cases tokOf Sy rec w <;> rfl

theorem parseRest_word (Sy : Syms) (rec : Str → Option (Tok Sym)) (n : Nat) (w rest : Str) (hne : w ≠ [])
    (hp : parseNextWord (w ++ ' ' :: rest) = (w, w.length + 1)) :
    parseRest Sy rec (n + 1) (w ++ ' ' :: rest) = (match tokOf Sy rec w, parseRest Sy rec n rest with
      | some t, some ts => some (t :: ts)
      | _, _ => none) := by
  rw [parseRest_step Sy rec _ _ _ _ (by simp) hp hne,
    show w ++ ' ' :: rest = (w ++ [' ']) ++ rest by simp, show w.length + 1 = (w ++ [' ']).length by simp,
    List.drop_left]

theorem parseRest_args (Sy : Syms) (rec : Str → Option (Tok Sym)) : ∀ (args : List RTok), args ≠ [] →
    renderOKs Sy args = true →
    (∀ a ∈ args, isFunc a = true → rec (render a) = sem Sy a ∧ rec (renderT a) = sem Sy a) →
    ∀ steps, (wordsT args).length < steps → parseRest Sy rec steps (wordsT args) = semArgs Sy args
  | [], h, _, _, _, _ => absurd rfl h
  | [a], _, hok, hrec, steps, hs => by
    replace hok := (renderOKs_cons.mp hok).1
    have := List.length_pos_iff.mpr (renderT_ne_nil Sy a hok)
    obtain ⟨n, rfl⟩ : ∃ n, steps = n + 2 := ⟨steps - 2, by rw [wordsT] at hs; omega⟩
    rw [wordsT, parseRest_last Sy rec n _ (renderT_ne_nil Sy a hok) (pnw_tok Sy a hok).2,
      (tokOf_tok Sy rec a hok (hrec a List.mem_cons_self)).2]
    simp only [semArgs]
    cases sem Sy a <;> rfl
  | a :: b :: as, _, hok, hrec, steps, hs => by
    replace hok := renderOKs_cons.mp hok
    obtain ⟨n, rfl⟩ : ∃ n, steps = n + 1 := ⟨steps - 1, by omega⟩
    rw [wordsT, parseRest_word Sy rec n _ _ (render_ne_nil Sy a hok.1) ((pnw_tok Sy a hok.1).1 _),
      (tokOf_tok Sy rec a hok.1 (hrec a List.mem_cons_self)).1,
      parseRest_args Sy rec (b :: as) (by simp) hok.2
        (fun x hx => hrec x (List.mem_cons_of_mem _ hx)) n (by
          rw [wordsT, List.length_append, List.length_cons] at hs; omega)]
    rfl

/-- an argument is written shorter than its pattern: the fuel `parse` starts with covers the nesting -/
theorem render_length_lt {a : RTok} {args : List RTok} (h : a ∈ args) : (render a).length < (renderArgs args).length := by
  induction args with
  | nil => cases h
  | cons x xs ih =>
    rw [renderArgs, List.length_cons, List.length_append]
    rcases List.mem_cons.mp h with rfl | e
    · omega
    · have := ih e; omega

theorem renderOK_of_mem (Sy : Syms) {a : RTok} {args : List RTok} (hok : renderOKs Sy args = true) (h : a ∈ args) :
    renderOK Sy a = true :=
  List.all_eq_true.mp ((eq_all_of_rec (f := renderOK Sy) rfl (fun _ _ => rfl) args).symm.trans hok) a h

theorem strip_func (Sy : Syms) (b : Bool) (h : RSet) (args : List RTok) (hok : renderOK Sy (.func h args) = true) :
    stripChars (stripP b) (removeChar '\n' (render (.func h args))) = renderSet h ++ renderArgsT args ∧
    stripChars (stripP b) (removeChar '\n' (renderT (.func h args))) = renderSet h ++ renderArgsT args := by
  obtain ⟨hs, _, sh⟩ := func_inner Sy h args hok
  obtain ⟨k, hk⟩ := sh.close
  obtain ⟨-, c, r, hr, hc⟩ := (renderSet_plain hs).word (renderSet_ne_nil hs)
  have ht : renderSet h ++ renderArgsT args = c :: (r ++ renderArgsT args) := by rw [hr]; rfl
  constructor
  · have := sh.strip b ht hc 1 (k + 1)
    rwa [show List.replicate 1 '(' ++ (renderSet h ++ renderArgsT args) ++ List.replicate (k + 1) ')' =
      render (.func h args) by simp [render, hk, List.replicate_succ']] at this
  · simpa [renderT] using sh.strip b ht hc 1 0

/-- the head set of a pattern is read like one more element -/
theorem wordsT_head (h : RSet) (args : List RTok) : renderSet h ++ renderArgsT args = wordsT (.set h :: args) := by
  cases args with
  | nil => simp [renderArgsT, wordsT, renderT]
  | cons a as => rw [renderArgsT_eq _ (List.cons_ne_nil a as), wordsT, render]

theorem assemble_pattern (Sy : Syms) (h : RSet) (args : List RTok) (hok : renderOK Sy (.func h args) = true) :
    (match semArgs Sy (.set h :: args) with
      | none => none
      | some elements => assemble Sy.fixF2 elements) = sem Sy (.func h args) := by
  simp only [renderOK, Bool.and_eq_true] at hok
  cases h with
  | names ns =>
    simp only [semArgs, sem]
    cases resolveNames Sy ns.eraseDups with
    | none => rfl
    | some H => cases semArgs Sy args <;> rfl
  | neg ns =>
    -- the head set excludes something: the parser sees a set, not `_`
    obtain ⟨S, hS⟩ := Option.isSome_iff_exists.mp hok.1.2
    simp only [semArgs, sem, hS]
    cases semArgs Sy args <;> rfl

theorem parseSpec_succ (Sy : Syms) (fuel : Nat) {spec s : Str}
    (hs : stripChars (stripP Sy.fixF5) (removeChar '\n' spec) = s) :
    parseSpec Sy (fuel + 1) spec = (match parseRest Sy (parseSpec Sy fuel) (s.length + 1) s with
      | none => none
      | some elements => assemble Sy.fixF2 elements) := by
  rw [parseSpec]
  simp only [hs, parseWords_eq, List.drop_zero]
  cases parseRest Sy (parseSpec Sy fuel) (s.length + 1) s <;> rfl

theorem parseSpec_func (Sy : Syms) : ∀ (fuel : Nat) (t : RTok), renderOK Sy t = true → isFunc t = true →
    (render t).length < fuel → parseSpec Sy fuel (render t) = sem Sy t ∧ parseSpec Sy fuel (renderT t) = sem Sy t
  | 0, .func _ _, _, _, hd => nomatch hd
  | fuel + 1, .func h args, hok, _, hd => by
    obtain ⟨hs, hoks, _⟩ := func_inner Sy h args hok
    obtain ⟨e1, e2⟩ := strip_func Sy Sy.fixF5 h args hok
    have hoks' : renderOKs Sy (.set h :: args) = true := renderOKs_cons.mpr ⟨hs, hoks⟩
    have key := parseRest_args Sy (parseSpec Sy fuel) (.set h :: args) (List.cons_ne_nil _ _) hoks'
      (fun a ha hfa => parseSpec_func Sy fuel a (renderOK_of_mem Sy hoks' ha) hfa (by
        rcases List.mem_cons.mp ha with rfl | ha
        · cases hfa
        · have := render_length_lt ha
          simp only [render, List.length_cons, List.length_append] at hd
          omega))
      _ (Nat.lt_succ_self _)
    rw [parseSpec_succ Sy fuel e1, parseSpec_succ Sy fuel e2, wordsT_head, key]
    exact ⟨assemble_pattern Sy h args hok, assemble_pattern Sy h args hok⟩

theorem parse_render_func (Sy : Syms) (t : RTok) (hok : renderOK Sy t = true) (hf : isFunc t = true) :
    parse Sy (render t) = sem Sy t :=
  (parseSpec_func Sy _ t hok hf (Nat.lt_succ_self _)).1

/-- a rule that is a single word; a set alone is not one: `assemble` makes it the head of a pattern -/
def isRuleWord : RTok → Bool
  | .any => true
  | .cntAll _ _ => true
  | .cnt _ _ _ => true
  | .sub _ _ => true
  | _ => false

theorem sem_not_allow (Sy : Syms) (t : RTok) (h : isRuleWord t = true) : ∀ S, sem Sy t ≠ some (.allow S) := by
  intro S
  cases t with
  | any => simp [sem]
  | cntAll most ds => simp only [sem]; cases parseNat ds <;> cases most <;> simp
  | cnt most ns ds => simp only [sem]; cases resolveNames Sy ns.eraseDups <;> cases parseNat ds <;> cases most <;> simp
  | sub force ns => simp only [sem]; cases resolveNames Sy ns.eraseDups <;> cases force <;> simp
  | set _ => simp [isRuleWord] at h
  | func _ _ => simp [isRuleWord] at h

theorem parse_render_word (Sy : Syms) (t : RTok) (hok : renderOK Sy t = true) (hw : isRuleWord t = true) :
    parse Sy (render t) = sem Sy t := by
  have hf : isFunc t = false := by cases t <;> first | rfl | cases hw
  have sh := shape Sy t hok
  obtain ⟨k, hk⟩ := sh.close
  obtain ⟨-, c, r, hr, hc⟩ := atom_word Sy t hok hf
  obtain ⟨r', hr'⟩ := sh.head hr
  have hstrip : stripChars (stripP Sy.fixF5) (removeChar '\n' (render t)) = renderT t := by
    simpa [← hk] using sh.strip Sy.fixF5 hr' hc 0 k
  obtain ⟨n, hn⟩ : ∃ n, (renderT t).length + 1 = n + 2 := ⟨r'.length, by rw [hr']; rfl⟩
  rw [parse, parseSpec_succ Sy _ hstrip, hn, parseRest_last Sy _ n _ sh.ne_nil (pnw_tok Sy t hok).2,
    (tokOf_atom Sy _ t hok hf).2]
  have hna := sem_not_allow Sy t hw
  cases hs : sem Sy t with
  | none => rfl
  | some tok =>
    simp only [Option.map_some]
    cases tok with
    | allow S => exact absurd hs (hna S)
    | _ => rfl

/-! ### outside the region of finding C05-F2 the parser without `fixF2` gives the same meaning as with it -/

mutual
  /-- no function pattern of the tree has only wildcard arguments (the decidable complement of the
      region of finding C05-F2, evaluated with the grammar's symbols) -/
  def noCollapse (Sy : Syms) : RTok → Bool
    | .func _ args => (match semArgs Sy args with
        | some as => !(as.all isAny)
        | none => true) && noCollapses Sy args
    | _ => true
  def noCollapses (Sy : Syms) : List RTok → Bool
    | [] => true
    | a :: as => noCollapse Sy a && noCollapses Sy as
end

/-- the same symbols, parser with repair 53279cd (fixes_applied/C05-F2.diff) -/
def withF2 (Sy : Syms) : Syms := { Sy with fixF2 := true }

theorem resolveNames_withF2 (Sy : Syms) (ns : List Str) : resolveNames (withF2 Sy) ns = resolveNames Sy ns := rfl
theorem resolveNeg_withF2 (Sy : Syms) (ns : List Str) : resolveNeg (withF2 Sy) ns = resolveNeg Sy ns := rfl

mutual
  theorem sem_withF2 (Sy : Syms) : ∀ t, noCollapse Sy t = true → sem (withF2 Sy) t = sem Sy t
    | .any, _ | .set (.names _), _ | .set (.neg _), _ | .cntAll _ _, _ | .cnt _ _ _, _ | .sub _ _, _ => rfl
    | .func h args, hn => by
      simp only [noCollapse, Bool.and_eq_true] at hn
      have ha := semArgs_withF2 Sy args hn.2
      simp only [sem, ha, resolveNames_withF2, resolveNeg_withF2]
      have fin : ∀ (hh : Option (List Sym)),
          (match hh, semArgs Sy args with
            | some H, some as => if !(withF2 Sy).fixF2 && as.all isAny then some Tok.any else some (Tok.func H as)
            | _, _ => none) =
          (match hh, semArgs Sy args with
            | some H, some as => if !Sy.fixF2 && as.all isAny then some Tok.any else some (Tok.func H as)
            | _, _ => none) := by
        intro hh
        cases hh with
        | none => rfl
        | some H =>
          cases hs : semArgs Sy args with
          | none => rfl
          | some as =>
            have := hn.1
            rw [hs] at this
            simp only [Bool.not_eq_true'] at this
            simp [this, withF2]
      cases h with
      | names ns => exact fin _
      | neg ns => exact fin _
  theorem semArgs_withF2 (Sy : Syms) : ∀ args, noCollapses Sy args = true → semArgs (withF2 Sy) args = semArgs Sy args
    | [], _ => rfl
    | a :: as, hn => by
      simp only [noCollapses, Bool.and_eq_true] at hn
      simp only [semArgs, sem_withF2 Sy a hn.1, semArgs_withF2 Sy as hn.2]
end

end PS.C05
