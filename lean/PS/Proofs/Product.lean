/- `itertools.product` (`PS.G.product`): its members, its length, and that it repeats nothing when its arguments do not. -/
import PS.Model.Grammar
import PS.Proofs.AList
namespace PS.G

theorem mem_product_cons {α : Type} (l : List α) (ls : List (List α)) (ys : List α) :
    ys ∈ product (l :: ls) ↔ ∃ x r, ys = x :: r ∧ x ∈ l ∧ r ∈ product ls := by
  simp only [product, List.mem_flatMap, List.mem_map]
  constructor
  · rintro ⟨x, hx, r, hr, rfl⟩; exact ⟨x, r, rfl, hx, hr⟩
  · rintro ⟨x, r, rfl, hx, hr⟩; exact ⟨x, hx, r, hr, rfl⟩

theorem mem_product {α : Type} (ls : List (List α)) (xs : List α) :
    xs ∈ product ls ↔ xs.length = ls.length ∧ ∀ p ∈ xs.zip ls, p.1 ∈ p.2 := by
  induction ls generalizing xs with
  | nil => cases xs <;> simp [product]
  | cons l ls ih =>
    rw [mem_product_cons]
    cases xs with
    | nil => simp
    | cons x xs =>
      rw [List.zip_cons_cons, List.forall_mem_cons, List.length_cons, List.length_cons, Nat.add_right_cancel_iff]
      constructor
      · rintro ⟨x', r, he, hx, hr⟩
        cases he
        exact ⟨((ih xs).mp hr).1, hx, ((ih xs).mp hr).2⟩
      · rintro ⟨h1, hx, h2⟩
        exact ⟨x, xs, rfl, hx, (ih xs).mpr ⟨h1, h2⟩⟩

theorem nodup_map_of_inj {α β : Type} (f : α → β) (hf : ∀ a b, f a = f b → a = b)
    {l : List α} (h : l.Nodup) : (l.map f).Nodup := by
  rw [List.nodup_iff_pairwise_ne] at h ⊢
  rw [List.pairwise_map]
  exact h.imp (fun hne he => hne (hf _ _ he))

theorem product_nodup {α : Type} (ls : List (List α)) (h : ∀ l ∈ ls, l.Nodup) :
    (product ls).Nodup := by
  induction ls with
  | nil => simp [product]
  | cons l ls ih =>
    have hr : (product ls).Nodup := ih fun l' hl' => h l' (List.mem_cons_of_mem _ hl')
    -- tuples with different heads differ, tuples with one head differ in the tail
    refine AList.nodup_flatMap (h l List.mem_cons_self)
      (fun x _ => nodup_map_of_inj _ (fun a b he => (List.cons.inj he).2) hr) fun x _ y _ z hz hz' => ?_
    obtain ⟨r, _, rfl⟩ := List.mem_map.mp hz
    obtain ⟨r', _, e⟩ := List.mem_map.mp hz'
    exact (List.cons.inj e).1.symm

theorem product_length {α : Type} (ls : List (List α)) :
    (product ls).length = (ls.map List.length).prod := by
  induction ls with
  | nil => rfl
  | cons l ls ih =>
    simp only [product, List.length_flatMap, List.length_map, List.map_cons, List.prod_cons, ← ih]
    generalize (product ls).length = n
    induction l with
    | nil => simp
    | cons x xs ih2 => simp [ih2, Nat.add_mul, Nat.add_comm]

end PS.G
