/-
  C06: termination of the worklist loop for every flattening scheme (in particular
  `from_DFTA_with_ngrams`, every width) on an automaton whose flattened image is acyclic.
  With n-gram contexts a rule of the automaton is read once per context of its target, so the
  bound of `from_DFTA` does not apply; the potential here is the size of the unfolding of the
  stack elements (`usize` along `childrenOf`): the number of iterations to process a key and
  everything below it.
-/
import PS.Proofs.UcfgFromDftaLang
namespace PS.U.FD
open PS PS.G PS.U DFTA

variable {Q U V : Type} [DecidableEq Q] [DecidableEq U] [DecidableEq V]
set_option linter.unusedSectionVars false

theorem sum_filter_le {α : Type} (l : List α) (p : α → Bool) (g : α → Nat) :
    ((l.filter p).map g).sum ≤ (l.map g).sum := by
  rw [sum_filter_map]
  exact sum_le_sum _ _ _ fun x _ => by split <;> omega

theorem pushes_sum_le (F : Flat Q U V) (A : DFTA Sym Q) (tgt : UNT V) (keys : List (UNT V))
    (g : UNT V → Nat) :
    ((pushesFor F A tgt keys).map g).sum ≤ ((childrenOf F A tgt).map g).sum :=
  pushesFor_eq_filter F A tgt keys ▸ sum_filter_le _ _ g

section Term
variable (F : Flat Q U V) (A : DFTA Sym Q) (rankU : UNT U → Nat)

def potential (stack : List (UNT V)) : Nat :=
  (stack.map (fun k => usize (childrenOf F A) (rankU (F.proj k) + 1) k)).sum

theorem rank_childrenOf (hpc : ∀ tgt P i x, F.proj (F.child tgt P i x) = x)
    (hrank : ∀ r ∈ A.rules, ∀ a ∈ r.1.2, rankU (F.d a) < rankU (F.d r.2)) {k x : UNT V}
    (hx : x ∈ childrenOf F A k) : rankU (F.proj x) < rankU (F.proj k) := by
  obtain ⟨r, hr, hm, hx'⟩ := (mem_childrenOf F A k x).mp hx
  obtain ⟨a, ha, i, rfl⟩ := mem_newArgs k r.1.1 r.1.2 x hx'
  rw [hpc, ← of_decide_eq_true hm]
  exact hrank r hr a ha

theorem build_terminates (hpc : ∀ tgt P i x, F.proj (F.child tgt P i x) = x)
    (hrank : ∀ r ∈ A.rules, ∀ a ∈ r.1.2, rankU (F.d a) < rankU (F.d r.2)) (hf : A.finals ≠ [])
    (fuel : Nat) (hfuel : potential F A rankU (startsOf F A) < fuel) :
    ∃ G, build F A fuel = some G := by
  have happ : ∀ (l1 l2 : List (UNT V)), potential F A rankU (l1.reverse ++ l2) =
      potential F A rankU l1 + potential F A rankU l2 := by
    intro l1 l2
    simp [potential, List.sum_reverse]
  refine build_isSome F A fuel hf (buildLoop_terminates F A (fun stack _ => potential F A rankU stack)
    ?_ ?_ fuel _ [] ?_)
  · intro tgt stack nr _
    have := usize_pos (childrenOf F A) (rankU (F.proj tgt) + 1) tgt
    simp only [potential, List.map_cons, List.sum_cons]
    omega
  · intro tgt stack nr _
    -- the children of `tgt` have smaller rank, so their costs are counted in the cost of `tgt`
    have h1 := pushes_sum_le F A tgt (AList.keys nr ++ [tgt])
      (fun k => usize (childrenOf F A) (rankU (F.proj k) + 1) k)
    have h2 := usize_ranked (childrenOf F A) (fun k => rankU (F.proj k) + 1) tgt fun x hx =>
      Nat.succ_lt_succ (rank_childrenOf F A rankU hpc hrank hx)
    rw [happ]
    simp only [potential, List.map_cons, List.sum_cons] at h1 h2 ⊢
    omega
  · have := happ (startsOf F A) []
    rw [List.append_nil] at this
    rw [this]
    simpa [potential] using hfuel

end Term

theorem exists_rankU (d : Q → UNT U) (A : DFTA Sym Q)
    (hinj : ∀ q ∈ A.allStates, ∀ q' ∈ A.allStates, d q = d q' → q = q') (rank : Q → Nat) :
    ∃ rankU : UNT U → Nat, ∀ q ∈ A.allStates, rankU (d q) = rank q := by
  refine ⟨fun x => ((A.allStates.find? fun q => decide (d q = x)).map rank).getD 0, fun q hq => ?_⟩
  cases hfind : A.allStates.find? (fun q' => decide (d q' = d q)) with
  | none => simpa using List.find?_eq_none.mp hfind q hq
  | some q' =>
    have h1 : d q' = d q := by simpa using List.find?_some hfind
    show ((A.allStates.find? fun q' => decide (d q' = d q)).map rank).getD 0 = rank q
    rw [hfind, hinj q' (List.mem_of_find?_eq_some hfind) q hq h1]
    rfl

theorem exists_rankU_rules (d : Q → UNT U) (A : DFTA Sym Q)
    (hinj : ∀ q ∈ A.allStates, ∀ q' ∈ A.allStates, d q = d q' → q = q') (hac : Acyclic A) :
    ∃ rankU : UNT U → Nat, ∀ r ∈ A.rules, ∀ a ∈ r.1.2, rankU (d a) < rankU (d r.2) := by
  obtain ⟨rank, hrank⟩ := hac
  obtain ⟨rankU, hru⟩ := exists_rankU d A hinj rank
  refine ⟨rankU, fun r hr a ha => ?_⟩
  have hst := mem_allStates_of_rule A (l := r.1.1) (args := r.1.2) (d := r.2) hr
  rw [hru a (hst.2 a ha), hru r.2 hst.1]
  exact hrank r hr a ha

theorem build_terminates_acyclic (F : Flat Q U V) (A : DFTA Sym Q)
    (hpc : ∀ tgt P i x, F.proj (F.child tgt P i x) = x)
    (hinj : ∀ q ∈ A.allStates, ∀ q' ∈ A.allStates, F.d q = F.d q' → q = q') (hac : Acyclic A)
    (hf : A.finals ≠ []) : ∃ fuel0, ∀ fuel, fuel0 ≤ fuel → ∃ G, build F A fuel = some G := by
  obtain ⟨rankU, hrk⟩ := exists_rankU_rules F.d A hinj hac
  exact ⟨potential F A rankU (startsOf F A) + 1, build_terminates F A rankU hpc hrk hf⟩

end PS.U.FD
