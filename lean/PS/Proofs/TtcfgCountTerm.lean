/-
  C13: termination of `TTCFG.programs()` (`computeR`, ttcfg.py:285-320) on
  non-recursive tables: the recursion depth of `__compute__` is bounded by a rank of the
  non-terminals.  A table is ranked by `(m, ρ)` when every rule `(args, st)` of a non-terminal
  `nt` has `m st ≤ m nt.state` (the state measure never grows along a derivation) and
  `ρ a st < ρ nt` for each of its argument slots `a`, and `ρ slot ·` is monotone in `m`.
  Then `computeR G fuel nt` returns as soon as `fuel ≥ ρ nt + 2`.
-/
import PS.Proofs.TtcfgCountR
namespace PS.T
open PS PS.G

variable {S T : Type} [DecidableEq S] [DecidableEq T]

structure Ranked (G : TT S T) (m : T → Nat) (ρ : Ty × S → T → Nat) : Prop where
  rule : ∀ nt row, AList.lookup nt G.rules = some row → ∀ r ∈ row,
    m r.2.2 ≤ m nt.2.2 ∧ ∀ a ∈ r.2.1, ρ a r.2.2 < ρ (nt.1, nt.2.1) nt.2.2
  mono : ∀ slot v v', m v ≤ m v' → ρ slot v ≤ ρ slot v'

/-- the call returns and no end state has a larger `m` than the state it is made in.  The second half is for
    the later slots of a rule, which are entered in an end state `v` of the slot before: `m v ≤ m st` turns the
    rank `ρ a st` that `Ranked.rule` speaks of into a bound on `ρ a v` (`Ranked.mono`). -/
def GoodRec (m : T → Nat) (rec : NT S T → Option (AList T Nat)) (nt : NT S T) : Prop :=
  ∃ d, rec nt = some d ∧ ∀ e ∈ d, m e.1 ≤ m nt.2.2

omit [DecidableEq S] in
theorem stepLocal_term (m : T → Nat) (rec : NT S T → Option (AList T Nat)) (base : Ty × S) (s : Nat)
    (hrec : ∀ v, m v ≤ s → GoodRec m rec (base.1, (base.2, v))) :
    ∀ (loc acc : AList T Nat), (∀ e ∈ loc, m e.1 ≤ s) → (∀ e ∈ acc, m e.1 ≤ s) →
      ∃ r, stepLocal rec base loc acc = some r ∧ ∀ e ∈ r, m e.1 ≤ s
  | [], acc, _, ha => ⟨acc, rfl, ha⟩
  | (v, cnt) :: rest, acc, hl, ha => by
    rw [stepLocal]
    have hv : m v ≤ s := hl (v, cnt) (List.mem_cons_self ..)
    obtain ⟨sub, hsub, hk⟩ := hrec v hv
    rw [hsub]
    simp only
    exact stepLocal_term m rec base s hrec rest _ (fun e he => hl e (List.mem_cons_of_mem _ he))
      (addScaled_all (Q := fun v => m v ≤ s) cnt sub acc (fun e he => Nat.le_trans (hk e he) hv) ha)

omit [DecidableEq S] in
theorem chainLocal_term (m : T → Nat) (rec : NT S T → Option (AList T Nat)) (s : Nat) :
    ∀ (info : List (Ty × S)) (loc : AList T Nat),
      (∀ base ∈ info, ∀ v, m v ≤ s → GoodRec m rec (base.1, (base.2, v))) → (∀ e ∈ loc, m e.1 ≤ s) →
      ∃ loc', chainLocal rec info loc = some loc' ∧ ∀ e ∈ loc', m e.1 ≤ s
  | [], loc, _, hl => ⟨loc, rfl, hl⟩
  | base :: info, loc, hrec, hl => by
    rw [chainLocal]
    obtain ⟨nl, hnl, hk⟩ := stepLocal_term m rec base s (hrec base (List.mem_cons_self ..)) loc [] hl
      (by intro e he; cases he)
    rw [hnl]
    simp only
    exact chainLocal_term m rec s info nl (fun b hb => hrec b (List.mem_cons_of_mem _ hb)) hk

theorem rowCounts_term (m : T → Nat) (rec : NT S T → Option (AList T Nat)) (state : NT S T) (s : Nat) :
    ∀ (rs : Row S T) (out : AList T Nat),
      (∀ r ∈ rs, m r.2.2 ≤ s ∧ GoodRec m rec (deriveWith [] state r.2.1 r.2.2).2 ∧
        (deriveWith [] state r.2.1 r.2.2).2.2.2 = r.2.2 ∧
        ∀ base ∈ (deriveWith [] state r.2.1 r.2.2).1, ∀ v, m v ≤ m r.2.2 → GoodRec m rec (base.1, (base.2, v))) →
      (∀ e ∈ out, m e.1 ≤ s) →
      ∃ out', rowCounts rec state rs out = some out' ∧ ∀ e ∈ out', m e.1 ≤ s
  | [], out, _, ho => ⟨out, rfl, ho⟩
  | r :: rs, out, hr, ho => by
    rw [rowCounts]
    obtain ⟨h1, ⟨loc, hloc, hk⟩, hst, h3⟩ := hr r (List.mem_cons_self ..)
    rw [hloc]
    rw [hst] at hk
    obtain ⟨loc', hl', hk'⟩ := chainLocal_term m rec (m r.2.2) _ loc h3 hk
    simp only [hl']
    exact rowCounts_term m rec state s rs _ (fun r' hr' => hr r' (List.mem_cons_of_mem _ hr'))
      (addScaled_all (Q := fun v => m v ≤ s) 1 loc' out (fun e he => Nat.le_trans (hk' e he) h1) ho)

omit [DecidableEq S] [DecidableEq T] in
theorem deriveWith_state (state : NT S T) (args : List (Ty × S)) (st : T) :
    (deriveWith [] state args st).2.2.2 = st := by
  cases args with
  | nil => rfl
  | cons a as => rw [deriveWith_eq state st rfl]

theorem goodRec_of_lookup_none (G : TT S T) (m : T → Nat) (n : Nat) (nt : NT S T) (hrow : AList.lookup nt G.rules = none) :
    GoodRec m (computeR G (n + 1)) nt := by
  unfold GoodRec
  simp only [computeR, hrow]
  split
  · exact ⟨_, rfl, by intro e he; rw [List.mem_singleton.mp he]; exact Nat.le_refl _⟩
  · exact ⟨_, rfl, by intro e he; cases he⟩

theorem computeR_terminates (G : TT S T) (hU : noUnknownKey G = true) (m : T → Nat) (ρ : Ty × S → T → Nat)
    (hR : Ranked G m ρ) : ∀ (n : Nat) (nt : NT S T),
    (AList.lookup nt G.rules = none ∨ ρ (nt.1, nt.2.1) nt.2.2 < n) → GoodRec m (computeR G (n + 1)) nt := by
  intro n
  induction n with
  | zero => exact fun nt h => goodRec_of_lookup_none G m 0 nt (h.resolve_right (Nat.not_lt_zero _))
  | succ n ih =>
    intro nt h
    cases hrow : AList.lookup nt G.rules with
    | none => exact goodRec_of_lookup_none G m (n + 1) nt hrow
    | some row =>
      have hlt : ρ (nt.1, nt.2.1) nt.2.2 < n + 1 := h.resolve_left (by rw [hrow]; exact Option.some_ne_none _)
      have hrec : computeR G (n + 1 + 1) nt = rowCounts (computeR G (n + 1)) nt row [] := by
        simp only [computeR, hrow]
      unfold GoodRec
      rw [hrec]
      apply rowCounts_term m (computeR G (n + 1)) nt (m nt.2.2) row [] ?_ (by intro e he; cases he)
      intro r hr
      obtain ⟨g1, g2⟩ := hR.rule nt row hrow r hr
      refine ⟨g1, ?_, deriveWith_state nt r.2.1 r.2.2, ?_⟩
      · -- the non-terminal of the first argument, or the end marker, which has no rule
        cases hargs : r.2.1 with
        | nil =>
          refine ih _ (Or.inl ?_)
          cases hl : AList.lookup (deriveWith [] nt [] r.2.2).2 G.rules with
          | none => rfl
          | some row' => exact absurd rfl (noUnknown_inRules G hU _ (AList.contains_of_lookup hl))
        | cons a as =>
          rw [deriveWith_cons]
          have := g2 a (by rw [hargs]; exact List.mem_cons_self ..)
          exact ih _ (Or.inr (by show ρ a r.2.2 < n; omega))
      · intro base hb v hv
        have hbm : base ∈ r.2.1 := by
          cases hargs : r.2.1 with
          | nil => rw [hargs, deriveWith_of_nil _ _ rfl] at hb; cases hb
          | cons a as =>
            rw [hargs, deriveWith_cons, List.append_nil] at hb
            exact List.mem_cons_of_mem _ hb
        have h1 := g2 base hbm
        have h2 := hR.mono base v r.2.2 hv
        exact ih _ (Or.inr (by show ρ base v < n; omega))

theorem programsR_terminates (G : TT S T) (hU : noUnknownKey G = true) (m : T → Nat) (ρ : Ty × S → T → Nat)
    (hR : Ranked G m ρ) (fuel : Nat) (hf : ρ (G.start.1, G.start.2.1) G.start.2.2 + 2 ≤ fuel) :
    (programsR G fuel).isSome = true := by
  unfold programsR
  by_cases hc : AList.contains G.start G.rules = true
  · simp only [hc, if_true]
    obtain ⟨k, hk⟩ : ∃ k, fuel = k + 1 := ⟨fuel - 1, by omega⟩
    subst hk
    obtain ⟨d, hd, _⟩ := computeR_terminates G hU m ρ hR k G.start (Or.inr (by omega))
    rw [hd]; rfl
  · simp [hc]

theorem ranked_restrict (G : TT S T) (m : T → Nat) (ρ : Ty × S → T → Nat) (hR : Ranked G m ρ) (G' : TT S T)
    (hsub : ∀ nt row', AList.lookup nt G'.rules = some row' → ∃ row, AList.lookup nt G.rules = some row ∧ ∀ r ∈ row', r ∈ row) :
    Ranked G' m ρ := by
  refine ⟨?_, hR.mono⟩
  intro nt row' hl r hr
  obtain ⟨row, h1, h2⟩ := hsub nt row' hl
  exact hR.rule nt row h1 r (h2 r hr)

end PS.T
