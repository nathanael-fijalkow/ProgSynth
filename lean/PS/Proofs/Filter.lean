/- C20 (theorems in PS/Props/C20.lean): the caching filter answers as the specification over the history of
   verdicts does.  `Inv` ties the cache to that history; `step` keeps it and answers `specAccept`. -/
import PS.Model.Filter
namespace PS.C20

theorem acceptAll_append (env : Nat → Bool) (a b : List Flt) :
    acceptAll env (a ++ b) = (acceptAll env a && acceptAll env b) := by
  induction a with
  | nil => simp [acceptAll]
  | cons x xs ih => simp [acceptAll, ih, Bool.and_assoc]

theorem acceptAny_append (env : Nat → Bool) (a b : List Flt) :
    acceptAny env (a ++ b) = (acceptAny env a || acceptAny env b) := by
  induction a with
  | nil => simp [acceptAny]
  | cons x xs ih => simp [acceptAny, ih, Bool.or_assoc]

/-- hashes of the accepted earlier presentations with key `k = (type, outputs)` -/
def accs (hist : List (Item × Bool)) (k : String × List String) : List Nat :=
  (hist.filter (fun jb => jb.2 && jb.1.ty == k.1 && jb.1.outs == some k.2)).map (·.1.h)

/-- cache ↔ history invariant: the hash cached for a key is the one hash of the accepted
    presentations with that key (no entry: none accepted). -/
def Inv (c : Cache) (hist : List (Item × Bool)) : Prop :=
  ∀ k x, x ∈ accs hist k ↔ AList.lookup k c = some x

theorem accs_append (hist : List (Item × Bool)) (x : Item × Bool) (k) :
    accs (hist ++ [x]) k =
      accs hist k ++ (if (x.2 && x.1.ty == k.1 && x.1.outs == some k.2) = true then [x.1.h] else []) := by
  unfold accs
  rw [List.filter_append, List.map_append]
  congr 1
  by_cases h : (x.2 && x.1.ty == k.1 && x.1.outs == some k.2) = true
  · simp [h]
  · simp [h]

theorem accs_append_other (hist : List (Item × Bool)) (it : Item) (b : Bool) (o : List String)
    (ho : it.outs = some o) (k : String × List String) (hk : k ≠ (it.ty, o)) :
    accs (hist ++ [(it, b)]) k = accs hist k := by
  rw [accs_append]
  have : ¬ ((b && it.ty == k.1 && it.outs == some k.2) = true) := by
    intro h
    simp only [Bool.and_eq_true, beq_iff_eq, ho, Option.some.injEq] at h
    apply hk
    obtain ⟨k1, k2⟩ := k
    simp only [Prod.mk.injEq]
    exact ⟨h.1.2.symm, h.2.symm⟩
  simp [this]

theorem accs_append_rej (hist : List (Item × Bool)) (it : Item) (k) :
    accs (hist ++ [(it, false)]) k = accs hist k := by
  rw [accs_append]; simp

theorem accs_append_acc (hist : List (Item × Bool)) (it : Item) (o : List String)
    (ho : it.outs = some o) :
    accs (hist ++ [(it, true)]) (it.ty, o) = accs hist (it.ty, o) ++ [it.h] := by
  rw [accs_append]; simp [ho]

theorem specAccept_eq (hist : List (Item × Bool)) (it : Item) (o : List String)
    (ho : it.outs = some o) :
    specAccept hist it = (accs hist (it.ty, o)).all (fun x => x == it.h) := by
  unfold specAccept accs
  rw [ho]
  simp only [Option.isSome_some, Bool.true_and, List.all_map, List.all_filter]
  congr 1
  funext jb
  cases (jb.2 && jb.1.ty == it.ty && jb.1.outs == some o) <;> cases hh : (jb.1.h == it.h) <;> simp [hh, bne]

theorem Inv_rej (c : Cache) (hist : List (Item × Bool)) (it : Item) (hinv : Inv c hist) :
    Inv c (hist ++ [(it, false)]) := by
  intro k x
  rw [accs_append_rej]
  exact hinv k x

theorem Inv_acc (c : Cache) (hist : List (Item × Bool)) (it : Item) (o : List String)
    (ho : it.outs = some o) (hinv : Inv c hist)
    (hall : ∀ x ∈ accs hist (it.ty, o), x = it.h) :
    Inv (AList.insert (it.ty, o) it.h c) (hist ++ [(it, true)]) := by
  intro k x
  by_cases hk : k = (it.ty, o)
  · subst hk
    rw [AList.lookup_insert_self, accs_append_acc hist it o ho, List.mem_append, List.mem_singleton,
      Option.some.injEq]
    exact ⟨fun h => h.elim (fun hx => (hall x hx).symm) Eq.symm, fun h => Or.inr h.symm⟩
  · rw [AList.lookup_insert_ne _ _ hk, accs_append_other hist it true o ho k hk]
    exact hinv k x

theorem step_some (c : Cache) (it : Item) {o : List String} (ho : it.outs = some o) :
    step c it = if (AList.lookup (it.ty, o) c).all (· == it.h) then (AList.insert (it.ty, o) it.h c, true)
      else (c, false) := by
  simp only [step, ho]
  cases AList.lookup (it.ty, o) c with
  | none => rfl
  | some h' => simp only [Option.all_some, beq_iff_eq, ne_eq, ite_not]

theorem specAccept_lookup {c : Cache} {hist : List (Item × Bool)} {it : Item} {o : List String}
    (hinv : Inv c hist) (ho : it.outs = some o) :
    specAccept hist it = (AList.lookup (it.ty, o) c).all (· == it.h) := by
  rw [specAccept_eq hist it o ho, Bool.eq_iff_iff, List.all_eq_true, Option.all_eq_true]
  exact forall_congr' fun x => by rw [hinv]

theorem step_spec (c : Cache) (hist : List (Item × Bool)) (it : Item) (hinv : Inv c hist) :
    (step c it).2 = specAccept hist it ∧ Inv (step c it).1 (hist ++ [(it, (step c it).2)]) := by
  cases ho : it.outs with
  | none =>
    have hs : step c it = (c, false) := by simp [step, ho]
    rw [hs]
    exact ⟨by simp [specAccept, ho], Inv_rej c hist it hinv⟩
  | some o =>
    rw [step_some c it ho, ← specAccept_lookup hinv ho]
    cases hv : specAccept hist it with
    | true =>
      rw [if_pos rfl]
      refine ⟨rfl, Inv_acc c hist it o ho hinv fun x hx => ?_⟩
      rw [specAccept_eq hist it o ho, List.all_eq_true] at hv
      exact eq_of_beq (hv x hx)
    | false =>
      rw [if_neg Bool.false_ne_true]
      exact ⟨rfl, Inv_rej c hist it hinv⟩

theorem runFrom_spec (c : Cache) (hist : List (Item × Bool)) (items : List Item)
    (hinv : Inv c hist) : runFrom c items = specRunFrom hist items := by
  induction items generalizing c hist with
  | nil => rfl
  | cons it rest ih =>
    obtain ⟨h1, h2⟩ := step_spec c hist it hinv
    simp only [runFrom, specRunFrom]
    rw [h1] at h2 ⊢
    rw [ih _ _ h2]

end PS.C20
