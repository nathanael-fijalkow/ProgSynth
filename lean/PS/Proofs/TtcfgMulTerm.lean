/-
  C13: termination of `clean()` on the product table of `__mul_ttcfg__`: the machine of the
  product projects onto the machine of the left factor (rules of the product pair rules of the
  factors; with agreeing argument types the paired argument list projects to the left one), so a rank
  of the left factor's machine is a rank of the product's.
-/
import PS.Proofs.TtcfgTyped
namespace PS.T
open PS PS.G

variable {S T U V : Type} [DecidableEq S] [DecidableEq T] [DecidableEq U] [DecidableEq V]

def projL (c : CConfig (S × U) (T × V)) : CConfig S T :=
  ((c.1.1, (c.1.2.1.1, c.1.2.2.1)), c.2.map (fun y => (y.1, y.2.1)))

omit [DecidableEq S] [DecidableEq U] in
theorem pairArgs_projL : ∀ (a1 : List (Ty × S)) (a2 : List (Ty × U)), a1.length = a2.length →
    (pairArgs a1 a2).map (fun y => (y.1, y.2.1)) = a1
  | [], [], _ => rfl
  | x :: a1, y :: a2, h => by
    simp only [pairArgs, List.zipWith_cons_cons, List.map_cons, List.cons.injEq, true_and]
    exact pairArgs_projL a1 a2 (by simpa using h)
  | [], _ :: _, h => by simp at h
  | _ :: _, [], h => by simp at h

theorem contains_mulRaw (G1 : TT S T) (G2 : TT U V) (ty : Ty) (s : S) (t : T) (u : U) (v : V)
    (h : inRules (mulRaw G1 G2) (ty, ((s, u), (t, v))) = true) : inRules G1 (ty, (s, t)) = true := by
  obtain ⟨r, h⟩ := AList.contains_iff_lookup.mp h
  rw [lookup_mulRaw] at h
  cases h1 : AList.lookup (ty, (s, t)) G1.rules with
  | none => simp [h1] at h
  | some r1 => exact AList.contains_of_lookup h1

theorem cstep_projL (G1 : TT S T) (G2 : TT U V) (hag : ArgsAgree G1 G2) (c d : CConfig (S × U) (T × V))
    (h : CStep (mulRaw G1 G2) c d) : CStep G1 (projL c) (projL d) := by
  cases h with
  | mk rule info P args st hr hin =>
    obtain ⟨ty, ⟨s, u⟩, ⟨t, v⟩⟩ := rule
    rw [rule_mulRaw] at hr
    cases h1 : G1.rule? (ty, (s, t)) P with
    | none => simp [h1] at hr
    | some v1 =>
      cases h2 : G2.rule? (ty, (u, v)) P with
      | none => simp [h1, h2] at hr
      | some v2 =>
        simp only [h1, h2, Option.some.injEq, Prod.mk.injEq] at hr
        obtain ⟨ha, hst⟩ := hr
        subst ha; subst hst
        have hlen : v1.1.length = v2.1.length := by
          simpa using congrArg List.length (hag ty s t u v P v1 v2 h1 h2)
        -- the projection of the next configuration is the next configuration of the projection
        have hd := deriveWith_map (Prod.fst : S × U → S) (Prod.fst : T × V → T) info (pairArgs v1.1 v2.1)
          (ty, ((s, u), (t, v))) (v1.2, v2.2)
        rw [pairArgs_projL v1.1 v2.1 hlen] at hd
        have hin1 : inRules G1 (deriveWith (info.map (fun y => (y.1, y.2.1))) (ty, (s, t)) v1.1 v1.2).2 = true := by
          rw [hd]
          generalize (deriveWith info (ty, ((s, u), (t, v))) (pairArgs v1.1 v2.1) (v1.2, v2.2)).2 = nt at hin
          obtain ⟨ty', ⟨s', u'⟩, ⟨t', v'⟩⟩ := nt
          exact contains_mulRaw G1 G2 ty' s' t' u' v' hin
        have hstep := CStep.mk (ty, (s, t)) (info.map (fun y => (y.1, y.2.1))) P v1.1 v1.2 h1 hin1
        rw [hd] at hstep
        exact hstep

omit [DecidableEq S] [DecidableEq T] [DecidableEq U] [DecidableEq V] in
theorem keys_mulRow_sublist (r2 : Row U V) (r1 : Row S T) : (AList.keys (mulRow r1 r2)).Sublist (AList.keys r1) := by
  unfold mulRow
  refine AList.keys_filterMap_sublist (·.1) _ (fun e y h => ?_) r1
  cases h2 : AList.lookup e.1 r2 <;> rw [h2] at h <;> cases h
  rfl

omit [DecidableEq S] [DecidableEq T] [DecidableEq U] [DecidableEq V] in
theorem mem_mulRaw (G1 : TT S T) (G2 : TT U V) (e : NT (S × U) (T × V) × Row (S × U) (T × V))
    (he : e ∈ (mulRaw G1 G2).rules) : ∃ e1 ∈ G1.rules, ∃ e2 ∈ G2.rules, e.2 = mulRow e1.2 e2.2 := by
  simp only [mulRaw, List.mem_flatMap, List.mem_filterMap] at he
  obtain ⟨e1, he1, e2, he2, hh⟩ := he
  by_cases hty : e1.1.1 = e2.1.1
  · simp only [hty, if_true, Option.some.injEq] at hh
    exact ⟨e1, he1, e2, he2, by rw [← hh]⟩
  · simp [hty] at hh

omit [DecidableEq S] [DecidableEq T] [DecidableEq U] [DecidableEq V] in
theorem mulRaw_length (G1 : TT S T) (G2 : TT U V) : (mulRaw G1 G2).rules.length ≤ G1.rules.length * G2.rules.length := by
  simp only [mulRaw, List.length_flatMap]
  exact sum_map_le _ G2.rules.length G1.rules (fun e1 _ => List.length_filterMap_le _ _)

theorem mul_clean_terminates (G1 : TT S T) (G2 : TT U V) (hag : ArgsAgree G1 G2) (b : Nat)
    (hb : ∀ e ∈ G1.rules, e.2.length ≤ b) (hr1 : rowsNodup G1 = true)
    (rk1 : CConfig S T → Nat) (hdec1 : ∀ c d, CStep G1 c d → rk1 d < rk1 c) (fuel : Nat)
    (hf : satBound b (rk1 (projL ((mulRaw G1 G2).start, []))) + G1.rules.length * G2.rules.length + 1 ≤ fuel) :
    ∃ G, cleanFixed (mulRaw G1 G2) fuel = .ok G := by
  unfold cleanFixed
  by_cases hs : AList.contains (mulRaw G1 G2).start (mulRaw G1 G2).rules = true
  · simp only [hs, if_true]
    apply clean_terminates (mulRaw G1 G2) b ?_ ?_ (fun c => rk1 (projL c))
      (fun c d hcd => hdec1 _ _ (cstep_projL G1 G2 hag c d hcd)) hs fuel
    · have := mulRaw_length G1 G2
      omega
    · intro e he
      obtain ⟨e1, he1, e2, _, hrow⟩ := mem_mulRaw G1 G2 e he
      rw [hrow]
      unfold mulRow
      exact Nat.le_trans (List.length_filterMap_le _ _) (hb e1 he1)
    · unfold rowsNodup
      rw [List.all_eq_true]
      intro e he
      obtain ⟨e1, he1, e2, _, hrow⟩ := mem_mulRaw G1 G2 e he
      rw [hrow]
      simp only [decide_eq_true_eq]
      exact (keys_mulRow_sublist e2.2 e1.2).nodup (rowsNodupT_of G1 hr1 e1 he1)
  · simp only [hs, Bool.false_eq_true, if_false]
    exact ⟨_, rfl⟩

/-- the machine of a constructed grammar (saturation, then clean) inherits the rank of the worklist;
    a row has at most `|variables| + |primitives|` rules -/
theorem constructed_machine (B : Builder S T) (dsl : Dsl) (request : Ty) (hd : noUnknownDsl dsl request = true)
    (rk : NT S T × List (Ty × S) → Nat)
    (hdec : ∀ (rule : NT S T) (stack : List (Ty × S)), ∀ p ∈ pushesOf B dsl.prims request rule stack,
      rk (entryKey p) < rk (rule, stack))
    (stackKey : Bool) (fuel : Nat) (G0 G : TT S T) (h0 : saturationTable B dsl.prims request stackKey fuel = some G0)
    (h1 : clean G0 fuel = .ok G) :
    (∀ c d, CStep G c d → rk d < rk c) ∧ (∀ e ∈ G.rules, e.2.length ≤ request.arguments.length + dsl.prims.length) ∧
    rowsNodup G = true := by
  have hrows := (saturationTable_spec B dsl.prims request stackKey fuel G0 h0).rows
  obtain ⟨_, c2, c3⟩ := saturation_countHyps B dsl request stackKey fuel G0 hd h0
  obtain ⟨nr, e, hinv⟩ := clean_result G0 G c2 fuel h1
  have hrn := (clean_countHyps G0 G c2 c3 fuel h1).1
  subst e
  refine ⟨?_, ?_, hrn⟩
  · intro c d hcd
    cases hcd with
    | mk rule info P args st hr hin =>
      have hr0 := rule_restrict G0 nr rule P (args, st) hr
      have hin0 : inRules G0 (deriveWith info rule args st).2 = true := by
        obtain ⟨row', hl⟩ := AList.contains_iff_lookup.mp hin
        obtain ⟨row, hrow, _⟩ := restrict_sub G0 nr hinv _ row' hl
        exact AList.contains_of_lookup hrow
      obtain ⟨p, hp, ep⟩ := cstep_push B dsl.prims request G0 hrows c2 _ _ (CStep.mk rule info P args st hr0 hin0)
      rw [← ep]; exact hdec rule info p hp
  · intro e he
    obtain ⟨row, hg, hsub⟩ := restrict_sub G0 nr hinv e.1 e.2
      (AList.lookup_of_mem_nodup (keys_restrict G0 nr ▸ hinv.keys) he)
    have h1' := (rowsNodupT_of _ hrn e he).length_le_of_subset (l₂ := AList.keys row)
      (fun k hk => by
        obtain ⟨r, hr, rfl⟩ := List.mem_map.mp hk
        exact List.mem_map.mpr ⟨r, hsub r hr, rfl⟩)
    have h2' : row.length ≤ request.arguments.length + dsl.prims.length := by
      rw [show row = _ from hrows _ (AList.lookup_some_mem hg)]; exact rowDict_length B dsl.prims request e.1
    simp only [AList.keys, List.length_map] at h1'
    omega

section Constructed
variable (B1 : Builder S T) (B2 : Builder U V) (dsl1 dsl2 : Dsl) (request : Ty)
  (hd1 : noUnknownDsl dsl1 request = true) (hd2 : noUnknownDsl dsl2 request = true) (sk1 sk2 : Bool) (f1 f2 : Nat)
  (g1 : TTG S T) (g2 : TTG U V) (h1 : construct B1 dsl1 request sk1 f1 = .ok g1)
  (h2 : construct B2 dsl2 request sk2 f2 = .ok g2) (fuel : Nat)
include hd1 hd2 h1 h2

/-- C13, the product of two constructed grammars (any two builders, the right one possibly over
    another DSL, same request): the hypotheses of the product theorems (`ArgsAgree`, equal start types,
    no end-marker key) hold of constructed grammars -/
theorem mulTTG_constructed (g : TTG (S × U) (T × V)) (h : mulTTG g1 g2 fuel = .ok g) :
    g.typeRequest = request ∧ ∀ t, PS.G.contains g.G t = (PS.G.contains g1.G t && PS.G.contains g2.G t) := by
  obtain ⟨hc, hr⟩ := mulTTG_eq_ok.mp h
  refine ⟨hr.trans (construct_typeRequest h1), fun t => ?_⟩
  have hty : g1.G.start.1 = g2.G.start.1 := by
    rw [construct_start B1 dsl1 request sk1 f1 g1 h1, construct_start B2 dsl2 request sk2 f2 g2 h2]; rfl
  have hU := mulRaw_noUnknown g1.G g2.G (construct_countHyps B1 dsl1 request hd1 sk1 f1 g1 h1).2.1
  rw [contains_eq_inLang, cleanFixed_lang (mulRaw g1.G g2.G) g.G hU fuel hc t, ← contains_eq_inLang]
  exact mulRaw_lang g1.G g2.G (argsAgree_of_typed g1.G g2.G (construct_typedOK B1 dsl1 request hd1 sk1 f1 g1 h1)
    (construct_typedOK B2 dsl2 request hd2 sk2 f2 g2 h2)) hty t

theorem mulTTG_constructed_terminates (rk : NT S T × List (Ty × S) → Nat)
    (hdec : ∀ (rule : NT S T) (stack : List (Ty × S)), ∀ p ∈ pushesOf B1 dsl1.prims request rule stack,
      rk (entryKey p) < rk (rule, stack))
    (hf : satBound (request.arguments.length + dsl1.prims.length) (rk (startOf B1 request, [])) +
      g1.G.rules.length * g2.G.rules.length + 1 ≤ fuel) : ∃ g, mulTTG g1 g2 fuel = .ok g := by
  obtain ⟨G01, s1, c1, _⟩ := construct_eq_ok.mp h1
  obtain ⟨m1, m2, m3⟩ := constructed_machine B1 dsl1 request hd1 rk hdec sk1 f1 G01 g1.G s1 c1
  have hag := argsAgree_of_typed g1.G g2.G (construct_typedOK B1 dsl1 request hd1 sk1 f1 g1 h1)
    (construct_typedOK B2 dsl2 request hd2 sk2 f2 g2 h2)
  have hs : projL ((mulRaw g1.G g2.G).start, []) = (startOf B1 request, []) := by
    rw [← construct_start B1 dsl1 request sk1 f1 g1 h1]; rfl
  obtain ⟨G, hG⟩ := mul_clean_terminates g1.G g2.G hag _ m2 m3 rk m1 fuel (by rw [hs]; exact hf)
  exact ⟨⟨G, g1.typeRequest⟩, mulTTG_eq_ok.mpr ⟨hG, rfl⟩⟩

end Constructed

end PS.T
