/-
  C17 for unambiguous grammars at language level.

  `instUG fx G tbl` / `instUTg fx tg tbl` are `UCFG.instantiate_constants` (u_cfg.py: same
  start symbols, instantiated rule table `instU`, `clean=False`) and
  `ProbUGrammar.instantiate_constants` (tagged_u_grammar.py: divided tags `instUTags`,
  `start_tags` unchanged) on the grammar objects of PS/Model/Ucfg.lean and PS/Model/Prob.lean.

  The core is `derivs_inst`: the derivations of an instantiation `t'` of a template `t` in the
  instantiated grammar are, one for one and in the same order, the derivations of `t` in the
  template grammar (symbols renamed by `templSym`).  From it: the language of the instantiated
  grammar is the set of instantiations of the language (`genU_inst_iff`); the total derivation
  weight of a template is shared among its instantiations (`wsum_inst`), which gives the mass
  statement for the specification `probU` and for the model of `ProbUGrammar.probability`
  (`probU_mass`, `probabilityU_mass`); and the total mass of the derivations within a depth budget
  is unchanged (`massU_inst`).
-/
import PS.Proofs.InstConstMass
import PS.Proofs.InstConstProg
import PS.Proofs.InstConstLink
import PS.Proofs.Ucfg
import PS.Proofs.UMass
namespace PS.IC
open PS PS.G

variable {V : Type} [DecidableEq V]

/-- `UCFG.instantiate_constants` -/
def instUG (fx : Fix) (G : U.UCFG V) (tbl : Tbl) : U.UCFG V := ⟨G.starts, instU fx G.rules tbl, G.someStart⟩

/-- `ProbUGrammar.instantiate_constants` -/
def instUTg (fx : Fix) (tg : U.UTags V) (tbl : Tbl) : U.UTags V := ⟨instUTags fx tg.tags tbl, tg.startTags⟩

theorem alts?_row {G : U.UCFG V} {nt : U.UNT V} {P : Sym} {c : List (List (U.UNT V))}
    (h : G.alts? nt P = some c) :
    ∃ row, AList.lookup nt G.rules = some row ∧ AList.lookup P row = some c :=
  U.UCFG.alts?_eq_some.mp h

theorem slotFix_of_alts {fx : Fix} {tbl : Tbl} {G : U.UCFG V} (h : rulesOK fx tbl G.rules = true)
    {nt : U.UNT V} {P : Sym} {c : List (List (U.UNT V))} (hr : G.alts? nt P = some c) :
    slotFix fx tbl P :=
  slotFix_of_lookup₂ h ((U.UCFG.alts?_eq_lookup₂ G nt P).symm.trans hr)

theorem alts?_inst_of_produces {fx : Fix} {tbl : Tbl} {G : U.UCFG V} (h : rulesOK fx tbl G.rules = true)
    (nt : U.UNT V) {P k : Sym} (hP : slotFix fx tbl P) (hp : produces fx tbl P k) :
    (instUG fx G tbl).alts? nt k = G.alts? nt P := by
  rw [U.UCFG.alts?_eq_lookup₂, U.UCFG.alts?_eq_lookup₂]
  exact lookup₂_inst_id_of_produces h nt hP hp

theorem alts?_inst_some {fx : Fix} {tbl : Tbl} {G : U.UCFG V} (h : rulesOK fx tbl G.rules = true)
    {nt : U.UNT V} {k : Sym} {c : List (List (U.UNT V))}
    (hr : (instUG fx G tbl).alts? nt k = some c) :
    ∃ P, G.alts? nt P = some c ∧ produces fx tbl P k := by
  simp only [U.UCFG.alts?_eq_lookup₂] at hr ⊢
  exact lookup₂_inst_id_some h hr

theorem flatMap_ne_nil {α β : Type} {l : List α} {g : α → List β} (h : l.flatMap g ≠ []) :
    ∃ a ∈ l, g a ≠ [] :=
  Classical.byContradiction fun hn =>
    h (List.flatMap_eq_nil_iff.mpr fun a ha => Classical.byContradiction fun hg => hn ⟨a, ha, hg⟩)

def derTempl (tbl : Tbl) (x : U.UNT V × Sym × List (U.UNT V)) : U.UNT V × Sym × List (U.UNT V) :=
  (x.1, templSym tbl x.2.1, x.2.2)

theorem derivs_inst (fx : Fix) (tbl : Tbl) (G : U.UCFG V) (h : rulesOK fx tbl G.rules = true) :
    (∀ (t t' : Prog) (nt : U.UNT V), clean fx tbl t = true → isInst tbl t t' = true →
      (U.derivs (instUG fx G tbl) t' nt).map (List.map (derTempl tbl)) = U.derivs G t nt) ∧
    ∀ (ks ks' : List Prog) (as : List (U.UNT V)), cleanList fx tbl ks = true →
      isInstList tbl ks ks' = true →
      (U.derivsList (instUG fx G tbl) ks' as).map (List.map (derTempl tbl)) = U.derivsList G ks as := by
  refine Tree.ind₂ (fun P kids ih t' nt hf hi => ?_) (fun ks' as _ hi => ?_)
    (fun k ks ih1 ih2 l as hf hi => ?_)
  · obtain ⟨hsf, hf⟩ := clean_node hf
    obtain ⟨k, kids', rfl, hs, hi⟩ := isInst_node hi
    have hp : produces fx tbl P k := (produces_iff_symInst hsf).mpr hs
    have hts : templSym tbl k = P := templSym_of_produces hsf hp
    rw [U.derivs, U.derivs, alts?_inst_of_produces h nt hsf hp]
    cases G.alts? nt P with
    | none => rfl
    | some cands =>
      simp only [List.map_flatMap, List.map_map]
      apply U.flatMap_congr'
      intro args _
      rw [← ih kids' args hf hi, List.map_map]
      apply List.map_congr_left
      intro r _
      simp [derTempl, hts]
  · rw [isInstList_nil hi]
    cases as <;> rfl
  · obtain ⟨hf1, hf2⟩ := cleanList_cons hf
    obtain ⟨k', ks', rfl, hi1, hi2⟩ := isInstList_cons hi
    cases as with
    | nil => rfl
    | cons a as =>
      rw [U.derivsList, U.derivsList, ← ih1 k' a hf1 hi1, ← ih2 ks' as hf2 hi2]
      simp only [List.map_flatMap, List.flatMap_map, List.map_map]
      apply U.flatMap_congr'
      intro d _
      apply List.map_congr_left
      intro r _
      simp

theorem derivsList_inst (fx : Fix) (tbl : Tbl) (G : U.UCFG V) (h : rulesOK fx tbl G.rules = true) :
      ∀ (ks ks' : List Prog) (as : List (U.UNT V)), cleanList fx tbl ks = true →
        isInstList tbl ks ks' = true →
        (U.derivsList (instUG fx G tbl) ks' as).map (List.map (derTempl tbl)) = U.derivsList G ks as :=
  (derivs_inst fx tbl G h).2

theorem allDerivs_inst (fx : Fix) (tbl : Tbl) (G : U.UCFG V) (h : rulesOK fx tbl G.rules = true) (t t' : Prog)
    (hf : clean fx tbl t = true) (hi : isInst tbl t t' = true) :
    (U.allDerivs (instUG fx G tbl) t').map (fun sd => (sd.1, sd.2.map (derTempl tbl))) =
      U.allDerivs G t := by
  unfold U.allDerivs
  show (G.starts.flatMap _).map _ = _
  rw [List.map_flatMap]
  apply U.flatMap_congr'
  intro s _
  rw [← (derivs_inst fx tbl G h).1 t t' s hf hi]
  simp [List.map_map, Function.comp_def]

theorem clean_of_derivs (fx : Fix) (tbl : Tbl) (G : U.UCFG V) (h : rulesOK fx tbl G.rules = true) :
    (∀ (t : Prog) (nt : U.UNT V), U.derivs G t nt ≠ [] → clean fx tbl t = true) ∧
    ∀ (ks : List Prog) (as : List (U.UNT V)), U.derivsList G ks as ≠ [] → cleanList fx tbl ks = true := by
  refine Tree.ind₂ (fun P kids ih nt hd => ?_) (fun _ _ => rfl) (fun k ks ih1 ih2 as hd => ?_)
  · obtain ⟨cands, ha, args, -, hne⟩ := (U.derivs_ne_nil_iff ..).mp hd
    rw [clean, Bool.and_eq_true]
    exact ⟨cleanSym_iff.mpr (slotFix_of_alts h ha), ih args hne⟩
  · obtain ⟨a, as, rfl, h1, h2⟩ := U.derivsList_cons_ne_nil hd
    rw [cleanList, Bool.and_eq_true]
    exact ⟨ih1 a h1, ih2 as h2⟩

theorem cleanList_of_derivs (fx : Fix) (tbl : Tbl) (G : U.UCFG V) (h : rulesOK fx tbl G.rules = true) :
      ∀ (ks : List Prog) (as : List (U.UNT V)), U.derivsList G ks as ≠ [] → cleanList fx tbl ks = true :=
  (clean_of_derivs fx tbl G h).2

theorem isInst_templ_of_derivs (fx : Fix) (tbl : Tbl) (G : U.UCFG V) (h : rulesOK fx tbl G.rules = true) :
    (∀ (t' : Prog) (nt : U.UNT V), U.derivs (instUG fx G tbl) t' nt ≠ [] →
      isInst tbl (templ tbl t') t' = true ∧ clean fx tbl (templ tbl t') = true) ∧
    ∀ (ks' : List Prog) (as : List (U.UNT V)), U.derivsList (instUG fx G tbl) ks' as ≠ [] →
      isInstList tbl (templList tbl ks') ks' = true ∧
        cleanList fx tbl (templList tbl ks') = true := by
  refine Tree.ind₂ (fun k kids' ih nt hd => ?_) (fun _ _ => ⟨rfl, rfl⟩)
    (fun k' ks' ih1 ih2 as hd => ?_)
  · obtain ⟨cands, ha, args, -, hne⟩ := (U.derivs_ne_nil_iff ..).mp hd
    obtain ⟨P, hP, hp⟩ := alts?_inst_some h ha
    have hok := slotFix_of_alts h hP
    rw [templ, isInst, clean, templSym_of_produces hok hp, Bool.and_eq_true, Bool.and_eq_true]
    exact ⟨⟨(produces_iff_symInst hok).mp hp, (ih args hne).1⟩, cleanSym_iff.mpr hok, (ih args hne).2⟩
  · obtain ⟨a, as, rfl, h1, h2⟩ := U.derivsList_cons_ne_nil hd
    rw [templList, isInstList, cleanList, Bool.and_eq_true, Bool.and_eq_true]
    exact ⟨⟨(ih1 a h1).1, (ih2 as h2).1⟩, (ih1 a h1).2, (ih2 as h2).2⟩

theorem isInstList_templ_of_derivs (fx : Fix) (tbl : Tbl) (G : U.UCFG V) (h : rulesOK fx tbl G.rules = true) :
      ∀ (ks' : List Prog) (as : List (U.UNT V)), U.derivsList (instUG fx G tbl) ks' as ≠ [] →
        isInstList tbl (templList tbl ks') ks' = true ∧
          cleanList fx tbl (templList tbl ks') = true :=
  (isInst_templ_of_derivs fx tbl G h).2

theorem genU_iff {G : U.UCFG V} {t : Prog} :
    U.genU G t = true ↔ ∃ s ∈ G.starts, U.derivs G t s ≠ [] :=
  U.genU_iff

theorem clean_of_genU (fx : Fix) (tbl : Tbl) (G : U.UCFG V) (h : rulesOK fx tbl G.rules = true) (t : Prog)
    (hg : U.genU G t = true) : clean fx tbl t = true := by
  obtain ⟨s, _, hd⟩ := genU_iff.mp hg
  exact (clean_of_derivs fx tbl G h).1 t s hd

theorem templ_unique_u (fx : Fix) (tbl : Tbl) (G : U.UCFG V) (h : rulesOK fx tbl G.rules = true)
    {t1 t2 t' : Prog} (g1 : U.genU G t1 = true) (g2 : U.genU G t2 = true)
    (i1 : isInst tbl t1 t' = true) (i2 : isInst tbl t2 t' = true) : t1 = t2 := by
  rw [← templ_of_isInst' fx tbl t1 t' (clean_of_genU fx tbl G h t1 g1) i1,
    ← templ_of_isInst' fx tbl t2 t' (clean_of_genU fx tbl G h t2 g2) i2]

theorem genU_inst_iff (fx : Fix) (tbl : Tbl) (G : U.UCFG V) (h : rulesOK fx tbl G.rules = true) (t' : Prog) :
    U.genU (instUG fx G tbl) t' = true ↔ ∃ t, U.genU G t = true ∧ isInst tbl t t' = true := by
  constructor
  · intro hg
    obtain ⟨s, hs, hd⟩ := genU_iff.mp hg
    obtain ⟨hi, hf⟩ := (isInst_templ_of_derivs fx tbl G h).1 t' s hd
    refine ⟨templ tbl t', genU_iff.mpr ⟨s, hs, ?_⟩, hi⟩
    rw [← (derivs_inst fx tbl G h).1 (templ tbl t') t' s hf hi]
    exact fun e => hd (List.map_eq_nil_iff.mp e)
  · rintro ⟨t, hg, hi⟩
    obtain ⟨s, hs, hd⟩ := genU_iff.mp hg
    have hf := (clean_of_derivs fx tbl G h).1 t s hd
    refine genU_iff.mpr ⟨s, hs, ?_⟩
    rw [← (derivs_inst fx tbl G h).1 t t' s hf hi] at hd
    exact fun e => hd (by rw [e]; rfl)

theorem allInst_sound (fx : Fix) (tbl : Tbl) :
    (∀ (t : Prog) (l : List Prog), clean fx tbl t = true →
      allInst fx tbl t = some l → ∀ t' ∈ l, isInst tbl t t' = true) ∧
    ∀ (ks : List Prog) (poss : List (List Prog)),
      cleanList fx tbl ks = true → allInstList fx tbl ks = some poss →
      ∀ ks' ∈ product poss, isInstList tbl ks ks' = true := by
  refine Tree.ind₂ (fun P kids ih l hf ha t' ht' => ?_) (fun poss _ ha ks' hks' => ?_)
    (fun k ks ih1 ih2 poss hf ha l hl => ?_)
  · obtain ⟨hsf, hf⟩ := clean_node hf
    obtain ⟨hs, e1, hl⟩ := allInst_node ha
    rcases hl with ⟨_, rfl⟩ | ⟨poss, e2, rfl⟩
    · cases ht'
    · obtain ⟨k, hk, ks', hks', rfl⟩ := (mem_flatMap_map (fun f' ks => Tree.node f' ks)).mp ht'
      rw [isInst, Bool.and_eq_true]
      exact ⟨(produces_iff_symInst hsf).mp (produces_of_allInstSym e1 k hk), ih poss hf e2 ks' hks'⟩
  · cases ha
    rw [product, List.mem_singleton] at hks'
    rw [hks']; rfl
  · obtain ⟨hf1, hf2⟩ := cleanList_cons hf
    obtain ⟨l', ls, e1, e2, rfl⟩ := allInstList_cons ha
    obtain ⟨x, r, rfl, hx, hr⟩ := (mem_product_cons _ _ _).mp hl
    rw [isInstList, Bool.and_eq_true]
    exact ⟨ih1 l' hf1 e1 x hx, ih2 ls hf2 e2 r hr⟩

theorem allInstList_sound (fx : Fix) (tbl : Tbl) : ∀ (ks : List Prog) (poss : List (List Prog)),
      cleanList fx tbl ks = true → allInstList fx tbl ks = some poss →
      ∀ ks' ∈ product poss, isInstList tbl ks ks' = true :=
  (allInst_sound fx tbl).2

def wsum (G : U.UCFG V) (tg : U.UTags V) (t : Prog) (nt : U.UNT V) : Rat :=
  ((U.derivs G t nt).map (U.derWeightU tg)).sum

def wsumList (G : U.UCFG V) (tg : U.UTags V) (ks : List Prog) (as : List (U.UNT V)) : Rat :=
  rsum ((U.derivsList G ks as).map (U.derWeightU tg))

theorem wsum_node (G : U.UCFG V) (tg : U.UTags V) (f : Sym) (kids : List Prog) (nt : U.UNT V) :
    wsum G tg (.node f kids) nt =
      match G.alts? nt f with
      | none => 0
      | some cands => (cands.map fun args => U.weightU tg (nt, f, args) * wsumList G tg kids args).sum := by
  unfold wsum
  rw [U.derivs]
  cases G.alts? nt f with
  | none => rfl
  | some cands =>
    simp only
    rw [sum_flatMap_rat]
    refine congrArg List.sum (List.map_congr_left fun args _ => ?_)
    rw [wsumList, rsum_eq_sum, List.map_map, ← sum_map_mul_left]
    exact congrArg List.sum (List.map_congr_left fun r _ => U.Mass.derWeightU_cons tg _ r)

theorem wsumList_nil_nil (G : U.UCFG V) (tg : U.UTags V) : wsumList G tg [] [] = 1 := by
  simp [wsumList, U.derivsList, rsum, U.derWeightU]

theorem wsumList_nil_cons (G : U.UCFG V) (tg : U.UTags V) (a : U.UNT V) (as : List (U.UNT V)) :
    wsumList G tg [] (a :: as) = 0 := by
  simp [wsumList, U.derivsList, rsum]

theorem wsumList_cons_nil (G : U.UCFG V) (tg : U.UTags V) (k : Prog) (ks : List Prog) :
    wsumList G tg (k :: ks) [] = 0 := by
  simp [wsumList, U.derivsList, rsum]

theorem wsumList_cons_cons (G : U.UCFG V) (tg : U.UTags V) (k : Prog) (ks : List Prog)
    (a : U.UNT V) (as : List (U.UNT V)) :
    wsumList G tg (k :: ks) (a :: as) = wsum G tg k a * wsumList G tg ks as := by
  unfold wsumList wsum
  rw [U.derivsList, rsum_eq_sum, rsum_eq_sum]
  exact sum_flatMap_map (fun d r => d ++ r) (U.derWeightU tg) (U.derWeightU tg) (U.derWeightU tg)
    _ _ (fun d _ r => U.Mass.derWeightU_append tg d r)

theorem weightU_inst_of_produces {fx : Fix} {tbl : Tbl} {tg : U.UTags V} (h : rulesOK fx tbl tg.tags = true)
    (nt : U.UNT V) {P k : Sym} (hP : slotFix fx tbl P) (hp : produces fx tbl P k) (args : List (U.UNT V)) :
    U.weightU (instUTg fx tg tbl) (nt, k, args) = share fx tbl P * U.weightU tg (nt, P, args) := by
  show (U.tagOfU _ nt k args).getD 0 = share fx tbl P * (U.tagOfU tg nt P args).getD 0
  rw [U.tagOfU_eq, U.tagOfU_eq, instUTg, instUTags, lookup₂_inst_of_produces h _ nt hP hp]
  cases AList.lookup₂ tg.tags nt P with
  | none => exact (Rat.mul_zero _).symm
  | some d =>
    simp only [Option.map_some, Option.bind_some]
    rw [share_mul]
    cases slot? fx tbl P with
    | none => rfl
    | some vals =>
      simp only
      rw [AList.lookup_map_val (fun _ v => v / _)]
      cases AList.lookup args d with
      | none => exact (Rat.div_def _ _).trans (Rat.zero_mul _) |>.symm
      | some v => rfl

theorem wsum_inst (fx : Fix) (tbl : Tbl) (G : U.UCFG V) (tg : U.UTags V)
    (hG : rulesOK fx tbl G.rules = true) (hT : rulesOK fx tbl tg.tags = true)
    (hne : rulesNonEmpty fx tbl G.rules = true) :
    (∀ (t : Prog) (nt : U.UNT V) (l : List Prog), clean fx tbl t = true →
      allInst fx tbl t = some l →
      rsum (l.map fun t' => wsum (instUG fx G tbl) (instUTg fx tg tbl) t' nt) = wsum G tg t nt) ∧
    ∀ (ks : List Prog) (as : List (U.UNT V)) (poss : List (List Prog)),
      cleanList fx tbl ks = true → allInstList fx tbl ks = some poss →
      rsum ((product poss).map fun ks' => wsumList (instUG fx G tbl) (instUTg fx tg tbl) ks' as) =
        wsumList G tg ks as := by
  simp only [rsum_eq_sum]
  refine Tree.ind₂ (fun P kids ih nt l hf ha => ?_) (fun as poss _ ha => ?_)
    (fun k ks ih1 ih2 as poss hf ha => ?_)
  · obtain ⟨hsf, hf⟩ := clean_node hf
    obtain ⟨hs, e1, hl⟩ := allInst_node ha
    have hprod := produces_of_allInstSym e1
    rw [wsum_node G tg]
    cases ha0 : G.alts? nt P with
    | none =>
      apply sum_map_zero
      intro t' ht'
      rcases hl with ⟨_, rfl⟩ | ⟨poss, _, rfl⟩
      · cases ht'
      · obtain ⟨k, hk, ks', _, rfl⟩ := (mem_flatMap_map (fun f' ks => Tree.node f' ks)).mp ht'
        rw [wsum_node, alts?_inst_of_produces hG nt hsf (hprod k hk), ha0]
    | some cands =>
      have hnz := slot?_ne_nil_of_lookup₂ hne ((U.UCFG.alts?_eq_lookup₂ G nt P).symm.trans ha0)
      rcases hl with ⟨rfl, _⟩ | ⟨poss, e2, rfl⟩
      · -- no head: the slot has no value, excluded by `rulesNonEmpty`
        exact absurd rfl (allInstSym_ne_nil e1 hnz)
      · -- every head has the alternatives of `P`, each with its share of the weight
        have hhead : ∀ k ∈ hs, ∀ ks',
            wsum (instUG fx G tbl) (instUTg fx tg tbl) (Tree.node k ks') nt =
              share fx tbl P * (cands.map fun args => U.weightU tg (nt, P, args) *
                wsumList (instUG fx G tbl) (instUTg fx tg tbl) ks' args).sum := by
          intro k hk ks'
          rw [wsum_node, alts?_inst_of_produces hG nt hsf (hprod k hk), ha0, ← sum_map_mul_left]
          exact congrArg List.sum (List.map_congr_left fun args _ => by
            rw [weightU_inst_of_produces hT nt hsf (hprod k hk) args, Rat.mul_assoc])
        rw [sum_flatMap_map (fun f' ks => Tree.node f' ks)
            (fun t' => wsum (instUG fx G tbl) (instUTg fx tg tbl) t' nt) _ _ _ _ hhead,
          sum_exchange (fun args => U.weightU tg (nt, P, args))
            (fun ks' args => wsumList (instUG fx G tbl) (instUTg fx tg tbl) ks' args)
            (product poss) cands]
        simp only [ih _ poss hf e2]
        -- the shares of the heads sum to 1
        rw [sum_allInstSym e1 hnz _ 1 (fun _ _ => (Rat.mul_one _).symm), Rat.one_mul]
  · cases ha
    cases as <;> simp [product, wsumList_nil_nil, wsumList_nil_cons]
  · obtain ⟨hf1, hf2⟩ := cleanList_cons hf
    obtain ⟨l, ls, e1, e2, rfl⟩ := allInstList_cons ha
    cases as with
    | nil =>
      rw [wsumList_cons_nil]
      apply sum_map_zero
      intro ks' hks'
      obtain ⟨x, r, rfl, _, _⟩ := (mem_product_cons _ _ _).mp hks'
      exact wsumList_cons_nil _ _ x r
    | cons a as =>
      rw [sum_product_cons
        (fun ks' => wsumList (instUG fx G tbl) (instUTg fx tg tbl) ks' (a :: as))
        (fun x => wsum (instUG fx G tbl) (instUTg fx tg tbl) x a)
        (fun r => wsumList (instUG fx G tbl) (instUTg fx tg tbl) r as) l ls
        (fun x r => wsumList_cons_cons _ _ x r a as),
        ih1 a l hf1 e1, ih2 as ls hf2 e2, wsumList_cons_cons]

theorem wsumList_inst (fx : Fix) (tbl : Tbl) (G : U.UCFG V) (tg : U.UTags V)
      (hG : rulesOK fx tbl G.rules = true) (hT : rulesOK fx tbl tg.tags = true)
      (hne : rulesNonEmpty fx tbl G.rules = true) : ∀ (ks : List Prog) (as : List (U.UNT V)) (poss : List (List Prog)),
      cleanList fx tbl ks = true → allInstList fx tbl ks = some poss →
      rsum ((product poss).map fun ks' => wsumList (instUG fx G tbl) (instUTg fx tg tbl) ks' as) =
        wsumList G tg ks as :=
  (wsum_inst fx tbl G tg hG hT hne).2

/-- total weight of the derivations of `t`, those from the start symbol `s` with the factor `σ s`:
    the start weights for the specification `probU`, 1 for `ProbUGrammar.probability` -/
def totW (σ : U.UNT V → Rat) (G : U.UCFG V) (tg : U.UTags V) (t : Prog) : Rat :=
  (G.starts.map fun s => σ s * wsum G tg t s).sum

theorem totW_inst (σ : U.UNT V → Rat) (fx : Fix) (tbl : Tbl) (G : U.UCFG V) (tg : U.UTags V)
    (hG : rulesOK fx tbl G.rules = true) (hT : rulesOK fx tbl tg.tags = true)
    (hne : rulesNonEmpty fx tbl G.rules = true) (t : Prog) (l : List Prog)
    (hf : clean fx tbl t = true) (ha : allInst fx tbl t = some l) :
    rsum (l.map (totW σ (instUG fx G tbl) (instUTg fx tg tbl))) = totW σ G tg t := by
  rw [rsum_eq_sum]
  unfold totW
  show (l.map fun t' => (G.starts.map fun s =>
    σ s * wsum (instUG fx G tbl) (instUTg fx tg tbl) t' s).sum).sum = _
  rw [sum_exchange σ (fun t' s => wsum (instUG fx G tbl) (instUTg fx tg tbl) t' s) l G.starts]
  refine congrArg List.sum (List.map_congr_left fun s _ => ?_)
  rw [← (wsum_inst fx tbl G tg hG hT hne).1 t s l hf ha, rsum_eq_sum]

theorem allDerivs_sum (σ : U.UNT V → Rat) (G : U.UCFG V) (tg : U.UTags V) (t : Prog) :
    rsum ((U.allDerivs G t).map fun sd => σ sd.1 * U.derWeightU tg sd.2) = totW σ G tg t := by
  rw [rsum_eq_sum]
  unfold U.allDerivs totW wsum
  rw [sum_flatMap_rat]
  refine congrArg List.sum (List.map_congr_left fun s _ => ?_)
  rw [List.map_map, ← sum_map_mul_left]
  rfl

theorem probU_eq_totW (G : U.UCFG V) (tg : U.UTags V) (t : Prog)
    (hu : U.unambiguousOn G t = true) :
    U.probU G tg t = totW (U.startWeight tg) G tg t := by
  rw [← allDerivs_sum]
  unfold U.probU
  rcases U.allDerivs_of_unambiguousOn hu with hA | ⟨s, d, hA⟩ <;> rw [hA]
  · rfl
  · simp [rsum]

/-- `ProbUGrammar.probability` leaves out the start factor (finding C04-F1): `σ = 1`. -/
theorem probabilityU_eq_totW (G : U.UCFG V) (tg : U.UTags V) (t : Prog)
    (hu : U.unambiguousOn G t = true) :
    U.probabilityU G tg t = totW (fun _ => 1) G tg t := by
  rw [← allDerivs_sum]
  rcases U.allDerivs_of_unambiguousOn hu with hA | ⟨s, d, hA⟩
  · rw [U.probabilityU_of_no_deriv G tg t hA, hA]; rfl
  · rw [U.probabilityU_of_one_deriv G tg t s d hA, hA]
    simp [rsum]

section final
variable (fx : Fix) (tbl : Tbl) (G : U.UCFG V) (tg : U.UTags V)
  (hG : rulesOK fx tbl G.rules = true) (hT : rulesOK fx tbl tg.tags = true)
  (hne : rulesNonEmpty fx tbl G.rules = true)
include hG

theorem unambiguousOn_inst (t t' : Prog) (hg : U.genU G t = true) (hi : isInst tbl t t' = true) :
    U.unambiguousOn (instUG fx G tbl) t' = U.unambiguousOn G t := by
  unfold U.unambiguousOn
  rw [← allDerivs_inst fx tbl G hG t t' (clean_of_genU fx tbl G hG t hg) hi, List.length_map]

include hT hne

theorem probU_mass (t : Prog) (l : List Prog) (hg : U.genU G t = true)
    (hu : U.unambiguousOn G t = true) (ha : allInst fx tbl t = some l) :
    rsum (l.map (U.probU (instUG fx G tbl) (instUTg fx tg tbl))) = U.probU G tg t := by
  have hf := clean_of_genU fx tbl G hG t hg
  rw [probU_eq_totW G tg t hu, ← totW_inst (U.startWeight tg) fx tbl G tg hG hT hne t l hf ha]
  refine congrArg rsum (List.map_congr_left fun t' ht' => ?_)
  have hi := (allInst_sound fx tbl).1 t l hf ha t' ht'
  rw [probU_eq_totW _ _ t' (by rw [unambiguousOn_inst fx tbl G hG t t' hg hi]; exact hu)]
  rfl

theorem probabilityU_mass (t : Prog) (l : List Prog) (hg : U.genU G t = true)
    (hu : U.unambiguousOn G t = true) (ha : allInst fx tbl t = some l) :
    rsum (l.map (U.probabilityU (instUG fx G tbl) (instUTg fx tg tbl))) = U.probabilityU G tg t := by
  have hf := clean_of_genU fx tbl G hG t hg
  rw [probabilityU_eq_totW G tg t hu, ← totW_inst (fun _ => 1) fx tbl G tg hG hT hne t l hf ha]
  refine congrArg rsum (List.map_congr_left fun t' ht' => ?_)
  have hi := (allInst_sound fx tbl).1 t l hf ha t' ht'
  exact probabilityU_eq_totW _ _ t' (by rw [unambiguousOn_inst fx tbl G hG t t' hg hi]; exact hu)

end final

theorem massU_inst (fx : Fix) (tbl : Tbl) (G : U.UCFG V) (tg : U.UTags V)
    (hG : rulesOK fx tbl G.rules = true) (hT : rulesOK fx tbl tg.tags = true)
    (hne : rulesNonEmpty fx tbl G.rules = true) :
    ∀ (k : Nat) (nt : U.UNT V),
      U.Mass.massU (instUG fx G tbl) (instUTg fx tg tbl) k nt = U.Mass.massU G tg k nt := by
  intro k
  induction k with
  | zero => intro nt; simp [U.Mass.massU, U.dersU]
  | succ k ih =>
    intro nt
    cases hl : AList.lookup nt G.rules with
    | none =>
      have hl' : AList.lookup nt (instUG fx G tbl).rules = none := by
        unfold instUG instU; simp only [lookup_instRules, hl, Option.map_none]
      simp [U.Mass.massU, U.dersU, hl, hl']
    | some rs =>
      rw [U.Mass.massU_succ _ _ k nt _ (lookup_instRules_flatMap _ hG hl), U.Mass.massU_succ G tg k nt rs hl]
      -- each key made of `e` has the alternatives of `e`, each with its share of the weight
      refine sum_flatMap_expand (rulesNonEmpty_row hne hl) _ _ fun e he x hx => ?_
      obtain ⟨hp, hx2⟩ := mem_expand_id hx
      have hok := ((rowOK_iff.mp (rulesOK_row hG hl)).2 e.1 (List.mem_map.mpr ⟨e, he, rfl⟩)).slotFix
      simp only [ih]
      rw [hx2, ← sum_map_mul_left]
      exact congrArg List.sum (List.map_congr_left fun args _ => by
        rw [weightU_inst_of_produces hT nt hok hp args, Rat.mul_assoc])

end PS.IC
