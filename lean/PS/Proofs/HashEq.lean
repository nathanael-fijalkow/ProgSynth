/-
  C16: the specification `eqS` is an equivalence, `hashS` respects it, and
  the literal model `sem` (CPython's evaluation of `==`/`hash`) computes exactly the specification.
-/
import PS.Proofs.HashEqSets
import PS.Proofs.Grammar
namespace PS.C16
open PS

theorem tree_ind_list {P : T → Prop} (h : ∀ l ks, (∀ k ∈ ks, P k) → P (.node l ks)) :
      (ks : List T) → ∀ k ∈ ks, P k :=
  fun _ k _ => Tree.ind h k

/-- the part of the kids that a mode other than `set` compares pointwise -/
def Mode.sel {α : Type} : Mode → List α → List α
  | .leaf, _ => []
  | .head, ks => ks.take 1
  | _, ks => ks

theorem Mode.sel_subset {α : Type} (m : Mode) (ks : List α) (k : α) (hk : k ∈ m.sel ks) : k ∈ ks := by
  cases m <;> simp only [Mode.sel] at hk
  · cases hk
  · exact hk
  · exact hk
  · exact List.mem_of_mem_take hk

theorem Mode.map_sel {α β : Type} (m : Mode) (f : α → β) (ks : List α) :
    (m.sel ks).map f = m.sel (ks.map f) := by
  cases m <;> simp [Mode.sel, List.map_take]

/-- what `eqS` does with the kids of two nodes of the same key (`eqS_node`), the comparison of two kids
    left open: reflexivity, symmetry and transitivity are shown once for any `eq` that has them on the
    kids, which is the induction step for `eqS` -/
def kidsEq (eq : T → T → Bool) (m : Mode) (ka kb : List T) : Bool :=
  if m = .set then ka.all (fun k => kb.any (eq k)) && kb.all (fun k' => ka.any (fun k => eq k k'))
  else listEq eq (m.sel ka) (m.sel kb)

theorem zipS_eq (ka kb : List T) : zipS ka kb = listEq eqS ka kb := by
  induction ka generalizing kb with
  | nil => cases kb <;> simp [zipS, listEq]
  | cons k ks ih => cases kb <;> simp [zipS, listEq, ih]

theorem subS_eq (ka kb : List T) : subS ka kb = ka.all (fun k => kb.any (eqS k)) := by
  induction ka with
  | nil => simp [subS]
  | cons k ks ih => simp [subS, ih]

theorem anyS_eq (ka : List T) (t : T) : anyS ka t = ka.any (fun k => eqS k t) := by
  induction ka with
  | nil => simp [anyS]
  | cons k ks ih => simp [anyS, ih]

theorem headS_eq (ka kb : List T) : headS ka kb = listEq eqS (ka.take 1) (kb.take 1) := by
  cases ka <;> cases kb <;> simp [headS, listEq]

theorem eqS_node (la lb : Lab) (ka kb : List T) :
    eqS (.node la ka) (.node lb kb) = (la.key == lb.key && kidsEq eqS la.key.mode ka kb) := by
  rw [eqS]
  congr 1
  unfold kidsEq
  cases la.key.mode
  · rfl
  · simp [zipS_eq, Mode.sel]
  · simp only [subS_eq, if_true]
    congr 2
    funext k'
    exact anyS_eq ka k'
  · simp [headS_eq, Mode.sel]

@[simp] theorem listEq_nil {α : Type} (eq : α → α → Bool) : listEq eq [] [] = true := rfl

theorem listEq_refl (eq : T → T → Bool) (l : List T) (h : ∀ k ∈ l, eq k k = true) : listEq eq l l = true := by
  induction l with
  | nil => rfl
  | cons k ks ih =>
    simp only [listEq, Bool.and_eq_true]
    exact ⟨h k (by simp), ih (fun x hx => h x (List.mem_cons_of_mem _ hx))⟩

theorem listEq_symm (eq : T → T → Bool) (l m : List T)
    (h : ∀ k ∈ l, ∀ k', eq k k' = true → eq k' k = true) (hlm : listEq eq l m = true) : listEq eq m l = true := by
  fun_induction listEq eq l m with
  | case1 => rfl
  | case2 a as b bs ih =>
    rw [Bool.and_eq_true] at hlm
    rw [listEq, Bool.and_eq_true]
    exact ⟨h a (by simp) b hlm.1, ih (fun x hx => h x (List.mem_cons_of_mem _ hx)) hlm.2⟩
  | case3 => cases hlm

theorem listEq_trans (eq : T → T → Bool) (l m r : List T)
    (h : ∀ k ∈ l, ∀ b c, eq k b = true → eq b c = true → eq k c = true)
    (h1 : listEq eq l m = true) (h2 : listEq eq m r = true) : listEq eq l r = true := by
  fun_induction listEq eq l m generalizing r with
  | case1 => exact h2
  | case2 a as b bs ih =>
    cases r with
    | nil => simp [listEq] at h2
    | cons c cs =>
      simp only [listEq, Bool.and_eq_true] at h1 h2 ⊢
      exact ⟨h a (by simp) b c h1.1 h2.1, ih cs (fun x hx => h x (List.mem_cons_of_mem _ hx)) h1.2 h2.2⟩
  | case3 => cases h1

theorem listEq_map (eq : T → T → Bool) (f : T → Int) (l m : List T)
    (h : ∀ k ∈ l, ∀ b, eq k b = true → f k = f b) (hlm : listEq eq l m = true) : l.map f = m.map f := by
  fun_induction listEq eq l m with
  | case1 => rfl
  | case2 a as b bs ih =>
    rw [Bool.and_eq_true] at hlm
    rw [List.map_cons, List.map_cons, h a (by simp) b hlm.1, ih (fun x hx => h x (List.mem_cons_of_mem _ hx)) hlm.2]
  | case3 => cases hlm

theorem listEq_length (eq : T → T → Bool) (l m : List T) (h : listEq eq l m = true) : l.length = m.length := by
  fun_induction listEq eq l m with
  | case1 => rfl
  | case2 a as b bs ih => rw [List.length_cons, List.length_cons, ih (Bool.and_eq_true _ _ ▸ h).2]
  | case3 => cases h
theorem listEq_congr (eq eq' : T → T → Bool) (l m : List T)
    (h : ∀ x ∈ l, ∀ y ∈ m, eq x y = eq' x y) : listEq eq l m = listEq eq' l m := by
  induction l generalizing m with
  | nil => cases m <;> rfl
  | cons k ks ih => cases m with
    | nil => rfl
    | cons k' ms =>
      simp only [listEq]
      rw [h k (by simp) k' (by simp), ih ms (fun x hx y hy => h x (List.mem_cons_of_mem _ hx) y (List.mem_cons_of_mem _ hy))]

theorem kidsEq_set (eq : T → T → Bool) (ka kb : List T) :
    kidsEq eq .set ka kb = true ↔ SetEq eq ka kb := by
  simp only [kidsEq, if_true, Bool.and_eq_true, List.all_eq_true, List.any_eq_true]
  exact ⟨fun h => ⟨h.1, h.2⟩, fun h => ⟨h.left, h.right⟩⟩

theorem kidsEq_refl (eq : T → T → Bool) (m : Mode) (ka : List T) (h : ∀ k ∈ ka, eq k k = true) :
    kidsEq eq m ka ka = true := by
  by_cases hm : m = .set
  · subst hm; exact (kidsEq_set eq ka ka).mpr (.refl h)
  · rw [kidsEq, if_neg hm]
    exact listEq_refl eq _ (fun k hk => h k (m.sel_subset ka k hk))

theorem kidsEq_symm (eq : T → T → Bool) (m : Mode) (ka kb : List T)
    (h : ∀ k ∈ ka, ∀ k', eq k k' = true → eq k' k = true) (hab : kidsEq eq m ka kb = true) :
    kidsEq eq m kb ka = true := by
  by_cases hm : m = .set
  · subst hm; rw [kidsEq_set] at hab ⊢; exact hab.symm h
  · rw [kidsEq, if_neg hm] at hab ⊢
    exact listEq_symm eq _ _ (fun k hk => h k (m.sel_subset ka k hk)) hab

theorem kidsEq_trans (eq : T → T → Bool) (m : Mode) (ka kb kc : List T)
    (h : ∀ k ∈ ka, ∀ b c, eq k b = true → eq b c = true → eq k c = true)
    (h1 : kidsEq eq m ka kb = true) (h2 : kidsEq eq m kb kc = true) : kidsEq eq m ka kc = true := by
  by_cases hm : m = .set
  · subst hm; rw [kidsEq_set] at h1 h2 ⊢; exact h1.trans h h2
  · rw [kidsEq, if_neg hm] at h1 h2 ⊢
    exact listEq_trans eq _ _ _ (fun k hk => h k (m.sel_subset ka k hk)) h1 h2

theorem eqS_refl (a : T) : eqS a a = true := by
  induction a using Tree.ind with
  | node l ks ih =>
    rw [eqS_node]
    simp only [beq_self_eq_true, Bool.true_and]
    exact kidsEq_refl eqS _ ks ih

theorem eqS_symm (a b : T) : eqS a b = true → eqS b a = true := by
  induction a using Tree.ind generalizing b with
  | node l ks ih =>
    cases b with
    | node lb kb =>
      rw [eqS_node, eqS_node]
      simp only [Bool.and_eq_true, beq_iff_eq]
      intro ⟨hk, hkids⟩
      refine ⟨hk.symm, ?_⟩
      rw [← hk]
      exact kidsEq_symm eqS _ ks kb (fun k hk k' => ih k hk k') hkids

theorem eqS_trans (a b c : T) : eqS a b = true → eqS b c = true → eqS a c = true := by
  induction a using Tree.ind generalizing b c with
  | node l ks ih =>
    cases b with
    | node lb kb =>
      cases c with
      | node lc kc =>
        rw [eqS_node, eqS_node, eqS_node]
        simp only [Bool.and_eq_true, beq_iff_eq]
        intro ⟨hk1, hkids1⟩ ⟨hk2, hkids2⟩
        refine ⟨hk1.trans hk2, ?_⟩
        rw [← hk1] at hkids2
        exact kidsEq_trans eqS _ ks kb kc (fun k hk b c => ih k hk b c) hkids1 hkids2

theorem eqS_isEquiv : IsEquiv eqS := ⟨eqS_refl, eqS_symm, eqS_trans⟩

theorem eqS_comm (a b : T) : eqS a b = eqS b a :=
  Bool.eq_iff_iff.mpr ⟨eqS_symm a b, eqS_symm b a⟩

theorem hashListS_eq (h : HashFns) (ks : List T) : hashListS h ks = ks.map (hashS h) :=
  eq_map_of_rec rfl (fun _ _ => rfl) ks

theorem zip_map_self {α β : Type} (f : α → β) (l : List α) : l.zip (l.map f) = l.map (fun x => (x, f x)) := by
  induction l with
  | nil => rfl
  | cons x xs ih => simp [ih]

theorem hashS_node (h : HashFns) (l : Lab) (ks : List T) :
    hashS h (.node l ks) = nodeHash h l.key (ks.map (hashS h))
      (if l.key = .tsum then h.fset ((mkSet eqS ks).map (hashS h)) else 0) := by
  rw [hashS, hashListS_eq, zip_map_self, mkSet_pairs eqS (hashS h) ks]

theorem nodeHash_congr (h : HashFns) (k : LKey) (khs khs' : List Int) (fs fs' : Int)
    (hsel : k.mode ≠ .set → k.mode.sel khs = k.mode.sel khs') (hs : k = .tsum → fs = fs') :
    nodeHash h k khs fs = nodeHash h k khs' fs' := by
  cases k <;> simp only [LKey.mode, nodeHash, Mode.sel, ne_eq, reduceCtorEq, not_false_eq_true,
    not_true_eq_false, forall_const, false_implies] at hsel hs ⊢
  all_goals first
    | rfl
    | (subst hsel; rfl)
    | (subst hs; rfl)
    | skip
  -- the case left is `plam`, whose hash reads only the first child (`Mode.head`)
  cases khs <;> cases khs' <;> simp_all

theorem eqS_hashS (h : HashFns) (hl : h.Lawful) (a b : T) : eqS a b = true → hashS h a = hashS h b := by
  induction a using Tree.ind generalizing b with
  | node l ks ih =>
    cases b with
    | node lb kb =>
      rw [eqS_node, hashS_node, hashS_node]
      simp only [Bool.and_eq_true, beq_iff_eq]
      intro ⟨hk, hkids⟩
      rw [← hk]
      apply nodeHash_congr
      · intro hm
        rw [kidsEq, if_neg hm] at hkids
        rw [← Mode.map_sel, ← Mode.map_sel]
        exact listEq_map eqS (hashS h) _ _ (fun k hk b => ih k (Mode.sel_subset _ _ k hk) b) hkids
      · intro ht
        rw [ht] at hkids
        rw [if_pos ht, if_pos ht]
        exact hl _ _ (perm_mkSet_map eqS eqS_isEquiv (hashS h) ks kb ((kidsEq_set eqS ks kb).mp hkids)
          (fun x hx y => ih x hx y))

/-! ## one level of `sem` (`richEq`, `ctorHash`) under the induction hypotheses `hE`, `hH` of `sem_spec` -/

/-- with hashes consistent, the hash pre-test of set lookups is redundant -/
theorem keyEq_spec (h : HashFns) (hl : h.Lawful) (x y : T) : keyEq eqS (hashS h) x y = eqS x y := by
  unfold keyEq
  cases he : eqS x y with
  | false => simp
  | true => simp [eqS_hashS h hl x y he]

section step
variable (h : HashFns) (hl : h.Lawful) (E : T → T → Bool) (H : T → Int) (n : Nat)
  (hE : ∀ x y : T, x.depth ≤ n → y.depth ≤ n → E x y = eqS x y)
  (hH : ∀ x : T, x.depth ≤ n → H x = hashS h x)
include hl hE hH

theorem keyEq_agree (x y : T) (hx : x.depth ≤ n) (hy : y.depth ≤ n) : keyEq E H x y = eqS x y := by
  rw [← keyEq_spec h hl x y]
  unfold keyEq
  rw [hE x y hx hy, hH x hx, hH y hy]

theorem ctorHash_spec (a : T) (ha : a.depth ≤ n + 1) : ctorHash h E H a = hashS h a := by
  cases a with
  | node l ks =>
    have hk : ∀ k ∈ ks, k.depth ≤ n := fun k hk => Tree.depth_kid hk ha
    rw [ctorHash, hashS_node]
    have e1 : ks.map H = ks.map (hashS h) := List.map_congr_left (fun k hk' => hH k (hk k hk'))
    have e2 : mkSet (keyEq E H) ks = mkSet eqS ks :=
      mkSet_congr _ _ (fun x => x.depth ≤ n) (fun x y hx hy => keyEq_agree h hl E H n hE hH x y hx hy) ks hk
    have e3 : (mkSet eqS ks).map H = (mkSet eqS ks).map (hashS h) :=
      List.map_congr_left (fun k hk' => hH k (hk k (mem_mkSet eqS ks k hk')))
    rw [e1, e2, e3]

theorem symDiff_spec (ko ks : List T) (hko : ∀ k ∈ ko, k.depth ≤ n) (hks : ∀ k ∈ ks, k.depth ≤ n) :
    symDiffEmpty (keyEq E H) ko ks = kidsEq eqS .set ks ko := by
  rw [symDiffEmpty_congr _ eqS (fun x => x.depth ≤ n)
        (fun x y hx hy => keyEq_agree h hl E H n hE hH x y hx hy) ko ks hko hks]
  rw [Bool.eq_iff_iff, symDiffEmpty_iff eqS eqS_isEquiv, kidsEq_set]

omit hl hH in
theorem listEq_spec (ka kb : List T) (hka : ∀ k ∈ ka, k.depth ≤ n) (hkb : ∀ k ∈ kb, k.depth ≤ n) :
    listEq E ka kb = listEq eqS ka kb :=
  listEq_congr E eqS ka kb (fun x hx y hy => hE x y (hka x hx) (hkb y hy))

end step

section step2
variable (h : HashFns) (hl : h.Lawful) (E : T → T → Bool) (H : T → Int) (n : Nat)
  (hE : ∀ x y : T, x.depth ≤ n → y.depth ≤ n → E x y = eqS x y)
  (hH : ∀ x : T, x.depth ≤ n → H x = hashS h x)
include hl hE hH

theorem classEq_spec (ls lo : Lab) (ks ko : List T)
    (hks : ∀ k ∈ ks, k.depth ≤ n) (hko : ∀ k ∈ ko, k.depth ≤ n) (hex : lo.properSub ls = false) :
    classEq E H (.node ls ks) (.node lo ko) = eqS (.node ls ks) (.node lo ko) := by
  rw [eqS_node]
  have hsd := symDiff_spec h hl E H n hE hH ko ks hko hks
  have hl1 := listEq_spec E n hE ks ko hks hko
  have hl2 := listEq_spec E n hE ko ks hko hks
  have hcomm : listEq eqS ko ks = listEq eqS ks ko := Bool.eq_iff_iff.mpr
    ⟨listEq_symm eqS _ _ fun k _ => eqS_symm k, listEq_symm eqS _ _ fun k _ => eqS_symm k⟩
  -- different classes: the class test of `classEq` falls through and the keys differ
  -- (`apply` unifies with the goal once, `exact` elaborates against it and then unifies again: twice the cost in 131 cases)
  cases ls <;> cases lo <;> first | apply (Bool.false_and _).symm | skip
  case tprim.tprim a b =>
    rw [Bool.eq_iff_iff]; simp [classEq, Lab.key, LKey.mode, kidsEq, Mode.sel]
    exact eq_comm
  case tpoly.tpoly a b =>
    rw [Bool.eq_iff_iff]; simp [classEq, Lab.key, LKey.mode, kidsEq, Mode.sel, Lab.isPoly]
    exact eq_comm
  case tpoly.tfpoly a b => simp [Lab.properSub] at hex
  case tfpoly.tfpoly a b =>
    rw [Bool.eq_iff_iff]; simp [classEq, Lab.key, LKey.mode, hsd]
    intro _; exact eq_comm
  case tsum.tsum =>
    rw [Bool.eq_iff_iff]; simp [classEq, Lab.key, LKey.mode, hsd]
  case tarrow.tarrow =>
    rw [Bool.eq_iff_iff]; simp [classEq, Lab.key, LKey.mode, kidsEq, Mode.sel, hl2, hcomm]
  case tgeneric.tgeneric a i b j =>
    rw [Bool.eq_iff_iff]; simp [classEq, Lab.key, LKey.mode, kidsEq, Mode.sel, hl1]
    intro hle
    have := listEq_length eqS ks ko hle
    constructor
    · intro ⟨e, _⟩; exact e.symm
    · intro e; exact ⟨e.symm, this⟩
  case unknown.unknown =>
    rw [Bool.eq_iff_iff]; simp [classEq, Lab.key, LKey.mode, kidsEq, Mode.sel]
  case pprim.pprim a b =>
    rw [Bool.eq_iff_iff]; simp [classEq, Lab.key, LKey.mode, kidsEq, Mode.sel, hl1]
  case pvar.pvar i j =>
    rw [Bool.eq_iff_iff]; simp [classEq, Lab.key, LKey.mode, kidsEq, Mode.sel]
  case pconst.pconst hv v r hv' v' r' =>
    rw [Bool.eq_iff_iff]; simp [classEq, Lab.key, LKey.mode, kidsEq, Mode.sel, hl1, valEq]
    constructor
    · intro ⟨⟨⟨a, b⟩, c⟩, d⟩; exact ⟨⟨b, c, d⟩, a⟩
    · intro ⟨⟨b, c, d⟩, a⟩; exact ⟨⟨⟨a, b⟩, c⟩, d⟩
  case pfun.pfun t t' =>
    -- the kids are opened before `classEq`: on `ks`, `ko` simp is slow to see that its match on them is stuck
    rw [Bool.eq_iff_iff]
    cases ks with
    | nil => cases ko <;> simp [classEq, Lab.key, LKey.mode, kidsEq, Mode.sel, listEq]
    | cons f as =>
      cases ko with
      | nil => simp [classEq, Lab.key, LKey.mode, kidsEq, Mode.sel, listEq]
      | cons f' as' =>
        have e1 : E f f' = eqS f f' := hE f f' (hks f (by simp)) (hko f' (by simp))
        have e2 : listEq E as as' = listEq eqS as as' :=
          listEq_spec E n hE as as' (fun k hk => hks k (List.mem_cons_of_mem _ hk)) (fun k hk => hko k (List.mem_cons_of_mem _ hk))
        simp [classEq, Lab.key, LKey.mode, kidsEq, Mode.sel]
        simp only [listEq, e1, e2, Bool.and_eq_true, beq_iff_eq]
        constructor
        · intro ⟨⟨a, _⟩, b, c⟩; exact ⟨b, a, c⟩
        · intro ⟨b, a, c⟩; exact ⟨⟨a, listEq_length eqS as as' c⟩, b, c⟩
  case plam.plam =>
    rw [Bool.eq_iff_iff]
    cases ks with
    | nil => cases ko <;> simp [classEq, Lab.key, LKey.mode, kidsEq, Mode.sel, listEq]
    | cons b _ =>
      cases ko with
      | nil => simp [classEq, Lab.key, LKey.mode, kidsEq, Mode.sel, listEq]
      | cons b' _ =>
        simp [classEq, Lab.key, LKey.mode, kidsEq, Mode.sel, listEq, hE b b' (hks b (by simp)) (hko b' (by simp))]

end step2

section step3
variable (h : HashFns) (hl : h.Lawful) (E : T → T → Bool) (H : T → Int) (n : Nat)
  (hE : ∀ x y : T, x.depth ≤ n → y.depth ≤ n → E x y = eqS x y)
  (hH : ∀ x : T, x.depth ≤ n → H x = hashS h x)
include hl hE hH

theorem richEq_spec (a b : T) (ha : a.depth ≤ n + 1) (hb : b.depth ≤ n + 1) :
    richEq E H a b = eqS a b := by
  cases a with
  | node la ka =>
    cases b with
    | node lb kb =>
      have hka : ∀ k ∈ ka, k.depth ≤ n := fun k hk => Tree.depth_kid hk ha
      have hkb : ∀ k ∈ kb, k.depth ≤ n := fun k hk => Tree.depth_kid hk hb
      unfold richEq
      by_cases hp : (Tree.node lb kb).label.properSub (Tree.node la ka).label = true
      · have hp' : lb.properSub la = true := hp
        rw [if_pos hp, classEq_spec h hl E H n hE hH lb la kb ka hkb hka ?_, eqS_comm]
        -- `properSub` holds of one pair of classes only, and not the other way round
        unfold Lab.properSub at hp'
        split at hp'
        · rfl
        · cases hp'
      · have hp' : ¬ lb.properSub la = true := hp
        rw [if_neg hp]
        exact classEq_spec h hl E H n hE hH la lb ka kb hka hkb (by simpa using hp')

end step3

theorem sem_spec (h : HashFns) (hl : h.Lawful) (n : Nat) :
    (∀ a b : T, a.depth ≤ n → b.depth ≤ n → (sem h n).1 a b = eqS a b) ∧
    (∀ a : T, a.depth ≤ n → (sem h n).2 a = hashS h a) := by
  induction n with
  | zero =>
    constructor
    · intro a b ha; have := Tree.depth_pos a; omega
    · intro a ha; have := Tree.depth_pos a; omega
  | succ n ih =>
    constructor
    · intro a b ha hb
      exact richEq_spec h hl _ _ n ih.1 ih.2 a b ha hb
    · intro a ha
      exact ctorHash_spec h hl _ _ n ih.1 ih.2 a ha

theorem pyEq_eq_spec (h : HashFns) (hl : h.Lawful) (a b : T) : pyEq h a b = eqS a b :=
  (sem_spec h hl _).1 a b (Nat.le_max_left _ _) (Nat.le_max_right _ _)

theorem pyHash_eq_spec (h : HashFns) (hl : h.Lawful) (a : T) : pyHash h a = hashS h a :=
  (sem_spec h hl _).2 a (Nat.le_refl _)

/-! ## objects with cached hashes: constructors, reducers -/

mutual
  theorem erase_build (h : HashFns) : (t : T) → erase (build h t) = t
    | .node l ks => by
      rw [build, construct, erase, eraseList_buildList h ks]
  theorem eraseList_buildList (h : HashFns) : (ks : List T) → eraseList (buildList h ks) = ks
    | [] => rfl
    | k :: ks => by rw [buildList, eraseList, erase_build h k, eraseList_buildList h ks]
end

mutual
  theorem pickle_eq_erase : (o : Obj) → pickle o = erase o
    | .node l ks => by rw [pickle, erase, pickleList_eq_eraseList ks]
  theorem pickleList_eq_eraseList : (ks : List Obj) → pickleList ks = eraseList ks
    | [] => rfl
    | k :: ks => by rw [pickleList, eraseList, pickle_eq_erase k, pickleList_eq_eraseList ks]
end

theorem relabel_wf (l : Lab) (hw : l.wf = true) : relabel l = l := by
  cases l <;> simp [relabel, constLab, Lab.wf] at hw ⊢
  rename_i hv v r
  cases hv <;> cases hn : v.isNone <;> simp_all

mutual
  theorem unpickle_eq_build (h : HashFns) : (t : T) → wf t = true → unpickle h t = build h t
    | .node l ks => by
      intro hw
      simp only [wf, Bool.and_eq_true] at hw
      rw [unpickle, build, relabel_wf l hw.1, unpickleList_eq_buildList h ks hw.2]
  theorem unpickleList_eq_buildList (h : HashFns) : (ks : List T) → wfList ks = true →
      unpickleList h ks = buildList h ks
    | [] => fun _ => rfl
    | k :: ks => by
      intro hw
      simp only [wfList, Bool.and_eq_true] at hw
      rw [unpickleList, buildList, unpickle_eq_build h k hw.1, unpickleList_eq_buildList h ks hw.2]
end

theorem buildList_eq_map (h : HashFns) (ks : List T) : buildList h ks = ks.map (build h) :=
  eq_map_of_rec rfl (fun _ _ => rfl) ks

theorem cached_build (h : HashFns) (hl : h.Lawful) (t : T) : cached (build h t) = pyHash h t := by
  rw [pyHash_eq_spec h hl]
  induction t using Tree.ind with
  | node l ks ih =>
    rw [build, construct, cached, hashS_node, buildList_eq_map]
    have e0 : (ks.map (build h)).map (fun k => (erase k, cached k)) = ks.map (fun k => (k, hashS h k)) := by
      rw [List.map_map]
      apply List.map_congr_left
      intro k hk
      simp only [Function.comp, erase_build, ih k hk]
    simp only [e0, List.map_map]
    have e1 : ((fun x : T × Int => x.2) ∘ fun k => (k, hashS h k)) = hashS h := rfl
    rw [e1]
    congr 1
    by_cases ht : l.key = .tsum
    · rw [if_pos ht, if_pos ht]
      congr 1
      have e2 : mkSet (keyEq (fun (a b : T × Int) => pyEq h a.1 b.1) (·.2)) (ks.map (fun k => (k, hashS h k)))
          = mkSet (fun (e t : T × Int) => eqS e.1 t.1) (ks.map (fun k => (k, hashS h k))) := by
        apply mkSet_congr _ _ (fun p : T × Int => p.2 = hashS h p.1)
        · intro x y hx hy
          simp only [keyEq, pyEq_eq_spec h hl, hx, hy]
          exact keyEq_spec h hl x.1 y.1
        · intro x hx
          obtain ⟨k, _, rfl⟩ := List.mem_map.mp hx
          rfl
      rw [e2]
      have := mkSet_pairs eqS (hashS h) ks
      rw [← this]
    · rw [if_neg ht, if_neg ht]

theorem eqS_congr_left {a a' : T} (h : eqS a a' = true) (b : T) : eqS a b = eqS a' b :=
  Bool.eq_iff_iff.mpr ⟨eqS_trans a' a b (eqS_symm a a' h), eqS_trans a a' b h⟩

theorem memKey_eq_spec (h : HashFns) (hl : h.Lawful) (a b : T) : memKey h a b = eqS a b := by
  unfold memKey
  rw [pyHash_eq_spec h hl, pyHash_eq_spec h hl, pyEq_eq_spec h hl, eqS_comm a b]
  exact keyEq_spec h hl b a
