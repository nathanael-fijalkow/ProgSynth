/-
  C05: the language of `__cfg2dfta__ G` against the language of `G`. Every program of a well-formed grammar is
  accepted ("never removes"); under `cfg2dftaExact G` (Hyp_C05) nothing else is ("never adds").
-/
import PS.Proofs.ConstraintsCfg
import PS.Proofs.Grammar
import PS.Proofs.ListSum
set_option linter.unusedSectionVars false
namespace PS.C05
open PS DFTA PS.G

def hgt : Prog → Nat
  | .node _ ks => hgtList ks
where hgtList : List Prog → Nat
  | [] => 0
  | k :: ks => max (hgt k + 1) (hgtList ks)

theorem mem_grid (md : Nat) (args : List (Ty × CFGState)) (qs : List BaseSt) :
    qs ∈ cartesian (args.map (fun a => (List.range md).map (fun j => (a.1, j)))) ↔
      (qs.map (·.1) = args.map (·.1) ∧ ∀ q ∈ qs, q.2 < md) := by
  have h := mem_cartesian_map (e := id) (f := fun t : Ty => (List.range md).map fun j => (t, j))
    (g := fun q : BaseSt => q.1) (P := fun q => q.2 < md) (fun q t => by
      simp only [id, List.mem_map, List.mem_range]
      exact ⟨fun ⟨j, hj, e⟩ => e ▸ ⟨rfl, hj⟩, fun ⟨e, hj⟩ => ⟨q.2, hj, e ▸ rfl⟩⟩) qs (args.map (·.1))
  rwa [List.map_id, List.map_map] at h

theorem raw_read_some (G : CFG) (P : Sym) (qs : List BaseSt) (v : BaseSt)
    (h : (cfg2dftaRaw G).read P qs = some v) : ((P, qs), v) ∈ allWrites G := by
  unfold DFTA.read at h
  rw [raw_rules_eq] at h
  exact AList.lookup_ofList_some h

theorem raw_read_of_unique (G : CFG) (P : Sym) (qs : List BaseSt) (v : BaseSt)
    (hex : ((P, qs), v) ∈ allWrites G) (hu : ∀ v', ((P, qs), v') ∈ allWrites G → v' = v) :
    (cfg2dftaRaw G).read P qs = some v := by
  unfold DFTA.read
  rw [raw_rules_eq]
  apply AList.lookup_insertMany_of_mem
  · exact ⟨_, hex, rfl⟩
  · rintro ⟨k, v'⟩ hx hk
    simp only at hk
    subst hk
    exact hu v' hx

theorem foldl_max_init (hs : List Nat) (a : Nat) : hs.foldl max a = max a (hs.foldl max 0) := by
  induction hs generalizing a with
  | nil => exact (Nat.max_zero a).symm
  | cons h hs ih =>
    rw [List.foldl_cons, List.foldl_cons, ih (max a h), ih (max 0 h), Nat.zero_max, Nat.max_assoc]

theorem foldl_max_cons (h : Nat) (hs : List Nat) : (h :: hs).foldl max 0 = max h (hs.foldl max 0) := by
  rw [List.foldl_cons, foldl_max_init, Nat.zero_max]

theorem foldl_max_le {l : List Nat} {b : Nat} (h : ∀ x ∈ l, x ≤ b) : l.foldl max 0 ≤ b := by
  induction l with
  | nil => exact Nat.zero_le b
  | cons y ys ih =>
    rw [foldl_max_cons]
    exact Nat.max_le.mpr ⟨h y List.mem_cons_self, ih fun x hx => h x (List.mem_cons_of_mem _ hx)⟩

theorem maxh_cons (q : BaseSt) (qs : List BaseSt) : maxh (q :: qs) = max q.2 (maxh qs) :=
  foldl_max_cons _ _

/-- the height `__cfg2dfta__` gives the target of a rule taken on the states `qs`: 0 for a constant,
    `maxh qs + 1` otherwise (`lvl_eq`).  With it the two branches of `writes` are one formula
    (`mem_allWrites`), and it is `hgt` of the program read (`hgtList_eq`). -/
def lvl (qs : List BaseSt) : Nat := (qs.map (·.2 + 1)).foldl max 0

theorem lvl_cons (q : BaseSt) (qs : List BaseSt) : lvl (q :: qs) = max (q.2 + 1) (lvl qs) :=
  foldl_max_cons _ _

theorem lvl_eq {qs : List BaseSt} (h : qs ≠ []) : lvl qs = maxh qs + 1 := by
  induction qs with
  | nil => exact absurd rfl h
  | cons q qs ih =>
    rw [lvl_cons, maxh_cons]
    cases qs with
    | nil => simp [lvl, maxh]
    | cons q' qs' => rw [ih (by simp)]; omega

theorem lt_lvl {qs : List BaseSt} {q : BaseSt} (h : q ∈ qs) : q.2 < lvl qs :=
  le_foldl_max _ 0 _ (.inl (List.mem_map.mpr ⟨q, h, rfl⟩))

theorem lvl_le {qs : List BaseSt} {b : Nat} (h : ∀ q ∈ qs, q.2 < b) : lvl qs ≤ b :=
  foldl_max_le fun x hx => by
    obtain ⟨q, hq, rfl⟩ := List.mem_map.mp hx
    exact h q hq

theorem hgtList_eq (ks : List Prog) (qs : List BaseSt) (h : qs.map (·.2) = ks.map hgt) : hgt.hgtList ks = lvl qs := by
  induction ks generalizing qs with
  | nil =>
    cases qs with
    | nil => rfl
    | cons _ _ => simp at h
  | cons k ks ih =>
    cases qs with
    | nil => simp at h
    | cons q qs =>
      simp only [List.map_cons, List.cons.injEq] at h
      rw [hgt.hgtList, lvl_cons, ih qs h.2, h.1]

theorem depth_lt_maxDepth (G : CFG) (e : CNT × AList Sym (List (Ty × CFGState) × Unit)) (he : e ∈ G.rules) :
    e.1.2.1.2 < maxDepth G :=
  Nat.lt_succ_of_le (le_foldl_max _ 0 _ (.inl (List.mem_map.mpr ⟨e, he, rfl⟩)))

structure WF (G : CFG) : Prop where
  nodup : (AList.keys G.rules).Nodup
  startKey : AList.contains G.start G.rules = true
  startDepth : G.start.2.1.2 = 0
  startTy : G.start.1.returns = G.start.1
  inner : ∀ e ∈ G.rules, (AList.keys e.2).Nodup ∧ ∀ r ∈ e.2,
    (r.2.1 = [] → r.1.ty = e.1.1) ∧ ∀ a ∈ r.2.1, a.2.2 = e.1.2.1.2 + 1 ∧ AList.contains (toNT a) G.rules = true

theorem wf_of (G : CFG) (h : wfCFG G = true) : WF G := by
  unfold wfCFG at h
  simp only [Bool.and_eq_true, decide_eq_true_eq, beq_iff_eq, List.all_eq_true] at h
  obtain ⟨⟨⟨⟨h1, h2⟩, h3⟩, h4⟩, h5⟩ := h
  refine ⟨h1, h2, h3, h4, ?_⟩
  intro e he
  obtain ⟨i1, i2⟩ := h5 e he
  refine ⟨i1, fun r hr => ?_⟩
  obtain ⟨j1, j2⟩ := i2 r hr
  refine ⟨?_, fun a ha => j2 a ha⟩
  intro hnil
  simpa [hnil] using j1

theorem sig_of (G : CFG) (h : sigFunctional G = true) :
    ∀ e ∈ G.rules, ∀ r ∈ e.2, ∀ e' ∈ G.rules, ∀ r' ∈ e'.2, r.1 = r'.1 →
      r.2.1.map (·.1) = r'.2.1.map (·.1) → e.1.1 = e'.1.1 := by
  unfold sigFunctional at h
  simp only [List.all_eq_true] at h
  intro e he r hr e' he' r' hr' h1 h2
  have := h e he r hr e' he' r' hr'
  simpa [h1, h2] using this

theorem mem_allWrites (G : CFG) (w : WF G) (P : Sym) (qs : List BaseSt) (v : BaseSt) :
    ((P, qs), v) ∈ allWrites G ↔
      ∃ e ∈ G.rules, ∃ r ∈ e.2, r.1 = P ∧ qs.map (·.1) = r.2.1.map (·.1) ∧ (∀ q ∈ qs, q.2 < maxDepth G) ∧
        lvl qs < maxDepth G ∧ v = (e.1.1, lvl qs) := by
  unfold allWrites
  simp only [List.mem_flatMap]
  refine exists_congr fun e => and_congr_right fun he => exists_congr fun r => and_congr_right fun hr => ?_
  have hleaf := ((w.inner e he).2 r hr).1
  unfold writes
  by_cases hl : r.2.1 = []
  · -- a constant: one write, at level 0
    simp only [hl, List.length_nil, if_true, List.mem_singleton, Prod.mk.injEq, List.map_nil, List.map_eq_nil_iff]
    constructor
    · rintro ⟨⟨e1, e2⟩, e3⟩
      subst e2
      exact ⟨e1.symm, rfl, by simp, Nat.succ_pos _, by rw [e3, hleaf hl]; rfl⟩
    · rintro ⟨e1, e2, -, -, e5⟩
      subst e2
      exact ⟨⟨e1.symm, rfl⟩, by rw [e5, ← hleaf hl]; rfl⟩
  · have hlen : ¬ r.2.1.length = 0 := fun h => hl (List.length_eq_zero_iff.mp h)
    have hne : ∀ xs : List BaseSt, xs.map (·.1) = r.2.1.map (·.1) → xs ≠ [] := by
      rintro xs h rfl
      exact hl (List.map_eq_nil_iff.mp h.symm)
    simp only [hlen, if_false, List.mem_filterMap, mem_grid]
    constructor
    · rintro ⟨nargs, ⟨g1, g2⟩, hv⟩
      split at hv
      · cases hv
      · simp only [Option.some.injEq, Prod.mk.injEq] at hv
        obtain ⟨⟨e1, e2⟩, e3⟩ := hv
        subst e2
        rw [lvl_eq (hne _ g1)]
        exact ⟨e1, g1, g2, by omega, e3.symm⟩
    · rintro ⟨e1, h2, h3, h4, h5⟩
      rw [lvl_eq (hne _ h2)] at h4 h5
      exact ⟨qs, ⟨h2, h3⟩, by rw [if_neg (by omega), e1, h5]⟩

/-- The second conjunct — height of `t` plus depth of `nt` stays below `maxDepth G` — is the invariant
    that carries the first: `__cfg2dfta__` writes a rule only for target heights below `maxDepth G`
    (`mem_allWrites`), and a node at depth `d` gets its bound from its children at depth `d + 1`. -/
theorem gen_run (G : CFG) (hwf : WF G) (hsig : sigFunctional G = true) :
    (∀ (t : Prog) (nt : CNT),
      gen G t nt = true → DFTA.run (cfg2dftaRaw G) t = some (nt.1, hgt t) ∧ hgt t + nt.2.1.2 < maxDepth G) ∧
    ∀ (ks : List Prog) (args : List (Ty × CFGState)) (d : Nat), genList G ks args = true →
      (∀ a ∈ args, AList.contains (toNT a) G.rules = true ∧ a.2.2 = d + 1) →
      ∃ qs, runList (cfg2dftaRaw G) ks = some qs ∧ qs.map (·.1) = args.map (·.1) ∧ qs.map (·.2) = ks.map hgt ∧
        ∀ q ∈ qs, q.2 + (d + 1) < maxDepth G := by
  apply Tree.ind₂
  case node =>
    intro f ks ihks nt h
    obtain ⟨rs, args, he, hr, hg⟩ := gen_node_mem h
    have hargs := ((hwf.inner _ he).2 _ hr).2
    have hd : nt.2.1.2 < maxDepth G := depth_lt_maxDepth G _ he
    obtain ⟨qs, hq1, hq2, hq3, hq4⟩ := ihks args nt.2.1.2 hg
      (fun a ha => ⟨(hargs a ha).2, (hargs a ha).1⟩)
    have hlvl : lvl qs + nt.2.1.2 < maxDepth G := by
      have := lvl_le (qs := qs) (b := maxDepth G - nt.2.1.2 - 1) fun q hq => by have := hq4 q hq; omega
      omega
    rw [run_node, hq1, Option.bind_some, hgt, hgtList_eq ks qs hq3]
    refine ⟨raw_read_of_unique G f qs _ ?_ ?_, hlvl⟩
    · exact (mem_allWrites G hwf f qs _).mpr
        ⟨_, he, _, hr, rfl, hq2, fun q hq => by have := hq4 q hq; omega, by omega, rfl⟩
    · -- another rule with the same symbol and argument types is at the same type (`sigFunctional`)
      intro v' hv'
      obtain ⟨e', he', r', hr', e1, g2, -, -, g5⟩ := (mem_allWrites G hwf f qs v').mp hv'
      rw [g5, ← sig_of G hsig _ he _ hr e' he' r' hr' e1.symm (by rw [← hq2, g2])]
  case nil =>
    intro args _ h _
    cases args with
    | nil => exact ⟨[], by simp, rfl, rfl, by simp⟩
    | cons _ _ => simp [genList] at h
  case cons =>
    intro k ks ihk ihks args d h ha
    cases args with
    | nil => simp [genList] at h
    | cons a as =>
      obtain ⟨t, s⟩ := a
      simp only [genList, Bool.and_eq_true] at h
      obtain ⟨h1, h2⟩ := h
      obtain ⟨r1, r2⟩ := ihk (t, (s, ())) h1
      obtain ⟨qs, q1, q2, q3, q4⟩ := ihks as d h2 (fun x hx => ha x (List.mem_cons_of_mem _ hx))
      refine ⟨(t, hgt k) :: qs, ?_, by simp [q2], by simp [q3], ?_⟩
      · rw [runList_cons, r1, q1]; rfl
      · intro q hq
        rcases List.mem_cons.mp hq with e | e
        · subst e
          have := (ha (t, s) List.mem_cons_self).2
          simp only at this r2 ⊢
          omega
        · exact q4 q e

theorem genList_run (G : CFG) (hwf : WF G) (hsig : sigFunctional G = true) : ∀ (ks : List Prog)
    (args : List (Ty × CFGState)) (d : Nat), genList G ks args = true →
    (∀ a ∈ args, AList.contains (toNT a) G.rules = true ∧ a.2.2 = d + 1) →
    ∃ qs, runList (cfg2dftaRaw G) ks = some qs ∧ qs.map (·.1) = args.map (·.1) ∧ qs.map (·.2) = ks.map hgt ∧
      ∀ q ∈ qs, q.2 + (d + 1) < maxDepth G :=
  (gen_run G hwf hsig).2

/-- C05, "never removes" -/
theorem cfg2dfta_complete (G : CFG) (hwf : wfCFG G = true) (hsig : sigFunctional G = true) (t : Prog)
    (ht : gen G t G.start = true) : (cfg2dfta G).accepts t = true := by
  have w := wf_of G hwf
  rw [cfg2dfta_accepts]
  obtain ⟨h1, h2⟩ := (gen_run G w hsig).1 t G.start ht
  refine (accepts_iff _ t).mpr ⟨_, h1, ?_⟩
  show (G.start.1, hgt t) ∈ (List.range (maxDepth G)).map (fun x => (G.start.1.returns, x))
  rw [w.startTy]
  exact List.mem_map.mpr ⟨hgt t, List.mem_range.mpr (by omega), rfl⟩

theorem exact_of (G : CFG) (h : cfg2dftaExact G = true) :
    ∀ r ∈ (cfg2dfta G).rules, ∀ e ∈ G.rules, e.1.1 = r.2.1 → e.1.2.1.2 + r.2.2 < maxDepth G →
      ∃ args u, AList.lookup r.1.1 e.2 = some (args, u) ∧ args.map (·.1) = r.1.2.map (·.1) := by
  unfold cfg2dftaExact at h
  simp only [List.all_eq_true] at h
  intro r hr e he h1 h2
  have := h r hr e he
  simp only [h1, h2, and_self, if_true] at this
  cases hl : AList.lookup r.1.1 e.2 with
  | none => simp [hl] at this
  | some v =>
    obtain ⟨args, u⟩ := v
    simp only [hl, beq_iff_eq] at this
    exact ⟨args, u, rfl, this⟩

theorem run_gen (G : CFG) (w : WF G) (hex : cfg2dftaExact G = true) :
    (∀ (t : Prog) (e : CNT × AList Sym (List (Ty × CFGState) × Unit))
      (h : Nat), e ∈ G.rules → DFTA.run (cfg2dfta G) t = some (e.1.1, h) → e.1.2.1.2 + h < maxDepth G →
      gen G t e.1 = true) ∧
    ∀ (ks : List Prog) (args : List (Ty × CFGState))
      (qs : List BaseSt) (d m : Nat), runList (cfg2dfta G) ks = some qs → args.map (·.1) = qs.map (·.1) →
      (∀ a ∈ args, a.2.2 = d + 1 ∧ AList.contains (toNT a) G.rules = true) →
      (∀ q ∈ qs, d + 1 + q.2 < m) → m ≤ maxDepth G → genList G ks args = true := by
  apply Tree.ind₂
  case node =>
    intro f ks ihks e h he hr hlt
    rw [run_node] at hr
    obtain ⟨qs, hqs, hr⟩ := Option.bind_eq_some_iff.mp hr
    have hD := (read_eq_some_iff _ (cfg2dfta_det G) _ _ _).mp hr
    obtain ⟨args, u, hl, hty⟩ := exact_of G hex _ hD e he rfl hlt
    simp only at hl hty
    -- the rule of the automaton was written for heights: h = maxh qs + 1 (or a leaf)
    have hraw := raw_read_some G f qs (e.1.1, h)
      ((read_eq_some_iff _ (cfg2dftaRaw_det G) _ _ _).mpr (reduce_rules_sub _ _ hD))
    have hh : ∀ q ∈ qs, q.2 < h := by
      obtain ⟨_, _, _, _, _, _, _, _, g5⟩ := (mem_allWrites G w f qs _).mp hraw
      rw [(Prod.mk.inj g5).2]
      exact fun q hq => lt_lvl hq
    rw [gen]
    have hrule : G.rule? e.1 f = some (args, u) :=
      (TT.rule?_of_lookup (AList.lookup_of_mem_nodup w.nodup (show (e.1, e.2) ∈ G.rules from he)) f).trans hl
    rw [hrule]
    simp only
    obtain ⟨_, hin⟩ := w.inner e he
    have hr' := AList.lookup_some_mem hl
    obtain ⟨_, hargs⟩ := hin _ hr'
    exact ihks args qs e.1.2.1.2 (e.1.2.1.2 + h + 1) hqs hty (fun a ha => hargs a ha)
      (fun q hq => by have := hh q hq; omega) (by omega)
  case nil =>
    intro args qs _ _ hq hty _ _ _
    obtain rfl := Option.some.inj ((runList_nil _).symm.trans hq)
    cases args with
    | nil => simp [genList]
    | cons _ _ => simp at hty
  case cons =>
    intro k ks ihk ihks args qs d m hq hty ha hb hm
    cases (runList_eq_some_iff _ _ _).mp hq with
    | @cons _ q _ qs' h1 hF =>
      cases args with
      | nil => simp at hty
      | cons a as =>
        have h2 := (runList_eq_some_iff _ _ _).mpr hF
        simp only [List.map_cons, List.cons.injEq] at hty
        obtain ⟨t, s⟩ := a
        obtain ⟨hd1, hk⟩ := ha (t, s) List.mem_cons_self
        obtain ⟨rs, hrs⟩ := AList.mem_of_contains hk
        simp only [genList, Bool.and_eq_true]
        refine ⟨?_, ihks as qs' d m h2 hty.2 (fun x hx => ha x (List.mem_cons_of_mem _ hx))
          (fun x hx => hb x (List.mem_cons_of_mem _ hx)) hm⟩
        have hq0 := hb q List.mem_cons_self
        have := ihk (toNT (t, s), rs) q.2 hrs
          (by rw [h1]; simp only [toNT]; have := hty.1; simp only at this; rw [this]) (by simp only [toNT] at hd1 ⊢; omega)
        exact this

theorem runList_gen (G : CFG) (w : WF G) (hex : cfg2dftaExact G = true) : ∀ (ks : List Prog) (args : List (Ty × CFGState))
    (qs : List BaseSt) (d m : Nat), runList (cfg2dfta G) ks = some qs → args.map (·.1) = qs.map (·.1) →
    (∀ a ∈ args, a.2.2 = d + 1 ∧ AList.contains (toNT a) G.rules = true) →
    (∀ q ∈ qs, d + 1 + q.2 < m) → m ≤ maxDepth G → genList G ks args = true :=
  (run_gen G w hex).2

/-- C05, "never adds", under Hyp_C05 -/
theorem cfg2dfta_exact (G : CFG) (hwf : wfCFG G = true) (hsig : sigFunctional G = true)
    (hex : cfg2dftaExact G = true) (t : Prog) : (cfg2dfta G).accepts t = gen G t G.start := by
  have w := wf_of G hwf
  cases hg : gen G t G.start with
  | true => exact cfg2dfta_complete G hwf hsig t hg
  | false =>
    cases ha : (cfg2dfta G).accepts t with
    | false => rfl
    | true =>
      obtain ⟨q, hq, hf⟩ := (accepts_iff _ t).mp ha
      have hf' := reduce_finals_sub _ _ hf
      obtain ⟨x, hx, e⟩ := List.mem_map.mp hf'
      obtain ⟨rs, hrs⟩ := AList.mem_of_contains w.startKey
      have := (run_gen G w hex).1 t (G.start, rs) x hrs (by rw [hq, ← e, w.startTy])
        (by simp only [w.startDepth]; have := List.mem_range.mp hx; omega)
      rw [hg] at this; cases this

end PS.C05
