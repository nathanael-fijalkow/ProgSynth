/- The enumeration `lang` / counter `count` of PS/Model/Grammar.lean against the
   membership specification `gen`: a grammar with trivial state is a production function
   (`prodsOf`), with one derivation or none per term when its rows have distinct symbols. -/
import PS.Model.Prob
import PS.Proofs.Prods
import PS.Proofs.Tree
namespace PS.G
open PS

variable {S : Type} [DecidableEq S]

/-- a Python dict has no repeated key: every row of the rule table has distinct symbols -/
def RowsNodup (G : TT S Unit) : Prop :=
  ∀ nt rs, AList.lookup nt G.rules = some rs → (AList.keys rs).Nodup

def prodsOf (G : TT S Unit) : Prods (NT S Unit) :=
  fun nt => ((AList.lookup nt G.rules).getD []).map (fun r => (r.1, r.2.1.map argNT))

theorem lang_eq_prods (G : TT S Unit) (k : Nat) (nt : NT S Unit) : lang G k nt = (prodsOf G).lang k nt := by
  induction k generalizing nt with
  | zero => rfl
  | succ k ih =>
    rw [lang, Prods.lang, prodsOf]
    cases AList.lookup nt G.rules with
    | none => rfl
    | some rs =>
      simp only [Option.getD_some, List.flatMap_map, List.map_map, Function.comp_def, argNT, ih]

theorem count_eq_prods (G : TT S Unit) (k : Nat) (nt : NT S Unit) : count G k nt = (prodsOf G).count k nt := by
  induction k generalizing nt with
  | zero => rfl
  | succ k ih =>
    rw [count, Prods.count, prodsOf]
    cases AList.lookup nt G.rules with
    | none => rfl
    | some rs =>
      simp only [Option.getD_some, List.map_map, Function.comp_def, argNT, ih, List.prod_eq_foldl]

theorem count_eq_length (G : TT S Unit) (k : Nat) (nt : NT S Unit) :
    count G k nt = (lang G k nt).length := by
  rw [count_eq_prods, Prods.count_eq_length, lang_eq_prods]

theorem bounded_succ {G : TT S Unit} {k : Nat} {nt : NT S Unit} :
    bounded G (k + 1) nt = true ↔
      ∃ rs, AList.lookup nt G.rules = some rs ∧ ∀ r ∈ rs, ∀ a ∈ r.2.1, bounded G k (argNT a) = true := by
  rw [bounded]
  cases AList.lookup nt G.rules with
  | none => exact ⟨fun h => (nomatch h), fun ⟨_, h, _⟩ => (nomatch h)⟩
  | some rs =>
    simp only [List.all_eq_true]
    exact ⟨fun h => ⟨rs, rfl, h⟩, fun ⟨_, e, h⟩ => Option.some.inj e ▸ h⟩

/-- (only this direction: `bounded` is false of a non-terminal without a row, `Prods.bounded` true) -/
theorem bounded_prods (G : TT S Unit) (k : Nat) (nt : NT S Unit) (h : bounded G k nt = true) :
    (prodsOf G).bounded k nt = true := by
  induction k generalizing nt with
  | zero => cases h
  | succ k ih =>
    obtain ⟨rs, hl, h⟩ := bounded_succ.mp h
    rw [Prods.bounded_succ, prodsOf, hl]
    intro x hx a ha
    obtain ⟨r, hr, rfl⟩ := List.mem_map.mp hx
    obtain ⟨a', ha', rfl⟩ := List.mem_map.mp ha
    exact ih _ (h r hr a' ha')

theorem nders_prods (G : TT S Unit) (h : RowsNodup G) :
    (∀ (t : Prog) (nt : NT S Unit), (prodsOf G).nders t nt = (gen G t nt).toNat) ∧
    ∀ (ks : List Prog) (args : List (Ty × S)),
      (prodsOf G).ndersList ks (args.map argNT) = (genList G ks args).toNat := by
  refine Tree.ind₂ (fun f ks ih nt => ?_) (fun args => ?_) (fun t ks ih1 ih2 args => ?_)
  · rw [Prods.nders, gen, prodsOf, TT.rule?]
    cases hl : AList.lookup nt G.rules with
    | none => rfl
    | some rs =>
      simp only [Option.getD_some, List.map_map, Function.comp_def]
      rw [sum_lookup rs (h nt rs hl) f (fun v => (prodsOf G).ndersList ks (v.1.map argNT))]
      cases AList.lookup f rs with
      | none => rfl
      | some v => exact ih v.1
  · cases args <;> rfl
  · cases args with
    | nil => rfl
    | cons a as =>
      rw [List.map_cons, Prods.ndersList, genList, ih1, ih2 as, argNT]
      cases gen G t (a.1, (a.2, ())) <;> cases genList G ks as <;> rfl

theorem mem_lang_iff (G : TT S Unit) (h : RowsNodup G) (k : Nat) (t : Prog) (nt : NT S Unit) :
    t ∈ lang G k nt ↔ (gen G t nt = true ∧ Tree.depth t ≤ k) := by
  rw [lang_eq_prods, Prods.mem_lang_iff, (nders_prods G h).1]
  cases gen G t nt <;> simp

theorem mem_product_lang (G : TT S Unit) (h : RowsNodup G) (k : Nat) (kids : List Prog) (args : List (Ty × S)) :
    kids ∈ product (args.map (fun a => lang G k (a.1, (a.2, ())))) ↔
      (genList G kids args = true ∧ Tree.depthList kids ≤ k) := by
  have : args.map (fun a => lang G k (a.1, (a.2, ()))) = (args.map argNT).map (fun a => (prodsOf G).lang k a) := by
    rw [List.map_map]; exact List.map_congr_left fun a _ => lang_eq_prods G k _
  rw [this, Prods.mem_product_lang, (nders_prods G h).2]
  cases genList G kids args <;> simp

theorem gen_of_mem_lang (G : TT S Unit) (h : RowsNodup G) (k : Nat) (t : Prog) (nt : NT S Unit)
    (hm : t ∈ lang G k nt) : gen G t nt = true :=
  ((mem_lang_iff G h k t nt).mp hm).1

theorem lang_nodup (G : TT S Unit) (h : RowsNodup G) (k : Nat) (nt : NT S Unit) :
    (lang G k nt).Nodup := by
  rw [lang_eq_prods]
  exact Prods.lang_nodup _ (fun t n => (nders_prods G h).1 t n ▸ Bool.toNat_le _) k nt

end PS.G
