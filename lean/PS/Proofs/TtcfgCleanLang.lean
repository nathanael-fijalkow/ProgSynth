/-
  C13: `TTCFG.clean()` preserves the language (ttcfg.py:209-266), for every table none of
  whose non-terminals has the end-marker type `UnknownType` (what `derive` returns when a
  derivation is over), every fuel and every program.

  The argument.  `Dead nt` = no program is derivable from `nt` in the original table.
  * pass 1 (`reachLoop`) marks every non-terminal of every configuration (non-terminal, pending
    stack) reachable by the machine of partial derivations, with all its symbols;
  * every pass of 2 (`passLoop`) keeps the invariant `PInv`: a marked non-terminal that was
    deleted is dead, a symbol that was removed from a row has a dead first argument - the pass
    removes a symbol only when the non-terminal of its first argument was deleted, and deletes a
    non-terminal only when its row is empty;
  * hence a complete derivation of the original table never uses anything removed.
-/
import PS.Proofs.TtcfgClean
import PS.Proofs.TtcfgLoop
namespace PS.T
open PS PS.G

section AL
variable {κ ν : Type} [DecidableEq κ]

theorem lookup_erase_ne {k k' : κ} (d : AList κ ν) (h : k' ≠ k) :
    AList.lookup k' (AList.erase k d) = AList.lookup k' d := by
  fun_induction AList.erase k d with
  | case1 => rfl
  | case2 v2 r => simp [AList.lookup, h.symm]
  | case3 k2 v2 r h2 ih => simp [AList.lookup, ih]

theorem keys_erase_sublist (k : κ) (d : AList κ ν) : (AList.keys (AList.erase k d)).Sublist (AList.keys d) := by
  fun_induction AList.erase k d with
  | case1 => exact List.Sublist.refl _
  | case2 v2 r => exact List.sublist_cons_self _ _
  | case3 k2 v2 r h2 ih => exact ih.cons_cons _

theorem lookup_erase_self (k : κ) (d : AList κ ν) (hnd : (AList.keys d).Nodup) :
    AList.lookup k (AList.erase k d) = none := by
  fun_induction AList.erase k d with
  | case1 => rfl
  | case2 v2 r => exact AList.lookup_eq_none_iff.mpr (List.nodup_cons.mp hnd).1
  | case3 k2 v2 r h2 ih => simpa [AList.lookup, h2] using ih (List.nodup_cons.mp hnd).2

theorem lookup_erase_some {k k' : κ} {d : AList κ ν} {l : ν} (hnd : (AList.keys d).Nodup)
    (hl : AList.lookup k' (AList.erase k d) = some l) : k' ≠ k ∧ AList.lookup k' d = some l := by
  by_cases he : k' = k
  · subst he; rw [lookup_erase_self _ _ hnd] at hl; cases hl
  · exact ⟨he, by rwa [lookup_erase_ne _ he] at hl⟩

end AL

variable {S T : Type} [DecidableEq S] [DecidableEq T]

/-- no non-terminal of the table has the end-marker type (decidable; evaluated by the driver) -/
def noUnknownKey (G : TT S T) : Bool := G.rules.all (fun e => decide (e.1.1 ≠ Ty.unknown))

theorem noUnknown_inRules (G : TT S T) (h : noUnknownKey G = true) (nt : NT S T) (hin : inRules G nt = true) :
    nt.1 ≠ Ty.unknown := by
  unfold inRules at hin
  obtain ⟨row, hrow⟩ := AList.contains_iff_lookup.mp hin
  unfold noUnknownKey at h
  rw [List.all_eq_true] at h
  simpa using h _ (AList.lookup_some_mem hrow)

/-- a configuration of `clean()`: non-terminal and pending stack -/
abbrev CConfig (S T : Type) := NT S T × List (Ty × S)

/-- `new_info, new_S = self.derive(info, rule, P)` followed when `new_S in self.rules` -/
inductive CStep (G : TT S T) : CConfig S T → CConfig S T → Prop where
  | mk (rule : NT S T) (info : List (Ty × S)) (P : Sym) (args : List (Ty × S)) (st : T) :
      G.rule? rule P = some (args, st) → inRules G (deriveWith info rule args st).2 = true →
      CStep G (rule, info) ((deriveWith info rule args st).2, (deriveWith info rule args st).1)

inductive CSteps (G : TT S T) : CConfig S T → CConfig S T → Prop where
  | refl (c : CConfig S T) : CSteps G c c
  | cons (c d e : CConfig S T) : CStep G c d → CSteps G d e → CSteps G c e

theorem CSteps.trans {G : TT S T} {c d e : CConfig S T} (h1 : CSteps G c d) (h2 : CSteps G d e) : CSteps G c e := by
  induction h1 with
  | refl _ => exact h2
  | cons c d' _ hs _ ih => exact CSteps.cons c d' e hs (ih h2)

theorem CSteps.snoc {G : TT S T} {c d e : CConfig S T} (h1 : CSteps G c d) (h2 : CStep G d e) : CSteps G c e :=
  CSteps.trans h1 (CSteps.cons d e e h2 (CSteps.refl e))

def Reach0 (G : TT S T) (c : CConfig S T) : Prop := CSteps G (G.start, []) c

/-- `for P in self.rules[rule]: new_rules[rule].add(P)` -/
def addAll (row : Row S T) (acc : List Sym) : List Sym :=
  row.foldl (fun acc r => if acc.contains r.1 then acc else acc ++ [r.1]) acc

omit [DecidableEq S] [DecidableEq T] in
theorem addAll_eq (row : Row S T) (acc : List Sym) : addAll row acc = (row.map (·.1)).foldl addNew acc := by
  rw [addAll, List.foldl_map]
  congr; funext acc r
  simp [addNew]

omit [DecidableEq S] [DecidableEq T] in
theorem addAll_nodup (row : Row S T) {acc : List Sym} (h : acc.Nodup) : (addAll row acc).Nodup :=
  addAll_eq row acc ▸ foldl_addNew_nodup _ _ h

omit [DecidableEq S] [DecidableEq T] in
theorem mem_addAll {row : Row S T} {acc : List Sym} {x : Sym} : x ∈ addAll row acc ↔ x ∈ acc ∨ ∃ r ∈ row, r.1 = x := by
  rw [addAll_eq, mem_foldl_addNew, List.mem_map]

/-- the marks are sets, and a marked non-terminal carries exactly the symbols of its row -/
structure MarksOK (G : TT S T) (nr : Marks S T) : Prop where
  keys : (AList.keys nr).Nodup
  vals : ∀ rule l, AList.lookup rule nr = some l → l.Nodup
  full : ∀ rule l, AList.lookup rule nr = some l → ∀ P val, G.rule? rule P = some val → P ∈ l
  sub : ∀ rule, AList.contains rule nr = true → inRules G rule = true

theorem marksOK_nil (G : TT S T) : MarksOK G [] :=
  ⟨List.nodup_nil, fun _ _ h => (by cases h), fun _ _ h => (by cases h), fun _ h => (by cases h)⟩

/-- every mark is a symbol of the row -/
def MarksSub (G : TT S T) (nr : Marks S T) : Prop :=
  ∀ rule l, AList.lookup rule nr = some l → ∃ row, AList.lookup rule G.rules = some row ∧ ∀ P ∈ l, ∃ r ∈ row, r.1 = P

/-- `todo.append((new_S, new_info))` for the rules whose next non-terminal is in the table -/
def reachPushes (G : TT S T) (c : CConfig S T) (row : Row S T) : List (CConfig S T) :=
  row.filterMap (fun r =>
    let d := deriveWith c.2 c.1 r.2.1 r.2.2
    if inRules G d.2 then some (d.2, d.1) else none)

theorem mem_reachPushes {G : TT S T} {c c' : CConfig S T} {row : Row S T} :
    c' ∈ reachPushes G c row ↔ ∃ r ∈ row, inRules G (deriveWith c.2 c.1 r.2.1 r.2.2).2 = true ∧
      c' = ((deriveWith c.2 c.1 r.2.1 r.2.2).2, (deriveWith c.2 c.1 r.2.1 r.2.2).1) := by
  unfold reachPushes
  rw [List.mem_filterMap]
  constructor
  · rintro ⟨r, hr, e⟩
    by_cases hi : inRules G (deriveWith c.2 c.1 r.2.1 r.2.2).2 = true
    · simp only [hi, if_true, Option.some.injEq] at e
      exact ⟨r, hr, hi, e.symm⟩
    · simp [hi] at e
  · rintro ⟨r, hr, hi, rfl⟩
    exact ⟨r, hr, by simp [hi]⟩

def reachBody (G : TT S T) (c : CConfig S T) (nr : Marks S T) : Res (List (CConfig S T) × Marks S T) :=
  match AList.lookup c.1 G.rules with
  | none => .keyError
  | some row => .ok (reachPushes G c row, AList.insert c.1 (addAll row ((AList.lookup c.1 nr).getD [])) nr)

theorem reachLoop_eq (G : TT S T) (fuel : Nat) (todo : List (CConfig S T)) (nr : Marks S T) :
    reachLoop G fuel todo nr = wloop (reachBody G) fuel todo nr := by
  fun_induction reachLoop G fuel todo nr with
  | case1 => rw [wloop_nil]
  | case2 => rfl
  | case3 fuel rule info todo nr hrow => rw [wloop_cons, reachBody, hrow]
  | case4 fuel rule info todo nr row hrow old set pushes ih => rw [wloop_cons, reachBody, hrow]; exact ih

/-- the two halves are preserved independently of each other; they share a statement so that `reachLoop` is
    unfolded by one `fun_induction` -/
theorem reachLoop_marks (G : TT S T) (fuel : Nat) (todo : List (CConfig S T)) (nr nr' : Marks S T)
    (h : reachLoop G fuel todo nr = .ok nr') :
    (MarksOK G nr → MarksOK G nr' ∧ (∀ k, AList.contains k nr = true → AList.contains k nr' = true) ∧
      ∀ c ∈ todo, ∀ c', CSteps G c c' → AList.contains c'.1 nr' = true) ∧
    (MarksSub G nr → MarksSub G nr') := by
  fun_induction reachLoop G fuel todo nr with
  | case1 => cases h; exact ⟨fun hm => ⟨hm, fun _ hk => hk, nofun⟩, id⟩
  | case2 | case3 => cases h
  | case4 fuel rule info todo nr row hrow old set pushes ih =>
    have ih := ih h
    refine ⟨fun hm => ?_, fun hs => ih.2 (forall_lookup_insert hs ⟨row, hrow, fun P hP => ?_⟩)⟩
    · have hold : ((AList.lookup rule nr).getD []).Nodup := by
        cases hl : AList.lookup rule nr with
        | none => simp
        | some l => simpa using hm.vals rule l hl
      have hm1 : MarksOK G (AList.insert rule (addAll row ((AList.lookup rule nr).getD [])) nr) := by
        refine ⟨AList.keys_insert_nodup _ _ hm.keys, forall_lookup_insert hm.vals (addAll_nodup row hold), forall_lookup_insert hm.full ?_,
          fun rule' hc => ?_⟩
        · intro P val hr
          obtain ⟨row', h1, h2⟩ := rule_mem_row G rule P val hr
          rw [hrow] at h1
          cases h1
          exact mem_addAll.mpr (Or.inr ⟨_, h2, rfl⟩)
        · rw [contains_insert] at hc
          by_cases he : rule' = rule
          · rw [he]; exact AList.contains_of_lookup hrow
          · simp only [he, decide_false, Bool.false_or] at hc; exact hm.sub rule' hc
      obtain ⟨i1, i2, i3⟩ := ih.1 hm1
      have hself : AList.contains rule nr' = true := i2 _ (by rw [contains_insert]; simp)
      refine ⟨i1, fun k hk => i2 k (by rw [contains_insert]; simp [hk]), ?_⟩
      intro c hc c' hs
      rcases List.mem_cons.mp hc with rfl | hmem
      · cases hs with
        | refl _ => exact hself
        | cons _ d _ hstep hrest =>
          cases hstep with
          | mk _ _ P args st hr hin =>
            obtain ⟨row', h1, h2⟩ := rule_mem_row G rule P (args, st) hr
            rw [hrow] at h1
            cases h1
            exact i3 _ (List.mem_append_left _ (List.mem_reverse.mpr
              ((mem_reachPushes (c := (rule, info))).mpr ⟨(P, (args, st)), h2, hin, rfl⟩))) c' hrest
      · exact i3 c (List.mem_append_right _ hmem) c' hs
    · rcases mem_addAll.mp hP with h1 | h1
      · cases hl0 : AList.lookup rule nr with
        | none => simp [old, hl0] at h1
        | some l0 =>
          simp only [old, hl0, Option.getD_some] at h1
          obtain ⟨row', hr', hs'⟩ := hs rule l0 hl0
          rw [hrow] at hr'
          cases hr'
          exact hs' P h1
      · exact h1

theorem reachLoop_spec (G : TT S T) :
    ∀ (fuel : Nat) (todo : List (CConfig S T)) (nr nr' : Marks S T),
      reachLoop G fuel todo nr = .ok nr' → MarksOK G nr →
      MarksOK G nr' ∧ (∀ k, AList.contains k nr = true → AList.contains k nr' = true) ∧
      ∀ c ∈ todo, ∀ c', CSteps G c c' → AList.contains c'.1 nr' = true :=
  fun fuel todo nr nr' h => (reachLoop_marks G fuel todo nr nr' h).1

/-- `¬ Live G.rule? nt` (`Live`: the side condition of `run_within`, TtcfgRun.lean) written out; no lemma
    states the equivalence, `clean_complete_run` opens both by hand -/
def Dead (G : TT S T) (nt : NT S T) : Prop := ∀ t w, run G.rule? t (nt.1, nt.2.1) nt.2.2 ≠ some w

theorem dead_of_first_dead (G : TT S T) (rule : NT S T)
    (h : ∀ P args st, G.rule? rule P = some (args, st) → ∃ a as, args = a :: as ∧ Dead G (a.1, (a.2, st))) :
    Dead G rule := by
  intro ⟨f, kids⟩ w hr
  obtain ⟨args, st, h1, hr⟩ := (run_eq_some _).mp hr
  obtain ⟨a, as, rfl, hd⟩ := h f args st h1
  obtain ⟨k, _, v1, _, h2, _⟩ := (runList_args_cons _).mp hr
  exact hd k v1 h2

/-- the invariant of the passes: a reachable non-terminal that is not marked is dead (`reach`), a
    symbol missing from the marks of its row has a dead first argument (`kept`) -/
structure PInv (G : TT S T) (nr : Marks S T) : Prop where
  keys : (AList.keys nr).Nodup
  vals : ∀ rule l, AList.lookup rule nr = some l → l.Nodup
  reach : ∀ c, Reach0 G c → AList.contains c.1 nr = true ∨ Dead G c.1
  kept : ∀ rule l, AList.lookup rule nr = some l → ∀ P args st, G.rule? rule P = some (args, st) →
      P ∈ l ∨ ∃ a as, args = a :: as ∧ Dead G (a.1, (a.2, st))
  sub : ∀ rule, AList.contains rule nr = true → inRules G rule = true

theorem pinv_erase (G : TT S T) (nr : Marks S T) (rule : NT S T) (h : PInv G nr) (hd : Dead G rule) :
    PInv G (AList.erase rule nr) := by
  refine ⟨(keys_erase_sublist rule nr).nodup h.keys,
    fun rule' l hl => h.vals rule' l (lookup_erase_some h.keys hl).2, ?_,
    fun rule' l hl => h.kept rule' l (lookup_erase_some h.keys hl).2, ?_⟩
  · intro c hc
    by_cases he : c.1 = rule
    · right; rw [he]; exact hd
    · rcases h.reach c hc with h1 | h1
      · left; unfold AList.contains at h1 ⊢; rw [lookup_erase_ne _ he]; exact h1
      · exact Or.inr h1
  · intro rule' hc
    obtain ⟨l, hl⟩ := AList.contains_iff_lookup.mp hc
    exact h.sub rule' (AList.contains_of_lookup (lookup_erase_some h.keys hl).2)

omit [DecidableEq S] [DecidableEq T] in
theorem deriveWith_cons (info : List (Ty × S)) (start : NT S T) (a : Ty × S) (as : List (Ty × S)) (st : T) :
    deriveWith info start (a :: as) st = (as ++ info, (a.1, (a.2, st))) :=
  deriveWith_eq start st rfl

/-- `new_S in self.rules and len(new_info) >= len(info)`: the rule has an argument (the
    non-terminals of the table never have the end-marker type) -/
theorem derive_first (G : TT S T) (hU : noUnknownKey G = true) (info : List (Ty × S)) (rule : NT S T)
    (args : List (Ty × S)) (st : T) (hin : inRules G (deriveWith info rule args st).2 = true)
    (hlen : (deriveWith info rule args st).1.length ≥ info.length) : ∃ a as, args = a :: as := by
  cases args with
  | cons a as => exact ⟨a, as, rfl⟩
  | nil =>
    exfalso
    cases info with
    | nil => exact noUnknown_inRules G hU _ hin (by rw [deriveWith_of_nil rule st rfl])
    | cons b rest =>
      rw [deriveWith_eq rule st (List.nil_append _)] at hlen
      simp at hlen
      omega

/-- what one iteration of `for P in list(new_rules[rule])` does, by cases: nothing (no rule, or the
    next non-terminal is not in the table); `P` is removed because its next non-terminal was deleted
    and the stack did not shrink - which empties the row (`drop`) or not (`shrink`); the next
    configuration is pushed -/
inductive PassCase (G : TT S T) (rule : NT S T) (info : List (Ty × S))
    (st : Marks S T × Bool × List (CConfig S T)) (P : Sym) : Marks S T × Bool × List (CConfig S T) → Prop where
  | skip : (∀ args s, G.rule? rule P = some (args, s) → inRules G (deriveWith info rule args s).2 = false) →
      PassCase G rule info st P st
  | drop (args : List (Ty × S)) (s : T) : G.rule? rule P = some (args, s) →
      AList.contains (deriveWith info rule args s).2 st.1 = false → inRules G (deriveWith info rule args s).2 = true →
      (deriveWith info rule args s).1.length ≥ info.length →
      (∀ l, AList.lookup rule st.1 = some l → l.erase P = []) →
      PassCase G rule info st P (AList.erase rule st.1, true, st.2.2)
  | shrink (args : List (Ty × S)) (s : T) (l : List Sym) : G.rule? rule P = some (args, s) →
      AList.contains (deriveWith info rule args s).2 st.1 = false → inRules G (deriveWith info rule args s).2 = true →
      (deriveWith info rule args s).1.length ≥ info.length →
      AList.lookup rule st.1 = some l → l.erase P ≠ [] →
      PassCase G rule info st P (AList.insert rule (l.erase P) st.1, st.2.1, st.2.2)
  | push (args : List (Ty × S)) (s : T) : G.rule? rule P = some (args, s) →
      inRules G (deriveWith info rule args s).2 = true →
      (AList.contains (deriveWith info rule args s).2 st.1 = true ∨ (deriveWith info rule args s).1.length < info.length) →
      PassCase G rule info st P (st.1, st.2.1, st.2.2 ++ [((deriveWith info rule args s).2, (deriveWith info rule args s).1)])

theorem passStep_case (G : TT S T) (rule : NT S T) (info : List (Ty × S))
    (st : Marks S T × Bool × List (CConfig S T)) (P : Sym) : PassCase G rule info st P (passStep G rule info st P) := by
  fun_cases passStep G rule info st P with
  | case1 hrule => exact .skip (fun args s h => nomatch hrule.symm.trans h)
  | case2 args s hrule d hc set hemp =>
    simp only [Bool.and_eq_true, Bool.not_eq_true', decide_eq_true_eq] at hc
    exact .drop args s hrule hc.1.1 hc.1.2 hc.2 (fun l hl => by simpa [set, hl] using hemp)
  | case3 args s hrule d hc set hne =>
    simp only [Bool.and_eq_true, Bool.not_eq_true', decide_eq_true_eq] at hc
    cases hl : AList.lookup rule st.1 with
    | none => simp [set, hl] at hne
    | some l =>
      simp only [set, hl, Option.getD_some, List.isEmpty_iff] at hne ⊢
      exact .shrink args s l hrule hc.1.1 hc.1.2 hc.2 hl hne
  | case4 args s hrule d hc hin =>
    refine .push args s hrule hin ?_
    simp only [Bool.and_eq_true, Bool.not_eq_true', decide_eq_true_eq, hin, and_true, not_and, Nat.not_le] at hc
    cases hnc : AList.contains d.2 st.1
    · exact Or.inr (hc hnc)
    · exact Or.inl rfl
  | case5 args s hrule d hc hin =>
    exact .skip (fun args' s' h => by cases hrule.symm.trans h; simpa using hin)
theorem PassCase.pushes {G : TT S T} {rule : NT S T} {info : List (Ty × S)} {st st' : Marks S T × Bool × List (CConfig S T)}
    {P : Sym} (h : PassCase G rule info st P st') : ∃ ext, st'.2.2 = st.2.2 ++ ext ∧ ext.length ≤ 1 ∧
      ∀ d ∈ ext, CStep G (rule, info) d ∧ inRules G d.1 = true := by
  cases h with
  | push args s hrule hin _ =>
    exact ⟨[_], rfl, Nat.le_refl _, List.forall_mem_singleton.mpr ⟨CStep.mk rule info P args s hrule hin, hin⟩⟩
  | _ => exact ⟨[], (List.append_nil _).symm, Nat.zero_le _, nofun⟩

theorem passFold_pushes (G : TT S T) (rule : NT S T) (info : List (Ty × S)) :
    ∀ (L : List Sym) (st : Marks S T × Bool × List (CConfig S T)),
      ∃ ext, (L.foldl (passStep G rule info) st).2.2 = st.2.2 ++ ext ∧ ext.length ≤ L.length ∧
        ∀ d ∈ ext, CStep G (rule, info) d ∧ inRules G d.1 = true
  | [], st => ⟨[], (List.append_nil _).symm, Nat.le_refl _, nofun⟩
  | P :: L, st => by
    obtain ⟨e1, h1, l1, x1⟩ := (passStep_case G rule info st P).pushes
    obtain ⟨e2, h2, l2, x2⟩ := passFold_pushes G rule info L (passStep G rule info st P)
    exact ⟨e1 ++ e2, by rw [List.foldl_cons, h2, h1, List.append_assoc],
      by rw [List.length_append, List.length_cons, Nat.add_comm]; exact Nat.add_le_add l2 l1, fun d hd => (List.mem_append.mp hd).elim (x1 d) (x2 d)⟩

theorem passStep_inv (G : TT S T) (hU : noUnknownKey G = true) (rule : NT S T) (info : List (Ty × S))
    (hr : Reach0 G (rule, info)) (st st' : Marks S T × Bool × List (CConfig S T)) (P : Sym)
    (h : PassCase G rule info st P st') (hinv : PInv G st.1) : PInv G st'.1 := by
  have hnext : ∀ args s, G.rule? rule P = some (args, s) → inRules G (deriveWith info rule args s).2 = true →
      Reach0 G ((deriveWith info rule args s).2, (deriveWith info rule args s).1) :=
    fun args s hrule hin => CSteps.snoc hr (CStep.mk rule info P args s hrule hin)
  -- a rule removed has a dead first argument
  have hdead : ∀ args s, G.rule? rule P = some (args, s) →
      AList.contains (deriveWith info rule args s).2 st.1 = false → inRules G (deriveWith info rule args s).2 = true →
      (deriveWith info rule args s).1.length ≥ info.length → ∃ a as, args = a :: as ∧ Dead G (a.1, (a.2, s)) := by
    intro args s hrule hnc hin hlen
    obtain ⟨a, as, rfl⟩ := derive_first G hU info rule args s hin hlen
    refine ⟨a, as, rfl, ?_⟩
    have := hnext _ _ hrule hin
    rw [deriveWith_cons] at this hnc
    exact (hinv.reach _ this).resolve_left (by rw [hnc]; simp)
  have hkept' : ∀ args s l, G.rule? rule P = some (args, s) →
      AList.contains (deriveWith info rule args s).2 st.1 = false → inRules G (deriveWith info rule args s).2 = true →
      (deriveWith info rule args s).1.length ≥ info.length → AList.lookup rule st.1 = some l →
      ∀ P' args' s', G.rule? rule P' = some (args', s') →
        P' ∈ l.erase P ∨ ∃ a' as', args' = a' :: as' ∧ Dead G (a'.1, (a'.2, s')) := by
    intro args s l hrule hnc hin hlen hl P' args' s' hr'
    rcases hinv.kept rule l hl P' args' s' hr' with h1 | h1
    · by_cases he : P' = P
      · subst he
        rw [hrule] at hr'
        cases hr'
        exact Or.inr (hdead args s hrule hnc hin hlen)
      · exact Or.inl ((List.mem_erase_of_ne he).mpr h1)
    · exact Or.inr h1
  cases h with
  | skip _ => exact hinv
  | drop args s hrule hnc hin hlen hemp =>
    refine pinv_erase G st.1 rule hinv ?_
    cases hl : AList.lookup rule st.1 with
    | none => exact (hinv.reach _ hr).resolve_left (AList.not_contains_iff.mpr hl)
    | some l =>
      apply dead_of_first_dead
      intro P' args' s' hr'
      rcases hkept' args s l hrule hnc hin hlen hl P' args' s' hr' with h1 | h1
      · rw [hemp l hl] at h1; cases h1
      · exact h1
  | shrink args s l hrule hnc hin hlen hl hemp =>
    refine ⟨AList.keys_insert_nodup _ _ hinv.keys, forall_lookup_insert hinv.vals ((hinv.vals rule l hl).erase P), ?_,
      forall_lookup_insert hinv.kept (hkept' args s l hrule hnc hin hlen hl), ?_⟩
    · intro c hc
      rcases hinv.reach c hc with h1 | h1
      · left; rw [contains_insert]; simp [h1]
      · exact Or.inr h1
    · intro rule' hc
      rw [contains_insert] at hc
      by_cases he : rule' = rule
      · rw [he]; exact hinv.sub rule (AList.contains_of_lookup hl)
      · simp only [he, decide_false, Bool.false_or] at hc; exact hinv.sub rule' hc
  | push _ _ _ _ _ => exact hinv

theorem passFold_inv (G : TT S T) (hU : noUnknownKey G = true) (rule : NT S T) (info : List (Ty × S))
    (hr : Reach0 G (rule, info)) (L : List Sym) (st : Marks S T × Bool × List (CConfig S T)) (h : PInv G st.1) :
    PInv G (L.foldl (passStep G rule info) st).1 :=
  foldl_inv (fun st : Marks S T × Bool × List (CConfig S T) => PInv G st.1) _ L
    (fun st h P _ => passStep_inv G hU rule info hr st _ P (passStep_case G rule info st P) h) st h

/-- one iteration of the inner `clean()` -/
def passBody (G : TT S T) (c : CConfig S T) (s : Marks S T × Bool) : Res (List (CConfig S T) × Marks S T × Bool) :=
  match AList.lookup c.1 s.1 with
  | none => .ok ([], s)
  | some [] => .ok ([], AList.erase c.1 s.1, true)
  | some (p :: ps) =>
    let r := (p :: ps).foldl (passStep G c.1 c.2) (s.1, s.2, [])
    .ok (r.2.2, r.1, r.2.1)

theorem passLoop_eq (G : TT S T) (fuel : Nat) (todo : List (CConfig S T)) (nr : Marks S T) (ch : Bool) :
    passLoop G fuel todo nr ch = wloop (passBody G) fuel todo (nr, ch) := by
  fun_induction passLoop G fuel todo nr ch with
  | case1 => rw [wloop_nil]
  | case2 => rfl
  | case3 fuel rule info todo nr ch hl ih => rw [wloop_cons, passBody, hl]; exact ih
  | case4 fuel rule info todo nr ch hl ih => rw [wloop_cons, passBody, hl]; exact ih
  | case5 fuel rule info todo nr ch p ps hl r ih => rw [wloop_cons, passBody, hl]; exact ih
theorem passLoop_inv (G : TT S T) (hU : noUnknownKey G = true) (fuel : Nat) (todo : List (CConfig S T)) (nr : Marks S T)
    (ch : Bool) (res : Marks S T × Bool) (h : passLoop G fuel todo nr ch = .ok res) (hinv : PInv G nr)
    (htodo : ∀ c ∈ todo, Reach0 G c) : PInv G res.1 := by
  fun_induction passLoop G fuel todo nr ch with
  | case1 => cases h; exact hinv
  | case2 => cases h
  | case3 fuel rule info todo nr ch hl ih => exact ih h hinv (List.forall_mem_cons.mp htodo).2
  | case4 fuel rule info todo nr ch hl ih =>
    -- an empty row: every rule of the non-terminal has a dead first argument
    refine ih h (pinv_erase G nr rule hinv (dead_of_first_dead G rule ?_)) (List.forall_mem_cons.mp htodo).2
    exact fun P' args' s' hr' => (hinv.kept rule [] hl P' args' s' hr').resolve_left nofun
  | case5 fuel rule info todo nr ch p ps hl r ih =>
    obtain ⟨hr, htodo'⟩ := List.forall_mem_cons.mp htodo
    obtain ⟨ext, he, _, hext⟩ := passFold_pushes G rule info (p :: ps) (nr, ch, [])
    refine ih h (passFold_inv G hU rule info hr (p :: ps) (nr, ch, []) hinv) fun c' hc => ?_
    rw [show r.2.2 = [] ++ ext from he] at hc
    rcases List.mem_append.mp hc with h1 | h1
    · exact CSteps.snoc hr (hext c' (List.mem_reverse.mp h1)).1
    · exact htodo' c' h1

theorem passes_last (G : TT S T) (hU : noUnknownKey G = true) (fuel : Nat) :
    ∀ (n : Nat) (nr nr' : Marks S T), passes G fuel n nr = .ok nr' → PInv G nr →
      ∃ nrm, PInv G nrm ∧ passLoop G fuel [(G.start, [])] nrm false = .ok (nr', false)
  | 0, _, _, h, _ => by cases h
  | n + 1, nr, nr', h, hinv => by
    rw [passes] at h
    cases hp : passLoop G fuel [(G.start, [])] nr false with
    | ok res =>
      obtain ⟨nr1, b⟩ := res
      rw [hp] at h
      cases b with
      | true =>
        exact passes_last G hU fuel n nr1 nr' h (passLoop_inv G hU fuel _ nr false _ hp hinv
          (List.forall_mem_singleton.mpr (CSteps.refl _)))
      | false => cases h; exact ⟨nr, hinv, hp⟩
    | fuel => rw [hp] at h; cases h
    | keyError => rw [hp] at h; cases h

theorem passes_inv (G : TT S T) (hU : noUnknownKey G = true) (fuel : Nat) :
    ∀ (n : Nat) (nr nr' : Marks S T), passes G fuel n nr = .ok nr' → PInv G nr → PInv G nr' := by
  intro n nr nr' h hinv
  obtain ⟨nrm, hm, hl⟩ := passes_last G hU fuel n nr nr' h hinv
  exact passLoop_inv G hU fuel _ nrm false _ hl hm (List.forall_mem_singleton.mpr (CSteps.refl _))

theorem lookup_filterMap_rule (G : TT S T) (rule : NT S T) (f : Sym) (val : List (Ty × S) × T)
    (hr : G.rule? rule f = some val) : ∀ l : List Sym, f ∈ l →
    AList.lookup f (l.filterMap (fun P => match G.rule? rule P with
      | some v => some (P, v)
      | none => none)) = some val
  | [], h => by cases h
  | P :: l, h => by
    by_cases he : P = f
    · subst he
      simp [hr, AList.lookup]
    · have hm : f ∈ l := by
        rcases List.mem_cons.mp h with e | hm
        · exact absurd e.symm he
        · exact hm
      rw [List.filterMap_cons]
      cases hP : G.rule? rule P with
      | none => simp only; exact lookup_filterMap_rule G rule f val hr l hm
      | some v =>
        simp only [AList.lookup, he, if_false]
        exact lookup_filterMap_rule G rule f val hr l hm

theorem restrict_rule (G : TT S T) (nr : Marks S T) (rule : NT S T) (l : List Sym) (f : Sym)
    (val : List (Ty × S) × T) (hl : AList.lookup rule nr = some l) (hf : f ∈ l)
    (hr : G.rule? rule f = some val) : (restrict G nr).rule? rule f = some val := by
  have h2 : AList.lookup rule (restrict G nr).rules = some (l.filterMap (fun P =>
      match G.rule? rule P with
      | some v => some (P, v)
      | none => none)) := by
    have := AList.lookup_map_val (fun (k : NT S T) (l : List Sym) => l.filterMap (fun P =>
      match G.rule? k P with
      | some v => some (P, v)
      | none => none)) rule nr
    rw [hl] at this
    exact this
  exact TT.rule?_eq_some.mpr ⟨_, h2, lookup_filterMap_rule G rule f val hr l hf⟩

theorem inRules_of_rule (G : TT S T) (nt : NT S T) (P : Sym) (val : List (Ty × S) × T)
    (h : G.rule? nt P = some val) : inRules G nt = true := by
  obtain ⟨row, h1, _⟩ := rule_mem_row G nt P val h
  exact AList.contains_of_lookup h1

theorem clean_complete_run (G : TT S T) (nr : Marks S T) (hinv : PInv G nr)
    (t : Prog) (a : Ty × S) (v w : T) (stk : List (Ty × S)) (hreach : Reach0 G ((a.1, (a.2, v)), stk))
    (hr : run G.rule? t a v = some w) : run (restrict G nr).rule? t a v = some w := by
  refine ((run_within G.rule? (restrict G nr).rule? (fun nt stk => Reach0 G (nt, stk)) ?_).1 t a v w stk hreach hr).1
  intro nt stk f args st kids w hreach h1 hr
  constructor
  · -- the non-terminal derives `f kids`, so it is still marked, and so is `f`
    obtain ⟨l, hl⟩ := AList.contains_iff_lookup.mp ((hinv.reach _ hreach).resolve_right
      (fun hd => hd (.node f kids) w ((run_eq_some _).mpr ⟨args, st, h1, hr⟩)))
    refine restrict_rule G nr _ l f (args, st) hl ?_ h1
    rcases hinv.kept _ l hl f args st h1 with h2 | ⟨a', as', rfl, hd⟩
    · exact h2
    · obtain ⟨k, _, v1, _, h2, _⟩ := (runList_args_cons _).mp hr
      exact absurd h2 (hd k v1)
  · rintro x rest e ⟨⟨g, ks⟩, w', hl⟩
    obtain ⟨_, _, h2, _⟩ := (run_eq_some _).mp hl
    have hstep := CStep.mk nt stk f args st h1
    rw [deriveWith_eq nt st e] at hstep
    exact CSteps.snoc hreach (hstep (inRules_of_rule G _ g _ h2))

theorem pinv_of_reach (G : TT S T) (fuel : Nat) (nr : Marks S T)
    (h : reachLoop G fuel [(G.start, [])] [] = .ok nr) : PInv G nr := by
  obtain ⟨i1, _, i3⟩ := reachLoop_spec G fuel _ [] nr h (marksOK_nil G)
  refine ⟨i1.keys, i1.vals, fun c hc => Or.inl (i3 _ (List.mem_singleton.mpr rfl) c hc),
    fun rule l hl P args st hr => Or.inl (i1.full rule l hl P (args, st) hr), i1.sub⟩

theorem clean_result (G G' : TT S T) (hU : noUnknownKey G = true) (fuel : Nat) (h : clean G fuel = .ok G') :
    ∃ nr, G' = restrict G nr ∧ PInv G nr := by
  obtain ⟨nr, nr', h1, h2, rfl⟩ := clean_eq_ok.mp h
  exact ⟨nr', rfl, passes_inv G hU fuel fuel nr nr' h2 (pinv_of_reach G fuel nr h1)⟩

theorem clean_complete (G G' : TT S T) (hU : noUnknownKey G = true) (fuel : Nat) (h : clean G fuel = .ok G')
    (t : Prog) (w : T) (hr : run G.rule? t (G.start.1, G.start.2.1) G.start.2.2 = some w) :
    run G'.rule? t (G.start.1, G.start.2.1) G.start.2.2 = some w := by
  obtain ⟨nr, rfl, hinv⟩ := clean_result G G' hU fuel h
  exact clean_complete_run G nr hinv t (G.start.1, G.start.2.1) G.start.2.2 w [] (CSteps.refl _) hr

theorem clean_lang (G G' : TT S T) (hU : noUnknownKey G = true) (fuel : Nat) (h : clean G fuel = .ok G')
    (t : Prog) : inLang G' t = inLang G t := by
  unfold inLang
  rw [clean_start G G' fuel h]
  exact isSome_eq_of_imp (clean_sound G G' fuel h t _ _) (clean_complete G G' hU fuel h t)

/-- `clean()` of /repo from 8ba7791 on: a table whose start symbol has no rule becomes the empty
    table, which has the same (empty) language -/
theorem cleanFixed_lang (G G' : TT S T) (hU : noUnknownKey G = true) (fuel : Nat) (h : cleanFixed G fuel = .ok G')
    (t : Prog) : inLang G' t = inLang G t := by
  unfold cleanFixed at h
  by_cases hc : AList.contains G.start G.rules = true
  · simp only [hc, if_true] at h
    exact clean_lang G G' hU fuel h t
  · simp only [hc, Bool.false_eq_true, if_false, Res.ok.injEq] at h
    subst h
    rw [inLang_of_lookup_none (AList.not_contains_iff.mp hc), inLang_of_lookup_none (G := ⟨G.start, []⟩) rfl]

omit [DecidableEq S] [DecidableEq T] in
/-- the non-terminals of a product have the types of the left factor's -/
theorem mulRaw_noUnknown {U V : Type} [DecidableEq U] [DecidableEq V] (G1 : TT S T) (G2 : TT U V)
    (h : noUnknownKey G1 = true) : noUnknownKey (mulRaw G1 G2) = true := by
  unfold noUnknownKey at h ⊢
  rw [List.all_eq_true] at h ⊢
  intro e he
  simp only [mulRaw, List.mem_flatMap, List.mem_filterMap] at he
  obtain ⟨e1, he1, e2, _, hh⟩ := he
  by_cases hty : e1.1.1 = e2.1.1
  · simp only [hty, if_true, Option.some.injEq] at hh
    subst hh
    have := h e1 he1
    simpa [hty] using this
  · simp [hty] at hh

end PS.T
