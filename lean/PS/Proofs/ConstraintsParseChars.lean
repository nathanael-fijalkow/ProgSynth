/-
  C05, parser: character-level lemmas (strip, split, find), and which names and numbers can be written
  in a constraint (`namesOK`, `digitsOK`).
-/
import PS.Model.ConstraintsParse
import PS.Proofs.Strip
set_option linter.unusedSectionVars false
namespace PS.C05
open PS PS.G

theorem stripChars_mid (p : Char → Bool) (pre w post : Str) (hpre : ∀ c ∈ pre, p c = true)
    (hpost : ∀ c ∈ post, p c = true) (hne : w ≠ []) (hh : ∀ c, w.head? = some c → p c = false)
    (hl : ∀ c, w.getLast? = some c → p c = false) :
    stripChars p (pre ++ w ++ post) = w := by
  refine stripBy_mid hpre hpost ?_ ⟨w.dropLast, w.getLast hne, (List.dropLast_concat_getLast hne).symm,
    hl _ (List.getLast?_eq_some_getLast hne)⟩
  cases w with
  | nil => exact absurd rfl hne
  | cons c r => exact ⟨c, r, rfl, hh c rfl⟩

theorem stripChars_id (p : Char → Bool) (w : Str) (h : ∀ c ∈ w, p c = false) : stripChars p w = w := by
  by_cases h0 : w = []
  · subst h0; rfl
  · have : stripBy p ([] ++ w ++ []) = w :=
      stripBy_mid (fun _ hx => nomatch hx) (fun _ hx => nomatch hx) (starts_of_all h0 h) (ends_of_all h0 h)
    rwa [List.nil_append, List.append_nil] at this

theorem splitOn_nosep (sep : Char) (n : Str) (h : sep ∉ n) : splitOn sep n = [n] := by
  induction n with
  | nil => rfl
  | cons c cs ih =>
    have hc : c ≠ sep := fun e => h (by simp [e])
    have := ih (fun hm => h (List.mem_cons_of_mem _ hm))
    simp [splitOn, hc, this]

theorem splitOn_append (sep : Char) (n r : Str) (h : sep ∉ n) :
    splitOn sep (n ++ sep :: r) = n :: splitOn sep r := by
  induction n with
  | nil => simp [splitOn]
  | cons c cs ih =>
    have hc : c ≠ sep := fun e => h (by simp [e])
    have := ih (fun hm => h (List.mem_cons_of_mem _ hm))
    simp [splitOn, hc, this]

theorem joinNames_cons (n : Str) (ns : List Str) : joinNames (n :: ns) = n ++ ns.flatMap (',' :: ·) := by
  induction ns generalizing n with
  | nil => simp [joinNames]
  | cons m ms ih => rw [joinNames, ih m, List.flatMap_cons, List.cons_append]; exact List.cons_ne_nil _ _

theorem splitOn_join (ns : List Str) (hne : ns ≠ []) (h : ∀ n ∈ ns, ',' ∉ n) :
    splitOn ',' (joinNames ns) = ns := by
  obtain ⟨n, ns, rfl⟩ := List.exists_cons_of_ne_nil hne
  rw [joinNames_cons]
  induction ns generalizing n with
  | nil => simpa using splitOn_nosep ',' n (h n List.mem_cons_self)
  | cons m ms ih =>
    rw [List.flatMap_cons, List.cons_append, splitOn_append ',' n _ (h n List.mem_cons_self),
      ih m (by simp) fun x hx => h x (List.mem_cons_of_mem _ hx)]

/-- characters a symbol name may not contain to be written in a constraint -/
def special : List Char := [' ', '\t', '\n', '\r', '(', ')', '{', '}', ',', '^', '>', '#', '<', '=']

def nameOK (n : Str) : Bool := !n.isEmpty && n.all (fun c => !special.contains c) && n != ['_']

def namesOK (ns : List Str) : Bool := !ns.isEmpty && ns.all nameOK

def digitsOK (ds : Str) : Bool := !ds.isEmpty && ds.all Char.isDigit

theorem nameOK_char {n : Str} (h : nameOK n = true) : ∀ c ∈ n, c ∉ special := by
  unfold nameOK at h
  simp only [Bool.and_eq_true, List.all_eq_true, Bool.not_eq_true', List.contains_eq_mem,
    decide_eq_false_iff_not] at h
  exact fun c hc => h.1.2 c hc

theorem namesOK_iff {ns : List Str} : namesOK ns = true ↔ ns ≠ [] ∧ ∀ n ∈ ns, nameOK n = true := by
  unfold namesOK
  simp only [Bool.and_eq_true, List.all_eq_true, Bool.not_eq_true', List.isEmpty_eq_false_iff]

theorem mem_joinNames {ns : List Str} {c : Char} (h : c ∈ joinNames ns) : c = ',' ∨ ∃ n ∈ ns, c ∈ n := by
  cases ns with
  | nil => simp [joinNames] at h
  | cons n ns =>
    rw [joinNames_cons, List.mem_append, List.mem_flatMap] at h
    rcases h with h | ⟨m, hm, h⟩
    · exact Or.inr ⟨n, List.mem_cons_self, h⟩
    · exact (List.mem_cons.mp h).imp id fun hc => ⟨m, List.mem_cons_of_mem _ hm, hc⟩

theorem joinNames_char {ns : List Str} (h : namesOK ns = true) {c : Char} (hc : c ∈ joinNames ns) :
    c = ',' ∨ c ∉ special := by
  rcases mem_joinNames hc with e | ⟨n, hn, hcn⟩
  · exact Or.inl e
  · exact Or.inr (nameOK_char ((namesOK_iff.mp h).2 n hn) c hcn)

theorem joinNames_notin {ns : List Str} (h : namesOK ns = true) (x : Char) (hx : x ∈ special) (hx' : x ≠ ',') :
    x ∉ joinNames ns := fun hm =>
  (joinNames_char h hm).elim hx' fun e => e hx

theorem nameOK_ne_nil {n : Str} (h : nameOK n = true) : n ≠ [] := by
  rintro rfl; cases h

theorem joinNames_ne_nil {ns : List Str} (h : namesOK ns = true) : joinNames ns ≠ [] := by
  obtain ⟨hne, hall⟩ := namesOK_iff.mp h
  obtain ⟨n, ns, rfl⟩ := List.exists_cons_of_ne_nil hne
  rw [joinNames_cons]
  exact fun e => nameOK_ne_nil (hall n List.mem_cons_self) (List.append_eq_nil_iff.mp e).1

theorem joinNames_head {ns : List Str} (h : namesOK ns = true) {c : Char} (hc : (joinNames ns).head? = some c) :
    c ∉ special := by
  obtain ⟨hne, hall⟩ := namesOK_iff.mp h
  obtain ⟨n, ns, rfl⟩ := List.exists_cons_of_ne_nil hne
  have hn := hall n List.mem_cons_self
  obtain ⟨d, ds, rfl⟩ := List.exists_cons_of_ne_nil (nameOK_ne_nil hn)
  rw [joinNames_cons] at hc
  cases hc
  exact nameOK_char hn c List.mem_cons_self

theorem joinNames_last {ns : List Str} (h : namesOK ns = true) {c : Char} (hc : (joinNames ns).getLast? = some c) :
    c ∉ special := by
  induction ns with
  | nil => simp [namesOK] at h
  | cons n ns ih =>
    rw [namesOK_iff] at h
    cases ns with
    | nil =>
      simp only [joinNames] at hc
      exact nameOK_char (h.2 n List.mem_cons_self) c (List.mem_of_getLast? hc)
    | cons m ms =>
      have hms : namesOK (m :: ms) = true :=
        namesOK_iff.mpr ⟨by simp, fun x hx => h.2 x (List.mem_cons_of_mem _ hx)⟩
      apply ih hms
      simp only [joinNames] at hc
      have hne := joinNames_ne_nil hms
      cases hj : joinNames (m :: ms) with
      | nil => exact absurd hj hne
      | cons x xs =>
        rw [hj] at hc
        simpa [List.getLast?_append, List.getLast?_cons_cons] using hc

theorem not_special_facts {c : Char} (h : c ∉ special) :
    c ≠ ' ' ∧ c ≠ '\t' ∧ c ≠ '\n' ∧ c ≠ '\r' ∧ c ≠ '(' ∧ c ≠ ')' ∧ c ≠ '{' ∧ c ≠ '}' ∧ c ≠ ',' ∧ c ≠ '^' ∧
      c ≠ '>' ∧ c ≠ '#' ∧ c ≠ '<' ∧ c ≠ '=' := by
  unfold special at h
  simpa only [List.mem_cons, List.mem_nil_iff, or_false, not_or] using h

theorem splitOn_joinNames {ns : List Str} (h : namesOK ns = true) : splitOn ',' (joinNames ns) = ns := by
  rw [namesOK_iff] at h
  apply splitOn_join ns h.1
  exact fun n hn hc => nameOK_char (h.2 n hn) ',' hc (by decide)

theorem findSub_append (a : Char) (p pre s : Str) (h : a ∉ pre) :
    findSub (a :: p) (pre ++ s) = (findSub (a :: p) s).map (· + pre.length) := by
  induction pre with
  | nil => simp
  | cons c cs ih =>
    have hc : a ≠ c := fun e => h (by simp [e])
    rw [List.cons_append, findSub, ih fun hm => h (List.mem_cons_of_mem _ hm)]
    cases findSub (a :: p) s <;> simp [List.isPrefixOf, hc, Nat.add_assoc]

theorem findSub_none (a : Char) (p s : Str) (h : a ∉ s) : findSub (a :: p) s = none := by
  simpa [findSub] using findSub_append a p s [] h

theorem findSub_at (a : Char) (p pre rest : Str) (h : a ∉ pre) :
    findSub (a :: p) (pre ++ a :: (p ++ rest)) = some pre.length := by
  simpa [findSub] using findSub_append a p pre (a :: (p ++ rest)) h

theorem startsWith_single (x c : Char) (r : Str) : startsWith [x] (c :: r) = (x == c) := by
  simp [startsWith, List.isPrefixOf]

theorem removeChar_id (x : Char) (s : Str) (h : x ∉ s) : removeChar x s = s := by
  unfold removeChar
  rw [List.filter_eq_self]
  intro c hc
  simp only [bne_iff_ne, ne_eq]
  intro e; subst e; exact h hc

theorem digits_char {ds : Str} (h : digitsOK ds = true) : ∀ c ∈ ds, c.isDigit = true := by
  unfold digitsOK at h
  simp only [Bool.and_eq_true, List.all_eq_true] at h
  exact h.2

theorem digit_not {c : Char} (h : c.isDigit = true) : c ≠ ' ' ∧ c ≠ '<' ∧ c ≠ '>' ∧ c ≠ '=' ∧ c ≠ '(' ∧ c ≠ ')' := by
  refine ⟨?_, ?_, ?_, ?_, ?_, ?_⟩ <;> exact ne_of_isDigit h (by decide)

end PS.C05
