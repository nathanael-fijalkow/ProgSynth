/-
  C13: `TTCFG.programs` on a table accepted by `closedOK` counts the language: the certificate
  gives the invariant `RecSpec` at every recursion depth.
-/
import PS.Proofs.TtcfgCount
namespace PS.T
open PS PS.G

variable {S T : Type} [DecidableEq S] [DecidableEq T]

theorem compute_spec (G : TT S T) (outs : AList (NT S T) (List T)) (rk : AList (NT S T) Nat)
    (C : ClosedCert G outs rk) : ∀ k : Nat, RecSpec G outs (compute G k) k
  | 0 => ⟨by intro nt d h; simp [compute] at h, by intro nt d h; simp [compute] at h⟩
  | k + 1 => by
    have R := compute_spec G outs rk C k
    constructor
    · intro nt d h hl
      simp only [compute, hl, Option.some.injEq] at h
      exact h.symm
    · intro nt d h hc
      obtain ⟨row, hrow⟩ := AList.contains_iff_lookup.mp hc
      simp only [compute, hrow] at h
      have hrules : ∀ r ∈ row, ChainOk (fun nt => AList.contains nt G.rules = true) (fun nt w => w ∈ outsOf outs nt)
          r.2.1 (· ∈ [r.2.2]) (· ∈ outsOf outs nt) ∧
          (r.2.1 = [] → AList.lookup ((Ty.unknown, (nt.2.1, r.2.2)) : NT S T) G.rules = none) := by
        intro r hr
        refine ⟨(C.chainOk _ (AList.lookup_some_mem hrow) r hr).mono (fun _ h => h.1) (fun _ _ _ h => h) _ _ _ _ _
          (fun _ h => List.mem_singleton.mp h) (fun _ h => h), fun _ => ?_⟩
        cases hlk : AList.lookup ((Ty.unknown, (nt.2.1, r.2.2)) : NT S T) G.rules with
        | none => rfl
        | some row' => exact absurd rfl (C.notUnknown _ (AList.lookup_some_mem hlk))
      obtain ⟨s1, s2, s3⟩ := rowCounts_spec (G := G) ⟨R.marker, R.key⟩ nt row [] d hrules (fun _ he => nomatch he) h
      obtain ⟨w1, w2⟩ := langT_succ_spec G k nt row hrow d (fun F => by rw [s2 F, W_nil, Nat.zero_add]) s3
      exact ⟨s1, w1, w2⟩

/-- C13: on a table accepted by `closedOK`, whenever `programs()` returns (fuel = recursion depth),
    the number is the size of the language. -/
theorem programs_count (G : TT S T) (outs : AList (NT S T) (List T)) (rk : AList (NT S T) Nat)
    (h : closedOK G outs rk = true) (fuel n : Nat) (hp : programs G fuel = some n) :
    (langOf G fuel).Nodup ∧ n = (langOf G fuel).length ∧ ∀ t, t ∈ langOf G fuel ↔ inLang G t = true := by
  have C := closedCert_of_closedOK G outs rk h
  unfold programs at hp
  cases hd : compute G fuel G.start with
  | none => simp [hd] at hp
  | some d =>
    simp only [hd, Option.map_some, Option.some.injEq] at hp
    subst hp
    obtain ⟨_, k2, k3⟩ := (compute_spec G outs rk C fuel).key G.start d hd C.start
    exact count_of_spec G C.rowKeys fuel d k2 k3

end PS.T
