/-
  C13: the language of the rule-creation step of `TTCFG.size_constraint` is the size-bounded language of the
  statement, that of `TTCFG.at_most_k` the occurrence-bounded one.

  Both constructors build on a counter: the transition tests the forbidden pattern and otherwise
  is a partial function `step` of the state, the symbol and the number of arguments it takes at
  the slot.  For such a builder (`Counts`) the rule creation derives `t` iff `t` is well typed and
  the counter, reading `t` in preorder, accepts it - typing and counting separate.
  What remains per constructor is arithmetic on terms.  For `size_constraint` the state is
  `(size, future)`: `size` = nodes read so far, `future` = pending slots including the current one
  (0 at the root); a sub-term `t` entered in `(sz, fu)` is accepted iff
  `sz + size t + (fu - 1) ≤ max`, and is left in `(sz + size t, fu - 1)`.  For `at_most_k` the state is
  the occurrences left: a sub-term `t` entered with `o` left is accepted iff `occ t ≤ o`, and leaves `o - occ t`.
-/
import PS.Proofs.TtcfgRows
namespace PS.T
open PS PS.G

theorem wtT_node (dsl : Dsl) (request : Ty) (vis : Sym × Nat → Option (Sym × Nat)) (f : Sym) (kids : List Prog)
    (parent : Option (Sym × Nat)) (ty : Ty) :
    wtT dsl request vis (.node f kids) parent ty = true ↔
      forbHit dsl parent f = false ∧
      ∃ c ∈ candidates dsl.prims request ty, c.1 = f ∧ wtTList dsl request vis kids f 0 c.2 = true := by
  rw [wtT, Bool.and_eq_true, List.any_eq_true]
  simp only [Bool.not_eq_true', Bool.and_eq_true, beq_iff_eq]

theorem wtTList_length (dsl : Dsl) (request : Ty) (vis : Sym × Nat → Option (Sym × Nat)) (f : Sym) :
    ∀ (ks : List Prog) (i : Nat) (tys : List Ty), wtTList dsl request vis ks f i tys = true → ks.length = tys.length
  | [], _, [], _ => rfl
  | [], _, _ :: _, h => by simp [wtTList] at h
  | _ :: _, _, [], h => by simp [wtTList] at h
  | k :: ks, i, ty :: tys, h => by
    rw [wtTList, Bool.and_eq_true] at h
    simp [wtTList_length dsl request vis f ks (i + 1) tys h.2]

theorem length_le_sizeList : ∀ ks : List Prog, ks.length ≤ Tree.sizeList ks
  | [] => by simp [Tree.sizeList]
  | k :: ks => by
    have := length_le_sizeList ks
    have hpos : 1 ≤ Tree.size k := by cases k with | node f kids => simp [Tree.size]
    simp [Tree.sizeList]; omega

def argsFrom (nG : Int) (ctx : Ctx) (f : Sym) (i : Nat) (tys : List Ty) : List (Ty × Ctx) :=
  (tys.zipIdx i).map (fun ai => (ai.1, successor nG ctx (f, ai.2)))

theorem argsFrom_cons (nG : Int) (ctx : Ctx) (f : Sym) (i : Nat) (ty : Ty) (tys : List Ty) :
    argsFrom nG ctx f i (ty :: tys) = (ty, successor nG ctx (f, i)) :: argsFrom nG ctx f (i + 1) tys := by
  simp [argsFrom, List.zipIdx_cons]

section Counter
variable {T : Type} [DecidableEq T]

/- the counter reads a term in preorder: `step state symbol arity` -/
mutual
  def accT (step : T → Sym → Nat → Option T) : Prog → T → Option T
    | .node f kids, v =>
      match step v f kids.length with
      | none => none
      | some st => accTList step kids st
  def accTList (step : T → Sym → Nat → Option T) : List Prog → T → Option T
    | [], v => some v
    | k :: ks, v =>
      match accT step k v with
      | none => none
      | some v' => accTList step ks v'
end

/-- `B` is a counter with transition function `step`, on the slot types satisfying `Q` (`Q` is there
    for `size_constraint`, whose transition agrees with `sizeStep` only at slots that are not of
    arrow type unless `actual = true`). -/
structure Counts (B : Builder Ctx T) (dsl : Dsl) (request : Ty) (nG : Int) (Q : Ty → Prop)
    (step : T → Sym → Nat → Option T) : Prop where
  succ : ∀ rule P i ty, B.getNT rule P i ty = successor nG rule.2.1 (P, i)
  slots : ∀ ty, Q ty → ∀ c ∈ candidates dsl.prims request ty, ∀ a ∈ c.2, Q a
  /-- the transition refuses exactly when the forbidden pattern hits or `step` is undefined on (state,
      symbol, number of arguments taken at the slot), and otherwise moves to the state `step` gives -/
  trans : ∀ ty ctx v, Q ty → ∀ c ∈ candidates dsl.prims request ty,
    (if (B.transition (ty, (ctx, v)) c.1).1 then some (B.transition (ty, (ctx, v)) c.1).2 else none) =
      if forbHit dsl ctx.head? c.1 then none else step v c.1 c.2.length

variable {B : Builder Ctx T} {dsl : Dsl} {request : Ty} {nG : Int} {Q : Ty → Prop}
  {step : T → Sym → Nat → Option T}

theorem Counts.decorate (C : Counts B dsl request nG Q step) (rule : NT Ctx T) (f : Sym) (tys : List Ty) :
    decorate B rule f tys = argsFrom nG rule.2.1 f 0 tys := by
  simp [PS.T.decorate, C.succ, argsFrom, enumFrom', List.map_map, Function.comp_def]

theorem counts_run (hwf : wfDsl dsl = true) (C : Counts B dsl request nG Q step) :
    (∀ (t : Prog) (ty : Ty) (ctx : Ctx) (v w : T), CtxOK nG ctx → Q ty →
      (run (idealFn B dsl request) t (ty, ctx) v = some w ↔
        wtT dsl request (effParentT nG) t ctx.head? ty = true ∧ accT step t v = some w)) ∧
    (∀ (ks : List Prog) (f : Sym) (ctx : Ctx) (i : Nat) (tys : List Ty) (v w : T), CtxOK nG ctx →
      (∀ a ∈ tys, Q a) →
      (runList (idealFn B dsl request) ks (argsFrom nG ctx f i tys) v = some w ↔
        wtTList dsl request (effParentT nG) ks f i tys = true ∧ accTList step ks v = some w)) := by
  apply Tree.ind₂
  · intro f kids ihl ty ctx v w hctx hq
    rw [run_eq_some, wtT_node, accT]
    constructor
    · rintro ⟨args, st, hr, hrun⟩
      obtain ⟨c, hc, rfl, htr, hval⟩ := (idealFn_iff B dsl hwf request _ _ _).mp hr
      cases hval
      have ht := C.trans ty ctx v hq c hc
      rw [if_pos htr] at ht
      cases hf : forbHit dsl ctx.head? c.1 with
      | true => simp [hf] at ht
      | false =>
        rw [C.decorate] at hrun
        obtain ⟨hw1, hw2⟩ := (ihl c.1 ctx 0 c.2 _ w hctx (C.slots ty hq c hc)).mp hrun
        rw [hf, if_neg Bool.false_ne_true] at ht
        rw [wtTList_length _ _ _ _ _ _ _ hw1, ← ht]
        exact ⟨⟨rfl, c, hc, rfl, hw1⟩, hw2⟩
    · rintro ⟨⟨hforb, c, hc, rfl, hwl⟩, hacc⟩
      have ht := C.trans ty ctx v hq c hc
      rw [hforb, if_neg Bool.false_ne_true, ← wtTList_length _ _ _ _ _ _ _ hwl] at ht
      cases hs : step v c.1 kids.length with
      | none => simp [hs] at hacc
      | some st =>
        rw [hs] at ht hacc
        have htr : (B.transition (ty, (ctx, v)) c.1).1 = true := by
          cases h : (B.transition (ty, (ctx, v)) c.1).1 with
          | true => rfl
          | false => simp [h] at ht
        rw [if_pos htr] at ht
        refine ⟨_, _, (idealFn_iff B dsl hwf request _ _ _).mpr ⟨c, hc, rfl, htr, rfl⟩, ?_⟩
        rw [C.decorate, Option.some.inj ht]
        exact (ihl c.1 ctx 0 c.2 st w hctx (C.slots ty hq c hc)).mpr ⟨hwl, hacc⟩
  · intro f ctx i tys v w _ _
    cases tys with
    | nil => simp [argsFrom, runList, wtTList, accTList]
    | cons ty tys => rw [argsFrom_cons]; simp [runList, wtTList]
  · intro k ks iht ihl f ctx i tys v w hctx hq
    cases tys with
    | nil => simp [argsFrom, runList, wtTList]
    | cons ty tys =>
      obtain ⟨hhead, hctx'⟩ : (successor nG ctx (f, i)).head? = effParentT nG (f, i) ∧ CtxOK nG _ :=
        successor_head nG ctx (f, i) hctx
      have hk := fun v1 => iht ty (successor nG ctx (f, i)) v v1 hctx' (hq ty (List.mem_cons_self ..))
      have hl := fun v1 => ihl f ctx (i + 1) tys v1 w hctx (fun a ha => hq a (List.mem_cons_of_mem _ ha))
      rw [argsFrom_cons, runList_cons_eq_some, wtTList, accTList, Bool.and_eq_true, ← hhead]
      constructor
      · rintro ⟨_, _, v1, e, h1, h2⟩
        cases e
        obtain ⟨a1, a2⟩ := (hk v1).mp h1
        obtain ⟨b1, b2⟩ := (hl v1).mp h2
        exact ⟨⟨a1, b1⟩, by rw [a2]; exact b2⟩
      · rintro ⟨⟨a1, b1⟩, h⟩
        cases a2 : accT step k v with
        | none => simp [a2] at h
        | some v1 =>
          rw [a2] at h
          exact ⟨_, _, v1, rfl, (hk v1).mpr ⟨a1, a2⟩, (hl v1).mpr ⟨b1, h⟩⟩

theorem counts_lang (hwf : wfDsl dsl = true) (C : Counts B dsl request nG Q step) (hq : Q request.returns)
    (v : T) (t : Prog) :
    (run (idealFn B dsl request) t (request.returns, []) v).isSome =
      (wtT dsl request (effParentT nG) t none request.returns && (accT step t v).isSome) := by
  have h := (counts_run hwf C).1 t request.returns [] v
  cases hr : run (idealFn B dsl request) t (request.returns, []) v with
  | some w =>
    obtain ⟨h1, h2⟩ := (h w (fun _ => rfl) hq).mp hr
    simp only [List.head?_nil] at h1
    simp [h1, h2]
  | none =>
    cases ha : accT step t v with
    | none => simp
    | some w =>
      cases hw : wtT dsl request (effParentT nG) t none request.returns with
      | false => simp
      | true => rw [(h w (fun _ => rfl) hq).mpr ⟨hw, ha⟩] at hr; cases hr

end Counter

def sizeStep (maxSize : Nat) (s : Nat × Nat) (_ : Sym) (n : Nat) : Option (Nat × Nat) :=
  if s.1 + 1 + n + (s.2 - 1) ≤ maxSize then some (s.1 + 1, s.2 - 1 + n) else none

theorem ite_some_congr {α : Type} {p q : Prop} [Decidable p] [Decidable q] {x y : α} (hpq : p ↔ q)
    (hxy : p → x = y) : (if p then some x else none) = if q then some y else none := by
  by_cases hp : p
  · rw [if_pos hp, if_pos (hpq.mp hp), hxy hp]
  · rw [if_neg hp, if_neg (fun hq => hp (hpq.mpr hq))]

/-- `n` = the number of arguments charged -/
theorem sizeTransition_eq (dsl : Dsl) (maxSize : Nat) (actual : Bool) (ty : Ty) (ctx : Ctx) (sz fu : Nat)
    (P : Sym) (n : Nat)
    (hn : if actual then ((P.ty.endsWith ty).getD []).length = n
          else (P.ty.arguments.length = n ∧ isArrow P.ty = !(n == 0))) :
    (if (sizeTransition dsl maxSize actual (ty, (ctx, (sz, fu))) P).1
      then some (sizeTransition dsl maxSize actual (ty, (ctx, (sz, fu))) P).2 else none) =
      if forbHit dsl ctx.head? P then none else sizeStep maxSize (sz, fu) P n := by
  have hnargs : (if actual = true then ((P.ty.endsWith ty).getD []).length else P.ty.arguments.length) = n := by
    cases actual
    · exact hn.1
    · exact hn
  have hleaf : (if actual = true then n == 0 else !isArrow P.ty) = (n == 0) := by
    cases actual
    · simp [hn.2]
    · rfl
  simp only [sizeTransition, hnargs, hleaf, sizeStep]
  cases forbHit dsl ctx.head? P with
  | true => rfl
  | false =>
    -- leaf or not, root (`fu = 0`) or not: the four branches of the code charge the same
    -- (`cases fu`, so that `fu - 1` computes and `omega` has no truncated subtraction to split on)
    by_cases hs : sz > maxSize
    · simp [hs]; omega
    · by_cases h0 : n = 0 <;> cases fu <;> simp [h0, hs] <;>
        exact ite_some_congr (by omega) (fun _ => by simp <;> omega)

/-- which slot types occur: every one is a non-function type unless the transition counts the
    arguments actually taken -/
def SlotOK (actual : Bool) (ty : Ty) : Prop := isArrow ty = false ∨ actual = true

theorem candidate_hn (dsl : Dsl) (request ty : Ty) (actual : Bool) (c : Sym × List Ty)
    (hc : c ∈ candidates dsl.prims request ty) (hslot : SlotOK actual ty) :
    if actual then ((c.1.ty.endsWith ty).getD []).length = c.2.length
    else (c.1.ty.arguments.length = c.2.length ∧ isArrow c.1.ty = !(c.2.length == 0)) := by
  have ha := candidate_args dsl.prims request ty c hc
  cases actual with
  | true => simp [ha]
  | false =>
    have hty : isArrow ty = false := by
      rcases hslot with h | h
      · exact h
      · cases h
    have := endsWith_nonarrow c.1.ty ty c.2 hty ha
    simp only [Bool.false_eq_true, if_false]
    rw [this, isArrow_iff_arguments]
    cases c.1.ty.arguments <;> simp

theorem candidate_slots (dsl : Dsl) (request ty : Ty) (actual : Bool) (hyp : actual = true ∨ firstOrder dsl = true)
    (c : Sym × List Ty) (hc : c ∈ candidates dsl.prims request ty) (hslot : SlotOK actual ty) :
    ∀ a ∈ c.2, SlotOK actual a := by
  intro a ha
  rcases hyp with h | h
  · exact Or.inr h
  · rcases (mem_candidates _ _ _ _).mp hc with ⟨i, _, e⟩ | ⟨hp, he⟩
    · rw [e] at ha; cases ha
    · rcases hslot with hty | hact
      · left
        have hargs := endsWith_nonarrow c.1.ty ty c.2 hty he
        unfold firstOrder at h
        rw [List.all_eq_true] at h
        have := h c.1 hp
        rw [List.all_eq_true] at this
        have := this a (by rw [← hargs]; exact ha)
        simpa using this
      · exact Or.inr hact


theorem size_counts (dsl : Dsl) (request : Ty) (nG : Int) (maxSize : Nat) (actual : Bool)
    (hyp : actual = true ∨ firstOrder dsl = true) :
    Counts (sizeBuilder dsl nG maxSize actual) dsl request nG (SlotOK actual) (sizeStep maxSize) :=
  ⟨fun _ _ _ _ => rfl, fun ty hq c hc => candidate_slots dsl request ty actual hyp c hc hq,
   fun ty ctx v hq c hc => sizeTransition_eq dsl maxSize actual ty ctx v.1 v.2 c.1 c.2.length
     (candidate_hn dsl request ty actual c hc hq)⟩

/-- The counter of `size_constraint` in closed form.  The clause for a list of siblings `ks` read from
    `(s, fu)` has two side conditions, both true where the clause for a node uses it: `ks.length ≤ fu`
    (the pending slots include those of `ks`: the node has just added `ks.length` to `future`), and
    `s + fu ≤ maxSize` (the step that led to `(s, fu)` was accepted), without which the empty list
    would be accepted although the closed form `s + 0 + fu ≤ maxSize` fails. -/
theorem accT_size (maxSize : Nat) :
    (∀ (t : Prog) (sz fu : Nat) (w : Nat × Nat), accT (sizeStep maxSize) t (sz, fu) = some w ↔
      sz + Tree.size t + (fu - 1) ≤ maxSize ∧ w = (sz + Tree.size t, fu - 1)) ∧
    (∀ (ks : List Prog) (s fu : Nat) (w : Nat × Nat), s + fu ≤ maxSize → ks.length ≤ fu →
      (accTList (sizeStep maxSize) ks (s, fu) = some w ↔
        s + Tree.sizeList ks + (fu - ks.length) ≤ maxSize ∧ w = (s + Tree.sizeList ks, fu - ks.length))) := by
  apply Tree.ind₂
  · intro f kids ihl sz fu w
    have hsz := length_le_sizeList kids
    rw [accT, sizeStep, Tree.size]
    by_cases hb : sz + 1 + kids.length + (fu - 1) ≤ maxSize
    · rw [if_pos hb, ihl (sz + 1) (fu - 1 + kids.length) w (by omega) (by omega)]
      rw [Nat.add_assoc sz 1, Nat.add_sub_cancel]
    · rw [if_neg hb]
      exact ⟨nofun, fun h => by omega⟩
  · intro s fu w hpre _
    simp [accTList, Tree.sizeList, hpre, eq_comm]
  · intro k ks iht ihl s fu w hpre hlen
    have hsz := length_le_sizeList ks
    simp only [List.length_cons] at hlen
    rw [accTList, Tree.sizeList, List.length_cons]
    by_cases hb : s + Tree.size k + (fu - 1) ≤ maxSize
    · rw [(iht s fu _).mpr ⟨hb, rfl⟩, ihl (s + Tree.size k) (fu - 1) w (by omega) (by omega)]
      rw [Nat.add_assoc s, Nat.sub_sub, Nat.add_comm 1]
    · cases ha : accT (sizeStep maxSize) k (s, fu) with
      | some w1 => exact absurd ((iht s fu w1).mp ha).1 hb
      | none =>
        exact ⟨nofun, fun h => by omega⟩

theorem isSome_eq_decide {α : Type} {o : Option α} {p : Prop} [Decidable p] {x : α}
    (h : ∀ w, o = some w ↔ p ∧ w = x) : o.isSome = decide p := by
  cases ho : o with
  | some w => simp [((h w).mp ho).1]
  | none =>
    by_cases hp : p
    · rw [(h x).mpr ⟨hp, rfl⟩] at ho; cases ho
    · simp [hp]

/-- `SizedVis`: size-bounded as far as the n-gram shows the parent.  `hyp`: the transition counts the
    arguments actually taken (`actual = true`: /repo since f7d4c7d, fixes_applied/C13-F3.diff;
    `actual = false` is the declared arity charged before it) or no primitive takes a function as an
    argument. -/
theorem size_ideal_lang (dsl : Dsl) (hwf : wfDsl dsl = true) (request : Ty) (nG : Int) (maxSize : Nat) (actual : Bool)
    (hyp : actual = true ∨ firstOrder dsl = true) (t : Prog) :
    (run (idealFn (sizeBuilder dsl nG maxSize actual) dsl request) t (request.returns, []) (0, 0)).isSome
      = SizedVis dsl request nG maxSize t := by
  rw [SizedVis]
  rw [counts_lang hwf (size_counts dsl request nG maxSize actual hyp) (Or.inl (returns_not_arrow request)) (0, 0) t,
    isSome_eq_decide ((accT_size maxSize).1 t 0 0)]
  simp

def occStep (name : String) (o : Nat) (P : Sym) (_ : Nat) : Option Nat :=
  if (if symStr P = name then 1 else 0) ≤ o then some (o - (if symStr P = name then 1 else 0)) else none

theorem atMost_counts (dsl : Dsl) (request : Ty) (nG : Int) (name : String) (k : Nat) :
    Counts (atMostBuilder dsl nG name k) dsl request nG (fun _ => True) (occStep name) := by
  refine ⟨fun _ _ _ _ => rfl, fun _ _ _ _ _ _ => trivial, fun ty ctx o _ c _ => ?_⟩
  simp only [atMostBuilder, atMostTransition, occStep]
  cases forbHit dsl ctx.head? c.1 with
  | true => rfl
  | false => by_cases hn : symStr c.1 = name <;> simp [hn, Nat.lt_iff_add_one_le]

/-- a counter spent down in two steps, first `a`, then `b` -/
theorem spend_two {a b o w : Nat} (hb : a ≤ o) : b ≤ o - a ∧ w = o - a - b ↔ a + b ≤ o ∧ w = o - (a + b) := by omega

theorem accT_occ (name : String) :
    (∀ (t : Prog) (o w : Nat), accT (occStep name) t o = some w ↔ occ name t ≤ o ∧ w = o - occ name t) ∧
    (∀ (ks : List Prog) (o w : Nat), accTList (occStep name) ks o = some w ↔
      occList name ks ≤ o ∧ w = o - occList name ks) := by
  apply Tree.ind₂
  · intro f kids ihl o w
    rw [accT, occStep, occ]
    by_cases hb : (if symStr f = name then 1 else 0) ≤ o
    · rw [if_pos hb, ihl]; exact spend_two hb
    · rw [if_neg hb]
      exact ⟨nofun, fun h => by omega⟩
  · intro o w
    simp [accTList, occList, eq_comm]
  · intro k ks iht ihl o w
    rw [accTList, occList]
    by_cases hb : occ name k ≤ o
    · rw [(iht o _).mpr ⟨hb, rfl⟩, ihl]; exact spend_two hb
    · cases ha : accT (occStep name) k o with
      | some w1 => exact absurd ((iht o w1).mp ha).1 hb
      | none =>
        exact ⟨nofun, fun h => by omega⟩

theorem atMost_ideal_lang (dsl : Dsl) (hwf : wfDsl dsl = true) (request : Ty) (nG : Int) (name : String) (k : Nat)
    (t : Prog) :
    (run (idealFn (atMostBuilder dsl nG name k) dsl request) t (request.returns, []) k).isSome
      = AtMostOccVis dsl request nG name k t := by
  rw [AtMostOccVis, counts_lang hwf (atMost_counts dsl request nG name k) trivial k t,
    isSome_eq_decide ((accT_occ name).1 t k)]

/-! ### an n-gram of width ≥ 2 (or unbounded) shows the parent: the statement's languages -/

theorem effParentT_some {nG : Int} (hn : nG ≥ 2 ∨ nG < 0) : effParentT nG = some := by
  funext p; simp [effParentT, hn]

theorem size_lang (dsl : Dsl) (hwf : wfDsl dsl = true) (request : Ty) (nG : Int) (hn : nG ≥ 2 ∨ nG < 0) (maxSize : Nat)
    (actual : Bool) (hyp : actual = true ∨ firstOrder dsl = true) (t : Prog) :
    (run (idealFn (sizeBuilder dsl nG maxSize actual) dsl request) t (request.returns, []) (0, 0)).isSome
      = Sized dsl request maxSize t := by
  rw [size_ideal_lang dsl hwf request nG maxSize actual hyp t, SizedVis, effParentT_some hn, Sized]

theorem atMost_lang (dsl : Dsl) (hwf : wfDsl dsl = true) (request : Ty) (nG : Int) (hn : nG ≥ 2 ∨ nG < 0) (name : String)
    (k : Nat) (t : Prog) :
    (run (idealFn (atMostBuilder dsl nG name k) dsl request) t (request.returns, []) k).isSome
      = AtMostOcc dsl request name k t := by
  rw [atMost_ideal_lang dsl hwf request nG name k t, AtMostOccVis, effParentT_some hn, AtMostOcc]

end PS.T
