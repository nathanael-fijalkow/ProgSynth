/-
  C01, last sentence: the unbounded specification `wtI` (PS/Model/CfgInfinite.lean)
  is the union over all depth bounds of the bounded specification `wt` (PS/Model/Cfg.lean) taken
  with minimum variable depth 0:   wtI P vis t parent ty  ↔  ∃ D, wt (unb P D) vis t 0 parent ty.
-/
import PS.Proofs.CfgInfinite
namespace PS.G
open PS

def unb (P : Params) (D : Nat) : Params := { P with maxDepth := D, minVarDepth := 0 }

theorem leafSyms_unb (P : Params) (D : Nat) (forb : List String) (d : Nat) (ty : Ty) :
    leafSyms (unb P D) forb d ty = leafSymsInf P forb ty :=
  leafSyms_eq_inf (P := unb P D) (Nat.zero_le d) forb ty

theorem endsWith_prefix (s o : Ty) (tys : List Ty) (h : Ty.endsWith s o = some tys) :
    tys <+: s.arguments := by
  rw [endsWith_spec h, arguments_mkFun]
  exact List.prefix_append _ _

theorem endsWith_nil (s o : Ty) (h : Ty.endsWith s o = some []) : s = o :=
  endsWith_spec h

theorem endsWith_arguments (s o : Ty) (tys : List Ty) (h : Ty.endsWith s o = some tys)
    (hne : tys.length > 0) : s.arguments.length > 0 :=
  Nat.lt_of_lt_of_le hne (endsWith_prefix s o tys h).length_le

theorem mem_appHeadsInf (P : Params) (forb : List String) (ty : Ty) (h : Sym × List Ty) :
    h ∈ appHeadsInf P forb ty ↔
      (∃ p ∈ P.prims, forb.contains p.name = false ∧ p.ty.endsWith ty = some h.2 ∧ h.1 = p) ∨
      (∃ iv ∈ enumFrom' P.request.arguments, iv.2.endsWith ty = some h.2 ∧ h.2.length > 0 ∧
        h.1 = Sym.var iv.1 iv.2) ∨
      (P.recursive = true ∧ P.request.endsWith ty = some h.2 ∧ h.1 = selfSym P) := by
  rw [← true_and (∃ iv ∈ enumFrom' P.request.arguments, _)]
  exact mem_appHeadsWith P forb ty True (fun _ tys => tys.length > 0) h

theorem mem_appHeads_unb (P : Params) (D : Nat) (forb : List String) (d : Nat) (ty : Ty) (h : Sym × List Ty) :
    h ∈ appHeads (unb P D) forb d ty ↔
      (∃ p ∈ P.prims, forb.contains p.name = false ∧ p.ty.endsWith ty = some h.2 ∧ h.1 = p) ∨
      (∃ iv ∈ enumFrom' P.request.arguments, iv.2.endsWith ty = some h.2 ∧ iv.2.arguments.length > 0 ∧
        h.1 = Sym.var iv.1 iv.2) ∨
      (P.recursive = true ∧ P.request.endsWith ty = some h.2 ∧ h.1 = selfSym P) := by
  rw [← and_iff_right (show d ≥ (unb P D).minVarDepth from Nat.zero_le d) (b := ∃ iv ∈ enumFrom' P.request.arguments, _)]
  exact mem_appHeadsWith (unb P D) forb ty _ _ h

theorem appHeads_unb_of_inf (P : Params) (D : Nat) (forb : List String) (d : Nat) (ty : Ty)
    (h : Sym × List Ty) (hm : h ∈ appHeadsInf P forb ty) : h ∈ appHeads (unb P D) forb d ty := by
  rw [mem_appHeads_unb]
  rcases (mem_appHeadsInf P forb ty h).mp hm with h1 | ⟨iv, hiv, heq, hl, hf⟩ | h1
  · exact Or.inl h1
  · exact Or.inr (Or.inl ⟨iv, hiv, heq, endsWith_arguments _ _ _ heq hl, hf⟩)
  · exact Or.inr (Or.inr h1)

/-- second case: a variable of exactly the requested type, which `CFG.infinite` offers as a leaf -/
theorem appHeadsInf_of_unb (P : Params) (D : Nat) (forb : List String) (d : Nat) (ty : Ty)
    (h : Sym × List Ty) (hm : h ∈ appHeads (unb P D) forb d ty) :
    h ∈ appHeadsInf P forb ty ∨ (h.2 = [] ∧ h.1 ∈ leafSymsInf P forb ty) := by
  rw [mem_appHeadsInf]
  rcases (mem_appHeads_unb P D forb d ty h).mp hm with h1 | ⟨iv, hiv, heq, _, hf⟩ | h1
  · exact Or.inl (Or.inl h1)
  · by_cases hl : h.2.length > 0
    · exact Or.inl (Or.inr (Or.inl ⟨iv, hiv, heq, hl, hf⟩))
    · right
      have hnil : h.2 = [] := List.length_eq_zero_iff.mp (by omega)
      refine ⟨hnil, ?_⟩
      rw [hnil] at heq
      have hty := endsWith_nil _ _ heq
      rw [hf]
      unfold leafSymsInf
      apply List.mem_append_left
      apply List.mem_append_left
      apply List.mem_filterMap.mpr
      exact ⟨iv, hiv, by simp [hty]⟩
  · exact Or.inl (Or.inr (Or.inr h1))

theorem wtI_unfold (P : Params) (vis : Sym × Nat → Option (Sym × Nat)) (f : Sym) (kids : List Prog)
    (parent : Option (Sym × Nat)) (ty : Ty) :
    wtI P vis (.node f kids) parent ty =
      ((kids.isEmpty && (leafSymsInf P (forbAt P parent) ty).contains f) ||
       wtIHeads P vis kids f (appHeadsInf P (forbAt P parent) ty)) := by
  rw [wtI]; rfl

theorem wt_unfold (Q : Params) (vis : Sym × Nat → Option (Sym × Nat)) (f : Sym) (kids : List Prog)
    (d : Nat) (parent : Option (Sym × Nat)) (ty : Ty) :
    wt Q vis (.node f kids) d parent ty =
      (decide (d < Q.maxDepth) &&
        ((kids.isEmpty && (leafSyms Q (forbAt Q parent) d ty).contains f) ||
         (decide (d + 1 < Q.maxDepth) &&
          wtHeads Q vis kids (d + 1) f (appHeads Q (forbAt Q parent) d ty)))) := by
  rw [wt]; rfl

theorem wtIHeads_iff (P : Params) (vis : Sym × Nat → Option (Sym × Nat)) (kids : List Prog) (f : Sym)
    (hs : List (Sym × List Ty)) :
    wtIHeads P vis kids f hs = true ↔ ∃ h ∈ hs, h.1 = f ∧ wtIList P vis kids f 0 h.2 = true := by
  simp only [wtIHeads, List.any_eq_true, Bool.and_eq_true, beq_iff_eq]

theorem wtHeads_iff (Q : Params) (vis : Sym × Nat → Option (Sym × Nat)) (kids : List Prog) (d : Nat) (f : Sym)
    (hs : List (Sym × List Ty)) :
    wtHeads Q vis kids d f hs = true ↔ ∃ h ∈ hs, h.1 = f ∧ wtList Q vis kids d f 0 h.2 = true := by
  simp only [wtHeads, List.any_eq_true, Bool.and_eq_true, beq_iff_eq]

theorem wtIList_nil_right (P : Params) (vis : Sym × Nat → Option (Sym × Nat)) (kids : List Prog)
    (f : Sym) (i : Nat) : wtIList P vis kids f i [] = kids.isEmpty := by
  cases kids <;> simp [wtIList]

theorem wtList_nil_right (Q : Params) (vis : Sym × Nat → Option (Sym × Nat)) (kids : List Prog)
    (d : Nat) (f : Sym) (i : Nat) : wtList Q vis kids d f i [] = kids.isEmpty := by
  cases kids <;> simp [wtList]

/-- the list companions of `wt` and `wtI` run in step: a relation between Booleans that `&&` respects carries over
    from the children to the lists (used with `→` in either direction) -/
theorem wtList_rel (R : Bool → Bool → Prop) (hand : ∀ {a b c d}, R a b → R c d → R (a && c) (b && d))
    (ht : R true true) (hf : R false false)
    (P Q : Params) (vis : Sym × Nat → Option (Sym × Nat)) (d : Nat) (f : Sym) (kids : List Prog)
    (hk : ∀ k ∈ kids, ∀ parent ty, R (wt Q vis k d parent ty) (wtI P vis k parent ty)) :
    ∀ (tys : List Ty) (i : Nat), R (wtList Q vis kids d f i tys) (wtIList P vis kids f i tys) := by
  induction kids with
  | nil => intro tys i; cases tys <;> [exact ht; exact hf]
  | cons k ks ih =>
    intro tys i
    cases tys with
    | nil => exact hf
    | cons a as =>
      rw [wtList, wtIList]
      exact hand (hk k List.mem_cons_self _ _) (ih (fun k' hk' => hk k' (List.mem_cons_of_mem _ hk')) as (i + 1))

theorem wtIList_of_wtList (P Q : Params) (vis : Sym × Nat → Option (Sym × Nat)) (d : Nat) (f : Sym)
    (kids : List Prog)
    (hk : ∀ k ∈ kids, ∀ parent ty, wt Q vis k d parent ty = true → wtI P vis k parent ty = true) :
    ∀ (tys : List Ty) (i : Nat), wtList Q vis kids d f i tys = true → wtIList P vis kids f i tys = true :=
  wtList_rel (fun a b => a = true → b = true)
    (fun h1 h2 h => Bool.and_eq_true_iff.mpr ⟨h1 (Bool.and_eq_true_iff.mp h).1, h2 (Bool.and_eq_true_iff.mp h).2⟩)
    id id P Q vis d f kids hk

theorem wtList_of_wtIList (P Q : Params) (vis : Sym × Nat → Option (Sym × Nat)) (d : Nat) (f : Sym)
    (kids : List Prog)
    (hk : ∀ k ∈ kids, ∀ parent ty, wtI P vis k parent ty = true → wt Q vis k d parent ty = true) :
    ∀ (tys : List Ty) (i : Nat), wtIList P vis kids f i tys = true → wtList Q vis kids d f i tys = true :=
  wtList_rel (fun a b => b = true → a = true)
    (fun h1 h2 h => Bool.and_eq_true_iff.mpr ⟨h1 (Bool.and_eq_true_iff.mp h).1, h2 (Bool.and_eq_true_iff.mp h).2⟩)
    id id P Q vis d f kids hk
theorem wtI_of_wt_unb (P : Params) (D : Nat) (vis : Sym × Nat → Option (Sym × Nat)) (t : Prog) :
    ∀ d parent ty, wt (unb P D) vis t d parent ty = true → wtI P vis t parent ty = true := by
  induction t using Tree.ind with
  | node f kids ih =>
      intro d parent ty h
      rw [wt_unfold] at h
      rw [wtI_unfold]
      have hforb : forbAt (unb P D) parent = forbAt P parent := rfl
      simp only [Bool.and_eq_true, Bool.or_eq_true, decide_eq_true_eq, hforb, leafSyms_unb] at h
      simp only [Bool.or_eq_true, Bool.and_eq_true]
      rcases h.2 with hleaf | ⟨_, hheads⟩
      · exact Or.inl hleaf
      · obtain ⟨hd, hhd, hf, hl⟩ := (wtHeads_iff ..).mp hheads
        have hl' := wtIList_of_wtList P (unb P D) vis (d + 1) f kids (fun k hk => ih k hk (d + 1)) hd.2 0 hl
        rcases appHeadsInf_of_unb P D _ d ty hd hhd with hin | ⟨hnil, hleaf⟩
        · exact Or.inr ((wtIHeads_iff ..).mpr ⟨hd, hin, hf, hl'⟩)
        · left
          rw [hnil, wtIList_nil_right] at hl'
          refine ⟨hl', ?_⟩
          rw [← hf]
          simpa using hleaf

theorem wt_unb_of_wtI (P : Params) (vis : Sym × Nat → Option (Sym × Nat)) (t : Prog) :
    ∀ d D parent ty, d + t.depth < D →
      wtI P vis t parent ty = true → wt (unb P D) vis t d parent ty = true := by
  induction t using Tree.ind with
  | node f kids ih =>
      intro d D parent ty hD h
      rw [wtI_unfold] at h
      rw [wt_unfold]
      have hforb : forbAt (unb P D) parent = forbAt P parent := rfl
      have hmax : (unb P D).maxDepth = D := rfl
      rw [Tree.depth] at hD
      simp only [Bool.or_eq_true, Bool.and_eq_true] at h
      simp only [Bool.and_eq_true, Bool.or_eq_true, decide_eq_true_eq, hforb, leafSyms_unb, hmax]
      refine ⟨Nat.lt_of_le_of_lt (Nat.le_add_right d _) hD, ?_⟩
      rcases h with hleaf | hheads
      · exact Or.inl hleaf
      · right
        refine ⟨Nat.lt_of_le_of_lt (Nat.add_le_add_left (Nat.le_add_right 1 _) d) hD, ?_⟩
        obtain ⟨hd, hhd, hf, hl⟩ := (wtIHeads_iff ..).mp hheads
        have hkids : ∀ k ∈ kids, ∀ parent ty, wtI P vis k parent ty = true →
            wt (unb P D) vis k (d + 1) parent ty = true := by
          intro k hk parent' ty' hw
          refine ih k hk (d + 1) D parent' ty' (Nat.lt_of_le_of_lt ?_ hD) hw
          rw [Nat.add_assoc]
          exact Nat.add_le_add_left (Nat.add_le_add_left (Tree.depth_le_depthList hk) 1) d
        have hl' := wtList_of_wtIList P (unb P D) vis (d + 1) f kids hkids hd.2 0 hl
        exact (wtHeads_iff ..).mpr ⟨hd, appHeads_unb_of_inf P D _ d ty hd hhd, hf, hl'⟩

theorem wtI_iff_exists_depth (P : Params) (vis : Sym × Nat → Option (Sym × Nat)) (t : Prog)
    (parent : Option (Sym × Nat)) (ty : Ty) :
    wtI P vis t parent ty = true ↔ ∃ D, wt (unb P D) vis t 0 parent ty = true := by
  constructor
  · intro h
    exact ⟨t.depth + 1, wt_unb_of_wtI P vis t 0 _ parent ty (by omega) h⟩
  · rintro ⟨D, h⟩
    exact wtI_of_wt_unb P D vis t 0 parent ty h

end PS.G
