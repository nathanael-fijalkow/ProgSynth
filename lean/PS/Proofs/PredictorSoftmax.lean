/-
  C19: the weights written in closed form in the raw tensor.

  `__normalize__` over consecutive slices subtracts one constant (the log-sum-exp of the slice)
  inside every slice (`normalize_inside`) and changes nothing else (`normalize_outside`).  Hence, in
  the deterministic layer, the weight of a primitive rule is the re-normalised softmax of the raw
  tensor entries at the positions `posOf` (`tagEntryDet_raw`); the same holds per alternative in the
  unambiguous layer, with the weights of the alternatives of variables and constants
  (`tagEntryU_raw`); and the start tags are the softmax of the raw tail of the tensor
  (`startTagsU_closed`).
-/
import PS.Proofs.PredictorIndex
import PS.Proofs.Worklist
namespace PS.Predictor
open PS
set_option linter.unusedSectionVars false
set_option linter.unusedSimpArgs false

noncomputable def rawAt (L : Layer) (x : List ℝ) (S : NT) (P : DP) : ℝ :=
  match posOf L S P with
  | some p => x.getD p 0
  | none => 0

theorem getElem?_append_map_append {α : Type} (a b c : List α) (f : α → α) (j : ℕ) :
    (a ++ b.map f ++ c)[j]?
      = ((a ++ b ++ c)[j]?).map (fun v => if a.length ≤ j ∧ j < a.length + b.length then f v else v) := by
  simp only [List.append_assoc, List.getElem?_append, List.length_map, List.getElem?_map]
  by_cases h1 : j < a.length
  · simp only [h1, if_true, show ¬ a.length ≤ j by omega, false_and, if_false, Option.map_id']
  · by_cases h2 : j - a.length < b.length
    · simp only [h1, h2, if_false, if_true, show a.length ≤ j ∧ j < a.length + b.length by omega, and_self]
    · simp only [h1, h2, if_false, show ¬ (a.length ≤ j ∧ j < a.length + b.length) by omega, Option.map_id']

theorem getElem?_setSlice_map (x : List ℝ) (s l : ℕ) (f : ℝ → ℝ) (j : ℕ) :
    (setSlice x s ((slice x s l).map f))[j]?
      = (x[j]?).map (fun a => if s ≤ j ∧ j < s + l then f a else a) := by
  -- `x` is `x[:s] ++ x[s:s+l] ++ x[s+l:]`, and the assignment maps the middle part
  have hset : setSlice x s ((slice x s l).map f) = x.take s ++ ((x.drop s).take l).map f ++ (x.drop s).drop l := by
    unfold setSlice slice
    congr 1
    rw [List.drop_drop, List.length_map, List.length_take, List.length_drop]
    by_cases h : l ≤ x.length - s
    · rw [min_eq_left h]
    · rw [List.drop_eq_nil_of_le (by omega), List.drop_eq_nil_of_le (by omega)]
  have hx : x.take s ++ (x.drop s).take l ++ (x.drop s).drop l = x := by
    rw [List.append_assoc, List.take_append_drop, List.take_append_drop]
  rw [hset, getElem?_append_map_append, hx]
  cases hj : x[j]? with
  | none => rfl
  | some v =>
    have := (List.getElem?_eq_some_iff.mp hj).1
    simp only [Option.map_some, List.length_take, List.length_drop]
    congr 2
    exact propext ⟨fun h => by omega, fun h => by omega⟩

theorem logSoftmax_eq (ys : List ℝ) :
    logSoftmax ys = ys.map (fun a => a - Real.log ((ys.map Real.exp).sum)) := by
  unfold logSoftmax
  simp only [sumL_eq, log_real]
  rfl

theorem normalize_cons (e : Abs × ℕ × ℕ × AList DP ℕ) (rest : AList Abs (ℕ × ℕ × AList DP ℕ)) (x : List ℝ) :
    normalize (e :: rest) x = normalize rest (setSlice x e.2.1 (logSoftmax (slice x e.2.1 e.2.2.1))) := rfl

theorem normalize_outside (idx : AList Abs (ℕ × ℕ × AList DP ℕ)) (x : List ℝ) (j : ℕ)
    (h : ∀ e ∈ idx, ¬ (e.2.1 ≤ j ∧ j < e.2.1 + e.2.2.1)) : (normalize idx x)[j]? = x[j]? := by
  induction idx generalizing x with
  | nil => rfl
  | cons e rest ih =>
    rw [normalize_cons, ih _ fun e' he' => h e' (List.mem_cons_of_mem _ he'), logSoftmax_eq, getElem?_setSlice_map]
    simp only [if_neg (h e List.mem_cons_self), Option.map_id']

/-- Inside a slice one constant is subtracted: the slices are disjoint, so a position is written once. -/
theorem normalize_inside {idx : AList Abs (ℕ × ℕ × AList DP ℕ)}
    (hp : idx.Pairwise fun e e' => e.2.1 + e.2.2.1 ≤ e'.2.1) (x : List ℝ) :
    ∀ e ∈ idx, ∃ c : ℝ, ∀ j, e.2.1 ≤ j → j < e.2.1 + e.2.2.1 → (normalize idx x)[j]? = (x[j]?).map (· - c) := by
  induction idx generalizing x with
  | nil => exact fun _ he => nomatch he
  | cons e0 rest ih =>
    obtain ⟨after, hp⟩ := List.pairwise_cons.mp hp
    intro e he
    rw [normalize_cons, logSoftmax_eq]
    rcases List.mem_cons.mp he with rfl | he
    · refine ⟨Real.log ((slice x e.2.1 e.2.2.1).map Real.exp).sum, fun j h1 h2 => ?_⟩
      rw [normalize_outside rest _ j fun e' he' h => by have := after e' he'; omega, getElem?_setSlice_map]
      simp only [if_pos (And.intro h1 h2)]
    · obtain ⟨c, hcj⟩ := ih hp _ e he
      refine ⟨c, fun j h1 h2 => ?_⟩
      have := after e he
      rw [hcj j h1 h2, getElem?_setSlice_map]
      simp only [if_neg (show ¬ (e0.2.1 ≤ j ∧ j < e0.2.1 + e0.2.2.1) by omega), Option.map_id']

theorem slice_getElem? (x : List ℝ) (s l i : ℕ) :
    (slice x s l)[i]? = if i < l then x[s + i]? else none := by
  unfold slice
  rw [List.getElem?_take, List.getElem?_drop]

theorem normalize_tail (idx : AList Abs (ℕ × ℕ × AList DP ℕ)) (x : List ℝ) (hc : Consec 0 idx) (j : ℕ)
    (hj : (idx.map (fun e => e.2.2.1)).sum ≤ j) : (normalize idx x)[j]? = x[j]? :=
  normalize_outside idx x j fun e he h => by have := (hc.bounds e he).2; omega

theorem sum_map_exp_sub {β : Type} (l : List β) (w g : β → ℝ) (c : ℝ) :
    (l.map (fun r => w r * Real.exp (g r - c))).sum = Real.exp (-c) * (l.map (fun r => w r * Real.exp (g r))).sum := by
  rw [← List.sum_map_mul_left]
  refine congrArg List.sum (List.map_congr_left fun r _ => ?_)
  rw [sub_eq_add_neg, Real.exp_add]; ring

/-- Every entry the first loop reads from a slice of the normalised tensor is the raw entry at
    `posOf` minus the constant of the slice. -/
theorem yAt_normalize (L : Layer) (x : List ℝ) (hc : Consec 0 L.abs2index) {S : NT} {key : Abs} {start length : ℕ}
    {sym : AList DP ℕ} (h1 : AList.lookup S L.real2abs = some key)
    (h2 : AList.lookup key L.abs2index = some (start, length, sym)) :
    ∃ c : ℝ, ∀ P i, AList.lookup P sym = some i →
      (slice (normalize L.abs2index x) start length)[i]?
        = some (yAt sym (slice (normalize L.abs2index x) start length) P) →
      (∃ pos, posOf L S P = some pos ∧ pos < x.length)
        ∧ yAt sym (slice (normalize L.abs2index x) start length) P = rawAt L x S P - c := by
  obtain ⟨c, hcj⟩ := normalize_inside hc.pairwise x _ (AList.lookup_some_mem h2)
  refine ⟨c, fun P i hs hy => ?_⟩
  have hpos := posOf_eq h1 h2 hs
  rw [slice_getElem?] at hy
  split at hy
  · rw [hcj (start + i) (by simp) (by simp only; omega)] at hy
    obtain ⟨xi, hxi, hti⟩ := Option.map_eq_some_iff.mp hy
    exact ⟨⟨_, hpos, (List.getElem?_eq_some_iff.mp hxi).1⟩, by rw [← hti, rawAt, hpos]; simp [List.getD, hxi]⟩
  · cases hy

/-- the slice-wide constant of the log-softmax cancels in the re-normalised softmax -/
theorem softmax_cancel {cc raw c R M : ℝ} (hcc : 0 < cc) (hM : 0 < M) (hMR : M = Real.exp (-c) * R) :
    Real.exp (raw - c + Real.log (cc / M)) = cc * Real.exp raw / R := by
  have hR : R ≠ 0 := fun h => by rw [hMR, h, mul_zero] at hM; exact lt_irrefl _ hM
  have hc : Real.exp (-c) ≠ 0 := (Real.exp_pos _).ne'
  rw [Real.exp_add, Real.exp_log (div_pos hcc hM), hMR, sub_eq_add_neg, Real.exp_add]
  field_simp

theorem mass_map_shift (ks : List DP) (y r : DP → ℝ) (c : ℝ) (h : ∀ Q ∈ ks, y Q = r Q - c) :
    mass (fun _ => true) (ks.map fun P => (P, y P)) = Real.exp (-c) * (ks.map fun Q => Real.exp (r Q)).sum := by
  rw [← List.sum_map_mul_left]
  simp only [mass, wsum, List.map_map, Function.comp_def, if_true]
  refine congrArg List.sum (List.map_congr_left fun Q hQ => ?_)
  rw [h Q hQ, sub_eq_add_neg, Real.exp_add, mul_comm]

theorem tagEntryDet_raw (L : Layer) (hc : Consec 0 L.abs2index) (v ε : ℝ) (tvo : Bool) (x : List ℝ)
    (e : NT × AList DP (List NT)) (t : NT × AList DP ℝ)
    (h : tagEntryDet L v ε tvo (normalize L.abs2index x) e = some t) (hnd : (AList.keys e.2).Nodup)
    (hv1 : v < 1) :
    ∀ P ∈ AList.keys e.2, P.kind = .prim →
      ∃ pos tag, posOf L e.1 P = some pos ∧ pos < x.length ∧ AList.lookup P t.2 = some tag
        ∧ Real.exp tag = (if countKind .var e.2 + countKind .const e.2 = 0 then 1 else 1 - v)
            * Real.exp (rawAt L x e.1 P)
            / (((AList.keys e.2).filter (kindIs .prim)).map (fun Q => Real.exp (rawAt L x e.1 Q))).sum := by
  obtain ⟨key, start, length, sym, h1, h2, hP⟩ := tagEntryDet_prim h hnd
  obtain ⟨c, hcs⟩ := yAt_normalize L x hc h1 h2
  have hall : ∀ Q ∈ AList.keys e.2, Q.kind = .prim → (∃ pos, posOf L e.1 Q = some pos ∧ pos < x.length)
      ∧ yAt sym (slice (normalize L.abs2index x) start length) Q = rawAt L x e.1 Q - c := fun Q hQ hk => by
    obtain ⟨i, hs, -, hyi, -⟩ := hP Q hQ hk
    exact hcs Q i hs hyi
  have hmass := mass_map_shift ((AList.keys e.2).filter (kindIs .prim)) _ (rawAt L x e.1) c fun Q hQ =>
    (hall Q (List.mem_filter.mp hQ).1 (kindIs_iff.mp (List.mem_filter.mp hQ).2)).2
  intro P hP' hk
  obtain ⟨⟨pos, hpos, hlen⟩, hy⟩ := hall P hP' hk
  obtain ⟨i', -, -, -, htag⟩ := hP P hP' hk
  refine ⟨pos, _, hpos, hlen, htag, ?_⟩
  rw [hy]
  exact softmax_cancel (by split; exacts [one_pos, sub_pos.mpr hv1]) (mass_true_pos (List.map_eq_nil_iff.not.mpr
    (List.ne_nil_of_mem (List.mem_filter.mpr ⟨hP', kindIs_iff.mpr hk⟩)))) hmass

theorem innerLookup_some {T : TagsU} {P : DP} {k : Alt} {t : ℝ} (h : innerLookup T P k = some t) :
    ∃ d, AList.lookup P T = some d ∧ AList.lookup k d = some t := by
  unfold innerLookup at h
  cases hl : AList.lookup P T with
  | none => rw [hl] at h; simp [AList.lookup] at h
  | some d => rw [hl] at h; exact ⟨d, rfl, h⟩

theorem massU'_shift (sym : AList DP ℕ) (y : List ℝ) (rows : List (DP × List Alt)) (r : DP → ℝ) (c : ℝ)
    (h : ∀ row ∈ rows, row.1.kind = .prim → row.2 ≠ [] → yAt sym y row.1 = r row.1 - c) :
    massU' (fun _ => true) (rows.map fun row => (row.1, altTags sym y row.1 row.2))
      = Real.exp (-c) * ((rows.filter fun row => kindIs .prim row.1).map
          fun row => (row.2.length : ℝ) * Real.exp (r row.1)).sum := by
  rw [massU'_rows, ← sum_map_exp_sub]
  simp only [if_true]
  refine congrArg List.sum (List.map_congr_left fun row hr => ?_)
  obtain ⟨hr1, hr2⟩ := List.mem_filter.mp hr
  by_cases hne : row.2 = []
  · simp [hne]
  · rw [h row hr1 (kindIs_iff.mp hr2) hne]

theorem tagEntryU_raw (L : Layer) (hc : Consec 0 L.abs2index) (v ε : ℝ) (tvo : Bool) (x : List ℝ)
    (e : NT × AList DP (List Alt)) (t : NT × TagsU)
    (h : tagEntryU L v ε tvo (normalize L.abs2index x) e = some t)
    (hv0 : 0 < v) (hv1 : v < 1) (hε : 0 ≤ ε) (hnd : (AList.keys e.2).Nodup)
    (halts : ∀ r ∈ e.2, r.2.Nodup) :
    (∀ r ∈ e.2, r.1.kind = .prim → ∀ k ∈ r.2,
      ∃ pos tag, posOf L e.1 r.1 = some pos ∧ pos < x.length ∧ innerLookup t.2 r.1 k = some tag
        ∧ Real.exp tag = (if countKind .var e.2 + countKind .const e.2 = 0 then 1 else 1 - v)
            * Real.exp (rawAt L x e.1 r.1)
            / ((e.2.filter (fun r => kindIs .prim r.1)).map
                (fun r => (r.2.length : ℝ) * Real.exp (rawAt L x e.1 r.1))).sum)
    ∧ (0 < countAlts .var e.2 + countAlts .const e.2 →
        hypEps v ε tvo (decide (0 < countAlts .prim e.2)) (countAlts .var e.2) (countAlts .const e.2) = true →
        (∀ j (hj : j < (pairsOf (e.2.filter (fun p => kindIs .var p.1))).length), ∃ tag,
            innerLookup t.2 (pairsOf (e.2.filter (fun p => kindIs .var p.1)))[j].1
              (pairsOf (e.2.filter (fun p => kindIs .var p.1)))[j].2 = some tag
            ∧ Real.exp tag = (if 0 < countAlts .prim e.2 then v else 1)
                  / ((countAlts .var e.2 : ℝ) + countAlts .const e.2) - j * eff tvo ε)
        ∧ (∀ q ∈ pairsOf (e.2.filter (fun p => kindIs .const p.1)), ∃ tag,
            innerLookup t.2 q.1 q.2 = some tag
            ∧ Real.exp tag = (if 0 < countAlts .prim e.2 then v else 1)
                  / ((countAlts .var e.2 : ℝ) + countAlts .const e.2) - (countAlts .var e.2 : ℝ) * eff tvo ε)) := by
  refine ⟨?_, fun hmc hhyp => ⟨(tagEntryU_vars h hv0 hv1 hε hnd halts hmc hhyp).1,
    (tagEntryU_vars h hv0 hv1 hε hnd halts hmc hhyp).2.1⟩⟩
  obtain ⟨key, start, length, sym, h1, h2, hy, rfl⟩ := tagEntryU_some h hnd halts
  obtain ⟨c, hcs⟩ := yAt_normalize L x hc h1 h2
  set y := slice (normalize L.abs2index x) start length
  have hall : ∀ r ∈ e.2, r.1.kind = .prim → r.2 ≠ [] → (∃ pos, posOf L e.1 r.1 = some pos ∧ pos < x.length)
      ∧ yAt sym y r.1 = rawAt L x e.1 r.1 - c := fun r hr hk hne => by
    obtain ⟨i, hs, hyi⟩ := hy r hr hk hne
    exact hcs r.1 i hs hyi
  have hmass := massU'_shift sym y e.2 (rawAt L x e.1) c fun r hr hk hne => (hall r hr hk hne).2
  intro r hr hk k hkm
  have hne : r.2 ≠ [] := List.ne_nil_of_mem hkm
  obtain ⟨⟨pos, hpos, hlen⟩, hyr⟩ := hall r hr hk hne
  have hMpos : 0 < massU' (fun _ => true) (e.2.map (fun r => (r.1, altTags sym y r.1 r.2))) :=
    (altTags_mass sym y e.2).1.mpr ((countAlts_pos_iff .prim e.2).mpr ⟨r, hr, hk, hne⟩)
  have htag := tagNTU_lookup_prim v ε tvo _ (e.2.filter (fun p => kindIs .var p.1))
    (e.2.filter (fun p => kindIs .const p.1)) hMpos (r.1, k) (fun hmem => by
      obtain ⟨_, hfr⟩ := varsConstsU_fresh hnd halts sym y
      exact (hfr _ hmem).1 hk)
  have hget : innerLookup (e.2.map (fun r => (r.1, altTags sym y r.1 r.2))) r.1 k = some (yAt sym y r.1) := by
    rw [innerLookup, AList.lookup_map_val (altTags sym y), AList.lookup_of_mem_nodup hnd hr]
    simp [altTags, hk, lookup_map_graph, hkm]
  rw [hget, ← countKind_eq, ← countKind_eq, hyr] at htag
  refine ⟨pos, _, hpos, hlen, htag, softmax_cancel (by split; exacts [one_pos, sub_pos.mpr hv1]) hMpos hmass⟩

theorem normalize_drop (idx : AList Abs (ℕ × ℕ × AList DP ℕ)) (x : List ℝ) (hc : Consec 0 idx) (n : ℕ)
    (hn : (idx.map (fun e => e.2.2.1)).sum ≤ n) : (normalize idx x).drop n = x.drop n := by
  apply List.ext_getElem?
  intro j
  simp only [List.getElem?_drop]
  exact normalize_tail idx x hc (n + j) (by omega)

theorem startTagsU_normalize (L : Layer) (starts : List NT) (x : List ℝ) (hc : Consec 0 L.abs2index)
    (hn : (L.abs2index.map (fun e => e.2.2.1)).sum ≤ L.outputSize - L.allStartsAbs.length) :
    startTagsU L starts (normalize L.abs2index x) = startTagsU L starts x := by
  unfold startTagsU
  rw [normalize_drop L.abs2index x hc _ hn]

/-- `if S in grammar.starts: start_tags[S] = z[i]` -/
def startInner (starts : List NT) (zj : Option ℝ) (acc : Option (AList NT ℝ)) (S : NT) : Option (AList NT ℝ) :=
  match acc with
  | none => none
  | some d => if S ∈ starts then
      match zj with
      | none => none
      | some t => some (d.insert S t)
    else some d

/-- `for S in abs2real[abs]: …` -/
def startOuter (L : Layer) (starts : List NT) (z : List ℝ) (acc : Option (AList NT ℝ)) (ai : Abs × ℕ) :
    Option (AList NT ℝ) :=
  match acc with
  | none => none
  | some d => ((L.abs2real.lookup ai.1).getD []).foldl (startInner starts z[ai.2]?) (some d)

/-- the table `start_tags` before its normalisation (u 255-261), `z` = tail of the tensor -/
def startRawU (L : Layer) (starts : List NT) (z : List ℝ) : Option (AList NT ℝ) :=
  L.allStartsAbs.zipIdx.foldl (startOuter L starts z) (some [])

theorem startTagsU_eq (L : Layer) (starts : List NT) (x : List ℝ) :
    startTagsU L starts x =
      match startRawU L starts (x.drop (L.outputSize - L.allStartsAbs.length)) with
      | none => none
      | some d =>
        some (d.map (fun e => (e.1, e.2 + Real.log (1 / (d.map (fun e => Real.exp e.2)).sum)))) := by
  unfold startTagsU startRawU
  simp only [sumL_eq, log_real, ofNat_real, Nat.cast_one, exp_real]
  unfold startOuter startInner
  congr! <;> (funext _ o _ _; cases o <;> rfl)

/-- where every entry of the raw start table comes from -/
def StartFrom (L : Layer) (starts : List NT) (z : List ℝ) (d : AList NT ℝ) : Prop :=
  ∀ (S : NT) (t : ℝ), AList.lookup S d = some t →
    S ∈ starts ∧ ∃ (j : ℕ) (a : Abs), L.allStartsAbs[j]? = some a ∧ S ∈ (L.abs2real.lookup a).getD [] ∧ z[j]? = some t

/-- `StartFrom` is an invariant of the two nested loops. -/
theorem startRawU_from (L : Layer) (starts : List NT) (z : List ℝ) (d : AList NT ℝ)
    (h : startRawU L starts z = some d) : StartFrom L starts z d := by
  refine foldl_inv (fun o => ∀ d, o = some d → StartFrom L starts z d) (startOuter L starts z) _
    (fun o ho ai hai d1 h1 => ?_) (some []) (fun d e S t hl => by cases e; cases hl) d h
  cases o with
  | none => cases h1
  | some d0 =>
    have ha : L.allStartsAbs[ai.2]? = some ai.1 := by simpa using List.mem_zipIdx_iff_getElem?.mp hai
    refine foldl_inv (fun o => ∀ d, o = some d → StartFrom L starts z d) (startInner starts z[ai.2]?) _
      (fun o ho S hS d2 h2 => ?_) (some d0) ho d1 h1
    cases o with
    | none => cases h2
    | some d =>
      simp only [startInner] at h2
      split at h2
      · rename_i hst
        split at h2; · cases h2
        rename_i t hz
        cases h2
        intro S' t' hl
        rw [AList.lookup_insert] at hl
        split at hl
        · rename_i hSS
          cases hl
          exact ⟨hSS ▸ hst, ai.2, ai.1, ha, hSS ▸ hS, hz⟩
        · exact ho d rfl S' t' hl
      · exact ho d2 h2

theorem startTagsU_closed (L : Layer) (starts : List NT) (x : List ℝ) (st : AList NT ℝ)
    (h : startTagsU L starts x = some st) :
    ∃ d, startRawU L starts (x.drop (L.outputSize - L.allStartsAbs.length)) = some d
      ∧ AList.keys st = AList.keys d
      ∧ ∀ S t, AList.lookup S d = some t → ∃ tag, AList.lookup S st = some tag
          ∧ Real.exp tag = Real.exp t / (d.map (fun e => Real.exp e.2)).sum := by
  rw [startTagsU_eq] at h
  split at h; · cases h
  rename_i d hd
  cases h
  refine ⟨d, hd, by simp [AList.keys, List.map_map, Function.comp_def], fun S t hl => ?_⟩
  refine ⟨t + Real.log (1 / (d.map (fun e => Real.exp e.2)).sum), ?_, ?_⟩
  · rw [AList.lookup_map_val (fun _ (t : ℝ) => t + Real.log (1 / (d.map (fun e => Real.exp e.2)).sum)) S d, hl]; rfl
  · have hpos : 0 < (d.map (fun e : NT × ℝ => Real.exp e.2)).sum :=
      wsum_pos (g := fun _ t => Real.exp t) (fun _ _ => Real.exp_pos _) (List.ne_nil_of_mem (AList.lookup_some_mem hl))
    rw [Real.exp_add, Real.exp_log (by positivity)]
    field_simp

theorem tagEntryDet_fst (L : Layer) (v ε : ℝ) (tvo : Bool) (x : List ℝ)
    (e : NT × AList DP (List NT)) (t : NT × AList DP ℝ) (h : tagEntryDet L v ε tvo x e = some t) : t.1 = e.1 := by
  revert h
  fun_cases tagEntryDet L v ε tvo x e <;> intro h <;> cases h
  rfl

theorem tagEntryU_fst (L : Layer) (v ε : ℝ) (tvo : Bool) (x : List ℝ)
    (e : NT × AList DP (List Alt)) (t : NT × TagsU) (h : tagEntryU L v ε tvo x e = some t) : t.1 = e.1 := by
  revert h
  fun_cases tagEntryU L v ε tvo x e <;> intro h <;> cases h
  rfl

theorem mkLayerU_consec {ρ : Type} (abstraction : NT → Abs) (iter : Abs → List DP → List DP)
    (grammars : List (AList NT (AList DP ρ) × List NT)) :
    Consec 0 (mkLayerU abstraction iter grammars).abs2index
    ∧ ((mkLayerU abstraction iter grammars).abs2index.map (fun e => e.2.2.1)).sum
        ≤ (mkLayerU abstraction iter grammars).outputSize - (mkLayerU abstraction iter grammars).allStartsAbs.length := by
  rw [abs2index_eq]
  refine ⟨sliceTable_consec iter _ 0, ?_⟩
  rw [sliceTable_lens]
  have := (mkLayerU_fields abstraction iter grammars).2.2.2
  have h3 := (mkLayerU_fields abstraction iter grammars).2.2.1
  rw [this, h3]
  omega

end PS.Predictor
