/-
  C13: the three loops of ttcfg.py (`__saturation_build__`, the reachability pass and the inner
  pass of `clean`) have one shape: a stack of pending entries; the last one is popped and treated,
  which changes the state and appends entries.  `wloop` is that shape with the list read the other
  way round: the head of `x :: todo` is the top of the stack (the last element of the Python list),
  and the entries `ps` the body returns in the order of the Python `append`s are pushed as
  `ps.reverse ++ todo`.  It is the stack instance of `gloop` (PS/Proofs/Worklist.lean); `satLoop`,
  `reachLoop` and `passLoop` are instances of it (`satLoop_eq`, `reachLoop_eq`, `passLoop_eq`), which is how
  their fuel is treated: `wloop_mono` here (more fuel, same result; used for `satLoop`) and
  `wloop_terminates` (a rank on the entries bounds the iterations; used for all three), which stands in
  TtcfgBuildTerm.lean beside `satBound`, the bound it is stated with.  What holds of a result is proved
  along the clauses of each loop itself (`fun_induction`).
-/
import PS.Model.Ttcfg
import PS.Proofs.Worklist
namespace PS.T

variable {α σ : Type}

def stackStep (body : α → σ → Res (List α × σ)) (x : α) (todo : List α) (s : σ) : Res σ ⊕ (List α × σ) :=
  match body x s with
  | .ok (ps, s') => .inr (ps.reverse ++ todo, s')
  | .fuel => .inl .fuel
  | .keyError => .inl .keyError

def wloop (body : α → σ → Res (List α × σ)) : Nat → List α → σ → Res σ := gloop .fuel .ok (stackStep body)

theorem wloop_nil (body : α → σ → Res (List α × σ)) (fuel : Nat) (s : σ) : wloop body fuel [] s = .ok s :=
  gloop_nil ..

theorem wloop_zero (body : α → σ → Res (List α × σ)) (x : α) (todo : List α) (s : σ) :
    wloop body 0 (x :: todo) s = .fuel := rfl

theorem wloop_cons (body : α → σ → Res (List α × σ)) (fuel : Nat) (x : α) (todo : List α) (s : σ) :
    wloop body (fuel + 1) (x :: todo) s =
      match body x s with
      | .ok (ps, s') => wloop body fuel (ps.reverse ++ todo) s'
      | .fuel => .fuel
      | .keyError => .keyError := by
  unfold wloop
  rw [gloop, stackStep]
  cases body x s <;> rfl

theorem wloop_mono (body : α → σ → Res (List α × σ)) (extra : Nat) (fuel : Nat) (todo : List α) (s r : σ)
    (h : wloop body fuel todo s = .ok r) : wloop body (fuel + extra) todo s = .ok r := by
  unfold wloop at h ⊢
  rw [gloop_mono _ _ _ extra fuel todo s (by rw [h]; nofun), h]

end PS.T
