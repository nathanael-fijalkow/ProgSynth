/- `optAll f xs`: `f` on every element of a list, all defined or nothing (Python: a comprehension whose body may raise).
   The models write this function out where they need it; each copy has a bridge `…_eq_optAll` beside its user, and the
   facts are proved here.  Core Lean only: the `List.Forall₂` form of `optAll_eq_some_iff_map` needs Mathlib and is
   `optAll_eq_some_iff` in Dfta.lean. -/
namespace PS
variable {α β γ : Type}

def optAll (f : α → Option β) : List α → Option (List β)
  | [] => some []
  | x :: xs => match f x, optAll f xs with
    | some y, some ys => some (y :: ys)
    | _, _ => none

theorem optAll_cons (f : α → Option β) (x : α) (xs : List α) :
    optAll f (x :: xs) = (f x).bind fun y => (optAll f xs).map (y :: ·) := by
  rw [optAll]; cases f x <;> cases optAll f xs <;> rfl

theorem optAll_cons_eq_some {f : α → Option β} {x : α} {xs : List α} {ys : List β} :
    optAll f (x :: xs) = some ys ↔ ∃ y ys', f x = some y ∧ optAll f xs = some ys' ∧ ys = y :: ys' := by
  rw [optAll_cons]
  cases f x <;> cases optAll f xs <;> simp [eq_comm]

theorem optAll_eq_some_iff_map {f : α → Option β} {xs : List α} {ys : List β} :
    optAll f xs = some ys ↔ xs.map f = ys.map some := by
  induction xs generalizing ys with
  | nil => cases ys <;> simp [optAll]
  | cons x xs ih =>
    rw [optAll_cons_eq_some]
    constructor
    · rintro ⟨y, ys', h1, h2, rfl⟩
      rw [List.map_cons, List.map_cons, h1, ih.mp h2]
    · intro h
      cases ys with
      | nil => cases h
      | cons y ys' =>
        rw [List.map_cons, List.map_cons, List.cons.injEq] at h
        exact ⟨y, ys', h.1, ih.mpr h.2, rfl⟩

theorem optAll_length {f : α → Option β} {xs : List α} {ys : List β} (h : optAll f xs = some ys) :
    ys.length = xs.length := by
  have := congrArg List.length (optAll_eq_some_iff_map.mp h)
  rw [List.length_map, List.length_map] at this
  exact this.symm

theorem optAll_congr (f g : α → Option β) (xs : List α) (h : ∀ x ∈ xs, f x = g x) :
    optAll f xs = optAll g xs := by
  induction xs with
  | nil => rfl
  | cons x xs ih =>
    rw [optAll_cons, optAll_cons, h x List.mem_cons_self, ih fun y hy => h y (List.mem_cons_of_mem _ hy)]

theorem optAll_map (f : β → Option γ) (g : α → β) (xs : List α) :
    optAll f (xs.map g) = optAll (fun x => f (g x)) xs := by
  induction xs with
  | nil => rfl
  | cons x xs ih => rw [List.map_cons, optAll_cons, optAll_cons, ih]

theorem optAll_comp_map (f : α → Option β) (h : β → γ) (xs : List α) :
    optAll (fun x => (f x).map h) xs = (optAll f xs).map (List.map h) := by
  induction xs with
  | nil => rfl
  | cons x xs ih => rw [optAll_cons, optAll_cons, ih]; cases f x <;> cases optAll f xs <;> rfl

theorem optAll_none_of_mem (f : α → Option β) (xs : List α) (x : α) (hx : x ∈ xs)
    (h : f x = none) : optAll f xs = none := by
  induction xs with
  | nil => cases hx
  | cons y ys ih =>
    rw [optAll_cons]
    rcases List.mem_cons.mp hx with e | e
    · rw [← e, h]; rfl
    · rw [ih e]; cases f y <;> rfl

theorem optAll_some (f : α → β) (xs : List α) :
    optAll (fun x => some (f x)) xs = some (xs.map f) := by
  induction xs with
  | nil => rfl
  | cons x xs ih => rw [optAll_cons, ih]; rfl

theorem optAll_mem {f : α → Option β} {xs : List α} {ys : List β} (hf : optAll f xs = some ys) :
    ∀ y ∈ ys, ∃ x ∈ xs, f x = some y := by
  induction xs generalizing ys with
  | nil => cases hf; intro y hy; cases hy
  | cons x xs ih =>
    obtain ⟨y0, ys', h1, h2, rfl⟩ := optAll_cons_eq_some.mp hf
    intro y hy
    rcases List.mem_cons.mp hy with rfl | e
    · exact ⟨x, List.mem_cons_self, h1⟩
    · obtain ⟨x', hx', h'⟩ := ih h2 y e
      exact ⟨x', List.mem_cons_of_mem _ hx', h'⟩

theorem optAll_forall {f : α → Option β} {xs : List α} {ys : List β} {P : β → Prop}
    (hf : optAll f xs = some ys) (h : ∀ x ∈ xs, ∀ y, f x = some y → P y) : ∀ y ∈ ys, P y := fun y hy =>
  let ⟨x, hx, e⟩ := optAll_mem hf y hy
  h x hx y e

theorem optAll_mono {f g : α → Option β} {xs : List α} {ys : List β}
    (h : ∀ x ∈ xs, ∀ y ∈ ys, f x = some y → g x = some y) (hf : optAll f xs = some ys) :
    optAll g xs = some ys := by
  induction xs generalizing ys with
  | nil => exact hf
  | cons x xs ih =>
    obtain ⟨y, ys', h1, h2, rfl⟩ := optAll_cons_eq_some.mp hf
    exact optAll_cons_eq_some.mpr ⟨y, ys', h x List.mem_cons_self y List.mem_cons_self h1,
      ih (fun x' hx' y' hy' => h x' (List.mem_cons_of_mem _ hx') y' (List.mem_cons_of_mem _ hy')) h2, rfl⟩

/-! ### two options

   `optPair` is in the namespace `DFTA` because the automaton product states its result with it; the product of
   bounded grammars uses the same function. -/

namespace DFTA

def optPair {α β : Type} : Option α → Option β → Option (α × β)
  | some a, some b => some (a, b)
  | _, _ => none

theorem optPair_none_right {α β : Type} (x : Option α) : optPair x (none : Option β) = none := by
  cases x <;> rfl

theorem optPair_eq_some_iff {α β : Type} (x : Option α) (y : Option β) (p : α × β) :
    optPair x y = some p ↔ x = some p.1 ∧ y = some p.2 := by
  cases x <;> cases y <;> simp [optPair, Prod.ext_iff]

end DFTA

end PS
