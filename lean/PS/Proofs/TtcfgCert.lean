/-
  C13: the verified checker `subOK`.  A table accepted by it has exactly the language
  of the reference rule function it was checked against - for all programs.
  The checkers (`subOK` here, `closedOK` in TtcfgClean.lean) compute with `chain`; what a successful
  `chain` means is `ChainOk`, obtained once (`chainOk_of_chain`), and every proof about a certified
  table reasons on `ChainOk` (`mono`, `append`), not on the lists `chain` returns.
-/
import PS.Proofs.TtcfgRun
import PS.Proofs.AList
namespace PS.T
open PS PS.G

variable {S T : Type} [DecidableEq S] [DecidableEq T]

def rowsFn (rows : NT S T → Row S T) : RuleFn S T := fun nt P => AList.lookup P (rows nt)

omit [DecidableEq S] [DecidableEq T] in
theorem run_mono (ρ₁ ρ₂ : RuleFn S T) (h : ∀ nt P val, ρ₁ nt P = some val → ρ₂ nt P = some val)
    (t : Prog) (slot : Ty × S) (v w : T) (hr : run ρ₁ t slot v = some w) : run ρ₂ t slot v = some w :=
  ((run_within ρ₁ ρ₂ (fun _ _ => True) (fun _ _ _ _ _ _ _ _ h1 _ => ⟨h _ _ _ h1, fun _ _ _ _ => trivial⟩)).1
    t slot v w [] trivial hr).1

section AL
variable {κ ν : Type} [DecidableEq κ]

theorem keys_insert' (k : κ) (v : ν) (d : AList κ ν) :
    AList.keys (AList.insert k v d) = if AList.contains k d then AList.keys d else AList.keys d ++ [k] := by
  simp only [AList.keys_insert, AList.contains, AList.lookup_isSome_iff_mem_keys]

theorem nodup_insert' (k : κ) (v : ν) (d : AList κ ν) (h : (AList.keys d).Nodup) :
    (AList.keys (AList.insert k v d)).Nodup :=
  AList.keys_insert_nodup k v h

theorem contains_insert (k k' : κ) (v : ν) (d : AList κ ν) :
    AList.contains k' (AList.insert k v d) = (decide (k' = k) || AList.contains k' d) := by
  unfold AList.contains
  rw [AList.lookup_insert]
  by_cases h : k' = k <;> simp [h]

theorem forall_lookup_insert {Q : κ → ν → Prop} {k : κ} {v : ν} {d : AList κ ν}
    (hd : ∀ k' l, AList.lookup k' d = some l → Q k' l) (hv : Q k v) :
    ∀ k' l, AList.lookup k' (AList.insert k v d) = some l → Q k' l :=
  AList.forall_insert (fun k' l _ => hd k' l) hv

theorem insert_length_le (k : κ) (v : ν) : ∀ d : AList κ ν,
    (AList.insert k v d).length ≤ d.length + 1
  | [] => by simp [AList.insert]
  | (k2, v2) :: r => by
    by_cases h : k2 = k
    · simp [AList.insert, h]
    · have := insert_length_le k v r
      simp only [AList.insert, h, if_false, List.length_cons]
      omega

end AL

theorem chainStep_spec (G : TT S T) (outs : AList (NT S T) (List T)) (dead : List (NT S T)) (ok : NT S T → Bool)
    (a : Ty × S) (V V' : List T) (h : chainStep G outs dead ok a V = some V') :
      ∀ v ∈ V, (AList.contains (a.1, (a.2, v)) G.rules = true →
                  ok (a.1, (a.2, v)) = true ∧ ∀ w ∈ outsOf outs (a.1, (a.2, v)), w ∈ V') ∧
               (AList.contains (a.1, (a.2, v)) G.rules = false → (a.1, (a.2, v)) ∈ dead) := by
  fun_induction chainStep G outs dead ok a V generalizing V' with
  | case1 => nofun
  | case3 x xs r hrec hc hok ih =>
    -- a key that passes `ok`: its outcomes are put in front
    cases h
    exact List.forall_mem_cons.mpr ⟨⟨fun _ => ⟨hok, fun w hw => List.mem_append_left _ hw⟩, fun hn => nomatch hc.symm.trans hn⟩,
      fun v hv => ⟨fun hcv => ⟨((ih r hrec v hv).1 hcv).1, fun w hw => List.mem_append_right _ (((ih r hrec v hv).1 hcv).2 w hw)⟩,
        (ih r hrec v hv).2⟩⟩
  | case5 x xs r hrec hc hd ih =>
    -- certified dead: contributes nothing
    cases h
    exact List.forall_mem_cons.mpr ⟨⟨fun hcv => absurd hcv hc, fun _ => by simpa using hd⟩, ih r hrec⟩
  | case2 | case4 | case6 => cases h

theorem chain_cons_eq_some {G : TT S T} {outs : AList (NT S T) (List T)} {dead : List (NT S T)} {ok : NT S T → Bool}
    {a : Ty × S} {as : List (Ty × S)} {V V' : List T} :
    chain G outs dead ok (a :: as) V = some V' ↔
      ∃ V1, chainStep G outs dead ok a V = some V1 ∧ chain G outs dead ok as V1 = some V' := by
  rw [chain]
  cases chainStep G outs dead ok a V <;> simp

/-- entering the slots `info` one after the other, from states in `P`, only meets non-terminals in `Ok`, and the
    states `Kd` allows them to end in lead to `P'` -/
def ChainOk (Ok : NT S T → Prop) (Kd : NT S T → T → Prop) : List (Ty × S) → (T → Prop) → (T → Prop) → Prop
  | [], P, P' => ∀ v, P v → P' v
  | base :: info, P, P' => ∃ Q : T → Prop,
      (∀ v, P v → Ok (base.1, (base.2, v)) ∧ ∀ w, Kd (base.1, (base.2, v)) w → Q w) ∧ ChainOk Ok Kd info Q P'

omit [DecidableEq S] [DecidableEq T] in
theorem ChainOk.mono {Ok Ok' : NT S T → Prop} {Kd Kd' : NT S T → T → Prop} (hOk : ∀ nt, Ok nt → Ok' nt)
    (hKd : ∀ nt w, Ok nt → Kd' nt w → Kd nt w) : ∀ (info : List (Ty × S)) (P P' R R' : T → Prop),
    (∀ v, R v → P v) → (∀ v, P' v → R' v) → ChainOk Ok Kd info P P' → ChainOk Ok' Kd' info R R'
  | [], _, _, _, _, h1, h2, h => fun v hv => h2 v (h v (h1 v hv))
  | base :: info, _, _, _, _, h1, h2, ⟨Q, hQ, h⟩ =>
    ⟨Q, fun v hv => ⟨hOk _ (hQ v (h1 v hv)).1, fun w hw => (hQ v (h1 v hv)).2 w (hKd _ w (hQ v (h1 v hv)).1 hw)⟩,
      ChainOk.mono hOk hKd info Q _ Q _ (fun _ h => h) h2 h⟩

omit [DecidableEq S] [DecidableEq T] in
theorem ChainOk.append {Ok : NT S T → Prop} {Kd : NT S T → T → Prop} : ∀ (as bs : List (Ty × S)) (P Q P' : T → Prop),
    ChainOk Ok Kd as P Q → ChainOk Ok Kd bs Q P' → ChainOk Ok Kd (as ++ bs) P P'
  | [], bs, _, _, _, h1, h2 => ChainOk.mono (fun _ h => h) (fun _ _ _ h => h) bs _ _ _ _ h1 (fun _ h => h) h2
  | a :: as, bs, _, _, _, ⟨Q1, hQ1, h1⟩, h2 => ⟨Q1, hQ1, ChainOk.append as bs _ _ _ h1 h2⟩

abbrev KeyOrDead (G : TT S T) (dead : List (NT S T)) (nt : NT S T) : Prop :=
  AList.contains nt G.rules = true ∨ AList.contains nt G.rules = false ∧ nt ∈ dead

abbrev KeyOut (G : TT S T) (outs : AList (NT S T) (List T)) (nt : NT S T) (w : T) : Prop :=
  AList.contains nt G.rules = true ∧ w ∈ outsOf outs nt

theorem chainOk_of_chain {G : TT S T} {outs : AList (NT S T) (List T)} {dead : List (NT S T)} {ok : NT S T → Bool} :
    ∀ (info : List (Ty × S)) (V V' : List T), chain G outs dead ok info V = some V' →
    ChainOk (fun nt => KeyOrDead G dead nt ∧ (AList.contains nt G.rules = true → ok nt = true)) (KeyOut G outs)
      info (· ∈ V) (· ∈ V')
  | [], V, V', h => by
    simp only [chain, Option.some.injEq] at h
    subst h
    exact fun _ h => h
  | base :: info, V, V', h => by
    obtain ⟨V1, hV1, h⟩ := chain_cons_eq_some.mp h
    refine ⟨(· ∈ V1), fun v hv => ?_, chainOk_of_chain info V1 V' h⟩
    have hspec := chainStep_spec G outs dead ok base V V1 hV1 v hv
    cases hc : AList.contains (base.1, (base.2, v)) G.rules with
    | true => exact ⟨⟨Or.inl hc, fun _ => (hspec.1 hc).1⟩, fun w hw => (hspec.1 hc).2 w hw.2⟩
    | false => exact ⟨⟨Or.inr ⟨hc, hspec.2 hc⟩, fun h => nomatch hc.symm.trans h⟩, fun w hw => nomatch hc.symm.trans hw.1⟩

/-- the components of `subOK`, as propositions -/
structure SubCert (rows : NT S T → Row S T) (G : TT S T) (outs : AList (NT S T) (List T)) (dead : List (NT S T)) : Prop where
  nodup : (AList.keys G.rules).Nodup
  sub : ∀ e ∈ G.rules, rowSub e.2 (rows e.1) = true
  kept : ∀ e ∈ G.rules, ∀ r ∈ rows e.1, ChainOk (KeyOrDead G dead) (KeyOut G outs) r.2.1 (· = r.2.2)
          (fun v => (AList.lookup r.1 e.2).isSome = true ∧ v ∈ outsOf outs e.1)
  deadNoKey : ∀ d ∈ dead, AList.contains d G.rules = false
  deadRows : ∀ d ∈ dead, ∀ r ∈ rows d, ChainOk (KeyOrDead G dead) (KeyOut G outs) r.2.1 (· = r.2.2) (fun _ => False)
  start : AList.contains G.start G.rules = true ∨ G.start ∈ dead

theorem subCert_of_subOK (rows : NT S T → Row S T) (G : TT S T) (outs : AList (NT S T) (List T)) (dead : List (NT S T))
    (h : subOK rows G outs dead = true) : SubCert rows G outs dead := by
  unfold subOK at h
  simp only [Bool.and_eq_true, decide_eq_true_eq, List.all_eq_true, Bool.or_eq_true] at h
  obtain ⟨⟨⟨hnd, hkeys⟩, hdead⟩, hstart⟩ := h
  refine ⟨hnd, fun e he => (hkeys e he).1, ?_, ?_, ?_, ?_⟩
  · intro e he r hr
    have := (hkeys e he).2 r hr
    cases hch : chain G outs dead (fun _ => true) r.2.1 [r.2.2] with
    | none => simp [hch] at this
    | some V =>
      simp only [hch] at this
      refine (chainOk_of_chain _ _ _ hch).mono (fun _ h => h.1) (fun _ _ _ h => h) _ _ _ _ _
        (fun v hv => List.mem_singleton.mpr hv) (fun v hv => ?_)
      by_cases hl : (AList.lookup r.1 e.2).isSome = true
      · simp only [hl, if_true] at this
        exact ⟨hl, by simpa using List.all_eq_true.mp this v hv⟩
      · simp only [hl] at this
        rw [List.isEmpty_iff.mp this] at hv
        cases hv
  · intro d hd
    simpa using (hdead d hd).1
  · intro d hd r hr
    have := (hdead d hd).2 r hr
    cases hch : chain G outs dead (fun _ => true) r.2.1 [r.2.2] with
    | none => simp [hch] at this
    | some V =>
      simp only [hch] at this
      refine (chainOk_of_chain _ _ _ hch).mono (fun _ h => h.1) (fun _ _ _ h => h) _ _ _ _ _
        (fun v hv => List.mem_singleton.mpr hv) (fun v hv => ?_)
      rw [List.isEmpty_iff.mp this] at hv
      cases hv
  · rcases hstart with h | h
    · exact Or.inl h
    · exact Or.inr (by simpa using h)

theorem rule_of_sub (rows : NT S T → Row S T) (G : TT S T)
    (hsub : ∀ e ∈ G.rules, rowSub e.2 (rows e.1) = true) (nt : NT S T) (P : Sym) (val : List (Ty × S) × T)
    (h : G.rule? nt P = some val) : rowsFn rows nt P = some val := by
  obtain ⟨row, hl, h⟩ := TT.rule?_eq_some.mp h
  have hr := hsub (nt, row) (AList.lookup_some_mem hl)
  unfold rowSub at hr
  rw [List.all_eq_true] at hr
  have := hr (P, val) (AList.lookup_some_mem h)
  simpa [rowsFn] using this

theorem sub_run (rows : NT S T → Row S T) (G : TT S T)
    (hsub : ∀ e ∈ G.rules, rowSub e.2 (rows e.1) = true) (t : Prog) (slot : Ty × S) (v w : T)
    (h : run G.rule? t slot v = some w) : run (rowsFn rows) t slot v = some w :=
  run_mono G.rule? (rowsFn rows) (rule_of_sub rows G hsub) t slot v w h

/-- nothing the reference derives is lost, and dead non-terminals derive nothing -/
theorem cert_run (rows : NT S T → Row S T) (G : TT S T) (outs : AList (NT S T) (List T)) (dead : List (NT S T))
    (C : SubCert rows G outs dead) :
    (∀ (t : Prog) (slot : Ty × S) (v w : T), run (rowsFn rows) t slot v = some w →
      (AList.contains (slot.1, (slot.2, v)) G.rules = true →
          run G.rule? t slot v = some w ∧ w ∈ outsOf outs (slot.1, (slot.2, v))) ∧
      (slot.1, (slot.2, v)) ∉ dead) ∧
    (∀ (ks : List Prog) (args : List (Ty × S)) (v w : T) (P P' : T → Prop),
      P v → ChainOk (KeyOrDead G dead) (KeyOut G outs) args P P' →
      runList (rowsFn rows) ks args v = some w → runList G.rule? ks args v = some w ∧ P' w) := by
  apply Tree.ind₂
  · intro f kids ih slot v w hr
    obtain ⟨args, st, h1, hr⟩ := (run_eq_some _).mp hr
    have hmem : (f, (args, st)) ∈ rows (slot.1, (slot.2, v)) := AList.lookup_some_mem h1
    refine ⟨fun hc => ?_, fun hd => ?_⟩
    · obtain ⟨row, hrow⟩ := AList.contains_iff_lookup.mp hc
      obtain ⟨hrunG, hl, hw⟩ := ih args st w (· = st) _ rfl (C.kept _ (AList.lookup_some_mem hrow) _ hmem) hr
      -- a dropped rule ends nowhere, so the rule is kept
      obtain ⟨val', hl⟩ := Option.isSome_iff_exists.mp hl
      have hG : G.rule? (slot.1, (slot.2, v)) f = some val' := TT.rule?_eq_some.mpr ⟨row, hrow, hl⟩
      have := rule_of_sub rows G C.sub _ _ _ hG
      rw [h1] at this
      cases this
      exact ⟨(run_eq_some _).mpr ⟨args, st, hG, hrunG⟩, hw⟩
    · exact (ih args st w (· = st) _ rfl (C.deadRows _ hd _ hmem) hr).2
  · intro args v w P P' hv hch hr
    obtain ⟨rfl, rfl⟩ := (runList_nil_eq_some _).mp hr
    exact ⟨rfl, hch v hv⟩
  · intro k ks iht ihl args v w P P' hv hch hr
    obtain ⟨a, as, v1, rfl, h1, hr⟩ := (runList_cons_eq_some _).mp hr
    obtain ⟨Q, hQ, hch⟩ := hch
    obtain ⟨hk, hnd⟩ := iht a v v1 h1
    rcases (hQ v hv).1 with hc | ⟨_, hd⟩
    · obtain ⟨hk1, hk2⟩ := hk hc
      obtain ⟨hr2, hw⟩ := ihl as v1 w Q P' ((hQ v hv).2 v1 ⟨hc, hk2⟩) hch hr
      exact ⟨(runList_cons_eq_some _).mpr ⟨a, as, v1, rfl, hk1, hr2⟩, hw⟩
    · exact absurd hd hnd

theorem cert_lang (rows : NT S T → Row S T) (G : TT S T) (outs : AList (NT S T) (List T)) (dead : List (NT S T))
    (h : subOK rows G outs dead = true) (t : Prog) :
    inLang G t = (run (rowsFn rows) t (G.start.1, G.start.2.1) G.start.2.2).isSome := by
  have C := subCert_of_subOK rows G outs dead h
  refine isSome_eq_of_imp (sub_run rows G C.sub t _ _) fun w hR => ?_
  have := (cert_run rows G outs dead C).1 t _ _ w hR
  exact (this.1 (C.start.resolve_right this.2)).1

end PS.T
