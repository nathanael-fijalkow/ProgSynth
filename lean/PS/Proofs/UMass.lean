/- Probabilistic unambiguous grammars (C04): the weights of the derivations enumerated by `dersU` sum to 1 under
   row normalisation and boundedness (`massU_eq_one`), so the specification is a distribution (`spec_total_one`);
   on an unambiguous grammar `probU` of an enumerated term is start weight × derivation weight
   (`probU_of_mem_dersU`; summed over the language in C04CountU). -/
import PS.Proofs.Mass
import PS.Proofs.Ucfg
namespace PS.U.Mass
open PS PS.G PS.U
variable {U : Type} [DecidableEq U]

/-- rows are normalised: at every non-terminal the weights of all alternatives of all symbols sum to 1; the
    symbols of a row are dict keys, hence distinct -/
def NormalisedU (G : UCFG U) (tg : UTags U) : Prop :=
  ∀ e ∈ G.rules,
    (e.2.map (fun r => (r.2.map (fun args => weightU tg (e.1, r.1, args))).sum)).sum = 1 ∧
    (AList.keys e.2).Nodup

def massU (G : UCFG U) (tg : UTags U) (k : Nat) (nt : UNT U) : Rat :=
  ((dersU G k nt).map (fun x => derWeightU tg x.2)).sum

theorem NormalisedU.rowsNodup {G : UCFG U} {tg : UTags U} (hn : NormalisedU G tg) :
    ∀ nt rs, AList.lookup nt G.rules = some rs → (AList.keys rs).Nodup :=
  fun nt rs h => (hn (nt, rs) (AList.lookup_some_mem h)).2

theorem derWeightU_cons (tg : UTags U) (x : UNT U × Sym × List (UNT U)) (d : Der U) :
    derWeightU tg (x :: d) = weightU tg x * derWeightU tg d := by
  simp [derWeightU]

theorem derWeightU_append (tg : UTags U) (d e : Der U) :
    derWeightU tg (d ++ e) = derWeightU tg d * derWeightU tg e := by
  simp only [derWeightU, List.map_append, prod_append]

theorem derWeightU_flatten (tg : UTags U) (l : List (Der U)) :
    derWeightU tg l.flatten = (l.map (derWeightU tg)).prod := by
  induction l with
  | nil => simp [derWeightU]
  | cons d ds ih => simp only [List.flatten_cons, derWeightU_append, ih, List.map_cons, List.prod_cons]

theorem zip_map_snd {α β γ : Type} (g : β → γ) (as : List α) (xs : List β)
    (h : xs.length = as.length) : (as.zip xs).map (fun p => g p.2) = xs.map g := by
  exact (List.map_map (f := Prod.snd) (g := g)).symm.trans (congrArg _ (List.map_snd_zip (Nat.le_of_eq h)))

theorem mass_alt (G : UCFG U) (tg : UTags U) (k : Nat) (nt : UNT U) (f : Sym) (args : List (UNT U)) :
    (((product (args.map (fun a => dersU G k a))).map (fun ks =>
        ((Tree.node f (ks.map (·.1)), (nt, f, args) :: (ks.map (·.2)).flatten) : Prog × Der U))).map
          (fun x => derWeightU tg x.2)).sum
      = weightU tg (nt, f, args) * (args.map (fun a => massU G tg k a)).prod := by
  simp only [List.map_map, Function.comp_def, derWeightU_cons, derWeightU_flatten]
  rw [sum_map_mul_left]
  congr 1
  have h := sum_product (fun (_ : UNT U) (x : Prog × Der U) => derWeightU tg x.2)
    (fun a => dersU G k a) args
  simp only [massU]
  rw [← h]
  congr 1
  apply List.map_congr_left
  intro ks hks
  have hlen : ks.length = args.length := by
    have := ((mem_product _ _).mp hks).1
    simpa using this
  rw [zip_map_snd (fun x : Prog × Der U => derWeightU tg x.2) args ks hlen]

theorem massU_succ (G : UCFG U) (tg : UTags U) (k : Nat) (nt : UNT U)
    (rs : AList Sym (List (List (UNT U)))) (hl : AList.lookup nt G.rules = some rs) :
    massU G tg (k + 1) nt
      = (rs.map (fun r => (r.2.map (fun args =>
          weightU tg (nt, r.1, args) * (args.map (fun a => massU G tg k a)).prod)).sum)).sum := by
  rw [massU, dersU, hl]
  simp only
  rw [sum_flatMap_rat]
  congr 1
  apply List.map_congr_left
  intro r _
  rw [sum_flatMap_rat]
  congr 1
  apply List.map_congr_left
  intro args _
  exact mass_alt G tg k nt r.1 args

theorem massU_eq_one (G : UCFG U) (tg : UTags U) (hn : NormalisedU G tg) (k : Nat) (nt : UNT U)
    (hb : boundedU G k nt = true) : massU G tg k nt = 1 := by
  induction k generalizing nt with
  | zero => simp [boundedU] at hb
  | succ k ih =>
    obtain ⟨rs, hl, hb⟩ := boundedU_succ.mp hb
    rw [massU_succ G tg k nt rs hl, ← (hn (nt, rs) (AList.lookup_some_mem hl)).1]
    congr 1
    apply List.map_congr_left
    intro r hr
    congr 1
    apply List.map_congr_left
    intro args hargs
    rw [prod_eq_one_of_forall _ _ (fun a ha => ih a (hb r hr args hargs a ha)), Rat.mul_one]

theorem spec_total_one (G : UCFG U) (tg : UTags U) (hn : NormalisedU G tg) (k : Nat)
    (hb : ∀ s ∈ G.starts, boundedU G k s = true)
    (hs : (G.starts.map (startWeight tg)).sum = 1) :
    (G.starts.map (fun s => startWeight tg s * massU G tg k s)).sum = 1 := by
  rw [← hs]
  congr 1
  apply List.map_congr_left
  intro s hs'
  rw [massU_eq_one G tg hn k s (hb s hs'), Rat.mul_one]

theorem product_map_map {α β : Type} (f : α → β) (ls : List (List α)) :
    (product ls).map (fun ks => ks.map f) = product (ls.map (fun l => l.map f)) := by
  induction ls with
  | nil => simp [product]
  | cons l ls ih =>
    simp only [product, List.map_cons, List.map_flatMap, List.flatMap_map, List.map_map,
      Function.comp_def, ← ih]

theorem dersU_fst (G : UCFG U) (k : Nat) (nt : UNT U) : (dersU G k nt).map (·.1) = langU G k nt := by
  induction k generalizing nt with
  | zero => simp [dersU, langU]
  | succ k ih =>
    rw [dersU, langU]
    cases AList.lookup nt G.rules with
    | none => simp
    | some rs =>
      simp only [List.map_flatMap, List.map_map, Function.comp_def]
      congr 1
      funext r
      congr 1
      funext args
      have h := product_map_map (fun x : Prog × Der U => x.1) (args.map (fun a => dersU G k a))
      simp only [List.map_map, Function.comp_def, ih] at h
      rw [← h, List.map_map]
      rfl

theorem dersU_sound_list (G : UCFG U) (k : Nat)
    (ih : ∀ (nt : UNT U) (x : Prog × Der U), x ∈ dersU G k nt → x.2 ∈ derivs G x.1 nt)
    (args : List (UNT U)) (ks : List (Prog × Der U))
    (hks : ks ∈ product (args.map (fun a => dersU G k a))) :
    (ks.map (·.2)).flatten ∈ derivsList G (ks.map (·.1)) args := by
  induction args generalizing ks with
  | nil =>
    simp only [List.map_nil, product, List.mem_singleton] at hks
    subst hks
    simp [derivsList]
  | cons a as iha =>
    rw [List.map_cons, mem_product_cons] at hks
    obtain ⟨x, r, rfl, hx, hr⟩ := hks
    simp only [List.map_cons, List.flatten_cons, derivsList, List.mem_flatMap, List.mem_map]
    exact ⟨x.2, ih a x hx, _, iha r hr, rfl⟩

theorem dersU_sound (G : UCFG U) (hr : ∀ nt rs, AList.lookup nt G.rules = some rs → (AList.keys rs).Nodup)
    (k : Nat) (nt : UNT U) (x : Prog × Der U) (hx : x ∈ dersU G k nt) : x.2 ∈ derivs G x.1 nt := by
  induction k generalizing nt x with
  | zero => simp [dersU] at hx
  | succ k ih =>
    rw [dersU] at hx
    cases hl : AList.lookup nt G.rules with
    | none => rw [hl] at hx; simp at hx
    | some rs =>
      rw [hl] at hx
      simp only [List.mem_flatMap, List.mem_map] at hx
      obtain ⟨r, hrm, args, hargs, ks, hks, rfl⟩ := hx
      obtain ⟨f, alts⟩ := r
      have hlk : AList.lookup f rs = some alts := AList.lookup_of_mem_nodup (hr nt rs hl) hrm
      simp only
      rw [derivs]
      simp only [UCFG.alts?, hl, hlk, List.mem_flatMap, List.mem_map]
      exact ⟨args, hargs, _, dersU_sound_list G k ih args ks hks, rfl⟩

theorem probU_of_mem_dersU (G : UCFG U) (tg : UTags U) (hn : NormalisedU G tg) (s : UNT U)
    (hs : s ∈ G.starts) (k : Nat) (hu : ∀ t, unambiguousOn G t = true) (x : Prog × Der U)
    (hx : x ∈ dersU G k s) : probU G tg x.1 = startWeight tg s * derWeightU tg x.2 := by
  have hmem : x.2 ∈ derivs G x.1 s := dersU_sound G hn.rowsNodup k s x hx
  have hall : (s, x.2) ∈ allDerivs G x.1 := mem_allDerivs.mpr ⟨hs, hmem⟩
  rcases allDerivs_of_unambiguousOn (hu x.1) with hA | ⟨s', d, hA⟩ <;> rw [hA] at hall
  · cases hall
  · rw [probU, hA, ← List.mem_singleton.mp hall]

end PS.U.Mass
