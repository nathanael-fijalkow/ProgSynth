/- C08, fragment grammar: `addNode` in phases (`addNode_eq`) and the effect of each on the tables: allocation of
   the start copy, `addSteps` = the rules of the path, the fold of `copyRules` over the pending copies. -/
import PS.Proofs.SplitterLang
import PS.Proofs.AList
namespace PS.Sp
open PS PS.G

variable {U : Type} [DecidableEq U]

theorem keys_insert_of_lookup_some {κ ν : Type} [DecidableEq κ] {k : κ} {v v0 : ν} : ∀ {d : AList κ ν},
    AList.lookup k d = some v0 → AList.keys (AList.insert k v d) = AList.keys d :=
  AList.keys_insert_of_lookup_some v

theorem mem_of_lookup_none {κ ν : Type} [DecidableEq κ] {k : κ} {d : AList κ ν} (h : AList.lookup k d = none) :
    k ∉ AList.keys d :=
  AList.lookup_eq_none_iff.mp h

/-- the new value comes in for the old value of the key; stated without subtraction -/
theorem sum_insert {κ ν : Type} [DecidableEq κ] (g : ν → Rat) (k : κ) (v : ν) : ∀ (d : AList κ ν),
    ((AList.insert k v d).map (fun e => g e.2)).sum + ((AList.lookup k d).map g).getD 0 =
      (d.map (fun e => g e.2)).sum + g v
  | [] => by
    simp only [AList.insert, AList.lookup, List.map, List.sum_cons, List.sum_nil, Option.map_none, Option.getD_none,
      Rat.add_zero, Rat.zero_add]
  | (k', v') :: r => by
    by_cases hk : k' = k
    · simp only [AList.insert, AList.lookup, hk, if_true, List.map_cons, List.sum_cons, Option.map_some,
        Option.getD_some]
      ac_rfl
    · simp only [AList.insert, AList.lookup, hk, if_false, List.map_cons, List.sum_cons]
      rw [Rat.add_assoc, sum_insert g k v r, Rat.add_assoc]

theorem sum_insert_add {κ : Type} [DecidableEq κ] (k : κ) (p : Rat) (d : AList κ Rat) :
    ((AList.insert k ((AList.lookup k d).getD 0 + p) d).map (·.2)).sum = (d.map (·.2)).sum + p := by
  have h := sum_insert (fun r : Rat => r) k ((AList.lookup k d).getD 0 + p) d
  have e : ((AList.lookup k d).map (fun r : Rat => r)).getD 0 = (AList.lookup k d).getD 0 := by
    cases AList.lookup k d <;> rfl
  rw [e] at h
  exact Rat.add_right_cancel _ (h.trans (by ac_rfl))

omit [DecidableEq U] in
theorem stepR_nil (P : Sym) (m : List (UNT (U × Nat))) : stepR [] P m = [(P, [m])] := rfl

theorem stepP_nil (P : Sym) (m : List (UNT (U × Nat))) (w : Rat) : stepP [] P m w = [(P, [(m, w)])] := rfl

def rows (st : FragSt U) (Y : UNT (U × Nat)) :
    Option (AList Sym (List (List (UNT (U × Nat))))) × Option (AList Sym (AList (List (UNT (U × Nat))) Rat)) :=
  (AList.lookup Y st.rules, AList.lookup Y st.probs)

theorem isCopy_rows {pg : PUG U} {st : FragSt U} {X : UNT (U × Nat)} :
    IsCopy pg st.rules st.probs X ↔ rows st X = (some (copyR pg (er X)), some (copyP pg (er X))) :=
  ⟨fun h => Prod.ext h.1 h.2, fun h => ⟨congrArg Prod.fst h, congrArg Prod.snd h⟩⟩

theorem rows_addRule (st : FragSt U) (X : UNT (U × Nat)) (P : Sym) (m : List (UNT (U × Nat))) (w : Rat)
    (Y : UNT (U × Nat)) :
    rows (addRule st X P m w) Y =
      if Y = X then (some (stepR ((rows st X).1.getD []) P m), some (stepP ((rows st X).2.getD []) P m w))
      else rows st Y := by
  simp only [rows, addRule_eq, AList.lookup_insert]
  split <;> rfl

theorem rows_copyRules (pg : PUG U) (st : FragSt U) (S : UNT U) (X Y : UNT (U × Nat)) :
    rows (copyRules pg st S X) Y = if Y = X then (some (copyR pg S), some (copyP pg S)) else rows st Y := by
  simp only [rows, copyRules_eq, AList.lookup_insert]
  split <;> rfl

theorem addSteps_frame (nprob : Rat) (l : List (Step (U × Nat))) (i : Nat) (st : FragSt U) :
    (∀ Y, Y ∉ targets l → rows (addSteps nprob i st l) Y = rows st Y) ∧
    (addSteps nprob i st l).counter = st.counter ∧ (addSteps nprob i st l).startProbs = st.startProbs ∧
    (addSteps nprob i st l).newStarts = st.newStarts ∧ (addSteps nprob i st l).toFill = st.toFill := by
  induction l generalizing i st with
  | nil => exact ⟨fun _ _ => rfl, rfl, rfl, rfl, rfl⟩
  | cons s t ih =>
    obtain ⟨ih1, ih⟩ := ih (i + 1) (addRule st s.1 s.2.1 s.2.2 (if i = 0 then nprob else 1))
    refine ⟨fun Y hY => ?_, ih⟩
    rw [targets, List.map_cons, List.mem_cons, not_or] at hY
    exact (ih1 Y hY.2).trans ((rows_addRule ..).trans (if_neg hY.1))

theorem addSteps_rows (nprob : Rat) (l : List (Step (U × Nat))) (i : Nat) (st : FragSt U) (hi : 0 < i)
    (hnd : (targets l).Nodup) : ∀ s ∈ l, rows (addSteps nprob i st l) s.1 =
      (some (stepR ((rows st s.1).1.getD []) s.2.1 s.2.2), some (stepP ((rows st s.1).2.getD []) s.2.1 s.2.2 1)) := by
  induction l generalizing i st with
  | nil => intro s hs; cases hs
  | cons s0 t ih =>
    rw [targets, List.map_cons, List.nodup_cons] at hnd
    intro s hs
    rw [addSteps, if_neg (Nat.ne_of_gt hi)]
    rcases List.mem_cons.mp hs with rfl | hs
    · rw [(addSteps_frame nprob t (i + 1) _).1 s.1 hnd.1, rows_addRule, if_pos rfl]
    · have hne : s.1 ≠ s0.1 := fun he => hnd.1 (he ▸ List.mem_map.mpr ⟨s, hs, rfl⟩)
      rw [ih (i + 1) _ (Nat.succ_pos i) hnd.2 s hs, rows_addRule, if_neg hne]

def copyAll (pg : PUG U) (st : FragSt U) (p : List (UNT U × UNT (U × Nat))) : FragSt U :=
  p.foldl (fun s e => copyRules pg s e.1 e.2) st

theorem copyAll_spec (pg : PUG U) (p : List (UNT U × UNT (U × Nat))) (st : FragSt U) (hnd : (names p).Nodup) :
    (∀ Y, Y ∉ names p → rows (copyAll pg st p) Y = rows st Y) ∧
    (∀ e ∈ p, rows (copyAll pg st p) e.2 = (some (copyR pg e.1), some (copyP pg e.1)) ∧
      ∀ S' ∈ rhsSyms pg e.1, S' ∈ (copyAll pg st p).toFill) ∧
    (∀ S' ∈ st.toFill, S' ∈ (copyAll pg st p).toFill) ∧
    (copyAll pg st p).counter = st.counter ∧ (copyAll pg st p).startProbs = st.startProbs ∧
    (copyAll pg st p).newStarts = st.newStarts := by
  induction p generalizing st with
  | nil => exact ⟨fun _ _ => rfl, fun e he => (nomatch he), fun _ h => h, rfl, rfl, rfl⟩
  | cons e0 p ih =>
    rw [names, List.map_cons, List.nodup_cons] at hnd
    obtain ⟨i1, i2, i3, i456⟩ := ih (copyRules pg st e0.1 e0.2) hnd.2
    have hto : ∀ S', S' ∈ st.toFill ∨ S' ∈ rhsSyms pg e0.1 → S' ∈ (copyRules pg st e0.1 e0.2).toFill :=
      fun S' h => List.mem_append.mpr h
    refine ⟨fun Y hY => ?_, fun e he => ?_, fun S' hS' => i3 S' (hto S' (Or.inl hS')), i456⟩
    · rw [names, List.map_cons, List.mem_cons, not_or] at hY
      exact (i1 Y hY.2).trans ((rows_copyRules ..).trans (if_neg hY.1))
    · rcases List.mem_cons.mp he with rfl | he
      · exact ⟨(i1 e.2 hnd.1).trans ((rows_copyRules ..).trans (if_pos rfl)),
          fun S' hS' => i3 S' (hto S' (Or.inr hS'))⟩
      · exact i2 e he

theorem addPath_spec (pg : PUG U) (nprob : Rat) (st : FragSt U) (hi : Nat) {steps' : List (Step (U × Nat))}
    {pend : List (UNT U × UNT (U × Nat))} (hnd : (targets steps' ++ names pend).Nodup) {st' : FragSt U}
    (hst' : copyAll pg { addSteps nprob 0 st steps' with counter := hi } pend = st') :
    (∀ Y, Y ∉ targets steps' ++ names pend → rows st' Y = rows st Y) ∧
    (∀ s0 t, steps' = s0 :: t →
      rows st' s0.1 = (some (stepR ((rows st s0.1).1.getD []) s0.2.1 s0.2.2),
        some (stepP ((rows st s0.1).2.getD []) s0.2.1 s0.2.2 nprob)) ∧
      ∀ s ∈ t, rows st' s.1 = (some (stepR ((rows st s.1).1.getD []) s.2.1 s.2.2),
        some (stepP ((rows st s.1).2.getD []) s.2.1 s.2.2 1))) ∧
    (∀ e ∈ pend, rows st' e.2 = (some (copyR pg e.1), some (copyP pg e.1)) ∧
      ∀ S' ∈ rhsSyms pg e.1, S' ∈ st'.toFill) ∧
    (∀ S' ∈ st.toFill, S' ∈ st'.toFill) ∧
    st'.counter = hi ∧ st'.startProbs = st.startProbs ∧ st'.newStarts = st.newStarts := by
  subst hst'
  obtain ⟨hnT, hnP, hdisj⟩ := List.nodup_append.mp hnd
  obtain ⟨f1, -, f3, f4, f5⟩ := addSteps_frame nprob steps' 0 st
  obtain ⟨c1, c2, c3, c4, c5, c6⟩ := copyAll_spec pg pend { addSteps nprob 0 st steps' with counter := hi } hnP
  refine ⟨fun Y hY => ?_, ?_, c2, fun S' hS' => c3 S' (f5 ▸ hS'), c4, c5.trans f3, c6.trans f4⟩
  · rw [List.mem_append, not_or] at hY
    exact (c1 Y hY.2).trans (f1 Y hY.1)
  · rintro s0 t rfl
    rw [targets, List.map_cons, List.nodup_cons] at hnT
    have hnoP : ∀ s ∈ s0 :: t, s.1 ∉ names pend := fun s hs hm => hdisj s.1 (List.mem_map_of_mem hs) s.1 hm rfl
    refine ⟨(c1 _ (hnoP s0 List.mem_cons_self)).trans (((addSteps_frame nprob t 1 _).1 s0.1 hnT.1).trans
      ((rows_addRule ..).trans (if_pos rfl))), fun s hs => ?_⟩
    have hne : s.1 ≠ s0.1 := fun he => hnT.1 (he ▸ List.mem_map_of_mem hs)
    exact (c1 _ (hnoP s (List.mem_cons_of_mem _ hs))).trans
      ((addSteps_rows nprob t 1 _ Nat.one_pos hnT.2 s hs).trans (by rw [rows_addRule, if_neg hne]))

/-- the copy of the start symbol of the node -/
def spOf (st : FragSt U) (n : Node U) : UNT (U × Nat) :=
  match AList.lookup n.start st.newStarts with
  | some sp => sp
  | none => (n.start.1, (n.start.2, st.counter + 1))

/-- the state after the allocation of the start copy and the update of its weight -/
def st2Of (st : FragSt U) (n : Node U) : FragSt U :=
  let st1 : FragSt U :=
    match AList.lookup n.start st.newStarts with
    | some _ => st
    | none => { st with counter := st.counter + 1,
                        newStarts := AList.insert n.start (spOf st n) st.newStarts,
                        startProbs := AList.insert (spOf st n) 0 st.startProbs }
  { st1 with startProbs :=
      AList.insert (spOf st n) ((AList.lookup (spOf st n) st1.startProbs).getD 0 + n.prob) st1.startProbs }

theorem addNode_eq (pg : PUG U) (st : FragSt U) (n : Node U) :
    addNode pg st n = (renPath (st2Of st n).counter [(n.start, spOf st n)] n.steps).map
      (fun r => copyAll pg { addSteps n.prob 0 (st2Of st n) r.2.1 with counter := r.1 } r.2.2) := by
  unfold addNode
  cases hl : AList.lookup n.start st.newStarts with
  | some sp =>
    simp only [spOf, st2Of, hl, pathLoop_eq]
    cases renPath st.counter [(n.start, sp)] n.steps <;> rfl
  | none =>
    simp only [spOf, st2Of, hl, pathLoop_eq]
    cases renPath (st.counter + 1) [(n.start, (n.start.1, (n.start.2, st.counter + 1)))] n.steps <;> rfl

theorem spOf_none {st : FragSt U} {n : Node U} (h : AList.lookup n.start st.newStarts = none) :
    spOf st n = (n.start.1, (n.start.2, st.counter + 1)) := by
  simp only [spOf, h]

/-- `hfresh`: a start copy that is allocated has no weight yet -/
theorem alloc_spec (st : FragSt U) (n : Node U)
    (hfresh : AList.lookup n.start st.newStarts = none → AList.lookup (spOf st n) st.startProbs = none) :
    (st2Of st n).rules = st.rules ∧ (st2Of st n).probs = st.probs ∧ (st2Of st n).toFill = st.toFill ∧
    (AList.lookup n.start st.newStarts = some (spOf st n) ∧ (st2Of st n).counter = st.counter ∨
      AList.lookup n.start st.newStarts = none ∧ (st2Of st n).counter = st.counter + 1) ∧
    (∀ s, AList.lookup s (st2Of st n).newStarts =
      if s = n.start then some (spOf st n) else AList.lookup s st.newStarts) ∧
    (∀ X, AList.lookup X (st2Of st n).startProbs =
      if X = spOf st n then some ((AList.lookup (spOf st n) st.startProbs).getD 0 + n.prob)
      else AList.lookup X st.startProbs) ∧
    ((st2Of st n).startProbs.map (·.2)).sum = (st.startProbs.map (·.2)).sum + n.prob := by
  cases hl : AList.lookup n.start st.newStarts with
  | some x =>
    have hsp : spOf st n = x := by simp only [spOf, hl]
    have hst2 : st2Of st n =
        { st with startProbs := AList.insert x ((AList.lookup x st.startProbs).getD 0 + n.prob) st.startProbs } := by
      simp only [st2Of, hl, hsp]
    rw [hsp, hst2]
    refine ⟨rfl, rfl, rfl, Or.inl ⟨rfl, rfl⟩, fun s => ?_, fun X => AList.lookup_insert x X _ _, ?_⟩
    · split
      · rename_i h; rw [h, hl]
      · rfl
    · exact sum_insert_add x n.prob st.startProbs
  | none =>
    have h0 := hfresh hl
    have hst2 : st2Of st n =
        { st with counter := st.counter + 1, newStarts := AList.insert n.start (spOf st n) st.newStarts,
                  startProbs := AList.insert (spOf st n) (0 + n.prob) (AList.insert (spOf st n) 0 st.startProbs) } := by
      simp only [st2Of, hl, AList.lookup_insert_self, Option.getD_some]
    rw [hst2]
    refine ⟨rfl, rfl, rfl, Or.inr ⟨rfl, rfl⟩, fun s => AList.lookup_insert _ s _ _, fun X => ?_, ?_⟩
    · rw [h0, AList.lookup_insert, AList.lookup_insert]
      split <;> rfl
    · have h1 := sum_insert_add (spOf st n) 0 st.startProbs
      have h2 := sum_insert_add (spOf st n) n.prob (AList.insert (spOf st n) 0 st.startProbs)
      rw [h0, Option.getD_none, Rat.add_zero] at h1
      rw [AList.lookup_insert_self, Option.getD_some, h1, Rat.add_zero] at h2
      exact h2

end PS.Sp
