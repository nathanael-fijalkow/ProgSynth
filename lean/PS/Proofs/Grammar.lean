/- The shared grammar foundation (PS/Model/Grammar.lean): the rule table, `deriveWith`, and the membership test
   `containsRec` against the stack-free semantics - with a threaded state (`run`) and, as the case of no state, for the
   deterministic grammars (`gen`). -/
import PS.Model.Ttcfg
import PS.Proofs.Tree
import PS.Proofs.AList

namespace PS.G

theorem endsWith_self (t : Ty) : Ty.endsWith t t = some [] := by
  unfold Ty.endsWith
  cases t <;> simp [Ty.endsWithRec]

theorem arguments_mkFun : ∀ (tys : List Ty) (o : Ty), (Ty.mkFun tys o).arguments = tys ++ o.arguments
  | [], _ => rfl
  | a :: tys, o => by simp [Ty.mkFun, Ty.arguments, arguments_mkFun tys o]

theorem endsWithRec_spec (t other : Ty) (acc tys : List Ty) (h : Ty.endsWithRec t other acc = some tys) :
    ∃ tys', tys = acc ++ tys' ∧ t = Ty.mkFun tys' other := by
  fun_induction Ty.endsWithRec t other acc with
  | case1 a b acc => cases h; exact ⟨[], (List.append_nil _).symm, rfl⟩
  | case2 a b o acc hne ih => obtain ⟨tys', rfl, rfl⟩ := ih h; exact ⟨a :: tys', by simp, rfl⟩
  | case3 o acc hna => cases h; exact ⟨[], (List.append_nil _).symm, rfl⟩
  | case4 t o acc hna hne => cases h

theorem endsWith_spec {t other : Ty} {tys : List Ty} (h : Ty.endsWith t other = some tys) : t = Ty.mkFun tys other := by
  obtain ⟨tys', rfl, e⟩ := endsWithRec_spec t other [] tys h
  exact e

end PS.G

namespace PS.G.TT
open PS
variable {S T : Type} [DecidableEq S] [DecidableEq T] {G : TT S T} {nt : NT S T} {P : Sym}

/-- `rules[nt][P]`: what follows are the facts of `AList.lookup₂` at the rule table -/
theorem rule?_eq_lookup₂ (G : TT S T) (nt : NT S T) (P : Sym) : G.rule? nt P = AList.lookup₂ G.rules nt P := by
  unfold TT.rule? AList.lookup₂
  cases AList.lookup nt G.rules <;> rfl

theorem rule?_eq_some {val : List (Ty × S) × T} :
    G.rule? nt P = some val ↔ ∃ row, AList.lookup nt G.rules = some row ∧ AList.lookup P row = some val :=
  rule?_eq_lookup₂ G nt P ▸ AList.lookup₂_eq_some

theorem rule?_of_lookup {row : AList Sym (List (Ty × S) × T)} (h : AList.lookup nt G.rules = some row) (P : Sym) :
    G.rule? nt P = AList.lookup P row :=
  (rule?_eq_lookup₂ G nt P).trans (AList.lookup₂_of_lookup h P)

theorem rule?_of_lookup_none (h : AList.lookup nt G.rules = none) (P : Sym) : G.rule? nt P = none :=
  (rule?_eq_lookup₂ G nt P).trans (AList.lookup₂_of_lookup_none h P)

theorem rule?_mem {val : List (Ty × S) × T} (h : G.rule? nt P = some val) :
    ∃ row, (nt, row) ∈ G.rules ∧ (P, val) ∈ row :=
  AList.lookup₂_mem ((rule?_eq_lookup₂ G nt P).symm.trans h)

theorem rule?_of_all {p : NT S T → Sym → List (Ty × S) × T → Bool}
    (h : G.rules.all (fun e => e.2.all fun r => p e.1 r.1 r.2) = true) {val : List (Ty × S) × T}
    (hr : G.rule? nt P = some val) : p nt P val = true :=
  AList.lookup₂_of_all h ((rule?_eq_lookup₂ G nt P).symm.trans hr)

theorem derive_of_rule {val : List (Ty × S) × T} (h : G.rule? nt P = some val) (info : List (Ty × S)) :
    derive G info nt P = some (deriveWith info nt val.1 val.2) := by
  rw [derive, h]

end PS.G.TT
namespace PS.G
open PS

variable {S : Type} [DecidableEq S]

omit [DecidableEq S] in
theorem deriveWith_eq {T : Type} {info args rest : List (Ty × S)} {x : Ty × S} (nt : NT S T) (st : T)
    (h : args ++ info = x :: rest) : deriveWith info nt args st = (rest, (x.1, (x.2, st))) := by
  rw [deriveWith, h]

omit [DecidableEq S] in
/-- nothing pending: the next non-terminal is the end marker -/
theorem deriveWith_of_nil {T : Type} {info args : List (Ty × S)} (nt : NT S T) (st : T) (h : args ++ info = []) :
    deriveWith info nt args st = ([], (Ty.unknown, (nt.2.1, st))) := by
  rw [deriveWith, h]

omit [DecidableEq S] in
theorem deriveWith_map {S' T T' : Type} (f : S → S') (g : T → T') (info args : List (Ty × S)) (nt : NT S T) (st : T) :
    deriveWith (info.map fun y => (y.1, f y.2)) (nt.1, (f nt.2.1, g nt.2.2)) (args.map fun y => (y.1, f y.2)) (g st) =
      ((deriveWith info nt args st).1.map fun y => (y.1, f y.2),
        ((deriveWith info nt args st).2.1, (f (deriveWith info nt args st).2.2.1, g (deriveWith info nt args st).2.2.2))) := by
  unfold deriveWith
  rw [← List.map_append]
  cases args ++ info <;> rfl

/-- The invariant on n-gram contexts under which the head of a context is the parent that the
    n-gram shows: with `n_gram ∈ {0,1}` the context is empty.  (`successor` keeps `n_gram - 1` entries
    only when it starts from a context that is not already too long: with `n_gram = 1` and a
    one-element context it would keep the new pair.) -/
def CtxOK (n : Int) (ctx : List (Sym × Nat)) : Prop := (0 ≤ n ∧ n < 2) → ctx = []

/-- the head of the new context is what the forbidden-pattern test of the next rule reads; the right-hand side is
    `effParent P new` and `effParentT n new` -/
theorem successor_head (n : Int) (ctx : List (Sym × Nat)) (new : Sym × Nat) (h : CtxOK n ctx) :
    (successor n ctx new).head? = (if n ≥ 2 ∨ n < 0 then some new else none) ∧ CtxOK n (successor n ctx new) := by
  unfold successor CtxOK
  by_cases hneg : n < 0
  · have : ¬ ((↑ctx.length + 1 + 1 > n) ∧ n ≥ 0) := by omega
    simp only [this, if_false, List.head?_cons]
    refine ⟨by simp [hneg], by intro h2; omega⟩
  · by_cases h2 : n ≥ 2
    · refine ⟨?_, by intro h3; omega⟩
      have he : (n ≥ 2 ∨ n < 0) := Or.inl h2
      simp only [he, if_true]
      by_cases hc : (↑ctx.length + 1 + 1 > n) ∧ n ≥ 0
      · simp only [hc, and_self, if_true]
        cases ctx with
        | nil => simp at hc; omega
        | cons p ps => simp [List.dropLast]
      · simp only [hc, if_false, List.head?_cons]
    · have hctx : ctx = [] := h ⟨by omega, by omega⟩
      subst hctx
      have hc : ((↑([] : List (Sym × Nat)).length : Int) + 1 + 1 > n) ∧ n ≥ 0 := by simp; omega
      have he : ¬ (n ≥ 2 ∨ n < 0) := by omega
      simp only [hc, and_self, if_true, he, if_false]
      exact ⟨by simp [List.dropLast], fun _ => by simp [List.dropLast]⟩

end PS.G

namespace PS.T
open PS PS.G

variable {S T : Type} [DecidableEq S] [DecidableEq T]

/-- what a completed sub-derivation ending in state `w` leaves behind: the pending stack loses
    its top, which - with `w` - becomes the next non-terminal -/
def AdvT (info : List (Ty × S)) (w : T) (r : Bool × List (Ty × S) × NT S T) : Prop :=
  r.1 = true ∧ r.2.1 = info.tail ∧ ∀ b rest, info = b :: rest → r.2.2 = (b.1, (b.2, w))

/-- `o`: what `run` answers; `r`: what `containsRec` answers on the same input with `info` pending -/
def Agree (info : List (Ty × S)) (o : Option T) (r : Bool × List (Ty × S) × NT S T) : Prop :=
  match o with
  | none => r.1 = false
  | some w => AdvT info w r

section RunEq
omit [DecidableEq S] [DecidableEq T]
variable (ρ : RuleFn S T)

theorem run_eq_some {f : Sym} {kids : List Prog} {slot : Ty × S} {v w : T} :
    run ρ (.node f kids) slot v = some w ↔
      ∃ args st, ρ (slot.1, (slot.2, v)) f = some (args, st) ∧ runList ρ kids args st = some w := by
  rw [run]
  cases ρ (slot.1, (slot.2, v)) f with
  | none => simp
  | some r => exact ⟨fun h => ⟨_, _, rfl, h⟩, fun ⟨_, _, e, h⟩ => by cases e; exact h⟩

theorem runList_nil_eq_some {args : List (Ty × S)} {v w : T} :
    runList ρ [] args v = some w ↔ args = [] ∧ v = w := by
  cases args <;> simp [runList]

theorem runList_cons_eq_some {k : Prog} {ks : List Prog} {args : List (Ty × S)} {v w : T} :
    runList ρ (k :: ks) args v = some w ↔
      ∃ a as v1, args = a :: as ∧ run ρ k a v = some v1 ∧ runList ρ ks as v1 = some w := by
  cases args with
  | nil => simp [runList]
  | cons a as =>
    rw [runList]
    constructor
    · intro h
      cases h1 : run ρ k a v with
      | none => simp [h1] at h
      | some v1 => exact ⟨a, as, v1, rfl, h1, by simpa [h1] using h⟩
    · rintro ⟨_, _, v1, e, h1, h2⟩
      cases e
      simp [h1, h2]

/-- the same two equations read from the argument slots -/
theorem runList_args_nil {ks : List Prog} {v w : T} : runList ρ ks [] v = some w ↔ ks = [] ∧ v = w := by
  cases ks <;> simp [runList]

theorem runList_args_cons {ks : List Prog} {a : Ty × S} {as : List (Ty × S)} {v w : T} :
    runList ρ ks (a :: as) v = some w ↔
      ∃ k ks' v1, ks = k :: ks' ∧ run ρ k a v = some v1 ∧ runList ρ ks' as v1 = some w := by
  cases ks with
  | nil => simp [runList]
  | cons k ks' =>
    rw [runList_cons_eq_some]
    exact ⟨fun ⟨_, _, v1, e, h1, h2⟩ => by cases e; exact ⟨k, ks', v1, rfl, h1, h2⟩,
      fun ⟨_, _, v1, e, h1, h2⟩ => by cases e; exact ⟨a, as, v1, rfl, h1, h2⟩⟩

end RunEq

omit [DecidableEq S] [DecidableEq T] in
theorem runList_len_ne (ρ : RuleFn S T) :
    ∀ (ks : List Prog) (args : List (Ty × S)) (v : T), ks.length ≠ args.length → runList ρ ks args v = none
  | [], [], _, h => by simp at h
  | [], _ :: _, _, _ => by simp [runList]
  | _ :: _, [], _, _ => by simp [runList]
  | k :: ks, a :: as, v, h => by
    have h' : ks.length ≠ as.length := by simpa using h
    rw [runList]
    cases run ρ k a v with
    | none => rfl
    | some w => exact runList_len_ne ρ ks as w h'

theorem containsList_cons_of_false {G : TT S T} {k : Prog} {ks : List Prog} {info : List (Ty × S)} {next : NT S T}
    (h : (containsRec G k next info).1 = false) : (containsList G (k :: ks) info next).1 = false := by
  rw [containsList]
  generalize containsRec G k next info = r at h ⊢
  obtain ⟨b, i, n⟩ := r
  cases h
  rfl

theorem containsList_cons_of_true {G : TT S T} {k : Prog} {ks : List Prog} {info : List (Ty × S)} {next : NT S T}
    (h : (containsRec G k next info).1 = true) :
    containsList G (k :: ks) info next = containsList G ks (containsRec G k next info).2.1 (containsRec G k next info).2.2 := by
  rw [containsList]
  generalize containsRec G k next info = r at h ⊢
  obtain ⟨b, i, n⟩ := r
  cases h
  rfl

/-- The list half has the shape in which `containsRec` calls `containsList`: `deriveWith` has taken the first argument
    slot `a` off `(a :: as) ++ info` and made it, with the state `v` of the rule, the next non-terminal, and `as ++ info`
    is what stays pending.  A rule without arguments does not fit it and is settled in the tree half. -/
theorem containsRec_run (G : TT S T) :
    (∀ (t : Prog) (nt : NT S T) (info : List (Ty × S)),
      Agree info (run G.rule? t (nt.1, nt.2.1) nt.2.2) (containsRec G t nt info)) ∧
    (∀ (ks : List Prog) (a : Ty × S) (as : List (Ty × S)) (info : List (Ty × S)) (v : T),
      ks.length = (a :: as).length →
      Agree info (runList G.rule? ks (a :: as) v) (containsList G ks (as ++ info) (a.1, (a.2, v)))) := by
  apply Tree.ind₂
  · intro f kids ihl nt info
    rw [run, show ((nt.1, nt.2.1).1, ((nt.1, nt.2.1).2, nt.2.2)) = nt from rfl, containsRec]
    cases hr : G.rule? nt f with
    | none => rfl
    | some r =>
      obtain ⟨args, st⟩ := r
      dsimp only
      by_cases hlen : kids.length = args.length
      · rw [if_neg (by simpa using hlen)]
        cases args with
        | nil =>
          cases List.length_eq_zero_iff.mp hlen
          cases info <;> simp [containsList, runList, deriveWith, Agree, AdvT]
        | cons a as => rw [deriveWith_eq nt st rfl]; exact ihl a as info st hlen
      · rw [if_pos (by simpa using hlen), runList_len_ne G.rule? kids args st hlen]
        rfl
  · intro a as info v h
    simp at h
  · intro k ks iht ihl a as info v h
    have h1 := iht (a.1, (a.2, v)) (as ++ info)
    rw [runList]
    cases hrun : run G.rule? k a v with
    | none => rw [hrun] at h1; exact containsList_cons_of_false h1
    | some w =>
      rw [hrun] at h1
      obtain ⟨hb, hi, hn⟩ := h1
      rw [containsList_cons_of_true hb, hi]
      cases as with
      | nil =>
        cases List.length_eq_zero_iff.mp (Nat.succ.inj h)
        exact ⟨rfl, rfl, hn⟩
      | cons a' as' => rw [hn a' (as' ++ info) rfl]; exact ihl a' as' info w (Nat.succ.inj h)
theorem containsList_run (G : TT S T) :
    ∀ (ks : List Prog) (a : Ty × S) (as : List (Ty × S)) (info : List (Ty × S)) (v : T),
      ks.length = (a :: as).length →
      Agree info (runList G.rule? ks (a :: as) v) (containsList G ks (as ++ info) (a.1, (a.2, v))) :=
  (containsRec_run G).2

end PS.T

namespace PS.G
open PS PS.T

variable {S : Type} [DecidableEq S]

/-- `AdvT` without a state, and only if the result is `true` -/
def Adv (info : List (Ty × S)) (r : Bool × List (Ty × S) × NT S Unit) : Prop :=
  r.1 = true → r.2.1 = info.tail ∧ ∀ b rest, info = b :: rest → r.2.2 = (b.1, (b.2, ()))

/-- without a state, the stack-free semantics is plain top-down matching -/
theorem gen_eq_run (G : TT S Unit) :
    (∀ (t : Prog) (nt : NT S Unit), gen G t nt = (run G.rule? t (nt.1, nt.2.1) nt.2.2).isSome) ∧
    (∀ (ks : List Prog) (args : List (Ty × S)) (v : Unit), genList G ks args = (runList G.rule? ks args v).isSome) := by
  apply Tree.ind₂
  · intro f kids ih nt
    rw [gen, run]
    cases G.rule? nt f with
    | none => rfl
    | some r => exact ih r.1 r.2
  · intro args v
    cases args <;> rfl
  · intro k ks iht ihl args v
    cases args with
    | nil => rfl
    | cons a as =>
      rw [genList, runList, iht]
      cases run G.rule? k a v with
      | none => rfl
      | some w => exact ihl as w

omit [DecidableEq S] in
theorem adv_of_agree {info : List (Ty × S)} {o : Option Unit} {r : Bool × List (Ty × S) × NT S Unit}
    (h : Agree info o r) : r.1 = o.isSome ∧ Adv info r := by
  cases o with
  | none => exact ⟨h, fun e => absurd (h.symm.trans e) (by decide)⟩
  | some w => exact ⟨h.1, fun _ => ⟨h.2.1, h.2.2⟩⟩

theorem containsRec_gen (G : TT S Unit) (t : Prog) (nt : NT S Unit) (info : List (Ty × S)) :
    (containsRec G t nt info).1 = gen G t nt ∧ Adv info (containsRec G t nt info) :=
  (gen_eq_run G).1 t nt ▸ adv_of_agree ((containsRec_run G).1 t nt info)

theorem containsList_gen (G : TT S Unit) :
      ∀ (ks : List Prog) (a : Ty × S) (as : List (Ty × S)) (info : List (Ty × S)),
        ks.length = (a :: as).length →
        (containsList G ks (as ++ info) (a.1, (a.2, ()))).1 = genList G ks (a :: as) ∧
        Adv info (containsList G ks (as ++ info) (a.1, (a.2, ()))) :=
  fun ks a as info h => (gen_eq_run G).2 ks (a :: as) () ▸ adv_of_agree (containsList_run G ks a as info () h)

/-- `program in grammar` (stack-based deterministic derivation with the arity check) is
    plain top-down matching of the rule table. -/
theorem contains_eq_gen (G : TT S Unit) (t : Prog) : contains G t = gen G t G.start :=
  (containsRec_gen G t G.start []).1

theorem gen_node_eq {G : TT S Unit} {nt : NT S Unit} {f : Sym} {rl : List (Ty × S) × Unit} (hr : G.rule? nt f = some rl)
    (kids : List Prog) : gen G (.node f kids) nt = genList G kids rl.1 := by
  rw [gen, hr]

theorem gen_node_iff {G : TT S Unit} {nt : NT S Unit} {f : Sym} {kids : List Prog} :
    gen G (.node f kids) nt = true ↔ ∃ rl, G.rule? nt f = some rl ∧ genList G kids rl.1 = true := by
  cases hr : G.rule? nt f with
  | none => simp [gen, hr]
  | some rl => simp [gen_node_eq hr]

theorem gen_node_mem {G : TT S Unit} {nt : NT S Unit} {f : Sym} {kids : List Prog} (h : gen G (.node f kids) nt = true) :
    ∃ rs args, (nt, rs) ∈ G.rules ∧ (f, (args, ())) ∈ rs ∧ genList G kids args = true :=
  have ⟨rl, hr, hg⟩ := gen_node_iff.mp h
  have ⟨rs, h1, h2⟩ := TT.rule?_mem hr
  ⟨rs, rl.1, h1, h2, hg⟩

theorem genList_iff (G : TT S Unit) : ∀ (kids : List Prog) (args : List (Ty × S)),
    genList G kids args = true ↔
      kids.length = args.length ∧ ∀ (j : Nat) (k : Prog) (a : Ty × S), kids[j]? = some k → args[j]? = some a →
        gen G k (a.1, (a.2, ())) = true
  | [], [] => by simp [genList]
  | [], _ :: _ => by simp [genList]
  | _ :: _, [] => by simp [genList]
  | k :: ks, (t, s) :: as => by
    simp only [genList, Bool.and_eq_true, genList_iff G ks as, List.length_cons, Nat.add_right_cancel_iff]
    constructor
    · rintro ⟨h0, hl, h⟩
      refine ⟨hl, fun j k' a hk ha => ?_⟩
      cases j with
      | zero => cases hk; cases ha; exact h0
      | succ j => exact h j k' a hk ha
    · rintro ⟨hl, h⟩
      exact ⟨h 0 k (t, s) rfl rfl, hl, fun j k' a hk ha => h (j + 1) k' a hk ha⟩

end PS.G
