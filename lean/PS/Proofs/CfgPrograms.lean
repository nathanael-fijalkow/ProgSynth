/-
  C01: `CFG.programs()` (model `programs`) never answers -1 on a table in which every
  argument of a rule is a non-terminal of the table sitting strictly deeper than the rule's
  non-terminal — in particular on every grammar built by `depth_constraint`: processing the
  non-terminals by decreasing depth finds every needed count already filled in.
-/
import PS.Proofs.CfgBuild
import PS.Proofs.Programs
namespace PS.G
open PS

def depthOf (e : CNT × Row) : Nat := e.1.2.1.2

def DepthSorted (l : Table) : Prop := l.Pairwise (fun a b => depthOf b ≤ depthOf a)

theorem insertByDepth_sorted (x : CNT × Row) (l : Table) (h : DepthSorted l) :
    DepthSorted (insertByDepth x l) := by
  unfold DepthSorted at h ⊢
  fun_induction insertByDepth x l with
  | case1 => exact List.pairwise_singleton _ x
  | case2 y ys hlt =>
    have hyx : depthOf y ≤ depthOf x := Nat.le_of_lt hlt
    exact List.pairwise_cons.mpr
      ⟨List.forall_mem_cons.mpr ⟨hyx, fun b hb => Nat.le_trans (List.rel_of_pairwise_cons h hb) hyx⟩, h⟩
  | case3 y ys hnlt ih =>
    obtain ⟨h1, h2⟩ := List.pairwise_cons.mp h
    refine List.pairwise_cons.mpr ⟨fun b hb => ?_, ih h2⟩
    rcases (Programs.mem_insertByDepth x b ys).mp hb with rfl | hb
    · exact Nat.le_of_not_lt hnlt
    · exact h1 b hb

theorem sortByDepthDesc_sorted (tbl : Table) : DepthSorted (sortByDepthDesc tbl) := by
  induction tbl with
  | nil => exact List.Pairwise.nil
  | cons x xs ih => exact insertByDepth_sorted x _ ih

theorem toNT_eq_iff (a : Ty × CFGState) (nt : CNT) : toNT a = nt ↔ a = (nt.1, nt.2.1) := by
  obtain ⟨a1, a2⟩ := a
  obtain ⟨n1, n2, ⟨⟩⟩ := nt
  simp [toNT]

theorem programsFill_isSome :
    ∀ (tbl : Table) (cnt : AList (Ty × CFGState) Nat), DepthSorted tbl →
      (∀ e ∈ tbl, ∀ r ∈ e.2, ∀ a ∈ r.2.1, depthOf e < a.2.2 ∧
        (toNT a ∈ AList.keys tbl ∨ (AList.lookup a cnt).isSome = true)) →
      ∃ cnt', programsFill tbl cnt = some cnt' ∧
        (∀ a, (AList.lookup a cnt).isSome = true → (AList.lookup a cnt').isSome = true) ∧
        ∀ e ∈ tbl, (AList.lookup (e.1.1, e.1.2.1) cnt').isSome = true := by
  intro tbl
  induction tbl with
  | nil => exact fun cnt _ _ => ⟨cnt, rfl, fun _ h => h, fun _ h => nomatch h⟩
  | cons e rest ih =>
    intro cnt hs hyp
    obtain ⟨nt, rs⟩ := e
    obtain ⟨hs1, hs2⟩ := List.pairwise_cons.mp hs
    obtain ⟨hyp1, hyp2⟩ := List.forall_mem_cons.mp hyp
    -- every argument of the head is counted: as a key of the list it would be at most as deep as the head
    have hhead : ∀ r ∈ rs, ∀ a ∈ r.2.1, (AList.lookup a cnt).isSome = true := by
      intro r hr a ha
      obtain ⟨hd, hk | hk⟩ := hyp1 r hr a ha
      · obtain ⟨e', he', hke⟩ := List.mem_map.mp hk
        have hda : depthOf e' = a.2.2 := congrArg (fun k : CNT => k.2.1.2) hke
        rw [← hda] at hd
        rcases List.mem_cons.mp he' with rfl | he'
        · exact absurd hd (Nat.lt_irrefl _)
        · exact absurd (hs1 e' he') (Nat.not_le_of_lt hd)
      · exact hk
    have hall : ((rs.map (fun r => (r.2.1.map (fun a => AList.lookup a cnt)))).all
        (fun l => l.all Option.isSome)) = true := by
      simp only [List.all_eq_true, List.mem_map, forall_exists_index, and_imp,
        forall_apply_eq_imp_iff₂]
      exact hhead
    rw [programsFill, if_pos hall]
    generalize ((rs.map (fun r => (r.2.1.map (fun a => AList.lookup a cnt)))).map
      (fun l => (l.map (fun o => o.getD 0)).foldl (· * ·) 1)).sum = total
    have hself : (AList.lookup (nt.1, nt.2.1) (AList.insert (nt.1, nt.2.1) total cnt)).isSome = true := by
      rw [AList.lookup_insert_self]; rfl
    have hmono : ∀ a, (AList.lookup a cnt).isSome = true →
        (AList.lookup a (AList.insert (nt.1, nt.2.1) total cnt)).isSome = true := by
      intro a ha
      rw [AList.lookup_insert]
      split
      · rfl
      · exact ha
    obtain ⟨cnt', h1, h2, h3⟩ := ih (AList.insert (nt.1, nt.2.1) total cnt) hs2 (by
      intro e he r hr a ha
      obtain ⟨hd, hk | hk⟩ := hyp2 e he r hr a ha
      · rcases List.mem_cons.mp hk with hk | hk
        · exact ⟨hd, Or.inr ((toNT_eq_iff a nt).mp hk ▸ hself)⟩
        · exact ⟨hd, Or.inl hk⟩
      · exact ⟨hd, Or.inr (hmono a hk)⟩)
    exact ⟨cnt', h1, fun a ha => h2 a (hmono a ha), List.forall_mem_cons.mpr ⟨h2 _ hself, h3⟩⟩

theorem programs_isSome (G : CFG)
    (hdepth : ∀ e ∈ G.rules, ∀ r ∈ e.2, ∀ a ∈ r.2.1, depthOf e < a.2.2)
    (hclosed : ArgsClosed G.rules) (hstart : G.start ∈ AList.keys G.rules) :
    ∃ n, programs G = some n := by
  have hmem := Programs.mem_sortByDepthDesc G.rules
  obtain ⟨cnt', h1, _, h3⟩ := programsFill_isSome (sortByDepthDesc G.rules) []
    (sortByDepthDesc_sorted G.rules) (by
      intro e he r hr a ha
      have he' := (hmem e).mp he
      refine ⟨hdepth e he' r hr a ha, Or.inl ?_⟩
      obtain ⟨e2, he2, hk⟩ := List.mem_map.mp (hclosed e he' r hr a ha)
      exact List.mem_map.mpr ⟨e2, (hmem e2).mpr he2, hk⟩)
  unfold programs
  rw [h1]
  simp only
  obtain ⟨e, he, hk⟩ := List.mem_map.mp hstart
  exact Option.isSome_iff_exists.mp (hk ▸ h3 e ((hmem e).mpr he))

/-- the arguments of a created rule sit one level deeper than its non-terminal -/
theorem buildTable_programs_isSome {P : Params} {fuel : Nat} {G : CFG} (h : buildTable P fuel = some G) :
    ∃ n, programs G = some n := by
  obtain ⟨_, hkey, _, _, hall⟩ := buildWith_clean (ruleSet_functional P) (buildTable_eq P fuel ▸ h)
  exact programs_isSome G
    (fun e he r hr a ha => by
      have := ruleSet_depth P e.1 _ (((hall e he).2.2.2.2 r.1 r.2.1).mp hr).1 a ha
      unfold depthOf; omega)
    (fun e he r hr a ha => AList.mem_keys_iff_contains.mpr ((hall e he).2.2.2.1 r hr a ha))
    (AList.mem_keys_iff_contains.mpr hkey)

/-- `hn` is what `Programs.programs_eq_count` and `programsInf_count` conclude from a successful count -/
theorem lang_of_count (G : CFG) (hwf : TableWF G.rules) {n : Nat}
    (hn : ∃ k, bounded G k G.start = true ∧ n = count G k G.start) {spec : Prog → Bool}
    (hl : ∀ t, contains G t = spec t) :
    ∃ L : List Prog, L.Nodup ∧ n = L.length ∧ ∀ t, t ∈ L ↔ spec t = true := by
  obtain ⟨k, hb, rfl⟩ := hn
  have hrows : RowsNodup G := fun nt rs h => hwf.rows (nt, rs) (AList.lookup_some_mem h)
  exact ⟨lang G k G.start, lang_nodup G hrows k G.start, count_eq_length G k G.start, fun t => by
    rw [mem_lang_of_bounded G hrows k t G.start hb, ← hl t, contains_eq_gen]⟩

end PS.G
