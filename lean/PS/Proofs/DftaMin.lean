/-
  `minimise` (PS/Model/Dfta.lean, tree_automaton.py:227-319): the partition refinement loop.

  This file: the loop invariant `PInv`, the fix-point property `Fix` of the partition
  a finished pass leaves behind, "fix-point ⇒ the congruence certificate holds", and
  termination (every pass that is not the last one creates a class; classes ≥ 2 are non-empty
  and disjoint, so there are at most `|states| + 2` of them).

  Everything is relative to a relation `E` on states that the equivalence test respects
  (`Compat`): the invariant says that `E`-related states are never separated.  With `E := Eq`
  this is vacuous (language preservation, termination); with `E := SameIn A B` for a competitor `B`
  of the same language — two states of `A` are related when trees read into them are read alike by
  `B`; the relation depends on `B`, no Nerode equivalence is defined — it gives minimality
  (PS/Proofs/DftaMinimal.lean).
-/
import PS.Proofs.DftaQuot
set_option linter.unusedSectionVars false
namespace PS
namespace DFTA
variable {σ Q X : Type} [DecidableEq σ] [DecidableEq Q] [DecidableEq X]

theorem halfEquivalent_iff (A : DFTA σ Q) (s2c : AList Q Nat) (a b : Q) :
    halfEquivalent A s2c a b = true ↔
      Swap A (fun d d' => AList.lookup d s2c = AList.lookup d' s2c) a b :=
  all_consumers_iff A _ (fun o o' => match o' with
      | none => false
      | some out => AList.lookup out s2c == o.bind (fun d => AList.lookup d s2c))
    (fun d o => by cases o <;> simp [eq_comm (a := AList.lookup d s2c)]) a b

theorem areEquivalent_iff (A : DFTA σ Q) (s2c : AList Q Nat) (a b : Q) :
    areEquivalent A s2c a b = true ↔
      Swap A (fun d d' => AList.lookup d s2c = AList.lookup d' s2c) a b ∧
      Swap A (fun d d' => AList.lookup d s2c = AList.lookup d' s2c) b a := by
  rw [areEquivalent, Bool.and_eq_true, halfEquivalent_iff, halfEquivalent_iff]

theorem areEquivalent_refl (A : DFTA σ Q) (s2c : AList Q Nat) (r : Q) :
    areEquivalent A s2c r r = true :=
  (areEquivalent_iff A s2c r r).mpr ⟨fun _ _ _ d h => ⟨d, h, rfl⟩, fun _ _ _ d h => ⟨d, h, rfl⟩⟩

def Resp (E : Q → Q → Prop) (s2c : AList Q Nat) : Prop :=
  ∀ q q', E q q' → AList.lookup q s2c = AList.lookup q' s2c

/-- the equivalence test of the refinement loop does not separate `E`-related states as long
    as the current partition does not -/
def Compat (A : DFTA σ Q) (E : Q → Q → Prop) : Prop :=
  ∀ s2c, Resp E s2c → ∀ r q q', E q q' → areEquivalent A s2c r q = areEquivalent A s2c r q'

theorem compat_eq (A : DFTA σ Q) : Compat A (fun q q' => q = q') := by
  intro s2c _ r q q' e; subst e; rfl

/-- `cls2states[j]` lists exactly the states `state2cls` sends to `j`.  Non-emptiness is asked from
    class 2 on: the two initial classes may be empty (no final state, or only final ones), every
    later class is created around a representative — which is what bounds the number of classes by
    the number of states (`pinv_n_le`). -/
def ClsOK (st : MinState Q) (j : Nat) : Prop :=
  ∃ cls, AList.lookup j st.c2s = some cls ∧ (∀ q, q ∈ cls ↔ AList.lookup q st.s2c = some j) ∧
    (2 ≤ j → cls ≠ [])

/-- the part of the invariant that only speaks about `state2cls` -/
structure SInv (A : DFTA σ Q) (E : Q → Q → Prop) (st : MinState Q) : Prop where
  keys : ∀ q, (AList.lookup q st.s2c).isSome ↔ q ∈ A.states
  bound : ∀ q i, AList.lookup q st.s2c = some i → i ≤ st.n
  fin : ∀ q q' i, AList.lookup q st.s2c = some i → AList.lookup q' st.s2c = some i →
    (q ∈ A.finals ↔ q' ∈ A.finals)
  resp : Resp E st.s2c

/-- invariant of `while not finished` (between passes and between classes of a pass) -/
structure PInv (A : DFTA σ Q) (E : Q → Q → Prop) (st : MinState Q) : Prop extends SInv A E st where
  cls : ∀ j, j ≤ st.n → ClsOK st j

/-- invariant of `while cls:` for class `i`: `cls` is what is left of the class.  `others` leaves
    `i` out because `cls2states[i]` is stale during the loop — it still lists the states that have
    gone over to later classes, and is written back only in the `else` branch (`doneState`); `cur`
    describes class `i` by the local `cls` instead. -/
structure LInv (A : DFTA σ Q) (E : Q → Q → Prop) (i : Nat) (cls : List Q) (st : MinState Q) : Prop
    extends SInv A E st where
  hi : i ≤ st.n
  others : ∀ j, j ≤ st.n → j ≠ i → ClsOK st j
  cur : ∀ q, q ∈ cls ↔ AList.lookup q st.s2c = some i
  ne : cls ≠ []

def splitSame (A : DFTA σ Q) (st : MinState Q) (rep : Q) (rest : List Q) : List Q :=
  rest.filter (fun q => areEquivalent A st.s2c rep q)

def splitNext (A : DFTA σ Q) (st : MinState Q) (rep : Q) (rest : List Q) : List Q :=
  rest.filter (fun q => !areEquivalent A st.s2c rep q)

def splitState (A : DFTA σ Q) (st : MinState Q) (rep : Q) (rest : List Q) : MinState Q :=
  { s2c := (rep :: splitSame A st rep rest).foldl (fun d q => AList.insert q (st.n + 1) d) st.s2c
    c2s := AList.insert (st.n + 1) (rep :: splitSame A st rep rest) st.c2s
    n := st.n + 1, finished := false }

def doneState (A : DFTA σ Q) (i : Nat) (st : MinState Q) (rep : Q) (rest : List Q) : MinState Q :=
  { st with c2s := AList.insert i (rep :: splitSame A st rep rest) st.c2s }

theorem splitLoop_succ (A : DFTA σ Q) (i fuel : Nat) (rest : List Q) (rep : Q) (st : MinState Q) :
    splitLoop A i (fuel + 1) (rest ++ [rep]) st =
      if splitNext A st rep rest ≠ [] then
        splitLoop A i fuel (splitNext A st rep rest) (splitState A st rep rest)
      else doneState A i st rep rest := by
  rw [splitLoop]
  simp only [List.getLast?_concat, List.dropLast_concat]
  rfl

theorem splitLoop_nil (A : DFTA σ Q) (i fuel : Nat) (st : MinState Q) :
    splitLoop A i fuel [] st = st := by
  cases fuel <;> rw [splitLoop]
  rfl

def Moves (A : DFTA σ Q) (st : MinState Q) (rep : Q) (rest : List Q) (x : Q) : Prop :=
  x = rep ∨ (x ∈ rest ∧ areEquivalent A st.s2c rep x = true)

section split
variable {A : DFTA σ Q} {E : Q → Q → Prop} {st : MinState Q} {rep : Q} {rest : List Q} {i : Nat} {x : Q}

theorem mem_newCls : x ∈ rep :: splitSame A st rep rest ↔ Moves A st rep rest x := by
  rw [splitSame, List.mem_cons, List.mem_filter]; rfl

theorem s2c_moves (h : Moves A st rep rest x) :
    AList.lookup x (splitState A st rep rest).s2c = some (st.n + 1) :=
  (AList.lookup_foldl_insert_const _ _ x _).trans (if_pos (mem_newCls.mpr h))

theorem s2c_stays (h : ¬ Moves A st rep rest x) :
    AList.lookup x (splitState A st rep rest).s2c = AList.lookup x st.s2c :=
  (AList.lookup_foldl_insert_const _ _ x _).trans (if_neg fun m => h (mem_newCls.mp m))

theorem moves_equiv (h : Moves A st rep rest x) : areEquivalent A st.s2c rep x = true :=
  h.elim (fun e => e ▸ areEquivalent_refl A _ _) (·.2)

theorem mem_splitNext : x ∈ splitNext A st rep rest ↔ x ∈ rest ∧ ¬ Moves A st rep rest x := by
  rw [splitNext, List.mem_filter, Bool.not_eq_true']
  refine and_congr_right fun hx => ⟨fun e hm => ?_, fun hm => ?_⟩
  · rw [moves_equiv hm] at e; cases e
  · exact Bool.eq_false_iff.mpr fun e => hm (Or.inr ⟨hx, e⟩)

theorem LInv.cur' (h : LInv A E i (rest ++ [rep]) st) (x : Q) :
    AList.lookup x st.s2c = some i ↔ x ∈ rest ∨ x = rep := by
  rw [← h.cur x, List.mem_append, List.mem_singleton]

theorem LInv.of_moves (h : LInv A E i (rest ++ [rep]) st) (hm : Moves A st rep rest x) :
    AList.lookup x st.s2c = some i :=
  (h.cur' x).mpr (hm.elim Or.inr fun m => Or.inl m.1)

theorem moves_iff (hE : Compat A E) (h : LInv A E i (rest ++ [rep]) st) (q q' : Q) (e : E q q') :
    Moves A st rep rest q ↔ Moves A st rep rest q' := by
  have key : ∀ q q', AList.lookup q st.s2c = AList.lookup q' st.s2c →
      areEquivalent A st.s2c rep q = areEquivalent A st.s2c rep q' →
      Moves A st rep rest q → Moves A st rep rest q' := by
    intro q q' hs hc hm
    rcases (h.cur' q').mp (hs ▸ h.of_moves hm) with m | m
    · exact Or.inr ⟨m, hc ▸ moves_equiv hm⟩
    · exact Or.inl m
  have hs := h.resp q q' e
  have hc := hE st.s2c h.resp rep q q' e
  exact ⟨key q q' hs hc, key q' q hs.symm hc.symm⟩

end split

/-- one iteration of `while cls:` seen from `state2cls` alone: the states `M` leave class `i` for the
    fresh class `st.n + 1`, every other state keeps its class.  `hE` — the move does not separate
    `E`-related states — is where `Compat` enters (`moves_iff`). -/
theorem SInv.relabel {A : DFTA σ Q} {E : Q → Q → Prop} {st st' : MinState Q} (h : SInv A E st)
    (M : Q → Prop) (i : Nat) (hn : st'.n = st.n + 1)
    (hM : ∀ x, M x → AList.lookup x st.s2c = some i) (hE : ∀ q q', E q q' → (M q ↔ M q'))
    (h1 : ∀ x, M x → AList.lookup x st'.s2c = some (st.n + 1))
    (h2 : ∀ x, ¬ M x → AList.lookup x st'.s2c = AList.lookup x st.s2c) : SInv A E st' := by
  have hlt : ∀ x j, ¬ M x → AList.lookup x st'.s2c = some j → j ≤ st.n :=
    fun x j hx hj => h.bound x j (h2 x hx ▸ hj)
  refine ⟨fun q => ?_, fun q j hj => ?_, fun q q' j hq hq' => ?_, fun q q' e => ?_⟩
  · by_cases hm : M q
    · rw [h1 q hm, ← h.keys q, hM q hm]; rfl
    · rw [h2 q hm]; exact h.keys q
  · rw [hn]
    by_cases hm : M q
    · exact Nat.le_of_eq (Option.some.inj ((h1 q hm).symm.trans hj)).symm
    · exact Nat.le_succ_of_le (hlt q j hm hj)
  · by_cases hm : M q <;> by_cases hm' : M q'
    · exact h.fin q q' i (hM q hm) (hM q' hm')
    · have := hlt q' j hm' hq'
      have := Option.some.inj ((h1 q hm).symm.trans hq)
      omega
    · have := hlt q j hm hq
      have := Option.some.inj ((h1 q' hm').symm.trans hq')
      omega
    · exact h.fin q q' j (h2 q hm ▸ hq) (h2 q' hm' ▸ hq')
  · by_cases hm : M q
    · rw [h1 q hm, h1 q' ((hE q q' e).mp hm)]
    · rw [h2 q hm, h2 q' (fun h' => hm ((hE q q' e).mpr h')), h.resp q q' e]

theorem linv_split (A : DFTA σ Q) (E : Q → Q → Prop) (hE : Compat A E) (i : Nat) (st : MinState Q)
    (rep : Q) (rest : List Q) (h : LInv A E i (rest ++ [rep]) st)
    (hne : splitNext A st rep rest ≠ []) :
    LInv A E i (splitNext A st rep rest) (splitState A st rep rest) := by
  refine { toSInv := h.toSInv.relabel (Moves A st rep rest) i rfl (fun _ => h.of_moves)
             (moves_iff hE h) (fun _ => s2c_moves) (fun _ => s2c_stays),
           hi := Nat.le_succ_of_le h.hi, others := fun j hj hji => ?_, cur := fun q => ?_, ne := hne }
  · by_cases hjn : j = st.n + 1
    · subst hjn
      refine ⟨_, AList.lookup_insert_self _ _ _, fun q => ?_, fun _ => List.cons_ne_nil _ _⟩
      rw [mem_newCls]
      by_cases hm : Moves A st rep rest q
      · rw [s2c_moves hm]; exact iff_of_true hm rfl
      · rw [s2c_stays hm]
        exact iff_of_false hm fun hx => by have := h.bound q _ hx; omega
    · obtain ⟨cls, h1, h2, h3⟩ := h.others j (Nat.le_of_lt_succ (Nat.lt_of_le_of_ne hj hjn)) hji
      refine ⟨cls, (AList.lookup_insert_ne _ _ hjn).trans h1, fun q => ?_, h3⟩
      rw [h2 q]
      by_cases hm : Moves A st rep rest q
      · rw [s2c_moves hm, h.of_moves hm]
        exact iff_of_false (fun e => hji (Option.some.inj e).symm) (fun e => hjn (Option.some.inj e).symm)
      · rw [s2c_stays hm]
  · rw [mem_splitNext]
    by_cases hm : Moves A st rep rest q
    · rw [s2c_moves hm]
      exact iff_of_false (fun hq => hq.2 hm) fun e => by have := h.hi; have := Option.some.inj e; omega
    · rw [s2c_stays hm, h.cur']
      exact ⟨fun hq => Or.inl hq.1, fun hq => ⟨hq.resolve_right fun e => hm (Or.inl e), hm⟩⟩

theorem splitNext_nil_iff (A : DFTA σ Q) (st : MinState Q) (rep : Q) (rest : List Q) :
    splitNext A st rep rest = [] ↔ ∀ q ∈ rest, areEquivalent A st.s2c rep q = true := by
  simp [splitNext, List.filter_eq_nil_iff]

theorem pinv_done (A : DFTA σ Q) (E : Q → Q → Prop) (i : Nat) (st : MinState Q)
    (rep : Q) (rest : List Q) (h : LInv A E i (rest ++ [rep]) st)
    (hn : splitNext A st rep rest = []) :
    PInv A E (doneState A i st rep rest) := by
  have hall := (splitNext_nil_iff A st rep rest).mp hn
  refine ⟨⟨h.keys, h.bound, h.fin, h.resp⟩, fun j hj => ?_⟩
  by_cases hji : j = i
  · subst hji
    refine ⟨_, AList.lookup_insert_self _ _ _, fun q => ?_, fun _ => List.cons_ne_nil _ _⟩
    rw [mem_newCls]
    exact ((h.cur' q).trans ⟨fun m => m.elim (fun m => Or.inr ⟨m, hall q m⟩) Or.inl,
      fun m => m.elim Or.inr fun m => Or.inl m.1⟩).symm
  · obtain ⟨cls, h1, h2, h3⟩ := h.others j hj hji
    exact ⟨cls, (AList.lookup_insert_ne _ _ hji).trans h1, h2, h3⟩

def FixAt (A : DFTA σ Q) (s2c : AList Q Nat) (i : Nat) : Prop :=
  ∀ q, AList.lookup q s2c = some i →
    ∃ rep, ∀ q', AList.lookup q' s2c = some i → areEquivalent A s2c rep q' = true

/-- The partition `st.s2c` is a fix-point of the refinement: every class passes the test of a pass
    (`FixAt`), so a pass over it splits nothing.  It is what the pass that leaves `finished` set has
    checked (`Pass`), hence what `minLoop` returns with; it is stated with `are_equivalent` against a
    representative, as the code tests it, and `cert_of_fix` turns it into the congruence certificate. -/
def Fix (A : DFTA σ Q) (st : MinState Q) : Prop := ∀ i, FixAt A st.s2c i

/-- what a stretch of a pass over the classes `is` does to `state2cls`, `n` and `finished`:
    nothing, and then every class it went through passed the test; or it has created a class and
    unset `finished` -/
inductive Pass (A : DFTA σ Q) (is : List Nat) (st r : MinState Q) : Prop
  | same (s2c : r.s2c = st.s2c) (n : r.n = st.n) (finished : r.finished = st.finished)
      (fix : ∀ i ∈ is, FixAt A st.s2c i)
  | grew (unfinished : r.finished = false) (lt : st.n < r.n)

theorem Pass.n_le {A : DFTA σ Q} {is : List Nat} {st r : MinState Q} (h : Pass A is st r) :
    st.n ≤ r.n := by
  cases h with
  | same _ n => exact Nat.le_of_eq n.symm
  | grew _ lt => exact Nat.le_of_lt lt

theorem Pass.cons {A : DFTA σ Q} {i : Nat} {is : List Nat} {st p r : MinState Q}
    (h1 : Pass A [i] st p) (h2 : Pass A is p r) : Pass A (i :: is) st r := by
  rcases h1 with ⟨a1, a2, a3, a4⟩ | ⟨b1, b2⟩ <;> rcases h2 with ⟨c1, c2, c3, c4⟩ | ⟨d1, d2⟩
  · exact .same (c1.trans a1) (c2.trans a2) (c3.trans a3)
      (List.forall_mem_cons.mpr ⟨a4 i (List.mem_singleton_self i), a1 ▸ c4⟩)
  · exact .grew d1 (a2 ▸ d2)
  · exact .grew (c3.trans b1) (c2 ▸ b2)
  · exact .grew d1 (Nat.lt_trans b2 d2)

theorem splitLoop_inv (A : DFTA σ Q) (E : Q → Q → Prop) (hE : Compat A E) (i : Nat) :
    ∀ fuel cls st, cls.length ≤ fuel → LInv A E i cls st →
      PInv A E (splitLoop A i fuel cls st) ∧ Pass A [i] st (splitLoop A i fuel cls st) := by
  intro fuel
  induction fuel with
  | zero =>
    intro cls st hl h
    exact absurd (List.eq_nil_of_length_eq_zero (Nat.le_zero.mp hl)) h.ne
  | succ fuel ih =>
    intro cls st hl h
    obtain ⟨rest, rep, rfl⟩ : ∃ rest rep, cls = rest ++ [rep] :=
      ⟨_, _, (List.dropLast_append_getLast h.ne).symm⟩
    rw [splitLoop_succ]
    split
    · rename_i hne
      obtain ⟨p, e⟩ := ih _ _ (by
        have : (splitNext A st rep rest).length ≤ rest.length := List.length_filter_le _ _
        simp only [List.length_append, List.length_cons, List.length_nil] at hl
        omega) (linv_split A E hE i st rep rest h hne)
      -- the rest of the loop starts from `finished = false` and `n + 1`
      cases e with
      | same _ n fin => exact ⟨p, .grew fin (n ▸ Nat.lt_succ_self st.n)⟩
      | grew unf lt => exact ⟨p, .grew unf (Nat.lt_of_succ_lt lt)⟩
    · rename_i hn
      have hn' : splitNext A st rep rest = [] := by simpa using hn
      refine ⟨pinv_done A E i st rep rest h hn', .same rfl rfl rfl fun j hj q _ => ⟨rep, fun q' hq' => ?_⟩⟩
      rw [List.mem_singleton.mp hj] at hq'
      rcases (h.cur' q').mp hq' with m | m
      · exact (splitNext_nil_iff A st rep rest).mp hn' q' m
      · rw [m]; exact areEquivalent_refl A _ _

/-- the body of `for i in range(n + 1)` -/
def passStep (A : DFTA σ Q) (st : MinState Q) (i : Nat) : MinState Q :=
  splitLoop A i (((AList.lookup i st.c2s).getD []).length + 1) ((AList.lookup i st.c2s).getD []) st

theorem minPass_eq (A : DFTA σ Q) (st : MinState Q) :
    minPass A st = (List.range (st.n + 1)).foldl (passStep A) { st with finished := true } := rfl

theorem passStep_spec (A : DFTA σ Q) (E : Q → Q → Prop) (hE : Compat A E) (i : Nat)
    (st : MinState Q) (h : PInv A E st) (hi : i ≤ st.n) :
    PInv A E (passStep A st i) ∧ Pass A [i] st (passStep A st i) := by
  obtain ⟨cls, h1, h2, _⟩ := h.cls i hi
  unfold passStep
  rw [h1, Option.getD_some]
  rcases List.eq_nil_or_concat cls with rfl | ⟨rest, rep, rfl⟩
  · rw [splitLoop_nil]
    refine ⟨h, .same rfl rfl rfl fun j hj q hq => ?_⟩
    rw [List.mem_singleton.mp hj] at hq
    exact absurd ((h2 q).mpr hq) List.not_mem_nil
  · rw [List.concat_eq_append] at h2 ⊢
    exact splitLoop_inv A E hE i _ _ _ (Nat.le_succ _)
      { toSInv := h.toSInv, hi := hi, others := fun j hj _ => h.cls j hj, cur := h2, ne := by simp }

theorem foldl_passStep (A : DFTA σ Q) (E : Q → Q → Prop) (hE : Compat A E) :
    ∀ (is : List Nat) (st : MinState Q), PInv A E st → (∀ i ∈ is, i ≤ st.n) →
      PInv A E (is.foldl (passStep A) st) ∧ Pass A is st (is.foldl (passStep A) st) := by
  intro is
  induction is with
  | nil => exact fun st h _ => ⟨h, .same rfl rfl rfl fun _ hi => nomatch hi⟩
  | cons i is ih =>
    intro st h hle
    obtain ⟨p1, e1⟩ := passStep_spec A E hE i st h (hle i List.mem_cons_self)
    obtain ⟨p2, e2⟩ := ih (passStep A st i) p1
      fun j hj => Nat.le_trans (hle j (List.mem_cons_of_mem _ hj)) e1.n_le
    exact ⟨p2, e1.cons e2⟩

theorem minPass_spec (A : DFTA σ Q) (E : Q → Q → Prop) (hE : Compat A E) (st : MinState Q)
    (h : PInv A E st) :
    PInv A E (minPass A st) ∧ ((minPass A st).finished = false → st.n < (minPass A st).n) ∧
      ((minPass A st).finished = true → Fix A (minPass A st)) := by
  rw [minPass_eq]
  obtain ⟨r1, e⟩ := foldl_passStep A E hE (List.range (st.n + 1)) { st with finished := true }
    ⟨⟨h.keys, h.bound, h.fin, h.resp⟩, h.cls⟩ (fun i hi => Nat.le_of_lt_succ (List.mem_range.mp hi))
  refine ⟨r1, fun hf => ?_, fun hf i q hq => ?_⟩
  · cases e with
    | same _ _ fin => rw [hf] at fin; cases fin
    | grew _ lt => exact lt
  · cases e with
    | same s2c n _ fix =>
      have hi : i ≤ st.n := n ▸ r1.bound q i hq
      rw [s2c] at hq ⊢
      exact fix i (List.mem_range.mpr (Nat.lt_succ_of_le hi)) q hq
    | grew unf => rw [hf] at unf; cases unf

theorem minLoop_spec (A : DFTA σ Q) (E : Q → Q → Prop) (hE : Compat A E) :
    ∀ fuel st st', PInv A E st → minLoop A fuel st = some st' → PInv A E st' ∧ Fix A st' := by
  intro fuel st st' hp h
  fun_induction minLoop A fuel st with
  | case1 => cases h
  | case2 fuel st st1 hf =>
    obtain ⟨p1, _, p3⟩ := minPass_spec A E hE st hp
    exact Option.some.inj h ▸ ⟨p1, p3 hf⟩
  | case3 fuel st st1 hf ih => exact ih (minPass_spec A E hE st hp).1 h

/-- the state `minimise` starts its loop with -/
def initState (A : DFTA σ Q) (cls0 cls1 : List Q) : MinState Q :=
  { s2c := AList.ofList (A.states.map (fun q => (q, if q ∈ A.finals then 1 else 0)))
    c2s := [(0, cls0), (1, cls1)], n := 1, finished := false }

theorem minimiseState_eq (A : DFTA σ Q) (cls0 cls1 : List Q) (fuel : Nat) :
    minimiseState A cls0 cls1 fuel = minLoop A fuel (initState A cls0 cls1) := rfl

theorem lookup_s2c0 {cls0 cls1 : List Q} (A : DFTA σ Q) (q : Q) (j : Nat) :
    AList.lookup q (initState A cls0 cls1).s2c = some j ↔
      q ∈ A.states ∧ j = if q ∈ A.finals then 1 else 0 := by
  show AList.lookup q (AList.ofList (A.states.map _)) = some j ↔ _
  rw [AList.lookup_ofList_graph]
  by_cases hq : q ∈ A.states
  · rw [if_pos hq, Option.some.injEq, eq_comm]
    exact (and_iff_right hq).symm
  · rw [if_neg hq]
    exact ⟨fun e => (nomatch e), fun e => absurd e.1 hq⟩

/-- the two initial classes are the non-final and the final reachable states, in any order -/
def InitOK (A : DFTA σ Q) (cls0 cls1 : List Q) : Prop :=
  (∀ q, q ∈ cls0 ↔ q ∈ A.states ∧ q ∉ A.finals) ∧ (∀ q, q ∈ cls1 ↔ q ∈ A.states ∧ q ∈ A.finals)

def InitResp (A : DFTA σ Q) (E : Q → Q → Prop) : Prop :=
  ∀ q q', E q q' → (q ∈ A.states ↔ q' ∈ A.states) ∧ (q ∈ A.finals ↔ q' ∈ A.finals)

theorem pinv_init (A : DFTA σ Q) (E : Q → Q → Prop) (hE0 : InitResp A E) (cls0 cls1 : List Q)
    (h01 : InitOK A cls0 cls1) : PInv A E (initState A cls0 cls1) := by
  have hl := lookup_s2c0 (cls0 := cls0) (cls1 := cls1) A
  have hcls : ∀ (cls : List Q) (b : Nat) (p : Q → Prop), (∀ q, q ∈ cls ↔ q ∈ A.states ∧ p q) →
      (∀ q, p q ↔ b = if q ∈ A.finals then 1 else 0) →
      ∀ q, q ∈ cls ↔ AList.lookup q (initState A cls0 cls1).s2c = some b :=
    fun cls b p h1 h2 q => by rw [h1 q, hl, h2 q]
  refine ⟨⟨fun q => ?_, fun q i hq => ?_, fun q q' i hq hq' => ?_, fun q q' e => ?_⟩, fun j hj => ?_⟩
  · rw [Option.isSome_iff_exists]
    exact ⟨fun ⟨j, h⟩ => ((hl q j).mp h).1, fun h => ⟨_, (hl q _).mpr ⟨h, rfl⟩⟩⟩
  · rw [((hl q i).mp hq).2]
    show (if q ∈ A.finals then 1 else 0) ≤ 1
    split <;> omega
  · have e := ((hl q i).mp hq).2.symm.trans ((hl q' i).mp hq').2
    by_cases h1 : q ∈ A.finals <;> by_cases h2 : q' ∈ A.finals <;>
      simp only [h1, h2, if_true, if_false] at e ⊢ <;> omega
  · obtain ⟨e1, e2⟩ := hE0 q q' e
    exact Option.ext fun j => by simp only [hl, e1, e2]
  · obtain rfl | rfl : j = 0 ∨ j = 1 := by change j ≤ 1 at hj; omega
    · exact ⟨cls0, rfl, hcls cls0 0 _ h01.1 fun q => by by_cases h : q ∈ A.finals <;> simp [h],
        fun h => by omega⟩
    · exact ⟨cls1, rfl, hcls cls1 1 _ h01.2 fun q => by by_cases h : q ∈ A.finals <;> simp [h],
        fun h => by omega⟩

theorem initOK_filter (A : DFTA σ Q) :
    InitOK A (A.states.filter (fun q => decide (q ∉ A.finals)))
      (A.states.filter (fun q => decide (q ∈ A.finals))) := by
  constructor <;> intro q <;> simp [List.mem_filter]

theorem clsTuple_eq_iff (A : DFTA σ Q) (E : Q → Q → Prop) (st : MinState Q) (hp : PInv A E st)
    (q q' : Q) (i i' : Nat) (hq : AList.lookup q st.s2c = some i)
    (hq' : AList.lookup q' st.s2c = some i') : clsTuple st q = clsTuple st q' ↔ i = i' := by
  obtain ⟨cls, h1, h2, _⟩ := hp.cls i (hp.bound q i hq)
  obtain ⟨cls', h1', h2', _⟩ := hp.cls i' (hp.bound q' i' hq')
  unfold clsTuple
  rw [hq, hq']
  simp only [h1, h1', Option.getD_some]
  constructor
  · intro e
    have : q ∈ cls' := by rw [← e]; exact (h2 q).mpr hq
    have := (h2' q).mp this
    rw [hq] at this
    exact Option.some.inj this
  · intro e; subst e
    rw [h1] at h1'; exact Option.some.inj h1'

theorem clsTuple_congr (st : MinState Q) (d d' : Q)
    (h : AList.lookup d st.s2c = AList.lookup d' st.s2c) : clsTuple st d = clsTuple st d' := by
  unfold clsTuple; rw [h]

theorem cert_of_fix (A : DFTA σ Q) (E : Q → Q → Prop) (st : MinState Q)
    (f : List Q → X) (hf : ∀ a b, f a = f b → a = b) (hp : PInv A E st) (hfix : Fix A st)
    (hall : ∀ q ∈ allStates A, q ∈ A.states) :
    congruenceCert A (fun q => f (clsTuple st q)) (stateSet A) = true := by
  rw [congruenceCert_iff]
  intro q hq q' hq' hc
  obtain ⟨i, hi⟩ := Option.isSome_iff_exists.mp ((hp.keys q).mpr (hall q ((mem_stateSet A q).mp hq)))
  obtain ⟨i', hi'⟩ := Option.isSome_iff_exists.mp ((hp.keys q').mpr (hall q' ((mem_stateSet A q').mp hq')))
  obtain rfl := (clsTuple_eq_iff A E st hp q q' i i' hi hi').mp (hf _ _ hc)
  -- both were tested against the representative of their class
  obtain ⟨rep, hrep⟩ := hfix i q hi
  have h1 := (areEquivalent_iff A st.s2c rep q).mp (hrep q hi)
  have h2 := (areEquivalent_iff A st.s2c rep q').mp (hrep q' hi')
  exact ⟨hp.fin q q' i hi hi', (h1.2.trans h2.1 fun _ _ _ => Eq.trans).mono
    fun d d' e => congrArg f (clsTuple_congr st d d' e)⟩

theorem length_le_of_inj_rel {α β : Type} [DecidableEq β] (R : α → β → Prop) :
    ∀ (l : List α) (l' : List β), l.Nodup → (∀ a ∈ l, ∃ b ∈ l', R a b) →
      (∀ a a' b, a ∈ l → a' ∈ l → R a b → R a' b → a = a') → l.length ≤ l'.length := by
  intro l
  induction l with
  | nil => intro _ _ _ _; exact Nat.zero_le _
  | cons a l ih =>
    intro l' hnd hex hinj
    obtain ⟨b, hb, hab⟩ := hex a List.mem_cons_self
    rw [List.nodup_cons] at hnd
    have := ih (l'.erase b) hnd.2 ?_ ?_
    · rw [List.length_erase_of_mem hb] at this
      have hpos : 0 < l'.length := List.length_pos_of_mem hb
      simp only [List.length_cons]; omega
    · intro a' ha'
      obtain ⟨b', hb', hab'⟩ := hex a' (List.mem_cons_of_mem _ ha')
      refine ⟨b', ?_, hab'⟩
      apply (List.mem_erase_of_ne ?_).mpr hb'
      intro e; subst e
      have := hinj a a' b' List.mem_cons_self (List.mem_cons_of_mem _ ha') hab hab'
      subst this; exact hnd.1 ha'
    · intro x y b' hx hy
      exact hinj x y b' (List.mem_cons_of_mem _ hx) (List.mem_cons_of_mem _ hy)

/-- classes `2 … n` are non-empty and disjoint sets of reachable states -/
theorem pinv_n_le (A : DFTA σ Q) (E : Q → Q → Prop) (st : MinState Q) (hp : PInv A E st) :
    st.n ≤ A.states.length + 1 := by
  have := length_le_of_inj_rel (fun (i : Nat) (q : Q) => AList.lookup q st.s2c = some i)
    (List.range' 2 (st.n - 1)) A.states (List.nodup_range' 1 Nat.one_pos) ?_ ?_
  · rw [List.length_range'] at this; omega
  · intro i hi
    rw [List.mem_range'_1] at hi
    obtain ⟨cls, _, h2, h3⟩ := hp.cls i (by omega)
    obtain ⟨q, hq⟩ := List.exists_mem_of_ne_nil cls (h3 hi.1)
    have hs := (h2 q).mp hq
    exact ⟨q, (hp.keys q).mp (by rw [hs]; rfl), hs⟩
  · intro i i' q _ _ h1 h2
    rw [h1] at h2; exact Option.some.inj h2

theorem minLoop_terminates (A : DFTA σ Q) (E : Q → Q → Prop) (hE : Compat A E) :
    ∀ fuel st, PInv A E st → A.states.length + 2 ≤ st.n + fuel → ∃ st', minLoop A fuel st = some st' := by
  intro fuel st hp hle
  fun_induction minLoop A fuel st with
  | case1 st => have := pinv_n_le A E st hp; omega
  | case2 => exact ⟨_, rfl⟩
  | case3 fuel st st1 hf ih =>
    obtain ⟨p1, p2, _⟩ := minPass_spec A E hE st hp
    have := p2 (by simpa using hf)
    exact ih p1 (show _ ≤ (minPass A st).n + fuel by omega)

theorem initResp_eq (A : DFTA σ Q) : InitResp A (fun q q' => q = q') := by
  intro q q' e; subst e; exact ⟨Iff.rfl, Iff.rfl⟩

theorem minimiseState_terminates (A : DFTA σ Q) (cls0 cls1 : List Q) (h01 : InitOK A cls0 cls1)
    (fuel : Nat) (hfuel : A.states.length + 1 ≤ fuel) :
    ∃ st, minimiseState A cls0 cls1 fuel = some st := by
  rw [minimiseState_eq]
  apply minLoop_terminates A _ (compat_eq A) fuel _ (pinv_init A _ (initResp_eq A) cls0 cls1 h01)
  show A.states.length + 2 ≤ 1 + fuel
  omega

theorem minimiseState_cert (A : DFTA σ Q) (hall : AllReach A) (cls0 cls1 : List Q)
    (h01 : InitOK A cls0 cls1) (fuel : Nat) (st : MinState Q)
    (h : minimiseState A cls0 cls1 fuel = some st) (f : List Q → X) (hf : ∀ a b, f a = f b → a = b) :
    congruenceCert A (fun q => f (clsTuple st q)) (stateSet A) = true := by
  rw [minimiseState_eq] at h
  obtain ⟨hp, hfix⟩ := minLoop_spec A _ (compat_eq A) fuel _ st
    (pinv_init A _ (initResp_eq A) cls0 cls1 h01) h
  exact cert_of_fix A _ st f hf hp hfix hall

theorem minimiseCore_terminates (f : List Q → X) (A : DFTA σ Q) (cls0 cls1 : List Q)
    (h01 : InitOK A cls0 cls1) (fuel : Nat) (hfuel : A.states.length + 1 ≤ fuel) :
    ∃ M, minimiseCore f A cls0 cls1 fuel = some M := by
  obtain ⟨st, hst⟩ := minimiseState_terminates A cls0 cls1 h01 fuel hfuel
  exact ⟨_, by rw [minimiseCore_eq_map, hst]; rfl⟩

theorem minimiseCore_lang (f : List Q → X) (hf : ∀ a b, f a = f b → a = b) (A : DFTA σ Q)
    (hd : A.Det) (hall : AllReach A) (cls0 cls1 : List Q) (h01 : InitOK A cls0 cls1) (fuel : Nat)
    (M : DFTA σ X) (h : minimiseCore f A cls0 cls1 fuel = some M) (t : Tree σ) :
    M.accepts t = A.accepts t := by
  obtain ⟨st, hst, e⟩ := minimiseCore_eq f A cls0 cls1 fuel M h
  rw [e]
  exact accepts_quotient A hd _ _ (allStates_subset_stateSet A)
    (minimiseState_cert A hall cls0 cls1 h01 fuel st hst f hf) t

end DFTA
end PS
