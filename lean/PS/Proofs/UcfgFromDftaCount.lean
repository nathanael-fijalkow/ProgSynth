/-
  C06: `programs()` of the grammar built from an acyclic automaton is the number of trees the automaton accepts.
  Every key is `boundedU` within (rank of its state) + 1 levels (`bounded_key`), and the enumeration `langU` from the
  key of a state lists exactly the trees of the given depth read into that state, each once (`count_langU_key`).
-/
import PS.Proofs.UcfgFromDftaLang
import PS.Proofs.UOps
import PS.Proofs.UMass
import PS.Proofs.C04CountU
namespace PS.U.FD
open PS PS.G PS.U DFTA

variable {Q U V : Type} [DecidableEq Q] [DecidableEq U] [DecidableEq V]
set_option linter.unusedSectionVars false

theorem rowFor_keys_nodup (F : Flat Q U V) (A : DFTA Sym Q) (k : UNT V) :
    (AList.keys (rowFor F A k)).Nodup :=
  foldl_inv (fun row : Row V => (AList.keys row).Nodup) _ A.rules
    (fun row h r _ => by split; exacts [AList.keys_insert_nodup _ _ h, h]) [] List.nodup_nil

theorem mem_row_iff {F : Flat Q U V} {A : DFTA Sym Q} (k : UNT V) (f : Sym) (args : List (UNT V)) :
    (∃ alts, (f, alts) ∈ rowFor F A k ∧ args ∈ alts) ↔
      ∃ r ∈ A.rules, isAlt F k f r = true ∧ args = newArgs F k f r.1.2 := by
  constructor
  · rintro ⟨alts, hm, ha⟩
    have hl := AList.lookup_of_mem_nodup (rowFor_keys_nodup F A k) hm
    rw [lookup_rowFor] at hl
    split at hl
    · cases hl
    · simp only [Option.some.injEq] at hl
      rw [← hl, altsOf] at ha
      obtain ⟨r, hr, e⟩ := List.mem_map.mp ha
      exact ⟨r, (List.mem_filter.mp hr).1, (List.mem_filter.mp hr).2, e.symm⟩
  · rintro ⟨r, hr, hi, e⟩
    have hmem : args ∈ altsOf F A k f := by
      rw [altsOf, e]
      exact List.mem_map.mpr ⟨r, List.mem_filter.mpr ⟨hr, hi⟩, rfl⟩
    have hne : altsOf F A k f ≠ [] := fun h => by rw [h] at hmem; cases hmem
    have hl := lookup_rowFor F A k f
    rw [if_neg hne] at hl
    exact ⟨_, AList.lookup_some_mem hl, hmem⟩

theorem isAlt_iff {F : Flat Q U V} {A : DFTA Sym Q} (ok : FlatOK F A) (k : UNT V) (q : Q)
    (hq : q ∈ A.allStates) (hkq : F.proj k = F.d q) (f : Sym) (r : (Sym × List Q) × Q) (hr : r ∈ A.rules) :
    isAlt F k f r = true ↔ r.1.1 = f ∧ r.2 = q := by
  obtain ⟨⟨l, as⟩, dst⟩ := r
  have hst := mem_allStates_of_rule A hr
  simp only [isAlt, matchesTgt, Bool.and_eq_true, decide_eq_true_eq]
  constructor
  · rintro ⟨h1, h2⟩
    exact ⟨h2, ok.inj dst hst.1 q hq (h1.trans hkq)⟩
  · rintro ⟨h1, h2⟩
    exact ⟨by rw [h2, hkq], h1⟩

theorem boundedU_mono (G : UCFG V) : ∀ (j j' : Nat) (a : UNT V), boundedU G j a = true → j ≤ j' →
    boundedU G j' a = true := by
  intro j
  induction j with
  | zero => intro j' a h; cases h
  | succ j ih =>
    intro j' a h hle
    obtain ⟨j'', rfl⟩ : ∃ j'', j' = j'' + 1 := ⟨j' - 1, by omega⟩
    obtain ⟨rs, hl, h⟩ := boundedU_succ.mp h
    exact boundedU_succ.mpr ⟨rs, hl, fun r hr args ha x hx => ih j'' x (h r hr args ha x hx) (by omega)⟩

theorem bounded_key {F : Flat Q U V} {A : DFTA Sym Q} {G : UCFG V} (hb : Built F A G)
    (ok : FlatOK F A) (rank : Q → Nat) (hrank : ∀ r ∈ A.rules, ∀ a ∈ r.1.2, rank a < rank r.2) :
    ∀ (n : Nat) (k : UNT V) (q : Q), rank q ≤ n → k ∈ AList.keys G.rules → q ∈ A.allStates →
      F.proj k = F.d q → boundedU G (n + 1) k = true := by
  suffices h : ∀ (n : Nat) (k : UNT V) (q : Q), rank q < n → k ∈ AList.keys G.rules →
      q ∈ A.allStates → F.proj k = F.d q → boundedU G n k = true from
    fun n k q hn => h (n + 1) k q (Nat.lt_succ_of_le hn)
  intro n
  induction n with
  | zero => intro k q hn; exact absurd hn (Nat.not_lt_zero _)
  | succ n ih =>
    intro k q hn hk hq hkq
    refine boundedU_succ.mpr ⟨_, hb.lookup hk, fun e he args ha x hx => ?_⟩
    obtain ⟨r, hr, hi, e2⟩ := (mem_row_iff (F := F) (A := A) k e.1 args).mp ⟨e.2, he, ha⟩
    have h3 := (isAlt_iff ok k q hq hkq e.1 r hr).mp hi
    have hm := matchesTgt_of_isAlt hi
    have hxk : x ∈ AList.keys G.rules := by
      apply hb.closed k hk r hr hm
      rw [h3.1, ← e2]; exact hx
    rw [e2] at hx
    obtain ⟨a, ha', i, hxe⟩ := mem_newArgs k e.1 r.1.2 x hx
    have hlt := hrank r hr a ha'
    rw [h3.2] at hlt
    have hast : a ∈ A.allStates := (mem_allStates_of_rule A (l := r.1.1) (args := r.1.2) (d := r.2) hr).2 a ha'
    exact ih x a (by omega) hxk hast (by rw [hxe, ok.proj_child])

theorem product_eq_cartesian {α : Type} : ∀ ls : List (List α), product ls = cartesian ls
  | [] => rfl
  | l :: ls => by rw [product, cartesian, product_eq_cartesian ls]

theorem mem_product_iff {α : Type} (ls : List (List α)) (xs : List α) :
    xs ∈ product ls ↔ List.Forall₂ (fun x l => x ∈ l) xs ls := by
  rw [product_eq_cartesian]
  exact mem_cartesian ls xs

theorem forall₂_newArgs {F : Flat Q U V} {P : Prog → UNT V → Prop} (k : UNT V) (f : Sym) :
    ∀ (ks : List Prog) (as : List Q) (i : Nat),
      List.Forall₂ P ks ((as.zipIdx i).map (fun ai => F.child k f ai.2 (F.d ai.1))) ↔
        List.Forall₂ (fun t (aj : Q × Nat) => P t (F.child k f aj.2 (F.d aj.1))) ks (as.zipIdx i) := by
  intro ks as i
  rw [List.forall₂_map_right_iff]

section Lang
variable {F : Flat Q U V} {A : DFTA Sym Q} {G : UCFG V}

theorem rows_nodup (hb : Built F A G) :
    ∀ nt rs, AList.lookup nt G.rules = some rs → (AList.keys rs).Nodup := by
  intro nt rs hl
  have hk : nt ∈ AList.keys G.rules := List.mem_map.mpr ⟨(nt, rs), AList.lookup_some_mem hl, rfl⟩
  rw [hb.lookup hk] at hl
  cases hl
  exact rowFor_keys_nodup F A nt

theorem count_langU_key (hb : Built F A G) (ok : FlatOK F A) (hd : A.Det) (j : Nat) (k : UNT V) (q : Q)
    (t : Prog) (hk : k ∈ AList.keys G.rules) (hq : q ∈ A.allStates) (hkq : F.proj k = F.d q) :
    (langU G j k).count t = if Tree.depth t ≤ j then (if run A t = some q then 1 else 0) else 0 := by
  rw [langU_eq_prods, Prods.count_lang, ← (length_derivs G (rows_nodup hb)).1,
    derivs_length hb ok hd t k q hk hq hkq]

theorem langU_sound (hb : Built F A G) (ok : FlatOK F A) (hd : A.Det) :
    ∀ (j : Nat) (k : UNT V) (q : Q) (t : Prog), k ∈ AList.keys G.rules → q ∈ A.allStates →
      F.proj k = F.d q → t ∈ langU G j k → run A t = some q := by
  intro j k q t hk hq hkq h
  have hc := List.count_pos_iff.mpr h
  rw [count_langU_key hb ok hd j k q t hk hq hkq] at hc
  false_or_by_contra
  rename_i hne
  simp [hne] at hc

end Lang

/-- a number that is at least every rank (any would do; the sum is one that needs no `max`): one more level bounds
    every key (`bounded_key`) -/
def levelOf (A : DFTA Sym Q) (rank : Q → Nat) : Nat := (A.allStates.map rank).sum

theorem rank_le_levelOf (A : DFTA Sym Q) (rank : Q → Nat) (q : Q) (hq : q ∈ A.allStates) :
    rank q ≤ levelOf A rank :=
  Ops.le_sum_of_mem (List.mem_map.mpr ⟨q, hq, rfl⟩)

theorem bounded_starts {F : Flat Q U V} {A : DFTA Sym Q} {G : UCFG V} (hb : Built F A G)
    (ok : FlatOK F A) (rank : Q → Nat) (hrank : ∀ r ∈ A.rules, ∀ a ∈ r.1.2, rank a < rank r.2) :
    ∀ s ∈ G.starts, boundedU G (levelOf A rank + 1) s = true := by
  intro s hs
  obtain ⟨q, hqf, hqs⟩ := (mem_startsOf F A s).mp (hb.starts_eq ▸ hs)
  have hqa := mem_finals_allStates A q hqf
  exact bounded_key hb ok rank hrank _ s q (rank_le_levelOf A rank q hqa) (hb.starts s hs) hqa
    (by rw [← hqs, ok.proj_root])

theorem mem_langU_starts {F : Flat Q U V} {A : DFTA Sym Q} {G : UCFG V} (hb : Built F A G)
    (ok : FlatOK F A) (hd : A.Det) (rank : Q → Nat)
    (hrank : ∀ r ∈ A.rules, ∀ a ∈ r.1.2, rank a < rank r.2) (t : Prog) :
    t ∈ G.starts.flatMap (fun s => langU G (levelOf A rank + 1) s) ↔ A.accepts t = true := by
  rw [← genU_eq_accepts hb ok hd]
  exact Cnt.mem_langAll G (rows_nodup hb) _ (bounded_starts hb ok rank hrank) t

theorem programs_eq_enum {F : Flat Q U V} {A : DFTA Sym Q} {G : UCFG V} (hb : Built F A G)
    (ok : FlatOK F A) (rank : Q → Nat) (hrank : ∀ r ∈ A.rules, ∀ a ∈ r.1.2, rank a < rank r.2)
    (fuel n : Nat) (h : programs G fuel = some n) :
    n = (G.starts.flatMap (fun s => langU G (levelOf A rank + 1) s)).length := by
  rw [Ops.programs_eq_length G fuel n _ h (bounded_starts hb ok rank hrank), List.length_flatMap]

end PS.U.FD
