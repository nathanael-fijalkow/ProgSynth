/- C08, fragment grammar: `__pcfg_from__` does not fail on valid nodes and the loop `while to_fill` terminates
   (an explicit bound on the fuel). -/
import PS.Proofs.SplitterFacts
namespace PS.Sp
open PS PS.G

variable {U : Type} [DecidableEq U]

/-- the loop over the nodes does not fail (no `assert`, no `IndexError`) on legal derivation prefixes -/
theorem go_some {pg : PUG U} : ∀ (group : List (Node U)) (st : FragSt U), (∀ n ∈ group, Valid pg.g n) →
    ∃ st', pcfgFrom.go pg st group = some st'
  | [], st, _ => ⟨st, rfl⟩
  | n :: rest, st, hv => by
    have hval := hv n (by simp)
    obtain ⟨r, hr⟩ := renPath_exists pg.g n.steps (st2Of st n).counter [(n.start, spOf st n)] n.config
      (by simpa [srcs] using hval.2.2.2.1)
    have ha : ∃ st1, addNode pg st n = some st1 := by
      rw [addNode_eq, hr]; exact ⟨_, rfl⟩
    obtain ⟨st1, hst1⟩ := ha
    obtain ⟨st', hst'⟩ := go_some rest st1 (fun m hm => hv m (List.mem_cons_of_mem _ hm))
    exact ⟨st', by simp only [pcfgFrom.go, hst1, hst']⟩

/-- all non-terminals on right-hand sides of the original grammar -/
def allRhs (pg : PUG U) : List (UNT U) :=
  pg.g.rules.flatMap (fun e => e.2.flatMap (fun r => r.2.flatMap id))

theorem rhsSyms_sub (pg : PUG U) (S : UNT U) : (rhsSyms pg S).Sublist (allRhs pg) := by
  unfold rhsSyms allRhs
  cases hl : AList.lookup S pg.g.rules with
  | none => exact List.nil_sublist _
  | some rs =>
    exact List.sublist_flatten_of_mem (List.mem_map.mpr ⟨(S, rs), AList.lookup_some_mem hl, rfl⟩)

/-- the non-terminals of `univ` that have no free copy yet -/
def missing (univ : List (UNT U)) (st : FragSt U) : Nat :=
  univ.countP (fun S => !AList.contains (free S) st.rules)

omit [DecidableEq U] in
theorem countP_lt {α : Type} (p p' : α → Bool) (l : List α) (himp : ∀ x, p' x = true → p x = true) {x : α}
    (hx : x ∈ l) (h1 : p x = true) (h2 : p' x = false) : l.countP p' < l.countP p := by
  rw [List.countP_eq_length_filter, List.countP_eq_length_filter]
  exact filter_length_lt p p' l (fun q _ => himp q) ⟨x, hx, h1, h2⟩

/-- `while to_fill` exits within `|to_fill| + |univ| · (M + 1)` iterations, where `M` bounds the right-hand sides:
    an iteration either shortens `to_fill`, or gives one more non-terminal of `univ` a free copy and lengthens
    `to_fill` by at most `M - 1` -/
theorem fill_done (pg : PUG U) (univ : List (UNT U)) (hall : ∀ S ∈ allRhs pg, S ∈ univ)
    (fuel : Nat) (st : FragSt U) (hsub : ∀ S ∈ st.toFill, S ∈ univ)
    (hb : st.toFill.length + missing univ st * ((allRhs pg).length + 1) ≤ fuel) :
    (fillLoop pg fuel st).toFill = [] := by
  fun_induction fillLoop pg fuel st with
  | case1 st => exact List.eq_nil_of_length_eq_zero (Nat.le_zero.mp (Nat.le_trans (Nat.le_add_right _ _) hb))
  | case2 f st hrev => simpa using hrev
  | case3 f st S restRev hrev st1 hc ih =>
    have htf : st.toFill = restRev.reverse ++ [S] := by simpa using congrArg List.reverse hrev
    refine ih (fun S' hS' => hsub S' (htf ▸ List.mem_append.mpr (Or.inl hS'))) ?_
    have hlen : st.toFill.length = restRev.reverse.length + 1 := by rw [htf]; simp
    have : missing univ st1 = missing univ st := rfl
    rw [this]
    simp only [st1] at hlen ⊢
    omega
  | case4 f st S restRev hrev st1 hc ih =>
    have htf : st.toFill = restRev.reverse ++ [S] := by simpa using congrArg List.reverse hrev
    have hlen : st.toFill.length = restRev.reverse.length + 1 := by rw [htf]; simp
    have hr := rhsSyms_sub pg S
    refine ih (fun S' hS' => ?_) ?_
    · rcases List.mem_append.mp hS' with h | h
      · exact hsub S' (htf ▸ List.mem_append.mpr (Or.inl h))
      · exact hall S' (hr.subset h)
    · have hmiss : missing univ (copyRules pg st1 S (free S)) < missing univ st := by
        refine countP_lt _ _ univ (fun x hx => ?_) (hsub S (htf ▸ List.mem_append_cons_self))
          (by simpa [st1] using hc) (by simp [copyRules_eq, AList.contains, AList.lookup_insert_self])
        simp only [copyRules_eq, AList.contains, AList.lookup_insert, Bool.not_eq_true'] at hx ⊢
        by_cases he : free x = free S
        · simp [he] at hx
        · simpa [he, st1] using hx
      have hlen2 : (copyRules pg st1 S (free S)).toFill.length = restRev.reverse.length + (rhsSyms pg S).length :=
        List.length_append
      have hmul := Nat.mul_le_mul_right ((allRhs pg).length + 1) hmiss
      rw [Nat.succ_mul] at hmul
      have := hr.length_le
      rw [hlen2]
      omega

def fillBound (pg : PUG U) (st : FragSt U) : Nat :=
  st.toFill.length + (st.toFill ++ allRhs pg).length * ((allRhs pg).length + 1)

theorem fill_done_bound (pg : PUG U) (st : FragSt U) (fuel : Nat) (h : fillBound pg st ≤ fuel) :
    (fillLoop pg fuel st).toFill = [] := by
  apply fill_done pg (st.toFill ++ allRhs pg) (fun S hS => List.mem_append.mpr (Or.inr hS)) fuel st
    (fun S hS => List.mem_append.mpr (Or.inl hS))
  have : missing (st.toFill ++ allRhs pg) st ≤ (st.toFill ++ allRhs pg).length := List.countP_le_length
  have := Nat.mul_le_mul_right ((allRhs pg).length + 1) this
  unfold fillBound at h
  omega

theorem pcfgFrom_total (pg : PUG U) (group : List (Node U)) (hv : ∀ n ∈ group, Valid pg.g n) :
    ∃ fuel0, ∀ fuel, fuel0 ≤ fuel → (pcfgFrom pg group fuel).isSome = true ∧ fillDone pg group fuel = true := by
  obtain ⟨stG, hg⟩ := go_some (pg := pg) group ⟨0, [], [], [], [], []⟩ hv
  refine ⟨fillBound pg stG, ?_⟩
  intro fuel hfuel
  have hd := fill_done_bound pg stG fuel hfuel
  constructor
  · rw [pcfgFrom_eq]; simp [fragState, hg]
  · simp [fillDone, fragState, hg, hd]

end PS.Sp
