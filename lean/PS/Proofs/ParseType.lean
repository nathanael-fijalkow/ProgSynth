/-
  C15 — the type parser: the stack / infix-stack / or_flag machine run on
  the token stream of an expression of the notation builds the denoted object.
-/
import PS.Model.Parse
import PS.Proofs.Strip
namespace PS.C15
open PS TyExpr

variable {sx : Bool}

theorem loopT_nil (st : St) : loopT sx [] st = .ok st := by simp [loopT]

theorem loopT_cons_ok {t : Tok} {ts : List Tok} {st st' : St} (h : stepT sx t st = .ok st') :
    loopT sx (t :: ts) st = loopT sx ts st' := by
  simp [loopT, h]

theorem loopT_cons_err {t : Tok} {ts : List Tok} {st : St} {e : Err} (h : stepT sx t st = .error e) :
    loopT sx (t :: ts) st = .error e := by
  simp [loopT, h]

theorem loopT_single {t : Tok} {st st' : St} (h : stepT sx t st = .ok st') :
    loopT sx [t] st = .ok st' := by
  rw [loopT_cons_ok h, loopT_nil]

theorem loopT_append_ok {a b : List Tok} {st st' : St} (h : loopT sx a st = .ok st') :
    loopT sx (a ++ b) st = loopT sx b st' := by
  induction a generalizing st with
  | nil => simp [loopT_nil] at h; subst h; rfl
  | cons t ts ih =>
    cases hs : stepT sx t st with
    | error e => rw [loopT_cons_err hs] at h; cases h
    | ok st1 =>
      rw [loopT_cons_ok hs] at h
      rw [List.cons_append, loopT_cons_ok hs]
      exact ih h

theorem autoTypeToks_ok {ts : List Tok} {st : St} (h : loopT sx ts {} = .ok st) :
    autoTypeToks sx ts = finish sx st := by
  simp [autoTypeToks, h]

def push (t : TyO) (st : St) : St := { st with stack := t :: st.stack }

/-- the machine is at the start of an operand: no pending `|`, as many operators read as
    operands stacked -/
def Pre (st : St) : Prop := st.orFlag = -1 ∧ st.lastInfix = st.stack.length

theorem step_name_start {w : Str} {st : St} (hw : w ≠ []) (h : Pre st) :
    stepT sx (.node (.name w) []) st = .ok (push (TyO.prim w) st) := by
  obtain ⟨h1, h2⟩ := h
  have hl : w.length > 0 := List.length_pos_iff.mpr hw
  simp [stepT, kindOf, step, hl, h1, h2, push, bind, Except.bind, pure, Except.pure]

theorem step_name_post {w : Str} {st : St} {x : TyO} {S : List TyO} (hw : w ≠ [])
    (h1 : st.orFlag = -1) (h2 : st.stack = x :: S) (h3 : st.lastInfix = S.length) :
    stepT sx (.node (.name w) []) st =
      .ok { st with stack := (if w = OPTIONAL then tyOptional x else .node (.generic w false) [x]) :: S } := by
  have hl : w.length > 0 := List.length_pos_iff.mpr hw
  by_cases ho : w = OPTIONAL
  · simp [stepT, kindOf, step, hl, h1, h2, h3, eq_true ho, bind, Except.bind, pure, Except.pure]
  · simp [stepT, kindOf, step, hl, h1, h2, h3, ho, bind, Except.bind, pure, Except.pure]

theorem step_pvar {w : Str} {st : St} (h1 : st.orFlag = -1) :
    stepT sx (.node (.pvar w) []) st = .ok (push (TyO.poly w) st) := by
  simp [stepT, kindOf, step, h1, push, bind, Except.bind, pure, Except.pure]

theorem step_paren {ks : List Tok} {t : TyO} {st : St} (hs : autoTypeToks sx ks = .ok t)
    (h1 : st.orFlag = -1) : stepT sx (.node .paren ks) st = .ok (push t st) := by
  simp [stepT, kindOf, hs, step, h1, push, bind, Except.bind, pure, Except.pure]

theorem step_brack {ks : List Tok} {n : Str} {r : TyO} {st : St} {S : List TyO}
    (hs : autoTypeToks sx ks = .ok r) (h1 : st.orFlag = -1) (h2 : st.stack = TyO.poly n :: S) :
    stepT sx (.node .brack ks) st = .ok { st with stack := .node (.fpoly n) [r] :: S } := by
  simp [stepT, kindOf, hs, step, h1, h2, TyO.poly, bind, Except.bind, pure, Except.pure]

theorem step_op {w : Str} {st : St} (h1 : st.orFlag = -1) (h2 : st.stack.length = st.lastInfix + 1) :
    stepT sx (.node (.op w) []) st =
      .ok { st with lastInfix := st.lastInfix + 1, infixStack := w :: st.infixStack } := by
  simp [stepT, kindOf, step, h1, h2, bind, Except.bind, pure, Except.pure]

theorem step_op_reject {w : Str} {st : St} (h : st.stack.length ≠ st.lastInfix + 1) :
    stepT true (.node (.op w) []) st = .error .assertion := by
  simp [stepT, kindOf, step, h, bind, Except.bind]

theorem step_bar {st : St} : stepT sx (.node .bar []) st = .ok { st with orFlag := 1 } := by
  simp [stepT, kindOf, step, bind, Except.bind, pure, Except.pure]

theorem step_after_bar_name {w : Str} {st : St} {x : TyO} {S : List TyO} (hw : w ≠ [])
    (h1 : st.orFlag = 1) (h2 : st.stack = x :: S) :
    stepT sx (.node (.name w) []) st =
      .ok { st with orFlag := -1, stack := tyOr x (TyO.prim w) :: S } := by
  have hl : w.length > 0 := List.length_pos_iff.mpr hw
  simp [stepT, kindOf, step, hl, h1, h2, bind, Except.bind, pure, Except.pure]

theorem step_after_bar_pvar {w : Str} {st : St} {x : TyO} {S : List TyO}
    (h1 : st.orFlag = 1) (h2 : st.stack = x :: S) :
    stepT sx (.node (.pvar w) []) st =
      .ok { st with orFlag := -1, stack := tyOr x (TyO.poly w) :: S } := by
  simp [stepT, kindOf, step, h1, h2, bind, Except.bind, pure, Except.pure]

theorem step_after_bar_paren {ks : List Tok} {t : TyO} {st : St} {x : TyO} {S : List TyO}
    (hs : autoTypeToks sx ks = .ok t) (h1 : st.orFlag = 1) (h2 : st.stack = x :: S) :
    stepT sx (.node .paren ks) st = .ok { st with orFlag := -1, stack := tyOr x t :: S } := by
  simp [stepT, kindOf, hs, step, h1, h2, bind, Except.bind, pure, Except.pure]

/-! ## the induction over the notation -/

/-- no `|` is pending and exactly one more operand than operators has been read -/
def Done (st : St) : Prop := st.orFlag = -1 ∧ st.stack.length = st.lastInfix + 1

theorem done_push {t : TyO} {st : St} (h : Pre st) : Done (push t st) :=
  ⟨h.1, by simp [push, h.2]⟩

/-- a postfix-level operand pushes its object -/
def PropP (sx : Bool) (e : TyExpr) : Prop := ∀ st, Pre st → loopT sx (toksAt 1 e) st = .ok (push e.denote st)
/-- an infix chain leaves a stack that the final fold turns into its object, with no operator
    or `|` waiting for an operand -/
def PropI (sx : Bool) (e : TyExpr) : Prop :=
  ∀ st, Pre st → ∃ st', loopT sx (toksAt 0 e) st = .ok st' ∧
    finish sx st' = finish sx (push e.denote st) ∧ Done st'
/-- an operand right after `|` is merged into the union -/
def PropB (sx : Bool) (e : TyExpr) : Prop :=
  ∀ (st : St) (x : TyO) (S : List TyO), st.orFlag = 1 → st.stack = x :: S →
    loopT sx (toksAt 3 e) st = .ok { st with orFlag := -1, stack := tyOr x e.denote :: S }
def PropTop (sx : Bool) (e : TyExpr) : Prop := autoTypeToks sx (toksAt 0 e) = .ok e.denote

theorem top_of_I {e : TyExpr} (h : PropI sx e) : PropTop sx e := by
  obtain ⟨st', h1, h2, _⟩ := h {} ⟨rfl, rfl⟩
  unfold PropTop
  rw [autoTypeToks_ok h1, h2]
  simp [finish, push, finishLoop]

theorem I_of_P {e : TyExpr} (heq : toksAt 0 e = toksAt 1 e) (h : PropP sx e) : PropI sx e := by
  intro st hst
  exact ⟨push e.denote st, by rw [heq]; exact h st hst, rfl, done_push hst⟩

theorem P_of_top {e : TyExpr} (heq : toksAt 1 e = [.node .paren (toksAt 0 e)]) (h : PropTop sx e) : PropP sx e := by
  intro st hst
  rw [heq]
  exact loopT_single (step_paren h hst.1)

theorem B_of_top {e : TyExpr} (heq : toksAt 3 e = [.node .paren (toksAt 0 e)]) (h : PropTop sx e) : PropB sx e := by
  intro st x S h1 h2
  rw [heq]
  exact loopT_single (step_after_bar_paren h h1 h2)

/-- an expression that needs no parentheses as an infix operand, and some after `|` -/
theorem all_of_P {e : TyExpr} (h0 : toksAt 0 e = toksAt 1 e)
    (h3 : toksAt 3 e = [.node .paren (toksAt 0 e)]) (hP : PropP sx e) :
    PropP sx e ∧ PropI sx e ∧ PropB sx e :=
  have hI := I_of_P h0 hP
  ⟨hP, hI, B_of_top h3 (top_of_I hI)⟩

theorem goodName_ne_nil {n : Str} (h : goodName n = true) : n ≠ [] := by
  intro h2; subst h2; simp [goodName] at h

/-- through `String.toList_ofList`: `decide` alone would decode the literal's UTF-8 bytes -/
theorem goodName_OPTIONAL : goodName OPTIONAL = true := by
  unfold OPTIONAL; rw [String.toList_ofList]; decide

theorem pre_push {t : TyO} {st : St} (h : Pre st) :
    (push t st).orFlag = -1 ∧ (push t st).stack = t :: st.stack ∧ (push t st).lastInfix = st.stack.length :=
  ⟨h.1, rfl, h.2⟩

theorem loopT_postfix {a : TyExpr} (hPa : PropP sx a) {n : Str} (hn : n ≠ []) (st : St) (hst : Pre st) :
    loopT sx (toksAt 1 a ++ [.node (.name n) []]) st =
      .ok (push (if n = OPTIONAL then tyOptional a.denote else .node (.generic n false) [a.denote]) st) := by
  obtain ⟨q1, q2, q3⟩ := pre_push (t := a.denote) hst
  have s2 := step_name_post (sx := sx) (w := n) hn q1 q2 (by rw [q3])
  rw [loopT_append_ok (hPa st hst), loopT_cons_ok s2, loopT_nil]; rfl

theorem parse_all (e : TyExpr) (hwf : e.wf = true) : PropP sx e ∧ PropI sx e ∧ PropB sx e := by
  induction e with
  | prim n =>
    have hn := goodName_ne_nil (by simpa [wf] using hwf)
    have hP : PropP sx (.prim n) := fun st hst => loopT_single (step_name_start hn hst)
    exact ⟨hP, I_of_P rfl hP, fun st x S h1 h2 => loopT_single (step_after_bar_name hn h1 h2)⟩
  | var n =>
    have hP : PropP sx (.var n) := fun st hst => loopT_single (step_pvar hst.1)
    exact ⟨hP, I_of_P rfl hP, fun st x S h1 h2 => loopT_single (step_after_bar_pvar h1 h2)⟩
  | fvar n r ih =>
    have hr : r.wf = true := by simp [wf] at hwf; exact hwf.2
    have hTopR := top_of_I (ih hr).2.1
    have hP : PropP sx (.fvar n r) := by
      intro st hst
      have s1 : stepT sx (.node (.pvar n) []) st = .ok (push (TyO.poly n) st) := step_pvar hst.1
      have s2 : stepT sx (.node .brack (toksAt 0 r)) (push (TyO.poly n) st)
          = .ok { (push (TyO.poly n) st) with stack := .node (.fpoly n) [r.denote] :: st.stack } :=
        step_brack hTopR hst.1 rfl
      simp only [toksAt, wrap, Nat.reduceLeDiff, decide_true, if_true]
      rw [loopT_cons_ok s1, loopT_cons_ok s2, loopT_nil]; rfl
    exact all_of_P rfl rfl hP
  | infx op a b iha ihb =>
    have hw : goodOp op = true ∧ a.wf = true ∧ b.wf = true := by
      simp [wf] at hwf; exact ⟨hwf.1.1, hwf.1.2, hwf.2⟩
    have hPa := (iha hw.2.1).1
    have hIb := (ihb hw.2.2).2.1
    have hI : PropI sx (.infx op a b) := by
      intro st hst
      have l1 := hPa st hst
      obtain ⟨q1, q2, q3⟩ := pre_push (t := a.denote) hst
      let st2 : St := { stack := a.denote :: st.stack, lastInfix := st.lastInfix + 1,
                        infixStack := op :: st.infixStack, orFlag := st.orFlag }
      have s2 : stepT sx (.node (.op op) []) (push a.denote st) = .ok st2 := by
        rw [step_op q1 (by rw [q2, q3]; rfl)]; rfl
      have hpre2 : Pre st2 := ⟨hst.1, by simp [st2, hst.2]⟩
      obtain ⟨st', h1, h2, h3⟩ := hIb st2 hpre2
      refine ⟨st', ?_, ?_, h3⟩
      · simp only [toksAt, wrap, Nat.le_refl, decide_true, if_true, List.append_assoc]
        rw [loopT_append_ok l1, List.cons_append, List.nil_append, loopT_cons_ok s2]
        exact h1
      · rw [h2]
        simp [finish, push, finishLoop, denote, st2]
    have hTop := top_of_I hI
    exact ⟨P_of_top rfl hTop, hI, B_of_top rfl hTop⟩
  | generic n a iha =>
    have hw : goodName n = true ∧ n ≠ OPTIONAL ∧ a.wf = true := by
      simp [wf] at hwf; exact ⟨hwf.1.1, hwf.1.2, hwf.2⟩
    have hP : PropP sx (.generic n a) := fun st hst =>
      (loopT_postfix (iha hw.2.2).1 (goodName_ne_nil hw.1) st hst).trans (by rw [if_neg hw.2.1]; rfl)
    exact all_of_P rfl rfl hP
  | optional a iha =>
    have hw : a.wf = true := by simpa [wf] using hwf
    have hP : PropP sx (.optional a) := fun st hst =>
      (loopT_postfix (iha hw).1 (goodName_ne_nil goodName_OPTIONAL) st hst).trans (by rw [if_pos rfl]; rfl)
    exact all_of_P rfl rfl hP
  | union a b iha ihb =>
    have hw : a.wf = true ∧ b.wf = true := by simpa [wf] using hwf
    have hPa := (iha hw.1).1
    have hBb := (ihb hw.2).2.2
    have hP : PropP sx (.union a b) := by
      intro st hst
      have l1 := hPa st hst
      obtain ⟨q1, q2, q3⟩ := pre_push (t := a.denote) hst
      have s2 : stepT sx (.node .bar []) (push a.denote st) = .ok { (push a.denote st) with orFlag := 1 } :=
        step_bar
      have l3 := hBb { (push a.denote st) with orFlag := 1 } a.denote st.stack rfl rfl
      simp only [toksAt, wrap, Nat.le_refl, decide_true, if_true, List.append_assoc]
      rw [loopT_append_ok l1, List.cons_append, List.nil_append, loopT_cons_ok s2, l3]
      simp [push, denote, hst.1]
    exact all_of_P rfl rfl hP

/-! ## the malformed streams of finding C15-F4: with the repair (`sx = true`) each is rejected -/

theorem toks_done (e : TyExpr) (hwf : e.wf = true) :
    ∃ st', loopT sx e.toks {} = .ok st' ∧ Done st' ∧ st'.stack ≠ [] := by
  obtain ⟨st', h1, _, hd⟩ := (parse_all (sx := sx) e hwf).2.1 {} ⟨rfl, rfl⟩
  refine ⟨st', h1, hd, ?_⟩
  intro hnil
  have := hd.2
  rw [hnil] at this
  simp at this

theorem reject_op_after (e : TyExpr) (hwf : e.wf = true) (w : Str) :
    autoTypeToks true (e.toks ++ [.node (.op w) []]) = .error .assertion := by
  obtain ⟨st', h1, hd, hne⟩ := toks_done (sx := true) e hwf
  have s2 : stepT true (.node (.op w) []) st' =
      .ok { st' with lastInfix := st'.lastInfix + 1, infixStack := w :: st'.infixStack } :=
    step_op hd.1 hd.2
  have hl : loopT true (e.toks ++ [.node (.op w) []]) {} =
      .ok { st' with lastInfix := st'.lastInfix + 1, infixStack := w :: st'.infixStack } := by
    rw [loopT_append_ok h1, loopT_cons_ok s2, loopT_nil]
  rw [autoTypeToks_ok hl]
  simp [finish, hd.2]

theorem reject_op_before (w : Str) (ts : List Tok) :
    autoTypeToks true (.node (.op w) [] :: ts) = .error .assertion := by
  simp [autoTypeToks, loopT_cons_err (step_op_reject (w := w) (st := {}) (by decide))]

theorem reject_op_op (e : TyExpr) (hwf : e.wf = true) (w1 w2 : Str) (ts : List Tok) :
    autoTypeToks true (e.toks ++ .node (.op w1) [] :: .node (.op w2) [] :: ts) = .error .assertion := by
  obtain ⟨st', h1, hd, _⟩ := toks_done (sx := true) e hwf
  have s2 : stepT true (.node (.op w1) []) st' =
      .ok { st' with lastInfix := st'.lastInfix + 1, infixStack := w1 :: st'.infixStack } :=
    step_op hd.1 hd.2
  have s3 : stepT true (.node (.op w2) [])
      { st' with lastInfix := st'.lastInfix + 1, infixStack := w1 :: st'.infixStack } =
      .error .assertion := step_op_reject (by simp [hd.2])
  simp [autoTypeToks, loopT_append_ok h1, loopT_cons_ok s2, loopT_cons_err s3]

theorem reject_bar_after (e : TyExpr) (hwf : e.wf = true) :
    autoTypeToks true (e.toks ++ [.node .bar []]) = .error .assertion := by
  obtain ⟨st', h1, hd, hne⟩ := toks_done (sx := true) e hwf
  have s2 : stepT true (.node .bar []) st' = .ok { st' with orFlag := 1 } := step_bar
  have hl : loopT true (e.toks ++ [.node .bar []]) {} = .ok { st' with orFlag := 1 } := by
    rw [loopT_append_ok h1, loopT_cons_ok s2, loopT_nil]
  rw [autoTypeToks_ok hl]
  have hlen : st'.stack.length ≠ 0 := fun h => hne (List.length_eq_zero_iff.mp h)
  simp [finish, hlen]

end PS.C15
