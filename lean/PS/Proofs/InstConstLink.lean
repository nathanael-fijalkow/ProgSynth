/-
  C17 ↔ C04.  The model of `ProbDetGrammar.probability` used by C17 (`PS.IC.probability`:
  membership test, then the `reduce_derivations` fold, exceptions → 0) is the model of C04
  (`PS.G.probabilityDet`), and the recursive specification `PS.IC.prob` is C04's specification
  `PS.G.prob` (product of the rule weights along the stack-free derivation, 0 outside the
  language).  Hence, by `probabilityDet_eq_prob` (C04), `probability = prob`, and the mass
  theorems of C17 can be stated on what the Python computes.

  The total mass: `mass (inst fx G tbl) (instTags fx tags tbl) k nt = mass G tags k nt`
  for every depth budget `k` and non-terminal: no probability mass is lost or created by
  `instantiate_constants`; and the enumeration of the instantiated grammar is the set of the
  instantiations of the enumeration of the template grammar.
-/
import PS.Proofs.InstConstMass
import PS.Proofs.ProbDet
import PS.Proofs.Mass
namespace PS.IC
open PS PS.G

variable {S : Type} [DecidableEq S]

theorem tag?_eq_tagOf {T : Type} [DecidableEq T] (tags : Tags S T) (nt : NT S T) (P : Sym) :
    tag? tags nt P = PS.G.tagOf tags nt P :=
  (tag?_eq_lookup₂ tags nt P).trans (tagOf_eq_lookup₂ tags nt P).symm

theorem reducer_eq_mulTag {T : Type} [DecidableEq T] (tags : Tags S T) :
    (fun (cur : Option Rat) (nt : NT S T) (P : Sym) (_ : List (Ty × S) × T) =>
        match cur, tag? tags nt P with
        | some c, some w => some (c * w)
        | _, _ => none) = PS.G.mulTag tags := by
  funext cur nt P r
  rw [tag?_eq_tagOf]
  cases cur with
  | none => cases PS.G.tagOf tags nt P <;> rfl
  | some c =>
    simp only [PS.G.mulTag]
    cases PS.G.tagOf tags nt P <;> rfl

theorem probability_eq_probabilityDet {T : Type} [DecidableEq T] (G : TT S T) (tags : Tags S T)
    (p : Prog) : probability G tags p = PS.G.probabilityDet G tags p := by
  show (if contains G p = true then
      match reduceDerivations G (fun (cur : Option Rat) (nt : NT S T) (P : Sym)
          (_ : List (Ty × S) × T) =>
          match cur, tag? tags nt P with
          | some c, some w => some (c * w)
          | _, _ => none) (some 1) p with
      | some (some r) => r
      | _ => 0
    else 0) = _
  rw [reducer_eq_mulTag]
  unfold PS.G.probabilityDet PS.G.probabilityDetFrom contains reduceDerivations
  cases (containsRec G p G.start []).1 with
  | false => simp
  | true =>
    simp only [if_true, Bool.not_true, Bool.false_eq_true, if_false]
    cases reduceRec G (mulTag tags) (some 1) p G.start [] with
    | none => rfl
    | some x =>
      obtain ⟨v, i, n⟩ := x
      cases v <;> rfl

theorem prob_eq_der (G : TT S Unit) (tags : Tags S Unit) :
    (∀ (t : Prog) (nt : NT S Unit),
      prob G tags t nt = if gen G t nt = true then derWeight tags (derivation G t nt) else 0) ∧
    ∀ (ks : List Prog) (args : List (Ty × S)),
      probList G tags ks args =
        if genList G ks args = true then derWeight tags (derivationList G ks args) else 0 := by
  refine Tree.ind₂ (fun f kids ih nt => ?_) (fun args => ?_) (fun k ks ih1 ih2 args => ?_)
  · rw [prob, gen, derivation]
    cases hr : G.rule? nt f with
    | none => simp
    | some r =>
      simp only
      rw [ih r.1]
      cases hg : genList G kids r.1 with
      | false => simp
      | true => simp [derWeight, weight, tag?_eq_tagOf]
  · cases args <;> simp [probList, genList, derivationList, derWeight]
  · cases args with
    | nil => simp [probList, genList]
    | cons a as =>
      rw [probList, genList, derivationList, ih1, ih2 as, derWeight_append]
      cases gen G k (a.1, (a.2, ())) <;> cases genList G ks as <;> simp

theorem probList_eq_der (G : TT S Unit) (tags : Tags S Unit) :
      ∀ (ks : List Prog) (args : List (Ty × S)),
        probList G tags ks args =
          if genList G ks args = true then derWeight tags (derivationList G ks args) else 0 :=
  (prob_eq_der G tags).2

theorem prob_eq_spec (G : TT S Unit) (tags : Tags S Unit) (t : Prog) (nt : NT S Unit) :
    prob G tags t nt = PS.G.prob G tags t nt := by
  rw [(prob_eq_der G tags).1]; rfl

theorem mass_eq_sum_prob (G : TT S Unit) (tags : Tags S Unit) (k : Nat) (nt : NT S Unit) :
    PS.G.mass G tags k nt = ((lang G k nt).map fun t => prob G tags t nt).sum := by
  simp only [PS.G.mass, prob_eq_spec]

theorem probability_eq_prob (G : TT S Unit) (tags : Tags S Unit) (t : Prog) :
    probability G tags t = prob G tags t G.start := by
  rw [probability_eq_probabilityDet, probabilityDet_eq_prob, prob_eq_spec]

theorem probability_fun (G : TT S Unit) (tags : Tags S Unit) :
    probability G tags = fun t => prob G tags t G.start :=
  funext (probability_eq_prob G tags)

theorem rowsNodup_of_rulesOK {fx : Fix} {tbl : Tbl} {G : TT S Unit} (h : rulesOK fx tbl G.rules = true) :
    RowsNodup G :=
  fun _ _ hl => (rowOK_iff.mp (rulesOK_row h hl)).1

theorem rowsNodup_inst {fx : Fix} {tbl : Tbl} {G : TT S Unit} (h : rulesOK fx tbl G.rules = true) :
    RowsNodup (inst fx G tbl) := by
  intro nt rs hl
  obtain ⟨row, hl0, rfl⟩ := Option.map_eq_some_iff.mp ((lookup_instRules ..).symm.trans hl)
  rw [instRow_eq_flatMap (rulesOK_row h hl0)]
  exact keys_flatMap_nodup (rulesOK_row h hl0)

theorem weight_inst_of_produces {fx : Fix} {tbl : Tbl} {tags : Tags S Unit} (h : rulesOK fx tbl tags = true)
    (nt : NT S Unit) {P k : Sym} (hP : slotFix fx tbl P) (hp : produces fx tbl P k) :
    weight (instTags fx tags tbl) nt k = share fx tbl P * weight tags nt P := by
  unfold weight
  rw [← tag?_eq_tagOf, ← tag?_eq_tagOf]
  exact tagD_inst_of_produces h nt hP hp

theorem mass_inst (fx : Fix) (tbl : Tbl) (G : TT S Unit) (tags : Tags S Unit)
    (hG : rulesOK fx tbl G.rules = true) (hT : rulesOK fx tbl tags = true)
    (hne : rulesNonEmpty fx tbl G.rules = true) :
    ∀ (k : Nat) (nt : NT S Unit),
      PS.G.mass (inst fx G tbl) (instTags fx tags tbl) k nt = PS.G.mass G tags k nt := by
  intro k
  induction k with
  | zero => intro nt; simp [PS.G.mass, lang]
  | succ k ih =>
    intro nt
    cases hl : AList.lookup nt G.rules with
    | none =>
      have hl' : AList.lookup nt (inst fx G tbl).rules = none := by
        unfold inst; simp only [lookup_instRules, hl, Option.map_none]
      simp [PS.G.mass, lang, hl, hl']
    | some rs =>
      rw [mass_succ _ _ (rowsNodup_inst hG) k nt _ (lookup_instRules_flatMap _ hG hl),
        mass_succ G tags (rowsNodup_of_rulesOK hG) k nt rs hl]
      -- each rule made of `e` has the arguments of `e` and its share of the weight
      refine sum_flatMap_expand (rulesNonEmpty_row hne hl) _ _ fun e he x hx => ?_
      obtain ⟨hp, hx2⟩ := mem_expand_id hx
      have hok := ((rowOK_iff.mp (rulesOK_row hG hl)).2 e.1 (List.mem_map.mpr ⟨e, he, rfl⟩)).slotFix
      simp only [ih]
      rw [weight_inst_of_produces hT nt hok hp, hx2, Rat.mul_assoc]

theorem depth_of_isInst (tbl : Tbl) :
    (∀ (t t' : Prog), isInst tbl t t' = true → Tree.depth t' = Tree.depth t) ∧
    ∀ (ks ks' : List Prog), isInstList tbl ks ks' = true → Tree.depthList ks' = Tree.depthList ks := by
  refine Tree.ind₂ (fun f kids ih t' h => ?_) (fun ks' h => ?_) (fun k ks ih1 ih2 l h => ?_)
  · obtain ⟨f', kids', rfl, _, h⟩ := isInst_node h
    rw [Tree.depth, Tree.depth, ih kids' h]
  · rw [isInstList_nil h]
  · obtain ⟨k', ks', rfl, h1, h2⟩ := isInstList_cons h
    rw [Tree.depthList, Tree.depthList, ih1 k' h1, ih2 ks' h2]

theorem depthList_of_isInstList (tbl : Tbl) : ∀ (ks ks' : List Prog),
      isInstList tbl ks ks' = true → Tree.depthList ks' = Tree.depthList ks :=
  (depth_of_isInst tbl).2

theorem mem_lang_inst (fx : Fix) (tbl : Tbl) (G : TT S Unit) (h : rulesOK fx tbl G.rules = true) (k : Nat)
    (nt : NT S Unit) (t' : Prog) :
    t' ∈ lang (inst fx G tbl) k nt ↔ ∃ t ∈ lang G k nt, isInst tbl t t' = true := by
  simp only [mem_lang_iff _ (rowsNodup_inst h), mem_lang_iff G (rowsNodup_of_rulesOK h),
    gen_inst_iff fx tbl G h]
  constructor
  · rintro ⟨⟨t, g, i⟩, hd⟩
    exact ⟨t, ⟨g, (depth_of_isInst tbl).1 _ _ i ▸ hd⟩, i⟩
  · rintro ⟨t, ⟨g, hd⟩, i⟩
    exact ⟨⟨t, g, i⟩, ((depth_of_isInst tbl).1 _ _ i).symm ▸ hd⟩

end PS.IC
