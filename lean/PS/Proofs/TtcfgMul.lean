/-
  C13: the product table of `__mul_ttcfg__` (before cleaning) derives exactly the
  programs both factors derive, the state being the pair of the factors' states.
-/
import PS.Proofs.TtcfgCert
import PS.Proofs.OptAll
namespace PS.T
open PS PS.G

variable {S T U V : Type} [DecidableEq S] [DecidableEq T] [DecidableEq U] [DecidableEq V]

def pairArgs (a1 : List (Ty × S)) (a2 : List (Ty × U)) : List (Ty × (S × U)) :=
  List.zipWith (fun el1 el2 => (el1.1, (el1.2, el2.2))) a1 a2

theorem lookup_mulRow (P : Sym) (r2 : Row U V) : ∀ r1 : Row S T,
    AList.lookup P (mulRow r1 r2) =
      match AList.lookup P r1, AList.lookup P r2 with
      | some v1, some v2 => some (pairArgs v1.1 v2.1, (v1.2, v2.2))
      | _, _ => none
  | [] => by simp [mulRow, AList.lookup]
  | e :: r1 => by
    have ih := lookup_mulRow P r2 r1
    unfold mulRow at ih ⊢
    rw [List.filterMap_cons]
    obtain ⟨k, v⟩ := e
    by_cases hk : k = P
    · subst hk
      cases h2 : AList.lookup k r2 with
      | none => rw [ih, h2]; simp [AList.lookup]
      | some v2 => simp [AList.lookup, pairArgs]
    · cases h2 : AList.lookup k r2 with
      | none => rw [ih]; simp [AList.lookup, hk]
      | some v2 => simp only [AList.lookup, hk, if_false]; exact ih

/-! A table of pairs, with a pairing `pk` of the keys that is injective where `c` holds: the entry under
  `pk k1 k2` is made of the entries under `k1` and `k2`. -/
section Pairs
variable {κ₁ κ₂ κ ν₁ ν₂ ν : Type} [DecidableEq κ₁] [DecidableEq κ₂] [DecidableEq κ]

variable (c : κ₁ → κ₂ → Prop) [∀ a b, Decidable (c a b)] (pk : κ₁ → κ₂ → κ) (F : ν₁ → ν₂ → ν)
  {k1 : κ₁} {k2 : κ₂} (hc : c k1 k2) (hinj : ∀ a b, c a b → pk a b = pk k1 k2 → a = k1 ∧ b = k2)
include hc hinj

theorem lookup_pairs_inner (a : κ₁) (r1 : ν₁) : ∀ l2 : AList κ₂ ν₂,
    AList.lookup (pk k1 k2) (l2.filterMap (fun e2 => if c a e2.1 then some (pk a e2.1, F r1 e2.2) else none)) =
      if a = k1 then (AList.lookup k2 l2).map (F r1) else none
  | [] => by simp [AList.lookup]
  | (b, r2) :: l2 => by
    rw [List.filterMap_cons]
    have ih := lookup_pairs_inner a r1 l2
    by_cases hab : c a b
    · simp only [hab, if_true, AList.lookup]
      rw [ih]
      by_cases he : a = k1 ∧ b = k2
      · obtain ⟨rfl, rfl⟩ := he
        simp
      · have hne : pk a b ≠ pk k1 k2 := fun e => he (hinj a b hab e)
        simp only [hne, if_false]
        by_cases ha : a = k1
        · have : b ≠ k2 := fun e => he ⟨ha, e⟩
          simp [ha, this]
        · simp [ha]
    · simp only [hab, if_false]
      rw [ih]
      by_cases ha : a = k1
      · have : b ≠ k2 := fun e => hab (by rw [ha, e]; exact hc)
        simp [ha, AList.lookup, this]
      · simp [ha]

theorem lookup_pairs (l2 : AList κ₂ ν₂) : ∀ l1 : AList κ₁ ν₁,
    AList.lookup (pk k1 k2) (l1.flatMap (fun e1 => l2.filterMap (fun e2 =>
        if c e1.1 e2.1 then some (pk e1.1 e2.1, F e1.2 e2.2) else none))) =
      (AList.lookup k1 l1).bind (fun r1 => (AList.lookup k2 l2).map (F r1))
  | [] => rfl
  | (a, r1) :: l1 => by
    rw [List.flatMap_cons, AList.lookup_append, lookup_pairs_inner c pk F hc hinj a r1 l2, lookup_pairs l2 l1]
    by_cases ha : a = k1
    · subst ha
      simp only [if_true, AList.lookup]
      cases AList.lookup k2 l2 <;> simp
    · simp [ha, AList.lookup]

end Pairs

theorem lookup_mulRaw (G1 : TT S T) (G2 : TT U V) (ty : Ty) (s : S) (t : T) (u : U) (v : V) :
    AList.lookup (ty, ((s, u), (t, v))) (mulRaw G1 G2).rules =
      (AList.lookup (ty, (s, t)) G1.rules).bind (fun r1 => (AList.lookup (ty, (u, v)) G2.rules).map (mulRow r1)) :=
  lookup_pairs (fun (a : NT S T) (b : NT U V) => a.1 = b.1)
    (fun a b => (a.1, ((a.2.1, b.2.1), (a.2.2, b.2.2)))) mulRow (k1 := (ty, (s, t))) (k2 := (ty, (u, v))) rfl
    (fun a b hab e => by
      obtain ⟨ty1, s1, t1⟩ := a
      obtain ⟨ty2, u2, v2⟩ := b
      cases hab
      cases e
      exact ⟨rfl, rfl⟩) G2.rules G1.rules

theorem rule_mulRaw (G1 : TT S T) (G2 : TT U V) (ty : Ty) (s : S) (t : T) (u : U) (v : V) (P : Sym) :
    (mulRaw G1 G2).rule? (ty, ((s, u), (t, v))) P =
      match G1.rule? (ty, (s, t)) P, G2.rule? (ty, (u, v)) P with
      | some v1, some v2 => some (pairArgs v1.1 v2.1, (v1.2, v2.2))
      | _, _ => none := by
  unfold TT.rule?
  rw [lookup_mulRaw]
  cases h1 : AList.lookup (ty, (s, t)) G1.rules with
  | none => simp
  | some r1 =>
    cases h2 : AList.lookup (ty, (u, v)) G2.rules with
    | none => simp
    | some r2 => simp only; exact lookup_mulRow P r2 r1

/-- true for grammars compiled from DSLs: the arguments are what the symbol's type gives at the slot's type
    (`argsAgree_of_typed`).  Needed because `pairArgs` is Python's `zip` (ttcfg.py:130): it stops at the shorter
    list and takes the slot types from the left factor, so a product slot stands for the same slot of both
    factors (`mul_run`) only when they give `P` the same argument types. -/
def ArgsAgree (G1 : TT S T) (G2 : TT U V) : Prop :=
  ∀ (ty : Ty) (s : S) (t : T) (u : U) (v : V) (P : Sym) (v1 : List (Ty × S) × T) (v2 : List (Ty × U) × V),
    G1.rule? (ty, (s, t)) P = some v1 → G2.rule? (ty, (u, v)) P = some v2 → v1.1.map (·.1) = v2.1.map (·.1)


omit [DecidableEq U] [DecidableEq V] in
theorem typed_rule (G : TT S T) (h : typedOK G = true) (nt : NT S T) (P : Sym) (val : List (Ty × S) × T)
    (hr : G.rule? nt P = some val) : P.ty.endsWith nt.1 = some (val.1.map (·.1)) := by
  simpa using TT.rule?_of_all (p := fun nt P val => P.ty.endsWith nt.1 == some (val.1.map (·.1))) h hr

theorem argsAgree_of_typed (G1 : TT S T) (G2 : TT U V) (h1 : typedOK G1 = true) (h2 : typedOK G2 = true) :
    ArgsAgree G1 G2 := by
  intro ty s t u v P v1 v2 hr1 hr2
  have e1 := typed_rule G1 h1 _ P v1 hr1
  have e2 := typed_rule G2 h2 _ P v2 hr2
  simp only at e1 e2
  rw [e1] at e2
  exact Option.some.inj e2

theorem mul_run (G1 : TT S T) (G2 : TT U V) (hag : ArgsAgree G1 G2) :
    (∀ (t : Prog) (ty : Ty) (s : S) (u : U) (v1 : T) (v2 : V),
      run (mulRaw G1 G2).rule? t (ty, (s, u)) (v1, v2) = DFTA.optPair (run G1.rule? t (ty, s) v1) (run G2.rule? t (ty, u) v2)) ∧
    (∀ (ks : List Prog) (a1 : List (Ty × S)) (a2 : List (Ty × U)) (v1 : T) (v2 : V),
      a1.map (·.1) = a2.map (·.1) →
      runList (mulRaw G1 G2).rule? ks (pairArgs a1 a2) (v1, v2) = DFTA.optPair (runList G1.rule? ks a1 v1) (runList G2.rule? ks a2 v2)) := by
  apply Tree.ind₂
  · intro f kids ihl ty s u v1 v2
    have hr := rule_mulRaw G1 G2 ty s v1 u v2 f
    rw [run, run, run]
    simp only
    rw [hr]
    cases h1 : G1.rule? (ty, (s, v1)) f with
    | none => rfl
    | some val1 =>
      cases h2 : G2.rule? (ty, (u, v2)) f with
      | none => exact (DFTA.optPair_none_right _).symm
      | some val2 => exact ihl val1.1 val2.1 val1.2 val2.2 (hag ty s v1 u v2 f val1 val2 h1 h2)
  · intro a1 a2 v1 v2 hty
    cases a1 with
    | nil => cases a2 with
      | nil => rfl
      | cons y a2 => simp at hty
    | cons x a1 => cases a2 with
      | nil => simp at hty
      | cons y a2 => rfl
  · intro k ks iht ihl a1 a2 v1 v2 hty
    cases a1 with
    | nil => cases a2 with
      | nil => rfl
      | cons y a2 => simp at hty
    | cons x a1 =>
      cases a2 with
      | nil => simp at hty
      | cons y a2 =>
        simp only [List.map_cons, List.cons.injEq] at hty
        obtain ⟨hxy, hty'⟩ := hty
        obtain ⟨ty, s⟩ := x
        obtain ⟨ty', u⟩ := y
        cases hxy
        simp only [pairArgs, List.zipWith_cons_cons, runList]
        rw [iht ty s u v1 v2]
        cases run G1.rule? k (ty, s) v1 with
        | none => rfl
        | some w1 =>
          cases run G2.rule? k (ty, u) v2 with
          | none => exact (DFTA.optPair_none_right _).symm
          | some w2 => exact ihl a1 a2 w1 w2 hty'

/-- C13: product = intersection (table of `__mul_ttcfg__`, before `clean`) -/
theorem mulRaw_lang (G1 : TT S T) (G2 : TT U V) (hag : ArgsAgree G1 G2) (hty : G1.start.1 = G2.start.1) (t : Prog) :
    PS.G.contains (mulRaw G1 G2) t = (PS.G.contains G1 t && PS.G.contains G2 t) := by
  rw [contains_eq_inLang, contains_eq_inLang, contains_eq_inLang]
  unfold inLang
  have h := (mul_run G1 G2 hag).1 t G1.start.1 G1.start.2.1 G2.start.2.1
    G1.start.2.2 G2.start.2.2
  have hs : (mulRaw G1 G2).start = (G1.start.1, ((G1.start.2.1, G2.start.2.1), (G1.start.2.2, G2.start.2.2))) := rfl
  rw [hs]
  simp only
  rw [h, ← hty]
  cases run G1.rule? t (G1.start.1, G1.start.2.1) G1.start.2.2 <;>
  cases run G2.rule? t (G1.start.1, G2.start.2.1) G2.start.2.2 <;> simp [DFTA.optPair]

theorem mulTTG_eq_ok {g1 : TTG S T} {g2 : TTG U V} {fuel : Nat} {g : TTG (S × U) (T × V)} :
    mulTTG g1 g2 fuel = .ok g ↔ cleanFixed (mulRaw g1.G g2.G) fuel = .ok g.G ∧ g.typeRequest = g1.typeRequest := by
  unfold mulTTG
  obtain ⟨G', r'⟩ := g
  cases cleanFixed (mulRaw g1.G g2.G) fuel <;> simp [eq_comm]

end PS.T
