/- Insertion-ordered association lists (`PS.AList`, the model of a Python dict): `lookup`, `insert` and `keys`, dicts
   written by a loop, and dicts of dicts (`AList κ (AList ι ν)`): reading `d[k][c]`, and membership
   `x ∈ d[k][c]` after an assignment, an `append` or a reset to `[]`. -/
import PS.Basic
namespace PS.AList
variable {κ ν μ : Type}

theorem keys_append (a b : AList κ ν) : keys (a ++ b) = keys a ++ keys b :=
  List.map_append

theorem keys_snoc (d : AList κ ν) (k : κ) (v : ν) : keys (d ++ [(k, v)]) = keys d ++ [k] :=
  keys_append d [(k, v)]

theorem keys_map_val (f : κ → ν → μ) (d : AList κ ν) : keys (d.map fun e => (e.1, f e.1 e.2)) = keys d := by
  simp [keys, List.map_map, Function.comp_def]

theorem keys_filter_sublist (p : κ × ν → Bool) (d : AList κ ν) : (keys (d.filter p)).Sublist (keys d) :=
  List.filter_sublist.map _

theorem keys_filterMap_sublist {α : Type} (key : α → κ) (f : α → Option (κ × ν)) (hf : ∀ x y, f x = some y → y.1 = key x) :
    ∀ l : List α, (keys (l.filterMap f)).Sublist (l.map key)
  | [] => List.Sublist.refl _
  | x :: l => by
    rw [List.filterMap_cons]
    cases h : f x with
    | none => exact (keys_filterMap_sublist key f hf l).cons _
    | some y =>
      simp only [keys, List.map_cons]
      rw [hf x y h]
      exact (keys_filterMap_sublist key f hf l).cons_cons _

theorem nodup_flatMap {α β : Type} {l : List α} {g : α → List β} (h1 : l.Nodup) (h2 : ∀ x ∈ l, (g x).Nodup)
    (h3 : ∀ x ∈ l, ∀ y ∈ l, ∀ z, z ∈ g x → z ∈ g y → x = y) : (l.flatMap g).Nodup := by
  unfold List.Nodup
  rw [List.pairwise_flatMap]
  refine ⟨h2, List.Pairwise.imp_of_mem (fun ha hb hne x hx y hy e => hne (h3 _ ha _ hb x hx (e ▸ hy))) h1⟩

variable [DecidableEq κ]

theorem lookup_append (k : κ) (a b : AList κ ν) :
    lookup k (a ++ b) = (lookup k a).orElse fun _ => lookup k b := by
  induction a with
  | nil => rfl
  | cons p r ih =>
    by_cases hk : p.1 = k
    · simp [lookup, hk]
    · simp [lookup, hk, ih]

theorem lookup_eq_none_iff {k : κ} {d : AList κ ν} : lookup k d = none ↔ k ∉ keys d := by
  rw [← lookup_isSome_iff_mem_keys]; cases lookup k d <;> simp

theorem getD_lookup_of_not_mem {k : κ} {d : AList κ ν} (v : ν) (h : k ∉ keys d) : (lookup k d).getD v = v := by
  rw [lookup_eq_none_iff.mpr h]; rfl

theorem mem_keys_of_lookup {k : κ} {v : ν} {d : AList κ ν} (h : lookup k d = some v) : k ∈ keys d :=
  List.mem_map.mpr ⟨(k, v), lookup_some_mem h, rfl⟩

theorem lookup_iff_mem {d : AList κ ν} (h : (keys d).Nodup) {k : κ} {v : ν} :
    lookup k d = some v ↔ (k, v) ∈ d :=
  ⟨lookup_some_mem, lookup_of_mem_nodup h⟩

theorem contains_of_lookup {k : κ} {v : ν} {d : AList κ ν} (h : lookup k d = some v) : contains k d = true :=
  contains_iff_lookup.mpr ⟨v, h⟩

theorem mem_of_contains {k : κ} {d : AList κ ν} (h : contains k d = true) : ∃ v, (k, v) ∈ d :=
  let ⟨v, hv⟩ := contains_iff_lookup.mp h
  ⟨v, lookup_some_mem hv⟩

theorem contains_eq_false_iff {k : κ} {d : AList κ ν} : contains k d = false ↔ lookup k d = none := by
  unfold contains
  cases lookup k d <;> simp

theorem not_contains_iff {k : κ} {d : AList κ ν} : ¬ contains k d = true ↔ lookup k d = none := by
  rw [Bool.not_eq_true, contains_eq_false_iff]

theorem mem_keys_iff_contains {k : κ} {d : AList κ ν} : k ∈ keys d ↔ contains k d = true :=
  lookup_isSome_iff_mem_keys.symm

theorem insert_insert (k : κ) (v w : ν) (d : AList κ ν) : insert k v (insert k w d) = insert k v d := by
  induction d with
  | nil => simp [insert]
  | cons p r ih => by_cases hk : p.1 = k <;> simp [insert, hk, ih]

/-- a new key goes to the end: Python dicts keep insertion order -/
theorem insert_of_lookup_none {k : κ} (v : ν) {d : AList κ ν} (h : lookup k d = none) :
    insert k v d = d ++ [(k, v)] := by
  induction d with
  | nil => rfl
  | cons p r ih =>
    by_cases hk : p.1 = k
    · simp [lookup, hk] at h
    · simp only [lookup, hk, if_false] at h
      simp [insert, hk, ih h]

theorem keys_insert_of_lookup_some {k : κ} {w : ν} (v : ν) {d : AList κ ν} (h : lookup k d = some w) :
    keys (insert k v d) = keys d := by
  induction d with
  | nil => cases h
  | cons p r ih =>
    by_cases hk : p.1 = k
    · simp [insert, keys, hk]
    · simp only [lookup, hk, if_false] at h
      simpa [insert, keys, hk] using ih h

theorem keys_insert (k : κ) (v : ν) (d : AList κ ν) :
    keys (insert k v d) = if k ∈ keys d then keys d else keys d ++ [k] := by
  cases h : lookup k d with
  | none => rw [if_neg (lookup_eq_none_iff.mp h), insert_of_lookup_none v h, keys_append]; rfl
  | some w => rw [if_pos (mem_keys_of_lookup h), keys_insert_of_lookup_some v h]

theorem insert_of_not_contains {k : κ} (v : ν) {d : AList κ ν} (h : ¬ contains k d = true) :
    insert k v d = d ++ [(k, v)] :=
  insert_of_lookup_none v (Option.not_isSome_iff_eq_none.mp h)

theorem insert_ne_nil (k : κ) (v : ν) (d : AList κ ν) : insert k v d ≠ [] := by
  cases d with
  | nil => simp [insert]
  | cons p r => simp only [insert]; split <;> simp

theorem mem_insert {k : κ} {v : ν} {d : AList κ ν} {e : κ × ν} (h : e ∈ insert k v d) :
    e = (k, v) ∨ e ∈ d := by
  induction d with
  | nil => simpa [insert] using h
  | cons p r ih =>
    simp only [insert] at h
    split at h
    · rcases List.mem_cons.mp h with h | h
      · exact Or.inl h
      · exact Or.inr (List.mem_cons_of_mem _ h)
    · rcases List.mem_cons.mp h with h | h
      · exact Or.inr (h ▸ List.mem_cons_self)
      · exact (ih h).imp_right (List.mem_cons_of_mem _)

theorem mem_keys_insert {k x : κ} {v : ν} {d : AList κ ν} : x ∈ keys (insert k v d) ↔ x = k ∨ x ∈ keys d := by
  cases h : lookup k d with
  | none => simp [insert_of_lookup_none v h, keys, or_comm]
  | some w =>
    rw [keys_insert_of_lookup_some v h]
    exact ⟨Or.inr, fun hx => hx.elim (fun e => e ▸ mem_keys_of_lookup h) id⟩

theorem keys_insert_nodup (k : κ) (v : ν) {d : AList κ ν} (h : (keys d).Nodup) : (keys (insert k v d)).Nodup := by
  cases hl : lookup k d with
  | none =>
    rw [insert_of_lookup_none v hl, keys_append]
    exact List.nodup_append.mpr ⟨h, by simp [keys], fun a ha b hb => by
      simp only [keys, List.map_cons, List.map_nil, List.mem_singleton] at hb
      rintro rfl; exact lookup_eq_none_iff.mp hl (hb ▸ ha)⟩
  | some w => rwa [keys_insert_of_lookup_some v hl]

theorem getD_lookup_insert (k k' : κ) (v d : ν) (l : AList κ ν) :
    (lookup k' (insert k v l)).getD d = if k' = k then v else (lookup k' l).getD d := by
  rw [lookup_insert]; split <;> rfl

/-- Python `for e in l: d[key e] = val e`: later writes win, so the table answers like the list of writes,
    last first, put in front of it.  The other facts about a dict written by a loop are read off this. -/
theorem lookup_foldl_insert {α : Type} (key : α → κ) (val : α → ν) (k : κ) (l : List α) (d : AList κ ν) :
    lookup k (l.foldl (fun acc e => insert (key e) (val e) acc) d) =
      lookup k ((l.map fun e => (key e, val e)).reverse ++ d) := by
  induction l generalizing d with
  | nil => rfl
  | cons x r ih =>
    rw [List.foldl_cons, ih, List.map_cons, List.reverse_cons, List.append_assoc, lookup_append, lookup_append,
      lookup_insert]
    by_cases e : k = key x
    · simp [lookup, e]
    · simp [lookup, e, Ne.symm e]

theorem lookup_foldl_insert_ne {α : Type} (key : α → κ) (val : α → ν) (k : κ) (l : List α) (acc : AList κ ν)
    (h : ∀ e ∈ l, key e ≠ k) :
    lookup k (l.foldl (fun acc e => insert (key e) (val e) acc) acc) = lookup k acc := by
  rw [lookup_foldl_insert, lookup_append, lookup_eq_none_iff.mpr]
  · rfl
  · simp only [keys, List.map_reverse, List.map_map, List.mem_reverse, List.mem_map, Function.comp]
    rintro ⟨e, he, hk⟩
    exact h e he hk

theorem lookup_foldl_insert_mem {α : Type} (key : α → κ) (val : α → ν) (l : List α) (acc : AList κ ν)
    (hnd : (l.map key).Nodup) (e : α) (he : e ∈ l) :
    lookup (key e) (l.foldl (fun acc e => insert (key e) (val e) acc) acc) = some (val e) := by
  have hk : (keys (l.map fun e => (key e, val e)).reverse).Nodup := by
    simpa [keys, List.map_reverse, Function.comp_def] using (List.reverse_perm (l.map key)).nodup_iff.mpr hnd
  rw [lookup_foldl_insert, lookup_append, (lookup_iff_mem hk).mpr
    (List.mem_reverse.mpr (List.mem_map.mpr ⟨e, he, rfl⟩))]
  rfl

theorem lookup_foldl_insert_const (c : ν) (l : List κ) (k : κ) (d : AList κ ν) :
    lookup k (l.foldl (fun d x => insert x c d) d) = if k ∈ l then some c else lookup k d := by
  rw [lookup_foldl_insert (fun x => x) (fun _ => c), lookup_append]
  split
  · rename_i h
    cases hl : lookup k (l.map fun x => (x, c)).reverse with
    | none =>
      refine absurd ?_ (lookup_eq_none_iff.mp hl)
      simpa [keys, Function.comp_def] using h
    | some v =>
      obtain ⟨x, _, e⟩ := List.mem_map.mp (List.mem_reverse.mp (lookup_some_mem hl))
      cases e; rfl
  · rename_i h
    rw [lookup_eq_none_iff.mpr]
    · rfl
    · simpa [keys, Function.comp_def] using h

theorem foldl_insert_eq_append (d xs : AList κ ν) (h : (keys (d ++ xs)).Nodup) :
    xs.foldl (fun acc e => insert e.1 e.2 acc) d = d ++ xs := by
  induction xs generalizing d with
  | nil => exact (List.append_nil d).symm
  | cons x r ih =>
    rw [List.append_cons] at h ⊢
    have hx : x.1 ∉ keys d := by
      intro hm
      have h' := h
      rw [keys_append, keys_append] at h'
      exact (List.nodup_append.mp (List.nodup_append.mp h').1).2.2 _ hm _ List.mem_cons_self rfl
    rw [← insert_of_lookup_none x.2 (lookup_eq_none_iff.mpr hx)] at h ⊢
    exact ih _ h

/-! ### `insertMany`, `ofList`: a dict written by a loop -/

theorem keys_nodup_insertMany (d : AList κ ν) (xs : List (κ × ν)) (hn : (keys d).Nodup) :
    (keys (insertMany d xs)).Nodup := by
  induction xs generalizing d with
  | nil => exact hn
  | cons x r ih => exact ih _ (keys_insert_nodup _ _ hn)

theorem keys_nodup_ofList (xs : List (κ × ν)) : (keys (ofList xs)).Nodup :=
  keys_nodup_insertMany [] xs List.nodup_nil

theorem insertMany_append (d : AList κ ν) (xs ys : List (κ × ν)) :
    insertMany d (xs ++ ys) = insertMany (insertMany d xs) ys :=
  List.foldl_append

theorem foldl_insert_eq_insertMany {α : Type} (key : α → κ) (val : α → ν) (l : List α) (d : AList κ ν) :
    l.foldl (fun acc e => insert (key e) (val e) acc) d = insertMany d (l.map fun e => (key e, val e)) := by
  rw [insertMany, List.foldl_map]

theorem insertMany_eq_append (d : AList κ ν) (xs : List (κ × ν)) (h : (keys (d ++ xs)).Nodup) :
    insertMany d xs = d ++ xs :=
  foldl_insert_eq_append d xs h

/-- `{key a: val a for a in l}` written entry by entry, the keys distinct -/
theorem foldl_insert_eq_map {α : Type} (key : α → κ) (val : α → ν) {l : List α} (h : (l.map key).Nodup) :
    l.foldl (fun acc e => insert (key e) (val e) acc) [] = l.map fun e => (key e, val e) := by
  rw [foldl_insert_eq_insertMany, insertMany_eq_append [] _ (by simpa [keys, Function.comp_def] using h), List.nil_append]

theorem foldl_insert_key (f : κ → ν) {l : List κ} (h : l.Nodup) :
    l.foldl (fun acc k => insert k (f k) acc) [] = l.map fun k => (k, f k) :=
  foldl_insert_eq_map id f (by rwa [List.map_id])

theorem lookup_insertMany_rev (d : AList κ ν) (xs : List (κ × ν)) (k : κ) :
    lookup k (insertMany d xs) = lookup k (xs.reverse ++ d) := by
  rw [insertMany, lookup_foldl_insert Prod.fst Prod.snd, List.map_id']

theorem lookup_insertMany_of_not_mem (d : AList κ ν) (xs : List (κ × ν)) (k : κ)
    (h : ∀ x ∈ xs, x.1 ≠ k) : lookup k (insertMany d xs) = lookup k d :=
  lookup_foldl_insert_ne Prod.fst Prod.snd k xs d h

theorem lookup_insertMany_some {d : AList κ ν} {xs : List (κ × ν)} {k : κ} {v : ν}
    (h : lookup k (insertMany d xs) = some v) : (k, v) ∈ xs ∨ lookup k d = some v := by
  rw [lookup_insertMany_rev, lookup_append] at h
  cases hk : lookup k xs.reverse with
  | none => rw [hk] at h; exact Or.inr h
  | some w => rw [hk] at h; cases h; exact Or.inl (List.mem_reverse.mp (lookup_some_mem hk))

theorem lookup_insertMany_of_mem (d : AList κ ν) (xs : List (κ × ν)) (k : κ) (v : ν)
    (hex : ∃ x ∈ xs, x.1 = k) (hf : ∀ x ∈ xs, x.1 = k → x.2 = v) :
    lookup k (insertMany d xs) = some v := by
  rw [lookup_insertMany_rev, lookup_append]
  cases hk : lookup k xs.reverse with
  | none =>
    obtain ⟨x, hx, e⟩ := hex
    exact absurd (List.mem_map.mpr ⟨x, List.mem_reverse.mpr hx, e⟩) (lookup_eq_none_iff.mp hk)
  | some w => exact congrArg some (hf _ (List.mem_reverse.mp (lookup_some_mem hk)) rfl)

theorem lookup_ofList_some {xs : List (κ × ν)} {k : κ} {v : ν}
    (h : lookup k (ofList xs) = some v) : (k, v) ∈ xs := by
  rcases lookup_insertMany_some h with h1 | h1
  · exact h1
  · simp [lookup] at h1

theorem lookup_ofList_iff {xs : List (κ × ν)} (hn : (keys xs).Nodup) {k : κ} {v : ν} :
    lookup k (ofList xs) = some v ↔ (k, v) ∈ xs := by
  rw [ofList, insertMany_eq_append [] xs hn]
  exact lookup_iff_mem hn

theorem lookup_ofList_eq {xs : List (κ × ν)} {k : κ} {o : Option ν}
    (h : ∀ v, (k, v) ∈ xs ↔ o = some v) : lookup k (ofList xs) = o := by
  cases o with
  | none =>
    cases hl : lookup k (ofList xs) with
    | none => rfl
    | some v => cases (h v).mp (lookup_ofList_some hl)
  | some v =>
    refine lookup_insertMany_of_mem [] xs k v ⟨(k, v), (h v).mpr rfl, rfl⟩ fun x hx e => ?_
    exact (Option.some.inj ((h x.2).mp (by rw [← e]; exact hx))).symm

theorem lookup_ofList_graph (g : κ → ν) (xs : List κ) (k : κ) :
    lookup k (ofList (xs.map fun x => (x, g x))) = if k ∈ xs then some (g k) else none := by
  refine lookup_ofList_eq fun v => ?_
  rw [List.mem_map]
  by_cases h : k ∈ xs
  · rw [if_pos h]
    exact ⟨fun ⟨a, _, e⟩ => by cases e; rfl, fun e => ⟨k, h, by cases e; rfl⟩⟩
  · rw [if_neg h]
    exact ⟨fun ⟨a, ha, e⟩ => by cases e; exact absurd ha h, fun e => (nomatch e)⟩

theorem lookup_insertMany (d : AList κ ν) (xs : List (κ × ν)) (k : κ) :
    lookup k (insertMany d xs) = (lookup k (ofList xs)).or (lookup k d) := by
  rw [lookup_insertMany_rev, ofList, lookup_insertMany_rev, List.append_nil, lookup_append]
  cases lookup k xs.reverse <;> rfl

theorem lookup_insertMany_eq (d : AList κ ν) (xs : List (κ × ν)) (k : κ)
    (r : Option ν) (hf : ∀ x ∈ xs, x.1 = k → r = some x.2)
    (h : lookup k d = r ∨ ∃ x ∈ xs, x.1 = k) : lookup k (insertMany d xs) = r := by
  by_cases hex : ∃ x ∈ xs, x.1 = k
  · obtain ⟨x, hx, e⟩ := hex
    rw [hf x hx e]
    exact lookup_insertMany_of_mem d xs k _ ⟨x, hx, e⟩
      fun y hy ey => Option.some.inj ((hf y hy ey).symm.trans (hf x hx e))
  · rw [lookup_insertMany_of_not_mem d xs k fun x hx e => hex ⟨x, hx, e⟩]
    exact h.resolve_right hex

theorem lookup_map_val (f : κ → ν → μ) (k : κ) (d : AList κ ν) :
    lookup k (d.map fun e => (e.1, f e.1 e.2)) = (lookup k d).map (f k) := by
  induction d with
  | nil => rfl
  | cons p r ih =>
    by_cases hk : p.1 = k
    · simp [lookup, hk]
    · simp [lookup, hk, ih]

theorem lookup_map_key {κ' : Type} [DecidableEq κ'] (f : κ → κ') (hf : ∀ a b, f a = f b → a = b) (k : κ) :
    ∀ (d : AList κ ν), lookup (f k) (d.map fun e => (f e.1, e.2)) = lookup k d
  | [] => rfl
  | (k', v) :: r => by
    by_cases hk : k' = k
    · simp [lookup, hk]
    · have : f k' ≠ f k := fun h => hk (hf _ _ h)
      simp only [List.map_cons, lookup, hk, this, if_false]
      exact lookup_map_key f hf k r

theorem getD_lookup_map_const {α : Type} (d : AList κ α) (k : κ) (c : ν) :
    (lookup k (d.map fun e => (e.1, c))).getD c = c := by
  rw [lookup_map_val (fun _ _ => c)]; cases lookup k d <;> rfl

theorem mem_of_mem_getD_lookup {k : κ} {d : AList κ (List ν)} {x : ν} (h : x ∈ (lookup k d).getD []) :
    ∃ l, (k, l) ∈ d ∧ x ∈ l := by
  cases hl : lookup k d with
  | none => rw [hl] at h; cases h
  | some l => rw [hl] at h; exact ⟨l, lookup_some_mem hl, h⟩

theorem lookup_filter_key (p : κ → Bool) (k : κ) (d : AList κ ν) :
    lookup k (d.filter fun e => p e.1) = if p k = true then lookup k d else none := by
  induction d with
  | nil => simp [lookup]
  | cons e r ih =>
    by_cases hk : e.1 = k
    · subst hk
      by_cases hp : p e.1 = true <;> simp [hp, lookup, ih]
    · by_cases hp : p e.1 = true <;> simp [hp, lookup, hk, ih]

theorem lookup_filter_some (p : κ × ν → Bool) {d : AList κ ν} (hn : (keys d).Nodup) {k : κ} {v : ν} :
    lookup k (d.filter p) = some v ↔ lookup k d = some v ∧ p (k, v) = true := by
  rw [lookup_iff_mem ((keys_filter_sublist p d).nodup hn), lookup_iff_mem hn, List.mem_filter]

section
variable {ι : Type} [DecidableEq ι]

theorem forall_insert {d : AList κ ν} {P : κ → ν → Prop} {k0 : κ} {v0 : ν}
    (h : ∀ k v, k ≠ k0 → lookup k d = some v → P k v) (h0 : P k0 v0) :
    ∀ k v, lookup k (insert k0 v0 d) = some v → P k v := by
  intro k v hl
  rw [lookup_insert] at hl
  split at hl
  · rename_i he; subst he; exact Option.some.inj hl ▸ h0
  · rename_i hne; exact h k v hne hl

theorem forall_insert₂ {d : AList κ (AList ι ν)} {P : κ → ι → ν → Prop}
    {k0 : κ} {b : AList ι ν} {c0 : ι} {v0 : ν} (hb : lookup k0 d = some b)
    (h : ∀ k b c v, lookup k d = some b → lookup c b = some v → P k c v) (h0 : P k0 c0 v0) :
    ∀ k b' c v, lookup k (insert k0 (insert c0 v0 b) d) = some b' → lookup c b' = some v → P k c v :=
  fun k b' c v hk => forall_insert (P := fun k b' => ∀ c v, lookup c b' = some v → P k c v)
    (fun k b' _ hk c v => h k b' c v hk) (forall_insert (fun c v _ => h k0 b c v hb) h0) k b' hk c v

/-- `d[k][c]` (`none` = KeyError) -/
def lookup₂ (d : AList κ (AList ι ν)) (k : κ) (c : ι) : Option ν := (lookup k d).bind (lookup c)

theorem lookup₂_eq_some {d : AList κ (AList ι ν)} {k : κ} {c : ι} {v : ν} :
    lookup₂ d k c = some v ↔ ∃ row, lookup k d = some row ∧ lookup c row = some v :=
  Option.bind_eq_some_iff

theorem lookup₂_of_lookup {d : AList κ (AList ι ν)} {k : κ} {row : AList ι ν} (h : lookup k d = some row) (c : ι) :
    lookup₂ d k c = lookup c row := by
  rw [lookup₂, h]; rfl

theorem lookup₂_of_lookup_none {d : AList κ (AList ι ν)} {k : κ} (h : lookup k d = none) (c : ι) :
    lookup₂ d k c = none := by
  rw [lookup₂, h]; rfl

theorem lookup₂_mem {d : AList κ (AList ι ν)} {k : κ} {c : ι} {v : ν} (h : lookup₂ d k c = some v) :
    ∃ row, (k, row) ∈ d ∧ (c, v) ∈ row :=
  have ⟨row, h1, h2⟩ := lookup₂_eq_some.mp h
  ⟨row, lookup_some_mem h1, lookup_some_mem h2⟩

theorem lookup₂_of_all {d : AList κ (AList ι ν)} {p : κ → ι → ν → Bool}
    (h : d.all (fun e => e.2.all fun r => p e.1 r.1 r.2) = true) {k : κ} {c : ι} {v : ν} (hl : lookup₂ d k c = some v) :
    p k c v = true :=
  have ⟨row, h1, h2⟩ := lookup₂_mem hl
  List.all_eq_true.mp (List.all_eq_true.mp h (k, row) h1) (c, v) h2

theorem lookup₂_map_val₂ (f : κ → AList ι ν → ι → ν → μ) (k : κ) (c : ι) (d : AList κ (AList ι ν)) :
    lookup₂ (d.map fun e => (e.1, e.2.map fun r => (r.1, f e.1 e.2 r.1 r.2))) k c =
      (lookup k d).bind fun row => (lookup c row).map (f k row c) := by
  rw [lookup₂, lookup_map_val (fun k (row : AList ι ν) => row.map fun r => (r.1, f k row r.1 r.2))]
  cases lookup k d with
  | none => rfl
  | some row => exact lookup_map_val (f k row) c row

variable {d : AList κ (AList ι (List ν))} {k0 : κ} {b : AList ι (List ν)} {c0 : ι}

/-- `x ∈ d[k][c]` in a table of tables of lists -/
def At (d : AList κ (AList ι (List ν))) (k : κ) (c : ι) (x : ν) : Prop :=
  ∃ b l, lookup k d = some b ∧ lookup c b = some l ∧ x ∈ l

/-- the entries after `d[k0][c0] = v`, where `d[k0] = b` -/
theorem at_insert {v : List ν} (hb : lookup k0 d = some b) (k : κ) (c : ι) (x : ν) :
    At (insert k0 (insert c0 v b) d) k c x ↔
      (k = k0 ∧ c = c0 ∧ x ∈ v) ∨ (¬ (k = k0 ∧ c = c0) ∧ At d k c x) := by
  by_cases hk : k = k0
  · subst hk
    by_cases hc : c = c0
    · subst hc; simp [At, lookup_insert_self]
    · simp [At, lookup_insert_self, lookup_insert_ne _ _ hc, hb, hc]
  · simp [At, lookup_insert_ne _ _ hk, hk]

/-- the entries after `d[k0][c0].append(y)` -/
theorem at_append {l : List ν} {y : ν} (hb : lookup k0 d = some b) (hl : lookup c0 b = some l) (k : κ) (c : ι)
    (x : ν) : At (insert k0 (insert c0 (l ++ [y]) b) d) k c x ↔
      At d k c x ∨ (k = k0 ∧ c = c0 ∧ x = y) := by
  refine (at_insert hb k c x).trans ⟨?_, ?_⟩
  · rintro (⟨rfl, rfl, h⟩ | ⟨_, h⟩)
    · rcases List.mem_append.mp h with h | h
      · exact Or.inl ⟨b, l, hb, hl, h⟩
      · exact Or.inr ⟨rfl, rfl, List.mem_singleton.mp h⟩
    · exact Or.inl h
  · rintro (h | ⟨rfl, rfl, rfl⟩)
    · by_cases he : k = k0 ∧ c = c0
      · obtain ⟨b2, l2, h1, h2, h3⟩ := h
        rw [he.1, hb] at h1; cases h1
        rw [he.2, hl] at h2; cases h2
        exact Or.inl ⟨he.1, he.2, List.mem_append_left _ h3⟩
      · exact Or.inr ⟨he, h⟩
    · exact Or.inl ⟨rfl, rfl, by simp⟩

theorem at_append_inj {l : List ν} {y : ν} (hb : lookup k0 d = some b) (hl : lookup c0 b = some l) {k : κ}
    (hy : k = k0 → ∀ c, ¬ At d k c y) (h : ∀ c c' x, At d k c x → At d k c' x → c = c') (c c' : ι) (x : ν)
    (h1 : At (insert k0 (insert c0 (l ++ [y]) b) d) k c x) (h2 : At (insert k0 (insert c0 (l ++ [y]) b) d) k c' x) :
    c = c' := by
  rcases (at_append hb hl k c x).mp h1 with a | a <;> rcases (at_append hb hl k c' x).mp h2 with a' | a'
  · exact h c c' x a a'
  · exact absurd (a'.2.2 ▸ a) (hy a'.1 c)
  · exact absurd (a.2.2 ▸ a') (hy a.1 c')
  · rw [a.2.1, a'.2.1]

/-- the entries after `d[k0][c0] = []` -/
theorem at_nil (hb : lookup k0 d = some b) {k : κ} {c : ι} {x : ν}
    (h : At (insert k0 (insert c0 [] b) d) k c x) : At d k c x :=
  ((at_insert hb k c x).mp h).elim (fun h => nomatch h.2.2) (·.2)

theorem at_nil_iff (hb : lookup k0 d = some b) (hn : lookup c0 b = none) (k : κ) (c : ι) (x : ν) :
    At (insert k0 (insert c0 [] b) d) k c x ↔ At d k c x := by
  refine ⟨at_nil hb, fun h => (at_insert hb k c x).mpr (Or.inr ⟨fun he => ?_, h⟩)⟩
  obtain ⟨b2, l2, h1, h2, _⟩ := h
  rw [he.1, hb] at h1; cases h1
  rw [he.2, hn] at h2; cases h2

end

theorem keys_snoc_nodup {d : AList κ ν} {k : κ} (v : ν) (h : (keys d).Nodup) (hk : k ∉ keys d) :
    (keys (d ++ [(k, v)])).Nodup :=
  insert_of_lookup_none v (lookup_eq_none_iff.mpr hk) ▸ keys_insert_nodup k v h

end PS.AList
