/- Probabilistic unambiguous grammars (C04): the operations `ProbUGrammar.uniform`,
   `ProbUGrammar.normalise`, and the counters `countU` / `UCFG.programs()`. -/
import PS.Model.Prob
import PS.Proofs.UMass
namespace PS.U.Ops
open PS PS.G PS.U PS.U.Mass
variable {U : Type} [DecidableEq U]

theorem le_sum_of_mem {n : Nat} {l : List Nat} (h : n ∈ l) : n ≤ l.sum :=
  PS.le_sum_of_mem h

theorem keys_uniformU (G : UCFG U) : AList.keys (uniformU G).tags = AList.keys G.rules := by
  simp [AList.keys, uniformU, List.map_map, Function.comp_def]

theorem weightU_uniformU (G : UCFG U) {nt : UNT U} {row : AList Sym (List (List (UNT U)))} {P : Sym}
    {alts : List (List (UNT U))} (hl : AList.lookup nt G.rules = some row) (hP : AList.lookup P row = some alts)
    {args : List (UNT U)} (ha : args ∈ alts) :
    weightU (uniformU G) (nt, P, args) = 1 / (((row.map (fun r => r.2.length)).sum : Nat) : Rat) := by
  rw [weightU, tagOfU_eq, uniformU]
  simp only
  rw [AList.lookup₂_map_val₂ (fun _ row _ (alts : List (List (UNT U))) =>
    alts.foldl (fun d v => AList.insert v (1 / (((row.map (fun r => r.2.length)).sum : Nat) : Rat)) d) []), hl]
  simp [hP, AList.lookup_foldl_insert_const, ha]

theorem uniformU_normalised (G : UCFG U) (hk : (AList.keys G.rules).Nodup)
    (hr : ∀ e ∈ G.rules, (AList.keys e.2).Nodup ∧ (∃ r ∈ e.2, r.2 ≠ []) ∧ ∀ r ∈ e.2, r.2.Nodup) :
    NormalisedU G (uniformU G) := by
  intro e he
  -- the third clause of `hr` is not used
  obtain ⟨hnd, ⟨r0, hr0, hne0⟩, _⟩ := hr e he
  refine ⟨?_, hnd⟩
  have h1 : e.2.map (fun r => (r.2.map (fun args => weightU (uniformU G) (e.1, r.1, args))).sum)
      = e.2.map (fun r => ((r.2.length : Nat) : Rat)
          * (1 / (((e.2.map (fun r => r.2.length)).sum : Nat) : Rat))) := by
    apply List.map_congr_left
    intro r hr'
    have : r.2.map (fun args => weightU (uniformU G) (e.1, r.1, args))
        = r.2.map (fun _ => 1 / (((e.2.map (fun r => r.2.length)).sum : Nat) : Rat)) :=
      List.map_congr_left (fun args ha => weightU_uniformU G (AList.lookup_of_mem_nodup hk he)
        (AList.lookup_of_mem_nodup hnd hr') ha)
    rw [this, sum_map_const]
  rw [h1, sum_map_mul_right, ← natCast_sum]
  apply natCast_mul_one_div
  intro h0
  have hle : r0.2.length ≤ (e.2.map (fun r => r.2.length)).sum :=
    le_sum_of_mem (List.mem_map.mpr ⟨r0, hr0, rfl⟩)
  have : r0.2.length = 0 := by omega
  exact hne0 (List.length_eq_zero_iff.mp this)

theorem uniformU_starts (G : UCFG U) (hs : G.starts.Nodup) (hne : G.starts ≠ []) :
    (G.starts.map (startWeight (uniformU G))).sum = 1 := by
  -- `hs` is not used; `C04_uniform_u_normalised` states it
  have _ := hs
  have h1 : G.starts.map (startWeight (uniformU G))
      = G.starts.map (fun _ => 1 / (G.starts.length : Rat)) := by
    apply List.map_congr_left
    intro s hs'
    simp only [startWeight, uniformU, AList.lookup_foldl_insert_const, hs', if_true, Option.getD_some]
  rw [h1, sum_map_const]
  exact natCast_mul_one_div _ (fun h => hne (List.length_eq_zero_iff.mp h))

omit [DecidableEq U] in
theorem rowSumU_normaliseRow (d : AList Sym (AList (List (UNT U)) Rat)) (s : Rat) :
    rowSumU (d.map (fun r => (r.1, r.2.map (fun a => (a.1, a.2 / s))))) = rowSumU d / s := by
  simp only [rowSumU, altSum, List.map_map, Function.comp_def]
  rw [← sum_map_div]
  congr 1
  apply List.map_congr_left
  intro r _
  exact sum_map_div r.2 (fun a => a.2) s

omit [DecidableEq U] in
theorem rowSumU_normaliseU (tg : UTags U) :
    ∀ e ∈ (normaliseU tg).tags, ∃ e' ∈ tg.tags, e.1 = e'.1 ∧ (rowSumU e'.2 ≠ 0 → rowSumU e.2 = 1) := by
  intro e he
  obtain ⟨e', he', rfl⟩ := List.mem_map.mp he
  refine ⟨e', he', rfl, ?_⟩
  intro h
  simp only
  rw [rowSumU_normaliseRow, rat_div_self _ h]

omit [DecidableEq U] in
theorem startSum_normaliseU (tg : UTags U) (h : (tg.startTags.map (·.2)).sum ≠ 0) :
    ((normaliseU tg).startTags.map (·.2)).sum = 1 := by
  simp only [normaliseU, List.map_map, Function.comp_def]
  rw [sum_map_div tg.startTags (fun e => e.2), rat_div_self _ h]

theorem countU_eq_length (G : UCFG U) (k : Nat) (nt : UNT U) :
    countU G k nt = (langU G k nt).length := by
  rw [countU_eq_prods, Prods.count_eq_length, langU_eq_prods]

theorem countU_stable (G : UCFG U) (j : Nat) (a : UNT U) (j' : Nat)
    (hb : boundedU G j a = true) (hle : j ≤ j') : countU G j' a = countU G j a := by
  rw [countU_eq_prods, countU_eq_prods]
  exact Prods.count_stable_le _ a (boundedU_prods G j a hb) hle

theorem countU_bounded_eq (G : UCFG U) (j j' : Nat) (a : UNT U)
    (h : boundedU G j a = true) (h' : boundedU G j' a = true) : countU G j a = countU G j' a := by
  rw [countU_eq_prods, countU_eq_prods]
  exact Prods.count_eq_of_bounded _ a (boundedU_prods G j a h) (boundedU_prods G j' a h')

def MemoOK (G : UCFG U) (memo : Memo U) : Prop :=
  ∀ a c, AList.lookup a memo = some c → ∃ j, boundedU G j a = true ∧ c = countU G j a

/-- the specification of one call of `__compute__`, on the states satisfying `P` -/
def CallSpec (G : UCFG U) (cf : UNT U → Memo U → Option (Nat × Memo U)) (P : UNT U → Prop)
    (f : UNT U → Nat) : Prop :=
  ∀ a memo c memo', P a → MemoOK G memo → cf a memo = some (c, memo') → c = f a ∧ MemoOK G memo'

theorem computeArgs_spec (G : UCFG U) (cf : UNT U → Memo U → Option (Nat × Memo U))
    (P : UNT U → Prop) (f : UNT U → Nat) (hc : CallSpec G cf P f)
    (args : List (UNT U)) (loc : Nat) (memo : Memo U) (n : Nat) (memo' : Memo U)
    (hp : ∀ a ∈ args, P a) (hm : MemoOK G memo) (h : computeArgs cf args loc memo = some (n, memo')) :
    n = loc * (args.map f).prod ∧ MemoOK G memo' := by
  fun_induction computeArgs cf args loc memo with
  | case1 loc memo => cases h; exact ⟨by simp, hm⟩
  | case2 a as loc memo hca => cases h
  | case3 a as loc memo c memo1 hca ih =>
    obtain ⟨rfl, hm1⟩ := hc a memo c memo1 (hp a (by simp)) hm hca
    obtain ⟨rfl, hm2⟩ := ih (fun x hx => hp x (by simp [hx])) hm1 h
    exact ⟨by simp [Nat.mul_assoc], hm2⟩

theorem computeRules_spec (G : UCFG U) (cf : UNT U → Memo U → Option (Nat × Memo U))
    (P : UNT U → Prop) (f : UNT U → Nat) (hc : CallSpec G cf P f)
    (alts : List (List (UNT U))) (total : Nat) (memo : Memo U) (n : Nat) (memo' : Memo U)
    (hp : ∀ args ∈ alts, ∀ a ∈ args, P a) (hm : MemoOK G memo)
    (h : computeRules cf alts total memo = some (n, memo')) :
    n = total + (alts.map (fun args => (args.map f).prod)).sum ∧ MemoOK G memo' := by
  fun_induction computeRules cf alts total memo with
  | case1 total memo => cases h; exact ⟨by simp, hm⟩
  | case2 args rest total memo hca => cases h
  | case3 args rest total memo loc memo1 hca ih =>
    obtain ⟨rfl, hm1⟩ := computeArgs_spec G cf P f hc args 1 memo loc memo1 (hp args (by simp)) hm hca
    obtain ⟨rfl, hm2⟩ := ih (fun x hx => hp x (by simp [hx])) hm1 h
    exact ⟨by simp [Nat.add_assoc], hm2⟩

theorem nat_sum_map_flatMap {α β : Type} (g : α → List β) (h : β → Nat) (l : List α) :
    ((l.flatMap g).map h).sum = (l.map (fun x => ((g x).map h).sum)).sum :=
  PS.G.nat_sum_map_flatMap g h l

theorem compute_spec (G : UCFG U) (fuel : Nat) : ∀ (j : Nat),
    CallSpec G (compute G fuel) (fun a => boundedU G j a = true) (countU G j) := by
  induction fuel with
  | zero => exact fun _ _ _ _ _ _ _ => nofun
  | succ fuel ih =>
    intro j st memo c memo' hb hm h
    obtain ⟨j, rfl⟩ : ∃ j', j = j' + 1 := by cases j; cases hb; exact ⟨_, rfl⟩
    obtain ⟨rs, hr, hb'⟩ := boundedU_succ.mp hb
    rw [compute, hr] at h
    cases hl : AList.lookup st memo with
    | some c0 =>
      rw [hl] at h; cases h
      obtain ⟨j0, hb0, rfl⟩ := hm st c hl
      exact ⟨countU_bounded_eq G j0 _ st hb0 hb, hm⟩
    | none =>
      rw [hl] at h; simp only at h
      cases hcr : computeRules (compute G fuel) (rs.flatMap (fun r => r.2)) 0 memo with
      | none => rw [hcr] at h; cases h
      | some res =>
        rw [hcr] at h; cases h
        obtain ⟨htot, hm1⟩ := computeRules_spec G (compute G fuel) (fun a => boundedU G j a = true) (countU G j)
          (ih j) (rs.flatMap (fun r => r.2)) 0 memo res.1 res.2
          (fun args hargs a ha =>
            have ⟨r, hrm, hargs'⟩ := List.mem_flatMap.mp hargs
            hb' r hrm args hargs' a ha) hm hcr
        have hcount : res.1 = countU G (j + 1) st := by
          rw [htot, countU, hr, Nat.zero_add, nat_sum_map_flatMap]
        exact ⟨hcount, AList.forall_insert (fun a c _ => hm1 a c) ⟨j + 1, hb, hcount⟩⟩

theorem programsFrom_spec (G : UCFG U) (fuel k : Nat)
    (ss : List (UNT U)) (total : Nat) (memo : Memo U) (n : Nat)
    (hb : ∀ s ∈ ss, boundedU G k s = true) (hm : MemoOK G memo)
    (h : programsFrom G fuel ss total memo = some n) :
    n = total + (ss.map (fun s => countU G k s)).sum := by
  fun_induction programsFrom G fuel ss total memo with
  | case1 total memo => cases h; simp
  | case2 s ss total memo hc => cases h
  | case3 s ss total memo c memo1 hc ih =>
    obtain ⟨rfl, hm1⟩ := compute_spec G fuel k s memo c memo1 (hb s (by simp)) hm hc
    rw [ih (fun x hx => hb x (by simp [hx])) hm1 h]
    simp [Nat.add_assoc]

theorem programs_eq_countU (G : UCFG U) (fuel n k : Nat) (h : programs G fuel = some n)
    (hb : ∀ s ∈ G.starts, boundedU G k s = true) :
    n = (G.starts.map (fun s => countU G k s)).sum := by
  have hm : MemoOK G ([] : Memo U) := by intro a c hl; simp at hl
  have := programsFrom_spec G fuel k G.starts 0 [] n hb hm h
  simpa using this

theorem programs_eq_length (G : UCFG U) (fuel n k : Nat) (h : programs G fuel = some n)
    (hb : ∀ s ∈ G.starts, boundedU G k s = true) :
    n = (G.starts.map (fun s => (langU G k s).length)).sum := by
  rw [programs_eq_countU G fuel n k h hb]
  congr 1
  apply List.map_congr_left
  intro s _
  exact countU_eq_length G k s

end PS.U.Ops
