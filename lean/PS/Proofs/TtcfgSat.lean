/-
  C13: the worklist loop of `__saturation_build__`.  Whatever the order in which the
  pending stacks are explored and dropped, the table it returns has distinct keys, contains the
  start symbol, and every row is exactly the row the rule-creation step gives that key.
  (What the loop does not guarantee without `stackKey` - finding C13-F2 - is that every
  non-terminal a derivation can reach is a key.)
-/
import PS.Proofs.TtcfgRows
import PS.Proofs.TtcfgLoop
namespace PS.T
open PS PS.G

variable {S T : Type} [DecidableEq S] [DecidableEq T]

/-- `if k not in d: d[k] = v` -/
def setDefault {κ ν : Type} [DecidableEq κ] (k : κ) (v : ν) (d : AList κ ν) : AList κ ν :=
  if AList.contains k d then d else AList.insert k v d

section SetDefault
variable {κ ν : Type} [DecidableEq κ] (k : κ) (v : ν) (d : AList κ ν)

theorem contains_setDefault (k' : κ) :
    AList.contains k' (setDefault k v d) = (decide (k' = k) || AList.contains k' d) := by
  unfold setDefault
  split
  · by_cases he : k' = k <;> simp [*]
  · exact contains_insert k k' v d

theorem mem_setDefault {e : κ × ν} (h : e ∈ setDefault k v d) : e ∈ d ∨ e = (k, v) := by
  unfold setDefault at h
  split at h
  · exact Or.inl h
  · exact (AList.mem_insert h).symm

theorem setDefault_nodup (h : (AList.keys d).Nodup) : (AList.keys (setDefault k v d)).Nodup := by
  unfold setDefault
  split
  · exact h
  · exact AList.keys_insert_nodup k v h

theorem setDefault_length_le : (setDefault k v d).length ≤ d.length + 1 := by
  unfold setDefault
  split
  · omega
  · exact insert_length_le k v d

end SetDefault

/-- a work-list entry `((type, S), state, pending stack)` -/
abbrev Entry (S T : Type) := (Ty × S) × T × List (Ty × S)

/-- the pair a work-list entry is recorded under in `seen` -/
def entryKey (x : Entry S T) : NT S T × List (Ty × S) := ((x.1.1, (x.1.2, x.2.1)), x.2.2)

/-- what one iteration of the loop pushes for the pair `(rule, stack)` (ttcfg.py:518-541) -/
def pushesOf (B : Builder S T) (prims : List Sym) (request : Ty) (rule : NT S T) (stack : List (Ty × S)) :
    List (Entry S T) :=
  (rowList B prims request rule).filterMap (fun r =>
    match r.2.1 ++ stack with
    | [] => none
    | x :: rest => some (x, r.2.2, rest))

omit [DecidableEq S] [DecidableEq T] in
theorem mem_pushesOf_iff {B : Builder S T} {prims : List Sym} {request : Ty} {rule : NT S T} {stack : List (Ty × S)}
    {p : Entry S T} : p ∈ pushesOf B prims request rule stack ↔
      ∃ r ∈ rowList B prims request rule, r.2.1 ++ stack = p.1 :: p.2.2 ∧ r.2.2 = p.2.1 := by
  unfold pushesOf
  rw [List.mem_filterMap]
  refine exists_congr fun r => and_congr_right fun _ => ?_
  obtain ⟨x, st, rest⟩ := p
  cases r.2.1 ++ stack with
  | nil => simp
  | cons y rest' => simp only [Option.some.injEq, Prod.mk.injEq, List.cons.injEq]; exact ⟨fun ⟨a, b, c⟩ => ⟨⟨a, c⟩, b⟩, fun ⟨⟨a, c⟩, b⟩ => ⟨a, b, c⟩⟩

/-- the test at the head of an iteration: with `stackKey` the pair was treated, without it the
    rule key has a row -/
def satSkip (stackKey : Bool) (x : Entry S T) (seen : List (NT S T × List (Ty × S))) (tbl : Table S T) : Bool :=
  if stackKey then seen.contains (entryKey x) else AList.contains (entryKey x).1 tbl

def satBody (B : Builder S T) (prims : List Sym) (request : Ty) (stackKey : Bool) (x : Entry S T)
    (s : List (NT S T × List (Ty × S)) × Table S T) :
    Res (List (Entry S T) × List (NT S T × List (Ty × S)) × Table S T) :=
  if satSkip stackKey x s.1 s.2 then .ok ([], s)
  else .ok (pushesOf B prims request (entryKey x).1 (entryKey x).2, entryKey x :: s.1,
    setDefault (entryKey x).1 (rowDict B prims request (entryKey x).1) s.2)

theorem satLoop_cons (B : Builder S T) (prims : List Sym) (request : Ty) (stackKey : Bool) (fuel : Nat)
    (x : Entry S T) (todo : List (Entry S T)) (seen : List (NT S T × List (Ty × S))) (tbl : Table S T) :
    satLoop B prims request stackKey (fuel + 1) (x :: todo) seen tbl =
      if satSkip stackKey x seen tbl then satLoop B prims request stackKey fuel todo seen tbl
      else satLoop B prims request stackKey fuel
        ((pushesOf B prims request (entryKey x).1 (entryKey x).2).reverse ++ todo) (entryKey x :: seen)
        (setDefault (entryKey x).1 (rowDict B prims request (entryKey x).1) tbl) := rfl

theorem satLoop_eq (B : Builder S T) (prims : List Sym) (request : Ty) (stackKey : Bool) :
    ∀ (fuel : Nat) (todo : List (Entry S T)) (seen : List (NT S T × List (Ty × S))) (tbl r : Table S T),
      satLoop B prims request stackKey fuel todo seen tbl = some r ↔
        ∃ seen', wloop (satBody B prims request stackKey) fuel todo (seen, tbl) = .ok (seen', r)
  | fuel, [], seen, tbl, r => by
    rw [wloop_nil]
    cases fuel <;> simp [satLoop]
  | 0, _ :: _, _, _, _ => by simp [satLoop, wloop_zero]
  | fuel + 1, x :: todo, seen, tbl, r => by
    rw [satLoop_cons, wloop_cons, satBody]
    cases hskip : satSkip stackKey x seen tbl
    · exact satLoop_eq B prims request stackKey fuel _ _ _ r
    · exact satLoop_eq B prims request stackKey fuel todo seen tbl r

/-- the motive relates pending entries, treated pairs, table and result: it holds when nothing is
    pending and is carried backwards over an iteration -/
theorem satLoop_induct (B : Builder S T) (prims : List Sym) (request : Ty) (stackKey : Bool)
    (motive : List (Entry S T) → List (NT S T × List (Ty × S)) → Table S T → Table S T → Prop)
    (nil : ∀ seen tbl, motive [] seen tbl tbl)
    (skip : ∀ x todo seen tbl r, satSkip stackKey x seen tbl = true → motive todo seen tbl r →
      motive (x :: todo) seen tbl r)
    (step : ∀ x todo seen tbl r, satSkip stackKey x seen tbl = false →
      motive ((pushesOf B prims request (entryKey x).1 (entryKey x).2).reverse ++ todo) (entryKey x :: seen)
        (setDefault (entryKey x).1 (rowDict B prims request (entryKey x).1) tbl) r →
      motive (x :: todo) seen tbl r)
    (fuel : Nat) (todo : List (Entry S T)) (seen : List (NT S T × List (Ty × S))) (tbl r : Table S T)
    (h : satLoop B prims request stackKey fuel todo seen tbl = some r) : motive todo seen tbl r := by
  fun_induction satLoop B prims request stackKey fuel todo seen tbl with
  | case1 => cases h; exact nil _ _
  | case2 => cases h
  | case3 fuel slot cur stack todo seen tbl rule hs ih => exact skip (slot, cur, stack) todo seen tbl r hs (ih h)
  | case4 fuel slot cur stack todo seen tbl rule hs pushes ih =>
    exact step (slot, cur, stack) todo seen tbl r (Bool.not_eq_true _ ▸ hs) (ih h)

def SatInv (B : Builder S T) (prims : List Sym) (request : Ty) (tbl : Table S T) : Prop :=
  (AList.keys tbl).Nodup ∧ ∀ e ∈ tbl, e.2 = rowDict B prims request e.1

theorem satLoop_inv (B : Builder S T) (prims : List Sym) (request : Ty) (stackKey : Bool)
    (fuel : Nat) (todo : List (Entry S T)) (seen : List (NT S T × List (Ty × S))) (tbl r : Table S T)
    (h : satLoop B prims request stackKey fuel todo seen tbl = some r) :
    SatInv B prims request tbl → (∀ x ∈ seen, AList.contains x.1 tbl = true) →
      SatInv B prims request r ∧ (∀ k, AList.contains k tbl = true → AList.contains k r = true) ∧
      (∀ x ∈ todo, AList.contains (entryKey x).1 r = true) := by
  refine satLoop_induct B prims request stackKey (fun todo seen tbl r => SatInv B prims request tbl →
    (∀ x ∈ seen, AList.contains x.1 tbl = true) → SatInv B prims request r ∧
      (∀ k, AList.contains k tbl = true → AList.contains k r = true) ∧
      (∀ x ∈ todo, AList.contains (entryKey x).1 r = true)) ?_ ?_ ?_ fuel todo seen tbl r h
  · exact fun seen tbl hinv _ => ⟨hinv, fun _ hk => hk, nofun⟩
  · intro x todo seen tbl r hskip ih hinv hseen
    obtain ⟨i1, i2, i3⟩ := ih hinv hseen
    refine ⟨i1, i2, List.forall_mem_cons.mpr ⟨i2 _ ?_, i3⟩⟩
    unfold satSkip at hskip
    cases stackKey
    · exact hskip
    · exact hseen _ (by simpa using hskip)
  · intro x todo seen tbl r _ ih hinv hseen
    have hc := contains_setDefault (entryKey x).1 (rowDict B prims request (entryKey x).1) tbl
    obtain ⟨i1, i2, i3⟩ := ih
      ⟨setDefault_nodup _ _ _ hinv.1, fun e he => by
        rcases mem_setDefault _ _ _ he with h1 | rfl
        · exact hinv.2 e h1
        · rfl⟩
      (List.forall_mem_cons.mpr ⟨by simp [hc], fun y hy => by simp [hc, hseen y hy]⟩)
    exact ⟨i1, fun k hk => i2 k (by simp [hc, hk]),
      List.forall_mem_cons.mpr ⟨i2 _ (by simp [hc]), fun y hy => i3 y (List.mem_append_right _ hy)⟩⟩

theorem saturationTable_eq_some {B : Builder S T} {prims : List Sym} {request : Ty} {stackKey : Bool} {fuel : Nat}
    {G : TT S T} : saturationTable B prims request stackKey fuel = some G ↔
      ∃ tbl, satLoop B prims request stackKey fuel [((request.returns, B.init.1), B.init.2, [])] [] [] = some tbl ∧
        G = ⟨startOf B request, tbl⟩ := by
  unfold saturationTable
  cases satLoop B prims request stackKey fuel [((request.returns, B.init.1), B.init.2, [])] [] [] with
  | none => simp
  | some tbl => simp [eq_comm]

/-- what `__saturation_build__` guarantees of the table it returns -/
structure SatSpec (B : Builder S T) (prims : List Sym) (request : Ty) (G : TT S T) : Prop where
  start : G.start = startOf B request
  nodup : (AList.keys G.rules).Nodup
  hasStart : AList.contains G.start G.rules = true
  rows : ∀ e ∈ G.rules, e.2 = rowDict B prims request e.1

theorem saturationTable_spec (B : Builder S T) (prims : List Sym) (request : Ty) (stackKey : Bool) (fuel : Nat)
    (G : TT S T) (h : saturationTable B prims request stackKey fuel = some G) : SatSpec B prims request G := by
  obtain ⟨tbl, hl, rfl⟩ := saturationTable_eq_some.mp h
  obtain ⟨i1, _, i3⟩ := satLoop_inv B prims request stackKey fuel _ [] [] tbl hl
    ⟨List.nodup_nil, nofun⟩ nofun
  exact ⟨rfl, i1.1, i3 _ (List.mem_singleton.mpr rfl), i1.2⟩

theorem saturation_rule (B : Builder S T) (dsl : Dsl) (request : Ty) (stackKey : Bool) (fuel : Nat) (G : TT S T)
    (h : saturationTable B dsl.prims request stackKey fuel = some G) (nt : NT S T) (P : Sym) (val : List (Ty × S) × T)
    (hr : G.rule? nt P = some val) : idealFn B dsl request nt P = some val := by
  have hrows := (saturationTable_spec B dsl.prims request stackKey fuel G h).rows
  obtain ⟨row, hl, hr⟩ := TT.rule?_eq_some.mp hr
  have := hrows _ (AList.lookup_some_mem hl)
  simp only at this
  unfold idealFn rowsFn
  rw [← this]; exact hr

/-- what `size_constraint` and `at_most_k` do with their builder: worklist, `clean()`, and the
    request is reported -/
def construct (B : Builder S T) (dsl : Dsl) (request : Ty) (stackKey : Bool) (fuel : Nat) : Res (TTG S T) :=
  match saturationTable B dsl.prims request stackKey fuel with
  | none => .fuel
  | some G0 =>
    match clean G0 fuel with
    | .ok G => .ok ⟨G, request⟩
    | .fuel => .fuel
    | .keyError => .keyError

theorem sizeConstraint_eq (dsl : Dsl) (request : Ty) (k : Nat) (nG : Int) (actual stackKey : Bool) (fuel : Nat) :
    sizeConstraint dsl request k nG actual stackKey fuel = construct (sizeBuilder dsl nG k actual) dsl request stackKey fuel := by
  unfold sizeConstraint construct
  cases saturationTable (sizeBuilder dsl nG k actual) dsl.prims request stackKey fuel with
  | none => rfl
  | some G0 => dsimp only; cases clean G0 fuel <;> rfl

theorem atMostK_eq (dsl : Dsl) (request : Ty) (name : String) (k : Nat) (nG : Int) (stackKey : Bool) (fuel : Nat) :
    atMostK dsl request name k nG stackKey fuel = construct (atMostBuilder dsl nG name k) dsl request stackKey fuel := by
  unfold atMostK construct
  cases saturationTable (atMostBuilder dsl nG name k) dsl.prims request stackKey fuel with
  | none => rfl
  | some G0 => dsimp only; cases clean G0 fuel <;> rfl

theorem construct_eq_ok {B : Builder S T} {dsl : Dsl} {request : Ty} {stackKey : Bool} {fuel : Nat} {g : TTG S T} :
    construct B dsl request stackKey fuel = .ok g ↔
      ∃ G0, saturationTable B dsl.prims request stackKey fuel = some G0 ∧ clean G0 fuel = .ok g.G ∧
        g.typeRequest = request := by
  unfold construct
  cases saturationTable B dsl.prims request stackKey fuel with
  | none => simp
  | some G0 =>
    dsimp only
    constructor
    · intro h
      cases hc : clean G0 fuel with
      | ok G => rw [hc] at h; cases h; exact ⟨G0, rfl, hc, rfl⟩
      | fuel => rw [hc] at h; cases h
      | keyError => rw [hc] at h; cases h
    · rintro ⟨_, e, hc, hr⟩
      cases e
      rw [hc, ← hr]

theorem construct_typeRequest {B : Builder S T} {dsl : Dsl} {request : Ty} {stackKey : Bool} {fuel : Nat} {g : TTG S T}
    (h : construct B dsl request stackKey fuel = .ok g) : g.typeRequest = request := by
  obtain ⟨_, _, _, hr⟩ := construct_eq_ok.mp h
  exact hr

end PS.T
