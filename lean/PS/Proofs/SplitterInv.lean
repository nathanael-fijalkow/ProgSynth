/- C08, fragment grammar: the invariant `GoInv` of the loop `for node in group` of `__pcfg_from__`: the layout of the
   copies, the shape of the tables, the row of a start copy (`RowOK`: one rule per node that starts with it), the
   start copies. -/
import PS.Proofs.SplitterRows
namespace PS.Sp
open PS PS.G

variable {U : Type} [DecidableEq U]

/-- first renamed steps (symbol, arguments, weight of the node) of the nodes whose start copy is `X` -/
def heads (L : List (Lay U)) (X : UNT (U × Nat)) : List (Sym × List (UNT (U × Nat)) × Rat) :=
  (L.filter (fun l => decide (l.sp = X))).filterMap
    (fun l => l.steps'.head?.map (fun s => (s.2.1, s.2.2, l.n.prob)))

def spMass (L : List (Lay U)) (X : UNT (U × Nat)) : Rat :=
  ((L.filter (fun l => decide (l.sp = X))).map (·.n.prob)).sum

theorem heads_append_nil (L : List (Lay U)) (l : Lay U) (X : UNT (U × Nat)) (h : l.steps' = []) :
    heads (L ++ [l]) X = heads L X := by
  by_cases hx : l.sp = X <;> simp [heads, List.filter_append, hx, h]

theorem spMass_append (L : List (Lay U)) (l : Lay U) (X : UNT (U × Nat)) :
    spMass (L ++ [l]) X = spMass L X + (if l.sp = X then l.n.prob else 0) := by
  by_cases hx : l.sp = X
  · simp [spMass, List.filter_append, hx, Rat.add_zero]
  · simp [spMass, List.filter_append, hx, Rat.add_zero]

theorem spMass_none (L : List (Lay U)) (X : UNT (U × Nat)) (h : ∀ l ∈ L, l.sp ≠ X) : spMass L X = 0 := by
  rw [spMass, List.filter_eq_nil_iff.mpr fun l hl => by simpa using h l hl]; rfl

/-- total weight of a row of the weight table (what `ProbUGrammar.normalise` divides by) -/
def rowSum {κ : Type} (row : AList Sym (AList (List κ) Rat)) : Rat :=
  (row.map (fun r => (r.2.map (·.2)).sum)).sum

omit [DecidableEq U] in
theorem mem_lookup_stepR {κ : Type} (rs : AList Sym (List (List κ))) (P Q : Sym) (m a : List κ) :
    a ∈ (AList.lookup Q (stepR rs P m)).getD [] ↔ a ∈ (AList.lookup Q rs).getD [] ∨ (P = Q ∧ m = a) := by
  rw [stepR, AList.lookup_insert]
  by_cases hQ : Q = P
  · subst hQ
    simp [eq_comm]
  · simp [hQ, Ne.symm hQ]

theorem lookup₂_stepP {κ : Type} [DecidableEq κ] (ps : AList Sym (AList (List κ) Rat)) (P Q : Sym) (m a : List κ) (w : Rat) :
    AList.lookup₂ (stepP ps P m w) Q a = if Q = P ∧ a = m then some w else AList.lookup₂ ps Q a := by
  unfold AList.lookup₂ stepP
  rw [AList.lookup_insert]
  by_cases hQ : Q = P
  · subst hQ
    rw [if_pos rfl, Option.bind_some, AList.lookup_insert]
    by_cases ha : a = m
    · simp [ha]
    · simp only [ha, if_false, and_false]
      cases AList.lookup Q ps <;> rfl
  · simp [hQ]

theorem rowSum_stepP {κ : Type} [DecidableEq κ] (ps : AList Sym (AList (List κ) Rat)) (P : Sym) (m : List κ) (w : Rat)
    (h : AList.lookup₂ ps P m = none) : rowSum (stepP ps P m w) = rowSum ps + w := by
  have hm : AList.lookup m ((AList.lookup P ps).getD []) = none := by
    unfold AList.lookup₂ at h
    cases hl : AList.lookup P ps with
    | none => rfl
    | some old => rw [hl] at h; exact h
  have h1 := sum_insert (fun dv : AList (List κ) Rat => (dv.map (·.2)).sum) P
    (AList.insert m w ((AList.lookup P ps).getD [])) ps
  have h2 := sum_insert (fun r : Rat => r) m w ((AList.lookup P ps).getD [])
  rw [hm, Option.map_none, Option.getD_none, Rat.add_zero] at h2
  rw [h2] at h1
  unfold rowSum stepP
  cases hl : AList.lookup P ps with
  | none =>
    simpa only [hl, Option.map_none, Option.getD_none, List.map_nil, List.sum_nil, Rat.add_zero, Rat.zero_add]
      using h1
  | some old =>
    simp only [hl, Option.map_some, Option.getD_some] at h1 ⊢
    exact Rat.add_right_cancel _ (h1.trans (by ac_rfl))

/-- the rule row `rR` and the weight row `rP` of the start copy `X`, for the layouts `L`:
    the alternatives are the first renamed steps of the nodes that start with `X`, each weighs what
    its node weighs, the row weighs what these nodes weigh, no symbol occurs twice -/
structure RowOK (rR : AList Sym (List (List (UNT (U × Nat))))) (rP : AList Sym (AList (List (UNT (U × Nat))) Rat))
    (L : List (Lay U)) (X : UNT (U × Nat)) : Prop where
  nd : (AList.keys rR).Nodup
  mem : ∀ Q a, a ∈ (AList.lookup Q rR).getD [] ↔ ∃ l ∈ L, l.sp = X ∧ l.steps'.head? = some (X, Q, a)
  tag : ∀ Q a w, AList.lookup₂ rP Q a = some w ↔ ∃ l ∈ L, l.sp = X ∧ l.steps'.head? = some (X, Q, a) ∧ l.n.prob = w
  sum : rowSum rP = spMass L X

theorem RowOK.empty {L : List (Lay U)} {X : UNT (U × Nat)} (h : ∀ l ∈ L, l.sp ≠ X) : RowOK [] [] L X where
  nd := List.nodup_nil
  mem _ _ := ⟨fun h' => (by cases h'), fun ⟨l, hl, e, _⟩ => absurd e (h l hl)⟩
  tag _ _ _ := ⟨fun h' => (by cases h'), fun ⟨l, hl, e, _⟩ => absurd e (h l hl)⟩
  sum := by rw [spMass_none L X h]; rfl

omit [DecidableEq U] in
theorem ex_snoc {L : List (Lay U)} {lay : Lay U} (p : Lay U → Prop) :
    (∃ l ∈ L ++ [lay], p l) ↔ (∃ l ∈ L, p l) ∨ p lay := by
  simp only [List.mem_append, List.mem_singleton, or_and_right, exists_or, exists_eq_left]

theorem RowOK.frame {rR rP} {L : List (Lay U)} {X : UNT (U × Nat)} (h : RowOK rR rP L X) {lay : Lay U}
    (hne : lay.sp ≠ X) : RowOK rR rP (L ++ [lay]) X where
  nd := h.nd
  mem Q a := by rw [ex_snoc, ← h.mem]; simp [hne]
  tag Q a w := by rw [ex_snoc, ← h.tag]; simp [hne]
  sum := by rw [h.sum, spMass_append, if_neg hne, Rat.add_zero]

/-- one `rules[X][P].append(m)`, `probabilities[X][P][m] = w`: the key `(P, m)` must be new -/
theorem RowOK.step {rR rP} {L : List (Lay U)} {X : UNT (U × Nat)} (h : RowOK rR rP L X) {lay : Lay U}
    {P : Sym} {m : List (UNT (U × Nat))} {t : List (Step (U × Nat))}
    (hsp : lay.sp = X) (hs : lay.steps' = (X, P, m) :: t)
    (hnew : ∀ l ∈ L, l.sp = X → l.steps'.head? ≠ some (X, P, m)) :
    RowOK (stepR rR P m) (stepP rP P m lay.n.prob) (L ++ [lay]) X := by
  have hn : AList.lookup₂ rP P m = none := by
    cases ht : AList.lookup₂ rP P m with
    | none => rfl
    | some w =>
      obtain ⟨l, hl, e1, e2, -⟩ := (h.tag P m w).mp ht
      exact absurd e2 (hnew l hl e1)
  refine ⟨AList.keys_insert_nodup _ _ h.nd, fun Q a => ?_, fun Q a w => ?_, ?_⟩
  · rw [mem_lookup_stepR, h.mem, ex_snoc, hs]
    simp [hsp]
  · rw [lookup₂_stepP, ex_snoc, ← h.tag, hs]
    by_cases hQ : Q = P ∧ a = m
    · obtain ⟨rfl, rfl⟩ := hQ
      simp [hn, hsp]
    · have hQ' : ¬ (P = Q ∧ m = a) := fun e => hQ ⟨e.1.symm, e.2.symm⟩
      simp [hQ, hQ', hsp]
  · rw [rowSum_stepP _ _ _ _ hn, h.sum, spMass_append, if_pos hsp]

structure Own (lo hi : Nat) (sp : UNT (U × Nat)) (steps' : List (Step (U × Nat)))
    (pend : List (UNT U × UNT (U × Nat))) : Prop where
  le : lo ≤ hi
  nodup : (targets steps' ++ names pend).Nodup
  lhs : ∀ x ∈ targets steps' ++ names pend, x = sp ∨ (lo < idx x ∧ idx x ≤ hi)
  args : ∀ s ∈ steps', ∀ x ∈ s.2.2, lo < idx x ∧ idx x ≤ hi

theorem lay_own {lo hi : Nat} {start : UNT U} {sp : UNT (U × Nat)} {steps : List (Step U)}
    {steps' : List (Step (U × Nat))} {pend : List (UNT U × UNT (U × Nat))}
    (hp : renPath lo [(start, sp)] steps = some (hi, steps', pend)) (hsp : idx sp ≤ lo) :
    Own lo hi sp steps' pend := by
  obtain ⟨h1, h2, h3, h4⟩ := renPath_names steps lo [(start, sp)] _ hp
    (fun x hx => List.eq_of_mem_singleton hx ▸ hsp) (List.pairwise_singleton _ _)
  exact ⟨h1, h2, fun x hx => (h3 x hx).imp_left List.eq_of_mem_singleton, h4⟩

theorem lay_fresh {lo hi : Nat} {start : UNT U} {sp : UNT (U × Nat)} {steps : List (Step U)}
    {steps' : List (Step (U × Nat))} {pend : List (UNT U × UNT (U × Nat))}
    (hp : renPath lo [(start, sp)] steps = some (hi, steps', pend)) (hsp : idx sp ≤ lo) (hne : steps ≠ []) :
    ∀ x ∈ targets steps'.tail ++ names pend, lo < idx x ∧ idx x ≤ hi := by
  have o := lay_own hp hsp
  rcases renPath_start hp with ⟨h, -⟩ | ⟨P, v, w, r0, -, rfl, -⟩
  · exact absurd h hne
  · intro x hx
    refine (o.lhs x (List.mem_cons_of_mem _ hx)).resolve_left (fun h => ?_)
    exact (List.nodup_cons.mp o.nodup).1 (h ▸ hx)

theorem lay_tail_idx {lo hi : Nat} {start : UNT U} {sp : UNT (U × Nat)} {steps : List (Step U)}
    {steps' : List (Step (U × Nat))} {pend : List (UNT U × UNT (U × Nat))}
    (hp : renPath lo [(start, sp)] steps = some (hi, steps', pend)) (hsp : idx sp ≤ lo) :
    ∀ s ∈ steps'.tail, lo < idx s.1 ∧ idx s.1 ≤ hi := by
  intro s hs
  rcases renPath_start hp with ⟨-, h, -⟩ | ⟨P, v, w, r0, h, -⟩
  · rw [h] at hs; cases hs
  · exact lay_fresh hp hsp (h ▸ List.cons_ne_nil _ _) s.1 (List.mem_append_left _ (List.mem_map_of_mem hs))

omit [DecidableEq U] in
theorem forall_mem_snoc {α : Type} {p : α → Prop} {L : List α} {a : α} (h1 : ∀ l ∈ L, p l) (h2 : p a) :
    ∀ l ∈ L ++ [a], p l :=
  fun l hl => (List.mem_append.mp hl).elim (h1 l) (fun h => List.eq_of_mem_singleton h ▸ h2)

/-- the layout: every node has its path renamed from the counter `lo` on, and no start copy has a
    number in a range `(lo, hi]`; `lo` is the counter after the start copy `sp` of the node got its
    number, hence `spLo` -/
structure LaysOK (L : List (Lay U)) (c : Nat) : Prop where
  path : ∀ l ∈ L, renPath l.lo [(l.n.start, l.sp)] l.n.steps = some (l.hi, l.steps', l.pend)
  spPos : ∀ l ∈ L, 0 < idx l.sp
  spLo : ∀ l ∈ L, idx l.sp ≤ l.lo
  hiLe : ∀ l ∈ L, l.hi ≤ c
  spEr : ∀ l ∈ L, er l.sp = l.n.start
  spIdx : ∀ l ∈ L, ∀ l' ∈ L, idx l'.sp ≤ l.lo ∨ l.hi < idx l'.sp

/-- the rule and weight tables: unused numbers have no rows; the steps of a path after the first
    have a row with their single rule; the copies pending at the end of a path are copies of the
    original rows; the row of the start copy of a node with a path is as `RowOK` says -/
structure TablesOK (pg : PUG U) (st : FragSt U) (L : List (Lay U)) : Prop where
  keys : ∀ X, idx X = 0 ∨ st.counter < idx X → rows st X = (none, none)
  chain : ∀ l ∈ L, ∀ s ∈ l.steps'.tail, rows st s.1 = (some [(s.2.1, [s.2.2])], some [(s.2.1, [(s.2.2, 1)])])
  pendC : ∀ l ∈ L, ∀ e ∈ l.pend, rows st e.2 = (some (copyR pg e.1), some (copyP pg e.1)) ∧
    ∀ S' ∈ rhsSyms pg e.1, S' ∈ st.toFill
  startT : ∀ l ∈ L, l.n.steps ≠ [] → RowOK ((rows st l.sp).1.getD []) ((rows st l.sp).2.getD []) L l.sp

/-- the start copies on record are those of the nodes, and each weighs what its nodes weigh; a node
    without a path is alone with its start copy -/
structure StartsOK (st : FragSt U) (L : List (Lay U)) : Prop where
  nsIff : ∀ s x, AList.lookup s st.newStarts = some x ↔ ∃ l ∈ L, l.n.start = s ∧ l.sp = x
  spVal : ∀ l ∈ L, AList.lookup l.sp st.startProbs = some (spMass L l.sp)
  spNone : ∀ X, (∀ l ∈ L, l.sp ≠ X) → AList.lookup X st.startProbs = none
  spTot : (st.startProbs.map (·.2)).sum = (L.map (·.n.prob)).sum
  spNil : ∀ l ∈ L, l.n.steps = [] → spMass L l.sp = l.n.prob

structure GoInv (pg : PUG U) (st : FragSt U) (L : List (Lay U)) : Prop
  extends LaysOK L st.counter, TablesOK pg st L, StartsOK st L

theorem goInv_init (pg : PUG U) : GoInv pg ⟨0, [], [], [], [], []⟩ [] :=
  have no : ∀ {p : Lay U → Prop}, ∀ l ∈ ([] : List (Lay U)), p l := fun _ hl => absurd hl List.not_mem_nil
  { toLaysOK := ⟨no, no, no, no, no, no⟩
    toTablesOK := ⟨fun _ _ => rfl, no, no, no⟩
    toStartsOK := ⟨fun _ _ => ⟨fun h => (nomatch h), fun ⟨_, hl, _⟩ => (nomatch hl)⟩, no, fun _ _ => rfl, rfl, no⟩ }

theorem LaysOK.own {L : List (Lay U)} {c : Nat} (h : LaysOK L c) {l : Lay U} (hl : l ∈ L) :
    Own l.lo l.hi l.sp l.steps' l.pend :=
  lay_own (h.path l hl) (h.spLo l hl)

theorem LaysOK.sp_le {L : List (Lay U)} {c : Nat} (h : LaysOK L c) {l : Lay U} (hl : l ∈ L) : idx l.sp ≤ c :=
  Nat.le_trans (h.spLo l hl) (Nat.le_trans (h.own hl).le (h.hiLe l hl))

end PS.Sp
