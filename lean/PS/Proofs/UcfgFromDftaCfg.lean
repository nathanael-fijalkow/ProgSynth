/-
  C06: `UCFG.from_CFG`: the enumeration / boundedness / count of the unambiguous grammar
  built from a deterministic CFG are those of the CFG itself.
-/
import PS.Proofs.FromCfg
import PS.Proofs.Ucfg
import PS.Proofs.UOps
import PS.Proofs.Lang
import PS.Proofs.UcfgFromDfta
namespace PS.U.FromCfg
open PS PS.G PS.U

variable {S : Type} [DecidableEq S]
set_option linter.unusedSectionVars false

theorem toU_arg (a : Ty × S) : toU ((a.1, (a.2, ())) : NT S Unit) = a := rfl

theorem langU_fromCFG (G : TT S Unit) (hk : (AList.keys G.rules).Nodup)
    (hr : ∀ e ∈ G.rules, (AList.keys e.2).Nodup) :
    ∀ (k : Nat) (nt : NT S Unit), langU (fromCFG G) k (toU nt) = lang G k nt := by
  intro k
  induction k with
  | zero => intro nt; rfl
  | succ k ih =>
    intro nt
    rw [langU, lang, lookup_fromCFG G hk hr]
    cases AList.lookup nt G.rules with
    | none => rfl
    | some rs =>
      simp only [Option.map_some, List.flatMap_map, List.flatMap_cons, List.flatMap_nil,
        List.append_nil]
      apply flatMap_congr'
      intro r _
      congr 2
      apply List.map_congr_left
      intro a _
      exact ih (a.1, (a.2, ()))

theorem boundedU_fromCFG (G : TT S Unit) (hk : (AList.keys G.rules).Nodup)
    (hr : ∀ e ∈ G.rules, (AList.keys e.2).Nodup) :
    ∀ (k : Nat) (nt : NT S Unit), boundedU (fromCFG G) k (toU nt) = bounded G k nt := by
  intro k
  induction k with
  | zero => intro nt; rfl
  | succ k ih =>
    intro nt
    rw [boundedU, bounded, lookup_fromCFG G hk hr]
    cases AList.lookup nt G.rules with
    | none => rfl
    | some rs =>
      simp only [Option.map_some, List.all_map, List.all_cons, List.all_nil, Bool.and_true,
        Function.comp_def]
      congr 1
      funext r
      congr 1
      funext a
      exact ih (a.1, (a.2, ()))

theorem programs_fromCFG (G : TT S Unit) (hk : (AList.keys G.rules).Nodup)
    (hr : ∀ e ∈ G.rules, (AList.keys e.2).Nodup) (k : Nat) (hb : bounded G k G.start = true)
    (fuel n : Nat) (hp : programs (fromCFG G) fuel = some n) : n = (lang G k G.start).length := by
  have hst : (fromCFG G).starts = [toU G.start] := rfl
  have hbu : ∀ s ∈ (fromCFG G).starts, boundedU (fromCFG G) k s = true := by
    intro s hs
    rw [hst, List.mem_singleton] at hs
    rw [hs, boundedU_fromCFG G hk hr]
    exact hb
  have := Ops.programs_eq_length (fromCFG G) fuel n k hp hbu
  rw [hst] at this
  simp only [List.map_cons, List.map_nil, List.sum_cons, List.sum_nil, Nat.add_zero] at this
  rwa [langU_fromCFG G hk hr] at this

end PS.U.FromCfg
