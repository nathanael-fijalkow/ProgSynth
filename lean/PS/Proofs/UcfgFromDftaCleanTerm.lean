/-
  C06: `UCFG.clean()` returns on every non-recursive grammar all of whose argument non-terminals have a row (in
  particular on the grammar built from an acyclic automaton).
  Potential of the work list: the size of the exploration below each configuration (`usize` along `liveSuccs`, as
  deep as the configuration weighs); the weight of a configuration `(info, S)` — the sizes of the unfoldings of `S`
  and of the pending non-terminals — strictly decreases along `derive`.
-/
import PS.Proofs.UcfgFromDftaClean
import PS.Proofs.UcfgFromDftaTerm
import PS.Proofs.UcfgFromDftaCount
namespace PS.U.CL
open PS PS.G PS.U

variable {U : Type} [DecidableEq U]
set_option linter.unusedSectionVars false

abbrev Conf (U : Type) := List (UNT U) × UNT U

def argsOf (G : UCFG U) (S : UNT U) : List (UNT U) :=
  match AList.lookup S G.rules with
  | none => []
  | some row => row.flatMap (fun e => e.2.flatMap (fun args => args))

def succs (G : UCFG U) (c : Conf U) : List (Conf U) :=
  match AList.lookup c.2 G.rules with
  | none => []
  | some row => (row.flatMap (fun e => derive G c.1 c.2 e.1)).map (fun a => (a.1, a.2.1))

/-- the successors that `clean()` puts on its work list -/
def liveSuccs (G : UCFG U) (c : Conf U) : List (Conf U) :=
  (succs G c).filter (fun c' => decide (c'.2.1 ≠ Ty.unknown))

section Term
variable (G : UCFG U) (rk : UNT U → Nat)

def H (S : UNT U) : Nat := usize (argsOf G) (rk S + 1) S

def wt (c : Conf U) : Nat := H G rk c.2 + (c.1.map (H G rk)).sum

theorem mem_argsOf {S : UNT U} {f : Sym} {cands : List (List (UNT U))} {args : List (UNT U)}
    (hc : G.alts? S f = some cands) (ha : args ∈ cands) : ∀ a ∈ args, a ∈ argsOf G S := by
  obtain ⟨row, hl, hc⟩ := UCFG.alts?_eq_some.mp hc
  unfold argsOf
  rw [hl]
  exact fun a haa => List.mem_flatMap.mpr
    ⟨(f, cands), AList.lookup_some_mem hc, List.mem_flatMap.mpr ⟨args, ha, haa⟩⟩

theorem H_alt (hrk : ∀ S, ∀ a ∈ argsOf G S, rk a < rk S) (S : UNT U) (f : Sym)
    (cands : List (List (UNT U))) (hc : G.alts? S f = some cands) (args : List (UNT U))
    (ha : args ∈ cands) : (args.map (H G rk)).sum + 1 ≤ H G rk S := by
  have h1 := usize_ranked (argsOf G) (fun S => rk S + 1) S fun a ha => Nat.succ_lt_succ (hrk S a ha)
  have h2 : (args.map (H G rk)).sum ≤ ((argsOf G S).map (H G rk)).sum := by
    obtain ⟨row, hl, hc⟩ := UCFG.alts?_eq_some.mp hc
    unfold argsOf
    rw [hl]
    simp only
    rw [Ops.nat_sum_map_flatMap]
    have h3 := Ops.le_sum_of_mem (List.mem_map.mpr ⟨(f, cands), AList.lookup_some_mem hc, rfl⟩ :
      ((cands.flatMap fun args => args).map (H G rk)).sum ∈
        row.map fun x => ((x.2.flatMap fun args => args).map (H G rk)).sum)
    rw [Ops.nat_sum_map_flatMap] at h3
    exact Nat.le_trans (Ops.le_sum_of_mem (List.mem_map.mpr ⟨args, ha, rfl⟩)) h3
  exact Nat.le_trans (Nat.add_le_add_right h2 1) h1

theorem wt_succ (hrk : ∀ S, ∀ a ∈ argsOf G S, rk a < rk S) (c c' : Conf U) (h : c' ∈ succs G c) :
    c'.2.1 = Ty.unknown ∨ wt G rk c' + 1 ≤ wt G rk c := by
  unfold succs at h
  cases hl : AList.lookup c.2 G.rules with
  | none => rw [hl] at h; cases h
  | some row =>
    rw [hl] at h
    obtain ⟨a, ha, rfl⟩ := List.mem_map.mp h
    obtain ⟨f, cands, args, hc, hargs, rfl⟩ := (mem_derive_row G c.2 c.1 row hl a).mp ha
    rw [deriveOne_pop]
    have halt := H_alt G rk hrk c.2 f cands hc args hargs
    -- the popped stack weighs what the alternative and the pending non-terminals weigh
    cases hp : args ++ c.1 with
    | nil => exact Or.inl rfl
    | cons i rest =>
      have : H G rk i + (rest.map (H G rk)).sum = (args.map (H G rk)).sum + (c.1.map (H G rk)).sum := by
        rw [← List.sum_cons, ← List.map_cons, ← hp, List.map_append, List.sum_append]
      exact Or.inr (by show H G rk i + (rest.map (H G rk)).sum + 1 ≤ _; unfold wt; omega)

/-- `to_test` holds `(S, info)` (u_cfg.py:84), a configuration is `(info, S)` as in `done`: hence the swap -/
def pot (toTest : List (UNT U × List (UNT U))) : Nat :=
  (toTest.map (fun x => usize (liveSuccs G) (wt G rk (x.2, x.1)) (x.2, x.1))).sum

/-- the non-terminal of a work-list entry and those of its pending stack have rows: `self.rules[S]` (the `none` of
    `cleanLoop`) cannot fail when the entry, or later a configuration derived from it, is taken -/
def KeysOK (x : UNT U × List (UNT U)) : Prop :=
  x.1 ∈ AList.keys G.rules ∧ ∀ y ∈ x.2, y ∈ AList.keys G.rules

theorem visit_toTest (st : CleanSt U) (a : List (UNT U) × UNT U × List (UNT U)) :
    (cleanVisit st a).toTest = st.toTest ∨
      (a.2.1.1 ≠ Ty.unknown ∧ (cleanVisit st a).toTest = (a.2.1, a.1) :: st.toTest) := by
  unfold cleanVisit
  split
  · exact Or.inl rfl
  · by_cases hu : a.2.1.1 = Ty.unknown
    · exact Or.inl (if_pos hu)
    · exact Or.inr ⟨hu, if_neg hu⟩

theorem fold_pot (L : List (List (UNT U) × UNT U × List (UNT U))) :
    ∀ (st : CleanSt U), pot G rk (L.foldl cleanVisit st).toTest ≤ pot G rk st.toTest +
      ((L.filter (fun a => decide (a.2.1.1 ≠ Ty.unknown))).map
        (fun a => usize (liveSuccs G) (wt G rk (a.1, a.2.1)) (a.1, a.2.1))).sum := by
  induction L with
  | nil => intro st; exact Nat.le_refl _
  | cons a L ih =>
    intro st
    have h1 := ih (cleanVisit st a)
    rw [List.foldl_cons]
    rcases visit_toTest st a with e | ⟨hu, e⟩
    · rw [e] at h1
      by_cases hu : a.2.1.1 = Ty.unknown
      · rw [List.filter_cons_of_neg (by simpa using hu)]
        exact h1
      · rw [List.filter_cons_of_pos (by simpa using hu), List.map_cons, List.sum_cons]
        omega
    · rw [e] at h1
      rw [List.filter_cons_of_pos (by simpa using hu), List.map_cons, List.sum_cons]
      simp only [pot, List.map_cons, List.sum_cons] at h1 ⊢
      omega

theorem fold_keys (L : List (List (UNT U) × UNT U × List (UNT U))) (st : CleanSt U)
    (h : ∀ x ∈ st.toTest, KeysOK G x) (hL : ∀ a ∈ L, a.2.1.1 = Ty.unknown ∨ KeysOK G (a.2.1, a.1)) :
    ∀ x ∈ (L.foldl cleanVisit st).toTest, KeysOK G x :=
  foldl_inv (fun st : CleanSt U => ∀ x ∈ st.toTest, KeysOK G x) cleanVisit L (fun st h a ha => by
    rcases visit_toTest st a with e | ⟨hu, e⟩ <;> rw [e]
    · exact h
    · exact List.forall_mem_cons.mpr ⟨(hL a ha).resolve_left hu, h⟩) st h

end Term


section Loop
variable (G : UCFG U) (rk : UNT U → Nat)

theorem step_bound (hrk : ∀ S, ∀ a ∈ argsOf G S, rk a < rk S) (st : CleanSt U) (S : UNT U)
    (info : List (UNT U)) (rest : List (UNT U × List (UNT U))) (row : Row U)
    (ht : st.toTest = (S, info) :: rest) (hl : AList.lookup S G.rules = some row) :
    pot G rk (cleanExpand G S info row { st with toTest := rest }).toTest + 1 ≤ pot G rk st.toTest := by
  have h1 := fold_pot G rk (row.flatMap (fun e => derive G info S e.1)) { st with toTest := rest }
  -- the live results of `derive` are the live successors, whose explorations fit below `(info, S)`
  have h2 := usize_ranked (liveSuccs G) (wt G rk) (info, S) fun c' hc' =>
    ((wt_succ G rk hrk _ c' (List.mem_filter.mp hc').1).resolve_left
      (of_decide_eq_true (List.mem_filter.mp hc').2) : wt G rk c' < wt G rk (info, S))
  have h3 : ((row.flatMap (fun e => derive G info S e.1)).filter
        (fun a => decide (a.2.1.1 ≠ Ty.unknown))).map
        (fun a => usize (liveSuccs G) (wt G rk (a.1, a.2.1)) (a.1, a.2.1)) =
      (liveSuccs G (info, S)).map (fun c' => usize (liveSuccs G) (wt G rk c') c') := by
    unfold liveSuccs succs
    rw [hl, List.filter_map, List.map_map]
    rfl
  rw [h3] at h1
  have h4 : pot G rk st.toTest = usize (liveSuccs G) (wt G rk (info, S)) (info, S) + pot G rk rest := by
    rw [ht]; rfl
  unfold cleanExpand
  simp only at h1
  omega

theorem step_keys (hclosed : ∀ S ∈ AList.keys G.rules, ∀ a ∈ argsOf G S, a ∈ AList.keys G.rules)
    (st : CleanSt U) (S : UNT U) (info : List (UNT U)) (rest : List (UNT U × List (UNT U)))
    (row : Row U) (ht : st.toTest = (S, info) :: rest) (hl : AList.lookup S G.rules = some row)
    (hk : ∀ x ∈ st.toTest, KeysOK G x) :
    ∀ x ∈ (cleanExpand G S info row { st with toTest := rest }).toTest, KeysOK G x := by
  rw [ht] at hk
  obtain ⟨hS, hrest⟩ := List.forall_mem_cons.mp hk
  refine fold_keys G _ _ hrest fun a ha => ?_
  obtain ⟨f, cands, args, hc, hargs, rfl⟩ := (mem_derive_row G S info row hl a).mp ha
  have hall : ∀ y ∈ args ++ info, y ∈ AList.keys G.rules := fun y hy =>
    (List.mem_append.mp hy).elim (fun h => hclosed S hS.1 y (mem_argsOf G hc hargs y h)) (hS.2 y)
  obtain ⟨e1, e2⟩ := Prod.ext_iff.mp (deriveOne_pop G info args)
  simp only at e1 e2
  rw [e1, e2]
  cases hp : args ++ info with
  | nil => exact Or.inl rfl
  | cons i tl => exact Or.inr (List.forall_mem_cons.mp (hp ▸ hall))

theorem cleanLoop_terminates (hrk : ∀ S, ∀ a ∈ argsOf G S, rk a < rk S)
    (hclosed : ∀ S ∈ AList.keys G.rules, ∀ a ∈ argsOf G S, a ∈ AList.keys G.rules) :
    ∀ (fuel : Nat) (st : CleanSt U), (∀ x ∈ st.toTest, KeysOK G x) → pot G rk st.toTest < fuel →
      ∃ st', cleanLoop G fuel st = some st' := by
  intro fuel st
  fun_induction cleanLoop G fuel st with
  | case1 st => intro _ h; omega
  | case2 fuel st ht => exact fun _ _ => ⟨st, rfl⟩
  | case3 fuel st S info rest ht hl =>
    -- `KeyError`: excluded, the popped non-terminal has a row
    intro hk _
    have hS : KeysOK G (S, info) := hk _ (ht ▸ List.mem_cons_self)
    exact absurd (AList.lookup_eq_none_iff.mp hl) (not_not_intro hS.1)
  | case4 fuel st S info rest ht row hl ih =>
    intro hk hp
    have := step_bound G rk hrk st S info rest row ht hl
    exact ih (step_keys G hclosed st S info rest row ht hl hk) (by omega)

theorem clean_terminates (hrk : ∀ S, ∀ a ∈ argsOf G S, rk a < rk S)
    (hclosed : ∀ S ∈ AList.keys G.rules, ∀ a ∈ argsOf G S, a ∈ AList.keys G.rules)
    (hstarts : ∀ s ∈ G.starts, s ∈ AList.keys G.rules) (fuel : Nat)
    (hfuel : pot G rk (cleanInit G).toTest < fuel) : ∃ Gc, clean G fuel = some Gc := by
  have hk : ∀ x ∈ (cleanInit G).toTest, KeysOK G x := by
    intro x hx
    unfold cleanInit at hx
    simp only at hx
    obtain ⟨s, hs, rfl⟩ := List.mem_map.mp (List.mem_reverse.mp hx)
    exact ⟨hstarts s hs, by intro y hy; cases hy⟩
  obtain ⟨st, hst⟩ := cleanLoop_terminates G rk hrk hclosed fuel (cleanInit G) hk hfuel
  unfold clean
  rw [hst]
  exact ⟨_, rfl⟩

end Loop

end PS.U.CL

namespace PS.U.FD
open PS PS.G PS.U DFTA
variable {Q U V : Type} [DecidableEq Q] [DecidableEq U] [DecidableEq V]

theorem argsOf_built {F : Flat Q U V} {A : DFTA Sym Q} {G : UCFG V}
    (hb : Built F A G) (S a : UNT V) (ha : a ∈ CL.argsOf G S) : a ∈ childrenOf F A S := by
  unfold CL.argsOf at ha
  cases hl : AList.lookup S G.rules with
  | none => rw [hl] at ha; cases ha
  | some row =>
    rw [hl] at ha
    obtain ⟨e, he, hae⟩ := List.mem_flatMap.mp ha
    obtain ⟨args, hargs, haa⟩ := List.mem_flatMap.mp hae
    have hre : row = rowFor F A S := hb.rows _ (AList.lookup_some_mem hl)
    obtain ⟨r, hr, hi, rfl⟩ := (mem_row_iff (F := F) (A := A) S e.1 args).mp ⟨e.2, hre ▸ he, hargs⟩
    obtain ⟨hm, hf⟩ := Bool.and_eq_true_iff.mp hi
    exact (mem_childrenOf F A S a).mpr ⟨r, hr, hm, of_decide_eq_true hf ▸ haa⟩

theorem clean_terminates_built (F : Flat Q U V) (A : DFTA Sym Q)
    (hpc : ∀ tgt P i x, F.proj (F.child tgt P i x) = x)
    (hinj : ∀ q ∈ A.allStates, ∀ q' ∈ A.allStates, F.d q = F.d q' → q = q') (hac : Acyclic A)
    (G : UCFG V) (hb : Built F A G) :
    ∃ fuel0, ∀ fuel, fuel0 ≤ fuel → ∃ Gc, clean G fuel = some Gc := by
  obtain ⟨rankU, hru⟩ := exists_rankU_rules F.d A hinj hac
  have hclosed : ∀ S ∈ AList.keys G.rules, ∀ a ∈ CL.argsOf G S, a ∈ AList.keys G.rules := by
    intro S hS a ha
    obtain ⟨r, hr, hm, hx⟩ := (mem_childrenOf F A S a).mp (argsOf_built hb S a ha)
    exact hb.closed S hS r hr hm a hx
  exact ⟨CL.pot G (fun k => rankU (F.proj k)) (cleanInit G).toTest + 1,
    CL.clean_terminates G (fun k => rankU (F.proj k))
      (fun S a ha => rank_childrenOf F A rankU hpc hru (argsOf_built hb S a ha)) hclosed hb.starts⟩

end PS.U.FD
