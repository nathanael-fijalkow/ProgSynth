/-
  C13: where `clean()` falls short, and why no repair that only removes rules can help
  (finding C13-F5, second half: "every derivation that can be started can be completed").

  The criterion (`no_repair_of_witness`): let `ts` be programs of the language of `G` and `syms` a sequence
  of symbols that the derivation machine of `G` can follow from the start configuration using only rules
  that the derivations of `ts` use, ending in a configuration whose next non-terminal has no rule in `G`.
  Then every table `G'` whose rules are rules of `G` and whose language is that of `G` has a derivation
  that can be started and cannot be completed.
-/
import PS.Proofs.TtcfgClean
namespace PS.T
open PS PS.G

variable {S T : Type} [DecidableEq S] [DecidableEq T]

/- the rules (non-terminal, symbol) a derivation uses -/
mutual
  def used (ρ : RuleFn S T) : Prog → Ty × S → T → List (NT S T × Sym)
    | .node f kids, slot, v =>
      match ρ (slot.1, (slot.2, v)) f with
      | none => []
      | some (args, st) => ((slot.1, (slot.2, v)), f) :: usedList ρ kids args st
  def usedList (ρ : RuleFn S T) : List Prog → List (Ty × S) → T → List (NT S T × Sym)
    | k :: ks, a :: as, v =>
      match run ρ k a v with
      | none => used ρ k a v
      | some v' => used ρ k a v ++ usedList ρ ks as v'
    | _, _, _ => []
end

omit [DecidableEq S] [DecidableEq T] in
theorem used_sub (ρ' ρ : RuleFn S T) (hsub : ∀ nt P val, ρ' nt P = some val → ρ nt P = some val) :
    (∀ (t : Prog) (a : Ty × S) (v w : T), run ρ' t a v = some w →
      ∀ x ∈ used ρ t a v, ρ' x.1 x.2 = ρ x.1 x.2) ∧
    (∀ (ks : List Prog) (args : List (Ty × S)) (v w : T), runList ρ' ks args v = some w →
      ∀ x ∈ usedList ρ ks args v, ρ' x.1 x.2 = ρ x.1 x.2) := by
  apply Tree.ind₂
  · intro f kids ih a v w hr x hx
    obtain ⟨args, st, h1, hr⟩ := (run_eq_some _).mp hr
    have h2 := hsub _ _ _ h1
    simp only [used, h2] at hx
    rcases List.mem_cons.mp hx with e | hm
    · subst e; simp only; rw [h1, h2]
    · exact ih args st w hr x hm
  · intro args v w _ x hx
    simp [usedList] at hx
  · intro k ks iht ihl args v w hr x hx
    obtain ⟨a, as, v1, rfl, h1, hr⟩ := (runList_cons_eq_some _).mp hr
    simp only [usedList, run_mono ρ' ρ hsub k a v v1 h1] at hx
    rcases List.mem_append.mp hx with hm | hm
    · exact iht a v v1 h1 x hm
    · exact ihl as v1 w hr x hm

/-- follow a sequence of symbols with the derivation machine: final configuration and the rules used -/
def walk (ρ : RuleFn S T) : List Sym → Config S T → Option (Config S T × List (NT S T × Sym))
  | [], c => some (c, [])
  | P :: ps, (a :: stk, v) =>
    match ρ (a.1, (a.2, v)) P with
    | none => none
    | some (args, st) => (walk ρ ps (args ++ stk, st)).map (fun r => (r.1, ((a.1, (a.2, v)), P) :: r.2))
  | _ :: _, ([], _) => none

theorem walk_steps (G G' : TT S T) (syms : List Sym) (c d : Config S T) (rs : List (NT S T × Sym))
    (h : walk G.rule? syms c = some (d, rs)) (hr : ∀ x ∈ rs, G'.rule? x.1 x.2 = G.rule? x.1 x.2) : Steps G' c d := by
  fun_induction walk G.rule? syms c generalizing d rs with
  | case1 c => cases h; exact Steps.refl _
  | case2 P ps a stk v hrule => cases h
  | case3 P ps a stk v args st hrule ih =>
    obtain ⟨⟨d', rs'⟩, h2, e⟩ := Option.map_eq_some_iff.mp h
    cases e
    exact Steps.cons _ _ _ (Step.mk a stk v P args st ((hr _ (List.mem_cons_self ..)).trans hrule))
      (ih d' rs' h2 (fun x hx => hr x (List.mem_cons_of_mem _ hx)))
  | case4 => cases h
theorem no_repair_of_witness (G G' : TT S T) (hstart : G'.start = G.start)
    (hsub : ∀ nt P val, G'.rule? nt P = some val → G.rule? nt P = some val)
    (hlang : ∀ t, inLang G' t = inLang G t)
    (ts : List Prog) (hts : ∀ t ∈ ts, inLang G t = true) (syms : List Sym)
    (a : Ty × S) (stk : List (Ty × S)) (v : T) (rs : List (NT S T × Sym))
    (hw : walk G.rule? syms ([(G.start.1, G.start.2.1)], G.start.2.2) = some ((a :: stk, v), rs))
    (hcover : ∀ x ∈ rs, ∃ t ∈ ts, x ∈ used G.rule? t (G.start.1, G.start.2.1) G.start.2.2)
    (hdead : inRules G (a.1, (a.2, v)) = false) :
    ∃ c, Steps G' ([(G'.start.1, G'.start.2.1)], G'.start.2.2) c ∧ ¬ ∃ w, Steps G' c ([], w) := by
  refine ⟨(a :: stk, v), ?_, ?_⟩
  · rw [hstart]
    apply walk_steps G G' syms _ _ rs hw
    intro x hx
    obtain ⟨t, ht, hu⟩ := hcover x hx
    obtain ⟨w, hr⟩ := inLang_iff.mp ((hlang t).trans (hts t ht))
    rw [hstart] at hr
    exact (used_sub G'.rule? G.rule? hsub).1 t _ _ w hr x hu
  · rintro ⟨w, hs⟩
    cases hs with
    | cons _ d _ hstep _ =>
      cases hstep with
      | mk _ _ _ P args st hrule =>
        obtain ⟨row, hl, _⟩ := TT.rule?_eq_some.mp (hsub _ _ _ hrule)
        cases (AList.contains_of_lookup hl).symm.trans hdead

/-- the hypotheses of `no_repair_of_witness` on the table, as one check -/
def stuckWitness (G : TT S T) (ts : List Prog) (syms : List Sym) : Bool :=
  ts.all (inLang G) &&
  match walk G.rule? syms ([(G.start.1, G.start.2.1)], G.start.2.2) with
  | some ((a :: _, v), rs) =>
    !(inRules G (a.1, (a.2, v))) &&
    rs.all (fun x => ts.any (fun t => (used G.rule? t (G.start.1, G.start.2.1) G.start.2.2).contains x))
  | _ => false

theorem no_repair_of_stuckWitness (G : TT S T) (ts : List Prog) (syms : List Sym)
    (h : stuckWitness G ts syms = true) (G' : TT S T) (hstart : G'.start = G.start)
    (hsub : ∀ nt P val, G'.rule? nt P = some val → G.rule? nt P = some val)
    (hlang : ∀ t, inLang G' t = inLang G t) :
    ∃ c, Steps G' ([(G'.start.1, G'.start.2.1)], G'.start.2.2) c ∧ ¬ ∃ w, Steps G' c ([], w) := by
  unfold stuckWitness at h
  rw [Bool.and_eq_true, List.all_eq_true] at h
  obtain ⟨hts, h⟩ := h
  split at h
  · rename_i a stk v rs hw
    simp only [Bool.and_eq_true, Bool.not_eq_true', List.all_eq_true, List.any_eq_true,
      List.contains_iff_mem] at h
    exact no_repair_of_witness G G' hstart hsub hlang ts hts syms a stk v rs hw h.2 h.1
  · cases h

end PS.T
