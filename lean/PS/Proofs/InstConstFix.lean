/-
  C17, the repaired code (`Fix` with f2, f3, f4, as in /repo).

  With the repairs of C17-F2 and C17-F3 the hypothesis `rulesOK fx` of the generic theorems follows
  from `rulesWF`, with no clause that mentions a finding (`rulesOK_of_rulesWF`); with the three
  repairs `progOK fx` holds for every program and every table (`progOK_of_fix`).  The repaired code
  only looks at the entries of the table for the types of the slots of the grammar,
  `restrict (slotTys d) tbl` (`instRules_restrict`), and so do the specification and the program
  side on the programs of the grammar (`isInst_restrict`, `allInst_restrict`, with
  `slotsIn_of_gen`, `slotsIn_of_genU`).
-/
import PS.Proofs.InstConstU
namespace PS.IC
open PS PS.G

variable {ν : Type}

theorem not_mem_distinct_of {l : List String} {v : String} (h : v ∉ l) : v ∉ distinct l :=
  fun hm => h (mem_distinct.mp hm)

theorem okKey_of_keyWF {fx : Fix} (h2 : fx.f2 = true) (h3 : fx.f3 = true) {tbl : Tbl} {P : Sym}
    (h : keyWF tbl P = true) : okKey fx tbl P := by
  unfold keyWF at h
  have slot : ∀ vals, slot? fx tbl P = some vals → P = Sym.const P.ty "" ∧ valsOK vals = true := by
    intro vals hs
    obtain ⟨hk, hn, vals0, hl, rfl⟩ := slot?_some hs
    have hname := hn h2
    simp only [hk, decide_true, Bool.not_true, Bool.false_or, hl, Bool.and_eq_true,
      decide_eq_true_eq, Bool.not_eq_true', List.contains_eq_mem, decide_eq_false_iff_not] at h
    obtain ⟨⟨hP, _⟩, hempty⟩ := h
    refine ⟨by rw [hname] at hP; exact hP, ?_⟩
    unfold valsOK
    simp only [Bool.and_eq_true, decide_eq_true_eq, Bool.not_eq_true', List.contains_eq_mem,
      decide_eq_false_iff_not]
    exact ⟨nodup_fxvals_of_f3 h3 vals0, fun hm => hempty (mem_fxvals.mp hm)⟩
  refine ⟨⟨fun vals hs => (slot vals hs).1, fun _ hk vals0 hl => ?_⟩, fun vals hs => (slot vals hs).2⟩
  simp only [hk, decide_true, Bool.not_true, Bool.false_or, hl, Bool.and_eq_true,
    decide_eq_true_eq, Bool.not_eq_true', List.contains_eq_mem, decide_eq_false_iff_not] at h
  exact h.1.2

theorem rowOK_of_rowWF {fx : Fix} (h2 : fx.f2 = true) (h3 : fx.f3 = true) {tbl : Tbl}
    {row : AList Sym ν} (h : rowWF tbl row = true) : rowOK fx tbl row = true := by
  unfold rowWF at h
  simp only [Bool.and_eq_true, decide_eq_true_eq, List.all_eq_true] at h
  exact rowOK_iff.mpr ⟨h.1, fun P hP => okKey_of_keyWF h2 h3 (h.2 P hP)⟩

theorem rulesOK_of_rulesWF {κ : Type} {fx : Fix} (h2 : fx.f2 = true) (h3 : fx.f3 = true) {tbl : Tbl}
    {d : AList κ (AList Sym ν)} (h : rulesWF tbl d = true) : rulesOK fx tbl d = true := by
  unfold rulesWF at h
  unfold rulesOK
  rw [List.all_eq_true] at h ⊢
  exact fun e he => rowOK_of_rowWF h2 h3 (h e he)

theorem symOK_of_fix {fx : Fix} (h2 : fx.f2 = true) (h3 : fx.f3 = true) (h4 : fx.f4 = true)
    (tbl : Tbl) (P : Sym) : symOK fx tbl P = true := by
  unfold symOK
  split
  · split
    · simp [nodup_fxvals_of_f3 h3]
    · simp [h4]
  · simp [h2]

theorem progOK_of_fix {fx : Fix} (h2 : fx.f2 = true) (h3 : fx.f3 = true) (h4 : fx.f4 = true) (tbl : Tbl) :
    (∀ t : Prog, progOK fx tbl t = true) ∧ ∀ ks : List Prog, progOKList fx tbl ks = true := by
  refine Tree.ind₂ (fun f kids ih => ?_) rfl (fun k ks ih1 ih2 => ?_)
  · rw [progOK, symOK_of_fix h2 h3 h4, ih]; rfl
  · rw [progOKList, ih1, ih2]; rfl

theorem progOKList_of_fix {fx : Fix} (h2 : fx.f2 = true) (h3 : fx.f3 = true) (h4 : fx.f4 = true)
      (tbl : Tbl) : ∀ ks : List Prog, progOKList fx tbl ks = true :=
  (progOK_of_fix h2 h3 h4 tbl).2

theorem lookup_restrict (ts : List Ty) (tbl : Tbl) (τ : Ty) :
    AList.lookup τ (restrict ts tbl) = if τ ∈ ts then AList.lookup τ tbl else none := by
  rw [restrict, AList.lookup_filter_key (fun t => decide (t ∈ ts))]
  simp only [decide_eq_true_eq]

theorem lookup_restrict_of_mem {ts : List Ty} {tbl : Tbl} {τ : Ty} (h : τ ∈ ts) :
    AList.lookup τ (restrict ts tbl) = AList.lookup τ tbl := by
  rw [lookup_restrict, if_pos h]

def covered (ts : List Ty) (P : Sym) : Prop := slotLike P = true → P.ty ∈ ts

theorem slot?_restrict {fx : Fix} (h2 : fx.f2 = true) {ts : List Ty} {tbl : Tbl} {P : Sym}
    (h : covered ts P) : slot? fx (restrict ts tbl) P = slot? fx tbl P := by
  unfold slot?
  split
  · next hc =>
    obtain ⟨hk, hn⟩ := isConst_iff.mp hc
    rw [lookup_restrict_of_mem (h (by simp [slotLike, hk, hn h2]))]
  · rfl

theorem instRow_restrict {fx : Fix} (h2 : fx.f2 = true) {ts : List Ty} {tbl : Tbl} (f : ν → Nat → ν)
    {row : AList Sym ν} (h : ∀ P ∈ AList.keys row, covered ts P) :
    instRow fx (restrict ts tbl) f row = instRow fx tbl f row := by
  unfold instRow
  refine List.foldl_ext _ _ _ fun acc e he => ?_
  unfold step
  rw [slot?_restrict h2 (h e.1 (List.mem_map.mpr ⟨e, he, rfl⟩))]

theorem mem_slotTys {κ : Type} {d : AList κ (AList Sym ν)} {e : κ × AList Sym ν} (he : e ∈ d)
    {P : Sym} (hP : P ∈ AList.keys e.2) : covered (slotTys d) P := by
  intro hs
  unfold slotTys
  exact List.mem_flatMap.mpr ⟨e, he, List.mem_map.mpr ⟨P, List.mem_filter.mpr ⟨hP, hs⟩, rfl⟩⟩

theorem covered_mono {ts ts' : List Ty} (h : ∀ t ∈ ts, t ∈ ts') {P : Sym} (hP : covered ts P) :
    covered ts' P := fun hs => h _ (hP hs)

def Covers {κ : Type} (ts : List Ty) (d : AList κ (AList Sym ν)) : Prop :=
  ∀ e ∈ d, ∀ P ∈ AList.keys e.2, covered ts P

theorem covers_slotTys {κ : Type} (d : AList κ (AList Sym ν)) : Covers (slotTys d) d :=
  fun _ he _ hP => mem_slotTys he hP

theorem all_congr_mem {α : Type} {p q : α → Bool} {l : List α} (h : ∀ a ∈ l, p a = q a) :
    l.all p = l.all q := by
  induction l with
  | nil => rfl
  | cons a r ih =>
    simp only [List.all_cons]
    rw [h a (by simp), ih (fun a' ha' => h a' (by simp [ha']))]

theorem instRules_restrict {κ : Type} {fx : Fix} (h2 : fx.f2 = true) {ts : List Ty} {tbl : Tbl}
    (f : ν → Nat → ν) {d : AList κ (AList Sym ν)} (h : Covers ts d) :
    instRules fx (restrict ts tbl) f d = instRules fx tbl f d := by
  unfold instRules
  apply List.map_congr_left
  intro e he
  rw [instRow_restrict h2 f (h e he)]

theorem rulesNonEmpty_restrict {κ : Type} {fx : Fix} (h2 : fx.f2 = true) {ts : List Ty} {tbl : Tbl}
    {d : AList κ (AList Sym ν)} (h : Covers ts d) :
    rulesNonEmpty fx (restrict ts tbl) d = rulesNonEmpty fx tbl d := by
  unfold rulesNonEmpty
  apply all_congr_mem
  intro e he
  unfold rowNonEmpty
  apply all_congr_mem
  intro P hP
  rw [slot?_restrict h2 (h e he P hP)]

mutual
  def slotsIn (ts : List Ty) : Prog → Prop
    | .node f kids => covered ts f ∧ slotsInList ts kids
  def slotsInList (ts : List Ty) : List Prog → Prop
    | [] => True
    | k :: ks => slotsIn ts k ∧ slotsInList ts ks
end

theorem symInst_restrict {ts : List Ty} {tbl : Tbl} {P : Sym} (h : covered ts P) (k : Sym) :
    symInst (restrict ts tbl) P k = symInst tbl P k := by
  unfold symInst isSlot
  cases hs : slotLike P with
  | true => rw [AList.contains, AList.contains, lookup_restrict_of_mem (h hs)]
  | false =>
    have : (decide (P.kind = .const) && decide (P.name = "")) = false := hs
    rw [this]; rfl

theorem isInst_restrict_both (ts : List Ty) (tbl : Tbl) :
    (∀ (t t' : Prog), slotsIn ts t → isInst (restrict ts tbl) t t' = isInst tbl t t') ∧
    ∀ (ks ks' : List Prog), slotsInList ts ks →
      isInstList (restrict ts tbl) ks ks' = isInstList tbl ks ks' := by
  refine Tree.ind₂ (fun f kids ih t' h => ?_) (fun ks' _ => by cases ks' <;> rfl)
    (fun k ks ih1 ih2 l h => ?_)
  · obtain ⟨f', kids'⟩ := t'
    rw [slotsIn] at h
    rw [isInst, isInst, symInst_restrict h.1, ih kids' h.2]
  · rw [slotsInList] at h
    cases l with
    | nil => rfl
    | cons k' ks' => rw [isInstList, isInstList, ih1 k' h.1, ih2 ks' h.2]

theorem isInst_restrict (ts : List Ty) (tbl : Tbl) : ∀ (t t' : Prog), slotsIn ts t →
      isInst (restrict ts tbl) t t' = isInst tbl t t' :=
  (isInst_restrict_both ts tbl).1

theorem isInstList_restrict (ts : List Ty) (tbl : Tbl) : ∀ (ks ks' : List Prog), slotsInList ts ks →
      isInstList (restrict ts tbl) ks ks' = isInstList tbl ks ks' :=
  (isInst_restrict_both ts tbl).2

theorem allInstSym_restrict {fx : Fix} (h2 : fx.f2 = true) {ts : List Ty} {tbl : Tbl} {P : Sym}
    (h : covered ts P) : allInstSym fx (restrict ts tbl) P = allInstSym fx tbl P := by
  rw [allInstSym_eq_slot?, allInstSym_eq_slot?, slot?_restrict h2 h]

theorem allInst_restrict {fx : Fix} (h2 : fx.f2 = true) (ts : List Ty) (tbl : Tbl) :
    (∀ (t : Prog), slotsIn ts t → allInst fx (restrict ts tbl) t = allInst fx tbl t) ∧
    ∀ (ks : List Prog), slotsInList ts ks → allInstList fx (restrict ts tbl) ks = allInstList fx tbl ks := by
  refine Tree.ind₂ (fun f kids ih h => ?_) (fun _ => rfl) (fun k ks ih1 ih2 h => ?_)
  · rw [slotsIn] at h
    rw [allInst, allInst, allInstSym_restrict h2 h.1, ih h.2]
  · rw [slotsInList] at h
    rw [allInstList, allInstList, ih1 h.1, ih2 h.2]

theorem allInstList_restrict {fx : Fix} (h2 : fx.f2 = true) (ts : List Ty) (tbl : Tbl) :
      ∀ (ks : List Prog), slotsInList ts ks → allInstList fx (restrict ts tbl) ks = allInstList fx tbl ks :=
  (allInst_restrict h2 ts tbl).2

/-! ### the programs of a grammar have their slots among the slots of the grammar -/

theorem covered_of_lookup₂ {κ : Type} [DecidableEq κ] {ts : List Ty} {d : AList κ (AList Sym ν)}
    (hc : Covers ts d) {nt : κ} {P : Sym} {v : ν} (hl : AList.lookup₂ d nt P = some v) : covered ts P := by
  obtain ⟨row, hr, hP⟩ := AList.lookup₂_eq_some.mp hl
  exact hc (nt, row) (AList.lookup_some_mem hr) P (AList.mem_keys_of_lookup hP)

section det
variable {S : Type} [DecidableEq S]

theorem slotsIn_of_gen {ts : List Ty} (G : TT S Unit) (hc : Covers ts G.rules) :
    (∀ (t : Prog) (nt : NT S Unit), gen G t nt = true → slotsIn ts t) ∧
    ∀ (ks : List Prog) (args : List (Ty × S)), genList G ks args = true → slotsInList ts ks := by
  refine Tree.ind₂ (fun P kids ih nt hg => ?_) (fun _ _ => trivial) (fun k ks ih1 ih2 args hg => ?_)
  · obtain ⟨args, u, hr, hg⟩ := gen_node hg
    rw [slotsIn]
    exact ⟨covered_of_lookup₂ hc ((TT.rule?_eq_lookup₂ G nt P).symm.trans hr), ih args hg⟩
  · obtain ⟨t, s, as, rfl, hg1, hg2⟩ := genList_cons hg
    rw [slotsInList]
    exact ⟨ih1 _ hg1, ih2 as hg2⟩

theorem slotsInList_of_genList {ts : List Ty} (G : TT S Unit) (hc : Covers ts G.rules) :
      ∀ (ks : List Prog) (args : List (Ty × S)), genList G ks args = true → slotsInList ts ks :=
  (slotsIn_of_gen G hc).2

end det

section ucfg
variable {V : Type} [DecidableEq V]

theorem slotsIn_of_derivs {ts : List Ty} (G : U.UCFG V) (hc : Covers ts G.rules) :
    (∀ (t : Prog) (nt : U.UNT V), U.derivs G t nt ≠ [] → slotsIn ts t) ∧
    ∀ (ks : List Prog) (as : List (U.UNT V)), U.derivsList G ks as ≠ [] → slotsInList ts ks := by
  refine Tree.ind₂ (fun P kids ih nt hd => ?_) (fun _ _ => trivial) (fun k ks ih1 ih2 as hd => ?_)
  · obtain ⟨cands, ha, args, -, hne⟩ := (U.derivs_ne_nil_iff ..).mp hd
    rw [slotsIn]
    exact ⟨covered_of_lookup₂ hc ((U.UCFG.alts?_eq_lookup₂ G nt P).symm.trans ha), ih args hne⟩
  · obtain ⟨a, as, rfl, h1, h2⟩ := U.derivsList_cons_ne_nil hd
    rw [slotsInList]
    exact ⟨ih1 a h1, ih2 as h2⟩

theorem slotsInList_of_derivs {ts : List Ty} (G : U.UCFG V) (hc : Covers ts G.rules) :
      ∀ (ks : List Prog) (as : List (U.UNT V)), U.derivsList G ks as ≠ [] → slotsInList ts ks :=
  (slotsIn_of_derivs G hc).2

theorem slotsIn_of_genU {ts : List Ty} (G : U.UCFG V) (hc : Covers ts G.rules) (t : Prog)
    (hg : U.genU G t = true) : slotsIn ts t := by
  obtain ⟨s, _, hd⟩ := genU_iff.mp hg
  exact (slotsIn_of_derivs G hc).1 t s hd

end ucfg

end PS.IC
