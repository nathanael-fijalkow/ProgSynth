/- C10, restart part (model: PS/Model/SolverRestart.lean).  The restart solver behaves as the plain solver of
   PS/Model/Solver.lean run on the segmented enumeration `segRun` (`sim`): same yielded programs, corresponding
   end, same counter, same evaluator state.  For that the test is taken as a pure function `tp` of the program,
   score included (`RefinesS`). -/
import PS.Model.SolverRestart
import PS.Proofs.Solver
set_option linter.unusedSimpArgs false
set_option linter.unusedSectionVars false
namespace PS.C10
open PS
open PS.C11 (Outcome)

variable {St P I V E En : Type}

/-- `Refines` with the score: the bookkeeping after a test (`_data`, which the criterion reads) depends on the score,
    so the segmented enumeration is a function of `tp` only if `tp` returns it -/
def RefinesS (T : St → P → St × Except E (Bool × Score)) (tp : P → Except E (Bool × Score))
    (Inv : St → Prop) : Prop :=
  ∀ st p, Inv st → Inv (T st p).1 ∧ (T st p).2 = tp p

/-- the test over the stateless evaluator `pureEv spec`: what the test over a faithful evaluator returns from every
    state in `Inv` (`refinesS_of_faithful`) -/
def pureTest [DecidableEq V] (k : Kind) (spec : P → I → Outcome V E) (exs : List (I × V)) (p : P) :
    Except E (Bool × Score) :=
  (test k (pureEv spec) exs () p).2

theorem refinesS_of_faithful [DecidableEq V] {ev : Ev St P I V E} {spec : P → I → Outcome V E}
    {Inv : St → Prop} (hF : Faithful ev spec Inv) (k : Kind) (exs : List (I × V)) :
    RefinesS (test k ev exs) (pureTest k spec exs) Inv := by
  intro st p h
  cases k with
  | naive => exact testNaive_faithful hF exs st p h
  | cutoff => exact testCutoff_faithful hF exs st p h

theorem pureTest_verdict [DecidableEq V] (k : Kind) (spec : P → I → Outcome V E) (exs : List (I × V)) (p : P) :
    (pureTest k spec exs p).map Prod.fst = verdict k spec exs p := by
  cases k with
  | naive => exact testNaive_verdict spec exs p
  | cutoff => exact testCutoff_verdict spec exs p

theorem pureTest_sound [DecidableEq V] (k : Kind) (spec : P → I → Outcome V E) (exs : List (I × V)) :
    VerdictSound (fun p => (pureTest k spec exs p).map Prod.fst) (sat spec exs) := by
  simp only [pureTest_verdict]
  exact ⟨verdict_ok k spec exs, verdict_error k spec exs⟩

theorem RefinesS.toRefines {T : St → P → St × Except E (Bool × Score)} {tp : P → Except E (Bool × Score)}
    {Inv : St → Prop} (h : RefinesS T tp Inv) : Refines T (fun p => (tp p).map Prod.fst) Inv := by
  intro st p hst
  obtain ⟨h1, h2⟩ := h st p hst
  exact ⟨h1, by rw [h2]⟩

section machine
variable {prm : Params En P} {T : St → P → St × Except E (Bool × Score)}
  {tp : P → Except E (Bool × Score)} {Inv : St → Prop}

/-- the solver object after the bookkeeping for the tested program `p` (restart_pbe_solver.py:85-88), before the
    criterion is asked; every other field is that of `s` by `rfl` -/
def booked (s : RSolver P) (p : P) : RSolver P :=
  { s with self := { s.self with score := s.sub.score },
           data := s.data ++ (match s.sub.score with
                              | some sc => if 0 < sc.num then [(p, sc)] else []
                              | none => []) }

theorem afterTest_eq (prm : Params En P) (s : RSolver P) (p : P) (en : En) (pos : Nat) :
    afterTest prm s p en pos =
      if prm.criterion (booked s p) then
        ({ booked s p with restarts := s.restarts + 1, lastSize := (booked s p).data.length },
          prm.restart en (booked s p).data, 0)
      else (booked s p, en, pos) := by
  unfold afterTest booked
  cases s.sub.score with
  | none => simp
  | some sc => by_cases hp : 0 < sc.num <;> simp [hp]

/-- the fields no loop iteration touches -/
structure Frame (s s' : RSolver P) : Prop where
  selfStatsPrograms : s'.self.statsPrograms = s.self.statsPrograms
  selfStatsLast : s'.self.statsLast = s.self.statsLast
  selfStatsCloses : s'.self.statsCloses = s.self.statsCloses
  subStatsPrograms : s'.sub.statsPrograms = s.sub.statsPrograms
  subStatsLast : s'.sub.statsLast = s.sub.statsLast
  subStatsCloses : s'.sub.statsCloses = s.sub.statsCloses
  subPrograms : s'.sub.programs = s.sub.programs
  statsRestarts : s'.statsRestarts = s.statsRestarts

theorem Frame.refl (s : RSolver P) : Frame s s := ⟨rfl, rfl, rfl, rfl, rfl, rfl, rfl, rfl⟩

theorem Frame.trans {a b c : RSolver P} (h1 : Frame a b) (h2 : Frame b c) : Frame a c :=
  ⟨h2.1.trans h1.1, h2.2.trans h1.2, h2.3.trans h1.3, h2.4.trans h1.4, h2.5.trans h1.5, h2.6.trans h1.6,
   h2.7.trans h1.7, h2.8.trans h1.8⟩

theorem frame_testedS (s : RSolver P) (sc : Score) : Frame s (testedS s sc) :=
  ⟨rfl, rfl, rfl, rfl, rfl, rfl, rfl, rfl⟩

theorem frame_countedS (s : RSolver P) : Frame s (countedS s) :=
  ⟨rfl, rfl, rfl, rfl, rfl, rfl, rfl, rfl⟩

theorem frame_afterTest (prm : Params En P) (s : RSolver P) (p : P) (en : En) (pos : Nat) :
    Frame s (afterTest prm s p en pos).1 := by
  rw [afterTest_eq]; split <;> exact ⟨rfl, rfl, rfl, rfl, rfl, rfl, rfl, rfl⟩

theorem afterTest_programs (prm : Params En P) (s : RSolver P) (p : P) (en : En) (pos : Nat) :
    (afterTest prm s p en pos).1.self.programs = s.self.programs := by
  rw [afterTest_eq]; split <;> rfl

theorem afterTest_data (prm : Params En P) (s : RSolver P) (sc : Score) (p : P) (en : En) (pos : Nat) :
    (afterTest prm (testedS s sc) p en pos).1.data = s.data ++ (if 0 < sc.num then [(p, sc)] else []) := by
  rw [afterTest_eq]; split <;> rfl

/-- a restart is exactly a continuation at position 0 -/
theorem afterTest_restarts (prm : Params En P) (s : RSolver P) (p : P) (en : En) (pos : Nat) :
    (afterTest prm s p en (pos + 1)).1.restarts =
      s.restarts + (if (afterTest prm s p en (pos + 1)).2.2 = 0 then 1 else 0) := by
  rw [afterTest_eq]; split <;> rfl

theorem segRun_zero (s : RSolver P) (en : En) (pos : Nat) : segRun prm tp 0 s en pos = [] := rfl

theorem segRun_none {fuel : Nat} {s : RSolver P} {en : En} {pos : Nat} (h : prm.stream en pos = none) :
    segRun prm tp (fuel + 1) s en pos = [] := by
  simp [segRun, h]

theorem segRun_error {fuel : Nat} {s : RSolver P} {en : En} {pos : Nat} {p : P} {e : E}
    (h : prm.stream en pos = some p) (ht : tp p = .error e) :
    segRun prm tp (fuel + 1) s en pos = [⟨p, en, pos, s⟩] := by
  simp [segRun, h, ht]

theorem segRun_ok {fuel : Nat} {s : RSolver P} {en : En} {pos : Nat} {p : P} {b : Bool} {sc : Score}
    (h : prm.stream en pos = some p) (ht : tp p = .ok (b, sc)) :
    segRun prm tp (fuel + 1) s en pos =
      ⟨p, en, pos, s⟩ :: segRun prm tp fuel (afterTest prm (testedS s sc) p en (pos + 1)).1
        (afterTest prm (testedS s sc) p en (pos + 1)).2.1 (afterTest prm (testedS s sc) p en (pos + 1)).2.2 := by
  simp [segRun, h, ht]

theorem segRun_some (fuel : Nat) (s : RSolver P) {en : En} {pos : Nat} {p : P} (h : prm.stream en pos = some p) :
    ∃ rest, segRun prm tp (fuel + 1) s en pos = ⟨p, en, pos, s⟩ :: rest := by
  cases ht : tp p with
  | error e => exact ⟨_, segRun_error h ht⟩
  | ok v => exact ⟨_, segRun_ok h ht⟩

theorem afterTest_tested {s s' : RSolver P} {sc : Score} {p : P} {en en' : En} {pos pos' : Nat}
    (h : afterTest prm (testedS s sc) p en pos = (s', en', pos')) :
    s'.self.programs = s.self.programs + 1 ∧ Frame s s' := by
  have h1 := afterTest_programs prm (testedS s sc) p en pos
  have h2 := frame_afterTest prm (testedS s sc) p en pos
  rw [h] at h1 h2
  exact ⟨h1, (frame_testedS s sc).trans h2⟩

theorem afterTest_no_restart (hc : ∀ s, prm.criterion s = false) {s s' : RSolver P} {p : P} {en en' : En}
    {pos pos' : Nat} (h : afterTest prm s p en pos = (s', en', pos')) :
    en' = en ∧ pos' = pos ∧ s'.restarts = s.restarts := by
  rw [afterTest_eq, hc, if_neg Bool.false_ne_true] at h
  cases h; exact ⟨rfl, rfl, rfl⟩

theorem segRun_head {fuel : Nat} {s : RSolver P} {en : En} {pos : Nat} {e : Entry P En} {post : List (Entry P En)}
    (h : segRun prm tp fuel s en pos = e :: post) :
    prm.stream en pos = some e.p ∧ e.en = en ∧ e.pos = pos ∧ e.s = s := by
  cases fuel with
  | zero => cases h
  | succ fuel =>
    cases hs : prm.stream en pos with
    | none => rw [segRun_none hs] at h; cases h
    | some p =>
      obtain ⟨rest, hr⟩ := segRun_some (tp := tp) fuel s hs
      cases hr.symm.trans h
      exact ⟨rfl, rfl, rfl, rfl⟩

/-- in the `cons` case the first entry of `rest`, if any, is where the bookkeeping after `p` continues -/
theorem segRun_ind {motive : Nat → RSolver P → En → Nat → List (Entry P En) → Prop}
    (zero : ∀ s en pos, motive 0 s en pos [])
    (ended : ∀ fuel s en pos, prm.stream en pos = none → motive (fuel + 1) s en pos [])
    (raised : ∀ fuel s en pos p e, prm.stream en pos = some p → tp p = .error e →
      motive (fuel + 1) s en pos [⟨p, en, pos, s⟩])
    (cons : ∀ fuel s en pos p b sc s' en' pos' rest, prm.stream en pos = some p → tp p = .ok (b, sc) →
      afterTest prm (testedS s sc) p en (pos + 1) = (s', en', pos') →
      (∀ x r, rest = x :: r → x.s = s' ∧ x.en = en' ∧ x.pos = pos') →
      motive fuel s' en' pos' rest → motive (fuel + 1) s en pos (⟨p, en, pos, s⟩ :: rest)) :
    ∀ (fuel : Nat) (s : RSolver P) (en : En) (pos : Nat), motive fuel s en pos (segRun prm tp fuel s en pos) := by
  intro fuel
  induction fuel with
  | zero => intro s en pos; exact zero s en pos
  | succ fuel ih =>
    intro s en pos
    cases hs : prm.stream en pos with
    | none => rw [segRun_none hs]; exact ended fuel s en pos hs
    | some p =>
      cases ht : tp p with
      | error e => rw [segRun_error hs ht]; exact raised fuel s en pos p e hs ht
      | ok v =>
        rw [segRun_ok hs ht]
        exact cons fuel s en pos p v.1 v.2 _ _ _ _ hs ht rfl
          (fun _ _ h => let ⟨_, h2, h3, h4⟩ := segRun_head h; ⟨h4, h2, h3⟩) (ih _ _ _)

/-- number of segment starts among entries -/
def starts (l : List (Entry P En)) : Nat := l.countP (fun e => e.pos == 0)

theorem starts_cons (x : Entry P En) (l : List (Entry P En)) :
    starts (x :: l) = starts l + if x.pos = 0 then 1 else 0 := by
  simp [starts, List.countP_cons]

theorem dataOf_cons {p : P} {b : Bool} {sc : Score} (ht : tp p = .ok (b, sc)) (ps : List P) :
    dataOf tp (p :: ps) = (if 0 < sc.num then [(p, sc)] else []) ++ dataOf tp ps := by
  simp only [dataOf, List.filterMap_cons, ht]
  by_cases hq : 0 < sc.num <;> simp [hq]

theorem dataOf_snoc {p : P} {b : Bool} {sc : Score} (ht : tp p = .ok (b, sc)) (ps : List P) :
    dataOf tp (ps ++ [p]) = dataOf tp ps ++ if 0 < sc.num then [(p, sc)] else [] := by
  rw [dataOf, List.filterMap_append]
  exact congrArg _ ((dataOf_cons ht []).trans (List.append_nil _))

/-- what the entry `e` records, `pre` being the entries before it in the segmented enumeration started on `s` -/
structure EntryAt (prm : Params En P) (tp : P → Except E (Bool × Score)) (s : RSolver P) (pre : List (Entry P En))
    (e : Entry P En) : Prop where
  stream : prm.stream e.en e.pos = some e.p
  programs : e.s.self.programs = s.self.programs + pre.length
  data : e.s.data = s.data ++ dataOf tp (pre.map (·.p))
  /-- the tail: the first entry sits at the position the run started at (0 in `solveR`) without being a restart;
      every later entry at position 0 is one (`afterTest_restarts`) -/
  restarts : e.s.restarts = s.restarts + starts (pre ++ [e]).tail
  frame : Frame s e.s

theorem segRun_entry (fuel : Nat) (s : RSolver P) (en : En) (pos : Nat)
    (pre : List (Entry P En)) (e : Entry P En) (post : List (Entry P En))
    (h : segRun prm tp fuel s en pos = pre ++ e :: post) : EntryAt prm tp s pre e := by
  have base : ∀ (s : RSolver P) (en : En) (pos : Nat) (p : P), prm.stream en pos = some p →
      EntryAt prm tp s [] ⟨p, en, pos, s⟩ :=
    fun s _ _ _ hs => ⟨hs, rfl, (List.append_nil _).symm, rfl, Frame.refl s⟩
  refine segRun_ind (motive := fun _ s _ _ l => ∀ pre e post, l = pre ++ e :: post → EntryAt prm tp s pre e)
    ?_ ?_ ?_ ?_ fuel s en pos pre e post h
  · intro _ _ _ pre _ _ h; cases pre <;> cases h
  · intro _ _ _ _ _ pre _ _ h; cases pre <;> cases h
  · intro _ s en pos p _ hs _ pre e post h
    cases pre with
    | nil => cases h; exact base s en pos p hs
    | cons a pre' => cases pre' <;> cases h
  · intro _ s en pos p b sc s' en' pos' rest hs ht hat hhead ih pre e post h
    cases pre with
    | nil => cases h; exact base s en pos p hs
    | cons a pre' =>
      cases h
      have g := ih pre' e post rfl
      obtain ⟨hp, hf⟩ := afterTest_tested hat
      have hd := afterTest_data prm s sc p en (pos + 1)
      have hr := afterTest_restarts prm (testedS s sc) p en pos
      rw [hat] at hd hr
      refine ⟨g.stream, by rw [g.programs, hp, List.length_cons]; exact Nat.add_right_comm .., ?_, ?_, hf.trans g.frame⟩
      · rw [g.data, hd, List.map_cons, dataOf_cons ht, List.append_assoc]
      · -- the first of the later entries sits at the position the bookkeeping continues with
        obtain ⟨x, r, hx, hxp⟩ : ∃ x r, pre' ++ [e] = x :: r ∧ x.pos = pos' := by
          cases pre' <;> exact ⟨_, _, rfl, (hhead _ _ rfl).2.2⟩
        rw [g.restarts, hr, List.cons_append, List.tail_cons, hx, List.tail_cons, starts_cons, hxp]
        exact (Nat.add_right_comm ..).trans (Nat.add_assoc ..)

theorem segRun_next (fuel : Nat) (s : RSolver P) (en : En) (pos : Nat)
    (pre : List (Entry P En)) (a b : Entry P En) (post : List (Entry P En))
    (h : segRun prm tp fuel s en pos = pre ++ a :: b :: post) :
      ∃ ok sc, tp a.p = .ok (ok, sc) ∧
        (b.s, b.en, b.pos) = afterTest prm (testedS a.s sc) a.p a.en (a.pos + 1) := by
  refine segRun_ind (motive := fun _ _ _ _ l => ∀ pre, l = pre ++ a :: b :: post →
      ∃ ok sc, tp a.p = .ok (ok, sc) ∧ (b.s, b.en, b.pos) = afterTest prm (testedS a.s sc) a.p a.en (a.pos + 1))
    ?_ ?_ ?_ ?_ fuel s en pos pre h
  · intro _ _ _ pre h; cases pre <;> cases h
  · intro _ _ _ _ _ pre h; cases pre <;> cases h
  · intro _ _ _ _ _ _ _ _ pre h
    cases pre with
    | nil => cases h
    | cons _ pre' => cases pre' <;> cases h
  · intro _ s en pos p ok sc s' en' pos' rest _ ht hat hhead ih pre h
    cases pre with
    | nil =>
      cases h
      obtain ⟨q1, q2, q3⟩ := hhead b post rfl
      exact ⟨ok, sc, ht, by rw [q1, q2, q3, hat]⟩
    | cons _ pre' => cases h; exact ih pre' rfl

/-- the witness `s2` is `booked (testedS a.s sc) a.p`, `sc` the score of `a.p`: the solver object on which the
    criterion is evaluated after `a` -/
theorem segRun_step (fuel : Nat) (s : RSolver P) (en : En) (pos : Nat)
    (pre : List (Entry P En)) (a b : Entry P En) (post : List (Entry P En))
    (h : segRun prm tp fuel s en pos = pre ++ a :: b :: post) :
    ∃ s2 : RSolver P,
      s2.data = s.data ++ dataOf tp ((pre ++ [a]).map (·.p)) ∧ s2.restarts = a.s.restarts ∧
      s2.lastSize = a.s.lastSize ∧ s2.self.programs = s.self.programs + pre.length + 1 ∧
      ((prm.criterion s2 = false ∧ b.en = a.en ∧ b.pos = a.pos + 1 ∧ b.s.restarts = a.s.restarts ∧
          b.s.lastSize = a.s.lastSize) ∨
       (prm.criterion s2 = true ∧ b.en = prm.restart a.en s2.data ∧ b.pos = 0 ∧
          b.s.restarts = a.s.restarts + 1 ∧ b.s.lastSize = s2.data.length)) := by
  obtain ⟨ok, sc, hta, hb⟩ := segRun_next fuel s en pos pre a b post h
  have g := segRun_entry fuel s en pos pre a (b :: post) h
  rw [afterTest_eq] at hb
  refine ⟨booked (testedS a.s sc) a.p, ?_, rfl, rfl, congrArg (· + 1) g.programs, ?_⟩
  · rw [List.map_append, List.map_singleton, dataOf_snoc hta, ← List.append_assoc, ← g.data]; rfl
  · by_cases hc : prm.criterion (booked (testedS a.s sc) a.p) = true
    · rw [if_pos hc] at hb
      obtain ⟨e1, e2⟩ := Prod.mk.inj hb
      obtain ⟨e2, e3⟩ := Prod.mk.inj e2
      exact Or.inr ⟨hc, e2, e3, by rw [e1]; rfl, by rw [e1]⟩
    · rw [if_neg hc] at hb
      obtain ⟨e1, e2⟩ := Prod.mk.inj hb
      obtain ⟨e2, e3⟩ := Prod.mk.inj e2
      exact Or.inl ⟨Bool.not_eq_true _ ▸ hc, e2, e3, by rw [e1]; rfl, by rw [e1]; rfl⟩

theorem segRun_no_restart (hc : ∀ s, prm.criterion s = false) : ∀ (fuel : Nat) (s : RSolver P) (en : En) (pos : Nat),
    ∀ e ∈ segRun prm tp fuel s en pos, e.en = en ∧ e.s.restarts = s.restarts := by
  refine segRun_ind (motive := fun _ s en _ l => ∀ e ∈ l, e.en = en ∧ e.s.restarts = s.restarts)
    (fun _ _ _ _ h => nomatch h) (fun _ _ _ _ _ _ h => nomatch h)
    (fun _ _ _ _ _ _ _ _ e he => by cases List.mem_singleton.mp he; exact ⟨rfl, rfl⟩) ?_
  intro _ s en pos p b sc s' en' pos' rest _ _ hat _ ih e he
  rcases List.mem_cons.mp he with rfl | he
  · exact ⟨rfl, rfl⟩
  · obtain ⟨h1, _, h3⟩ := afterTest_no_restart hc hat
    obtain ⟨g1, g2⟩ := ih e he
    exact ⟨g1.trans h1, g2.trans h3⟩

/-- `segRun` ends with the program whose test raises, so with a criterion that never fires the segmented enumeration
    of a list `es` is `es` cut there (`segEnum_no_restart_cut`); the plain solver run on `es` stops at the same
    program (`base_cut`) -/
def cutAtError (tp : P → Except E (Bool × Score)) : List P → List P
  | [] => []
  | p :: rest =>
    match tp p with
    | .error _ => [p]
    | .ok _ => p :: cutAtError tp rest

theorem cutAtError_of_ok (tp : P → Except E (Bool × Score)) : ∀ (es : List P), (∀ p ∈ es, ∀ e, tp p ≠ .error e) →
    cutAtError tp es = es
  | [], _ => rfl
  | p :: rest, h => by
    rw [cutAtError]
    cases ht : tp p with
    | error e => exact absurd ht (h p List.mem_cons_self e)
    | ok v => exact congrArg (p :: ·) (cutAtError_of_ok tp rest fun q hq => h q (List.mem_cons_of_mem _ hq))

theorem segEnum_no_restart_cut (hc : ∀ s, prm.criterion s = false) (en : En) (es : List P)
    (hs : ∀ i, prm.stream en i = es[i]?) (fuel : Nat) (s : RSolver P) (pos : Nat) :
    segEnum prm tp fuel s en pos = cutAtError tp ((es.drop pos).take fuel) := by
  have hd : ∀ {pos p}, prm.stream en pos = some p → es.drop pos = p :: es.drop (pos + 1) := by
    intro pos p h
    obtain ⟨hlt, he⟩ := List.getElem?_eq_some_iff.mp ((hs pos).symm.trans h)
    rw [← he]; exact List.drop_eq_getElem_cons hlt
  refine segRun_ind (motive := fun fuel _ en' pos l => en' = en →
      l.map (·.p) = cutAtError tp ((es.drop pos).take fuel)) ?_ ?_ ?_ ?_ fuel s en pos rfl
  · intro _ _ _ _; rfl
  · intro _ _ _ pos h he
    rw [he, hs, List.getElem?_eq_none_iff] at h
    rw [List.drop_eq_nil_of_le h]; rfl
  · intro _ _ _ pos p e h ht he
    rw [hd (he ▸ h), List.take_succ_cons, cutAtError, ht]; rfl
  · intro _ _ _ pos p b sc s' en' pos' rest h ht hat _ ih he
    obtain ⟨h1, h2, _⟩ := afterTest_no_restart hc hat
    rw [hd (he ▸ h), List.take_succ_cons, cutAtError, ht, List.map_cons, ih (h1.trans he), h2]

theorem segEnum_no_restart (hc : ∀ s, prm.criterion s = false) (en : En) (es : List P)
    (hs : ∀ i, prm.stream en i = es[i]?) (hne : ∀ p ∈ es, ∀ e, tp p ≠ .error e) :
    ∀ (fuel : Nat) (s : RSolver P) (pos : Nat),
      segEnum prm tp fuel s en pos = (es.drop pos).take fuel := by
  intro fuel s pos
  rw [segEnum_no_restart_cut hc en es hs, cutAtError_of_ok]
  exact fun p hp => hne p (List.mem_of_mem_drop (List.mem_of_mem_take hp))

@[simp] theorem driveR_finished (r : RStop E) (s : RSolver P) (st : St) (as : List Bool) :
    driveR prm T (.finished r s st : RStep St P E En) as = ⟨[], .finished r, s, st⟩ := by
  cases as <;> rfl

@[simp] theorem driveR_running (s : RSolver P) (st : St) (as : List Bool) :
    driveR prm T (.running s st : RStep St P E En) as = ⟨[], .outOfFuel, s, st⟩ := by
  cases as <;> rfl

theorem closeR_programs (fx : Bool) (s : RSolver P) (p : P) : (closeR fx s p).self.programs = s.self.programs := by
  cases fx <;> rfl

/-- Every run starts in one of eight ways, told apart by the fuel, the stream, the clock, the test of the first
    program and the caller's answer.  `Inv` is any property of the evaluator state that the test preserves. -/
theorem runR_induction (hI : ∀ st p, Inv st → Inv (T st p).1)
    {motive : Nat → RSolver P → St → En → Nat → List Bool → List Bool → RRun St P E → Prop}
    (outOfFuel : ∀ s st en pos dl as, motive 0 s st en pos dl as ⟨[], .outOfFuel, s, st⟩)
    (endOfStream : ∀ fuel s st en pos dl as, prm.stream en pos = none →
      motive (fuel + 1) s st en pos dl as
        ⟨[], .finished (if prm.fixNext then .exhausted else .stopIteration), s, st⟩)
    (timeout : ∀ fuel s st en pos dl as p, prm.stream en pos = some p → deadlinePassed dl = true →
      motive (fuel + 1) s st en pos dl as ⟨[], .finished .timeout, closeR prm.fixStats s p, st⟩)
    (raised : ∀ fuel s st en pos dl as p st' e, Inv st → prm.stream en pos = some p →
      deadlinePassed dl = false → T st p = (st', .error e) →
      motive (fuel + 1) s st en pos dl as ⟨[], .finished (.raised e), countedS s, st'⟩)
    (rejected : ∀ fuel s st en pos dl as p st' sc s' en' pos' r, Inv st → prm.stream en pos = some p →
      deadlinePassed dl = false → T st p = (st', .ok (false, sc)) →
      afterTest prm (testedS s sc) p en (pos + 1) = (s', en', pos') →
      motive fuel s' st' en' pos' dl.tail as r → motive (fuel + 1) s st en pos dl as r)
    (suspended : ∀ fuel s st en pos dl p st' sc, Inv st → prm.stream en pos = some p →
      deadlinePassed dl = false → T st p = (st', .ok (true, sc)) →
      motive (fuel + 1) s st en pos dl [] ⟨[p], .suspended, testedS s sc, st'⟩)
    (accepted : ∀ fuel s st en pos dl as p st' sc, Inv st → prm.stream en pos = some p →
      deadlinePassed dl = false → T st p = (st', .ok (true, sc)) →
      motive (fuel + 1) s st en pos dl (true :: as)
        ⟨[p], .finished .accepted, closeR prm.fixStats (testedS s sc) p, st'⟩)
    (refused : ∀ fuel s st en pos dl as p st' sc s' en' pos' r, Inv st → prm.stream en pos = some p →
      deadlinePassed dl = false → T st p = (st', .ok (true, sc)) →
      afterTest prm (testedS s sc) p en (pos + 1) = (s', en', pos') →
      motive fuel s' st' en' pos' dl.tail as r →
      motive (fuel + 1) s st en pos dl (false :: as) { r with yielded := p :: r.yielded })
    (fuel : Nat) (s : RSolver P) (st : St) (en : En) (pos : Nat) (dl as : List Bool) (hst : Inv st) :
    motive fuel s st en pos dl as (driveR prm T (advanceR prm T fuel s st en pos dl) as) := by
  induction fuel generalizing s st en pos dl as with
  | zero => rw [advanceR, driveR_running]; exact outOfFuel s st en pos dl as
  | succ fuel ih =>
    cases hs : prm.stream en pos with
    | none => simp only [advanceR, hs, driveR_finished]; exact endOfStream fuel s st en pos dl as hs
    | some p =>
      cases hd : deadlinePassed dl with
      | true => simp only [advanceR, hs, hd, if_true, driveR_finished]; exact timeout fuel s st en pos dl as p hs hd
      | false =>
        have hst' := hI st p hst
        rcases hT' : T st p with ⟨st', e | ⟨b, sc⟩⟩
        · simp only [advanceR, hs, hd, hT', Bool.false_eq_true, if_false, driveR_finished]
          exact raised fuel s st en pos dl as p st' e hst hs hd hT'
        · rw [hT'] at hst'
          cases b with
          | false =>
            simp only [advanceR, hs, hd, hT', Bool.false_eq_true, if_false]
            exact rejected fuel s st en pos dl as p st' sc _ _ _ _ hst hs hd hT' rfl (ih _ st' _ _ dl.tail as hst')
          | true =>
            simp only [advanceR, hs, hd, hT', Bool.false_eq_true, if_false, if_true]
            match as with
            | [] => exact suspended fuel s st en pos dl p st' sc hst hs hd hT'
            | true :: as =>
              rw [driveR, sendR, if_pos rfl, driveR_finished]
              exact accepted fuel s st en pos dl as p st' sc hst hs hd hT'
            | false :: as =>
              exact refused fuel s st en pos dl as p st' sc _ _ _ _ hst hs hd hT' rfl (ih _ st' _ _ dl.tail as hst')

theorem RefinesS.tp_eq (hT : RefinesS T tp Inv) {st st' : St} {p : P} {a : Except E (Bool × Score)}
    (hst : Inv st) (h : T st p = (st', a)) : tp p = a := by
  rw [← (hT st p hst).2, h]

/-- the plain solver object `bs` is arbitrary but for its counter (`hb`): the four conclusions read nothing else
    of it -/
theorem sim (hT : RefinesS T tp Inv) (fuel : Nat) (s : RSolver P) (st : St) (en : En) (pos : Nat)
    (dl as : List Bool) (bs : Solver P) (hst : Inv st) (hb : bs.programs = s.self.programs) :
    (driveR prm T (advanceR prm T fuel s st en pos dl) as).yielded =
      (drive T (advance T bs st (segEnum prm tp fuel s en pos) dl) as).yielded ∧
    (driveR prm T (advanceR prm T fuel s st en pos dl) as).status.toBase =
      (drive T (advance T bs st (segEnum prm tp fuel s en pos) dl) as).status ∧
    (driveR prm T (advanceR prm T fuel s st en pos dl) as).solver.self.programs =
      (drive T (advance T bs st (segEnum prm tp fuel s en pos) dl) as).solver.programs ∧
    (driveR prm T (advanceR prm T fuel s st en pos dl) as).st =
      (drive T (advance T bs st (segEnum prm tp fuel s en pos) dl) as).st := by
  revert bs
  refine runR_induction (fun st p h => (hT st p h).1) (motive := fun fuel s st en pos dl as r =>
      ∀ bs : Solver P, bs.programs = s.self.programs →
      r.yielded = (drive T (advance T bs st (segEnum prm tp fuel s en pos) dl) as).yielded ∧
      r.status.toBase = (drive T (advance T bs st (segEnum prm tp fuel s en pos) dl) as).status ∧
      r.solver.self.programs = (drive T (advance T bs st (segEnum prm tp fuel s en pos) dl) as).solver.programs ∧
      r.st = (drive T (advance T bs st (segEnum prm tp fuel s en pos) dl) as).st)
    ?_ ?_ ?_ ?_ ?_ ?_ ?_ ?_ fuel s st en pos dl as hst
  -- in each case the plain solver takes the same step on the head of the segmented enumeration
  · intro s st en pos dl as bs hb
    simp [segEnum, segRun, advance, RStatus.toBase, hb]
  · intro fuel s st en pos dl as hs bs hb
    cases prm.fixNext <;> simp [segEnum, segRun_none hs, advance, RStatus.toBase, hb]
  · intro fuel s st en pos dl as p hs hd bs hb
    obtain ⟨rest, h⟩ := segRun_some (tp := tp) fuel s hs
    simp [segEnum, h, advance, hd, RStatus.toBase, closeR_programs, closeTask, hb]
  · intro fuel s st en pos dl as p st' e hst hs hd hT' bs hb
    simp [segEnum, segRun_error hs (hT.tp_eq hst hT'), advance, hd, hT', RStatus.toBase, countedS, hb]
  · intro fuel s st en pos dl as p st' sc s' en' pos' r hst hs hd hT' hat ih bs hb
    simp only [segEnum, segRun_ok hs (hT.tp_eq hst hT'), hat, List.map_cons, advance, hd, hT',
      Bool.false_eq_true, if_false]
    exact ih _ ((congrArg (· + 1) hb).trans (hat ▸ afterTest_programs prm (testedS s sc) p en (pos + 1)).symm)
  · intro fuel s st en pos dl p st' sc hst hs hd hT' bs hb
    simp [segEnum, segRun_ok hs (hT.tp_eq hst hT'), advance, hd, hT', drive, RStatus.toBase, testedS, countedS, hb]
  · intro fuel s st en pos dl as p st' sc hst hs hd hT' bs hb
    simp [segEnum, segRun_ok hs (hT.tp_eq hst hT'), advance, hd, hT', drive, send, RStatus.toBase,
      closeR_programs, closeTask, testedS, countedS, hb]
  · intro fuel s st en pos dl as p st' sc s' en' pos' r hst hs hd hT' hat ih bs hb
    simp only [segEnum, segRun_ok hs (hT.tp_eq hst hT'), hat, List.map_cons, advance, hd, hT',
      Bool.false_eq_true, if_false, if_true, drive, send]
    obtain ⟨g1, g2, g3, g4⟩ :=
      ih { bs with programs := bs.programs + 1, score := some sc } ((congrArg (· + 1) hb).trans (hat ▸ afterTest_programs prm (testedS s sc) p en (pos + 1)).symm)
    exact ⟨congrArg (p :: ·) g1, g2, g3, g4⟩

/-- What a run `r` of `fuel` iterations started on the solver object `s` leaves, `pre ++ post` being
    the segmented enumeration and `pre` its entries that were tested: the counter, the yields, and the
    solver object — closed on the last tested entry when it is accepted, on the first untested one at
    the deadline, with untouched statistics otherwise. -/
structure RLedger (prm : Params En P) (tp : P → Except E (Bool × Score)) (sats : P → Bool) (fuel : Nat)
    (s : RSolver P) (pre post : List (Entry P En)) (r : RRun St P E) : Prop where
  programs : r.solver.self.programs = s.self.programs + pre.length
  yielded : r.yielded = (pre.map (·.p)).filter sats
  accepted : r.status = .finished .accepted → ∃ pre' e sc, pre = pre' ++ [e] ∧ tp e.p = .ok (true, sc) ∧
    r.solver = closeR prm.fixStats (testedS e.s sc) e.p
  timeout : r.status = .finished .timeout →
    ∃ e post', post = e :: post' ∧ r.solver = closeR prm.fixStats e.s e.p
  unclosed : r.status ≠ .finished .accepted → r.status ≠ .finished .timeout → Frame s r.solver
  streamEnd : r.status = .finished .exhausted ∨ r.status = .finished .stopIteration → post = []
  outOfFuel : r.status = .outOfFuel → post = [] ∧ pre.length = fuel

theorem RLedger.cons {sats : P → Bool} {fuel : Nat} {s s' : RSolver P} {e : Entry P En}
    {pre post : List (Entry P En)} {r : RRun St P E} (h : RLedger prm tp sats fuel s' pre post r)
    (hp : s'.self.programs = s.self.programs + 1) (hf : Frame s s') (ys : List P)
    (hy : (e.p :: pre.map (·.p)).filter sats = ys ++ (pre.map (·.p)).filter sats) :
    RLedger prm tp sats (fuel + 1) s (e :: pre) post { r with yielded := ys ++ r.yielded } where
  programs := by rw [h.programs, hp, List.length_cons]; exact Nat.add_right_comm ..
  yielded := by rw [List.map_cons, hy, ← h.yielded]
  accepted a := let ⟨pre', e', sc, hp, ht, hc⟩ := h.accepted a; ⟨e :: pre', e', sc, by rw [hp]; rfl, ht, hc⟩
  timeout := h.timeout
  unclosed a b := hf.trans (h.unclosed a b)
  streamEnd := h.streamEnd
  outOfFuel a := ⟨(h.outOfFuel a).1, congrArg (· + 1) (h.outOfFuel a).2⟩

theorem runR_ledger {sats : P → Bool} (hT : RefinesS T tp Inv)
    (hv : VerdictSound (fun p => (tp p).map Prod.fst) sats) (fuel : Nat) (s : RSolver P) (st : St) (en : En)
    (pos : Nat) (dl as : List Bool) (hst : Inv st) :
    ∃ pre post, segRun prm tp fuel s en pos = pre ++ post ∧
      RLedger prm tp sats fuel s pre post (driveR prm T (advanceR prm T fuel s st en pos dl) as) := by
  refine runR_induction (fun st p h => (hT st p h).1) (motive := fun fuel s _ en pos _ _ r =>
      ∃ pre post, segRun prm tp fuel s en pos = pre ++ post ∧ RLedger prm tp sats fuel s pre post r)
    ?_ ?_ ?_ ?_ ?_ ?_ ?_ ?_ fuel s st en pos dl as hst
  · intro s _ _ _ _ _
    exact ⟨[], [], rfl, rfl, rfl, nofun, nofun, fun _ _ => Frame.refl s, fun _ => rfl, fun _ => ⟨rfl, rfl⟩⟩
  · intro fuel s _ _ _ _ _ hs
    exact ⟨[], [], segRun_none hs, rfl, rfl, by cases prm.fixNext <;> nofun, by cases prm.fixNext <;> nofun,
      fun _ _ => Frame.refl s, fun _ => rfl, nofun⟩
  · intro fuel s _ en pos _ _ p hs _
    obtain ⟨rest, h⟩ := segRun_some (tp := tp) fuel s hs
    exact ⟨[], _, h, closeR_programs .., rfl, nofun, fun _ => ⟨_, rest, rfl, rfl⟩, fun _ h => (h rfl).elim, by simp, nofun⟩
  · intro fuel s _ en pos _ _ p _ e hst hs _ hT'
    have htp := hT.tp_eq hst hT'
    exact ⟨[⟨p, en, pos, s⟩], [], segRun_error hs htp, rfl,
      by simp [hv.2 p e (congrArg (Except.map Prod.fst) htp)], nofun, nofun, fun _ _ => frame_countedS s,
      fun _ => rfl, nofun⟩
  · intro fuel s _ en pos _ _ p _ sc s' en' pos' r hst hs _ hT' hat ⟨pre, post, he, h⟩
    have htp := hT.tp_eq hst hT'
    obtain ⟨hp, hf⟩ := afterTest_tested hat
    exact ⟨⟨p, en, pos, s⟩ :: pre, post, by rw [segRun_ok hs htp, hat, he]; rfl,
      h.cons hp hf [] (by simp [← hv.1 p _ (congrArg (Except.map Prod.fst) htp)])⟩
  · intro fuel s _ en pos _ p _ sc hst hs _ hT'
    have htp := hT.tp_eq hst hT'
    exact ⟨[⟨p, en, pos, s⟩], _, segRun_ok hs htp, rfl,
      by simp [← hv.1 p _ (congrArg (Except.map Prod.fst) htp)], nofun, nofun, fun _ _ => frame_testedS s sc,
      by simp, nofun⟩
  · intro fuel s _ en pos _ _ p _ sc hst hs _ hT'
    have htp := hT.tp_eq hst hT'
    exact ⟨[⟨p, en, pos, s⟩], _, segRun_ok hs htp, closeR_programs ..,
      by simp [← hv.1 p _ (congrArg (Except.map Prod.fst) htp)], fun _ => ⟨[], _, sc, rfl, htp, rfl⟩, nofun,
      fun h => (h rfl).elim, by simp, nofun⟩
  · intro fuel s _ en pos _ _ p _ sc s' en' pos' r hst hs _ hT' hat ⟨pre, post, he, h⟩
    have htp := hT.tp_eq hst hT'
    obtain ⟨hp, hf⟩ := afterTest_tested hat
    exact ⟨⟨p, en, pos, s⟩ :: pre, post, by rw [segRun_ok hs htp, hat, he]; rfl,
      h.cons hp hf [p] (by simp [← hv.1 p _ (congrArg (Except.map Prod.fst) htp)])⟩

/-- a run ends `exhausted` only if `fixNext = true` (repair C10-F2) and `stopIteration` (Python's RuntimeError) only
    if `fixNext = false` -/
theorem end_of_stream (fuel : Nat) (s : RSolver P) (st : St) (en : En) (pos : Nat) (dl as : List Bool) :
    ((driveR prm T (advanceR prm T fuel s st en pos dl) as).status = .finished .exhausted → prm.fixNext = true) ∧
    ((driveR prm T (advanceR prm T fuel s st en pos dl) as).status = .finished .stopIteration →
      prm.fixNext = false) := by
  refine runR_induction (Inv := fun _ => True) (fun _ _ _ => trivial) (motive := fun _ _ _ _ _ _ _ r =>
      (r.status = .finished .exhausted → prm.fixNext = true) ∧
      (r.status = .finished .stopIteration → prm.fixNext = false))
    ?_ ?endOfStream ?_ ?_ ?rejected ?_ ?_ ?refused fuel s st en pos dl as trivial
  case endOfStream => intros; cases prm.fixNext <;> simp
  case rejected | refused => intros; assumption
  all_goals intros; exact ⟨nofun, nofun⟩

end machine
end PS.C10
