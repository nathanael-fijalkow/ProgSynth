/- C09 — the alias-table construction of vose_polyfill.py (`build`, PS/Model/Sampler.lean).  Each
   outcome `k` has a potential `Phi`: the weight still lying at `k` plus `avg` times what the
   finished columns give to `k`.  A pairing step keeps it, so the probability of `k` under the
   finished tables is its normalised weight; sign hypotheses enter only for `0 ≤ proba ≤ 1`. -/
import PS.Model.Sampler
import Mathlib.Tactic.Ring
import Mathlib.Tactic.Linarith
import Mathlib.Tactic.FieldSimp
import Mathlib.Algebra.BigOperators.Group.Finset.Basic
import Mathlib.Algebra.BigOperators.Group.Finset.Piecewise
import Mathlib.Algebra.BigOperators.Ring.Finset
import Mathlib.Algebra.Order.Field.Rat
namespace PS.Sampler

theorem getD_set {α : Type} (l : List α) (i j : Nat) (v d : α) :
    (l.set i v).getD j d = if i = j ∧ i < l.length then v else l.getD j d := by
  simp only [List.getD_eq_getElem?_getD, List.getElem?_set]
  by_cases h : i = j
  · subst h
    by_cases h2 : i < l.length <;> simp [h2]
  · simp [h]

theorem drain_length (l : List Nat) (p : List Rat) : (drain l p).length = p.length := by
  unfold drain
  induction l generalizing p with
  | nil => rfl
  | cons a l ih => simp [List.foldl_cons, ih]

theorem drain_getD (l : List Nat) (p : List Rat) (j : Nat) :
    (drain l p).getD j 0 = if j ∈ l ∧ j < p.length then 1 else p.getD j 0 := by
  unfold drain
  induction l generalizing p with
  | nil => simp
  | cons a l ih =>
    rw [List.foldl_cons, ih, getD_set, List.length_set]
    by_cases h2 : j < p.length
    · by_cases h3 : a = j
      · subst h3; simp [h2]
      · simp [h2, h3, Ne.symm h3]
    · have h0 : p.getD j 0 = 0 := by
        simp [List.getD_eq_getElem?_getD, List.getElem?_eq_none (Nat.le_of_not_lt h2)]
      have h5 : ¬ (a = j ∧ a < p.length) := by
        rintro ⟨rfl, h⟩; exact h2 h
      simp [h2, h5]

/-- the arrays after `pairStep`: they are the same in both branches, which differ only in the work
    list that receives `more` -/
def stepSt (avg : Rat) (less more : Nat) (st : St) : St :=
  ⟨st.weights.set more (st.weights.getD more 0 + st.weights.getD less 0 - avg),
   st.alias.set less more,
   st.proba.set less (st.weights.getD less 0 / avg)⟩

theorem perm_work (less more : Nat) (small large : List Nat) :
    List.Perm ((less :: small) ++ (more :: large)) (less :: more :: (small ++ large)) :=
  (List.perm_middle (l₁ := less :: small)).trans (List.Perm.swap less more _)

theorem pairStep_spec (avg : Rat) (less more : Nat) (small large : List Nat) (st : St) :
    (pairStep avg less more small large st).2.2 = stepSt avg less more st ∧
    ((pairStep avg less more small large st).1 ++ (pairStep avg less more small large st).2.1).Perm
      (more :: (small ++ large)) ∧
    (∀ j ∈ (pairStep avg less more small large st).1,
      j ∈ small ∨ j = more ∧ st.weights.getD more 0 + st.weights.getD less 0 - avg < avg) ∧
    (∀ j ∈ (pairStep avg less more small large st).2.1,
      j ∈ large ∨ j = more ∧ avg ≤ st.weights.getD more 0 + st.weights.getD less 0 - avg) := by
  simp only [pairStep, stepSt]
  by_cases h : st.weights.getD more 0 + st.weights.getD less 0 - avg ≥ avg
  · rw [if_pos h]
    refine ⟨rfl, ?_, fun j hj => Or.inl hj, fun j hj => ?_⟩
    · rw [← List.append_assoc]; exact List.perm_append_singleton _ _
    · exact (List.mem_append.mp hj).imp_right fun h' => ⟨List.mem_singleton.mp h', h⟩
  · rw [if_neg h]
    refine ⟨rfl, ?_, fun j hj => ?_, fun j hj => Or.inl hj⟩
    · rw [List.append_assoc]; exact List.perm_middle
    · exact (List.mem_append.mp hj).imp_right fun h' => ⟨List.mem_singleton.mp h', not_le.mp h⟩

theorem pairLoop_induct (avg : Rat) (P : List Nat → List Nat → St → Prop)
    (step : ∀ less more small large st, P (less :: small) (more :: large) st →
      P (pairStep avg less more small large st).1 (pairStep avg less more small large st).2.1
        (pairStep avg less more small large st).2.2)
    (fuel : Nat) (small large : List Nat) (st : St) (h : P small large st) :
    P (pairLoop avg fuel small large st).1 (pairLoop avg fuel small large st).2.1
      (pairLoop avg fuel small large st).2.2 := by
  fun_induction pairLoop avg fuel small large st with
  | case1 fuel less small more large st r ih => exact ih (step _ _ _ _ _ h)
  | case2 => exact h

/-- Every step removes one index, so fuel ≥ |small|+|large| lets the loop end as the Python `while`
    does, with one work list empty. -/
theorem pairLoop_exit (avg : Rat) (fuel : Nat) (small large : List Nat) (st : St)
    (h : small.length + large.length ≤ fuel) :
    (pairLoop avg fuel small large st).1 = [] ∨ (pairLoop avg fuel small large st).2.1 = [] := by
  fun_induction pairLoop avg fuel small large st with
  | case1 fuel less small more large st r ih =>
    apply ih
    have := (pairStep_spec avg less more small large st).2.1.length_eq
    simp only [List.length_append, List.length_cons] at this h
    simp only [r]
    omega
  | case2 fuel small large st hne =>
    match fuel, small, large, h, hne with
    | _, [], _, _, _ => exact Or.inl rfl
    | _, _ :: _, [], _, _ => exact Or.inr rfl
    | 0, _ :: _, _ :: _, h, _ => simp at h
    | _ + 1, _ :: _, _ :: _, _, hne => exact (hne _ _ _ _ _ rfl rfl rfl).elim

/-- the arrays have length `n` and every index in a work list or in `alias` is below `n`: what makes
    the `set`/`getD` of a pairing step hit -/
structure Shape (n : Nat) (small large : List Nat) (st : St) : Prop where
  lw : st.weights.length = n
  la : st.alias.length = n
  lp : st.proba.length = n
  lt : ∀ j ∈ small ++ large, j < n
  alias_lt : ∀ a ∈ st.alias, a < n

theorem Shape_step {n : Nat} {avg : Rat} {less more : Nat} {small large : List Nat} {st : St}
    (h : Shape n (less :: small) (more :: large) st) :
    Shape n (pairStep avg less more small large st).1 (pairStep avg less more small large st).2.1
      (pairStep avg less more small large st).2.2 := by
  obtain ⟨est, hperm, -, -⟩ := pairStep_spec avg less more small large st
  have hw : ∀ j ∈ more :: (small ++ large), j < n := fun j hj =>
    h.lt j ((perm_work less more small large).mem_iff.mpr (List.mem_cons_of_mem _ hj))
  rw [est]
  refine ⟨by simp [stepSt, h.lw], by simp [stepSt, h.la], by simp [stepSt, h.lp],
    fun j hj => hw j (hperm.mem_iff.mp hj), fun a ha => ?_⟩
  rcases List.mem_or_eq_of_mem_set ha with ha | ha
  · exact h.alias_lt a ha
  · exact ha ▸ hw more List.mem_cons_self

theorem init_perm (avg : Rat) (ws : List Rat) :
    (initSmall avg ws ++ initLarge avg ws).Perm (List.range ws.length) :=
  List.perm_append_comm.trans (List.filter_append_perm (fun i => decide (ws.getD i 0 ≥ avg)) _)

theorem mem_initSmall {avg : Rat} {ws : List Rat} {j : Nat} (h : j ∈ initSmall avg ws) : ws.getD j 0 < avg := by
  simpa [initSmall] using (List.mem_filter.mp h).2

theorem mem_initLarge {avg : Rat} {ws : List Rat} {j : Nat} (h : j ∈ initLarge avg ws) : avg ≤ ws.getD j 0 := by
  simpa [initLarge] using (List.mem_filter.mp h).2

theorem Shape_init (avg : Rat) (ws : List Rat) :
    Shape ws.length (initSmall avg ws) (initLarge avg ws) (initSt ws) := by
  refine ⟨rfl, by simp [initSt], by simp [initSt],
    fun j hj => List.mem_range.mp ((init_perm avg ws).mem_iff.mp hj), fun a ha => ?_⟩
  simp only [initSt, List.mem_replicate] at ha
  exact ha.2 ▸ Nat.pos_of_ne_zero ha.1

theorem buildLoop_shape (ws : List Rat) :
    Shape ws.length (buildLoop ws).1 (buildLoop ws).2.1 (buildLoop ws).2.2 :=
  pairLoop_induct _ (Shape ws.length) (fun _ _ _ _ _ => Shape_step) _ _ _ _ (Shape_init _ ws)

theorem build_lengths (ws : List Rat) :
    (build ws).alias.length = ws.length ∧ (build ws).proba.length = ws.length :=
  ⟨(buildLoop_shape ws).la, by
    show (drain _ (drain _ _)).length = _
    rw [drain_length, drain_length, (buildLoop_shape ws).lp]⟩

theorem build_alias_lt (ws : List Rat) : ∀ a ∈ (build ws).alias, a < ws.length :=
  (buildLoop_shape ws).alias_lt

theorem sum_change_two (n a b : Nat) (f g : Nat → Rat) (ha : a < n) (hb : b < n) (hab : a ≠ b)
    (h : ∀ j, j ≠ a → j ≠ b → f j = g j) (hh : f a + f b = g a + g b) :
    ∑ j ∈ Finset.range n, f j = ∑ j ∈ Finset.range n, g j := by
  have ha' : a ∈ Finset.range n := Finset.mem_range.2 ha
  have hb' : b ∈ (Finset.range n).erase a :=
    Finset.mem_erase.2 ⟨hab.symm, Finset.mem_range.2 hb⟩
  rw [← Finset.add_sum_erase _ f ha', ← Finset.add_sum_erase _ f hb',
    ← Finset.add_sum_erase _ g ha', ← Finset.add_sum_erase _ g hb']
  have : ∑ x ∈ ((Finset.range n).erase a).erase b, f x =
      ∑ x ∈ ((Finset.range n).erase a).erase b, g x := by
    apply Finset.sum_congr rfl
    intro j hj
    simp only [Finset.mem_erase] at hj
    exact h j hj.2.1 hj.1
  rw [this]; linarith

/-- mass of outcome `k` accounted for by index `j`: the remaining weight if `j` is still
    unprocessed, `avg` times the column mass otherwise -/
def contrib (avg : Rat) (st : St) (U : List Nat) (k j : Nat) : Rat :=
  if j ∈ U then (if j = k then st.weights.getD j 0 else 0)
  else avg * ((if j = k then st.proba.getD j 0 else 0) +
              (if st.alias.getD j 0 = k then 1 - st.proba.getD j 0 else 0))

/-- The potential of outcome `k`: its total mass, counted in units of weight, when the indices of
    `U` are still unprocessed — the weight still lying at `k` if `k ∈ U`, plus `avg` times what the
    finished columns (own share `proba[j]` at `j = k`, alias share `1 - proba[j]` at `alias[j] = k`)
    give to `k`.  A pairing step does not change it (`Phi_step`): at the start it is the weight
    `ws[k]`, at the end `avg` times the probability of `k` under the tables. -/
def Phi (avg : Rat) (n : Nat) (st : St) (U : List Nat) (k : Nat) : Rat :=
  ∑ j ∈ Finset.range n, contrib avg st U k j

theorem Phi_congr {avg : Rat} {n : Nat} {st : St} {U V : List Nat} {k : Nat} (h : ∀ j, j ∈ U ↔ j ∈ V) :
    Phi avg n st U k = Phi avg n st V k := by
  simp only [Phi, contrib, h]

/-- a pairing step moves the mass of `less` from the unprocessed part to its column -/
theorem Phi_step (avg : Rat) (havg : avg ≠ 0) (n : Nat) (st : St) (less more : Nat) (W : List Nat)
    (hl : less < n) (hm : more < n) (hne : less ≠ more) (hlW : less ∉ W)
    (lw : st.weights.length = n) (la : st.alias.length = n) (lp : st.proba.length = n) (k : Nat) :
    Phi avg n (stepSt avg less more st) (more :: W) k = Phi avg n st (less :: more :: W) k := by
  unfold Phi
  apply sum_change_two n less more _ _ hl hm hne
  · intro j h1 h2
    simp only [contrib, stepSt, getD_set, List.mem_cons, h1, Ne.symm h1, Ne.symm h2, false_or, false_and, if_false]
  · have hw : avg * (st.weights.getD less 0 / avg) = st.weights.getD less 0 := mul_div_cancel₀ _ havg
    simp only [contrib, stepSt, getD_set, List.mem_cons, hne, hne.symm, hlW, or_self, true_or, or_true, if_true, if_false,
      lw, la, lp, hl, hm, and_self, and_true]
    by_cases c1 : less = k <;> by_cases c2 : more = k
    · exact absurd (c1.trans c2.symm) hne
    · simp only [if_pos c1, if_neg c2, add_zero, hw]
    · simp only [if_neg c1, if_pos c2, zero_add, mul_sub, mul_one, hw]; ring
    · simp only [if_neg c1, if_neg c2]; ring

def sumW (w : List Rat) (l : List Nat) : Rat := (l.map (fun j => w.getD j 0)).sum

theorem sumW_cons (w : List Rat) (a : Nat) (l : List Nat) :
    sumW w (a :: l) = w.getD a 0 + sumW w l := by simp [sumW]

theorem sumW_perm (w : List Rat) {l l' : List Nat} (h : List.Perm l l') : sumW w l = sumW w l' :=
  (h.map _).sum_eq

/-- Invariant of the pairing loop of `__init__`.  `hsum`: the unprocessed indices have average
    remaining weight exactly `avg` (so when one list is empty every index left in the other has weight
    exactly `avg`, `Inv.exit_weights`, and giving it `proba = 1` is right); `hphi`: the potential of
    every outcome is still its original weight, which at the exit is the correctness of the tables. -/
structure Inv (ws : List Rat) (avg : Rat) (small large : List Nat) (st : St) : Prop
    extends Shape ws.length small large st where
  nodup : (small ++ large).Nodup
  hsmall : ∀ j ∈ small, st.weights.getD j 0 < avg
  hlarge : ∀ j ∈ large, avg ≤ st.weights.getD j 0
  hsum : sumW st.weights (small ++ large) = ((small ++ large).length : Rat) * avg
  hphi : ∀ k, Phi avg ws.length st (small ++ large) k = ws.getD k 0

theorem Inv.facts {ws : List Rat} {avg : Rat} {less more : Nat} {small large : List Nat} {st : St}
    (h : Inv ws avg (less :: small) (more :: large) st) :
    less ≠ more ∧ less ∉ small ++ large ∧ more ∉ small ++ large ∧ (small ++ large).Nodup ∧
      less < ws.length ∧ more < ws.length := by
  have hnd := (perm_work less more small large).nodup_iff.mp h.nodup
  rw [List.nodup_cons, List.nodup_cons] at hnd
  obtain ⟨h1, h2, h3⟩ := hnd
  refine ⟨fun e => h1 (by simp [e]), fun e => h1 (List.mem_cons_of_mem _ e), h2, h3,
    h.lt less (by simp), h.lt more (by simp)⟩

theorem stepSt_w_more (avg : Rat) (less more : Nat) (st : St) (h : more < st.weights.length) :
    (stepSt avg less more st).weights.getD more 0 =
      st.weights.getD more 0 + st.weights.getD less 0 - avg := by
  simp [stepSt, h]

theorem stepSt_w_other (avg : Rat) (less more j : Nat) (st : St) (h : j ≠ more) :
    (stepSt avg less more st).weights.getD j 0 = st.weights.getD j 0 := by
  simp [stepSt, Ne.symm h]

theorem Inv_step {ws : List Rat} {avg : Rat} (havg : avg ≠ 0) {less more : Nat}
    {small large : List Nat} {st : St}
    (h : Inv ws avg (less :: small) (more :: large) st) :
    Inv ws avg (pairStep avg less more small large st).1 (pairStep avg less more small large st).2.1
      (pairStep avg less more small large st).2.2 := by
  obtain ⟨hne, hln, hmn, hnd, hl_lt, hm_lt⟩ := h.facts
  obtain ⟨est, hperm, hs, hl⟩ := pairStep_spec avg less more small large st
  have hsh := Shape_step (avg := avg) h.toShape
  generalize pairStep avg less more small large st = r at est hperm hs hl hsh ⊢
  rw [est] at hsh ⊢
  have hp0 := perm_work less more small large
  have hwm := stepSt_w_more avg less more st (h.lw ▸ hm_lt)
  have hwo : ∀ j ∈ small ++ large, (stepSt avg less more st).weights.getD j 0 = st.weights.getD j 0 :=
    fun j hj => stepSt_w_other _ _ _ _ _ fun e => hmn (e ▸ hj)
  refine ⟨hsh, hperm.nodup_iff.mpr (List.nodup_cons.mpr ⟨hmn, hnd⟩), fun j hj => ?_, fun j hj => ?_, ?_,
    fun k => ?_⟩
  · rcases hs j hj with hj | ⟨rfl, hc⟩
    · rw [hwo j (List.mem_append_left _ hj)]; exact h.hsmall j (List.mem_cons_of_mem _ hj)
    · rwa [hwm]
  · rcases hl j hj with hj | ⟨rfl, hc⟩
    · rw [hwo j (List.mem_append_right _ hj)]; exact h.hlarge j (List.mem_cons_of_mem _ hj)
    · rwa [hwm]
  · have hsum0 := h.hsum
    rw [sumW_perm _ hp0, hp0.length_eq, sumW_cons, sumW_cons] at hsum0
    rw [sumW_perm _ hperm, hperm.length_eq, sumW_cons, hwm,
      show sumW (stepSt avg less more st).weights (small ++ large) = sumW st.weights (small ++ large) from
        congrArg List.sum (List.map_congr_left hwo)]
    simp only [List.length_cons] at hsum0 ⊢
    push_cast at hsum0 ⊢
    linarith
  · exact (Phi_congr fun j => hperm.mem_iff).trans
      ((Phi_step avg havg ws.length st less more _ hl_lt hm_lt hne hln h.lw h.la h.lp k).trans
        ((Phi_congr fun j => hp0.mem_iff).symm.trans (h.hphi k)))

theorem pairLoop_inv {ws : List Rat} {avg : Rat} (havg : avg ≠ 0) (fuel : Nat)
    (small large : List Nat) (st : St) (h : Inv ws avg small large st) :
    Inv ws avg (pairLoop avg fuel small large st).1 (pairLoop avg fuel small large st).2.1
      (pairLoop avg fuel small large st).2.2 :=
  pairLoop_induct avg (Inv ws avg) (fun _ _ _ _ _ h => Inv_step havg h) fuel small large st h

theorem map_getD_range (ws : List Rat) :
    (List.range ws.length).map (fun j => ws.getD j 0) = ws := by
  apply List.ext_getElem
  · simp
  · intro i h1 h2
    simp [List.getD_eq_getElem?_getD, h2]

theorem getD_of_le (ws : List Rat) (k : Nat) (h : ws.length ≤ k) : ws.getD k 0 = 0 := by
  simp [List.getD_eq_getElem?_getD, List.getElem?_eq_none h]

theorem avgOf_mul (ws : List Rat) (hs : ws.sum ≠ 0) : (ws.length : Rat) * avgOf ws = ws.sum := by
  have hn : (ws.length : Rat) ≠ 0 := by
    have := List.length_pos_of_sum_ne_zero ws hs
    exact_mod_cast (Nat.pos_iff_ne_zero.mp this)
  unfold avgOf
  field_simp

theorem avgOf_ne (ws : List Rat) (hs : ws.sum ≠ 0) : avgOf ws ≠ 0 := by
  intro h
  have := avgOf_mul ws hs
  rw [h, mul_zero] at this
  exact hs this.symm

theorem Inv_init (ws : List Rat) (hs : ws.sum ≠ 0) :
    Inv ws (avgOf ws) (initSmall (avgOf ws) ws) (initLarge (avgOf ws) ws) (initSt ws) := by
  have hp := init_perm (avgOf ws) ws
  refine ⟨Shape_init _ ws, hp.nodup_iff.mpr List.nodup_range, fun j => mem_initSmall, fun j => mem_initLarge, ?_,
    fun k => ?_⟩
  · show sumW ws _ = _
    rw [sumW_perm _ hp, hp.length_eq, List.length_range, avgOf_mul ws hs, sumW, map_getD_range]
  · unfold Phi
    have : ∀ j ∈ Finset.range ws.length,
        contrib (avgOf ws) (initSt ws) (initSmall (avgOf ws) ws ++ initLarge (avgOf ws) ws) k j =
          if j = k then ws.getD j 0 else 0 := fun j hj => by
      unfold contrib
      rw [if_pos (hp.mem_iff.mpr (List.mem_range.mpr (Finset.mem_range.mp hj)))]
      rfl
    rw [Finset.sum_congr rfl this, Finset.sum_ite_eq']
    split
    · rfl
    · rename_i hk
      exact (getD_of_le ws k (by simpa using hk)).symm

theorem all_eq_of_ge (c : Rat) (f : Nat → Rat) (l : List Nat) (h : ∀ x ∈ l, c ≤ f x) :
    (l.length : Rat) * c ≤ (l.map f).sum ∧ ((l.map f).sum = (l.length : Rat) * c → ∀ x ∈ l, f x = c) := by
  induction l with
  | nil => simp
  | cons a l ih =>
    obtain ⟨ih1, ih2⟩ := ih fun x hx => h x (List.mem_cons_of_mem _ hx)
    have h1 := h a List.mem_cons_self
    simp only [List.length_cons, List.map_cons, List.sum_cons, Nat.cast_add, Nat.cast_one, List.forall_mem_cons]
    exact ⟨by linarith, fun hs => ⟨by linarith, ih2 (by linarith)⟩⟩

theorem Inv.exit_weights {ws : List Rat} {avg : Rat} {small large : List Nat} {st : St}
    (h : Inv ws avg small large st) (he : small = [] ∨ large = []) :
    ∀ j ∈ small ++ large, st.weights.getD j 0 = avg := by
  have hsum := h.hsum
  unfold sumW at hsum
  rcases he with e | e
  · subst e
    exact (all_eq_of_ge avg _ large h.hlarge).2 hsum
  · -- the same for the opposite order: negate
    subst e
    rw [List.append_nil] at hsum ⊢
    have := (all_eq_of_ge (-avg) (fun j => -st.weights.getD j 0) small
      fun j hj => neg_le_neg (h.hsmall j hj).le).2
      (by rw [mul_neg, ← hsum, List.sum_neg, List.map_map]; rfl)
    exact fun j hj => neg_injective (this j hj)

theorem build_proba_getD (ws : List Rat) (j : Nat) (hj : j < ws.length) :
    (build ws).proba.getD j 0 =
      if j ∈ (buildLoop ws).1 ++ (buildLoop ws).2.1 then 1 else (buildLoop ws).2.2.proba.getD j 0 := by
  show (drain (buildLoop ws).2.1 (drain (buildLoop ws).1 (buildLoop ws).2.2.proba)).getD j 0 = _
  rw [drain_getD, drain_getD, drain_length, (buildLoop_shape ws).lp]
  by_cases h1 : j ∈ (buildLoop ws).1 <;> by_cases h2 : j ∈ (buildLoop ws).2.1 <;>
    simp [h1, h2, hj]

/-- No sign hypothesis on the weights is needed, only a non-zero total. -/
theorem aliasDist_build (ws : List Rat) (hs : ws.sum ≠ 0) (k : Nat) :
    aliasDist (build ws) k = normalised ws k := by
  have havg := avgOf_ne ws hs
  have hinv : Inv ws (avgOf ws) (buildLoop ws).1 (buildLoop ws).2.1 (buildLoop ws).2.2 :=
    pairLoop_inv havg _ _ _ _ (Inv_init ws hs)
  have hexit : (buildLoop ws).1 = [] ∨ (buildLoop ws).2.1 = [] := by
    apply pairLoop_exit
    rw [← List.length_append, (init_perm _ ws).length_eq, List.length_range]
  have hw := hinv.exit_weights hexit
  have hcol : ∀ j ∈ Finset.range ws.length,
      avgOf ws * colMass (build ws) k j =
        contrib (avgOf ws) (buildLoop ws).2.2 ((buildLoop ws).1 ++ (buildLoop ws).2.1) k j := by
    intro j hj
    have hj' := Finset.mem_range.mp hj
    unfold colMass contrib ind
    rw [build_proba_getD ws j hj']
    have ha : (build ws).alias = (buildLoop ws).2.2.alias := rfl
    rw [ha]
    by_cases hU : j ∈ (buildLoop ws).1 ++ (buildLoop ws).2.1
    · rw [if_pos hU, if_pos hU, hw j hU]
      by_cases c : j = k <;> simp [c]
    · rw [if_neg hU, if_neg hU]
      simp only [beq_iff_eq]
  unfold aliasDist normalised
  rw [(build_lengths ws).2]
  -- the sum of a list over `List.range n` is by definition the sum over `Finset.range n`
  show (∑ j ∈ Finset.range ws.length, colMass (build ws) k j) / _ = _
  have hphi := hinv.hphi k
  unfold Phi at hphi
  rw [← Finset.sum_congr rfl hcol, ← Finset.mul_sum] at hphi
  have hmul := avgOf_mul ws hs
  have hn : (ws.length : Rat) ≠ 0 := by
    intro h; rw [h, zero_mul] at hmul; exact hs hmul.symm
  rw [← hphi, ← hmul]
  field_simp

/-- for non-negative weights: the weights still in the work lists stay non-negative, every `proba`
    written so far is a probability -/
def Inv2 (small large : List Nat) (st : St) : Prop :=
  (∀ j ∈ small ++ large, 0 ≤ st.weights.getD j 0) ∧ (∀ p ∈ st.proba, 0 ≤ p ∧ p ≤ 1)

theorem Inv2_step {ws : List Rat} {avg : Rat} (havg : 0 < avg) {less more : Nat}
    {small large : List Nat} {st : St}
    (h : Inv ws avg (less :: small) (more :: large) st)
    (h2 : Inv2 (less :: small) (more :: large) st) :
    Inv2 (pairStep avg less more small large st).1 (pairStep avg less more small large st).2.1
      (pairStep avg less more small large st).2.2 := by
  obtain ⟨hne, hln, hmn, hnd, hl_lt, hm_lt⟩ := h.facts
  obtain ⟨est, hperm, -, -⟩ := pairStep_spec avg less more small large st
  rw [est]
  have hwl0 : 0 ≤ st.weights.getD less 0 := h2.1 less (by simp)
  have hwl1 : st.weights.getD less 0 < avg := h.hsmall less (by simp)
  have hwm : avg ≤ st.weights.getD more 0 := h.hlarge more (by simp)
  refine ⟨fun j hj => ?_, fun p hp => ?_⟩
  · rcases List.mem_cons.mp (hperm.mem_iff.mp hj) with rfl | e
    · rw [stepSt_w_more _ _ _ _ (h.lw ▸ hm_lt)]; linarith
    · rw [stepSt_w_other _ _ _ _ _ fun e' : j = more => hmn (e' ▸ e)]
      exact h2.1 j ((perm_work less more small large).mem_iff.mpr
        (List.mem_cons_of_mem _ (List.mem_cons_of_mem _ e)))
  · rcases List.mem_or_eq_of_mem_set hp with e | rfl
    · exact h2.2 p e
    · exact ⟨div_nonneg hwl0 havg.le, by rw [div_le_iff₀ havg]; linarith⟩

theorem pairLoop_inv2 {ws : List Rat} {avg : Rat} (havg : 0 < avg) (fuel : Nat)
    (small large : List Nat) (st : St) (h : Inv ws avg small large st) (h2 : Inv2 small large st) :
    Inv2 (pairLoop avg fuel small large st).1 (pairLoop avg fuel small large st).2.1
      (pairLoop avg fuel small large st).2.2 :=
  (pairLoop_induct avg (fun small large st => Inv ws avg small large st ∧ Inv2 small large st)
    (fun _ _ _ _ _ h => ⟨Inv_step (ne_of_gt havg) h.1, Inv2_step havg h.1 h.2⟩) fuel small large st ⟨h, h2⟩).2

theorem drain_mem (l : List Nat) (q : List Rat) : ∀ p ∈ drain l q, p ∈ q ∨ p = 1 := by
  unfold drain
  induction l generalizing q with
  | nil => intro p hp; exact Or.inl hp
  | cons a l ih =>
    intro p hp
    rw [List.foldl_cons] at hp
    rcases ih _ p hp with e | e
    · exact List.mem_or_eq_of_mem_set e
    · exact Or.inr e

theorem build_proba_range (ws : List Rat) (hpos : ∀ w ∈ ws, 0 ≤ w) (hs : 0 < ws.sum) :
    ∀ p ∈ (build ws).proba, 0 ≤ p ∧ p ≤ 1 := by
  have hs' : ws.sum ≠ 0 := ne_of_gt hs
  have hn : (0 : Rat) < (ws.length : Rat) := by
    exact_mod_cast List.length_pos_of_sum_ne_zero ws hs'
  have havg : 0 < avgOf ws := div_pos hs hn
  have hinit : Inv2 (initSmall (avgOf ws) ws) (initLarge (avgOf ws) ws) (initSt ws) := by
    constructor
    · intro j _
      show 0 ≤ ws.getD j 0
      by_cases hj : j < ws.length
      · rw [List.getD_eq_getElem?_getD, List.getElem?_eq_getElem hj]
        exact hpos _ (List.getElem_mem hj)
      · rw [getD_of_le ws j (Nat.le_of_not_lt hj)]
    · intro p hp
      simp only [initSt, List.mem_replicate] at hp
      rw [hp.2]; exact ⟨le_refl _, zero_le_one⟩
  have h2 : Inv2 (buildLoop ws).1 (buildLoop ws).2.1 (buildLoop ws).2.2 :=
    pairLoop_inv2 havg _ _ _ _ (Inv_init ws hs') hinit
  intro p hp
  have hp' : p ∈ drain (buildLoop ws).2.1 (drain (buildLoop ws).1 (buildLoop ws).2.2.proba) := hp
  rcases drain_mem _ _ p hp' with e | e
  · rcases drain_mem _ _ p e with e' | e'
    · exact h2.2 p e'
    · rw [e']; exact ⟨zero_le_one, le_refl _⟩
  · rw [e]; exact ⟨zero_le_one, le_refl _⟩

theorem count_lt_range (h m : Nat) :
    ((List.range m).filter (fun i => decide (i < h))).length = min h m := by
  induction m with
  | zero => simp
  | succ m ih =>
    rw [List.range_succ, List.filter_append, List.length_append, ih, List.filter_singleton]
    by_cases c : m < h
    · rw [decide_eq_true c]; simp only [cond_true, List.length_singleton]; omega
    · rw [decide_eq_false c]; simp only [cond_false, List.length_nil]; omega

theorem coinCount_heads (T : Tables) (m col h : Nat) (hm : 0 < m) (hh : h ≤ m)
    (hp : T.proba.getD col 0 = (h : Rat) / (m : Rat)) (hne : T.alias.getD col 0 ≠ col) :
    coinCount T m col col = h ∧ coinCount T m col (T.alias.getD col 0) = m - h := by
  have hm' : (0 : Rat) < (m : Rat) := by exact_mod_cast hm
  -- `i/m < h/m` exactly for `i < h`
  have hs : ∀ i : Nat, sample1 T col ((i : Rat) / (m : Rat)) = if i < h then col else T.alias.getD col 0 :=
    fun i => by simp only [sample1, hp, div_lt_div_iff_of_pos_right hm', Nat.cast_lt]
  generalize T.alias.getD col 0 = a at hs hne ⊢
  have e1 : ∀ i : Nat, (sample1 T col ((i : Rat) / (m : Rat)) == col) = decide (i < h) := fun i => by
    rw [hs]; split <;> simp [*]
  have e2 : ∀ i : Nat, (sample1 T col ((i : Rat) / (m : Rat)) == a) = !decide (i < h) := fun i => by
    rw [hs]; split <;> simp [*, hne.symm]
  have hsplit := (List.filter_append_perm (fun i => decide (i < h)) (List.range m)).length_eq
  rw [List.length_append, List.length_range, count_lt_range] at hsplit
  simp only [coinCount, e1, e2, count_lt_range]
  constructor <;> omega

theorem sample1_lt (T : Tables) (n : Nat) (hl : T.alias.length = n) (ha : ∀ a ∈ T.alias, a < n)
    {col : Nat} (hc : col < n) (u : Rat) : sample1 T col u < n := by
  unfold sample1
  split
  · exact hc
  · have h : col < T.alias.length := hl ▸ hc
    rw [List.getD_eq_getElem?_getD, List.getElem?_eq_getElem h]
    exact ha _ (List.getElem_mem h)

end PS.Sampler
