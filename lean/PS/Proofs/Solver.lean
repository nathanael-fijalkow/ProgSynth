/- C10 (model: PS/Model/Solver.lean).  The generator machine is analysed for an abstract test `T` that refines a
   verdict function (`Refines`); `_test_` over an evaluator that is faithful to a semantics (`Faithful`) is such a
   `T` (`refines_of_faithful`). -/
import PS.Model.Solver
set_option linter.unusedSimpArgs false
set_option linter.unusedSectionVars false
namespace PS.C10
open PS
open PS.C11 (Outcome)

variable {St P I V E : Type}

/-- the evaluator, from every state satisfying `Inv`, answers what `spec` says and stays in `Inv`
    (property C11 proves this for `DSLEvaluator.eval`, `Inv` = the cache holds compositional values) -/
structure Faithful (ev : Ev St P I V E) (spec : P → I → Outcome V E) (Inv : St → Prop) : Prop where
  eval_spec : ∀ st p i, Inv st → Inv (ev.eval st p i).1 ∧ (ev.eval st p i).2 = spec p i

theorem pureEv_eval (spec : P → I → Outcome V E) (u : Unit) (p : P) (i : I) :
    (pureEv spec).eval u p i = ((), spec p i) := rfl

theorem pureEv_faithful (spec : P → I → Outcome V E) : Faithful (pureEv spec) spec (fun _ => True) :=
  ⟨fun _ _ _ _ => ⟨trivial, rfl⟩⟩

section tests
variable [DecidableEq V]

theorem matchesOut_raised (e : E) (o : V) : matchesOut (Outcome.raised e : Outcome V E) o = false := rfl

@[simp] theorem raisedOf_value (v : V) : raisedOf (Outcome.value v : Outcome V E) = none := rfl
@[simp] theorem raisedOf_skipped : raisedOf (Outcome.skipped : Outcome V E) = none := rfl
@[simp] theorem raisedOf_raised (e : E) : raisedOf (Outcome.raised e : Outcome V E) = some e := rfl

theorem matchesOut_iff {out : Outcome V E} {o : V} : matchesOut out o = true ↔ out = .value o := by
  cases out <;> simp [matchesOut]

theorem raisedOf_of_matches {out : Outcome V E} {o : V} (h : matchesOut out o = true) :
    raisedOf out = none := by
  rw [matchesOut_iff.mp h]; rfl

theorem naiveLoop_cons (ev : Ev St P I V E) (p : P) (st : St) (ex : I × V) (rest : List (I × V)) (failed : Bool)
    (success : Nat) :
    naiveLoop ev p st (ex :: rest) failed success =
      match raisedOf (ev.eval st p ex.1).2 with
      | some e => ((ev.eval st p ex.1).1, .error e)
      | none =>
        if matchesOut (ev.eval st p ex.1).2 ex.2 then
          naiveLoop ev p (ev.eval st p ex.1).1 rest failed (success + 1)
        else naiveLoop ev p (ev.eval st p ex.1).1 rest true success := by
  rw [naiveLoop]
  rcases ev.eval st p ex.1 with ⟨st', _ | _ | _⟩ <;> rfl

theorem cutoffLoop_cons (ev : Ev St P I V E) (p : P) (total : Nat) (st : St) (ex : I × V) (rest : List (I × V))
    (n : Nat) :
    cutoffLoop ev p total st (ex :: rest) n =
      match raisedOf (ev.eval st p ex.1).2 with
      | some e => ((ev.eval st p ex.1).1, .error e)
      | none =>
        if matchesOut (ev.eval st p ex.1).2 ex.2 then cutoffLoop ev p total (ev.eval st p ex.1).1 rest (n + 1)
        else ((ev.eval st p ex.1).1, .ok (false, ⟨n, total⟩)) := by
  rw [cutoffLoop]
  rcases ev.eval st p ex.1 with ⟨st', _ | _ | _⟩ <;> rfl

theorem naiveLoop_faithful {ev : Ev St P I V E} {spec : P → I → Outcome V E} {Inv : St → Prop}
    (hF : Faithful ev spec Inv) (p : P) (exs : List (I × V)) :
    ∀ (st : St) (failed : Bool) (success : Nat), Inv st →
      Inv (naiveLoop ev p st exs failed success).1 ∧
      (naiveLoop ev p st exs failed success).2 = (naiveLoop (pureEv spec) p () exs failed success).2 := by
  induction exs with
  | nil => intro st failed success h; exact ⟨h, rfl⟩
  | cons ex rest ih =>
    intro st failed success h
    obtain ⟨h1, h2⟩ := hF.eval_spec st p ex.1 h
    rw [naiveLoop_cons, naiveLoop_cons, h2, pureEv_eval]
    cases raisedOf (spec p ex.1) with
    | some e => exact ⟨h1, rfl⟩
    | none => dsimp only; split <;> exact ih _ _ _ h1

theorem naiveLoop_pure (spec : P → I → Outcome V E) (p : P) (exs : List (I × V)) :
    ∀ (failed : Bool) (success : Nat),
      (naiveLoop (pureEv spec) p () exs failed success).2 =
        match exs.findSome? (fun ex => raisedOf (spec p ex.1)) with
        | some e => .error e
        | none => .ok (failed || !(exs.all (fun ex => matchesOut (spec p ex.1) ex.2)),
                       success + exs.countP (fun ex => matchesOut (spec p ex.1) ex.2)) := by
  induction exs with
  | nil => intro failed success; simp [naiveLoop]
  | cons ex rest ih =>
    intro failed success
    rw [naiveLoop_cons, pureEv_eval, List.findSome?_cons]
    cases raisedOf (spec p ex.1) with
    | some e => rfl
    | none =>
      cases hm : matchesOut (spec p ex.1) ex.2 <;> simp only [if_true, Bool.false_eq_true, if_false, ih] <;>
        cases List.findSome? (fun ex => raisedOf (spec p ex.1)) rest <;>
        simp [List.countP_cons, hm, Nat.add_assoc, Nat.add_comm 1]

theorem testNaive_eq (ev : Ev St P I V E) (exs : List (I × V)) (st : St) (p : P) :
    testNaive ev exs st p = ((naiveLoop ev p st exs false 0).1, (naiveLoop ev p st exs false 0).2.map fun v =>
      (!v.1, if exs.length = 0 then ⟨1, 1⟩ else ⟨v.2, exs.length⟩)) := by
  unfold testNaive
  rcases naiveLoop ev p st exs false 0 with ⟨st', _ | ⟨f, n⟩⟩ <;> rfl

theorem testNaive_faithful {ev : Ev St P I V E} {spec : P → I → Outcome V E} {Inv : St → Prop}
    (hF : Faithful ev spec Inv) (exs : List (I × V)) (st : St) (p : P) (h : Inv st) :
    Inv (testNaive ev exs st p).1 ∧
    (testNaive ev exs st p).2 = (testNaive (pureEv spec) exs () p).2 := by
  obtain ⟨h1, h2⟩ := naiveLoop_faithful hF p exs st false 0 h
  rw [testNaive_eq, testNaive_eq, h2]
  exact ⟨h1, rfl⟩

theorem testNaive_verdict (spec : P → I → Outcome V E) (exs : List (I × V)) (p : P) :
    (testNaive (pureEv spec) exs () p).2.map Prod.fst = verdict .naive spec exs p := by
  rw [testNaive_eq, naiveLoop_pure, verdict]
  cases exs.findSome? (fun ex => raisedOf (spec p ex.1)) <;> simp [Except.map, sat]

theorem cutoffLoop_faithful {ev : Ev St P I V E} {spec : P → I → Outcome V E} {Inv : St → Prop}
    (hF : Faithful ev spec Inv) (p : P) (total : Nat) (exs : List (I × V)) :
    ∀ (st : St) (n : Nat), Inv st →
      Inv (cutoffLoop ev p total st exs n).1 ∧
      (cutoffLoop ev p total st exs n).2 = (cutoffLoop (pureEv spec) p total () exs n).2 := by
  induction exs with
  | nil => intro st n h; exact ⟨h, rfl⟩
  | cons ex rest ih =>
    intro st n h
    obtain ⟨h1, h2⟩ := hF.eval_spec st p ex.1 h
    rw [cutoffLoop_cons, cutoffLoop_cons, h2, pureEv_eval]
    cases raisedOf (spec p ex.1) with
    | some e => exact ⟨h1, rfl⟩
    | none =>
      dsimp only; split
      · exact ih _ _ h1
      · exact ⟨h1, rfl⟩

theorem cutoffLoop_verdict (spec : P → I → Outcome V E) (p : P) (total : Nat) (exs : List (I × V)) :
    ∀ n : Nat, (cutoffLoop (pureEv spec) p total () exs n).2.map Prod.fst =
      match exs.find? (fun ex => !matchesOut (spec p ex.1) ex.2) with
      | none => .ok true
      | some ex =>
        match spec p ex.1 with
        | .raised e => .error e
        | _ => .ok false := by
  induction exs with
  | nil => intro n; rfl
  | cons ex rest ih =>
    intro n
    rw [cutoffLoop_cons, pureEv_eval, List.find?_cons]
    cases hm : matchesOut (spec p ex.1) ex.2 with
    | true => rw [raisedOf_of_matches hm]; exact ih (n + 1)
    | false => cases hs : spec p ex.1 <;> simp [hs, Except.map]

theorem testCutoff_faithful {ev : Ev St P I V E} {spec : P → I → Outcome V E} {Inv : St → Prop}
    (hF : Faithful ev spec Inv) (exs : List (I × V)) (st : St) (p : P) (h : Inv st) :
    Inv (testCutoff ev exs st p).1 ∧
    (testCutoff ev exs st p).2 = (testCutoff (pureEv spec) exs () p).2 :=
  cutoffLoop_faithful hF p exs.length exs st 0 h

theorem testCutoff_verdict (spec : P → I → Outcome V E) (exs : List (I × V)) (p : P) :
    (testCutoff (pureEv spec) exs () p).2.map Prod.fst = verdict .cutoff spec exs p := by
  unfold testCutoff verdict
  exact cutoffLoop_verdict spec p exs.length exs 0

theorem test_refines {ev : Ev St P I V E} {spec : P → I → Outcome V E} {Inv : St → Prop}
    (hF : Faithful ev spec Inv) (k : Kind) (exs : List (I × V)) (st : St) (p : P) (h : Inv st) :
    Inv (test k ev exs st p).1 ∧ (test k ev exs st p).2.map Prod.fst = verdict k spec exs p := by
  cases k with
  | naive =>
    obtain ⟨h1, h2⟩ := testNaive_faithful hF exs st p h
    exact ⟨h1, by simp only [test]; rw [h2]; exact testNaive_verdict spec exs p⟩
  | cutoff =>
    obtain ⟨h1, h2⟩ := testCutoff_faithful hF exs st p h
    exact ⟨h1, by simp only [test]; rw [h2]; exact testCutoff_verdict spec exs p⟩

theorem verdict_ok (k : Kind) (spec : P → I → Outcome V E) (exs : List (I × V)) (p : P) (b : Bool)
    (h : verdict k spec exs p = .ok b) : b = sat spec exs p := by
  revert h
  fun_cases verdict k spec exs p with
  | case1 | case4 => exact nofun
  | case2 => intro h; cases h; rfl
  | case3 hf =>
    intro h; cases h
    exact (List.all_eq_true.mpr fun ex hex => by simpa using List.find?_eq_none.mp hf ex hex).symm
  | case5 ex hf hne =>
    intro h; cases h
    exact (List.all_eq_false.mpr ⟨ex, List.mem_of_find?_eq_some hf, by simpa using List.find?_some hf⟩).symm

theorem verdict_error_raised (k : Kind) (spec : P → I → Outcome V E) (exs : List (I × V)) (p : P) (e : E)
    (h : verdict k spec exs p = .error e) : ∃ ex ∈ exs, raisedOf (spec p ex.1) = some e := by
  revert h
  fun_cases verdict k spec exs p with
  | case2 | case3 | case5 => exact nofun
  | case1 e' hf => intro h; cases h; exact List.exists_of_findSome?_eq_some hf
  | case4 ex hf e' hs => intro h; cases h; exact ⟨ex, List.mem_of_find?_eq_some hf, by rw [hs]; rfl⟩

theorem verdict_error (k : Kind) (spec : P → I → Outcome V E) (exs : List (I × V)) (p : P) (e : E)
    (h : verdict k spec exs p = .error e) : sat spec exs p = false := by
  obtain ⟨ex, hmem, hr⟩ := verdict_error_raised k spec exs p e h
  refine List.all_eq_false.mpr ⟨ex, hmem, fun hm => ?_⟩
  rw [raisedOf_of_matches hm] at hr; cases hr

theorem verdict_of_no_raise (k : Kind) (spec : P → I → Outcome V E) (exs : List (I × V)) (p : P)
    (hne : ∀ ex ∈ exs, raisedOf (spec p ex.1) = none) : verdict k spec exs p = .ok (sat spec exs p) := by
  cases hv : verdict k spec exs p with
  | ok b => rw [verdict_ok k spec exs p b hv]
  | error e =>
    obtain ⟨ex, hmem, hr⟩ := verdict_error_raised k spec exs p e hv
    rw [hne ex hmem] at hr; cases hr

theorem verdict_naive_cutoff (spec : P → I → Outcome V E) (exs : List (I × V)) (p : P) (b : Bool)
    (h : verdict .naive spec exs p = .ok b) : verdict .cutoff spec exs p = .ok b := by
  rw [verdict_ok .naive spec exs p b h]
  apply verdict_of_no_raise
  -- the naive test evaluated every example: none raised
  simp only [verdict] at h
  split at h
  · cases h
  · next hnone => exact List.findSome?_eq_none_iff.mp hnone

theorem verdict_cutoff_naive_true (spec : P → I → Outcome V E) (exs : List (I × V)) (p : P)
    (h : verdict .cutoff spec exs p = .ok true) : verdict .naive spec exs p = .ok true := by
  have hs : sat spec exs p = true := (verdict_ok .cutoff spec exs p true h).symm
  cases hn : verdict .naive spec exs p with
  | ok b => rw [verdict_ok .naive spec exs p b hn, hs]
  | error e => rw [verdict_error .naive spec exs p e hn] at hs; cases hs

theorem naiveLoop_failed_stays (ev : Ev St P I V E) (p : P) (exs : List (I × V)) :
    ∀ (st : St) (success n' : Nat), (naiveLoop ev p st exs true success).2 = .ok (false, n') → False := by
  induction exs with
  | nil => intro st success n' h; cases h
  | cons ex rest ih =>
    intro st success n' h
    rw [naiveLoop_cons] at h
    split at h
    · cases h
    · split at h <;> exact ih _ _ n' h

theorem naiveLoop_counts (ev : Ev St P I V E) (p : P) (exs : List (I × V)) :
    ∀ (st : St) (failed : Bool) (success : Nat) (f' : Bool) (n' : Nat),
      (naiveLoop ev p st exs failed success).2 = .ok (f', n') →
      success ≤ n' ∧ n' ≤ success + exs.length ∧ (f' = false → n' = success + exs.length) := by
  induction exs with
  | nil => intro st failed success f' n' h; cases h; simp
  | cons ex rest ih =>
    intro st failed success f' n' h
    rw [naiveLoop_cons] at h
    split at h
    · cases h
    · simp only [List.length_cons]
      split at h <;> obtain ⟨h1, h2, h3⟩ := ih _ _ _ _ _ h
      · exact ⟨by omega, by omega, fun hf => by have := h3 hf; omega⟩
      · -- `failed` was set: the flag cannot come back to False
        exact ⟨h1, by omega, fun hf => (naiveLoop_failed_stays ev p rest _ success n' (hf ▸ h)).elim⟩

theorem testNaive_score (ev : Ev St P I V E) (exs : List (I × V)) (st : St) (p : P) (b : Bool) (sc : Score)
    (h : (testNaive ev exs st p).2 = .ok (b, sc)) :
    0 < sc.den ∧ sc.num ≤ sc.den ∧ (b = true → sc.num = sc.den) := by
  rw [testNaive_eq] at h
  cases hr : (naiveLoop ev p st exs false 0).2 with
  | error e => rw [hr] at h; cases h
  | ok v =>
    obtain ⟨f', n'⟩ := v
    have hc := naiveLoop_counts ev p exs st false 0 f' n' hr
    rw [hr] at h
    obtain ⟨rfl, rfl⟩ := Prod.mk.inj (Except.ok.inj h)
    by_cases hl : exs.length = 0
    · simp [hl]
    · simp only [hl, if_false]
      exact ⟨by omega, by omega, fun hbt => by have := hc.2.2 ((Bool.not_eq_true' f').mp hbt); omega⟩

theorem cutoffLoop_score (ev : Ev St P I V E) (p : P) (total : Nat) (exs : List (I × V)) :
    ∀ (st : St) (n : Nat) (b : Bool) (sc : Score),
      (cutoffLoop ev p total st exs n).2 = .ok (b, sc) →
      (b = true ∧ sc = ⟨1, 1⟩) ∨ (b = false ∧ sc.den = total ∧ n ≤ sc.num ∧ sc.num < n + exs.length) := by
  induction exs with
  | nil => intro st n b sc h; cases h; exact Or.inl ⟨rfl, rfl⟩
  | cons ex rest ih =>
    intro st n b sc h
    rw [cutoffLoop_cons] at h
    split at h
    · cases h
    · simp only [List.length_cons]
      split at h
      · rcases ih _ _ b sc h with h' | ⟨h1, h2, h3, h4⟩
        · exact Or.inl h'
        · exact Or.inr ⟨h1, h2, by omega, by omega⟩
      · cases h; exact Or.inr ⟨rfl, rfl, Nat.le_refl _, Nat.lt_add_of_pos_right (Nat.succ_pos _)⟩

theorem testCutoff_score (ev : Ev St P I V E) (exs : List (I × V)) (st : St) (p : P) (b : Bool) (sc : Score)
    (h : (testCutoff ev exs st p).2 = .ok (b, sc)) :
    0 < sc.den ∧ sc.num ≤ sc.den ∧ (b = true → sc.num = sc.den) := by
  rcases cutoffLoop_score ev p exs.length exs st 0 b sc h with ⟨hb, hsc⟩ | ⟨hb, h2, h3, h4⟩
  · subst hsc; simp
  · refine ⟨by omega, by omega, ?_⟩
    intro hbt; rw [hb] at hbt; cases hbt

end tests

section machine

/-- `T` (the solver's `_test_`) refines the verdict function `vd` under the evaluator invariant -/
def Refines (T : St → P → St × Except E (Bool × Score)) (vd : P → Except E Bool) (Inv : St → Prop) : Prop :=
  ∀ st p, Inv st → Inv (T st p).1 ∧ (T st p).2.map Prod.fst = vd p

/-- the second clause is there because a program whose test raises counts among the tested ones: `Ledger.yielded`
    filters a `pre` that ends with it -/
def VerdictSound (vd : P → Except E Bool) (sats : P → Bool) : Prop :=
  (∀ p b, vd p = .ok b → b = sats p) ∧ (∀ p e, vd p = .error e → sats p = false)

variable {T : St → P → St × Except E (Bool × Score)} {vd : P → Except E Bool} {sats : P → Bool}
  {Inv : St → Prop}

@[simp] theorem drive_finished (r : Stop E) (s : Solver P) (st : St) (as : List Bool) :
    drive T (.finished r s st) as = ⟨[], .finished r, s, st⟩ := by
  cases as <;> rfl

/-- The verdict enters as a variable `v` with `hv : vd p = v`: a caller that holds `hv : vd p = .ok true` (after
    `cases hv : vd p`) gets the one arm of the `match` by reduction; `generalizing := false` keeps `hv` out of the
    `match`. -/
theorem advance_step (hT : Refines T vd Inv) {st : St} (hst : Inv st) (s : Solver P) (p : P) (rest : List P)
    {dl : List Bool} (hd : deadlinePassed dl = false) {v : Except E Bool} (hv : vd p = v) :
    ∃ st', Inv st' ∧
      match (generalizing := false) v with
      | .error e =>
        advance T s st (p :: rest) dl = .finished (.raised e) { s with programs := s.programs + 1 } st'
      | .ok true => ∃ sc, advance T s st (p :: rest) dl =
        .yielded ⟨p, rest, dl.tail⟩ { s with programs := s.programs + 1, score := some sc } st'
      | .ok false => ∃ sc, advance T s st (p :: rest) dl =
        advance T { s with programs := s.programs + 1, score := some sc } st' rest dl.tail := by
  subst hv
  obtain ⟨h1, h2⟩ := hT st p hst
  rw [advance, hd, ← h2]
  generalize T st p = r at h1
  obtain ⟨st', e | ⟨b, sc⟩⟩ := r
  · exact ⟨st', h1, rfl⟩
  · cases b <;> exact ⟨st', h1, sc, rfl⟩

/-- Every run starts in one of seven ways, told apart by the clock, the verdict on the first program and the
    caller's answer; the test `T` and the evaluator state enter only through `vd` and `Inv`. -/
theorem Refines.run_induction (hT : Refines T vd Inv)
    {motive : Solver P → List P → List Bool → List Bool → Run St P E → Prop}
    (exhausted : ∀ s st dl as, Inv st → motive s [] dl as ⟨[], .finished .exhausted, s, st⟩)
    (timeout : ∀ s st p rest dl as, Inv st → deadlinePassed dl = true →
      motive s (p :: rest) dl as ⟨[], .finished .timeout, closeTask s p, st⟩)
    (raised : ∀ s st p rest dl as e, Inv st → deadlinePassed dl = false → vd p = .error e →
      motive s (p :: rest) dl as ⟨[], .finished (.raised e), { s with programs := s.programs + 1 }, st⟩)
    (rejected : ∀ s p rest dl as sc r, deadlinePassed dl = false → vd p = .ok false →
      motive { s with programs := s.programs + 1, score := some sc } rest dl.tail as r →
      motive s (p :: rest) dl as r)
    (suspended : ∀ s st p rest dl sc, Inv st → deadlinePassed dl = false → vd p = .ok true →
      motive s (p :: rest) dl []
        ⟨[p], .suspended, { s with programs := s.programs + 1, score := some sc }, st⟩)
    (accepted : ∀ s st p rest dl as sc, Inv st → deadlinePassed dl = false → vd p = .ok true →
      motive s (p :: rest) dl (true :: as)
        ⟨[p], .finished .accepted, closeTask { s with programs := s.programs + 1, score := some sc } p, st⟩)
    (refused : ∀ s p rest dl as sc r, deadlinePassed dl = false → vd p = .ok true →
      motive { s with programs := s.programs + 1, score := some sc } rest dl.tail as r →
      motive s (p :: rest) dl (false :: as) { r with yielded := p :: r.yielded })
    (es : List P) (s : Solver P) (st : St) (dl as : List Bool) (hst : Inv st) :
    motive s es dl as (drive T (advance T s st es dl) as) := by
  induction es generalizing s st dl as with
  | nil => rw [advance, drive_finished]; exact exhausted s st dl as hst
  | cons p rest ih =>
    cases hd : deadlinePassed dl with
    | true => rw [advance, hd, if_pos rfl, drive_finished]; exact timeout s st p rest dl as hst hd
    | false =>
      cases hv : vd p with
      | error e =>
        obtain ⟨st', hst', h⟩ := advance_step hT hst s p rest hd hv
        rw [h, drive_finished]; exact raised s st' p rest dl as e hst' hd hv
      | ok b =>
        cases b with
        | false =>
          obtain ⟨st', hst', sc, h⟩ := advance_step hT hst s p rest hd hv
          rw [h]; exact rejected s p rest dl as sc _ hd hv (ih _ st' dl.tail as hst')
        | true =>
          obtain ⟨st', hst', sc, h⟩ := advance_step hT hst s p rest hd hv
          rw [h]
          match as with
          | [] => exact suspended s st' p rest dl sc hst' hd hv
          | true :: as => rw [drive, send, if_pos rfl, drive_finished]; exact accepted s st' p rest dl as sc hst' hd hv
          | false :: as => exact refused s p rest dl as sc _ hd hv (ih _ st' dl.tail as hst')

theorem run_inv (hT : Refines T vd Inv) (es : List P) (s : Solver P) (st : St) (dl as : List Bool)
    (hst : Inv st) : Inv (drive T (advance T s st es dl) as).st :=
  hT.run_induction (motive := fun _ _ _ _ r => Inv r.st) (fun _ _ _ _ h => h) (fun _ _ _ _ _ _ h _ => h)
    (fun _ _ _ _ _ _ _ h _ _ => h) (fun _ _ _ _ _ _ _ _ _ h => h) (fun _ _ _ _ _ _ h _ _ => h)
    (fun _ _ _ _ _ _ _ h _ _ => h) (fun _ _ _ _ _ _ _ _ _ h => h) es s st dl as hst

/-- the machine yields what `specYields` lists: the programs that satisfy the examples among those tested to a
    verdict before the deadline or an escaping exception (`horizon`), up to and including the first one the
    caller accepts -/
theorem yields_spec (hT : Refines T vd Inv) (hv : VerdictSound vd sats) (es : List P) (s : Solver P) (st : St)
    (dl as : List Bool) (hst : Inv st) :
    (drive T (advance T s st es dl) as).yielded = specYields vd sats es dl as := by
  -- what is specified for `p :: rest` once `p` is tested to the verdict `b`
  have hcons : ∀ p rest dl as b, deadlinePassed dl = false → vd p = .ok b →
      specYields vd sats (p :: rest) dl as =
        upToAccepted (if b then p :: (rest.take (horizon vd rest dl.tail)).filter sats
          else (rest.take (horizon vd rest dl.tail)).filter sats) as := by
    intro p rest dl as b hd hvd
    have hb := hv.1 p b hvd
    cases b <;>
      simp [specYields, horizon, hd, hvd, List.take_succ_cons, List.filter_cons, ← hb, Nat.add_comm 1]
  refine hT.run_induction (motive := fun _ es dl as r => r.yielded = specYields vd sats es dl as)
    ?_ ?_ ?_ ?_ ?_ ?_ ?_ es s st dl as hst
  · intros; rfl
  · intro _ _ _ _ _ _ _ hd; simp [specYields, horizon, hd, upToAccepted]
  · intro _ _ _ _ _ _ _ _ hd hvd; simp [specYields, horizon, hd, hvd, upToAccepted]
  · intro _ p rest dl as _ _ hd hvd ih; rw [ih, hcons p rest dl as false hd hvd]; rfl
  · intro _ _ p rest dl _ _ hd hvd; rw [hcons p rest dl [] true hd hvd]; rfl
  · intro _ _ p rest dl as _ _ hd hvd; rw [hcons p rest dl _ true hd hvd]; rfl
  · intro _ p rest dl as _ _ hd hvd ih; rw [hcons p rest dl _ true hd hvd]; exact congrArg (p :: ·) ih

/-- the statistics of `s'` are those of `s` after `_close_task_solving_` on the program `p` -/
def Closed (s s' : Solver P) (p : P) : Prop :=
  s'.statsPrograms = s.statsPrograms + s'.programs ∧ s'.statsLast = some p ∧ s'.statsCloses = s.statsCloses + 1

/-- What a run `r` started on the solver `s` over `pre ++ post` leaves, `pre` being the programs that
    were tested: the counter, the yields, and the statistics — closed on the last tested program when
    it is accepted, on the first untested one at the deadline, untouched otherwise. -/
structure Ledger (sats : P → Bool) (s : Solver P) (pre post : List P) (r : Run St P E) : Prop where
  programs : r.solver.programs = s.programs + pre.length
  yielded : r.yielded = pre.filter sats
  accepted : r.status = .finished .accepted →
    ∃ pre' p, pre = pre' ++ [p] ∧ sats p = true ∧ Closed s r.solver p
  timeout : r.status = .finished .timeout → ∃ p post', post = p :: post' ∧ Closed s r.solver p
  exhausted : r.status = .finished .exhausted → post = []
  unclosed : r.status ≠ .finished .accepted → r.status ≠ .finished .timeout →
    r.solver.statsPrograms = s.statsPrograms ∧ r.solver.statsLast = s.statsLast ∧
      r.solver.statsCloses = s.statsCloses

theorem Ledger.stats {s : Solver P} {pre post : List P} {r : Run St P E} (h : Ledger sats s pre post r)
    (hc : r.status = .finished .accepted ∨ r.status = .finished .timeout) :
    r.solver.statsPrograms = s.statsPrograms + r.solver.programs := by
  rcases hc with hc | hc
  · obtain ⟨_, _, _, _, h1, _⟩ := h.accepted hc; exact h1
  · obtain ⟨_, _, _, h1, _⟩ := h.timeout hc; exact h1

theorem Ledger.cons {s : Solver P} {sc : Score} {p : P} {pre post : List P} {r : Run St P E}
    (h : Ledger sats { s with programs := s.programs + 1, score := some sc } pre post r) (ys : List P)
    (hy : (p :: pre).filter sats = ys ++ pre.filter sats) :
    Ledger sats s (p :: pre) post { r with yielded := ys ++ r.yielded } where
  programs := by rw [h.programs, List.length_cons]; exact Nat.add_right_comm ..
  yielded := by rw [hy, ← h.yielded]
  accepted e := let ⟨pre', q, hp, hq, hc⟩ := h.accepted e; ⟨p :: pre', q, by rw [hp]; rfl, hq, hc⟩
  timeout := h.timeout
  exhausted := h.exhausted
  unclosed := h.unclosed

theorem run_ledger (hT : Refines T vd Inv) (hv : VerdictSound vd sats) (es : List P) (s : Solver P) (st : St)
    (dl as : List Bool) (hst : Inv st) :
    ∃ pre post, es = pre ++ post ∧ Ledger sats s pre post (drive T (advance T s st es dl) as) := by
  refine hT.run_induction (motive := fun s es _ _ r => ∃ pre post, es = pre ++ post ∧ Ledger sats s pre post r)
    ?_ ?_ ?_ ?_ ?_ ?_ ?_ es s st dl as hst
  · intro s st _ _ _
    exact ⟨[], [], rfl, rfl, rfl, nofun, nofun, fun _ => rfl, fun _ _ => ⟨rfl, rfl, rfl⟩⟩
  · intro s st p rest _ _ _ _
    exact ⟨[], p :: rest, rfl, rfl, rfl, nofun, fun _ => ⟨p, rest, rfl, rfl, rfl, rfl⟩, nofun,
      fun _ h => (h rfl).elim⟩
  · intro s st p rest _ _ e _ _ hvd
    exact ⟨[p], rest, rfl, rfl, by simp [hv.2 p e hvd], nofun, nofun, nofun, fun _ _ => ⟨rfl, rfl, rfl⟩⟩
  · intro s p rest _ _ sc r _ hvd ⟨pre, post, he, h⟩
    exact ⟨p :: pre, post, by rw [he]; rfl, h.cons [] (by simp [← hv.1 p _ hvd])⟩
  · intro s st p rest _ sc _ _ hvd
    exact ⟨[p], rest, rfl, rfl, by simp [← hv.1 p _ hvd], nofun, nofun, nofun, fun _ _ => ⟨rfl, rfl, rfl⟩⟩
  · intro s st p rest _ _ sc _ _ hvd
    exact ⟨[p], rest, rfl, rfl, by simp [← hv.1 p _ hvd],
      fun _ => ⟨[], p, rfl, (hv.1 p _ hvd).symm, rfl, rfl, rfl⟩, nofun, nofun, fun h => (h rfl).elim⟩
  · intro s p rest _ _ sc r _ hvd ⟨pre, post, he, h⟩
    exact ⟨p :: pre, post, by rw [he]; rfl, h.cons [p] (by simp [← hv.1 p _ hvd])⟩

theorem mem_prefix_of_split {α : Type} {pre post pre' post' : List α} {q : α}
    (h : pre ++ q :: post = pre' ++ post') (hl : pre.length < pre'.length) : q ∈ pre' := by
  have := congrArg (·[pre.length]?) h
  simp only [List.getElem?_append_left hl, List.getElem?_append_right (Nat.le_refl _), Nat.sub_self,
    List.getElem?_cons_zero] at this
  exact List.mem_of_getElem? this.symm

theorem deadline_of_take {dl : List Bool} {n : Nat} (h : ∀ b ∈ dl.take (n + 1), b = false) :
    deadlinePassed dl = false ∧ ∀ b ∈ dl.tail.take n, b = false := by
  cases dl with
  | nil => exact ⟨rfl, by simp⟩
  | cons b r => exact ⟨h b List.mem_cons_self, fun c hc => h c (List.mem_cons_of_mem b hc)⟩

theorem advance_to_yield (hT : Refines T vd Inv) (p : P) (post : List P) (hp : vd p = .ok true) (pre : List P) :
    ∀ (s : Solver P) (st : St) (dl : List Bool), Inv st →
      (∀ q ∈ pre, vd q = .ok false) → (∀ b ∈ dl.take (pre.length + 1), b = false) →
      ∃ s' st', advance T s st (pre ++ p :: post) dl = .yielded ⟨p, post, dl.drop (pre.length + 1)⟩ s' st' ∧
        Inv st' := by
  induction pre with
  | nil =>
    intro s st dl hst _ hdl
    obtain ⟨st', hst', sc, h⟩ := advance_step hT hst s p post (deadline_of_take hdl).1 hp
    exact ⟨_, st', by rw [List.nil_append, h, ← List.drop_one]; rfl, hst'⟩
  | cons x pre ih =>
    intro s st dl hst hpre hdl
    obtain ⟨hd, hdl'⟩ := deadline_of_take hdl
    obtain ⟨st', hst', sc, h⟩ := advance_step hT hst s x (pre ++ p :: post) hd (hpre x List.mem_cons_self)
    obtain ⟨s', st'', h', hst''⟩ :=
      ih _ st' dl.tail hst' (fun q hq => hpre q (List.mem_cons_of_mem _ hq)) hdl'
    exact ⟨s', st'', by rw [List.cons_append, h, h', List.drop_tail]; rfl, hst''⟩

/-- equal up to `_score` -/
def SameStats (s s₂ : Solver P) : Prop :=
  s.statsPrograms = s₂.statsPrograms ∧ s.statsLast = s₂.statsLast ∧ s.statsCloses = s₂.statsCloses ∧
    s.programs = s₂.programs

theorem SameStats.counted {s s₂ : Solver P} (h : SameStats s s₂) (x y : Option Score) :
    SameStats { s with programs := s.programs + 1, score := x } { s₂ with programs := s₂.programs + 1, score := y } :=
  ⟨h.1, h.2.1, h.2.2.1, congrArg (· + 1) h.2.2.2⟩

theorem SameStats.closeTask {s s₂ : Solver P} (h : SameStats s s₂) (p : P) :
    SameStats (closeTask s p) (closeTask s₂ p) := by
  simp [SameStats, PS.C10.closeTask, h.1, h.2.2.1, h.2.2.2]

theorem runs_agree {St₂ : Type} {T₂ : St₂ → P → St₂ × Except E (Bool × Score)} {vd₂ : P → Except E Bool}
    {Inv₂ : St₂ → Prop} (hT : Refines T vd Inv) (hT₂ : Refines T₂ vd₂ Inv₂) (es : List P) (s : Solver P) (st : St)
    (dl as : List Bool) (hst : Inv st) :
    ∀ (s₂ : Solver P) (st₂ : St₂), Inv₂ st₂ → (∀ p ∈ es, vd p = vd₂ p) → SameStats s s₂ →
      (drive T (advance T s st es dl) as).yielded = (drive T₂ (advance T₂ s₂ st₂ es dl) as).yielded ∧
      (drive T (advance T s st es dl) as).status = (drive T₂ (advance T₂ s₂ st₂ es dl) as).status ∧
      SameStats (drive T (advance T s st es dl) as).solver (drive T₂ (advance T₂ s₂ st₂ es dl) as).solver := by
  refine hT.run_induction (motive := fun s es dl as r => ∀ (s₂ : Solver P) (st₂ : St₂), Inv₂ st₂ →
      (∀ p ∈ es, vd p = vd₂ p) → SameStats s s₂ →
      r.yielded = (drive T₂ (advance T₂ s₂ st₂ es dl) as).yielded ∧
      r.status = (drive T₂ (advance T₂ s₂ st₂ es dl) as).status ∧
      SameStats r.solver (drive T₂ (advance T₂ s₂ st₂ es dl) as).solver)
    ?_ ?_ ?_ ?_ ?_ ?_ ?_ es s st dl as hst
  -- in each case the second machine takes the same step, by `advance_step` and the equal verdict
  · intro s _ _ _ _ s₂ _ _ _ hs
    rw [advance, drive_finished]; exact ⟨rfl, rfl, hs⟩
  · intro s _ p _ _ _ _ hd s₂ _ _ _ hs
    rw [advance, hd, if_pos rfl, drive_finished]; exact ⟨rfl, rfl, hs.closeTask p⟩
  · intro s _ p rest _ _ e _ hd hvd s₂ st₂ hst₂ hag hs
    obtain ⟨_, _, h⟩ := advance_step hT₂ hst₂ s₂ p rest hd ((hag p List.mem_cons_self).symm.trans hvd)
    rw [h, drive_finished]; exact ⟨rfl, rfl, hs.counted _ _⟩
  · intro s p rest _ _ sc _ hd hvd ih s₂ st₂ hst₂ hag hs
    obtain ⟨st₂', hst₂', sc₂, h⟩ := advance_step hT₂ hst₂ s₂ p rest hd ((hag p List.mem_cons_self).symm.trans hvd)
    rw [h]
    exact ih _ st₂' hst₂' (fun q hq => hag q (List.mem_cons_of_mem _ hq)) (hs.counted _ _)
  · intro s _ p rest _ sc _ hd hvd s₂ st₂ hst₂ hag hs
    obtain ⟨_, _, sc₂, h⟩ := advance_step hT₂ hst₂ s₂ p rest hd ((hag p List.mem_cons_self).symm.trans hvd)
    rw [h]; exact ⟨rfl, rfl, hs.counted _ _⟩
  · intro s _ p rest _ _ sc _ hd hvd s₂ st₂ hst₂ hag hs
    obtain ⟨_, _, sc₂, h⟩ := advance_step hT₂ hst₂ s₂ p rest hd ((hag p List.mem_cons_self).symm.trans hvd)
    rw [h, drive, send, if_pos rfl, drive_finished]
    exact ⟨rfl, rfl, (hs.counted _ _).closeTask p⟩
  · intro s p rest _ _ sc _ hd hvd ih s₂ st₂ hst₂ hag hs
    obtain ⟨st₂', hst₂', sc₂, h⟩ := advance_step hT₂ hst₂ s₂ p rest hd ((hag p List.mem_cons_self).symm.trans hvd)
    rw [h, drive, send, if_neg Bool.false_ne_true]
    obtain ⟨g1, g2, g3⟩ := ih _ st₂' hst₂' (fun q hq => hag q (List.mem_cons_of_mem _ hq)) (hs.counted _ _)
    exact ⟨congrArg (p :: ·) g1, g2, g3⟩

end machine

section glue
variable [DecidableEq V]

theorem refines_of_faithful {ev : Ev St P I V E} {spec : P → I → Outcome V E} {Inv : St → Prop}
    (hF : Faithful ev spec Inv) (k : Kind) (exs : List (I × V)) :
    Refines (test k ev exs) (verdict k spec exs) Inv ∧ VerdictSound (verdict k spec exs) (sat spec exs) :=
  ⟨fun st p h => test_refines hF k exs st p h,
   ⟨fun p b h => verdict_ok k spec exs p b h, fun p e h => verdict_error k spec exs p e h⟩⟩

omit [DecidableEq V] in
theorem upToAccepted_sublist (l : List P) (as : List Bool) : ∀ p ∈ upToAccepted l as, p ∈ l := by
  fun_induction upToAccepted l as with
  | case1 => exact fun _ h => h
  | case2 | case3 => exact fun _ h => List.mem_cons.mpr (.inl (List.mem_singleton.mp h))
  | case4 p ps as ih =>
    exact fun q h => (List.mem_cons.mp h).elim (· ▸ List.mem_cons_self) fun h => List.mem_cons_of_mem _ (ih q h)

theorem horizon_full (k : Kind) (spec : P → I → Outcome V E) (exs : List (I × V)) (es : List P)
    (dl : List Bool) (hdl : ∀ b ∈ dl, b = false)
    (hne : ∀ p ∈ es, ∀ ex ∈ exs, raisedOf (spec p ex.1) = none) :
    horizon (verdict k spec exs) es dl = es.length := by
  induction es generalizing dl with
  | nil => rfl
  | cons p rest ih =>
    obtain ⟨hd, hdl'⟩ : deadlinePassed dl = false ∧ ∀ b ∈ dl.tail, b = false := by
      cases dl with
      | nil => exact ⟨rfl, nofun⟩
      | cons b r => exact ⟨hdl b List.mem_cons_self, fun c hc => hdl c (List.mem_cons_of_mem _ hc)⟩
    simp only [horizon, hd, verdict_of_no_raise k spec exs p (hne p List.mem_cons_self), Bool.false_eq_true,
      if_false, List.length_cons, ih dl.tail hdl' (fun q hq => hne q (List.mem_cons_of_mem _ hq))]
    exact Nat.add_comm ..

/-- `run_ledger` for `solve` over a faithful evaluator; `solve` starts the counter `_programs` at 0, hence the last
    conjunct -/
theorem solve_ledger {ev : Ev St P I V E} {spec : P → I → Outcome V E} {Inv : St → Prop}
    (hF : Faithful ev spec Inv) (k : Kind) (exs : List (I × V)) (s : Solver P) (st : St) (hst : Inv st)
    (es : List P) (dl as : List Bool) :
    ∃ pre post, es = pre ++ post ∧
      Ledger (sat spec exs) (initTask s) pre post (solve (test k ev exs) s st es dl as) ∧
      (solve (test k ev exs) s st es dl as).solver.programs = pre.length := by
  obtain ⟨hT, hv⟩ := refines_of_faithful hF k exs
  obtain ⟨pre, post, he, h⟩ := run_ledger hT hv es (initTask s) st dl as hst
  exact ⟨pre, post, he, h, h.programs.trans (Nat.zero_add _)⟩

end glue

end PS.C10
