/-
  C01, last sentence: termination of the worklist loop of `CFG.infinite` (`closureWith (ruleSetInf P)`,
  PS/Model/CfgInfinite.lean) when `n_gram ≥ 0`.

  A counting argument for any rule-creation function: if the non-terminals that can be pushed stay in a finite list
  `U` and every non-terminal pushes at most `K` non-terminals, the loop ends within `1 + |U|·(K+1)` iterations.  For
  `CFG.infinite` the universe `ntU` is: a type among the argument types of the heads (or the requested return type),
  an n-gram of length ≤ `n_gram` over (head, argument index) pairs, depth 0.

  With `n_gram < 0` the n-gram grows without bound: on the DSL {neg : int -> int, 1 : int} the loop started on any
  single non-terminal whose n-gram is longer than all those of the table returns `none` for every fuel; the statement
  about the start symbol (the documented exclusion) is `C01_infinite_loops_neg` in PS/Props/C01.lean.
-/
import PS.Proofs.CfgInfiniteDepth
import PS.Proofs.ListSum
namespace PS.G
open PS

/-- `m` bounds the number of non-terminals of `U` that are not yet keys: each of them costs one iteration for
    itself and one for each of the at most `K` non-terminals it pushes. -/
theorem closureWith_terminates (R : CNT → List Rule) (Inv : CNT → Prop) (U : List CNT) (K : Nat)
    (hU : ∀ nt, Inv nt → nt ∈ U)
    (hK : ∀ nt, (kidsW R nt).length ≤ K)
    (hcl : ∀ nt, Inv nt → ∀ k ∈ kidsW R nt, Inv k) :
    ∀ (fuel : Nat) (todo : List CNT) (tbl : Table) (m : Nat), (AList.keys tbl).Nodup →
      (∀ k ∈ AList.keys tbl, Inv k) → (∀ k ∈ todo, Inv k) → U.length ≤ tbl.length + m →
      todo.length + m * (K + 1) ≤ fuel → (closureWith R fuel todo tbl).isSome = true := by
  intro fuel todo tbl m hnd hkeys htodo hm h
  rw [closureWith_eq]
  obtain ⟨T, hT, _⟩ := gloop_terminates none some (closureStep R)
    (fun todo tbl => todo.length + (U.length - tbl.length) * (K + 1))
    (fun todo tbl => (AList.keys tbl).Nodup ∧ (∀ k ∈ AList.keys tbl, Inv k) ∧ ∀ k ∈ todo, Inv k)
    (fun nt todo tbl ⟨hnd, hkeys, htodo⟩ => by
      obtain ⟨hnt, htodo⟩ := List.forall_mem_cons.mp htodo
      unfold closureStep
      split
      · exact ⟨_, _, rfl, by rw [List.length_cons]; omega, hnd, hkeys, htodo⟩
      · rename_i hk
        have hnd' : (AList.keys (tbl ++ [(nt, rulesDict (R nt))])).Nodup := AList.keys_snoc_nodup _ hnd hk
        have hkeys' : ∀ k ∈ AList.keys (tbl ++ [(nt, rulesDict (R nt))]), Inv k := by
          rw [AList.keys_snoc, List.forall_mem_append]
          exact ⟨hkeys, List.forall_mem_singleton.mpr hnt⟩
        -- the new keys still fit in `U`
        have hle := hnd'.length_le_of_subset (fun k hk' => hU k (hkeys' k hk'))
        rw [AList.keys, List.length_map, List.length_append, List.length_singleton] at hle
        refine ⟨_, _, rfl, ?_, hnd', hkeys', List.forall_mem_append.mpr ⟨htodo, hcl nt hnt⟩⟩
        obtain ⟨e, he⟩ := Nat.exists_eq_add_of_le hle
        show (todo ++ kidsW R nt).length + (U.length - (tbl ++ [(nt, rulesDict (R nt))]).length) * (K + 1) <
          (nt :: todo).length + (U.length - tbl.length) * (K + 1)
        rw [List.length_append (as := tbl), List.length_singleton, he, Nat.add_sub_cancel_left, Nat.add_assoc,
          Nat.add_sub_cancel_left, Nat.add_mul, Nat.one_mul, List.length_append, List.length_cons]
        have := hK nt
        generalize e * (K + 1) = x
        omega) fuel todo tbl ⟨hnd, hkeys, htodo⟩
    (Nat.le_trans (Nat.add_le_add_left (Nat.mul_le_mul_right _ (Nat.sub_le_of_le_add (Nat.add_comm _ _ ▸ hm))) _) h)
  rw [hT]; rfl

/-- every symbol that can be applied -/
def headsU (P : Params) : List Sym :=
  P.prims ++ (enumFrom' P.request.arguments).map (fun iv => Sym.var iv.1 iv.2) ++ [selfSym P]

/-- every (head, argument index) pair that an n-gram can hold -/
def pairU (P : Params) : List (Sym × Nat) :=
  (headsU P).flatMap (fun h => (List.range h.ty.arguments.length).map (fun i => (h, i)))

/-- every type a non-terminal can have -/
def tyU (P : Params) : List Ty :=
  P.request.returns :: (headsU P).flatMap (fun h => h.ty.arguments)

/-- all lists of length at most `k` over `A` -/
def listsLe {α : Type} (A : List α) : Nat → List (List α)
  | 0 => [[]]
  | k + 1 => [] :: A.flatMap (fun a => (listsLe A k).map (fun l => a :: l))

theorem mem_listsLe {α : Type} (A : List α) :
    ∀ (k : Nat) (l : List α), l.length ≤ k → (∀ x ∈ l, x ∈ A) → l ∈ listsLe A k := by
  intro k
  induction k with
  | zero =>
    intro l hl _
    cases List.length_eq_zero_iff.mp (Nat.le_zero.mp hl)
    exact List.mem_singleton_self _
  | succ k ih =>
    intro l hl hA
    cases l with
    | nil => simp [listsLe]
    | cons a l =>
      rw [listsLe]
      apply List.mem_cons_of_mem
      rw [List.mem_flatMap]
      refine ⟨a, hA a (by simp), ?_⟩
      rw [List.mem_map]
      exact ⟨l, ih l (Nat.le_of_succ_le_succ hl) (fun x hx => hA x (List.mem_cons_of_mem _ hx)), rfl⟩

/-- the finite universe of non-terminals of `CFG.infinite` (for `n_gram ≥ 0`) -/
def ntU (P : Params) : List CNT :=
  (tyU P).flatMap (fun ty => (listsLe (pairU P) P.nGram.toNat).map (fun c => (ty, ((c, 0), ()))))

/-- membership in the universe, as a predicate -/
def InU (P : Params) (nt : CNT) : Prop :=
  nt.1 ∈ tyU P ∧ nt.2.1.1.length ≤ P.nGram.toNat ∧ (∀ x ∈ nt.2.1.1, x ∈ pairU P) ∧ nt.2.1.2 = 0

theorem mem_ntU (P : Params) (nt : CNT) (h : InU P nt) : nt ∈ ntU P := by
  obtain ⟨ty, ⟨ctx, d⟩, ⟨⟩⟩ := nt
  obtain ⟨h1, h2, h3, h4⟩ := h
  simp only at h1 h2 h3 h4
  subst h4
  unfold ntU
  rw [List.mem_flatMap]
  refine ⟨ty, h1, ?_⟩
  rw [List.mem_map]
  exact ⟨ctx, mem_listsLe _ _ ctx h2 h3, rfl⟩

theorem inU_start (P : Params) : InU P (startNT P) :=
  ⟨by simp [startNT, tyU], by simp [startNT], fun x hx => by simp [startNT] at hx, rfl⟩

theorem successor_bound (n : Int) (hn : 0 ≤ n) (preds : List (Sym × Nat)) (new : Sym × Nat)
    (h : preds.length ≤ n.toNat) :
    (successor n preds new).length ≤ n.toNat ∧ ∀ x ∈ successor n preds new, x = new ∨ x ∈ preds := by
  unfold successor
  split
  · refine ⟨by rw [List.length_dropLast]; simp only [List.length_cons]; omega, ?_⟩
    intro x hx
    have := (List.dropLast_sublist (new :: preds)).subset hx
    simpa using this
  · rename_i hc
    refine ⟨by simp only [List.length_cons]; omega, ?_⟩
    intro x hx
    simpa using hx

theorem head_mem_headsU (P : Params) (forb : List String) (ty : Ty) (h : Sym × List Ty)
    (hm : h ∈ appHeadsInf P forb ty) : h.1 ∈ headsU P := by
  unfold headsU
  rcases (mem_appHeadsInf P forb ty h).mp hm with ⟨p, hp, _, _, hf⟩ | ⟨iv, hiv, _, _, hf⟩ | ⟨_, _, hf⟩
  · rw [hf]; exact List.mem_append_left _ (List.mem_append_left _ hp)
  · rw [hf]
    exact List.mem_append_left _ (List.mem_append_right _ (List.mem_map.mpr ⟨iv, hiv, rfl⟩))
  · rw [hf]; exact List.mem_append_right _ (by simp)

theorem ruleSetInf_arg (P : Params) (nt : CNT) (r : Rule) (hr : r ∈ ruleSetInf P nt)
    (a : Ty × CFGState) (ha : a ∈ r.2) :
    ∃ i, r.1 ∈ headsU P ∧ i < r.1.ty.arguments.length ∧ a.1 ∈ r.1.ty.arguments ∧
      a.2 = (successor P.nGram nt.2.1.1 (r.1, i), 0) := by
  unfold ruleSetInf at hr
  simp only at hr
  rcases List.mem_append.mp hr with hr | hr
  · obtain ⟨s, _, rfl⟩ := List.mem_map.mp hr
    cases ha
  · obtain ⟨hd, hhd, rfl⟩ := List.mem_map.mp hr
    have hpre := endsWith_prefix _ _ _ (appHeadsInf_ty P _ _ hd hhd)
    unfold childNTsInf at ha
    obtain ⟨x, hx, rfl⟩ := List.mem_map.mp ha
    have hx' := List.mem_zipIdx_iff_getElem?.mp hx
    obtain ⟨hlt, _⟩ := List.getElem?_eq_some_iff.mp hx'
    refine ⟨x.2, head_mem_headsU P _ _ hd hhd, ?_, hpre.subset (List.mem_of_getElem? hx'), rfl⟩
    exact Nat.lt_of_lt_of_le hlt hpre.length_le

theorem inU_kids (P : Params) (hn : 0 ≤ P.nGram) (nt : CNT) (h : InU P nt) :
    ∀ k ∈ kidsW (ruleSetInf P) nt, InU P k := by
  intro k hk
  obtain ⟨r, hr, a, ha, rfl⟩ := (mem_kidsW _ nt k).mp hk
  obtain ⟨i, hh, hi, hty, ha2⟩ := ruleSetInf_arg P nt r hr a ha
  obtain ⟨_, h2, h3, _⟩ := h
  have hs := successor_bound P.nGram hn nt.2.1.1 (r.1, i) h2
  refine ⟨?_, ?_, ?_, ?_⟩
  · change a.1 ∈ tyU P
    unfold tyU
    apply List.mem_cons_of_mem
    exact List.mem_flatMap.mpr ⟨r.1, hh, hty⟩
  · change a.2.1.length ≤ _
    rw [ha2]; exact hs.1
  · change ∀ x ∈ a.2.1, x ∈ pairU P
    rw [ha2]
    intro x hx
    rcases hs.2 x hx with rfl | hx
    · unfold pairU
      exact List.mem_flatMap.mpr ⟨r.1, hh, List.mem_map.mpr ⟨i, List.mem_range.mpr hi, rfl⟩⟩
    · exact h3 x hx
  · change a.2.2 = 0
    rw [ha2]

/-- a bound on the arity of a head -/
def arityU (P : Params) : Nat := ((headsU P).map (fun h => h.ty.arguments.length)).sum

/-- a bound on the number of rules of a non-terminal -/
def widthU (P : Params) : Nat := 2 * (P.prims.length + P.request.arguments.length + 1)

/-- a bound on the number of non-terminals pushed in one iteration -/
def kidBound (P : Params) : Nat := widthU P * arityU P

theorem enumFrom'_length {α : Type} (l : List α) : (enumFrom' l).length = l.length := by
  simp [enumFrom']

theorem ruleSetInf_length (P : Params) (nt : CNT) : (ruleSetInf P nt).length ≤ widthU P := by
  unfold ruleSetInf
  simp only [List.length_append, List.length_map]
  have h1 : (leafSymsInf P (forbAt P nt.2.1.1.head?) nt.1).length ≤
      P.request.arguments.length + 1 + P.prims.length := by
    unfold leafSymsInf
    simp only [List.length_append]
    have a1 := List.length_filterMap_le (fun iv : Nat × Ty =>
      if nt.1 = iv.2 then some (Sym.var iv.1 nt.1) else none) (enumFrom' P.request.arguments)
    have a2 := List.length_filter_le (fun p : Sym =>
      !((forbAt P nt.2.1.1.head?).contains p.name) && p.ty == nt.1) P.prims
    rw [enumFrom'_length] at a1
    have a3 : (if P.constTypes.contains nt.1 = true then [Sym.const nt.1 ""] else []).length ≤ 1 := by
      split <;> simp
    omega
  have h2 : (appHeadsInf P (forbAt P nt.2.1.1.head?) nt.1).length ≤
      P.prims.length + P.request.arguments.length + 1 := by
    unfold appHeadsInf
    simp only [List.length_append]
    refine Nat.add_le_add (Nat.add_le_add (List.length_filterMap_le _ _) ?_) ?_
    · exact Nat.le_trans (List.length_filterMap_le _ _) (Nat.le_of_eq (enumFrom'_length _))
    · split
      · split <;> simp
      · simp
  unfold widthU
  omega

theorem kidsW_inf_length (P : Params) (nt : CNT) : (kidsW (ruleSetInf P) nt).length ≤ kidBound P := by
  unfold kidsW
  rw [List.length_flatMap]
  have h1 : ∀ r ∈ ruleSetInf P nt, (List.map toNT r.2).length ≤ arityU P := by
    intro r hr
    rw [List.length_map]
    cases hargs : r.2 with
    | nil => simp
    | cons a as =>
      obtain ⟨i, hh, _, _, _⟩ := ruleSetInf_arg P nt r hr a (by rw [hargs]; simp)
      -- the argument list is a prefix image of the head's arguments
      have hlen : r.2.length ≤ r.1.ty.arguments.length := by
        rw [ruleSetInf_args P nt r hr]
        unfold argsOfInf childNTsInf
        simp only [List.length_map, List.length_zipIdx]
        cases he : r.1.ty.endsWith nt.1 with
        | none => simp
        | some tys => simpa using (endsWith_prefix _ _ _ he).length_le
      rw [hargs] at hlen
      exact Nat.le_trans hlen (le_sum_map_of_mem (fun h : Sym => h.ty.arguments.length) (headsU P) r.1 hh)
  have := sum_map_le (fun r : Rule => (List.map toNT r.2).length) (arityU P) (ruleSetInf P nt) h1
  have hw := ruleSetInf_length P nt
  unfold kidBound
  exact Nat.le_trans this (Nat.mul_le_mul_right _ hw)

def infFuel (P : Params) : Nat := 1 + (ntU P).length * (kidBound P + 1)

theorem infinite_terminates (P : Params) (hn : 0 ≤ P.nGram) (fuel : Nat) (hf : infFuel P ≤ fuel) :
    (closureWith (ruleSetInf P) fuel [startNT P] []).isSome = true := by
  apply closureWith_terminates (ruleSetInf P) (InU P) (ntU P) (kidBound P) (mem_ntU P)
    (kidsW_inf_length P) (inU_kids P hn) fuel [startNT P] [] (ntU P).length List.nodup_nil
    (fun k hk => nomatch hk) (List.forall_mem_singleton.mpr (inU_start P)) (Nat.le_add_left ..)
  exact hf

namespace NegExample
def int : Ty := .base "int"
def negS : Sym := Sym.prim "neg" (.arrow int int)
def oneS : Sym := Sym.prim "1" int
/-- DSL {neg : int -> int, 1 : int}, request int, unbounded n-grams -/
def Pneg : Params := { prims := [negS, oneS], forbidden := [], request := int, maxDepth := 0, minVarDepth := 0,
                       nGram := -1, recursive := false, constTypes := [] }
end NegExample

open NegExample in
theorem neg_kids (ctx : List (Sym × Nat)) (d : Nat) :
    kidsW (ruleSetInf Pneg) (int, ((ctx, d), ())) = [(int, (((negS, 0) :: ctx, 0), ()))] := by
  have hforb : forbAt Pneg ctx.head? = [] := rfl
  have hleaf : leafSymsInf Pneg [] int = [oneS] := by decide
  have hheads : appHeadsInf Pneg [] int = [(negS, [int]), (oneS, [])] := by decide
  unfold kidsW ruleSetInf
  simp only [hforb, hleaf, hheads]
  have hng : Pneg.nGram = -1 := rfl
  simp [childNTsInf, successor, toNT, hng]

open NegExample in
/-- on `Pneg` the pending list always holds one non-terminal whose n-gram is longer than every
    n-gram of the table: the loop never ends -/
theorem neg_loops_aux : ∀ (fuel : Nat) (ctx : List (Sym × Nat)) (d : Nat) (tbl : Table),
    (∀ k ∈ AList.keys tbl, k.2.1.1.length < ctx.length) →
    closureWith (ruleSetInf Pneg) fuel [(int, ((ctx, d), ()))] tbl = none := by
  intro fuel
  induction fuel with
  | zero => intro ctx d tbl _; rfl
  | succ fuel ih =>
    intro ctx d tbl h
    rw [closureWith]
    have hk : ¬ AList.contains (int, ((ctx, d), ())) tbl = true := by
      intro hc
      have := h _ (AList.mem_keys_iff_contains.mpr hc)
      simp at this
    simp only [hk, Bool.false_eq_true, if_false]
    have hkids := neg_kids ctx d
    unfold kidsW at hkids
    rw [hkids]
    apply ih
    intro k hk'
    rcases AList.mem_keys_insert.mp hk' with h1 | h1
    · subst h1; simp
    · have := h k h1; simp only [List.length_cons]; omega

end PS.G
