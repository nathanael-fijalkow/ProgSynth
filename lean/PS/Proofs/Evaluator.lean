/- C11: the memoising evaluator returns what the compositional `denote` returns. One run keeps the memo table
   sound and only extends it (`Ran`). -/
import PS.Model.Evaluator
import PS.Proofs.OptAll
import PS.Proofs.AList
import PS.Proofs.Tree
namespace PS.C11
open PS

variable {σ V E : Type} [DecidableEq σ]

def MemoSound (S : Sem σ V E) (inp : List V) (ev : Memo σ V) : Prop :=
  ∀ q v, AList.lookup q ev = some v → denote S inp q = .ok v

def Ext (ev ev' : Memo σ V) : Prop :=
  ∀ q v, AList.lookup q ev = some v → AList.lookup q ev' = some v

theorem MemoSound.nil (S : Sem σ V E) (inp : List V) : MemoSound S inp [] := nofun

theorem Ext.refl (ev : Memo σ V) : Ext ev ev := fun _ _ h => h
theorem Ext.trans {a b c : Memo σ V} (h1 : Ext a b) (h2 : Ext b c) : Ext a c :=
  fun q v h => h2 q v (h1 q v h)

theorem Ext_insert {ev : Memo σ V} {q : Tree σ} (v : V) (h : AList.lookup q ev = none) :
    Ext ev (AList.insert q v ev) := by
  intro q' v' h'
  rw [AList.lookup_insert]
  by_cases hq : q' = q
  · subst hq; rw [h] at h'; cases h'
  · simp [hq, h']

theorem MemoSound_insert {S : Sem σ V E} {inp : List V} {ev : Memo σ V} {q : Tree σ} {v : V}
    (hs : MemoSound S inp ev) (hq : denote S inp q = .ok v) :
    MemoSound S inp (AList.insert q v ev) :=
  AList.forall_insert (P := fun q v => denote S inp q = .ok v) (fun q' v' _ h => hs q' v' h) hq

theorem lookupAll_eq_optAll (ev : Memo σ V) (ts : List (Tree σ)) :
    lookupAll ev ts = optAll (fun t => AList.lookup t ev) ts := by
  induction ts with
  | nil => rfl
  | cons t ts ih => rw [lookupAll, optAll, ih]; cases AList.lookup t ev <;> cases optAll _ ts <;> rfl

theorem lookupAll_ext {ev ev' : Memo σ V} (hext : Ext ev ev') :
    ∀ (ts : List (Tree σ)) (vs : List V), lookupAll ev ts = some vs → lookupAll ev' ts = some vs := by
  intro ts vs h
  rw [lookupAll_eq_optAll] at h ⊢
  exact optAll_mono (fun t _ v _ => hext t v) h

theorem denoteList_of_lookupAll {S : Sem σ V E} {inp : List V} {ev : Memo σ V}
    (hs : MemoSound S inp ev) (ts : List (Tree σ)) (vs : List V) (h : lookupAll ev ts = some vs) :
    denoteList S inp ts = .ok vs := by
  fun_induction lookupAll ev ts generalizing vs with
  | case1 => cases h; rfl
  | case2 t ts v vs' hvs hv ih => cases h; simp [denoteList, hs t v hv, ih vs' hvs]
  | case3 => cases h

theorem loop_append (S : Sem σ V E) (inp : List V) (ev : Memo σ V) (a b : List (Tree σ)) :
    loop S inp ev (a ++ b) =
      match loop S inp ev a with
      | (ev', some e) => (ev', some e)
      | (ev', none) => loop S inp ev' b := by
  fun_induction loop S inp ev a with
  | case1 ev => rfl
  | case2 ev sub rest ev' e h => simp [loop, h]
  | case3 ev sub rest ev' h ih => simp [loop, h, ih]

omit [DecidableEq σ] in
theorem denote_leaf (S : Sem σ V E) (inp : List V) (l : σ) :
    denote S inp (Tree.leaf l) = S.leaf l inp := by
  simp [Tree.leaf, denote]

structure LoopOK (S : Sem σ V E) (inp : List V) (ev : Memo σ V) (r : Memo σ V × Option E) : Prop where
  sound : MemoSound S inp r.1
  ext : Ext ev r.1

/-- `r` is what processing gave from the sound table `ev`: the table stayed sound and only grew; if the
    processing completed, `ok` holds of the table; if it stopped with the exception `e`, `err e` holds. -/
def Ran (S : Sem σ V E) (inp : List V) (ev : Memo σ V) (ok : Memo σ V → Prop) (err : E → Prop)
    (r : Memo σ V × Option E) : Prop :=
  MemoSound S inp r.1 ∧ Ext ev r.1 ∧ (r.2 = none → ok r.1) ∧ (∀ e, r.2 = some e → err e)

section ran
variable {S : Sem σ V E} {inp : List V} {ev ev' : Memo σ V} {ok ok' : Memo σ V → Prop} {err err' : E → Prop}

theorem Ran.done (hs : MemoSound S inp ev') (hx : Ext ev ev') (h : ok ev') : Ran S inp ev ok err (ev', none) :=
  ⟨hs, hx, fun _ => h, nofun⟩

theorem Ran.stop {e : E} (hs : MemoSound S inp ev') (hx : Ext ev ev') (h : err e) :
    Ran S inp ev ok err (ev', some e) :=
  ⟨hs, hx, nofun, fun _ he => Option.some.inj he ▸ h⟩

theorem Ran.mono {r : Memo σ V × Option E} (h : Ran S inp ev ok err r)
    (hok : ∀ ev', MemoSound S inp ev' → Ext ev ev' → ok ev' → ok' ev') (herr : ∀ e, err e → err' e) :
    Ran S inp ev ok' err' r :=
  ⟨h.1, h.2.1, fun hn => hok _ h.1 h.2.1 (h.2.2.1 hn), fun e he => herr e (h.2.2.2 e he)⟩

/-- `hr` is an equation, not the `match` written into the conclusion, so that a caller hands in `rfl`
    or the lemma that splits the loop at this point (`loop_append`) -/
theorem Ran.bind {r r' : Memo σ V × Option E} {k : Memo σ V → Memo σ V × Option E}
    (h1 : Ran S inp ev ok' err r) (h2 : ∀ ev1, MemoSound S inp ev1 → ok' ev1 → Ran S inp ev1 ok err (k ev1))
    (hr : r' = match (generalizing := false) r with | (ev1, some e) => (ev1, some e) | (ev1, none) => k ev1) :
    Ran S inp ev ok err r' := by
  subst hr
  obtain ⟨ev1, _ | e⟩ := r
  · obtain ⟨hs, hx, hok, herr⟩ := h2 ev1 h1.1 (h1.2.2.1 rfl)
    exact ⟨hs, h1.2.1.trans hx, hok, herr⟩
  · exact .stop h1.1 h1.2.1 (h1.2.2.2 e rfl)

end ran

theorem evalSub_leaf {S : Sem σ V E} {inp : List V} {ev : Memo σ V} (l : σ) (hs : MemoSound S inp ev) :
    Ran S inp ev (fun ev' => ∃ v, AList.lookup (.node l []) ev' = some v) (fun e => S.leaf l inp = .error e)
      (evalSub S inp ev (.node l [])) := by
  unfold evalSub
  cases hc : AList.contains (Tree.node l []) ev with
  | true => rw [if_pos rfl]; exact .done hs (Ext.refl _) (AList.contains_iff_lookup.mp hc)
  | false =>
    have hn := AList.contains_eq_false_iff.mp hc
    rw [if_neg Bool.false_ne_true]
    dsimp only
    cases hl : S.leaf l inp with
    | ok v =>
      exact .done (MemoSound_insert hs (by simp [denote, hl])) (Ext_insert v hn) ⟨v, AList.lookup_insert_self _ _ _⟩
    | error e => exact .stop hs (Ext.refl _) rfl

theorem evalSub_app {S : Sem σ V E} {inp : List V} {ev : Memo σ V} (l : σ) (k : Tree σ)
    (ks : List (Tree σ)) (f : V) (vs : List V)
    (hs : MemoSound S inp ev) (hf : AList.lookup (Tree.leaf l) ev = some f)
    (hvs : lookupAll ev (k :: ks) = some vs) :
    Ran S inp ev (fun ev' => ∃ v, AList.lookup (.node l (k :: ks)) ev' = some v)
      (fun e => denote S inp (.node l (k :: ks)) = .error e) (evalSub S inp ev (.node l (k :: ks))) := by
  have hleaf : S.leaf l inp = .ok f := by
    have := hs _ _ hf
    rwa [denote_leaf] at this
  have hargs := denoteList_of_lookupAll hs (k :: ks) vs hvs
  unfold evalSub
  cases hc : AList.contains (Tree.node l (k :: ks)) ev with
  | true => rw [if_pos rfl]; exact .done hs (Ext.refl _) (AList.contains_iff_lookup.mp hc)
  | false =>
    have hn := AList.contains_eq_false_iff.mp hc
    rw [if_neg Bool.false_ne_true]
    simp only [hf, hvs]
    cases ha : applyAll S f vs with
    | ok v =>
      exact .done (MemoSound_insert hs (by simp [denote, hleaf, hargs, ha])) (Ext_insert v hn)
        (.intro v (AList.lookup_insert_self _ _ _))
    | error e => exact .stop hs (Ext.refl _) (by simp [denote, hleaf, hargs, ha])

theorem loop_dfs_both (S : Sem σ V E) (inp : List V) :
    (∀ (t : Tree σ) (ev : Memo σ V), MemoSound S inp ev →
      Ran S inp ev (fun ev' => ∃ v, AList.lookup t ev' = some v) (fun e => denote S inp t = .error e)
        (loop S inp ev (Tree.dfs t))) ∧
    ∀ (ts : List (Tree σ)) (ev : Memo σ V), MemoSound S inp ev →
      Ran S inp ev (fun ev' => ∃ vs, lookupAll ev' ts = some vs) (fun e => denoteList S inp ts = .error e)
        (loop S inp ev (Tree.dfsList ts)) := by
  refine Tree.ind₂ (fun l ks ih ev hs => ?_) (fun ev hs => .done hs (Ext.refl _) ⟨[], rfl⟩)
    (fun t ts iht ihts ev hs => ?_)
  · cases ks with
    | nil =>
      exact .bind ((evalSub_leaf l hs).mono (fun _ _ _ h => h) fun e h => by simp [denote, h])
        (fun _ hs1 h => .done hs1 (Ext.refl _) h) rfl
    | cons k ks =>
      -- the head symbol, then the arguments, then the application itself
      refine .bind ((evalSub_leaf l hs).mono (fun _ _ _ h => h) fun e h => by simp [denote, h])
        (fun ev1 hs1 ⟨f, hf⟩ => ?_) rfl
      have hleaf : S.leaf l inp = .ok f := (denote_leaf S inp l).symm.trans (hs1 _ _ hf)
      refine .bind (ok' := fun ev2 => AList.lookup (Tree.leaf l) ev2 = some f ∧ ∃ vs, lookupAll ev2 (k :: ks) = some vs)
        ((ih ev1 hs1).mono (fun _ _ hx2 h => ⟨hx2 _ _ hf, h⟩) fun e h => by simp [denote, hleaf, h])
        (fun ev2 hs2 ⟨hf2, vs, hvs⟩ => ?_) (loop_append ..)
      exact .bind (evalSub_app l k ks f vs hs2 hf2 hvs) (fun _ hs3 h => .done hs3 (Ext.refl _) h) rfl
  · exact .bind ((iht ev hs).mono (fun _ _ _ h => h) fun e h => by simp [denoteList, h])
      (fun ev1 hs1 ⟨v, hv⟩ => (ihts ev1 hs1).mono
        (fun _ _ hx2 ⟨vs, hvs⟩ => ⟨v :: vs, by simp [lookupAll, hx2 _ _ hv, hvs]⟩)
        fun e h => by simp [denoteList, hs1 _ _ hv, h])
      (loop_append ..)

/-- the statement is
    `Ran S inp ev (fun ev' => ∃ vs, lookupAll ev' ts = some vs) (fun e => denoteList S inp ts = .error e) _`
    written out as its four conjuncts -/
theorem loop_dfsList (S : Sem σ V E) (inp : List V) :
    ∀ (ts : List (Tree σ)) (ev : Memo σ V), MemoSound S inp ev →
      MemoSound S inp (loop S inp ev (Tree.dfsList ts)).1 ∧ Ext ev (loop S inp ev (Tree.dfsList ts)).1 ∧
      ((loop S inp ev (Tree.dfsList ts)).2 = none →
          ∃ vs, lookupAll (loop S inp ev (Tree.dfsList ts)).1 ts = some vs) ∧
      (∀ e, (loop S inp ev (Tree.dfsList ts)).2 = some e → denoteList S inp ts = .error e) :=
  (loop_dfs_both S inp).2

/-! ## the cache: one memo table per input -/
section cache
variable [DecidableEq V]

def CacheSound (S : Sem σ V E) (c : Cache σ V) : Prop :=
  ∀ inp ev, AList.lookup inp c = some ev → MemoSound S inp ev

theorem CacheSound.insert {S : Sem σ V E} {c : Cache σ V} (hc : CacheSound S c) {inp : List V}
    {m : Memo σ V} (hm : MemoSound S inp m) : CacheSound S (AList.insert inp m c) :=
  AList.forall_insert (P := fun i ev => MemoSound S i ev) (fun i ev _ h => hc i ev h) hm

theorem CacheSound.nil (S : Sem σ V E) : CacheSound S [] := nofun

theorem prepCache_sound {S : Sem σ V E} {c : Cache σ V} (hc : CacheSound S c) (useCache : Bool)
    (inp : List V) : CacheSound S (prepCache useCache c inp) := by
  unfold prepCache
  split
  · exact hc.insert (.nil S inp)
  · exact hc

theorem memoOf_sound {S : Sem σ V E} {c : Cache σ V} (hc : CacheSound S c) (useCache : Bool)
    (inp : List V) : MemoSound S inp (memoOf useCache c inp) := by
  unfold memoOf
  split
  · cases hl : AList.lookup inp c with
    | none => exact .nil S inp
    | some m => exact hc inp m hl
  · exact .nil S inp

theorem finish_spec {S : Sem σ V E} {inp : List V} {ev : Memo σ V} {p : Tree σ} {r : Memo σ V × Option E}
    (h : Ran S inp ev (fun ev' => ∃ v, AList.lookup p ev' = some v) (fun e => denote S inp p = .error e) r)
    (useCache : Bool) {c : Cache σ V} (hc : CacheSound S c) :
    (finish S useCache c p inp r).2 = specEval S p inp ∧ CacheSound S (finish S useCache c p inp r).1 := by
  obtain ⟨hs, _, hok, herr⟩ := h
  -- the first component is the same in the three branches of `finish`
  have hc' : CacheSound S (if useCache = true then AList.insert inp r.1 c else c) := by
    split
    · exact hc.insert hs
    · exact hc
  unfold finish
  cases hr : r.2 with
  | some e => exact ⟨by simp [specEval, herr e hr, outcomeOf], hc'⟩
  | none =>
    obtain ⟨v, hv⟩ := hok hr
    simp only [hv]
    exact ⟨by simp [specEval, hs p v hv, outcomeOf], hc'⟩

theorem evalCore_spec {S : Sem σ V E} (useCache : Bool) {c : Cache σ V} {ev : Memo σ V} (p : Tree σ)
    {inp : List V} (hc : CacheSound S c) (hev : MemoSound S inp ev) :
    (evalCore S useCache c ev p inp).2 = specEval S p inp ∧
      CacheSound S (evalCore S useCache c ev p inp).1 := by
  unfold evalCore
  cases hp : AList.lookup p ev with
  | some v => exact ⟨by simp [specEval, hev p v hp, outcomeOf], hc⟩
  | none => exact finish_spec ((loop_dfs_both S inp).1 p ev hev) useCache hc

end cache

end PS.C11
