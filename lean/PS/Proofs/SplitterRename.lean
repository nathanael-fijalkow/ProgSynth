/- C08, fragment grammar (`pcfgFrom`): `pathLoop` is split into the renaming `renPath` it follows, which reads no
   table, and the table updates `addSteps` it makes (`pathLoop_eq`); the elementary table operations (`addRule`,
   `copyRules`) are read as functions on the rows of a table. -/
import PS.Proofs.Splitter
namespace PS.Sp
open PS PS.G

variable {U : Type} [DecidableEq U]

/-- the original non-terminal of a copy -/
def er (x : UNT (U × Nat)) : UNT U := (x.1, x.2.1)
/-- the number of a copy (0: free copy) -/
def idx (x : UNT (U × Nat)) : Nat := x.2.2
/-- the original step of a step of the fragment -/
def erStep (st : Step (U × Nat)) : Step U := (er st.1, st.2.1, st.2.2.map er)

omit [DecidableEq U] in
@[simp] theorem er_free (s : UNT U) : er (free s) = s := rfl
omit [DecidableEq U] in
@[simp] theorem idx_free (s : UNT U) : idx (free s) = 0 := rfl

omit [DecidableEq U] in
theorem map_er_free (a : List (UNT U)) : (a.map free).map er = a := by
  induction a with
  | nil => rfl
  | cons x r ih => simp only [List.map_cons, ih, er_free]

omit [DecidableEq U] in
theorem ext_er_idx {x y : UNT (U × Nat)} (h1 : er x = er y) (h2 : idx x = idx y) : x = y := by
  obtain ⟨t, u, k⟩ := x
  obtain ⟨t', u', k'⟩ := y
  simp only [er, idx, Prod.mk.injEq] at h1 h2
  obtain ⟨rfl, rfl⟩ := h1
  subst h2
  rfl

omit [DecidableEq U] in
theorem eq_free_of_idx {x : UNT (U × Nat)} (h : idx x = 0) : x = free (er x) :=
  ext_er_idx rfl h

omit [DecidableEq U] in
theorem free_injective {a b : UNT U} (h : free a = free b) : a = b := by
  have := congrArg er h
  simpa using this

omit [DecidableEq U] in
theorem map_free_injective {a b : List (UNT U)} (h : a.map free = b.map free) : a = b :=
  (List.map_inj_right fun _ _ => free_injective).mp h

omit [DecidableEq U] in
theorem freshList_cons (c : Nat) (s : UNT U) (r : List (UNT U)) :
    freshList c (s :: r) = ((freshList (c + 1) r).1, (s.1, (s.2, c + 1)) :: (freshList (c + 1) r).2) := rfl

omit [DecidableEq U] in
theorem freshList_fst : ∀ (v : List (UNT U)) (c : Nat), (freshList c v).1 = c + v.length
  | [], c => rfl
  | s :: r, c => by rw [freshList_cons]; simp only [freshList_fst r (c + 1), List.length_cons]; omega

omit [DecidableEq U] in
theorem freshList_length : ∀ (v : List (UNT U)) (c : Nat), (freshList c v).2.length = v.length
  | [], c => rfl
  | s :: r, c => by rw [freshList_cons]; simp only [List.length_cons, freshList_length r (c + 1)]

omit [DecidableEq U] in
theorem freshList_er : ∀ (v : List (UNT U)) (c : Nat), (freshList c v).2.map er = v
  | [], c => rfl
  | s :: r, c => by rw [freshList_cons]; simp only [List.map_cons, freshList_er r (c + 1)]; rfl

omit [DecidableEq U] in
theorem freshList_idx : ∀ (v : List (UNT U)) (c : Nat), ∀ x ∈ (freshList c v).2, c < idx x ∧ idx x ≤ c + v.length
  | [], c, x, h => by cases h
  | s :: r, c, x, h => by
    rw [freshList_cons] at h
    rcases List.mem_cons.mp h with h | h
    · subst h; simp only [idx, List.length_cons]; omega
    · have := freshList_idx r (c + 1) x h
      simp only [List.length_cons]; omega

omit [DecidableEq U] in
theorem freshList_nodup : ∀ (v : List (UNT U)) (c : Nat), (freshList c v).2.Nodup
  | [], c => List.nodup_nil
  | s :: r, c => by
    rw [freshList_cons]
    refine List.nodup_cons.mpr ⟨?_, freshList_nodup r (c + 1)⟩
    intro h
    have := freshList_idx r (c + 1) _ h
    simp only [idx] at this
    omega

omit [DecidableEq U] in
theorem zip_fresh_fst (v : List (UNT U)) (c : Nat) : (v.zip (freshList c v).2).map (·.1) = v := by
  have := List.map_fst_zip (l₁ := v) (l₂ := (freshList c v).2) (by rw [freshList_length]; exact Nat.le_refl _)
  simpa using this

omit [DecidableEq U] in
theorem zip_fresh_snd (v : List (UNT U)) (c : Nat) : (v.zip (freshList c v).2).map (·.2) = (freshList c v).2 := by
  have := List.map_snd_zip (l₁ := v) (l₂ := (freshList c v).2) (by rw [freshList_length]; exact Nat.le_refl _)
  simpa using this

omit [DecidableEq U] in
theorem zip_fresh_ok (v : List (UNT U)) (c : Nat) : ∀ e ∈ v.zip (freshList c v).2, er e.2 = e.1 := by
  induction v generalizing c with
  | nil => exact fun _ he => absurd he List.not_mem_nil
  | cons s r ih =>
    intro e he
    rcases List.mem_cons.mp he with rfl | he
    · rfl
    · exact ih (c + 1) e he

/-- `rules[Sp][P].append(v)` on the row of `Sp` -/
def stepR {κ : Type} (rs : AList Sym (List (List κ))) (P : Sym) (m : List κ) : AList Sym (List (List κ)) :=
  AList.insert P ((AList.lookup P rs).getD [] ++ [m]) rs

/-- `probabilities[Sp][P][tuple(v)] = w` on the row of `Sp` -/
def stepP {κ : Type} [DecidableEq κ] (ps : AList Sym (AList (List κ) Rat)) (P : Sym) (m : List κ) (w : Rat) :
    AList Sym (AList (List κ) Rat) :=
  AList.insert P (AList.insert m w ((AList.lookup P ps).getD [])) ps

def copyR (pg : PUG U) (S : UNT U) : AList Sym (List (List (UNT (U × Nat)))) :=
  ((AList.lookup S pg.g.rules).getD []).map (fun r => (r.1, r.2.map (fun v => v.map free)))

def copyP (pg : PUG U) (S : UNT U) : AList Sym (AList (List (UNT (U × Nat))) Rat) :=
  ((AList.lookup S pg.tags).getD []).map (fun r => (r.1, r.2.map (fun vp => (vp.1.map free, vp.2))))

/-- the non-terminals on the right-hand sides of `S` -/
def rhsSyms (pg : PUG U) (S : UNT U) : List (UNT U) :=
  ((AList.lookup S pg.g.rules).getD []).flatMap (fun r => r.2.flatMap id)

theorem copyRules_eq (pg : PUG U) (st : FragSt U) (S : UNT U) (X : UNT (U × Nat)) :
    copyRules pg st S X = { st with rules := AList.insert X (copyR pg S) st.rules,
                                    probs := AList.insert X (copyP pg S) st.probs,
                                    toFill := st.toFill ++ rhsSyms pg S } := rfl

theorem addRule_eq (st : FragSt U) (X : UNT (U × Nat)) (P : Sym) (m : List (UNT (U × Nat))) (w : Rat) :
    addRule st X P m w = { st with
      rules := AList.insert X (stepR ((AList.lookup X st.rules).getD []) P m) st.rules,
      probs := AList.insert X (stepP ((AList.lookup X st.probs).getD []) P m w) st.probs } := rfl

/-- the copies chosen by `pathLoop`: final counter, renamed steps, pending pairs at the end -/
def renPath : Nat → List (UNT U × UNT (U × Nat)) → List (Step U) →
    Option (Nat × List (Step (U × Nat)) × List (UNT U × UNT (U × Nat)))
  | c, pending, [] => some (c, [], pending)
  | _, [], _ :: _ => none
  | c, (cur, Sp) :: rest, (S, P, v) :: w =>
    if cur ≠ S then none else
    match renPath (freshList c v).1 (v.zip (freshList c v).2 ++ rest) w with
    | none => none
    | some r => some (r.1, (Sp, P, (freshList c v).2) :: r.2.1, r.2.2)

/-- the table updates of `pathLoop` -/
def addSteps (nprob : Rat) : Nat → FragSt U → List (Step (U × Nat)) → FragSt U
  | _, st, [] => st
  | i, st, s :: w => addSteps nprob (i + 1) (addRule st s.1 s.2.1 s.2.2 (if i = 0 then nprob else 1)) w

/-- stated for a state whose counter is set apart, the induction goes through as it stands: `addRule`
    does not read the counter -/
theorem pathLoop_eq_counter (nprob : Rat) : ∀ (steps : List (Step U)) (st : FragSt U) (c : Nat)
    (pending : List (UNT U × UNT (U × Nat))) (i : Nat),
    pathLoop nprob { st with counter := c } pending i steps =
      (renPath c pending steps).map (fun r => ({ addSteps nprob i st r.2.1 with counter := r.1 }, r.2.2))
  | [], _, _, _, _ => rfl
  | _ :: _, _, _, [], _ => rfl
  | (S, P, v) :: w, st, c, (cur, Sp) :: rest, i => by
    rw [pathLoop, renPath]
    split
    · rfl
    · exact (pathLoop_eq_counter nprob w (addRule st Sp P (freshList c v).2 (if i = 0 then nprob else 1))
        (freshList c v).1 (v.zip (freshList c v).2 ++ rest) (i + 1)).trans
        (by cases renPath (freshList c v).1 (v.zip (freshList c v).2 ++ rest) w <;> rfl)

theorem pathLoop_eq (nprob : Rat) (steps : List (Step U)) (st : FragSt U)
    (pending : List (UNT U × UNT (U × Nat))) (i : Nat) :
    pathLoop nprob st pending i steps =
      (renPath st.counter pending steps).map (fun r => ({ addSteps nprob i st r.2.1 with counter := r.1 }, r.2.2)) :=
  pathLoop_eq_counter nprob steps st st.counter pending i

end PS.Sp
