/-
  C06: the enumeration `langU` of the grammar built from an automaton lists every tree
  at most once, hence `programs()` is the number of accepted trees.
  Second half, for any `UCFG`: the memoised recursion of `programs()` returns once the fuel reaches a level at
  which the start symbols are `boundedU` (`programs_of_bounded`); what it returns is `compute_spec` of
  PS/Proofs/UOps.lean.
-/
import PS.Proofs.UcfgFromDftaCount
namespace PS.U.FD
open PS PS.G PS.U DFTA

variable {Q U V : Type} [DecidableEq Q] [DecidableEq U] [DecidableEq V]
set_option linter.unusedSectionVars false

theorem langU_starts_nodup {F : Flat Q U V} {A : DFTA Sym Q} {G : UCFG V} (hb : Built F A G)
    (ok : FlatOK F A) (hd : A.Det) (j : Nat) :
    (G.starts.flatMap (fun s => langU G j s)).Nodup := by
  rw [List.nodup_iff_count]
  intro t
  rw [show G.starts.flatMap (fun s => langU G j s) = Cnt.langAll G j from rfl,
    Cnt.count_langAll_depth G (rows_nodup hb), allDerivs_length hb ok hd t]
  split
  · split
    · exact Nat.le_refl 1
    · exact Nat.zero_le 1
  · exact Nat.zero_le 1

theorem count_of_built {F : Flat Q U V} {A : DFTA Sym Q} {G : UCFG V}
    (hb : Built F A G) (ok : FlatOK F A) (hd : A.Det) (hac : Acyclic A) (fuel n : Nat)
    (hp : programs G fuel = some n) :
    ∃ L : List Prog, L.Nodup ∧ (∀ t, t ∈ L ↔ A.accepts t = true) ∧ n = L.length := by
  obtain ⟨rank, hrank⟩ := hac
  exact ⟨_, langU_starts_nodup hb ok hd _, mem_langU_starts hb ok hd rank hrank,
    programs_eq_enum hb ok rank hrank fuel n hp⟩

end PS.U.FD

/-! ### `programs()` returns: fuel adequacy of the memoised recursion -/
namespace PS.U.FD
open PS PS.G PS.U DFTA
variable {V : Type} [DecidableEq V]
set_option linter.unusedSectionVars false

theorem computeArgs_isSome (c : UNT V → Memo V → Option (Nat × Memo V)) :
    ∀ (args : List (UNT V)) (loc : Nat) (memo : Memo V),
      (∀ a ∈ args, ∀ m, (c a m).isSome = true) → (computeArgs c args loc memo).isSome = true
  | [], _, _, _ => rfl
  | a :: as, loc, memo, h => by
    obtain ⟨res, hc⟩ := Option.isSome_iff_exists.mp (h a List.mem_cons_self memo)
    rw [computeArgs, hc]
    exact computeArgs_isSome c as _ _ (fun x hx => h x (List.mem_cons_of_mem _ hx))

theorem computeRules_isSome (c : UNT V → Memo V → Option (Nat × Memo V)) :
    ∀ (alts : List (List (UNT V))) (total : Nat) (memo : Memo V),
      (∀ args ∈ alts, ∀ a ∈ args, ∀ m, (c a m).isSome = true) →
      (computeRules c alts total memo).isSome = true
  | [], _, _, _ => rfl
  | args :: rest, total, memo, h => by
    obtain ⟨res, hc⟩ := Option.isSome_iff_exists.mp (computeArgs_isSome c args 1 memo (h args List.mem_cons_self))
    rw [computeRules, hc]
    exact computeRules_isSome c rest _ _ (fun x hx => h x (List.mem_cons_of_mem _ hx))

theorem compute_isSome (G : UCFG V) : ∀ (j fuel : Nat) (a : UNT V) (memo : Memo V),
    boundedU G j a = true → j ≤ fuel → (compute G fuel a memo).isSome = true := by
  intro j
  induction j with
  | zero => intro fuel a memo h; simp [boundedU] at h
  | succ j ih =>
    intro fuel a memo hb hle
    obtain ⟨f, rfl⟩ : ∃ f, fuel = f + 1 := ⟨fuel - 1, by omega⟩
    obtain ⟨rs, hl, hb⟩ := boundedU_succ.mp hb
    rw [compute, hl]
    cases hm : AList.lookup a memo with
    | some c => rfl
    | none =>
      obtain ⟨res, hc⟩ := Option.isSome_iff_exists.mp
        (computeRules_isSome (compute G f) (rs.flatMap (fun r => r.2)) 0 memo (by
          intro args hargs x hx m
          obtain ⟨r, hr, har⟩ := List.mem_flatMap.mp hargs
          exact ih f x m (hb r hr args har x hx) (by omega)))
      simp only [hc]
      rfl

theorem programsFrom_isSome (G : UCFG V) (j fuel : Nat) (hle : j ≤ fuel) :
    ∀ (ss : List (UNT V)) (total : Nat) (memo : Memo V), (∀ s ∈ ss, boundedU G j s = true) →
      (programsFrom G fuel ss total memo).isSome = true
  | [], _, _, _ => rfl
  | s :: ss, total, memo, h => by
    obtain ⟨res, hc⟩ := Option.isSome_iff_exists.mp (compute_isSome G j fuel s memo (h s List.mem_cons_self) hle)
    rw [programsFrom, hc]
    exact programsFrom_isSome G j fuel hle ss _ _ (fun x hx => h x (List.mem_cons_of_mem _ hx))

theorem programs_of_bounded (G : UCFG V) (k fuel : Nat)
    (hb : ∀ s ∈ G.starts, boundedU G k s = true) (hle : k ≤ fuel) :
    programs G fuel = some ((G.starts.map (countU G k)).sum) := by
  obtain ⟨n, hn⟩ := Option.isSome_iff_exists.mp (programsFrom_isSome G k fuel hle G.starts 0 [] hb)
  exact hn.trans (congrArg some (Ops.programs_eq_countU G fuel n k hn hb))

end PS.U.FD
