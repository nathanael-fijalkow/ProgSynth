/-
  C09 — `ProbDetGrammar.sample_program` (model: `sampleDet`, PS/Model/Sampler.lean), on a grammar
  whose rule tables have distinct keys (they are Python dicts).  Membership: whatever the draws, a
  tree that is returned is derived from the non-terminal asked for (`sampleDet_derives`); the sampler threads
  a stack of pending non-terminals, the specification `derives` does not, and `popNext` relates the
  two.  Probability: when every draw at `S` is independent with distribution `tags[S]`, the mass of
  a tree of depth ≤ `fuel` in the unfolded distribution `sampleDist` is the product of the weights of
  its rules (`sampleDist_mass`); the lemmas `mass_*` are the calculus of masses of finite
  distributions (lists of weighted outcomes) that this needs.
-/
import PS.Model.Sampler
import PS.Proofs.AList
import PS.Proofs.Tree
import PS.Proofs.ListSum
import Mathlib.Algebra.BigOperators.Group.List.Basic
import Mathlib.Algebra.Order.Field.Rat

namespace PS.Sampler

def popNext (l : List NT) : List NT × Option NT :=
  match l with
  | [] => ([], none)
  | x :: r => (r, some x)

theorem popNext_stack {l info : List NT} {cur : Option NT} (h : popNext l = (info, cur)) : cur.toList ++ info = l := by
  cases l <;> cases h <;> rfl

theorem derive_eq_popNext (G : DetG) (info : List NT) (S : NT) (P : Sym) (args : List NT) (w : Rat)
    (h : (AList.lookup S G).bind (AList.lookup P) = some (args, w)) :
    derive G info S P = some (popNext (args ++ info)) := by
  unfold derive
  rw [h]
  simp only [popNext]
  cases args ++ info <;> rfl

theorem rule_of_draw {ν : Type} {G : AList NT (AList Sym ν)}
    (hG : ∀ S rules, AList.lookup S G = some rules → (rules.map (·.1)).Nodup) {S : NT} {i : Nat} {P : Sym} {v : ν}
    (h : (AList.lookup S G).bind (fun r => r[i]?) = some (P, v)) :
    (AList.lookup S G).bind (AList.lookup P) = some v := by
  cases hS : AList.lookup S G with
  | none => rw [hS] at h; cases h
  | some rules => rw [hS] at h; exact AList.lookup_of_mem_nodup (hG S rules hS) (List.mem_of_getElem? h)

theorem deriveAll_of_derives_both (G : DetG) :
    (∀ (t : Tree Sym) (S : NT), derives G S t = true → ∀ info, deriveAll G info (some S) t = some (popNext info)) ∧
    ∀ (ts : List (Tree Sym)) (args : List NT), derivesList G args ts = true →
      ∀ info, deriveAllList G (popNext (args ++ info)).1 (popNext (args ++ info)).2 ts = some (popNext info) := by
  refine Tree.ind₂ (fun P kids ih S h info => ?_) (fun args h info => ?_) (fun t ts ih1 ih2 args h info => ?_)
  · rw [derives] at h
    rw [deriveAll]
    cases hl : (AList.lookup S G).bind (AList.lookup P) with
    | none => rw [hl] at h; simp at h
    | some aw =>
      obtain ⟨args, w⟩ := aw
      rw [hl] at h
      rw [derive_eq_popNext G info S P args w hl]
      exact ih args h info
  · cases args with
    | nil => simp only [List.nil_append, deriveAllList]
    | cons _ _ => simp [derivesList] at h
  · cases args with
    | nil => simp [derivesList] at h
    | cons a as =>
      rw [derivesList, Bool.and_eq_true] at h
      simp only [List.cons_append, popNext]
      rw [deriveAllList, ih1 a h.1 (as ++ info)]
      exact ih2 as h.2 info

theorem deriveAll_of_derives (G : DetG) (t : Tree Sym) :
    ∀ (S : NT), derives G S t = true → ∀ info, deriveAll G info (some S) t = some (popNext info) :=
  (deriveAll_of_derives_both G).1 t

theorem deriveAllList_of_derivesList (G : DetG) :
      ∀ (ts : List (Tree Sym)) (args : List NT), derivesList G args ts = true →
        ∀ info, deriveAllList G (popNext (args ++ info)).1 (popNext (args ++ info)).2 ts
          = some (popNext info) :=
  (deriveAll_of_derives_both G).2

/-- The argument loop consumes the first `k` entries of the stack of pending non-terminals
    (`cur` on top of `info`). -/
theorem sampleArgsWith_derivesList (G : DetG)
    (rec : Draws → NT → List NT → Option (Tree Sym × Draws))
    (hrec : ∀ d c i t d', rec d c i = some (t, d') → derives G c t = true)
    (k : Nat) (d : Draws) (cur : Option NT) (info : List NT) (kids : List (Tree Sym)) (d' : Draws)
    (h : sampleArgsWith G rec k d cur info = some (kids, d')) :
    derivesList G ((cur.toList ++ info).take k) kids = true := by
  fun_induction sampleArgsWith G rec k d cur info generalizing kids d' <;> cases h
  · rfl
  · next k d info c arg d1 hr info1 cur1 hda args d2 hs ih =>
    have hd := hrec _ _ _ _ _ hr
    -- the argument is derivable, so `derive_all` pops exactly the next pending non-terminal
    rw [deriveAll_of_derives G arg c hd info] at hda
    have := ih _ _ hs
    rw [popNext_stack (Option.some.inj hda)] at this
    simp only [Option.toList_some, List.cons_append, List.nil_append, List.take_succ_cons, derivesList, hd, this,
      Bool.and_self]

theorem sampleDet_derives (G : DetG)
    (hG : ∀ S rules, AList.lookup S G = some rules → (rules.map (·.1)).Nodup)
    (fuel : Nat) (d : Draws) (S : NT) (info : List NT)
    (t : Tree Sym) (d' : Draws) (h : sampleDet G fuel d S info = some (t, d')) :
    derives G S t = true := by
  induction fuel using Nat.strong_induction_on generalizing d S info t d' with
  | _ fuel ih =>
    revert h
    fun_cases sampleDet G fuel d S info <;> intro h <;> cases h
    next fuel i P args w hz hl _ =>
      rw [Tree.leaf, derives, rule_of_draw hG hl, List.length_eq_zero_iff.mp hz]; rfl
    next fuel i d1 P args w _ info1 next kids hl _ hd hs =>
      have hlk := rule_of_draw hG hl
      rw [derive_eq_popNext G info S P args w hlk] at hd
      have := sampleArgsWith_derivesList G (sampleDet G fuel) (ih fuel (Nat.lt_succ_self _)) _ _ _ _ _ _ hs
      rw [popNext_stack (Option.some.inj hd), List.take_left] at this
      rw [derives, hlk]
      exact this

theorem mass_flatMap {α β : Type} [DecidableEq β] (l : List α) (f : α → Dist β) (x : β) :
    Dist.mass (l.flatMap f) x = (l.map (fun a => Dist.mass (f a) x)).sum :=
  sum_flatMap_rat l f _

theorem mass_map {α β : Type} [DecidableEq β] (l : List α) (g : α → β × Rat) (x : β) :
    Dist.mass (l.map g) x = (l.map (fun a => if (g a).1 = x then (g a).2 else 0)).sum := by
  simp [Dist.mass, Function.comp_def]

theorem mass_map_scale {α β : Type} [DecidableEq α] [DecidableEq β] (c : α → β) (w : Rat) (D : Dist α)
    {y : β} {x : α} {p : Prop} [Decidable p] (h : ∀ a, c a = y ↔ p ∧ a = x) :
    Dist.mass (D.map (fun kw => (c kw.1, w * kw.2))) y = if p then w * Dist.mass D x else 0 := by
  rw [mass_map]
  by_cases hp : p
  · rw [if_pos hp, Dist.mass, mul_comm, ← sum_map_mul_right]
    refine congrArg List.sum (List.map_congr_left fun kw _ => ?_)
    by_cases h2 : kw.1 = x <;> simp [h, hp, h2, mul_comm]
  · rw [if_neg hp]; simp [h, hp]

theorem mass_map_cons (tw : Tree Sym × Rat) (D : Dist (List (Tree Sym))) (t : Tree Sym)
    (ts : List (Tree Sym)) :
    Dist.mass (D.map (fun kw => (tw.1 :: kw.1, tw.2 * kw.2))) (t :: ts)
      = (if tw.1 = t then tw.2 else 0) * Dist.mass D ts := by
  rw [mass_map_scale (tw.1 :: ·) tw.2 D (fun _ => List.cons_eq_cons), ite_zero_mul]

theorem mass_map_cons_nil (tw : Tree Sym × Rat) (D : Dist (List (Tree Sym))) :
    Dist.mass (D.map (fun kw => (tw.1 :: kw.1, tw.2 * kw.2))) [] = 0 := by
  rw [mass_map]; simp

theorem mass_distArgs (G : DetG) (f : NT → Dist (Tree Sym)) (as : List NT) (ts : List (Tree Sym))
    (h : ∀ a t, t ∈ ts → Dist.mass (f a) t = prob G a t) :
    Dist.mass (distArgs f as) ts = probList G as ts := by
  fun_induction distArgs f as generalizing ts with
  | case1 => cases ts <;> simp [Dist.mass, probList]
  | case2 a as ih =>
    rw [mass_flatMap]
    cases ts with
    | nil => simp [mass_map_cons_nil, probList]
    | cons t ts =>
      simp only [mass_map_cons]
      rw [sum_map_mul_right, ih ts fun a t' ht' => h a t' (List.mem_cons_of_mem _ ht'), probList,
        ← h a t List.mem_cons_self]
      rfl

theorem mass_map_node (P : Sym) (r : Sym × List NT × Rat) (D : Dist (List (Tree Sym)))
    (kids : List (Tree Sym)) :
    Dist.mass (D.map (fun kw => (Tree.node r.1 kw.1, r.2.2 * kw.2))) (Tree.node P kids)
      = if r.1 = P then r.2.2 * Dist.mass D kids else 0 :=
  mass_map_scale (Tree.node r.1) r.2.2 D (fun a => by rw [Tree.node.injEq])

theorem sum_key_lookup {ν : Type} (P : Sym) (g : Sym × ν → Rat) (rules : AList Sym ν)
    (hn : (rules.map (·.1)).Nodup) :
    (rules.map (fun r => if r.1 = P then g r else 0)).sum
      = match AList.lookup P rules with
        | none => 0
        | some v => g (P, v) := by
  fun_induction AList.lookup P rules with
  | case1 => rfl
  | case2 v r =>
    have hP := (List.nodup_cons.mp hn).1
    rw [List.map_cons, List.sum_cons, if_pos rfl, sum_map_zero _ r fun e he =>
      if_neg fun (heq : e.1 = P) => hP (heq ▸ List.mem_map_of_mem (f := (·.1)) he), add_zero]
  | case3 k' v r hk ih => rw [List.map_cons, List.sum_cons, if_neg hk, zero_add, ih (List.nodup_cons.mp hn).2]

theorem sampleDist_mass (G : DetG)
    (hG : ∀ S rules, AList.lookup S G = some rules → (rules.map (·.1)).Nodup)
    (fuel : Nat) (S : NT) (t : Tree Sym) (hd : Tree.depth t ≤ fuel) :
    Dist.mass (sampleDist G fuel S) t = prob G S t := by
  induction fuel generalizing S t with
  | zero =>
    cases t with
    | node P kids => rw [Tree.depth] at hd; omega
  | succ fuel ih =>
    cases t with
    | node P kids =>
      rw [Tree.depth] at hd
      have hk : Tree.depthList kids ≤ fuel := by omega
      rw [sampleDist, prob]
      cases hS : AList.lookup S G with
      | none => rfl
      | some rules =>
        simp only [Option.bind_some]
        rw [mass_flatMap]
        simp only [mass_map_node]
        rw [sum_key_lookup P (fun r => r.2.2 * Dist.mass (distArgs (sampleDist G fuel) r.2.1) kids)
          rules (hG S rules hS)]
        cases hP : AList.lookup P rules with
        | none => rfl
        | some aw =>
          obtain ⟨args, w⟩ := aw
          simp only
          rw [mass_distArgs G (sampleDist G fuel) args kids
            (fun a t' ht' => ih a t' (Nat.le_trans (Tree.depth_le_depthList ht') hk))]

end PS.Sampler
