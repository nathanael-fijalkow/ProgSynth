/-
  C05: the level-0 post-processing of `__process__` (sketch: keep the final states whose
  newest component is 1; local rule: delete the rules of head symbols whose target's newest
  component is 0) and the loop of `add_dfta_constraints` (product / reduce / minimise: theorems
  of C07).
-/
import PS.Proofs.ConstraintsProcess
import PS.Proofs.DftaMin
set_option linter.unusedSectionVars false
namespace PS.C05
open PS DFTA

variable {σ Q : Type} [DecidableEq σ] [DecidableEq Q]

theorem lastIsOne_extL (d : St Q) (tok : Tok σ) (t : Tree σ) (hw : width tok ≠ 0) :
    lastIsOne (extL d (attrs tok t)) = matchesTok tok t := by
  unfold lastIsOne extL
  rw [List.head?_append, attrs_head tok t hw]
  cases matchesTok tok t <;> rfl

theorem run_of_rules_eq {X : Type} [DecidableEq X] (A A' : DFTA σ X) (h : A'.rules = A.rules) (t : Tree σ) :
    DFTA.run A' t = DFTA.run A t := by
  have s : Sim A A' id (fun _ => True) :=
    ⟨fun _ _ _ _ _ => trivial, fun l qs _ => by unfold DFTA.read; rw [h]; simp⟩
  simpa using s.run t

theorem sketchFinish_accepts {B A : DFTA σ (St Q)} {tok : Tok σ} (h : Refines B A (width tok) (attrs tok))
    (hw : width tok ≠ 0) (t : Tree σ) :
    (sketchFinish A).accepts t = (B.accepts t && matchesTok tok t) := by
  rw [← h.accepts t]
  unfold DFTA.accepts
  rw [run_of_rules_eq A (sketchFinish A) rfl t, h.run]
  cases hr : DFTA.run B t with
  | none => rfl
  | some d =>
    simp only [Option.map_some, sketchFinish, List.mem_filter, lastIsOne_extL d tok t hw]
    by_cases hf : extL d (attrs tok t) ∈ A.finals <;> simp [hf]

theorem processTop_func (B : DFTA σ (St Q)) (H : List σ) (args : List (Tok σ)) (loc : Bool) :
    processTop B (.func H args) loc =
      (processInner B (.func H args)).map fun A => if loc then localFinish A H else sketchFinish A := by
  simp only [processTop]
  cases processInner B (.func H args) <;> rfl

theorem processTop_sketch (B A : DFTA σ (St Q)) (L : Nat) (hd : B.Det) (hu : Uniform B L) (tok : Tok σ)
    (h : processTop B tok false = some A) :
    A.Det ∧ ∀ t, A.accepts t = (B.accepts t && matchesTok tok t) := by
  by_cases hw : width tok = 0
  · have := width_eq_zero hw
    subst this
    simp only [processTop, Option.some.injEq] at h
    subst h
    exact ⟨hd, fun t => by simp [matchesTok]⟩
  · have key : ∃ A0, processInner B tok = some A0 ∧ A = sketchFinish A0 := by
      cases tok with
      | any => simp [width] at hw
      | func H args =>
        rw [processTop_func, Option.map_eq_some_iff] at h
        obtain ⟨A0, h1, h2⟩ := h
        exact ⟨A0, h1, h2.symm⟩
      | allow S | atMost S n | atLeast S n | forbidSub S | forceSub S =>
        simp only [processTop, Bool.false_eq_true, if_false, Option.map_eq_some_iff] at h
        obtain ⟨A0, h1, h2⟩ := h
        exact ⟨A0, h1, h2.symm⟩
    obtain ⟨A0, hp, e⟩ := key
    subst e
    have r := processInner_refines tok B A0 L hd hu hp
    exact ⟨r.det, fun t => sketchFinish_accepts r hw t⟩

theorem filterRules_det (A : DFTA σ (St Q)) (chk : Check σ Q) : (filterRules A chk).Det :=
  AList.keys_nodup_ofList _

theorem read_filterRules (A : DFTA σ (St Q)) (chk : Check σ Q) (hd : A.Det) (l : σ) (qs : List (St Q)) :
    (filterRules A chk).read l qs = (A.read l qs).filter (chk l qs) := by
  refine Option.ext fun d => ?_
  rw [Option.filter_eq_some_iff, read_eq_some_iff A hd]
  exact (AList.lookup_ofList_iff ((AList.keys_filter_sublist _ _).nodup hd)).trans List.mem_filter

theorem run_localFinish {B A : DFTA σ (St Q)} {H : List σ} {args : List (Tok σ)}
    (r : Refines B A (width (.func H args)) (attrs (.func H args))) :
    ∀ t, DFTA.run (localFinish A H) t = if satLocal H args t then DFTA.run A t else none := by
  apply Tree.ind
  intro l ks ih
  have hlist : runList (localFinish A H) ks = if satLocalList H args ks then runList A ks else none := by
    clear r
    induction ks with
    | nil => simp [satLocalList]
    | cons k ks ihk =>
      rw [runList_cons, runList_cons, ih k List.mem_cons_self, ihk (fun k' hk' => ih k' (List.mem_cons_of_mem _ hk'))]
      simp only [satLocalList]
      by_cases hk : satLocal H args k = true <;> by_cases hks : satLocalList H args ks = true <;> simp [hk, hks]
  rw [run_node, hlist, satLocal]
  cases satLocalList H args ks
  · simp
  rw [if_pos rfl, Bool.and_true, run_node]
  cases hqs : runList A ks with
  | none => simp
  | some qs =>
    simp only [Option.bind_some, localFinish]
    rw [read_filterRules A _ r.det]
    cases hd : A.read l qs with
    | none => simp
    | some d =>
      have hB := r.run (.node l ks)
      rw [run_node, hqs, Option.bind_some, hd] at hB
      obtain ⟨d0, -, rfl⟩ := Option.map_eq_some_iff.mp hB.symm
      rw [Option.filter_some, lastIsOne_extL d0 _ _ (by simp [width])]
      simp only [matchesTok, Tree.label, Tree.kids]
      by_cases hl : l ∈ H <;> simp [hl]

theorem processTop_local (B A : DFTA σ (St Q)) (L : Nat) (hd : B.Det) (hu : Uniform B L) (H : List σ)
    (args : List (Tok σ)) (h : processTop B (.func H args) true = some A) :
    A.Det ∧ ∀ t, A.accepts t = (B.accepts t && satLocal H args t) := by
  rw [processTop_func, Option.map_eq_some_iff] at h
  obtain ⟨A0, hp, rfl⟩ := h
  have r := processInner_refines (.func H args) B A0 L hd hu hp
  rw [if_pos rfl]
  refine ⟨filterRules_det _ _, fun t => ?_⟩
  rw [← r.accepts t]
  unfold DFTA.accepts
  rw [run_localFinish r t]
  cases hs : satLocal H args t
  · simp
  rw [if_pos rfl, Bool.and_true]
  cases hr : DFTA.run A0 t with
  | none => rfl
  | some s =>
    -- `s` is the target of a rule that survives the filter
    have hrun : DFTA.run (localFinish A0 H) t = some s := by rw [run_localFinish r t, hs, hr]; rfl
    have hval : s ∈ AList.values (localFinish A0 H).rules :=
      let ⟨_, _, hq⟩ := rule_of_run _ t s hrun
      List.mem_map.mpr ⟨_, hq, rfl⟩
    have hfin : s ∈ (localFinish A0 H).finals ↔ (s ∈ A0.finals ∧ s ∈ AList.values (localFinish A0 H).rules) := by
      simp [localFinish, filterRules, List.mem_filter]
    by_cases hf : s ∈ A0.finals <;> simp [hfin, hf, hval]

section loop

theorem uleaf_inj {a b : St Q} (h : uleaf a = uleaf b) : a = b := by
  unfold uleaf at h; cases h; rfl
theorem utup_inj {a b : List (UState Q)} (h : utup a = utup b) : a = b := by
  unfold utup at h; cases h; rfl
theorem upair_inj {a b : UState Q × UState Q} (h : upair a = upair b) : a = b := by
  obtain ⟨a1, a2⟩ := a
  obtain ⟨b1, b2⟩ := b
  unfold upair utup at h
  cases h; rfl

theorem reduceMin_lang (d d' : DFTA σ (UState Q)) (hd : d.Det) (h : reduceMin d = some d') :
    d'.Det ∧ ∀ t, d'.accepts t = d.accepts t := by
  unfold reduceMin minimiseWith at h
  have hdr := reduce_det d hd
  have htrim := trim_reduce d hd
  refine ⟨minimiseCore_det utup (reduce d) _ _ _ d' h, fun t => ?_⟩
  rw [minimiseCore_lang utup (fun _ _ e => utup_inj e) (reduce d) hdr htrim.1 _ _ (initOK_filter _) _ d' h t,
    accepts_reduce d hd t]

theorem combine_some (d : DFTA σ (UState Q)) (a : DFTA σ (St Q)) :
    combine (some d) a = (minimiseWith utup (reduce (mapStates uleaf a))).map
      (fun m => mapStates upair (readProduct d m)) := by
  unfold combine
  cases minimiseWith utup (reduce (mapStates uleaf a)) <;> rfl

theorem combine_lang (dfta : Option (DFTA σ (UState Q))) (a : DFTA σ (St Q)) (ha : a.Det)
    (hdd : ∀ d, dfta = some d → d.Det) (r : DFTA σ (UState Q)) (h : combine dfta a = some r) :
    r.Det ∧ ∀ t, r.accepts t = ((match (generalizing := false) dfta with
      | none => true
      | some d => d.accepts t) && a.accepts t) := by
  have hleaf := accepts_mapStates uleaf a ha (fun _ _ _ _ e => uleaf_inj e)
  cases dfta with
  | none =>
    obtain rfl : mapStates uleaf a = r := Option.some.inj h
    exact ⟨mapStates_det _ _, fun t => (hleaf t).trans (Bool.true_and _).symm⟩
  | some d =>
    rw [combine_some, Option.map_eq_some_iff] at h
    obtain ⟨m, hm, rfl⟩ := h
    obtain ⟨hmd, hml⟩ := reduceMin_lang (mapStates uleaf a) m (mapStates_det uleaf a) hm
    refine ⟨mapStates_det _ _, fun t => ?_⟩
    rw [accepts_mapStates upair (readProduct d m) (readProduct_det d m) (fun _ _ _ _ e => upair_inj e) t,
      accepts_product d m (hdd d rfl) hmd t, hml t, hleaf t]

variable (base : DFTA σ (St Q)) (L : Nat)

/-- what is known about the automaton accumulated so far: deterministic, and its language is
    the base language cut by `F` (`none`: nothing accumulated yet) -/
def AccOK (base : DFTA σ (St Q)) (dfta : Option (DFTA σ (UState Q))) (F : Tree σ → Bool) : Prop :=
  match dfta with
  | none => ∀ t, F t = true
  | some d => d.Det ∧ ∀ t, d.accepts t = (base.accepts t && F t)

theorem AccOK.congr {dfta : Option (DFTA σ (UState Q))} {F G : Tree σ → Bool} (h : AccOK base dfta F)
    (e : ∀ t, F t = G t) : AccOK base dfta G := by
  obtain rfl : F = G := funext e
  exact h

theorem satLocal_nil (args : List (Tok σ)) : ∀ t : Tree σ, satLocal [] args t = true := by
  apply Tree.ind
  intro l ks ih
  have hl : satLocalList [] args ks = true :=
    (eq_all_of_rec (f := satLocal [] args) rfl (fun _ _ => rfl) ks).trans (List.all_eq_true.mpr ih)
  rw [satLocal, hl]; rfl

theorem satConstraint_skipped {c : Tok σ} (h : skipped c = true) (t : Tree σ) : satConstraint c t = true := by
  cases c with
  | func H args =>
    obtain rfl : H = [] := List.isEmpty_iff.mp h
    exact satLocal_nil args t
  | _ => rfl

/-- the accumulated language, in the form `combine_lang` speaks of it -/
theorem AccOK.lang {dfta : Option (DFTA σ (UState Q))} {F : Tree σ → Bool} (h : AccOK base dfta F) (t : Tree σ) :
    ((match (generalizing := false) dfta with
      | none => true
      | some d => d.accepts t) && base.accepts t) = (base.accepts t && F t) := by
  cases dfta with
  | none => rw [h t, Bool.true_and, Bool.and_true]
  | some d =>
    show (d.accepts t && _) = _
    rw [h.2 t]
    cases base.accepts t <;> cases F t <;> rfl

theorem step_ok (dfta : Option (DFTA σ (UState Q))) (F G : Tree σ → Bool)
    (hok : AccOK base dfta F) (a : DFTA σ (St Q)) (ha : a.Det) (hal : ∀ t, a.accepts t = (base.accepts t && G t))
    (d d' : DFTA σ (UState Q)) (hc : combine dfta a = some d) (hr : reduceMin d = some d') :
    AccOK base (some d') (fun t => F t && G t) := by
  have hdd : ∀ x, dfta = some x → x.Det := by
    rintro x rfl; exact hok.1
  obtain ⟨h1, h2⟩ := combine_lang dfta a ha hdd d hc
  obtain ⟨h3, h4⟩ := reduceMin_lang d d' h1 hr
  refine ⟨h3, fun t => ?_⟩
  rw [h4 t, h2 t, hal t, ← Bool.and_assoc, hok.lang base t, Bool.and_assoc]

theorem constraintLoop_ok (hd : base.Det) (hu : Uniform base L) (cs : List (Tok σ))
    (dfta : Option (DFTA σ (UState Q))) (F : Tree σ → Bool) (r : Option (DFTA σ (UState Q)))
    (hok : AccOK base dfta F) (h : constraintLoop base cs dfta = some r) :
    AccOK base r (fun t => F t && cs.all (fun c => satConstraint c t)) := by
  fun_induction constraintLoop base cs dfta generalizing F with
  | case1 dfta =>
    obtain rfl : dfta = r := Option.some.inj h
    exact hok.congr base fun t => (Bool.and_true _).symm
  | case2 c cs dfta hs ih =>
    refine (ih F hok h).congr base fun t => ?_
    rw [List.all_cons, satConstraint_skipped hs t, Bool.true_and]
  | case3 | case4 | case5 => cases h
  | case6 c cs dfta hs a hp d hc d' hr ih =>
    -- a local rule that is processed is a function pattern
    cases c with
    | func H args =>
      obtain ⟨ha, hal⟩ := processTop_local base a L hd hu H args hp
      refine (ih _ (step_ok base dfta F (fun t => satLocal H args t) hok a ha hal d d' hc hr) h).congr base fun t => ?_
      rw [List.all_cons, Bool.and_assoc]; rfl
    | any => exact absurd rfl hs
    | _ => cases hp

theorem addDftaConstraints_lang (hd : base.Det) (hu : Uniform base L) (cs : List (Tok σ))
    (sketch : Option (Tok σ)) (D : DFTA σ (UState Q)) (h : addDftaConstraints base cs sketch = some D) :
    D.Det ∧ ∀ t, D.accepts t = sharpenSpec base.accepts cs sketch t := by
  revert h
  fun_cases addDftaConstraints base cs sketch with
  | case1 | case3 | case4 => exact nofun
  | case2 dfta hl =>
    have hok := constraintLoop_ok base L hd hu cs none (fun _ => true) dfta (fun _ => rfl) hl
    rintro ⟨⟩
    cases dfta with
    | none =>
      refine ⟨mapStates_det _ _, fun t => ?_⟩
      have := hok t
      simp only [Bool.true_and] at this
      rw [sharpenSpec, this]
      exact (accepts_mapStates uleaf base hd (fun _ _ _ _ e => uleaf_inj e) t).trans (by simp)
    | some d => exact ⟨hok.1, fun t => (hok.2 t).trans (by simp [sharpenSpec])⟩
  | case5 dfta hl sk a hp d hc =>
    intro h
    have hok := constraintLoop_ok base L hd hu cs none (fun _ => true) dfta (fun _ => rfl) hl
    obtain ⟨ha, hal⟩ := processTop_sketch base a L hd hu sk hp
    have := step_ok base dfta _ (fun t => matchesTok sk t) hok a ha hal d D hc h
    exact ⟨this.1, fun t => (this.2 t).trans (by simp [sharpenSpec, satSketch, Bool.and_assoc])⟩

end loop

theorem sharpenSpec_iff {b : Tree σ → Bool} {cs : List (Tok σ)} {sk : Option (Tok σ)} {t : Tree σ} :
    sharpenSpec b cs sk t = true ↔ b t = true ∧ (∀ c ∈ cs, satConstraint c t = true) ∧
      ∀ s, sk = some s → satSketch s t = true := by
  unfold sharpenSpec
  cases sk <;> simp [and_assoc]

theorem sharpenSpec_congr {b b' : Tree σ → Bool} (cs : List (Tok σ)) (sk : Option (Tok σ)) {t : Tree σ}
    (h : b t = b' t) : sharpenSpec b cs sk t = sharpenSpec b' cs sk t := by
  unfold sharpenSpec
  rw [h]

end PS.C05
