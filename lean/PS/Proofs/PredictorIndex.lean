/-
  C19, the slice table: what the constructors
  `mkLayerDet` / `mkLayerU` (`__init__` of the two prediction layers) build.  No real numbers here.

  `abs2index` is the table of consecutive slices `sliceTable` (`mkIndexGo_eq`): the ranges of
  distinct keys are disjoint and together cover `[cur, cur + Σ len)` (`Consec.disjoint`,
  `Consec.cover`).  `enumDict_lookup` reads `{P: i for i, P in enumerate(order)}` on a
  duplicate-free order.  `preLayerU_spec` collects the invariants of the loops over the grammars:
  distinct keys, duplicate-free sets, every rule table of every grammar is covered.
-/
import PS.Proofs.Predictor
import PS.Proofs.Worklist
namespace PS.Predictor
open PS
set_option linter.unusedSectionVars false
set_option linter.unusedSimpArgs false

section ALKeys
variable {κ ν : Type} [DecidableEq κ]

theorem lookup_some_of_mem_keys {k : κ} {d : AList κ ν} (h : k ∈ AList.keys d) :
    ∃ v, AList.lookup k d = some v :=
  Option.isSome_iff_exists.mp (AList.lookup_isSome_iff_mem_keys.mpr h)

end ALKeys

/-! ### `setAdd`: `setAdd x s` is `addNew s x` (PS/Model/Dfta.lean) -/
theorem mem_setAdd {τ : Type} [DecidableEq τ] (x y : τ) (s : List τ) :
    y ∈ setAdd x s ↔ y = x ∨ y ∈ s :=
  (mem_addNew s x y).trans or_comm

theorem setAdd_nodup {τ : Type} [DecidableEq τ] (x : τ) (s : List τ) (h : s.Nodup) : (setAdd x s).Nodup :=
  addNew_nodup s x h

theorem enumDict_eq (order : List DP) (h : order.Nodup) : enumDict order = order.zipIdx :=
  AList.foldl_insert_eq_append [] order.zipIdx (by rwa [List.nil_append, AList.keys, List.zipIdx_map_fst])

theorem enumDict_lookup (order : List DP) (h : order.Nodup) (P : DP) (i : ℕ) :
    AList.lookup P (enumDict order) = some i ↔ order[i]? = some P := by
  have hk : (AList.keys order.zipIdx).Nodup := by rwa [AList.keys, List.zipIdx_map_fst]
  rw [enumDict_eq order h, ← List.mem_zipIdx_iff_getElem? (x := (P, i))]
  exact ⟨AList.lookup_some_mem, AList.lookup_of_mem_nodup hk⟩

theorem sumLens_eq (ap : AList Abs (List DP)) : sumLens ap = (ap.map (fun p => p.2.length)).sum := by
  unfold sumLens; rw [List.sum_eq_foldl]

@[simp] theorem sumLens_nil : sumLens [] = 0 := rfl
theorem sumLens_cons (p : Abs × List DP) (ap : AList Abs (List DP)) :
    sumLens (p :: ap) = p.2.length + sumLens ap := by
  simp [sumLens_eq]

/-- the table `mkIndexGo` builds when the keys are distinct: consecutive slices -/
def sliceTable (iter : Abs → List DP → List DP) :
    List (Abs × List DP) → Nat → AList Abs (Nat × Nat × AList DP Nat)
  | [], _ => []
  | (k, s) :: rest, cur => (k, (cur, s.length, enumDict (iter k s))) :: sliceTable iter rest (cur + s.length)

theorem keys_sliceTable (iter : Abs → List DP → List DP) :
    ∀ (ap : List (Abs × List DP)) (cur : ℕ), AList.keys (sliceTable iter ap cur) = AList.keys ap
  | [], _ => rfl
  | (k, _) :: rest, _ => congrArg (k :: ·) (keys_sliceTable iter rest _)

theorem mkIndexGo_eq (iter : Abs → List DP → List DP) (ap : List (Abs × List DP)) (cur : ℕ)
    (hnd : (AList.keys ap).Nodup) : mkIndexGo iter ap cur [] = sliceTable iter ap cur := by
  have hfold : ∀ (ap : List (Abs × List DP)) (cur : ℕ) (acc : AList Abs (Nat × Nat × AList DP Nat)),
      mkIndexGo iter ap cur acc = (sliceTable iter ap cur).foldl (fun a e => AList.insert e.1 e.2 a) acc := by
    intro ap
    induction ap with
    | nil => exact fun _ _ => rfl
    | cons p rest ih => exact fun cur acc => ih _ _
  rw [hfold, AList.foldl_insert_eq_append [] _ (by rwa [List.nil_append, keys_sliceTable]), List.nil_append]

/-- entries are (start, length, positions): each slice starts where the one before it ends, the first at `cur` -/
def Consec : Nat → AList Abs (Nat × Nat × AList DP Nat) → Prop
  | _, [] => True
  | cur, e :: rest => e.2.1 = cur ∧ Consec (cur + e.2.2.1) rest

theorem Consec.bounds {idx : AList Abs (Nat × Nat × AList DP Nat)} {cur : ℕ} (hc : Consec cur idx) :
    ∀ e ∈ idx, cur ≤ e.2.1 ∧ e.2.1 + e.2.2.1 ≤ cur + (idx.map (fun e => e.2.2.1)).sum := by
  induction idx generalizing cur with
  | nil => exact fun _ he => nomatch he
  | cons e0 rest ih =>
    intro e he
    rw [List.map_cons, List.sum_cons]
    rcases List.mem_cons.mp he with rfl | he
    · exact ⟨Nat.le_of_eq hc.1.symm, by rw [hc.1]; exact Nat.add_le_add_left (Nat.le_add_right _ _) _⟩
    · have := ih hc.2 e he
      exact ⟨Nat.le_trans (Nat.le_add_right _ _) this.1, by rw [← Nat.add_assoc]; exact this.2⟩

theorem Consec.pairwise {idx : AList Abs (Nat × Nat × AList DP Nat)} {cur : ℕ} (hc : Consec cur idx) :
    idx.Pairwise fun e e' => e.2.1 + e.2.2.1 ≤ e'.2.1 := by
  induction idx generalizing cur with
  | nil => exact .nil
  | cons e0 rest ih =>
    exact List.pairwise_cons.mpr ⟨fun e he => by rw [hc.1]; exact (hc.2.bounds e he).1, ih hc.2⟩

theorem Consec.disjoint {idx : AList Abs (Nat × Nat × AList DP Nat)} {cur : ℕ} (hc : Consec cur idx)
    {k1 k2 : Abs} {v1 v2 : Nat × Nat × AList DP Nat} (h1 : AList.lookup k1 idx = some v1)
    (h2 : AList.lookup k2 idx = some v2) (hne : k1 ≠ k2) : v1.1 + v1.2.1 ≤ v2.1 ∨ v2.1 + v2.2.1 ≤ v1.1 :=
  @List.Pairwise.forall _ (fun e e' : Abs × Nat × Nat × AList DP Nat => e.2.1 + e.2.2.1 ≤ e'.2.1 ∨ e'.2.1 + e'.2.2.1 ≤ e.2.1) _
    ⟨fun _ _ => Or.symm⟩ (hc.pairwise.imp Or.inl) _ (AList.lookup_some_mem h1) _ (AList.lookup_some_mem h2)
    fun e => hne (congrArg Prod.fst e)

theorem Consec.cover {idx : AList Abs (Nat × Nat × AList DP Nat)} {cur : ℕ} (hc : Consec cur idx)
    (hnd : (AList.keys idx).Nodup) (p : ℕ) (h1 : cur ≤ p) (h2 : p < cur + (idx.map (fun e => e.2.2.1)).sum) :
    ∃ k v, AList.lookup k idx = some v ∧ v.1 ≤ p ∧ p < v.1 + v.2.1 := by
  induction idx generalizing cur with
  | nil => exact absurd h2 (Nat.not_lt.mpr h1)
  | cons e0 rest ih =>
    rw [List.map_cons, List.sum_cons, ← Nat.add_assoc] at h2
    obtain ⟨hk0, hnd⟩ := List.nodup_cons.mp hnd
    by_cases hp : p < cur + e0.2.2.1
    · exact ⟨e0.1, e0.2, by simp [AList.lookup], by rw [hc.1]; exact h1, by rw [hc.1]; exact hp⟩
    · obtain ⟨k, v, h3, h4⟩ := ih hc.2 hnd (Nat.le_of_not_lt hp) h2
      have hk : e0.1 ≠ k := fun h => hk0 (by have := AList.mem_keys_of_lookup h3; rwa [← h] at this)
      exact ⟨k, v, by rw [AList.lookup, if_neg hk]; exact h3, h4⟩

theorem sliceTable_consec (iter : Abs → List DP → List DP) :
    ∀ (ap : List (Abs × List DP)) (cur : ℕ), Consec cur (sliceTable iter ap cur)
  | [], _ => trivial
  | (_, _) :: rest, _ => ⟨rfl, sliceTable_consec iter rest _⟩

theorem sliceTable_lens (iter : Abs → List DP → List DP) :
    ∀ (ap : List (Abs × List DP)) (cur : ℕ),
      ((sliceTable iter ap cur).map (fun e => e.2.2.1)).sum = sumLens ap
  | [], _ => rfl
  | (k, s) :: rest, cur => by
    simp only [sliceTable, List.map_cons, List.sum_cons, sumLens_cons, sliceTable_lens iter rest]

theorem sliceTable_entry (iter : Abs → List DP → List DP) (k : Abs) :
    ∀ (ap : List (Abs × List DP)) (cur : ℕ),
      (AList.lookup k (sliceTable iter ap cur)).map (·.2)
        = (AList.lookup k ap).map fun set => (set.length, enumDict (iter k set))
  | [], _ => rfl
  | (k0, s0) :: rest, cur => by
    simp only [sliceTable, AList.lookup]
    by_cases hk : k0 = k
    · subst hk; simp
    · simp only [hk, if_false]; exact sliceTable_entry iter k rest _

/-! ### the loops of the constructor -/

/-- generic loop lemma: an invariant, a pre-order in which the state only grows, and a property
    `Q · x` that the step for `x` establishes and that growth preserves -/
theorem foldl_inv_cover {σ β : Type} (f : σ → β → σ) (Inv : σ → Prop) (Le : σ → σ → Prop) (Q : σ → β → Prop)
    (hrefl : ∀ s, Le s s) (htrans : ∀ a b c, Le a b → Le b c → Le a c)
    (step : ∀ s x, Inv s → Inv (f s x) ∧ Le s (f s x) ∧ Q (f s x) x)
    (mono : ∀ s s' x, Le s s' → Q s x → Q s' x) :
    ∀ (l : List β) (s : σ), Inv s → Inv (l.foldl f s) ∧ Le s (l.foldl f s) ∧ ∀ x ∈ l, Q (l.foldl f s) x := by
  intro l
  induction l with
  | nil => intro s hs; exact ⟨hs, hrefl s, by simp⟩
  | cons y r ih =>
    intro s hs
    obtain ⟨a1, a2, a3⟩ := step s y hs
    obtain ⟨b1, b2, b3⟩ := ih (f s y) a1
    simp only [List.foldl_cons]
    refine ⟨b1, htrans _ _ _ a2 b2, ?_⟩
    intro x hx
    rcases List.mem_cons.mp hx with h | h
    · subst h; exact mono _ _ _ b2 a3
    · exact b3 x h

/-- `all_pairs` only grows -/
def apLe (ap ap' : AList Abs (List DP)) : Prop :=
  ∀ k s, AList.lookup k ap = some s → ∃ s', AList.lookup k ap' = some s' ∧ ∀ P ∈ s, P ∈ s'

theorem apLe_refl (ap : AList Abs (List DP)) : apLe ap ap := fun _ s h => ⟨s, h, fun _ h => h⟩
theorem apLe_trans (a b c : AList Abs (List DP)) (h1 : apLe a b) (h2 : apLe b c) : apLe a c := by
  intro k s h
  obtain ⟨s', h', hs'⟩ := h1 k s h
  obtain ⟨s'', h'', hs''⟩ := h2 k s' h'
  exact ⟨s'', h'', fun P hP => hs'' P (hs' P hP)⟩

/-- `all_pairs` is a dict of sets of primitives: distinct keys, duplicate-free values, no variable or constant -/
def APInv (ap : AList Abs (List DP)) : Prop :=
  (AList.keys ap).Nodup ∧ ∀ e ∈ ap, e.2.Nodup ∧ ∀ P ∈ e.2, P.kind = .prim

theorem APInv.insert {ap : AList Abs (List DP)} (h : APInv ap) (a : Abs) {s' : List DP} (hnd : s'.Nodup)
    (hprim : ∀ P ∈ s', P.kind = .prim) (hsup : ∀ s0, AList.lookup a ap = some s0 → ∀ P ∈ s0, P ∈ s') :
    APInv (ap.insert a s') ∧ apLe ap (ap.insert a s') := by
  refine ⟨⟨AList.keys_insert_nodup _ _ h.1, fun e he => ?_⟩, fun k s hks => ?_⟩
  · rcases AList.mem_insert he with rfl | h'
    exacts [⟨hnd, hprim⟩, h.2 e h']
  · by_cases hka : k = a
    · subst hka; exact ⟨_, AList.lookup_insert_self _ _ _, hsup s hks⟩
    · exact ⟨s, by rw [AList.lookup_insert_ne _ _ hka]; exact hks, fun _ h => h⟩

/-- `if not isinstance(P, (Variable, Constant)): all_pairs[key].add(P)` -/
def stepP (a : Abs) (ap : AList Abs (List DP)) (P : DP) : AList Abs (List DP) :=
  if P.kind = .prim then ap.insert a (setAdd P ((ap.lookup a).getD [])) else ap

theorem stepP_spec (a : Abs) (ap : AList Abs (List DP)) (P : DP)
    (h : APInv ap ∧ ∃ s0, AList.lookup a ap = some s0) :
    (APInv (stepP a ap P) ∧ ∃ s0, AList.lookup a (stepP a ap P) = some s0) ∧ apLe ap (stepP a ap P)
      ∧ (P.kind = .prim → ∃ s, AList.lookup a (stepP a ap P) = some s ∧ P ∈ s) := by
  obtain ⟨hinv, s0, hs0⟩ := h
  unfold stepP
  by_cases hP : P.kind = .prim
  · simp only [hP, if_true, hs0, Option.getD_some]
    have h0 := hinv.2 (a, s0) (AList.lookup_some_mem hs0)
    obtain ⟨h1, h2⟩ := hinv.insert a (setAdd_nodup P s0 h0.1)
      (fun Q hQ => by rcases (mem_setAdd _ _ _).mp hQ with rfl | h''; exacts [hP, h0.2 Q h''])
      (fun s hs Q hQ => (mem_setAdd _ _ _).mpr (Or.inr (by rw [hs0] at hs; cases hs; exact hQ)))
    exact ⟨⟨h1, _, AList.lookup_insert_self _ _ _⟩, h2,
      fun _ => ⟨_, AList.lookup_insert_self _ _ _, (mem_setAdd _ _ _).mpr (Or.inl rfl)⟩⟩
  · rw [if_neg hP]
    exact ⟨⟨hinv, s0, hs0⟩, apLe_refl _, fun h => absurd h hP⟩

structure PreInv (L : Layer) : Prop where
  ap : APInv L.allPairs
  starts_nodup : L.allStartsAbs.Nodup

/-- the layer under construction only grows: `all_pairs` (`apLe`), the entries of `real2abs` that agree
    with `abstraction`, the abstract start symbols -/
def LLe (abstraction : NT → Abs) (L L' : Layer) : Prop :=
  apLe L.allPairs L'.allPairs
  ∧ (∀ S, AList.lookup S L.real2abs = some (abstraction S) → AList.lookup S L'.real2abs = some (abstraction S))
  ∧ (∀ a ∈ L.allStartsAbs, a ∈ L'.allStartsAbs)

theorem LLe_refl (abstraction : NT → Abs) (L : Layer) : LLe abstraction L L :=
  ⟨apLe_refl _, fun _ h => h, fun _ h => h⟩
theorem LLe_trans (abstraction : NT → Abs) (a b c : Layer) (h1 : LLe abstraction a b) (h2 : LLe abstraction b c) :
    LLe abstraction a c :=
  ⟨apLe_trans _ _ _ h1.1 h2.1, fun S h => h2.2.1 S (h1.2.1 S h), fun x h => h2.2.2 x (h1.2.2 x h)⟩

/-- the rule table `r` of the non-terminal `S` is covered by the layer: `real2abs[S]` is the
    abstraction of `S`, which is a key of `all_pairs` whose set holds every primitive of `r` -/
def Covers {ρ : Type} (abstraction : NT → Abs) (L : Layer) (S : NT) (r : AList DP ρ) : Prop :=
  AList.lookup S L.real2abs = some (abstraction S) ∧
  ∃ s, AList.lookup (abstraction S) L.allPairs = some s ∧ ∀ P ∈ AList.keys r, P.kind = .prim → P ∈ s

theorem Covers_mono {ρ : Type} (abstraction : NT → Abs) (L L' : Layer) (S : NT) (r : AList DP ρ)
    (hle : LLe abstraction L L') (h : Covers abstraction L S r) : Covers abstraction L' S r := by
  obtain ⟨h1, s, h2, h3⟩ := h
  obtain ⟨s', h2', h3'⟩ := hle.1 _ s h2
  exact ⟨hle.2.1 S h1, s', h2', fun P hP hk => h3' P (h3 P hP hk)⟩

theorem initNT_spec {ρ : Type} (abstraction : NT → Abs) (L : Layer) (S : NT) (r : AList DP ρ)
    (h : PreInv L) :
    PreInv (initNT abstraction L S r) ∧ LLe abstraction L (initNT abstraction L S r)
      ∧ Covers abstraction (initNT abstraction L S r) S r := by
  set a := abstraction S with ha
  -- first step: `if not key in all_pairs: all_pairs[key] = set()`
  set ap0 := (if L.allPairs.contains a then L.allPairs else L.allPairs.insert a []) with hap0
  have h0 : (APInv ap0 ∧ ∃ s0, AList.lookup a ap0 = some s0) ∧ apLe L.allPairs ap0 := by
    by_cases hc : L.allPairs.contains a = true
    · simp only [hap0, hc, if_true]
      exact ⟨⟨h.ap, AList.contains_iff_lookup.mp hc⟩, apLe_refl _⟩
    · simp only [hap0, hc, Bool.false_eq_true, if_false]
      have hnone : AList.lookup a L.allPairs = none := by
        cases hl : AList.lookup a L.allPairs with
        | none => rfl
        | some v => exact absurd (AList.contains_iff_lookup.mpr ⟨v, hl⟩) hc
      obtain ⟨h1, h2⟩ := h.ap.insert a List.nodup_nil (fun _ hP => nomatch hP)
        (fun s0 hs0 => by rw [hnone] at hs0; cases hs0)
      exact ⟨⟨h1, _, AList.lookup_insert_self _ _ _⟩, h2⟩
  have hfold := foldl_inv_cover (stepP a) (fun ap => APInv ap ∧ ∃ s0, AList.lookup a ap = some s0) apLe
    (fun ap P => P.kind = .prim → ∃ s, AList.lookup a ap = some s ∧ P ∈ s)
    apLe_refl apLe_trans (fun ap P hinv => stepP_spec a ap P hinv)
    (fun ap ap' P hle hq hk => by
      obtain ⟨s, h1, h2⟩ := hq hk
      obtain ⟨s', h1', h2'⟩ := hle a s h1
      exact ⟨s', h1', h2' P h2⟩)
    r.keys ap0 h0.1
  obtain ⟨⟨f1, s1, hs1⟩, f2, f3⟩ := hfold
  have hap : (initNT abstraction L S r).allPairs = r.keys.foldl (stepP a) ap0 := rfl
  have hr2a : (initNT abstraction L S r).real2abs = L.real2abs.insert S a := rfl
  have hst : (initNT abstraction L S r).allStartsAbs = L.allStartsAbs := rfl
  refine ⟨⟨by rw [hap]; exact f1, by rw [hst]; exact h.starts_nodup⟩, ⟨?_, ?_, ?_⟩, ?_, ?_⟩
  · rw [hap]; exact apLe_trans _ _ _ h0.2 f2
  · intro S' hS'
    rw [hr2a, AList.lookup_insert]
    by_cases hSS : S' = S
    · subst hSS; simp [ha]
    · simp only [hSS, if_false]; exact hS'
  · rw [hst]; exact fun _ h => h
  · rw [hr2a]; exact AList.lookup_insert_self _ _ _
  · rw [hap]
    refine ⟨s1, hs1, ?_⟩
    intro P hP hk
    obtain ⟨s, h1, h2⟩ := f3 P hP hk
    rw [hs1] at h1; cases h1; exact h2

theorem initRules_spec {ρ : Type} (abstraction : NT → Abs) (L : Layer) (rules : AList NT (AList DP ρ))
    (h : PreInv L) :
    PreInv (initRules abstraction L rules) ∧ LLe abstraction L (initRules abstraction L rules)
      ∧ ∀ e ∈ rules, Covers abstraction (initRules abstraction L rules) e.1 e.2 := by
  have := foldl_inv_cover (fun L (e : NT × AList DP ρ) => initNT abstraction L e.1 e.2) PreInv (LLe abstraction)
    (fun L e => Covers abstraction L e.1 e.2) (LLe_refl abstraction) (LLe_trans abstraction)
    (fun L e hL => initNT_spec abstraction L e.1 e.2 hL)
    (fun L L' e hle hq => Covers_mono abstraction L L' e.1 e.2 hle hq) rules L h
  exact this

theorem initStarts_spec (abstraction : NT → Abs) (L : Layer) (starts : List NT) (h : PreInv L) :
    PreInv (initStarts abstraction L starts) ∧ LLe abstraction L (initStarts abstraction L starts)
      ∧ ∀ S ∈ starts, abstraction S ∈ (initStarts abstraction L starts).allStartsAbs := by
  have := foldl_inv_cover (fun (l : List Abs) (S : NT) => setAdd (abstraction S) l) List.Nodup
    (fun l l' => ∀ a ∈ l, a ∈ l') (fun l S => abstraction S ∈ l)
    (fun _ _ h => h) (fun a b c h1 h2 x hx => h2 x (h1 x hx))
    (fun l S hl => ⟨setAdd_nodup _ _ hl, fun x hx => (mem_setAdd _ _ _).mpr (Or.inr hx),
      (mem_setAdd _ _ _).mpr (Or.inl rfl)⟩)
    (fun l l' S hle hq => hle _ hq) starts L.allStartsAbs h.starts_nodup
  obtain ⟨a1, a2, a3⟩ := this
  exact ⟨⟨h.ap, a1⟩, ⟨apLe_refl _, fun _ h => h, a2⟩, a3⟩

/-- the state of the constructor before `abs2index` is computed -/
def preLayerU {ρ : Type} (abstraction : NT → Abs) (grammars : List (AList NT (AList DP ρ) × List NT)) : Layer :=
  grammars.foldl (fun L g => initStarts abstraction (initRules abstraction L g.1) g.2) {}

theorem preLayerU_spec {ρ : Type} (abstraction : NT → Abs) (grammars : List (AList NT (AList DP ρ) × List NT)) :
    PreInv (preLayerU abstraction grammars)
      ∧ ∀ g ∈ grammars, (∀ e ∈ g.1, Covers abstraction (preLayerU abstraction grammars) e.1 e.2)
          ∧ ∀ S ∈ g.2, abstraction S ∈ (preLayerU abstraction grammars).allStartsAbs := by
  have := foldl_inv_cover
    (fun L (g : AList NT (AList DP ρ) × List NT) => initStarts abstraction (initRules abstraction L g.1) g.2)
    PreInv (LLe abstraction)
    (fun L g => (∀ e ∈ g.1, Covers abstraction L e.1 e.2) ∧ ∀ S ∈ g.2, abstraction S ∈ L.allStartsAbs)
    (LLe_refl abstraction) (LLe_trans abstraction)
    (fun L g hL => by
      obtain ⟨a1, a2, a3⟩ := initRules_spec abstraction L g.1 hL
      obtain ⟨b1, b2, b3⟩ := initStarts_spec abstraction _ g.2 a1
      exact ⟨b1, LLe_trans abstraction _ _ _ a2 b2,
        fun e he => Covers_mono abstraction _ _ _ _ b2 (a3 e he), b3⟩)
    (fun L L' g hle hq => ⟨fun e he => Covers_mono abstraction _ _ _ _ hle (hq.1 e he),
      fun S hS => hle.2.2 _ (hq.2 S hS)⟩)
    grammars {} ⟨⟨by simp [AList.keys], by intro e he; simp at he⟩, by simp⟩
  exact ⟨this.1, this.2.2⟩

theorem mkLayerU_eq {ρ : Type} (abstraction : NT → Abs) (iter : Abs → List DP → List DP)
    (grammars : List (AList NT (AList DP ρ) × List NT)) :
    mkLayerU abstraction iter grammars = finishLayer iter (preLayerU abstraction grammars) := rfl

theorem mkLayerDet_eq {ρ : Type} (abstraction : NT → Abs) (iter : Abs → List DP → List DP)
    (grammars : List (AList NT (AList DP ρ))) :
    mkLayerDet abstraction iter grammars = mkLayerU abstraction iter (grammars.map (fun g => (g, []))) := by
  unfold mkLayerDet mkLayerU
  rw [List.foldl_map]
  rfl

theorem initRules_allStartsAbs {ρ : Type} (abstraction : NT → Abs) (rs : AList NT (AList DP ρ)) (L : Layer) :
    (initRules abstraction L rs).allStartsAbs = L.allStartsAbs :=
  foldl_inv (fun L' : Layer => L'.allStartsAbs = L.allStartsAbs) _ rs (fun _ h ⟨_, _⟩ _ => h) L rfl

theorem mkLayerDet_allStartsAbs {ρ : Type} (abstraction : NT → Abs) (iter : Abs → List DP → List DP)
    (grammars : List (AList NT (AList DP ρ))) : (mkLayerDet abstraction iter grammars).allStartsAbs = [] :=
  foldl_inv (fun L : Layer => L.allStartsAbs = []) (initRules abstraction) grammars
    (fun L h g _ => (initRules_allStartsAbs abstraction g L).trans h) {} rfl

theorem abs2index_eq {ρ : Type} (abstraction : NT → Abs) (iter : Abs → List DP → List DP)
    (grammars : List (AList NT (AList DP ρ) × List NT)) :
    (mkLayerU abstraction iter grammars).abs2index
      = sliceTable iter (preLayerU abstraction grammars).allPairs 0 := by
  rw [mkLayerU_eq]
  show mkIndexGo iter (preLayerU abstraction grammars).allPairs 0 [] = _
  exact mkIndexGo_eq iter _ 0 (preLayerU_spec abstraction grammars).1.ap.1

section Bij
variable {ρ : Type} (abstraction : NT → Abs) (iter : Abs → List DP → List DP)
  (grammars : List (AList NT (AList DP ρ) × List NT))

theorem mkLayerU_fields :
    (mkLayerU abstraction iter grammars).real2abs = (preLayerU abstraction grammars).real2abs
    ∧ (mkLayerU abstraction iter grammars).allPairs = (preLayerU abstraction grammars).allPairs
    ∧ (mkLayerU abstraction iter grammars).allStartsAbs = (preLayerU abstraction grammars).allStartsAbs
    ∧ (mkLayerU abstraction iter grammars).outputSize
        = sumLens (preLayerU abstraction grammars).allPairs + (preLayerU abstraction grammars).allStartsAbs.length :=
  ⟨rfl, rfl, rfl, rfl⟩

/-- what the entry `(s, l, sym)` of `abs2index` at `k` says, `set` being `all_pairs[k]` -/
structure SliceOf (L : Layer) (iter : Abs → List DP → List DP) (k : Abs) (s l : ℕ) (sym : AList DP ℕ)
    (set : List DP) : Prop where
  pairs : AList.lookup k L.allPairs = some set
  iter_len : (iter k set).length = l
  le : s + l ≤ sumLens L.allPairs
  sym_iff : ∀ P i, AList.lookup P sym = some i ↔ (iter k set)[i]? = some P
  prim : ∀ P ∈ set, P.kind = .prim

theorem SliceOf.lt {L : Layer} {iter : Abs → List DP → List DP} {k : Abs} {s l : ℕ} {sym : AList DP ℕ}
    {set : List DP} (h : SliceOf L iter k s l sym set) {P : DP} {i : ℕ} (hp : AList.lookup P sym = some i) : i < l :=
  h.iter_len ▸ (List.getElem?_eq_some_iff.mp ((h.sym_iff P i).mp hp)).1

/-- `hiter`: the order in which Python iterates over a set is some permutation of it. -/
theorem abs2index_entry (hiter : ∀ k s, (iter k s).Perm s) (k : Abs) (s l : ℕ) (sym : AList DP ℕ)
    (h : AList.lookup k (mkLayerU abstraction iter grammars).abs2index = some (s, l, sym)) :
    ∃ set, SliceOf (mkLayerU abstraction iter grammars) iter k s l sym set := by
  rw [abs2index_eq] at h
  have h2 : s + l ≤ 0 + _ := ((sliceTable_consec iter _ 0).bounds (k, s, l, sym) (AList.lookup_some_mem h)).2
  rw [sliceTable_lens, Nat.zero_add] at h2
  have he : (AList.lookup k _).map _ = some (l, sym) := (sliceTable_entry iter k _ 0).symm.trans (congrArg _ h)
  obtain ⟨set, h3, he⟩ := Option.map_eq_some_iff.mp he
  obtain ⟨rfl, rfl⟩ : l = set.length ∧ sym = enumDict (iter k set) := by cases he; exact ⟨rfl, rfl⟩
  have hset := (preLayerU_spec abstraction grammars).1.ap.2 (k, set) (AList.lookup_some_mem h3)
  exact ⟨set, h3, (hiter k set).length_eq, h2, enumDict_lookup _ ((hiter k set).nodup_iff.mpr hset.1), hset.2⟩

theorem index_inj (hiter : ∀ k s, (iter k s).Perm s) (k1 k2 : Abs) (s1 l1 s2 l2 : ℕ) (sym1 sym2 : AList DP ℕ)
    (P1 P2 : DP) (i1 i2 : ℕ)
    (h1 : AList.lookup k1 (mkLayerU abstraction iter grammars).abs2index = some (s1, l1, sym1))
    (h2 : AList.lookup k2 (mkLayerU abstraction iter grammars).abs2index = some (s2, l2, sym2))
    (hp1 : AList.lookup P1 sym1 = some i1) (hp2 : AList.lookup P2 sym2 = some i2)
    (heq : s1 + i1 = s2 + i2) : k1 = k2 ∧ P1 = P2 := by
  obtain ⟨set1, E1⟩ := abs2index_entry abstraction iter grammars hiter k1 s1 l1 sym1 h1
  obtain ⟨set2, E2⟩ := abs2index_entry abstraction iter grammars hiter k2 s2 l2 sym2 h2
  have hi1 := E1.lt hp1
  have hi2 := E2.lt hp2
  by_cases hk : k1 = k2
  · subst hk
    rw [h1] at h2
    simp only [Option.some.injEq, Prod.mk.injEq] at h2
    obtain ⟨rfl, rfl, rfl⟩ := h2
    refine ⟨rfl, ?_⟩
    have hii : i1 = i2 := by omega
    subst hii
    have e1 := (E1.sym_iff P1 i1).mp hp1
    rw [(E1.sym_iff P2 i1).mp hp2] at e1; exact (Option.some.inj e1).symm
  · exfalso
    rw [abs2index_eq] at h1 h2
    rcases (show s1 + l1 ≤ s2 ∨ s2 + l2 ≤ s1 from (sliceTable_consec iter _ 0).disjoint h1 h2 hk) with h | h <;> omega

theorem index_cover (hiter : ∀ k s, (iter k s).Perm s) (p : ℕ)
    (hp : p < sumLens (mkLayerU abstraction iter grammars).allPairs) :
    ∃ k s l sym P i, AList.lookup k (mkLayerU abstraction iter grammars).abs2index = some (s, l, sym)
      ∧ AList.lookup P sym = some i ∧ p = s + i := by
  have hinv := (preLayerU_spec abstraction grammars).1.ap
  obtain ⟨k, ⟨s, l, sym⟩, h1, h2, h3⟩ := (sliceTable_consec iter (preLayerU abstraction grammars).allPairs 0).cover
    (by rw [keys_sliceTable]; exact hinv.1) p (Nat.zero_le _) (by rw [sliceTable_lens, Nat.zero_add]; exact hp)
  rw [← abs2index_eq abstraction iter grammars] at h1
  obtain ⟨set, E⟩ := abs2index_entry abstraction iter grammars hiter k s l sym h1
  have h2 : s ≤ p := h2
  have h3 : p < s + l := h3
  have hi : p - s < (iter k set).length := by rw [E.iter_len]; omega
  exact ⟨k, s, l, sym, (iter k set)[p - s], p - s, h1, (E.sym_iff _ _).mpr (List.getElem?_eq_getElem hi), by omega⟩

theorem index_rules (hiter : ∀ k s, (iter k s).Perm s) (g : AList NT (AList DP ρ) × List NT) (hg : g ∈ grammars)
    (e : NT × AList DP ρ) (he : e ∈ g.1) :
    ∃ s l sym, AList.lookup e.1 (mkLayerU abstraction iter grammars).real2abs = some (abstraction e.1)
      ∧ AList.lookup (abstraction e.1) (mkLayerU abstraction iter grammars).abs2index = some (s, l, sym)
      ∧ s + l ≤ sumLens (mkLayerU abstraction iter grammars).allPairs
      ∧ ∀ P ∈ AList.keys e.2, P.kind = .prim →
          ∃ i, AList.lookup P sym = some i ∧ i < l
            ∧ posOf (mkLayerU abstraction iter grammars) e.1 P = some (s + i) := by
  obtain ⟨c1, set, c2, c3⟩ := ((preLayerU_spec abstraction grammars).2 g hg).1 e he
  obtain ⟨⟨s, l, sym⟩, hs, -⟩ := Option.map_eq_some_iff.mp ((sliceTable_entry iter _ _ 0).trans (congrArg _ c2))
  rw [← abs2index_eq abstraction iter grammars] at hs
  obtain ⟨set', E⟩ := abs2index_entry abstraction iter grammars hiter _ _ _ _ hs
  obtain rfl : set' = set := Option.some.inj (E.pairs.symm.trans c2)
  refine ⟨s, l, sym, c1, hs, E.le, fun P hP hk => ?_⟩
  obtain ⟨i, hi, hget⟩ := List.getElem_of_mem ((hiter _ _).mem_iff.mpr (c3 P hP hk))
  have hl : AList.lookup P sym = some i := (E.sym_iff P i).mpr (by rw [List.getElem?_eq_getElem hi, hget])
  exact ⟨i, hl, E.lt hl, posOf_eq c1 hs hl⟩

theorem index_range (hiter : ∀ k s, (iter k s).Perm s) (k : Abs) (s l : ℕ) (sym : AList DP ℕ) (P : DP) (i : ℕ)
    (h : AList.lookup k (mkLayerU abstraction iter grammars).abs2index = some (s, l, sym))
    (hp : AList.lookup P sym = some i) :
    i < l ∧ s + l + (mkLayerU abstraction iter grammars).allStartsAbs.length
              ≤ (mkLayerU abstraction iter grammars).outputSize ∧ P.kind = .prim := by
  obtain ⟨set, E⟩ := abs2index_entry abstraction iter grammars hiter k s l sym h
  exact ⟨E.lt hp, Nat.add_le_add_right E.le _,
    E.prim P ((hiter k set).mem_iff.mp (List.mem_of_getElem? ((E.sym_iff P i).mp hp)))⟩

theorem starts_spec :
    (mkLayerU abstraction iter grammars).allStartsAbs.Nodup
    ∧ (∀ g ∈ grammars, ∀ S ∈ g.2, abstraction S ∈ (mkLayerU abstraction iter grammars).allStartsAbs)
    ∧ (mkLayerU abstraction iter grammars).outputSize
        = sumLens (mkLayerU abstraction iter grammars).allPairs
          + (mkLayerU abstraction iter grammars).allStartsAbs.length :=
  ⟨(preLayerU_spec abstraction grammars).1.starts_nodup,
   fun g hg => ((preLayerU_spec abstraction grammars).2 g hg).2, rfl⟩

end Bij

end PS.Predictor
