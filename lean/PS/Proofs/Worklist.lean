/-
  `gloop`: a fuelled `while todo:` loop with a pop at the head, whatever the discipline (stack, queue,
  with or without a `seen` set).  A step sees the popped entry, the rest of the list and the state, and
  returns the new list and state, or leaves the loop with a result of its own (`KeyError`).  It has
  three rules: partial correctness, more fuel, and termination by a measure on list and state; a model
  loop becomes an instance by one equation.  The instances are `closureWith` (CfgBuild) and `wloop`
  (TtcfgLoop).  `buildLoop` of `from_DFTA` (PS/Model/UcfgFromDfta.lean) is not one: it answers `none` at
  fuel 0 even on the empty stack, and is walked along its own equation.
  The loops without a work list - `while changed:` over a set that only grows - are `growLoop`
  (PS/Model/Dfta.lean).  Their steps add to a list used as a set (`addNew`, which the models also spell
  `insertNew` and `setAdd`).
-/
import PS.Model.Dfta
namespace PS

variable {α σ ρ : Type}

/-- `out`: the result when the fuel is used up; `done`: the result when the list is empty -/
def gloop (out : ρ) (done : σ → ρ) (step : α → List α → σ → ρ ⊕ (List α × σ)) : Nat → List α → σ → ρ
  | _, [], s => done s
  | 0, _ :: _, _ => out
  | fuel + 1, x :: todo, s =>
    match step x todo s with
    | .inr (todo', s') => gloop out done step fuel todo' s'
    | .inl e => e

variable (out : ρ) (done : σ → ρ) (step : α → List α → σ → ρ ⊕ (List α × σ))

theorem gloop_nil (fuel : Nat) (s : σ) : gloop out done step fuel [] s = done s := by
  cases fuel <;> rfl

/-- The motive relates a start to the final state `r`, which has to be read back out of the result
    `done r`: hence `done` injective, and `out` (fuel used up) not of that form. -/
theorem gloop_induct (hinj : ∀ a b, done a = done b → a = b) (hout : ∀ r, out ≠ done r)
    (motive : List α → σ → σ → Prop) (nil : ∀ s, motive [] s s)
    (exit : ∀ x todo s r, step x todo s = .inl (done r) → motive (x :: todo) s r)
    (cons : ∀ x todo s todo' s' r, step x todo s = .inr (todo', s') → motive todo' s' r → motive (x :: todo) s r) :
    ∀ (fuel : Nat) (todo : List α) (s r : σ), gloop out done step fuel todo s = done r → motive todo s r
  | fuel, [], s, r, h => by
    rw [gloop_nil] at h
    cases hinj _ _ h
    exact nil s
  | 0, _ :: _, _, r, h => absurd h (hout r)
  | fuel + 1, x :: todo, s, r, h => by
    rw [gloop] at h
    cases hb : step x todo s with
    | inr p => rw [hb] at h; exact cons x todo s p.1 p.2 r hb (gloop_induct hinj hout motive nil exit cons fuel _ _ r h)
    | inl e => rw [hb] at h; exact exit x todo s r (h ▸ hb)

theorem gloop_mono (extra : Nat) :
    ∀ (fuel : Nat) (todo : List α) (s : σ), gloop out done step fuel todo s ≠ out →
      gloop out done step (fuel + extra) todo s = gloop out done step fuel todo s
  | fuel, [], s, _ => by rw [gloop_nil, gloop_nil]
  | 0, _ :: _, _, h => absurd rfl h
  | fuel + 1, x :: todo, s, h => by
    rw [Nat.add_right_comm, gloop]
    rw [gloop] at h ⊢
    cases hb : step x todo s with
    | inr p => rw [hb] at h; exact gloop_mono extra fuel _ p.2 h
    | inl e => rfl

theorem gloop_terminates (μ : List α → σ → Nat) (I : List α → σ → Prop)
    (hstep : ∀ x todo s, I (x :: todo) s → ∃ todo' s', step x todo s = .inr (todo', s') ∧
      μ todo' s' < μ (x :: todo) s ∧ I todo' s') :
    ∀ (fuel : Nat) (todo : List α) (s : σ), I todo s → μ todo s ≤ fuel →
      ∃ r, gloop out done step fuel todo s = done r ∧ I [] r
  | fuel, [], s, hI, _ => ⟨s, gloop_nil out done step fuel s, hI⟩
  | 0, x :: todo, s, hI, h => by
    obtain ⟨_, _, _, hlt, _⟩ := hstep x todo s hI
    omega
  | fuel + 1, x :: todo, s, hI, h => by
    obtain ⟨todo', s', hb, hlt, hI'⟩ := hstep x todo s hI
    rw [gloop, hb]
    exact gloop_terminates μ I hstep fuel todo' s' hI' (by omega)

/-- One pop keeps "every referenced key is a key of the table or still on the list", whether the popped
    `top` was a key already or becomes one: the step shared by the invariants of `closureWith` and of
    `buildLoop`. -/
theorem mem_or_of_top {α : Type} {top x : α} {keys keys' todo todo' : List α} (htop : top ∈ keys')
    (hk : ∀ y ∈ keys, y ∈ keys') (ht : ∀ y ∈ todo, y ∈ todo') (h : x ∈ keys ∨ x ∈ top :: todo) :
    x ∈ keys' ∨ x ∈ todo' := by
  rcases h with h | h
  · exact Or.inl (hk x h)
  · rcases List.mem_cons.mp h with e | e
    · exact Or.inl (e ▸ htop)
    · exact Or.inr (ht x e)

/-! ### loops without a work list: a fold, and `while changed` over a set that only grows (`growLoop`) -/

theorem foldl_inv {β γ : Type} (Inv : γ → Prop) (step : γ → β → γ) (xs : List β)
    (h : ∀ acc, Inv acc → ∀ x ∈ xs, Inv (step acc x)) : ∀ acc, Inv acc → Inv (xs.foldl step acc) := by
  induction xs with
  | nil => exact fun _ ha => ha
  | cons x xs ih =>
    exact fun acc ha => ih (fun acc ha y hy => h acc ha y (List.mem_cons_of_mem _ hy)) _
      (h acc ha x List.mem_cons_self)

/-- `U` bounds the length of every set the invariant admits (the size of the universe the loop draws
    from); each pass that is not the last adds an element, so `U + 1 - r.length` passes are enough. -/
theorem growLoop_fix {α : Type} (pass : List α → List α) (U : Nat) (Inv : List α → Prop)
    (hinv : ∀ r, Inv r → Inv (pass r))
    (hlen : ∀ r, Inv r → r.length ≤ (pass r).length)
    (hU : ∀ r, Inv r → r.length ≤ U) :
    ∀ fuel r, Inv r → U < r.length + fuel →
      Inv (growLoop pass fuel r) ∧ (pass (growLoop pass fuel r)).length = (growLoop pass fuel r).length := by
  intro fuel
  induction fuel with
  | zero => intro r hr hlt; have := hU r hr; omega
  | succ n ih =>
    intro r hr hlt
    unfold growLoop
    split
    · rename_i he; exact ⟨hr, he⟩
    · rename_i hne
      have := hlen r hr
      exact ih (pass r) (hinv r hr) (by omega)

/-! ### grow-only folds; `set.add` on a list (`addNew`) -/
section grow
variable {α β : Type}

theorem foldl_grow_append (step : List α → β → List α)
    (hstep : ∀ acc x, ∃ ext, step acc x = acc ++ ext) (xs : List β) (r : List α) :
    ∃ ext, xs.foldl step r = r ++ ext := by
  induction xs generalizing r with
  | nil => exact ⟨[], by simp⟩
  | cons x xs ih =>
    obtain ⟨e1, h1⟩ := hstep r x
    obtain ⟨e2, h2⟩ := ih (step r x)
    exact ⟨e1 ++ e2, by rw [List.foldl_cons, h2, h1, List.append_assoc]⟩

theorem foldl_grow_stable (step : List α → β → List α)
    (hstep : ∀ acc x, ∃ ext, step acc x = acc ++ ext) (xs : List β) (r : List α)
    (hlen : (xs.foldl step r).length = r.length) : ∀ x ∈ xs, step r x = r := by
  induction xs generalizing r with
  | nil => intro x hx; cases hx
  | cons x xs ih =>
    obtain ⟨e1, h1⟩ := hstep r x
    obtain ⟨e2, h2⟩ := foldl_grow_append step hstep xs (step r x)
    have hr1 : step r x = r := by
      have h := hlen
      rw [List.foldl_cons, h2, h1, List.length_append, List.length_append] at h
      rw [h1, List.eq_nil_of_length_eq_zero (by omega : e1.length = 0), List.append_nil]
    rw [List.foldl_cons, hr1] at hlen
    exact List.forall_mem_cons.mpr ⟨hr1, ih r hlen⟩

/-- `while changed: for x in xs: r = step r x`, the steps only appending -/
theorem growLoop_closed (step : List α → β → List α) (hstep : ∀ acc x, ∃ ext, step acc x = acc ++ ext)
    (xs : List β) (U : Nat) (Inv : List α → Prop) (hinv : ∀ acc, Inv acc → ∀ x ∈ xs, Inv (step acc x))
    (hU : ∀ r, Inv r → r.length ≤ U) (fuel : Nat) (r : List α) (hr : Inv r) (hf : U < r.length + fuel) :
    Inv (growLoop (xs.foldl step) fuel r) ∧
      ∀ x ∈ xs, step (growLoop (xs.foldl step) fuel r) x = growLoop (xs.foldl step) fuel r := by
  obtain ⟨h1, h2⟩ := growLoop_fix (xs.foldl step) U Inv (foldl_inv Inv step xs hinv)
    (fun r _ => by obtain ⟨ext, he⟩ := foldl_grow_append step hstep xs r; rw [he]; simp) hU fuel r hr hf
  exact ⟨h1, foldl_grow_stable step hstep xs _ h2⟩

variable [DecidableEq α]

theorem addNew_append (acc : List α) (a : α) : ∃ ext, addNew acc a = acc ++ ext := by
  unfold addNew; split
  · exact ⟨[], by simp⟩
  · exact ⟨[a], rfl⟩

theorem mem_addNew (acc : List α) (a x : α) : x ∈ addNew acc a ↔ x ∈ acc ∨ x = a := by
  unfold addNew; split
  · exact ⟨Or.inl, fun h => h.elim id (· ▸ ‹a ∈ acc›)⟩
  · simp

theorem addNew_nodup (acc : List α) (a : α) (h : acc.Nodup) : (addNew acc a).Nodup := by
  unfold addNew; split
  · exact h
  · rename_i hn
    rw [List.nodup_append]
    exact ⟨h, List.pairwise_singleton _ a, fun x hx y hy e => hn (List.mem_singleton.mp hy ▸ e ▸ hx)⟩

theorem addNew_eq_self (acc : List α) (a : α) (h : addNew acc a = acc) : a ∈ acc := by
  unfold addNew at h; split at h
  · assumption
  · have := congrArg List.length h; simp at this

theorem mem_foldl_addNew (xs acc : List α) (x : α) :
    x ∈ xs.foldl addNew acc ↔ x ∈ acc ∨ x ∈ xs := by
  induction xs generalizing acc with
  | nil => simp
  | cons y ys ih => simp only [List.foldl_cons, ih, mem_addNew, List.mem_cons, or_assoc]

theorem foldl_addNew_nodup (xs acc : List α) (h : acc.Nodup) : (xs.foldl addNew acc).Nodup := by
  induction xs generalizing acc with
  | nil => exact h
  | cons y ys ih => exact ih _ (addNew_nodup _ _ h)

end grow

end PS
