/-
  C09 — `ProbUGrammar.sample_program` (model: `sampleU`, `sampleProgramU`, PS/Model/SamplerU.lean):
  membership.  On a grammar with distinct keys in which the number of arguments of a symbol does not
  depend on the alternative (`URanked`; the sampler reads it off the first alternative,
  `len(self.rules[S][P][0])`), whatever the draws, a tree that is returned is derived from one of the
  start symbols (`sampleProgramU_derives`).  The induction (`sampleU_derives_wr`) carries along that
  the tree is well ranked (`wrU`): for such trees `derive_all` leaves the information stack as it
  found it (`deriveAllU_stack`), which is what lines the sampler's stack up with the specification.
-/
import PS.Model.SamplerU
import PS.Proofs.SamplerGrammar

namespace PS.Sampler

/-- rule tables are Python dicts: distinct keys -/
def UKeysNodup (G : UG) : Prop :=
  ∀ S rules, AList.lookup S G = some rules → (rules.map (·.1)).Nodup

/-- the number of arguments of a symbol does not depend on the non-terminal or the alternative
    (in the implementation it is determined by the type of the primitive) -/
def URanked (G : UG) (ar : Sym → Nat) : Prop :=
  ∀ S rules P alts a, AList.lookup S G = some rules → (P, alts) ∈ rules → a ∈ alts → a.1.length = ar P

mutual
  def wrU (ar : Sym → Nat) : Tree Sym → Prop
    | .node P kids => kids.length = ar P ∧ wrListU ar kids
  def wrListU (ar : Sym → Nat) : List (Tree Sym) → Prop
    | [] => True
    | t :: ts => wrU ar t ∧ wrListU ar ts
end

theorem URanked.length {G : UG} {ar : Sym → Nat} (hR : URanked G ar) {S : NT} {P : Sym}
    {alts : List (List NT × Rat)} (h : (AList.lookup S G).bind (AList.lookup P) = some alts)
    {a : List NT × Rat} (ha : a ∈ alts) : a.1.length = ar P := by
  obtain ⟨rules, hS, hP⟩ := AList.lookup₂_eq_some.mp h
  exact hR S rules P alts a hS (AList.lookup_some_mem hP) ha

theorem deriveU_eq (G : UG) (info : List NT) (S : NT) (P : Sym) (alts : List (List NT × Rat))
    (h : (AList.lookup S G).bind (AList.lookup P) = some alts) :
    deriveU G info S P = alts.map (fun a => popNext (a.1 ++ info)) := by
  unfold deriveU
  rw [h]
  simp only
  apply List.map_congr_left
  intro a _
  cases ha : a.1 with
  | nil =>
    simp only [List.nil_append, popNext]
    cases info <;> rfl
  | cons x r => simp only [List.cons_append, popNext]

theorem deriveU_mem (G : UG) (ar : Sym → Nat) (hR : URanked G ar) (info : List NT) (S : NT) (P : Sym)
    (q : List NT × Option NT) (hq : q ∈ deriveU G info S P) :
    ∃ as : List NT, as.length = ar P ∧ q = popNext (as ++ info) := by
  cases hl : (AList.lookup S G).bind (AList.lookup P) with
  | none =>
    unfold deriveU at hq
    rw [hl] at hq
    simp at hq
  | some alts =>
    rw [deriveU_eq G info S P alts hl, List.mem_map] at hq
    obtain ⟨a, ha, rfl⟩ := hq
    exact ⟨a.1, hR.length hl ha, rfl⟩

theorem deriveAllU_stack_both (G : UG) (ar : Sym → Nat) (hR : URanked G ar) :
    (∀ (t : Tree Sym), wrU ar t → ∀ (info : List NT) (S : NT) (q : List NT × Option NT),
      q ∈ deriveAllU G info (some S) t → q = popNext info) ∧
    ∀ (ts : List (Tree Sym)), wrListU ar ts → ∀ (info : List NT) (poss : List (List NT × Option NT)),
      (∀ q ∈ poss, ∃ as : List NT, as.length = ts.length ∧ q = popNext (as ++ info)) →
      ∀ q ∈ deriveAllListU G poss ts, q = popNext info := by
  refine Tree.ind₂ (fun P kids ih hw info S q hq => ?_) (fun _ info poss hp q hq => ?_)
    (fun t ts ih1 ih2 hw info poss hp q hq => ?_)
  · rw [deriveAllU] at hq
    rw [wrU] at hw
    refine ih hw.2 info (deriveU G info S P) (fun q' hq' => ?_) q hq
    obtain ⟨as, hlen, he⟩ := deriveU_mem G ar hR info S P q' hq'
    exact ⟨as, by rw [hlen, hw.1], he⟩
  · rw [deriveAllListU] at hq
    obtain ⟨as, hlen, he⟩ := hp q hq
    obtain rfl := List.length_eq_zero_iff.mp hlen
    simpa using he
  · rw [deriveAllListU] at hq
    rw [wrListU] at hw
    refine ih2 hw.2 info _ (fun q' hq' => ?_) q hq
    obtain ⟨p, hp1, hp2⟩ := List.mem_flatMap.mp hq'
    obtain ⟨as, hlen, rfl⟩ := hp p hp1
    cases as with
    | nil => simp at hlen
    | cons a as' =>
      simp only [List.cons_append, popNext] at hp2
      exact ⟨as', by simpa using hlen, ih1 hw.1 (as' ++ info) a q' hp2⟩

theorem deriveAllU_stack (G : UG) (ar : Sym → Nat) (hR : URanked G ar) (t : Tree Sym) :
    wrU ar t → ∀ (info : List NT) (S : NT) (q : List NT × Option NT),
      q ∈ deriveAllU G info (some S) t → q = popNext info :=
  (deriveAllU_stack_both G ar hR).1 t

theorem deriveAllListU_stack (G : UG) (ar : Sym → Nat) (hR : URanked G ar) :
      ∀ (ts : List (Tree Sym)), wrListU ar ts → ∀ (info : List NT) (poss : List (List NT × Option NT)),
        (∀ q ∈ poss, ∃ as : List NT, as.length = ts.length ∧ q = popNext (as ++ info)) →
        ∀ q ∈ deriveAllListU G poss ts, q = popNext info :=
  (deriveAllU_stack_both G ar hR).2

theorem sampleArgsWithU_spec (G : UG) (ar : Sym → Nat) (hR : URanked G ar)
    (rec : UDraws → NT → List NT → Option (Tree Sym × UDraws))
    (hrec : ∀ d c i t d', rec d c i = some (t, d') → derivesU G c t = true ∧ wrU ar t)
    (k : Nat) (d : UDraws) (cur : Option NT) (info : List NT) (kids : List (Tree Sym)) (d' : UDraws)
    (h : sampleArgsWithU G rec k d cur info = some (kids, d')) :
    derivesListU G ((cur.toList ++ info).take k) kids = true ∧ wrListU ar kids ∧ kids.length = k := by
  fun_induction sampleArgsWithU G rec k d cur info generalizing kids d' <;> cases h
  · exact ⟨rfl, trivial, rfl⟩
  · next k d info c arg d1 hr info1 cur1 hh args d2 hs ih =>
    obtain ⟨hd, hwr⟩ := hrec _ _ _ _ _ hr
    -- the argument is well-ranked, so every outcome of `derive_all` pops exactly the next pending non-terminal
    have hpop := deriveAllU_stack G ar hR arg hwr info c _ (List.mem_of_head? hh)
    obtain ⟨h1, h2, h3⟩ := ih _ _ hs
    rw [popNext_stack hpop.symm] at h1
    simp only [Option.toList_some, List.cons_append, List.nil_append, List.take_succ_cons, derivesListU, hd, h1,
      Bool.and_self, wrListU, hwr, h2, and_self, List.length_cons, h3]

theorem sampleU_derives_wr (G : UG) (ar : Sym → Nat) (hK : UKeysNodup G) (hR : URanked G ar)
    (fuel : Nat) (d : UDraws) (S : NT) (info : List NT) (t : Tree Sym) (d' : UDraws)
    (h : sampleU G fuel d S info = some (t, d')) :
    derivesU G S t = true ∧ wrU ar t := by
  induction fuel using Nat.strong_induction_on generalizing d S info t d' with
  | _ fuel ih =>
    revert h
    fun_cases sampleU G fuel d S info <;> intro h <;>
      simp only [reduceCtorEq, Option.some.injEq, Prod.mk.injEq] at h <;> obtain ⟨rfl, -⟩ := h
    next fuel i r1 P alts a0 h0 hz _ hl _ =>
      have hlk := rule_of_draw hK hl
      have ha0 := List.mem_of_head? h0
      rw [Tree.leaf, derivesU, hlk, wrU]
      refine ⟨List.any_eq_true.mpr ⟨a0, ha0, by rw [List.length_eq_zero_iff.mp hz, derivesListU]⟩, ?_, trivial⟩
      rw [← hR.length hlk ha0, hz]; rfl
    next fuel i r1 P alts a0 h0 _ j a1 info1 cur kids d3 _ _ hs hl _ _ hj =>
      have hlk := rule_of_draw hK hl
      rw [deriveU_eq G info S P alts hlk, List.getElem?_map] at hj
      obtain ⟨a, haj, hq⟩ := Option.map_eq_some_iff.mp hj
      have ha := List.mem_of_getElem? haj
      obtain ⟨h1, h2, h3⟩ :=
        sampleArgsWithU_spec G ar hR (sampleU G fuel) (ih fuel (Nat.lt_succ_self _)) _ _ _ _ kids _ hs
      rw [popNext_stack hq, hR.length hlk (List.mem_of_head? h0), ← hR.length hlk ha, List.take_left] at h1
      rw [derivesU, hlk, wrU]
      exact ⟨List.any_eq_true.mpr ⟨a, ha, h1⟩, by rw [h3, hR.length hlk (List.mem_of_head? h0)], h2⟩

theorem sampleProgramU_derives (G : UG) (ar : Sym → Nat) (hK : UKeysNodup G) (hR : URanked G ar)
    (starts : List NT) (fuel : Nat) (d : UDraws) (t : Tree Sym) (d' : UDraws)
    (h : sampleProgramU G starts fuel d = some (t, d')) :
    ∃ S ∈ starts, derivesU G S t = true := by
  revert h
  fun_cases sampleProgramU G starts fuel d <;> intro h
  · cases h
  · cases h
  · next k r _ S hk => exact ⟨S, List.mem_of_getElem? hk, (sampleU_derives_wr G ar hK hR fuel _ S [] t d' h).1⟩

theorem nodup_map_add_range (s n : Nat) : ((List.range n).map (s + ·)).Nodup :=
  List.pairwise_map.mpr (List.nodup_range.imp fun h e => h (Nat.add_left_cancel e))

/-- the seeds `ProbUGrammar.init_sampling` hands out are consecutive integers -/
theorem allSeedsU_eq_range (seed nTags nRules : Nat) :
    allSeedsU seed nTags nRules = (List.range (nTags + 1 + nRules)).map (seed + ·) := by
  unfold allSeedsU ruleSeedsU startSeedU altSeedsU
  simp only [List.range_add, List.range_succ, List.range_zero, List.map_append, List.map_map,
    List.map_cons, List.nil_append, List.singleton_append, Function.comp_def, Nat.add_assoc,
    Nat.add_zero]

end PS.Sampler
