/-
  C05: what the tables written by `__count__` and `__tag__` contain.
  `ext q v` puts the component `v` on top of the state `q`; `drop1` removes the newest component.
  Read laws:  (count B …).read l ss = (B.read l (ss.map drop1)).map (ext · (counted value))
              (tag B check).read l ss = (B.read l (ss.map drop1)).map (ext · (check bit))
  for argument states `ss` whose newest component is a value the construction produces.  The check
  bit does not depend on the tags of `ss` (`tagBitOf`).
-/
import PS.Proofs.Dfta
import PS.Model.Constraints
set_option linter.unusedSectionVars false

namespace PS.C05
open PS DFTA

variable {σ Q : Type} [DecidableEq σ] [DecidableEq Q]

def ext (q : St Q) (v : Nat) : St Q := (q.1, v :: q.2)
def drop1 (s : St Q) : St Q := (s.1, s.2.tail)

@[simp] theorem drop1_ext (q : St Q) (v : Nat) : drop1 (ext q v) = q := rfl
@[simp] theorem drop1_aug (q : St Q) : drop1 (aug q) = q := rfl
@[simp] theorem lastVal_ext (q : St Q) (v : Nat) : lastVal (ext q v) = v := rfl
@[simp] theorem setLast_aug (q : St Q) (v : Nat) : setLast (aug q) v = ext q v := rfl
@[simp] theorem setLast_ext (q : St Q) (v w : Nat) : setLast (ext q v) w = ext q w := rfl
theorem aug_eq_ext (q : St Q) : aug q = ext q 0 := rfl
theorem tagState_aug (q : St Q) : tagState (aug q) = ext q 1 := rfl

theorem ext_inj {q q' : St Q} {v v' : Nat} (h : ext q v = ext q' v') : q = q' ∧ v = v' := by
  obtain ⟨h1, h2⟩ := Prod.mk.inj h
  obtain ⟨h3, h4⟩ := List.cons.inj h2
  exact ⟨Prod.ext h1 h4, h3⟩

theorem aug_inj {q q' : St Q} (h : aug q = aug q') : q = q' := (ext_inj h).1

theorem map_drop1_map_aug (qs : List (St Q)) : (qs.map aug).map drop1 = qs := by
  rw [List.map_map]; exact List.map_id' qs

theorem map_aug_inj {qs qs' : List (St Q)} (h : qs.map aug = qs'.map aug) : qs = qs' :=
  (List.map_inj_right fun _ _ => aug_inj).mp h

theorem forall₂_map_right {α β γ : Type} (R : α → γ → Prop) (f : β → γ) (xs : List α) (ys : List β) :
    List.Forall₂ R xs (ys.map f) ↔ List.Forall₂ (fun x y => R x (f y)) xs ys :=
  List.forall₂_map_right_iff

theorem mem_cartesian_map {α β γ : Type} {e : β → γ} {f : γ → List α} {g : α → β} {P : α → Prop}
    (h : ∀ a b, a ∈ f (e b) ↔ g a = b ∧ P a) (as : List α) (bs : List β) :
    as ∈ cartesian ((bs.map e).map f) ↔ as.map g = bs ∧ ∀ a ∈ as, P a := by
  rw [mem_cartesian, forall₂_map_right, forall₂_map_right,
    forall₂_congr_left (S := fun a b => P a ∧ g a = b) fun a _ b => (h a b).trans and_comm,
    List.forall₂_and_left, ← List.forall₂_map_left_iff (f := g), List.forall₂_eq_eq_eq, and_comm]

theorem augment_det (B : DFTA σ (St Q)) : (augment B).Det := mapStates_det aug B

theorem mem_augment_rules (B : DFTA σ (St Q)) (hd : B.Det) (l : σ) (as : List (St Q)) (d : St Q) :
    ((l, as), d) ∈ (augment B).rules ↔ ∃ qs d0, B.read l qs = some d0 ∧ as = qs.map aug ∧ d = aug d0 := by
  constructor
  · intro h
    obtain ⟨⟨⟨_, qs⟩, d0⟩, hr, ⟨⟩⟩ :=
      List.mem_map.mp (AList.lookup_ofList_some ((read_eq_some_iff _ (augment_det B) l as d).mpr h))
    exact ⟨qs, d0, (read_eq_some_iff B hd _ _ _).mpr hr, rfl, rfl⟩
  · rintro ⟨qs, d0, hr, rfl, rfl⟩
    have := read_mapStates aug B hd (fun x _ y _ e => aug_inj e) l qs
      (mem_allStates_of_rule B ((read_eq_some_iff B hd _ _ _).mp hr)).2
    rw [hr] at this
    exact (read_eq_some_iff (augment B) (augment_det B) _ _ _).mp this

theorem read_augment (B : DFTA σ (St Q)) (hd : B.Det) (l : σ) (qs : List (St Q)) :
    (augment B).read l (qs.map aug) = (B.read l qs).map aug := by
  refine Option.ext fun v => ?_
  rw [read_eq_some_iff _ (augment_det B), mem_augment_rules B hd, Option.map_eq_some_iff]
  constructor
  · rintro ⟨qs', d0, hr, e, rfl⟩
    rw [map_aug_inj e]
    exact ⟨d0, hr, rfl⟩
  · rintro ⟨d0, h, rfl⟩
    exact ⟨qs, d0, h, rfl, rfl⟩

theorem lookup_augment_none (B : DFTA σ (St Q)) (hd : B.Det) (l : σ) (ss : List (St Q))
    (h : B.read l (ss.map drop1) = none) : AList.lookup (l, ss) (augment B).rules = none := by
  refine Option.eq_none_iff_forall_ne_some.mpr fun d h2 => ?_
  obtain ⟨qs, d0, hr, rfl, _⟩ := (mem_augment_rules B hd l ss d).mp (AList.lookup_some_mem h2)
  rw [map_drop1_map_aug, hr] at h
  cases h

section count
variable (B : DFTA σ (St Q)) (n : Nat) (S : List σ) (most : Bool)

def cmaxi (n : Nat) (most : Bool) : Nat := n + (if most then 1 else 0)

/-- argument states the counting automaton produces -/
def CountOK (maxi : Nat) (s : St Q) : Prop := ∃ q v, s = ext q v ∧ v ≤ maxi

def countVal (maxi : Nat) (S : List σ) (l : σ) (ss : List (St Q)) : Nat :=
  min ((ss.map lastVal).sum + (if l ∈ S then 1 else 0)) maxi

theorem mem_alternatives (maxi : Nat) (q : St Q) (s : St Q) :
    s ∈ alternatives maxi (aug q) ↔ drop1 s = q ∧ CountOK maxi s := by
  unfold alternatives
  simp only [List.mem_map, List.mem_range, setLast_aug]
  constructor
  · rintro ⟨v, hv, rfl⟩; exact ⟨rfl, q, v, rfl, by omega⟩
  · rintro ⟨rfl, q', v, rfl, hv⟩; exact ⟨v, by omega, rfl⟩

theorem mem_countRules (hd : B.Det) (maxi : Nat) (l : σ) (ss : List (St Q)) (v : St Q) :
    ((l, ss), v) ∈ countRules (augment B) maxi S ↔
      ∃ d0, B.read l (ss.map drop1) = some d0 ∧ (∀ s ∈ ss, CountOK (Q := Q) maxi s) ∧
        v = ext d0 (countVal maxi S l ss) := by
  unfold countRules
  simp only [List.mem_flatMap, List.mem_map, Prod.mk.injEq]
  constructor
  · rintro ⟨⟨⟨_, as⟩, d⟩, hr, na, hna, ⟨rfl, rfl⟩, rfl⟩
    obtain ⟨qs, d0, hr0, rfl, rfl⟩ := (mem_augment_rules B hd _ as d).mp hr
    rw [mem_cartesian_map fun s q => mem_alternatives maxi q s] at hna
    obtain ⟨rfl, h2⟩ := hna
    exact ⟨d0, hr0, h2, rfl⟩
  · rintro ⟨d0, hr0, hok, rfl⟩
    refine ⟨_, (mem_augment_rules B hd _ _ _).mpr ⟨_, d0, hr0, rfl, rfl⟩, ss, ?_, ⟨rfl, rfl⟩, rfl⟩
    rw [mem_cartesian_map fun s q => mem_alternatives maxi q s]
    exact ⟨rfl, hok⟩

theorem count_det : (count B n S most).Det :=
  AList.keys_nodup_insertMany _ _ (augment_det B)

theorem read_count (hd : B.Det) (l : σ) (ss : List (St Q)) (hok : ∀ s ∈ ss, CountOK (Q := Q) (cmaxi n most) s) :
    (count B n S most).read l ss =
      (B.read l (ss.map drop1)).map (fun d => ext d (countVal (cmaxi n most) S l ss)) := by
  refine AList.lookup_insertMany_eq _ _ _ _ ?_ ?_
  · rintro ⟨_, v⟩ hx ⟨⟩
    obtain ⟨d0, hr0, _, rfl⟩ := (mem_countRules B S hd _ _ _ _).mp hx
    rw [hr0]; rfl
  · cases h : B.read l (ss.map drop1) with
    | some d0 =>
      exact .inr ⟨_, (mem_countRules B S hd _ _ _ _).mpr ⟨d0, h, hok, rfl⟩, rfl⟩
    | none => exact .inl (lookup_augment_none B hd l ss h)

theorem countVal_ok (l : σ) (ss : List (St Q)) (d : St Q) :
    CountOK (Q := Q) (cmaxi n most) (ext d (countVal (cmaxi n most) S l ss)) :=
  ⟨d, _, rfl, Nat.min_le_right _ _⟩

end count

section tag
variable (check : Check σ Q)

def bit (c : Bool) : Nat := if c then 1 else 0

theorem tagState_or_aug (c : Bool) (d : St Q) : (if c then tagState (aug d) else aug d) = ext d (bit c) := by
  cases c <;> rfl

/-- the first loop of `__tag__` in closed form -/
theorem tagFold_eq (xs : List ((σ × List (St Q)) × St Q)) (T : AList (σ × List (St Q)) (St Q)) (ad : List (St Q)) :
    xs.foldl (fun acc r =>
        if check r.1.1 r.1.2 r.2 then (AList.insert r.1 (tagState r.2) acc.1, addNew acc.2 r.2) else acc) (T, ad) =
      (AList.insertMany T ((xs.filter fun r => check r.1.1 r.1.2 r.2).map fun r => (r.1, tagState r.2)),
        ((xs.filter fun r => check r.1.1 r.1.2 r.2).map (·.2)).foldl addNew ad) := by
  induction xs generalizing T ad with
  | nil => rfl
  | cons r rs ih =>
    by_cases hc : check r.1.1 r.1.2 r.2 = true
    · simp only [List.foldl_cons, List.filter_cons, hc, if_true]; exact ih _ _
    · simp only [List.foldl_cons, List.filter_cons, hc]; exact ih _ _

theorem tagLoop1_eq (A : DFTA σ (St Q)) : tagLoop1 check A =
    (AList.insertMany A.rules ((A.rules.filter fun r => check r.1.1 r.1.2 r.2).map fun r => (r.1, tagState r.2)),
      ((A.rules.filter fun r => check r.1.1 r.1.2 r.2).map (·.2)).foldl addNew []) :=
  tagFold_eq check _ _ _

variable (B : DFTA σ (St Q))

/-- the untagged targets of the rules that pass `check` -/
abbrev tagAdded : List (St Q) := (tagLoop1 check (augment B)).2

theorem mem_tagAdded (q : St Q) :
    q ∈ tagAdded check B ↔ ∃ x ∈ (augment B).rules, check x.1.1 x.1.2 x.2 = true ∧ x.2 = q := by
  unfold tagAdded
  rw [tagLoop1_eq, mem_foldl_addNew]
  simp only [List.not_mem_nil, false_or, List.mem_map, List.mem_filter, and_assoc]

theorem tagLoop1_det : (AList.keys (tagLoop1 check (augment B)).1).Nodup := by
  rw [tagLoop1_eq]; exact AList.keys_nodup_insertMany _ _ (augment_det B)

theorem tag_det : (tag B check).Det :=
  AList.keys_nodup_insertMany _ _ (tagLoop1_det check B)

theorem lookup_tagLoop1 (k : σ × List (St Q)) :
    AList.lookup k (tagLoop1 check (augment B)).1 =
      (AList.lookup k (augment B).rules).map (fun d => if check k.1 k.2 d then tagState d else d) := by
  rw [tagLoop1_eq]
  have hda := augment_det B
  refine AList.lookup_insertMany_eq _ _ _ _ ?_ ?_
  · rintro _ hx rfl
    obtain ⟨y, hy, rfl⟩ := List.mem_map.mp hx
    obtain ⟨hy, hc⟩ := List.mem_filter.mp hy
    rw [AList.lookup_of_mem_nodup hda (show (y.1, y.2) ∈ _ from hy), Option.map_some, if_pos hc]
  · cases h : AList.lookup k (augment B).rules with
    | none => exact .inl rfl
    | some d =>
      by_cases hc : check k.1 k.2 d = true
      · exact .inr ⟨(k, tagState d), List.mem_map.mpr ⟨(k, d), List.mem_filter.mpr ⟨AList.lookup_some_mem h, hc⟩, rfl⟩, rfl⟩
      · exact .inl (by rw [Option.map_some, if_neg hc])

/-- argument states the tagging automaton produces -/
def TagOK (s : St Q) : Prop := ∃ q v, s = ext q v ∧ (v = 0 ∨ (v = 1 ∧ aug q ∈ tagAdded check B))

/-- `check` sees the arguments and the target with tag 0 (`aug`), whatever tags the arguments that
    are read carry: only the first loop of `__tag__` calls `check`, on the rules of `__augment__`;
    the second (dfta_constraints.py:167-173) copies the target of such a rule to every tagged
    variant of its arguments. -/
def tagBitOf (l : σ) (qs : List (St Q)) (d : St Q) : Nat := bit (check l (qs.map aug) (aug d))

theorem mem_tagAlternatives (q s : St Q) :
    s ∈ (if aug q ∈ tagAdded check B then [aug q, tagState (aug q)] else [aug q]) ↔
      drop1 s = q ∧ TagOK check B s := by
  by_cases h : aug q ∈ tagAdded check B
  · simp only [if_pos h, List.mem_cons, List.not_mem_nil, or_false]
    constructor
    · rintro (rfl | rfl)
      · exact ⟨rfl, q, 0, rfl, .inl rfl⟩
      · exact ⟨rfl, q, 1, rfl, .inr ⟨rfl, h⟩⟩
    · rintro ⟨rfl, q', v, rfl, rfl | ⟨rfl, _⟩⟩
      · exact .inl rfl
      · exact .inr rfl
  · simp only [if_neg h, List.mem_singleton]
    constructor
    · rintro rfl; exact ⟨rfl, q, 0, rfl, .inl rfl⟩
    · rintro ⟨rfl, q', v, rfl, rfl | ⟨rfl, h'⟩⟩
      · rfl
      · exact absurd h' h

theorem all_aug_of_not_any (ss : List (St Q)) (hok : ∀ s ∈ ss, TagOK check B s)
    (hno : ¬ (((ss.map drop1).map aug).any (fun a => decide (a ∈ tagAdded check B)) = true)) :
    ss = (ss.map drop1).map aug := by
  induction ss with
  | nil => rfl
  | cons s ss ih =>
    simp only [List.map_cons, List.any_cons, Bool.or_eq_true, not_or] at hno ⊢
    obtain ⟨q, v, rfl, rfl | ⟨rfl, ha⟩⟩ := hok s List.mem_cons_self
    · rw [← ih (fun x hx => hok x (List.mem_cons_of_mem _ hx)) hno.2]; rfl
    · exact absurd (decide_eq_true ha) hno.1

theorem lookup_tagLoop1_aug (hd : B.Det) (l : σ) (qs : List (St Q)) :
    AList.lookup (l, qs.map aug) (tagLoop1 check (augment B)).1 =
      (B.read l qs).map (fun d0 => ext d0 (tagBitOf check l qs d0)) := by
  rw [lookup_tagLoop1, ← DFTA.read, read_augment B hd, Option.map_map]
  exact congrArg (Option.map · _) (funext fun d0 => tagState_or_aug _ d0)

theorem mem_tagLoop1 (hd : B.Det) (l : σ) (as : List (St Q)) (d1 : St Q)
    (h : ((l, as), d1) ∈ (tagLoop1 check (augment B)).1) :
    ∃ qs d0, B.read l qs = some d0 ∧ as = qs.map aug ∧ d1 = ext d0 (tagBitOf check l qs d0) := by
  have h1 := AList.lookup_of_mem_nodup (tagLoop1_det check B) h
  rw [lookup_tagLoop1, Option.map_eq_some_iff] at h1
  obtain ⟨d, h2, rfl⟩ := h1
  obtain ⟨qs, d0, hr, rfl, rfl⟩ := (mem_augment_rules B hd l as d).mp (AList.lookup_some_mem h2)
  exact ⟨qs, d0, hr, rfl, tagState_or_aug _ d0⟩

theorem mem_tagRules2 (hd : B.Det) (l : σ) (ss : List (St Q)) (v : St Q)
    (h : ((l, ss), v) ∈ tagRules2 (tagLoop1 check (augment B)).1 (tagAdded check B)) :
    ∃ d0, B.read l (ss.map drop1) = some d0 ∧ v = ext d0 (tagBitOf check l (ss.map drop1) d0) := by
  unfold tagRules2 at h
  simp only [List.mem_flatMap] at h
  obtain ⟨⟨⟨l', as⟩, d1⟩, hr, hx⟩ := h
  split at hx
  · simp only [List.mem_map, Prod.mk.injEq] at hx
    obtain ⟨na, hna, ⟨rfl, rfl⟩, rfl⟩ := hx
    obtain ⟨qs, d0, hb, rfl, ed⟩ := mem_tagLoop1 check B hd l' as d1 hr
    rw [mem_cartesian_map fun s q => mem_tagAlternatives check B q s] at hna
    rw [hna.1]
    exact ⟨d0, hb, ed⟩
  · cases hx

theorem read_tag (hd : B.Det) (l : σ) (ss : List (St Q)) (hok : ∀ s ∈ ss, TagOK check B s) :
    (tag B check).read l ss =
      (B.read l (ss.map drop1)).map (fun d => ext d (tagBitOf check l (ss.map drop1) d)) := by
  refine AList.lookup_insertMany_eq _ _ _ _ ?_ ?_
  · rintro ⟨_, v⟩ hx ⟨⟩
    obtain ⟨d0, h1, rfl⟩ := mem_tagRules2 check B hd _ _ _ hx
    rw [h1]; rfl
  · by_cases hall : ss = (ss.map drop1).map aug
    · -- no argument is tagged: the rule is in the table of the first loop
      left
      generalize ss.map drop1 = qs at hall
      subst hall
      rw [lookup_tagLoop1_aug check B hd]
    · cases h : B.read l (ss.map drop1) with
      | none => exact .inl (by rw [lookup_tagLoop1, lookup_augment_none B hd l ss h]; rfl)
      | some d0 =>
        -- some argument is tagged: the rule is written by the second loop
        right
        have h1 := lookup_tagLoop1_aug check B hd l (ss.map drop1)
        rw [h] at h1
        refine ⟨((l, ss), ext d0 (tagBitOf check l (ss.map drop1) d0)), ?_, rfl⟩
        unfold tagRules2
        refine List.mem_flatMap.mpr ⟨_, AList.lookup_some_mem h1, ?_⟩
        have hany : ((ss.map drop1).map aug).any (fun a => decide (a ∈ tagAdded check B)) = true :=
          Classical.not_not.mp fun hno => hall (all_aug_of_not_any check B ss hok hno)
        rw [if_pos hany]
        refine List.mem_map.mpr ⟨ss, ?_, rfl⟩
        rw [mem_cartesian_map fun s q => mem_tagAlternatives check B q s]
        exact ⟨rfl, hok⟩

theorem tagBit_ok (hd : B.Det) (l : σ) (qs : List (St Q)) (d : St Q) (h : B.read l qs = some d) :
    TagOK check B (ext d (tagBitOf check l qs d)) := by
  refine ⟨d, _, rfl, ?_⟩
  unfold tagBitOf bit
  by_cases hc : check l (qs.map aug) (aug d) = true
  · rw [if_pos hc]
    refine .inr ⟨rfl, (mem_tagAdded check B _).mpr ⟨((l, qs.map aug), aug d), ?_, hc, rfl⟩⟩
    exact (mem_augment_rules B hd _ _ _).mpr ⟨qs, d, h, rfl, rfl⟩
  · rw [if_neg hc]; exact .inl rfl

end tag

end PS.C05
