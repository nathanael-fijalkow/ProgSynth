/-
  C14 (model: PS/Model/Dsl.lean, spec: PS/Spec/Dsl.lean).  `instantiate` is three passes.  The loop
  over the type variables of a primitive unifies one variable at a time; the candidates being ground,
  the whole loop is one simultaneous substitution, which is what the specification speaks of.  The
  variable pass and the sum pass are the same worklist loop `expandPass`, characterised once, and
  `all_versions` is the choice of one alternative per sum.  The unit pass agrees with the
  specification's `dropUnit` on every instance that satisfies `UnitStepOK`: all of them with the
  repair of C14-F4 (`fx = true`), those outside the region of that finding without it.
-/
import PS.Spec.Dsl
import PS.Proofs.Tree
import PS.Proofs.Worklist
namespace PS.Dsl
open PS Ty

/-! ### lists used as Python sets
  `insertNew x l` is `addNew l x` and `appendNew acc xs` is `xs.foldl addNew acc` (PS/Model/Dfta.lean), both by
  `rfl`: their facts are those of PS/Proofs/Worklist.lean. -/
section Lists
variable {α : Type} [DecidableEq α] {fx : Bool}

theorem mem_insertNew {x y : α} {l : List α} : y ∈ insertNew x l ↔ y ∈ l ∨ y = x := mem_addNew l x y

theorem mem_appendNew {y : α} {acc xs : List α} : y ∈ appendNew acc xs ↔ y ∈ acc ∨ y ∈ xs :=
  mem_foldl_addNew xs acc y

theorem mem_dedup {y : α} {xs : List α} : y ∈ dedup xs ↔ y ∈ xs := by
  simp [dedup, mem_appendNew]

theorem nodup_insertNew {x : α} {l : List α} (h : l.Nodup) : (insertNew x l).Nodup := addNew_nodup l x h

theorem nodup_appendNew {acc xs : List α} (h : acc.Nodup) : (appendNew acc xs).Nodup :=
  foldl_addNew_nodup xs acc h

theorem nodup_dedup (xs : List α) : (dedup xs).Nodup := nodup_appendNew List.nodup_nil

theorem appendNew_of_nodup {acc xs : List α} (h : (acc ++ xs).Nodup) : appendNew acc xs = acc ++ xs := by
  unfold appendNew
  induction xs generalizing acc with
  | nil => simp
  | cons x xs ih =>
    have hx : x ∉ acc := fun hx => (List.nodup_append.mp h).2.2 x hx x List.mem_cons_self rfl
    rw [List.foldl_cons, insertNew, if_neg hx, ih (by simpa using h), List.append_assoc, List.singleton_append]

theorem dedup_of_nodup {xs : List α} (h : xs.Nodup) : dedup xs = xs :=
  appendNew_of_nodup (acc := []) h

theorem filter_insertNew_of_false {q : α → Bool} {x : α} {l : List α} (hx : q x = false) :
    (insertNew x l).filter q = l.filter q := by
  unfold insertNew
  split
  · rfl
  · simp [List.filter_append, hx]

theorem filter_appendNew_of_false {q : α → Bool} {acc xs : List α} (hx : ∀ x ∈ xs, q x = false) :
    (appendNew acc xs).filter q = acc.filter q := by
  unfold appendNew
  induction xs generalizing acc with
  | nil => rfl
  | cons x xs ih =>
    rw [List.foldl_cons, ih (fun y hy => hx y (List.mem_cons_of_mem _ hy)),
      filter_insertNew_of_false (hx x List.mem_cons_self)]

/-- the loop erases only elements that need expansion, so `x` (which needs none, `hx`) sees a loop that only adds -/
theorem mem_foldl_expandStep (test : α → Bool) (exp : α → List α) {x : α} (hx : test x = false) (todo acc : List α) :
    x ∈ todo.foldl (expandStep test exp) acc ↔ x ∈ acc ∨ ∃ p ∈ todo, test p = true ∧ x ∈ exp p := by
  induction todo generalizing acc with
  | nil => simp
  | cons p todo ih =>
    simp only [List.foldl_cons, ih, List.mem_cons, exists_eq_or_imp, ← or_assoc]
    refine or_congr_left ?_
    unfold expandStep
    split
    · rename_i hp
      rw [List.mem_erase_of_ne (fun e => by rw [e, hp] at hx; cases hx), mem_appendNew, and_iff_right hp]
    · rename_i hp
      exact (or_iff_left (fun h => hp h.1)).symm

/-- the elements still to expand are those of the rest of the loop, so none is left at the end -/
theorem filter_foldl_expandStep (test : α → Bool) (exp : α → List α)
    (hexp : ∀ p, test p = true → ∀ x ∈ exp p, test x = false) :
    ∀ (todo acc : List α), acc.filter test = todo.filter test →
      (todo.foldl (expandStep test exp) acc).filter test = []
  | [], _, h => h
  | p :: todo, acc, h => by
    refine filter_foldl_expandStep test exp hexp todo _ ?_
    unfold expandStep
    split
    · rename_i hp
      rw [← List.erase_filter, filter_appendNew_of_false (hexp p hp), h, List.filter_cons_of_pos hp,
        List.erase_cons_head]
    · rename_i hp
      rw [h, List.filter_cons_of_neg hp]

theorem mem_expandPass (test : α → Bool) (exp : α → List α)
    (hexp : ∀ p, test p = true → ∀ x ∈ exp p, test x = false) (L : List α) (x : α) :
    x ∈ expandPass test exp L ↔
      test x = false ∧ (x ∈ L ∨ ∃ p ∈ L, test p = true ∧ x ∈ exp p) := by
  have hnone := List.filter_eq_nil_iff.mp (filter_foldl_expandStep test exp hexp L L rfl)
  constructor
  · intro hx
    have hf : test x = false := Bool.eq_false_iff.mpr (hnone x hx)
    exact ⟨hf, (mem_foldl_expandStep test exp hf L L).mp hx⟩
  · rintro ⟨hf, h⟩
    exact (mem_foldl_expandStep test exp hf L L).mpr h

theorem expandPass_id (test : α → Bool) (exp : α → List α) (L : List α)
    (h : ∀ p ∈ L, test p = false) : expandPass test exp L = L := by
  unfold expandPass
  suffices ∀ todo acc : List α, (∀ p ∈ todo, test p = false) →
      todo.foldl (expandStep test exp) acc = acc from this L L h
  intro todo
  induction todo with
  | nil => intro acc _; rfl
  | cons p todo ih =>
    intro acc h
    simp only [List.foldl_cons, expandStep, h p (by simp)]
    exact ih acc (fun q hq => h q (List.mem_cons_of_mem _ hq))

end Lists

theorem Ty.ind_list {motive : Ty → Prop}
    (h : ∀ l ks, (∀ k ∈ ks, motive k) → motive (.node l ks)) : ∀ ks : List Ty, ∀ k ∈ ks, motive k :=
  fun _ k _ => Tree.ind h k

theorem isVarL_not_inner {l : TyL} (h : isVarL l = true) : isInnerL l = false := by
  cases l <;> simp_all [isVarL, isInnerL]

theorem not_var_of_inner {l : TyL} (h : isInnerL l = true) : isVarL l = false :=
  Bool.eq_false_iff.mpr fun hv => by rw [isVarL_not_inner hv] at h; cases h

/-- Induction by the class of the label, as the methods of type_system.py see a type: a type variable, a node
    whose components are visited (arrow, generic, sum), any other leaf. -/
theorem Ty.ind_var {motive : Ty → Prop}
    (var : ∀ l ks, isVarL l = true → motive (.node l ks))
    (inner : ∀ l ks, isVarL l = false → isInnerL l = true → (∀ k ∈ ks, motive k) → motive (.node l ks))
    (leaf : ∀ l ks, isVarL l = false → isInnerL l = false → motive (.node l ks)) : ∀ t, motive t :=
  Tree.ind fun l ks ih => by
    cases hv : isVarL l
    · cases hi : isInnerL l
      · exact leaf l ks hv hi
      · exact inner l ks hv hi ih
    · exact var l ks hv

/-- Induction by the class of the label as `all_versions` sees it: a sum, another node with components, a leaf. -/
theorem Ty.ind_sum {motive : Ty → Prop}
    (sum : ∀ ks, (∀ k ∈ ks, motive k) → motive (.node .sum ks))
    (comp : ∀ l ks, l ≠ .sum → isInnerL l = true → (∀ k ∈ ks, motive k) → motive (.node l ks))
    (leaf : ∀ l ks, isInnerL l = false → motive (.node l ks)) : ∀ t, motive t :=
  Tree.ind fun l ks ih => by
    by_cases hs : l = .sum
    · exact hs ▸ sum ks ih
    · cases hi : isInnerL l
      · exact leaf l ks hi
      · exact comp l ks hs hi ih

theorem polysList_eq (ks : List Ty) : polysList ks = ks.flatMap polys :=
  eq_flatMap_of_rec rfl (fun _ _ => rfl) ks

theorem basicsList_eq (ks : List Ty) : basicsList ks = ks.flatMap basics :=
  eq_flatMap_of_rec rfl (fun _ _ => rfl) ks

theorem unifyList_eq (n : String) (v : Ty) (ks : List Ty) : unifyList n v ks = ks.map (unify n v) :=
  eq_map_of_rec rfl (fun _ _ => rfl) ks

theorem applySubstList_eq (σ : String → Ty) (ks : List Ty) : applySubstList σ ks = ks.map (applySubst σ) :=
  eq_map_of_rec rfl (fun _ _ => rfl) ks

theorem versionsCat_eq (ks : List Ty) : versionsCat ks = ks.flatMap versions :=
  eq_flatMap_of_rec rfl (fun _ _ => rfl) ks

theorem versionsEach_eq (ks : List Ty) : versionsEach ks = ks.map versions :=
  eq_map_of_rec rfl (fun _ _ => rfl) ks

theorem anyPolymorphic_eq (ks : List Ty) : anyPolymorphic ks = ks.any isPolymorphic :=
  eq_any_of_rec rfl (fun _ _ => rfl) ks

theorem anyHasSum_eq (ks : List Ty) : anyHasSum ks = ks.any hasSum :=
  eq_any_of_rec rfl (fun _ _ => rfl) ks

theorem allWf_eq (ks : List Ty) : allWf ks = ks.all wf :=
  eq_all_of_rec rfl (fun _ _ => rfl) ks

section Classes
variable {l : TyL} {ks : List Ty}

theorem polys_var (hv : isVarL l = true) : polys (.node l ks) = [.node l ks] := by
  rw [polys, if_pos hv]

theorem polys_inner (hv : isVarL l = false) (hi : isInnerL l = true) : polys (.node l ks) = ks.flatMap polys := by
  rw [polys, polysList_eq, hv, hi]; rfl

theorem polys_leaf (hv : isVarL l = false) (hi : isInnerL l = false) : polys (.node l ks) = [] := by
  rw [polys, hv, hi]; rfl

theorem mem_polys_inner (hv : isVarL l = false) (hi : isInnerL l = true) {k q : Ty} (hk : k ∈ ks) (hq : q ∈ polys k) :
    q ∈ polys (.node l ks) :=
  polys_inner hv hi ▸ List.mem_flatMap.mpr ⟨k, hk, hq⟩

theorem unify_var (n : String) (v : Ty) (hv : isVarL l = true) :
    unify n v (.node l ks) = if l.name = n then v else .node l ks := by
  rw [unify, if_pos hv]

theorem unify_inner (n : String) (v : Ty) (hv : isVarL l = false) (hi : isInnerL l = true) :
    unify n v (.node l ks) = .node l (ks.map (unify n v)) := by
  rw [unify, unifyList_eq, hv, hi]; rfl

theorem unify_leaf (n : String) (v : Ty) (hv : isVarL l = false) (hi : isInnerL l = false) :
    unify n v (.node l ks) = .node l ks := by
  rw [unify, hv, hi]; rfl

theorem applySubst_var (σ : String → Ty) (hv : isVarL l = true) : applySubst σ (.node l ks) = σ l.name := by
  rw [applySubst, if_pos hv]

theorem applySubst_inner (σ : String → Ty) (hv : isVarL l = false) (hi : isInnerL l = true) :
    applySubst σ (.node l ks) = .node l (ks.map (applySubst σ)) := by
  rw [applySubst, applySubstList_eq, hv, hi]; rfl

theorem applySubst_leaf (σ : String → Ty) (hv : isVarL l = false) (hi : isInnerL l = false) :
    applySubst σ (.node l ks) = .node l ks := by
  rw [applySubst, hv, hi]; rfl

end Classes

theorem flatMap_eq_nil_iff' {α β} (f : α → List β) (l : List α) :
    l.flatMap f = [] ↔ ∀ a ∈ l, f a = [] := by
  simp

theorem hasSum_node (l : TyL) (ks : List Ty) :
    hasSum (.node l ks) = (l == .sum || (isInnerL l && ks.any hasSum)) := by
  rw [hasSum, anyHasSum_eq]

theorem isPolymorphic_node (l : TyL) (ks : List Ty) :
    isPolymorphic (.node l ks) = (isVarL l || (isInnerL l && ks.any isPolymorphic)) := by
  rw [isPolymorphic, anyPolymorphic_eq]

theorem wf_node {l : TyL} {ks : List Ty} :
    wf (.node l ks) = true ↔ wfNode l ks.length = true ∧ ∀ k ∈ ks, wf k = true := by
  rw [wf, allWf_eq, Bool.and_eq_true, List.all_eq_true]

/-! ### all_versions = the choices of one alternative per sum -/

theorem versions_sum (ks : List Ty) : versions (.node .sum ks) = ks.flatMap versions := by
  rw [versions, versionsCat_eq]

theorem versions_comp (l : TyL) (ks : List Ty) (h1 : l ≠ .sum) (h2 : isInnerL l = true) :
    versions (.node l ks) = (product (ks.map versions)).map (.node l) := by
  cases l <;> simp_all [isInnerL, versions, versionsEach_eq]

theorem versions_leaf (l : TyL) (ks : List Ty) (h : isInnerL l = false) :
    versions (.node l ks) = [.node l ks] := by
  cases l <;> simp_all [isInnerL, versions]

theorem mem_product_cons {α} [DecidableEq α] {xs : List α} {xss : List (List α)} {cs : List α} :
    cs ∈ product (xs :: xss) ↔ ∃ c ∈ xs, ∃ r ∈ product xss, c :: r = cs := by
  simp only [product, List.mem_flatMap, List.mem_map]

theorem mem_product_length {α} [DecidableEq α] (xss : List (List α)) (cs : List α) (h : cs ∈ product xss) :
    cs.length = xss.length := by
  induction xss generalizing cs with
  | nil => rw [List.mem_singleton.mp h]; rfl
  | cons xs rest ih =>
    obtain ⟨x, _, r, hr, rfl⟩ := mem_product_cons.mp h
    rw [List.length_cons, ih r hr, List.length_cons]

theorem mem_product_versions (ks : List Ty)
    (ih : ∀ k ∈ ks, ∀ c, c ∈ versions k ↔ Choice k c) (cs : List Ty) :
    cs ∈ product (ks.map versions) ↔ ChoiceList ks cs := by
  induction ks generalizing cs with
  | nil => exact ⟨fun h => List.mem_singleton.mp h ▸ ChoiceList.nil, fun h => by cases h; exact List.mem_singleton_self _⟩
  | cons k ks ihk =>
    have ihk' := ihk (fun k' hk' => ih k' (List.mem_cons_of_mem _ hk'))
    rw [List.map_cons, mem_product_cons]
    constructor
    · rintro ⟨x, hx, r, hr, rfl⟩
      exact ChoiceList.cons k x ks r ((ih k List.mem_cons_self x).mp hx) ((ihk' r).mp hr)
    · rintro (_ | ⟨_, c, _, cs', h1, h2⟩)
      exact ⟨c, (ih k List.mem_cons_self c).mpr h1, cs', (ihk' cs').mpr h2, rfl⟩

theorem mem_versions_iff (t c : Ty) : c ∈ versions t ↔ Choice t c := by
  induction t using Ty.ind_sum generalizing c with
  | sum ks ih =>
    rw [versions_sum, List.mem_flatMap]
    constructor
    · rintro ⟨a, ha, hc⟩
      exact Choice.alt _ ks a c rfl ha ((ih a ha c).mp hc)
    · intro h
      cases h with
      | leaf _ _ hl => cases hl
      | alt _ _ a _ _ ha hc => exact ⟨a, ha, (ih a ha c).mpr hc⟩
      | comp _ _ cs hne _ _ => exact absurd rfl hne
  | comp l ks hs hi ih =>
    rw [versions_comp l ks hs hi, List.mem_map]
    constructor
    · rintro ⟨cs, hcs, rfl⟩
      exact Choice.comp l ks cs hs hi ((mem_product_versions ks ih cs).mp hcs)
    · intro h
      cases h with
      | leaf _ _ hl => rw [hi] at hl; cases hl
      | alt _ _ a _ hl _ _ => exact absurd hl hs
      | comp _ _ cs _ _ hcl => exact ⟨cs, (mem_product_versions ks ih cs).mpr hcl, rfl⟩
  | leaf l ks hi =>
    rw [versions_leaf l ks hi, List.mem_singleton]
    constructor
    · rintro rfl; exact Choice.leaf l ks hi
    · intro h
      cases h with
      | leaf _ _ _ => rfl
      | alt _ _ a _ hl _ _ => rw [hl] at hi; cases hi
      | comp _ _ cs _ hin _ => rw [hi] at hin; cases hin

/-- induction on a choice; in a node with components, every component of the result comes from a component
    of the type -/
theorem Choice.ind {Q : Ty → Ty → Prop}
    (leaf : ∀ l ks, isInnerL l = false → Q (.node l ks) (.node l ks))
    (alt : ∀ ks a c, a ∈ ks → Q a c → Q (.node .sum ks) c)
    (comp : ∀ l ks cs, l ≠ .sum → isInnerL l = true → (∀ c ∈ cs, ∃ k ∈ ks, Q k c) → Q (.node l ks) (.node l cs))
    {t c : Ty} (h : Choice t c) : Q t c :=
  Choice.rec (motive_1 := fun t c _ => Q t c) (motive_2 := fun ks cs _ => ∀ c ∈ cs, ∃ k ∈ ks, Q k c)
    (fun l ks hl => leaf l ks hl)
    (fun _ ks a c hl ha _ ih => hl ▸ alt ks a c ha ih)
    (fun l ks cs hs hi _ ih => comp l ks cs hs hi ih)
    (fun _ hc => nomatch hc)
    (fun t c ts cs _ _ ih1 ih2 c' hc' => by
      rcases List.mem_cons.mp hc' with rfl | hc'
      · exact ⟨t, List.mem_cons_self, ih1⟩
      · obtain ⟨k, hk, hq⟩ := ih2 c' hc'
        exact ⟨k, List.mem_cons_of_mem _ hk, hq⟩)
    h

theorem hasSum_comp {l : TyL} (ks : List Ty) (hs : l ≠ .sum) (hi : isInnerL l = true) :
    hasSum (.node l ks) = ks.any hasSum := by
  rw [hasSum_node, hi, beq_false_of_ne hs]; rfl

theorem hasSum_leaf {l : TyL} (ks : List Ty) (hi : isInnerL l = false) : hasSum (.node l ks) = false := by
  rw [hasSum_node, hi, beq_false_of_ne (fun e => by rw [e] at hi; cases hi)]; rfl

theorem versions_noSum (t : Ty) : ∀ c ∈ versions t, hasSum c = false := fun c hc =>
  Choice.ind (Q := fun _ c => hasSum c = false)
    (fun _ ks hi => hasSum_leaf ks hi) (fun _ _ _ _ ih => ih)
    (fun l ks cs hs hi ih => by
      rw [hasSum_comp cs hs hi, List.any_eq_false]
      intro c hc
      obtain ⟨_, _, hq⟩ := ih c hc
      rw [hq]; exact Bool.false_ne_true)
    ((mem_versions_iff t c).mp hc)

theorem product_singletons {α} [DecidableEq α] (ks : List α) : product (ks.map (fun k => [k])) = [ks] := by
  induction ks with
  | nil => rfl
  | cons k ks ih => simp [product, ih]

theorem versions_of_noSum (t : Ty) : hasSum t = false → versions t = [t] := by
  induction t using Ty.ind_sum with
  | sum ks ih => intro h; rw [hasSum_node] at h; cases h
  | comp l ks hs hi ih =>
    intro h
    rw [hasSum_comp ks hs hi, List.any_eq_false] at h
    rw [versions_comp l ks hs hi,
      List.map_congr_left fun k hk => ih k hk (Bool.eq_false_iff.mpr (h k hk)), product_singletons]
    rfl
  | leaf l ks hi => intro _; exact versions_leaf l ks hi

theorem length_product {α} [DecidableEq α] (xs : List α) (rest : List (List α)) :
    (product (xs :: rest)).length = xs.length * (product rest).length := by
  simp only [product]
  induction xs with
  | nil => simp
  | cons x xs ih =>
    simp only [List.flatMap_cons, List.length_append, List.length_map, ih, List.length_cons]
    rw [Nat.add_mul, Nat.one_mul, Nat.add_comm]

theorem product_pos {α} [DecidableEq α] (xss : List (List α)) (h : ∀ xs ∈ xss, 1 ≤ xs.length) :
    1 ≤ (product xss).length := by
  induction xss with
  | nil => exact Nat.le_refl 1
  | cons xs rest ih =>
    rw [length_product]
    exact Nat.mul_le_mul (h xs List.mem_cons_self) (ih (fun ys hys => h ys (List.mem_cons_of_mem _ hys)))

theorem product_two {α} [DecidableEq α] (xss : List (List α)) (h : ∀ xs ∈ xss, 1 ≤ xs.length)
    (h2 : ∃ xs ∈ xss, 2 ≤ xs.length) : 2 ≤ (product xss).length := by
  induction xss with
  | nil => obtain ⟨xs, hxs, _⟩ := h2; cases hxs
  | cons xs rest ih =>
    rw [length_product]
    have hrest : ∀ ys ∈ rest, 1 ≤ ys.length := fun ys hys => h ys (List.mem_cons_of_mem _ hys)
    obtain ⟨ys, hys, hy2⟩ := h2
    rcases List.mem_cons.mp hys with rfl | hys'
    · exact Nat.mul_le_mul hy2 (product_pos rest hrest)
    · exact Nat.mul_le_mul (h xs List.mem_cons_self) (ih hrest ⟨ys, hys', hy2⟩)

theorem length_flatMap_ge {α β} (f : α → List β) (l : List α) (h : ∀ x ∈ l, 1 ≤ (f x).length) :
    l.length ≤ (l.flatMap f).length := by
  induction l with
  | nil => exact Nat.le_refl 0
  | cons x l ih =>
    rw [List.flatMap_cons, List.length_append, List.length_cons, Nat.add_comm]
    exact Nat.add_le_add (h x List.mem_cons_self) (ih (fun y hy => h y (List.mem_cons_of_mem _ hy)))

/-- a sum built by `|` has at least two alternatives, each with a version -/
theorem versions_sum_two (ks : List Ty) (hw : wf (.node .sum ks) = true) (ih : ∀ k ∈ ks, wf k = true → 1 ≤ (versions k).length) :
    2 ≤ (versions (.node .sum ks)).length := by
  rw [wf_node] at hw
  rw [versions_sum]
  exact Nat.le_trans (of_decide_eq_true hw.1) (length_flatMap_ge versions ks (fun k hk => ih k hk (hw.2 k hk)))

theorem versions_pos (t : Ty) : wf t = true → 1 ≤ (versions t).length := by
  induction t using Ty.ind_sum with
  | sum ks ih => exact fun hw => Nat.le_of_succ_le (versions_sum_two ks hw ih)
  | comp l ks hs hi ih =>
    intro hw
    rw [versions_comp l ks hs hi, List.length_map]
    apply product_pos
    intro xs hxs
    obtain ⟨k, hk, rfl⟩ := List.mem_map.mp hxs
    exact ih k hk ((wf_node.mp hw).2 k hk)
  | leaf l ks hi => intro _; rw [versions_leaf l ks hi]; exact Nat.le_refl 1

theorem versions_two (t : Ty) : wf t = true → hasSum t = true → 2 ≤ (versions t).length := by
  induction t using Ty.ind_sum with
  | sum ks ih => exact fun hw _ => versions_sum_two ks hw (fun k _ => versions_pos k)
  | comp l ks hs hi ih =>
    intro hw hsum
    rw [hasSum_comp ks hs hi, List.any_eq_true] at hsum
    obtain ⟨k, hk, hks⟩ := hsum
    have hwk := (wf_node.mp hw).2
    rw [versions_comp l ks hs hi, List.length_map]
    apply product_two
    · intro xs hxs
      obtain ⟨k', hk', rfl⟩ := List.mem_map.mp hxs
      exact versions_pos k' (hwk k' hk')
    · exact ⟨versions k, List.mem_map_of_mem hk, ih k hk (hwk k hk) hks⟩
  | leaf l ks hi => intro _ h; rw [hasSum_leaf ks hi] at h; cases h

theorem isPolymorphic_false_iff (t : Ty) : isPolymorphic t = false ↔ polys t = [] := by
  induction t using Ty.ind_var with
  | var l ks hv => simp [isPolymorphic_node, polys_var hv, hv]
  | inner l ks hv hi ih =>
    rw [isPolymorphic_node, polys_inner hv hi, hv, hi, Bool.false_or, Bool.true_and, List.any_eq_false,
      List.flatMap_eq_nil_iff]
    exact forall₂_congr fun k hk => by rw [← ih k hk, Bool.not_eq_true]
  | leaf l ks hv hi => simp [isPolymorphic_node, polys_leaf hv hi, hv, hi]

theorem unify_of_ground (n : String) (v : Ty) (t : Ty) : polys t = [] → unify n v t = t := by
  induction t using Ty.ind_var with
  | var l ks hv => intro h; rw [polys_var hv] at h; cases h
  | inner l ks hv hi ih =>
    intro h
    rw [polys_inner hv hi, List.flatMap_eq_nil_iff] at h
    rw [unify_inner n v hv hi, List.map_congr_left (g := id) fun k hk => ih k hk (h k hk), List.map_id]
  | leaf l ks hv hi => intro _; exact unify_leaf n v hv hi

theorem polys_applySubst (σ : String → Ty) (t : Ty) :
    (∀ q ∈ polys t, polys (σ q.label.name) = []) → polys (applySubst σ t) = [] := by
  induction t using Ty.ind_var with
  | var l ks hv => intro h; rw [applySubst_var σ hv]; exact h _ (polys_var hv ▸ List.mem_singleton_self _)
  | inner l ks hv hi ih =>
    intro h
    rw [applySubst_inner σ hv hi, polys_inner hv hi, List.flatMap_eq_nil_iff]
    intro k' hk'
    obtain ⟨k, hk, rfl⟩ := List.mem_map.mp hk'
    exact ih k hk fun q hq => h q (mem_polys_inner hv hi hk hq)
  | leaf l ks hv hi => intro _; rw [applySubst_leaf σ hv hi]; exact polys_leaf hv hi

theorem versions_ground (t : Ty) : polys t = [] → ∀ c ∈ versions t, polys c = [] := fun ht c hc =>
  Choice.ind (Q := fun t c => polys t = [] → polys c = [])
    (fun _ _ _ h => h)
    (fun ks a c ha ih h => ih (List.flatMap_eq_nil_iff.mp ((polys_inner (l := .sum) rfl rfl).symm.trans h) a ha))
    (fun l ks cs _ hi ih h => by
      have hv := not_var_of_inner hi
      rw [polys_inner hv hi, List.flatMap_eq_nil_iff] at h ⊢
      intro c hc
      obtain ⟨k, hk, hq⟩ := ih c hc
      exact hq (h k hk))
    ((mem_versions_iff t c).mp hc) ht

theorem wf_applySubst (σ : String → Ty) (t : Ty) :
    wf t = true → (∀ q ∈ polys t, wf (σ q.label.name) = true) → wf (applySubst σ t) = true := by
  induction t using Ty.ind_var with
  | var l ks hv => intro _ h; rw [applySubst_var σ hv]; exact h _ (polys_var hv ▸ List.mem_singleton_self _)
  | inner l ks hv hi ih =>
    intro hw h
    rw [wf_node] at hw
    rw [applySubst_inner σ hv hi, wf_node, List.length_map]
    refine ⟨hw.1, fun k' hk' => ?_⟩
    obtain ⟨k, hk, rfl⟩ := List.mem_map.mp hk'
    exact ih k hk (hw.2 k hk) fun q hq => h q (mem_polys_inner hv hi hk hq)
  | leaf l ks hv hi => intro hw _; rw [applySubst_leaf σ hv hi]; exact hw

/-! ### the loop over the type variables = one simultaneous substitution -/

/-- what one path through the rounds `for poly_type in set_polymorphic_types_P` does to a type: one
    `unify` per (name, candidate) pair, in the order of the loop (`mem_foldl_instVar`) -/
def unifyAll (pairs : List (String × Ty)) (t : Ty) : Ty :=
  pairs.foldl (fun t p => unify p.1 p.2 t) t

theorem unifyAll_cons (p : String × Ty) (ps : List (String × Ty)) (t : Ty) :
    unifyAll (p :: ps) t = unifyAll ps (unify p.1 p.2 t) := rfl

theorem unifyAll_ground (pairs : List (String × Ty)) (t : Ty) (h : polys t = []) : unifyAll pairs t = t := by
  induction pairs with
  | nil => rfl
  | cons p ps ih => rw [unifyAll_cons, unify_of_ground _ _ _ h, ih]

/-- The candidates are ground, so the first pair with the name of a variable decides what replaces it. -/
theorem unifyAll_var (pairs : List (String × Ty)) (hg : ∀ p ∈ pairs, polys p.2 = []) {l : TyL} (hv : isVarL l = true)
    (ks : List Ty) : unifyAll pairs (.node l ks) = (AList.lookup l.name pairs).getD (.node l ks) := by
  induction pairs with
  | nil => rfl
  | cons p ps ih =>
    obtain ⟨n, v⟩ := p
    rw [unifyAll_cons, unify_var n v hv, AList.lookup]
    by_cases hn : n = l.name
    · rw [if_pos hn.symm, if_pos hn]
      exact unifyAll_ground ps v (hg (n, v) List.mem_cons_self)
    · rw [if_neg (Ne.symm hn), if_neg hn]
      exact ih fun p hp => hg p (List.mem_cons_of_mem _ hp)

theorem unifyAll_inner (pairs : List (String × Ty)) {l : TyL} (hv : isVarL l = false) (hi : isInnerL l = true)
    (ks : List Ty) : unifyAll pairs (.node l ks) = .node l (ks.map (unifyAll pairs)) := by
  induction pairs generalizing ks with
  | nil => exact (congrArg _ (List.map_id ks)).symm
  | cons p ps ih =>
    rw [unifyAll_cons, unify_inner p.1 p.2 hv hi, ih, List.map_map]
    rfl

theorem unifyAll_eq_applySubst (pairs : List (String × Ty)) (hg : ∀ p ∈ pairs, polys p.2 = [])
    (σ : String → Ty) (t : Ty) :
    (∀ q ∈ polys t, AList.lookup q.label.name pairs = some (σ q.label.name)) →
      unifyAll pairs t = applySubst σ t := by
  induction t using Ty.ind_var with
  | var l ks hv =>
    intro h
    have h' : AList.lookup l.name pairs = some (σ l.name) := h (.node l ks) (polys_var hv ▸ List.mem_singleton_self _)
    rw [unifyAll_var pairs hg hv, h', applySubst_var σ hv]; rfl
  | inner l ks hv hi ih =>
    intro h
    rw [unifyAll_inner pairs hv hi, applySubst_inner σ hv hi,
      List.map_congr_left fun k hk => ih k hk fun q hq => h q (mem_polys_inner hv hi hk hq)]
  | leaf l ks hv hi => intro _; rw [unifyAll_ground _ _ (polys_leaf hv hi), applySubst_leaf σ hv hi]

theorem admissible_iff {V : List Ty} {n : String} {v : Ty} :
    admissible V n v = true ↔ ∀ q ∈ V, q.label.name = n → canBe q v = true := by
  simp only [admissible, List.all_eq_true, Bool.or_eq_true, bne_iff_ne, ne_eq, Decidable.imp_iff_not_or]

/-- the test of dsl.py for one variable name and one candidate -/
def Ok (U : List Ty) (bound : Nat) (V : List Ty) (n : String) (v : Ty) : Prop :=
  v ∈ U ∧ admissible V n v = true ∧ Ty.size v ≤ bound

theorem mem_instVar (U : List Ty) (bound : Nat) (V insts : List Ty) (q t' : Ty) :
    t' ∈ instVar U bound V insts q ↔
      ∃ v, Ok U bound V q.label.name v ∧ ∃ i ∈ insts, t' = unify q.label.name v i := by
  simp only [instVar, Ok, mem_dedup, List.mem_flatMap, List.mem_filter, List.mem_map, Bool.and_eq_true,
    decide_eq_true_eq, eq_comm (a := t')]

theorem mem_foldl_instVar (U : List Ty) (bound : Nat) (V : List Ty) (vars insts : List Ty) (t' : Ty) :
    t' ∈ vars.foldl (instVar U bound V) insts ↔
      ∃ i ∈ insts, ∃ pairs : List (String × Ty),
        pairs.map (·.1) = vars.map (·.label.name) ∧ (∀ p ∈ pairs, Ok U bound V p.1 p.2) ∧
        t' = unifyAll pairs i := by
  induction vars generalizing insts with
  | nil =>
    constructor
    · intro h; exact ⟨t', h, [], rfl, nofun, rfl⟩
    · rintro ⟨i, hi, pairs, hm, _, rfl⟩
      rw [List.map_eq_nil_iff.mp hm]; exact hi
  | cons q vars ih =>
    rw [List.foldl_cons, ih]
    constructor
    · rintro ⟨i', hi', pairs, hm, hok', rfl⟩
      obtain ⟨v, hok, i, hi, rfl⟩ := (mem_instVar ..).mp hi'
      exact ⟨i, hi, (q.label.name, v) :: pairs, by rw [List.map_cons, List.map_cons, hm],
        List.forall_mem_cons.mpr ⟨hok, hok'⟩, rfl⟩
    · rintro ⟨i, hi, pairs, hm, hok, rfl⟩
      cases pairs with
      | nil => cases hm
      | cons p ps =>
        obtain ⟨n, v⟩ := p
        simp only [List.map_cons, List.cons.injEq] at hm
        obtain ⟨rfl, hm⟩ := hm
        obtain ⟨hok, hoks⟩ := List.forall_mem_cons.mp hok
        exact ⟨unify q.label.name v i, (mem_instVar ..).mpr ⟨v, hok, i, hi, rfl⟩, ps, hm, hoks, rfl⟩

theorem lookup_of_names {R : String → Ty → Prop} {vars : List Ty} {pairs : List (String × Ty)}
    (hm : pairs.map (·.1) = vars.map (·.label.name)) (hR : ∀ p ∈ pairs, R p.1 p.2) {q : Ty} (hq : q ∈ vars) :
    ∃ v, AList.lookup q.label.name pairs = some v ∧ R q.label.name v := by
  have hk : q.label.name ∈ AList.keys pairs := by rw [AList.keys, hm]; exact List.mem_map_of_mem hq
  obtain ⟨v, hv⟩ := Option.isSome_iff_exists.mp (AList.lookup_isSome_iff_mem_keys.mpr hk)
  exact ⟨v, hv, hR _ (AList.lookup_some_mem hv)⟩

theorem lookup_map_name (σ : String → Ty) {vars : List Ty} {q : Ty} (hq : q ∈ vars) :
    AList.lookup q.label.name (vars.map (fun q => (q.label.name, σ q.label.name))) = some (σ q.label.name) := by
  obtain ⟨v, hv, rfl⟩ := lookup_of_names (R := fun n v => v = σ n)
    (pairs := vars.map fun q => (q.label.name, σ q.label.name)) (by rw [List.map_map]; rfl)
    (fun p hp => by obtain ⟨_, _, rfl⟩ := List.mem_map.mp hp; rfl) hq
  exact hv

theorem mem_instType (U : List Ty) (hU : ∀ u ∈ U, polys u = []) (bound : Nat) (τ t' : Ty) :
    t' ∈ instType U bound τ ↔
      ∃ σ : String → Ty,
        (∀ q ∈ polys τ, σ q.label.name ∈ U ∧ Ty.size (σ q.label.name) ≤ bound ∧
          canBe q (σ q.label.name) = true) ∧ t' = applySubst σ τ := by
  unfold instType
  simp only
  rw [mem_foldl_instVar]
  constructor
  · rintro ⟨i, hi, pairs, hm, hok, rfl⟩
    cases List.mem_singleton.mp hi
    have hlook := fun q (hq : q ∈ polys τ) => lookup_of_names hm hok (mem_dedup.mpr hq)
    refine ⟨fun n => (AList.lookup n pairs).getD Ty.unknown, fun q hq => ?_, ?_⟩
    · obtain ⟨v, hv, hok⟩ := hlook q hq
      simp only [hv, Option.getD_some]
      exact ⟨hok.1, hok.2.2, admissible_iff.mp hok.2.1 q (mem_dedup.mpr hq) rfl⟩
    · refine unifyAll_eq_applySubst pairs (fun p hp => hU _ (hok p hp).1) _ _ fun q hq => ?_
      obtain ⟨v, hv, _⟩ := hlook q hq
      simp only [hv, Option.getD_some]
  · rintro ⟨σ, hσ, rfl⟩
    refine ⟨τ, List.mem_singleton_self _, (dedup (polys τ)).map (fun q => (q.label.name, σ q.label.name)),
      by rw [List.map_map]; rfl, fun p hp => ?_, ?_⟩
    · obtain ⟨q, hq, rfl⟩ := List.mem_map.mp hp
      have hq' := hσ q (mem_dedup.mp hq)
      refine ⟨hq'.1, admissible_iff.mpr fun q' hq'' hn => ?_, hq'.2.1⟩
      rw [← show q'.label.name = q.label.name from hn]; exact (hσ q' (mem_dedup.mp hq'')).2.2
    · refine (unifyAll_eq_applySubst _ (fun p hp => ?_) σ τ fun q hq => lookup_map_name σ (mem_dedup.mpr hq)).symm
      obtain ⟨q, hq, rfl⟩ := List.mem_map.mp hp
      exact hU _ (hσ q (mem_dedup.mp hq)).1

theorem basics_inner {l : TyL} (ks : List Ty) (hi : isInnerL l = true) : basics (.node l ks) = ks.flatMap basics := by
  cases l <;> simp_all [isInnerL, basics, basicsList_eq]

theorem basics_prim (t : Ty) : ∀ b ∈ basics t, (∃ n ks, b = .node (.prim n) ks) ∧ (wf t = true → wf b = true) := by
  induction t using Tree.ind with
  | node l ks ih =>
    intro b hb
    cases l with
    | prim n => cases List.mem_singleton.mp hb; exact ⟨⟨n, ks, rfl⟩, id⟩
    | poly _ | fpoly _ | unknown => cases hb
    | arrow | generic _ | sum =>
      rw [basics_inner ks rfl, List.mem_flatMap] at hb
      obtain ⟨k, hk, hb⟩ := hb
      exact ⟨(ih k hk b hb).1, fun hw => (ih k hk b hb).2 ((wf_node.mp hw).2 k hk)⟩

theorem mem_basicTypes (P : List Prim) (b : Ty) : b ∈ basicTypes P ↔ IsBase P b := by
  rw [basicTypes, List.mem_filter, mem_dedup, List.mem_flatMap, bne_iff_ne]; rfl

theorem mem_typeUniverse (P : List Prim) (u : Ty) : u ∈ typeUniverse (basicTypes P) ↔ InUniverse P u := by
  -- both sides become the disjunction of the four shapes once `∃` and `∧` are pulled through `∨`
  simp only [typeUniverse, InUniverse, mem_dedup, List.mem_append, List.mem_flatMap, List.mem_cons, List.mem_map,
    mem_basicTypes, List.not_mem_nil, or_false, and_or_left, exists_or, exists_eq_right', or_assoc, eq_comm (b := u)]

theorem isBase_prim {P : List Prim} {b : Ty} (h : IsBase P b) : ∃ n ks, b = .node (.prim n) ks := by
  obtain ⟨⟨p, _, hb⟩, _⟩ := h
  exact (basics_prim p.2 b hb).1

theorem isBase_wf {P : List Prim} (hP : ∀ p ∈ P, wf p.2 = true) {b : Ty} (h : IsBase P b) : wf b = true := by
  obtain ⟨⟨p, hp, hb⟩, _⟩ := h
  exact (basics_prim p.2 b hb).2 (hP p hp)

theorem polys_prim (n : String) (ks : List Ty) : polys (.node (.prim n) ks) = [] := polys_leaf rfl rfl

theorem polys_list {a : Ty} (h : polys a = []) : polys (Ty.list a) = [] := by
  rw [Ty.list, Ty.generic, polys_inner rfl rfl, List.flatMap_singleton]; exact h

theorem polys_arrow (a b : Ty) : polys (.node .arrow [a, b]) = [] ↔ polys a = [] ∧ polys b = [] := by
  rw [polys_inner rfl rfl]; simp

theorem inUniverse_ground {P : List Prim} {u : Ty} (h : InUniverse P u) : polys u = [] := by
  obtain ⟨b, hb, h⟩ := h
  obtain ⟨n, ks, rfl⟩ := isBase_prim hb
  have hg := polys_prim n ks
  rcases h with rfl | rfl | rfl | ⟨b', hb', rfl⟩
  · exact hg
  · exact polys_list hg
  · exact polys_list (polys_list hg)
  · obtain ⟨n', ks', rfl⟩ := isBase_prim hb'
    exact (polys_arrow _ _).mpr ⟨hg, polys_prim n' ks'⟩

theorem wf_list {a : Ty} (h : wf a = true) : wf (Ty.list a) = true :=
  wf_node.mpr ⟨rfl, List.forall_mem_singleton.mpr h⟩

theorem inUniverse_wf {P : List Prim} (hP : ∀ p ∈ P, wf p.2 = true) {u : Ty} (h : InUniverse P u) :
    wf u = true := by
  obtain ⟨b, hb, h⟩ := h
  have hw := isBase_wf hP hb
  rcases h with rfl | rfl | rfl | ⟨b', hb', rfl⟩
  · exact hw
  · exact wf_list hw
  · exact wf_list (wf_list hw)
  · exact wf_node.mpr ⟨rfl, List.forall_mem_cons.mpr ⟨hw, List.forall_mem_singleton.mpr (isBase_wf hP hb')⟩⟩

theorem arguments_of_not_arrow (t : Ty) (h : ∀ a b, t = .node .arrow [a, b] → False) : arguments t = [] :=
  arguments.eq_2 t h

theorem returns_of_not_arrow (t : Ty) (h : ∀ a b, t = .node .arrow [a, b] → False) : returns t = t :=
  returns.eq_2 t h

theorem withoutUnit_of_not_arrow (t : Ty) (h : ∀ a b, t = .node .arrow [a, b] → False) : withoutUnit fx t = t :=
  withoutUnit.eq_3 fx t h

theorem mkArrows_arguments_returns (t : Ty) : mkArrows (arguments t) (returns t) = t := by
  induction t using arguments.induct with
  | case1 a b ih => rw [arguments, returns, mkArrows, ih]; rfl
  | case2 t h => rw [arguments_of_not_arrow t h, returns_of_not_arrow t h]; rfl

theorem arguments_returns (t : Ty) : arguments (returns t) = [] := by
  induction t using arguments.induct with
  | case1 a b ih => rw [returns]; exact ih
  | case2 t h => rw [returns_of_not_arrow t h]; exact arguments_of_not_arrow t h

theorem returns_returns (t : Ty) : returns (returns t) = returns t := by
  induction t using arguments.induct with
  | case1 a b ih => rw [returns]; exact ih
  | case2 t h => rw [returns_of_not_arrow t h, returns_of_not_arrow t h]

theorem arguments_mkArrows (as : List Ty) (r : Ty) (h : arguments r = []) : arguments (mkArrows as r) = as := by
  induction as with
  | nil => exact h
  | cons a as ih => rw [mkArrows, Ty.arrow, arguments, ih]

theorem returns_mkArrows (as : List Ty) (r : Ty) : returns (mkArrows as r) = returns r := by
  induction as with
  | nil => rfl
  | cons a as ih => rw [mkArrows, Ty.arrow, returns, ih]

theorem arguments_dropUnit (t : Ty) :
    arguments (dropUnit t) = (arguments t).filter (fun a => a != Ty.unit) :=
  arguments_mkArrows _ _ (arguments_returns t)

theorem returns_dropUnit (t : Ty) : returns (dropUnit t) = returns t := by
  rw [dropUnit, returns_mkArrows, returns_returns]

theorem hasUnitArg_dropUnit (t : Ty) : hasUnitArg (dropUnit t) = false := by
  rw [hasUnitArg, arguments_dropUnit, List.any_eq_false]
  intro a ha
  simpa using (List.mem_filter.mp ha).2

theorem dropUnit_of_noUnitArg (t : Ty) (h : hasUnitArg t = false) : dropUnit t = t := by
  rw [hasUnitArg, List.any_eq_false] at h
  rw [dropUnit, List.filter_eq_self.mpr fun a ha => by simpa using h a ha, mkArrows_arguments_returns]

theorem dropUnit_of_not_arrow (t : Ty) (h : ∀ a b, t = .node .arrow [a, b] → False) : dropUnit t = t := by
  rw [dropUnit, arguments_of_not_arrow t h, returns_of_not_arrow t h]; rfl

theorem dropUnit_arrow (a b : Ty) :
    dropUnit (.node .arrow [a, b]) = if a = Ty.unit then dropUnit b else Ty.arrow a (dropUnit b) := by
  rw [dropUnit, arguments, returns, List.filter_cons]
  by_cases h : a = Ty.unit
  · rw [if_pos h, if_neg (by simpa using h)]; rfl
  · rw [if_neg h, if_pos (by simpa using h)]; rfl

/-- `h`: the argument is not rewritten (it is not a function returning unit, or the repair of C14-F4 is present) -/
theorem withoutUnit_arrow_safe (a b : Ty) (h : (returnsUnitFn a && !fx) = false) :
    withoutUnit fx (.node .arrow [a, b]) = if a = Ty.unit then withoutUnit fx b else Ty.arrow a (withoutUnit fx b) := by
  by_cases hx : ∃ x y, a = .node .arrow [x, y]
  · obtain ⟨x, y, rfl⟩ := hx
    have : (y = Ty.unit && !fx) = false := by simpa [returnsUnitFn] using h
    rw [withoutUnit.eq_1, this]; rfl
  · exact withoutUnit.eq_2 fx a b (fun x y e => hx ⟨x, y, e⟩)

/-- outside the region of finding C14-F4, or everywhere with its repair (`fx = true`), `without_unit_arguments` is
    the specified removal -/
theorem withoutUnit_eq_dropUnit' (t : Ty) : (hasUnitRetArg t && !fx) = false → withoutUnit fx t = dropUnit t := by
  induction t using arguments.induct with
  | case1 a b ih =>
    intro h
    rw [hasUnitRetArg, arguments, List.any_cons, Bool.and_or_distrib_right, Bool.or_eq_false_iff] at h
    rw [withoutUnit_arrow_safe a b h.1, dropUnit_arrow, ih h.2]
  | case2 t h => intro _; rw [withoutUnit_of_not_arrow t h, dropUnit_of_not_arrow t h]

theorem withoutUnit_eq_dropUnit (t : Ty) (h : hasUnitRetArg t = false) : withoutUnit fx t = dropUnit t :=
  withoutUnit_eq_dropUnit' t (by rw [h]; rfl)

theorem withoutUnit_fixed_eq_dropUnit (t : Ty) : withoutUnit true t = dropUnit t :=
  withoutUnit_eq_dropUnit' t (Bool.and_false _)

theorem withoutUnit_preserves (Q : Ty → Prop) (hQ : ∀ a b, Q (.node .arrow [a, b]) ↔ Q a ∧ Q b) (t : Ty) :
    Q t → Q (withoutUnit fx t) := by
  fun_induction withoutUnit fx t with
  | case1 b out ih => exact fun h => ih ((hQ _ b).mp h).2
  | case2 b out x y _ _ ih =>
    exact fun h => (hQ x out).mpr ⟨((hQ x y).mp ((hQ _ b).mp h).1).1, ih ((hQ _ b).mp h).2⟩
  | case3 b out x y _ _ ih => exact fun h => (hQ _ out).mpr ⟨((hQ _ b).mp h).1, ih ((hQ _ b).mp h).2⟩
  | case4 a b out _ _ ih => exact fun h => (hQ a out).mpr ⟨((hQ a b).mp h).1, ih ((hQ a b).mp h).2⟩
  | case5 t _ => exact id

theorem hasSum_arrow (a b : Ty) : hasSum (.node .arrow [a, b]) = false ↔ hasSum a = false ∧ hasSum b = false := by
  rw [hasSum_comp _ (by decide) rfl]; simp

theorem unitStep_snd (p : Prim) : (unitStep fx p).2 = if hasUnitArg p.2 then withoutUnit fx p.2 else p.2 := by
  unfold unitStep; split <;> rfl

theorem unitStep_fst (p : Prim) : (unitStep fx p).1 = p.1 := by
  unfold unitStep; split <;> rfl

theorem unitStep_eq (p : Prim) (h : hasUnitArg p.2 = true → withoutUnit fx p.2 = dropUnit p.2) :
    unitStep fx p = (p.1, dropUnit p.2) := by
  unfold unitStep
  split
  · rename_i hu; rw [h hu]
  · rename_i hu; rw [dropUnit_of_noUnitArg _ (Bool.eq_false_iff.mpr hu)]

theorem unitStep_fixed (p : Prim) : unitStep true p = (p.1, dropUnit p.2) :=
  unitStep_eq p fun _ => withoutUnit_fixed_eq_dropUnit p.2

theorem unitStep_safe (p : Prim) (h : unitSafe p.2 = true) : unitStep fx p = (p.1, dropUnit p.2) :=
  unitStep_eq p fun hu => withoutUnit_eq_dropUnit _ (by simpa [unitSafe, hu] using h)

theorem instType_of_ground (U : List Ty) (bound : Nat) (t : Ty) (h : polys t = []) : instType U bound t = [t] := by
  unfold instType
  simp only [h]
  rfl

theorem universe_ground (P : List Prim) : ∀ u ∈ typeUniverse (basicTypes P), polys u = [] :=
  fun u hu => inUniverse_ground ((mem_typeUniverse P u).mp hu)

theorem instType_ground (P : List Prim) (bound : Nat) (τ t : Ty)
    (h : t ∈ instType (typeUniverse (basicTypes P)) bound τ) : polys t = [] := by
  obtain ⟨σ, hσ, rfl⟩ := (mem_instType _ (universe_ground P) ..).mp h
  exact polys_applySubst σ τ (fun q hq => universe_ground P _ (hσ q hq).1)

theorem instType_wf (P : List Prim) (hP : ∀ p ∈ P, wf p.2 = true) (bound : Nat) (τ t : Ty) (hτ : wf τ = true)
    (h : t ∈ instType (typeUniverse (basicTypes P)) bound τ) : wf t = true := by
  obtain ⟨σ, hσ, rfl⟩ := (mem_instType _ (universe_ground P) ..).mp h
  exact wf_applySubst σ τ hτ (fun q hq => inUniverse_wf hP ((mem_typeUniverse P _).mp (hσ q hq).1))

theorem hasVars_false_iff (p : Prim) : hasVars p = false ↔ polys p.2 = [] := by
  unfold hasVars; simp

/-- The two expansion loops of dsl.py replace the type of a primitive by the types `f` makes of it: every type `f`
    returns needs no further expansion, and a type that needs none is its only image. -/
theorem mem_expandPass_types (test : Prim → Bool) (f : Ty → List Ty)
    (hdone : ∀ (p : Prim), ∀ t ∈ f p.2, test (p.1, t) = false)
    (L : List Prim) (hid : ∀ p ∈ L, test p = false → f p.2 = [p.2]) (x : Prim) :
    x ∈ expandPass test (fun p => (f p.2).map (fun t => (p.1, t))) L ↔ ∃ p ∈ L, ∃ t ∈ f p.2, x = (p.1, t) := by
  rw [mem_expandPass _ _ fun p _ x hx => by obtain ⟨t, ht, rfl⟩ := List.mem_map.mp hx; exact hdone p t ht]
  constructor
  · rintro ⟨hx, h | ⟨p, hp, _, hm⟩⟩
    · exact ⟨x, h, x.2, hid x h hx ▸ List.mem_singleton_self _, rfl⟩
    · obtain ⟨t, ht, rfl⟩ := List.mem_map.mp hm
      exact ⟨p, hp, t, ht, rfl⟩
  · rintro ⟨p, hp, t, ht, rfl⟩
    refine ⟨hdone p t ht, ?_⟩
    cases hv : test p
    · rw [hid p hp hv, List.mem_singleton] at ht
      exact Or.inl (ht ▸ hp)
    · exact Or.inr ⟨p, hp, hv, List.mem_map_of_mem ht⟩

theorem mem_varPass (P : List Prim) (bound : Nat) (x : Prim) :
    x ∈ varPass (typeUniverse (basicTypes P)) bound P ↔
      ∃ p ∈ P, ∃ t ∈ instType (typeUniverse (basicTypes P)) bound p.2, x = (p.1, t) :=
  mem_expandPass_types hasVars _ (fun p t ht => (hasVars_false_iff _).mpr (instType_ground P bound p.2 t ht)) P
    (fun p _ hv => instType_of_ground _ _ _ ((hasVars_false_iff p).mp hv)) x

theorem manyVersions_false_of_noSum (p : Prim) (h : hasSum p.2 = false) : manyVersions p = false := by
  rw [manyVersions, versions_of_noSum _ h]; rfl

theorem noSum_of_manyVersions_false (p : Prim) (hw : wf p.2 = true) (h : manyVersions p = false) :
    hasSum p.2 = false :=
  Bool.eq_false_iff.mpr fun hs => of_decide_eq_false h (versions_two p.2 hw hs)

theorem mem_sumPass (L : List Prim) (hL : ∀ x ∈ L, wf x.2 = true) (y : Prim) :
    y ∈ sumPass L ↔ ∃ x ∈ L, ∃ v ∈ versions x.2, y = (x.1, v) :=
  mem_expandPass_types manyVersions versions
    (fun p v hv => manyVersions_false_of_noSum _ (versions_noSum p.2 v hv)) L
    (fun p hp hm => versions_of_noSum _ (noSum_of_manyVersions_false p (hL p hp) hm)) y

theorem mem_unitPass (L : List Prim) (r : Prim) : r ∈ unitPass fx L ↔ ∃ y ∈ L, r = unitStep fx y := by
  simp only [unitPass, mem_dedup, List.mem_map, eq_comm (a := r)]

def preUnit (P : List Prim) (bound : Nat) : List Prim :=
  sumPass (varPass (typeUniverse (basicTypes P)) bound P)

theorem mem_preUnit (P : List Prim) (hP : ∀ p ∈ P, wf p.2 = true) (bound : Nat) (y : Prim) :
    y ∈ preUnit P bound ↔
      ∃ p ∈ P, ∃ t ∈ instType (typeUniverse (basicTypes P)) bound p.2, ∃ v ∈ versions t, y = (p.1, v) := by
  rw [preUnit, mem_sumPass]
  · constructor
    · rintro ⟨x, hx, v, hv, e⟩
      obtain ⟨p, hp, t, ht, rfl⟩ := (mem_varPass ..).mp hx
      exact ⟨p, hp, t, ht, v, hv, e⟩
    · rintro ⟨p, hp, t, ht, v, hv, e⟩
      exact ⟨(p.1, t), (mem_varPass ..).mpr ⟨p, hp, t, ht, rfl⟩, v, hv, e⟩
  · intro x hx
    obtain ⟨p, hp, t, ht, rfl⟩ := (mem_varPass ..).mp hx
    exact instType_wf P hP bound p.2 t (hP p hp) ht

theorem mem_instantiate (P : List Prim) (bound : Nat) (r : Prim) :
    r ∈ instantiate fx P bound ↔ ∃ y ∈ preUnit P bound, r = unitStep fx y :=
  mem_unitPass _ r

theorem mem_preUnit_spec (P : List Prim) (hP : ∀ p ∈ P, wf p.2 = true) (bound : Nat) (y : Prim) :
    y ∈ preUnit P bound ↔
      ∃ p ∈ P, ∃ σ, Admissible P bound p.2 σ ∧ ∃ c, Choice (applySubst σ p.2) c ∧ y = (p.1, c) := by
  rw [mem_preUnit P hP]
  constructor
  · rintro ⟨p, hp, t, ht, v, hv, e⟩
    obtain ⟨σ, hσ, rfl⟩ := (mem_instType _ (universe_ground P) ..).mp ht
    exact ⟨p, hp, σ, fun q hq => ⟨(mem_typeUniverse P _).mp (hσ q hq).1, (hσ q hq).2⟩, v,
      (mem_versions_iff _ _).mp hv, e⟩
  · rintro ⟨p, hp, σ, hσ, c, hc, e⟩
    refine ⟨p, hp, applySubst σ p.2, ?_, c, (mem_versions_iff _ _).mpr hc, e⟩
    exact (mem_instType _ (universe_ground P) ..).mpr
      ⟨σ, fun q hq => ⟨(mem_typeUniverse P _).mpr (hσ q hq).1, (hσ q hq).2⟩, rfl⟩

theorem instantiate_fixed (R : List Prim) (bound : Nat) (hnd : R.Nodup)
    (h : ∀ r ∈ R, polys r.2 = [] ∧ hasSum r.2 = false ∧ hasUnitArg r.2 = false) :
    instantiate fx R bound = R := by
  unfold instantiate varPass sumPass unitPass
  rw [expandPass_id _ _ R (fun r hr => (hasVars_false_iff r).mpr (h r hr).1),
    expandPass_id _ _ R (fun r hr => manyVersions_false_of_noSum r (h r hr).2.1),
    List.map_congr_left (g := id) fun r hr => by rw [unitStep, (h r hr).2.2]; rfl, List.map_id,
    dedup_of_nodup hnd]

/-- the unit pass does what the specification says on every instance: outside the region of finding
    C14-F4, or everywhere when the repair is present -/
def UnitStepOK (fx : Bool) (P : List Prim) (bound : Nat) : Prop :=
  ∀ y ∈ preUnit P bound, unitStep fx y = (y.1, dropUnit y.2)

theorem instantiate_ground (fx : Bool) (P : List Prim) (bound : Nat) (hP : ∀ p ∈ P, wf p.2 = true) :
    ∀ r ∈ instantiate fx P bound, isPolymorphic r.2 = false ∧ hasSum r.2 = false := by
  intro r hr
  rw [mem_instantiate] at hr
  obtain ⟨y, hy, e⟩ := hr
  rw [mem_preUnit P hP] at hy
  obtain ⟨p, _, t, ht, v, hv, ey⟩ := hy
  subst ey
  have hg : polys v = [] := versions_ground t (instType_ground P bound p.2 t ht) v hv
  have hs : hasSum v = false := versions_noSum t v hv
  subst e
  rw [isPolymorphic_false_iff, unitStep_snd]
  simp only
  split
  · exact ⟨withoutUnit_preserves (fun t => polys t = []) polys_arrow v hg,
      withoutUnit_preserves (fun t => hasSum t = false) hasSum_arrow v hs⟩
  · exact ⟨hg, hs⟩

theorem mem_instantiate_spec {fx : Bool} {P : List Prim} {bound : Nat} (hP : ∀ p ∈ P, wf p.2 = true)
    (hS : UnitStepOK fx P bound) (r : Prim) : r ∈ instantiate fx P bound ↔ Instances P bound r := by
  rw [mem_instantiate]
  constructor
  · rintro ⟨y, hy, e⟩
    have hstep := hS y hy
    rw [mem_preUnit_spec P hP] at hy
    obtain ⟨p, hp, σ, hσ, c, hc, ey⟩ := hy
    subst ey
    rw [hstep] at e
    subst e
    exact ⟨p, hp, rfl, σ, hσ, c, hc, rfl⟩
  · rintro ⟨p, hp, hn, σ, hσ, c, hc, e⟩
    have hy : (p.1, c) ∈ preUnit P bound := (mem_preUnit_spec P hP bound _).mpr ⟨p, hp, σ, hσ, c, hc, rfl⟩
    refine ⟨(p.1, c), hy, ?_⟩
    rw [hS _ hy]
    exact Prod.ext hn e

theorem instantiate_unit {fx : Bool} {P : List Prim} {bound : Nat} (hS : UnitStepOK fx P bound) :
    ∀ r ∈ instantiate fx P bound, hasUnitArg r.2 = false ∧
      ∃ y ∈ preUnit P bound, r.1 = y.1 ∧
        arguments r.2 = (arguments y.2).filter (fun a => a != Ty.unit) ∧ returns r.2 = returns y.2 := by
  intro r hr
  rw [mem_instantiate] at hr
  obtain ⟨y, hy, e⟩ := hr
  rw [hS y hy] at e
  subst e
  exact ⟨hasUnitArg_dropUnit _, y, hy, rfl, arguments_dropUnit _, returns_dropUnit _⟩

theorem instantiate_idem {fx : Bool} {P : List Prim} {bound : Nat} (bound' : Nat) (hP : ∀ p ∈ P, wf p.2 = true)
    (hS : UnitStepOK fx P bound) :
    instantiate fx (instantiate fx P bound) bound' = instantiate fx P bound := by
  apply instantiate_fixed _ _ (nodup_dedup _)
  intro r hr
  have hg := instantiate_ground fx P bound hP r hr
  exact ⟨(isPolymorphic_false_iff _).mp hg.1, hg.2, (instantiate_unit hS r hr).1⟩

end PS.Dsl
