/- C08, fragment grammar: facts about the renaming `renPath` of a node's path that do not mention the tables
   (erasure, correspondence with leftmost derivations, freshness of the copies). -/
import PS.Proofs.SplitterRename
namespace PS.Sp
open PS PS.G

variable {U : Type} [DecidableEq U]

def names (p : List (UNT U × UNT (U × Nat))) : List (UNT (U × Nat)) := p.map (·.2)
def srcs (p : List (UNT U × UNT (U × Nat))) : List (UNT U) := p.map (·.1)
def PendOK (p : List (UNT U × UNT (U × Nat))) : Prop := ∀ e ∈ p, er e.2 = e.1
def targets (l : List (Step (U × Nat))) : List (UNT (U × Nat)) := l.map (·.1)

/-- a result from the single pair `(start, sp)`, the way the path of every layout is renamed (`LaysOK.path`,
    `Facts.path`): empty path, or a first step at the start copy `sp` followed by a `renPath` from the fresh copies
    of its arguments -/
theorem renPath_start {c hi : Nat} {start : UNT U} {sp : UNT (U × Nat)} {steps : List (Step U)}
    {steps' : List (Step (U × Nat))} {pend : List (UNT U × UNT (U × Nat))}
    (h : renPath c [(start, sp)] steps = some (hi, steps', pend)) :
    (steps = [] ∧ steps' = [] ∧ pend = [(start, sp)]) ∨
    ∃ P v w r0, steps = (start, P, v) :: w ∧ steps' = (sp, P, (freshList c v).2) :: r0.2.1 ∧ pend = r0.2.2 ∧
      hi = r0.1 ∧ renPath (c + v.length) (v.zip (freshList c v).2) w = some r0 := by
  cases steps with
  | nil => cases h; exact Or.inl ⟨rfl, rfl, rfl⟩
  | cons st w =>
    obtain ⟨S, P, v⟩ := st
    rw [renPath, freshList_fst, List.append_nil] at h
    split at h
    · cases h
    · rename_i hc
      cases Decidable.not_not.mp hc
      cases hr : renPath (c + v.length) (v.zip (freshList c v).2) w with
      | none => rw [hr] at h; cases h
      | some r0 => rw [hr] at h; cases h; exact Or.inr ⟨P, v, w, r0, rfl, rfl, rfl, rfl, hr⟩

omit [DecidableEq U] in
theorem pendOK_zip (v : List (UNT U)) (c : Nat) {rest : List (UNT U × UNT (U × Nat))} (h : PendOK rest) :
    PendOK (v.zip (freshList c v).2 ++ rest) := by
  intro e he
  rcases List.mem_append.mp he with he | he
  · exact zip_fresh_ok v c e he
  · exact h e he

omit [DecidableEq U] in
theorem srcs_zip (v : List (UNT U)) (c : Nat) (rest : List (UNT U × UNT (U × Nat))) :
    srcs (v.zip (freshList c v).2 ++ rest) = v ++ srcs rest := by
  simp only [srcs, List.map_append, zip_fresh_fst]

omit [DecidableEq U] in
theorem names_zip (v : List (UNT U)) (c : Nat) (rest : List (UNT U × UNT (U × Nat))) :
    names (v.zip (freshList c v).2 ++ rest) = (freshList c v).2 ++ names rest := by
  simp only [names, List.map_append, zip_fresh_snd]

theorem renPath_cons {c : Nat} {S : UNT U} {Sp : UNT (U × Nat)} {rest : List (UNT U × UNT (U × Nat))} {P : Sym}
    {v : List (UNT U)} {w : List (Step U)} {r0} (h : renPath (c + v.length) (v.zip (freshList c v).2 ++ rest) w = some r0) :
    renPath c ((S, Sp) :: rest) ((S, P, v) :: w) = some (r0.1, (Sp, P, (freshList c v).2) :: r0.2.1, r0.2.2) := by
  simp only [renPath, ne_eq, not_true_eq_false, if_false, freshList_fst, h]

/-- induction over the successful calls only: `fun_induction renPath` also hands out the three failing cases, and
    has `(freshList c v).1` where the statements have `c + v.length` -/
theorem renPath_ind {motive : (c : Nat) → (p : List (UNT U × UNT (U × Nat))) → (steps : List (Step U)) →
      (r : Nat × List (Step (U × Nat)) × List (UNT U × UNT (U × Nat))) → renPath c p steps = some r → Prop}
    (nil : ∀ c p, motive c p [] (c, [], p) rfl)
    (cons : ∀ c S Sp rest P v w r0 (h0 : renPath (c + v.length) (v.zip (freshList c v).2 ++ rest) w = some r0),
      motive (c + v.length) (v.zip (freshList c v).2 ++ rest) w r0 h0 →
      motive c ((S, Sp) :: rest) ((S, P, v) :: w) (r0.1, (Sp, P, (freshList c v).2) :: r0.2.1, r0.2.2) (renPath_cons h0))
    (c : Nat) (p : List (UNT U × UNT (U × Nat))) (steps : List (Step U))
    (r : Nat × List (Step (U × Nat)) × List (UNT U × UNT (U × Nat))) (h : renPath c p steps = some r) :
    motive c p steps r h := by
  fun_induction renPath c p steps generalizing r with
  | case1 c p => cases h; exact nil c p
  | case2 => cases h
  | case3 _ _ _ _ _ _ _ _ hne => rw [renPath, if_pos hne] at h; cases h
  | case4 _ _ _ _ _ _ _ _ he hr => rw [renPath, if_neg he, hr] at h; cases h
  | case5 c cur Sp rest S P v w he r0 hr ih =>
    rw [renPath, if_neg he, hr] at h
    cases h
    cases Decidable.not_not.mp he
    have e := freshList_fst v c
    generalize (freshList c v).1 = c' at hr ih e
    subst e
    exact cons c cur Sp rest P v w r0 hr (ih r0 hr)

theorem renPath_er (steps : List (Step U)) (c : Nat) (p : List (UNT U × UNT (U × Nat))) r
    (hp : PendOK p) (h : renPath c p steps = some r) : r.2.1.map erStep = steps ∧ PendOK r.2.2 := by
  induction c, p, steps, r, h using renPath_ind with
  | nil c p => exact ⟨rfl, hp⟩
  | cons c S Sp rest P v w r0 _ ih =>
    obtain ⟨ih1, ih2⟩ := ih (pendOK_zip v c (fun e he => hp e (List.mem_cons_of_mem _ he)))
    have hS : er Sp = S := hp (S, Sp) List.mem_cons_self
    exact ⟨by simp only [List.map_cons, ih1, erStep, hS, freshList_er], ih2⟩

theorem renPath_srcs (G : UG U) (steps : List (Step U)) (c : Nat) (p : List (UNT U × UNT (U × Nat))) r cfg
    (h : renPath c p steps = some r) (hr : run G (srcs p) steps = some cfg) : srcs r.2.2 = cfg := by
  induction c, p, steps, r, h using renPath_ind with
  | nil c p => exact Option.some.inj hr
  | cons c S Sp rest P v w r0 _ ih =>
    simp only [srcs, List.map_cons, run] at hr
    split at hr
    · exact ih (by rw [srcs_zip]; exact hr)
    · cases hr

/-- `pathLoop` does not fail on a legal derivation prefix -/
theorem renPath_exists (G : UG U) (steps : List (Step U)) (c : Nat) (p : List (UNT U × UNT (U × Nat))) cfg
    (hr : run G (srcs p) steps = some cfg) : ∃ r, renPath c p steps = some r := by
  fun_induction renPath c p steps with
  | case1 => exact ⟨_, rfl⟩
  | case2 => cases hr
  | case3 _ _ _ _ _ _ _ _ hne =>
    simp only [srcs, List.map_cons, run] at hr
    split at hr
    · rename_i hc; exact absurd hc.1.symm hne
    · cases hr
  | case4 c cur Sp rest S P v w he hnone ih =>
    simp only [srcs, List.map_cons, run] at hr
    split at hr
    · obtain ⟨r0, h0⟩ := ih (by rw [srcs_zip]; exact hr)
      rw [hnone] at h0; cases h0
    · cases hr
  | case5 => exact ⟨_, rfl⟩

theorem renPath_run (F : UG (U × Nat)) (steps : List (Step U)) (c : Nat) (p : List (UNT U × UNT (U × Nat))) r
    (h : renPath c p steps = some r) (hr : ∀ s ∈ r.2.1, (s.2.1, s.2.2) ∈ alts F s.1) :
    run F (names p) r.2.1 = some (names r.2.2) := by
  induction c, p, steps, r, h using renPath_ind with
  | nil c p => rfl
  | cons c S Sp rest P v w r0 _ ih =>
    have ih := ih (fun s hs => hr s (List.mem_cons_of_mem _ hs))
    rw [names_zip] at ih
    simp only [names, List.map_cons, run, hr (Sp, P, (freshList c v).2) List.mem_cons_self, and_self, if_true]
    exact ih

theorem renPath_forced (F : UG (U × Nat)) (steps : List (Step U)) (c : Nat)
    (p : List (UNT U × UNT (U × Nat))) r (w' : List (Step (U × Nat)))
    (h : renPath c p steps = some r) (hr : ∀ s ∈ r.2.1, ∀ pa ∈ alts F s.1, pa = (s.2.1, s.2.2))
    (hw : run F (names p) w' = some []) : ∃ rem, w' = r.2.1 ++ rem ∧ run F (names r.2.2) rem = some [] := by
  induction c, p, steps, r, h using renPath_ind generalizing w' with
  | nil c p => exact ⟨w', rfl, hw⟩
  | cons c S Sp rest P v w r0 _ ih =>
    obtain ⟨Q, a, w'', rfl, hQa, hrun⟩ := run_cons_complete F _ _ _ hw
    cases hr (Sp, P, (freshList c v).2) List.mem_cons_self (Q, a) hQa
    obtain ⟨rem, h1, h2⟩ := ih w'' (fun s hs => hr s (List.mem_cons_of_mem _ hs)) (by rw [names_zip]; exact hrun)
    exact ⟨rem, by rw [h1]; rfl, h2⟩

theorem renPath_names (steps : List (Step U)) (c : Nat) (p : List (UNT U × UNT (U × Nat))) r
    (h : renPath c p steps = some r) (hb : ∀ x ∈ names p, idx x ≤ c) (hn : (names p).Nodup) :
    c ≤ r.1 ∧ (targets r.2.1 ++ names r.2.2).Nodup ∧
    (∀ x ∈ targets r.2.1 ++ names r.2.2, x ∈ names p ∨ (c < idx x ∧ idx x ≤ r.1)) ∧
    (∀ s ∈ r.2.1, ∀ x ∈ s.2.2, c < idx x ∧ idx x ≤ r.1) := by
  induction c, p, steps, r, h using renPath_ind with
  | nil c p => exact ⟨Nat.le_refl _, hn, fun x hx => Or.inl hx, fun _ hs => absurd hs List.not_mem_nil⟩
  | cons c S Sp rest P v w r0 _ ih =>
    rw [names, List.map_cons, List.nodup_cons] at hn
    have hbr : ∀ x ∈ names rest, idx x ≤ c := fun x hx => hb x (List.mem_cons_of_mem _ hx)
    have hfi := freshList_idx v c
    obtain ⟨i1, i2, i3, i4⟩ := ih
      (by
        rw [names_zip]; intro x hx
        rcases List.mem_append.mp hx with hx | hx
        · exact (hfi x hx).2
        · exact Nat.le_trans (hbr x hx) (Nat.le_add_right _ _))
      (by
        rw [names_zip]
        refine List.nodup_append.mpr ⟨freshList_nodup v c, hn.2, fun a ha b hb' hab => ?_⟩
        exact absurd (hab ▸ hbr b hb') (Nat.not_le.mpr (hfi a ha).1))
    rw [names_zip] at i3
    have hvc : c ≤ c + v.length := Nat.le_add_right _ _
    -- a name of the rest of the path is fresh for this step or was pending behind `Sp`
    have i3' : ∀ x ∈ targets r0.2.1 ++ names r0.2.2, x ∈ names rest ∨ (c < idx x ∧ idx x ≤ r0.1) := by
      intro x hx
      rcases i3 x hx with h1 | h1
      · rcases List.mem_append.mp h1 with h1 | h1
        · exact Or.inr ⟨(hfi x h1).1, Nat.le_trans (hfi x h1).2 i1⟩
        · exact Or.inl h1
      · exact Or.inr ⟨Nat.lt_of_le_of_lt hvc h1.1, h1.2⟩
    refine ⟨Nat.le_trans hvc i1, List.nodup_cons.mpr ⟨fun hmem => ?_, i2⟩, fun x hx => ?_, fun s hs x hx => ?_⟩
    · rcases i3' Sp hmem with h1 | h1
      · exact hn.1 h1
      · exact absurd (hb Sp List.mem_cons_self) (Nat.not_le.mpr h1.1)
    · rcases List.mem_cons.mp hx with rfl | hx
      · exact Or.inl List.mem_cons_self
      · exact (i3' x hx).imp_left (List.mem_cons_of_mem _)
    · rcases List.mem_cons.mp hs with rfl | hs
      · exact ⟨(hfi x hx).1, Nat.le_trans (hfi x hx).2 i1⟩
      · exact ⟨Nat.lt_of_le_of_lt hvc (i4 s hs x hx).1, (i4 s hs x hx).2⟩

end PS.Sp
