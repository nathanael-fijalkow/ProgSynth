/-
  C13: the tables returned by the constructors satisfy the hypotheses of `programsR_count`: rows are
  dicts, the end-marker type occurs neither as a non-terminal nor as an argument slot - for the saturation
  table (from the decidable `noUnknownDsl`) and for whatever `clean()` makes of a table that satisfies them.
-/
import PS.Proofs.TtcfgCountR
import PS.Proofs.TtcfgBuild
namespace PS.T
open PS PS.G

variable {S T : Type} [DecidableEq S] [DecidableEq T]

omit [DecidableEq S] [DecidableEq T] in
theorem keys_filterMap_sublist (F : Sym → Option (List (Ty × S) × T)) (l : List Sym) :
    (AList.keys (l.filterMap (fun P => match F P with
      | some v => some (P, v)
      | none => none))).Sublist l := by
  have h := AList.keys_filterMap_sublist id (fun P => match F P with
    | some v => some (P, v)
    | none => none) (fun P y h => by cases hF : F P <;> rw [hF] at h <;> cases h; rfl) l
  rwa [List.map_id] at h

theorem restrict_rowsNodup (G : TT S T) (nr : Marks S T) (hinv : PInv G nr) : rowsNodup (restrict G nr) = true := by
  unfold rowsNodup
  rw [List.all_eq_true]
  intro e he
  obtain ⟨l, hl, hrow⟩ := restrict_mem G nr e he
  have hnd : l.Nodup := hinv.vals e.1 l (AList.lookup_of_mem_nodup hinv.keys hl)
  simp only [decide_eq_true_eq]
  rw [hrow]
  exact (keys_filterMap_sublist (G.rule? e.1) l).nodup hnd

theorem restrict_noUnknownKey (G : TT S T) (nr : Marks S T) (hinv : PInv G nr) (hU : noUnknownKey G = true) :
    noUnknownKey (restrict G nr) = true := by
  unfold noUnknownKey
  rw [List.all_eq_true]
  intro e he
  obtain ⟨l, hl, _⟩ := restrict_mem G nr e he
  have hc : AList.contains e.1 nr = true := AList.contains_of_lookup (AList.lookup_of_mem_nodup hinv.keys hl)
  simpa using noUnknown_inRules G hU e.1 (hinv.sub e.1 hc)

theorem restrict_noUnknownArg (G : TT S T) (nr : Marks S T) (hA : noUnknownArg G = true) :
    noUnknownArg (restrict G nr) = true :=
  restrict_all G nr (fun _ r => r.2.1.all (fun a => decide (a.1 ≠ Ty.unknown))) hA

theorem clean_countHyps (G G' : TT S T) (hU : noUnknownKey G = true) (hA : noUnknownArg G = true) (fuel : Nat)
    (h : clean G fuel = .ok G') : rowsNodup G' = true ∧ noUnknownKey G' = true ∧ noUnknownArg G' = true := by
  obtain ⟨nr, rfl, hinv⟩ := clean_result G G' hU fuel h
  exact ⟨restrict_rowsNodup G nr hinv, restrict_noUnknownKey G nr hinv hU, restrict_noUnknownArg G nr hA⟩

theorem saturation_countHyps (B : Builder S T) (dsl : Dsl) (request : Ty) (stackKey : Bool) (fuel : Nat) (G : TT S T)
    (hd : noUnknownDsl dsl request = true) (h : saturationTable B dsl.prims request stackKey fuel = some G) :
    rowsNodup G = true ∧ noUnknownKey G = true ∧ noUnknownArg G = true := by
  have hrows := (saturationTable_spec B dsl.prims request stackKey fuel G h).rows
  refine ⟨?_, saturation_noUnknown B dsl request stackKey fuel G hd h, ?_⟩
  · unfold rowsNodup
    rw [List.all_eq_true]
    intro e he
    rw [hrows e he]
    simpa using rowDict_nodup B dsl.prims request e.1
  · unfold noUnknownDsl at hd
    simp only [Bool.and_eq_true, decide_eq_true_eq, List.all_eq_true] at hd
    unfold noUnknownArg
    rw [List.all_eq_true]
    intro e he
    rw [List.all_eq_true]
    intro r hr
    rw [hrows e he] at hr
    rw [List.all_eq_true]
    intro a ha
    obtain ⟨p, hp, hpa⟩ := rowList_types B dsl.prims request e.1 r (rowDict_mem B dsl.prims request e.1 r hr) a ha
    simpa using hd.2 p hp _ hpa

theorem construct_countHyps (B : Builder S T) (dsl : Dsl) (request : Ty) (hU : noUnknownDsl dsl request = true)
    (stackKey : Bool) (fuel : Nat) (g : TTG S T) (h : construct B dsl request stackKey fuel = .ok g) :
    rowsNodup g.G = true ∧ noUnknownKey g.G = true ∧ noUnknownArg g.G = true := by
  obtain ⟨G0, h0, h1, _⟩ := construct_eq_ok.mp h
  obtain ⟨_, s2, s3⟩ := saturation_countHyps B dsl request stackKey fuel G0 hU h0
  exact clean_countHyps G0 g.G s2 s3 fuel h1

/-- C13, what a constructor returns (worklist keyed by rule and pending stack), for a builder whose
    rule creation derives the language `L`: the grammar contains exactly `L`, and whenever
    `programsR` returns, it returns the size of `L` -/
theorem construct_spec (B : Builder S T) (dsl : Dsl) (request : Ty) (hU : noUnknownDsl dsl request = true)
    (L : Prog → Bool) (hL : ∀ t, (run (idealFn B dsl request) t (request.returns, B.init.1) B.init.2).isSome = L t)
    (fuel : Nat) (g : TTG S T) (h : construct B dsl request true fuel = .ok g) :
    (∀ t, PS.G.contains g.G t = L t) ∧
    ∀ fuel' n, programsR g.G fuel' = some n → ∃ l : List Prog, l.Nodup ∧ n = l.length ∧ ∀ t, t ∈ l ↔ L t = true := by
  have hlang : ∀ t, inLang g.G t = L t := fun t => by rw [construct_lang B dsl request hU fuel g h t, hL t]
  refine ⟨fun t => by rw [contains_eq_inLang, hlang t], fun fuel' n hp => ?_⟩
  obtain ⟨c1, c2, c3⟩ := construct_countHyps B dsl request hU true fuel g h
  obtain ⟨l1, l2, l3⟩ := programsR_count g.G c1 c2 c3 fuel' n hp
  exact ⟨langOf g.G fuel', l1, l2, fun t => by rw [l3 t, hlang t]⟩

end PS.T
