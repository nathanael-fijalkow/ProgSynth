/-
  C13: when does `TTCFG.at_most_k` terminate?  Sufficient, decidable with a certificate:
  `uncountedRanked dsl name rkT` - the table `rkT` ranks the types so that every primitive that is
  not the counted one has all the arguments it takes at a slot of strictly smaller rank than the slot
  (the "uncounted" dependency graph of the types is acyclic).  Then a partial derivation contains at
  most `k` counted nodes and between them only strictly descending chains: the worklist, `clean()`
  and `programs()` all end.  `spendAll` (every primitive that takes an argument is
  the counted one) is the special case `rkT = []`.
-/
import PS.Proofs.TtcfgTotal
namespace PS.T
open PS PS.G

theorem mem_suffixesRec_mkFun : ∀ (tys : List Ty) (other : Ty) (acc : List Ty),
    (acc ++ tys, other) ∈ suffixesRec (Ty.mkFun tys other) acc
  | [], other, acc => by cases other <;> simp [Ty.mkFun, suffixesRec]
  | a :: tys, other, acc => by
    rw [Ty.mkFun, suffixesRec]
    have := mem_suffixesRec_mkFun tys other (acc ++ [a])
    rw [List.append_assoc] at this
    exact List.mem_cons_of_mem _ this

theorem mem_suffixes (t other : Ty) (tys : List Ty) (h : Ty.endsWith t other = some tys) : (tys, other) ∈ suffixes t := by
  rw [endsWith_spec h]
  exact mem_suffixesRec_mkFun tys other []

/-- an upper bound of all ranks -/
def maxRank (rkT : AList Ty Nat) : Nat := (rkT.map (·.2)).sum

theorem tyRank_le (rkT : AList Ty Nat) (t : Ty) : tyRank rkT t ≤ maxRank rkT := by
  unfold tyRank maxRank
  cases h : AList.lookup t rkT with
  | none => simp
  | some v =>
    simp only [Option.getD_some]
    exact le_sum_map_of_mem (fun e : Ty × Nat => e.2) rkT (t, v) (AList.lookup_some_mem h)

theorem uncountedRanked_of_spendAll (dsl : Dsl) (name : String) (h : spendAll dsl name = true) :
    uncountedRanked dsl name [] = true := by
  unfold spendAll at h
  unfold uncountedRanked
  rw [List.all_eq_true] at h ⊢
  intro p hp
  have := h p hp
  simp only [Bool.or_eq_true, List.isEmpty_iff, decide_eq_true_eq] at this ⊢
  rcases this with h1 | h1
  · right
    rw [List.all_eq_true]
    intro s hs
    -- a type without arguments has a single suffix, with no argument
    have : s.1 = [] := by
      cases hty : p.ty with
      | arrow a b => rw [hty] at h1; simp [Ty.arguments] at h1
      | base n => rw [hty] at hs; simp [suffixes, suffixesRec] at hs; rw [hs]
      | gen n x => rw [hty] at hs; simp [suffixes, suffixesRec] at hs; rw [hs]
      | unknown => rw [hty] at hs; simp [suffixes, suffixesRec] at hs; rw [hs]
    rw [this]; rfl
  · exact Or.inl h1

/-- base of the weights: larger than every arity -/
def wBase (dsl : Dsl) : Nat := totalArity dsl + 2
def wTy (dsl : Dsl) (rkT : AList Ty Nat) (t : Ty) : Nat := wBase dsl ^ tyRank rkT t
/-- one occurrence of the counted primitive: worth more than any argument list -/
def wOcc (dsl : Dsl) (rkT : AList Ty Nat) : Nat := totalArity dsl * wBase dsl ^ maxRank rkT + 1

def wSum (dsl : Dsl) (rkT : AList Ty Nat) (l : List (Ty × Ctx)) : Nat := (l.map (fun y => wTy dsl rkT y.1)).sum

def atMostRankC (dsl : Dsl) (rkT : AList Ty Nat) (c : NT Ctx Nat × List (Ty × Ctx)) : Nat :=
  c.1.2.2 * wOcc dsl rkT + wTy dsl rkT c.1.1 + wSum dsl rkT c.2

theorem wBase_pos (dsl : Dsl) : 1 ≤ wBase dsl := by unfold wBase; omega

theorem wTy_pos (dsl : Dsl) (rkT : AList Ty Nat) (t : Ty) : 1 ≤ wTy dsl rkT t :=
  Nat.one_pow (tyRank rkT t) ▸ Nat.pow_le_pow_left (wBase_pos dsl) (tyRank rkT t)

theorem wTy_le (dsl : Dsl) (rkT : AList Ty Nat) (t : Ty) : wTy dsl rkT t ≤ wBase dsl ^ maxRank rkT :=
  Nat.pow_le_pow_right (wBase_pos dsl) (tyRank_le rkT t)

theorem map_zipIdx_fst {α β : Type} (f : α → β) (l : List α) (k : Nat) : (l.zipIdx k).map (fun ai => f ai.1) = l.map f := by
  rw [show (fun ai : α × Nat => f ai.1) = f ∘ Prod.fst from rfl, ← List.map_map, List.zipIdx_map_fst]

theorem wSum_decorate (dsl : Dsl) (rkT : AList Ty Nat) (B : Builder Ctx Nat) (rule : NT Ctx Nat) (P : Sym) (tys : List Ty) :
    wSum dsl rkT (decorate B rule P tys) = (tys.map (wTy dsl rkT)).sum := by
  rw [wSum, show (fun y : Ty × Ctx => wTy dsl rkT y.1) = wTy dsl rkT ∘ (·.1) from rfl, ← List.map_map, decorate_map_fst]

theorem wSum_append (dsl : Dsl) (rkT : AList Ty Nat) (l l' : List (Ty × Ctx)) :
    wSum dsl rkT (l ++ l') = wSum dsl rkT l + wSum dsl rkT l' := by
  simp [wSum]

theorem wSum_cons (dsl : Dsl) (rkT : AList Ty Nat) (x : Ty × Ctx) (l : List (Ty × Ctx)) :
    wSum dsl rkT (x :: l) = wTy dsl rkT x.1 + wSum dsl rkT l := by
  simp [wSum]

theorem candidate_ranked (dsl : Dsl) (name : String) (rkT : AList Ty Nat) (hur : uncountedRanked dsl name rkT = true)
    (request ty : Ty) (c : Sym × List Ty) (hc : c ∈ candidates dsl.prims request ty) :
    c.2.length ≤ totalArity dsl ∧ (symStr c.1 ≠ name → ∀ a ∈ c.2, tyRank rkT a < tyRank rkT ty) := by
  rcases (mem_candidates _ _ _ _).mp hc with ⟨j, _, ec⟩ | ⟨hp, he⟩
  · rw [ec]; exact ⟨by simp, fun _ a ha => by cases ha⟩
  · refine ⟨Nat.le_trans (endsWith_length _ _ _ he) (le_sum_map_of_mem (fun p : Sym => p.ty.arguments.length) dsl.prims c.1 hp), ?_⟩
    intro hne a ha
    unfold uncountedRanked at hur
    rw [List.all_eq_true] at hur
    have := hur c.1 hp
    simp only [Bool.or_eq_true, decide_eq_true_eq] at this
    rcases this with h1 | h1
    · exact absurd h1 hne
    · rw [List.all_eq_true] at h1
      have h2 := h1 (c.2, ty) (mem_suffixes _ _ _ he)
      rw [List.all_eq_true] at h2
      simpa using h2 a ha

theorem atMost_rankC (dsl : Dsl) (request : Ty) (nG : Int) (name : String) (k : Nat) (rkT : AList Ty Nat)
    (hur : uncountedRanked dsl name rkT = true) (rule : NT Ctx Nat) (stack : List (Ty × Ctx)) :
    ∀ p ∈ pushesOf (atMostBuilder dsl nG name k) dsl.prims request rule stack,
      atMostRankC dsl rkT (entryKey p) < atMostRankC dsl rkT (rule, stack) := by
  intro p hp
  obtain ⟨c, hc, ht, hd, hs⟩ := mem_pushesOf _ _ _ _ _ p hp
  obtain ⟨harity, hrk⟩ := candidate_ranked dsl name rkT hur request rule.1 c hc
  have hnew : atMostRankC dsl rkT (entryKey p) =
      p.2.1 * wOcc dsl rkT + (c.2.map (wTy dsl rkT)).sum + wSum dsl rkT stack := by
    have h1 : wSum dsl rkT (p.1 :: p.2.2) = (c.2.map (wTy dsl rkT)).sum + wSum dsl rkT stack := by
      rw [← hd, wSum_append, wSum_decorate]
    rw [wSum_cons] at h1
    unfold atMostRankC entryKey
    simp only
    omega
  rw [hnew, hs]
  unfold atMostRankC
  simp only
  change (atMostTransition dsl name rule c.1).2 * _ + _ + _ < _
  have hB := wBase_pos dsl
  rcases atMostTransition_true (P := c.1) ht with ⟨h2, e⟩ | ⟨_, hpos, e⟩
  · rw [e]
    -- an uncounted symbol: its arguments weigh less than the slot
    have hlt : (c.2.map (wTy dsl rkT)).sum < wTy dsl rkT rule.1 := by
      cases hc2 : c.2 with
      | nil => simp only [List.map_nil, List.sum_nil]; exact wTy_pos dsl rkT rule.1
      | cons a0 as0 =>
        have hr0 := hrk h2 a0 (by rw [hc2]; exact List.mem_cons_self ..)
        obtain ⟨r', hr'⟩ : ∃ r', tyRank rkT rule.1 = r' + 1 := ⟨tyRank rkT rule.1 - 1, by omega⟩
        have hle : ∀ a ∈ c.2, wTy dsl rkT a ≤ wBase dsl ^ r' := by
          intro a ha
          have := hrk h2 a ha
          exact Nat.pow_le_pow_right hB (by omega)
        have hsum := sum_map_le (wTy dsl rkT) (wBase dsl ^ r') c.2 hle
        have hmul := Nat.mul_le_mul_right (wBase dsl ^ r') harity
        rw [← hc2]
        have hw : wTy dsl rkT rule.1 = wBase dsl ^ r' * wBase dsl := by
          unfold wTy; rw [hr', Nat.pow_succ]
        have hY : 1 ≤ wBase dsl ^ r' := Nat.one_pow r' ▸ Nat.pow_le_pow_left hB r'
        rw [hw]
        unfold wBase at hY ⊢
        rw [Nat.mul_add, Nat.mul_comm ((totalArity dsl + 2) ^ r') (totalArity dsl)]
        unfold wBase at hsum hmul
        omega
    omega
  · rw [e]
    -- the counted symbol: one occurrence is worth more than any argument list
    have hle : ∀ a ∈ c.2, wTy dsl rkT a ≤ wBase dsl ^ maxRank rkT := fun a _ => wTy_le dsl rkT a
    have hsum := sum_map_le (wTy dsl rkT) (wBase dsl ^ maxRank rkT) c.2 hle
    have hmul := Nat.mul_le_mul_right (wBase dsl ^ maxRank rkT) harity
    obtain ⟨o, ho⟩ : ∃ o, rule.2.2 = o + 1 := ⟨rule.2.2 - 1, by omega⟩
    rw [ho]
    simp only [Nat.add_sub_cancel, Nat.succ_mul]
    have hw := wTy_pos dsl rkT rule.1
    unfold wOcc
    omega

theorem atMostRankC_start (dsl : Dsl) (request : Ty) (nG : Int) (name : String) (k : Nat) (rkT : AList Ty Nat) :
    atMostRankC dsl rkT ((request.returns, (atMostBuilder dsl nG name k).init), []) ≤
      k * wOcc dsl rkT + wBase dsl ^ maxRank rkT := by
  have := wTy_le dsl rkT request.returns
  simp only [atMostRankC, atMostBuilder, wSum, List.map_nil, List.sum_nil, Nat.add_zero]
  omega

theorem atMost_saturation_terminates_ranked (dsl : Dsl) (request : Ty) (nG : Int) (name : String) (k : Nat)
    (rkT : AList Ty Nat) (hur : uncountedRanked dsl name rkT = true) (stackKey : Bool) (fuel : Nat)
    (hf : satBound (request.arguments.length + dsl.prims.length)
      (k * wOcc dsl rkT + wBase dsl ^ maxRank rkT) ≤ fuel) :
    (saturationTable (atMostBuilder dsl nG name k) dsl.prims request stackKey fuel).isSome = true := by
  apply saturationTable_terminates _ dsl.prims request stackKey (atMostRankC dsl rkT)
    (atMost_rankC dsl request nG name k rkT hur) fuel
  exact Nat.le_trans (satBound_mono _ _ _ (atMostRankC_start dsl request nG name k rkT)) hf

/-- the bound: under the empty ranking a configuration weighs `occ · (A + 1) + 1 + |stack|` -/
theorem atMost_saturation_terminates (dsl : Dsl) (request : Ty) (nG : Int) (name : String) (k : Nat)
    (hsp : spendAll dsl name = true) (stackKey : Bool) (fuel : Nat)
    (hf : satBound (request.arguments.length + dsl.prims.length) (k * (totalArity dsl + 1)) ≤ fuel) :
    (saturationTable (atMostBuilder dsl nG name k) dsl.prims request stackKey fuel).isSome = true := by
  apply saturationTable_terminates _ dsl.prims request stackKey (fun c => atMostRankC dsl [] c - 1) ?_ fuel
  · refine Nat.le_trans (Nat.le_of_eq (congrArg _ ?_)) hf
    simp [atMostRankC, atMostBuilder, wSum, wOcc, wTy, tyRank, maxRank, AList.lookup]
  · intro rule stack p hp
    have h := atMost_rankC dsl request nG name k [] (uncountedRanked_of_spendAll dsl name hsp) rule stack p hp
    have := wTy_pos dsl [] (entryKey p).1.1
    simp only [atMostRankC] at h this ⊢
    omega

/-- rank of a non-terminal for `programs()` -/
def atMostRho (rkT : AList Ty Nat) (slot : Ty × Ctx) (occ : Nat) : Nat := occ * (maxRank rkT + 1) + tyRank rkT slot.1

def atMostFuel (dsl : Dsl) (request : Ty) (k : Nat) (rkT : AList Ty Nat) : Nat :=
  2 * satBound (request.arguments.length + dsl.prims.length) (k * wOcc dsl rkT + wBase dsl ^ maxRank rkT) + 1 +
    (k * (maxRank rkT + 1) + maxRank rkT + 2)

theorem atMost_total_ok (dsl : Dsl) (request : Ty) (hd : noUnknownDsl dsl request = true) (nG : Int) (name : String)
    (k : Nat) (rkT : AList Ty Nat) (hur : uncountedRanked dsl name rkT = true) (stackKey : Bool) (fuel : Nat)
    (hf : atMostFuel dsl request k rkT ≤ fuel) :
    ∃ g, atMostK dsl request name k nG stackKey fuel = .ok g ∧ (programsR g.G fuel).isSome = true := by
  unfold atMostFuel at hf
  rw [atMostK_eq]
  have hsb := satBound_mono (request.arguments.length + dsl.prims.length) _ _ (atMostRankC_start dsl request nG name k rkT)
  obtain ⟨g, hg, h2⟩ := builder_total_ok (atMostBuilder dsl nG name k) dsl request hd (atMostRankC dsl rkT)
    (atMost_rankC dsl request nG name k rkT hur) (fun occ => occ) (atMostRho rkT)
    (by
      intro rule r hr
      obtain ⟨P, val⟩ := r
      obtain ⟨c, hc, h1, ht, hv⟩ := (mem_rowList _ dsl.prims request rule P val).mp hr
      subst h1
      obtain ⟨_, hrk⟩ := candidate_ranked dsl name rkT hur request rule.1 c hc
      have hst : val.2 = (atMostTransition dsl name rule c.1).2 := by rw [hv]; rfl
      have hargs : val.1 = decorate (atMostBuilder dsl nG name k) rule c.1 c.2 := by rw [hv]
      simp only
      rw [hst, hargs]
      rcases atMostTransition_true (P := c.1) ht with ⟨h2, e⟩ | ⟨_, hpos, e⟩
      · rw [e]
        refine ⟨Nat.le_refl _, ?_⟩
        intro a ha
        have := hrk h2 a.1 (mem_decorate_ty ha)
        simp only [atMostRho]
        omega
      · rw [e]
        refine ⟨by omega, ?_⟩
        intro a _
        have := tyRank_le rkT a.1
        obtain ⟨o, ho⟩ : ∃ o, rule.2.2 = o + 1 := ⟨rule.2.2 - 1, by omega⟩
        simp only [atMostRho]
        rw [ho]
        simp only [Nat.add_sub_cancel, Nat.succ_mul]
        omega)
    (by
      intro slot v v' h
      simp only [atMostRho]
      have := Nat.mul_le_mul_right (maxRank rkT + 1) h
      omega)
    stackKey fuel (by omega)
  refine ⟨g, hg, h2 fuel ?_⟩
  have := tyRank_le rkT request.returns
  simp only [atMostRho, atMostBuilder]
  omega

theorem atMost_total (dsl : Dsl) (request : Ty) (hd : noUnknownDsl dsl request = true) (nG : Int) (name : String)
    (k : Nat) (rkT : AList Ty Nat) (hur : uncountedRanked dsl name rkT = true) (stackKey : Bool) (fuel : Nat)
    (hf : atMostFuel dsl request k rkT ≤ fuel) :
    ∃ G0 G, saturationTable (atMostBuilder dsl nG name k) dsl.prims request stackKey fuel = some G0 ∧
      clean G0 fuel = .ok G ∧ (programsR G fuel).isSome = true :=
  let ⟨g, hg, h⟩ := atMost_total_ok dsl request hd nG name k rkT hur stackKey fuel hf
  let ⟨G0, h0, h1, _⟩ := construct_eq_ok.mp (atMostK_eq dsl request name k nG stackKey fuel ▸ hg)
  ⟨G0, g.G, h0, h1, h⟩

end PS.T
