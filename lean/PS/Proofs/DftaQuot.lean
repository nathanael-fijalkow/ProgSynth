/-
  Quotients: renaming the states of an automaton by a map `c` that passes the executable
  congruence certificate `congruenceCert` keeps the language.  `minimise` returns
  `mapStates (clsTuple st) A` for its final partition `st`.
-/
import PS.Proofs.Dfta
set_option linter.unusedSectionVars false
namespace PS
namespace DFTA
variable {σ Q X : Type} [DecidableEq σ] [DecidableEq Q] [DecidableEq X]

theorem getElem?_eq_some_iff_append {α : Type} (l : List α) (k : Nat) (a : α) :
    l[k]? = some a ↔ ∃ pre post, l = pre ++ a :: post ∧ pre.length = k := by
  constructor
  · intro h
    obtain ⟨hk, rfl⟩ := List.getElem?_eq_some_iff.mp h
    exact ⟨l.take k, l.drop (k + 1), by rw [List.getElem_cons_drop, List.take_append_drop],
      List.length_take_of_le (Nat.le_of_lt hk)⟩
  · rintro ⟨pre, post, rfl, rfl⟩
    simp

theorem mem_consumers_iff (A : DFTA σ Q) (q : Q) (S : σ × List Q) (k : Nat) :
    (S, k) ∈ consumers A q ↔ (∃ d, (S, d) ∈ A.rules) ∧ S.2[k]? = some q := by
  unfold consumers
  simp only [List.mem_flatMap, List.mem_filterMap, List.mem_range]
  constructor
  · rintro ⟨rule, hr, k', hk', h⟩
    split at h
    · rename_i hq
      simp only [Option.some.injEq, Prod.mk.injEq] at h
      obtain ⟨e1, e2⟩ := h
      subst e1; subst e2
      exact ⟨⟨rule.2, hr⟩, hq⟩
    · cases h
  · rintro ⟨⟨d, hr⟩, hq⟩
    refine ⟨(S, d), hr, k, ?_, ?_⟩
    · by_contra hlt
      rw [List.getElem?_eq_none (by simpa using hlt)] at hq
      cases hq
    · simp [hq]

/-- the walk over the positions where `a` is consumed, `b` put in its place, is a `Swap`; `p` compares the
    two targets, and is a parameter because `halfEquivalent` and `congruenceCert` compare them differently -/
theorem all_consumers_iff (A : DFTA σ Q) (R : Q → Q → Prop) (p : Option Q → Option Q → Bool)
    (hp : ∀ d o, p (some d) o = true ↔ ∃ d', o = some d' ∧ R d d') (a b : Q) :
    (consumers A a).all (fun Sk => p (AList.lookup Sk.1 A.rules)
      (AList.lookup (Sk.1.1, Sk.1.2.set Sk.2 b) A.rules)) = true ↔ Swap A R a b := by
  rw [List.all_eq_true]
  constructor
  · intro h l pre post d hd
    have := h ((l, pre ++ a :: post), pre.length)
      ((mem_consumers_iff A a _ _).mpr ⟨⟨d, AList.lookup_some_mem hd⟩, by simp⟩)
    simp only [Std.le_refl, List.set_append_right, Nat.sub_self, List.set_cons_zero] at this
    rw [show AList.lookup (l, pre ++ a :: post) A.rules = some d from hd] at this
    exact (hp d _).mp this
  · rintro h ⟨⟨l, args⟩, k⟩ hm
    obtain ⟨⟨d0, hr⟩, hk⟩ := (mem_consumers_iff A a _ k).mp hm
    obtain ⟨pre, post, rfl, rfl⟩ := (getElem?_eq_some_iff_append _ _ _).mp hk
    obtain ⟨d, hd⟩ := Option.isSome_iff_exists.mp
      (AList.lookup_isSome_iff_mem_keys.mpr (List.mem_map.mpr ⟨_, hr, rfl⟩))
    simp only [Std.le_refl, List.set_append_right, Nat.sub_self, List.set_cons_zero, hd]
    exact (hp d _).mpr (h l pre post d hd)

theorem congruenceCert_iff (A : DFTA σ Q) (c : Q → X) (S : List Q) :
    congruenceCert A c S = true ↔ ∀ q ∈ S, ∀ q' ∈ S, c q = c q' →
      (q ∈ A.finals ↔ q' ∈ A.finals) ∧ Swap A (fun d d' => c d = c d') q q' := by
  unfold congruenceCert
  rw [List.all_eq_true]
  refine forall₂_congr fun q _ => ?_
  rw [List.all_eq_true]
  refine forall₂_congr fun q' _ => ?_
  by_cases e : c q = c q'
  · have key := all_consumers_iff A (fun d d' => c d = c d')
      (fun o o' => match o, o' with
        | some d, some d' => decide (c d = c d')
        | some _, none => false
        | none, _ => true) (fun d o => by cases o <;> simp) q q'
    rw [if_pos e, Bool.and_eq_true, beq_iff_eq, decide_eq_decide]
    exact ⟨fun h _ => ⟨h.1, key.mp h.2⟩, fun h => ⟨(h e).1, key.mpr (h e).2⟩⟩
  · simp [e]

theorem cong_of_cert (A : DFTA σ Q) (c : Q → X) (S : List Q) (hS : ∀ x ∈ allStates A, x ∈ S)
    (hc : congruenceCert A c S = true) : Cong A c :=
  fun q hq q' hq' => (congruenceCert_iff A c S).mp hc q (hS q hq) q' (hS q' hq')

theorem run_quotient (A : DFTA σ Q) (hd : A.Det) (c : Q → X) (S : List Q)
    (hS : ∀ x ∈ allStates A, x ∈ S)
    (hc : congruenceCert A c S = true) (t : Tree σ) :
    run (mapStates c A) t = (run A t).map c :=
  run_cong c A hd (cong_of_cert A c S hS hc) t

theorem accepts_quotient (A : DFTA σ Q) (hd : A.Det) (c : Q → X) (S : List Q)
    (hS : ∀ x ∈ allStates A, x ∈ S)
    (hc : congruenceCert A c S = true) (t : Tree σ) :
    (mapStates c A).accepts t = A.accepts t :=
  accepts_cong c A hd (cong_of_cert A c S hS hc) t

theorem mem_stateSet (A : DFTA σ Q) (x : Q) : x ∈ stateSet A ↔ x ∈ allStates A := by
  unfold stateSet
  rw [mem_foldl_addNew]
  simp

theorem allStates_subset_stateSet (A : DFTA σ Q) : ∀ x ∈ allStates A, x ∈ stateSet A :=
  fun x => (mem_stateSet A x).mpr

theorem minimiseCore_eq_map (f : List Q → X) (A : DFTA σ Q) (cls0 cls1 : List Q) (fuel : Nat) :
    minimiseCore f A cls0 cls1 fuel =
      (minimiseState A cls0 cls1 fuel).map fun st => mapStates (fun q => f (clsTuple st q)) A := by
  unfold minimiseCore minimiseState
  simp only
  cases minLoop A fuel _ <;> rfl

theorem minimiseCore_eq (f : List Q → X) (A : DFTA σ Q) (cls0 cls1 : List Q) (fuel : Nat)
    (M : DFTA σ X) (h : minimiseCore f A cls0 cls1 fuel = some M) :
    ∃ st, minimiseState A cls0 cls1 fuel = some st ∧ M = mapStates (fun q => f (clsTuple st q)) A := by
  rw [minimiseCore_eq_map, Option.map_eq_some_iff] at h
  exact h.imp fun _ h => ⟨h.1, h.2.symm⟩

theorem minimiseCore_det (f : List Q → X) (A : DFTA σ Q) (cls0 cls1 : List Q) (fuel : Nat) (M : DFTA σ X)
    (h : minimiseCore f A cls0 cls1 fuel = some M) : M.Det := by
  obtain ⟨st, _, rfl⟩ := minimiseCore_eq f A cls0 cls1 fuel M h
  exact mapStates_det _ A

end DFTA
end PS
