/- C10, restart part: the fuel of the model is not a restriction — a run that ends within its fuel is the same
   with any larger amount. -/
import PS.Proofs.SolverRestart
set_option linter.unusedSimpArgs false
set_option linter.unusedSectionVars false
namespace PS.C10
open PS

variable {St P E En : Type} {prm : Params En P} {T : St → P → St × Except E (Bool × Score)}

theorem fuel_mono (k : Nat) (fuel : Nat) (s : RSolver P) (st : St) (en : En) (pos : Nat) (dl as : List Bool) :
    (driveR prm T (advanceR prm T fuel s st en pos dl) as).status ≠ .outOfFuel →
    driveR prm T (advanceR prm T (fuel + k) s st en pos dl) as = driveR prm T (advanceR prm T fuel s st en pos dl) as := by
  refine runR_induction (Inv := fun _ => True) (fun _ _ _ => trivial)
    (motive := fun fuel s st en pos dl as r =>
      r.status ≠ .outOfFuel → driveR prm T (advanceR prm T (fuel + k) s st en pos dl) as = r)
    ?_ ?_ ?_ ?_ ?_ ?_ ?_ ?_ fuel s st en pos dl as trivial
  -- the run with `fuel + 1 + k` iterations takes the same first step
  · intro _ _ _ _ _ _ h; exact (h rfl).elim
  · intro fuel _ _ _ _ _ _ hs _
    simp only [Nat.add_right_comm fuel 1 k, advanceR, hs, driveR_finished]
  · intro fuel _ _ _ _ _ _ _ hs hd _
    simp only [Nat.add_right_comm fuel 1 k, advanceR, hs, hd, if_true, driveR_finished]
  · intro fuel _ _ _ _ _ _ _ _ _ _ hs hd hT' _
    simp only [Nat.add_right_comm fuel 1 k, advanceR, hs, hd, hT', Bool.false_eq_true, if_false, driveR_finished]
  · intro fuel _ _ _ _ _ _ _ _ _ _ _ _ _ _ hs hd hT' hat ih h
    simp only [Nat.add_right_comm fuel 1 k, advanceR, hs, hd, hT', Bool.false_eq_true, if_false, hat]
    exact ih h
  · intro fuel _ _ _ _ _ _ _ _ _ hs hd hT' _
    simp only [Nat.add_right_comm fuel 1 k, advanceR, hs, hd, hT', Bool.false_eq_true, if_false, if_true, driveR]
  · intro fuel _ _ _ _ _ _ _ _ _ _ hs hd hT' _
    simp only [Nat.add_right_comm fuel 1 k, advanceR, hs, hd, hT', Bool.false_eq_true, if_false, if_true, driveR,
      sendR, driveR_finished]
  · intro fuel _ _ _ _ _ _ _ _ _ _ _ _ _ _ hs hd hT' hat ih h
    simp only [Nat.add_right_comm fuel 1 k, advanceR, hs, hd, hT', Bool.false_eq_true, if_false, if_true, driveR,
      sendR, hat]
    rw [ih h]

end PS.C10
