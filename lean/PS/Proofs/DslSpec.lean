/-
  C14: the executable form `specInstances` of the specification (PS/Spec/Dsl.lean, the list
  the driver prints) enumerates exactly the declarative predicate `Instances`.
-/
import PS.Proofs.Dsl
namespace PS.Dsl
open PS Ty

theorem mem_specBases (P : List Prim) (b : Ty) : b ∈ specBases P ↔ IsBase P b := by
  rw [specBases, mem_dedup, List.mem_filter, List.mem_flatMap, bne_iff_ne]; rfl

theorem mem_specUniverse (P : List Prim) (u : Ty) : u ∈ specUniverse P ↔ InUniverse P u := by
  simp only [specUniverse, InUniverse, mem_dedup, List.mem_append, List.mem_map, List.mem_flatMap, mem_specBases,
    and_or_left, exists_or, exists_eq_right', or_assoc, eq_comm (b := u)]

theorem applySubst_congr (σ σ' : String → Ty) (t : Ty) :
    (∀ q ∈ polys t, σ q.label.name = σ' q.label.name) → applySubst σ t = applySubst σ' t := by
  induction t using Ty.ind_var with
  | var l ks hv =>
    intro h
    rw [applySubst_var σ hv, applySubst_var σ' hv]
    exact h (.node l ks) (polys_var hv ▸ List.mem_singleton_self _)
  | inner l ks hv hi ih =>
    intro h
    rw [applySubst_inner σ hv hi, applySubst_inner σ' hv hi,
      List.map_congr_left fun k hk => ih k hk fun q hq => h q (mem_polys_inner hv hi hk hq)]
  | leaf l ks hv hi => intro _; rw [applySubst_leaf σ hv hi, applySubst_leaf σ' hv hi]

theorem mem_varNames (τ : Ty) (n : String) : n ∈ varNames τ ↔ ∃ q ∈ polys τ, q.label.name = n := by
  rw [varNames, mem_dedup, List.mem_map]

theorem mem_candidates (U : List Ty) (bound : Nat) (τ : Ty) (n : String) (v : Ty) :
    v ∈ candidates U bound τ n ↔
      v ∈ U ∧ Ty.size v ≤ bound ∧ ∀ q ∈ polys τ, q.label.name = n → canBe q v = true := by
  rw [candidates, List.mem_filter, Bool.and_eq_true, decide_eq_true_eq]
  exact and_congr_right fun _ => and_congr_right fun _ => admissible_iff (V := polys τ)

theorem lookup_zip_product {α : Type} [DecidableEq α] (f : String → List α) (ns : List String)
    (vs : List α) (h : vs ∈ product (ns.map f)) (n : String) (hn : n ∈ ns) :
    ∃ v, (ns.zip vs).lookup n = some v ∧ v ∈ f n := by
  induction ns generalizing vs with
  | nil => cases hn
  | cons m ns ih =>
    obtain ⟨x, hx, r, hr, rfl⟩ := mem_product_cons.mp h
    rw [List.zip_cons_cons, List.lookup_cons]
    by_cases e : n = m
    · rw [beq_iff_eq.mpr e]; exact ⟨x, rfl, e ▸ hx⟩
    · rw [beq_false_of_ne e]
      exact ih r hr ((List.mem_cons.mp hn).resolve_left e)

theorem map_mem_product {α : Type} [DecidableEq α] (f : String → List α) (σ : String → α)
    (ns : List String) (h : ∀ n ∈ ns, σ n ∈ f n) : ns.map σ ∈ product (ns.map f) := by
  induction ns with
  | nil => exact List.mem_singleton_self _
  | cons m ns ih =>
    exact mem_product_cons.mpr ⟨σ m, h m List.mem_cons_self, ns.map σ,
      ih (fun n hn => h n (List.mem_cons_of_mem _ hn)), rfl⟩

theorem substOf_map (σ : String → Ty) (ns : List String) (n : String) (hn : n ∈ ns) :
    substOf ns (ns.map σ) n = σ n := by
  obtain ⟨v, hv, hm⟩ := lookup_zip_product (fun n => [σ n]) ns _
    (map_mem_product _ σ ns fun _ _ => List.mem_singleton_self _) n hn
  rw [substOf, hv, List.mem_singleton.mp hm]; rfl

theorem mem_specInstancesOf (P : List Prim) (bound : Nat) (p r : Prim) :
    r ∈ specInstancesOf (specUniverse P) bound p ↔ IsInstance P bound p r := by
  unfold specInstancesOf IsInstance
  simp only [List.mem_flatMap, List.mem_map]
  constructor
  · rintro ⟨vs, hvs, c, hc, e⟩
    subst e
    refine ⟨rfl, substOf (varNames p.2) vs, ?_, c, (mem_versions_iff _ _).mp hc, rfl⟩
    intro q hq
    have hn : q.label.name ∈ varNames p.2 := (mem_varNames _ _).mpr ⟨q, hq, rfl⟩
    obtain ⟨v, hv, hm⟩ := lookup_zip_product _ _ vs hvs _ hn
    have hσ : substOf (varNames p.2) vs q.label.name = v := by
      unfold substOf; rw [hv]; rfl
    rw [hσ]
    rw [mem_candidates] at hm
    exact ⟨(mem_specUniverse P v).mp hm.1, hm.2.1, hm.2.2 q hq rfl⟩
  · rintro ⟨hn, σ, hσ, c, hc, e⟩
    refine ⟨(varNames p.2).map σ, ?_, c, ?_, Prod.ext hn.symm e.symm⟩
    · apply map_mem_product
      intro n hn'
      obtain ⟨q, hq, e'⟩ := (mem_varNames _ _).mp hn'
      subst e'
      rw [mem_candidates]
      refine ⟨(mem_specUniverse P _).mpr (hσ q hq).1, (hσ q hq).2.1, ?_⟩
      intro q' hq' e'
      rw [← e']
      exact (hσ q' hq').2.2
    · rw [mem_versions_iff]
      rw [applySubst_congr _ σ p.2
        (fun q hq => substOf_map σ _ _ ((mem_varNames _ _).mpr ⟨q, hq, rfl⟩))]
      exact hc

theorem mem_specInstances (P : List Prim) (bound : Nat) (r : Prim) :
    r ∈ specInstances P bound ↔ Instances P bound r := by
  unfold specInstances Instances
  rw [mem_dedup, List.mem_flatMap]
  constructor
  · rintro ⟨p, hp, h⟩; exact ⟨p, hp, (mem_specInstancesOf P bound p r).mp h⟩
  · rintro ⟨p, hp, h⟩; exact ⟨p, hp, (mem_specInstancesOf P bound p r).mpr h⟩

theorem nodup_specInstances (P : List Prim) (bound : Nat) : (specInstances P bound).Nodup :=
  nodup_dedup _

end PS.Dsl
