/- C10, restart part, in the form Props/C10 states it: the segmented enumeration of one `solve` call (`segOf`,
   `segProgs`) with the ledger of that call, what `_stats` holds when the call ends, and the case of a criterion
   that never fires, where the plain solver never looks beyond a program whose test raises (`base_cut`). -/
import PS.Proofs.SolverRestart
set_option linter.unusedSimpArgs false
set_option linter.unusedSectionVars false
namespace PS.C10
open PS
open PS.C11 (Outcome)

variable {St P I V E En : Type}

theorem toBase_accepted {r : RStatus E} (h : r.toBase = .finished .accepted) : r = .finished .accepted := by
  rcases r with (_ | _ | _ | _ | _) | _ | _ <;> cases h <;> rfl

theorem toBase_timeout {r : RStatus E} (h : r.toBase = .finished .timeout) : r = .finished .timeout := by
  rcases r with (_ | _ | _ | _ | _) | _ | _ <;> cases h <;> rfl

theorem toBase_suspended {r : RStatus E} (h : r.toBase = .suspended) : r = .suspended := by
  rcases r with (_ | _ | _ | _ | _) | _ | _ <;> cases h <;> rfl

theorem toBase_raised {r : RStatus E} {e : E} (h : r.toBase = .finished (.raised e)) : r = .finished (.raised e) := by
  rcases r with (_ | _ | _ | _ | _) | _ | _ <;> cases h <;> rfl

/-- the value `_stats["programs"]` restarts from when the task is closed (pbe_solver.py:183-187):
    the meta solver's own count when `fixStats = true` (repair C10-F3, which /repo has), the sub-solver's when
    `fixStats = false` -/
def statsBase (fixStats : Bool) (s : RSolver P) : Nat :=
  if fixStats then s.self.statsPrograms else s.sub.statsPrograms + s.sub.programs

theorem closeR_statsPrograms (fx : Bool) (s : RSolver P) (p : P) :
    (closeR fx s p).self.statsPrograms = statsBase fx s + s.self.programs := by
  cases fx <;> simp [closeR, closeTask, statsBase]

theorem closeR_statsLast (fx : Bool) (s : RSolver P) (p : P) :
    (closeR fx s p).self.statsLast = some p ∧ (closeR fx s p).sub.statsLast = some p := by
  cases fx <;> simp [closeR, closeTask]

theorem closeR_statsRestarts (fx : Bool) (s : RSolver P) (p : P) :
    (closeR fx s p).statsRestarts = s.statsRestarts + s.restarts := by
  cases fx <;> simp [closeR]

theorem closeR_subCloses (fx : Bool) (s : RSolver P) (p : P) :
    (closeR fx s p).sub.statsCloses = s.sub.statsCloses + 1 := by
  cases fx <;> simp [closeR, closeTask]

/-- summands `time_used` in the meta solver's `_stats["time"]` after closing: one more than before
    when `fixStats = true`; when `fixStats = false`, the sub-solver's count (just increased) plus one -/
theorem closeR_selfCloses (fx : Bool) (s : RSolver P) (p : P) :
    (closeR fx s p).self.statsCloses = (if fx then s.self.statsCloses else s.sub.statsCloses + 1) + 1 := by
  cases fx <;> simp [closeR, closeTask]

theorem statsBase_frame {fx : Bool} {s s' : RSolver P} (h : Frame s s') : statsBase fx s' = statsBase fx s := by
  cases fx <;> simp [statsBase, h.selfStatsPrograms, h.subStatsPrograms, h.subPrograms]

theorem RLedger.closed {prm : Params En P} {tp : P → Except E (Bool × Score)} {sats : P → Bool} {fuel : Nat}
    {s : RSolver P} {en : En} {pos : Nat} {pre post : List (Entry P En)} {r : RRun St P E}
    (h : RLedger prm tp sats fuel s pre post r) (he : segRun prm tp fuel s en pos = pre ++ post)
    (hc : r.status = .finished .accepted ∨ r.status = .finished .timeout) :
    ∃ s' p, Frame s s' ∧ r.solver = closeR prm.fixStats s' p := by
  rcases hc with hc | hc
  · obtain ⟨pre', e, sc, rfl, _, hsol⟩ := h.accepted hc
    have g := segRun_entry fuel s en pos pre' e post (by rw [he, List.append_assoc]; rfl)
    exact ⟨_, _, g.frame.trans (frame_testedS e.s sc), hsol⟩
  · obtain ⟨e, post', rfl, hsol⟩ := h.timeout hc
    exact ⟨_, _, (segRun_entry fuel s en pos pre e post' he).frame, hsol⟩

theorem RLedger.stats {prm : Params En P} {tp : P → Except E (Bool × Score)} {sats : P → Bool} {fuel : Nat}
    {s : RSolver P} {en : En} {pos : Nat} {pre post : List (Entry P En)} {r : RRun St P E}
    (h : RLedger prm tp sats fuel s pre post r) (he : segRun prm tp fuel s en pos = pre ++ post)
    (hc : r.status = .finished .accepted ∨ r.status = .finished .timeout) :
    r.solver.self.statsPrograms = statsBase prm.fixStats s + r.solver.self.programs := by
  obtain ⟨s', p, hf, hsol⟩ := h.closed he hc
  rw [hsol, closeR_statsPrograms, closeR_programs, statsBase_frame hf]

theorem RLedger.not_outOfFuel {prm : Params En P} {tp : P → Except E (Bool × Score)} {sats : P → Bool} {fuel : Nat}
    {s : RSolver P} {pre post : List (Entry P En)} {r : RRun St P E} (h : RLedger prm tp sats fuel s pre post r)
    (hl : (pre ++ post).length < fuel) : r.status ≠ .outOfFuel := by
  intro hout
  obtain ⟨rfl, hf⟩ := h.outOfFuel hout
  rw [List.append_nil, hf] at hl
  exact Nat.lt_irrefl _ hl

theorem RLedger.statsPrograms_eq {prm : Params En P} {tp : P → Except E (Bool × Score)} {sats sats' : P → Bool}
    {fuel : Nat} {s : RSolver P} {en : En} {pos : Nat} {pre post : List (Entry P En)} {r : RRun St P E}
    {bs : Solver P} {pre' post' : List P} {rb : Run St P E}
    (h : RLedger prm tp sats fuel s pre post r) (he : segRun prm tp fuel s en pos = pre ++ post)
    (hb : Ledger sats' bs pre' post' rb) (h2 : r.status.toBase = rb.status)
    (h3 : r.solver.self.programs = rb.solver.programs)
    (hbase : statsBase prm.fixStats s = bs.statsPrograms) (hself : s.self.statsPrograms = bs.statsPrograms) :
    r.solver.self.statsPrograms = rb.solver.statsPrograms := by
  by_cases hcl : r.status = .finished .accepted ∨ r.status = .finished .timeout
  · -- both close the task, each adding the same counter to its base
    have hclb : rb.status = .finished .accepted ∨ rb.status = .finished .timeout := by
      rw [← h2]; rcases hcl with h' | h' <;> rw [h'] <;> simp [RStatus.toBase]
    rw [h.stats he hcl, hb.stats hclb, hbase, h3]
  · have hnb : ∀ e, rb.status = .finished e → r.status.toBase = .finished e := fun e hr => h2.trans hr
    rw [(h.unclosed (fun h' => hcl (Or.inl h')) (fun h' => hcl (Or.inr h'))).selfStatsPrograms,
      (hb.unclosed (fun h' => hcl (Or.inl (toBase_accepted (hnb _ h'))))
        (fun h' => hcl (Or.inr (toBase_timeout (hnb _ h'))))).1, hself]

section base
variable {T : St → P → St × Except E (Bool × Score)}

theorem cutAtError_length (tp : P → Except E (Bool × Score)) (es : List P) :
    (cutAtError tp es).length ≤ es.length := by
  induction es with
  | nil => exact Nat.le_refl _
  | cons p rest ih => simp only [cutAtError]; split <;> simp <;> omega

theorem base_cut {tp : P → Except E (Bool × Score)} {Inv : St → Prop} (hT : RefinesS T tp Inv) (es : List P) :
    ∀ (s : Solver P) (st : St) (dl as : List Bool), Inv st →
      drive T (advance T s st (cutAtError tp es) dl) as = drive T (advance T s st es dl) as := by
  induction es with
  | nil => intros; rfl
  | cons p rest ih =>
    intro s st dl as hst
    have hst' := (hT st p hst).1
    rcases hT' : T st p with ⟨st', e | ⟨b, sc⟩⟩ <;> have htp := hT.tp_eq hst hT' <;> rw [hT'] at hst' <;>
      simp only [cutAtError, htp, advance, hT']
    cases deadlinePassed dl with
    | true => rfl
    | false =>
      cases b with
      | false => exact ih _ st' dl.tail as hst'
      | true =>
        match as with
        | [] => rfl
        | true :: as => simp [drive, send]
        | false :: as => simp [drive, send, ih _ st' dl.tail as hst']

end base

section noRestartRun
variable {prm : Params En P} {T : St → P → St × Except E (Bool × Score)}

theorem closeR_restarts (fx : Bool) (s : RSolver P) (p : P) : (closeR fx s p).restarts = s.restarts := by
  cases fx <;> rfl

theorem no_restart_restarts (hc : ∀ s, prm.criterion s = false) (fuel : Nat) (s : RSolver P) (st : St) (en : En)
    (pos : Nat) (dl as : List Bool) :
    (driveR prm T (advanceR prm T fuel s st en pos dl) as).solver.restarts = s.restarts := by
  refine runR_induction (Inv := fun _ => True) (fun _ _ _ => trivial)
    (motive := fun _ s _ _ _ _ _ r => r.solver.restarts = s.restarts)
    ?_ ?_ ?timeout ?_ ?rejected ?_ ?accepted ?refused fuel s st en pos dl as trivial
  case timeout | accepted => intros; exact closeR_restarts ..
  case rejected | refused => intro _ _ _ _ _ _ _ _ _ _ _ _ _ _ _ _ _ _ hat ih; exact ih.trans (afterTest_no_restart hc hat).2.2
  all_goals intros; rfl

end noRestartRun

/-- the segmented enumeration of `solve(task, en)` called on the solver object `s`, with `fuel` loop iterations -/
def segOf [DecidableEq V] (prm : Params En P) (k : Kind) (spec : P → I → Outcome V E) (exs : List (I × V))
    (fuel : Nat) (s : RSolver P) (en : En) : List (Entry P En) :=
  segRun prm (pureTest k spec exs) fuel (initTaskR s) en 0

/-- the programs of `segOf`: the model's `segEnum … (initTaskR s) en 0` for the pure test, by `rfl` -/
def segProgs [DecidableEq V] (prm : Params En P) (k : Kind) (spec : P → I → Outcome V E) (exs : List (I × V))
    (fuel : Nat) (s : RSolver P) (en : En) : List P :=
  (segOf prm k spec exs fuel s en).map (·.p)

theorem mem_split_map {α β : Type} (f : α → β) (l : List α) (pre : List β) (q : β) (post : List β)
    (h : l.map f = pre ++ q :: post) :
    ∃ pre' e post', l = pre' ++ e :: post' ∧ pre'.map f = pre ∧ f e = q ∧ post'.map f = post := by
  obtain ⟨pre', l₂, rfl, h1, h2⟩ := List.map_eq_append_iff.mp h
  obtain ⟨e, post', rfl, h3, h4⟩ := List.map_eq_cons_iff.mp h2
  exact ⟨pre', e, post', rfl, h1, h3, h4⟩

theorem segProgs_no_restart [DecidableEq V] {prm : Params En P} (hc : ∀ s, prm.criterion s = false) {en : En}
    {es : List P} (hs : ∀ i, prm.stream en i = es[i]?) (k : Kind) (spec : P → I → Outcome V E) (exs : List (I × V))
    {fuel : Nat} (hfuel : es.length < fuel) (s : RSolver P) :
    segProgs prm k spec exs fuel s en = cutAtError (pureTest k spec exs) es := by
  have := segEnum_no_restart_cut (tp := pureTest k spec exs) hc en es hs fuel (initTaskR s) 0
  simp only [segEnum, List.drop_zero] at this
  rw [segProgs, segOf, this, List.take_of_length_le (by omega)]

/-- `runR_ledger` for `solveR` over a faithful evaluator; `solveR` starts the counter `_programs` at 0, hence the
    last conjunct -/
theorem restart_ledger [DecidableEq V] {ev : Ev St P I V E} {spec : P → I → Outcome V E} {Inv : St → Prop}
    (hF : Faithful ev spec Inv) (prm : Params En P) (k : Kind) (exs : List (I × V)) (fuel : Nat)
    (s : RSolver P) (st : St) (hst : Inv st) (en : En) (dl as : List Bool) :
    ∃ pre post, segOf prm k spec exs fuel s en = pre ++ post ∧
      RLedger prm (pureTest k spec exs) (sat spec exs) fuel (initTaskR s) pre post
        (solveR prm (test k ev exs) fuel s st en dl as) ∧
      (solveR prm (test k ev exs) fuel s st en dl as).solver.self.programs = pre.length := by
  obtain ⟨pre, post, he, h⟩ :=
    runR_ledger (refinesS_of_faithful hF k exs) (pureTest_sound k spec exs) fuel (initTaskR s) st en 0 dl as hst
  exact ⟨pre, post, he, h, h.programs.trans (Nat.zero_add _)⟩

end PS.C10
