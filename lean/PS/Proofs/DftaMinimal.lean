/-
  `minimise` returns an automaton with the least possible number of states (built on the loop
  invariant of the refinement loop, PS/Proofs/DftaMin.lean).

  For a deterministic `B` with the same language as the trim automaton `A`, relate two states
  of `A` when two trees read into them are read into the same state by `B`
  (`SameIn A B`).  This relation is a bisimulation of `A` (because every state of `A` is
  productive, "undefined" can be told from "defined"), the equivalence test of the refinement
  loop respects every bisimulation (`compat_of_bisim`), so by that loop invariant
  related states always stay in one class.  Hence class ↦ state of `B` is injective.

  `reduce` returns a trim automaton (`trim_reduce`, PS/Proofs/Dfta.lean), the hypothesis of the above.
-/
import PS.Proofs.DftaMin
set_option linter.unusedSectionVars false
namespace PS
namespace DFTA
variable {σ Q Q₂ : Type} [DecidableEq σ] [DecidableEq Q] [DecidableEq Q₂]

theorem runList_append (A : DFTA σ Q) (xs ys : List (Tree σ)) :
    runList A (xs ++ ys) =
      (runList A xs).bind (fun a => (runList A ys).map (fun b => a ++ b)) := by
  induction xs with
  | nil => simp
  | cons x xs ih =>
    rw [List.cons_append, runList_cons, runList_cons, ih]
    cases run A x <;> cases runList A xs <;> cases runList A ys <;> simp

theorem run_node_mid (A : DFTA σ Q) (l : σ) (xs ys : List (Tree σ)) (t : Tree σ) :
    run A (.node l (xs ++ t :: ys)) =
      (runList A xs).bind (fun a => (run A t).bind (fun q => (runList A ys).bind (fun b =>
        A.read l (a ++ q :: b)))) := by
  rw [run_node, runList_append, runList_cons]
  cases runList A xs <;> cases run A t <;> cases runList A ys <;> simp

def StepClosed (A : DFTA σ Q) (R : Q → Q → Prop) : Prop := ∀ q q', R q q' → Swap A R q q'

theorem areEquivalent_of_bisim (A : DFTA σ Q) (R : Q → Q → Prop)
    (hsym : ∀ q q', R q q' → R q' q) (hstep : StepClosed A R) (s2c : AList Q Nat)
    (hresp : Resp R s2c) (r q q' : Q) (e : R q q') (h : areEquivalent A s2c r q = true) :
    areEquivalent A s2c r q' = true := by
  rw [areEquivalent_iff] at h ⊢
  exact ⟨h.1.trans (hstep q q' e) fun _ y z e1 e2 => e1.trans (hresp y z e2),
    (hstep q' q (hsym _ _ e)).trans h.2 fun x y _ e1 e2 => (hresp x y e1).trans e2⟩

theorem compat_of_bisim (A : DFTA σ Q) (R : Q → Q → Prop)
    (hsym : ∀ q q', R q q' → R q' q) (hstep : StepClosed A R) : Compat A R := by
  intro s2c hresp r q q' e
  rw [Bool.eq_iff_iff]
  exact ⟨areEquivalent_of_bisim A R hsym hstep s2c hresp r q q' e,
    areEquivalent_of_bisim A R hsym hstep s2c hresp r q' q (hsym _ _ e)⟩

def SameIn (A : DFTA σ Q) (B : DFTA σ Q₂) (q q' : Q) : Prop :=
  ∃ t t', run A t = some q ∧ run A t' = some q' ∧ run B t = run B t'

theorem sameIn_symm (A : DFTA σ Q) (B : DFTA σ Q₂) (q q' : Q) (h : SameIn A B q q') :
    SameIn A B q' q := by
  obtain ⟨t, t', h1, h2, h3⟩ := h
  exact ⟨t', t, h2, h1, h3.symm⟩

theorem accepts_congr (B : DFTA σ Q₂) (t t' : Tree σ) (h : run B t = run B t') :
    B.accepts t = B.accepts t' := by
  unfold accepts; rw [h]

/-- the context does not depend on `B`: `run_defined_of_same` takes one at `A` and at `B` -/
theorem exists_context (A : DFTA σ Q) (hd : A.Det) (hall : AllReach A) (l : σ) (pre post : List Q)
    (a d : Q) (hr : ((l, pre ++ a :: post), d) ∈ A.rules) :
    ∃ C : Tree σ → Tree σ, (∀ t q, run A t = some q → run A (C t) = A.read l (pre ++ q :: post)) ∧
      ∀ {Q' : Type} [DecidableEq Q'] (B : DFTA σ Q'),
        (∀ t t', run B t = run B t' → run B (C t) = run B (C t')) ∧
        (∀ t, run B t = none → run B (C t) = none) := by
  have hargs : ∀ q ∈ pre ++ a :: post, Reach A q :=
    fun q hq => (mem_states_iff A hd q).mp (hall q ((mem_allStates_of_rule A hr).2 q hq))
  obtain ⟨xs, hxs⟩ := exists_runList A pre fun q hq => hargs q (List.mem_append_left _ hq)
  obtain ⟨ys, hys⟩ := exists_runList A post fun q hq =>
    hargs q (List.mem_append_right _ (List.mem_cons_of_mem _ hq))
  refine ⟨fun t => .node l (xs ++ t :: ys), fun t q ht => ?_, fun B => ⟨fun t t' h => ?_, fun t h => ?_⟩⟩
  · rw [run_node_mid, hxs, ht, hys]; rfl
  · rw [run_node_mid, run_node_mid, h]
  · rw [run_node_mid, h]; cases runList B xs <;> rfl

theorem exists_accepting_context (A : DFTA σ Q) (hd : A.Det) (hall : AllReach A) :
    ∀ q ∈ A.productive, ∃ C : Tree σ → Tree σ, (∀ t, run A t = some q → A.accepts (C t) = true) ∧
      ∀ {Q' : Type} [DecidableEq Q'] (B : DFTA σ Q'),
        (∀ t t', run B t = run B t' → run B (C t) = run B (C t')) ∧
        (∀ t, run B t = none → run B (C t) = none) := by
  apply productive_induction
  · exact fun q hq => ⟨id, fun t ht => (accepts_iff A t).mpr ⟨q, ht, hq⟩, fun B => ⟨fun _ _ h => h, fun _ h => h⟩⟩
  · rintro l args d hr ⟨D, hD, hDB⟩ a ha
    obtain ⟨pre, post, rfl⟩ := List.append_of_mem ha
    obtain ⟨C, hC, hCB⟩ := exists_context A hd hall l pre post a d hr
    refine ⟨fun t => D (C t), fun t ht => hD _ ((hC t a ht).trans ((read_eq_some_iff A hd _ _ _).mpr hr)),
      fun B => ⟨fun t t' h => (hDB B).1 _ _ ((hCB B).1 t t' h), fun t h => (hDB B).2 _ ((hCB B).2 t h)⟩⟩

theorem run_ne_none_of_accepts {Q' : Type} [DecidableEq Q'] {B : DFTA σ Q'} {t : Tree σ}
    (h : B.accepts t = true) : run B t ≠ none := by
  obtain ⟨b, hb, _⟩ := (accepts_iff B t).mp h
  rw [hb]; exact Option.some_ne_none b

theorem run_defined_of_productive (A : DFTA σ Q) (B : DFTA σ Q₂) (hd : A.Det) (hall : AllReach A)
    (hl : ∀ t, B.accepts t = A.accepts t) (q : Q) (hq : q ∈ A.productive) (t : Tree σ)
    (ht : run A t = some q) : ∃ b, run B t = some b := by
  obtain ⟨C, hC, hCB⟩ := exists_accepting_context A hd hall q hq
  refine Option.ne_none_iff_exists'.mp fun hn => ?_
  exact run_ne_none_of_accepts ((hl _).trans (hC t ht)) ((hCB B).2 t hn)

theorem run_defined_of_same (A : DFTA σ Q) (B : DFTA σ Q₂) (hd : A.Det) (hall : AllReach A)
    (hl : ∀ t, B.accepts t = A.accepts t) (q : Q) (hq : q ∈ A.productive) (t t' : Tree σ)
    (ht : run A t = some q) (hB : run B t = run B t') : ∃ q', run A t' = some q' := by
  obtain ⟨C, hC, hCB⟩ := exists_accepting_context A hd hall q hq
  refine Option.ne_none_iff_exists'.mp fun hn => ?_
  have h2 : A.accepts (C t') = true := by
    rw [← hl, ← accepts_congr B _ _ ((hCB B).1 t t' hB), hl]; exact hC t ht
  exact run_ne_none_of_accepts h2 ((hCB A).2 t' hn)

theorem sameIn_stepClosed (A : DFTA σ Q) (B : DFTA σ Q₂) (hd : A.Det) (htrim : Trim A)
    (hl : ∀ t, B.accepts t = A.accepts t) : StepClosed A (SameIn A B) := by
  rintro q q' ⟨t, t', ht, ht', hB⟩ l pre post d hrd
  have hr := AList.lookup_some_mem hrd
  obtain ⟨C, hC, hCB⟩ := exists_context A hd htrim.1 l pre post q d hr
  have hT : run A (C t) = some d := (hC t q ht).trans hrd
  have hBT := (hCB B).1 t t' hB
  have hdp : d ∈ A.productive := htrim.2 d (htrim.1 d (mem_allStates_of_rule A hr).1)
  obtain ⟨d', hd'⟩ := run_defined_of_same A B hd htrim.1 hl d hdp _ _ hT hBT
  exact ⟨d', (hC t' q' ht').symm.trans hd', _, _, hT, hd', hBT⟩

theorem sameIn_initResp (A : DFTA σ Q) (B : DFTA σ Q₂) (hd : A.Det)
    (hl : ∀ t, B.accepts t = A.accepts t) : InitResp A (SameIn A B) := by
  rintro q q' ⟨t, t', ht, ht', hB⟩
  constructor
  · have h1 := mem_states_of_run A hd t q ht
    have h2 := mem_states_of_run A hd t' q' ht'
    exact ⟨fun _ => h2, fun _ => h1⟩
  · have h := accepts_congr B t t' hB
    rw [hl, hl] at h
    unfold accepts at h
    rw [ht, ht'] at h
    simpa using h

theorem minimiseCore_minimal {X : Type} [DecidableEq X] (f : List Q → X)
    (hf : ∀ a b, f a = f b → a = b)
    (A : DFTA σ Q) (hd : A.Det) (htrim : Trim A) (cls0 cls1 : List Q) (h01 : InitOK A cls0 cls1)
    (fuel : Nat) (M : DFTA σ X) (h : minimiseCore f A cls0 cls1 fuel = some M)
    (B : DFTA σ Q₂) (hb : B.Det) (hl : ∀ t, B.accepts t = A.accepts t) :
    numStates M ≤ numStates B := by
  obtain ⟨st, hst, e⟩ := minimiseCore_eq f A cls0 cls1 fuel M h
  rw [minimiseState_eq] at hst
  have hE : Compat A (SameIn A B) :=
    compat_of_bisim A _ (sameIn_symm A B) (sameIn_stepClosed A B hd htrim hl)
  obtain ⟨hp, hfix⟩ := minLoop_spec A _ hE fuel _ st
    (pinv_init A _ (sameIn_initResp A B hd hl) cls0 cls1 h01) hst
  -- the run of the result is the class of the run of `A`
  have hcert := cert_of_fix A _ st f hf hp hfix htrim.1
  have hrun : ∀ t, run M t = (run A t).map (fun q => f (clsTuple st q)) := by
    intro t; rw [e]
    exact run_quotient A hd _ _ (allStates_subset_stateSet A) hcert t
  have hdM : M.Det := minimiseCore_det f A cls0 cls1 fuel M h
  have hsplit : ∀ t m, run M t = some m → ∃ q, run A t = some q ∧ f (clsTuple st q) = m :=
    fun t m hm => Option.map_eq_some_iff.mp (hrun t ▸ hm)
  unfold numStates
  apply length_le_of_inj_rel (fun m b => ∃ t, run M t = some m ∧ run B t = some b)
    M.states B.states (states_nodup M hdM)
  · intro m hm
    obtain ⟨t, ht⟩ := (mem_states_iff M hdM m).mp hm
    obtain ⟨q, hq, _⟩ := hsplit t m ht
    obtain ⟨b, hb'⟩ := run_defined_of_productive A B hd htrim.1 hl q
      (htrim.2 q (mem_states_of_run A hd t q hq)) t hq
    exact ⟨b, mem_states_of_run B hb t b hb', t, ht, hb'⟩
  · rintro m m' b _ _ ⟨t, ht, htb⟩ ⟨t', ht', htb'⟩
    obtain ⟨q, hq, e1⟩ := hsplit t m ht
    obtain ⟨q', hq', e2⟩ := hsplit t' m' ht'
    have hs : SameIn A B q q' := ⟨t, t', hq, hq', by rw [htb, htb']⟩
    rw [← e1, ← e2, clsTuple_congr st q q' (hp.resp q q' hs)]

end DFTA
end PS
