/-
  The worklist construction of C01 (PS/Model/Cfg.lean: `closure`, `buildTable`; PS/Model/CfgInfinite.lean:
  `closureWith`, `buildTableInf`), for any rule-creation function `R` whose argument lists are a function of the
  symbol, then for `CFG.depth_constraint`, the instance `R = ruleSet P`.

  The worklist invariant `CInvW` gives, when the loop ends, a table in which every non-terminal ever pushed carries
  exactly `rulesDict (R …)` and whose set of non-terminals is closed under "argument of a rule of a member".  Hence
  the uncleaned table generates, from each of its non-terminals, exactly what rule creation (`genW R`) generates.
  `buildWith` is the loop followed by `clean` (PS/Proofs/CfgClean.lean).
-/
import PS.Proofs.CfgClean
import PS.Proofs.Worklist
namespace PS.G
open PS

/-- `dict(...)`: a later rule for the same symbol wins -/
theorem rulesDict_eq_ofList (rs : List Rule) : rulesDict rs = AList.ofList (rs.map fun r => (r.1, (r.2, ()))) :=
  AList.foldl_insert_eq_insertMany (fun r : Rule => r.1) (fun r => (r.2, ())) rs []

theorem rulesDict_nodup (rs : List Rule) : (AList.keys (rulesDict rs)).Nodup :=
  rulesDict_eq_ofList rs ▸ AList.keys_nodup_ofList _

theorem rulesDict_lookup_mem (rs : List Rule) (f : Sym) (v : List (Ty × CFGState) × Unit)
    (h : AList.lookup f (rulesDict rs) = some v) : (f, v.1) ∈ rs := by
  obtain ⟨r, hr, e⟩ := List.mem_map.mp (AList.lookup_ofList_some (rulesDict_eq_ofList rs ▸ h))
  cases e; exact hr

theorem rulesDict_lookup_of_mem (rs : List Rule)
    (hfun : ∀ r ∈ rs, ∀ r' ∈ rs, r.1 = r'.1 → r.2 = r'.2) (r : Rule) (hr : r ∈ rs) :
    AList.lookup r.1 (rulesDict rs) = some (r.2, ()) := by
  rw [rulesDict_eq_ofList]
  refine AList.lookup_insertMany_of_mem [] _ r.1 (r.2, ()) ⟨_, List.mem_map_of_mem hr, rfl⟩ fun x hx e => ?_
  obtain ⟨r', hr', rfl⟩ := List.mem_map.mp hx
  rw [hfun r' hr' r hr e]

/-- the non-terminals appended to the pending list when `nt` gets its rules `R nt` -/
def kidsW (R : CNT → List Rule) (nt : CNT) : List CNT := (R nt).flatMap (fun r => r.2.map toNT)

theorem mem_kidsW (R : CNT → List Rule) (nt k : CNT) :
    k ∈ kidsW R nt ↔ ∃ r ∈ R nt, ∃ a ∈ r.2, toNT a = k := by
  simp only [kidsW, List.mem_flatMap, List.mem_map]

/-- one iteration as a step of the general worklist loop (PS/Proofs/Worklist.lean); a new non-terminal gets its row
    at the end of the table (dict order).  The Python deque is filled with `appendleft` and emptied with `pop()`
    (cfg.py:181, 233, 319, 372): first in, first out, as `todo ++ kidsW R nt` here.  The model leaves out the test
    `if new_context not in list_to_be_treated` (cfg.py:232): a second copy of a pending non-terminal is skipped by
    the membership test when it is taken, so the order in which rows are created is the same. -/
def closureStep (R : CNT → List Rule) (nt : CNT) (todo : List CNT) (tbl : Table) :
    Option Table ⊕ (List CNT × Table) :=
  .inr (if nt ∈ AList.keys tbl then (todo, tbl)
    else (todo ++ kidsW R nt, tbl ++ [(nt, rulesDict (R nt))]))

theorem closureWith_eq (R : CNT → List Rule) : ∀ (fuel : Nat) (todo : List CNT) (tbl : Table),
    closureWith R fuel todo tbl = gloop none some (closureStep R) fuel todo tbl
  | _, [], _ => by rw [closureWith, gloop_nil]
  | 0, _ :: _, _ => rfl
  | fuel + 1, nt :: todo, tbl => by
    rw [closureWith, gloop, closureStep]
    by_cases hk : AList.contains nt tbl = true
    · rw [if_pos hk, if_pos (AList.mem_keys_iff_contains.mpr hk)]
      exact closureWith_eq R fuel todo tbl
    · rw [if_neg hk, if_neg (mt AList.mem_keys_iff_contains.mp hk)]
      simp only [AList.insert_of_not_contains _ hk]
      exact closureWith_eq R fuel _ _

/-- Invariant of `closureWith R` started on `[s]` with the empty table.  `rows`: every key has
    exactly the rules `R` gives it; `closed`: every argument of a rule of the table is a key or is
    pending (so at the exit, `todo = []`, the keys are closed under `kidsW`); `start`, `first`: the
    start symbol is a key or pending, and it is the first key (Python dicts keep insertion order;
    `buildWith_clean` states that the start symbol is the first key of the cleaned table, which
    `programsInf_none_of_build` needs because `programsInf` fills the table in dict order). -/
structure CInvW (R : CNT → List Rule) (s : CNT) (tbl : Table) (todo : List CNT) : Prop where
  nodup : (AList.keys tbl).Nodup
  rows : ∀ e ∈ tbl, e.2 = rulesDict (R e.1)
  closed : ∀ e ∈ tbl, ∀ k ∈ kidsW R e.1, k ∈ AList.keys tbl ∨ k ∈ todo
  start : s ∈ AList.keys tbl ∨ s ∈ todo
  first : tbl.head?.map (·.1) = some s ∨ (tbl = [] ∧ todo.head? = some s)

theorem cinvW_init (R : CNT → List Rule) (s : CNT) : CInvW R s [] [s] :=
  ⟨List.nodup_nil, fun _ h => (nomatch h), fun _ h => (nomatch h), Or.inr (List.mem_singleton_self s),
    Or.inr ⟨rfl, rfl⟩⟩

theorem closureWith_inv (R : CNT → List Rule) (s : CNT) (fuel : Nat) (todo : List CNT) (tbl T : Table)
    (h : CInvW R s tbl todo) (hc : closureWith R fuel todo tbl = some T) : CInvW R s T [] := by
  rw [closureWith_eq] at hc
  refine gloop_induct none some (closureStep R) (fun _ _ => Option.some.inj) nofun
    (fun todo tbl T => CInvW R s tbl todo → CInvW R s T []) (fun _ h => h) nofun ?_ fuel todo tbl T hc h
  intro nt todo tbl todo' tbl' T hs ih h
  unfold closureStep at hs
  split at hs <;> cases hs <;> apply ih
  · rename_i hk
    have mono := fun x => mem_or_of_top (x := x) hk (fun _ hy => hy) (fun _ (hy : _ ∈ todo) => hy)
    refine ⟨h.nodup, h.rows, fun e he k hkk => mono k (h.closed e he k hkk), mono s h.start, ?_⟩
    rcases h.first with h1 | ⟨h1, _⟩
    · exact Or.inl h1
    · subst h1; cases hk
  · rename_i hk
    have hkeys := AList.keys_snoc tbl nt (rulesDict (R nt))
    have mono := fun x => mem_or_of_top (x := x) (keys' := AList.keys tbl ++ [nt])
      (todo' := todo ++ kidsW R nt) (List.mem_append_right _ (List.mem_singleton_self nt))
      (fun _ hy => List.mem_append_left _ hy) (fun _ hy => List.mem_append_left _ hy)
    refine ⟨?_, ?_, ?_, hkeys ▸ mono s h.start, Or.inl ?_⟩
    · exact AList.keys_snoc_nodup _ h.nodup hk
    · intro e he
      rcases List.mem_append.mp he with he | he
      · exact h.rows e he
      · rw [List.mem_singleton.mp he]
    · intro e he k hkk
      rw [hkeys]
      rcases List.mem_append.mp he with he | he
      · exact mono k (h.closed e he k hkk)
      · rw [List.mem_singleton.mp he] at hkk
        exact Or.inr (List.mem_append_right _ hkk)
    · rcases h.first with h1 | ⟨rfl, h2⟩
      · cases tbl with
        | nil => cases h1
        | cons e tbl => exact h1
      · rw [← Option.some.inj h2]; rfl

theorem cinvW_wf {R : CNT → List Rule} {s : CNT} {T : Table} {todo : List CNT}
    (h : CInvW R s T todo) : TableWF T :=
  ⟨h.nodup, fun e he => by rw [h.rows e he]; exact rulesDict_nodup _⟩

theorem cinvW_lookup {R : CNT → List Rule} {s : CNT} {T : Table} {todo : List CNT}
    (h : CInvW R s T todo) {e : CNT × Row} (he : e ∈ T) :
    AList.lookup e.1 T = some (rulesDict (R e.1)) := by
  rw [lookup_of_mem h.nodup he, h.rows e he]

theorem cinvW_start_key {R : CNT → List Rule} {s : CNT} {T : Table} (h : CInvW R s T []) :
    AList.contains s T = true :=
  AList.mem_keys_iff_contains.mp (h.start.resolve_right (fun h1 => nomatch h1))

theorem cinvW_args {R : CNT → List Rule} {s : CNT} {T : Table} (h : CInvW R s T [])
    {e : CNT × Row} (he : e ∈ T) {r : Rule} (hr : r ∈ R e.1) {a : Ty × CFGState} (ha : a ∈ r.2) :
    toNT a ∈ AList.keys T :=
  (h.closed e he (toNT a) ((mem_kidsW R e.1 _).mpr ⟨r, hr, a, ha, rfl⟩)).resolve_right
    (fun h1 => nomatch h1)

def Functional (R : CNT → List Rule) : Prop :=
  ∀ nt, ∀ r ∈ R nt, ∀ r' ∈ R nt, r.1 = r'.1 → r.2 = r'.2

theorem closureWith_gen {R : CNT → List Rule} (hfun : Functional R) {s : CNT} {T : Table}
    (h : CInvW R s T []) (t : Prog) :
    ∀ nt, AList.contains nt T = true → gen (⟨s, T⟩ : CFG) t nt = genW R t nt := by
  induction t using Tree.ind with
  | node f kids ih =>
    intro nt hkey
    obtain ⟨e, he, rfl⟩ := List.mem_map.mp (AList.mem_keys_iff_contains.mpr hkey)
    have hlk := cinvW_lookup h he
    have hlist : ∀ r ∈ R e.1, genList (⟨s, T⟩ : CFG) kids r.2 = genWList R kids r.2 := fun r hr =>
      genList_eq_genWList R ⟨s, T⟩ kids ih r.2 (fun _ ha => AList.mem_keys_iff_contains.mp (cinvW_args h he hr ha))
    rw [Bool.eq_iff_iff, gen_iff, genW_iff]
    constructor
    · rintro ⟨rs, args, h1, h2, h3⟩
      cases hlk.symm.trans h1
      have hm := rulesDict_lookup_mem _ f _ h2
      exact ⟨(f, args), hm, rfl, hlist _ hm ▸ h3⟩
    · rintro ⟨r, hr, rfl, h3⟩
      exact ⟨_, r.2, hlk, rulesDict_lookup_of_mem _ (hfun e.1) r hr, (hlist r hr).symm ▸ h3⟩

theorem closureWith_stable {R : CNT → List Rule} {fuel fuel' : Nat} {todo : List CNT} {tbl T : Table}
    (h : closureWith R fuel todo tbl = some T) (hle : fuel ≤ fuel') :
    closureWith R fuel' todo tbl = some T := by
  rw [closureWith_eq] at h ⊢
  rw [← Nat.add_sub_cancel' hle, gloop_mono none some (closureStep R) _ fuel todo tbl (by rw [h]; nofun), h]

/-- `none` = fuel exhausted, or the KeyError of `clean` on an unproductive start symbol -/
def buildWith (R : CNT → List Rule) (s : CNT) (fuel : Nat) : Option CFG :=
  match closureWith R fuel [s] [] with
  | none => none
  | some tbl =>
    match removeNonReachable s (removeNonProductive tbl) with
    | none => none
    | some t => some ⟨s, t⟩

theorem buildWith_eq (R : CNT → List Rule) (s : CNT) (fuel : Nat) :
    buildWith R s fuel = (closureWith R fuel [s] []).bind fun tbl =>
      (removeNonReachable s (removeNonProductive tbl)).map fun t => (⟨s, t⟩ : CFG) := by
  unfold buildWith
  cases closureWith R fuel [s] [] with
  | none => rfl
  | some tbl =>
    dsimp only [Option.bind_some]
    cases removeNonReachable s (removeNonProductive tbl) <;> rfl

theorem buildWith_some {R : CNT → List Rule} {s : CNT} {fuel : Nat} {G : CFG}
    (h : buildWith R s fuel = some G) :
    ∃ tbl, closureWith R fuel [s] [] = some tbl ∧ CInvW R s tbl [] ∧ G.start = s ∧
      removeNonReachable s (removeNonProductive tbl) = some G.rules ∧ CleanSpec s tbl G.rules := by
  rw [buildWith_eq] at h
  obtain ⟨tbl, hc, h⟩ := Option.bind_eq_some_iff.mp h
  obtain ⟨T', hr, rfl⟩ := Option.map_eq_some_iff.mp h
  have hinv := closureWith_inv R s fuel _ _ tbl (cinvW_init R s) hc
  exact ⟨tbl, hc, hinv, rfl, hr, clean_some s tbl T' (cinvW_wf hinv) hr⟩

theorem buildWith_none {R : CNT → List Rule} {s : CNT} {fuel : Nat} (h : buildWith R s fuel = none) :
    closureWith R fuel [s] [] = none ∨
    ∃ tbl, closureWith R fuel [s] [] = some tbl ∧ CInvW R s tbl [] ∧
      removeNonReachable s (removeNonProductive tbl) = none := by
  rw [buildWith_eq] at h
  cases hc : closureWith R fuel [s] [] with
  | none => exact Or.inl rfl
  | some tbl =>
    rw [hc] at h
    exact Or.inr ⟨tbl, rfl, closureWith_inv R s fuel _ _ tbl (cinvW_init R s) hc, Option.map_eq_none_iff.mp h⟩

theorem buildWith_eq_some {R : CNT → List Rule} {s : CNT} {fuel : Nat} {tbl T : Table}
    (h1 : closureWith R fuel [s] [] = some tbl)
    (h2 : removeNonReachable s (removeNonProductive tbl) = some T) : buildWith R s fuel = some ⟨s, T⟩ := by
  rw [buildWith_eq, h1, Option.bind_some, h2]; rfl

theorem buildWith_lang {R : CNT → List Rule} (hfun : Functional R) {s : CNT} {fuel : Nat} {G : CFG}
    (h : buildWith R s fuel = some G) (t : Prog) : gen G t G.start = genW R t s := by
  obtain ⟨tbl, _, hinv, hstart, _, hclean⟩ := buildWith_some h
  obtain ⟨_, rules⟩ := G
  subst hstart
  rw [hclean.lang t, closureWith_gen hfun hinv t _ (cinvW_start_key hinv)]

theorem buildWith_empty {R : CNT → List Rule} (hfun : Functional R) {s : CNT} {fuel : Nat}
    (hc : closureWith R fuel [s] [] ≠ none) (h : buildWith R s fuel = none) (t : Prog) :
    genW R t s = false := by
  rcases buildWith_none h with h1 | ⟨tbl, _, hinv, h2⟩
  · exact absurd h1 hc
  · rw [← closureWith_gen hfun hinv t _ (cinvW_start_key hinv)]
    exact clean_none s tbl (cinvW_wf hinv) h2 t

theorem buildWith_clean {R : CNT → List Rule} (hfun : Functional R) {s : CNT} {fuel : Nat} {G : CFG}
    (h : buildWith R s fuel = some G) :
    G.start = s ∧ AList.contains G.start G.rules = true ∧ (AList.keys G.rules).Nodup ∧
    G.rules.head?.map (·.1) = some G.start ∧
    ∀ e ∈ G.rules, (AList.keys e.2).Nodup ∧ Reach G e.1 ∧ (∃ t, gen G t e.1 = true) ∧
      (∀ r ∈ e.2, ∀ a ∈ r.2.1, AList.contains (toNT a) G.rules = true) ∧
      (∀ f args, (f, (args, ())) ∈ e.2 ↔
        (f, args) ∈ R e.1 ∧ ∀ a ∈ args, ∃ t, genW R t (toNT a) = true) := by
  obtain ⟨tbl, _, hinv, hstart, hrm, hs⟩ := buildWith_some h
  obtain ⟨s, rules⟩ := G
  subst hstart
  have hgen : ∀ nt ∈ AList.keys tbl, ∀ t, gen (⟨s, tbl⟩ : CFG) t nt = genW R t nt :=
    fun nt hnt t => closureWith_gen hfun hinv t nt (AList.mem_keys_iff_contains.mp hnt)
  refine ⟨rfl, AList.mem_keys_iff_contains.mp hs.start_key, hs.wf.keys,
    clean_head s tbl rules (cinvW_wf hinv) (hinv.first.resolve_right (fun h1 => nomatch h1.2)) hrm, ?_⟩
  intro e he
  have hk : e.1 ∈ AList.keys rules := List.mem_map_of_mem he
  refine ⟨hs.wf.rows e he, hs.reachable _ hk, hs.productive _ hk,
    fun r hr a ha => AList.mem_keys_iff_contains.mp (hs.closed e he r hr a ha), ?_⟩
  -- `e0`: the row of the same non-terminal before `clean`, i.e. the dict of the created rules
  obtain ⟨e0, he0, h1, h2⟩ := hs.sub e he
  have hrow : e0.2 = rulesDict (R e.1) := by rw [hinv.rows e0 he0, h1]
  have hargs : ∀ r ∈ R e.1, ∀ a ∈ r.2, toNT a ∈ AList.keys tbl :=
    fun r hr a ha => cinvW_args hinv he0 (h1 ▸ hr) ha
  intro f args
  constructor
  · intro hm
    have hin : (f, args) ∈ R e.1 :=
      rulesDict_lookup_mem _ f _ (AList.lookup_of_mem_nodup (rulesDict_nodup _) (hrow ▸ h2 _ hm))
    refine ⟨hin, fun a ha => ?_⟩
    have hka := hs.closed e he _ hm a ha
    obtain ⟨t, ht⟩ := hs.productive _ hka
    exact ⟨t, by rw [← hgen _ (hargs _ hin a ha) t, ← hs.lang_key _ hka t]; exact ht⟩
  · rintro ⟨hin, hp⟩
    refine hs.kept e he e0 he0 h1 _ ?_ (fun a ha => ?_)
    · rw [hrow]
      exact AList.lookup_some_mem (rulesDict_lookup_of_mem _ (hfun e.1) (f, args) hin)
    · obtain ⟨t, ht⟩ := hp a ha
      exact ⟨t, by rw [hgen _ (hargs _ hin a ha) t]; exact ht⟩

theorem buildWith_fuel {R : CNT → List Rule} {s : CNT} {fuel fuel' : Nat} {tbl : Table}
    (h : closureWith R fuel [s] [] = some tbl) (hle : fuel ≤ fuel') :
    buildWith R s fuel' = buildWith R s fuel := by
  rw [buildWith_eq, buildWith_eq, h, closureWith_stable h hle]

theorem leafSyms_ty (P : Params) (forb : List String) (d : Nat) (ty : Ty) (s : Sym)
    (h : s ∈ leafSyms P forb d ty) : s.ty = ty := by
  unfold leafSyms at h
  rcases List.mem_append.mp h with h | h
  · split at h
    · rcases List.mem_append.mp h with h | h
      · obtain ⟨iv, _, hiv⟩ := List.mem_filterMap.mp h
        split at hiv
        · cases hiv; rfl
        · cases hiv
      · split at h
        · rw [List.mem_singleton] at h; subst h; rfl
        · cases h
    · cases h
  · have := (List.mem_filter.mp h).2
    simp only [Bool.and_eq_true, beq_iff_eq] at this
    exact this.2

/-- `appHeads` and `appHeadsInf` (PS/Model/CfgInfinite.lean) differ only in when a variable of the request is a head:
    whether variables are looked at at all (`c`), and the test `ok iv tys` on the variable `iv`. -/
def appHeadsWith (P : Params) (forb : List String) (ty : Ty) (c : Prop) [Decidable c]
    (ok : Nat × Ty → List Ty → Prop) [∀ iv tys, Decidable (ok iv tys)] : List (Sym × List Ty) :=
  (P.prims.filterMap (fun p =>
      if forb.contains p.name then none else
      match p.ty.endsWith ty with
      | some tys => some (p, tys)
      | none => none)) ++
  (if c then
    (enumFrom' P.request.arguments).filterMap (fun iv =>
      match iv.2.endsWith ty with
      | some tys => if ok iv tys then some (Sym.var iv.1 iv.2, tys) else none
      | none => none)
   else []) ++
  (if P.recursive then
    match P.request.endsWith ty with
    | some tys => [(selfSym P, tys)]
    | none => []
   else [])

theorem mem_appHeadsWith (P : Params) (forb : List String) (ty : Ty) (c : Prop) [Decidable c]
    (ok : Nat × Ty → List Ty → Prop) [∀ iv tys, Decidable (ok iv tys)] (h : Sym × List Ty) :
    h ∈ appHeadsWith P forb ty c ok ↔
      (∃ p ∈ P.prims, forb.contains p.name = false ∧ p.ty.endsWith ty = some h.2 ∧ h.1 = p) ∨
      (c ∧ ∃ iv ∈ enumFrom' P.request.arguments, iv.2.endsWith ty = some h.2 ∧ ok iv h.2 ∧
        h.1 = Sym.var iv.1 iv.2) ∨
      (P.recursive = true ∧ P.request.endsWith ty = some h.2 ∧ h.1 = selfSym P) := by
  obtain ⟨f, tys⟩ := h
  simp only [appHeadsWith, List.mem_append, or_assoc]
  refine or_congr ?_ (or_congr ?_ ?_)
  · rw [List.mem_filterMap]
    refine exists_congr fun p => and_congr_right fun _ => ?_
    cases forb.contains p.name
    · cases p.ty.endsWith ty <;> simp [eq_comm, and_comm]
    · simp
  · by_cases hc : c
    · rw [if_pos hc, List.mem_filterMap, and_iff_right hc]
      refine exists_congr fun iv => and_congr_right fun _ => ?_
      cases iv.2.endsWith ty with
      | none => simp
      | some tys' =>
        by_cases he : tys' = tys
        · subst he; by_cases hl : ok iv tys' <;> simp [hl, eq_comm]
        · simp [he]
    · simp [hc]
  · cases P.recursive
    · simp
    · cases P.request.endsWith ty <;> simp [eq_comm, and_comm]

theorem appHeadsWith_ty (P : Params) (forb : List String) (ty : Ty) (c : Prop) [Decidable c]
    (ok : Nat × Ty → List Ty → Prop) [∀ iv tys, Decidable (ok iv tys)] (h : Sym × List Ty)
    (hm : h ∈ appHeadsWith P forb ty c ok) : h.1.ty.endsWith ty = some h.2 := by
  rcases (mem_appHeadsWith P forb ty c ok h).mp hm with ⟨p, _, _, heq, hf⟩ | ⟨_, iv, _, heq, _, hf⟩ | ⟨_, heq, hf⟩ <;>
    rw [hf] <;> exact heq

theorem appHeads_ty (P : Params) (forb : List String) (d : Nat) (ty : Ty) (h : Sym × List Ty)
    (hm : h ∈ appHeads P forb d ty) : h.1.ty.endsWith ty = some h.2 :=
  appHeadsWith_ty P forb ty _ _ h hm

/-- the arguments that a rule for symbol `f` of non-terminal `nt` can only have -/
def argsOf (P : Params) (nt : CNT) (f : Sym) : List (Ty × CFGState) :=
  childNTs P nt.2.1.1 nt.2.1.2 f ((f.ty.endsWith nt.1).getD [])

theorem ruleSet_args (P : Params) (nt : CNT) (r : Rule) (h : r ∈ ruleSet P nt) :
    r.2 = argsOf P nt r.1 := by
  unfold ruleSet at h
  simp only at h
  split at h
  · rcases List.mem_append.mp h with h | h
    · obtain ⟨s, hs, rfl⟩ := List.mem_map.mp h
      have := leafSyms_ty P _ _ _ s hs
      simp only [argsOf, this, endsWith_self]
      rfl
    · split at h
      · obtain ⟨hd, hhd, rfl⟩ := List.mem_map.mp h
        have := appHeads_ty P _ _ _ hd hhd
        simp only [argsOf, this]
        rfl
      · cases h
  · cases h

theorem ruleSet_functional (P : Params) : Functional (ruleSet P) := by
  intro nt r hr r' hr' h
  rw [ruleSet_args P nt r hr, ruleSet_args P nt r' hr', h]

theorem ruleSet_depth (P : Params) (nt : CNT) (r : Rule) (h : r ∈ ruleSet P nt)
    (a : Ty × CFGState) (ha : a ∈ r.2) : a.2.2 = nt.2.1.2 + 1 := by
  rw [ruleSet_args P nt r h] at ha
  unfold argsOf childNTs at ha
  obtain ⟨x, _, rfl⟩ := List.mem_map.mp ha
  rfl

theorem ruleSet_nil (P : Params) (nt : CNT) (h : P.maxDepth ≤ nt.2.1.2) : ruleSet P nt = [] := by
  unfold ruleSet
  simp only
  rw [if_neg (by omega)]

/-- `kidsW (ruleSet P)`, unfolded -/
def kidsR (P : Params) (nt : CNT) : List CNT := (ruleSet P nt).flatMap (fun r => r.2.map toNT)

theorem mem_kidsR (P : Params) (nt k : CNT) :
    k ∈ kidsR P nt ↔ ∃ r ∈ ruleSet P nt, ∃ a ∈ r.2, toNT a = k :=
  mem_kidsW (ruleSet P) nt k

/-- `CInvW (ruleSet P) (startNT P)` without the field `first` -/
structure CInv (P : Params) (tbl : Table) (todo : List CNT) : Prop where
  nodup : (AList.keys tbl).Nodup
  rows : ∀ e ∈ tbl, e.2 = rulesDict (ruleSet P e.1)
  closed : ∀ e ∈ tbl, ∀ k ∈ kidsR P e.1, k ∈ AList.keys tbl ∨ k ∈ todo
  start : startNT P ∈ AList.keys tbl ∨ startNT P ∈ todo

theorem closure_eq (P : Params) :
    ∀ (fuel : Nat) (todo : List CNT) (tbl : Table),
      closure P fuel todo tbl = closureWith (ruleSet P) fuel todo tbl
  | _, [], _ => by rw [closure, closureWith]
  | 0, _ :: _, _ => rfl
  | fuel + 1, nt :: todo, tbl => by
    rw [closure, closureWith]
    simp only [closure_eq P fuel]

theorem closure_inv {P : Params} {fuel : Nat} {tbl : Table}
    (h : closure P fuel [startNT P] [] = some tbl) : CInvW (ruleSet P) (startNT P) tbl [] :=
  closureWith_inv _ _ fuel _ _ tbl (cinvW_init _ _) (closure_eq P fuel _ _ ▸ h)

theorem buildTable_eq (P : Params) (fuel : Nat) :
    buildTable P fuel = buildWith (ruleSet P) (startNT P) fuel := by
  unfold buildTable buildWith
  rw [closure_eq]
  rfl

/-- number of loop iterations caused by a non-terminal that sits `k` levels above the bound -/
def costK (P : Params) : Nat → CNT → Nat
  | 0, _ => 1
  | k + 1, nt => 1 + ((kidsR P nt).map (costK P k)).sum

def cost (P : Params) (nt : CNT) : Nat := costK P (P.maxDepth - nt.2.1.2) nt

def buildFuel (P : Params) : Nat := cost P (startNT P)

theorem kidsR_depth (P : Params) (nt k : CNT) (h : k ∈ kidsR P nt) : k.2.1.2 = nt.2.1.2 + 1 := by
  obtain ⟨r, hr, a, ha, rfl⟩ := (mem_kidsR P nt k).mp h
  exact ruleSet_depth P nt r hr a ha

theorem cost_eq (P : Params) (nt : CNT) : cost P nt = 1 + ((kidsR P nt).map (cost P)).sum := by
  unfold cost
  cases hk : P.maxDepth - nt.2.1.2 with
  | zero =>
    have : kidsR P nt = [] := by
      unfold kidsR; rw [ruleSet_nil P nt (Nat.le_of_sub_eq_zero hk)]; rfl
    rw [this]; rfl
  | succ k =>
    rw [costK]
    congr 2
    apply List.map_congr_left
    intro c hc
    -- a pushed non-terminal is one level deeper
    rw [kidsR_depth P nt c hc, Nat.sub_succ, hk]
    rfl

theorem closure_terminates (P : Params) (fuel : Nat) (todo : List CNT) (tbl : Table)
    (h : (todo.map (cost P)).sum ≤ fuel) : (closure P fuel todo tbl).isSome = true := by
  rw [closure_eq, closureWith_eq]
  obtain ⟨T, hT, _⟩ := gloop_terminates none some (closureStep (ruleSet P))
    (fun todo _ => (todo.map (cost P)).sum) (fun _ _ => True) (fun nt todo tbl _ => by
      unfold closureStep
      rw [List.map_cons, List.sum_cons, cost_eq]
      split
      · exact ⟨_, _, rfl, by omega, trivial⟩
      · refine ⟨_, _, rfl, ?_, trivial⟩
        show (List.map (cost P) (todo ++ kidsR P nt)).sum < _
        rw [List.map_append, List.sum_append]
        omega) fuel todo tbl trivial h
  rw [hT]; rfl

theorem eq_some_getD {α : Type} (o : Option α) (d : α) (h : o.isSome = true) : o = some (o.getD d) := by
  cases o with
  | none => cases h
  | some x => rfl

theorem closureWith_isSome_stable {R : CNT → List Rule} {fuel : Nat} {todo : List CNT} {tbl : Table}
    (h : (closureWith R fuel todo tbl).isSome = true) : ∃ T, closureWith R fuel todo tbl = some T ∧
      ∀ fuel', fuel ≤ fuel' → closureWith R fuel' todo tbl = some T :=
  (Option.isSome_iff_exists.mp h).imp fun _ hc => ⟨hc, fun _ => closureWith_stable hc⟩

theorem buildWith_of_closure_none {R : CNT → List Rule} {s : CNT} {fuel : Nat}
    (h : closureWith R fuel [s] [] = none) : buildWith R s fuel = none := by
  unfold buildWith
  rw [h]

/-- the total form of a constructor ("returns a value whose members are exactly `spec`, or fails
    and `spec` is empty"), read term by term -/
theorem mem_iff_of_total {α β : Type} {o : Option α} {mem : α → β → Bool} {spec : β → Bool}
    (h : (∃ a, o = some a ∧ ∀ t, mem a t = spec t) ∨ (o = none ∧ ∀ t, spec t = false)) (t : β) :
    (∃ a, o = some a ∧ mem a t = true) ↔ spec t = true := by
  rcases h with ⟨a, rfl, hl⟩ | ⟨rfl, hl⟩
  · simp [hl]
  · simp [hl]

end PS.G
