/-
  C05: `__process__` by induction on the token.
  `attrs tok t` lists the components `__process__(·, tok)` puts on top of the state reached on
  `t` (newest first); unless `tok` is `_`, which adds none, its head is the bit "`t` matches `tok`"
  (`attrs_head`), and `processInner B tok` refines `B` by it.
-/
import PS.Proofs.ConstraintsRefine
import PS.Spec.Constraints
set_option linter.unusedSectionVars false
namespace PS.C05
open PS DFTA

variable {σ Q : Type} [DecidableEq σ] [DecidableEq Q]

theorem Tok.ind₂ {P : Tok σ → Prop} {R : List (Tok σ) → Prop} (any : P .any) (allow : ∀ S, P (.allow S))
    (forbidSub : ∀ S, P (.forbidSub S)) (forceSub : ∀ S, P (.forceSub S)) (atMost : ∀ S n, P (.atMost S n))
    (atLeast : ∀ S n, P (.atLeast S n)) (func : ∀ H args, R args → P (.func H args)) (nil : R [])
    (cons : ∀ a as, P a → R as → R (a :: as)) : (∀ tok, P tok) ∧ ∀ args, R args :=
  ⟨fun tok => Tok.rec (motive_1 := P) (motive_2 := R) any allow forbidSub forceSub atMost atLeast func nil cons tok,
   fun args => Tok.rec_1 (motive_1 := P) (motive_2 := R) any allow forbidSub forceSub atMost atLeast func nil cons args⟩

def countAttrs (S : List σ) (n : Nat) (most : Bool) (t : Tree σ) : List Nat :=
  let c := min (cnt S t) (cmaxi n most)
  [bit (if most then decide (c ≤ n) else decide (c = n)), c]

mutual
  def width : Tok σ → Nat
    | .any => 0
    | .allow _ => 1
    | .atMost _ _ => 2
    | .atLeast _ _ => 2
    | .forbidSub _ => 2
    | .forceSub _ => 2
    | .func _ args => 1 + (widthArgs args + 1)
  def widthArgs : List (Tok σ) → Nat
    | [] => 0
    | a :: as => widthArgs as + width a
end

mutual
  /-- For a function pattern `(H a₁ … a_k)` the layout is, newest first,
      `[match bit] ++ attrs a_k t ++ … ++ attrs a₁ t ++ [head bit]`.  The argument patterns are
      evaluated at the node `t` itself, not at its children: `__process__` runs each of them over
      the whole automaton, so every node carries the attributes of every argument pattern, and
      `matchBits` reads those of the i-th pattern on the i-th child. -/
  def attrs : Tok σ → Tree σ → List Nat
    | .any, _ => []
    | .allow S, t => [bit (decide (t.label ∈ S))]
    | .atMost S n, t => countAttrs S n true t
    | .atLeast S n, t => countAttrs S n false t
    | .forbidSub S, t => countAttrs S 0 true t
    | .forceSub S, t => countAttrs S 1 false t
    | .func H args, t =>
      bit (decide (t.label ∈ H) && matchBits args t.kids) :: (attrsArgs args t ++ [bit (decide (t.label ∈ H))])
  def attrsArgs : List (Tok σ) → Tree σ → List Nat
    | [], _ => []
    | a :: as, t => attrsArgs as t ++ attrs a t
  /-- argument patterns against children, positionally: a pattern that added components must
      have its newest component equal to 1 on the child -/
  def matchBits : List (Tok σ) → List (Tree σ) → Bool
    | [], _ => true
    | _ :: _, [] => true
    | a :: as, k :: ks => (decide (width a = 0) || ((attrs a k).head? == some 1)) && matchBits as ks
end

mutual
  theorem attrs_length : ∀ (tok : Tok σ) (t : Tree σ), (attrs tok t).length = width tok
    | .any, _ | .allow _, _ | .atMost _ _, _ | .atLeast _ _, _ | .forbidSub _, _ | .forceSub _, _ => rfl
    | .func _ args, t => by
      simp only [attrs, width, List.length_cons, List.length_append, List.length_nil, attrsArgs_length args t]
      omega
  theorem attrsArgs_length : ∀ (args : List (Tok σ)) (t : Tree σ), (attrsArgs args t).length = widthArgs args
    | [], _ => by simp [attrsArgs, widthArgs]
    | a :: as, t => by
      simp [attrsArgs, widthArgs, attrs_length a t, attrsArgs_length as t]
end

theorem width_eq_zero {tok : Tok σ} (h : width tok = 0) : tok = .any := by
  cases tok <;> simp [width] at h ⊢

theorem bit_eq_one (c : Bool) : (bit c = 1) ↔ c = true := by cases c <;> simp [bit]

/-- the test on the saturated count decides the bound on the count itself: saturation is at `n + 1`
    for "at most `n`", at `n` for "at least `n`" -/
theorem countAttrs_head (S : List σ) (n : Nat) (most : Bool) (t : Tree σ) :
    (countAttrs S n most t).head? =
      some (bit (if most then decide (cnt S t ≤ n) else decide (cnt S t ≥ n))) := by
  unfold countAttrs cmaxi
  cases most
  · exact congrArg (some ∘ bit) (decide_eq_decide.mpr (by simp only [Bool.false_eq_true, if_false]; omega))
  · exact congrArg (some ∘ bit) (decide_eq_decide.mpr (by simp only [if_true]; omega))

mutual
  theorem attrs_head : ∀ (tok : Tok σ) (t : Tree σ), width tok ≠ 0 →
      (attrs tok t).head? = some (bit (matchesTok tok t))
    | .any, _ => fun h => absurd rfl h
    | .allow _, _ => fun _ => rfl
    | .atMost S n, t => fun _ => countAttrs_head S n true t
    | .atLeast S n, t => fun _ => countAttrs_head S n false t
    | .forbidSub S, t => fun _ =>
      (countAttrs_head S 0 true t).trans (congrArg (some ∘ bit) (decide_eq_decide.mpr Nat.le_zero))
    | .forceSub S, t => fun _ => countAttrs_head S 1 false t
    | .func H args, t => fun _ => by
      rw [attrs, matchesTok, matchBits_eq args t.kids]; rfl
  theorem matchBits_eq : ∀ (args : List (Tok σ)) (ks : List (Tree σ)), matchBits args ks = matchesArgs args ks
    | [], _ => by simp [matchBits, matchesArgs]
    | _ :: _, [] => by simp [matchBits, matchesArgs]
    | a :: as, k :: ks => by
      simp only [matchBits, matchesArgs]
      rw [matchBits_eq as ks]
      congr 1
      by_cases hw : width a = 0
      · obtain rfl := width_eq_zero hw
        simp [width, matchesTok]
      · rw [attrs_head a k hw]
        simp only [hw, decide_false, Bool.false_or]
        cases matchesTok a k <;> simp [bit]
end

/-- all final states carry `L` components: `__tuple_len__` reads the number off the first one -/
def Uniform (B : DFTA σ (St Q)) (L : Nat) : Prop := ∀ q ∈ B.finals, q.2.length = L

theorem Refines.uniform {B A : DFTA σ (St Q)} {w L : Nat} {v : Tree σ → List Nat}
    (h : Refines B A w v) (hu : Uniform B L) : Uniform A (w + L) := by
  intro q hq
  obtain ⟨d, hd, cs, hl, e⟩ := h.finDown q hq
  subst e
  simp [extL, hl, hu d hd]

theorem tupleLen_of_uniform (B : DFTA σ (St Q)) (L : Nat) (hne : B.finals ≠ []) (hu : Uniform B L) :
    tupleLen B = some (1 + L) := by
  unfold tupleLen
  cases hf : B.finals with
  | nil => exact absurd hf hne
  | cons q qs =>
    simp only [List.head?_cons, Option.map_some, Option.some.injEq]
    rw [hu q (by rw [hf]; exact List.mem_cons_self)]

theorem tupleLen_some (B : DFTA σ (St Q)) (L l : Nat) (hu : Uniform B L) (h : tupleLen B = some l) :
    l = 1 + L ∧ B.finals ≠ [] := by
  have hne : B.finals ≠ [] := fun e => by rw [tupleLen, e] at h; cases h
  exact ⟨Option.some.inj (h.symm.trans (tupleLen_of_uniform B L hne hu)), hne⟩

theorem allow_refines (B : DFTA σ (St Q)) (hd : B.Det) (S : List σ) :
    Refines B (tag B (fun P _ _ => decide (P ∈ S))) 1 (fun t => [bit (decide (t.label ∈ S))]) := by
  apply (tag_refines B _ hd).congr
  rintro ⟨l, ks⟩ d hr
  obtain ⟨qs, _, _, h3⟩ := topVal_tag B _ hd hr
  rw [h3]; rfl

theorem min_add_min (c x m : Nat) : min (min c m + x) m = min (c + x) m := by
  rcases Nat.le_total c m with h | h
  · rw [Nat.min_eq_left h]
  · rw [Nat.min_eq_right h, Nat.min_eq_right (Nat.le_add_right m x), Nat.min_eq_right (Nat.le_trans h (Nat.le_add_right c x))]

theorem min_sum_min (cs : List Nat) (b m : Nat) :
    min ((cs.map (fun c => min c m)).sum + b) m = min (cs.sum + b) m := by
  induction cs generalizing b with
  | nil => rfl
  | cons c cs ih =>
    rw [List.map_cons, List.sum_cons, List.sum_cons, Nat.add_assoc, min_add_min, Nat.add_left_comm, ih,
      Nat.add_left_comm, Nat.add_assoc]

theorem cntList_eq_sum (S : List σ) (ks : List (Tree σ)) : cntList S ks = (ks.map (cnt S)).sum := by
  induction ks with
  | nil => simp [cntList]
  | cons k ks ih => simp [cntList, ih]

theorem topVal_count (B : DFTA σ (St Q)) (hd : B.Det) (n : Nat) (S : List σ) (most : Bool) :
    ∀ t d, DFTA.run B t = some d → topVal (count B n S most) t = min (cnt S t) (cmaxi n most) := by
  apply Tree.ind
  intro l ks ih d hr
  obtain ⟨ss, hss, -, -, hv⟩ := (count_law B n S most hd).root hr
  rw [hv]
  unfold countVal
  have hF := (runList_eq_some_iff _ ks ss).mp hss
  have hsim := (count_law B n S most hd).run
  have hmap : ss.map lastVal = (ks.map (cnt S)).map (fun c => min c (cmaxi n most)) := by
    clear hss hv hr
    induction hF with
    | nil => rfl
    | @cons k s ks' ss' h1 _ ihF =>
      simp only [List.map_cons, List.cons.injEq]
      refine ⟨?_, ihF (fun k' hk' => ih k' (List.mem_cons_of_mem _ hk'))⟩
      obtain ⟨dk, hbk, -⟩ := Option.map_eq_some_iff.mp ((hsim k).symm.trans h1)
      rw [← topVal_of_run h1]
      exact ih k List.mem_cons_self dk hbk
  rw [hmap, min_sum_min]
  simp only [cnt, cntList_eq_sum]
  congr 1
  omega

theorem count_refines_cnt (B : DFTA σ (St Q)) (hd : B.Det) (n : Nat) (S : List σ) (most : Bool) :
    Refines B (count B n S most) 1 (fun t => [min (cnt S t) (cmaxi n most)]) :=
  (count_refines B n S most hd).congr fun t d hr => by rw [topVal_count B hd n S most t d hr]

theorem processCount_refines (B : DFTA σ (St Q)) (hd : B.Det) (S : List σ) (n : Nat) (most : Bool) :
    Refines B (processCount B S n most) 2 (countAttrs S n most) := by
  unfold processCount
  have h1 := count_refines_cnt B hd n S most
  have h2 := tag_refines (count B n S most) (fun _ _ st =>
    match st.2[1]? with
    | some c => if most then decide (c ≤ n) else decide (c = n)
    | none => false) h1.det
  apply (h1.trans h2).congr
  intro t d hr
  have hrC : DFTA.run (count B n S most) t = some (extL d [min (cnt S t) (cmaxi n most)]) := by
    rw [h1.run, hr]; rfl
  cases t with
  | node l ks =>
    obtain ⟨qs, _, _, h3⟩ := topVal_tag (count B n S most) _ h1.det hrC
    simp only [List.cons_append, List.nil_append]
    rw [h3]
    unfold countAttrs tagBitOf
    simp only [aug, extL, List.cons_append, List.nil_append, List.getElem?_cons_succ, List.getElem?_cons_zero]

/-- the tuple lengths `__process__` appends to `lengths` after each argument pattern
    (dfta_constraints.py:229-233), `base` being the length before the first -/
def psums : Nat → List (Tok σ) → List Nat
  | _, [] => []
  | base, a :: as => (base + width a) :: psums (base + width a) as

/-- for each argument pattern, the distance of its newest component from the newest component of
    the last one: the `indices` handed to `__match__` (`indices_eq`) -/
def offs : List (Tok σ) → List Nat
  | [] => []
  | _ :: as => widthArgs as :: offs as

theorem psums_offs (args : List (Tok σ)) (base : Nat) :
    (psums base args).map (fun l => base + widthArgs args - l) = offs args := by
  induction args generalizing base with
  | nil => rfl
  | cons a as ih =>
    simp only [psums, offs, List.map_cons, widthArgs, List.cons.injEq]
    refine ⟨by omega, ?_⟩
    rw [← ih (base + width a)]
    apply List.map_congr_left
    intro l _
    omega

theorem getLastD_psums (args : List (Tok σ)) (base : Nat) (pre : List Nat) (h : pre.getLastD 0 = base) :
    (pre ++ psums base args).getLastD 0 = base + widthArgs args := by
  induction args generalizing base pre with
  | nil => simpa [psums, widthArgs] using h
  | cons a as ih =>
    have := ih (base + width a) (pre ++ [base + width a]) (by simp)
    simp only [psums, widthArgs]
    rw [show pre ++ (base + width a) :: psums (base + width a) as = (pre ++ [base + width a]) ++ psums (base + width a) as by simp]
    rw [this]; omega

/-- the part of `__match__` on the children, when their states carry the components of the argument
    patterns on top -/
theorem matchArgs_eq (args : List (Tok σ)) (ks : List (Tree σ)) (qs : List (St Q))
    (h : List.Forall₂ (fun k (q : St Q) => ∃ tl, q.2 = attrsArgs args k ++ tl) ks qs) :
    ((qs.map aug).zip ((offs args).zip (args.map (fun a => decide (width a > 0))))).all
      (fun x => !x.2.2 || (x.1.2[x.2.1 + 1]? == some 1)) = matchBits args ks := by
  induction args generalizing ks qs with
  | nil => simp [offs, matchBits]
  | cons a as ih =>
    cases h with
    | nil => simp [matchBits]
    | @cons k q ks' qs' h1 h2 =>
      simp only [offs, List.map_cons, List.zip_cons_cons, List.all_cons, matchBits]
      congr 1
      · obtain ⟨tl, e⟩ := h1
        simp only [aug, List.getElem?_cons_succ]
        rw [e]
        simp only [attrsArgs, List.append_assoc]
        rw [List.getElem?_append_right (by simp [attrsArgs_length])]
        simp only [attrsArgs_length, Nat.sub_self]
        by_cases hw : width a = 0
        · simp [hw]
        · rw [List.getElem?_append_left (by rw [attrs_length]; omega), ← List.head?_eq_getElem?]
          simp [hw, Nat.pos_of_ne_zero hw]
      · apply ih
        refine h2.imp ?_
        rintro k' q' ⟨tl, e⟩
        exact ⟨attrs a k' ++ tl, by rw [e]; simp [attrsArgs]⟩

theorem matchCheck_eq (H : List σ) (args : List (Tok σ)) (l : σ) (ks : List (Tree σ)) (qs : List (St Q)) (d : St Q)
    (h : List.Forall₂ (fun k (q : St Q) => ∃ tl, q.2 = attrsArgs args k ++ tl) ks qs) :
    matchCheck (widthArgs args) (offs args) (args.map (fun a => decide (width a > 0))) l (qs.map aug)
      (aug (extL d (attrsArgs args (.node l ks) ++ [bit (decide (l ∈ H))]))) = (decide (l ∈ H) && matchBits args ks) := by
  rw [matchCheck, matchArgs_eq args ks qs h]
  congr 1
  simp only [aug, extL, List.getElem?_cons_succ]
  rw [List.append_assoc, List.getElem?_append_right (by simp [attrsArgs_length])]
  simp only [attrsArgs_length, Nat.sub_self, List.cons_append, List.nil_append, List.getElem?_cons_zero]
  by_cases hm : l ∈ H <;> simp [bit, hm]

/-- the indices `__process__` hands to `__match__`: distances from the newest component -/
theorem indices_eq (args : List (Tok σ)) (base : Nat) (lengths : List Nat) (hl : lengths = [base] ++ psums base args) :
    lengths.map (fun l => lengths.getLastD 0 - l) = widthArgs args :: offs args := by
  have hlast : lengths.getLastD 0 = base + widthArgs args := by
    rw [hl]; exact getLastD_psums args _ _ rfl
  rw [hlast, hl]
  simp only [List.map_cons, List.singleton_append, List.cons.injEq]
  exact ⟨by omega, psums_offs args _⟩

theorem process_refines :
    (∀ (tok : Tok σ) (B A : DFTA σ (St Q)) (L : Nat), B.Det →
      Uniform B L → processInner B tok = some A → Refines B A (width tok) (attrs tok)) ∧
    ∀ (args : List (Tok σ)) (g : DFTA σ (St Q)) (L : Nat) (lengths : List Nat)
      (hasCheck : List Bool) (res : DFTA σ (St Q) × List Nat × List Bool), g.Det → Uniform g L →
      lengths.getLastD 0 = 1 + L → processArgs g args lengths hasCheck = some res →
      Refines g res.1 (widthArgs args) (attrsArgs args) ∧ res.2.1 = lengths ++ psums (1 + L) args ∧
        res.2.2 = hasCheck ++ args.map (fun a => decide (width a > 0)) := by
  apply Tok.ind₂
  case any => exact fun B _ _ hd _ h => Option.some.inj h ▸ Refines.refl B hd
  case allow => exact fun S B _ _ hd _ h => Option.some.inj h ▸ allow_refines B hd S
  case atMost => exact fun S n B _ _ hd _ h => Option.some.inj h ▸ processCount_refines B hd S n true
  case atLeast => exact fun S n B _ _ hd _ h => Option.some.inj h ▸ processCount_refines B hd S n false
  case forbidSub => exact fun S B _ _ hd _ h => Option.some.inj h ▸ processCount_refines B hd S 0 true
  case forceSub => exact fun S B _ _ hd _ h => Option.some.inj h ▸ processCount_refines B hd S 1 false
  case func =>
    intro H args ihargs B A L hd hu h
    simp only [processInner] at h
    have r0 := allow_refines B hd H
    have hu0 := r0.uniform hu
    split at h
    · cases h
    rename_i l0 htl
    obtain ⟨rfl, -⟩ := tupleLen_some _ _ _ hu0 htl
    split at h
    · cases h
    · rename_i g' lengths hasCheck hpa
      replace h := Option.some.inj h
      obtain ⟨r1, hl, hc⟩ := ihargs _ (1 + L) [1 + (1 + L)] [] (g', lengths, hasCheck)
        r0.det hu0 rfl hpa
      simp only [List.nil_append] at hl hc r1
      have r01 := r0.trans r1
      rw [indices_eq args _ lengths hl, hc, List.headD_cons, List.tail_cons] at h
      subst h
      apply (r01.trans (tag_refines g' _ r1.det)).congr
      rintro ⟨l, ks⟩ d hr
      have hrg : DFTA.run g' (.node l ks) = some (extL d (attrsArgs args (.node l ks) ++ [bit (decide (l ∈ H))])) := by
        rw [r01.run, hr]; rfl
      obtain ⟨qs, hqs, -, h3⟩ := topVal_tag g' _ r1.det hrg
      -- the children's states carry the components of the argument patterns
      have hks : List.Forall₂ (fun k (q : St Q) => ∃ tl, q.2 = attrsArgs args k ++ tl) ks qs :=
        ((runList_eq_some_iff g' ks qs).mp hqs).imp fun k q h1 => by
          obtain ⟨dk, -, rfl⟩ := Option.map_eq_some_iff.mp ((r01.run k).symm.trans h1)
          exact ⟨[bit (decide (k.label ∈ H))] ++ dk.2, by simp [extL]⟩
      rw [attrs, h3, tagBitOf, matchCheck_eq H args l ks qs d hks]
      rfl
  case nil =>
    intro g _ lengths hasCheck res hd _ _ h
    simp only [processArgs, Option.some.injEq] at h
    subst h
    exact ⟨Refines.refl g hd, by simp [psums], by simp⟩
  case cons =>
    intro a as iha ihas g L lengths hasCheck res hd hu hlast h
    simp only [processArgs] at h
    split at h
    · cases h
    rename_i g1 hp
    have r1 := iha g g1 L hd hu hp
    have hu1 := r1.uniform hu
    split at h
    · cases h
    · rename_i cur htl
      obtain ⟨rfl, -⟩ := tupleLen_some _ _ _ hu1 htl
      obtain ⟨r2, hl, hc⟩ := ihas g1 (width a + L) _ _ res r1.det hu1 (by simp) h
      refine ⟨r1.trans r2, ?_, ?_⟩
      · rw [hl]
        simp only [psums, List.append_assoc, List.singleton_append]
        rw [show 1 + L + width a = 1 + (width a + L) by omega]
      · rw [hc, hlast]
        simp only [List.map_cons, List.append_assoc, List.singleton_append, List.append_cancel_left_eq,
          List.cons.injEq, and_true]
        have : 1 + (width a + L) - (1 + L) = width a := by omega
        rw [this]

theorem processInner_refines (tok : Tok σ) (B A : DFTA σ (St Q)) (L : Nat) : B.Det →
    Uniform B L → processInner B tok = some A → Refines B A (width tok) (attrs tok) :=
  process_refines.1 tok B A L

theorem processArgs_refines : ∀ (args : List (Tok σ)) (g : DFTA σ (St Q)) (L : Nat) (lengths : List Nat)
    (hasCheck : List Bool) (res : DFTA σ (St Q) × List Nat × List Bool), g.Det → Uniform g L →
    lengths.getLastD 0 = 1 + L → processArgs g args lengths hasCheck = some res →
    Refines g res.1 (widthArgs args) (attrsArgs args) ∧ res.2.1 = lengths ++ psums (1 + L) args ∧
      res.2.2 = hasCheck ++ args.map (fun a => decide (width a > 0)) :=
  process_refines.2


end PS.C05
