/- C08, fragment grammar: the fragment is normalised (every row of its weight table and its start weights sum
   to 1): every row under construction has positive weights and at least one (`GoodRow`), so its sum is not 0. -/
import PS.Proofs.SplitterProb
import PS.Proofs.SplitterTotal
namespace PS.Sp
open PS PS.G

variable {U : Type} [DecidableEq U]

def GoodRow {κ : Type} (row : AList Sym (AList (List κ) Rat)) : Prop :=
  (∀ r ∈ row, ∀ vp ∈ r.2, 0 < vp.2) ∧ ∃ r ∈ row, r.2 ≠ []

/-- every row of the weight table of the original grammar has positive weights and is not empty -/
def posRows (pg : PUG U) : Bool :=
  pg.tags.all (fun e => e.2.all (fun r => r.2.all (fun vp => decide (0 < vp.2))) && e.2.any (fun r => !r.2.isEmpty))

/-- every start symbol and every non-terminal of a right-hand side has a row of weights -/
def closedG (pg : PUG U) : Bool := (pg.g.starts ++ allRhs pg).all (fun S => AList.contains S pg.tags)

theorem goodRow_pos {κ : Type} {row : AList Sym (AList (List κ) Rat)} (h : GoodRow row) : 0 < rowSum row := by
  obtain ⟨h1, r0, hr0, hne⟩ := h
  refine sum_pos _ (fun x hx => ?_) ((r0.2.map (·.2)).sum) (List.mem_map.mpr ⟨r0, hr0, rfl⟩) ?_
  · obtain ⟨r, hr, rfl⟩ := List.mem_map.mp hx
    exact sum_nonneg _ (fun y hy => by obtain ⟨vp, hvp, rfl⟩ := List.mem_map.mp hy; exact Rat.le_of_lt (h1 r hr vp hvp))
  · obtain ⟨vp, hvp⟩ := List.exists_mem_of_ne_nil _ hne
    exact sum_pos_of_mem (fun vp : List κ × Rat => vp.2) _ (h1 r0 hr0) vp hvp

theorem rowSum_div {κ : Type} (row : AList Sym (AList (List κ) Rat)) (s : Rat) :
    rowSum (row.map (fun r => (r.1, r.2.map (fun vp => (vp.1, vp.2 / s))))) = rowSum row / s := by
  unfold rowSum
  rw [← sum_map_div, List.map_map]
  exact congrArg List.sum (List.map_congr_left (fun r _ => by
    show ((r.2.map _).map _).sum = _
    rw [List.map_map]
    exact sum_map_div r.2 (·.2) s))

theorem rowSum_normRow {κ : Type} (row : AList Sym (AList (List κ) Rat)) :
    rowSum (normRow row) = rowSum row / rowSum row := rowSum_div row (rowSum row)

theorem forall_insert {κ ν : Type} [DecidableEq κ] {p : ν → Prop} {k : κ} {v : ν} {d : AList κ ν} (hv : p v)
    (hd : ∀ e ∈ d, p e.2) : ∀ e ∈ AList.insert k v d, p e.2 :=
  fun e he => (AList.mem_insert he).elim (fun h => h ▸ hv) (hd e)

theorem forall_getD_lookup {κ α : Type} [DecidableEq κ] {p : α → Prop} {k : κ} {d : AList κ (List α)}
    (hd : ∀ e ∈ d, ∀ x ∈ e.2, p x) : ∀ x ∈ (AList.lookup k d).getD [], p x := by
  cases hl : AList.lookup k d with
  | none => exact fun _ hx => absurd hx List.not_mem_nil
  | some v => exact hd (k, v) (AList.lookup_some_mem hl)

theorem goodRow_stepP {κ : Type} [DecidableEq κ] {old : AList Sym (AList (List κ) Rat)} (P : Sym) (m : List κ) {w : Rat}
    (h : ∀ r ∈ old, ∀ vp ∈ r.2, 0 < vp.2) (hw : 0 < w) : GoodRow (stepP old P m w) :=
  ⟨forall_insert (p := fun dv : AList (List κ) Rat => ∀ vp ∈ dv, 0 < vp.2)
      (forall_insert (p := fun x : Rat => 0 < x) hw (forall_getD_lookup h)) h,
    _, AList.lookup_some_mem (AList.lookup_insert_self P _ old), AList.insert_ne_nil m w _⟩

theorem goodRow_copyP {pg : PUG U} (hp : posRows pg = true) {S : UNT U} (hc : AList.contains S pg.tags = true) :
    GoodRow (copyP pg S) := by
  obtain ⟨row, hl⟩ := AList.contains_iff_lookup.mp hc
  have hm := AList.lookup_some_mem hl
  simp only [posRows, List.all_eq_true, Bool.and_eq_true, List.any_eq_true, decide_eq_true_eq,
    Bool.not_eq_true', List.isEmpty_eq_false_iff] at hp
  obtain ⟨h1, r0, hr0, hne⟩ := hp (S, row) hm
  simp only [copyP, hl, Option.getD_some]
  constructor
  · intro r hr vp hvp
    obtain ⟨r', hr', rfl⟩ := List.mem_map.mp hr
    obtain ⟨vp', hvp', rfl⟩ := List.mem_map.mp hvp
    exact h1 r' hr' vp' hvp'
  · refine ⟨_, List.mem_map.mpr ⟨r0, hr0, rfl⟩, ?_⟩
    simpa using hne

def RowsGood (st : FragSt U) : Prop := ∀ e ∈ st.probs, GoodRow e.2

theorem rowsGood_addRule {st : FragSt U} (h : RowsGood st) (X : UNT (U × Nat)) (P : Sym) (m : List (UNT (U × Nat)))
    {w : Rat} (hw : 0 < w) : RowsGood (addRule st X P m w) :=
  forall_insert (p := GoodRow) (goodRow_stepP P m (forall_getD_lookup fun e he => (h e he).1) hw) h

theorem rowsGood_addSteps {nprob : Rat} (hn : 0 < nprob) : ∀ (l : List (Step (U × Nat))) (i : Nat) (st : FragSt U),
    RowsGood st → RowsGood (addSteps nprob i st l)
  | [], _, _, h => h
  | s :: t, i, st, h => by
    simp only [addSteps]
    apply rowsGood_addSteps hn t
    apply rowsGood_addRule h
    split
    · exact hn
    · decide

theorem rowsGood_copyRules {pg : PUG U} (hp : posRows pg = true) {st : FragSt U} (h : RowsGood st) {S : UNT U}
    (hc : AList.contains S pg.tags = true) (X : UNT (U × Nat)) : RowsGood (copyRules pg st S X) :=
  forall_insert (p := GoodRow) (goodRow_copyP hp hc) h

def FillOK (pg : PUG U) (st : FragSt U) : Prop := RowsGood st ∧ ∀ S ∈ st.toFill, AList.contains S pg.tags = true

theorem closedG_rhs {pg : PUG U} (hc : closedG pg = true) (S : UNT U) :
    ∀ S' ∈ rhsSyms pg S, AList.contains S' pg.tags = true := by
  intro S' hS'
  simp only [closedG, List.all_eq_true] at hc
  exact hc S' (List.mem_append.mpr (Or.inr ((rhsSyms_sub pg S).subset hS')))

theorem fillOK_copyRules {pg : PUG U} (hp : posRows pg = true) (hcl : closedG pg = true) {st : FragSt U}
    (h : FillOK pg st) {S : UNT U} (hc : AList.contains S pg.tags = true) (X : UNT (U × Nat)) :
    FillOK pg (copyRules pg st S X) := by
  refine ⟨rowsGood_copyRules hp h.1 hc X, ?_⟩
  intro S' hS'
  rw [copyRules_eq] at hS'
  rcases List.mem_append.mp hS' with hS' | hS'
  · exact h.2 S' hS'
  · exact closedG_rhs hcl S S' hS'

theorem fillOK_copyAll {pg : PUG U} (hp : posRows pg = true) (hcl : closedG pg = true) :
    ∀ (p : List (UNT U × UNT (U × Nat))) (st : FragSt U), FillOK pg st →
      (∀ e ∈ p, AList.contains e.1 pg.tags = true) → FillOK pg (copyAll pg st p)
  | [], _, h, _ => h
  | e :: p, st, h, hc => by
    simp only [copyAll, List.foldl_cons]
    exact fillOK_copyAll hp hcl p _ (fillOK_copyRules hp hcl h (hc e (by simp)) e.2)
      (fun e' he' => hc e' (List.mem_cons_of_mem _ he'))

theorem run_members {pg : PUG U} (w : List (Step U)) (c c' : List (UNT U)) (h : run pg.g c w = some c') :
    ∀ S ∈ c', S ∈ c ∨ S ∈ allRhs pg := by
  fun_induction run pg.g c w with
  | case1 c => cases h; exact fun S hS => Or.inl hS
  | case2 | case4 => cases h
  | case3 S0 rest st w hc ih =>
    intro S hS
    rcases ih h S hS with h1 | h1
    · rcases List.mem_append.mp h1 with h1 | h1
      · exact Or.inr ((rhsSyms_sub pg S0).subset (mem_rhsSyms hc.2 S h1))
      · exact Or.inl (List.mem_cons_of_mem _ h1)
    · exact Or.inr h1

theorem fillOK_addNode {pg : PUG U} (hp : posRows pg = true) (hcl : closedG pg = true) {st st' : FragSt U}
    {n : Node U} (h : FillOK pg st) (hv : Valid pg.g n) (hpos : 0 < n.prob) (ha : addNode pg st n = some st') :
    FillOK pg st' := by
  rw [addNode_eq] at ha
  cases hr : renPath (st2Of st n).counter [(n.start, spOf st n)] n.steps with
  | none => rw [hr] at ha; cases ha
  | some r =>
    rw [hr] at ha
    simp only [Option.map_some, Option.some.injEq] at ha
    subst ha
    have hsrc := renPath_srcs pg.g n.steps _ [(n.start, spOf st n)] r n.config hr (by simpa [srcs] using hv.2.2.2.1)
    apply fillOK_copyAll hp hcl
    · have h2 : FillOK pg (st2Of st n) := by
        unfold st2Of
        cases AList.lookup n.start st.newStarts <;> exact h
      obtain ⟨f1, f2, f3, f4, f5⟩ := addSteps_frame n.prob r.2.1 0 (st2Of st n)
      refine ⟨rowsGood_addSteps hpos r.2.1 0 _ h2.1, ?_⟩
      intro S hS
      simp only at hS
      rw [f5] at hS
      exact h2.2 S hS
    · intro e he
      have : e.1 ∈ n.config := by rw [← hsrc]; exact List.mem_map.mpr ⟨e, he, rfl⟩
      simp only [closedG, List.all_eq_true] at hcl
      rcases run_members n.steps [n.start] n.config hv.2.2.2.1 e.1 this with h1 | h1
      · simp only [List.mem_singleton] at h1
        rw [h1]
        exact hcl _ (List.mem_append.mpr (Or.inl hv.1))
      · exact hcl _ (List.mem_append.mpr (Or.inr h1))

theorem fillOK_go {pg : PUG U} (hp : posRows pg = true) (hcl : closedG pg = true) {group : List (Node U)}
    {st' : FragSt U} (hv : ∀ n ∈ group, Valid pg.g n ∧ 0 < n.prob)
    (hg : pcfgFrom.go pg ⟨0, [], [], [], [], []⟩ group = some st') : FillOK pg st' :=
  go_ind (I := fun st done => (∀ n ∈ done, Valid pg.g n ∧ 0 < n.prob) → FillOK pg st)
    (fun ih ha hv =>
      have hn := hv _ (List.mem_append_right _ (List.mem_singleton.mpr rfl))
      fillOK_addNode hp hcl (ih fun m hm => hv m (List.mem_append_left _ hm)) hn.1 hn.2 ha)
    group (done := []) (fun _ => ⟨fun _ he => absurd he List.not_mem_nil, fun _ hS => absurd hS List.not_mem_nil⟩) hg hv

theorem fillOK_fillLoop {pg : PUG U} (hp : posRows pg = true) (hcl : closedG pg = true) :
    ∀ (fuel : Nat) (st : FragSt U), FillOK pg st → FillOK pg (fillLoop pg fuel st) :=
  fillLoop_inv pg (FillOK pg)
    (fun _ _ _ h htf _ => ⟨h.1, fun S' hS' => h.2 S' (by rw [htf]; exact List.mem_append.mpr (Or.inl hS'))⟩)
    (fun st S rest h htf _ => fillOK_copyRules hp hcl (st := { st with toFill := rest })
      ⟨h.1, fun S' hS' => h.2 S' (by rw [htf]; exact List.mem_append.mpr (Or.inl hS'))⟩
      (h.2 S (by rw [htf]; exact List.mem_append_cons_self)) (free S))

theorem frag_tagsNorm {pg : PUG U} (hp : posRows pg = true) (hcl : closedG pg = true) {group : List (Node U)}
    (hv : ∀ n ∈ group, Valid pg.g n ∧ 0 < n.prob) {fuel : Nat} {st : FragSt U}
    (h : fragState pg group fuel = some st) : tagsNorm (fragOf pg st) = true := by
  obtain ⟨stG, hg, rfl⟩ := Option.map_eq_some_iff.mp h
  have hgood := (fillOK_fillLoop hp hcl fuel stG (fillOK_go hp hcl hv hg)).1
  simp only [tagsNorm, List.all_eq_true, beq_iff_eq]
  intro e he
  obtain ⟨e0, he0, rfl⟩ := List.mem_map.mp (show e ∈ (fillLoop pg fuel stG).probs.map (fun e => (e.1, normRow e.2)) from he)
  simp only
  rw [rowSum_normRow]
  exact rat_div_self _ (Rat.ne_of_gt (goodRow_pos (hgood e0 he0)))

omit [DecidableEq U] in
theorem frag_starts_sum (pg : PUG U) (st : FragSt U) (h : (st.startProbs.map (·.2)).sum ≠ 0) :
    ((fragOf pg st).startTags.map (·.2)).sum = 1 := by
  have : (fragOf pg st).startTags = st.startProbs.map (fun e => (e.1, e.2 / (st.startProbs.map (·.2)).sum)) := rfl
  rw [this, List.map_map]
  exact (sum_map_div st.startProbs (·.2) _).trans (rat_div_self _ h)

theorem frag_starts_norm {pg : PUG U} {group : List (Node U)} {st : FragSt U} {L : List (Lay U)}
    (hf : Facts pg group (fragOf pg st).g st.probs L) (hw : Weights st L) (hne : group ≠ [])
    (hpos : ∀ n ∈ group, 0 < n.prob) : ((fragOf pg st).startTags.map (·.2)).sum = 1 := by
  apply frag_starts_sum
  rw [hw.startMass hf]
  obtain ⟨n, hn⟩ := List.exists_mem_of_ne_nil group hne
  exact fun h0 => absurd (h0 ▸ sum_pos_of_mem Node.prob group hpos n hn) (by decide)

end PS.Sp
