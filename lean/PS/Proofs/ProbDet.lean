/-
  Property C04, deterministic part: `ProbDetGrammar.probability` against the specification
  `prob`, `normalise`, `uniform`, `pcfg_from_samples`.

  `probability` folds over the derivation that `reduce_derivations` walks with a pending stack: that fold is the fold
  over the stack-free `derivation` (`reduceRec_aux`), whose entries are rules of the table, so the product of tags is
  `prob`.  `normalise` and `uniform` rewrite the table entry by entry (`tagOf_map₂`).  For `pcfg_from_samples`,
  counting never changes the keys of the two-level dict of counts (`shape`): the row that `probsOfCounts` reads back
  has the symbols of the grammar's row and `totalOf` is its plain sum, so every row of the result sums to 1.
-/
import PS.Model.Prob
import PS.Proofs.Grammar
import PS.Proofs.AList
import PS.Proofs.ListSum
namespace PS.G
open PS

variable {S : Type} [DecidableEq S]

/-- one step of the fold of `reduce_derivations` over a derivation -/
def stepDer {α : Type} (G : TT S Unit) (f : α → NT S Unit → Sym → (List (Ty × S) × Unit) → α)
    (a : α) (x : NT S Unit × Sym) : α :=
  match G.rule? x.1 x.2 with
  | some r => f a x.1 x.2 r
  | none => a

theorem genList_length (G : TT S Unit) (ks : List Prog) (args : List (Ty × S))
    (h : genList G ks args = true) : ks.length = args.length := ((genList_iff G ks args).mp h).1

theorem gen_node {G : TT S Unit} {f : Sym} {ks : List Prog} {nt : NT S Unit}
    (h : gen G (.node f ks) nt = true) :
    ∃ args u, G.rule? nt f = some (args, u) ∧ genList G ks args = true :=
  have ⟨rl, hr, hg⟩ := gen_node_iff.mp h
  ⟨rl.1, rl.2, hr, hg⟩

theorem genList_nil {G : TT S Unit} {args : List (Ty × S)} (h : genList G [] args = true) :
    args = [] := by
  cases args with
  | nil => rfl
  | cons _ _ => simp [genList] at h

theorem genList_cons {G : TT S Unit} {k : Prog} {ks : List Prog} {args : List (Ty × S)}
    (h : genList G (k :: ks) args = true) :
    ∃ t s as, args = (t, s) :: as ∧ gen G k (t, (s, ())) = true ∧ genList G ks as = true := by
  cases args with
  | nil => simp [genList] at h
  | cons a as =>
    rw [genList, Bool.and_eq_true] at h
    exact ⟨a.1, a.2, as, rfl, h⟩

omit [DecidableEq S] in
theorem deriveWith_nil {T : Type} (info : List (Ty × S)) (nt : NT S T) (st : T) :
    (deriveWith info nt [] st).1 = info.tail ∧
      ∀ b rest, info = b :: rest → (deriveWith info nt [] st).2 = (b.1, (b.2, st)) := by
  cases info with
  | nil => exact ⟨rfl, fun _ _ e => by cases e⟩
  | cons c cs => exact ⟨rfl, fun _ _ e => by cases e; rfl⟩

/-- The fold of `reduce_derivations` is the fold over the derivation; the pending stack loses its
    top, which is the next non-terminal (when there is one). -/
theorem reduceRec_aux {α : Type} (G : TT S Unit)
    (f : α → NT S Unit → Sym → (List (Ty × S) × Unit) → α) :
    (∀ (t : Prog) (nt : NT S Unit) (info : List (Ty × S)) (v : α), gen G t nt = true →
      ∃ i n, reduceRec G f v t nt info
          = some ((derivation G t nt).foldl (stepDer G f) v, i, n) ∧
        i = info.tail ∧ ∀ b rest, info = b :: rest → n = (b.1, (b.2, ()))) ∧
    ∀ (ks : List Prog) (a : Ty × S) (as : List (Ty × S)) (info : List (Ty × S)) (v : α),
      genList G ks (a :: as) = true →
      ∃ i n, reduceList G f v ks (as ++ info) (a.1, (a.2, ()))
          = some ((derivationList G ks (a :: as)).foldl (stepDer G f) v, i, n) ∧
        i = info.tail ∧ ∀ b rest, info = b :: rest → n = (b.1, (b.2, ())) := by
  refine Tree.ind₂ (fun h kids ih nt info v hg => ?_) (fun _ _ _ _ hg => by cases hg)
    (fun k ks ih1 ih2 a as info v hg => ?_)
  · obtain ⟨args, st, hr, hg⟩ := gen_node hg
    rw [reduceRec, derivation, hr]
    simp only [List.foldl_cons, stepDer, hr]
    cases args with
    | nil =>
      cases kids with
      | cons _ _ => cases hg
      | nil => exact ⟨_, _, rfl, deriveWith_nil info nt st⟩
    | cons a as => exact ih a as info _ hg
  · rw [genList, Bool.and_eq_true] at hg
    obtain ⟨i, n, h1, h2, h3⟩ := ih1 (a.1, (a.2, ())) (as ++ info) v hg.1
    rw [reduceList, derivationList, h1, List.foldl_append]
    cases as with
    | nil =>
      cases ks with
      | cons _ _ => cases hg.2
      | nil => exact ⟨i, n, rfl, h2, h3⟩
    | cons a' as' =>
      -- the child has consumed the top of `a' :: as' ++ info`
      rw [h2, h3 a' (as' ++ info) rfl]
      exact ih2 a' as' info _ hg.2

theorem reduceList_aux {α : Type} (G : TT S Unit)
      (f : α → NT S Unit → Sym → (List (Ty × S) × Unit) → α) :
      ∀ (ks : List Prog) (a : Ty × S) (as : List (Ty × S)) (info : List (Ty × S)) (v : α),
        genList G ks (a :: as) = true →
        ∃ i n, reduceList G f v ks (as ++ info) (a.1, (a.2, ()))
            = some ((derivationList G ks (a :: as)).foldl (stepDer G f) v, i, n) ∧
          i = info.tail ∧ ∀ b rest, info = b :: rest → n = (b.1, (b.2, ())) :=
  (reduceRec_aux G f).2

theorem reduceRec_derivation {α : Type} (G : TT S Unit)
    (f : α → NT S Unit → Sym → (List (Ty × S) × Unit) → α) (t : Prog) (nt : NT S Unit)
    (info : List (Ty × S)) (v : α) (h : gen G t nt = true) :
    (reduceRec G f v t nt info).map (·.1) = some ((derivation G t nt).foldl (stepDer G f) v) := by
  obtain ⟨i, n, h1, _, _⟩ := (reduceRec_aux G f).1 t nt info v h
  rw [h1]; rfl

theorem reduceDerivations_derivation {α : Type} (G : TT S Unit)
    (f : α → NT S Unit → Sym → (List (Ty × S) × Unit) → α) (t : Prog) (v : α)
    (h : gen G t G.start = true) :
    reduceDerivations G f v t = some ((derivation G t G.start).foldl (stepDer G f) v) :=
  reduceRec_derivation G f t G.start [] v h

theorem derivation_rule_both (G : TT S Unit) :
    (∀ (t : Prog) (nt : NT S Unit), ∀ x ∈ derivation G t nt, (G.rule? x.1 x.2).isSome = true) ∧
    ∀ (ks : List Prog) (as : List (Ty × S)), ∀ x ∈ derivationList G ks as,
      (G.rule? x.1 x.2).isSome = true := by
  refine Tree.ind₂ (fun f kids ih nt x hx => ?_) (fun _ => by simp [derivationList])
    (fun k ks ih1 ih2 as x hx => ?_)
  · rw [derivation] at hx
    cases hr : G.rule? nt f with
    | none => simp [hr] at hx
    | some r =>
      rw [hr, List.mem_cons] at hx
      rcases hx with hx | hx
      · rw [hx]; simp [hr]
      · exact ih r.1 x hx
  · cases as with
    | nil => simp [derivationList] at hx
    | cons a as =>
      rw [derivationList, List.mem_append] at hx
      exact hx.elim (ih1 _ x) (ih2 as x)

theorem derivation_rule (G : TT S Unit) :
    ∀ (t : Prog) (nt : NT S Unit), ∀ x ∈ derivation G t nt, (G.rule? x.1 x.2).isSome = true :=
  (derivation_rule_both G).1

theorem derivationList_rule (G : TT S Unit) :
      ∀ (ks : List Prog) (as : List (Ty × S)), ∀ x ∈ derivationList G ks as,
        (G.rule? x.1 x.2).isSome = true :=
  (derivation_rule_both G).2

/-- an absent weight (`KeyError`) makes the fold `none`, and the product 0 -/
theorem foldl_stepDer_mulTag (G : TT S Unit) (tags : Tags S Unit) (d : List (NT S Unit × Sym))
    (hd : ∀ x ∈ d, (G.rule? x.1 x.2).isSome = true) (c : Rat) :
    (d.foldl (stepDer G (mulTag tags)) (some c)).getD 0 = c * derWeight tags d := by
  -- on rules of the grammar the reducer is `optMul` with the tag of the rule
  have : ∀ acc, d.foldl (stepDer G (mulTag tags)) acc = d.foldl (fun acc x => optMul acc (tagOf tags x.1 x.2)) acc := by
    induction d with
    | nil => exact fun _ => rfl
    | cons x d ih =>
      intro acc
      obtain ⟨r, hr⟩ := Option.isSome_iff_exists.mp (hd x List.mem_cons_self)
      rw [List.foldl_cons, List.foldl_cons, ih fun y hy => hd y (List.mem_cons_of_mem _ hy), stepDer, hr]
      cases acc <;> rfl
  obtain ⟨h1, h2⟩ := foldl_optMul (fun x : NT S Unit × Sym => tagOf tags x.1 x.2) d c
  rw [this]
  cases h : d.foldl (fun acc x => optMul acc (tagOf tags x.1 x.2)) (some c) with
  | none => exact ((congrArg (c * ·) (h2 h)).trans (Rat.mul_zero c)).symm
  | some v => exact h1 v h

/-- the tags may be incomplete or unnormalised -/
theorem probabilityDetFrom_eq_prob (G : TT S Unit) (tags : Tags S Unit) (t : Prog)
    (nt : NT S Unit) : probabilityDetFrom G tags t nt = prob G tags t nt := by
  unfold probabilityDetFrom prob
  rw [(containsRec_gen G t nt []).1]
  cases hg : gen G t nt with
  | false => simp
  | true =>
    obtain ⟨i, n, h1, _, _⟩ := (reduceRec_aux G (mulTag tags)).1 t nt [] (some 1) hg
    have h2 := foldl_stepDer_mulTag G tags (derivation G t nt) (derivation_rule G t nt) 1
    rw [Rat.one_mul] at h2
    rw [h1]
    simp only [Bool.not_true, Bool.false_eq_true, if_false, if_true]
    rw [← h2]
    cases (derivation G t nt).foldl (stepDer G (mulTag tags)) (some 1) <;> rfl

theorem probabilityDet_eq_prob (G : TT S Unit) (tags : Tags S Unit) (t : Prog) :
    probabilityDet G tags t = prob G tags t G.start :=
  probabilityDetFrom_eq_prob G tags t G.start

theorem mass_eq_sum_probabilityDet (G : TT S Unit) (tags : Tags S Unit) (k : Nat) :
    mass G tags k G.start = ((lang G k G.start).map fun t => probabilityDet G tags t).sum := by
  simp only [mass, probabilityDet_eq_prob]

theorem probabilityDet_outside {T : Type} [DecidableEq T] (G : TT S T) (tags : Tags S T)
    (t : Prog) (h : contains G t = false) : probabilityDet G tags t = 0 := by
  unfold contains at h
  simp [probabilityDet, probabilityDetFrom, h]

/-- `tags[nt][P]` -/
theorem tagOf_eq_lookup₂ {T : Type} [DecidableEq T] (t : Tags S T) (nt : NT S T) (P : Sym) :
    tagOf t nt P = AList.lookup₂ t nt P := by
  unfold tagOf AList.lookup₂
  cases AList.lookup nt t <;> rfl

theorem tagOf_eq_bind {T : Type} [DecidableEq T] (t : Tags S T) (nt : NT S T) (P : Sym) :
    tagOf t nt P = (AList.lookup nt t).bind (AList.lookup P) :=
  tagOf_eq_lookup₂ t nt P

/-- the tag of a table rewritten entry by entry: `normalise`, `uniform`, sums and multiples of tables
    all have this shape -/
theorem tagOf_map₂ {T β : Type} [DecidableEq T] (d : AList (NT S T) (AList Sym β))
    (f : NT S T → AList Sym β → Sym → β → Rat) (nt : NT S T) (P : Sym) :
    tagOf (d.map fun e => (e.1, e.2.map fun r => (r.1, f e.1 e.2 r.1 r.2))) nt P =
      (AList.lookup nt d).bind fun row => (AList.lookup P row).map (f nt row P) := by
  rw [tagOf_eq_lookup₂, AList.lookup₂_map_val₂]

theorem rowSum_normaliseRow_eq (d : AList Sym Rat) :
    rowSum (normaliseRow d) = rowSum d / rowSum d := by
  have := sum_map_div d (fun e => e.2) (rowSum d)
  simpa [rowSum, normaliseRow, List.map_map, Function.comp_def] using this

theorem rowSum_normaliseRow (d : AList Sym Rat) (h : rowSum d ≠ 0) :
    rowSum (normaliseRow d) = 1 := by
  rw [rowSum_normaliseRow_eq, rat_div_self _ h]

theorem keys_normaliseRow (d : AList Sym Rat) : AList.keys (normaliseRow d) = AList.keys d :=
  AList.keys_map_val (fun _ w => w / rowSum d) d

omit [DecidableEq S] in
theorem normalise_rows {T : Type} (tags : Tags S T) :
    ∀ e ∈ normalise tags, ∃ e' ∈ tags, e.1 = e'.1 ∧ e.2 = normaliseRow e'.2 := by
  intro e he
  obtain ⟨e', he', rfl⟩ := List.mem_map.mp he
  exact ⟨e', he', rfl, rfl⟩

omit [DecidableEq S] in
theorem keys_normalise {T : Type} (tags : Tags S T) :
    AList.keys (normalise tags) = AList.keys tags :=
  AList.keys_map_val (fun _ row => normaliseRow row) tags

theorem tagOf_normalise {T : Type} [DecidableEq T] (t : Tags S T) (nt : NT S T) (P : Sym) :
    tagOf (normalise t) nt P = (AList.lookup nt t).bind fun row => (AList.lookup P row).map (· / rowSum row) :=
  tagOf_map₂ t (fun _ row _ w => w / rowSum row) nt P

omit [DecidableEq S] in
theorem rowSum_uniform {T : Type} [DecidableEq T] (G : TT S T) :
    ∀ e ∈ uniform G, e.2 ≠ [] → rowSum e.2 = 1 := by
  intro e he hne
  obtain ⟨e', he', rfl⟩ := List.mem_map.mp he
  simp only [ne_eq, List.map_eq_nil_iff] at hne
  simp only [rowSum, List.map_map, Function.comp_def]
  rw [sum_map_const]
  exact natCast_mul_one_div _ (fun h => hne (List.length_eq_zero_iff.mp h))

omit [DecidableEq S] in
theorem keys_uniform {T : Type} [DecidableEq T] (G : TT S T) :
    AList.keys (uniform G) = AList.keys G.rules := by
  simp [AList.keys, uniform, List.map_map, Function.comp_def]

theorem weight_uniform_row (G : TT S Unit) (nt : NT S Unit) (rs : AList Sym (List (Ty × S) × Unit)) (P : Sym)
    (h : AList.lookup nt G.rules = some rs) (hp : (AList.lookup P rs).isSome = true) :
    weight (uniform G) nt P = 1 / (rs.length : Rat) := by
  obtain ⟨r, hr⟩ := Option.isSome_iff_exists.mp hp
  rw [weight, uniform, tagOf_map₂ G.rules (fun _ rs _ _ => 1 / (rs.length : Rat)), h]
  simp [hr]

theorem weight_uniform (G : TT S Unit) (hk : (AList.keys G.rules).Nodup)
    (e : NT S Unit × AList Sym (List (Ty × S) × Unit)) (he : e ∈ G.rules)
    (hn : (AList.keys e.2).Nodup) (r : Sym × (List (Ty × S) × Unit)) (hr : r ∈ e.2) :
    weight (uniform G) e.1 r.1 = 1 / (e.2.length : Rat) :=
  weight_uniform_row G e.1 e.2 r.1 (AList.lookup_of_mem_nodup hk he)
    (by rw [AList.lookup_of_mem_nodup hn hr]; rfl)

theorem uniform_normalised (G : TT S Unit) (hk : (AList.keys G.rules).Nodup)
    (hr : ∀ e ∈ G.rules, e.2 ≠ [] ∧ (AList.keys e.2).Nodup) : Normalised G (uniform G) := by
  intro e he
  obtain ⟨hne, hnd⟩ := hr e he
  refine ⟨?_, hnd⟩
  have : e.2.map (fun r => weight (uniform G) e.1 r.1)
      = e.2.map (fun _ => 1 / (e.2.length : Rat)) :=
    List.map_congr_left (fun r hr' => weight_uniform G hk e he hnd r hr')
  rw [this, sum_map_const]
  exact natCast_mul_one_div _ (fun h => hne (List.length_eq_zero_iff.mp h))

/-- the shape of a two-level dict: the keys and, for each, the keys of its row, in order -/
def shape {κ ν : Type} (c : AList κ (AList Sym ν)) : List (κ × List Sym) :=
  c.map (fun e => (e.1, AList.keys e.2))

theorem shape_insert {κ ν : Type} [DecidableEq κ] {k : κ} {row : AList Sym ν} (row' : AList Sym ν)
    {c : AList κ (AList Sym ν)} (h : AList.lookup k c = some row)
    (hk : AList.keys row' = AList.keys row) : shape (AList.insert k row' c) = shape c := by
  induction c with
  | nil => simp [AList.lookup] at h
  | cons p r ih =>
    obtain ⟨k2, v2⟩ := p
    by_cases hk2 : k2 = k
    · simp only [AList.lookup, hk2, if_true, Option.some.injEq] at h
      simp [AList.insert, shape, hk2, hk, h]
    · simp only [AList.lookup, hk2, if_false] at h
      have := ih h
      simp only [shape] at this
      simp [AList.insert, shape, hk2, this]

theorem addLeaf_shape (cnt : Counts S) (nt : NT S Unit) (P : Sym) (b : Bool) (cnt' : Counts S)
    (h : addLeaf cnt nt P = .ok (b, cnt')) : shape cnt' = shape cnt := by
  unfold addLeaf at h
  cases h1 : AList.lookup nt cnt with
  | none => rw [h1] at h; simp at h
  | some row =>
    rw [h1] at h
    simp only at h
    cases h2 : AList.lookup P row with
    | none =>
      rw [h2] at h
      simp only [Except.ok.injEq, Prod.mk.injEq] at h
      rw [← h.2]
    | some c =>
      rw [h2] at h
      simp only [Except.ok.injEq, Prod.mk.injEq] at h
      rw [← h.2]
      exact shape_insert _ h1 (AList.keys_insert_of_lookup_some _ h2)

theorem addCount_shape (G : TT S Unit) :
    (∀ (t : Prog) (cnt : Counts S) (nt : NT S Unit) (cnt' : Counts S),
      addCount G cnt nt t = .ok cnt' → shape cnt' = shape cnt) ∧
    ∀ (ks : List Prog) (cnt : Counts S) (as : List (Ty × S)) (cnt' : Counts S),
      addCountList G cnt ks as = .ok cnt' → shape cnt' = shape cnt := by
  refine Tree.ind₂ (fun f kids ih cnt nt cnt' h => ?_) (fun cnt _ cnt' h => ?_)
    (fun k ks ih1 ih2 cnt as cnt' h => ?_)
  · rw [addCount] at h
    cases hl : addLeaf cnt nt f with
    | error e => rw [hl] at h; simp at h
    | ok p =>
      obtain ⟨b, c1⟩ := p
      rw [hl] at h
      simp only at h
      have hs := addLeaf_shape cnt nt f b c1 hl
      by_cases hk : kids.isEmpty = true
      · simp only [hk, if_true, Except.ok.injEq] at h
        rw [← h]; exact hs
      · simp only [hk] at h
        cases hr : G.rule? nt f with
        | none => rw [hr] at h; simp at h
        | some r =>
          rw [hr] at h
          simp only [Bool.false_eq_true, if_false] at h
          rw [ih c1 r.1 cnt' h]; exact hs
  · rw [addCountList] at h
    simp only [Except.ok.injEq] at h
    rw [h]
  · cases as with
    | nil => simp [addCountList] at h
    | cons a as =>
      rw [addCountList] at h
      cases hc : addCount G cnt (a.1, (a.2, ())) k with
      | error e => rw [hc] at h; simp at h
      | ok c =>
        rw [hc] at h
        simp only at h
        rw [ih2 c as cnt' h]
        exact ih1 cnt _ c hc

theorem addCountList_shape (G : TT S Unit) :
      ∀ (ks : List Prog) (cnt : Counts S) (as : List (Ty × S)) (cnt' : Counts S),
        addCountList G cnt ks as = .ok cnt' → shape cnt' = shape cnt :=
  (addCount_shape G).2

theorem addSamples_shape (G : TT S Unit) (ps : List Prog) :
    ∀ (cnt cnt' : Counts S), addSamples G cnt ps = .ok cnt' → shape cnt' = shape cnt := by
  induction ps with
  | nil =>
    intro cnt cnt' h
    simp only [addSamples, Except.ok.injEq] at h
    rw [h]
  | cons p ps ih =>
    intro cnt cnt' h
    rw [addSamples] at h
    cases hc : addCount G cnt G.start p with
    | error e => rw [hc] at h; simp at h
    | ok c =>
      rw [hc] at h
      simp only at h
      rw [ih c cnt' h]
      exact (addCount_shape G).1 p cnt _ c hc

omit [DecidableEq S] in
theorem shape_initCounts (G : TT S Unit) : shape (initCounts G) = shape G.rules := by
  simp [shape, initCounts, AList.keys, List.map_map, Function.comp_def]

theorem keys_eq_of_shape {κ ν ν' : Type} {c : AList κ (AList Sym ν)} {c' : AList κ (AList Sym ν')}
    (h : shape c = shape c') : AList.keys c = AList.keys c' := by
  have := congrArg (List.map (·.1)) h
  simpa [shape, AList.keys, List.map_map, Function.comp_def] using this

theorem mem_of_shape {κ ν ν' : Type} {c : AList κ (AList Sym ν)} {c' : AList κ (AList Sym ν')}
    (h : shape c = shape c') {e : κ × AList Sym ν'} (he : e ∈ c') :
    ∃ row, (e.1, row) ∈ c ∧ AList.keys row = AList.keys e.2 := by
  have h1 : (e.1, AList.keys e.2) ∈ shape c := by
    rw [h]; exact List.mem_map.mpr ⟨e, he, rfl⟩
  obtain ⟨x, hx, hxe⟩ := List.mem_map.mp h1
  simp only [Prod.mk.injEq] at hxe
  refine ⟨x.2, ?_, hxe.2⟩
  rw [← hxe.1]; exact hx

theorem map_lookup_self {ν : Type} (dflt : ν) (row : AList Sym ν)
    (hn : (AList.keys row).Nodup) :
    row.map (fun c => (AList.lookup c.1 row).getD dflt) = row.map (·.2) := by
  apply List.map_congr_left
  intro c hc
  rw [AList.lookup_of_mem_nodup hn (show (c.1, c.2) ∈ row from hc)]
  rfl

theorem totalOf_eq (cnt : Counts S) (e : NT S Unit × AList Sym (List (Ty × S) × Unit))
    (row : AList Sym Nat) (hl : AList.lookup e.1 cnt = some row)
    (hk : AList.keys row = AList.keys e.2) (hn : (AList.keys e.2).Nodup) :
    totalOf cnt e = (row.map (·.2)).sum := by
  unfold totalOf countOf
  rw [hl]
  simp only
  have h1 : e.2.map (fun r => (AList.lookup r.1 row).getD 0)
      = (AList.keys e.2).map (fun k => (AList.lookup k row).getD 0) := by
    simp [AList.keys, List.map_map, Function.comp_def]
  have h2 : (AList.keys row).map (fun k => (AList.lookup k row).getD 0)
      = row.map (fun c => (AList.lookup c.1 row).getD 0) := by
    simp [AList.keys, List.map_map, Function.comp_def]
  rw [h1, ← hk, h2, map_lookup_self 0 row (hk ▸ hn)]

theorem fromSamples_rows (G : TT S Unit) (hk : (AList.keys G.rules).Nodup)
    (hr : ∀ e ∈ G.rules, (AList.keys e.2).Nodup) (samples : List Prog) (tags : Tags S Unit)
    (h : fromSamples G samples = .ok tags) : ∀ e ∈ tags, rowSum e.2 = 1 := by
  unfold fromSamples at h
  cases hs : addSamples G (initCounts G) samples with
  | error x => rw [hs] at h; simp at h
  | ok cnt =>
    rw [hs] at h
    simp only [Except.ok.injEq] at h
    have hsh : shape cnt = shape G.rules :=
      (addSamples_shape G samples _ _ hs).trans (shape_initCounts G)
    intro e he
    rw [← h, probsOfCounts, List.mem_filterMap] at he
    obtain ⟨e0, he0, hopt⟩ := he
    by_cases hpos : totalOf cnt e0 > 0
    · simp only [hpos, if_true, Option.some.injEq] at hopt
      obtain ⟨row, hrow, hkeys⟩ := mem_of_shape hsh he0
      have hkc : (AList.keys cnt).Nodup := by rw [keys_eq_of_shape hsh]; exact hk
      have hl : AList.lookup e0.1 cnt = some row := AList.lookup_of_mem_nodup hkc hrow
      have htot := totalOf_eq cnt e0 row hl hkeys (hr e0 he0)
      rw [← hopt, hl]
      simp only [Option.getD_some, rowSum, List.map_map, Function.comp_def]
      rw [sum_map_div row (fun c => (c.2 : Rat)) _, ← natCast_sum row (·.2), ← htot]
      apply rat_div_self
      intro h0
      have := Rat.natCast_eq_zero_iff.mp h0
      omega
    · simp [hpos] at hopt

end PS.G
