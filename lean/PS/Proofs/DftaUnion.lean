/-
  `read_union` (PS/Model/Dfta.lean): the run of the union automaton is the fusion of the two
  runs whenever at least one of them is defined; hence the language is the union.
-/
import PS.Proofs.Dfta
set_option linter.unusedSectionVars false
namespace PS

namespace DFTA
variable {σ Q₁ Q₂ X : Type} [DecidableEq σ] [DecidableEq Q₁] [DecidableEq Q₂] [DecidableEq X]

/-- the shape of the first two loops of `read_union`: every argument `a` of a rule may be replaced by any
    member of `m a`; `π` says which argument a member of the key stands for -/
theorem lookup_liftRules {P Q : Type} [DecidableEq Q] (A : DFTA σ Q) (hd : A.Det) (m : Q → List X)
    (w : Q → X) (g : P → X) (π : P → Option Q) (ps : List P)
    (hm : ∀ p ∈ ps, ∀ a, g p ∈ m a ↔ π p = some a) (l : σ) :
    AList.lookup (l, ps.map g) (AList.ofList (A.rules.flatMap fun r =>
      (cartesian (r.1.2.map m)).map fun na => ((r.1.1, na), w r.2))) =
    ((optAll π ps).bind (A.read l)).map w := by
  apply AList.lookup_ofList_eq
  intro v
  -- a choice of alternatives for `args` is the key iff the members of the key stand for `args`
  have key : ∀ args : List Q, ps.map g ∈ cartesian (args.map m) ↔ optAll π ps = some args := fun args => by
    rw [mem_cartesian, List.forall₂_map_left_iff, List.forall₂_map_right_iff, forall₂_congr_left hm,
      optAll_eq_some_iff]
  simp only [List.mem_flatMap, List.mem_map, Prod.mk.injEq, Option.map_eq_some_iff,
    Option.bind_eq_some_iff, read_eq_some_iff A hd]
  constructor
  · rintro ⟨⟨⟨l', args⟩, d⟩, hr, na, hna, ⟨rfl, rfl⟩, e3⟩
    exact ⟨d, ⟨args, (key args).mp hna, hr⟩, e3⟩
  · rintro ⟨d, ⟨args, hna, hr⟩, e3⟩
    exact ⟨((l, args), d), hr, _, (key args).mpr hna, ⟨rfl, rfl⟩, e3⟩

section union
variable (fusion : Option Q₁ → Option Q₂ → X)

def optFuse : Option Q₁ → Option Q₂ → Option X
  | none, none => none
  | a, b => some (fusion a b)

theorem optFuse_of_ne (a : Option Q₁) (b : Option Q₂) (h : ¬(a = none ∧ b = none)) :
    optFuse fusion a b = some (fusion a b) := by
  cases a <;> cases b <;> simp_all [optFuse]

theorem unionRaw_det (A : DFTA σ Q₁) (B : DFTA σ Q₂) : (unionRaw fusion A B).Det := AList.keys_nodup_ofList _

variable (hinj : ∀ a b a' b', fusion a b = fusion a' b' → a = a' ∧ b = b')
include hinj

theorem mem_mappingS (sa : List Q₁) (sb : List Q₂) (p : Option Q₁ × Option Q₂)
    (h1 : ∀ a, p.1 = some a → a ∈ sa) (h2 : ∀ b, p.2 = some b → b ∈ sb) (a : Q₁) :
    fusion p.1 p.2 ∈ mappingS fusion sa sb a ↔ p.1 = some a := by
  unfold mappingS
  split
  · simp only [List.mem_append, List.mem_map, List.mem_singleton]
    constructor
    · rintro (⟨b, _, e⟩ | e)
      · exact (hinj _ _ _ _ e).1.symm
      · exact (hinj _ _ _ _ e).1
    · intro e
      cases hb : p.2 with
      | none => right; rw [e]
      | some b => left; exact ⟨b, h2 b hb, by rw [e]⟩
  · rename_i ha
    simp only [List.not_mem_nil, false_iff]
    exact fun e => ha (h1 a e)

theorem mem_mappingO (sa : List Q₁) (sb : List Q₂) (p : Option Q₁ × Option Q₂)
    (h1 : ∀ a, p.1 = some a → a ∈ sa) (h2 : ∀ b, p.2 = some b → b ∈ sb) (b : Q₂) :
    fusion p.1 p.2 ∈ mappingO fusion sa sb b ↔ p.2 = some b :=
  mem_mappingS (fun b a => fusion a b) (fun _ _ _ _ e => (hinj _ _ _ _ e).symm) sb sa p.swap h2 h1 b

/-- the pairs of partial runs of the children that the union automaton may see -/
def GoodPairs (sa : List Q₁) (sb : List Q₂) (ps : List (Option Q₁ × Option Q₂)) : Prop :=
  ∀ p ∈ ps, (∀ a, p.1 = some a → a ∈ sa) ∧ (∀ b, p.2 = some b → b ∈ sb)

/-- the three loops of `read_union` write one table: the later ones overwrite the earlier ones -/
theorem read_unionRaw (A : DFTA σ Q₁) (B : DFTA σ Q₂) (ha : A.Det) (hb : B.Det) (l : σ)
    (ps : List (Option Q₁ × Option Q₂)) (hg : GoodPairs A.states B.states ps) :
    (unionRaw fusion A B).read l (ps.map (fun p => fusion p.1 p.2)) =
      optFuse fusion ((optAll Prod.fst ps).bind (A.read l)) ((optAll Prod.snd ps).bind (B.read l)) := by
  have h1 := lookup_liftRules A ha (mappingS fusion A.states B.states) (fun d => fusion (some d) none)
    (fun p => fusion p.1 p.2) Prod.fst ps
    (fun p hp => mem_mappingS fusion hinj _ _ p (hg p hp).1 (hg p hp).2) l
  have h2 := lookup_liftRules B hb (mappingO fusion A.states B.states) (fun d => fusion none (some d))
    (fun p => fusion p.1 p.2) Prod.snd ps
    (fun p hp => mem_mappingO fusion hinj _ _ p (hg p hp).1 (hg p hp).2) l
  have h3 := lookup_pairRules A B ha hb (fun a b => fusion (some a) (some b))
    (fun a b => fusion (some a) (some b)) (fun p => fusion p.1 p.2) Prod.fst Prod.snd
    (fun p a b => ⟨hinj _ _ _ _, fun h => by rw [h.1, h.2]⟩) l ps
  show AList.lookup _ (AList.insertMany [] (_ ++ (_ ++ _))) = _
  rw [AList.insertMany_append, AList.insertMany_append, AList.lookup_insertMany, AList.lookup_insertMany]
  refine (congrArg₂ Option.or h3 (congrArg₂ Option.or h2 h1)).trans ?_
  cases (optAll Prod.fst ps).bind (A.read l) <;> cases (optAll Prod.snd ps).bind (B.read l) <;> rfl

theorem run_unionRaw (A : DFTA σ Q₁) (B : DFTA σ Q₂) (ha : A.Det) (hb : B.Det) :
    ∀ t, run (unionRaw fusion A B) t = optFuse fusion (run A t) (run B t) := by
  apply Tree.ind
  intro l ks ih
  rw [run_node, run_node, run_node, runList_eq_optAll, runList_eq_optAll, runList_eq_optAll,
    optAll_congr _ _ ks ih]
  by_cases hbad : ∃ k ∈ ks, run A k = none ∧ run B k = none
  · obtain ⟨k, hk, h1, h2⟩ := hbad
    rw [optAll_none_of_mem _ ks k hk (by rw [h1, h2]; rfl),
      optAll_none_of_mem _ ks k hk h1, optAll_none_of_mem _ ks k hk h2]
    rfl
  · have hg : GoodPairs A.states B.states (ks.map fun k => (run A k, run B k)) := by
      intro p hp
      obtain ⟨k, _, e⟩ := List.mem_map.mp hp
      subst e
      exact ⟨mem_states_of_run A ha k, mem_states_of_run B hb k⟩
    rw [optAll_congr _ (fun k => some (fusion (run A k) (run B k))) ks
        (fun k hk => optFuse_of_ne fusion _ _ fun hc => hbad ⟨k, hk, hc⟩),
      optAll_some, Option.bind_some]
    have := read_unionRaw fusion hinj A B ha hb l _ hg
    rw [List.map_map, optAll_map, optAll_map] at this
    exact this

theorem accepts_unionRaw (A : DFTA σ Q₁) (B : DFTA σ Q₂) (ha : A.Det) (hb : B.Det) (t : Tree σ) :
    (unionRaw fusion A B).accepts t = (A.accepts t || B.accepts t) := by
  rw [Bool.eq_iff_iff, Bool.or_eq_true, accepts_iff, accepts_iff, accepts_iff,
    run_unionRaw fusion hinj A B ha hb t]
  have h1 := mem_states_of_run A ha t
  have h2 := mem_states_of_run B hb t
  generalize run A t = x at h1 ⊢
  generalize run B t = y at h2 ⊢
  by_cases hn : x = none ∧ y = none
  · rw [hn.1, hn.2]; simp [optFuse]
  · have m1 : ∀ a, fusion x y ∈ mappingS fusion _ _ a ↔ x = some a :=
      mem_mappingS fusion hinj _ _ (x, y) h1 h2
    have m2 : ∀ b, fusion x y ∈ mappingO fusion _ _ b ↔ y = some b :=
      mem_mappingO fusion hinj _ _ (x, y) h1 h2
    rw [optFuse_of_ne fusion x y hn]
    simp only [Option.some.injEq, exists_eq_left', unionRaw, List.mem_append, List.mem_flatMap,
      List.mem_filter, decide_eq_true_eq, m1, m2]
    exact or_congr
      (exists_congr fun a => ⟨fun ⟨⟨_, hf⟩, e⟩ => ⟨e, hf⟩, fun ⟨e, hf⟩ => ⟨⟨h1 a e, hf⟩, e⟩⟩)
      (exists_congr fun b => ⟨fun ⟨⟨_, hf⟩, e⟩ => ⟨e, hf⟩, fun ⟨e, hf⟩ => ⟨⟨h2 b e, hf⟩, e⟩⟩)

theorem accepts_readUnionWith (A : DFTA σ Q₁) (B : DFTA σ Q₂) (ha : A.Det) (hb : B.Det) (t : Tree σ) :
    (readUnionWith fusion A B).accepts t = (A.accepts t || B.accepts t) := by
  rw [readUnionWith, accepts_reduce _ (unionRaw_det fusion A B), accepts_unionRaw fusion hinj A B ha hb t]

end union
end DFTA
end PS
