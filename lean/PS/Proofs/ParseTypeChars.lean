/-
  C15 — helper lemmas, character level, types: the tokenizer of `auto_type`
  (`strip`, `__matching__`, `__next_token__`, the `while` loop) cuts the text
  `render sp e` of an expression of the notation — whatever the spacing `sp` — into exactly
  the token tree `e.toks` (readable token trees: ParseTypeReadable.lean); with the simulation of
  ParseTypeSim.lean, the parser on a rendered text is the token-level machine on that tree.
-/
import PS.Proofs.ParseTypeSim
import PS.Proofs.ParseTypeReadable
import PS.Proofs.Tree
namespace PS.C15
open PS TyExpr

variable {sx : Bool}

theorem mem_blanks {n : Nat} {c : Char} (h : c ∈ blanks n) : isSpace c = true := by
  rw [(List.mem_replicate.mp h).2]; rfl

theorem rstrip_cons (c : Char) (x : Str) :
    rstrip (c :: x) = if isSpace c = true ∧ rstrip x = [] then [] else c :: rstrip x :=
  rstripBy_cons isSpace c x

theorem rstrip_nil : rstrip [] = [] := rfl

theorem rstrip_blanks (n : Nat) : rstrip (blanks n) = [] := rstripBy_all fun _ => mem_blanks

theorem rstrip_idem (x : Str) : rstrip (rstrip x) = rstrip x := by
  induction x with
  | nil => rfl
  | cons c x ih =>
    rw [rstrip_cons]
    by_cases h : isSpace c = true ∧ rstrip x = []
    · simp [h, rstrip_nil]
    · simp only [h, if_false]
      rw [rstrip_cons, ih]
      simp [h]

theorem lstrip_rstrip_comm (x : Str) : lstrip (rstrip x) = rstrip (lstrip x) := by
  induction x with
  | nil => rfl
  | cons c x ih =>
    by_cases hc : isSpace c = true
    · have e1 : lstrip (c :: x) = lstrip x := by simp [lstrip, hc]
      rw [e1, ← ih, rstrip_cons]
      by_cases hx : rstrip x = []
      · simp [hc, hx, lstrip]
      · simp [hc, hx, lstrip]
    · have e1 : lstrip (c :: x) = c :: x := by simp [lstrip, hc]
      rw [e1, rstrip_cons]
      simp [hc, lstrip]

theorem strip_rstrip (x : Str) : strip (rstrip x) = strip x := by
  unfold strip
  rw [lstrip_rstrip_comm, rstrip_idem]

theorem length_rstrip_le (x : Str) : (rstrip x).length ≤ x.length := by
  rw [rstrip, List.length_reverse, ← List.length_reverse (as := x)]
  exact (List.dropWhile_sublist _).length_le

theorem length_lstrip_le (x : Str) : (lstrip x).length ≤ x.length :=
  (List.dropWhile_sublist _).length_le

theorem length_strip_le (x : Str) : (strip x).length ≤ x.length :=
  Nat.le_trans (length_rstrip_le _) (length_lstrip_le _)

def StartsNS (x : Str) : Prop := ∃ c r, x = c :: r ∧ isSpace c = false
def EndsNS (x : Str) : Prop := ∃ r c, x = r ++ [c] ∧ isSpace c = false

theorem rstrip_blanks_append (n : Nat) (x : Str) (hx : rstrip x ≠ []) :
    rstrip (blanks n ++ x) = blanks n ++ rstrip x := by
  induction n with
  | zero => rfl
  | succ n ih =>
    show rstrip (' ' :: (blanks n ++ x)) = ' ' :: (blanks n ++ rstrip x)
    rw [rstrip_cons, ih]
    have : blanks n ++ rstrip x ≠ [] := by simp [hx]
    simp [this]

theorem strip_blanks_tok (n : Nat) (s R : Str) (h1 : StartsNS s) (h2 : EndsNS s) :
    strip (blanks n ++ s ++ R) = s ++ rstrip R :=
  stripBy_tok R (fun _ => mem_blanks) h1 h2

theorem strip_blanks (n : Nat) : strip (blanks n) = [] := stripBy_all fun _ => mem_blanks

theorem rstrip_head {x : Str} {c : Char} {r : Str} (h : rstrip x = c :: r) : ∃ r', x = c :: r' := by
  cases x with
  | nil => simp [rstrip_nil] at h
  | cons d x =>
    rw [rstrip_cons] at h
    split at h
    · cases h
    · cases h; exact ⟨x, rfl⟩

/-- reading `s` at a positive nesting level leaves the level unchanged and never closes the
    bracket `start` that the scan started from -/
def Trans (start : Char) (s : Str) : Prop :=
  ∀ (L : Int) (j : Nat) (rest : Str), 0 < L →
    matchingLoop start (s ++ rest) L j = matchingLoop start rest L (j + s.length)

/-- `__matching__` skips `s` whichever bracket it is looking for.  The text of every token is
    neutral (`TokFacts.neutral`), so the scan from an opening bracket stops at its partner
    (`matching_pair`). -/
def Neutral (s : Str) : Prop := Trans '(' s ∧ Trans '[' s

def isBracketChar (c : Char) : Bool := c == '(' || c == ')' || c == '[' || c == ']'

theorem trans_nil (start : Char) : Trans start [] := by
  intro L j rest _; simp

theorem trans_append {start : Char} {a b : Str} (ha : Trans start a) (hb : Trans start b) :
    Trans start (a ++ b) := by
  intro L j rest hL
  rw [List.append_assoc, ha L j _ hL, hb L _ rest hL, List.length_append, Nat.add_assoc]

theorem trans_char {start : Char} (c : Char) (h1 : c ≠ start) (h2 : ¬(start = '(' ∧ c = ')'))
    (h3 : ¬(start = '[' ∧ c = ']')) : Trans start [c] := by
  intro L j rest hL
  have hL0 : L ≠ 0 := by omega
  simp [matchingLoop, h1, h2, h3, hL0]

theorem trans_plain {start : Char} (c : Char) (hs : start = '(' ∨ start = '[')
    (hc : isBracketChar c = false) : Trans start [c] := by
  simp only [isBracketChar, Bool.or_eq_false_iff, beq_eq_false_iff_ne, ne_eq] at hc
  obtain ⟨⟨⟨h1, h2⟩, h3⟩, h4⟩ := hc
  have hne : c ≠ start := by rcases hs with h | h <;> simp [h, h1, h3]
  exact trans_char c hne (by simp [h2]) (by simp [h4])

theorem trans_plain_list {start : Char} (s : Str) (hs : start = '(' ∨ start = '[')
    (h : ∀ c ∈ s, isBracketChar c = false) : Trans start s := by
  induction s with
  | nil => exact trans_nil _
  | cons c s ih =>
    exact trans_append (a := [c]) (trans_plain c hs (h c (by simp)))
      (ih (fun d hd => h d (by simp [hd])))

theorem neutral_nil : Neutral [] := ⟨trans_nil _, trans_nil _⟩
theorem neutral_append {a b : Str} (ha : Neutral a) (hb : Neutral b) : Neutral (a ++ b) :=
  ⟨trans_append ha.1 hb.1, trans_append ha.2 hb.2⟩
theorem neutral_plain (s : Str) (h : ∀ c ∈ s, isBracketChar c = false) : Neutral s :=
  ⟨trans_plain_list s (Or.inl rfl) h, trans_plain_list s (Or.inr rfl) h⟩

inductive IsPair : TokL → Char → Char → Prop
  | paren : IsPair .paren '(' ')'
  | brack : IsPair .brack '[' ']'

theorem matchingLoop_open (start : Char) (rest : Str) (L : Int) (j : Nat) :
    matchingLoop start (start :: rest) L j =
      if L + 1 = 0 then some j else matchingLoop start rest (L + 1) (j + 1) := by
  rw [matchingLoop]; simp

theorem matchingLoop_close {l : TokL} {start close : Char} (hpair : IsPair l start close) (rest : Str)
    (L : Int) (j : Nat) : matchingLoop start (close :: rest) L j =
      if L - 1 = 0 then some j else matchingLoop start rest (L - 1) (j + 1) := by
  cases hpair <;> (rw [matchingLoop]; simp)

theorem trans_open_close {l : TokL} {start close : Char} {s : Str} (hpair : IsPair l start close)
    (hs : Trans start s) : Trans start (start :: s ++ [close]) := by
  intro L j rest hL
  rw [List.cons_append, List.cons_append, List.append_assoc, matchingLoop_open, if_neg (by omega),
    hs (L + 1) (j + 1) _ (by omega), List.singleton_append, matchingLoop_close hpair,
    if_neg (by omega)]
  congr 1
  · omega
  · simp only [List.length_cons, List.length_append, List.length_nil]; omega

theorem neutral_pair {l : TokL} {o c : Char} {s : Str} (hpair : IsPair l o c) (h : Neutral s) :
    Neutral (o :: s ++ [c]) := by
  -- for the other kind of bracket, `o` and `c` are plain characters
  have other : ∀ {start : Char}, Trans start [o] → Trans start [c] → Trans start s →
      Trans start (o :: s ++ [c]) :=
    fun ho hc hs => trans_append (a := o :: s) (trans_append (a := [o]) ho hs) hc
  cases hpair
  · exact ⟨trans_open_close .paren h.1,
      other (trans_char _ (by decide) (by decide) (by decide))
        (trans_char _ (by decide) (by decide) (by decide)) h.2⟩
  · exact ⟨other (trans_char _ (by decide) (by decide) (by decide))
        (trans_char _ (by decide) (by decide) (by decide)) h.1,
      trans_open_close .brack h.2⟩

theorem matching_pair {l : TokL} {o c : Char} (s rest : Str) (hpair : IsPair l o c) (h : Neutral s) :
    matching (o :: s ++ c :: rest) = some (s.length + 1) := by
  have ht : Trans o s := by
    cases hpair with
    | paren => exact h.1
    | brack => exact h.2
  show matchingLoop o (o :: (s ++ c :: rest)) 0 0 = _
  rw [matchingLoop_open, if_neg (by decide), ht (0 + 1) (0 + 1) _ (by decide),
    matchingLoop_close hpair]
  simp [Nat.add_comm]

theorem not_space_of_ne {c : Char} (h : ∀ d, isSpace d = true → c ≠ d) : isSpace c = false := by
  cases hc : isSpace c with
  | false => rfl
  | true => exact absurd rfl (h c hc)

theorem wordChar_not_space {c : Char} (h : isWordChar c = true) : isSpace c = false := by
  cases hc : isSpace c with
  | false => rfl
  | true =>
    simp only [isSpace, Bool.or_eq_true, beq_iff_eq] at hc
    rcases hc with ((((((((hc | hc) | hc) | hc) | hc) | hc) | hc) | hc) | hc) | hc <;>
      (subst hc; revert h; decide)

theorem wordChar_not_bracket {c : Char} (h : isWordChar c = true) : isBracketChar c = false := by
  cases hc : isBracketChar c with
  | false => rfl
  | true =>
    simp only [isBracketChar, Bool.or_eq_true, beq_iff_eq] at hc
    rcases hc with ((hc | hc) | hc) | hc <;> (subst hc; revert h; decide)

theorem alpha_wordChar {c : Char} (h : isAlpha c = true) : isWordChar c = true := by
  simp [isWordChar, h]

theorem alpha_ne {c : Char} (h : isAlpha c = true) :
    c ≠ '(' ∧ c ≠ '[' ∧ c ≠ '|' ∧ c ≠ '\'' := by
  refine ⟨?_, ?_, ?_, ?_⟩ <;> (intro e; subst e; revert h; decide)

structure OpCharFacts (c : Char) : Prop where
  alpha : isAlpha c = false
  special : isSpecial c = false
  space : isSpace c = false
  word : isWordChar c = false
  bracket : isBracketChar c = false
  ne : c ≠ '(' ∧ c ≠ '[' ∧ c ≠ '|' ∧ c ≠ '\''

theorem opChar_facts {c : Char} (h : isOpChar c = true) : OpCharFacts c := by
  simp only [isOpChar, Bool.and_eq_true, Bool.not_eq_true', Bool.or_eq_false_iff, bne_iff_ne,
    ne_eq] at h
  obtain ⟨⟨⟨⟨⟨⟨⟨⟨⟨ha, hd⟩, hs⟩, h_⟩, hq⟩, hlp⟩, hrp⟩, hlb⟩, hrb⟩, hbar⟩ := h
  have hblank : c ≠ ' ' := by intro e; subst e; revert hs; decide
  exact {
    alpha := ha
    special := by simp [isSpecial, hblank, hlp, hrp, hq]
    space := hs
    word := by simp [isWordChar, ha, hd, h_]
    bracket := by simp [isBracketChar, hlp, hrp, hlb, hrb]
    ne := ⟨hlp, hlb, hbar, hq⟩ }

theorem takeWhile_append_stop {α} (p : α → Bool) (a b : List α) (ha : ∀ x ∈ a, p x = true)
    (hb : ∀ c r, b = c :: r → p c = false) : (a ++ b).takeWhile p = a := by
  rw [List.takeWhile_append_of_pos ha]
  cases b with
  | nil => simp
  | cons c r => simp [hb c r rfl]

theorem nextToken_name (w rest : Str) (hw : goodName w = true)
    (hr : ∀ c r, rest = c :: r → isWordChar c = false) :
    nextToken sx (w ++ rest) = .ok (w, .none, w.length) := by
  cases w with
  | nil => simp [goodName] at hw
  | cons c w =>
    simp only [goodName, Bool.and_eq_true, List.all_eq_true] at hw
    obtain ⟨h1, h2, h3, h4⟩ := alpha_ne hw.1
    have ht := takeWhile_append_stop isWordChar w rest hw.2 hr
    simp [nextToken, h1, h2, h3, h4, hw.1, ht, Nat.add_comm]

theorem nextToken_pvar (w rest : Str) (hw : ∀ x ∈ w, isWordChar x = true)
    (hr : ∀ c r, rest = c :: r → isWordChar c = false) :
    nextToken sx (('\'' :: w) ++ rest) = .ok (w, .poly, ('\'' :: w).length) := by
  have ht := takeWhile_append_stop isWordChar w rest hw hr
  have e : isAlpha '\'' = false := by decide
  simp [nextToken, ht, e, Nat.add_comm]

theorem nextToken_op (w rest : Str) (hw : goodOp w = true)
    (hr : ∀ c r, rest = c :: r → (isAlpha c || isSpecial c) = true) :
    nextToken sx (w ++ rest) = .ok (w, .infx, w.length) := by
  cases w with
  | nil => simp [goodOp] at hw
  | cons c w =>
    simp only [goodOp, List.isEmpty_cons, Bool.not_false, Bool.true_and, List.all_cons,
      Bool.and_eq_true, List.all_eq_true] at hw
    have f := opChar_facts hw.1
    obtain ⟨h1, h2, h3, h4⟩ := f.ne
    have ht := takeWhile_append_stop (fun d => !(isAlpha d || isSpecial d)) w rest
      (fun x hx => by
        have g := opChar_facts (hw.2 x hx)
        simp [g.alpha, g.special])
      (fun d r e => by simp [hr d r e])
    simp only [Bool.not_or] at ht
    have h5 : c ≠ ')' := by
      have := f.bracket; intro e; subst e; revert this; decide
    have h6 : c ≠ ']' := by
      have := f.bracket; intro e; subst e; revert this; decide
    simp [nextToken, h1, h2, h3, h4, h5, h6, f.alpha, ht, Nat.add_comm]

theorem nextToken_bar (rest : Str) : nextToken sx ('|' :: rest) = .ok ([], .or, 1) := by
  simp [nextToken]

theorem nextToken_pair {l : TokL} {o c : Char} (s rest : Str) (hpair : IsPair l o c) (h : Neutral s) :
    nextToken sx ((o :: s ++ [c]) ++ rest) = .ok (s, (kindOf l).1, (o :: s ++ [c]).length) := by
  have hm := matching_pair s rest hpair h
  rw [List.append_assoc, List.singleton_append]
  cases hpair <;> (simp only [nextToken, hm]; simp [kindOf])

/-! ## the two classes of tokens: those without kids, and the two bracket tokens -/

/-- the text of a token without kids; `none` for the two bracket tokens -/
def TokL.text : TokL → Option Str
  | .name w => some w
  | .pvar w => some ('\'' :: w)
  | .op w => some w
  | .bar => some ['|']
  | _ => none

theorem TokL.text_or_pair (l : TokL) : (∃ s, l.text = some s) ∨ ∃ o c, IsPair l o c := by
  cases l <;> first | exact .inl ⟨_, rfl⟩ | exact .inr ⟨_, _, .paren⟩ | exact .inr ⟨_, _, .brack⟩

theorem tokOK_leaf {l : TokL} {s : Str} (hs : l.text = some s) (ks : List Tok) :
    tokOK (.node l ks) = (labelOK l && ks.isEmpty) := by
  cases l <;> cases hs <;> simp [tokOK]

theorem tokOK_pair {l : TokL} {o c : Char} (hp : IsPair l o c) (ks : List Tok) :
    tokOK (.node l ks) = (toksOK ks && chainOK ks) := by
  cases hp <;> simp [tokOK]

theorem tokOf_leaf {l : TokL} {s : Str} (hs : l.text = some s) (rec : Str → Res (List Tok)) :
    tokOf rec (kindOf l).1 (kindOf l).2 = .ok (.node l []) := by
  cases l <;> cases hs <;> rfl

theorem tokOf_pair {l : TokL} {o c : Char} (hp : IsPair l o c) (rec : Str → Res (List Tok)) (w : Str) :
    tokOf rec (kindOf l).1 w = (rec w).map (.node l) := by
  cases hp <;> rfl

theorem renderToks_nil (sp : Spacing) (prev : Option Bool) (k : Nat) :
    (renderToks sp [] prev k).1 = blanks (sp k) := by simp [renderToks]

theorem renderToks_cons (sp : Spacing) (t : Tok) (ts : List Tok) (prev : Option Bool) (k : Nat) :
    (renderToks sp (t :: ts) prev k).1 =
      blanks (sp k + (if prev = some true && Tok.startsWord t then 1 else 0)) ++
        (renderTok sp t (k + 1)).1 ++
        (renderToks sp ts (some (Tok.endsWord t)) (renderTok sp t (k + 1)).2).1 := by
  simp [renderToks]

theorem renderTok_leaf {l : TokL} {s : Str} (hs : l.text = some s) (sp : Spacing) (ks : List Tok)
    (k : Nat) : (renderTok sp (.node l ks) k).1 = s := by
  cases l <;> cases hs <;> simp [renderTok]

theorem renderTok_pair {l : TokL} {o c : Char} (hp : IsPair l o c) (sp : Spacing) (ks : List Tok)
    (k : Nat) : (renderTok sp (.node l ks) k).1 = o :: (renderToks sp ks none k).1 ++ [c] := by
  cases hp <;> simp [renderTok]

/-- the first character of a token's text, by kind -/
def firstOK : Tok → Char → Prop
  | .node (.name _) _, c => isAlpha c = true
  | .node (.pvar _) _, c => c = '\''
  | .node (.op _) _, c => isOpChar c = true
  | .node .bar _, c => c = '|'
  | .node .paren _, c => c = '('
  | .node .brack _, c => c = '['

/-- what the character-level proof needs of the text `s` that renders the token `t` -/
structure TokFacts (t : Tok) (s : Str) : Prop where
  neutral : Neutral s
  starts : StartsNS s
  ends : EndsNS s
  depth : Tree.depth t ≤ s.length
  first : ∃ c r, s = c :: r ∧ firstOK t c

structure ToksFacts (ts : List Tok) (R : Str) : Prop where
  neutral : Neutral R
  depth : Tree.depthList ts ≤ R.length
  count : ts.length ≤ R.length

theorem blanks_neutral (n : Nat) : Neutral (blanks n) :=
  neutral_plain _ (fun c hc => by
    have : c = ' ' := by simpa [blanks] using (List.mem_replicate.mp hc).2
    subst this; decide)

theorem leaf_depth {l : TokL} : Tree.depth (Tree.node l ([] : List Tok)) = 1 := by
  simp [Tree.depth, Tree.depthList]

theorem goodName_chars {w : Str} (h : goodName w = true) :
    (∃ c r, w = c :: r ∧ isAlpha c = true) ∧ ∀ x ∈ w, isWordChar x = true := by
  cases w with
  | nil => simp [goodName] at h
  | cons c r =>
    simp only [goodName, Bool.and_eq_true, List.all_eq_true] at h
    refine ⟨⟨c, r, rfl, h.1⟩, ?_⟩
    intro x hx
    rcases List.mem_cons.mp hx with e | e
    · subst e; exact alpha_wordChar h.1
    · exact h.2 x e

theorem goodOp_chars {w : Str} (h : goodOp w = true) :
    (∃ c r, w = c :: r ∧ isOpChar c = true) ∧ ∀ x ∈ w, isOpChar x = true := by
  cases w with
  | nil => simp [goodOp] at h
  | cons c r =>
    simp only [goodOp, List.isEmpty_cons, Bool.not_false, Bool.true_and, List.all_eq_true] at h
    exact ⟨⟨c, r, rfl, h c (by simp)⟩, h⟩

theorem wordChar_plain {c : Char} (h : isWordChar c = true) :
    isSpace c = false ∧ isBracketChar c = false :=
  ⟨wordChar_not_space h, wordChar_not_bracket h⟩

theorem plain_facts {l : TokL} {c : Char} {r : Str} (hf : firstOK (.node l []) c)
    (h : ∀ x ∈ c :: r, isSpace x = false ∧ isBracketChar x = false) :
    TokFacts (.node l []) (c :: r) :=
  { neutral := neutral_plain _ (fun x hx => (h x hx).2)
    starts := starts_of_all (by simp) (fun x hx => (h x hx).1)
    ends := ends_of_all (by simp) (fun x hx => (h x hx).1)
    depth := by rw [leaf_depth]; simp
    first := ⟨c, r, rfl, hf⟩ }

theorem leaf_facts {l : TokL} {s : Str} (hs : l.text = some s) (hl : labelOK l = true) :
    TokFacts (.node l []) s := by
  cases l <;> cases hs
  case name =>
    obtain ⟨⟨c, r, rfl, hc⟩, hall⟩ := goodName_chars hl
    exact plain_facts hc (fun x hx => wordChar_plain (hall x hx))
  case pvar =>
    refine plain_facts rfl (fun x hx => ?_)
    rcases List.mem_cons.mp hx with rfl | e
    · decide
    · exact wordChar_plain ((goodName_chars hl).2 x e)
  case op =>
    obtain ⟨⟨c, r, rfl, hc⟩, hall⟩ := goodOp_chars hl
    exact plain_facts hc (fun x hx => ⟨(opChar_facts (hall x hx)).space, (opChar_facts (hall x hx)).bracket⟩)
  case bar => exact plain_facts rfl (fun x hx => by rw [List.mem_singleton.mp hx]; decide)

theorem pair_facts {l : TokL} {o c : Char} (ks : List Tok) (inner : Str) (hpair : IsPair l o c)
    (h : ToksFacts ks inner) : TokFacts (.node l ks) (o :: inner ++ [c]) :=
  { neutral := neutral_pair hpair h.neutral
    starts := ⟨o, _, rfl, by cases hpair <;> decide⟩
    ends := ⟨o :: inner, c, rfl, by cases hpair <;> decide⟩
    depth := by
      have := h.depth
      simp only [Tree.depth, List.length_cons, List.length_append, List.length_nil]; omega
    first := ⟨_, _, rfl, by cases hpair <;> rfl⟩ }

theorem tok_toks_facts (sp : Spacing) :
    (∀ t : Tok, tokOK t = true → ∀ k, TokFacts t (renderTok sp t k).1) ∧
    ∀ ts : List Tok, toksOK ts = true → ∀ prev k, ToksFacts ts (renderToks sp ts prev k).1 := by
  refine Tree.ind₂ (fun l ks ih h k => ?_) (fun _ prev k => ?_) (fun t ts iht ihts h prev k => ?_)
  · rcases l.text_or_pair with ⟨s, hs⟩ | ⟨o, c, hp⟩
    · rw [tokOK_leaf hs, Bool.and_eq_true, List.isEmpty_iff] at h
      obtain ⟨h1, rfl⟩ := h
      rw [renderTok_leaf hs]; exact leaf_facts hs h1
    · rw [tokOK_pair hp, Bool.and_eq_true] at h
      rw [renderTok_pair hp]
      exact pair_facts ks _ hp (ih h.1 none k)
  · rw [renderToks_nil]
    exact ⟨blanks_neutral _, by simp [Tree.depthList], by simp⟩
  · simp only [toksOK, Bool.and_eq_true] at h
    have f1 := iht h.1 (k + 1)
    have f2 := ihts h.2 (some (Tok.endsWord t)) (renderTok sp t (k + 1)).2
    rw [renderToks_cons]
    refine ⟨neutral_append (neutral_append (blanks_neutral _) f1.neutral) f2.neutral, ?_, ?_⟩
    · have a := f1.depth
      have b := f2.depth
      simp only [Tree.depthList, List.length_append]
      omega
    · have b := f2.count
      obtain ⟨c, r, e, _⟩ := f1.starts
      simp only [List.length_cons, List.length_append, e]
      omega

theorem tok_facts (sp : Spacing) : (t : Tok) → tokOK t = true → ∀ k, TokFacts t (renderTok sp t k).1 :=
  (tok_toks_facts sp).1

theorem toks_facts (sp : Spacing) :
    (ts : List Tok) → toksOK ts = true → ∀ prev k, ToksFacts ts (renderToks sp ts prev k).1 :=
  (tok_toks_facts sp).2

/-- the character after a token's text lets `__next_token__` stop exactly there -/
def followChar : Tok → Char → Prop
  | .node (.name _) _, c => isWordChar c = false
  | .node (.pvar _) _, c => isWordChar c = false
  | .node (.op _) _, c => (isAlpha c || isSpecial c) = true
  | _, _ => True

theorem followChar_blank (t : Tok) : followChar t ' ' := by
  obtain ⟨l, ks⟩ := t
  cases l <;> simp only [followChar] <;> decide

theorem firstOK_not_word {u : Tok} {c : Char} (hu : Tok.startsWord u = false) (hf : firstOK u c) :
    isWordChar c = false := by
  obtain ⟨l, ks⟩ := u
  cases l with
  | name w => cases hu
  | op w => exact (opChar_facts hf).word
  | _ => subst hf; decide

theorem firstOK_operand {u : Tok} {c : Char} (hu : Tok.operandStart u = true) (hf : firstOK u c) :
    (isAlpha c || isSpecial c) = true := by
  obtain ⟨l, ks⟩ := u
  cases l with
  | name w => simp only [firstOK] at hf; simp [hf]
  | pvar w => subst hf; decide
  | paren => subst hf; decide
  | _ => cases hu

theorem followChar_first (t u : Tok) (c : Char) (hp : pairOK t u = true)
    (hn : (Tok.endsWord t && Tok.startsWord u) = false) (hf : firstOK u c) : followChar t c := by
  obtain ⟨l, ks⟩ := t
  cases l with
  | name w => exact firstOK_not_word hn hf
  | pvar w => exact firstOK_not_word hn hf
  | op w => exact firstOK_operand hp hf
  | _ => trivial

theorem chainOK_tail {t : Tok} {ts : List Tok} (h : chainOK (t :: ts) = true) : chainOK ts = true := by
  cases ts with
  | nil => rfl
  | cons u us => simp only [chainOK, Bool.and_eq_true] at h; exact h.2

theorem head_blanks_append {n : Nat} {c d : Char} {x r : Str} (e : blanks n ++ c :: x = d :: r) :
    (n = 0 ∧ d = c) ∨ d = ' ' := by
  cases n with
  | zero => exact .inl ⟨rfl, (List.cons.inj e).1.symm⟩
  | succ n => exact .inr (List.cons.inj e).1.symm

theorem follow_ok (sp : Spacing) (t : Tok) (ts : List Tok) (k : Nat) (hts : toksOK ts = true)
    (hch : chainOK (t :: ts) = true) (c : Char) (r : Str)
    (h : rstrip (renderToks sp ts (some (Tok.endsWord t)) k).1 = c :: r) : followChar t c := by
  cases ts with
  | nil => rw [renderToks_nil, rstrip_blanks] at h; cases h
  | cons u us =>
    obtain ⟨r', e⟩ := rstrip_head h
    simp only [toksOK, Bool.and_eq_true] at hts
    simp only [chainOK, Bool.and_eq_true] at hch
    obtain ⟨c', r'', e', hf⟩ := (tok_facts sp u hts.1 (k + 1)).first
    rw [renderToks_cons, e', List.append_assoc, List.cons_append] at e
    rcases head_blanks_append e with ⟨hn, rfl⟩ | rfl
    · -- no blank in between: `render` needed none between the two tokens
      refine followChar_first t u _ hch.1 (Bool.eq_false_iff.mpr fun hb => ?_) hf
      rw [Bool.and_eq_true] at hb
      rw [hb.1, hb.2] at hn
      exact absurd (Nat.add_eq_zero_iff.mp hn).2 (by decide)
    · exact followChar_blank t

/-! ## the tokenizer reads a rendered token tree back -/

theorem nextToken_leaf {l : TokL} {s : Str} (hs : l.text = some s) (hl : labelOK l = true)
    (rest : Str) (hf : ∀ c r, rest = c :: r → followChar (.node l []) c) :
    nextToken sx (s ++ rest) = .ok ((kindOf l).2, (kindOf l).1, s.length) := by
  cases l <;> cases hs
  · exact nextToken_name _ rest hl hf
  · exact nextToken_pvar _ rest (goodName_chars hl).2 hf
  · exact nextToken_op _ rest hl hf
  · exact nextToken_bar rest

theorem tok_toks_main (sp : Spacing) :
    (∀ t : Tok, tokOK t = true → ∀ (k D : Nat) (rest : Str), Tree.depth t ≤ D →
      (∀ c r, rest = c :: r → followChar t c) →
      ∃ w kd, nextToken sx ((renderTok sp t k).1 ++ rest) = .ok (w, kd, (renderTok sp t k).1.length) ∧
        tokOf (tokenize sx D) kd w = .ok t) ∧
    ∀ ts : List Tok, toksOK ts = true → chainOK ts = true → ∀ (prev : Option Bool) (k D fuel : Nat),
      Tree.depthList ts ≤ D → ts.length < fuel →
      tokenizeLoop sx (tokenize sx D) fuel (strip (renderToks sp ts prev k).1) = .ok ts := by
  refine Tree.ind₂ (fun l ks ih h k D rest hd hf => ?_) (fun _ _ prev k D fuel _ hfuel => ?_)
    (fun t ts iht ihts h hc prev k D fuel hd hfuel => ?_)
  · rcases l.text_or_pair with ⟨s, hs⟩ | ⟨o, c, hp⟩
    · rw [tokOK_leaf hs, Bool.and_eq_true, List.isEmpty_iff] at h
      obtain ⟨h1, rfl⟩ := h
      rw [renderTok_leaf hs]
      exact ⟨_, _, nextToken_leaf hs h1 rest hf, tokOf_leaf hs _⟩
    · rw [tokOK_pair hp, Bool.and_eq_true] at h
      have f := toks_facts sp ks h.1 none k
      rw [renderTok_pair hp]
      refine ⟨_, _, nextToken_pair _ rest hp f.neutral, ?_⟩
      -- the enclosed text is cut by the recursive call, with one level of nesting less
      cases D with
      | zero => simp [Tree.depth] at hd
      | succ D =>
        have hd' : Tree.depthList ks ≤ D := by simp only [Tree.depth] at hd; omega
        rw [tokOf_pair hp, tokenize, ih h.1 h.2 none k D _ hd' (Nat.lt_succ_of_le f.count)]
        rfl
  · rw [renderToks_nil, strip_blanks]
    cases fuel with
    | zero => simp at hfuel
    | succ fuel => rfl
  · have h' := h
    simp only [toksOK, Bool.and_eq_true] at h'
    cases fuel with
    | zero => simp at hfuel
    | succ fuel =>
      have f1 := tok_facts sp t h'.1 (k + 1)
      have hdt : Tree.depth t ≤ D := Nat.le_trans (Nat.le_max_left _ _) hd
      have hdts : Tree.depthList ts ≤ D := Nat.le_trans (Nat.le_max_right _ _) hd
      rw [renderToks_cons, strip_blanks_tok _ _ _ f1.starts f1.ends]
      obtain ⟨w, kd, hn, hk⟩ := iht h'.1 (k + 1) D
        (rstrip (renderToks sp ts (some (Tok.endsWord t)) (renderTok sp t (k + 1)).2).1) hdt
        (fun c r e => follow_ok sp t ts _ h'.2 hc c r e)
      have hne : (renderTok sp t (k + 1)).1 ++
          rstrip (renderToks sp ts (some (Tok.endsWord t)) (renderTok sp t (k + 1)).2).1 ≠ [] := by
        obtain ⟨c, r, e, _⟩ := f1.starts
        rw [e]; exact List.cons_ne_nil _ _
      refine tokenizeLoop_step hne hn hk ?_
      rw [List.drop_left, strip_rstrip]
      exact ihts h'.2 (chainOK_tail hc) _ _ D fuel hdts (by simp at hfuel; omega)

theorem tok_main (sp : Spacing) :
    (t : Tok) → tokOK t = true → ∀ (k D : Nat) (rest : Str), Tree.depth t ≤ D →
      (∀ c r, rest = c :: r → followChar t c) →
      ∃ w kd, nextToken sx ((renderTok sp t k).1 ++ rest) = .ok (w, kd, (renderTok sp t k).1.length) ∧
        tokOf (tokenize sx D) kd w = .ok t :=
  (tok_toks_main sp).1

theorem tokenize_renderToks (sp : Spacing) (ts : List Tok) (h : toksOK ts = true)
    (hc : chainOK ts = true) :
    tokenize sx ((renderToks sp ts none 0).1.length + 1) (renderToks sp ts none 0).1 = .ok ts := by
  have f := toks_facts sp ts h none 0
  rw [tokenize]
  exact (tok_toks_main sp).2 ts h hc none 0 _ _ f.depth (Nat.lt_succ_of_le f.count)

theorem tokenize_render (sp : Spacing) (e : TyExpr) (hwf : e.wf = true) :
    tokenize sx ((render sp e).length + 1) (render sp e) = .ok e.toks := by
  have g := toksAt_good e hwf 0
  exact tokenize_renderToks sp e.toks g.ok g.chain

theorem autoTypeText_renderToks (sp : Spacing) (ts : List Tok) (h : toksOK ts = true)
    (hc : chainOK ts = true) :
    autoTypeText sx (renderToks sp ts none 0).1 = autoTypeToks sx ts := by
  unfold autoTypeText
  exact autoType_of_tokenize _ _ _ (tokenize_renderToks sp ts h hc)

/-- the repair of C15-F4 (`assert text[0] not in ")]"`): no token starts with a closing bracket -/
theorem nextToken_close (c : Char) (rest : Str) (hc : c = ')' ∨ c = ']') :
    nextToken true (c :: rest) = .error .assertion := by
  rcases hc with rfl | rfl <;> simp [nextToken, isAlpha]

theorem loopC_close (rec : Str → Res TyO) (fuel : Nat) (c : Char) (rest : Str) (st : St)
    (hc : c = ')' ∨ c = ']') : loopC true rec (fuel + 1) (c :: rest) st = .error .assertion := by
  rw [loopC]
  simp [nextToken_close c rest hc]

end PS.C15
