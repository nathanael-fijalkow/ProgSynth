/-
  C13, finding C13-F9: `TTCFG.at_most_k` need not terminate.  If configurations (non-terminal, pending stack)
  with arbitrarily long pending stacks are reachable by the pushes of the worklist, the worklist (keyed by
  rule and stack) never ends.  Witness: `g : a → a → a`, `l : a`, request `a`, at most one `l` - the language
  is the single program `l`, yet `g` can be derived again and again without spending an occurrence.
-/
import PS.Proofs.TtcfgAtMostTerm
namespace PS.T
open PS PS.G

section Crit
variable {S T : Type} [DecidableEq S] [DecidableEq T]

/-- a run of `__saturation_build__` that ends has treated every reachable configuration (`satLoop_closed`),
    and the finite list of treated configurations bounds the length of their stacks -/
theorem not_terminates_of_unbounded (B : Builder S T) (prims : List Sym) (request : Ty)
    (h : ∀ n : Nat, ∃ c, SReach B prims request c ∧ n ≤ c.2.length) :
    ∀ fuel, saturationTable B prims request true fuel = none := by
  intro fuel
  cases h0 : saturationTable B prims request true fuel with
  | none => rfl
  | some G =>
    exfalso
    obtain ⟨tbl, hl, _⟩ := saturationTable_eq_some.mp h0
    obtain ⟨seen', _, i2, i3, _⟩ := satLoop_closed B prims request fuel _ [] [] tbl nofun nofun hl
    have hall := sreach_in_closed B prims request seen' (i2 _ (List.mem_singleton.mpr rfl)) i3
    obtain ⟨c, hc, hn⟩ := h ((seen'.map (fun x => x.2.length)).sum + 1)
    have := le_sum_map_of_mem (fun x : NT S T × List (Ty × S) => x.2.length) seen' c (hall c hc)
    omega

end Crit

namespace Ex
namespace Dv
def a : Ty := .base "a"
def g : Sym := Sym.prim "g" (Ty.mkFun [a, a] a)
def l : Sym := Sym.prim "l" a
def dsl : Dsl := ⟨[g, l], []⟩
end Dv
end Ex

open Ex.Dv in
theorem dv_push (rule : NT Ctx Nat) (stack : List (Ty × Ctx)) (h1 : rule.1 = a) (h2 : rule.2.2 = 1) :
    ∃ p ∈ pushesOf (atMostBuilder dsl 2 "l" 1) dsl.prims a rule stack,
      (entryKey p).1.1 = a ∧ (entryKey p).1.2.2 = 1 ∧ (entryKey p).2.length = stack.length + 1 := by
  have hcand : (g, [a, a]) ∈ candidates dsl.prims a rule.1 := by
    rw [h1]; decide
  have htr : (atMostBuilder dsl 2 "l" 1).transition rule g = (true, 1) := by
    have hfb : forbHit dsl rule.2.1.head? g = false := by
      simp [forbHit, forbAtT, dsl]
    show atMostTransition dsl "l" rule g = (true, 1)
    unfold atMostTransition
    rw [hfb]
    have : symStr g ≠ "l" := by decide
    simp [this, h2]
  have hrow : (g, (decorate (atMostBuilder dsl 2 "l" 1) rule g [a, a], 1)) ∈ rowList (atMostBuilder dsl 2 "l" 1) dsl.prims a rule :=
    (mem_rowList _ _ _ _ _ _).mpr ⟨(g, [a, a]), hcand, rfl, by rw [htr], by rw [htr]⟩
  have hlen := decorate_length (atMostBuilder dsl 2 "l" 1) rule g [a, a]
  have hty := decorate_map_fst (atMostBuilder dsl 2 "l" 1) rule g [a, a]
  cases hD : decorate (atMostBuilder dsl 2 "l" 1) rule g [a, a] with
  | nil => rw [hD] at hlen; simp at hlen
  | cons d0 ds =>
    rw [hD] at hlen hty hrow
    refine ⟨(d0, 1, ds ++ stack), ?_, ?_, rfl, ?_⟩
    · exact mem_pushesOf_iff.mpr ⟨_, hrow, rfl, rfl⟩
    · simp only [List.map_cons, List.cons.injEq] at hty
      simp [entryKey, hty.1]
    · simp only [List.length_cons, List.length_nil] at hlen
      show (ds ++ stack).length = stack.length + 1
      rw [List.length_append]
      omega

open Ex.Dv in
theorem dv_unbounded : ∀ n : Nat, ∃ c, SReach (atMostBuilder dsl 2 "l" 1) dsl.prims a c ∧
    c.1.1 = a ∧ c.1.2.2 = 1 ∧ c.2.length = n
  | 0 => ⟨_, SReach.start, rfl, rfl, rfl⟩
  | n + 1 => by
    obtain ⟨c, hc, c1, c2, c3⟩ := dv_unbounded n
    obtain ⟨p, hp, p1, p2, p3⟩ := dv_push c.1 c.2 c1 c2
    exact ⟨entryKey p, SReach.push c.1 c.2 p hc hp, p1, p2, by rw [p3, c3]⟩

open Ex.Dv in
theorem dv_diverges (fuel : Nat) : saturationTable (atMostBuilder dsl 2 "l" 1) dsl.prims a true fuel = none :=
  not_terminates_of_unbounded _ _ _ (fun n => by
    obtain ⟨c, hc, _, _, c3⟩ := dv_unbounded n
    exact ⟨c, hc, by omega⟩) fuel

open Ex.Dv in
theorem dv_candidates : candidates dsl.prims a a = [(g, [a, a]), (l, [])] := by decide +kernel

open Ex.Dv in
theorem dv_occ : ∀ (n : Nat) (t : Prog), Tree.size t ≤ n → ∀ parent, wtT dsl a some t parent a = true →
    1 ≤ occ "l" t ∧ (∀ kids, t = .node g kids → 2 ≤ occ "l" t)
  | 0, t, h, _, _ => by cases t with | node f kids => simp [Tree.size] at h
  | n + 1, .node f kids, hsz, parent, hw => by
    rw [wtT, dv_candidates] at hw
    simp only [List.any_cons, List.any_nil, Bool.or_false, Bool.and_eq_true, Bool.or_eq_true, beq_iff_eq] at hw
    have hs : Tree.sizeList kids ≤ n := by simp [Tree.size] at hsz; omega
    rcases hw.2 with ⟨hf, hk⟩ | ⟨hf, hk⟩
    · subst hf
      cases kids with
      | nil => simp [wtTList] at hk
      | cons k1 ks =>
        cases ks with
        | nil => simp [wtTList] at hk
        | cons k2 ks2 =>
          cases ks2 with
          | cons k3 ks3 => simp [wtTList] at hk
          | nil =>
            simp only [wtTList, Bool.and_eq_true, Bool.and_true] at hk
            have hp1 : 1 ≤ Tree.size k1 := by cases k1 with | node f kids => simp [Tree.size]
            have hp2 : 1 ≤ Tree.size k2 := by cases k2 with | node f kids => simp [Tree.size]
            have hs1 : Tree.size k1 ≤ n := by simp [Tree.sizeList] at hs; omega
            have hs2 : Tree.size k2 ≤ n := by simp [Tree.sizeList] at hs; omega
            have i1 := (dv_occ n k1 hs1 _ hk.1).1
            have i2 := (dv_occ n k2 hs2 _ hk.2).1
            have : occ "l" (.node g [k1, k2]) = (if symStr g = "l" then 1 else 0) + (occ "l" k1 + (occ "l" k2 + 0)) := by
              simp [occ, occList]
            refine ⟨by omega, fun _ _ => by omega⟩
    · subst hf
      cases kids with
      | cons k1 ks => simp [wtTList] at hk
      | nil =>
        have : occ "l" (.node l []) = 1 := by decide +kernel
        refine ⟨by omega, ?_⟩
        intro kids e
        have : l = g := (Tree.node.inj e).1
        exact absurd this (by decide)

open Ex.Dv in
theorem dv_language (t : Prog) : AtMostOcc dsl a "l" 1 t = true ↔ t = .node l [] := by
  constructor
  · intro h
    unfold AtMostOcc at h
    simp only [Bool.and_eq_true, decide_eq_true_eq] at h
    have hret : a.returns = a := rfl
    rw [hret] at h
    cases t with
    | node f kids =>
      have hw := h.1
      have ho := dv_occ (Tree.size (.node f kids)) _ (Nat.le_refl _) none hw
      rw [wtT, dv_candidates] at hw
      simp only [List.any_cons, List.any_nil, Bool.or_false, Bool.and_eq_true, Bool.or_eq_true, beq_iff_eq] at hw
      rcases hw.2 with ⟨hf, _⟩ | ⟨hf, hk⟩
      · subst hf
        have := ho.2 kids rfl
        omega
      · subst hf
        cases kids with
        | cons k1 ks => simp [wtTList] at hk
        | nil => rfl
  · intro h; subst h; decide +kernel

open Ex.Dv in
/-- with a ranking of the types `at_most_k` would return (`atMost_total_ok`) -/
theorem dv_unranked (rkT : AList Ty Nat) : uncountedRanked dsl "l" rkT = false := by
  apply Bool.eq_false_iff.mpr
  intro h
  obtain ⟨g, hg, _⟩ := atMost_total_ok dsl a (by decide) 2 "l" 1 rkT h true _ (Nat.le_refl _)
  rw [atMostK_eq] at hg
  obtain ⟨G0, h0, _⟩ := construct_eq_ok.mp hg
  cases (dv_diverges _).symm.trans h0

end PS.T
