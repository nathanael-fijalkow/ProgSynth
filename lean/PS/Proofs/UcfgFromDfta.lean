/-
  C06: the worklist loop of `UCFG.from_DFTA` / `from_DFTA_with_ngrams`
  (PS/Model/UcfgFromDfta.lean `buildLoop`).
  * invariant: the table has distinct keys, every row is `rowFor` of its key, every start
    symbol and every argument non-terminal of a row is a key or still on the stack;
  * termination of `from_DFTA`: `buildFuel` iterations are always enough.
-/
import PS.Model.UcfgFromDfta
import PS.Proofs.Dfta
import PS.Proofs.Worklist
namespace PS.U.FD
open PS PS.G PS.U

variable {Q U V : Type} [DecidableEq Q] [DecidableEq U] [DecidableEq V]
set_option linter.unusedSectionVars false

theorem insert_of_lookup_none {κ ν : Type} [DecidableEq κ] (k : κ) (v : ν) (d : AList κ ν)
    (h : AList.lookup k d = none) : AList.insert k v d = d ++ [(k, v)] :=
  AList.insert_of_lookup_none v h

theorem keys_append {κ ν : Type} (d e : AList κ ν) :
    AList.keys (d ++ e) = AList.keys d ++ AList.keys e :=
  AList.keys_append d e

theorem buildLoop_cons (F : Flat Q U V) (A : DFTA Sym Q) (fuel : Nat) (tgt : UNT V)
    (stack : List (UNT V)) (nr : AList (UNT V) (Row V)) :
    buildLoop F A (fuel + 1) (tgt :: stack) nr =
      if tgt ∈ AList.keys nr then buildLoop F A fuel stack nr
      else buildLoop F A fuel ((pushesFor F A tgt (AList.keys nr ++ [tgt])).reverse ++ stack)
        (nr ++ [(tgt, rowFor F A tgt)]) := by
  rw [buildLoop]
  by_cases hc : AList.contains tgt nr = true
  · rw [if_pos hc, if_pos (AList.lookup_isSome_iff_mem_keys.mp hc)]
  · rw [if_neg hc, if_neg (mt AList.lookup_isSome_iff_mem_keys.mpr hc), AList.insert_of_not_contains _ hc]
    show buildLoop F A fuel ((pushesFor F A tgt (AList.keys (nr ++ [_]))).reverse ++ stack) _ = _
    rw [AList.keys_snoc]

theorem buildLoop_rule (F : Flat Q U V) (A : DFTA Sym Q)
    (I : List (UNT V) → AList (UNT V) (Row V) → Prop)
    (hdone : ∀ tgt stack nr, I (tgt :: stack) nr → tgt ∈ AList.keys nr → I stack nr)
    (hnew : ∀ tgt stack nr, I (tgt :: stack) nr → tgt ∉ AList.keys nr →
      I ((pushesFor F A tgt (AList.keys nr ++ [tgt])).reverse ++ stack) (nr ++ [(tgt, rowFor F A tgt)])) :
    ∀ (fuel : Nat) (stack : List (UNT V)) (nr res : AList (UNT V) (Row V)),
      I stack nr → buildLoop F A fuel stack nr = some res → I [] res
  | 0, _, _, _, _, h => nomatch h
  | _ + 1, [], _, _, hI, h => by cases h; exact hI
  | fuel + 1, tgt :: stack, nr, res, hI, h => by
    rw [buildLoop_cons] at h
    split at h
    · exact buildLoop_rule F A I hdone hnew fuel _ _ res (hdone tgt stack nr hI ‹_›) h
    · exact buildLoop_rule F A I hdone hnew fuel _ _ res (hnew tgt stack nr hI ‹_›) h

theorem buildLoop_terminates (F : Flat Q U V) (A : DFTA Sym Q)
    (μ : List (UNT V) → AList (UNT V) (Row V) → Nat)
    (hdone : ∀ tgt stack nr, tgt ∈ AList.keys nr → μ stack nr < μ (tgt :: stack) nr)
    (hnew : ∀ tgt stack nr, tgt ∉ AList.keys nr →
      μ ((pushesFor F A tgt (AList.keys nr ++ [tgt])).reverse ++ stack) (nr ++ [(tgt, rowFor F A tgt)]) <
        μ (tgt :: stack) nr) :
    ∀ (fuel : Nat) (stack : List (UNT V)) (nr : AList (UNT V) (Row V)),
      μ stack nr < fuel → ∃ res, buildLoop F A fuel stack nr = some res
  | 0, _, _, h => by omega
  | _ + 1, [], nr, _ => ⟨nr, rfl⟩
  | fuel + 1, tgt :: stack, nr, h => by
    rw [buildLoop_cons]
    split
    · exact buildLoop_terminates F A μ hdone hnew fuel _ _ (by have := hdone tgt stack nr ‹_›; omega)
    · exact buildLoop_terminates F A μ hdone hnew fuel _ _ (by have := hnew tgt stack nr ‹_›; omega)

theorem startsOf_ne_nil (F : Flat Q U V) (A : DFTA Sym Q) (hf : A.finals ≠ []) : startsOf F A ≠ [] := by
  obtain ⟨q, qs, hq⟩ := List.exists_cons_of_ne_nil hf
  have hm : F.root (F.d q) ∈ startsOf F A :=
    (mem_foldl_addNew _ _ _).mpr (Or.inr (by rw [hq]; exact List.mem_cons_self))
  exact List.ne_nil_of_mem hm

theorem build_eq_some (F : Flat Q U V) (A : DFTA Sym Q) (fuel : Nat) (G : UCFG V)
    (h : build F A fuel = some G) :
    G.starts = startsOf F A ∧ buildLoop F A fuel (startsOf F A).reverse [] = some G.rules := by
  revert h
  fun_cases build F A fuel with
  | case1 hs => exact nofun
  | case2 s ss hs hb => exact nofun
  | case3 s ss hs nr hb => intro h; cases h; exact ⟨hs.symm, hs ▸ hb⟩

theorem build_isSome (F : Flat Q U V) (A : DFTA Sym Q) (fuel : Nat) (hf : A.finals ≠ [])
    (h : ∃ res, buildLoop F A fuel (startsOf F A).reverse [] = some res) :
    ∃ G, build F A fuel = some G := by
  obtain ⟨res, hres⟩ := h
  unfold build
  cases hs : startsOf F A with
  | nil => exact absurd hs (startsOf_ne_nil F A hf)
  | cons s ss => rw [hs] at hres; simp only [hres]; exact ⟨_, rfl⟩

/-- closure of the key `k`: the argument non-terminals of its row are in `S` -/
def RowClosed (F : Flat Q U V) (A : DFTA Sym Q) (k : UNT V) (S : UNT V → Prop) : Prop :=
  ∀ r ∈ A.rules, matchesTgt F k r = true → ∀ x ∈ newArgs F k r.1.1 r.1.2, S x

structure Inv (F : Flat Q U V) (A : DFTA Sym Q) (starts stack : List (UNT V))
    (nr : AList (UNT V) (Row V)) : Prop where
  nodup : (AList.keys nr).Nodup
  rows : ∀ e ∈ nr, e.2 = rowFor F A e.1
  closed : ∀ k ∈ AList.keys nr, RowClosed F A k (fun x => x ∈ AList.keys nr ∨ x ∈ stack)
  starts : ∀ s ∈ starts, s ∈ AList.keys nr ∨ s ∈ stack

theorem inv_init (F : Flat Q U V) (A : DFTA Sym Q) (starts : List (UNT V)) :
    Inv F A starts starts.reverse [] :=
  { nodup := List.nodup_nil
    rows := fun _ he => nomatch he
    closed := fun _ hk => nomatch hk
    starts := fun _ hs => Or.inr (List.mem_reverse.mpr hs) }

def childrenOf (F : Flat Q U V) (A : DFTA Sym Q) (k : UNT V) : List (UNT V) :=
  A.rules.flatMap (fun r => if matchesTgt F k r then newArgs F k r.1.1 r.1.2 else [])

theorem mem_childrenOf (F : Flat Q U V) (A : DFTA Sym Q) (k x : UNT V) :
    x ∈ childrenOf F A k ↔ ∃ r ∈ A.rules, matchesTgt F k r = true ∧ x ∈ newArgs F k r.1.1 r.1.2 := by
  refine List.mem_flatMap.trans (exists_congr fun r => and_congr_right fun _ => ?_)
  by_cases hm : matchesTgt F k r = true
  · rw [if_pos hm, and_iff_right hm]
  · rw [if_neg hm]
    exact ⟨nofun, fun h => absurd h.1 hm⟩

theorem pushesFor_eq_filter (F : Flat Q U V) (A : DFTA Sym Q) (tgt : UNT V) (keys : List (UNT V)) :
    pushesFor F A tgt keys = (childrenOf F A tgt).filter (fun k => decide (k ∉ keys)) := by
  unfold pushesFor childrenOf
  rw [List.filter_flatMap]
  congr 1; funext r
  split <;> rfl

theorem mem_pushesFor (F : Flat Q U V) (A : DFTA Sym Q) (tgt : UNT V) (keys : List (UNT V)) (x : UNT V) :
    x ∈ pushesFor F A tgt keys ↔ x ∈ childrenOf F A tgt ∧ x ∉ keys := by
  rw [pushesFor_eq_filter, List.mem_filter, decide_eq_true_eq]

theorem inv_step_done (F : Flat Q U V) (A : DFTA Sym Q) (starts stack : List (UNT V))
    (nr : AList (UNT V) (Row V)) (tgt : UNT V) (h : Inv F A starts (tgt :: stack) nr)
    (hk : tgt ∈ AList.keys nr) : Inv F A starts stack nr :=
  { nodup := h.nodup, rows := h.rows
    closed := fun k hkk r hr hm x hx =>
      mem_or_of_top hk (fun _ h => h) (fun _ h => h) (h.closed k hkk r hr hm x hx)
    starts := fun s hs => mem_or_of_top hk (fun _ h => h) (fun _ h => h) (h.starts s hs) }

theorem inv_step_new (F : Flat Q U V) (A : DFTA Sym Q) (starts stack : List (UNT V))
    (nr : AList (UNT V) (Row V)) (tgt : UNT V) (h : Inv F A starts (tgt :: stack) nr)
    (hnk : tgt ∉ AList.keys nr) :
    Inv F A starts ((pushesFor F A tgt (AList.keys nr ++ [tgt])).reverse ++ stack)
      (nr ++ [(tgt, rowFor F A tgt)]) := by
  have hold : ∀ {x}, x ∈ AList.keys nr ∨ x ∈ tgt :: stack →
      x ∈ AList.keys nr ++ [tgt] ∨ x ∈ (pushesFor F A tgt (AList.keys nr ++ [tgt])).reverse ++ stack :=
    mem_or_of_top (List.mem_append_right _ List.mem_cons_self) (fun _ h => List.mem_append_left _ h)
      (fun _ h => List.mem_append_right _ h)
  refine { nodup := ?_, rows := ?_, closed := ?_, starts := ?_ }
  · exact AList.keys_snoc_nodup _ h.nodup hnk
  · intro e he
    rcases List.mem_append.mp he with h1 | h1
    · exact h.rows e h1
    · rw [List.mem_singleton.mp h1]
  · intro k hkk r hr hm x hx
    rw [AList.keys_snoc] at hkk ⊢
    rcases List.mem_append.mp hkk with h1 | h1
    · exact hold (h.closed k h1 r hr hm x hx)
    · -- the arguments of the new row that are not keys were pushed
      rw [List.mem_singleton.mp h1] at hm hx
      by_cases hxk : x ∈ AList.keys nr ++ [tgt]
      · exact Or.inl hxk
      · exact Or.inr (List.mem_append_left _ (List.mem_reverse.mpr
          ((mem_pushesFor F A tgt _ x).mpr ⟨(mem_childrenOf F A tgt x).mpr ⟨r, hr, hm, hx⟩, hxk⟩)))
  · intro s hs
    rw [AList.keys_snoc]
    exact hold (h.starts s hs)

theorem buildLoop_inv (F : Flat Q U V) (A : DFTA Sym Q) (starts : List (UNT V)) :
    ∀ (fuel : Nat) (stack : List (UNT V)) (nr res : AList (UNT V) (Row V)),
      Inv F A starts stack nr → buildLoop F A fuel stack nr = some res → Inv F A starts [] res :=
  buildLoop_rule F A (Inv F A starts) (fun tgt stack nr => inv_step_done F A starts stack nr tgt)
    (fun tgt stack nr => inv_step_new F A starts stack nr tgt)

/-- what the theorems use of a finished table -/
structure Built (F : Flat Q U V) (A : DFTA Sym Q) (G : UCFG V) : Prop where
  starts_eq : G.starts = startsOf F A
  nodup : (AList.keys G.rules).Nodup
  rows : ∀ e ∈ G.rules, e.2 = rowFor F A e.1
  closed : ∀ k ∈ AList.keys G.rules, RowClosed F A k (fun x => x ∈ AList.keys G.rules)
  starts : ∀ s ∈ G.starts, s ∈ AList.keys G.rules

theorem Built.lookup {F : Flat Q U V} {A : DFTA Sym Q} {G : UCFG V} (hb : Built F A G) {k : UNT V}
    (hk : k ∈ AList.keys G.rules) : AList.lookup k G.rules = some (rowFor F A k) := by
  obtain ⟨e, he, rfl⟩ := List.mem_map.mp hk
  exact hb.rows e he ▸ AList.lookup_of_mem_nodup hb.nodup he

theorem built_of_build (F : Flat Q U V) (A : DFTA Sym Q) (fuel : Nat) (G : UCFG V)
    (h : build F A fuel = some G) : Built F A G := by
  obtain ⟨hs, hb⟩ := build_eq_some F A fuel G h
  have hinv := buildLoop_inv F A (startsOf F A) fuel _ [] _ (inv_init F A _) hb
  exact { starts_eq := hs, nodup := hinv.nodup, rows := hinv.rows
          closed := fun k hk r hr hm x hx => (hinv.closed k hk r hr hm x hx).resolve_right List.not_mem_nil
          starts := fun s hs' => (hinv.starts s (hs ▸ hs')).resolve_right List.not_mem_nil }

/-! ### every key comes from the start symbols through `child` -/

theorem mem_newArgs {F : Flat Q U V} (k : UNT V) (f : Sym) (as : List Q) (x : UNT V)
    (hx : x ∈ newArgs F k f as) : ∃ a ∈ as, ∃ i, x = F.child k f i (F.d a) := by
  obtain ⟨⟨a, i⟩, hai, e⟩ := List.mem_map.mp hx
  exact ⟨a, by rw [(List.mem_zipIdx hai).2.2]; exact List.getElem_mem _, i, e.symm⟩

theorem buildLoop_keys (F : Flat Q U V) (A : DFTA Sym Q) (P : UNT V → Prop)
    (hstep : ∀ k, P k → ∀ r ∈ A.rules, matchesTgt F k r = true → ∀ x ∈ newArgs F k r.1.1 r.1.2, P x) :
    ∀ (fuel : Nat) (stack : List (UNT V)) (nr res : AList (UNT V) (Row V)),
      (∀ k ∈ stack, P k) → (∀ k ∈ AList.keys nr, P k) → buildLoop F A fuel stack nr = some res →
      ∀ k ∈ AList.keys res, P k := by
  intro fuel stack nr res hs hk h
  refine (buildLoop_rule F A (fun stack nr => (∀ k ∈ stack, P k) ∧ ∀ k ∈ AList.keys nr, P k)
    ?_ ?_ fuel stack nr res ⟨hs, hk⟩ h).2
  · exact fun tgt stack nr hI _ => ⟨fun k hkk => hI.1 k (List.mem_cons_of_mem _ hkk), hI.2⟩
  · intro tgt stack nr hI _
    have hPt : P tgt := hI.1 tgt List.mem_cons_self
    refine ⟨fun k hkk => ?_, fun k hkk => ?_⟩
    · rcases List.mem_append.mp hkk with h1 | h1
      · obtain ⟨r, hr, hm, hx⟩ :=
          (mem_childrenOf F A tgt k).mp ((mem_pushesFor F A tgt _ k).mp (List.mem_reverse.mp h1)).1
        exact hstep tgt hPt r hr hm k hx
      · exact hI.1 k (List.mem_cons_of_mem _ h1)
    · rw [AList.keys_snoc] at hkk
      rcases List.mem_append.mp hkk with h1 | h1
      · exact hI.2 k h1
      · exact List.mem_singleton.mp h1 ▸ hPt

theorem build_keys_image (F : Flat Q U V) (A : DFTA Sym Q)
    (hpc : ∀ tgt P i x, F.proj (F.child tgt P i x) = x) (hpr : ∀ x, F.proj (F.root x) = x)
    (fuel : Nat) (G : UCFG V) (h : build F A fuel = some G) :
    ∀ k ∈ AList.keys G.rules, ∃ q ∈ A.allStates, F.proj k = F.d q := by
  refine buildLoop_keys F A (fun k => ∃ q ∈ A.allStates, F.proj k = F.d q) ?_ fuel _ [] _ ?_
    (fun k hk => nomatch hk) (build_eq_some F A fuel G h).2
  · intro k _ r hr _ x hx
    obtain ⟨a, ha, i, rfl⟩ := mem_newArgs k r.1.1 r.1.2 x hx
    exact ⟨a, (DFTA.mem_allStates_of_rule A (l := r.1.1) (args := r.1.2) (d := r.2) hr).2 a ha, hpc _ _ _ _⟩
  · intro k hk
    rcases (mem_foldl_addNew _ _ _).mp (List.mem_reverse.mp hk) with h1 | h1
    · cases h1
    · obtain ⟨q, hq, rfl⟩ := List.mem_map.mp h1
      exact ⟨q, List.mem_append_right _ hq, hpr _⟩

section Termination
variable (d : Q → UNT U) (A : DFTA Sym Q)

/-- argument positions of the rules whose target is not yet a key -/
def pending (keys : List (UNT U)) : Nat :=
  (A.rules.map (fun r => if d r.2 ∈ keys then 0 else r.1.2.length)).sum

def costOf (tgt : UNT U) : Nat :=
  (A.rules.map (fun r => if d r.2 = tgt then r.1.2.length else 0)).sum

theorem pending_nil : pending d A [] = A.argCount := by
  simp [pending, DFTA.argCount]

theorem pending_add (keys : List (UNT U)) (tgt : UNT U) (h : tgt ∉ keys) :
    pending d A (keys ++ [tgt]) + costOf d A tgt = pending d A keys := by
  unfold pending costOf
  induction A.rules with
  | nil => rfl
  | cons r rs ih =>
    simp only [List.map_cons, List.sum_cons]
    by_cases h1 : d r.2 = tgt
    · have h2 : d r.2 ∉ keys := fun e => h (h1 ▸ e)
      have h3 : d r.2 ∈ keys ++ [tgt] := by simp [h1]
      rw [if_pos h3, if_pos h1, if_neg h2]
      omega
    · have h3 : d r.2 ∈ keys ++ [tgt] ↔ d r.2 ∈ keys := by simp [h1]
      rw [if_neg h1]
      by_cases h4 : d r.2 ∈ keys
      · rw [if_pos (h3.mpr h4), if_pos h4]; omega
      · rw [if_neg (fun e => h4 (h3.mp e)), if_neg h4]; omega

theorem newArgs_length (F : Flat Q U V) (tgt : UNT V) (P : Sym) (args : List Q) :
    (newArgs F tgt P args).length = args.length := by
  simp [newArgs]

theorem childrenOf_length (tgt : UNT U) : (childrenOf (plainFlat d) A tgt).length = costOf d A tgt := by
  unfold childrenOf costOf
  rw [List.length_flatMap]
  refine congrArg List.sum (List.map_congr_left fun r _ => ?_)
  have hm : matchesTgt (plainFlat d) tgt r = decide (d r.2 = tgt) := rfl
  by_cases h : d r.2 = tgt
  · rw [hm, if_pos (decide_eq_true h), if_pos h, newArgs_length]
  · rw [hm, if_neg (by simpa using h), if_neg h]; rfl

theorem pushes_length_le (tgt : UNT U) (keys : List (UNT U)) :
    (pushesFor (plainFlat d) A tgt keys).length ≤ costOf d A tgt := by
  rw [pushesFor_eq_filter, ← childrenOf_length]
  exact List.length_filter_le _ _

/-- The measure is the stack length plus `pending`: every iteration pops the stack, and what a new key pushes is
    paid for by the argument positions of the rules read at it.  For the other schemes (n-grams) see
    `build_terminates` in PS/Proofs/UcfgFromDftaTerm.lean, which needs an acyclic flattened image. -/
theorem fromDFTA_terminates (hf : A.finals ≠ []) : ∃ G, fromDFTA d A = some G := by
  refine build_isSome _ A _ hf (buildLoop_terminates (plainFlat d) A
    (fun stack nr => stack.length + pending d A (AList.keys nr)) ?_ ?_ _ _ [] ?_)
  · intro tgt stack nr _
    simp only [List.length_cons]
    omega
  · intro tgt stack nr hnk
    have h1 := pending_add d A (AList.keys nr) tgt hnk
    have h2 := pushes_length_le d A tgt (AList.keys nr ++ [tgt])
    simp only [AList.keys_snoc, List.length_append, List.length_reverse, List.length_cons]
    omega
  · show (startsOf (plainFlat d) A).reverse.length + pending d A [] < buildFuel (plainFlat d) A
    rw [pending_nil, List.length_reverse]
    exact Nat.lt_succ_self _

end Termination

theorem acyclic_of_acyclicB (A : DFTA Sym Q) (h : acyclicB A = true) : Acyclic A := by
  unfold acyclicB at h
  simp only [List.all_eq_true, decide_eq_true_eq] at h
  exact ⟨rankOf A (A.rules.length + 1), fun r hr a ha => h r hr a ha⟩

theorem d2Injective_iff {fixed : Bool} {A : DFTA Sym PyVal} : d2Injective fixed A = true ↔
    ∀ q ∈ A.allStates, ∀ q' ∈ A.allStates, d2 fixed q = d2 fixed q' → q = q' := by
  unfold d2Injective
  simp only [List.all_eq_true, decide_eq_true_eq]

theorem d2state_state (fixed : Bool) (t : Ty) (x : PyVal) :
    d2state fixed (PyVal.state t x) = some (t, x) := by
  unfold PyVal.state
  rw [d2state]

end PS.U.FD
