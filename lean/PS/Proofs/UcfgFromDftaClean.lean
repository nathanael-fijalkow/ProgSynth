/-
  C06: `UCFG.clean()` (PS/Model/UcfgFromDfta.lean `clean`) keeps the language, for every
  unambiguous grammar none of whose non-terminals has the type `UnknownType` (the end-of-derivation
  marker), whenever it returns (`clean_contains`).

  `clean()` explores configurations (pending stack, non-terminal) and keeps the rows of the
  non-terminals it reached.  The invariant `CInv` of its `while to_test` loop says: every start
  configuration is in `done`; every configuration of `done` is an end marker, still to be tested, or
  expanded (all its successors by `derive` are in `done`); its non-terminal is in `reached`.  At the
  exit nothing is left to test, so a derivation in the grammar only visits configurations of `done`
  and is a derivation of any grammar that has the rows of the reached non-terminals (`keep`).
-/
import PS.Model.UcfgFromDfta
import PS.Proofs.UcfgFromDftaLang
namespace PS.U.CL
open PS PS.G PS.U

variable {U : Type} [DecidableEq U]
set_option linter.unusedSectionVars false

/-- `st'` extends `st`: every configuration added to `done` is an end marker or was put on the work list, and its
    non-terminal was added to `reached` -/
structure Ext (st st' : CleanSt U) : Prop where
  done_sub : ∀ c ∈ st.done, c ∈ st'.done
  test_sub : ∀ x ∈ st.toTest, x ∈ st'.toTest
  reach_sub : ∀ x ∈ st.reached, x ∈ st'.reached
  fresh : ∀ c ∈ st'.done, c ∈ st.done ∨ ((c.2.1 = Ty.unknown ∨ (c.2, c.1) ∈ st'.toTest) ∧ c.2 ∈ st'.reached)

theorem Ext.refl (st : CleanSt U) : Ext st st :=
  ⟨fun _ h => h, fun _ h => h, fun _ h => h, fun _ h => Or.inl h⟩

theorem Ext.trans {a b c : CleanSt U} (h1 : Ext a b) (h2 : Ext b c) : Ext a c :=
  { done_sub := fun x hx => h2.done_sub x (h1.done_sub x hx)
    test_sub := fun x hx => h2.test_sub x (h1.test_sub x hx)
    reach_sub := fun x hx => h2.reach_sub x (h1.reach_sub x hx)
    fresh := by
      intro x hx
      rcases h2.fresh x hx with h | h
      · rcases h1.fresh x h with h' | ⟨h', h''⟩
        · exact Or.inl h'
        · right
          refine ⟨?_, h2.reach_sub _ h''⟩
          rcases h' with h' | h'
          · exact Or.inl h'
          · exact Or.inr (h2.test_sub _ h')
      · exact Or.inr h }

theorem ext_visit (st : CleanSt U) (a : List (UNT U) × UNT U × List (UNT U)) :
    Ext st (cleanVisit st a) ∧ (a.1, a.2.1) ∈ (cleanVisit st a).done := by
  unfold cleanVisit
  by_cases h : (a.1, a.2.1) ∈ st.done
  · rw [if_pos h]
    exact ⟨Ext.refl st, h⟩
  · rw [if_neg h]
    refine ⟨⟨?_, ?_, ?_, ?_⟩, ?_⟩
    · intro c hc; exact List.mem_append_left _ hc
    · intro x hx
      simp only
      split
      · exact hx
      · exact List.mem_cons_of_mem _ hx
    · intro x hx
      exact (mem_addNew _ _ _).mpr (Or.inl hx)
    · intro c hc
      simp only at hc
      rcases List.mem_append.mp hc with h1 | h1
      · exact Or.inl h1
      · simp only [List.mem_singleton] at h1
        subst h1
        right
        refine ⟨?_, (mem_addNew _ _ _).mpr (Or.inr rfl)⟩
        simp only
        by_cases hu : a.2.1.1 = Ty.unknown
        · exact Or.inl hu
        · right; rw [if_neg hu]; exact List.mem_cons_self
    · simp

theorem ext_fold (L : List (List (UNT U) × UNT U × List (UNT U))) :
    ∀ (st : CleanSt U), Ext st (L.foldl cleanVisit st) ∧
      ∀ a ∈ L, (a.1, a.2.1) ∈ (L.foldl cleanVisit st).done := by
  induction L with
  | nil => intro st; exact ⟨Ext.refl st, by intro a ha; cases ha⟩
  | cons x xs ih =>
    intro st
    rw [List.foldl_cons]
    obtain ⟨e1, m1⟩ := ext_visit st x
    obtain ⟨e2, m2⟩ := ih (cleanVisit st x)
    refine ⟨e1.trans e2, ?_⟩
    intro a ha
    rcases List.mem_cons.mp ha with h | h
    · subst h; exact e2.done_sub _ m1
    · exact m2 a h

theorem mem_derive_row (G : UCFG U) (S : UNT U) (info : List (UNT U)) (row : Row U)
    (hl : AList.lookup S G.rules = some row) (a : List (UNT U) × UNT U × List (UNT U)) :
    a ∈ row.flatMap (fun e => derive G info S e.1) ↔
      ∃ f cands args, G.alts? S f = some cands ∧ args ∈ cands ∧ a = deriveOne G info args := by
  simp only [List.mem_flatMap, derive]
  constructor
  · rintro ⟨e, _, ha⟩
    cases hc : G.alts? S e.1 with
    | none => rw [hc] at ha; cases ha
    | some cands =>
      rw [hc] at ha
      obtain ⟨args, hargs, rfl⟩ := List.mem_map.mp ha
      exact ⟨e.1, cands, args, hc, hargs, rfl⟩
  · rintro ⟨f, cands, args, hc, hargs, rfl⟩
    have hf : AList.lookup f row = some cands := (UCFG.alts?_of_lookup hl f).symm.trans hc
    exact ⟨(f, cands), AList.lookup_some_mem hf, by rw [hc]; exact List.mem_map.mpr ⟨args, hargs, rfl⟩⟩

def Expanded (G : UCFG U) (done : List (List (UNT U) × UNT U)) (c : List (UNT U) × UNT U) : Prop :=
  ∃ row, AList.lookup c.2 G.rules = some row ∧
    ∀ a ∈ row.flatMap (fun e => derive G c.1 c.2 e.1), (a.1, a.2.1) ∈ done

structure CInv (G : UCFG U) (st : CleanSt U) : Prop where
  starts_done : ∀ s ∈ G.starts, ([], s) ∈ st.done
  starts_reached : ∀ s ∈ G.starts, s ∈ st.reached
  status : ∀ c ∈ st.done, c.2.1 = Ty.unknown ∨ (c.2, c.1) ∈ st.toTest ∨ Expanded G st.done c
  reached_done : ∀ c ∈ st.done, c.2 ∈ st.reached

theorem cinv_init (G : UCFG U) : CInv G (cleanInit G) := by
  unfold cleanInit
  refine ⟨?_, ?_, ?_, ?_⟩
  · intro s hs; exact List.mem_map.mpr ⟨s, hs, rfl⟩
  · intro s hs; exact hs
  · intro c hc
    simp only at hc
    obtain ⟨s, hs, rfl⟩ := List.mem_map.mp hc
    right; left
    simp only
    exact List.mem_reverse.mpr (List.mem_map.mpr ⟨s, hs, rfl⟩)
  · intro c hc
    simp only at hc
    obtain ⟨s, hs, rfl⟩ := List.mem_map.mp hc
    exact hs

theorem cinv_step (G : UCFG U) (st : CleanSt U) (S : UNT U) (info : List (UNT U))
    (rest : List (UNT U × List (UNT U))) (row : Row U) (hinv : CInv G st)
    (ht : st.toTest = (S, info) :: rest) (hl : AList.lookup S G.rules = some row) :
    CInv G (cleanExpand G S info row { st with toTest := rest }) := by
  unfold cleanExpand
  obtain ⟨ext, mem⟩ := ext_fold (row.flatMap (fun e => derive G info S e.1)) { st with toTest := rest }
  refine ⟨?_, ?_, ?_, ?_⟩
  · intro s hs; exact ext.done_sub _ (hinv.starts_done s hs)
  · intro s hs; exact ext.reach_sub _ (hinv.starts_reached s hs)
  · intro c hc
    rcases ext.fresh c hc with h | ⟨h, _⟩
    · rcases hinv.status c h with h1 | h1 | h1
      · exact Or.inl h1
      · rw [ht] at h1
        rcases List.mem_cons.mp h1 with h2 | h2
        · -- the configuration that was just expanded
          right; right
          have hc2 : c.2 = S := (Prod.mk.inj h2).1
          have hc1 : c.1 = info := (Prod.mk.inj h2).2
          exact ⟨row, by rw [hc2]; exact hl, by rw [hc1, hc2]; exact mem⟩
        · right; left; exact ext.test_sub _ h2
      · right; right
        obtain ⟨row', h1, h2⟩ := h1
        exact ⟨row', h1, fun a ha => ext.done_sub _ (h2 a ha)⟩
    · rcases h with h | h
      · exact Or.inl h
      · exact Or.inr (Or.inl h)
  · intro c hc
    rcases ext.fresh c hc with h | ⟨_, h⟩
    · exact ext.reach_sub _ (hinv.reached_done c h)
    · exact h

theorem cleanLoop_inv (G : UCFG U) : ∀ (fuel : Nat) (st st' : CleanSt U), CInv G st →
    cleanLoop G fuel st = some st' → CInv G st' ∧ st'.toTest = [] := by
  intro fuel st
  fun_induction cleanLoop G fuel st with
  | case1 st => exact fun _ _ => nofun
  | case2 fuel st ht => intro st' hinv h; cases h; exact ⟨hinv, ht⟩
  | case3 fuel st S info rest ht hl => exact fun _ _ => nofun
  | case4 fuel st S info rest ht row hl ih =>
    exact fun st' hinv h => ih st' (cinv_step G st S info rest row hinv ht hl) h

/-- the grammar after its rows were filtered by `reached` (u_cfg.py:100-104) -/
def restrict (G : UCFG U) (reached : List (UNT U)) : UCFG U :=
  { G with rules := G.rules.filter (fun e => decide (e.1 ∈ reached)) }

theorem alts_restrict (G : UCFG U) (reached : List (UNT U)) (nt : UNT U) (f : Sym) :
    (restrict G reached).alts? nt f = if nt ∈ reached then G.alts? nt f else none := by
  unfold UCFG.alts? restrict
  simp only
  rw [AList.lookup_filter_key (fun k => decide (k ∈ reached))]
  by_cases h : nt ∈ reached
  · simp [h]
  · simp [h]

section Keep
variable (G : UCFG U) (st : CleanSt U) (hinv : CInv G st) (hT : st.toTest = [])
  (hK : ∀ k ∈ AList.keys G.rules, k.1 ≠ Ty.unknown)
include hinv hT hK

theorem expanded_alt (info : List (UNT U)) (nt : UNT U) (hc : (info, nt) ∈ st.done) (f : Sym)
    (cands : List (List (UNT U))) (ha : G.alts? nt f = some cands) (args : List (UNT U))
    (hargs : args ∈ cands) : pop G (args ++ info) ∈ st.done := by
  rcases hinv.status _ hc with h | h | ⟨row, hrow, hall⟩
  · have hk : nt ∈ AList.keys G.rules :=
      have ⟨_, hl, _⟩ := UCFG.alts?_eq_some.mp ha
      AList.mem_keys_of_lookup hl
    exact absurd h (hK nt hk)
  · rw [hT] at h; cases h
  · rw [← deriveOne_pop]
    exact hall _ ((mem_derive_row G nt info row hrow _).mpr ⟨f, cands, args, ha, hargs, rfl⟩)

/-- Beside the derivation in `G'` the induction carries that the configuration reached after a sub-derivation
    (`pop G info`) is in `done` again: that hands the stack on to the next sibling.  Hence the motive for lists asks
    of `args` only that its first configuration is in `done`, and answers `pop G info ∈ done` when there was an
    argument to pass through. -/
theorem keep (G' : UCFG U) (hG' : ∀ nt ∈ st.reached, ∀ f, G'.alts? nt f = G.alts? nt f) :
    ∀ (t : Prog) (nt : UNT U) (info : List (UNT U)), (info, nt) ∈ st.done →
    derivs G t nt ≠ [] → derivs G' t nt ≠ [] ∧ pop G info ∈ st.done := by
  refine (Tree.ind₂ (Q := fun ks => ∀ (args info : List (UNT U)),
      (∀ a rest, args = a :: rest → (rest ++ info, a) ∈ st.done) → derivsList G ks args ≠ [] →
      derivsList G' ks args ≠ [] ∧ (args ≠ [] → pop G info ∈ st.done)) ?_ ?_ ?_).1
  · intro f kids ih nt info hc h
    obtain ⟨cands, hca, args, ha, hne⟩ := (derivs_ne_nil_iff G f kids nt).mp h
    have hpop := expanded_alt G st hinv hT hK info nt hc f cands hca args ha
    have hr : nt ∈ st.reached := hinv.reached_done _ hc
    obtain ⟨h1, h2⟩ := ih args info (by
      intro a rest e
      subst e
      exact hpop) hne
    refine ⟨(derivs_ne_nil_iff _ f kids nt).mpr ⟨cands, (hG' nt hr f).trans hca, args, ha, h1⟩, ?_⟩
    cases args with
    | nil => exact hpop
    | cons a rest => exact h2 (by simp)
  · intro args info hyp h
    cases args with
    | nil => exact ⟨by simp [derivsList], fun e => absurd rfl e⟩
    | cons a as => simp [derivsList] at h
  · intro k ks ihk ihks args info hyp h
    cases args with
    | nil => simp [derivsList] at h
    | cons a as =>
      rw [derivsList_cons_ne_nil_iff] at h
      obtain ⟨k1, kpop⟩ := ihk a (as ++ info) (hyp a as rfl) h.1
      obtain ⟨l1, lpop⟩ := ihks as info (by
        intro a2 rest e
        subst e
        exact kpop) h.2
      refine ⟨(derivsList_cons_ne_nil_iff _ k ks a as).mpr ⟨k1, l1⟩, fun _ => ?_⟩
      cases as with
      | nil => exact kpop
      | cons a2 rest => exact lpop (by simp)

end Keep


theorem contains_iff (G : UCFG U) (t : Prog) :
    contains G t = true ↔ ∃ s ∈ G.starts, derivs G t s ≠ [] := by
  rw [contains_eq_genU, genU_iff]

theorem derivs_length_le (G G' : UCFG U)
    (h : ∀ nt f, G'.alts? nt f = none ∨ G'.alts? nt f = G.alts? nt f) :
    ∀ (t : Prog) (nt : UNT U), (derivs G' t nt).length ≤ (derivs G t nt).length := by
  refine (Tree.ind₂ (Q := fun ks => ∀ args,
      (derivsList G' ks args).length ≤ (derivsList G ks args).length) ?_ ?_ ?_).1
  · intro f kids ih nt
    rw [derivs, derivs]
    rcases h nt f with e | e <;> rw [e]
    · exact Nat.zero_le _
    · cases G.alts? nt f with
      | none => exact Nat.le_refl _
      | some cands =>
        simp only
        rw [length_flatMap_map, length_flatMap_map]
        exact sum_le_sum _ _ _ (fun args _ => ih args)
  · intro args
    cases args <;> simp [derivsList]
  · intro k ks ihk ihks args
    cases args with
    | nil => simp [derivsList]
    | cons a as =>
      rw [derivsList, derivsList, length_flatMap_const, length_flatMap_const]
      exact Nat.mul_le_mul (ihk a) (ihks as)

theorem alts_of_rules {G Gc : UCFG U} {reached : List (UNT U)} (h : Gc.rules = (restrict G reached).rules) (nt : UNT U)
    (f : Sym) : Gc.alts? nt f = if nt ∈ reached then G.alts? nt f else none := by
  rw [← alts_restrict]; unfold UCFG.alts?; rw [h]

theorem clean_eq (G : UCFG U) (fuel : Nat) (Gc : UCFG U) (h : clean G fuel = some Gc) :
    ∃ st, cleanLoop G fuel (cleanInit G) = some st ∧ CInv G st ∧ st.toTest = [] ∧
      Gc.rules = (restrict G st.reached).rules ∧
      Gc.starts = G.starts.filter (startKept (restrict G st.reached) st.done) := by
  revert h
  fun_cases clean G fuel with
  | case1 hloop => exact nofun
  | case2 st hloop G' =>
    intro h; cases h
    obtain ⟨hinv, hT⟩ := cleanLoop_inv G fuel _ st (cinv_init G) hloop
    exact ⟨st, hloop, hinv, hT, rfl, rfl⟩

theorem clean_starts_sub (G : UCFG U) (fuel : Nat) (Gc : UCFG U) (h : clean G fuel = some Gc) :
    ∀ s ∈ Gc.starts, s ∈ G.starts := by
  obtain ⟨st, _, _, _, _, hstarts⟩ := clean_eq G fuel Gc h
  rw [hstarts]
  exact fun s hs => (List.mem_filter.mp hs).1

theorem clean_keeps (G : UCFG U) (hK : ∀ k ∈ AList.keys G.rules, k.1 ≠ Ty.unknown) (fuel : Nat)
    (Gc : UCFG U) (h : clean G fuel = some Gc) (t : Prog) (s : UNT U) (hs : s ∈ G.starts)
    (hne : derivs G t s ≠ []) : s ∈ Gc.starts ∧ derivs Gc t s ≠ [] := by
  obtain ⟨st, _, hinv, hT, hrules, hstarts⟩ := clean_eq G fuel Gc h
  have hc : (([] : List (UNT U)), s) ∈ st.done := hinv.starts_done s hs
  refine ⟨?_, (keep G st hinv hT hK Gc (fun nt hr f => (alts_of_rules hrules nt f).trans (if_pos hr)) t s [] hc hne).1⟩
  rw [hstarts]
  refine List.mem_filter.mpr ⟨hs, ?_⟩
  -- the first step of the derivation is a witness for `has_one`
  obtain ⟨f, kids⟩ := t
  obtain ⟨cands, hca, args, ha, _⟩ := (derivs_ne_nil_iff G f kids s).mp hne
  have hpop := expanded_alt G st hinv hT hK [] s hc f cands hca args ha
  have hca' : (restrict G st.reached).alts? s f = some cands := by
    rw [alts_restrict, if_pos (hinv.starts_reached s hs)]; exact hca
  unfold startKept
  cases hl : AList.lookup s (restrict G st.reached).rules with
  | none => rw [UCFG.alts?_of_lookup_none hl] at hca'; cases hca'
  | some row =>
    simp only
    rw [List.any_eq_true]
    refine ⟨_, (mem_derive_row _ s [] row hl _).mpr ⟨f, cands, args, hca', ha, rfl⟩, ?_⟩
    have e : deriveOne (restrict G st.reached) [] args = deriveOne G [] args := by
      cases args <;> rfl
    rw [e, deriveOne_pop]
    simp only [Bool.or_eq_true, decide_eq_true_eq]
    exact Or.inl hpop

theorem clean_derivs_le (G : UCFG U) (fuel : Nat) (Gc : UCFG U) (h : clean G fuel = some Gc)
    (t : Prog) (s : UNT U) : (derivs Gc t s).length ≤ (derivs G t s).length := by
  obtain ⟨st, _, _, _, hrules, _⟩ := clean_eq G fuel Gc h
  refine derivs_length_le G Gc (fun nt f => ?_) t s
  rw [alts_of_rules hrules]
  split
  · exact Or.inr rfl
  · exact Or.inl rfl

theorem clean_derivs_sub (G : UCFG U) (fuel : Nat) (Gc : UCFG U) (h : clean G fuel = some Gc)
    (t : Prog) (s : UNT U) (hne : derivs Gc t s ≠ []) : derivs G t s ≠ [] :=
  List.ne_nil_of_length_pos
    (Nat.lt_of_lt_of_le (List.length_pos_iff.mpr hne) (clean_derivs_le G fuel Gc h t s))

theorem clean_contains (G : UCFG U) (hK : ∀ k ∈ AList.keys G.rules, k.1 ≠ Ty.unknown) (fuel : Nat)
    (Gc : UCFG U) (h : clean G fuel = some Gc) (t : Prog) : contains Gc t = contains G t := by
  rw [Bool.eq_iff_iff, contains_iff, contains_iff]
  constructor
  · rintro ⟨s, hs, hne⟩
    exact ⟨s, clean_starts_sub G fuel Gc h s hs, clean_derivs_sub G fuel Gc h t s hne⟩
  · rintro ⟨s, hs, hne⟩
    obtain ⟨h1, h2⟩ := clean_keeps G hK fuel Gc h t s hs hne
    exact ⟨s, h1, h2⟩

theorem clean_done_closed (G : UCFG U) (fuel : Nat) (st : CleanSt U)
    (h : cleanState G fuel = some st) :
    (∀ s ∈ G.starts, ([], s) ∈ st.done) ∧
    (∀ c ∈ st.done, c.2.1 = Ty.unknown ∨ Expanded G st.done c) ∧
    (∀ c ∈ st.done, c.2 ∈ st.reached) := by
  obtain ⟨hinv, hT⟩ := cleanLoop_inv G fuel _ st (cinv_init G) h
  refine ⟨hinv.starts_done, ?_, hinv.reached_done⟩
  intro c hc
  rcases hinv.status c hc with h1 | h1 | h1
  · exact Or.inl h1
  · rw [hT] at h1; cases h1
  · exact Or.inr h1


theorem clean_allDerivs_le (G : UCFG U) (fuel : Nat) (Gc : UCFG U) (h : clean G fuel = some Gc)
    (t : Prog) : (allDerivs Gc t).length ≤ (allDerivs G t).length := by
  obtain ⟨st, _, _, _, _, hstarts⟩ := clean_eq G fuel Gc h
  rw [length_allDerivs, length_allDerivs, hstarts, sum_filter_map]
  refine sum_le_sum _ _ _ fun s _ => ?_
  split
  · exact clean_derivs_le G fuel Gc h t s
  · exact Nat.zero_le _

theorem clean_allDerivs_length (G : UCFG U) (hK : ∀ k ∈ AList.keys G.rules, k.1 ≠ Ty.unknown)
    (fuel : Nat) (Gc : UCFG U) (h : clean G fuel = some Gc) (t : Prog)
    (hu : (allDerivs G t).length ≤ 1) : (allDerivs Gc t).length = (allDerivs G t).length := by
  refine Nat.le_antisymm (clean_allDerivs_le G fuel Gc h t) ?_
  by_cases hp : 0 < (allDerivs G t).length
  · have hg : genU Gc t = true := by
      rw [← contains_eq_genU, clean_contains G hK fuel Gc h t, contains_eq_genU]
      exact genU_iff_pos.mpr hp
    exact Nat.le_trans hu (genU_iff_pos.mp hg)
  · omega

end PS.U.CL

namespace PS.U.FD
open PS PS.G PS.U DFTA
variable {Q U V : Type} [DecidableEq Q] [DecidableEq U] [DecidableEq V]

theorem clean_of_built {F : Flat Q U V} {A : DFTA Sym Q} {G : UCFG V} (hb : Built F A G)
    (ok : FlatOK F A) (hd : A.Det) (hK : ∀ k ∈ AList.keys G.rules, k.1 ≠ Ty.unknown) (fuel : Nat)
    (Gc : UCFG V) (hc : clean G fuel = some Gc) (t : Prog) :
    contains Gc t = A.accepts t ∧
    (reduceAll Gc t).length = if A.accepts t = true then 1 else 0 := by
  have hu : (allDerivs G t).length ≤ 1 := by
    rw [allDerivs_length hb ok hd t]
    split <;> omega
  exact ⟨(CL.clean_contains G hK fuel Gc hc t).trans (contains_eq_accepts hb ok hd t), by
    rw [reduceAll_length_eq, CL.clean_allDerivs_length G hK fuel Gc hc t hu, allDerivs_length hb ok hd t]⟩

end PS.U.FD
