/-
  C13: what `clean()` guarantees about the table it returns (ttcfg.py:233-266): the last
  inner pass (the one that reports no change) visits every configuration that the machine it walks
  itself reaches from the start symbol - `VSteps G nr`: rules of the ORIGINAL table `G` whose symbol
  is still in the marks `nr`, followed when the next non-terminal is a key of `G` - and at each of them
    * the row of the non-terminal is not empty,
    * every rule that takes arguments has the non-terminal of its first argument in the result
      (if it is a non-terminal of the original table at all).
  So a derivation can always descend along first arguments down to a leaf; where it can get stuck is
  only after a complete sub-term, at the non-terminal of a later argument (finding C13-F5).
  `VSteps G nr` is not `Steps (restrict G nr)`, the derivation machine of the table returned, in which
  `closed_complete` and `no_repair_of_witness` are stated; no lemma relates the two.
-/
import PS.Proofs.TtcfgCleanLang
namespace PS.T
open PS PS.G

variable {S T : Type} [DecidableEq S] [DecidableEq T]

def ValsNodup (nr : Marks S T) : Prop := ∀ rule l, AList.lookup rule nr = some l → l.Nodup

/-- `nr'` is `nr` with some symbols removed from some rows, no row emptied, no key added or removed -/
structure Shr (nr nr' : Marks S T) : Prop where
  keys : ∀ k, AList.contains k nr' = AList.contains k nr
  sub : ∀ rule l', AList.lookup rule nr' = some l' →
    ∃ l, AList.lookup rule nr = some l ∧ (∀ x ∈ l', x ∈ l) ∧ (l' = [] → l = [])
  nodup : ValsNodup nr → ValsNodup nr'

theorem Shr.refl (nr : Marks S T) : Shr nr nr :=
  ⟨fun _ => rfl, fun _ l' h => ⟨l', h, fun _ hx => hx, id⟩, id⟩

theorem Shr.trans {a b c : Marks S T} (h1 : Shr a b) (h2 : Shr b c) : Shr a c := by
  refine ⟨fun k => (h2.keys k).trans (h1.keys k), ?_, fun h => h2.nodup (h1.nodup h)⟩
  intro rule l' hl'
  obtain ⟨l1, g1, g2, g3⟩ := h2.sub rule l' hl'
  obtain ⟨l0, f1, f2, f3⟩ := h1.sub rule l1 g1
  exact ⟨l0, f1, fun x hx => f2 x (g2 x hx), fun e => f3 (g3 e)⟩

/-- a symbol `P` still in the row of `rule` after the visit of `(rule, info)` had its next configuration
    pushed, and its next non-terminal had a mark before the visit unless the rule is a leaf (the pending
    stack got shorter).  `ValsNodup nrIn` is a premise because `erase` takes one copy of `P` out of the row:
    only in a row without repetitions does "still in the row" exclude that `P` has been removed. -/
def PFact (G : TT S T) (rule : NT S T) (info : List (Ty × S)) (P : Sym) (nrIn nrOut : Marks S T)
    (pushes : List (CConfig S T)) : Prop :=
  ∀ l1, AList.lookup rule nrOut = some l1 → P ∈ l1 → ValsNodup nrIn → ∀ args s, G.rule? rule P = some (args, s) →
    inRules G (deriveWith info rule args s).2 = true →
    (AList.contains (deriveWith info rule args s).2 nrIn = true ∨ (deriveWith info rule args s).1.length < info.length) ∧
    ((deriveWith info rule args s).2, (deriveWith info rule args s).1) ∈ pushes

theorem passStep_last (G : TT S T) (rule : NT S T) (info : List (Ty × S))
    (st st' : Marks S T × Bool × List (CConfig S T)) (P : Sym) (h : PassCase G rule info st P st')
    (hch : st'.2.1 = false) :
    st.2.1 = false ∧ Shr st.1 st'.1 ∧ PFact G rule info P st.1 st'.1 st'.2.2 := by
  cases h with
  | skip hno =>
    refine ⟨hch, Shr.refl _, ?_⟩
    intro l1 _ _ _ args s hr hin
    rw [hno args s hr] at hin
    cases hin
  | drop args s _ _ _ _ _ => cases hch
  | shrink args s l _ _ _ _ hl hne =>
    refine ⟨hch, ⟨?_, ?_, ?_⟩, ?_⟩
    · intro k
      rw [contains_insert]
      by_cases he : k = rule
      · subst he; simp [AList.contains_of_lookup hl]
      · simp [he]
    · exact forall_lookup_insert (fun rule' l' hl' => ⟨l', hl', fun x hx => hx, id⟩)
        ⟨l, hl, fun x hx => List.mem_of_mem_erase hx, fun e => absurd e hne⟩
    · exact fun hnd => forall_lookup_insert hnd ((hnd rule l hl).erase P)
    · intro l1 hl1 hP hnd _ _ _ _
      rw [AList.lookup_insert_self] at hl1
      cases hl1
      exact absurd hP ((hnd rule l hl).not_mem_erase)
  | push args s hrule _ hor =>
    refine ⟨hch, Shr.refl _, ?_⟩
    intro l1 _ _ _ args' s' hr _
    rw [hrule] at hr
    cases hr
    exact ⟨hor, List.mem_append_right _ (List.mem_singleton.mpr rfl)⟩

theorem passFold_last (G : TT S T) (rule : NT S T) (info : List (Ty × S)) :
    ∀ (L : List Sym) (st : Marks S T × Bool × List (CConfig S T)),
      (L.foldl (passStep G rule info) st).2.1 = false →
      st.2.1 = false ∧ Shr st.1 (L.foldl (passStep G rule info) st).1 ∧
      ∀ P ∈ L, PFact G rule info P st.1 (L.foldl (passStep G rule info) st).1 (L.foldl (passStep G rule info) st).2.2
  | [], st, h => ⟨h, Shr.refl _, by intro P hP; cases hP⟩
  | Q :: L, st, h => by
    rw [List.foldl_cons] at h ⊢
    obtain ⟨i1, i2, i4⟩ := passFold_last G rule info L (passStep G rule info st Q) h
    obtain ⟨j1, j2, j4⟩ := passStep_last G rule info st _ Q (passStep_case G rule info st Q) i1
    obtain ⟨ext, he, _, _⟩ := passFold_pushes G rule info L (passStep G rule info st Q)
    refine ⟨j1, Shr.trans j2 i2, ?_⟩
    intro P hP l1 hl1 hPl hnd args s hr hin
    rcases List.mem_cons.mp hP with e | hm
    · subst e
      -- P was processed first: it is still in the row after that step
      obtain ⟨lm, hlm, hsub, _⟩ := i2.sub rule l1 hl1
      obtain ⟨g1, g2⟩ := j4 lm hlm (hsub P hPl) hnd args s hr hin
      exact ⟨g1, he ▸ List.mem_append_left _ g2⟩
    · obtain ⟨g1, g2⟩ := i4 P hm l1 hl1 hPl (j2.nodup hnd) args s hr hin
      refine ⟨?_, g2⟩
      rcases g1 with g | g
      · left; rw [← j2.keys]; exact g
      · exact Or.inr g

/-- a step of the machine the last pass walks: a kept symbol of a kept non-terminal, followed when
    the next non-terminal is a non-terminal of the original table -/
inductive VStep (G : TT S T) (nr : Marks S T) : CConfig S T → CConfig S T → Prop where
  | mk (rule : NT S T) (info : List (Ty × S)) (l : List Sym) (P : Sym) (args : List (Ty × S)) (st : T) :
      AList.lookup rule nr = some l → P ∈ l → G.rule? rule P = some (args, st) →
      inRules G (deriveWith info rule args st).2 = true →
      VStep G nr (rule, info) ((deriveWith info rule args st).2, (deriveWith info rule args st).1)

inductive VSteps (G : TT S T) (nr : Marks S T) : CConfig S T → CConfig S T → Prop where
  | refl (c : CConfig S T) : VSteps G nr c c
  | cons (c d e : CConfig S T) : VStep G nr c d → VSteps G nr d e → VSteps G nr c e

/-- what holds at a visited configuration: the kept row is not empty, and the next non-terminal of a
    kept rule (first argument, or the next pending slot after a leaf), when it is a non-terminal of the
    original table, is kept - unless the rule is a leaf (`len(new_info) < len(info)`) -/
def GoodC (G : TT S T) (nr : Marks S T) (c : CConfig S T) : Prop :=
  ∀ l, AList.lookup c.1 nr = some l → l ≠ [] ∧ ∀ P ∈ l, ∀ args st, G.rule? c.1 P = some (args, st) →
    inRules G (deriveWith c.2 c.1 args st).2 = true →
    (AList.contains (deriveWith c.2 c.1 args st).2 nr = true ∨ (deriveWith c.2 c.1 args st).1.length < c.2.length)

/-- a pass that reports no change started without one, only removed symbols from rows, and visited
    every configuration the kept rules reach -/
theorem passLoop_last (G : TT S T) (fuel : Nat) (todo : List (CConfig S T)) (nr : Marks S T) (ch : Bool)
    (nr' : Marks S T) (h : passLoop G fuel todo nr ch = .ok (nr', false)) :
    ch = false ∧ (ValsNodup nr → Shr nr nr' ∧ ∀ c ∈ todo, ∀ c', VSteps G nr' c c' → GoodC G nr' c') := by
  fun_induction passLoop G fuel todo nr ch with
  | case1 => cases h; exact ⟨rfl, fun _ => ⟨Shr.refl _, nofun⟩⟩
  | case2 => cases h
  | case3 fuel rule info todo nr ch hl ih =>
    obtain ⟨i1, i⟩ := ih h
    refine ⟨i1, fun hnd => ?_⟩
    obtain ⟨i2, i3⟩ := i hnd
    refine ⟨i2, List.forall_mem_cons.mpr ⟨?_, i3⟩⟩
    have hnone : AList.lookup rule nr' = none :=
      AList.contains_eq_false_iff.mp ((i2.keys rule).trans (AList.contains_eq_false_iff.mpr hl))
    intro c' hs
    cases hs with
    | refl _ => intro l hl'; rw [hnone] at hl'; cases hl'
    | cons _ d _ hstep _ =>
      cases hstep with
      | mk _ _ l P args st hl' _ _ _ => rw [hnone] at hl'; cases hl'
  | case4 fuel rule info todo nr ch hl ih => exact absurd (ih h).1 (by simp)
  | case5 fuel rule info todo nr ch p ps hl r ih =>
    have ih := ih h
    have hfold := passFold_last G rule info (p :: ps) (nr, ch, [])
    generalize hF : (p :: ps).foldl (passStep G rule info) (nr, ch, []) = F at hfold
    obtain ⟨nr1, ch1, pu1⟩ := F
    simp only [r, hF] at ih
    obtain ⟨hch1, i⟩ := ih
    obtain ⟨j1, j2, j4⟩ := hfold hch1
    refine ⟨j1, fun hnd => ?_⟩
    obtain ⟨i2, i3⟩ := i (j2.nodup hnd)
    refine ⟨Shr.trans j2 i2, ?_⟩
    intro c hc c' hs
    rcases List.mem_cons.mp hc with rfl | hm
    · have hvisit : GoodC G nr' (rule, info) := by
        intro l' hl'
        obtain ⟨l1, hl1, hsub1, hemp1⟩ := i2.sub rule l' hl'
        obtain ⟨l0, hl0, hsub0, hemp0⟩ := j2.sub rule l1 hl1
        rw [hl] at hl0
        cases hl0
        refine ⟨?_, ?_⟩
        · intro e
          have := hemp0 (hemp1 e)
          cases this
        · intro P hP args st hr hin
          have hPL : P ∈ p :: ps := hsub0 P (hsub1 P hP)
          obtain ⟨g1, _⟩ := j4 P hPL l1 hl1 (hsub1 P hP) hnd args st hr hin
          rcases g1 with g | g
          · left
            rw [i2.keys, j2.keys]
            exact g
          · exact Or.inr g
      cases hs with
      | refl _ => exact hvisit
      | cons _ d _ hstep hrest =>
        cases hstep with
        | mk _ _ l' P args st hl' hP hr hin =>
          obtain ⟨l1, hl1, hsub1, _⟩ := i2.sub rule l' hl'
          have hPL : P ∈ p :: ps := by
            obtain ⟨l0', hl0', hs0, _⟩ := j2.sub rule l1 hl1
            rw [hl] at hl0'
            cases hl0'
            exact hs0 P (hsub1 P hP)
          obtain ⟨_, g2⟩ := j4 P hPL l1 hl1 (hsub1 P hP) hnd args st hr hin
          exact i3 _ (List.mem_append.mpr (Or.inl (List.mem_reverse.mpr g2))) c' hrest
    · exact i3 c (List.mem_append.mpr (Or.inr hm)) c' hs

theorem clean_first (G G' : TT S T) (hU : noUnknownKey G = true) (fuel : Nat) (h : clean G fuel = .ok G') :
    ∃ nr, G' = restrict G nr ∧ PInv G nr ∧ ∀ c, VSteps G nr (G.start, []) c → GoodC G nr c := by
  obtain ⟨nr0, nr', h1, h2, rfl⟩ := clean_eq_ok.mp h
  have hinv0 := pinv_of_reach G fuel nr0 h1
  obtain ⟨nrm, hm, hlast⟩ := passes_last G hU fuel fuel nr0 nr' h2 hinv0
  obtain ⟨_, i3⟩ := (passLoop_last G fuel _ nrm false nr' hlast).2 hm.vals
  exact ⟨nr', rfl, passes_inv G hU fuel fuel nr0 nr' h2 hinv0, fun c hc => i3 _ (List.mem_singleton.mpr rfl) c hc⟩

/-- with an argument the pending stack does not shrink, so `GoodC` gives its first alternative -/
theorem goodC_first (G : TT S T) (nr : Marks S T) (c : CConfig S T) (hg : GoodC G nr c) (l : List Sym)
    (hl : AList.lookup c.1 nr = some l) (P : Sym) (hP : P ∈ l) (a : Ty × S) (as : List (Ty × S)) (st : T)
    (hr : G.rule? c.1 P = some (a :: as, st)) (hin : inRules G (a.1, (a.2, st)) = true) :
    AList.contains (a.1, (a.2, st)) nr = true := by
  have := (hg l hl).2 P hP (a :: as) st hr
  rw [deriveWith_cons] at this
  rcases this hin with h1 | h1
  · exact h1
  · simp at h1; omega

end PS.T
