/- C08, fragment grammar: the probability of a derivation of the fragment is its original probability divided by
   the mass of the group. -/
import PS.Proofs.SplitterTags
namespace PS.Sp
open PS PS.G

variable {U : Type} [DecidableEq U]

theorem copy_prob {pg : PUG U} {group : List (Node U)} {st : FragSt U} {L : List (Lay U)}
    (hf : Facts pg group (fragOf pg st).g st.probs L) (hn : tagsNorm pg = true)
    (w' : List (Step (U × Nat))) (c : List (UNT (U × Nat)))
    (hc : ∀ Y ∈ c, Cp pg (fragOf pg st).g st.probs L Y) (h : run (fragOf pg st).g c w' = some []) :
    stepsProb (fragOf pg st) w' = stepsProb pg (w'.map erStep) := by
  fun_induction run (fragOf pg st).g c w' with
  | case1 => rfl
  | case2 => cases h
  | case3 X c s w' hcond ih =>
    obtain ⟨X', Q, a'⟩ := s
    obtain ⟨rfl, hQa⟩ : X' = X ∧ (Q, a') ∈ alts (fragOf pg st).g X := hcond
    rw [alts_copy (hc X' List.mem_cons_self).1] at hQa
    obtain ⟨⟨P, a⟩, ha, hpa⟩ := List.mem_map.mp hQa
    cases hpa
    simp only [List.map_cons, stepsProb, erStep, map_er_free, ih (copy_next hf hc ha) h]
    rw [tagOf_copy hn (hc X' List.mem_cons_self).1.2]
  | case4 => cases h

theorem stepsProb_chain (pg : PUG U) (st : FragSt U) : ∀ (t : List (Step (U × Nat))),
    (∀ s ∈ t, AList.lookup s.1 st.probs = some [(s.2.1, [(s.2.2, 1)])]) → stepsProb (fragOf pg st) t = 1
  | [], _ => rfl
  | s :: t, h => by
    simp only [stepsProb]
    rw [tagOf_chain pg (h s (by simp)), stepsProb_chain pg st t (fun s' hs' => h s' (List.mem_cons_of_mem _ hs'))]
    exact Rat.mul_one 1

theorem startTag_frag (pg : PUG U) (st : FragSt U) (X : UNT (U × Nat)) :
    (AList.lookup X (fragOf pg st).startTags).getD 0 =
      (AList.lookup X st.startProbs).getD 0 / (st.startProbs.map (·.2)).sum := by
  have : (fragOf pg st).startTags =
      st.startProbs.map (fun e => (e.1, (fun x : Rat => x / (st.startProbs.map (·.2)).sum) e.2)) := rfl
  rw [this, AList.lookup_map_val fun _ (x : Rat) => x / (st.startProbs.map (·.2)).sum]
  cases AList.lookup X st.startProbs with
  | none => exact (zero_div _).symm
  | some x => rfl

theorem spMass_pos {L : List (Lay U)} {l : Lay U} (hl : l ∈ L) (hpos : ∀ l ∈ L, 0 < l.n.prob) : 0 < spMass L l.sp := by
  unfold spMass
  apply sum_pos_of_mem (fun l : Lay U => l.n.prob) _ _ l
  · simp [hl]
  · intro x hx
    exact hpos x (List.mem_filter.mp hx).1

/-- the arithmetic of `frag_prob`: `m` is the mass of the start copy, `M` that of the group, `a * p`
    the probability of the node, `r` that of the continuation -/
theorem mass_cancel (m M a p r : Rat) (hm : m ≠ 0) : m / M * (a * p / m * r) = a * (p * r) / M := by
  grind

section
variable {pg : PUG U} {group : List (Node U)} {st : FragSt U} {L : List (Lay U)}

/-- the renamed path of a node weighs the share of the node in the mass of its start copy: the first rule
    carries it, the others have weight 1 -/
theorem path_prob (hf : Facts pg group (fragOf pg st).g st.probs L) (hw : Weights st L)
    (hpos : ∀ l ∈ L, 0 < l.n.prob) {l : Lay U} (hl : l ∈ L) :
    stepsProb (fragOf pg st) l.steps' = l.n.prob / spMass L l.sp := by
  have hne : spMass L l.sp ≠ 0 := fun h0 => absurd (h0 ▸ spMass_pos hl hpos) (by decide)
  rcases renPath_start (hf.path l hl) with ⟨hnil, e, -⟩ | ⟨P, v, w, r0, hc, e, -⟩
  · rw [hw.spNil l hl hnil] at hne ⊢
    rw [e]
    exact (rat_div_self _ hne).symm
  · have hrow := hw.startT l hl (hc ▸ List.cons_ne_nil _ _)
    have hchain : stepsProb (fragOf pg st) r0.2.1 = 1 :=
      stepsProb_chain pg st _ (fun s hs => hw.chain l hl s (by rw [e]; exact hs))
    rw [e, stepsProb, hchain, Rat.mul_one, tagOf_frag]
    show rawTag ((rows st l.sp).2.getD []) _ _ / rowSum ((rows st l.sp).2.getD []) = _
    rw [hrow.rawTag hl rfl e, hrow.sum]

theorem frag_prob (hf : Facts pg group (fragOf pg st).g st.probs L) (hw : Weights st L) (hn : tagsNorm pg = true)
    (hprob : ∀ n ∈ group, n.prob = derivProb pg n.start n.steps) (hpos : ∀ n ∈ group, 0 < n.prob)
    {X : UNT (U × Nat)} {w' : List (Step (U × Nat))} (hd : Deriv (fragOf pg st).g X w') :
    derivProb (fragOf pg st) X w' = derivProb pg (er X) (w'.map erStep) / (group.map (·.prob)).sum := by
  obtain ⟨l, hl, rfl, rem, rfl, hrun⟩ := decomp hf hd
  have hposL : ∀ l ∈ L, 0 < l.n.prob := fun l' hl' => hpos _ (hf.mem hl')
  have hne : spMass L l.sp ≠ 0 := fun h0 => absurd (h0 ▸ spMass_pos hl hposL) (by decide)
  rw [derivProb, derivProb, startTag_frag, hw.startMass hf, hw.spVal l hl, Option.getD_some, stepsProb_append,
    path_prob hf hw hposL hl, copy_prob hf hn rem _ (cp_pend hf hl) hrun, List.map_append, stepsProb_append,
    (pendOK_lay hf hl).1, hf.spEr l hl, hprob _ (hf.mem hl), derivProb]
  exact mass_cancel _ _ _ _ _ hne

end

end PS.Sp
