/-
  C13: the rule-creation step of `__saturation_build__` as a rule function: what
  `rules[rule][P]` holds after one iteration of the worklist loop.
-/
import PS.Proofs.TtcfgCert
namespace PS.T
open PS PS.G

theorem isArrow_iff_arguments (t : Ty) : isArrow t = !t.arguments.isEmpty := by
  cases t <;> simp [isArrow, Ty.arguments]

theorem endsWith_nonarrow (t other : Ty) (tys : List Ty) (ho : isArrow other = false)
    (h : Ty.endsWith t other = some tys) : tys = t.arguments := by
  have ho' : other.arguments = [] := by simpa [isArrow_iff_arguments] using ho
  rw [endsWith_spec h, arguments_mkFun, ho', List.append_nil]

theorem endsWith_sub (t other : Ty) (tys : List Ty) (h : Ty.endsWith t other = some tys) :
    ∀ a ∈ tys, a ∈ t.arguments := by
  rw [endsWith_spec h, arguments_mkFun]
  exact fun a ha => List.mem_append_left _ ha

theorem endsWith_length (t other : Ty) (tys : List Ty) (h : Ty.endsWith t other = some tys) :
    tys.length ≤ t.arguments.length := by
  rw [endsWith_spec h, arguments_mkFun, List.length_append]
  omega

theorem returns_not_arrow : ∀ t : Ty, isArrow t.returns = false
  | .arrow a b => by simp [Ty.returns, returns_not_arrow b]
  | .base n => rfl
  | .gen n a => rfl
  | .unknown => rfl

/-- no entry of `dsl.prims` has kind variable, so no symbol is a candidate at a slot both as a variable of
    the request and as a primitive.  `candidates_functional` rests on it: a symbol has one argument list among the
    candidates of a slot, hence `rowDict`, a dict, loses no rule of `rowList` (`idealFn_iff`). -/
def wfDsl (dsl : Dsl) : Bool := dsl.prims.all (fun p => p.kind == .prim)

theorem mem_enumFrom' {α : Type} (l : List α) (i : Nat) (a : α) :
    (i, a) ∈ enumFrom' l ↔ l[i]? = some a := by
  unfold enumFrom'
  simp only [List.mem_map, Prod.mk.injEq]
  constructor
  · rintro ⟨⟨a', i'⟩, hmem, h1, h2⟩
    simp only at h1 h2
    subst h1; subst h2
    have := List.mem_zipIdx_iff_getElem?.mp hmem
    simpa using this
  · intro h
    exact ⟨(a, i), List.mem_zipIdx_iff_getElem?.mpr (by simpa using h), rfl, rfl⟩

theorem mem_candidates (prims : List Sym) (request ty : Ty) (c : Sym × List Ty) :
    c ∈ candidates prims request ty ↔
      (∃ i, request.arguments[i]? = some ty ∧ c = (Sym.var i ty, [])) ∨
      (c.1 ∈ prims ∧ c.1.ty.endsWith ty = some c.2) := by
  unfold candidates
  simp only [List.mem_append, List.mem_filterMap]
  constructor
  · rintro (⟨iv, hiv, h⟩ | ⟨p, hp, h⟩)
    · left
      obtain ⟨i, a⟩ := iv
      by_cases hty : ty = a
      · simp only [hty, if_true, Option.some.injEq] at h
        refine ⟨i, ?_, ?_⟩
        · rw [hty]; exact (mem_enumFrom' _ _ _).mp hiv
        · rw [hty]; exact h.symm
      · simp [hty] at h
    · right
      cases he : p.ty.endsWith ty with
      | none => simp [he] at h
      | some tys =>
        simp only [he, Option.some.injEq] at h
        subst h
        exact ⟨hp, he⟩
  · rintro (⟨i, hi, hc⟩ | ⟨hp, he⟩)
    · left
      exact ⟨(i, ty), (mem_enumFrom' _ _ _).mpr hi, by simp [hc]⟩
    · right
      exact ⟨c.1, hp, by simp [he]⟩

theorem candidates_functional (dsl : Dsl) (hwf : wfDsl dsl = true) (request ty : Ty) (c c' : Sym × List Ty)
    (hc : c ∈ candidates dsl.prims request ty) (hc' : c' ∈ candidates dsl.prims request ty) (h : c.1 = c'.1) :
    c.2 = c'.2 := by
  have hk : ∀ p ∈ dsl.prims, p.kind = .prim := by
    intro p hp
    unfold wfDsl at hwf
    rw [List.all_eq_true] at hwf
    simpa using hwf p hp
  rcases (mem_candidates _ _ _ _).mp hc with ⟨i, _, e⟩ | ⟨hp, he⟩ <;>
  rcases (mem_candidates _ _ _ _).mp hc' with ⟨i', _, e'⟩ | ⟨hp', he'⟩
  · rw [e, e']
  · exfalso
    have := hk _ hp'
    rw [← h, e] at this
    simp [Sym.var] at this
  · exfalso
    have := hk _ hp
    rw [h, e'] at this
    simp [Sym.var] at this
  · rw [h] at he
    rw [he'] at he
    exact (Option.some.inj he).symm

theorem candidate_args (prims : List Sym) (request ty : Ty) (c : Sym × List Ty)
    (hc : c ∈ candidates prims request ty) : c.1.ty.endsWith ty = some c.2 := by
  rcases (mem_candidates _ _ _ _).mp hc with ⟨i, _, e⟩ | ⟨_, he⟩
  · rw [e]; simp [Sym.var, endsWith_self]
  · exact he

section Rule
variable {S T : Type} [DecidableEq S] [DecidableEq T]

def decorate (B : Builder S T) (rule : NT S T) (P : Sym) (tys : List Ty) : List (Ty × S) :=
  (enumFrom' tys).map (fun ia => (ia.2, B.getNT rule P ia.1 ia.2))

omit [DecidableEq S] [DecidableEq T] in
theorem decorate_map_fst (B : Builder S T) (rule : NT S T) (P : Sym) (tys : List Ty) :
    (decorate B rule P tys).map (·.1) = tys := by
  simp [decorate, enumFrom', Function.comp_def]

omit [DecidableEq S] [DecidableEq T] in
theorem decorate_length (B : Builder S T) (rule : NT S T) (P : Sym) (tys : List Ty) :
    (decorate B rule P tys).length = tys.length := by
  simpa using congrArg List.length (decorate_map_fst B rule P tys)

omit [DecidableEq S] [DecidableEq T] in
theorem mem_decorate_ty {B : Builder S T} {rule : NT S T} {P : Sym} {tys : List Ty} {y : Ty × S}
    (hy : y ∈ decorate B rule P tys) : y.1 ∈ tys :=
  decorate_map_fst B rule P tys ▸ List.mem_map_of_mem (f := (·.1)) hy

/-- the ideal (infinite) grammar of the builder: every non-terminal carries the rules the
    worklist iteration creates for it -/
def idealFn (B : Builder S T) (dsl : Dsl) (request : Ty) : RuleFn S T := rowsFn (rowDict B dsl.prims request)

omit [DecidableEq S] [DecidableEq T] in
theorem rowDict_eq (B : Builder S T) (prims : List Sym) (request : Ty) (rule : NT S T) :
    rowDict B prims request rule = AList.ofList (rowList B prims request rule) := rfl

omit [DecidableEq S] [DecidableEq T] in
theorem rowDict_nodup (B : Builder S T) (prims : List Sym) (request : Ty) (rule : NT S T) :
    (AList.keys (rowDict B prims request rule)).Nodup :=
  AList.keys_nodup_ofList _

omit [DecidableEq S] [DecidableEq T] in
theorem rowDict_mem (B : Builder S T) (prims : List Sym) (request : Ty) (rule : NT S T)
    (r : Sym × (List (Ty × S) × T)) (hr : r ∈ rowDict B prims request rule) : r ∈ rowList B prims request rule :=
  AList.lookup_ofList_some (AList.lookup_of_mem_nodup (rowDict_nodup B prims request rule) hr)

omit [DecidableEq S] [DecidableEq T] in
theorem mem_rowList (B : Builder S T) (prims : List Sym) (request : Ty) (rule : NT S T) (P : Sym)
    (val : List (Ty × S) × T) :
    (P, val) ∈ rowList B prims request rule ↔
      ∃ c ∈ candidates prims request rule.1, c.1 = P ∧ (B.transition rule P).1 = true ∧
        val = (decorate B rule P c.2, (B.transition rule P).2) := by
  unfold rowList
  simp only [List.mem_filterMap]
  constructor
  · rintro ⟨c, hc, h⟩
    by_cases ht : (B.transition rule c.1).1 = true
    · simp only [ht, if_true, Option.some.injEq, Prod.mk.injEq] at h
      obtain ⟨h1, h2⟩ := h
      subst h1
      exact ⟨c, hc, rfl, ht, by rw [← h2]; rfl⟩
    · simp [ht] at h
  · rintro ⟨c, hc, h1, ht, hv⟩
    subst h1
    exact ⟨c, hc, by simp [ht, hv, decorate]⟩

omit [DecidableEq S] [DecidableEq T] in
/-- at most one rule per variable of the request and per primitive -/
theorem rowList_length (B : Builder S T) (prims : List Sym) (request : Ty) (rule : NT S T) :
    (rowList B prims request rule).length ≤ request.arguments.length + prims.length := by
  unfold rowList candidates
  refine Nat.le_trans (List.length_filterMap_le _ _) ?_
  rw [List.length_append]
  exact Nat.add_le_add (Nat.le_trans (List.length_filterMap_le _ _) (by simp [enumFrom']))
    (List.length_filterMap_le _ _)

omit [DecidableEq S] [DecidableEq T] in
theorem rowDict_length (B : Builder S T) (prims : List Sym) (request : Ty) (rule : NT S T) :
    (rowDict B prims request rule).length ≤ request.arguments.length + prims.length := by
  have h := (rowDict_nodup B prims request rule).length_le_of_subset (l₂ := (rowList B prims request rule).map (·.1))
    (fun k hk => by
      obtain ⟨r, hr, rfl⟩ := List.mem_map.mp hk
      exact List.mem_map.mpr ⟨r, rowDict_mem B prims request rule r hr, rfl⟩)
  simp only [AList.keys, List.length_map] at h
  exact Nat.le_trans h (rowList_length B prims request rule)

theorem idealFn_iff (B : Builder S T) (dsl : Dsl) (hwf : wfDsl dsl = true) (request : Ty) (rule : NT S T) (P : Sym)
    (val : List (Ty × S) × T) :
    idealFn B dsl request rule P = some val ↔
      ∃ c ∈ candidates dsl.prims request rule.1, c.1 = P ∧ (B.transition rule P).1 = true ∧
        val = (decorate B rule P c.2, (B.transition rule P).2) := by
  unfold idealFn rowsFn
  rw [rowDict_eq, ← mem_rowList]
  refine ⟨AList.lookup_ofList_some, fun h => AList.lookup_insertMany_of_mem [] _ P val ⟨_, h, rfl⟩ ?_⟩
  rintro ⟨P', v'⟩ hv' rfl
  obtain ⟨c, hc, h1, _, e⟩ := (mem_rowList _ _ _ _ _ _).mp h
  obtain ⟨c', hc', h1', _, e'⟩ := (mem_rowList _ _ _ _ _ _).mp hv'
  have := candidates_functional dsl hwf request rule.1 c c' hc hc' (h1.trans h1'.symm)
  rw [e, e', this]

end Rule

end PS.T
