/-
  C13: total correctness of the constructors: for every builder with
    * a rank `rk` of the configurations (non-terminal, pending stack) that decreases along every push
      of the worklist, and
    * a rank `(m, ρ)` of the non-terminals that decreases from a rule to its arguments,
  the worklist ends, `clean()` ends and `programs()` ends, within explicit fuel.  Instance:
  `size_constraint` (every input).
-/
import PS.Proofs.TtcfgCleanTerm
import PS.Proofs.TtcfgCountTerm
import PS.Proofs.TtcfgCountS
namespace PS.T
open PS PS.G

variable {S T : Type} [DecidableEq S] [DecidableEq T]

/-! ### the machine of `clean()` on a saturation table follows the pushes of the worklist -/

theorem cstep_push (B : Builder S T) (prims : List Sym) (request : Ty) (G : TT S T)
    (hrows : ∀ e ∈ G.rules, e.2 = rowDict B prims request e.1) (hU : noUnknownKey G = true)
    (c d : CConfig S T) (h : CStep G c d) : ∃ p ∈ pushesOf B prims request c.1 c.2, entryKey p = d := by
  cases h with
  | mk rule info P args st hr hin =>
    obtain ⟨row, hrow, hmem⟩ := rule_mem_row G rule P (args, st) hr
    have hrd := hrows _ (AList.lookup_some_mem hrow)
    simp only at hrd
    rw [hrd] at hmem
    have hml := rowDict_mem B prims request rule _ hmem
    cases hm : args ++ info with
    | nil =>
      exact absurd (by rw [deriveWith_of_nil rule st hm]) (noUnknown_inRules G hU _ hin)
    | cons x rest =>
      exact ⟨(x, st, rest), mem_pushesOf_iff.mpr ⟨(P, (args, st)), hml, hm, rfl⟩, by rw [deriveWith_eq rule st hm]; rfl⟩

theorem ranked_of_rows (B : Builder S T) (prims : List Sym) (request : Ty) (G : TT S T)
    (hrows : ∀ e ∈ G.rules, e.2 = rowDict B prims request e.1) (m : T → Nat) (ρ : Ty × S → T → Nat)
    (hrank : ∀ rule, ∀ r ∈ rowList B prims request rule,
      m r.2.2 ≤ m rule.2.2 ∧ ∀ a ∈ r.2.1, ρ a r.2.2 < ρ (rule.1, rule.2.1) rule.2.2)
    (hmono : ∀ slot v v', m v ≤ m v' → ρ slot v ≤ ρ slot v') : Ranked G m ρ := by
  refine ⟨?_, hmono⟩
  intro nt row hl r hr
  have := hrows _ (AList.lookup_some_mem hl)
  simp only at this
  rw [this] at hr
  exact hrank nt r (rowDict_mem B prims request nt r hr)

theorem restrict_sub (G : TT S T) (nr : Marks S T) (hinv : PInv G nr) (nt : NT S T) (row' : Row S T)
    (hl : AList.lookup nt (restrict G nr).rules = some row') :
    ∃ row, AList.lookup nt G.rules = some row ∧ ∀ r ∈ row', r ∈ row := by
  obtain ⟨l, hmem, hrow⟩ := restrict_mem G nr (nt, row') (AList.lookup_some_mem hl)
  simp only at hrow hmem
  have hc : AList.contains nt nr = true := AList.contains_of_lookup (AList.lookup_of_mem_nodup hinv.keys hmem)
  obtain ⟨row, hg⟩ := AList.contains_iff_lookup.mp (hinv.sub nt hc)
  refine ⟨row, hg, ?_⟩
  intro r hr
  have hrl := restrict_row G nr (nt, row') (AList.lookup_some_mem hl) r hr
  rw [TT.rule?_of_lookup hg] at hrl
  exact AList.lookup_some_mem hrl

theorem builder_total_ok (B : Builder S T) (dsl : Dsl) (request : Ty) (hd : noUnknownDsl dsl request = true)
    (rk : NT S T × List (Ty × S) → Nat)
    (hdec : ∀ (rule : NT S T) (stack : List (Ty × S)), ∀ p ∈ pushesOf B dsl.prims request rule stack,
      rk (entryKey p) < rk (rule, stack))
    (m : T → Nat) (ρ : Ty × S → T → Nat)
    (hrank : ∀ rule, ∀ r ∈ rowList B dsl.prims request rule,
      m r.2.2 ≤ m rule.2.2 ∧ ∀ a ∈ r.2.1, ρ a r.2.2 < ρ (rule.1, rule.2.1) rule.2.2)
    (hmono : ∀ slot v v', m v ≤ m v' → ρ slot v ≤ ρ slot v')
    (stackKey : Bool) (fuel : Nat)
    (hf : 2 * satBound (request.arguments.length + dsl.prims.length) (rk ((request.returns, B.init), [])) + 1 ≤ fuel) :
    ∃ g, construct B dsl request stackKey fuel = .ok g ∧
      ∀ fuel', ρ (request.returns, B.init.1) B.init.2 + 2 ≤ fuel' → (programsR g.G fuel').isSome = true := by
  have hpos := satBound_pos (request.arguments.length + dsl.prims.length) (rk ((request.returns, B.init), []))
  obtain ⟨G0, h0, hlen⟩ := saturationTable_bound B dsl.prims request stackKey rk hdec fuel (by omega)
  have S0 := saturationTable_spec B dsl.prims request stackKey fuel G0 h0
  obtain ⟨c1, c2, c3⟩ := saturation_countHyps B dsl request stackKey fuel G0 hd h0
  have hb : ∀ e ∈ G0.rules, e.2.length ≤ request.arguments.length + dsl.prims.length := by
    intro e he; rw [S0.rows e he]; exact rowDict_length B dsl.prims request e.1
  have hdecC : ∀ c d, CStep G0 c d → rk d < rk c := by
    intro c d hcd
    obtain ⟨p, hp, e⟩ := cstep_push B dsl.prims request G0 S0.rows c2 c d hcd
    rw [← e]; exact hdec c.1 c.2 p hp
  have hs0 : G0.start = (request.returns, B.init) := S0.start
  obtain ⟨G, hG⟩ := clean_terminates G0 (request.arguments.length + dsl.prims.length) hb c1 rk hdecC S0.hasStart fuel
    (by rw [hs0]; omega)
  refine ⟨⟨G, request⟩, construct_eq_ok.mpr ⟨G0, h0, hG, rfl⟩, ?_⟩
  intro fuel' hf'
  obtain ⟨nr, e, hinv⟩ := clean_result G0 G c2 fuel hG
  have hR0 : Ranked G0 m ρ := ranked_of_rows B dsl.prims request G0 S0.rows m ρ hrank hmono
  have hR : Ranked G m ρ := by
    rw [e]
    exact ranked_restrict G0 m ρ hR0 _ (restrict_sub G0 nr hinv)
  have hUG : noUnknownKey G = true := (clean_countHyps G0 G c2 c3 fuel hG).2.1
  apply programsR_terminates G hUG m ρ hR fuel'
  rw [clean_start G0 G fuel hG, hs0]
  exact hf'

theorem builder_total (B : Builder S T) (dsl : Dsl) (request : Ty) (hd : noUnknownDsl dsl request = true)
    (rk : NT S T × List (Ty × S) → Nat)
    (hdec : ∀ (rule : NT S T) (stack : List (Ty × S)), ∀ p ∈ pushesOf B dsl.prims request rule stack,
      rk (entryKey p) < rk (rule, stack))
    (m : T → Nat) (ρ : Ty × S → T → Nat)
    (hrank : ∀ rule, ∀ r ∈ rowList B dsl.prims request rule,
      m r.2.2 ≤ m rule.2.2 ∧ ∀ a ∈ r.2.1, ρ a r.2.2 < ρ (rule.1, rule.2.1) rule.2.2)
    (hmono : ∀ slot v v', m v ≤ m v' → ρ slot v ≤ ρ slot v')
    (stackKey : Bool) (fuel : Nat)
    (hf : 2 * satBound (request.arguments.length + dsl.prims.length) (rk ((request.returns, B.init), [])) + 1 ≤ fuel) :
    ∃ G0 G, saturationTable B dsl.prims request stackKey fuel = some G0 ∧ clean G0 fuel = .ok G ∧
      ∀ fuel', ρ (request.returns, B.init.1) B.init.2 + 2 ≤ fuel' → (programsR G fuel').isSome = true :=
  let ⟨g, hg, h⟩ := builder_total_ok B dsl request hd rk hdec m ρ hrank hmono stackKey fuel hf
  let ⟨G0, h0, h1, _⟩ := construct_eq_ok.mp hg
  ⟨G0, g.G, h0, h1, h⟩

def sizeM (maxSize : Nat) (v : Nat × Nat) : Nat := maxSize + 1 - v.1

/-- `2 · satBound … + 1` for the worklist and `clean()`, `k + 2` for `programs()` -/
def sizeFuel (dsl : Dsl) (request : Ty) (k : Nat) : Nat :=
  2 * satBound (request.arguments.length + dsl.prims.length) (k + 1) + k + 3

theorem size_total_ok (dsl : Dsl) (request : Ty) (hd : noUnknownDsl dsl request = true) (nG : Int) (k : Nat)
    (actual stackKey : Bool) (fuel : Nat) (hf : sizeFuel dsl request k ≤ fuel) :
    ∃ g, sizeConstraint dsl request k nG actual stackKey fuel = .ok g ∧ (programsR g.G fuel).isSome = true := by
  unfold sizeFuel at hf
  rw [sizeConstraint_eq]
  obtain ⟨g, hg, h2⟩ := builder_total_ok (sizeBuilder dsl nG k actual) dsl request hd (sizeRank k)
    (size_rank dsl request nG k actual) (sizeM k) (fun _ v => sizeM k v)
    (by
      intro rule r hr
      obtain ⟨P, val⟩ := r
      obtain ⟨c, _, h1, ht, hv⟩ := (mem_rowList _ dsl.prims request rule P val).mp hr
      subst h1
      obtain ⟨g1, g2⟩ := sizeTransition_size dsl k actual rule c.1 ht
      have hst : val.2 = (sizeTransition dsl k actual rule c.1).2 := by rw [hv]; rfl
      simp only [sizeM]
      rw [hst, g2]
      exact ⟨by omega, fun a _ => by omega⟩)
    (fun _ v v' h => h) stackKey fuel
    (by simp only [sizeRank, sizeBuilder, Nat.sub_zero]; omega)
  exact ⟨g, hg, h2 fuel (by simp only [sizeM, sizeBuilder]; omega)⟩

theorem size_total (dsl : Dsl) (request : Ty) (hd : noUnknownDsl dsl request = true) (nG : Int) (k : Nat)
    (actual stackKey : Bool) (fuel : Nat) (hf : sizeFuel dsl request k ≤ fuel) :
    ∃ G0 G, saturationTable (sizeBuilder dsl nG k actual) dsl.prims request stackKey fuel = some G0 ∧
      clean G0 fuel = .ok G ∧ (programsR G fuel).isSome = true :=
  let ⟨g, hg, h⟩ := size_total_ok dsl request hd nG k actual stackKey fuel hf
  let ⟨G0, h0, h1, _⟩ := construct_eq_ok.mp (sizeConstraint_eq dsl request k nG actual stackKey fuel ▸ hg)
  ⟨G0, g.G, h0, h1, h⟩

end PS.T
