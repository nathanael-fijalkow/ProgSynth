/- C16: `Constant.assign`/`reset` with the repair of C16-F7 (rejected_fixes/C16-F7.diff, not in
   /repo) — every hash that is read after an assignment is the hash of the object as it is now. -/
import PS.Proofs.HashEq
namespace PS.C16
open PS

mutual
  /-- every cached hash that `hashAfter` reads is the hash of the object as it is now -/
  def Good (h : HashFns) : Obj → Prop
    | .node l ks => (l.1.recomputes = false → l.2 = hashS h (.node l.1 (eraseList ks))) ∧ GoodList h ks
  def GoodList (h : HashFns) : List Obj → Prop
    | [] => True
    | k :: ks => Good h k ∧ GoodList h ks
end

theorem goodList_iff (h : HashFns) : (ks : List Obj) → (GoodList h ks ↔ ∀ k ∈ ks, Good h k)
  | [] => by simp [GoodList]
  | k :: ks => by simp [GoodList, goodList_iff h ks]

theorem recomputes_not_sum {l : Lab} (hr : l.recomputes = true) : l.key ≠ .tsum := by
  cases l <;> simp [Lab.recomputes, Lab.key] at hr ⊢

mutual
  theorem hashAfter_eq (h : HashFns) : (o : Obj) → Good h o → hashAfter h o = hashS h (erase o)
    | .node l ks => by
      intro hg
      unfold Good at hg
      unfold hashAfter erase
      by_cases hr : l.1.recomputes = true
      · rw [if_pos hr, hashS, if_neg (recomputes_not_sum hr), hashAfterList_eq h ks hg.2]
      · have hr' : l.1.recomputes = false := by simpa using hr
        rw [if_neg hr]
        exact hg.1 hr'
  theorem hashAfterList_eq (h : HashFns) : (ks : List Obj) → GoodList h ks →
      hashAfterList h ks = hashListS h (eraseList ks)
    | [] => by intro _; rfl
    | k :: ks => by
      intro hg
      unfold GoodList at hg
      unfold hashAfterList eraseList hashListS
      rw [hashAfter_eq h k hg.1, hashAfterList_eq h ks hg.2]
end

mutual
  theorem good_build (h : HashFns) (hl : h.Lawful) : (t : T) → Good h (build h t)
    | .node l ks => by
      have hc := cached_build h hl (.node l ks)
      rw [pyHash_eq_spec h hl] at hc
      rw [build, construct] at hc ⊢
      unfold Good
      refine ⟨fun _ => ?_, goodList_buildList h hl ks⟩
      rw [eraseList_buildList]
      exact hc
  theorem goodList_buildList (h : HashFns) (hl : h.Lawful) : (ks : List T) → GoodList h (buildList h ks)
    | [] => by unfold buildList GoodList; trivial
    | k :: ks => by
      unfold buildList GoodList
      exact ⟨good_build h hl k, goodList_buildList h hl ks⟩
end

theorem cached_of_good (h : HashFns) : (k : Obj) → Good h k → k.label.1.recomputes = false →
    cached k = hashS h (erase k)
  | .node l ks => by
    intro hg hr
    unfold Good at hg
    unfold cached erase
    exact hg.1 hr

theorem map_cached_of_good (h : HashFns) (ks : List Obj) (hg : GoodList h ks)
    (hr : ∀ k ∈ ks, k.label.1.recomputes = false) : ks.map cached = (eraseList ks).map (hashS h) := by
  rw [eq_map_of_rec (F := eraseList) rfl (fun _ _ => rfl) ks, List.map_map]
  exact List.map_congr_left fun k hk => cached_of_good h k ((goodList_iff h ks).mp hg k hk) (hr k hk)

theorem goodList_modifyNth (h : HashFns) (f : Obj → Obj) (i : Nat) (ks : List Obj) : GoodList h ks →
    (∀ k, ks[i]? = some k → Good h (f k)) → GoodList h (modifyNth f i ks) := by
  fun_induction modifyNth f i ks with
  | case1 => exact fun hg _ => hg
  | case2 k ks => exact fun hg hf => ⟨hf k rfl, hg.2⟩
  | case3 j k ks ih => exact fun hg hf => ⟨hg.1, ih hg.2 fun k' hk' => hf k' hk'⟩

theorem good_assignAt (h : HashFns) (hv : Bool) (v : PyVal) (r : String) :
    (p : List Nat) → (o : Obj) → Good h o → validAt p o = true → Good h (assignAt h hv v r p o)
  | [], .node l ks => by
    intro hg hval
    unfold Good at hg
    unfold validAt at hval
    rw [Bool.and_eq_true] at hval
    obtain ⟨hc, hk⟩ := hval
    obtain ⟨l1, c⟩ := l
    cases l1 <;> simp only [Bool.false_eq_true] at hc
    case pconst hv0 v0 r0 =>
      simp only [assignAt, construct]
      unfold Good
      refine ⟨fun _ => ?_, hg.2⟩
      have hne : Lab.key (.pconst hv v r) ≠ .tsum := by simp [Lab.key]
      rw [hashS_node, if_neg hne, if_neg hne, List.map_map]
      have : ((fun x : T × Int => x.2) ∘ fun k => (erase k, cached k)) = cached := rfl
      rw [this, map_cached_of_good h ks hg.2 (fun k hk' => by
        have := List.all_eq_true.mp hk k hk'
        simpa using this)]
  | i :: p, .node l ks => by
    intro hg hval
    unfold Good at hg
    unfold validAt at hval
    rw [Bool.and_eq_true] at hval
    obtain ⟨hr, hk⟩ := hval
    simp only [assignAt]
    unfold Good
    refine ⟨fun hr' => ?_, ?_⟩
    · rw [hr] at hr'; exact absurd hr' (by simp)
    apply goodList_modifyNth h _ i ks hg.2
    intro k hki
    rw [hki] at hk
    exact good_assignAt h hv v r p k ((goodList_iff h ks).mp hg.2 k (List.mem_of_getElem? hki)) hk

theorem good_runOps (h : HashFns) : (ops : List Op) → (o : Obj) → Good h o → validOps h ops o = true →
    Good h (runOps h ops o)
  | [], o => by intro hg _; exact hg
  | op :: ops, o => by
    intro hg hv
    unfold validOps at hv
    rw [Bool.and_eq_true] at hv
    unfold runOps
    exact good_runOps h ops _ (good_assignAt h _ _ _ op.path o hg hv.1) hv.2

theorem hashAfter_runOps (h : HashFns) (hl : h.Lawful) (t : T) (ops : List Op)
    (hv : validOps h ops (build h t) = true) :
    hashAfter h (runOps h ops (build h t)) = pyHash h (erase (runOps h ops (build h t))) := by
  rw [pyHash_eq_spec h hl]
  exact hashAfter_eq h _ (good_runOps h ops _ (good_build h hl t) hv)

end PS.C16
