/-
  C01, last sentence: `CFG.infinite` (PS/Model/CfgInfinite.lean) is the worklist construction of
  PS/Proofs/CfgBuild.lean for the rule-creation function `ruleSetInf P`, which generates the well-typed terms of
  every depth; and what `programs()` answers on such a table.
-/
import PS.Proofs.CfgBuild
import PS.Proofs.Programs
import PS.Model.CfgInfinite
namespace PS.G
open PS

theorem leafSyms_eq_inf {P : Params} {d : Nat} (h : d ≥ P.minVarDepth) (forb : List String) (ty : Ty) :
    leafSyms P forb d ty = leafSymsInf P forb ty := by
  rw [leafSyms, if_pos h]; rfl

theorem leafSymsInf_ty (P : Params) (forb : List String) (ty : Ty) (s : Sym)
    (h : s ∈ leafSymsInf P forb ty) : s.ty = ty :=
  leafSyms_ty P forb P.minVarDepth ty s (leafSyms_eq_inf (Nat.le_refl _) forb ty ▸ h)

theorem appHeadsInf_ty (P : Params) (forb : List String) (ty : Ty) (h : Sym × List Ty)
    (hm : h ∈ appHeadsInf P forb ty) : h.1.ty.endsWith ty = some h.2 :=
  appHeadsWith_ty P forb ty True _ h hm

/-- `argsOf` for `CFG.infinite` -/
def argsOfInf (P : Params) (nt : CNT) (f : Sym) : List (Ty × CFGState) :=
  childNTsInf P nt.2.1.1 f ((f.ty.endsWith nt.1).getD [])

theorem ruleSetInf_args (P : Params) (nt : CNT) (r : Rule) (h : r ∈ ruleSetInf P nt) :
    r.2 = argsOfInf P nt r.1 := by
  unfold ruleSetInf at h
  simp only at h
  rcases List.mem_append.mp h with h | h
  · obtain ⟨s, hs, rfl⟩ := List.mem_map.mp h
    have := leafSymsInf_ty P _ _ s hs
    simp only [argsOfInf, this, endsWith_self]
    rfl
  · obtain ⟨hd, hhd, rfl⟩ := List.mem_map.mp h
    have := appHeadsInf_ty P _ _ hd hhd
    simp only [argsOfInf, this]
    rfl

theorem ruleSetInf_functional (P : Params) : Functional (ruleSetInf P) := by
  intro nt r hr r' hr' h
  rw [ruleSetInf_args P nt r hr, ruleSetInf_args P nt r' hr', h]

theorem ruleSetInf_depth (P : Params) (nt : CNT) (r : Rule) (h : r ∈ ruleSetInf P nt)
    (a : Ty × CFGState) (ha : a ∈ r.2) : a.2.2 = 0 := by
  rw [ruleSetInf_args P nt r h] at ha
  unfold argsOfInf childNTsInf at ha
  obtain ⟨x, _, rfl⟩ := List.mem_map.mp ha
  rfl

theorem genWList_childNTsInf (P : Params) (ctx : List (Sym × Nat)) (f : Sym)
    (hctx : CtxOK P.nGram ctx) (kids : List Prog)
    (ih : ∀ k ∈ kids, ∀ ty ctx' d', CtxOK P.nGram ctx' →
      genW (ruleSetInf P) k (ty, ((ctx', d'), ())) = wtI P (effParent P) k ctx'.head? ty) :
    ∀ (tys : List Ty) (i : Nat),
      genWList (ruleSetInf P) kids ((tys.zipIdx i).map (fun ai => (ai.1, (successor P.nGram ctx (f, ai.2), 0)))) =
      wtIList P (effParent P) kids f i tys := by
  induction kids with
  | nil => intro tys i; cases tys <;> rfl
  | cons k ks ihk =>
    intro tys i
    cases tys with
    | nil => rfl
    | cons a as =>
      obtain ⟨hh, hc⟩ : (successor P.nGram ctx (f, i)).head? = effParent P (f, i) ∧ CtxOK P.nGram _ :=
        successor_head P.nGram ctx (f, i) hctx
      have h1 := ih k List.mem_cons_self a _ 0 hc
      rw [hh] at h1
      rw [List.zipIdx_cons, List.map_cons, genWList, wtIList, ← h1,
        ihk (fun k' hk' => ih k' (List.mem_cons_of_mem _ hk')) as (i + 1)]
      rfl

/-- for every parameter set, including `n_gram ≤ 1`, where a child sees no parent -/
theorem genW_eq_wtI (P : Params) (t : Prog) : ∀ ty ctx d, CtxOK P.nGram ctx →
    genW (ruleSetInf P) t (ty, ((ctx, d), ())) = wtI P (effParent P) t ctx.head? ty := by
  induction t using Tree.ind with
  | node f kids ih =>
    intro ty ctx d hctx
    rw [genW_unfold, wtI]
    -- the body of `ruleSetInf P (ty, ((ctx, d), ()))` with its `let` put in (as in `genW_eq_wt`)
    change genWAny _ kids f ((leafSymsInf P (forbAt P ctx.head?) ty).map (fun s => (s, [])) ++
      (appHeadsInf P (forbAt P ctx.head?) ty).map (fun h => (h.1, childNTsInf P ctx h.1 h.2))) = _
    rw [genWAny_append, genWAny_leaves, genWAny_map]
    congr 2; funext h
    by_cases hf : h.1 = f
    · subst hf
      exact congrArg _ (genWList_childNTsInf P ctx h.1 hctx kids ih h.2 0)
    · rw [beq_false_of_ne hf, Bool.false_and, Bool.false_and]

theorem buildTableInf_eq (P : Params) (fuel : Nat) :
    buildTableInf P fuel = buildWith (ruleSetInf P) (startNT P) fuel := rfl

/-! ### `programs()` on a table of `CFG.infinite` (all depth components 0: dict order) -/

theorem programsInf_count (G : CFG) (hk : (AList.keys G.rules).Nodup) (n : Nat)
    (h : programsInf G = some n) :
    ∃ k, bounded G k G.start = true ∧ n = count G k G.start := by
  revert h
  fun_cases programsInf G with
  | case1 hfill => exact nofun
  | case2 cnt hfill =>
    exact Programs.inv_fill G hk G.rules [] cnt (fun e he => he) (Programs.inv_nil G) hfill (G.start.1, G.start.2.1) n

theorem genList_length (G : CFG) :
    ∀ (ks : List Prog) (as : List (Ty × CFGState)), genList G ks as = true → ks.length = as.length :=
  fun ks as h => ((genList_iff G ks as).mp h).1

/-- the test of `programsFill` on the first row (no count known yet): no rule has an argument -/
theorem fill_test_nil (rs : Row) :
    ((rs.map (fun r => (r.2.1.map (fun a => AList.lookup a ([] : AList (Ty × CFGState) Nat))))).all
      (fun l => l.all Option.isSome)) = true ↔ ∀ r ∈ rs, r.2.1 = [] := by
  simp only [List.all_eq_true, List.mem_map, forall_exists_index, and_imp, forall_apply_eq_imp_iff₂]
  exact ⟨fun h r hr => List.eq_nil_iff_forall_not_mem.mpr fun a ha => by simpa using h r hr a ha,
    fun h r hr a ha => by rw [h r hr] at ha; cases ha⟩

/-- `programs()` on a cleaned table whose first key is the start symbol and whose depth components are all 0: -1
    exactly when some rule of the start symbol has an argument, i.e. when the language contains an application —
    whether or not the language is infinite. -/
theorem programsInf_none_iff (G : CFG) (hwf : TableWF G.rules)
    (hfirst : G.rules.head?.map (·.1) = some G.start)
    (hreach : ∀ nt ∈ AList.keys G.rules, Reach G nt)
    (hprod : ∀ nt ∈ AList.keys G.rules, ∃ t, gen G t nt = true)
    (hclosed : ArgsClosed G.rules) :
    programsInf G = none ↔ ∃ f k ks, gen G (.node f (k :: ks)) G.start = true := by
  obtain ⟨⟨nt, rs⟩, rest, hrules⟩ : ∃ e rest, G.rules = e :: rest := by
    cases h : G.rules with
    | nil => rw [h] at hfirst; cases hfirst
    | cons e rest => exact ⟨e, rest, rfl⟩
  have hnt : nt = G.start := by rw [hrules] at hfirst; exact Option.some.inj hfirst
  have hmem : (nt, rs) ∈ G.rules := hrules ▸ List.mem_cons_self
  have hlk : AList.lookup G.start G.rules = some rs := hnt ▸ lookup_of_mem hwf.keys hmem
  -- both sides say that some rule of the start symbol has an argument
  have hR : (∃ f k ks, gen G (.node f (k :: ks)) G.start = true) ↔ ∃ r ∈ rs, r.2.1 ≠ [] := by
    constructor
    · rintro ⟨f, k, ks, hg⟩
      obtain ⟨rs', args, h1, h2, h3⟩ := (gen_iff G f (k :: ks) G.start).mp hg
      cases hlk.symm.trans h1
      exact ⟨_, AList.lookup_some_mem h2, fun e => by rw [show args = [] from e] at h3; cases h3⟩
    · rintro ⟨r, hr, hne⟩
      obtain ⟨ks, hks⟩ := genList_exists G r.2.1 fun a ha => hprod _ (hclosed _ hmem r hr a ha)
      cases ks with
      | nil => exact absurd (List.length_eq_zero_iff.mp (genList_length G [] r.2.1 hks).symm) hne
      | cons k ks =>
        exact ⟨r.1, k, ks, (gen_iff G _ _ _).mpr
          ⟨rs, r.2.1, hlk, AList.lookup_of_mem_nodup (hwf.rows _ hmem) hr, hks⟩⟩
  refine Iff.trans ?_ hR.symm
  by_cases hargs : ∀ r ∈ rs, r.2.1 = []
  · -- only leaf rules: the start symbol is the only non-terminal, the fill succeeds
    have honly : ∀ nt', Reach G nt' → nt' = G.start := by
      intro nt' hr
      induction hr with
      | start => rfl
      | step _ h1 h2 h3 ih =>
        rw [ih, hlk] at h1
        cases h1
        rw [hargs _ h2] at h3
        cases h3
    have hrest : rest = [] := by
      cases hrest : rest with
      | nil => rfl
      | cons e' rest' =>
        have he' : e' ∈ G.rules := by rw [hrules, hrest]; simp
        have hnd := hwf.keys
        rw [hrules, hrest] at hnd
        simp only [AList.keys, List.map_cons, List.nodup_cons, List.mem_cons] at hnd
        exact absurd (Or.inl (hnt.trans (honly e'.1 (hreach _ (List.mem_map_of_mem he'))).symm)) hnd.1
    refine iff_of_false (fun hnone => ?_) (fun ⟨r, hr, hne⟩ => hne (hargs r hr))
    unfold programsInf at hnone
    rw [hrules, hrest] at hnone
    simp only [programsFill, (fill_test_nil rs).mpr hargs, if_true] at hnone
    rw [← hnt, AList.lookup_insert_self] at hnone
    cases hnone
  · -- a rule with an argument: the very first fill step fails
    refine iff_of_true ?_ (by simpa only [not_forall, exists_prop] using hargs)
    unfold programsInf
    rw [hrules]
    simp only [programsFill, Bool.eq_false_iff.mpr (mt (fill_test_nil rs).mp hargs), Bool.false_eq_true, if_false]

theorem programsInf_none_of_build {R : CNT → List Rule} {s : CNT} {fuel : Nat} {G : CFG}
    (h : buildWith R s fuel = some G) :
    programsInf G = none ↔ ∃ f k ks, contains G (.node f (k :: ks)) = true := by
  obtain ⟨tbl, _, hinv, hstart, hrm, hs⟩ := buildWith_some h
  obtain ⟨s, rules⟩ := G
  subst hstart
  simp only [contains_eq_gen]
  exact programsInf_none_iff _ hs.wf
    (clean_head s tbl rules (cinvW_wf hinv) (hinv.first.resolve_right (fun h1 => nomatch h1.2)) hrm)
    hs.reachable hs.productive hs.closed

end PS.G
