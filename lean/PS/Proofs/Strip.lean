/-
  Python's `str.strip(chars)` on `List`, once for the three parser models (`C15.strip`/`lstrip`/`rstrip`,
  `C15.stripParens`, `C05.stripChars`): each of them unfolds by `rfl` to `stripBy`/`rstripBy` below.
  What the parsers use: a string made of stripped characters strips to `[]`; and in `pre ++ w ++ R`,
  with `pre` made of stripped characters and `w` beginning and ending with a character that is kept,
  `strip` leaves `w ++ rstrip R`, which is `w` when `R` too is made of stripped characters.
-/
namespace PS
variable {α : Type} (p : α → Bool)

def rstripBy (s : List α) : List α := (s.reverse.dropWhile p).reverse
def stripBy (s : List α) : List α := rstripBy p (s.dropWhile p)

def Starts (x : List α) : Prop := ∃ c r, x = c :: r ∧ p c = false
def Ends (x : List α) : Prop := ∃ r c, x = r ++ [c] ∧ p c = false

variable {p}

theorem starts_of_all {w : List α} (h0 : w ≠ []) (h : ∀ x ∈ w, p x = false) : Starts p w := by
  cases w with
  | nil => exact absurd rfl h0
  | cons c r => exact ⟨c, r, rfl, h c (by simp)⟩

theorem ends_of_all {w : List α} (h0 : w ≠ []) (h : ∀ x ∈ w, p x = false) : Ends p w :=
  ⟨w.dropLast, w.getLast h0, (List.dropLast_concat_getLast h0).symm, h _ (List.getLast_mem h0)⟩

theorem dropWhile_starts {x : List α} (h : Starts p x) (r : List α) : (x ++ r).dropWhile p = x ++ r := by
  obtain ⟨c, x, rfl, hc⟩ := h
  simp [hc]

variable (p) in
theorem rstripBy_cons (c : α) (x : List α) :
    rstripBy p (c :: x) = if p c = true ∧ rstripBy p x = [] then [] else c :: rstripBy p x := by
  unfold rstripBy
  rw [List.reverse_cons, List.dropWhile_append]
  by_cases h : (List.dropWhile p x.reverse).isEmpty = true
  · have h' : List.dropWhile p x.reverse = [] := List.isEmpty_iff.mp h
    simp only [h', List.reverse_nil]
    by_cases hc : p c = true <;> simp [hc]
  · have h' : List.dropWhile p x.reverse ≠ [] := fun e => h (List.isEmpty_iff.mpr e)
    simp [h, h']

theorem rstripBy_all {s : List α} (h : ∀ x ∈ s, p x = true) : rstripBy p s = [] := by
  induction s with
  | nil => rfl
  | cons c s ih => rw [rstripBy_cons, ih fun x hx => h x (by simp [hx])]; simp [h c (by simp)]

theorem stripBy_all {s : List α} (h : ∀ x ∈ s, p x = true) : stripBy p s = [] := by
  have : s.dropWhile p = [] := by simpa using List.dropWhile_append_of_pos (l₂ := []) h
  rw [stripBy, this]; rfl

theorem rstripBy_append_ends {x : List α} (y : List α) (hx : Ends p x) :
    rstripBy p (x ++ y) = x ++ rstripBy p y := by
  obtain ⟨r, c, rfl, hc⟩ := hx
  induction r with
  | nil =>
    show rstripBy p (c :: y) = c :: rstripBy p y
    rw [rstripBy_cons]; simp [hc]
  | cons d r ih =>
    show rstripBy p (d :: ((r ++ [c]) ++ y)) = d :: ((r ++ [c]) ++ rstripBy p y)
    rw [rstripBy_cons, ih]
    simp

theorem stripBy_tok {pre w : List α} (R : List α) (hpre : ∀ x ∈ pre, p x = true) (h1 : Starts p w)
    (h2 : Ends p w) : stripBy p (pre ++ w ++ R) = w ++ rstripBy p R := by
  unfold stripBy
  rw [List.append_assoc, List.dropWhile_append_of_pos hpre, dropWhile_starts h1, rstripBy_append_ends R h2]

theorem stripBy_mid {pre w post : List α} (hpre : ∀ x ∈ pre, p x = true) (hpost : ∀ x ∈ post, p x = true)
    (h1 : Starts p w) (h2 : Ends p w) : stripBy p (pre ++ w ++ post) = w := by
  rw [stripBy_tok post hpre h1 h2, rstripBy_all hpost, List.append_nil]

theorem ne_of_isDigit {c x : Char} (hc : c.isDigit = true) (hx : x.isDigit = false) : c ≠ x :=
  fun e => Bool.noConfusion ((e ▸ hc).symm.trans hx)

end PS
