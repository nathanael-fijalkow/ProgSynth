/- C17, grammar side.  Under `rowOK` no insertion of the loop overwrites, so a new row is the
   concatenation of the expansions of the entries of the old one (`instRow_eq_flatMap`); a key of the
   new table comes from exactly one key of the old (`produces`, which is the specification `symInst`
   on the keys of a grammar) and `templSym` reads it back.  Hence the language of the instantiated
   grammar (`gen_inst_iff`), each program of which has one template (`templ_unique`). -/
import PS.Model.InstConst
import PS.Proofs.ProbDet
import Mathlib.Data.List.Nodup
namespace PS.IC
open PS PS.G

variable {ν : Type}

/-- the entries that `step` inserts for the entry `e` of a row, as a list: `step` is the fold of
    `AList.insert` over it, and `instRow` their concatenation when no insertion overwrites -/
def expand (fx : Fix) (tbl : Tbl) (f : ν → Nat → ν) (e : Sym × ν) : List (Sym × ν) :=
  match slot? fx tbl e.1 with
  | some vals => vals.map (fun val => (Sym.const e.1.ty val, f e.2 vals.length))
  | none => [e]

/-- what the language-level facts need of a key: one the code instantiates is the bare slot; a
    constant the code leaves alone has no value listed for its type -/
def slotFix (fx : Fix) (tbl : Tbl) (P : Sym) : Prop :=
  (∀ vals, slot? fx tbl P = some vals → P = Sym.const P.ty "") ∧
  (slot? fx tbl P = none → P.kind = .const →
    ∀ vals, AList.lookup P.ty tbl = some vals → P.name ∉ vals)

/-- the per-key part of `rowOK`: `slotFix`, and the value list of an instantiated key is good -/
def okKey (fx : Fix) (tbl : Tbl) (P : Sym) : Prop :=
  slotFix fx tbl P ∧ ∀ vals, slot? fx tbl P = some vals → valsOK vals = true

theorem okKey.slotFix {fx : Fix} {tbl : Tbl} {P : Sym} (h : okKey fx tbl P) : slotFix fx tbl P := h.1

/-- `k` is a key of `expand … (P, _)`: one of the valued constants of a slot, or `P` itself -/
def produces (fx : Fix) (tbl : Tbl) (P k : Sym) : Prop :=
  match slot? fx tbl P with
  | some vals => ∃ v ∈ vals, k = Sym.const P.ty v
  | none => k = P

theorem mem_distinctAux {seen l : List String} {v : String} :
    v ∈ distinctAux seen l ↔ v ∈ l ∧ v ∉ seen := by
  fun_induction distinctAux seen l with
  | case1 seen => simp
  | case2 seen a r ha ih =>
    rw [ih, List.mem_cons]
    exact ⟨fun h => ⟨Or.inr h.1, h.2⟩,
      fun h => ⟨h.1.resolve_left fun e => h.2 (e ▸ List.contains_iff_mem.mp ha), h.2⟩⟩
  | case3 seen a r ha ih =>
    rw [List.mem_cons, ih, List.mem_cons, List.mem_cons]
    by_cases hva : v = a
    · simpa [hva] using ha
    · simp [hva]

theorem nodup_distinctAux (seen l : List String) : (distinctAux seen l).Nodup := by
  fun_induction distinctAux seen l with
  | case1 => exact List.nodup_nil
  | case2 _ _ _ _ ih => exact ih
  | case3 _ a _ _ ih =>
    exact List.nodup_cons.mpr ⟨fun h => (mem_distinctAux.mp h).2 (List.mem_cons_self ..), ih⟩

theorem mem_distinct {l : List String} {v : String} : v ∈ distinct l ↔ v ∈ l := by
  unfold distinct; rw [mem_distinctAux]; simp

theorem nodup_distinct (l : List String) : (distinct l).Nodup := nodup_distinctAux [] l

theorem mem_fxvals {fx : Fix} {l : List String} {v : String} : v ∈ fx.vals l ↔ v ∈ l := by
  unfold Fix.vals
  cases fx.f3
  · simp
  · simp [mem_distinct]

theorem fxvals_eq_nil {fx : Fix} {l : List String} : fx.vals l = [] ↔ l = [] := by
  simp only [List.eq_nil_iff_forall_not_mem, mem_fxvals]

theorem nodup_fxvals_of_f3 {fx : Fix} (h : fx.f3 = true) (l : List String) : (fx.vals l).Nodup := by
  unfold Fix.vals; rw [h]; exact nodup_distinct l

theorem isConst_iff {fx : Fix} {P : Sym} :
    fx.isConst P = true ↔ P.kind = .const ∧ (fx.f2 = true → P.name = "") := by
  cases hf : fx.f2 <;> simp [Fix.isConst, hf]

theorem slot?_some {fx : Fix} {tbl : Tbl} {P : Sym} {vals : List String} (h : slot? fx tbl P = some vals) :
    P.kind = .const ∧ (fx.f2 = true → P.name = "") ∧
      ∃ vals0, AList.lookup P.ty tbl = some vals0 ∧ vals = fx.vals vals0 := by
  unfold slot? at h
  split at h
  · next hc =>
    obtain ⟨vals0, hl, rfl⟩ := Option.map_eq_some_iff.mp h
    exact ⟨(isConst_iff.mp hc).1, (isConst_iff.mp hc).2, vals0, hl, rfl⟩
  · cases h

theorem slot?_none {fx : Fix} {tbl : Tbl} {P : Sym} (h : slot? fx tbl P = none) :
    P.kind ≠ .const ∨ AList.lookup P.ty tbl = none ∨ (fx.f2 = true ∧ P.name ≠ "") := by
  unfold slot? at h
  split at h
  · exact Or.inr (Or.inl (Option.map_eq_none_iff.mp h))
  · next hc =>
    by_cases hk : P.kind = .const
    · exact Or.inr (Or.inr (Classical.not_imp.mp fun hn => hc (isConst_iff.mpr ⟨hk, hn⟩)))
    · exact Or.inl hk

theorem isSlot_of_slot? {fx : Fix} {tbl : Tbl} {P : Sym} {vals : List String}
    (h : slot? fx tbl P = some vals) (hn : P.name = "") : isSlot tbl P = true := by
  obtain ⟨hk, _, vals0, hl, _⟩ := slot?_some h
  simp [isSlot, hk, hn, AList.contains, hl]

/-- the test on a key the code leaves alone (shared by `keyOK` and `cleanSym`) -/
theorem leftAlone_iff {tbl : Tbl} {P : Sym} :
    (!(P.kind = .const) || match AList.lookup P.ty tbl with
      | some vals => !(vals.contains P.name)
      | none => true) = true ↔
    (P.kind = .const → ∀ vals, AList.lookup P.ty tbl = some vals → P.name ∉ vals) := by
  cases AList.lookup P.ty tbl with
  | none => simp
  | some vals0 => simp; exact Decidable.imp_iff_not_or.symm

theorem keyOK_iff {fx : Fix} {tbl : Tbl} {P : Sym} : keyOK fx tbl P = true ↔ okKey fx tbl P := by
  unfold keyOK okKey slotFix
  cases hs : slot? fx tbl P with
  | some vals =>
    simp only [Bool.and_eq_true, decide_eq_true_eq, Option.some.injEq, reduceCtorEq, false_imp_iff,
      and_true, forall_eq']
  | none =>
    simp only [reduceCtorEq, false_imp_iff, implies_true, true_and, and_true, forall_const]
    exact leftAlone_iff

theorem rowOK_iff {fx : Fix} {tbl : Tbl} {row : AList Sym ν} :
    rowOK fx tbl row = true ↔ (AList.keys row).Nodup ∧ ∀ P ∈ AList.keys row, okKey fx tbl P := by
  unfold rowOK
  simp only [Bool.and_eq_true, decide_eq_true_eq, List.all_eq_true, keyOK_iff]

theorem const_inj {t1 t2 : Ty} {v1 v2 : String} (h : Sym.const t1 v1 = Sym.const t2 v2) :
    t1 = t2 ∧ v1 = v2 := by
  simp only [Sym.const, Sym.mk.injEq] at h
  exact ⟨h.2.2.2, h.2.1⟩

theorem templSym_const_listed {tbl : Tbl} {ty : Ty} {v : String} {vals0 : List String}
    (hl : AList.lookup ty tbl = some vals0) (hv : v ∈ vals0) :
    templSym tbl (Sym.const ty v) = Sym.const ty "" := by
  simp [templSym, Sym.const, hl, hv]

theorem templSym_self {fx : Fix} {tbl : Tbl} {P : Sym} (hP : slotFix fx tbl P) :
    templSym tbl P = P := by
  fun_cases templSym tbl P with
  | case1 hk vals0 hl hc =>
    cases hs : slot? fx tbl P with
    | some vals => exact (hP.1 vals hs).symm
    | none => exact absurd (List.contains_iff_mem.mp hc) (hP.2 hs hk vals0 hl)
  | case2 | case3 | case4 => rfl

theorem templSym_of_produces {fx : Fix} {tbl : Tbl} {P k : Sym} (hP : slotFix fx tbl P)
    (hp : produces fx tbl P k) : templSym tbl k = P := by
  unfold produces at hp
  split at hp
  · next vals hs =>
    obtain ⟨v, hv, rfl⟩ := hp
    obtain ⟨_, _, vals0, hl, rfl⟩ := slot?_some hs
    rw [templSym_const_listed hl (mem_fxvals.mp hv)]
    exact (hP.1 _ hs).symm
  · subst hp
    exact templSym_self hP

theorem produces_inj {fx : Fix} {tbl : Tbl} {P1 P2 k : Sym} (h1 : slotFix fx tbl P1) (h2 : slotFix fx tbl P2)
    (p1 : produces fx tbl P1 k) (p2 : produces fx tbl P2 k) : P1 = P2 :=
  (templSym_of_produces h1 p1).symm.trans (templSym_of_produces h2 p2)

theorem mem_expand {fx : Fix} {tbl : Tbl} {f : ν → Nat → ν} {P : Sym} {v : ν} {k : Sym} {w : ν} :
    (k, w) ∈ expand fx tbl f (P, v) ↔
      produces fx tbl P k ∧ w = (match slot? fx tbl P with | some vals => f v vals.length | none => v) := by
  unfold expand produces
  cases slot? fx tbl P with
  | some vals =>
    simp only [List.mem_map, Prod.mk.injEq]
    constructor
    · rintro ⟨val, hval, rfl, rfl⟩; exact ⟨⟨val, hval, rfl⟩, rfl⟩
    · rintro ⟨⟨val, hval, rfl⟩, rfl⟩; exact ⟨val, hval, rfl, rfl⟩
  | none => simp

/-- rule tables: the value is copied -/
theorem mem_expand_id {fx : Fix} {tbl : Tbl} {e x : Sym × ν} (h : x ∈ expand fx tbl (fun v _ => v) e) :
    produces fx tbl e.1 x.1 ∧ x.2 = e.2 := by
  obtain ⟨hp, hx⟩ := mem_expand.mp h
  exact ⟨hp, by rw [hx]; cases slot? fx tbl e.1 <;> rfl⟩

theorem mem_keys_expand {fx : Fix} {tbl : Tbl} {f : ν → Nat → ν} {e : Sym × ν} {k : Sym} :
    k ∈ AList.keys (expand fx tbl f e) ↔ produces fx tbl e.1 k := by
  unfold AList.keys
  simp only [List.mem_map]
  constructor
  · rintro ⟨⟨k', w⟩, hm, rfl⟩
    exact (mem_expand.mp hm).1
  · intro h
    exact ⟨(k, _), mem_expand.mpr ⟨h, rfl⟩, rfl⟩

theorem keys_expand_nodup {fx : Fix} {tbl : Tbl} {f : ν → Nat → ν} {e : Sym × ν} (h : okKey fx tbl e.1) :
    (AList.keys (expand fx tbl f e)).Nodup := by
  fun_cases expand fx tbl f e with
  | case2 => exact List.nodup_singleton _
  | case1 vals hs =>
    have hv := h.2 vals hs
    unfold valsOK at hv
    simp only [Bool.and_eq_true, decide_eq_true_eq] at hv
    rw [AList.keys, List.map_map]
    exact hv.1.map fun a b hab => (const_inj hab).2

theorem keys_flatMap_nodup {fx : Fix} {tbl : Tbl} {f : ν → Nat → ν} {row : AList Sym ν}
    (h : rowOK fx tbl row = true) : (AList.keys (row.flatMap (expand fx tbl f))).Nodup := by
  obtain ⟨hnd, hok⟩ := rowOK_iff.mp h
  have key : ∀ e ∈ row, okKey fx tbl e.1 := fun e he => hok e.1 (List.mem_map.mpr ⟨e, he, rfl⟩)
  rw [AList.keys, List.map_flatMap]
  -- two entries that make the same key have the same key (`produces_inj`), so they are the same entry
  exact AList.nodup_flatMap (List.Nodup.of_map _ hnd) (fun e he => keys_expand_nodup (key e he))
    fun e he e' he' k hk hk' => List.inj_on_of_nodup_map hnd he he'
      (produces_inj (key e he).slotFix (key e' he').slotFix (mem_keys_expand.mp hk)
        (mem_keys_expand.mp hk'))

theorem step_eq {fx : Fix} {tbl : Tbl} {f : ν → Nat → ν} (acc : AList Sym ν) (e : Sym × ν) :
    step fx tbl f acc e = (expand fx tbl f e).foldl (fun a x => AList.insert x.1 x.2 a) acc := by
  unfold step expand
  cases slot? fx tbl e.1 with
  | some vals => simp [List.foldl_map]
  | none => simp

theorem instRow_eq_flatMap {fx : Fix} {tbl : Tbl} {f : ν → Nat → ν} {row : AList Sym ν}
    (h : rowOK fx tbl row = true) : instRow fx tbl f row = row.flatMap (expand fx tbl f) := by
  unfold instRow
  have : (fun acc e => step fx tbl f acc e) =
      (fun acc e => (expand fx tbl f e).foldl (fun a x => AList.insert x.1 x.2 a) acc) := by
    funext acc e; exact step_eq acc e
  show List.foldl (fun acc e => step fx tbl f acc e) [] row = _
  rw [this, ← List.foldl_flatMap (f := expand fx tbl f) (g := fun a x => AList.insert x.1 x.2 a)]
  have := AList.foldl_insert_eq_append ([] : AList Sym ν) (row.flatMap (expand fx tbl f)) (by simpa using keys_flatMap_nodup h)
  simpa using this

theorem lookup_instRow_iff {fx : Fix} {tbl : Tbl} {f : ν → Nat → ν} {row : AList Sym ν}
    (h : rowOK fx tbl row = true) (k : Sym) (w : ν) :
    AList.lookup k (instRow fx tbl f row) = some w ↔
      ∃ P v, AList.lookup P row = some v ∧ produces fx tbl P k ∧
        w = (match slot? fx tbl P with | some vals => f v vals.length | none => v) := by
  rw [instRow_eq_flatMap h, AList.lookup_iff_mem (keys_flatMap_nodup h), List.mem_flatMap]
  have hnd := (rowOK_iff.mp h).1
  constructor
  · rintro ⟨⟨P, v⟩, he, hm⟩
    exact ⟨P, v, (AList.lookup_iff_mem hnd).mpr he, mem_expand.mp hm⟩
  · rintro ⟨P, v, hl, hp⟩
    exact ⟨(P, v), (AList.lookup_iff_mem hnd).mp hl, mem_expand.mpr hp⟩

theorem lookup_instRow_of_produces {fx : Fix} {tbl : Tbl} {f : ν → Nat → ν} {row : AList Sym ν}
    (h : rowOK fx tbl row = true) {P k : Sym} (hP : slotFix fx tbl P) (hp : produces fx tbl P k) :
    AList.lookup k (instRow fx tbl f row) =
      (AList.lookup P row).map (fun v => match slot? fx tbl P with | some vals => f v vals.length | none => v) := by
  cases hl : AList.lookup P row with
  | some v =>
    exact (lookup_instRow_iff h k _).mpr ⟨P, v, hl, hp, rfl⟩
  | none =>
    cases hk : AList.lookup k (instRow fx tbl f row) with
    | none => rfl
    | some w =>
      obtain ⟨P', v', hl', hp', _⟩ := (lookup_instRow_iff h k w).mp hk
      have hok' := (rowOK_iff.mp h).2 P' (AList.mem_keys_of_lookup hl')
      have := produces_inj hok'.slotFix hP hp' hp
      rw [this, hl] at hl'
      cases hl'

theorem symInst_of_not_isSlot {tbl : Tbl} {P k : Sym} (h : isSlot tbl P = false) :
    symInst tbl P k = true ↔ k = P := by
  unfold symInst; rw [h]; simp

theorem not_isSlot_of_slot?_none {fx : Fix} {tbl : Tbl} {P : Sym} (hs : slot? fx tbl P = none) :
    isSlot tbl P = false := by
  unfold isSlot
  rcases slot?_none hs with hk | hl | ⟨_, hn⟩
  · simp [hk]
  · simp [AList.contains, hl]
  · simp [hn]

theorem produces_iff_symInst_of_name {fx : Fix} {tbl : Tbl} {P k : Sym}
    (hn : ∀ vals, slot? fx tbl P = some vals → P.name = "") :
    produces fx tbl P k ↔ symInst tbl P k = true := by
  unfold produces
  cases hs : slot? fx tbl P with
  | some vals =>
    obtain ⟨hk, _, vals0, hl, rfl⟩ := slot?_some hs
    unfold symInst
    rw [isSlot_of_slot? hs (hn _ hs)]
    simp only [if_true, hl, List.any_eq_true, decide_eq_true_eq]
    constructor
    · rintro ⟨v, hv, rfl⟩; exact ⟨v, mem_fxvals.mp hv, rfl⟩
    · rintro ⟨v, hv, rfl⟩; exact ⟨v, mem_fxvals.mpr hv, rfl⟩
  | none =>
    simp only
    rw [symInst_of_not_isSlot (not_isSlot_of_slot?_none hs)]

theorem produces_iff_symInst {fx : Fix} {tbl : Tbl} {P k : Sym} (hP : slotFix fx tbl P) :
    produces fx tbl P k ↔ symInst tbl P k = true :=
  produces_iff_symInst_of_name fun vals hs => congrArg Sym.name (hP.1 vals hs)

theorem lookup_instRow_id_iff {fx : Fix} {tbl : Tbl} {row : AList Sym ν} (h : rowOK fx tbl row = true)
    (k : Sym) (w : ν) :
    AList.lookup k (instRow fx tbl (fun v _ => v) row) = some w ↔
      ∃ P, AList.lookup P row = some w ∧ symInst tbl P k = true := by
  rw [lookup_instRow_iff h]
  have hsf : ∀ {P v}, AList.lookup P row = some v → slotFix fx tbl P := fun hP =>
    ((rowOK_iff.mp h).2 _ (AList.mem_keys_of_lookup hP)).slotFix
  constructor
  · rintro ⟨P, v, hP, hp, rfl⟩
    exact ⟨P, by rw [hP]; cases slot? fx tbl P <;> rfl, (produces_iff_symInst (hsf hP)).mp hp⟩
  · rintro ⟨P, hP, hs⟩
    exact ⟨P, w, hP, (produces_iff_symInst (hsf hP)).mpr hs, by cases slot? fx tbl P <;> rfl⟩

theorem lookup_instRules {κ : Type} [DecidableEq κ] (fx : Fix) (tbl : Tbl) (f : ν → Nat → ν)
    (d : AList κ (AList Sym ν)) (nt : κ) :
    AList.lookup nt (instRules fx tbl f d) = (AList.lookup nt d).map (instRow fx tbl f) :=
  AList.lookup_map_val (fun _ => instRow fx tbl f) nt d

theorem lookup_instTags {S T : Type} [DecidableEq S] [DecidableEq T] (fx : Fix) (tags : Tags S T) (tbl : Tbl)
    (nt : NT S T) :
    AList.lookup nt (instTags fx tags tbl) = (AList.lookup nt tags).map (instRow fx tbl fun p n => p / (n : Rat)) :=
  lookup_instRules fx tbl _ tags nt

theorem forall_mem_instRules {κ : Type} {fx : Fix} {tbl : Tbl} {f : ν → Nat → ν} {d : AList κ (AList Sym ν)}
    {p : κ × AList Sym ν → Prop} (h : ∀ e ∈ d, p (e.1, instRow fx tbl f e.2)) :
    ∀ e ∈ instRules fx tbl f d, p e := by
  intro e he
  obtain ⟨e0, he0, rfl⟩ := List.mem_map.mp he
  exact h e0 he0

theorem rulesOK_mem {κ : Type} {fx : Fix} {tbl : Tbl} {d : AList κ (AList Sym ν)}
    (h : rulesOK fx tbl d = true) {e : κ × AList Sym ν} (he : e ∈ d) : rowOK fx tbl e.2 = true :=
  List.all_eq_true.mp h e he

theorem rulesNonEmpty_mem {κ : Type} {fx : Fix} {tbl : Tbl} {d : AList κ (AList Sym ν)}
    (h : rulesNonEmpty fx tbl d = true) {e : κ × AList Sym ν} (he : e ∈ d) :
    rowNonEmpty fx tbl e.2 = true :=
  List.all_eq_true.mp h e he

theorem rulesOK_row {κ : Type} [DecidableEq κ] {fx : Fix} {tbl : Tbl} {d : AList κ (AList Sym ν)}
    (h : rulesOK fx tbl d = true) {nt : κ} {row : AList Sym ν} (hl : AList.lookup nt d = some row) :
    rowOK fx tbl row = true :=
  rulesOK_mem h (AList.lookup_some_mem hl)

theorem rulesNonEmpty_row {κ : Type} [DecidableEq κ] {fx : Fix} {tbl : Tbl} {d : AList κ (AList Sym ν)}
    (h : rulesNonEmpty fx tbl d = true) {nt : κ} {row : AList Sym ν} (hl : AList.lookup nt d = some row) :
    rowNonEmpty fx tbl row = true :=
  rulesNonEmpty_mem h (AList.lookup_some_mem hl)

theorem lookup_instRules_flatMap {κ : Type} [DecidableEq κ] {fx : Fix} {tbl : Tbl} (f : ν → Nat → ν)
    {d : AList κ (AList Sym ν)} (h : rulesOK fx tbl d = true) {nt : κ} {rs : AList Sym ν}
    (hl : AList.lookup nt d = some rs) :
    AList.lookup nt (instRules fx tbl f d) = some (rs.flatMap (expand fx tbl f)) := by
  rw [lookup_instRules, hl, Option.map_some, instRow_eq_flatMap (rulesOK_row h hl)]

section lookup₂
variable {κ : Type} [DecidableEq κ] {fx : Fix} {tbl : Tbl} {d : AList κ (AList Sym ν)} {nt : κ}

theorem slotFix_of_lookup₂ (h : rulesOK fx tbl d = true) {P : Sym} {v : ν} (hl : AList.lookup₂ d nt P = some v) :
    slotFix fx tbl P := by
  obtain ⟨row, hr, hP⟩ := AList.lookup₂_eq_some.mp hl
  exact ((rowOK_iff.mp (rulesOK_row h hr)).2 P (AList.mem_keys_of_lookup hP)).slotFix

theorem lookup₂_inst_of_produces (h : rulesOK fx tbl d = true) (f : ν → Nat → ν) (nt : κ) {P k : Sym}
    (hP : slotFix fx tbl P) (hp : produces fx tbl P k) :
    AList.lookup₂ (instRules fx tbl f d) nt k =
      (AList.lookup₂ d nt P).map (fun v => match slot? fx tbl P with | some vals => f v vals.length | none => v) := by
  unfold AList.lookup₂
  rw [lookup_instRules]
  cases hl : AList.lookup nt d with
  | none => rfl
  | some row => exact lookup_instRow_of_produces (rulesOK_row h hl) hP hp

theorem lookup₂_inst_some (h : rulesOK fx tbl d = true) {f : ν → Nat → ν} {k : Sym} {w : ν}
    (hr : AList.lookup₂ (instRules fx tbl f d) nt k = some w) :
    ∃ P v, AList.lookup₂ d nt P = some v ∧ produces fx tbl P k ∧
      w = (match slot? fx tbl P with | some vals => f v vals.length | none => v) := by
  unfold AList.lookup₂ at hr ⊢
  rw [lookup_instRules] at hr
  cases hl : AList.lookup nt d with
  | none => rw [hl] at hr; cases hr
  | some row => rw [hl] at hr; exact (lookup_instRow_iff (rulesOK_row h hl) k w).mp hr

theorem lookup₂_inst_id_of_produces (h : rulesOK fx tbl d = true) (nt : κ) {P k : Sym}
    (hP : slotFix fx tbl P) (hp : produces fx tbl P k) :
    AList.lookup₂ (instRules fx tbl (fun v _ => v) d) nt k = AList.lookup₂ d nt P := by
  rw [lookup₂_inst_of_produces h _ nt hP hp]
  cases AList.lookup₂ d nt P with
  | none => rfl
  | some v => cases slot? fx tbl P <;> rfl

theorem lookup₂_inst_id_some (h : rulesOK fx tbl d = true) {k : Sym} {w : ν}
    (hr : AList.lookup₂ (instRules fx tbl (fun v _ => v) d) nt k = some w) :
    ∃ P, AList.lookup₂ d nt P = some w ∧ produces fx tbl P k := by
  obtain ⟨P, v, hl, hp, rfl⟩ := lookup₂_inst_some h hr
  exact ⟨P, by rw [hl]; cases slot? fx tbl P <;> rfl, hp⟩

end lookup₂

theorem isInst_node {tbl : Tbl} {f : Sym} {ks : List Prog} {t' : Prog}
    (h : isInst tbl (.node f ks) t' = true) :
    ∃ f' ks', t' = .node f' ks' ∧ symInst tbl f f' = true ∧ isInstList tbl ks ks' = true := by
  obtain ⟨f', ks'⟩ := t'
  rw [isInst, Bool.and_eq_true] at h
  exact ⟨f', ks', rfl, h⟩

theorem isInstList_nil {tbl : Tbl} {l : List Prog} (h : isInstList tbl [] l = true) : l = [] := by
  cases l with
  | nil => rfl
  | cons _ _ => simp [isInstList] at h

theorem isInstList_cons {tbl : Tbl} {k : Prog} {ks l : List Prog} (h : isInstList tbl (k :: ks) l = true) :
    ∃ k' ks', l = k' :: ks' ∧ isInst tbl k k' = true ∧ isInstList tbl ks ks' = true := by
  cases l with
  | nil => simp [isInstList] at h
  | cons k' ks' =>
    rw [isInstList, Bool.and_eq_true] at h
    exact ⟨k', ks', rfl, h⟩

/-- `slotFix` as a Boolean (`cleanSym_iff`) -/
def cleanSym (fx : Fix) (tbl : Tbl) (P : Sym) : Bool :=
  match slot? fx tbl P with
  | some _ => P = Sym.const P.ty ""
  | none => !(P.kind = .const) || match AList.lookup P.ty tbl with
      | some vals => !(vals.contains P.name)
      | none => true

mutual
  /-- every head symbol of the program satisfies `slotFix` (nothing to do with the `clean()` of the
      grammar classes).  It is what the facts about `isInst`/`templ` need of a template, stated without
      a grammar; every program of a grammar that satisfies `rulesOK` has it (`clean_of_gen`, `clean_of_genU`). -/
  def clean (fx : Fix) (tbl : Tbl) : Prog → Bool
    | .node f kids => cleanSym fx tbl f && cleanList fx tbl kids
  def cleanList (fx : Fix) (tbl : Tbl) : List Prog → Bool
    | [] => true
    | k :: ks => clean fx tbl k && cleanList fx tbl ks
end

theorem cleanSym_iff {fx : Fix} {tbl : Tbl} {P : Sym} : cleanSym fx tbl P = true ↔ slotFix fx tbl P := by
  unfold cleanSym slotFix
  cases hs : slot? fx tbl P with
  | some vals =>
    simp only [decide_eq_true_eq, Option.some.injEq, reduceCtorEq, false_imp_iff, and_true, forall_eq']
  | none =>
    simp only [reduceCtorEq, false_imp_iff, implies_true, true_and, forall_const]
    exact leftAlone_iff

theorem clean_node {fx : Fix} {tbl : Tbl} {f : Sym} {ks : List Prog} (h : clean fx tbl (.node f ks) = true) :
    slotFix fx tbl f ∧ cleanList fx tbl ks = true := by
  rw [clean, Bool.and_eq_true] at h
  exact ⟨cleanSym_iff.mp h.1, h.2⟩

theorem cleanList_cons {fx : Fix} {tbl : Tbl} {k : Prog} {ks : List Prog}
    (h : cleanList fx tbl (k :: ks) = true) : clean fx tbl k = true ∧ cleanList fx tbl ks = true := by
  rw [cleanList, Bool.and_eq_true] at h
  exact h

theorem templ_of_isInst'_both (fx : Fix) (tbl : Tbl) :
    (∀ (t t' : Prog), clean fx tbl t = true → isInst tbl t t' = true → templ tbl t' = t) ∧
    ∀ (ks ks' : List Prog), cleanList fx tbl ks = true → isInstList tbl ks ks' = true →
      templList tbl ks' = ks := by
  refine Tree.ind₂ (fun P kids ih t' hf hi => ?_) (fun ks' _ hi => ?_) (fun k ks ih1 ih2 l hf hi => ?_)
  · obtain ⟨hsf, hf⟩ := clean_node hf
    obtain ⟨k, kids', rfl, hs, hi⟩ := isInst_node hi
    rw [templ, templSym_of_produces hsf ((produces_iff_symInst hsf).mpr hs), ih kids' hf hi]
  · rw [isInstList_nil hi]; rfl
  · obtain ⟨hf1, hf2⟩ := cleanList_cons hf
    obtain ⟨k', ks', rfl, hi1, hi2⟩ := isInstList_cons hi
    rw [templList, ih1 k' hf1 hi1, ih2 ks' hf2 hi2]

theorem templList_of_isInstList' (fx : Fix) (tbl : Tbl) : ∀ (ks ks' : List Prog), cleanList fx tbl ks = true →
      isInstList tbl ks ks' = true → templList tbl ks' = ks :=
  (templ_of_isInst'_both fx tbl).2

theorem templ_of_isInst' (fx : Fix) (tbl : Tbl) : ∀ (t t' : Prog), clean fx tbl t = true →
      isInst tbl t t' = true → templ tbl t' = t :=
  (templ_of_isInst'_both fx tbl).1

section grammar
variable {S : Type} [DecidableEq S]

theorem rule?_inst_of_produces {fx : Fix} {tbl : Tbl} {G : TT S Unit} (h : rulesOK fx tbl G.rules = true)
    (nt : NT S Unit) {P k : Sym} (hP : slotFix fx tbl P) (hp : produces fx tbl P k) :
    (inst fx G tbl).rule? nt k = G.rule? nt P := by
  rw [TT.rule?_eq_lookup₂, TT.rule?_eq_lookup₂]
  exact lookup₂_inst_id_of_produces h nt hP hp

theorem gen_inst_templ (fx : Fix) (tbl : Tbl) (G : TT S Unit) (h : rulesOK fx tbl G.rules = true) :
    (∀ (t' : Prog) (nt : NT S Unit), gen (inst fx G tbl) t' nt = true →
      gen G (templ tbl t') nt = true ∧ isInst tbl (templ tbl t') t' = true) ∧
    ∀ (ks' : List Prog) (args : List (Ty × S)), genList (inst fx G tbl) ks' args = true →
      genList G (templList tbl ks') args = true ∧ isInstList tbl (templList tbl ks') ks' = true := by
  refine Tree.ind₂ (fun k kids' ih nt hg => ?_) (fun args hg => ?_) (fun k' ks' ih1 ih2 args hg => ?_)
  · obtain ⟨args, u, hr, hg⟩ := gen_node hg
    rw [TT.rule?_eq_lookup₂] at hr
    obtain ⟨P, hrP, hp⟩ := lookup₂_inst_id_some h hr
    have hok := slotFix_of_lookup₂ h hrP
    rw [templ, gen, isInst, templSym_of_produces hok hp, TT.rule?_eq_lookup₂, hrP, Bool.and_eq_true]
    exact ⟨(ih args hg).1, (produces_iff_symInst hok).mp hp, (ih args hg).2⟩
  · rw [genList_nil hg]; exact ⟨rfl, rfl⟩
  · obtain ⟨t, s, as, rfl, hg1, hg2⟩ := genList_cons hg
    rw [templList, genList, isInstList, Bool.and_eq_true, Bool.and_eq_true]
    exact ⟨⟨(ih1 _ hg1).1, (ih2 as hg2).1⟩, (ih1 _ hg1).2, (ih2 as hg2).2⟩

theorem genList_inst_templ (fx : Fix) (tbl : Tbl) (G : TT S Unit) (h : rulesOK fx tbl G.rules = true) :
      ∀ (ks' : List Prog) (args : List (Ty × S)), genList (inst fx G tbl) ks' args = true →
        genList G (templList tbl ks') args = true ∧ isInstList tbl (templList tbl ks') ks' = true :=
  (gen_inst_templ fx tbl G h).2

theorem gen_inst_of_isInst (fx : Fix) (tbl : Tbl) (G : TT S Unit) (h : rulesOK fx tbl G.rules = true) :
    (∀ (t t' : Prog) (nt : NT S Unit), gen G t nt = true → isInst tbl t t' = true →
      gen (inst fx G tbl) t' nt = true) ∧
    ∀ (ks ks' : List Prog) (args : List (Ty × S)), genList G ks args = true →
      isInstList tbl ks ks' = true → genList (inst fx G tbl) ks' args = true := by
  refine Tree.ind₂ (fun P kids ih t' nt hg hi => ?_) (fun ks' args hg hi => ?_)
    (fun k ks ih1 ih2 l args hg hi => ?_)
  · obtain ⟨args, u, hr, hg⟩ := gen_node hg
    obtain ⟨k, kids', rfl, hs, hi⟩ := isInst_node hi
    have hok := slotFix_of_lookup₂ h ((TT.rule?_eq_lookup₂ G nt P).symm.trans hr)
    rw [gen, rule?_inst_of_produces h nt hok ((produces_iff_symInst hok).mpr hs), hr]
    exact ih kids' args hg hi
  · rw [isInstList_nil hi, genList_nil hg]; rfl
  · obtain ⟨t, s, as, rfl, hg1, hg2⟩ := genList_cons hg
    obtain ⟨k', ks', rfl, hi1, hi2⟩ := isInstList_cons hi
    rw [genList, Bool.and_eq_true]
    exact ⟨ih1 k' _ hg1 hi1, ih2 ks' as hg2 hi2⟩

theorem genList_inst_of_isInst (fx : Fix) (tbl : Tbl) (G : TT S Unit) (h : rulesOK fx tbl G.rules = true) :
      ∀ (ks ks' : List Prog) (args : List (Ty × S)), genList G ks args = true →
        isInstList tbl ks ks' = true → genList (inst fx G tbl) ks' args = true :=
  (gen_inst_of_isInst fx tbl G h).2

theorem gen_inst_iff (fx : Fix) (tbl : Tbl) (G : TT S Unit) (h : rulesOK fx tbl G.rules = true) (t' : Prog)
    (nt : NT S Unit) :
    gen (inst fx G tbl) t' nt = true ↔ ∃ t, gen G t nt = true ∧ isInst tbl t t' = true :=
  ⟨fun hg => ⟨templ tbl t', (gen_inst_templ fx tbl G h).1 t' nt hg⟩,
   fun ⟨t, hg, hi⟩ => (gen_inst_of_isInst fx tbl G h).1 t t' nt hg hi⟩

theorem clean_of_gen (fx : Fix) (tbl : Tbl) (G : TT S Unit) (h : rulesOK fx tbl G.rules = true) :
    (∀ (t : Prog) (nt : NT S Unit), gen G t nt = true → clean fx tbl t = true) ∧
    ∀ (ks : List Prog) (args : List (Ty × S)), genList G ks args = true → cleanList fx tbl ks = true := by
  refine Tree.ind₂ (fun P kids ih nt hg => ?_) (fun _ _ => rfl) (fun k ks ih1 ih2 args hg => ?_)
  · obtain ⟨args, u, hr, hg⟩ := gen_node hg
    rw [clean, Bool.and_eq_true]
    exact ⟨cleanSym_iff.mpr (slotFix_of_lookup₂ h ((TT.rule?_eq_lookup₂ G nt P).symm.trans hr)), ih args hg⟩
  · obtain ⟨t, s, as, rfl, hg1, hg2⟩ := genList_cons hg
    rw [cleanList, Bool.and_eq_true]
    exact ⟨ih1 _ hg1, ih2 as hg2⟩

theorem templList_of_isInstList (fx : Fix) (tbl : Tbl) (G : TT S Unit) (h : rulesOK fx tbl G.rules = true) :
      ∀ (ks ks' : List Prog) (args : List (Ty × S)), genList G ks args = true →
        isInstList tbl ks ks' = true → templList tbl ks' = ks :=
  fun ks ks' args hg => templList_of_isInstList' fx tbl ks ks' ((clean_of_gen fx tbl G h).2 ks args hg)

theorem templ_unique (fx : Fix) (tbl : Tbl) (G : TT S Unit) (h : rulesOK fx tbl G.rules = true)
    {t1 t2 t' : Prog} {nt : NT S Unit} (g1 : gen G t1 nt = true) (g2 : gen G t2 nt = true)
    (i1 : isInst tbl t1 t' = true) (i2 : isInst tbl t2 t' = true) : t1 = t2 := by
  rw [← templ_of_isInst' fx tbl t1 t' ((clean_of_gen fx tbl G h).1 t1 nt g1) i1,
    ← templ_of_isInst' fx tbl t2 t' ((clean_of_gen fx tbl G h).1 t2 nt g2) i2]

end grammar

end PS.IC
