/- Heap search on unambiguous, acyclic grammars (`probOps`): order and prefix completeness of the enumeration in
   terms of the probability `U.probU` of the specification, the key of the start heap (`startKey_probU`). -/
import PS.Proofs.Enum.UProb
import PS.Proofs.Enum.UCompleteRun
namespace PS.UHS
open PS PS.G
set_option linter.unusedSectionVars false
variable {U : Type} [DecidableEq U]
variable {E : Env U Rat} {rank : UNT U → Nat} {Good : Rat → Prop} {t : Rat}

theorem probLt_false_iff (hops : E.ops = probOps t) (a b : Rat) : E.ops.lt a b = false ↔ a ≤ b := by
  rw [hops]; simp only [probOps, decide_eq_false_iff_not, Rat.not_lt]

theorem probLt_true_iff (hops : E.ops = probOps t) (a b : Rat) : E.ops.lt a b = true ↔ b < a := by
  rw [hops]; simp only [probOps, decide_eq_true_eq]

theorem startKey_prob (hops : E.ops = probOps t) {p : Prog} {nt : UNT U} {w pr : Rat} (hw : startW E nt = some w)
    (hpr : HasPrio E p nt pr) : StartKey E p (pr * w) :=
  ⟨nt, w, pr, hw, hpr, by rw [hops]; rfl⟩

theorem exists_startKey {π : Type} {E : Env U π} (d : UNT U) {p : Prog} (hp : PS.U.genU (E.G.toUCFG d) p = true) :
    ∃ k, StartKey E p k := by
  obtain ⟨nt, w, hw, pr, hpr⟩ := (derStart_iff_genU E d p).mpr hp
  exact ⟨_, nt, w, pr, hw, hpr, rfl⟩

theorem startKey_eq_probU (hops : E.ops = probOps t) (hkeys : ∀ nt F, ((altsOf E nt F).map (·.1)).Nodup) (d0 : UNT U)
    {p : Prog} (hun : PS.U.unambiguousOn (E.G.toUCFG d0) p = true) {k : Rat} (hk : StartKey E p k) :
    k = PS.U.probU (E.G.toUCFG d0) E.G.toTags p := by
  obtain ⟨nt, w, pr, hw, hpr, rfl⟩ := hk
  rw [startKey_probU E t hops hkeys d0 p hun nt w pr hw hpr, hops]
  rfl

theorem take_sorted_probU (hops : E.ops = probOps t) (R : RHyp E rank Good)
    (hkeys : ∀ nt F, ((altsOf E nt F).map (·.1)).Nodup) (d0 : UNT U)
    (hun : ∀ p, PS.U.unambiguousOn (E.G.toUCFG d0) p = true) (fuel k : Nat) (s' : St U Rat) (out : List Prog) (b : Bool)
    (h : take E fuel k (St.empty E.G) [] = some (s', out, b)) :
    out.Pairwise (fun p q => PS.U.probU (E.G.toUCFG d0) E.G.toTags q ≤ PS.U.probU (E.G.toUCFG d0) E.G.toTags p) := by
  refine (take_sorted R fuel k s' out b h).imp_of_mem ?_
  intro p q hp hq hpq
  obtain ⟨kp, hkp⟩ := exists_startKey d0 (take_sound_genU R.ohyp.ghyp d0 h p hp)
  obtain ⟨kq, hkq⟩ := exists_startKey d0 (take_sound_genU R.ohyp.ghyp d0 h q hq)
  rw [← startKey_eq_probU hops hkeys d0 (hun p) hkp, ← startKey_eq_probU hops hkeys d0 (hun q) hkq]
  exact (probLt_false_iff hops kq kp).mp (hpq kp kq hkp hkq)

theorem take_before_probU (hops : E.ops = probOps t) (R : RHyp E rank Good)
    (hkeys : ∀ nt F, ((altsOf E nt F).map (·.1)).Nodup) (d0 : UNT U)
    (hun : ∀ p, PS.U.unambiguousOn (E.G.toUCFG d0) p = true) (fuel k : Nat) (s' : St U Rat) (l1 l2 : List Prog)
    (q p : Prog) (b : Bool) (h : take E fuel k (St.empty E.G) [] = some (s', l1 ++ q :: l2, b))
    (hp : PS.U.genU (E.G.toUCFG d0) p = true) (hcl : PS.HG.clean E.filter p = true)
    (hlt : PS.U.probU (E.G.toUCFG d0) E.G.toTags q < PS.U.probU (E.G.toUCFG d0) E.G.toTags p) : p ∈ l1 := by
  have hq : q ∈ l1 ++ q :: l2 := List.mem_append_right _ (List.mem_cons_self ..)
  obtain ⟨kp, hkp⟩ := exists_startKey d0 hp
  obtain ⟨kq, hkq⟩ := exists_startKey d0 (take_sound_genU R.ohyp.ghyp d0 h q hq)
  have hk : E.ops.lt kp kq = true := by
    rw [probLt_true_iff hops, startKey_eq_probU hops hkeys d0 (hun p) hkp, startKey_eq_probU hops hkeys d0 (hun q) hkq]
    exact hlt
  exact Heapq.mem_left_of_sorted (take_sorted_probU hops R hkeys d0 hun fuel k s' _ b h)
    (take_prefix_complete R fuel k s' _ b h p q hq kp kq hkp hkq hk hcl) hlt

end PS.UHS
