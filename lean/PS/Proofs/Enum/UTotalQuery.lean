/- Heap search on unambiguous, acyclic grammars, termination: every `query` and every `__init_non_terminal__`
   of the model returns — no KeyError, no failed assertion — when the fuel is at least
   (rank + 1) · (rows + alternatives + arity + 6 + D), where rows, alternatives and arity bound the rule table
   (`THyp`) and `D` bounds the number of programs rejected by the filter (`D = 0` without filter): the pop loop
   of `query` runs once more for every rejected program it meets.  The proof is an induction on the rank of
   the non-terminal (`low_all`), with `Low` as induction hypothesis for the calls at the argument non-terminals. -/
import PS.Proofs.Enum.UTotalPrio
import PS.Proofs.Enum.UOrderBig
namespace PS.UHS
open PS PS.G
set_option linter.unusedSectionVars false
variable {U π : Type} [DecidableEq U]
variable {E : Env U π} {rank : UNT U → Nat} {Good : π → Prop}

structure THyp (E : Env U π) (L Al A : Nat) : Prop where
  rows_len : ∀ nt rs, AList.lookup nt E.G.rules = some rs → rs.length ≤ L
  alts_len : ∀ nt rs, AList.lookup nt E.G.rules = some rs → ∀ x ∈ rs, x.2.length ≤ Al
  arity : ∀ nt F v w, (v, w) ∈ altsOf E nt F → v.length ≤ A
  closed : ∀ nt F v w, (v, w) ∈ altsOf E nt F → ∀ a ∈ v, ∃ rs, AList.lookup a E.G.rules = some rs
  starts_closed : ∀ nt w, startW E nt = some w → ∃ rs, AList.lookup nt E.G.rules = some rs
  /-- no non-terminal without rule (`assert best_program`) -/
  nonempty : ∀ nt rs, AList.lookup nt E.G.rules = some rs → flatOf rs ≠ []

/-- The induction hypothesis of `low_all`: `query` and `__init_non_terminal__` at a non-terminal of rank below
    `r` return when run with fuel at least `B`, from every state in which `deleted` has length at most `D`. The
    lemmas on the loops of a non-terminal `nt` take `Low E rank (rank nt) B D` for the calls at the non-terminals
    of the alternatives of `nt`. -/
structure Low (E : Env U π) (rank : UNT U → Nat) (r B D : Nat) : Prop where
  query : ∀ si, rank si < r → (∃ rs, AList.lookup si E.G.rules = some rs) → ∀ n s p, B ≤ n → Base E s → CacheC s →
    s.deleted.length ≤ D → OPre E rank (.query si p) s → ∃ res, UHS.query E n s si p = some res
  initNT : ∀ si, rank si < r → (∃ rs, AList.lookup si E.G.rules = some rs) → ∀ n s, B ≤ n → Base E s → CacheC s →
    s.deleted.length ≤ D → OPre E rank (.initNT si) s → ∃ res, UHS.initNT E n s si = some res

/-- without filter nothing is ever deleted, so that `D = 0` serves in `Low` -/
theorem Base.nodel {s : St U π} (hb : Base E s) (hnf : ∀ p, E.filter p = true) : s.deleted = [] := by
  apply List.eq_nil_iff_forall_not_mem.mpr
  intro q hq
  have := hb.delF q hq
  rw [hnf] at this; cases this

theorem pushStep_total (H : OHyp E rank Good) {s1 : St U π} {F : Sym} {args : List Prog} {nt : UNT U} {v : List (UNT U)}
    {i : Nat} {ai : Prog} {si : UNT U} (r : Option Prog) (hbase1 : Base E s1) (hc1 : CacheC s1) (hko : KeyOK E nt F args v)
    (hai : args[i]? = some ai) (hsi : v[i]? = some si) (hr : ∀ q, r = some q → Popped s1 si q)
    (hargs : ∀ (j : Nat) (aj : Prog) (sj : UNT U), args[j]? = some aj → v[j]? = some sj → Popped s1 sj aj) :
    ∃ s3, pushStep E s1 F args nt v i r = some s3 := by
  unfold pushStep
  cases r with
  | none => exact ⟨s1, rfl⟩
  | some q =>
    simp only
    split
    · exact ⟨s1, rfl⟩
    · have hqp := hr q rfl
      have hko' : KeyOK E nt F (args.set i q) v :=
        ⟨hko.1, derList_set E args v i q si hko.2 hsi (hqp.der hbase1.sinv)⟩
      have hcache : ∀ (j : Nat) (aj : Prog) (sj : UNT U), (args.set i q)[j]? = some aj → v[j]? = some sj →
          ∃ pr, AList.lookup (aj, sj) s1.cache = some pr := by
        intro j aj sj haj hsj
        rcases getElem?_set_cases haj with ⟨rfl, rfl⟩ | ⟨_, haj⟩
        · rw [hsi] at hsj; cases hsj
          exact hc1 _ _ (hqp.seen hbase1.sinv)
        · exact hc1 sj aj ((hargs j aj sj haj hsj).seen hbase1.sinv)
      obtain ⟨res, hres⟩ := computePrio_total H
        { s1.addSeen nt (Tree.node F (args.set i q)) with keys := AList.insert (nt, Tree.node F (args.set i q)) v s1.keys }
        nt F (args.set i q) v hko' (AList.lookup_insert_self _ _ _) hcache
      rw [hres]
      exact ⟨_, rfl⟩

theorem addLoop_total (H : OHyp E rank Good) {B D : Nat} {nt : UNT U} (Lw : Low E rank (rank nt) B D)
    (hclosed : ∀ F v w, (v, w) ∈ altsOf E nt F → ∀ a ∈ v, ∃ rs, AList.lookup a E.G.rules = some rs)
    (F : Sym) (args : List Prog) (v : List (UNT U)) (hko : KeyOK E nt F args v) :
    ∀ (i : Nat) (n : Nat) (s : St U π), B + i + 1 ≤ n → i ≤ args.length → Base E s → CacheC s → s.deleted.length ≤ D →
      OPre E rank (.addLoop F args nt v i) s → ∃ s', addLoop E n s F args nt v i = some s' := by
  have hk := H.ghyp.kway
  have hlen := derList_length E _ _ hko.2
  obtain ⟨w, hw⟩ := hko.1
  intro i
  induction i with
  | zero =>
    intro n s hn _ _ _ _ _
    cases n with
    | zero => exact absurd hn (Nat.not_succ_le_zero _)
    | succ n => exact ⟨s, by simp [addLoop]⟩
  | succ i ih =>
    intro n s hn hi hbase hc hD hpre
    cases n with
    | zero => exact absurd hn (Nat.not_succ_le_zero _)
    | succ n =>
      have hn' : B + i + 1 ≤ n := Nat.le_of_succ_le_succ hn
      have hiv : i < v.length := hlen ▸ hi
      have hai : args[i]? = some args[i] := List.getElem?_eq_getElem hi
      have hsi : v[i]? = some v[i] := List.getElem?_eq_getElem hiv
      obtain ⟨hrk, hqpre⟩ := loop_pre_query H hko hpre hai hsi
      obtain ⟨⟨s1, r⟩, hres⟩ := Lw.query _ hrk (hclosed F v w hw _ (List.mem_of_getElem? hsi)) n s _ (Nat.le_trans (Nat.le_add_right B (i + 1)) hn') hbase hc hD hqpre
      have hq := big_of_query E hres
      have hpost := big_order H hq hbase trivial trivial hqpre
      have a := big_after H hq hbase trivial trivial
      have hc1 := (big_cacheC E hk hq hc).1
      obtain ⟨s3, hs3⟩ := pushStep_total H r a.base hc1 hko hai hsi (fun q hq' => ⟨_, a.npost q hq'⟩)
        (fun j aj sj haj hsj => (hpre.2.1.1.args F args v hpre.2.2.1 hpre.2.2.2.2.2 j aj sj haj hsj).mono a.stable)
      obtain ⟨hbase3, hpre3, _⟩ := hpre.loopStep H hbase hko hai hsi hq hpost hs3
      have hD3 : s3.deleted.length ≤ D := by
        rw [(pushStep_proc E hk hs3).2, big_deleted E hq hk]; exact hD
      obtain ⟨s', hs'⟩ := ih n s3 hn' (Nat.le_of_succ_le hi) hbase3 (hc1.pushStep E hk hs3).1 hD3 hpre3
      refine ⟨s', ?_⟩
      unfold addLoop
      simp only [hai, hsi, hres]
      change (match pushStep E s1 F args nt v i r with
        | none => none
        | some s3 => addLoop E n s3 F args nt v i) = some s'
      rw [hs3]
      exact hs'

theorem addSucc_total (H : OHyp E rank Good) {L Al A : Nat} (T : THyp E L Al A) {B D : Nat}
    {nt : UNT U} (Lw : Low E rank (rank nt) B D) (n : Nat) (s : St U π) (p : Prog) (hn : B + A + 2 ≤ n)
    (hbase : Base E s) (hc : CacheC s) (hD : s.deleted.length ≤ D) (hpre : OPre E rank (.addSucc p nt) s) :
    ∃ s', addSucc E n s p nt = some s' := by
  obtain ⟨hb0, hnc, hseen0, hlive0, l0⟩ := hpre
  obtain ⟨n, rfl⟩ := Nat.exists_eq_add_one.mpr (Nat.lt_of_lt_of_le (Nat.succ_pos _) hn)
  obtain ⟨F, kids⟩ := p
  cases kids with
  | nil => exact ⟨_, rfl⟩
  | cons a as =>
    obtain ⟨v, hv⟩ := hnc.2.keyed _ hseen0
    have hko := hbase.sinv.keys_ok nt F (a :: as) v hv
    obtain ⟨w, hw⟩ := hko.1
    have hA := T.arity nt F v w hw
    have hlen := derList_length E _ _ hko.2
    simp only [addSucc, hv]
    exact addLoop_total H Lw (fun F v w hm => T.closed nt F v w hm) F (a :: as) v hko (a :: as).length n _
      (by rw [hlen]; omega) (Nat.le_refl _) hbase hc hD ⟨hb0, hnc, hseen0, hlive0, l0, hv⟩

theorem popLoop_total (H : OHyp E rank Good) {L Al A : Nat} (T : THyp E L Al A) {B D : Nat}
    {nt : UNT U} (Lw : Low E rank (rank nt) B D) : ∀ (m n : Nat) (s : St U π) (key : Option Prog), undone s nt ≤ m →
    B + A + 3 + m ≤ n → Base E s → CacheC s → s.deleted.length ≤ D → AList.lookup key (s.succOf nt) = none →
    OPre E rank (.popLoop nt key) s → ∃ res, popLoop E n s nt key = some res := by
  have hk := H.ghyp.kway
  intro m
  induction m using Nat.strongRecOn with
  | _ m ih =>
    intro n s key hm hn hbase hc hD hnpre hpre
    cases n with
    | zero => omega
    | succ n =>
      unfold popLoop
      cases hp : Heapq.pop (ltE E.ops) (s.heapOf nt) with
      | none => exact ⟨_, rfl⟩
      | some eh =>
        obtain ⟨e, h'⟩ := eh
        simp only
        have haddS : ∀ (s0 : St U π), Base E s0 → CacheC s0 → s0.deleted.length ≤ D →
            OPre E rank (.addSucc e.2 nt) s0 → ∃ s', addSucc E n s0 e.2 nt = some s' :=
          fun s0 => addSucc_total H T Lw n s0 e.2 (by omega)
        by_cases hdel : s.deleted.contains e.2 = true
        · have hdel' : (s.setHeap nt h').deleted.contains e.2 = true := hdel
          rw [if_pos hdel']
          obtain ⟨hbase0, hpre0, next⟩ := hpre.popDrop H hbase hnpre hp hdel
          have hseen0 := hpre0.2.2.1
          have hc0 : CacheC (s.setHeap nt h') := hc.congr (fun _ => rfl) (CacheGrow.refl _)
          obtain ⟨s1, hs1⟩ := haddS _ hbase0 hc0 hD hpre0
          simp only [hs1]
          have ha := (big_runs E n).addSucc hs1
          obtain ⟨hnpre1, hpre1⟩ := next (big_order H ha hbase0 trivial trivial hpre0)
          have hdl1 : s1.deleted = s.deleted := by
            have := big_deleted E ha hk
            exact this
          -- one rejected program less to skip
          have hlt : undone s1 nt < undone s nt :=
            undone_skip hbase.ninv hp (by simpa using hdel) hdl1 (addSucc_proc E H.ghyp rank H.acyclic ha hbase0.sinv)
          exact ih (undone s1 nt) (by omega) n s1 key (Nat.le_refl _) (by omega) (big_after H ha hbase0 trivial trivial).base
            (big_cacheC E hk ha hc0).1 (by rw [hdl1]; exact hD) hnpre1 hpre1
        · have hdel' : ¬ (s.setHeap nt h').deleted.contains e.2 = true := hdel
          rw [if_neg hdel']
          obtain ⟨hbase0, hpre0, _⟩ := hpre.popTake H hbase hnpre hp
          obtain ⟨s', hs'⟩ := haddS _ hbase0 (hc.congr (fun _ => rfl) (CacheGrow.refl _)) hD hpre0
          show ∃ res, (match addSucc E n (s.popTake nt key e h') e.2 nt with
            | none => none
            | some s' => some (s', some e.2)) = some res
          rw [hs']
          exact ⟨_, rfl⟩

/-- the second half of `query`: the look-up in `succ[nt]`, and on a miss the pop loop -/
theorem lop_total (H : OHyp E rank Good) {L Al A : Nat} (T : THyp E L Al A) {B D : Nat}
    {nt : UNT U} (Lw : Low E rank (rank nt) B D) (n : Nat) (s : St U π) (p : Option Prog) (hn : B + A + 3 + D ≤ n)
    (hbase : Base E s) (hc : CacheC s) (hD : s.deleted.length ≤ D) (hpre : OPre E rank (.lop nt p) s) :
    ∃ res, (match AList.lookup p (s.succOf nt) with
      | some r => some (s, some r)
      | none => popLoop E n s nt p) = some res := by
  cases hl : AList.lookup p (s.succOf nt) with
  | some r => exact ⟨_, rfl⟩
  | none => exact popLoop_total H T Lw D n s p (Nat.le_trans (undone_le s nt) hD) (by omega) hbase hc hD hl hpre

theorem queryInited_total (H : OHyp E rank Good) {L Al A : Nat} (T : THyp E L Al A) {B D : Nat}
    {nt : UNT U} (Lw : Low E rank (rank nt) B D) (n : Nat) (s : St U π) (p : Option Prog) (hn : B + A + 4 + D ≤ n)
    (hbase : Base E s) (hc : CacheC s) (hD : s.deleted.length ≤ D) (hinit : s.initS.contains nt = true)
    (hpre : OPre E rank (.query nt p) s) : ∃ res, query E n s nt p = some res := by
  cases n with
  | zero => omega
  | succ n =>
    unfold query
    rw [if_pos hinit]
    exact lop_total H T Lw n s p (by omega) hbase hc hD (hpre.queryDirect hinit)

theorem items_progs_nodup (H : OHyp E rank Good) {s : St U π} {nt : UNT U} : ∀ (l : List (Sym × List (UNT U)))
    (items : List (π × Prog)), Items (ItemOK E s nt) l items → l.Nodup → (items.map (·.2)).Nodup := by
  intro l items
  fun_induction Items (ItemOK E s nt) l items with
  | case1 => exact fun _ _ => List.nodup_nil
  | case2 d l it items ih =>
    intro h hnd
    refine List.nodup_cons.mpr ⟨?_, ih h.2 (List.nodup_cons.mp hnd).2⟩
    intro hm
    obtain ⟨it', hit', (heq : it'.2 = it.2)⟩ := List.mem_map.mp hm
    obtain ⟨d', hd', hok'⟩ := Items.mem_right h.2 it' hit'
    obtain ⟨_, _, w, kids, hmw, hprog, hdl, _, _⟩ := h.1
    obtain ⟨_, _, w', kids', hmw', hprog', hdl', _, _⟩ := hok'
    rw [heq, hprog] at hprog'
    have e1 : d.1 = d'.1 := by injection hprog'
    have e2 : kids = kids' := by injection hprog'
    subst e2
    rw [← e1] at hmw'
    obtain ⟨e3, _⟩ := H.ualt nt d.1 kids d.2 w d'.2 w' hmw hmw' hdl hdl'
    have : d = d' := Prod.ext e1 e3
    subst this
    exact (List.nodup_cons.mp hnd).1 hd'
  | case3 => exact nofun
  | case4 => exact nofun

/-- no step fails: the program is in `maxRule`, is new (the programs of the alternatives are pairwise distinct and
    none is seen yet), has a priority and a key -/
theorem initPush_total (H : OHyp E rank Good) (nt : UNT U) : ∀ (l : List (Sym × List (UNT U))) (items : List (π × Prog))
    (s : St U π), Items (ItemOK E s nt) l items → Base E s → CacheC s → (∀ it, it ∈ items → it.2 ∉ s.seenOf nt) →
    (items.map (·.2)).Nodup → ∃ s', initPush E s nt l = some s' := by
  intro l
  induction l with
  | nil =>
    intro items s hit _ _ _ _
    cases items with
    | nil => exact ⟨s, rfl⟩
    | cons _ _ => exact hit.elim
  | cons d rest ih =>
    obtain ⟨P, v⟩ := d
    intro items s hit hb hc hnew hnd
    cases items with
    | nil => exact hit.elim
    | cons it items =>
    obtain ⟨pr, prog⟩ := it
    have hk := H.ghyp.kway
    obtain ⟨hit1, hrest⟩ := hit
    have ⟨hmr, _, w, kids, hmw, hprog, hdl, hpop, hkey⟩ := hit1
    simp only at hmr hprog hmw hdl hpop hkey
    subst hprog
    simp only [List.map_cons, List.nodup_cons] at hnd
    -- the first alternative: `compute_priority` finds the arguments memoised
    obtain ⟨⟨s1, pr1⟩, hcp⟩ := computePrio_total H (s.addSeen nt (Tree.node P kids)) nt P kids v ⟨⟨w, hmw⟩, hdl⟩ hkey
      (fun i ai si hai hsi => hc si ai (Popped.seen hb.sinv ⟨none, hpop i ai si hai hsi⟩))
    have hk1 : (AList.lookup (nt, Tree.node P kids) s1.keys).isSome := by
      rw [(computePrio_step E hcp).keys]
      exact Option.isSome_iff_exists.mpr ⟨v, hkey⟩
    have hone : initPush E s nt [(P, v)] = some (pushBoth E s1 nt pr1 (Tree.node P kids)) :=
      initPush_cons_eq.mpr ⟨_, s1, pr1, hmr, hnew _ List.mem_cons_self, hcp, hk1, rfl⟩
    obtain ⟨r1, _, r3, _, r5, _, _, _, r9, _⟩ := initPush_spec H nt [(P, v)] [(pr, Tree.node P kids)] s _ ⟨hit1, trivial⟩ hb hone
    have hmr2 : (pushBoth E s1 nt pr1 (Tree.node P kids)).maxRule = s.maxRule := by
      obtain ⟨_, _, _, _, e⟩ := initPush_fields E hk hone
      rw [e]
    obtain ⟨s', hs'⟩ := ih items _ (Items.mono (fun d it _ h => h.mono r3 (by rw [hmr2]) (by rw [r9])) hrest) r1
      (CacheC.initPush E hk nt _ hc hone).1
      (by
        intro it hit' hin
        rw [r5] at hin
        rcases List.mem_append.mp hin with hin | hin
        · exact hnew it (List.mem_cons_of_mem _ hit') hin
        · exact hnd.1 (List.mem_map.mpr ⟨it, hit', (List.mem_singleton.mp hin)⟩))
      hnd.2
    exact ⟨s', initPush_cons_eq.mpr ⟨_, s1, pr1, hmr, hnew _ List.mem_cons_self, hcp, hk1, hs'⟩⟩

theorem bestUpd_eq (lt : π → π → Bool) (best : Option (Prog × π)) (prog : Prog) (pr : π) :
    (match best with
      | none => some (prog, pr)
      | some b => if lt pr b.2 = true then some (prog, pr) else some b) = bestUpd lt best prog pr := by
  cases best <;> rfl

theorem initArgs_total (H : OHyp E rank Good) {B r D : Nat} (Lw : Low E rank r B D) :
    ∀ (v : List (UNT U)) (acc : List Prog) (n : Nat) (s : St U π), B + v.length + 1 ≤ n → Base E s → CacheC s →
      OPre E rank (.initArgs v acc) s → (∀ a ∈ v, rank a < r) → (∀ a ∈ v, ∃ rs, AList.lookup a E.G.rules = some rs) →
      ∃ res, initArgs E n s v acc = some res := by
  intro v
  induction v with
  | nil =>
    intro acc n s hn _ _ _ _ _
    cases n with
    | zero => exact absurd hn (Nat.not_succ_le_zero _)
    | succ n => exact ⟨_, rfl⟩
  | cons si v ih =>
    intro acc n s hn hbase hc hpre hrk hrows
    have hk := H.ghyp.kway
    cases n with
    | zero => simp at hn
    | succ n =>
      have hn' : B + v.length + 1 ≤ n := Nat.le_of_succ_le_succ hn
      obtain ⟨hipre, next⟩ := hpre.argsCons H hbase
      obtain ⟨s1, hs1⟩ := Lw.initNT si (hrk si List.mem_cons_self) (hrows si List.mem_cons_self) n s
        (Nat.le_trans (Nat.le_add_right B (v.length + 1)) hn') hbase hc (by rw [hpre.2]; simp) hipre
      have hi' := (big_runs E n).initNT hs1
      obtain ⟨hbase1, _, a2, hpre1⟩ := next hi' (big_order H hi' hbase trivial trivial hipre)
      obtain ⟨m, e1, _⟩ := a2.1.first
      obtain ⟨res, hres⟩ := ih (acc ++ [m]) n s1 hn' hbase1 (big_cacheC E hk hi' hc).1
        (hpre1 m) (fun a ha => hrk a (List.mem_cons_of_mem _ ha)) (fun a ha => hrows a (List.mem_cons_of_mem _ ha))
      refine ⟨res, ?_⟩
      simp only [initArgs, hs1, e1]
      exact hres

theorem altPrio_total (H : OHyp E rank Good) {s s1 : St U π} {nt : UNT U} {P : Sym} {v : List (UNT U)} {w : Rat}
    {arguments : List Prog} (hb : Base E s) (hc : CacheC s) (hm : (v, w) ∈ altsOf E nt P)
    (ha : Big E (.initArgs v []) s s1 (.args arguments))
    (hpost : OPost E rank (.initArgs v []) s s1 (.args arguments)) :
    ∃ res, computePrio E { s1 with keys := AList.insert (nt, .node P arguments) v s1.keys } nt (.node P arguments) = some res := by
  have a := big_after H ha hb trivial trivial
  have hl : DerList E arguments v := by simpa using a.spost [] trivial
  obtain ⟨_, l', hl', _, hpop⟩ := hpost
  simp only [List.nil_append] at hl'
  subst hl'
  have hc1 := (big_cacheC E H.ghyp.kway ha hc).1
  exact computePrio_total H _ nt P arguments v ⟨⟨w, hm⟩, hl⟩ (AList.lookup_insert_self _ _ _) (by
    intro i ai si hai hsi
    exact hc1 si ai (Popped.seen a.base.sinv ⟨none, hpop i ai si hai hsi⟩))

theorem initAlts_total (H : OHyp E rank Good) {L Al A : Nat} (T : THyp E L Al A) {B D : Nat} {nt : UNT U}
    (Lw : Low E rank (rank nt) B D) (P : Sym) :
    ∀ (alts : List (List (UNT U) × Rat)) (best : Option (Prog × π)) (n : Nat) (s : St U π), B + alts.length + A + 2 ≤ n →
      Base E s → CacheC s → SPre E (.initAlts nt P alts best) → OPre E rank (.initAlts nt P alts best) s →
      ∃ res, initAlts E n s nt P alts best = some res := by
  intro alts
  induction alts with
  | nil =>
    intro best n s hn _ _ _ _
    cases n with
    | zero => exact absurd hn (Nat.not_succ_le_zero _)
    | succ n => exact ⟨_, rfl⟩
  | cons vw rest ih =>
    obtain ⟨v, w⟩ := vw
    intro best n s hn hbase hc hspre hpre
    have hk := H.ghyp.kway
    cases n with
    | zero => simp at hn
    | succ n =>
      have hm := hspre.1 _ List.mem_cons_self
      have hA := T.arity nt P v w hm
      have hapre := hpre.altArgs H hspre
      obtain ⟨⟨s1, arguments⟩, hs1⟩ := initArgs_total H Lw v [] n s (by simp at hn; omega) hbase hc hapre
        (H.acyclic nt P v w hm) (T.closed nt P v w hm)
      have ha := (big_runs E n).initArgs hs1
      have hpostA := big_order H ha hbase trivial trivial hapre
      obtain ⟨⟨s3, pr⟩, hs3⟩ := altPrio_total H hbase hc hm ha hpostA
      obtain ⟨r1, hpreR, hopreR, _⟩ := alt_step_pre H hbase hspre hpre ha hpostA hs3
      have hc3 : CacheC { s3 with maxRule := AList.insert (nt, P, v) (.node P arguments) s3.maxRule } := by
        have hc1 := (big_cacheC E hk ha hc).1
        obtain ⟨_, hg⟩ := computePrio_cache E hs3
        have hcs := computePrio_step E hs3
        exact hc1.congr (fun nt' => by show s3.seenOf nt' = _; rw [hcs.seenOf]; rfl) hg
      simp only [initAlts, hs1, hs3]
      by_cases hv : v.isEmpty = true
      · rw [if_pos hv]
        exact ⟨_, rfl⟩
      · rw [if_neg hv]
        -- the `match best with …` of the model is `bestUpd`
        show ∃ res, initAlts E n _ nt P rest (bestUpd E.ops.lt best (.node P arguments) pr) = some res
        exact ih _ n _ (by simp at hn; omega) r1 hc3 hpreR hopreR

theorem initRules_total (H : OHyp E rank Good) {L Al A : Nat} (T : THyp E L Al A) {B D : Nat} {nt : UNT U}
    (Lw : Low E rank (rank nt) B D) (hAl : ∀ x, x ∈ (AList.lookup nt E.G.rules).getD [] → x.2.length ≤ Al) :
    ∀ (rs : List (Sym × List (List (UNT U) × Rat))) (best : Option (Prog × π)) (n : Nat) (s : St U π),
      (∀ x, x ∈ rs → x ∈ (AList.lookup nt E.G.rules).getD []) → B + rs.length + Al + A + 3 ≤ n →
      Base E s → CacheC s → SPre E (.initRules nt rs best) → OPre E rank (.initRules nt rs best) s →
      ∃ res, initRules E n s nt rs best = some res := by
  intro rs
  induction rs with
  | nil =>
    intro best n s _ hn _ _ _ _
    cases n with
    | zero => exact absurd hn (Nat.not_succ_le_zero _)
    | succ n => exact ⟨_, rfl⟩
  | cons r rest ih =>
    obtain ⟨P, alts⟩ := r
    intro best n s hsub hn hbase hc hspre hpre
    have hk := H.ghyp.kway
    cases n with
    | zero => simp at hn
    | succ n =>
      obtain ⟨hpreA, hopreA, next⟩ := hpre.rulesCons H hbase hspre
      have hal := hAl (P, alts) (hsub _ List.mem_cons_self)
      obtain ⟨⟨s1, best1⟩, hs1⟩ := initAlts_total H T Lw P alts best n s (by simp at hn hal ⊢; omega) hbase hc hpreA hopreA
      have ha := (big_runs E n).initAlts hs1
      obtain ⟨hbase1, hpreR, hopreR⟩ := next ha (big_order H ha hbase hpreA trivial hopreA)
      obtain ⟨res, hres⟩ := ih best1 n s1 (fun x hx => hsub x (List.mem_cons_of_mem _ hx))
        (by simp at hn; omega) hbase1 (big_cacheC E hk ha hc).1 hpreR hopreR
      exact ⟨res, by simp only [initRules, hs1]; exact hres⟩

theorem foldl_push_ne_nil {α : Type} (lt : α → α → Bool) (x : α) (l : List α) :
    (x :: l).foldl (Heapq.push lt) [] ≠ [] := by
  intro h
  have := (Heapq.foldl_push_perm lt (x :: l) []).length_eq
  rw [h] at this
  simp at this

theorem initNT_total (H : OHyp E rank Good) {L Al A : Nat} (T : THyp E L Al A) {B D : Nat} {nt : UNT U}
    (Lw : Low E rank (rank nt) B D) (n : Nat) (s : St U π) (hn : B + L + Al + A + 5 + D ≤ n) (hbase : Base E s) (hc : CacheC s)
    (hpre : OPre E rank (.initNT nt) s) (hrow : ∃ rs, AList.lookup nt E.G.rules = some rs) :
    ∃ s', initNT E n s nt = some s' := by
  have hk := H.ghyp.kway
  cases n with
  | zero => omega
  | succ n =>
    unfold initNT
    by_cases hinit : s.initS.contains nt = true
    · rw [if_pos hinit]; exact ⟨_, rfl⟩
    · rw [if_neg hinit]
      obtain ⟨rs, hrs⟩ := hrow
      simp only [hrs]
      obtain ⟨hdel, hbase0, hpre1, hopre0⟩ := hpre.initRun H hbase (by simpa using hinit) hrs
      have hc0 : CacheC { s with initS := s.initS ++ [nt] } := hc.congr (fun _ => rfl) (CacheGrow.refl _)
      have hL := T.rows_len nt rs hrs
      obtain ⟨⟨s1, best⟩, hs1⟩ := initRules_total H T Lw (by rw [hrs]; exact T.alts_len nt rs hrs) rs none n _
        (by rw [hrs]; exact fun x hx => hx) (by omega) hbase0 hc0 hpre1 hopre0
      have hr := (big_runs E n).initRules hs1
      have hpost := big_order H hr hbase0 hpre1 trivial hopre0
      obtain ⟨_, hdel1, ⟨items, hph⟩, hb2⟩ := hpost.initRules H hbase0 hrs hr hdel
      -- `assert best_program`
      obtain ⟨b, hb⟩ : ∃ b, best = some b := by
        have hne := T.nonempty nt rs hrs
        have hlen := Items.length_eq hph.ok
        cases items with
        | nil => simp at hlen; exact absurd hlen hne
        | cons it items =>
          have hroot := hph.root
          cases hh : ((it :: items).foldl (Heapq.push (ltE E.ops)) []).head? with
          | none =>
            rw [List.head?_eq_none_iff] at hh
            exact absurd hh (foldl_push_ne_nil _ _ _)
          | some x =>
            rw [hh] at hroot
            cases best with
            | none => simp at hroot
            | some b => exact ⟨b, rfl⟩
      subst hb
      simp only [hs1]
      have hc2 : CacheC { s1 with maxNT := AList.insert nt b.1 s1.maxNT } :=
        (big_cacheC E hk hr hc0).1.congr (fun _ => rfl) (CacheGrow.refl _)
      obtain ⟨s3, hs3⟩ := initPush_total H nt (flatOf rs) items { s1 with maxNT := AList.insert nt b.1 s1.maxNT }
        (Items.mono (fun d it _ h => h) hph.ok) (hb2 b rfl) hc2
        (by
          intro it _
          show it.2 ∉ s1.seenOf nt
          rw [hpost.2.1.2.2.2]; simp)
        (items_progs_nodup H _ _ hph.ok (H.flat_nodup nt rs hrs))
      have hs3' : initPush E { s1 with maxNT := AList.insert nt b.1 s1.maxNT } nt
          (rs.flatMap fun r => r.2.map fun vw => (r.1, vw.1)) = some s3 := hs3
      simp only [hs3']
      obtain ⟨hbase3, hdel3, hn3, hpre3⟩ := OPre.initPushed H hpost.1 hpost.2.1 hdel1 hph hrs (hb2 b rfl) hs3
      obtain ⟨res, hres⟩ := queryInited_total H T Lw n s3 none (by omega) hbase3 (CacheC.initPush E hk nt _ hc2 hs3).1
        (by rw [hdel3]; simp) hn3.init hpre3
      rw [hres]
      exact ⟨_, rfl⟩

theorem Low.mono {B D r r' : Nat} (h : Low E rank r B D) (hr : r' ≤ r) : Low E rank r' B D :=
  ⟨fun si hsi => h.query si (Nat.lt_of_lt_of_le hsi hr), fun si hsi => h.initNT si (Nat.lt_of_lt_of_le hsi hr)⟩

theorem low_all (H : OHyp E rank Good) {L Al A : Nat} (T : THyp E L Al A) (D : Nat) :
    ∀ r, Low E rank r (r * (L + Al + A + 6 + D)) D := by
  intro r
  induction r with
  | zero => exact ⟨fun si hsi => absurd hsi (Nat.not_lt_zero _), fun si hsi => absurd hsi (Nat.not_lt_zero _)⟩
  | succ r ih =>
    have hmul : (r + 1) * (L + Al + A + 6 + D) = r * (L + Al + A + 6 + D) + (L + Al + A + 6 + D) := Nat.succ_mul _ _
    refine ⟨?_, ?_⟩
    · intro si hsi hrow n s p hn hbase hc hD hpre
      have Lw : Low E rank (rank si) (r * (L + Al + A + 6 + D)) D := ih.mono (Nat.le_of_lt_succ hsi)
      by_cases hinit : s.initS.contains si = true
      · exact queryInited_total H T Lw n s p (by omega) hbase hc hD hinit hpre
      · cases n with
        | zero => omega
        | succ n =>
          obtain ⟨hipre, next⟩ := hpre.queryInit H hbase (by simpa using hinit)
          obtain ⟨s1, hs1⟩ := initNT_total H T Lw n s (by omega) hbase hc hipre hrow
          have hi' := (big_runs E n).initNT hs1
          obtain ⟨hbase1, hpre1⟩ := next hi' (big_order H hi' hbase trivial trivial hipre)
          have hD1 : s1.deleted.length ≤ D := by rw [big_deleted E hi' H.ghyp.kway]; exact hD
          unfold query
          simp only [hinit, Bool.false_eq_true, if_false, hs1]
          exact lop_total H T Lw n s1 p (by omega) hbase1 (big_cacheC E H.ghyp.kway hi' hc).1 hD1 hpre1
    · intro si hsi hrow n s hn hbase hc _ hpre
      have Lw : Low E rank (rank si) (r * (L + Al + A + 6 + D)) D := ih.mono (Nat.le_of_lt_succ hsi)
      exact initNT_total H T Lw n s (by omega) hbase hc hpre hrow

end PS.UHS
