/- One pending `Derivation` per rule: in every heap `_queue_nt[S]` every symbol `P` occurs at most once, at every
   moment of every run — also while `query(S, ·)` is suspended in the middle of an element (the popped symbol
   is then "in limbo": absent from the heap until its successor is pushed) and through re-entrant queries of
   recursive grammars.  Every arithmetic, filter, fuel; the query block for every grammar, the prologue for grammars whose
   rows have distinct keys (`RowsNodup`: they are Python dicts). -/
import PS.Model.Enum.ConstantDelay
import PS.Proofs.Enum.Heapq
import PS.Proofs.Enum.CDStep
import PS.Proofs.Enum.CDInit
namespace PS.CD
variable {α : Type}

def symsOf (h : List (Deriv α)) : List Sym := h.map (·.P)

/-- `L S` = the symbols of `S` whose element has been popped by a suspended frame and not yet re-pushed -/
def HInv (s : St α) (L : NT → List Sym) : Prop :=
  ∀ S h, AList.lookup S s.queueNt = some h → (symsOf h).Nodup ∧ ∀ P ∈ L S, P ∉ symsOf h

def addLimbo (L : NT → List Sym) (S : NT) (P : Sym) : NT → List Sym := fun S' => if S' = S then P :: L S' else L S'

theorem hinv_of_eq {s s' : St α} {L : NT → List Sym} (h1 : s'.queueNt = s.queueNt) (h : HInv s L) : HInv s' L := by
  unfold HInv; rw [h1]; exact h

theorem hinv_addDeleted {s : St α} {L : NT → List Sym} (p : Prog) (h : HInv s L) : HInv (s.addDeleted p) L := by
  obtain ⟨d, e⟩ := addDeleted_eq s p
  rw [e]; exact hinv_of_eq rfl h

theorem hinv_appendBank {s s' : St α} {L : NT → List Sym} {S : NT} {ci : Nat} {p : Prog} (h : HInv s L)
    (he : s.appendBank S ci p = some s') : HInv s' L := by
  obtain ⟨b, l, _, _, rfl⟩ := appendBank_eq he
  exact hinv_of_eq rfl h

theorem hinv_ensureBank {s s' : St α} {L : NT → List Sym} {S : NT} {ci : Nat} (h : HInv s L)
    (he : s.ensureBank S ci = some s') : HInv s' L := by
  obtain ⟨b, rfl⟩ := ensureBank_eq he
  exact hinv_of_eq rfl h

theorem hinv_succLoop (A : Arith α) (b : Bool) (args : List NT) (c : α) (comb : List Nat) {L : NT → List Sym} :
    ∀ (rem i : Nat) (s s' : St α), succLoop A b args c comb rem i s = some s' → HInv s L → HInv s' L :=
  succLoop_rule (HInv · L) fun _ _ _ _ _ _ _ _ _ hs _ _ _ _ _ _ _ => hinv_of_eq rfl hs

theorem hinv_pop {s : St α} {L : NT → List Sym} {S : NT} {heap heap' : List (Deriv α)} {el : Deriv α} (lt : Deriv α → Deriv α → Bool)
    (h : HInv s L) (hl : AList.lookup S s.queueNt = some heap) (hp : Heapq.pop lt heap = some (el, heap')) :
    HInv (s.setHeap S heap') (addLimbo L S el.P) ∧ el.P ∉ L S := by
  have hperm := Heapq.pop_perm lt heap el heap' hp
  obtain ⟨hnd, hdis⟩ := h S heap hl
  have hperm' : (symsOf heap).Perm (el.P :: symsOf heap') := hperm.map _
  have hnd' := hperm'.nodup hnd
  rw [List.nodup_cons] at hnd'
  refine ⟨?_, ?_⟩
  · refine AList.forall_insert (fun S2 h2 hne hl2 => ?_) ⟨hnd'.2, fun P hP => ?_⟩
    · obtain ⟨a, b⟩ := h S2 h2 hl2
      refine ⟨a, fun P hP => b P ?_⟩
      simpa only [addLimbo, hne, if_false] using hP
    · simp only [addLimbo, if_true, List.mem_cons] at hP
      rcases hP with hP | hP
      · subst hP; exact hnd'.1
      · intro hc; exact hdis P hP (hperm'.mem_iff.mpr (List.mem_cons_of_mem _ hc))
  · intro hc
    exact hdis el.P hc (hperm'.mem_iff.mpr List.mem_cons_self)

theorem hinv_dropLimbo {s : St α} {L : NT → List Sym} {S : NT} {P : Sym} (h : HInv s (addLimbo L S P)) : HInv s L := by
  intro S2 hh hl2
  obtain ⟨a, b⟩ := h S2 hh hl2
  refine ⟨a, fun Q hQ => b Q ?_⟩
  unfold addLimbo; split
  · exact List.mem_cons_of_mem _ hQ
  · exact hQ

theorem hinv_pushNext (A : Arith α) {s : St α} {L : NT → List Sym} {S : NT} {h2 : List (Deriv α)} {w : Int} {el : Deriv α}
    {cl : List α} {ns : Bool} (h : HInv s (addLimbo L S el.P)) (hnotL : el.P ∉ L S)
    (hl : AList.lookup S s.queueNt = some h2) :
    HInv (pushNext A s S h2 w el cl ns).1 L := by
  have weaken : HInv s L := hinv_dropLimbo h
  unfold pushNext
  split
  · rename_i c1 _
    refine AList.forall_insert (fun S2 hh _ hl2 => weaken S2 hh hl2) ?_
    obtain ⟨a, b⟩ := h S h2 hl
    have hperm : (symsOf (Heapq.push (ltD A) h2 ⟨A.add (A.ofInt w) c1, el.comb + 1, el.P⟩)).Perm (el.P :: symsOf h2) :=
      (Heapq.push_perm (ltD A) h2 _).map _
    have hnot : el.P ∉ symsOf h2 := b el.P (by simp [addLimbo])
    refine ⟨hperm.nodup_iff.mpr (List.nodup_cons.mpr ⟨hnot, a⟩), ?_⟩
    intro P hP hc
    rcases List.mem_cons.mp (hperm.mem_iff.mp hc) with h3 | h3
    · subst h3; exact hnotL hP
    · exact (weaken S h2 hl).2 P hP h3
  · exact weaken

def Res.st : Res α → St α
  | .yield s _ _ => s
  | .done s => s

/-- `Exec.hinv` once more for each of the six model functions at fuel `f`.  No proof goes through this record; it is
    the form in which a theorem of PS/Props (here `C02_Cd_heap_limbo`) names the invariant of the machine, in terms of the
    functions of the model instead of the relation.  The same holds of `Snd` (`Exec.sinv`), `TOk` (`Exec.tinv`), `TOk2`
    (`Exec.tinv2`), `MOk`, `DOk`, `COk` (`Exec.grows`), `NOk` (`Exec.ninv`), `OOk` (`Exec.oinv`) and their `…_all`: a
    further invariant is one more induction over `Exec`, not one more such record. -/
structure HOk (E : Env α) (f : Nat) : Prop where
  resume : ∀ s fr r L, resume E f s fr = some r → HInv s L → HInv r.st L
  drive : ∀ s fr s' L, drive E f s fr = some s' → HInv s L → HInv s' L
  queryList : ∀ s S ci s' ia r L, queryList E f s S ci = some (s', ia, r) → HInv s L → HInv s' L
  argLoop : ∀ s cs ss ia agf acc s' ia' agf' acc' L,
    argLoop E f s cs ss ia agf acc = some (s', ia', agf', acc') → HInv s L → HInv s' L
  combLoop : ∀ s args ci c combs ns hg s' ns' hg' L,
    combLoop E f s args ci c combs ns hg = some (s', ns', hg') → HInv s L → HInv s' L
  queryDer : ∀ s args ci s' l L, queryDer E f s args ci = some (s', l) → HInv s L → HInv s' L

/-- only `query` touches the heaps: the popped symbol is in limbo while its derivation is queried and leaves limbo when
    the successor is pushed (or at once for a rule without arguments, which has no successor) -/
theorem Exec.hinv {E : Env α} {s s' : St α} {c : Call α} (h : Exec E s c s') : ∀ {L}, HInv s L → HInv s' L := by
  induction h with
  | deleted _ _ ih | tuple _ _ ih | pools _ _ ih | ruleDone _ _ ih | done _ ih | query _ _ _ _ _ _ _ _ ih | brk _ _ ih =>
    exact ih
  | rejected _ _ _ ih => exact fun hs => ih (hinv_addDeleted _ hs)
  | yield _ _ hb => exact fun hs => hinv_appendBank hs hb
  | exit _ _ _ hx =>
    intro L hs
    obtain ⟨c, e, f, rfl⟩ := exitQuery_eq hx
    exact hinv_of_eq rfl hs
  | leaf hP _ ih =>
    exact fun hs => ih (hinv_dropLimbo (hinv_ensureBank (hinv_pop (ltD E.A) hs hP.look hP.pop).1 hP.bank))
  | node hP _ _ _ _ hl2 _ ihq ih =>
    intro L hs
    have h0 := hinv_pop (ltD E.A) hs hP.look hP.pop
    exact ih (hinv_pushNext E.A (ihq (hinv_ensureBank h0.1 hP.bank)) h0.2 hl2)
  | next _ _ ih1 ih2 | arg _ _ _ ih1 ih2 | failed _ _ _ ih1 ih2 => exact fun hs => ih2 (ih1 hs)
  | empty | noCost | cached | stop | nil | beyond | stored => exact fun hs => hs
  | drained => exact fun hs => hinv_of_eq rfl hs
  | allowed _ hsucc _ ih1 ih2 => exact fun hs => ih2 (hinv_succLoop _ _ _ _ _ _ _ _ _ hsucc (ih1 hs))
  | store _ hsucc _ _ _ ih1 ih2 =>
    intro L hs
    have h2 := hinv_succLoop _ _ _ _ _ _ _ _ _ hsucc (ih1 hs)
    exact ih2 (hinv_of_eq rfl h2)
  | derive _ _ _ _ _ hM hA _ ih =>
    intro L hs
    have h3 := ih (hinv_of_eq rfl hs)
    obtain ⟨em, rfl⟩ := hM.eq
    obtain ⟨qd, cd, rfl⟩ := hA.eq
    exact hinv_of_eq rfl h3

theorem hok_all (E : Env α) : ∀ f, HOk E f := fun f =>
  ⟨fun _ _ r _ h => by cases r <;> exact ((sound E f).resume h).hinv, fun _ _ _ _ h => ((sound E f).drive h).hinv,
   fun _ _ _ _ _ _ _ h => ((sound E f).queryList h).hinv, fun _ _ _ _ _ _ _ _ _ _ _ h => ((sound E f).argLoop h).hinv,
   fun _ _ _ _ _ _ _ _ _ _ _ h => ((sound E f).combLoop h).hinv, fun _ _ _ _ _ _ h => ((sound E f).queryDer h).hinv⟩

def noLimbo : NT → List Sym := fun _ => []

/-! ### the prologue -/

/-- the rows of the rule table have distinct keys (they are Python dicts) -/
def RowsNodup (G : Gram) : Prop := ∀ S rs, AList.lookup S G.rules = some rs → (rs.map (·.1)).Nodup

/-- `Pend S` = the symbols of the row of `S` that a suspended `_init_non_terminal_(S)` still has to push.  The second
    clause is the guard `len(self._cost_lists_nt[S]) > 0` of `_init_non_terminal_` read backwards: an empty cost list
    means `S` has not been started, so nothing of it is pending and its heap is empty. -/
def IInv (s : St α) (Pend : NT → List Sym) : Prop :=
  (∀ S h, AList.lookup S s.queueNt = some h → (symsOf h ++ Pend S).Nodup) ∧
  (∀ S cl, AList.lookup S s.costNt = some cl → cl = [] → Pend S = [] ∧ ∀ h, AList.lookup S s.queueNt = some h → h = [])

def setPend (Pend : NT → List Sym) (S : NT) (l : List Sym) : NT → List Sym := fun S' => if S' = S then l else Pend S'

theorem setPend_self (Pend : NT → List Sym) (S : NT) : setPend Pend S (Pend S) = Pend := by
  funext S'; unfold setPend; split
  · rename_i h; rw [h]
  · rfl

theorem iinv_of_eq {s s' : St α} {Pend : NT → List Sym} (h1 : s'.queueNt = s.queueNt) (h2 : s'.costNt = s.costNt)
    (h : IInv s Pend) : IInv s' Pend := by
  unfold IInv; rw [h1, h2]; exact h

/-- what a call of the init block does to the invariant: the loop over the rules of `S` starts with the symbols of its
    rows pending and ends with none -/
def ICall.Keeps (c : ICall α) (s s' : St α) : Prop :=
  match c with
  | .rules S rs => ∀ Pend, IInv s (setPend Pend S (rs.map (·.1))) → IInv s' (setPend Pend S [])
  | _ => ∀ Pend, IInv s Pend → IInv s' Pend

theorem Init.iinv {E : Env α} (hG : RowsNodup E.G) {s s' : St α} {c : ICall α} (h : Init E s c s') : c.Keeps s s' := by
  induction h with
  | known | noArgs | knownDer | argsNil => exact fun _ hs => hs
  | done => exact fun Pend hs => hs
  | first _ _ _ ih => exact ih
  | arg _ _ _ ih1 ih2 => exact fun Pend hs => ih2 Pend (ih1 Pend hs)
  | der _ _ _ _ _ _ _ ih => exact fun Pend hs => iinv_of_eq rfl rfl (ih Pend (iinv_of_eq rfl rfl hs))
  | @nt s S rs s2 d cl2 hcl hrs _ _ hcl2 ih =>
    intro Pend hs
    -- the cost list of `S` is empty: nothing of `S` is pending, its heap is empty, and its row has distinct symbols
    obtain ⟨hPS, hheap⟩ := hs.2 S [] hcl rfl
    have hs2 : IInv s2 (setPend Pend S []) := by
      refine ih Pend ⟨fun S2 hh hl2 => ?_, AList.forall_insert (fun S2 cl' hne hcl' hnil => ?_) (fun hnil => nomatch hnil)⟩
      · by_cases he : S2 = S
        · subst he
          rw [hheap hh hl2]
          simpa [setPend, symsOf] using hG S2 rs hrs
        · simpa [setPend, he] using hs.1 S2 hh hl2
      · have := hs.2 S2 cl' hcl' hnil
        exact ⟨by simpa [setPend, hne] using this.1, this.2⟩
    rw [← hPS, setPend_self] at hs2
    exact ⟨hs2.1, AList.forall_insert (fun S2 cl' _ => hs2.2 S2 cl') fun hnil => hs2.2 S cl2 hcl2 ((List.set_eq_nil_iff 0 _).mp hnil)⟩
  | @rule s S P args w rest s1 base hh s' _ hq _ ih1 ih2 =>
    intro Pend hs
    have hs1 := ih1 _ hs
    -- the pushed symbol leaves the pending ones
    refine ih2 Pend ⟨AList.forall_insert (fun S2 h2 hne hl2 => ?_) ?_, fun S2 cl' hcl' hnil => ?_⟩
    · simpa [setPend, hne] using hs1.1 S2 h2 hl2
    · have a := hs1.1 S hh hq
      have hperm : (symsOf (Heapq.push (ltD E.A) hh ⟨E.A.add base (E.A.ofInt w), 0, P⟩)).Perm (P :: symsOf hh) :=
        (Heapq.push_perm (ltD E.A) hh _).map _
      simp only [setPend, if_true, List.map_cons] at a ⊢
      exact ((List.Perm.append_right _ hperm).trans (by simpa using List.perm_middle.symm)).nodup_iff.mpr a
    · have := hs1.2 S2 cl' hcl' hnil
      by_cases he : S2 = S
      · subst he; simp [setPend] at this
      · exact ⟨by simpa [setPend, he] using this.1, fun h2 hl2 => this.2 h2 (by rwa [St.setHeap, AList.lookup_insert_ne _ _ he] at hl2)⟩

theorem siftdownFrom_perm (lt : Deriv α → Deriv α → Bool) (sp : Nat) : ∀ (fuel : Nat) (h : List (Deriv α)) (pos : Nat),
    (siftdownFrom lt sp fuel h pos).Perm h :=
  (Heapq.IsSiftdown.mk (f := siftdownFrom lt sp) (fun _ _ => rfl) fun _ _ _ => rfl).perm

theorem heapify_perm (lt : Deriv α → Deriv α → Bool) (h : List (Deriv α)) : (heapify lt h).Perm h :=
  List.foldlRecOn (motive := fun acc => List.Perm acc h) _ _ (.refl h) fun acc hacc i _ =>
    ((siftdownFrom_perm lt i _ _ _).trans (Heapq.bubble_perm _ _ _ _)).trans hacc

theorem newQueue_syms (E : Env α) (s : St α) (S : NT) (h nq : List (Deriv α)) : newQueue E s S h = some nq →
    symsOf nq = symsOf h := by
  fun_induction newQueue E s S h generalizing nq <;> intro hq
  · cases hq; rfl
  · cases hq
  · rename_i el rest _ _ _ _ r hr _ ih
    cases hq
    exact congrArg (el.P :: ·) (ih r hr)
  · cases hq

/-- `_reevaluate_` rebuilds a heap from its own elements -/
theorem Reeval.hinv {E : Env α} {s s' : St α} {L : NT → List Sym} (h : Reeval E s s') : HInv s L → HInv s' L := by
  induction h with
  | refl => exact id
  | queueDer _ _ _ ih | costDer _ _ _ ih | costNt _ _ ih => exact fun hs => ih (hinv_of_eq rfl hs)
  | @heap s S hh nq _ hq hnq _ ih =>
    intro hs
    have hp : (symsOf (heapify (ltD E.A) nq)).Perm (symsOf hh) :=
      newQueue_syms E s S hh nq hnq ▸ (heapify_perm (ltD E.A) nq).map _
    exact ih (AList.forall_insert (fun S2 h2 _ => hs S2 h2)
      ⟨hp.nodup_iff.mpr (hs S hh hq).1, fun P hP hc => (hs S hh hq).2 P hP (hp.mem_iff.mp hc)⟩)

theorem init_iinv (E : Env α) (s : St α) (h : St.init E = some s) : IInv s noLimbo :=
  have hf := init_fresh h
  ⟨fun S hh hl => by rw [hf.queueNt S hh hl]; simp [symsOf, noLimbo], fun S _ _ _ => ⟨rfl, hf.queueNt S⟩⟩

theorem iinv_hinv {s : St α} (h : IInv s noLimbo) : HInv s noLimbo := by
  intro S hh hl
  have := h.1 S hh hl
  exact ⟨by simpa [noLimbo] using this, by simp [noLimbo]⟩

/-! ### the generator -/

/-- `query` pushes the successor of an element before it iterates over the products, so at a `yield`, hence between two
    calls of `next`, nothing is in limbo; before the first `next` the prologue has yet to run and needs `IInv` -/
def HGInv (g : Gen α) : Prop :=
  HInv g.st noLimbo ∧ ((g.phase matches .fresh) → IInv g.st noLimbo)

theorem prologue_hinv (E : Env α) (hG : RowsNodup E.G) (fuel : Nat) (s s' : St α) (h : prologue E fuel s = some s')
    (hs : IInv s noLimbo) : HInv s' noLimbo := by
  obtain ⟨s1, h1, h2⟩ := prologue_sound h
  exact h2.hinv (iinv_hinv (h1.iinv hG _ hs))

theorem next_hinv (E : Env α) (hG : RowsNodup E.G) (fuel : Nat) (g g' : Gen α) (out : Option Prog)
    (h : next E fuel g = some (g', out)) (hg : HGInv g) : HGInv g' := by
  rcases next_loop h with ⟨_, rfl, _⟩ | ⟨s, n, fr?, failed, hl, hc⟩
  · exact hg
  · refine ⟨hl.keeps (P := (HInv · noLimbo)) (fun _ _ hs => hinv_of_eq rfl hs) (fun hr => hr.hinv) ?_, fun hh => absurd hh hl.phase⟩
    rcases hc with ⟨hph, hp, _⟩ | ⟨rfl, _⟩
    · exact prologue_hinv E hG fuel _ _ hp (hg.2 (by rw [hph]))
    · exact hg.1

theorem gen_new_hinv (E : Env α) (g : Gen α) (h : Gen.new E = some g) : HGInv g :=
  have hi := init_iinv E g.st (Gen.new_some h).1
  ⟨iinv_hinv hi, fun _ => hi⟩

theorem merge_hinv (E : Env α) (g : Gen α) (other : Prog) (ty : Nat) (hg : HGInv g) : HGInv (merge E g other ty) := by
  obtain ⟨b, d, e⟩ := merge_eq E g other ty
  rw [e]
  exact ⟨hinv_of_eq rfl hg.1, fun hh => iinv_of_eq rfl rfl (hg.2 hh)⟩

theorem runHist_hinv (E : Env α) (hG : RowsNodup E.G) (fuel : Nat) : ∀ (acts : List Act) (g : Gen α) (out : List Prog) (g' : Gen α)
    (ys : List Prog), runHist E fuel acts g out = some (g', ys) → HGInv g → HGInv g' :=
  fun acts g out g' ys h =>
    runHist_rule E fuel (fun g _ => HGInv g) (fun _ _ => True) (fun g g' o _ hn => next_hinv E hG fuel g g' o hn)
      (fun g p t _ _ => merge_hinv E g p t) acts g out g' ys h (fun _ _ _ => trivial)

theorem RowsNodup.of_all (G : Gram) (h : (G.rules.all fun r => decide ((r.2.map (·.1)).Nodup)) = true) : RowsNodup G := by
  intro S rs hl
  simpa using List.all_eq_true.mp h (S, rs) (AList.lookup_some_mem hl)

end PS.CD
