/- Everything `CDSearch` does before its first query, read once: `__init__` builds fresh tables (`Fresh`); the mutually
   recursive `_init_non_terminal_` / `_init_derivation_` as a big-step relation without fuel (`Init`, one constructor per
   path through the code, as `Exec` for the query block); `_reevaluate_` and `__compute_bounds__` as sequences of the four
   table writes they are made of (`Reeval`): they pop a derivation queue until it reports empty and push what they
   popped back (`Requeued`), set the head of a cost list, and rebuild a heap from its own elements.  An invariant of the prologue is
   one induction over `Init` and one over `Reeval`. -/
import PS.Model.Enum.ConstantDelay
import PS.Proofs.Enum.CDQueue
import PS.Proofs.Enum.CDStep
namespace PS.CD
variable {α : Type}

/-! ### `__init__` -/

/-- the tables as `__init__` leaves them (`init_fresh`): what every invariant of the prologue starts from -/
structure Fresh (s : St α) : Prop where
  bankNt : ∀ S b, AList.lookup S s.bankNt = some b → b = []
  bankDer : ∀ a b, AList.lookup a s.bankDer = some b → b = []
  queueNt : ∀ S h, AList.lookup S s.queueNt = some h → h = []
  costNt : ∀ S cl, AList.lookup S s.costNt = some cl → cl = []
  queueDer : ∀ a q, AList.lookup a s.queueDer = some q → QWF q ∧ q.contents = []

theorem initDerTables_fresh (A : Arith α) (M : Int) (k : Nat) (rs : List (Sym × (List NT × Int))) (s s' : St α) :
    initDerTables A M k rs s = some s' → Fresh s → Fresh s' := by
  fun_induction initDerTables A M k rs s <;> intro h hs
  · cases h; exact hs
  · rename_i ih; exact ih h hs
  · cases h
  · rename_i q hq ih
    obtain ⟨h1, _, h2⟩ := qwf_new A M k q hq
    exact ih h ⟨hs.bankNt, AList.forall_insert (fun a b _ => hs.bankDer a b) rfl, hs.queueNt, hs.costNt,
      AList.forall_insert (fun a q _ => hs.queueDer a q) ⟨h1, h2⟩⟩

theorem initTables_fresh (A : Arith α) (M : Int) (k : Nat) (rs : List (NT × AList Sym (List NT × Int))) (s s' : St α) :
    initTables A M k rs s = some s' → Fresh s → Fresh s' := by
  fun_induction initTables A M k rs s <;> intro h hs
  · cases h; exact hs
  · cases h
  · rename_i s2 h2 ih
    exact ih h (initDerTables_fresh A M k _ _ s2 h2
      ⟨AList.forall_insert (fun S b _ => hs.bankNt S b) rfl, hs.bankDer, AList.forall_insert (fun S h _ => hs.queueNt S h) rfl,
        AList.forall_insert (fun S cl _ => hs.costNt S cl) rfl, hs.queueDer⟩)

theorem init_fresh {E : Env α} {s : St α} (h : St.init E = some s) : Fresh s := by
  unfold St.init at h
  split at h
  · simp at h
  · exact initTables_fresh _ _ _ _ _ _ h ⟨nofun, nofun, nofun, nofun, nofun⟩

theorem Gen.new_some {E : Env α} {g : Gen α} (h : Gen.new E = some g) : St.init E = some g.st ∧ g.phase = .fresh := by
  unfold Gen.new at h
  cases hi : St.init E with
  | none => simp [hi] at h
  | some s => simp only [hi, Option.map_some, Option.some.injEq] at h; subst h; exact ⟨rfl, rfl⟩

/-! ### `_init_non_terminal_` and `_init_derivation_` -/

/-- a call of a function of the init block: `base args c` is the cost `c` a rule with the arguments `args` starts from
    (that of `_init_derivation_(args)`, 0 for a rule without arguments), `args as c c'` the loop of `_init_derivation_`
    that initialises the non-terminals `as` and adds their first costs to `c` -/
inductive ICall (α : Type) where
  | nt (S : NT)
  | rules (S : NT) (rs : List (Sym × (List NT × Int)))
  | base (args : List NT) (c : α)
  | der (args : List NT)
  | args (as : List NT) (c c' : α)

inductive Init (E : Env α) : St α → ICall α → St α → Prop
  | known {s S cl} : AList.lookup S s.costNt = some cl → cl ≠ [] → Init E s (.nt S) s
  | nt {s S rs s2 d cl2} : AList.lookup S s.costNt = some [] → AList.lookup S E.G.rules = some rs →
      Init E (s.setCostNt S [E.A.big]) (.rules S rs) s2 → heads s2 S = some d → AList.lookup S s2.costNt = some cl2 →
      Init E s (.nt S) (s2.setCostNt S (cl2.set 0 d.cost))
  | done {s S} : Init E s (.rules S []) s
  | rule {s S P args w rest s1 base h s'} : Init E s (.base args base) s1 → AList.lookup S s1.queueNt = some h →
      Init E (s1.setHeap S (Heapq.push (ltD E.A) h ⟨E.A.add base (E.A.ofInt w), 0, P⟩)) (.rules S rest) s' →
      Init E s (.rules S ((P, (args, w)) :: rest)) s'
  | noArgs {s} : Init E s (.base [] (E.A.ofInt 0)) s
  | first {s args s1 c cs} : args ≠ [] → Init E s (.der args) s1 → AList.lookup args s1.costDer = some (c :: cs) →
      Init E s (.base args c) s1
  | knownDer {s args cl} : AList.lookup args s.costDer = some cl → cl ≠ [] → Init E s (.der args) s
  | der {s args s2 cost q q1 q2 pk cl2} : AList.lookup args s.costDer = some [] →
      Init E (s.setCostDer args [E.A.big]) (.args args (E.A.ofInt 0) cost) s2 → AList.lookup args s2.queueDer = some q →
      q.push E.A ⟨cost, [List.replicate args.length 0]⟩ E.asserts = some q1 → q1.update E.A = some q2 → q2.peek = some pk →
      AList.lookup args s2.costDer = some cl2 →
      Init E s (.der args) ((s2.setQueueDer args q2).setCostDer args (cl2.set 0 pk.cost))
  | argsNil {s c} : Init E s (.args [] c c) s
  | arg {s Si rest c s1 c0 cs s' c'} : Init E s (.nt Si) s1 → AList.lookup Si s1.costNt = some (c0 :: cs) →
      Init E s1 (.args rest (E.A.add c c0) c') s' → Init E s (.args (Si :: rest) c c') s'

structure InitSound (E : Env α) (f : Nat) : Prop where
  nt : ∀ {s S s'}, initNT E f s S = some s' → Init E s (.nt S) s'
  rules : ∀ {s S rs s'}, initRules E f s S rs = some s' → Init E s (.rules S rs) s'
  der : ∀ {s args s'}, initDer E f s args = some s' → Init E s (.der args) s'
  args : ∀ {s as c s' c'}, initArgs E f s as c = some (s', c') → Init E s (.args as c c') s'

theorem length_pos_cases {β : Type} (cl : List β) : (cl.length > 0 ∧ cl ≠ []) ∨ (¬ cl.length > 0 ∧ cl = []) := by
  cases cl with
  | nil => exact Or.inr ⟨by simp, rfl⟩
  | cons _ _ => exact Or.inl ⟨by simp, by simp⟩

theorem init_sound (E : Env α) : ∀ f, InitSound E f := by
  intro f
  induction f with
  | zero =>
    refine ⟨?_, ?_, ?_, ?_⟩ <;> intros <;> rename_i h
    · simp [initNT] at h
    · simp [initRules] at h
    · simp [initDer] at h
    · simp [initArgs] at h
  | succ f ih =>
    refine ⟨?_, ?_, ?_, ?_⟩
    · intro s S s' h
      rw [initNT] at h
      split at h
      · simp at h
      · rename_i cl hcl
        rcases length_pos_cases cl with ⟨hl, hne⟩ | ⟨hl, rfl⟩
        · rw [if_pos hl] at h
          exact Option.some.inj h ▸ .known hcl hne
        · rw [if_neg hl] at h
          split at h
          · simp at h
          · rename_i rs hrs
            split at h
            · simp at h
            · rename_i s2 h2
              split at h
              · rename_i d cl2 hd hcl2
                exact Option.some.inj h ▸ .nt hcl hrs (ih.rules h2) hd hcl2
              · simp at h
    · intro s S rs s' h
      cases rs with
      | nil => simp only [initRules, Option.some.injEq] at h; exact h ▸ .done
      | cons r rest =>
        obtain ⟨P, args, w⟩ := r
        rw [initRules] at h
        split at h
        · simp at h
        · rename_i s1 base hr
          split at h
          · simp at h
          · rename_i hh hq
            refine .rule ?_ hq (ih.rules h)
            split at hr
            · rename_i he
              obtain ⟨rfl, rfl⟩ := Prod.mk.inj (Option.some.inj hr)
              obtain rfl : args = [] := by simpa using he
              exact .noArgs
            · rename_i he
              split at hr
              · simp at hr
              · rename_i s1' hd
                split at hr
                · rename_i c cs hc
                  obtain ⟨rfl, rfl⟩ := Prod.mk.inj (Option.some.inj hr)
                  exact .first (fun h0 => he (by simp [h0])) (ih.der hd) hc
                · simp at hr
    · intro s args s' h
      rw [initDer] at h
      split at h
      · simp at h
      · rename_i cl hcl
        rcases length_pos_cases cl with ⟨hl, hne⟩ | ⟨hl, rfl⟩
        · rw [if_pos hl] at h
          exact Option.some.inj h ▸ .knownDer hcl hne
        · rw [if_neg hl] at h
          split at h
          · simp at h
          · rename_i s2 cost ha
            split at h
            · simp at h
            · rename_i q hq
              split at h
              · simp at h
              · rename_i q1 hpush
                split at h
                · simp at h
                · rename_i q2 hupd
                  split at h
                  · rename_i pk cl2 hpk hcl2
                    exact Option.some.inj h ▸ .der hcl (ih.args ha) hq hpush hupd hpk hcl2
                  · simp at h
    · intro s as c s' c' h
      cases as with
      | nil =>
        simp only [initArgs, Option.some.injEq, Prod.mk.injEq] at h
        obtain ⟨rfl, rfl⟩ := h
        exact .argsNil
      | cons Si rest =>
        rw [initArgs] at h
        split at h
        · simp at h
        · rename_i s1 h1
          split at h
          · rename_i c0 cs hc0
            exact .arg (ih.nt h1) hc0 (ih.args h)
          · simp at h

theorem Init.eq {E : Env α} {s s' : St α} {c : ICall α} (h : Init E s c s') :
    ∃ qn qd cn cd, s' = { s with queueNt := qn, queueDer := qd, costNt := cn, costDer := cd } := by
  induction h with
  | known | done | noArgs | knownDer | argsNil => exact ⟨_, _, _, _, rfl⟩
  | nt _ _ _ _ _ ih | der _ _ _ _ _ _ _ ih | first _ _ _ ih => obtain ⟨_, _, _, _, rfl⟩ := ih; exact ⟨_, _, _, _, rfl⟩
  | rule _ _ _ ih1 ih2 | arg _ _ _ ih1 ih2 =>
    obtain ⟨_, _, _, _, rfl⟩ := ih1
    obtain ⟨_, _, _, _, rfl⟩ := ih2
    exact ⟨_, _, _, _, rfl⟩

/-! ### `_reevaluate_` and `__compute_bounds__` -/

theorem popAll_perm (f : Nat) (q : Q α) (acc out : List (CT α)) (q1 : Q α) : QWF q → popAll q f acc = some (out, q1) →
    QWF q1 ∧ (out.flatMap (·.combs)).Perm (acc.flatMap (·.combs) ++ q.contents) := by
  fun_induction popAll q f acc <;> intro hq h
  · cases h
  · rename_i hemp
    cases h
    -- `is_empty()` reads the counter `nelements`
    rw [hq.contents_nil (by simpa [Q.isEmpty] using hemp), List.append_nil]
    exact ⟨hq, List.Perm.refl _⟩
  · cases h
  · rename_i q f acc _ ct q' hpop ih
    obtain ⟨hq', _, hperm, _⟩ := qwf_pop q q' ct hq hpop
    obtain ⟨h1, h2⟩ := ih hq' h
    refine ⟨h1, h2.trans ?_⟩
    simp only [List.flatMap_append, List.flatMap_cons, List.flatMap_nil, List.append_nil, List.append_assoc]
    exact List.Perm.append_left _ hperm.symm

theorem pushAll_perm (A : Arith α) (b : Bool) (es : List (CT α)) (q q' : Q α) : QWF q → pushAll A b es q = some q' →
    QWF q' ∧ q'.contents.Perm (q.contents ++ es.flatMap (·.combs)) := by
  fun_induction pushAll A b es q <;> intro hq h
  · cases h; exact ⟨hq, by simp⟩
  · cases h
  · rename_i e es q q1 hp ih
    obtain ⟨hq1, _, hperm, _⟩ := qwf_push A q q1 e b hq hp
    obtain ⟨h1, h2⟩ := ih hq1 h
    refine ⟨h1, h2.trans ?_⟩
    rw [List.flatMap_cons, ← List.append_assoc]
    exact List.Perm.append_right _ hperm

theorem insertCT_perm (A : Arith α) (x : CT α) : ∀ (l : List (CT α)), (insertCT A x l).Perm (x :: l)
  | [] => by simp [insertCT]
  | y :: ys => by
    rw [insertCT]
    split
    · exact List.Perm.refl _
    · exact ((insertCT_perm A x ys).cons y).trans (List.Perm.swap x y ys)

theorem sortCT_perm (A : Arith α) (l : List (CT α)) : (sortCT A l).Perm l := by
  have key : ∀ (l acc : List (CT α)), (l.foldl (fun acc x => insertCT A x acc) acc).Perm (l ++ acc) := by
    intro l
    induction l with
    | nil => intro acc; exact List.Perm.refl _
    | cons x xs ih =>
      intro acc
      exact (ih _).trans ((List.Perm.append_left xs (insertCT_perm A x acc)).trans List.perm_middle)
  simpa [sortCT] using key l []

/-- what popping a derivation queue `q` until `is_empty()` and pushing what was popped back makes of it (`q2`).  The
    hypothesis `QWF q` sits inside the definition so that the constructor `Reeval.queueDer` carries no well-formedness
    premise; a proof by induction over `Reeval` supplies `QWF q` from its own invariant. -/
def Requeued (q q2 : Q α) : Prop := QWF q → QWF q2 ∧ q2.contents.Perm q.contents

/-- `es`: the popped CostTuples with new costs, in any order; `q0`: the emptied queue, or a new one -/
theorem requeued {A : Arith α} {b : Bool} {f : Nat} {q q1 q0 q2 : Q α} {out es : List (CT α)}
    (hpop : popAll q f [] = some (out, q1)) (hes : (es.flatMap (·.combs)).Perm (out.flatMap (·.combs)))
    (hq0 : QWF q1 → QWF q0 ∧ q0.tuples = [] ∧ q0.contents = []) (hpush : pushAll A b es q0 = some q2) : Requeued q q2 := by
  intro hq
  obtain ⟨hq1, hperm⟩ := popAll_perm f q [] out q1 hq hpop
  obtain ⟨hq2, hp2⟩ := pushAll_perm A b es q0 q2 (hq0 hq1).1 hpush
  rw [(hq0 hq1).2.2, List.nil_append] at hp2
  exact ⟨hq2, (hp2.trans hes).trans (by simpa using hperm)⟩

/-- the tables after `_reevaluate_` and `__compute_bounds__`: a sequence of writes, each replacing a derivation queue by
    a requeued one, the head of a cost list, or a heap by the heap of its own elements with their costs recomputed -/
inductive Reeval (E : Env α) : St α → St α → Prop
  | refl {s} : Reeval E s s
  | queueDer {s args q q2 s'} : AList.lookup args s.queueDer = some q → Requeued q q2 →
      Reeval E (s.setQueueDer args q2) s' → Reeval E s s'
  | costDer {s args cl x s'} : AList.lookup args s.costDer = some cl → cl ≠ [] →
      Reeval E (s.setCostDer args (cl.set 0 x)) s' → Reeval E s s'
  | heap {s S h nq s'} : AList.lookup S s.queueNt = some h → newQueue E s S h = some nq →
      Reeval E (s.setHeap S (heapify (ltD E.A) nq)) s' → Reeval E s s'
  | costNt {s S cl x s'} : AList.lookup S s.costNt = some cl → Reeval E (s.setCostNt S (cl.set 0 x)) s' → Reeval E s s'

theorem Reeval.trans {E : Env α} {s1 s2 s3 : St α} (h1 : Reeval E s1 s2) (h2 : Reeval E s2 s3) : Reeval E s1 s3 := by
  induction h1 with
  | refl => exact h2
  | queueDer a b _ ih => exact .queueDer a b (ih h2)
  | costDer a b _ ih => exact .costDer a b (ih h2)
  | heap a b _ ih => exact .heap a b (ih h2)
  | costNt a _ ih => exact .costNt a (ih h2)

theorem reevalDer_reeval {E : Env α} {s s' : St α} {args : List NT} : reevalDer E.A E.asserts s args = some s' →
    Reeval E s s' := by
  fun_cases reevalDer E.A E.asserts s args <;> intro h
  · cases h; exact .refl
  · cases h
  · cases h
  · cases h
  · cases h
  · cases h
  · rename_i hq popped q1 hpa elems? elems he q2 hpu pk cl hcl hpk hemp
    cases h
    -- the elements pushed back carry the index tuples of those popped
    have hel : elems.flatMap (·.combs) = popped.flatMap (·.combs) := by
      change (if _ then _ else _) = _ at he
      split at he
      · rename_i hp; cases he; rw [List.isEmpty_iff.mp hp]
      · split at he
        · cases he
        · cases he; simp [List.flatMap_map]
    refine .queueDer hq (requeued hpa ?_ (qwf_clear q1) hpu)
      (.costDer (s := s.setQueueDer args q2) hcl (fun h0 => hemp (by simp [h0])) .refl)
    exact hel ▸ ((List.reverse_perm _).trans (sortCT_perm E.A elems)).flatMap_right _
  · cases h

theorem reevalDers_reeval {E : Env α} (rs : List (Sym × (List NT × Int))) (s s' : St α) :
    reevalDers E.A E.asserts rs s = some s' → Reeval E s s' := by
  fun_induction reevalDers E.A E.asserts rs s <;> intro h
  · cases h; exact .refl
  · cases h
  · rename_i h1 ih; exact (reevalDer_reeval h1).trans (ih h)

theorem reevalPass_reeval {E : Env α} (rs : List (NT × AList Sym (List NT × Int))) (s : St α) (ch : Bool) (s' : St α)
    (ch' : Bool) : reevalPass E rs s ch = some (s', ch') → Reeval E s s' := by
  fun_induction reevalPass E rs s ch <;> intro h
  · cases h; exact .refl
  · cases h
  · cases h
  · cases h
  · rename_i h1 _ _ _ _ _ ih; exact (reevalDers_reeval _ _ _ h1).trans (ih h)
  · cases h
  · rename_i h1 hh hq nq hnq _ nh d _ cl hcl _ _ ih
    exact (reevalDers_reeval _ _ _ h1).trans (.heap hq hnq (.costNt (s := _) hcl (ih h)))
  · cases h

theorem reevaluate_reeval {E : Env α} (f : Nat) (s s' : St α) : reevaluate E f s = some s' → Reeval E s s' := by
  fun_induction reevaluate E f s <;> intro h
  · cases h
  · cases h
  · rename_i h1 ih; exact (reevalPass_reeval _ _ _ _ _ h1).trans (ih h)
  · rename_i h1; cases h; exact reevalPass_reeval _ _ _ _ _ h1

theorem rebuildQueues_reeval {E : Env α} (values : AList NT Int) (keys : List (List NT)) (s s' : St α) :
    rebuildQueues E.A E.asserts values keys s = some s' → Reeval E s s' := by
  fun_induction rebuildQueues E.A E.asserts values keys s <;> intro h
  · cases h; exact .refl
  · cases h
  · cases h
  · cases h
  · cases h
  · rename_i hq elems _ _ _ hpa _ q0 hnew q1 hpu _ ih
    exact .queueDer hq (requeued hpa ((sortCT_perm E.A elems).flatMap_right _) (fun _ => qwf_new _ _ _ q0 hnew) hpu) (ih h)
  · cases h

theorem prologue_sound {E : Env α} {fuel : Nat} {s s' : St α} : prologue E fuel s = some s' →
    ∃ s1, Init E s (.nt E.G.start) s1 ∧ Reeval E s1 s' := by
  fun_cases prologue E fuel s <;> intro h
  · cases h
  · cases h
  · rename_i s1 h1 s2 h2
    refine ⟨s1, (init_sound E fuel).nt h1, (reevaluate_reeval _ _ _ h2).trans ?_⟩
    revert h
    fun_cases computeBounds E fuel s2 <;> intro h
    · cases h
    · cases h
    · exact rebuildQueues_reeval _ _ _ _ h

theorem Reeval.eq {E : Env α} {s s' : St α} (h : Reeval E s s') :
    ∃ qn qd cn cd, s' = { s with queueNt := qn, queueDer := qd, costNt := cn, costDer := cd } := by
  induction h with
  | refl => exact ⟨_, _, _, _, rfl⟩
  | queueDer _ _ _ ih | costDer _ _ _ ih | heap _ _ _ ih | costNt _ _ ih => obtain ⟨_, _, _, _, rfl⟩ := ih; exact ⟨_, _, _, _, rfl⟩

end PS.CD
