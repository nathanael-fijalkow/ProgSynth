/- Bee search, STRICT progress of the rounds (rules with arguments cost > 0): inside the round of cost c an element of
   cost c is only in the queue of a non-terminal still to be handled in this round; between rounds every queued
   element costs strictly more than every entry of the cost list, so that the cost of the next round is beyond the last
   entry (`step_term`, case `round`: the step where the measure of BeeTerm drops in its first component). -/
import PS.Proofs.Enum.BeeCost
namespace PS.Bee
open PS PS.G PS.Heapq

variable {S : Type} [DecidableEq S]
set_option linter.unusedSectionVars false
set_option linter.unusedSimpArgs false

/-! ### the keys of the queue table stay distinct -/

def KN (s : St S) : Prop := (AList.keys s.queued).Nodup

theorem KN.setQueue {s : St S} (hk : KN s) (nt : NT S Unit) (l : List HeapElem) : KN (s.setQueue nt l) :=
  AList.keys_insert_nodup _ _ hk

theorem addCombination_kn (E : Env S) (s s' : St S) (nt : NT S Unit) (P : Sym) (idx : List Nat) (chk : Option Nat)
    (h : addCombination E s nt P idx chk = some s') (hk : KN s) : KN s' := by
  rcases addCombination_eq h with ⟨_, rfl⟩ | ⟨_, c, _, rfl⟩
  · exact hk
  · exact hk.setQueue nt _

theorem addCost_kn (E : Env S) (s s' : St S) (cost : Int) (ci : Nat) (h : addCost E s cost = some (s', ci)) (hk : KN s) :
    KN s' :=
  addCost_ind h (fun nt _ idx P chk _ _ s s' ha => addCombination_kn E s s' nt P idx chk ha) id hk

theorem succLoop_kn (E : Env S) (nt : NT S Unit) (P : Sym) (combo : List Nat) (k i : Nat) (s s' : St S) (maxi maxi' : Nat)
    (h : succLoop E nt P combo i k s maxi = some (s', maxi')) (hk : KN s) : KN s' :=
  succLoop_ind (fun _ _ _ s s' ha => addCombination_kn E s s' nt P _ _ ha) k i s s' maxi maxi' h hk

theorem trigger_strict (E : Env S) (hpos : PosArgs E) (cl : List Int) (cost : Int) (hnn : ∀ x ∈ cl ++ [cost], 0 ≤ x)
    (nt : NT S Unit) (idx : List Nat) (P : Sym) (chk : Option Nat) (c : Int)
    (hd : DOk E cl nt (idx, P, chk)) (hn : needsDelay (cl ++ [cost]) idx chk = some false)
    (hc : realCost E (cl ++ [cost]) nt P idx = some c) : cost < c := by
  obtain ⟨i, hi, hiv⟩ := trigger_index E cl cost nt idx P chk hd hn
  obtain ⟨_, args, ha, hlen⟩ := hd
  simp only at ha hlen
  exact realCost_gt E hpos (cl ++ [cost]) hnn nt P args ha idx c hc i cl.length (by omega) hiv cost (by simp)

/-- the non-terminals still to be handled in the current round -/
def Remaining : Phase S → List (NT S Unit)
  | .forS _ _ nts => nts
  | .whileQ _ _ nt rest _ _ => nt :: rest
  | .pend _ _ nt rest _ _ _ => nt :: rest
  | _ => []

def StrictQ (g : Gen S) : Prop :=
  match g.phase.cost? with
  | some c => ∀ nt l, (nt, l) ∈ g.st.queued → ∀ e ∈ l, e.cost = c → nt ∈ Remaining g.phase
  | none => ∀ nt l, (nt, l) ∈ g.st.queued → ∀ e ∈ l, ∀ x ∈ g.st.costList, x < e.cost

theorem queueOf_of_mem {s : St S} (hk : KN s) {nt : NT S Unit} {l : List HeapElem} (h : (nt, l) ∈ s.queued) :
    s.queueOf nt = l := by
  unfold St.queueOf
  rw [AList.lookup_of_mem_nodup hk h]; rfl

theorem step_strict (E : Env S) (hw : NNW E) (hpos : PosArgs E) (g g' : Gen S) (out : Option Prog) (b : Int)
    (h : step E g = some (g', out)) (hi : GInv E g) (ho : GOrd E g b) (hk : KN g.st) (hs : StrictQ g) :
    StrictQ g' ∧ KN g'.st := by
  cases step_cases h with
  | done | init | stop _ | endPend => exact ⟨hs, hk⟩
  | @round st _ _ nt nts cost _ hnc _ =>
    refine ⟨fun nt1 l1 hm1 e1 he1 hc1 => ?_, hk⟩
    obtain ⟨low, hos, _⟩ : ∃ low, OSt E st low ∧ b ≤ low := ho
    have hmin := (nextCheapest_min st hos.heaps _ _ hnc).1
    have hcol := (nextCheapest_spec _ hnc).collects cost
    cases l1 with
    | nil => cases he1
    | cons top tl =>
      have hq : st.queueOf nt1 = top :: tl := queueOf_of_mem hk hm1
      have htm := top_min hos.heaps nt1 top tl hq e1 (by rw [hq]; exact he1)
      have := hmin nt1 _ hm1 top List.mem_cons_self
      exact hcol nt1 top tl rfl hm1 (by omega)
  | @endRound st _ _ succ cost =>
    have hos : OSt E st cost := ho.1
    refine ⟨fun nt l hm e he x hx => ?_, hk⟩
    have h1 := (hos.q nt l hm e he).1
    have h2 := hos.cl_le x hx
    have h3 : e.cost ≠ cost := fun hc => nomatch hs nt l hm e he hc
    omega
  | @addCost st _ _ succ cost nt rest s1 ci hac =>
    have hos : OSt E st cost := ho.1
    have hac' := addCost_all E (fun nt' e => e.cost = cost → nt' ∈ nt :: rest) (DOk E st.costList) (fun _ _ => True) hac
      (fun nt' idx P chk c hd hn hc hce => by
        have := trigger_strict E hpos st.costList cost hos.snoc_nonneg nt' idx P chk c hd hn hc
        simp only at hce; omega)
      (fun _ _ _ _ _ _ => trivial) hs hos.d
    refine ⟨?_, addCost_kn E _ s1 cost ci hac hk⟩
    rcases hac'.cases with ⟨rfl, _⟩ | ⟨_, _, _, hq, _⟩
    · exact hs
    · exact hq
  | @leave st _ _ succ cost nt rest maxi ci hne =>
    have hos : OSt E st cost := ho.1
    -- no element of the round's cost is left for `nt`: the root is a minimum and costs more
    refine ⟨fun nt' l hm e he hc => ?_, hk⟩
    rcases List.mem_cons.mp (hs nt' l hm e he hc) with h1 | h1
    · subst h1
      rw [← queueOf_of_mem hk hm] at he
      cases hq : st.queueOf nt' with
      | nil => rw [hq] at he; cases he
      | cons top tl =>
        have h1 := top_min hos.heaps nt' top tl hq e he
        have h2 := (hos.q.of_queueOf (show top ∈ st.queueOf nt' by rw [hq]; exact List.mem_cons_self)).1
        exact absurd (by omega) (hne top tl hq)
    · exact h1
  | @pop st _ _ succ cost nt rest maxi ci top tl q' args s2 maxi' ph hq htop hpop hargs hsl hout =>
    have hq1 : QAll (fun nt' e => e.cost = cost → nt' ∈ nt :: rest) (st.setQueue nt q') :=
      QAll.setQueue hs fun _ _ _ => List.mem_cons_self
    obtain ⟨_, hq2, _⟩ := succLoop_all E (fun nt' e => e.cost = cost → nt' ∈ nt :: rest) (fun _ _ => True) nt top.P
      top.combo st.costList (fun _ _ _ _ _ _ _ => List.mem_cons_self) (fun _ _ _ _ => trivial) _ _ _ _ _ _ hsl rfl hq1
      (fun _ _ _ _ _ => trivial)
    have hk2 := succLoop_kn E nt top.P top.combo _ _ _ _ _ _ hsl (hk.setQueue nt q')
    rcases hout with ⟨_, rfl⟩ | ⟨_, _, rfl⟩ <;> exact ⟨hq2, hk2⟩
  | @offer st _ _ succ cost nt rest maxi ci p ps y _ =>
    obtain ⟨fq, _, _⟩ := addProgram_frame E st nt p ci
    exact ⟨fun nt' l hm e he hc => hs nt' l (fq ▸ hm) e he hc, by unfold KN; rw [fq]; exact hk⟩

end PS.Bee
