/- heapq commutes with an order-preserving embedding; hence the heap lemmas hold for an order that
   is a strict weak order only on a subset of the elements (bucket tuples of one length). -/
import PS.Proofs.Enum.HeapInv
namespace PS.Heapq
variable {α β : Type}

theorem swap_map (f : β → α) (h : List β) (i j : Nat) : (swap h i j).map f = swap (h.map f) i j := by
  unfold swap
  simp only [List.getElem?_map]
  cases h[i]? with
  | none => rfl
  | some a =>
    cases h[j]? with
    | none => rfl
    | some b => simp [List.map_set]

theorem ltAt_map (f : β → α) (lt : α → α → Bool) (lt' : β → β → Bool) (hlt : ∀ a b, lt' a b = lt (f a) (f b))
    (h : List β) (i j : Nat) : ltAt lt (h.map f) i j = ltAt lt' h i j := by
  unfold ltAt
  simp only [List.getElem?_map]
  cases h[i]? with
  | none => rfl
  | some a =>
    cases h[j]? with
    | none => rfl
    | some b => simp [hlt]

theorem siftdown_map (f : β → α) (lt : α → α → Bool) (lt' : β → β → Bool) (hlt : ∀ a b, lt' a b = lt (f a) (f b)) :
    ∀ (fuel : Nat) (h : List β) (pos : Nat), (siftdown lt' fuel h pos).map f = siftdown lt fuel (h.map f) pos := by
  intro fuel
  induction fuel with
  | zero => intro h pos; rfl
  | succ n ih =>
    intro h pos
    unfold siftdown
    by_cases hp : pos = 0
    · simp [hp]
    · simp only [hp, if_false, ltAt_map f lt lt' hlt]
      split
      · rw [ih, swap_map]
      · rfl

theorem bubble_map (f : β → α) (lt : α → α → Bool) (lt' : β → β → Bool) (hlt : ∀ a b, lt' a b = lt (f a) (f b)) :
    ∀ (fuel : Nat) (h : List β) (pos : Nat),
      ((bubble lt' fuel h pos).1.map f, (bubble lt' fuel h pos).2) = bubble lt fuel (h.map f) pos := by
  intro fuel
  induction fuel with
  | zero => intro h pos; rfl
  | succ n ih =>
    intro h pos
    unfold bubble
    simp only [List.length_map, ltAt_map f lt lt' hlt]
    split
    · rw [← swap_map]; exact ih _ _
    · rfl

theorem push_map (f : β → α) (lt : α → α → Bool) (lt' : β → β → Bool) (hlt : ∀ a b, lt' a b = lt (f a) (f b))
    (h : List β) (x : β) : (push lt' h x).map f = push lt (h.map f) (f x) := by
  unfold push
  rw [siftdown_map f lt lt' hlt]
  simp

theorem siftup_map (f : β → α) (lt : α → α → Bool) (lt' : β → β → Bool) (hlt : ∀ a b, lt' a b = lt (f a) (f b))
    (h : List β) : (siftup lt' h).map f = siftup lt (h.map f) := by
  unfold siftup
  have hb := bubble_map f lt lt' hlt h.length h 0
  simp only [List.length_map]
  rw [← hb]
  simp only
  exact siftdown_map f lt lt' hlt _ _ _

theorem pop_map (f : β → α) (lt : α → α → Bool) (lt' : β → β → Bool) (hlt : ∀ a b, lt' a b = lt (f a) (f b))
    (h : List β) : (pop lt' h).map (fun r => (f r.1, r.2.map f)) = pop lt (h.map f) := by
  unfold pop
  rw [List.getLast?_map]
  cases h.getLast? with
  | none => rfl
  | some last =>
    simp only [Option.map_some]
    rw [← List.map_dropLast]
    cases h.dropLast with
    | nil => rfl
    | cons top rest =>
      simp only [List.map_cons, Option.map_some]
      rw [siftup_map f lt lt' hlt]
      rfl

theorem isHeap_map (f : β → α) (lt : α → α → Bool) (lt' : β → β → Bool) (hlt : ∀ a b, lt' a b = lt (f a) (f b))
    (h : List β) : IsHeap lt (h.map f) ↔ IsHeap lt' h := by
  unfold IsHeap
  constructor
  · intro hh i hi h0
    have := hh i (by simpa using hi) h0
    simpa [hlt] using this
  · intro hh i hi h0
    have := hh i (by simpa using hi) h0
    simpa [hlt] using this

/-! ### orders that are strict weak orders on a subset -/

def WeakOrderOn (P : α → Prop) (lt : α → α → Bool) : Prop :=
  WeakOrder (fun a b : { x // P x } => lt a.1 b.1)

theorem WeakOrderOn.asymm {P : α → Prop} {lt : α → α → Bool} (w : WeakOrderOn P lt) {a b : α} (ha : P a) (hb : P b)
    (h : lt a b = true) : lt b a = false := WeakOrder.asymm w ⟨a, ha⟩ ⟨b, hb⟩ h
theorem WeakOrderOn.ntrans {P : α → Prop} {lt : α → α → Bool} (w : WeakOrderOn P lt) {a b c : α} (ha : P a) (hb : P b)
    (hc : P c) (h1 : lt b a = false) (h2 : lt c b = false) : lt c a = false :=
  WeakOrder.ntrans w ⟨a, ha⟩ ⟨b, hb⟩ ⟨c, hc⟩ h1 h2
theorem WeakOrderOn.irrefl {P : α → Prop} {lt : α → α → Bool} (w : WeakOrderOn P lt) {a : α} (ha : P a) :
    lt a a = false := WeakOrder.irrefl w ⟨a, ha⟩
theorem WeakOrder.on {lt : α → α → Bool} (w : WeakOrder lt) (P : α → Prop) : WeakOrderOn P lt :=
  ⟨fun a b h => w.asymm a.1 b.1 h, fun a b c h1 h2 => w.ntrans a.1 b.1 c.1 h1 h2⟩

/-- a list of elements satisfying `P` is the image of a list over the subtype: the lemmas below transport
   `push_isHeap`, `pop_isHeap` and `push_head` along `Subtype.val` -/
theorem exists_lift {P : α → Prop} (h : List α) (hP : ∀ y ∈ h, P y) : ∃ h0 : List { y // P y }, h0.map Subtype.val = h :=
  ⟨h.attachWith P hP, by simp⟩

theorem push_isHeap_on {P : α → Prop} {lt : α → α → Bool} (w : WeakOrderOn P lt) (h : List α) (x : α)
    (hP : ∀ y ∈ h, P y) (hx : P x) (hh : IsHeap lt h) : IsHeap lt (push lt h x) := by
  obtain ⟨h0, rfl⟩ := exists_lift h hP
  rw [← push_map Subtype.val lt _ (fun _ _ => rfl) h0 ⟨x, hx⟩, isHeap_map _ lt _ (fun _ _ => rfl)]
  exact push_isHeap w _ _ ((isHeap_map _ lt _ (fun _ _ => rfl) h0).mp hh)

theorem pop_isHeap_on {P : α → Prop} {lt : α → α → Bool} (w : WeakOrderOn P lt) (h : List α) (x : α) (h' : List α)
    (hP : ∀ y ∈ h, P y) (hh : IsHeap lt h) (hp : pop lt h = some (x, h')) :
    IsHeap lt h' ∧ ∀ y ∈ h, lt y x = false := by
  obtain ⟨h0, rfl⟩ := exists_lift h hP
  have hmap := pop_map Subtype.val lt _ (fun _ _ => rfl) h0
  rw [hp] at hmap
  obtain ⟨⟨x', h''⟩, hq, hr⟩ := Option.map_eq_some_iff.mp hmap
  obtain ⟨rfl, rfl⟩ := Prod.mk.inj hr
  obtain ⟨a1, a2⟩ := pop_isHeap w _ _ _ ((isHeap_map _ lt _ (fun _ _ => rfl) h0).mp hh) hq
  refine ⟨(isHeap_map _ lt _ (fun _ _ => rfl) _).mpr a1, fun y hy => ?_⟩
  obtain ⟨y0, hy0, rfl⟩ := List.mem_map.mp hy
  exact a2 y0 hy0

theorem push_head_on {P : α → Prop} {lt : α → α → Bool} (w : WeakOrderOn P lt) (h : List α) (x : α)
    (hP : ∀ y ∈ h, P y) (hx : P x) (hh : IsHeap lt h) : (push lt h x).head? = bestStep lt h.head? x := by
  obtain ⟨h0, rfl⟩ := exists_lift h hP
  rw [← push_map Subtype.val lt _ (fun _ _ => rfl) h0 ⟨x, hx⟩, List.head?_map,
    push_head w _ _ ((isHeap_map _ lt _ (fun _ _ => rfl) h0).mp hh), List.head?_map]
  cases h0.head? with
  | none => rfl
  | some b =>
    simp only [bestStep, Option.map_some]
    split <;> rfl

theorem foldl_push_on {P : α → Prop} {lt : α → α → Bool} (w : WeakOrderOn P lt) (xs : List α) :
    ∀ h, (∀ y ∈ h, P y) → (∀ y ∈ xs, P y) → IsHeap lt h →
      (xs.foldl (push lt) h).head? = xs.foldl (bestStep lt) h.head? ∧ IsHeap lt (xs.foldl (push lt) h) := by
  induction xs with
  | nil => intro h _ _ hh; exact ⟨rfl, hh⟩
  | cons x r ih =>
    intro h hP hxs hh
    simp only [List.foldl_cons]
    have hx := hxs x (List.mem_cons_self)
    have hP' : ∀ y ∈ push lt h x, P y := by
      intro y hy
      rcases List.mem_cons.mp ((push_perm lt h x).subset hy) with rfl | hy'
      · exact hx
      · exact hP y hy'
    obtain ⟨a1, a2⟩ := ih _ hP' (fun y hy => hxs y (List.mem_cons_of_mem _ hy)) (push_isHeap_on w h x hP hx hh)
    exact ⟨by rw [a1, push_head_on w h x hP hx hh], a2⟩

end PS.Heapq
