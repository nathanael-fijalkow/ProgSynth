/- Termination of heap search / bucket search with a filter and a threshold on acyclic
   context-free grammars: with enough fuel the prologue returns, every `next` returns, and the
   generator stops after finitely many `next` (the popped programs are distinct members of a
   finite language; the pop loop and the yield loop skip at most that many rejected programs). -/
import Mathlib.Data.List.Perm.Subperm
import PS.Proofs.Enum.GTotal
import PS.Proofs.Enum.GRun
import PS.Proofs.Enum.HSGrammar
namespace PS.HS
open PS PS.G
set_option linter.unusedSectionVars false
variable {S : Type} [DecidableEq S]

theorem rankLt_maxRank (G : TT S Unit) (rank : NT S Unit → Nat) : HG.RankLt G rank (maxRank G rank) := by
  intro nt hnt
  have : rank nt ≤ ((AList.keys G.rules).map rank).foldl max 0 :=
    le_foldl_max _ _ _ (Or.inl (List.mem_map.mpr ⟨nt, hnt, rfl⟩))
  unfold maxRank
  omega

end PS.HS

namespace PS.HG
open PS PS.G PS.HS
set_option linter.unusedSectionVars false
variable {S π : Type} [DecidableEq S]

theorem arityLe_maxArityG (G : TT S Unit) : ArityLe G (maxArity G) :=
  fun nt F ra h => HS.arityLe_maxArity G nt F ra h

theorem firstQueries_total {E : Env S Unit π} {rank} {Good} (L : Law E rank Good) {H0 : NT S Unit → List (π × Prog)}
    {A Rall : Nat} (hA : ArityLe E.G A) (hR : RankLt E.G rank Rall) (fuel : Nat) (hfuel : Rall * (A + 5) ≤ fuel) :
    ∀ (nts : List (NT S Unit)), (∀ nt ∈ nts, nt ∈ AList.keys E.G.rules) → ∀ (s : St S Unit π), Full E H0 s →
      s.deleted = [] → ∃ s', firstQueries E fuel nts s = some s' := by
  intro nts
  induction nts with
  | nil => intro _ s _ _; exact ⟨s, rfl⟩
  | cons nt rest ih =>
    intro hk s hf hd
    have hpre : OPre E H0 (.query nt none) s := by intro x hx; cases hx
    obtain ⟨res, hq⟩ := query_total (Dm := 0) L hA Rall nt (hR nt (hk nt (List.mem_cons_self))) fuel
      (by simpa using hfuel) s none hf (by rw [hd]; exact Nat.le_refl _) hpre
    have c := big_core L (big_of_query E (s' := res.1) (r := res.2) hq) hf trivial trivial hpre
    obtain ⟨s', h'⟩ := ih (fun x hx => hk x (List.mem_cons_of_mem _ hx)) res.1 c.full (c.del.trans hd)
    exact ⟨s', by unfold firstQueries; rw [hq]; exact h'⟩

/-- after `__init_heap__` no program is deleted yet (`preHeaps_quiet`), so the first queries need no fuel for rejected
    programs (`firstQueries_total`, `Dm = 0`) -/
theorem prologue_totalG {E : Env S Unit π} {rank} {Good} (L : Law E rank Good) (HI : InitHyp E rank) (hw : WTotal E)
    (hkeys : (AList.keys E.G.rules).Nodup) (hclosed : Closed E.G)
    (hstart : E.G.start ∈ AList.keys E.G.rules) (fuel : Nat)
    (hfuel : maxRank E.G rank * (maxArity E.G + maxRow E.G + 5) ≤ fuel) :
    ∃ s0, prologue E fuel (St.empty E.G) = some s0 := by
  have T : TotHyp E rank (maxArity E.G) (maxRow E.G) :=
    ⟨HI, hw, hclosed, arityLe_maxArityG E.G, rowLe_maxRow E.G⟩
  have hR := rankLt_maxRank E.G rank
  have hR1 : 1 ≤ maxRank E.G rank := by unfold maxRank; omega
  have hmul : ∀ x, x ≤ maxArity E.G + maxRow E.G + 5 →
      maxRank E.G rank * x ≤ maxRank E.G rank * (maxArity E.G + maxRow E.G + 5) :=
    fun x hx => Nat.mul_le_mul_left _ hx
  have hf_init : maxRank E.G rank * (maxArity E.G + maxRow E.G + 4) ≤ fuel :=
    Nat.le_trans (hmul _ (by omega)) hfuel
  have hf_query : maxRank E.G rank * (maxArity E.G + 5) ≤ fuel := Nat.le_trans (hmul _ (by omega)) hfuel
  have hf2 : 2 ≤ fuel := by
    have : 1 * 5 ≤ maxRank E.G rank * (maxArity E.G + maxRow E.G + 5) := Nat.mul_le_mul hR1 (by omega)
    omega
  obtain ⟨s3, hpre⟩ := preHeaps_total T hR hkeys hstart fuel hf_init hf2
  obtain ⟨q3, _, hd3, _⟩ := preHeaps_quiet L.heap HI hkeys fuel s3 hpre
  obtain ⟨s0, h0⟩ := firstQueries_total L (arityLe_maxArityG E.G) hR fuel hf_query (AList.keys E.G.rules)
    (fun _ h => h) s3 q3.full hd3
  exact ⟨s0, prologue_iff.mpr ⟨s3, hpre, h0⟩⟩

theorem mem_membersG (G : TT S Unit) (rank : NT S Unit → Nat) (hrows : RowsNodup G)
    (hac : ∀ nt F ra, G.rule? nt F = some (ra, ()) → ∀ a ∈ ra, rank (argNT a) < rank nt)
    (p : Prog) (hg : gen G p G.start = true) : p ∈ members G rank :=
  (mem_lang_iff G hrows _ p G.start).mpr ⟨hg, depth_le_rank G rank hac p G.start hg⟩

theorem chain_members {E : Env S Unit π} {rank} (HI : InitHyp E rank) {H0} {s : St S Unit π} {full : List Prog}
    (hf : Full E H0 s) (hch : chainFrom (s.succOf E.G.start) none full) : ∀ z ∈ full, z ∈ members E.G rank := by
  intro z hz
  obtain ⟨k, hk⟩ := chain_mem_value _ full none hch z hz
  exact mem_membersG E.G rank HI.rows HI.acyclic z (hf.sinv.seen_gen _ _ (hf.sinv.succ_seen _ k z hk))

theorem chain_len {E : Env S Unit π} {rank} (HI : InitHyp E rank) {H0} {s : St S Unit π} {full : List Prog}
    (hf : Full E H0 s) (hch : chainFrom (s.succOf E.G.start) none full) :
    full.length ≤ (members E.G rank).length :=
  (chainFrom_nodup _ (fun k k' v h1 h2 => hf.ninv.succ_inj _ k k' v h1 h2) full none hch
    (fun z _ e => by cases e)).length_le_of_subset (chain_members HI hf hch)

/-- `Dm` bounds the number of programs the run can reject: nothing is rejected, or `Dm` is at least the
    number of members -/
def RejBound (E : Env S Unit π) (rank : NT S Unit → Nat) (Dm : Nat) : Prop :=
  (∀ p, E.filter p = true) ∨ (members E.G rank).length ≤ Dm

theorem RejBound.deleted_le {E : Env S Unit π} {rank} {Dm : Nat} (hD : RejBound E rank Dm) (HI : InitHyp E rank)
    {H0} {s : St S Unit π} {cur : Option Prog} {full : List Prog} (h : RGAt E H0 s cur full) :
    s.deleted.length ≤ Dm := by
  have q : Quiet E H0 s := h.quiet
  rcases hD with hf | hm
  · have : s.deleted = [] := List.eq_nil_iff_forall_not_mem.mpr fun p hp => by
      have := q.del_rej p hp; rw [hf p] at this; cases this
    rw [this]; exact Nat.zero_le _
  · have := chain_len HI q.full h.chain
    have : s.deleted.length ≤ full.length := h.del_len
    omega

theorem nextLoop_total {E : Env S Unit π} {rank} {Good} (A : AllHypW E rank Good) {H0 : NT S Unit → List (π × Prog)}
    {Dm : Nat} (hD : RejBound E rank Dm) (fuel : Nat)
    (hfuel : (rank E.G.start + 1) * (maxArity E.G + 5 + Dm) ≤ fuel) :
    ∀ (k : Nat) (s : St S Unit π) (cur : Option Prog) (full : List Prog),
      Dm - full.length + 1 ≤ k → RGAt E H0 s cur full → ∃ res, nextLoop E fuel k s cur = some res := by
  intro k
  induction k with
  | zero => intro s cur full hk; omega
  | succ k ih =>
    intro s cur full hk h
    have R := A.run
    obtain ⟨⟨s1, r⟩, hq⟩ := query_total (Dm := Dm) R.law (arityLe_maxArityG E.G)
      (rank E.G.start + 1) E.G.start (by omega) fuel hfuel s cur h.quiet.full (hD.deleted_le A.init h) h.opre
    unfold nextLoop
    rw [hq]
    cases r with
    | none => exact ⟨_, rfl⟩
    | some p =>
      simp only
      by_cases hacc : E.filter p = true
      · simp only [hacc, if_true]; exact ⟨_, rfl⟩
      · have hrej' : E.filter p = false := by simpa using hacc
        simp only [hrej', Bool.false_eq_true, if_false]
        obtain ⟨c, _, hs⟩ := run_query R h (big_of_query E hq)
        have hlen1 := chain_len A.init c.full (hs p rfl).1.chain
        have hm : (members E.G rank).length ≤ Dm := hD.resolve_left fun hf => by rw [hf p] at hrej'; cases hrej'
        refine ih (s1.addDeleted p) (some p) (full ++ [p]) ?_ ((hs p rfl).2 hrej')
        simp only [List.length_append, List.length_singleton] at hlen1 ⊢
        omega

/-- covers `maxRank · (maxArity + maxRow + 5)` for the prologue (`prologue_totalG`) and
    `(rank start + 1) · (maxArity + 5 + Dm)` for each `next` (`take_stopsW`), `Dm` the number of members -/
def enoughFuelF (G : TT S Unit) (rank : NT S Unit → Nat) : Nat :=
  maxRank G rank * (maxArity G + maxRow G + 5 + (members G rank).length)

theorem next_totalW {E : Env S Unit π} {rank} {Good} (A : AllHypW E rank Good) {Dm : Nat} (hD : RejBound E rank Dm)
    (fuel : Nat) (hfuel : (rank E.G.start + 1) * (maxArity E.G + 5 + Dm) ≤ fuel)
    (hpro : prologue E fuel (St.empty E.G) ≠ none)
    (g : Gen S Unit π) (acc : List Prog) (hi : RunI E g acc) : ∃ res, next E fuel g = some res := by
  obtain ⟨full, _, hst, hns⟩ := hi
  have hM : Dm + 1 ≤ fuel := by
    have : 1 * (maxArity E.G + 5 + Dm) ≤ (rank E.G.start + 1) * (maxArity E.G + 5 + Dm) :=
      Nat.mul_le_mul_right _ (by omega)
    omega
  unfold next
  split
  · rename_i hs
    obtain ⟨H0, h0⟩ := loop_start A (fuel := fuel) hst hns (Or.inl ⟨hs, rfl⟩)
    exact nextLoop_total A hD fuel hfuel fuel g.st g.current full (by omega) h0
  · rename_i hs
    obtain ⟨s0, hp0⟩ := Option.ne_none_iff_exists'.mp hpro
    have hs' : g.started = false := by simpa using hs
    obtain ⟨H0, h0⟩ := loop_start A hst hns (Or.inr ⟨hs', (hns hs').1 ▸ hp0⟩)
    rw [(hns hs').1, hp0]
    exact nextLoop_total A hD fuel hfuel fuel s0 g.current full (by omega) h0

/-- every `next` returns, and what is yielded are distinct members of a finite language (`Iter.take_stops_finite`) -/
theorem take_stopsW {E : Env S Unit π} {rank} {Good} (A : AllHypW E rank Good) {Dm : Nat} (hD : RejBound E rank Dm)
    (fuel : Nat) (hfuel : (rank E.G.start + 1) * (maxArity E.G + 5 + Dm) ≤ fuel)
    (hpro : prologue E fuel (St.empty E.G) ≠ none) :
    ∃ k g' out, take E fuel k (Gen.new E.G) [] = some (g', out, true) := by
  obtain ⟨k, ⟨g', out, b⟩, hk, rfl⟩ := Iter.take_stops_finite (next := next E fuel) (I := RunI E) (members E.G rank)
    (fun g acc hi => next_totalW A hD fuel hfuel hpro g acc hi) (fun g acc g' p hi hn => hi.yield A hn)
    (fun g acc ⟨full, hacc, hst, hns⟩ => by
      cases hs : g.started with
      | false => rw [hacc, (hns hs).2.2]; exact ⟨List.nodup_nil, fun _ h => by cases h⟩
      | true =>
        obtain ⟨H0, hrg⟩ := hst hs
        rw [hacc]
        exact ⟨hrg.nodup.filter _, fun z hz =>
          chain_members A.init hrg.quiet.full hrg.chain z (List.mem_filter.mp hz).1⟩)
    _ _ (runI_new E)
  exact ⟨k, g', out, by rw [take_eq]; exact hk⟩

theorem take_totalG {E : Env S Unit π} {rank} {Good} (A : AllHyp E rank Good) (hclosed : Closed E.G)
    (hstart : E.G.start ∈ AList.keys E.G.rules) (fuel : Nat) (hfuel : enoughFuelF E.G rank ≤ fuel) :
    ∃ k g' out, take E fuel k (Gen.new E.G) [] = some (g', out, true) := by
  have hlt := rankLt_maxRank E.G rank E.G.start hstart
  unfold enoughFuelF at hfuel
  obtain ⟨s0, hp0⟩ := prologue_totalG A.run.law A.init A.run.wtotal A.keys hclosed hstart fuel
    (Nat.le_trans (Nat.mul_le_mul_left _ (by omega)) hfuel)
  exact take_stopsW A.weak (Or.inr (Nat.le_refl _)) fuel
    (Nat.le_trans (Nat.mul_le_mul (by omega) (by omega)) hfuel) (by rw [hp0]; simp)

theorem perm_members (G : TT S Unit) (rank : NT S Unit → Nat) (hrows : RowsNodup G)
    (hac : ∀ nt F ra, G.rule? nt F = some (ra, ()) → ∀ a ∈ ra, rank (argNT a) < rank nt) {out : List Prog}
    (hnd : out.Nodup) (hmem : ∀ p, p ∈ out ↔ contains G p = true) : out.Perm (members G rank) := by
  apply (List.perm_ext_iff_of_nodup hnd (lang_nodup G hrows _ _)).mpr
  intro p
  rw [hmem p, contains_eq_gen]
  exact ⟨mem_membersG G rank hrows hac p, gen_of_mem_lang G hrows _ p _⟩

end PS.HG
