/- Heap search on unambiguous grammars: the priority of heap search (`probOps`) is the weight of a
   derivation of the specification (PS/Model/Prob.lean: `U.derWeightU`), and on an unambiguous grammar
   the key of the start heap is the probability `U.probU` of the program. -/
import PS.Proofs.UMass
import PS.Proofs.Enum.UBridge
import PS.Proofs.Enum.UOrder
namespace PS.UHS
open PS PS.G
set_option linter.unusedSectionVars false
variable {U : Type} [DecidableEq U]

/-- the weights of the table as the `tags` / `start_tags` of the specification -/
def UG.toTags (G : UG U) : PS.U.UTags U := { tags := G.rules, startTags := G.starts }

theorem weightU_alt (E : Env U Rat) (hkeys : ∀ nt F, ((altsOf E nt F).map (·.1)).Nodup) (nt : UNT U) (F : Sym)
    (v : List (UNT U)) (w : Rat) (hm : (v, w) ∈ altsOf E nt F) : PS.U.weightU E.G.toTags (nt, F, v) = w := by
  obtain ⟨rs, hl, hl2⟩ := altsOf_row E nt F _ hm
  unfold PS.U.weightU PS.U.tagOfU UG.toTags
  simp only [hl, hl2]
  rw [AList.lookup_of_mem_nodup (hkeys nt F) hm]
  rfl

theorem hasPrio_derWeight_both (E : Env U Rat) (t : Rat) (hops : E.ops = probOps t)
    (hkeys : ∀ nt F, ((altsOf E nt F).map (·.1)).Nodup) (d0 : UNT U) :
    (∀ (p : Prog) (nt : UNT U) (pr : Rat), HasPrio E p nt pr →
      ∃ d, d ∈ PS.U.derivs (E.G.toUCFG d0) p nt ∧ pr = PS.U.derWeightU E.G.toTags d) ∧
    ∀ (ks : List Prog) (v : List (UNT U)) (acc pr : Rat), HasPrioList E ks v acc pr →
      ∃ r, r ∈ PS.U.derivsList (E.G.toUCFG d0) ks v ∧ pr = acc * PS.U.derWeightU E.G.toTags r := by
  refine Tree.ind₂ (fun F kids ih nt pr h => ?_) (fun v acc pr h => ?_) (fun k ks ihk ihks v acc pr h => ?_)
  · rw [hasPrio_node] at h
    obtain ⟨v, w, hm, hl⟩ := h
    have hof : E.ops.ofRule w = w := by rw [hops]; rfl
    rw [hof] at hl
    obtain ⟨r, hr, hpr⟩ := ih v w pr hl
    obtain ⟨cands, hc, hv⟩ := (mem_alts_iff E d0 nt F v).mpr ⟨w, hm⟩
    refine ⟨(nt, F, v) :: r, ?_, ?_⟩
    · rw [PS.U.derivs, hc]
      exact List.mem_flatMap.mpr ⟨v, hv, List.mem_map.mpr ⟨r, hr, rfl⟩⟩
    · rw [PS.U.Mass.derWeightU_cons, weightU_alt E hkeys nt F v w hm]
      exact hpr
  · cases v with
    | nil =>
      rw [HasPrioList] at h
      exact ⟨[], by simp [PS.U.derivsList], by rw [h]; simp [PS.U.derWeightU, Rat.mul_one]⟩
    | cons _ _ => rw [HasPrioList] at h; exact h.elim
  · cases v with
    | nil => rw [HasPrioList] at h; exact h.elim
    | cons a as =>
      rw [HasPrioList] at h
      obtain ⟨pk, h1, h2⟩ := h
      have hcomb : E.ops.combine acc pk = acc * pk := by rw [hops]; rfl
      rw [hcomb] at h2
      obtain ⟨dk, hdk, hpk⟩ := ihk a pk h1
      obtain ⟨r, hr, hpr⟩ := ihks as (acc * pk) pr h2
      refine ⟨dk ++ r, ?_, ?_⟩
      · rw [PS.U.derivsList]
        exact List.mem_flatMap.mpr ⟨dk, hdk, List.mem_map.mpr ⟨r, hr, rfl⟩⟩
      · rw [PS.U.Mass.derWeightU_append, hpr, hpk, Rat.mul_assoc]

theorem hasPrio_derWeight (E : Env U Rat) (t : Rat) (hops : E.ops = probOps t)
    (hkeys : ∀ nt F, ((altsOf E nt F).map (·.1)).Nodup) (d0 : UNT U) :
    ∀ (p : Prog) (nt : UNT U) (pr : Rat), HasPrio E p nt pr →
      ∃ d, d ∈ PS.U.derivs (E.G.toUCFG d0) p nt ∧ pr = PS.U.derWeightU E.G.toTags d :=
  (hasPrio_derWeight_both E t hops hkeys d0).1

theorem hasPrioList_derWeight (E : Env U Rat) (t : Rat) (hops : E.ops = probOps t)
    (hkeys : ∀ nt F, ((altsOf E nt F).map (·.1)).Nodup) (d0 : UNT U) :
    ∀ (ks : List Prog) (v : List (UNT U)) (acc pr : Rat), HasPrioList E ks v acc pr →
      ∃ r, r ∈ PS.U.derivsList (E.G.toUCFG d0) ks v ∧ pr = acc * PS.U.derWeightU E.G.toTags r :=
  (hasPrio_derWeight_both E t hops hkeys d0).2

theorem startKey_probU (E : Env U Rat) (t : Rat) (hops : E.ops = probOps t)
    (hkeys : ∀ nt F, ((altsOf E nt F).map (·.1)).Nodup) (d0 : UNT U) (p : Prog)
    (hun : PS.U.unambiguousOn (E.G.toUCFG d0) p = true) (nt : UNT U) (w pr : Rat) (hw : startW E nt = some w)
    (hpr : HasPrio E p nt pr) : PS.U.probU (E.G.toUCFG d0) E.G.toTags p = pr * w := by
  obtain ⟨d, hd, hprd⟩ := hasPrio_derWeight E t hops hkeys d0 p nt pr hpr
  have hmem : (nt, d) ∈ PS.U.allDerivs (E.G.toUCFG d0) p :=
    PS.U.mem_allDerivs.mpr ⟨(startW_some_iff E nt).mp ⟨w, hw⟩, hd⟩
  unfold PS.U.unambiguousOn at hun
  simp only [decide_eq_true_eq] at hun
  unfold PS.U.probU
  cases hall : PS.U.allDerivs (E.G.toUCFG d0) p with
  | nil => rw [hall] at hmem; cases hmem
  | cons x rest =>
    rw [hall] at hmem hun
    have hrest : rest = [] := by
      cases rest with
      | nil => rfl
      | cons _ _ => simp at hun
    subst hrest
    simp only [List.mem_singleton] at hmem
    subst hmem
    simp only
    have hsw : PS.U.startWeight E.G.toTags nt = w := by
      unfold PS.U.startWeight UG.toTags
      simp only
      unfold startW at hw
      rw [hw]; rfl
    rw [hsw, hprd, Rat.mul_comm]

end PS.UHS
