/- The frontier of a search that expands the nodes of a forest (`PS.Forest.FrontInv`): `par t` is the unique producer of
   `t` (`none` for a root), `F` holds what was pushed and not yet expanded, `D` what was expanded.  Constant-delay search
   keeps one such frontier of index tuples per derivation queue; the no-duplicates invariant of beap search has the same
   shape, but pops and pushes in separate steps and is proved on its own.
   Index tuples and the frontier rule "increment index i up to and including the first index ≥ 1" shared by
   constant-delay, bee and beap search (constant_delay.py:302-317, bee_search.py:222-231, beap_search.py:177-193):
   every index tuple other than (0,…,0) is the successor of exactly one index tuple, at exactly one position; the
   transcription `succIdx` of the loop's control flow pushes pairwise distinct successors; a frontier fed by such
   expansions never holds an index tuple twice.  Pure combinatorics, no machine. -/

namespace PS.Forest
variable {κ : Type}

/-- nothing twice, and whatever was produced was produced by an expanded element -/
def FrontInv (par : κ → Option κ) (F D : List κ) : Prop :=
  (F ++ D).Nodup ∧ ∀ t ∈ F ++ D, ∀ c, par t = some c → c ∈ D

theorem FrontInv.expand {par : κ → Option κ} {F1 F2 D new : List κ} {c : κ} (h : FrontInv par (F1 ++ c :: F2) D)
    (hnd : new.Nodup) (hnew : ∀ t ∈ new, par t = some c) : FrontInv par (F1 ++ F2 ++ new) (c :: D) := by
  obtain ⟨h1, h2⟩ := h
  have hcD : c ∉ D := fun hc => (List.nodup_append.mp h1).2.2 c (by simp) c hc rfl
  -- a new element is not there yet: its producer `c` would be expanded already
  have hfresh : ∀ t ∈ new, t ∉ (F1 ++ c :: F2) ++ D := fun t ht hm => hcD (h2 t hm c (hnew t ht))
  have hperm : ((F1 ++ F2 ++ new) ++ c :: D).Perm (new ++ ((F1 ++ c :: F2) ++ D)) := by
    refine (List.Perm.append_right _ List.perm_append_comm).trans ?_
    simp only [List.append_assoc]
    exact List.Perm.append_left new (List.Perm.append_left F1 List.perm_middle)
  refine ⟨hperm.nodup_iff.mpr (List.nodup_append.mpr ⟨hnd, h1, fun x hx y hy hxy => hfresh x hx (hxy ▸ hy)⟩), ?_⟩
  intro t ht c' hc'
  rcases List.mem_append.mp (hperm.mem_iff.mp ht) with h3 | h3
  · rw [hnew t h3] at hc'; cases hc'; exact List.mem_cons_self
  · exact List.mem_cons_of_mem _ (h2 t h3 c' hc')

end PS.Forest

/-! ## index tuples and their successor forest -/

namespace PS.CD

/-- the successors of an index tuple when every cost list is long enough: increment position 0, 1, …
    up to and including the first position whose index is already ≥ 1 -/
def succs : List Nat → List (List Nat)
  | [] => []
  | x :: xs => ((x + 1) :: xs) :: (if x ≥ 1 then [] else (succs xs).map (x :: ·))

/-- the unique predecessor: decrement the first non-zero index -/
def parent : List Nat → List Nat
  | [] => []
  | 0 :: xs => 0 :: parent xs
  | (x + 1) :: xs => x :: xs

def nonzero (t : List Nat) : Bool := t.any (· != 0)

theorem mem_succs_iff : ∀ (c t : List Nat), t ∈ succs c ↔ (nonzero t = true ∧ parent t = c)
  | [], t => by
    simp only [succs, List.not_mem_nil, false_iff, not_and]
    intro hn hp
    cases t with
    | nil => simp [nonzero] at hn
    | cons y ys =>
      cases y with
      | zero => simp [parent] at hp
      | succ y => simp [parent] at hp
  | x :: xs, t => by
    simp only [succs, List.mem_cons]
    constructor
    · rintro (h | h)
      · subst h; simp [nonzero, parent]
      · split at h
        · simp at h
        · rename_i hx
          have hx0 : x = 0 := by omega
          subst hx0
          rw [List.mem_map] at h
          obtain ⟨t', ht', rfl⟩ := h
          obtain ⟨h1, h2⟩ := (mem_succs_iff xs t').mp ht'
          refine ⟨?_, by simp [parent, h2]⟩
          simp only [nonzero, List.any_cons, bne_self_eq_false, Bool.false_or] at h1 ⊢
          exact h1
    · rintro ⟨hn, hp⟩
      cases t with
      | nil => simp [nonzero] at hn
      | cons y ys =>
        cases y with
        | zero =>
          simp only [parent, List.cons.injEq] at hp
          obtain ⟨hx, hxs⟩ := hp
          subst hx
          right
          simp only [ge_iff_le, Nat.le_zero_eq, Nat.add_eq_zero_iff, Nat.succ_ne_self, and_false, if_false, List.mem_map]
          refine ⟨ys, (mem_succs_iff xs ys).mpr ⟨?_, hxs⟩, rfl⟩
          simpa [nonzero] using hn
        | succ y =>
          simp only [parent, List.cons.injEq] at hp
          obtain ⟨hx, hxs⟩ := hp
          subst hx; subst hxs
          left; rfl

theorem succs_nodup : ∀ (c : List Nat), (succs c).Nodup
  | [] => by simp [succs]
  | x :: xs => by
    simp only [succs]
    rw [List.nodup_cons]
    constructor
    · split
      · simp
      · rename_i hx
        intro h
        rw [List.mem_map] at h
        obtain ⟨t', _, h2⟩ := h
        simp only [List.cons.injEq] at h2
        omega
    · split
      · simp
      · exact List.Pairwise.map (x :: ·) (fun a b hab h => hab (by simpa using h)) (succs_nodup xs)

theorem succs_disjoint (c c' t : List Nat) (h : t ∈ succs c) (h' : t ∈ succs c') : c = c' := by
  rw [mem_succs_iff] at h h'
  rw [← h.2, ← h'.2]

theorem succs_cover (t : List Nat) (h : nonzero t = true) : t ∈ succs (parent t) :=
  (mem_succs_iff _ _).mpr ⟨h, rfl⟩

theorem mem_succs_set : ∀ (c t : List Nat), t ∈ succs c → ∃ i v, c[i]? = some v ∧ t = c.set i (v + 1)
  | [], t, h => nomatch h
  | x :: xs, t, h => by
    simp only [succs, List.mem_cons] at h
    rcases h with rfl | h
    · exact ⟨0, x, rfl, rfl⟩
    · split at h
      · cases h
      · obtain ⟨t', ht', rfl⟩ := List.mem_map.mp h
        obtain ⟨i, v, hv, rfl⟩ := mem_succs_set xs t' ht'
        exact ⟨i + 1, v, hv, rfl⟩

theorem succs_length (c t : List Nat) (h : t ∈ succs c) : t.length = c.length := by
  obtain ⟨i, v, -, rfl⟩ := mem_succs_set c t h
  exact List.length_set

/-- the index tuples pushed by the successor loop of the code, with the lengths of the cost lists
    of the arguments as they are when the loop runs (`lens[i] = len(self._cost_lists_nt[args[i]])`):
    a position whose next index does not exist yet is skipped when its index is 0 and ends the loop
    otherwise -/
def succIdx (lens : List Nat) (comb : List Nat) : Nat → Nat → List (List Nat)
  | 0, _ => []
  | rem + 1, i =>
    match comb[i]?, lens[i]? with
    | some x, some len =>
      if x + 1 ≥ len then (if x + 1 > 1 then [] else succIdx lens comb rem (i + 1))
      else (comb.set i (x + 1)) :: (if x + 1 > 1 then [] else succIdx lens comb rem (i + 1))
    | _, _ => []

theorem succIdx_aux (lens : List Nat) : ∀ (rem i : Nat) (pre suf : List Nat), pre.length = i →
    (∀ x ∈ pre, x = 0) → ∀ t ∈ succIdx lens (pre ++ suf) rem i, ∃ t' ∈ succs suf, t = pre ++ t' := by
  intro rem
  induction rem with
  | zero => intro i pre suf _ _ t h; simp [succIdx] at h
  | succ rem ih =>
    intro i pre suf hlen hz t h
    simp only [succIdx] at h
    cases suf with
    | nil =>
      have : pre[i]? = none := by simp [hlen]
      simp [this] at h
    | cons x xs =>
      have hget : (pre ++ x :: xs)[i]? = some x := by
        rw [List.getElem?_append_right (by omega)]; simp [hlen]
      simp only [hget] at h
      have hset : (pre ++ x :: xs).set i (x + 1) = pre ++ (x + 1) :: xs := by
        rw [List.set_append_right _ _ (by omega)]; simp [hlen]
      have hrec : ∀ t ∈ succIdx lens (pre ++ x :: xs) rem (i + 1), x = 0 → ∃ t' ∈ succs (x :: xs), t = pre ++ t' := by
        intro t ht hx
        subst hx
        have := ih (i + 1) (pre ++ [0]) xs (by simp [hlen]) (by
          intro y hy; rcases List.mem_append.mp hy with h1 | h1
          · exact hz y h1
          · simpa using h1) t (by simpa using ht)
        obtain ⟨t', ht', rfl⟩ := this
        refine ⟨0 :: t', ?_, by simp⟩
        simp only [succs, List.mem_cons]
        right
        simp only [ge_iff_le, Nat.le_zero_eq, Nat.add_eq_zero_iff, Nat.succ_ne_self, and_false, if_false, List.mem_map]
        exact ⟨t', ht', rfl⟩
      cases hl : lens[i]? with
      | none => simp [hl] at h
      | some len =>
        simp only [hl] at h
        split at h
        · split at h
          · simp at h
          · exact hrec t h (by omega)
        · rw [hset] at h
          rcases List.mem_cons.mp h with h1 | h1
          · exact ⟨(x + 1) :: xs, by simp [succs], h1⟩
          · split at h1
            · simp at h1
            · exact hrec t h1 (by omega)

theorem succIdx_sub (lens comb : List Nat) : ∀ t ∈ succIdx lens comb comb.length 0, t ∈ succs comb := by
  intro t h
  obtain ⟨t', ht', rfl⟩ := succIdx_aux lens comb.length 0 [] comb rfl (by simp) t (by simpa using h)
  simpa using ht'

/-! ### the frontier of one derivation queue never holds an index tuple twice -/

/-- the index tuples of one derivation queue: `F` pushed and not yet expanded, `D` expanded -/
structure Front where
  F : List (List Nat)
  D : List (List Nat)

/-- no tuple twice (frontier and expanded together), and every non-zero tuple was generated by its
    predecessor, which has been expanded -/
def FrontInv (a : Front) : Prop :=
  (a.F ++ a.D).Nodup ∧ ∀ t ∈ a.F ++ a.D, nonzero t = true → parent t ∈ a.D

/-- one expansion, as `query_derivation` does it for a popped index tuple `c`: `c` leaves the frontier and
    pairwise distinct successors of `c` (ALL of `succs c`, or fewer when cost lists end: `succIdx`) enter it -/
inductive Front.Step : Front → Front → Prop
  | expand (F1 F2 D : List (List Nat)) (c : List Nat) (new : List (List Nat)) : new.Nodup → (∀ t ∈ new, t ∈ succs c) →
      Front.Step ⟨F1 ++ c :: F2, D⟩ ⟨F1 ++ F2 ++ new, c :: D⟩

inductive Front.Reach : Front → Front → Prop
  | refl (a : Front) : Front.Reach a a
  | step {a b c : Front} : Front.Reach a b → Front.Step b c → Front.Reach a c

theorem front_init (n : Nat) : FrontInv ⟨[List.replicate n 0], []⟩ := by
  refine ⟨by simp, ?_⟩
  intro t ht hnz
  simp only [List.append_nil, List.mem_singleton] at ht
  subst ht
  simp [nonzero] at hnz

/-- the producer of an index tuple in the successor forest -/
def tuplePar (t : List Nat) : Option (List Nat) := if nonzero t = true then some (parent t) else none

theorem tuplePar_eq_some {t c : List Nat} : tuplePar t = some c ↔ t ∈ succs c := by
  rw [mem_succs_iff]; unfold tuplePar; split <;> simp [*]

theorem frontInv_iff (a : Front) : FrontInv a ↔ Forest.FrontInv tuplePar a.F a.D := by
  refine and_congr_right fun _ => forall₂_congr fun t _ => ?_
  unfold tuplePar
  split <;> simp [*]

theorem front_step {a b : Front} (ha : FrontInv a) (h : Front.Step a b) : FrontInv b := by
  cases h with
  | expand F1 F2 D c new hnd hsub =>
    exact (frontInv_iff _).mpr (((frontInv_iff _).mp ha).expand hnd fun t ht => tuplePar_eq_some.mpr (hsub t ht))

/-- along every sequence of expansions from the initial frontier `(0,…,0)`, whatever the order of the pops and the
    lengths of the cost lists at each expansion, no index tuple is generated twice -/
theorem front_reach_nodup (n : Nat) (b : Front) (h : Front.Reach ⟨[List.replicate n 0], []⟩ b) : (b.F ++ b.D).Nodup := by
  have : FrontInv b := by
    induction h with
    | refl => exact front_init n
    | step _ hs ih => exact front_step ih hs
  exact this.1

theorem succIdx_keeps (lens comb : List Nat) : ∀ (rem i' i : Nat), i < i' → ∀ t ∈ succIdx lens comb rem i', t[i]? = comb[i]? := by
  intro rem
  induction rem with
  | zero => intro i' i _ t h; simp [succIdx] at h
  | succ rem ih =>
    intro i' i hi t h
    simp only [succIdx] at h
    split at h
    · rename_i x len hx hl
      split at h
      · split at h
        · simp at h
        · exact ih _ _ (by omega) t h
      · rcases List.mem_cons.mp h with h1 | h1
        · subst h1
          rw [List.getElem?_set_ne (by omega)]
        · split at h1
          · simp at h1
          · exact ih _ _ (by omega) t h1
    · simp at h

theorem succIdx_nodup (lens comb : List Nat) : ∀ (rem i : Nat), (succIdx lens comb rem i).Nodup := by
  intro rem
  induction rem with
  | zero => intro i; simp [succIdx]
  | succ rem ih =>
    intro i
    simp only [succIdx]
    split
    · rename_i x len hx hl
      split
      · split
        · simp
        · exact ih _
      · rw [List.nodup_cons]
        constructor
        · split
          · simp
          · intro hmem
            have := succIdx_keeps lens comb rem (i + 1) i (by omega) _ hmem
            have hlt : i < comb.length := (List.getElem?_eq_some_iff.mp hx).1
            rw [List.getElem?_set_self hlt, hx] at this
            simp at this
        · split
          · simp
          · exact ih _
    · simp

end PS.CD
