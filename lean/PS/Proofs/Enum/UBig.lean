/- Big-step presentation of the heap-search machine for unambiguous grammars
   (PS/Model/Enum/UHeapSearch.lean), so that properties of the model are proved by induction without fuel:
   every terminating run of the fuelled mutual recursion is a derivation of `Big` (`big_runs`), and state invariants
   are proved by rule induction on `Big`.  `Big.rel` does this once for any reflexive and transitive relation between
   states that every primitive write keeps. -/
import PS.Model.Enum.UHeapSearch
import PS.Proofs.Enum.Heapq
import PS.Proofs.AList
namespace PS.UHS
open PS PS.G
set_option linter.unusedSectionVars false
variable {U π : Type} [DecidableEq U]

namespace St

@[simp] theorem heapOf_setHeap (s : St U π) (nt nt' : UNT U) (h : List (π × Prog)) :
    (s.setHeap nt h).heapOf nt' = if nt' = nt then h else s.heapOf nt' := by
  unfold heapOf setHeap; exact AList.getD_lookup_insert _ _ _ _ _
@[simp] theorem seenOf_setHeap (s : St U π) (nt nt' : UNT U) (h : List (π × Prog)) :
    (s.setHeap nt h).seenOf nt' = s.seenOf nt' := rfl
@[simp] theorem succOf_setHeap (s : St U π) (nt nt' : UNT U) (h : List (π × Prog)) :
    (s.setHeap nt h).succOf nt' = s.succOf nt' := rfl
@[simp] theorem succOf_setSucc (s : St U π) (nt nt' : UNT U) (k : Option Prog) (v : Prog) :
    (s.setSucc nt k v).succOf nt' = if nt' = nt then AList.insert k v (s.succOf nt) else s.succOf nt' := by
  unfold succOf setSucc; exact AList.getD_lookup_insert _ _ _ _ _
@[simp] theorem heapOf_setSucc (s : St U π) (nt nt' : UNT U) (k : Option Prog) (v : Prog) :
    (s.setSucc nt k v).heapOf nt' = s.heapOf nt' := rfl
@[simp] theorem seenOf_setSucc (s : St U π) (nt nt' : UNT U) (k : Option Prog) (v : Prog) :
    (s.setSucc nt k v).seenOf nt' = s.seenOf nt' := rfl
@[simp] theorem succOf_setPred (s : St U π) (nt nt' : UNT U) (k : Prog) (v : Option Prog) :
    (s.setPred nt k v).succOf nt' = s.succOf nt' := rfl
@[simp] theorem heapOf_setPred (s : St U π) (nt nt' : UNT U) (k : Prog) (v : Option Prog) :
    (s.setPred nt k v).heapOf nt' = s.heapOf nt' := rfl
@[simp] theorem seenOf_setPred (s : St U π) (nt nt' : UNT U) (k : Prog) (v : Option Prog) :
    (s.setPred nt k v).seenOf nt' = s.seenOf nt' := rfl
@[simp] theorem seenOf_addSeen (s : St U π) (nt nt' : UNT U) (p : Prog) :
    (s.addSeen nt p).seenOf nt' = if nt' = nt then s.seenOf nt ++ [p] else s.seenOf nt' := by
  unfold seenOf addSeen; exact AList.getD_lookup_insert _ _ _ _ _
@[simp] theorem heapOf_addSeen (s : St U π) (nt nt' : UNT U) (p : Prog) :
    (s.addSeen nt p).heapOf nt' = s.heapOf nt' := rfl
@[simp] theorem succOf_addSeen (s : St U π) (nt nt' : UNT U) (p : Prog) :
    (s.addSeen nt p).succOf nt' = s.succOf nt' := rfl

end St

/-- the body of the loop of `__add_successors_to_heap__` after `query` returned `r`
    (`none` = KeyError of `compute_priority`) -/
def pushStep (E : Env U π) (s1 : St U π) (F : Sym) (args : List Prog) (nt : UNT U) (v : List (UNT U)) (i : Nat)
    (r : Option Prog) : Option (St U π) :=
  match r with
  | none => some s1
  | some q =>
    let np : Prog := .node F (args.set i q)
    if (s1.seenOf nt).contains np then some s1 else
    let s2 := { s1.addSeen nt np with keys := AList.insert (nt, np) v s1.keys }
    match computePrio E s2 nt np with
    | none => none
    | some (s2', pr) => some (pushBoth E s2' nt pr np)

/-- One constructor for every function of the mutual recursion of the model, of the same name, with its arguments
    other than the state.  `lop` is no function of the model: it stands for the second half of the body of `query`,
    the look-up of `p` in the successor table of `nt` followed on a miss by `popLoop`.  Both rules of `query`
    (non-terminal initialised or not) end with it, so proofs treat this half once. -/
inductive Call (U π : Type) where
  | query (nt : UNT U) (p : Option Prog)
  | lop (nt : UNT U) (p : Option Prog)
  | popLoop (nt : UNT U) (key : Option Prog)
  | addSucc (prog : Prog) (nt : UNT U)
  | addLoop (F : Sym) (args : List Prog) (nt : UNT U) (v : List (UNT U)) (i : Nat)
  | initNT (nt : UNT U)
  | initRules (nt : UNT U) (rs : List (Sym × List (List (UNT U) × Rat))) (best : Option (Prog × π))
  | initAlts (nt : UNT U) (P : Sym) (alts : List (List (UNT U) × Rat)) (best : Option (Prog × π))
  | initArgs (v : List (UNT U)) (acc : List Prog)

/-- The result of a call besides the final state: `prog` for `query`, `lop`, `popLoop` (the next program, `none` when
    the heap is exhausted) and, always with `none`, for the calls that return only a state (`addSucc`, `addLoop`,
    `initNT`); `best` for `initRules` and `initAlts` (the running `best_program, best_priority`); `args` for
    `initArgs` (the arguments collected so far). -/
inductive Res (π : Type) where
  | prog (r : Option Prog)
  | best (b : Option (Prog × π))
  | args (l : List Prog)

/-- the update of `best_program / best_priority` in `__init_non_terminal__` -/
def bestUpd (lt : π → π → Bool) (best : Option (Prog × π)) (prog : Prog) (pr : π) : Option (Prog × π) :=
  match best with
  | none => some (prog, pr)
  | some b => if lt pr b.2 then some (prog, pr) else some b

/-- `Big E c s s' r`: the call `c` started in state `s` returns `r` in state `s'` -/
inductive Big (E : Env U π) : Call U π → St U π → St U π → Res π → Prop
  | query_direct {s s' nt p r} (h : s.initS.contains nt = true)
      (hb : Big E (.lop nt p) s s' r) : Big E (.query nt p) s s' r
  | query_init {s s1 s' nt p r0 r} (h : s.initS.contains nt = false)
      (h0 : Big E (.initNT nt) s s1 r0) (hb : Big E (.lop nt p) s1 s' r) : Big E (.query nt p) s s' r
  | lop_hit {s nt p r} (h : AList.lookup p (s.succOf nt) = some r) : Big E (.lop nt p) s s (.prog (some r))
  | lop_miss {s s' nt p r} (h : AList.lookup p (s.succOf nt) = none)
      (hb : Big E (.popLoop nt p) s s' r) : Big E (.lop nt p) s s' r
  | pop_empty {s nt key} (h : Heapq.pop (ltE E.ops) (s.heapOf nt) = none) : Big E (.popLoop nt key) s s (.prog none)
  | pop_deleted {s s1 s' nt key e h' x r} (h : Heapq.pop (ltE E.ops) (s.heapOf nt) = some (e, h'))
      (hd : s.deleted.contains e.2 = true)
      (ha : Big E (.addSucc e.2 nt) (s.setHeap nt h') s1 x)
      (hb : Big E (.popLoop nt key) s1 s' r) : Big E (.popLoop nt key) s s' r
  | pop_take {s s' nt key e h' x} (h : Heapq.pop (ltE E.ops) (s.heapOf nt) = some (e, h'))
      (hd : s.deleted.contains e.2 = false)
      (ha : Big E (.addSucc e.2 nt) (((s.setHeap nt h').setSucc nt key e.2).setPred nt e.2 key) s' x) :
      Big E (.popLoop nt key) s s' (.prog (some e.2))
  | succ_leaf {s F nt} : Big E (.addSucc (.node F []) nt) s s (.prog none)
  | succ_fun {s s' F a as nt v x} (hk : AList.lookup (nt, .node F (a :: as)) s.keys = some v)
      (hb : Big E (.addLoop F (a :: as) nt v (a :: as).length) s s' x) :
      Big E (.addSucc (.node F (a :: as)) nt) s s' (.prog none)
  | loop_done {s F args nt v} : Big E (.addLoop F args nt v 0) s s (.prog none)
  | loop_step {s s1 s3 s' F args nt v i ai si r x} (hai : args[i]? = some ai) (hsi : v[i]? = some si)
      (hq : Big E (.query si (some ai)) s s1 (.prog r))
      (hp : pushStep E s1 F args nt v i r = some s3)
      (hb : Big E (.addLoop F args nt v i) s3 s' x) :
      Big E (.addLoop F args nt v (i + 1)) s s' (.prog none)
  | init_skip {s nt} (h : s.initS.contains nt = true) : Big E (.initNT nt) s s (.prog none)
  | init_run {s s1 s3 s' nt rs b r} (h : s.initS.contains nt = false) (hrs : AList.lookup nt E.G.rules = some rs)
      (hr : Big E (.initRules nt rs none) { s with initS := s.initS ++ [nt] } s1 (.best (some b)))
      (hp : initPush E { s1 with maxNT := AList.insert nt b.1 s1.maxNT } nt
        (rs.flatMap fun r => r.2.map fun vw => (r.1, vw.1)) = some s3)
      (hq : Big E (.query nt none) s3 s' r) : Big E (.initNT nt) s s' (.prog none)
  | rules_nil {s nt best} : Big E (.initRules nt [] best) s s (.best best)
  | rules_cons {s s1 s' nt P alts rest best best1 best'}
      (ha : Big E (.initAlts nt P alts best) s s1 (.best best1))
      (hb : Big E (.initRules nt rest best1) s1 s' (.best best')) :
      Big E (.initRules nt ((P, alts) :: rest) best) s s' (.best best')
  | alts_nil {s nt P best} : Big E (.initAlts nt P [] best) s s (.best best)
  | alts_leaf {s s1 s3 nt P v w rest best arguments pr}
      (ha : Big E (.initArgs v []) s s1 (.args arguments))
      (hc : computePrio E { s1 with keys := AList.insert (nt, .node P arguments) v s1.keys } nt (.node P arguments)
        = some (s3, pr))
      (hv : v.isEmpty = true) :
      Big E (.initAlts nt P ((v, w) :: rest) best) s
        { s3 with maxRule := AList.insert (nt, P, v) (.node P arguments) s3.maxRule }
        (.best (bestUpd E.ops.lt best (.node P arguments) pr))
  | alts_cons {s s1 s3 s' nt P v w rest best arguments pr best'}
      (ha : Big E (.initArgs v []) s s1 (.args arguments))
      (hc : computePrio E { s1 with keys := AList.insert (nt, .node P arguments) v s1.keys } nt (.node P arguments)
        = some (s3, pr))
      (hv : v.isEmpty = false)
      (hb : Big E (.initAlts nt P rest (bestUpd E.ops.lt best (.node P arguments) pr))
        { s3 with maxRule := AList.insert (nt, P, v) (.node P arguments) s3.maxRule } s' (.best best')) :
      Big E (.initAlts nt P ((v, w) :: rest) best) s s' (.best best')
  | args_nil {s acc} : Big E (.initArgs [] acc) s s (.args acc)
  | args_cons {s s1 s' si v acc m r0 l}
      (hi : Big E (.initNT si) s s1 r0) (hm : AList.lookup si s1.maxNT = some m)
      (hb : Big E (.initArgs v (acc ++ [m])) s1 s' (.args l)) :
      Big E (.initArgs (si :: v) acc) s s' (.args l)

/-- every terminating run of the model is a `Big` derivation: one field for every function of the mutual recursion -/
structure Runs (E : Env U π) (n : Nat) : Prop where
  query : ∀ {s nt p s' r}, UHS.query E n s nt p = some (s', r) → Big E (.query nt p) s s' (.prog r)
  popLoop : ∀ {s nt key s' r}, UHS.popLoop E n s nt key = some (s', r) → Big E (.popLoop nt key) s s' (.prog r)
  addSucc : ∀ {s prog nt s'}, UHS.addSucc E n s prog nt = some s' → Big E (.addSucc prog nt) s s' (.prog none)
  addLoop : ∀ {s F args nt v i s'}, UHS.addLoop E n s F args nt v i = some s' →
    Big E (.addLoop F args nt v i) s s' (.prog none)
  initNT : ∀ {s nt s'}, UHS.initNT E n s nt = some s' → Big E (.initNT nt) s s' (.prog none)
  initRules : ∀ {s nt rs best s' best'}, UHS.initRules E n s nt rs best = some (s', best') →
    Big E (.initRules nt rs best) s s' (.best best')
  initAlts : ∀ {s nt P alts best s' best'}, UHS.initAlts E n s nt P alts best = some (s', best') →
    Big E (.initAlts nt P alts best) s s' (.best best')
  initArgs : ∀ {s v acc s' l}, UHS.initArgs E n s v acc = some (s', l) → Big E (.initArgs v acc) s s' (.args l)

theorem big_runs (E : Env U π) : ∀ n : Nat, Runs E n := by
  intro n
  induction n with
  | zero => exact ⟨nofun, nofun, nofun, nofun, nofun, nofun, nofun, nofun⟩
  | succ n ih =>
    refine ⟨?_, ?_, ?_, ?_, ?_, ?_, ?_, ?_⟩
    · intro s nt p s' r h
      unfold query at h
      have cont : ∀ s1 : St U π,
          (match AList.lookup p (s1.succOf nt) with
            | some r => some (s1, some r)
            | none => popLoop E n s1 nt p) = some (s', r) → Big E (.lop nt p) s1 s' (.prog r) := by
        intro s1 h1
        split at h1
        · rename_i q hl
          cases h1
          exact Big.lop_hit hl
        · rename_i hl
          exact Big.lop_miss hl (ih.popLoop h1)
      by_cases hc : s.initS.contains nt = true
      · rw [if_pos hc] at h
        exact Big.query_direct hc (cont s h)
      · rw [if_neg hc] at h
        split at h
        · cases h
        · rename_i s1 hi
          exact Big.query_init (Bool.eq_false_iff.mpr hc) (ih.initNT hi) (cont s1 h)
    · intro s nt key s' r h
      unfold popLoop at h
      split at h
      · rename_i hp
        cases h
        exact Big.pop_empty hp
      · rename_i e h' hp
        simp only at h
        split at h
        · rename_i hd
          split at h
          · cases h
          · rename_i s1 ha
            exact Big.pop_deleted hp hd (ih.addSucc ha) (ih.popLoop h)
        · rename_i hd
          split at h
          · cases h
          · rename_i s1 ha
            cases h
            exact Big.pop_take hp (Bool.eq_false_iff.mpr hd) (ih.addSucc ha)
    · intro s prog nt s' h
      obtain ⟨F, kids⟩ := prog
      cases kids with
      | nil =>
        simp only [addSucc, Option.some.injEq] at h
        subst h
        exact Big.succ_leaf
      | cons a as =>
        simp only [addSucc] at h
        split at h
        · cases h
        · rename_i v hk
          exact Big.succ_fun hk (ih.addLoop h)
    · intro s F args nt v i s' h
      cases i with
      | zero =>
        simp only [addLoop, Option.some.injEq] at h
        subst h
        exact Big.loop_done
      | succ i =>
        unfold addLoop at h
        split at h
        · rename_i ai si hai hsi
          split at h
          · cases h
          · rename_i s1 r hq
            change (match pushStep E s1 F args nt v i r with
              | none => none
              | some s3 => addLoop E n s3 F args nt v i) = some s' at h
            split at h
            · cases h
            · rename_i s3 hp
              exact Big.loop_step hai hsi (ih.query hq) hp (ih.addLoop h)
        · cases h
    · intro s nt s' h
      unfold initNT at h
      split at h
      · rename_i hc
        cases h
        exact Big.init_skip hc
      · rename_i hc
        split at h
        · cases h
        · rename_i rs hrs
          split at h
          · cases h
          · cases h
          · rename_i s1 b hr
            split at h
            · cases h
            · rename_i s3 hp
              cases hq : query E n s3 nt none with
              | none => rw [hq] at h; cases h
              | some res =>
                rw [hq] at h
                cases h
                exact Big.init_run (Bool.eq_false_iff.mpr hc) hrs (ih.initRules hr) hp (ih.query hq)
    · intro s nt rs best s' best' h
      cases rs with
      | nil =>
        simp only [initRules, Option.some.injEq, Prod.mk.injEq] at h
        obtain ⟨rfl, rfl⟩ := h
        exact Big.rules_nil
      | cons hd rest =>
        obtain ⟨P, alts⟩ := hd
        unfold initRules at h
        split at h
        · cases h
        · rename_i s1 best1 ha
          exact Big.rules_cons (ih.initAlts ha) (ih.initRules h)
    · intro s nt P alts best s' best' h
      cases alts with
      | nil =>
        simp only [initAlts, Option.some.injEq, Prod.mk.injEq] at h
        obtain ⟨rfl, rfl⟩ := h
        exact Big.alts_nil
      | cons hd rest =>
        obtain ⟨v, w⟩ := hd
        unfold initAlts at h
        split at h
        · cases h
        · rename_i s1 arguments hg
          cases hc : computePrio E { s1 with keys := AList.insert (nt, Tree.node P arguments) v s1.keys } nt
              (Tree.node P arguments) with
          | none => simp [hc] at h
          | some res2 =>
            obtain ⟨s3, pr⟩ := res2
            simp only [hc] at h
            -- the `match best with …` of the model is `bestUpd`
            change (if v.isEmpty = true then
                some ({ s3 with maxRule := AList.insert (nt, P, v) (Tree.node P arguments) s3.maxRule },
                  bestUpd E.ops.lt best (.node P arguments) pr)
              else initAlts E n { s3 with maxRule := AList.insert (nt, P, v) (Tree.node P arguments) s3.maxRule }
                nt P rest (bestUpd E.ops.lt best (.node P arguments) pr)) = some (s', best') at h
            split at h
            · rename_i hv
              cases h
              exact Big.alts_leaf (ih.initArgs hg) hc hv
            · rename_i hv
              exact Big.alts_cons (ih.initArgs hg) hc (Bool.eq_false_iff.mpr hv) (ih.initAlts h)
    · intro s v acc s' l h
      cases v with
      | nil =>
        simp only [initArgs, Option.some.injEq, Prod.mk.injEq] at h
        obtain ⟨rfl, rfl⟩ := h
        exact Big.args_nil
      | cons si v =>
        unfold initArgs at h
        split at h
        · cases h
        · rename_i s1 hi
          split at h
          · cases h
          · rename_i m hm
            exact Big.args_cons (ih.initNT hi) hm (ih.initArgs h)


theorem big_of_run (E : Env U π) : ∀ n : Nat,
    (∀ s nt p s' r, query E n s nt p = some (s', r) → Big E (.query nt p) s s' (.prog r)) ∧
    (∀ s nt key s' r, popLoop E n s nt key = some (s', r) → Big E (.popLoop nt key) s s' (.prog r)) ∧
    (∀ s prog nt s', addSucc E n s prog nt = some s' → Big E (.addSucc prog nt) s s' (.prog none)) ∧
    (∀ s F args nt v i s', addLoop E n s F args nt v i = some s' → Big E (.addLoop F args nt v i) s s' (.prog none)) ∧
    (∀ s nt s', initNT E n s nt = some s' → Big E (.initNT nt) s s' (.prog none)) ∧
    (∀ s nt rs best s' best', initRules E n s nt rs best = some (s', best') →
      Big E (.initRules nt rs best) s s' (.best best')) ∧
    (∀ s nt P alts best s' best', initAlts E n s nt P alts best = some (s', best') →
      Big E (.initAlts nt P alts best) s s' (.best best')) ∧
    (∀ s v acc s' l, initArgs E n s v acc = some (s', l) → Big E (.initArgs v acc) s s' (.args l)) :=
  fun n => have h := big_runs E n
  ⟨fun _ _ _ _ _ => h.query, fun _ _ _ _ _ => h.popLoop, fun _ _ _ _ => h.addSucc, fun _ _ _ _ _ _ _ => h.addLoop,
    fun _ _ _ => h.initNT, fun _ _ _ _ _ _ => h.initRules, fun _ _ _ _ _ _ _ => h.initAlts, fun _ _ _ _ _ => h.initArgs⟩

theorem big_of_query (E : Env U π) {n s nt p s' r} (h : query E n s nt p = some (s', r)) :
    Big E (.query nt p) s s' (.prog r) := (big_runs E n).query h

@[simp] theorem St.empty_heapOf (G : UG U) (nt : UNT U) : (St.empty G : St U π).heapOf nt = [] :=
  AList.getD_lookup_map_const _ _ []
@[simp] theorem St.empty_succOf (G : UG U) (nt : UNT U) : (St.empty G : St U π).succOf nt = [] :=
  AList.getD_lookup_map_const _ _ []
@[simp] theorem St.empty_seenOf (G : UG U) (nt : UNT U) : (St.empty G : St U π).seenOf nt = [] :=
  AList.getD_lookup_map_const _ _ []

theorem St.addDeleted_eq (s : St U π) (p : Prog) : ∃ d, s.addDeleted p = { s with deleted := d } := by
  unfold St.addDeleted
  split
  · exact ⟨s.deleted, rfl⟩
  · exact ⟨_, rfl⟩

omit [DecidableEq U] in
theorem St.mem_addDeleted_iff (s : St U π) (p q : Prog) : q ∈ (s.addDeleted p).deleted ↔ q = p ∨ q ∈ s.deleted := by
  unfold St.addDeleted
  split
  · next hc => exact ⟨Or.inr, fun h => h.elim (fun e => e ▸ by simpa using hc) id⟩
  · simp [or_comm]

omit [DecidableEq U] in
theorem mem_addDeleted (s : St U π) (p : Prog) : p ∈ (s.addDeleted p).deleted :=
  (s.mem_addDeleted_iff p p).mpr (Or.inl rfl)

omit [DecidableEq U] in
theorem addDeleted_mono (s : St U π) (p q : Prog) (h : q ∈ s.deleted) : q ∈ (s.addDeleted p).deleted :=
  (s.mem_addDeleted_iff p q).mpr (Or.inr h)

theorem pushBoth_kway (E : Env U π) (hk : E.kway = true) (s : St U π) (nt : UNT U) (pr : π) (p : Prog) :
    pushBoth E s nt pr p =
      if pushOK E.ops pr then s.setHeap nt (Heapq.push (ltE E.ops) (s.heapOf nt) (pr, p)) else s := by
  simp only [pushBoth, hk, if_true]

theorem pushBoth_heaps (E : Env U π) (hk : E.kway = true) (s : St U π) (nt : UNT U) (pr : π) (p : Prog) :
    ∃ hs, pushBoth E s nt pr p = { s with heaps := hs } := by
  rw [pushBoth_kway E hk]
  split <;> exact ⟨_, rfl⟩

theorem pushBoth_plain (E : Env U π) (hk : E.kway = true) (ht : E.ops.thr = none) (s : St U π) (nt : UNT U) (pr : π)
    (p : Prog) : pushBoth E s nt pr p = s.setHeap nt (Heapq.push (ltE E.ops) (s.heapOf nt) (pr, p)) := by
  rw [pushBoth_kway E hk, pushOK, ht]
  rfl

theorem pushStep_eq {E : Env U π} {s s3 : St U π} {F args nt v i r} : pushStep E s F args nt v i r = some s3 →
    (s3 = s ∧ (r = none ∨ ∃ q, r = some q ∧ Tree.node F (args.set i q) ∈ s.seenOf nt)) ∨
    ∃ q s2 pr, r = some q ∧ Tree.node F (args.set i q) ∉ s.seenOf nt ∧
      computePrio E { s.addSeen nt (.node F (args.set i q)) with
          keys := AList.insert (nt, .node F (args.set i q)) v s.keys } nt (.node F (args.set i q)) = some (s2, pr) ∧
      s3 = pushBoth E s2 nt pr (.node F (args.set i q)) := by
  fun_cases pushStep E s F args nt v i r with
  | case1 => exact fun hp => Or.inl ⟨(Option.some.inj hp).symm, Or.inl rfl⟩
  | case2 q np hseen =>
    exact fun hp => Or.inl ⟨(Option.some.inj hp).symm, Or.inr ⟨q, rfl, List.contains_iff_mem.mp hseen⟩⟩
  | case3 => exact nofun
  | case4 q np hnew s2 s2' pr hcp =>
    exact fun hp => Or.inr ⟨q, s2', pr, rfl, fun hm => hnew (List.contains_iff_mem.mpr hm), hcp, (Option.some.inj hp).symm⟩

theorem initPush_cons_eq {E : Env U π} {s s' : St U π} {nt : UNT U} {P : Sym} {v : List (UNT U)}
    {rest : List (Sym × List (UNT U))} :
    initPush E s nt ((P, v) :: rest) = some s' ↔
      ∃ prog s1 pr, AList.lookup (nt, P, v) s.maxRule = some prog ∧ prog ∉ s.seenOf nt ∧
        computePrio E (s.addSeen nt prog) nt prog = some (s1, pr) ∧ (AList.lookup (nt, prog) s1.keys).isSome ∧
        initPush E (pushBoth E s1 nt pr prog) nt rest = some s' := by
  rw [initPush]
  constructor
  · intro hp
    split at hp
    · cases hp
    · rename_i prog hm
      by_cases hnew : (s.seenOf nt).contains prog = true
      · rw [if_pos hnew] at hp; cases hp
      · rw [if_neg hnew] at hp
        split at hp
        · cases hp
        · rename_i s1 pr hcp
          by_cases hkey : (AList.lookup (nt, prog) s1.keys).isNone = true
          · rw [if_pos hkey] at hp; cases hp
          · rw [if_neg hkey] at hp
            exact ⟨prog, s1, pr, hm, fun hin => hnew (List.contains_iff_mem.mpr hin), hcp,
              Option.isSome_iff_ne_none.mpr fun h0 => hkey (by rw [h0]; rfl), hp⟩
  · rintro ⟨prog, s1, pr, hm, hnew, hcp, hkey, hp⟩
    rw [hm]
    dsimp only
    rw [if_neg fun h => hnew (List.contains_iff_mem.mp h), hcp]
    dsimp only
    rw [if_neg (by rw [Option.isNone_eq_false_iff.mpr hkey]; exact Bool.false_ne_true)]
    exact hp

theorem initPush_induct {E : Env U π} {nt : UNT U} {I : St U π → Prop}
    (step : ∀ {s P v prog s1 pr}, I s → AList.lookup (nt, P, v) s.maxRule = some prog → prog ∉ s.seenOf nt →
      computePrio E (s.addSeen nt prog) nt prog = some (s1, pr) → (AList.lookup (nt, prog) s1.keys).isSome →
      I (pushBoth E s1 nt pr prog)) :
    ∀ (l : List (Sym × List (UNT U))) {s s' : St U π}, I s → initPush E s nt l = some s' → I s' := by
  intro l
  induction l with
  | nil => exact fun h hp => Option.some.inj hp ▸ h
  | cons d rest ih =>
    obtain ⟨P, v⟩ := d
    intro s s' h hp
    obtain ⟨prog, s1, pr, hm, hnew, hcp, hkey, hp'⟩ := initPush_cons_eq.mp hp
    exact ih (step h hm hnew hcp hkey) hp'

theorem Big.rel {E : Env U π} {R : St U π → St U π → Prop} (refl : ∀ s, R s s)
    (trans : ∀ {s s1 s2}, R s s1 → R s1 s2 → R s s2)
    (pop : ∀ {s nt e h'}, Heapq.pop (ltE E.ops) (s.heapOf nt) = some (e, h') → R s (s.setHeap nt h'))
    (link : ∀ s nt key x, R s ((s.setSucc nt key x).setPred nt x key))
    (push : ∀ {s F args nt v i r s3}, pushStep E s F args nt v i r = some s3 → R s s3)
    (init : ∀ s nt, R s { s with initS := s.initS ++ [nt] })
    (best : ∀ {s nt m l s3}, initPush E { s with maxNT := AList.insert nt m s.maxNT } nt l = some s3 → R s s3)
    (alt : ∀ {s nt P args v s3 pr},
      computePrio E { s with keys := AList.insert (nt, .node P args) v s.keys } nt (.node P args) = some (s3, pr) →
      R s { s3 with maxRule := AList.insert (nt, P, v) (.node P args) s3.maxRule })
    {c : Call U π} {s s' : St U π} {r : Res π} (hb : Big E c s s' r) : R s s' := by
  induction hb with
  | query_direct _ _ ih => exact ih
  | query_init _ _ _ ih0 ih => exact trans ih0 ih
  | lop_hit _ => exact refl _
  | lop_miss _ _ ih => exact ih
  | pop_empty _ => exact refl _
  | pop_deleted h _ _ _ iha ihb => exact trans (trans (pop h) iha) ihb
  | pop_take h _ _ iha => exact trans (trans (pop h) (link _ _ _ _)) iha
  | succ_leaf => exact refl _
  | succ_fun _ _ ih => exact ih
  | loop_done => exact refl _
  | loop_step _ _ _ hp _ ihq ihb => exact trans (trans ihq (push hp)) ihb
  | init_skip _ => exact refl _
  | init_run _ _ _ hp _ ihr ihq => exact trans (trans (trans (init _ _) ihr) (best hp)) ihq
  | rules_nil => exact refl _
  | rules_cons _ _ iha ihb => exact trans iha ihb
  | alts_nil => exact refl _
  | alts_leaf _ hc _ iha => exact trans iha (alt hc)
  | alts_cons _ hc _ _ iha ihb => exact trans (trans iha (alt hc)) ihb
  | args_nil => exact refl _
  | args_cons _ _ _ ihi ihb => exact trans ihi ihb

end PS.UHS
