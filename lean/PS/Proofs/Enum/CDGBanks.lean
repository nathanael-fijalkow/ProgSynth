/- The invariant of the banks.  `BInv`: the banks `_bank_nt[S][ci]` of one non-terminal are duplicate-free and pairwise
   disjoint across cost indices.  To keep it through `query` one needs the provenance of the stored programs: every
   program `P(kids)` of a bank of `S` was built from a list of pools `ps` stored in `_bank_derivation[args][c]`
   (`kids[i] ∈ pool i`), where `c` is a derivation index the rule `P` of `S` has already consumed: `c <` the index of the
   pending `Derivation` of `P` in the heap of `S` (`HeapC`), `c <` the index of a popped element whose
   `query_derivation` is running (`LimboC`, suspended frames), and for the frame that is iterating over products, `c ≤`
   its index with the pools of index `c` restricted to those already started (`FrOK`).  Since the pools of a tuple of
   programs are unique (banks disjoint: `refs_unique`) and no list of pools is stored twice (CDGPoss.lean), a program
   about to be appended is new.
   The first section states the same step for one rule over an abstract table `lvl` of banks, without the machine:
   products taken for pairwise distinct index tuples from duplicate-free, pairwise disjoint banks are pairwise disjoint
   (`rule_programs_nodup`).  It stands for itself; the proof about the machine goes through `refs_unique`, its
   counterpart over `Ref`/`resolve`. -/
import PS.Proofs.Product
import PS.Proofs.Enum.CDGPoss
namespace PS.CD

/-! ## one level of the product -/

theorem cartesian_eq_product : ∀ pools : List (List Prog), cartesian pools = G.product pools
  | [] => rfl
  | p :: ps => by rw [cartesian, G.product, cartesian_eq_product ps]

theorem cartesian_nodup (pools : List (List Prog)) (h : ∀ p ∈ pools, p.Nodup) : (cartesian pools).Nodup :=
  cartesian_eq_product pools ▸ G.product_nodup pools h

/-- `lvl a i` stands for the bank `_bank_nt[a][i]` -/
def poolsOf (lvl : NT → Nat → List Prog) : List NT → List Nat → List (List Prog)
  | a :: as, c :: cs => lvl a c :: poolsOf lvl as cs
  | _, _ => []

def LevelsDisjoint (lvl : NT → Nat → List Prog) (a : NT) : Prop := ∀ i j p, p ∈ lvl a i → p ∈ lvl a j → i = j

theorem cartesian_index_unique (lvl : NT → Nat → List Prog) (args : List NT) (c c' : List Nat) (t : List Prog) :
    c.length = args.length → c'.length = args.length → (∀ a ∈ args, LevelsDisjoint lvl a) →
    t ∈ cartesian (poolsOf lvl args c) → t ∈ cartesian (poolsOf lvl args c') → c = c' := by
  induction args generalizing c c' t with
  | nil => intro h1 h2 _ _ _; rw [List.length_eq_zero_iff.mp h1, List.length_eq_zero_iff.mp h2]
  | cons a as ih =>
    intro h1 h2 hd ht ht'
    obtain ⟨x, c, rfl⟩ := List.exists_cons_of_length_eq_add_one h1
    obtain ⟨y, c', rfl⟩ := List.exists_cons_of_length_eq_add_one h2
    simp only [poolsOf, cartesian, List.mem_flatMap, List.mem_map] at ht ht'
    obtain ⟨p, hp, r, hr, rfl⟩ := ht
    obtain ⟨p', hp', r', hr', he⟩ := ht'
    cases he
    rw [hd a List.mem_cons_self x y _ hp hp', ih c c' _ (Nat.succ.inj h1) (Nat.succ.inj h2)
      (fun b hb => hd b (List.mem_cons_of_mem _ hb)) hr hr']

theorem poolsOf_nodup (lvl : NT → Nat → List Prog) (hn : ∀ a i, (lvl a i).Nodup) (args : List NT) (c : List Nat) :
    ∀ p ∈ poolsOf lvl args c, p.Nodup := by
  fun_induction poolsOf lvl args c with
  | case1 a as x c ih => exact List.forall_mem_cons.mpr ⟨hn a x, ih⟩
  | case2 => nofun

/-- `hcs` is what the frontier theorem gives (`front_reach_nodup`, Tuples.lean) -/
theorem rule_programs_nodup (lvl : NT → Nat → List Prog) (P : Sym) (args : List NT) (cs : List (List Nat))
    (hn : ∀ a i, (lvl a i).Nodup) (hd : ∀ a ∈ args, LevelsDisjoint lvl a) (hcs : cs.Nodup)
    (hlen : ∀ c ∈ cs, c.length = args.length) :
    ((cs.flatMap fun c => cartesian (poolsOf lvl args c)).map (fun t => (Tree.node P t : Prog))).Nodup := by
  have key : (cs.flatMap fun c => cartesian (poolsOf lvl args c)).Pairwise (· ≠ ·) := ?_
  · exact List.Pairwise.map (fun t => (Tree.node P t : Prog)) (fun a b (hab : a ≠ b) h => hab (by simpa using h)) key
  rw [List.pairwise_flatMap]
  refine ⟨fun c _ => cartesian_nodup _ (poolsOf_nodup lvl hn args c), ?_⟩
  refine List.Pairwise.imp_of_mem ?_ hcs
  intro c c' hc hc' hne t ht t' ht' htt
  subst htt
  exact hne (cartesian_index_unique lvl args c c' t (hlen c hc) (hlen c' hc') hd ht ht')

/-! ## the invariant of the banks -/

variable {α : Type}

def InBank (s : St α) (S : NT) (p : Prog) : Prop := ∃ ci, InBankAt s S ci p

def BInv (s : St α) : Prop :=
  (∀ S b ci l, AList.lookup S s.bankNt = some b → AList.lookup ci b = some l → l.Nodup) ∧
  (∀ S ci cj p, InBankAt s S ci p → InBankAt s S cj p → ci = cj)

theorem resolve_nodup {s : St α} (h : BInv s) (r : Ref) : (s.resolve r).Nodup := by
  rcases resolve_cases s r with e | ⟨S, ci, b, l, _, hb, hl, e⟩
  · rw [e]; exact List.nodup_nil
  · rw [e]; exact h.1 S b ci l hb hl

def KidsNow (s : St α) (ps : List Ref) (kids : List Prog) : Prop := All2 (fun r k => k ∈ s.resolve r) ps kids

/-- the second disjunct: `merge_program` removes programs from the banks and puts them in `_deleted` -/
def KidsIn (s : St α) (ps : List Ref) (kids : List Prog) : Prop :=
  All2 (fun r k => k ∈ s.resolve r ∨ k ∈ s.deleted) ps kids

theorem All2.imp {β γ : Type} {R R' : β → γ → Prop} (hi : ∀ x y, R x y → R' x y) {l1 : List β} {l2 : List γ}
    (h : All2 R l1 l2) : All2 R' l1 l2 := by
  induction h with
  | nil => exact .nil
  | cons h1 _ ih => exact .cons (hi _ _ h1) ih

theorem KidsNow.weak {s : St α} {ps : List Ref} {kids : List Prog} (h : KidsNow s ps kids) : KidsIn s ps kids :=
  All2.imp (fun _ _ hk => Or.inl hk) h

def BMono (s s' : St α) : Prop := ∀ S c q, InBankAt s S c q → InBankAt s' S c q

def DSub (s s' : St α) : Prop := ∀ p ∈ s.deleted, p ∈ s'.deleted

theorem DSub.refl (s : St α) : DSub s s := fun _ h => h
theorem DSub.trans {s1 s2 s3 : St α} (h1 : DSub s1 s2) (h2 : DSub s2 s3) : DSub s1 s3 := fun p h => h2 p (h1 p h)
theorem DSub.of_eq {s s' : St α} (h : s'.deleted = s.deleted) : DSub s s' := by intro p hp; rw [h]; exact hp

theorem BMono.refl (s : St α) : BMono s s := fun _ _ _ h => h
theorem BMono.trans {s1 s2 s3 : St α} (h1 : BMono s1 s2) (h2 : BMono s2 s3) : BMono s1 s3 :=
  fun S c q h => h2 S c q (h1 S c q h)
theorem BMono.of_eq {s s' : St α} (h : s'.bankNt = s.bankNt) : BMono s s' := by
  intro S c q hq; unfold InBankAt at *; rw [h]; exact hq
theorem BMono.inBank {s s' : St α} (h : BMono s s') {S : NT} {q : Prog} (hq : InBank s S q) : InBank s' S q := by
  obtain ⟨c, hc⟩ := hq; exact ⟨c, h S c q hc⟩

theorem BMono.resolve {s s' : St α} (h : BMono s s') (r : Ref) (k : Prog) (hk : k ∈ s.resolve r) : k ∈ s'.resolve r := by
  obtain ⟨S, ci, rfl, hi⟩ := mem_resolve hk
  exact (mem_resolve_iff s' S ci k).mpr (h S ci k hi)

theorem KidsIn.mono {s s' : St α} (h : BMono s s') (hd : DSub s s') {ps : List Ref} {kids : List Prog} (hk : KidsIn s ps kids) :
    KidsIn s' ps kids :=
  All2.imp (fun r k hrk => hrk.elim (fun a => Or.inl (h.resolve r k a)) (fun a => Or.inr (hd k a))) hk

theorem cartesian_kidsIn (s : St α) : ∀ (ps : List Ref) (tup : List Prog), tup ∈ cartesian (ps.map s.resolve) → KidsNow s ps tup
  | [], tup, h => by
    simp only [List.map_nil, cartesian, List.mem_singleton] at h; subst h; exact .nil
  | r :: ps, tup, h => by
    simp only [List.map_cons, cartesian, List.mem_flatMap, List.mem_map] at h
    obtain ⟨x, hx, rest, hr, rfl⟩ := h
    exact .cons hx (cartesian_kidsIn s ps rest hr)

theorem okRef_refsOf (args : List NT) (comb : List Nat) : comb.length = args.length → All2 okRef (refsOf args comb) args := by
  induction args generalizing comb with
  | nil => intro h; rw [List.length_eq_zero_iff.mp h]; exact .nil
  | cons a as ih =>
    intro h
    obtain ⟨c, cs, rfl⟩ := List.exists_cons_of_length_eq_add_one h
    exact .cons (fun S ci he => (Prod.mk.inj (Option.some.inj he)).1.symm) (ih cs (Nat.succ.inj h))

theorem tinv2_okRef {s : St α} {Λ : List NT → List (List Nat)} (h : TInv2 s Λ) {args : List NT} {c : Nat} {ps : List Ref}
    (hp : PossAt s.bankDer args c ps) : All2 okRef ps args := by
  obtain ⟨_, _, D, _, _, _, h3⟩ := h args
  obtain ⟨comb, _, hl, he⟩ := h3 c ps hp
  rw [he]; exact okRef_refsOf args comb hl

def DelOut (s : St α) : Prop := ∀ p ∈ s.deleted, ∀ S c, ¬ InBankAt s S c p

theorem refs_unique {s : St α} (hB : BInv s) (hDel : DelOut s) : ∀ (args : List NT) (ps ps' : List Ref) (kids : List Prog),
    All2 okRef ps args → All2 okRef ps' args → KidsIn s ps kids → KidsNow s ps' kids → ps = ps' := by
  intro args ps ps' kids h1
  induction h1 generalizing ps' kids with
  | nil => intro h2 _ _; cases h2; rfl
  | cons hr _ ih =>
    intro h2 h3 h4
    rcases h2 with _ | ⟨hr', h2⟩
    rcases h3 with _ | ⟨hk, h3⟩
    rcases h4 with _ | ⟨hk', h4⟩
    obtain ⟨S2, c2, e2, i2⟩ := mem_resolve hk'
    have hk1 : _ ∈ s.resolve _ := hk.elim (fun a => a) (fun a => absurd i2 (hDel _ a S2 c2))
    obtain ⟨S1, c1, e1, i1⟩ := mem_resolve hk1
    obtain rfl := hr S1 c1 e1
    obtain rfl := hr' S2 c2 e2
    obtain rfl := hB.2 _ c1 c2 _ i1 i2
    rw [e1, e2, ih _ _ h2 h3 h4]

/-- all programs `P(…)` in the banks of `S` were built from pools stored under a derivation index `< c0`, or
    under `c0` itself and in `extra`.  `extra` is `[]` for an element of the heap or in limbo (index `c0` not begun) and
    the lists of pools already started (`done` of `FrOK`) for the frame that iterates over the products of index `c0`. -/
def Consumed (E : Env α) (s : St α) (S : NT) (P : Sym) (c0 : Nat) (extra : List (List Ref)) : Prop :=
  ∀ args w kids, E.G.rule? S P = some (args, w) → InBank s S (.node P kids) →
    args ≠ [] ∧ ∃ c ps, PossAt s.bankDer args c ps ∧ KidsIn s ps kids ∧ (c < c0 ∨ (c = c0 ∧ ps ∈ extra))

theorem Consumed.carry {E : Env α} {s s' : St α} {S : NT} {P : Sym} {c0 : Nat} {extra : List (List Ref)}
    (hb : ∀ kids, InBank s' S (.node P kids) → InBank s S (.node P kids))
    (hp : ∀ args c ps, PossAt s.bankDer args c ps → PossAt s'.bankDer args c ps)
    (hk : ∀ ps kids, KidsIn s ps kids → KidsIn s' ps kids) (h : Consumed E s S P c0 extra) : Consumed E s' S P c0 extra :=
  fun args w kids hrule hin =>
    have ⟨hne, c, ps, h1, h2, h3⟩ := h args w kids hrule (hb kids hin)
    ⟨hne, c, ps, hp args c ps h1, hk ps kids h2, h3⟩

theorem Consumed.mono {E : Env α} {s s' : St α} {S : NT} {P : Sym} {c0 c0' : Nat} {extra extra' : List (List Ref)}
    (h : Consumed E s S P c0 extra)
    (hb : ∀ kids, InBank s' S (.node P kids) → InBank s S (.node P kids))
    (hp : ∀ args c ps, PossAt s.bankDer args c ps → PossAt s'.bankDer args c ps)
    (hr : BMono s s') (hd : DSub s s')
    (hce : c0 < c0' ∨ (c0 = c0' ∧ ∀ ps ∈ extra, ps ∈ extra')) : Consumed E s' S P c0' extra' := by
  intro args w kids hrule hin
  obtain ⟨hne, c, ps, h1, h2, h3⟩ := h.carry hb hp (fun _ _ => KidsIn.mono hr hd) args w kids hrule hin
  refine ⟨hne, c, ps, h1, h2, ?_⟩
  rcases h3 with h3 | h3
  · rcases hce with h4 | h4
    · exact Or.inl (Nat.lt_trans h3 h4)
    · exact Or.inl (h4.1 ▸ h3)
  · rcases hce with h4 | h4
    · exact Or.inl (h3.1 ▸ h4)
    · exact Or.inr ⟨h3.1.trans h4.1, h4.2 ps h3.2⟩

def HeapC (E : Env α) (s : St α) : Prop :=
  ∀ S h d, AList.lookup S s.queueNt = some h → d ∈ h → Consumed E s S d.P d.comb []

/-- `L S`: symbol and derivation index of the popped element of each suspended frame of `S` -/
def LimboC (E : Env α) (s : St α) (L : NT → List (Sym × Nat)) : Prop :=
  ∀ S P c0, (P, c0) ∈ L S → Consumed E s S P c0 []

def AccB (E : Env α) (s : St α) : Prop := ∀ S c q, InBankAt s S c q → E.filter q = true

/-- the bank invariant with what keeps it.  `heapc`, `limboc`: the provenance of the stored programs, which is why a
    program about to be appended is new.  `accb`, `delout`: a bank holds only programs the filter accepted, and no deleted
    program; the two go together, since a rejected program enters `_deleted` without a look at the banks, and it is
    `accb` that shows it is in none (`NInv.carry`).  `delout` in turn lets `refs_unique` treat a deleted sub-program as
    one that is in no pool. -/
structure NInv (E : Env α) (s : St α) (L : NT → List (Sym × Nat)) : Prop where
  binv : BInv s
  heapc : HeapC E s
  limboc : LimboC E s L
  accb : AccB E s
  delout : DelOut s

def symL (L : NT → List (Sym × Nat)) : NT → List Sym := fun S => (L S).map (·.1)
def addL (L : NT → List (Sym × Nat)) (S : NT) (x : Sym × Nat) : NT → List (Sym × Nat) :=
  fun S' => if S' = S then x :: L S' else L S'
def noL : NT → List (Sym × Nat) := fun _ => []

theorem symL_addL (L : NT → List (Sym × Nat)) (S : NT) (P : Sym) (c : Nat) :
    symL (addL L S (P, c)) = addLimbo (symL L) S P := by
  funext S'; unfold symL addL addLimbo; split <;> simp

theorem symL_noL : symL noL = noLimbo := rfl

theorem NInv.carry {E : Env α} {s s' : St α} {L : NT → List (Sym × Nat)} (h : NInv E s L) (hq : s'.queueNt = s.queueNt)
    (hB : BInv s') (hb : BMono s' s) (hp : ∀ args c ps, PossAt s.bankDer args c ps → PossAt s'.bankDer args c ps)
    (hk : ∀ ps kids, KidsIn s ps kids → KidsIn s' ps kids)
    (hdel : ∀ p ∈ s'.deleted, (p ∈ s.deleted ∨ E.filter p = false) ∨ ∀ S c, ¬ InBankAt s' S c p) : NInv E s' L := by
  have hc : ∀ {S P c0}, Consumed E s S P c0 [] → Consumed E s' S P c0 [] := Consumed.carry (fun _ => hb.inBank) hp hk
  refine ⟨hB, fun S hh d hl hd => hc (h.heapc S hh d (hq ▸ hl) hd), fun S P c0 hm => hc (h.limboc S P c0 hm),
    fun S c q hin => h.accb S c q (hb S c q hin), fun p hp' S c hin => ?_⟩
  rcases hdel p hp' with (h1 | h1) | h1
  · exact h.delout p h1 S c (hb S c p hin)
  · have := h.accb S c p (hb S c p hin); rw [h1] at this; cases this
  · exact h1 S c hin

theorem ninv_transfer {E : Env α} {s s' : St α} {L : NT → List (Sym × Nat)} (h : NInv E s L)
    (hq : s'.queueNt = s.queueNt) (hB : BInv s') (hb : BMono s' s) (hr : BMono s s')
    (hp : ∀ args c ps, PossAt s.bankDer args c ps → PossAt s'.bankDer args c ps) (hdel : s'.deleted = s.deleted) :
    NInv E s' L :=
  h.carry hq hB hb hp (fun _ _ => KidsIn.mono hr (DSub.of_eq hdel)) fun p hp' => Or.inl (Or.inl (hdel ▸ hp'))

theorem binv_of_eq {s s' : St α} (h1 : s'.bankNt = s.bankNt) (h : BInv s) : BInv s' := by
  unfold BInv InBankAt at *; rw [h1]; exact h

theorem NInv.morePools {E : Env α} {s s' : St α} {L : NT → List (Sym × Nat)} (h : NInv E s L) (h1 : s'.bankNt = s.bankNt)
    (h3 : s'.queueNt = s.queueNt) (h4 : s'.deleted = s.deleted)
    (hp : ∀ args c ps, PossAt s.bankDer args c ps → PossAt s'.bankDer args c ps) : NInv E s' L :=
  ninv_transfer h h3 (binv_of_eq h1 h.binv) (BMono.of_eq h1.symm) (BMono.of_eq h1) hp h4

theorem NInv.same {E : Env α} {s s' : St α} {L : NT → List (Sym × Nat)} (h : NInv E s L) (h1 : s'.bankNt = s.bankNt)
    (h2 : s'.bankDer = s.bankDer) (h3 : s'.queueNt = s.queueNt) (h4 : s'.deleted = s.deleted) : NInv E s' L :=
  h.morePools h1 h3 h4 fun _ _ _ hp => h2 ▸ hp

theorem ninv_limbo {E : Env α} {s : St α} {L L' : NT → List (Sym × Nat)} (h : NInv E s L')
    (hsub : ∀ S x, x ∈ L S → x ∈ L' S) : NInv E s L :=
  ⟨h.binv, h.heapc, fun S P c0 hm => h.limboc S P c0 (hsub S _ hm), h.accb, h.delout⟩

theorem mem_addL {L : NT → List (Sym × Nat)} {S : NT} {x : Sym × Nat} (S' : NT) (y : Sym × Nat) (h : y ∈ L S') :
    y ∈ addL L S x S' := by
  unfold addL; split
  · exact List.mem_cons_of_mem _ h
  · exact h

/-! ### the operations on the banks -/

/-- the update is `bank[ci].append(p)` -/
theorem inBankAt_append {s : St α} {S : NT} {ci : Nat} {b : AList Nat (List Prog)} {l : List Prog} {p : Prog}
    (hb : AList.lookup S s.bankNt = some b) (hl : AList.lookup ci b = some l) (S' : NT) (c' : Nat) (q : Prog) :
    InBankAt { s with bankNt := AList.insert S (AList.insert ci (l ++ [p]) b) s.bankNt } S' c' q ↔
      InBankAt s S' c' q ∨ (S' = S ∧ c' = ci ∧ q = p) :=
  AList.at_append hb hl S' c' q

theorem bmono_append {s : St α} {S : NT} {ci : Nat} {b : AList Nat (List Prog)} {l : List Prog} {p : Prog}
    (hb : AList.lookup S s.bankNt = some b) (hl : AList.lookup ci b = some l) :
    BMono s { s with bankNt := AList.insert S (AList.insert ci (l ++ [p]) b) s.bankNt } :=
  fun S' c' q h => (inBankAt_append hb hl S' c' q).mpr (Or.inl h)

theorem binv_append {s : St α} {S : NT} {ci : Nat} {b : AList Nat (List Prog)} {l : List Prog} {p : Prog}
    (hb : AList.lookup S s.bankNt = some b) (hl : AList.lookup ci b = some l) (h : BInv s) (hnew : ¬ InBank s S p) :
    BInv { s with bankNt := AList.insert S (AList.insert ci (l ++ [p]) b) s.bankNt } := by
  refine ⟨?_, ?_⟩
  · refine AList.forall_insert₂ (P := fun _ _ l => l.Nodup) hb h.1 ?_
    exact List.nodup_append.mpr ⟨h.1 S b ci l hb hl, by simp, fun x hx y hy hxy =>
      hnew ⟨ci, b, l, hb, hl, by rwa [← List.mem_singleton.mp hy, ← hxy]⟩⟩
  · exact fun S' => AList.at_append_inj hb hl (fun e c hc => hnew ⟨c, e ▸ hc⟩) (h.2 S')

theorem Consumed.append {E : Env α} {s : St α} {S S' : NT} {ci : Nat} {b : AList Nat (List Prog)} {l : List Prog} {P P' : Sym}
    {kids : List Prog} {c0 : Nat} {extra : List (List Ref)} (hb : AList.lookup S s.bankNt = some b)
    (hl : AList.lookup ci b = some l) (h : Consumed E s S' P' c0 extra)
    (hnew : S' = S → P' = P → ∀ args w, E.G.rule? S P = some (args, w) →
      args ≠ [] ∧ ∃ c ps, PossAt s.bankDer args c ps ∧ KidsIn s ps kids ∧ (c < c0 ∨ (c = c0 ∧ ps ∈ extra))) :
    Consumed E { s with bankNt := AList.insert S (AList.insert ci (l ++ [.node P kids]) b) s.bankNt } S' P' c0 extra := by
  intro args w kids' hrule ⟨c', hin⟩
  have hm := bmono_append (p := .node P kids) hb hl
  have key : args ≠ [] ∧ ∃ c ps, PossAt s.bankDer args c ps ∧ KidsIn s ps kids' ∧ (c < c0 ∨ (c = c0 ∧ ps ∈ extra)) := by
    rcases (inBankAt_append hb hl S' c' _).mp hin with a | ⟨rfl, _, e3⟩
    · exact h args w kids' hrule ⟨c', a⟩
    · obtain ⟨rfl, rfl⟩ := Tree.node.inj e3
      exact hnew rfl rfl args w hrule
  obtain ⟨hne, c, ps, h1, h2, h3⟩ := key
  exact ⟨hne, c, ps, h1, h2.mono hm (DSub.of_eq rfl), h3⟩

theorem ensureBank_spec {s s' : St α} {S : NT} {ci : Nat} (he : s.ensureBank S ci = some s') :
    s'.queueNt = s.queueNt ∧ s'.bankDer = s.bankDer ∧ BMono s s' ∧ BMono s' s ∧ (BInv s → BInv s') := by
  rcases ensureBank_cases he with rfl | ⟨b, hb, hn, rfl⟩
  · exact ⟨rfl, rfl, BMono.refl _, BMono.refl _, fun h => h⟩
  · have key : ∀ S' c' q, InBankAt { s with bankNt := AList.insert S (AList.insert ci [] b) s.bankNt } S' c' q ↔
        InBankAt s S' c' q := AList.at_nil_iff hb hn
    refine ⟨rfl, rfl, fun S' c' q h => (key S' c' q).mpr h, fun S' c' q h => (key S' c' q).mp h, fun hB => ⟨?_, ?_⟩⟩
    · exact AList.forall_insert₂ (P := fun _ _ l => l.Nodup) hb hB.1 List.nodup_nil
    · intro S' c1 c2 q h1 h2
      exact hB.2 S' c1 c2 q ((key S' c1 q).mp h1) ((key S' c2 q).mp h2)

theorem addDeleted_fields (s : St α) (p : Prog) :
    (s.addDeleted p).bankNt = s.bankNt ∧ (s.addDeleted p).bankDer = s.bankDer ∧ (s.addDeleted p).queueNt = s.queueNt := by
  obtain ⟨d, e⟩ := addDeleted_eq s p
  rw [e]; exact ⟨rfl, rfl, rfl⟩

/-! ### the frame that iterates over the products -/

/-- the invariant of a frame inside `for possibles in args_possibles: for new_args in product(*possibles)`:
    `c0` the derivation index of its popped element, `done` the lists of pools of `_bank_derivation[args][c0]`
    already started, `possRem` those to come, `tups` the rest of the current product -/
def FrOK (E : Env α) (s : St α) (L : NT → List (Sym × Nat)) (fr : Frame α) : Prop :=
  match fr.cur with
  | none => True
  | some (P, possRem, tups) =>
    ∃ args w c0 done, E.G.rule? fr.S P = some (args, w) ∧ args ≠ [] ∧
      (possRem = [] ∨ ∃ b, AList.lookup args s.bankDer = some b ∧ AList.lookup c0 b = some (done ++ possRem)) ∧
      Consumed E s fr.S P c0 done ∧
      (∀ h d, AList.lookup fr.S s.queueNt = some h → d ∈ h → d.P = P → c0 < d.comb) ∧
      (∀ c1, (P, c1) ∉ L fr.S) ∧
      tups.Nodup ∧ (∀ tup ∈ tups, ¬ InBank s fr.S (.node P tup)) ∧
      (∀ tup ∈ tups, ∃ ps ∈ done, PossAt s.bankDer args c0 ps ∧ KidsIn s ps tup)

theorem frok_none {E : Env α} {s : St α} {L : NT → List (Sym × Nat)} {fr : Frame α} (h : fr.cur = none) : FrOK E s L fr := by
  unfold FrOK; rw [h]; trivial

structure InProduct (E : Env α) (s : St α) (L : NT → List (Sym × Nat)) (S : NT) (P : Sym) (possRem : List (List Ref))
    (tups : List (List Prog)) (args : List NT) (w : Int) (c0 : Nat) (done : List (List Ref)) : Prop where
  rule : E.G.rule? S P = some (args, w)
  ne : args ≠ []
  stored : possRem = [] ∨ ∃ b, AList.lookup args s.bankDer = some b ∧ AList.lookup c0 b = some (done ++ possRem)
  consumed : Consumed E s S P c0 done
  ahead : ∀ h d, AList.lookup S s.queueNt = some h → d ∈ h → d.P = P → c0 < d.comb
  notL : ∀ c1, (P, c1) ∉ L S
  nodup : tups.Nodup
  fresh : ∀ tup ∈ tups, ¬ InBank s S (.node P tup)
  built : ∀ tup ∈ tups, ∃ ps ∈ done, PossAt s.bankDer args c0 ps ∧ KidsIn s ps tup

theorem frOK_some {E : Env α} {s : St α} {L : NT → List (Sym × Nat)} {fr : Frame α} {P : Sym} {possRem : List (List Ref)}
    {tups : List (List Prog)} (h : fr.cur = some (P, possRem, tups)) :
    FrOK E s L fr ↔ ∃ args w c0 done, InProduct E s L fr.S P possRem tups args w c0 done := by
  unfold FrOK; rw [h]
  refine exists_congr fun args => exists_congr fun w => exists_congr fun c0 => exists_congr fun done => ?_
  exact ⟨fun ⟨a1, a2, a3, a4, a5, a6, a7, a8, a9⟩ => ⟨a1, a2, a3, a4, a5, a6, a7, a8, a9⟩,
    fun a => ⟨a.rule, a.ne, a.stored, a.consumed, a.ahead, a.notL, a.nodup, a.fresh, a.built⟩⟩

/-- for a rejected program and for `merge_program` -/
theorem FrOK.carry {E : Env α} {s s' : St α} {L : NT → List (Sym × Nat)} {fr : Frame α} (hq : s'.queueNt = s.queueNt)
    (hbd : s'.bankDer = s.bankDer) (hin : ∀ q, InBank s' fr.S q → InBank s fr.S q)
    (hk : ∀ ps kids, KidsIn s ps kids → KidsIn s' ps kids) (h : FrOK E s L fr) : FrOK E s' L fr := by
  rcases Option.eq_none_or_eq_some fr.cur with hcur | ⟨⟨P, possRem, tups⟩, hcur⟩
  · exact frok_none hcur
  · obtain ⟨args, w, c0, done, hC⟩ := (frOK_some hcur).mp h
    exact (frOK_some hcur).mpr ⟨args, w, c0, done,
      { hC with
        stored := hbd ▸ hC.stored, consumed := hC.consumed.carry (fun _ => hin _) (fun _ _ _ hp => hbd ▸ hp) hk, ahead := hq ▸ hC.ahead
        fresh := fun tup ht hi => hC.fresh tup ht (hin _ hi)
        built := fun tup ht => have ⟨ps, hps, hp, hkk⟩ := hC.built tup ht; ⟨ps, hps, hbd ▸ hp, hk ps tup hkk⟩ }⟩

theorem frok_of_eq {E : Env α} {s s' : St α} {L : NT → List (Sym × Nat)} {fr : Frame α} (h1 : s'.bankNt = s.bankNt)
    (h2 : s'.bankDer = s.bankDer) (h3 : s'.queueNt = s.queueNt) (h4 : DSub s s') (h : FrOK E s L fr) : FrOK E s' L fr :=
  h.carry h3 h2 (fun _ => (BMono.of_eq h1.symm).inBank) fun _ _ => KidsIn.mono (BMono.of_eq h1) h4

/-- `hH`, `hLm`: the pending elements and limbo entries of the rule of `p` are ahead of it; a rule without arguments has
    none -/
theorem ninv_append {E : Env α} {s : St α} {L : NT → List (Sym × Nat)} {S : NT} {ci : Nat} {b : AList Nat (List Prog)}
    {l : List Prog} {P : Sym} {kids : List Prog} (hN : NInv E s L) (hb : AList.lookup S s.bankNt = some b)
    (hl : AList.lookup ci b = some l) (hnew : ¬ InBank s S (.node P kids))
    (hH : ∀ h d, AList.lookup S s.queueNt = some h → d ∈ h → d.P = P → ∀ args w, E.G.rule? S P = some (args, w) →
      args ≠ [] ∧ ∃ c ps, PossAt s.bankDer args c ps ∧ KidsIn s ps kids ∧ c < d.comb)
    (hLm : ∀ c1, (P, c1) ∉ L S) (hacc : E.filter (.node P kids) = true) (hnd : (Tree.node P kids : Prog) ∉ s.deleted) :
    NInv E { s with bankNt := AList.insert S (AList.insert ci (l ++ [.node P kids]) b) s.bankNt } L := by
  refine ⟨binv_append hb hl hN.binv hnew, ?_, ?_, ?_, ?_⟩
  · intro S' hh d hlk hd
    refine (hN.heapc S' hh d hlk hd).append hb hl fun e1 e3 args w hrule => ?_
    obtain ⟨hne, c, ps, h1, h2, h3⟩ := hH hh d (e1 ▸ hlk) hd e3 args w hrule
    exact ⟨hne, c, ps, h1, h2, Or.inl h3⟩
  · exact fun S' P' c0 hmem => (hN.limboc S' P' c0 hmem).append hb hl fun e1 e3 => absurd (e1 ▸ e3 ▸ hmem) (hLm c0)
  · intro S' c' q hin
    rcases (inBankAt_append hb hl S' c' q).mp hin with a | a
    · exact hN.accb S' c' q a
    · rw [a.2.2]; exact hacc
  · intro p hp S' c' hin
    have hp' : p ∈ s.deleted := hp
    rcases (inBankAt_append hb hl S' c' p).mp hin with a | a
    · exact hN.delout p hp' S' c' a
    · rw [a.2.2] at hp'; exact hnd hp'

theorem addDeleted_sub (s : St α) (p : Prog) : DSub s (s.addDeleted p) :=
  fun q hq => (addDeleted_deleted s p q).mpr (Or.inl hq)

theorem mem_addDeleted_iff (s : St α) (p q : Prog) (h : q ∈ (s.addDeleted p).deleted) : q ∈ s.deleted ∨ q = p :=
  (addDeleted_deleted s p q).mp h

theorem ninv_addDeleted {E : Env α} {s : St α} {L : NT → List (Sym × Nat)} (p : Prog) (hN : NInv E s L)
    (hrej : E.filter p = false) : NInv E (s.addDeleted p) L :=
  have e := addDeleted_fields s p
  hN.carry e.2.2 (binv_of_eq e.1 hN.binv) (BMono.of_eq e.1.symm) (fun _ _ _ hp => e.2.1 ▸ hp)
    (fun _ _ => KidsIn.mono (BMono.of_eq e.1) (addDeleted_sub s p))
    fun q hq => Or.inl ((mem_addDeleted_iff s p q hq).imp id fun (h1 : q = p) => h1 ▸ hrej)

end PS.CD
