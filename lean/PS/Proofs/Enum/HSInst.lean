/- Heap search with probabilities on top of the generic development. Instances of generic theorems: the order
   invariant and (I3) of one call (`big_order`, `big_i3`), totality of `query` and of the prologue, completeness and
   termination of the run (`take_complete`, `take_stops`). Proved here along the generator: the sorted output (`OG` …
   `take_sorted`), and completeness of an exhausted non-terminal from `HS.Quiet` (`exhausted_complete`).
   (On recursive grammars the order invariant is NOT preserved: `query(S, y)` is re-entered while
   `__add_successors__(y, S)` runs, see finding_C03_HS_reentrant.) -/
import PS.Proofs.Enum.HSHyp
import PS.Proofs.Enum.GStops
namespace PS.HS
open PS PS.G
set_option linter.unusedSectionVars false
variable {S : Type} [DecidableEq S]

/-! ### the order invariant -/

theorem big_order {E : Env S Unit Rat} {rank} (H : OrdHyp E rank) {H0 : NT S Unit → List (Rat × Prog)}
    {c : Call S Unit} {s s' : St S Unit Rat}
    {r : Option Prog} (hb : Big E c s s' r) :
    SInv E s → NInv s → HInv E s → OInv E H0 s → SPre E c → NPre c s → OPre E H0 c s →
    OInv E H0 s' ∧ HG.OFrame rank c s s' ∧ HG.SeenMono s s' := by
  intro hs hn hh ho h1 h2 h3
  obtain ⟨t, hops⟩ := H.ops
  have co := HG.big_coreT (H.ordLaw hops) hb (fullT hops hs hn hh ho) h1 h2 ((OPre.iffT hops).mp h3)
  exact ⟨(OInv.iffT hops).mpr co.full.oinv, co.frame, HG.big_seenMono E hb⟩

/-! ### the generator loop -/

/-- invariant of the generator object for the order theorem; last component: the state produced
    by the prologue satisfies the order invariant (the part that is proved separately).
    It stands beside `HG.RG` because `RG` carries `HG.Quiet`, which is kept only when every rule has a weight
    (`WTotal`); the order of the output needs `OInv` alone and so holds without it and with any threshold. -/
def OG (E : Env S Unit Rat) (fuel : Nat) (H0 : NT S Unit → List (Rat × Prog)) (g : Gen S Unit Rat)
    (out : List Prog) : Prop :=
  GInv E g ∧ NGInv E g out ∧ HInv E g.st ∧ (g.started = true → OInv E H0 g.st) ∧
  (g.started = false → out = [] ∧ ∀ s0, prologue E fuel g.st = some s0 → OInv E H0 s0)

theorem next_order {E : Env S Unit Rat} {rank} (H : OrdHyp E rank) (hnd : RowsNodup E.G)
    (hf : ∀ p, E.filter p = true) (fuel : Nat) {H0 : NT S Unit → List (Rat × Prog)}
    (g g' : Gen S Unit Rat) (out : List Prog) (r : Option Prog)
    (hg : OG E fuel H0 g out) (h : next E fuel g = some (g', r)) :
    (∀ p, r = some p → OG E fuel H0 g' (out ++ [p])) ∧ (r = none → OG E fuel H0 g' out) := by
  obtain ⟨hgi, hng, hh, ho1, ho2⟩ := hg
  have hgi' := (next_sound E hnd fuel g g' r hgi h).1
  have hng' := next_nodup E hf fuel g g' out r hng h
  have hh' := next_hinv E H.weak fuel g g' r hh h
  have key : ∀ s : St S Unit Rat, SInv E s → NInv s → HInv E s → OInv E H0 s →
      chainFrom (s.succOf E.G.start) none out →
      nextLoop E fuel fuel s g.current = some (g', r) → OInv E H0 g'.st ∧ g'.started = true := by
    intro s hs hn hhs ho hch hl
    have hq := (nextLoop_nofilter hf hl).1
    have hst := (nextLoop_sound E fuel _ _ _ _ _ hs hl).2.1
    refine ⟨(big_order H (big_of_query E hq) hs hn hhs ho trivial trivial ?_).1, hst⟩
    intro x hx
    rw [hng.2.2] at hx
    exact Or.inl (chain_last_value _ hch hx)
  have hfin : OInv E H0 g'.st ∧ g'.started = true := by
    obtain ⟨s0, hl, ⟨hst, rfl⟩ | ⟨hst', hp⟩⟩ := next_cases h
    · exact key _ hgi.1 hng.1 hh (ho1 hst) hng.2.1 hl
    · obtain ⟨hn0, hst0⟩ := prologue_ninv E fuel _ _ hng.1 hp
      exact key s0 (prologue_sound E hnd fuel _ _ hgi.1 (hgi.2 hst') hp) hn0
        (prologue_hinv E H.weak fuel _ _ hh hp) ((ho2 hst').2 s0 hp)
        (chainFrom_stable (fun k v hk => hst0 _ k v hk) _ _ hng.2.1) hl
  have hno : ∀ out' : List Prog, g'.started = false →
      out' = [] ∧ ∀ s0, prologue E fuel g'.st = some s0 → OInv E H0 s0 := by
    intro _ hc; rw [hfin.2] at hc; cases hc
  exact ⟨fun p hp => ⟨hgi', hng'.1 p hp, hh', fun _ => hfin.1, hno _⟩,
         fun hr => ⟨hgi', hng'.2 hr, hh', fun _ => hfin.1, hno _⟩⟩

theorem take_order {E : Env S Unit Rat} {rank} (H : OrdHyp E rank) (hnd : RowsNodup E.G)
    (hf : ∀ p, E.filter p = true) (fuel : Nat) {H0 : NT S Unit → List (Rat × Prog)} :
    ∀ (k : Nat) (g : Gen S Unit Rat) (acc : List Prog) (g' : Gen S Unit Rat) (out : List Prog) (b : Bool),
      OG E fuel H0 g acc → take E fuel k g acc = some (g', out, b) → OG E fuel H0 g' out :=
  take_rel (OG E fuel H0) fun g acc g' r => next_order H hnd hf fuel g g' acc r

theorem OG.sorted {E : Env S Unit Rat} {fuel : Nat} {H0 : NT S Unit → List (Rat × Prog)}
    {g : Gen S Unit Rat} {out : List Prog} (h : OG E fuel H0 g out) :
    out.Pairwise (fun a b => prob E.G E.W b E.G.start ≤ prob E.G E.W a E.G.start) := by
  cases hst : g.started with
  | true =>
    exact (chain_sortedR _ (fun a b => prob E.G E.W b E.G.start ≤ prob E.G E.W a E.G.start)
      (fun _ _ _ _ h1 h2 => Rat.le_trans h2 h1) ((h.2.2.2.1 hst).link E.G.start) out none h.2.1.2.1).1
  | false =>
    rw [(h.2.2.2.2 hst).1]; exact List.Pairwise.nil

theorem og_new (E : Env S Unit Rat) (fuel : Nat) (H0 : NT S Unit → List (Rat × Prog))
    (hpro : ∀ s0, prologue E fuel (St.empty E.G) = some s0 → OInv E H0 s0) :
    OG E fuel H0 (Gen.new E.G) [] :=
  ⟨ginv_new E, ngInv_new E, hinv_new E, (fun h => by cases h), fun _ => ⟨rfl, hpro⟩⟩

/-! ### the prologue establishes the order invariant

The first queries of the prologue establish the order invariant from the state built by `__init_heap__`, provided
every argument of an initial program is what its non-terminal pops first (`Base`). -/

theorem firstQueries_order {E : Env S Unit Rat} {rank} (H : OrdHyp E rank) {H0 : NT S Unit → List (Rat × Prog)}
    (fuel : Nat) :
    ∀ (nts : List (NT S Unit)) (s s' : St S Unit Rat), SInv E s → NInv s → HInv E s → OInv E H0 s →
      firstQueries E fuel nts s = some s' → OInv E H0 s' := fun nts s s' hs hn hh ho h =>
  (firstQueries_rel
    (R := fun s s' => SInv E s ∧ NInv s ∧ HInv E s ∧ OInv E H0 s → SInv E s' ∧ NInv s' ∧ HInv E s' ∧ OInv E H0 s')
    (fun _ h => h) (fun f g h => g (f h))
    (fun s nt s' r hq ⟨hs, hn, hh, ho⟩ =>
      have hb := big_of_query E hq
      ⟨(big_sound E hb hs trivial).1, (big_nodup E hb hn trivial).1, big_heaps E H.weak hb hh,
        (big_order H hb hs hn hh ho trivial trivial (by intro x hx; cases hx)).1⟩)
    nts s s' h ⟨hs, hn, hh, ho⟩).2.2.2

theorem preHeaps_invs {E : Env S Unit Rat} (w : Heapq.WeakOrder E.ops.lt) (hnd : RowsNodup E.G) (fuel : Nat)
    (s s3 : St S Unit Rat) (hs : SInv E s) (hm : MInv E s) (hn : NInv s) (hh : HInv E s)
    (h : preHeaps E fuel s = some s3) : SInv E s3 ∧ NInv s3 ∧ HInv E s3 := by
  obtain ⟨s1, s2, h1, h2, h⟩ := preHeaps_iff.mp h
  obtain ⟨hm1, f1⟩ := initNT_sound E hnd hm h1
  obtain ⟨hm2, f2⟩ := reevaluate_sound E hnd fuel _ _ _ hm1 h2
  exact ⟨(initHeaps_sound E _ _ _ (f2.sinv (f1.sinv hs hm1.cache_ok) hm2.cache_ok) hm2 h).1,
    (initHeaps_ninv E _ _ _ (f2.ninv (f1.ninv hn)) h).1,
    initHeaps_hinv E w _ _ _ (f2.hinv (f1.hinv hh)) h⟩

theorem prologue_order {E : Env S Unit Rat} {rank} (H : OrdHyp E rank) (hnd : RowsNodup E.G) (fuel : Nat)
    (hbase : ∀ s3, preHeaps E fuel (St.empty E.G) = some s3 → Base E s3) :
    ∀ s0, prologue E fuel (St.empty E.G) = some s0 → ∃ H0, OInv E H0 s0 := by
  intro s0 hp
  obtain ⟨s3, h3, hp⟩ := prologue_iff.mp hp
  have hg := ginv_new E
  obtain ⟨hs3, hn3, hh3⟩ := preHeaps_invs H.weak hnd fuel _ _ hg.1 (hg.2 rfl) (ninv_empty E.G) (hinv_new E) h3
  exact ⟨s3.heapOf, firstQueries_order H fuel _ _ _ hs3 hn3 hh3 (hbase s3 h3).oinv hp⟩

theorem take_sorted_of_pro {E : Env S Unit Rat} {rank} (H : OrdHyp E rank) (hnd : RowsNodup E.G)
    (hf : ∀ p, E.filter p = true) (fuel k : Nat)
    (hpro : ∀ s0, prologue E fuel (St.empty E.G) = some s0 → ∃ H0, OInv E H0 s0)
    (g' : Gen S Unit Rat) (out : List Prog) (b : Bool)
    (h : take E fuel k (Gen.new E.G) [] = some (g', out, b)) :
    out.Pairwise (fun p q => prob E.G E.W q E.G.start ≤ prob E.G E.W p E.G.start) := by
  -- `H0` is known once the prologue has returned; if it does not, `OG` asks nothing of `H0`
  cases hp : prologue E fuel (St.empty E.G) with
  | none =>
    have hpro' : ∀ s0, prologue E fuel (St.empty E.G) = some s0 → OInv E (fun _ => []) s0 := by
      intro s0 h0; rw [hp] at h0; cases h0
    exact (take_order H hnd hf fuel k _ _ _ _ _ (og_new E fuel _ hpro') h).sorted
  | some s0 =>
    obtain ⟨H0, ho⟩ := hpro s0 hp
    have hpro' : ∀ s0', prologue E fuel (St.empty E.G) = some s0' → OInv E H0 s0' := by
      intro s0' h0; rw [hp] at h0; cases h0; exact ho
    exact (take_order H hnd hf fuel k _ _ _ _ _ (og_new E fuel _ hpro') h).sorted

/-! ### (I3) -/

/-- only a fact of the second kind (heap exhausted) can be lost, and only to an `__add_successors__` for the
    non-terminal of the argument -/
theorem Fact.stable {E : Env S Unit Rat} {c : Call S Unit} {s s' : St S Unit Rat} {r : Option Prog}
    (hb : Big E c s s' r) (hn : NInv s) (hpre : NPre c s)
    {nt : NT S Unit} {F : Sym} {args : List Prog} {i : Nat} {a : Ty × S} {ai : Prog}
    (hf : Fact s nt F args i a ai) (hna : ¬ c.addsAt (argNT a)) : Fact s' nt F args i a ai :=
  HG.Fact.keep hf ⟨(big_nodup E hb hn hpre).2.1, HG.big_seenMono E hb, fun he => big_emptyStable E hb hn hpre _ he hna⟩

theorem DoneFrom.stable {E : Env S Unit Rat} {c : Call S Unit} {s s' : St S Unit Rat} {r : Option Prog}
    (hb : Big E c s s' r) (hn : NInv s) (hpre : NPre c s) {nt : NT S Unit} {y : Prog} {i0 : Nat}
    (hd : DoneFrom E s nt y i0)
    (hna : ∀ F args ra, y = .node F args → E.G.rule? nt F = some (ra, ()) → ∀ a ∈ ra, ¬ c.addsAt (argNT a)) :
    DoneFrom E s' nt y i0 := by
  intro F args ra hy hr i a ai hi ha hai
  exact (hd F args ra hy hr i a ai hi ha hai).stable hb hn hpre (hna F args ra hy hr a (List.mem_of_getElem? ha))

/-- `HG.big_i3T` where nothing is rejected: a popped program is an entry of a table, under one key only -/
theorem big_i3 {E : Env S Unit Rat} {rank} (H : OrdHyp E rank) {H0 : NT S Unit → List (Rat × Prog)}
    {c : Call S Unit} {s s' : St S Unit Rat} {r : Option Prog} (hb : Big E c s s' r) :
    Full E H0 s → SPre E c → NPre c s → OPre E H0 c s → I3Post E c s s' := by
  intro hf h1 h2 h3
  obtain ⟨t, hops⟩ := H.ops
  obtain ⟨hfT, hd⟩ := (Full.iffT hops).mp hf
  have h3T := (OPre.iffT hops).mp h3
  have co := HG.big_coreT (H.ordLaw hops) hb hfT h1 h2 h3T
  obtain ⟨a1, a2⟩ := HG.big_i3T (H.ordLaw hops) hb hfT (Or.inl hd) (Or.inr hd) h1 h2 h3T
  refine ⟨fun nt k v hk => ?_, by cases c <;> exact a2⟩
  rcases a1 nt v (Or.inl ⟨k, hk⟩) with (⟨k', hk'⟩ | ⟨_, _, hdel, _⟩) | hdone
  · rw [co.full.ninv.succ_inj nt k k' v hk (co.stable nt k' v hk')]; exact Or.inl hk'
  · rw [hd] at hdel; cases hdel
  · exact Or.inr hdone

/-! ### completeness of an exhausted non-terminal (DESIGN B.2) -/

/-- the tables of a state without their order (every program is "not worse" than every other): enough for an exhausted
    non-terminal; `chainOf nt` is the whole chain of `succ[nt]` -/
def sysOf (E : Env S Unit Rat) (rank : NT S Unit → Nat) (s : St S Unit Rat) (chainOf : NT S Unit → List Prog) :
    Frontier.Sys (NT S Unit) where
  rank := rank
  Mem nt y := gen E.G y nt = true
  le _ _ _ := True
  Alt nt F v := ∃ ra, E.G.rule? nt F = some (ra, ()) ∧ v = ra.map argNT
  popped := HG.Rec s
  pos nt x := (chainOf nt).idxOf x
  len nt := (chainOf nt).length
  heap nt p := p ∈ s.heapProgs nt
  seen nt p := p ∈ s.seenOf nt

theorem quiet_sysOf {E : Env S Unit Rat} {rank} (H : OrdHyp E rank) (hcl : Closed E.G) {H0} {s : St S Unit Rat}
    (Q : Quiet E H0 s) {chainOf : NT S Unit → List Prog} (C : ∀ nt, HG.FullChain (s.succOf nt) (chainOf nt)) :
    Frontier.Quiet (sysOf E rank s chainOf) where
  mem_node := by
    intro nt F b hg
    change gen E.G (.node F b) nt = true at hg
    rw [gen] at hg
    cases hr : E.G.rule? nt F with
    | none => simp [hr] at hg
    | some rl =>
      obtain ⟨ra, u⟩ := rl
      cases u
      simp only [hr] at hg
      refine ⟨ra.map argNT, ⟨ra, hr, rfl⟩, by rw [List.length_map]; exact genList_length' E.G b ra hg, ?_⟩
      intro j bj sj hbj hsj
      obtain ⟨a, ha, rfl⟩ := HG.getElem?_map_argNT hsj
      exact genList_get E.G b ra j bj a hg hbj ha
  acyclic := by
    rintro nt F v ⟨ra, hr, rfl⟩ sj hsj
    obtain ⟨a, ha, rfl⟩ := List.mem_map.mp hsj
    exact H.acyclic nt F ra hr a ha
  le_trans := fun _ _ _ => trivial
  le_pos := fun _ _ _ => trivial
  mono := fun _ _ _ _ _ _ => trivial
  heap_le := fun _ _ => trivial
  pos_inj := fun {nt x y} hx hy h => idxOf_inj _ x y (((C nt).mem x).mp hx) (((C nt).mem y).mp hy) h
  pos_lt := fun {nt x} hx => List.idxOf_lt_length_iff.mpr (((C nt).mem x).mp hx)
  initial := by
    rintro nt F v ⟨ra, hr, rfl⟩ _
    obtain ⟨ms, hseen, hfp⟩ := Q.init_seen nt F ra hr
    have hg := Q.full.sinv.seen_gen nt _ hseen
    rw [gen, hr] at hg
    refine ⟨ms, hseen, by rw [List.length_map]; exact genList_length' E.G ms ra hg, ?_⟩
    intro j aj sj haj hsj
    obtain ⟨a, ha, rfl⟩ := HG.getElem?_map_argNT hsj
    -- the non-terminal of the argument has a row, so it has started: its sentinel entry is the first pop
    have hsome := hcl nt F ra hr a (List.mem_of_getElem? ha)
    cases hrow : AList.lookup (argNT a) E.G.rules with
    | none => rw [hrow] at hsome; cases hsome
    | some rs =>
      have hT := TInv.iffG.mp Q.tinv
      have hnf := hT.none_first _ (Q.started _ rs hrow)
      cases hl : AList.lookup none (s.succOf (argNT a)) with
      | none => rw [hl] at hnf; cases hnf
      | some v0 =>
        obtain ⟨e, h', hpop, he⟩ := hT.first_val _ v0 hl
        have : e.2 = aj := hfp j a aj ha haj e h' hpop
        rw [he] at this; subst this
        exact ⟨⟨none, hl⟩, (C _).idx_first hl⟩
  cover := by
    intro nt p hseen
    rcases Q.cinv.seen_cover nt p hseen with h | h
    · exact Or.inl h
    · exact Or.inr (Or.inl h)
  succs := by
    rintro nt F v a ⟨ra, hr, rfl⟩ hla hpop hseen hnheap _ j aj sj haj hsj
    obtain ⟨a', ha', rfl⟩ := HG.getElem?_map_argNT hsj
    rcases Q.cinv.seen_cover nt _ hseen with h | ⟨k, hk⟩
    · exact absurd h hnheap
    · have hin := ((C _).mem aj).mp (hpop j aj _ haj hsj)
      rcases Q.i3 nt k _ hk F a ra rfl hr j a' aj (Nat.zero_le _) ha' haj with ⟨z, hz, hzs⟩ | ⟨hnone, hemp⟩
      · exact Or.inl ⟨z, ⟨_, hz⟩, (C _).idx_next hin hz, hzs⟩
      · refine Or.inr ⟨(C _).idx_last hin hnone, fun e he => ?_⟩
        have he' : e ∈ s.heapProgs (argNT a') := he
        rw [St.heapProgs_of_heapOf hemp] at he'; cases he'

/-- the frontier theorem `PS.Frontier.front` for the tables without their order -/
theorem exhausted_complete {E : Env S Unit Rat} {rank} (H : OrdHyp E rank) (hcl : Closed E.G) {H0}
    {s : St S Unit Rat} (Q : Quiet E H0 s) :
    ∀ (r : Nat) (nt : NT S Unit), rank nt = r → s.heapOf nt = [] →
      ∀ p, gen E.G p nt = true → ∃ k, AList.lookup k (s.succOf nt) = some p := by
  intro r nt hrk hempty p hg
  obtain ⟨chainOf, C⟩ := Classical.axiomOfChoice (HG.exists_fullChain (TInv.iffG.mp Q.tinv) Q.full.ninv.succ_inj)
  rcases Frontier.front _ (quiet_sysOf H hcl Q C) r nt hrk p hg with h | ⟨e, he, _⟩
  · exact h
  · have he' : e ∈ s.heapProgs nt := he
    rw [St.heapProgs_of_heapOf hempty] at he'; cases he'

/-! ### best-first order of the yielded sequence -/

/-- the order clause (I1) of the quiescent invariants of the generic development (`HG.preHeaps_quiet`), read in a
    state where no enumeration has started -/
theorem preHeaps_base (E : Env S Unit Rat) (rank : NT S Unit → Nat) (H : InitHyp E rank)
    (w : Heapq.WeakOrder E.ops.lt) (hk : (AList.keys E.G.rules).Nodup) (fuel : Nat) :
    ∀ s3, preHeaps E fuel (St.empty E.G) = some s3 → Base E s3 := by
  intro s3 h
  obtain ⟨q, _, _, hns⟩ := HG.preHeaps_quiet (Good := fun _ => True)
    ⟨w.on _, fun _ _ _ _ => trivial, fun _ _ => trivial⟩ H.toG hk fuel s3 h
  refine ⟨hns, fun nt F args ra hm hr i ai a hai ha => ?_⟩
  rcases q.full.oinv.args nt F args ra hm hr i ai a hai ha with ⟨k, hk'⟩ | ⟨_, hfp⟩
  · rw [hns] at hk'; simp [AList.lookup] at hk'
  · exact hfp

/-- heap search on an acyclic context-free grammar, with any threshold -/
theorem take_sorted (E : Env S Unit Rat) (rank : NT S Unit → Nat) (H : OrdHyp E rank) (HI : InitHyp E rank)
    (hk : (AList.keys E.G.rules).Nodup) (hf : ∀ p, E.filter p = true)
    (fuel k : Nat) (g' : Gen S Unit Rat) (out : List Prog) (b : Bool)
    (h : take E fuel k (Gen.new E.G) [] = some (g', out, b)) :
    out.Pairwise (fun p q => prob E.G E.W q E.G.start ≤ prob E.G E.W p E.G.start) :=
  take_sorted_of_pro H HI.rows hf fuel k
    (prologue_order H HI.rows fuel (preHeaps_base E rank HI H.weak hk fuel)) g' out b h

theorem initHeaps_maxRule (E : Env S Unit Rat) :
    ∀ (rows : List (NT S Unit × AList Sym (List (Ty × S) × Unit))) (s s' : St S Unit Rat),
      initHeaps E rows s = some s' → s'.maxRule = s.maxRule :=
  initHeaps_rel (R := fun s s' => s'.maxRule = s.maxRule) (fun _ => rfl) (fun f g => g.trans f)
    (fun nt => initHeapLoop_rel (R := fun s s' => s'.maxRule = s.maxRule) (fun _ => rfl) (fun f g => g.trans f)
      fun s _ prog _ _ => (pushNew_maxRule E s nt prog).1)

/-! ### totality, completeness and termination

Heap search without filter and threshold (`CompHyp`; `dropDeleted` is free: `__add_successors__` before and after
repair 53c3acb) as an instance of the run-level theorems for an arbitrary priority type. -/

/-- `HG.query_totalT` where nothing is rejected (`Dm := 0`) -/
theorem query_total {E : Env S Unit Rat} {rank} (H : OrdHyp E rank) {H0 : NT S Unit → List (Rat × Prog)}
    {A : Nat} (hA : ArityLe E.G A) :
    ∀ R, ChildTotal E rank H0 R (R * (A + 5)) := by
  intro R nt hrk n hn s p hf hpre
  obtain ⟨t, hops⟩ := H.ops
  obtain ⟨hfT, hd⟩ := (Full.iffT hops).mp hf
  exact HG.query_totalT (H.ordLaw hops) (Dm := 0) hA R nt hrk n hn s p hfT (by rw [hd]; exact Nat.le_refl _)
    ((OPre.iffT hops).mp hpre)

theorem prologue_total (E : Env S Unit Rat) (rank : NT S Unit → Nat) (C : CompHyp E rank)
    (hstart : E.G.start ∈ AList.keys E.G.rules) (fuel : Nat) (hfuel : enoughFuel E.G rank ≤ fuel) :
    ∃ s0, prologue E fuel (St.empty E.G) = some s0 :=
  HG.prologue_totalG (C.ord.law C.thr) C.init.toG C.wtotal C.keys C.closed hstart fuel hfuel

theorem take_complete (E : Env S Unit Rat) (rank : NT S Unit → Nat) (C : CompHyp E rank) (fuel k : Nat)
    (g' : Gen S Unit Rat) (out : List Prog) (h : take E fuel k (Gen.new E.G) [] = some (g', out, true)) :
    ∀ p, contains E.G p = true → p ∈ out := fun p hp =>
  have hg : gen E.G p E.G.start = true := contains_eq_gen E.G p ▸ hp
  HG.take_stop_complete C.allW fuel k g' out h p _ hg (HG.clean_of_all _ C.nofilter p)
    (prioSpec_member C.ord C.wtotal hg) (HG.pushOK_none E C.thr _)

theorem take_stops (E : Env S Unit Rat) (rank : NT S Unit → Nat) (C : CompHyp E rank) (fuel : Nat)
    (hfuel : (rank E.G.start + 1) * (maxArity E.G + 5) ≤ fuel)
    (hpro : prologue E fuel (St.empty E.G) ≠ none) :
    ∃ k g' out, take E fuel k (Gen.new E.G) [] = some (g', out, true) :=
  HG.take_stopsW C.allW (Dm := 0) (Or.inl C.nofilter) fuel hfuel hpro

/-- Termination of heap search on acyclic context-free grammars: some `take` ends with the flag `true`. Nothing is
    said here about the list `out`. -/
theorem take_total (E : Env S Unit Rat) (rank : NT S Unit → Nat) (C : CompHyp E rank)
    (hstart : E.G.start ∈ AList.keys E.G.rules) (fuel : Nat) (hfuel : enoughFuel E.G rank ≤ fuel) :
    ∃ k g' out, take E fuel k (Gen.new E.G) [] = some (g', out, true) := by
  obtain ⟨s0, hp⟩ := prologue_total E rank C hstart fuel hfuel
  apply take_stops E rank C fuel ?_ (by rw [hp]; simp)
  have hlt := rankLt_maxRank E.G rank E.G.start hstart
  unfold enoughFuel at hfuel
  have h1 : (rank E.G.start + 1) * (maxArity E.G + 5) ≤ maxRank E.G rank * (maxArity E.G + maxRow E.G + 5) :=
    Nat.mul_le_mul (by omega) (by omega)
  omega

end PS.HS
