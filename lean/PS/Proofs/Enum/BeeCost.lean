/- Bee search: costs along the successor forest.  An ancestor combination is pointwise smaller, hence (increasing
   cost list) cheaper; every pending combination's PARENT has a cost that is in the cost list (it was popped in the
   round of that cost); hence every expanded combination costs at most the largest entry of the cost list; a
   combination that uses the index of the current round's cost at an argument position costs strictly more than
   that cost when rules with arguments cost > 0. -/
import PS.Proofs.Enum.BeeOrder
import PS.Proofs.Enum.BeePend
namespace PS.Bee
open PS PS.G

variable {S : Type} [DecidableEq S]
set_option linter.unusedSectionVars false
set_option linter.unusedSimpArgs false

theorem realCostLoop_defined (cl : List Int) (idx idx' : List Nat) (hle : Le idx idx') :
    ∀ (k i : Nat) (out out' c' : Int), realCostLoop cl idx' i k out' = some c' → ∃ c, realCostLoop cl idx i k out = some c := by
  intro k i out out' c' h
  refine ⟨_, (realCostLoop_iff cl idx k i out _).mpr ⟨fun j h1 h2 => ?_, rfl⟩⟩
  obtain ⟨b, hb, hbl⟩ := ((realCostLoop_iff cl idx' k i out' c').mp h).1 j h1 h2
  have hjl : j < idx.length := by rw [hle.1]; exact (List.getElem?_eq_some_iff.mp hb).1
  exact ⟨_, List.getElem?_eq_getElem hjl, Nat.lt_of_le_of_lt (hle.2 j _ b (List.getElem?_eq_getElem hjl) hb) hbl⟩

theorem realCost_le (E : Env S) (cl : List Int) (hm : cl.Pairwise (· < ·)) (nt : NT S Unit) (P : Sym) (d u : List Nat)
    (hle : Le d u) (x : Int) (hu : realCost E cl nt P u = some x) : ∃ y, realCost E cl nt P d = some y ∧ y ≤ x := by
  obtain ⟨w, args, hw, ha, hu⟩ := realCost_eq_some.mp hu
  rw [realCost_of_rule hw ha]
  obtain ⟨y, hy⟩ := realCostLoop_defined cl d u hle _ 0 w w x hu
  exact ⟨y, hy, realCostLoop_mono cl d u (pairwise_mono cl hm) hle.2 _ _ _ _ _ _ (Int.le_refl _) hy hu⟩

theorem parent_le (u : List Nat) (h : CD.nonzero u = true) : Le (CD.parent u) u :=
  succs_le _ _ (CD.succs_cover u h)

def PSt (E : Env S) (s : St S) : Prop :=
  ∀ nt P u, u ∈ pend s nt P → CD.nonzero u = true →
    ∃ x, realCost E s.costList nt P (CD.parent u) = some x ∧ x ∈ s.costList

theorem done_cost (E : Env S) (s : St S) (hp : PSt E s) (hm : s.costList.Pairwise (· < ·)) (nt : NT S Unit) (P : Sym)
    (d : List Nat) (h : ∃ u ∈ pend s nt P, Anc d u) :
    ∃ y x, realCost E s.costList nt P d = some y ∧ x ∈ s.costList ∧ y ≤ x := by
  obtain ⟨u, hu, ha⟩ := h
  obtain ⟨x, hx, hxin⟩ := hp nt P u hu ha.nonzero
  have hle : Le d (CD.parent u) := by
    rcases ha.into_succ (CD.succs_cover u ha.nonzero) with h1 | h1
    · rw [h1]; exact Le.refl _
    · exact h1.le
  obtain ⟨y, hy, hyx⟩ := realCost_le E s.costList hm nt P d _ hle x hx
  exact ⟨y, x, hy, hxin, hyx⟩

def PosArgs (E : Env S) : Prop :=
  ∀ nt P args w, ruleArgs E nt P = some args → args ≠ [] → ruleCost E nt P = some w → 0 < w

theorem posArgs_of_check (E : Env S) (h : posArgCosts E = true) : PosArgs E := by
  intro nt P args w ha hne hw
  obtain ⟨rs, rl, hl, hr, rfl⟩ := ruleArgs_mem ha
  unfold posArgCosts at h
  have h2 := List.all_eq_true.mp (List.all_eq_true.mp h _ hl) _ hr
  simp only [Bool.or_eq_true, List.isEmpty_iff, decide_eq_true_eq] at h2
  rcases h2 with h2 | h2
  · exact absurd h2 hne
  · simpa [hw] using h2

theorem realCost_gt (E : Env S) (hpos : PosArgs E) (cl : List Int) (hnn : ∀ x ∈ cl, 0 ≤ x) (nt : NT S Unit) (P : Sym)
    (args : List (Ty × S)) (ha : ruleArgs E nt P = some args) (d : List Nat) (y : Int)
    (hy : realCost E cl nt P d = some y) (i v : Nat) (hi : i < args.length) (hv : d[i]? = some v) (c : Int)
    (hc : cl[v]? = some c) : c < y := by
  obtain ⟨w, hw, hy⟩ := (realCost_eq_some_of_args ha).mp hy
  have := (realCostLoop_lower cl d hnn _ _ _ _ hy).2 i v c (Nat.zero_le _) (by omega) hv hc
  have hw0 := hpos nt P args w ha (by intro e; rw [e] at hi; simp at hi) hw
  omega

end PS.Bee
