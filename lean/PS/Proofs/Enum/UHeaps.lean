/- Every heap of the heap search on unambiguous grammars (the heaps of the non-terminals and the
   start heap) satisfies heapq's invariant in every reachable state: any grammar, any strict weak
   order of priorities, with or without filter.  Then the same when `<` is a strict weak order only on the
   priorities of derivations (bucket search: tuples of one length): every stored priority is the priority of a
   derivation (soundness invariant), so the heap operations are used inside the good set.  The order proofs rest on the
   second half only; the first is what `C03_HS_U_heaps_valid` and `C03_HS_U_query_heaps` state, without any hypothesis on
   the grammar. -/
import PS.Proofs.Enum.Orders
import PS.Proofs.Enum.UNodupRun
import PS.Proofs.Enum.UOrder
namespace PS.UHS
open PS PS.G

set_option linter.unusedSectionVars false
variable {U π : Type} [DecidableEq U]

theorem ltE_weakOrder (ops : Prio π) (w : Heapq.WeakOrder ops.lt) : Heapq.WeakOrder (ltE ops) :=
  w.comap Prod.fst
theorem ltS_weakOrder (ops : Prio π) (w : Heapq.WeakOrder ops.lt) : Heapq.WeakOrder (ltS (U := U) ops) :=
  w.comap Prod.fst

theorem big_heapsOnly (E : Env U π) (hk : E.kway = true) (P : St U π → Prop)
    (hcongr : ∀ s s' : St U π, (∀ nt, s'.heapOf nt = s.heapOf nt) → P s → P s')
    (hpop : ∀ (s : St U π) nt e h', P s → Heapq.pop (ltE E.ops) (s.heapOf nt) = some (e, h') → P (s.setHeap nt h'))
    (hpush : ∀ (s : St U π) nt x, P s → P (s.setHeap nt (Heapq.push (ltE E.ops) (s.heapOf nt) x)))
    {c : Call U π} {s s' : St U π} {r : Res π} (hb : Big E c s s' r) : P s → P s' := by
  have hpb : ∀ (s s2 : St U π) nt p pr, CacheStep s s2 → P s → P (pushBoth E s2 nt pr p) := by
    intro s s2 nt p pr hcs h
    have h2 : P s2 := hcongr _ _ hcs.heapOf h
    rw [pushBoth_kway E hk]
    split
    · exact hpush s2 nt _ h2
    · exact h2
  refine Big.rel (R := fun s s' => P s → P s') (fun _ h => h) (fun h1 h2 h => h2 (h1 h)) (fun hp h => hpop _ _ _ _ h hp)
    (fun s _ _ _ => hcongr s _ (fun _ => rfl)) ?_ (fun s _ => hcongr s _ (fun _ => rfl)) ?_ ?_ hb
  · intro s F args nt v i r s3 hp h
    rcases pushStep_eq hp with ⟨rfl, _⟩ | ⟨q, s2, pr, _, _, hcp, rfl⟩
    · exact h
    · exact hpb _ _ _ _ _ (computePrio_step E hcp) (hcongr s _ (fun _ => rfl) h)
  · intro s nt m l s3 hp h
    exact initPush_induct (I := P) (fun {s1 _ _ _ _ _} h _ _ hcp _ =>
      hpb _ _ _ _ _ (computePrio_step E hcp) (hcongr s1 _ (fun _ => rfl) h)) l
      (hcongr s { s with maxNT := AList.insert nt m s.maxNT } (fun _ => rfl) h) hp
  · intro s nt P' args v s3 pr hc h
    exact hcongr s3 _ (fun _ => rfl) (hcongr _ s3 (computePrio_step E hc).heapOf (hcongr s _ (fun _ => rfl) h))

def HInv (E : Env U π) (s : St U π) : Prop :=
  (∀ nt, Heapq.IsHeap (ltE E.ops) (s.heapOf nt)) ∧ Heapq.IsHeap (ltS E.ops) s.startHeap

def HInvN (E : Env U π) (s : St U π) : Prop := ∀ nt, Heapq.IsHeap (ltE E.ops) (s.heapOf nt)

theorem HInvN.congr {E : Env U π} {s s' : St U π} (h : HInvN E s) (he : ∀ nt, s'.heapOf nt = s.heapOf nt) : HInvN E s' :=
  fun nt => he nt ▸ h nt

theorem HInvN.setHeap {E : Env U π} {s : St U π} (h : HInvN E s) {nt : UNT U} {h' : List (π × Prog)}
    (hh : Heapq.IsHeap (ltE E.ops) h') : HInvN E (s.setHeap nt h') := by
  intro nt'
  rw [St.heapOf_setHeap]
  split
  · exact hh
  · exact h nt'

theorem big_heaps (E : Env U π) (hk : E.kway = true) (w : Heapq.WeakOrder E.ops.lt) {c : Call U π} {s s' : St U π}
    {r : Res π} (hb : Big E c s s' r) : HInvN E s → HInvN E s' :=
  big_heapsOnly E hk (HInvN E) (fun _ _ he h => h.congr he)
    (fun _ nt _ _ h hp => h.setHeap (Heapq.pop_isHeap (ltE_weakOrder E.ops w) _ _ _ (h nt) hp).1)
    (fun _ nt _ h => h.setHeap (Heapq.push_isHeap (ltE_weakOrder E.ops w) _ _ (h nt))) hb

theorem big_hinv (E : Env U π) (hk : E.kway = true) (w : Heapq.WeakOrder E.ops.lt) {c : Call U π} {s s' : St U π}
    {r : Res π} (hb : Big E c s s' r) (h : HInv E s) : HInv E s' :=
  ⟨big_heaps E hk w hb h.1, by rw [big_startHeap E hk hb]; exact h.2⟩

theorem HInv.pushNext {E : Env U π} (hk : E.kway = true) (w : Heapq.WeakOrder E.ops.lt) {fuel : Nat} {s s' : St U π}
    {start : UNT U} {p : Option Prog} (h : HInv E s) (hp : pushNext E fuel s start p = some s') : HInv E s' := by
  obtain ⟨s1, r, hq, hr⟩ := pushNext_eq hp
  have h1 := big_hinv E hk w (big_of_query E hq) h
  rcases hr with ⟨_, rfl⟩ | ⟨q, s2, pr, w', rfl, hcp, hw, rfl⟩
  · exact h1
  · obtain ⟨c, rfl⟩ := computePrio_step E hcp
    exact ⟨h1.1, Heapq.push_isHeap (ltS_weakOrder E.ops w) _ _ h1.2⟩

theorem HInv.pushNexts {E : Env U π} (hk : E.kway = true) (w : Heapq.WeakOrder E.ops.lt) {fuel : Nat}
    (l : List (UNT U)) {s s' : St U π} (h : HInv E s) (hp : pushNexts E fuel l s = some s') : HInv E s' :=
  pushNexts_induct (fun _ s => HInv E s) (fun h h1 => h.pushNext hk w h1) l h hp

theorem HInv.kwayLoop {E : Env U π} (hk : E.kway = true) (w : Heapq.WeakOrder E.ops.lt) {fuel : Nat}
    (k : Nat) {s s' : St U π} {r : Option Prog} (h : HInv E s) (hp : kwayLoop E fuel k s = some (s', r)) : HInv E s' :=
  (kwayLoop_induct (fun s => HInv E s) (fun {s _ _ h'} h hpop hpn => HInv.pushNext hk w
    (s := { s with startHeap := h' }) ⟨h.1, (Heapq.pop_isHeap (ltS_weakOrder E.ops w) _ _ _ h.2 hpop).1⟩ hpn) k h hp).1

theorem HInv.startQuery {E : Env U π} (hk : E.kway = true) (w : Heapq.WeakOrder E.ops.lt) {fuel : Nat} {s s1 : St U π}
    {r : Option Prog} (h : HInv E s) (hq : startQuery E fuel s = some (s1, r)) : HInv E s1 := by
  obtain ⟨s0, ⟨_, h0⟩ | ⟨_, rfl⟩, hl⟩ := startQuery_kway hk hq
  · exact HInv.kwayLoop hk w fuel (h.pushNexts hk w _ h0) hl
  · exact HInv.kwayLoop hk w fuel h hl

theorem HInv.next {E : Env U π} (hk : E.kway = true) (w : Heapq.WeakOrder E.ops.lt) {fuel : Nat} (k : Nat)
    {s s' : St U π} {r : Option Prog} (h : HInv E s) (hp : next E fuel k s = some (s', r)) : HInv E s' :=
  (next_induct (fun s => HInv E s) (fun h hq => h.startQuery hk w hq)
    (fun {s} p h => by obtain ⟨d, hd⟩ := St.addDeleted_eq s p; rw [hd]; exact h) k h hp).1

theorem hinv_empty (E : Env U π) : HInv E (St.empty E.G) :=
  ⟨fun nt => by rw [St.empty_heapOf]; exact Heapq.isHeap_nil _, Heapq.isHeap_nil _⟩

/-! ### a strict weak order on the priorities of derivations only -/

variable {E : Env U π} {rank : UNT U → Nat} {Good : π → Prop}

theorem ltE_weakOrderOn (H : OHyp E rank Good) : Heapq.WeakOrderOn (fun e : π × Prog => Good e.1) (ltE E.ops) :=
  ⟨fun a b h => H.weak.asymm a.2 b.2 h, fun a b c h1 h2 => H.weak.ntrans a.2 b.2 c.2 h1 h2⟩
theorem ltS_weakOrderOn (H : OHyp E rank Good) :
    Heapq.WeakOrderOn (fun e : π × Prog × UNT U => Good e.1) (ltS E.ops) :=
  ⟨fun a b h => H.weak.asymm a.2 b.2 h, fun a b c h1 h2 => H.weak.ntrans a.2 b.2 c.2 h1 h2⟩

theorem heap_good (H : OHyp E rank Good) {s : St U π} (hs : SInv E s) (nt : UNT U) : ∀ e, e ∈ s.heapOf nt → Good e.1 :=
  fun e he => hasPrio_good H _ _ _ (hs.heap_prio nt e he)

theorem foldl_push_isHeap_on {α : Type} {P : α → Prop} {lt : α → α → Bool} (w : Heapq.WeakOrderOn P lt) :
    ∀ (l h : List α), (∀ y ∈ h, P y) → (∀ y ∈ l, P y) → Heapq.IsHeap lt h → Heapq.IsHeap lt (l.foldl (Heapq.push lt) h) :=
  fun l h hP hl hh => (Heapq.foldl_push_on w l h hP hl hh).2

theorem foldl_push_head_on' {α : Type} {P : α → Prop} {lt : α → α → Bool} (w : Heapq.WeakOrderOn P lt) :
    ∀ (l h : List α), (∀ y ∈ h, P y) → (∀ y ∈ l, P y) → Heapq.IsHeap lt h →
      (l.foldl (Heapq.push lt) h).head? = l.foldl (Heapq.bestStep lt) h.head? :=
  fun l h hP hl hh => (Heapq.foldl_push_on w l h hP hl hh).1

theorem HInvN.pop_on (H : OHyp E rank Good) {s : St U π} (hs : SInv E s) (h : HInvN E s) (nt : UNT U) (e : π × Prog)
    (h' : List (π × Prog)) (hp : Heapq.pop (ltE E.ops) (s.heapOf nt) = some (e, h')) :
    HInvN E (s.setHeap nt h') ∧ ∀ y, y ∈ s.heapOf nt → E.ops.lt y.1 e.1 = false := by
  obtain ⟨a, b⟩ := Heapq.pop_isHeap_on (ltE_weakOrderOn H) _ _ _ (heap_good H hs nt) (h nt) hp
  exact ⟨h.setHeap a, b⟩

theorem HInvN.pushBoth_on (H : OHyp E rank Good) {s : St U π} (hs : SInv E s) (h : HInvN E s) (nt : UNT U) (pr : π)
    (p : Prog) (hp : HasPrio E p nt pr) : HInvN E (pushBoth E s nt pr p) := by
  rw [pushBoth_kway E H.ghyp.kway]
  split
  · exact h.setHeap (Heapq.push_isHeap_on (ltE_weakOrderOn H) _ _ (heap_good H hs nt) (hasPrio_good H _ _ _ hp) (h nt))
  · exact h

theorem HInvN.newPush_on (H : OHyp E rank Good) {s s2 : St U π} (hs : SInv E s) (h : HInvN E s) {nt : UNT U} {p : Prog}
    {pr : π} (hd : Der E p nt) (hcp : computePrio E s nt p = some (s2, pr)) : HInvN E (pushBoth E s2 nt pr p) := by
  obtain ⟨hpr, h2, hcs⟩ := hs.computePrio H.ghyp nt p hd s2 pr hcp
  exact HInvN.pushBoth_on H h2 (h.congr hcs.heapOf) nt pr p hpr

theorem HInvN.pushStep_on (H : OHyp E rank Good) {s s' : St U π} (hs : SInv E s) (h : HInvN E s) (F : Sym) (args : List Prog)
    (nt : UNT U) (v : List (UNT U)) (i : Nat) (r : Option Prog) (hk : ∀ q, r = some q → KeyOK E nt F (args.set i q) v)
    (hp : pushStep E s F args nt v i r = some s') : HInvN E s' := by
  rcases pushStep_eq hp with ⟨rfl, _⟩ | ⟨q, s2, pr, rfl, _, hcp, rfl⟩
  · exact h
  · have hko := hk q rfl
    exact HInvN.newPush_on H ((hs.addSeen nt _ hko.der).setKey nt F _ v hko) h hko.der hcp

theorem HInvN.initPush_on (H : OHyp E rank Good) (nt : UNT U) (l : List (Sym × List (UNT U))) {s s' : St U π}
    (hs : SInv E s) (h : HInvN E s) (hp : initPush E s nt l = some s') : HInvN E s' :=
  (initPush_induct (I := fun s => SInv E s ∧ HInvN E s) (fun {s P v prog _ _} h hm _ hcp _ =>
    have hd := h.1.maxRule_ok nt P v prog hm
    have h1 := h.1.addSeen nt prog hd
    ⟨(h1.newPush H.ghyp hd (mem_addSeen_self s nt prog) hcp).2.2, HInvN.newPush_on H h1 h.2 hd hcp⟩) l ⟨hs, h⟩ hp).2

theorem big_heaps_on (H : OHyp E rank Good) {c : Call U π} {s s' : St U π} {r : Res π}
    (hb : Big E c s s' r) : SInv E s → SPre E c → HInvN E s → HInvN E s' := by
  have hk := H.ghyp.kway
  have HG := H.ghyp
  induction hb with
  | query_direct h hb ih => intro hs _ hi; exact ih hs trivial hi
  | query_init h h0 hb ih0 ih =>
    intro hs _ hi
    exact ih (big_sound E HG h0 hs trivial).1 trivial (ih0 hs trivial hi)
  | lop_hit h => intro _ _ hi; exact hi
  | lop_miss h hb ih => intro hs _ hi; exact ih hs trivial hi
  | pop_empty h => intro _ _ hi; exact hi
  | @pop_deleted s s1 s' nt key e h' x r h hd ha hb iha ihb =>
    intro hs _ hi
    have hs1 : SInv E (s.setHeap nt h') := hs.popDrop h
    exact ihb (big_sound E HG ha hs1 trivial).1 trivial (iha hs1 trivial (hi.pop_on H hs nt e h' h).1)
  | @pop_take s s' nt key e h' x h hd ha iha =>
    intro hs _ hi
    exact iha (hs.popTake h key) trivial (hi.pop_on H hs nt e h' h).1
  | succ_leaf => intro _ _ hi; exact hi
  | succ_fun hk' hb ih => intro hs _ hi; exact ih hs (hs.keys_ok _ _ _ _ hk') hi
  | loop_done => intro _ _ hi; exact hi
  | @loop_step s s1 s3 s' F args nt v i ai si r x hai hsi hq hp hb ihq ihb =>
    intro hs hpre hi
    obtain ⟨hs1, hkq, hs3⟩ := hs.loopStep HG hpre hsi hq hp
    exact ihb hs3 hpre (HInvN.pushStep_on H hs1 (ihq hs trivial hi) F args nt v i r hkq hp)
  | init_skip h => intro _ _ hi; exact hi
  | @init_run s s1 s3 s' nt rs b r h hrs hr hp hq ihr ihq =>
    intro hs _ hi
    obtain ⟨hs0, hpre1, _, hs2, hs3⟩ := hs.initRun HG hrs hr hp
    exact ihq hs3 trivial (HInvN.initPush_on H nt _ hs2 (ihr hs0 hpre1 hi) hp)
  | rules_nil => intro _ _ hi; exact hi
  | @rules_cons s s1 s' nt P alts rest best best1 best' ha hb iha ihb =>
    intro hs hpre hi
    obtain ⟨hpreA, hs1, hpreR⟩ := hs.rulesCons HG hpre ha
    exact ihb hs1 hpreR (iha hs hpreA hi)
  | alts_nil => intro _ _ hi; exact hi
  | @alts_leaf s s1 s3 nt P v w rest best arguments pr ha hc hv iha =>
    intro hs _ hi
    obtain ⟨c, rfl⟩ := computePrio_step E hc
    exact iha hs trivial hi
  | @alts_cons s s1 s3 s' nt P v w rest best arguments pr best' ha hc hv hb iha ihb =>
    intro hs hpre hi
    obtain ⟨_, _, hs2, hpreR⟩ := hs.altsCons HG hpre ha hc
    obtain ⟨c, rfl⟩ := computePrio_step E hc
    exact ihb hs2 hpreR (iha hs trivial hi)
  | args_nil => intro _ _ hi; exact hi
  | args_cons hi' hm hb ihi ihb =>
    intro hs _ hi
    exact ihb (big_sound E HG hi' hs trivial).1 trivial (ihi hs trivial hi)

end PS.UHS
