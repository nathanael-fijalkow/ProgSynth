/- Completeness of beap search: the end of a `query` (`epilogue`): the index is complete, the completed
   region of the non-terminal grows to the appended cost, the frontier clause is restored. -/
import PS.Proofs.Enum.BeapComplRun
namespace PS.Beap
open PS PS.G PS.Heapq
set_option linter.unusedSectionVars false
variable {S : Type} [DecidableEq S] {F : Prog → Bool} {P : Prop}

theorem epilogue_fbe (s : St S) (nt : NT S Unit) (fr : Frame) (h : (!fr.hasGen && !fr.noSucc) = true) :
    (epilogue s nt fr).failedByEmpties = true := by
  unfold epilogue markEmpty
  simp only [h, if_true]
  split <;> rfl

theorem epilogue_k (E : Env S) (s : St S) (nt : NT S Unit) (fr : Frame) (x : Rat) (hw : WInvm E F s) (h4 : E4P P s)
    (hk : FrKm E F s nt fr) (hg : P → HG2 s nt fr) (hpend : fr.pending = []) (hx : fr.cost.fin < x)
    (hne : ∀ e q, s.queueOf nt = e :: q → e.cost ≠ fr.cost) :
    WInvm E F (epilogue s nt fr) ∧ E4P P (epilogue s nt fr) ∧ (∀ S', S' ≠ nt → Same4 s (epilogue s nt fr) S') ∧
    FRP E F P (epilogue s nt fr) nt ∧ IdxDone E F (epilogue s nt fr) nt fr.ci ∧ Ext s (epilogue s nt fr) ∧
    (∀ ci', Entered (epilogue s nt fr) nt ci' → ci' ≤ fr.ci) ∧ (∀ S' ci, (epilogue s nt fr).bankAt S' ci = s.bankAt S' ci) ∧
    (HG2 s nt fr → MK (epilogue s nt fr) nt fr.ci) := by
  obtain ⟨sq, sb, sd, se, sc, scl, sclnt⟩ := epilogue_shape s nt fr
  have hc' := epilogue_cost E s nt fr hw.c
  have hext := epilogue_ext E s nt fr
  obtain ⟨ho', _⟩ := epilogue_oi s nt fr x hw.o hk.fo hx hne
  generalize epilogue s nt fr = s' at *
  have hba : ∀ S' ci, s'.bankAt S' ci = s.bankAt S' ci := fun S' ci => by unfold St.bankAt; rw [sb]
  have hlen := hk.fo.1
  have hci : fr.ci < (s.clOf nt).length := by omega
  have hget : ∀ i e, (s.clOf nt)[i]? = some e → (s'.clOf nt)[i]? = some e := fun i e h => hext.get nt i e h
  have hacc : Acc E F s' nt fun _ => False :=
    (hk.acc (hw.cr nt)).mono (fun el h => by rw [sq]; exact h) (fun ci p h => by rw [hba]; exact h) hext
      (fun p ⟨a, ha, _⟩ => by rw [hpend] at ha; cases ha)
  -- the appended cost is above the cost of the query: read off `OI` of the new state
  have hqlow : ∀ el, el ∈ s'.queueOf nt → fr.cost.fin < el.cost.fin := by
    intro el hel
    rw [sq] at hel
    cases hq : s.queueOf nt with
    | nil => rw [hq] at hel; cases hel
    | cons e q =>
      rw [hq] at sclnt
      have hm := ho'.mono nt
      rw [sclnt] at hm
      exact Std.lt_of_lt_of_le ((List.pairwise_append.mp hm).2.2 fr.cost (List.mem_of_getElem? hk.fo.2) e.cost (List.mem_singleton_self _))
        (ho'.low nt el e.cost (by rw [sq]; exact hel) (by rw [sclnt]; exact List.mem_append_right _ (List.mem_singleton_self _)))
  have hmark : HG2 s nt fr → AList.lookup fr.ci (s.bankOf nt) = some [] → (s'.emptiesOf nt).contains fr.ci = true := by
    intro hg2 hlk
    have hb0 : s.bankAt nt fr.ci = [] := St.bankAt_of_lookup hlk
    have h1 : fr.hasGen = false := by
      cases hh : fr.hasGen with
      | false => rfl
      | true => exact absurd hb0 (hg2 hh)
    have h2 : fr.noSucc = false := hk.ns (by rw [hlk]; rfl)
    rw [sc, h1, h2]; simp
  have hsub : ∀ ci', (s.emptiesOf nt).contains ci' = true → (s'.emptiesOf nt).contains ci' = true := by
    intro ci' h; rw [sc, h]; rfl
  have hcont : ∀ ci', (s'.emptiesOf nt).contains ci' = true →
      (s.emptiesOf nt).contains ci' = true ∨ (ci' = fr.ci ∧ fr.hasGen = false) := by
    intro ci' h
    rw [sc] at h
    simp only [Bool.or_eq_true, Bool.and_eq_true, decide_eq_true_eq, Bool.not_eq_true'] at h
    rcases h with h | ⟨rfl, h1, _⟩
    · exact Or.inl h
    · exact Or.inr ⟨rfl, h1⟩
  have hentd : ∀ S' ci', Entered s' S' ci' → Entered s S' ci' ∨ (S' = nt ∧ ci' = fr.ci) := by
    intro S' ci' h
    unfold Entered at h ⊢
    rw [sb] at h
    rcases h with h | h
    · exact Or.inl (Or.inl h)
    · by_cases hS : S' = nt
      · subst hS
        rcases hcont ci' h with h | ⟨rfl, _⟩
        · exact Or.inl (Or.inr h)
        · exact Or.inr ⟨rfl, rfl⟩
      · rw [se S' hS] at h; exact Or.inl (Or.inr h)
  have hnil : s.clOf nt ≠ [] := by intro h0; rw [h0] at hci; simp at hci
  have heinv : EInvm E F s' := by
    refine { e2 := fun S' ci' h => ?_, d1 := fun q hq => hw.e.d1 q (by rw [← sd]; exact hq), fle := hw.e.fle, be := fun S' ci' h => ?_, lb := ?_ }
    · rw [hba]
      by_cases hS : S' = nt
      · subst hS
        rcases hcont ci' h with h | ⟨rfl, h1⟩
        · exact hw.e.e2 S' ci' h
        · exact hk.hg h1
      · rw [se S' hS] at h; exact hw.e.e2 S' ci' h
    · have hle : (s.clOf S').length ≤ (s'.clOf S').length := (hext S').length_le
      rcases hentd S' ci' h with h' | ⟨rfl, rfl⟩
      · exact Nat.lt_of_lt_of_le (hw.e.be S' ci' h') hle
      · omega
    · intro S' c rest p y hcl hy
      cases h0 : s.clOf S' with
      | nil =>
        by_cases hS : S' = nt
        · subst hS; exact absurd h0 hnil
        · rw [scl S' hS, h0] at hcl; cases hcl
      | cons c0 r0 =>
        have : (s.clOf S')[0]? = some c0 := by rw [h0]; rfl
        have := hext.get S' 0 c0 this
        rw [hcl] at this
        simp only [List.getElem?_cons_zero, Option.some.injEq] at this
        subst this
        exact hw.e.lb S' c r0 p y h0 hy
  have hcr : ∀ S', CRm E F s' S' := fun S' => by
    by_cases hS : S' = nt
    · subst hS; exact hacc.cr hc' ho' heinv.lb (fun _ _ _ h => h.elim)
    · exact (hw.cr S').of_same (scl S' hS) (fun ci => hba S' ci)
  -- the marks of `nt`: the new index by `hmark`, the others were before the last index
  have hmk : P → ∀ ci', MK s' nt ci' := by
    intro hp ci' hlk
    rw [sb] at hlk
    by_cases hc : ci' = fr.ci
    · subst hc; exact hmark (hg hp) hlk
    · have := hw.e.be nt ci' (Or.inl (by rw [hlk]; rfl))
      exact hsub ci' (h4 hp nt ci' (by omega) hlk)
  have he4 : E4P P s' := by
    intro hp S' ci' hlt hlk
    by_cases hS : S' = nt
    · subst hS; exact hmk hp ci' hlk
    · rw [sb] at hlk; rw [se S' hS]; rw [scl S' hS] at hlt
      exact h4 hp S' ci' hlt hlk
  refine ⟨⟨hc', ho', heinv, hcr⟩, he4, fun S' hS => ⟨scl S' hS, sq S', sb S', se S' hS⟩, ⟨⟨hacc.fr ho', fun hen => ?_⟩, hmk⟩,
    hacc.done hc' ho' heinv.lb (hget _ _ hk.fo.2) hqlow, hext, fun ci' hen => ?_, hba,
    fun hg2 hlk => hmark hg2 (by rw [← sb]; exact hlk)⟩
  · rw [sq]
    cases hq : s.queueOf nt with
    | nil => rfl
    | cons e0 q0 =>
      exfalso
      rw [hq] at sclnt
      simp only at sclnt
      have hl1 : (s'.clOf nt).length - 1 = fr.ci + 1 := by rw [sclnt]; simp; omega
      rw [hl1] at hen
      rcases hentd nt _ hen with h' | ⟨_, h'⟩
      · have := hw.e.be nt _ h'
        omega
      · omega
  · rcases hentd nt ci' hen with h' | ⟨_, rfl⟩
    · have := hw.e.be nt ci' h'; omega
    · exact Nat.le_refl _

end PS.Beap
