/- Bucket search on unambiguous grammars (`BucketSearch` of u_heap_search.py): the algebra of bucket tuples and the
   instance of the hypotheses `RHyp` of the order and completeness theorems.  u_heap_search.py imports the class `Bucket`
   of heap_search.py; the model has it twice (`PS.HS.Bucket`, `PS.UHS.Bucket`), so the facts of
   PS/Proofs/Enum/HeapSearch.lean are carried over through `Bucket.lt_eq`. -/
import PS.Proofs.Enum.HeapSearch
import PS.Proofs.Enum.UCheck
namespace PS.UHS
open PS PS.G
set_option linter.unusedSectionVars false
variable {U : Type} [DecidableEq U]

theorem Bucket.lt_eq : ∀ a b : Bucket, Bucket.lt a b = PS.HS.Bucket.lt a b
  | [], _ => by simp [Bucket.lt, PS.HS.Bucket.lt]
  | _ :: _, [] => by simp [Bucket.lt, PS.HS.Bucket.lt]
  | a :: as, b :: bs => by
    simp only [Bucket.lt, PS.HS.Bucket.lt]
    rw [Bucket.lt_eq as bs]

theorem bucket_weakOn (size : Nat) : Heapq.WeakOrderOn (fun b : Bucket => b.length = size) Bucket.lt := by
  have h := PS.HS.Bucket.weakOrder size
  have e : (fun a b : { b : Bucket // b.length = size } => Bucket.lt a.1 b.1) =
      (fun a b : { b : PS.HS.Bucket // b.length = size } => PS.HS.Bucket.lt a.1 b.1) := by
    funext a b; exact Bucket.lt_eq a.1 b.1
  unfold Heapq.WeakOrderOn
  rw [e]; exact h

theorem Bucket.add_lt_iff (a b c : Bucket) (h1 : a.length = b.length) (h2 : b.length = c.length) :
    Bucket.lt (Bucket.add a c) (Bucket.add b c) = Bucket.lt a b := by
  rw [Bucket.lt_eq, Bucket.lt_eq]
  exact PS.HG.Bucket.add_lt_iff a b c h1 h2

theorem Bucket.add_comm (a b : Bucket) : Bucket.add a b = Bucket.add b a := PS.HG.Bucket.add_comm a b

theorem Bucket.ofProb_length (size : Nat) (p : Rat) : (Bucket.ofProb size p).length = size := by
  unfold Bucket.ofProb
  simp

theorem Bucket.add_length (a b : Bucket) (size : Nat) (ha : a.length = size) (hb : b.length = size) :
    (Bucket.add a b).length = size := by
  unfold Bucket.add
  simp [ha, hb]

theorem Bucket.bump_lt : ∀ (a b : Bucket) (i : Nat), a.length = b.length →
    Bucket.lt (a.modify i (· + 1)) (b.modify i (· + 1)) = Bucket.lt a b := by
  intro a
  induction a with
  | nil =>
    intro b i h
    cases b with
    | nil => rw [List.modify_nil]
    | cons _ _ => exact nomatch h
  | cons x xs ih =>
    intro b i h
    cases b with
    | nil => exact nomatch h
    | cons y ys =>
      cases i with
      | zero =>
        show Bucket.lt ((x + 1) :: xs) ((y + 1) :: ys) = Bucket.lt (x :: xs) (y :: ys)
        simp only [Bucket.lt, gt_iff_lt, Nat.add_lt_add_iff_right]
      | succ i =>
        simp only [List.modify_succ_cons, Bucket.lt]
        rw [ih ys i (Nat.succ.inj h)]

/-- Stated for `mutates = false`, what `adjust_priority_for_start` of /repo does (it returns a new bucket,
    u_heap_search.py:393-399). The flag is only read when `kway = false` (`pushBoth_kway`), so the proof does not depend on
    it; an environment built with `bucketOps size true` is all the same not covered by the statement. -/
theorem rhyp_bucket (E : Env U Bucket) (rank : UNT U → Nat) (size : Nat) (hops : E.ops = bucketOps size false)
    (hk : E.kway = true) (c1 : rowsB E.G = true) (c2 : arityB E.G = true) (c3 : acyclicB E.G rank = true)
    (c4 : budetB E.G = true) (c5 : altKeysB E.G = true) (c6 : flatB E.G = true) (c7 : leafOneB E.G = true)
    (c9 : (E.G.starts.map (·.1)).Nodup) :
    RHyp E rank (fun b : Bucket => b.length = size) := by
  have hdet := budet_of_check E c4
  refine ⟨⟨GHyp.of_checks E c1 c2 hk, acyclic_of_check E rank c3, ?_, by rw [hops]; rfl,
    ualt_of_budet E hdet (altKeys_of_check E c5), flat_of_check E c6, leafOne_of_check E c7, ?_, ?_, ?_, ?_⟩,
    sdisj_of_budet E hdet, c9, ?_, ?_⟩
  · rw [hops]; exact bucket_weakOn size
  · intro nt F v w _; rw [hops]; exact Bucket.ofProb_length size w
  · intro a b ha hb; rw [hops]; exact Bucket.add_length a b size ha hb
  · intro a b c ha hb hc h
    rw [hops] at h ⊢
    show Bucket.lt (Bucket.add a c) (Bucket.add b c) = false
    rw [Bucket.add_lt_iff a b c (ha.trans hb.symm) (hb.trans hc.symm)]
    exact h
  · intro a b c ha hb hc h
    rw [hops] at h ⊢
    show Bucket.lt (Bucket.add c a) (Bucket.add c b) = false
    rw [Bucket.add_comm c a, Bucket.add_comm c b, Bucket.add_lt_iff a b c (ha.trans hb.symm) (hb.trans hc.symm)]
    exact h
  · intro a b nt w _ ha hb h
    rw [hops] at h ⊢
    show Bucket.lt (Bucket.bump size a w) (Bucket.bump size b w) = false
    unfold Bucket.bump
    rw [Bucket.bump_lt a b _ (ha.trans hb.symm)]
    exact h
  · intro a nt w _ ha
    rw [hops]
    show (Bucket.bump size a w).length = size
    unfold Bucket.bump
    simp [ha]

end PS.UHS
