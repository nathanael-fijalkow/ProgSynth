/- The query block (`query`, `query_derivation`, `_query_list_` and their loops) as one big-step relation without fuel:
   `Exec E s c s'`, the call `c` (a function of the machine with its arguments and what it returns) takes the tables from
   `s` to `s'`.  One constructor per path through the code.  A constructor keeps the table lookups whose value its path
   uses and the tests of the `if` at which its path leaves the others; lookups that only guard a `KeyError` are left out.
   Three tests that came out negative before that `if` are dropped as well: `cost_index in self._empties_nt[S]`
   (`noCost`, `cached`, `query` do not say it is false), `cost_index < len(self._cost_lists_nt[S])` (`cached` does not
   say it), `cost_index >= len(self._cost_lists_derivation[args])` (`stored`, `drained`, `derive` do not say it is
   false; `beyond` alone carries that test).  Every other test of the code is a premise, an index of the call
   (`ia`, `agf`) or follows from one (`q.pop = some _` gives `q.isEmpty = false`).  So the relation is larger than
   the graph of the code: the invariants proved over it are safety statements and none has needed the three tests; a
   statement that a run goes on or ends would need them back as premises.  Every successful run of a function of the
   machine is a run of the relation (`sound`), so an invariant of the machine is proved by one induction over the run,
   without fuel and without going through the code again. -/
import PS.Model.Enum.ConstantDelay
namespace PS.CD
variable {α : Type}

/-- the head of the heap of `fr.S` has the cost of the query: it is popped, its bank is created, its rule looked up -/
structure Pop (E : Env α) (s : St α) (fr : Frame α) (heap : List (Deriv α)) (el : Deriv α) (heap' : List (Deriv α))
    (s1 : St α) (args : List NT) (w : Int) : Prop where
  cur : fr.cur = none
  look : AList.lookup fr.S s.queueNt = some heap
  cost : ∃ d ∈ heap.head?, E.A.eq d.cost fr.cost = true
  pop : Heapq.pop (ltD E.A) heap = some (el, heap')
  bank : (s.setHeap fr.S heap').ensureBank fr.S fr.ci = some s1
  rule : E.G.rule? fr.S el.P = some (args, w)

/-- the end of `query_derivation`: a cost index that generated nothing and has no successor is recorded as empty -/
def MarkEmpty (s : St α) (args : List NT) (ci : Nat) (mark : Bool) (s' : St α) : Prop :=
  if mark then ∃ em, AList.lookup args s.emptiesDer = some em ∧
    s' = { s with emptiesDer := AList.insert args (setAdd em ci) s.emptiesDer }
  else s' = s

/-- the last lines of `query_derivation(args)`, after `MarkEmpty`: an empty queue of `args` leaves the state as it is;
    otherwise the queue is updated (`Q.update`) and the cost of its next CostTuple (`peek`) is appended to
    `_cost_lists_derivation[args]` -/
def Advance (A : Arith α) (s : St α) (args : List NT) (s' : St α) : Prop :=
  ∃ q cl, AList.lookup args s.queueDer = some q ∧ AList.lookup args s.costDer = some cl ∧
    ((q.isEmpty = true ∧ s' = s) ∨
      ∃ q' pk, q.update A = some q' ∧ q'.peek = some pk ∧ s' = (s.setQueueDer args q').setCostDer args (cl ++ [pk.cost]))

/-- a call of a function of the query block: its arguments, then what it returns beside the state.  `emit` is the part
    of `query` that deals with a program it has built (`fr` the frame it goes on with); `query` hands back the frame
    and the program of a `yield`, or nothing at its end -/
inductive Call (α : Type) where
  | emit (fr : Frame α) (p : Prog) (out : Option (Frame α × Prog))
  | resume (fr : Frame α) (out : Option (Frame α × Prog))
  | drive (fr : Frame α)
  | queryList (S : NT) (ci : Nat) (ia : Bool) (r : Ref)
  | argLoop (cs : List Nat) (ss : List NT) (ia agf : Bool) (acc : List Ref) (ia' agf' : Bool) (acc' : List Ref)
  | combLoop (args : List NT) (ci : Nat) (c : α) (combs : List (List Nat)) (ns hg ns' hg' : Bool)
  | queryDer (args : List NT) (ci : Nat) (l : List (List Ref))

inductive Exec (E : Env α) : St α → Call α → St α → Prop
  | deleted {s fr p out s'} : s.deleted.contains p = true → Exec E s (.resume fr out) s' → Exec E s (.emit fr p out) s'
  | rejected {s fr p out s'} : s.deleted.contains p = false → E.filter p = false →
      Exec E (s.addDeleted p) (.resume fr out) s' → Exec E s (.emit fr p out) s'
  | yield {s fr p s'} : s.deleted.contains p = false → E.filter p = true → s.appendBank fr.S fr.ci p = some s' →
      Exec E s (.emit fr p (some ({ fr with hasGen := true }, p))) s'
  | tuple {s fr P poss tup tups out s'} : fr.cur = some (P, poss, tup :: tups) →
      Exec E s (.emit { fr with cur := some (P, poss, tups) } (.node P tup) out) s' → Exec E s (.resume fr out) s'
  | pools {s fr P ps poss out s'} : fr.cur = some (P, ps :: poss, []) →
      Exec E s (.resume { fr with cur := some (P, poss, cartesian (ps.map s.resolve)) } out) s' → Exec E s (.resume fr out) s'
  | ruleDone {s fr P out s'} : fr.cur = some (P, [], []) → Exec E s (.resume { fr with cur := none } out) s' →
      Exec E s (.resume fr out) s'
  | exit {s fr heap s'} : fr.cur = none → AList.lookup fr.S s.queueNt = some heap →
      (∀ d ∈ heap.head?, E.A.eq d.cost fr.cost = false) → exitQuery s fr = some s' → Exec E s (.resume fr none) s'
  | leaf {s fr heap el heap' s1 w out s'} : Pop E s fr heap el heap' s1 [] w → Exec E s1 (.emit fr (.node el.P []) out) s' →
      Exec E s (.resume fr out) s'
  | node {s fr heap el heap' s1 args w s2 possibles em cl h2 out s'} : Pop E s fr heap el heap' s1 args w → args ≠ [] →
      Exec E s1 (.queryDer args el.comb possibles) s2 → AList.lookup args s2.emptiesDer = some em →
      AList.lookup args s2.costDer = some cl → AList.lookup fr.S s2.queueNt = some h2 →
      Exec E (pushNext E.A s2 fr.S h2 w el cl fr.noSucc).1
        (.resume { fr with noSucc := (pushNext E.A s2 fr.S h2 w el cl fr.noSucc).2,
                           cur := if em.contains el.comb then none else some (el.P, possibles, []) } out) s' →
      Exec E s (.resume fr out) s'
  | done {s fr s'} : Exec E s (.resume fr none) s' → Exec E s (.drive fr) s'
  | next {s fr s1 fr1 p s'} : Exec E s (.resume fr (some (fr1, p))) s1 → Exec E s1 (.drive fr1) s' → Exec E s (.drive fr) s'
  | empty {s S ci em} : AList.lookup S s.emptiesNt = some em → em.contains ci = true → Exec E s (.queryList S ci true none) s
  | noCost {s S ci cl} : AList.lookup S s.costNt = some cl → cl[ci]? = none → Exec E s (.queryList S ci false none) s
  | cached {s S ci b} : AList.lookup S s.bankNt = some b → (AList.lookup ci b).isSome = true →
      Exec E s (.queryList S ci false (some (S, ci))) s
  | query {s S ci cl cost b s' em' b'} : AList.lookup S s.costNt = some cl → cl[ci]? = some cost →
      AList.lookup S s.bankNt = some b → AList.lookup ci b = none → Exec E s (.drive { S := S, ci := ci, cost := cost }) s' →
      AList.lookup S s'.emptiesNt = some em' → AList.lookup S s'.bankNt = some b' →
      (em'.contains ci = true ∨ (AList.lookup ci b').isSome = true) →
      Exec E s (.queryList S ci (em'.contains ci) (if em'.contains ci then none else some (S, ci))) s'
  | stop {s cs ss ia agf acc} : cs = [] ∨ ss = [] → Exec E s (.argLoop cs ss ia agf acc ia agf acc) s
  | brk {s c cs Si ss ia agf acc s1 r} : Exec E s (.queryList Si c false r) s1 → (s1.resolve r).isEmpty = true →
      Exec E s (.argLoop (c :: cs) (Si :: ss) ia agf acc ia true acc) s1
  | arg {s c cs Si ss ia agf acc s1 one r s' ia' agf' acc'} : Exec E s (.queryList Si c one r) s1 →
      ((s1.resolve r).isEmpty = true → one = true) →
      Exec E s1 (.argLoop cs ss (ia || one) ((s1.resolve r).isEmpty || agf) (acc ++ [r]) ia' agf' acc') s' →
      Exec E s (.argLoop (c :: cs) (Si :: ss) ia agf acc ia' agf' acc') s'
  | nil {s args ci c ns hg} : Exec E s (.combLoop args ci c [] ns hg ns hg) s
  | failed {s args ci c comb rest ns hg s1 ia agf poss s' ns' hg'} :
      Exec E s (.argLoop comb args false false [] ia agf poss) s1 → (agf && !ia) = true →
      Exec E s1 (.combLoop args ci c rest ns hg ns' hg') s' → Exec E s (.combLoop args ci c (comb :: rest) ns hg ns' hg') s'
  | allowed {s args ci c comb rest ns hg s1 agf poss s2 s' ns' hg'} :
      Exec E s (.argLoop comb args false false [] true agf poss) s1 →
      succLoop E.A E.asserts args c comb comb.length 0 s1 = some s2 →
      Exec E s2 (.combLoop args ci c rest false hg ns' hg') s' → Exec E s (.combLoop args ci c (comb :: rest) ns hg ns' hg') s'
  | store {s args ci c comb rest ns hg s1 poss s2 b l s' ns' hg'} :
      Exec E s (.argLoop comb args false false [] false false poss) s1 →
      succLoop E.A E.asserts args c comb comb.length 0 s1 = some s2 → AList.lookup args s2.bankDer = some b →
      AList.lookup ci b = some l →
      Exec E { s2 with bankDer := AList.insert args (AList.insert ci (l ++ [poss]) b) s2.bankDer }
        (.combLoop args ci c rest false true ns' hg') s' →
      Exec E s (.combLoop args ci c (comb :: rest) ns hg ns' hg') s'
  | beyond {s args ci cl} : AList.lookup args s.costDer = some cl → ci ≥ cl.length → Exec E s (.queryDer args ci []) s
  | stored {s args ci b l} : AList.lookup args s.bankDer = some b → AList.lookup ci b = some l → Exec E s (.queryDer args ci l) s
  | drained {s args ci b q} : AList.lookup args s.bankDer = some b → AList.lookup ci b = none →
      AList.lookup args s.queueDer = some q → q.isEmpty = true →
      Exec E s (.queryDer args ci []) { s with bankDer := AList.insert args (AList.insert ci [] b) s.bankDer }
  | derive {s args ci b q ct q' s3 ns hg s4 s5 l} : AList.lookup args s.bankDer = some b → AList.lookup ci b = none →
      AList.lookup args s.queueDer = some q → q.pop = some (ct, q') →
      Exec E ({ s with bankDer := AList.insert args (AList.insert ci [] b) s.bankDer }.setQueueDer args q')
        (.combLoop args ci ct.cost ct.combs true false ns hg) s3 →
      MarkEmpty s3 args ci (!hg && !ns) s4 → Advance E.A s4 args s5 →
      (AList.lookup args s5.bankDer).bind (AList.lookup ci) = some l → Exec E s (.queryDer args ci l) s5

def Res.split : Res α → St α × Option (Frame α × Prog)
  | .yield s fr p => (s, some (fr, p))
  | .done s => (s, none)

structure Sound (E : Env α) (f : Nat) : Prop where
  resume : ∀ {s fr r}, resume E f s fr = some r → Exec E s (.resume fr r.split.2) r.split.1
  drive : ∀ {s fr s'}, drive E f s fr = some s' → Exec E s (.drive fr) s'
  queryList : ∀ {s S ci s' ia r}, queryList E f s S ci = some (s', ia, r) → Exec E s (.queryList S ci ia r) s'
  argLoop : ∀ {s cs ss ia agf acc s' ia' agf' acc'}, argLoop E f s cs ss ia agf acc = some (s', ia', agf', acc') →
    Exec E s (.argLoop cs ss ia agf acc ia' agf' acc') s'
  combLoop : ∀ {s args ci c combs ns hg s' ns' hg'}, combLoop E f s args ci c combs ns hg = some (s', ns', hg') →
    Exec E s (.combLoop args ci c combs ns hg ns' hg') s'
  queryDer : ∀ {s args ci s' l}, queryDer E f s args ci = some (s', l) → Exec E s (.queryDer args ci l) s'

theorem sound (E : Env α) : ∀ f, Sound E f := by
  intro f
  induction f with
  | zero =>
    refine ⟨?_, ?_, ?_, ?_, ?_, ?_⟩ <;> intros <;> rename_i h
    · simp [resume] at h
    · simp [drive] at h
    · simp [queryList] at h
    · simp [argLoop] at h
    · simp [combLoop] at h
    · simp [queryDer] at h
  | succ f ih =>
    -- what `query` does with a program it has built (the code occurs twice in `resume`)
    have emit : ∀ {s : St α} {fr : Frame α} {p : Prog} {r : Res α},
        (if s.deleted.contains p then resume E f s fr else if !E.filter p then resume E f (s.addDeleted p) fr else
          match s.appendBank fr.S fr.ci p with
          | none => none
          | some s' => some (.yield s' { fr with hasGen := true } p)) = some r →
        Exec E s (.emit fr p r.split.2) r.split.1 := by
      intro s fr p r h
      -- an `if` is opened by `by_cases` and `rw [if_pos]`/`rw [if_neg]`, here and below: `split at h` rewrites the
      -- whole remaining body by `simp`, which is slow where that body is large
      by_cases hd : s.deleted.contains p = true
      · rw [if_pos hd] at h
        exact .deleted hd (ih.resume h)
      rw [if_neg hd] at h
      by_cases hf : (!E.filter p) = true
      · rw [if_pos hf] at h
        exact .rejected (eq_false_of_ne_true hd) (by simpa using hf) (ih.resume h)
      rw [if_neg hf] at h
      split at h
      · cases h
      · rename_i s1 hb
        cases h
        exact .yield (eq_false_of_ne_true hd) (by simpa using hf) hb
    refine ⟨?_, ?_, ?_, ?_, ?_, ?_⟩
    · intro s fr r h
      rw [resume] at h
      split at h
      · rename_i P poss tup tups hcur
        exact .tuple hcur (emit h)
      · rename_i hcur; exact .pools hcur (ih.resume h)
      · rename_i hcur; exact .ruleDone hcur (ih.resume h)
      · rename_i hcur
        split at h
        · cases h
        · rename_i heap hl
          have exit : (∀ d ∈ heap.head?, E.A.eq d.cost fr.cost = false) → (exitQuery s fr).map .done = some r →
              Exec E s (.resume fr r.split.2) r.split.1 := by
            intro hne h
            obtain ⟨s', hx, rfl⟩ := Option.map_eq_some_iff.mp h
            exact .exit hcur hl hne hx
          split at h
          · exact exit (by simp) h
          · rename_i d rest
            by_cases heq : (!E.A.eq d.cost fr.cost) = true
            · rw [if_pos heq] at h
              exact exit (by simpa using heq) h
            rw [if_neg heq] at h
            split at h
            · cases h
            · rename_i el heap' hpop
              split at h
              · rename_i s1 args w he hrule
                have hP : Pop E s fr (d :: rest) el heap' s1 args w :=
                  ⟨hcur, hl, ⟨d, rfl, by simpa using heq⟩, hpop, he, hrule⟩
                by_cases hemp : args.isEmpty = true
                · rw [if_pos hemp] at h
                  cases List.isEmpty_iff.mp hemp
                  exact .leaf hP (emit h)
                rw [if_neg hemp] at h
                have hne : args ≠ [] := fun h0 => hemp (List.isEmpty_iff.mpr h0)
                split at h
                · cases h
                · rename_i s2 possibles hq
                  split at h
                  · rename_i em cl h2 hem hcl hl2
                    refine .node hP hne (ih.queryDer hq) hem hcl hl2 ?_
                    dsimp only at h
                    by_cases hc : em.contains el.comb = true
                    · rw [if_pos hc] at h
                      rw [if_pos hc, ← hcur]; exact ih.resume h
                    · rw [if_neg hc] at h
                      rw [if_neg hc]; exact ih.resume h
                  · cases h
              · cases h
    · intro s fr s' h
      rw [drive] at h
      split at h
      · cases h
      · rename_i s1 hr
        cases h
        exact .done (ih.resume hr)
      · rename_i s1 fr1 p hr
        exact .next (ih.resume hr) (ih.drive h)
    · intro s S ci s' ia r h
      rw [queryList] at h
      split at h
      · rename_i em cl b hem hcl hb
        by_cases hc : em.contains ci = true
        · rw [if_pos hc] at h; cases h
          exact .empty hem hc
        rw [if_neg hc] at h
        split at h
        · rename_i hci
          cases h
          exact .noCost hcl hci
        · rename_i cost hci
          by_cases hsome : (AList.lookup ci b).isSome = true
          · rw [if_pos hsome] at h; cases h
            exact .cached hb hsome
          rw [if_neg hsome] at h
          split at h
          · cases h
          · rename_i s1 hd
            split at h
            · rename_i em' b' hem' hb'
              have hrun := fun hor => Exec.query hcl hci hb (by simpa using hsome) (ih.drive hd) hem' hb' hor
              by_cases hc' : em'.contains ci = true
              · rw [if_pos hc'] at h; cases h
                have := hrun (Or.inl hc')
                rwa [hc'] at this
              rw [if_neg hc'] at h
              by_cases hs : (AList.lookup ci b').isSome = true
              · rw [if_pos hs] at h; cases h
                have := hrun (Or.inr hs)
                rwa [eq_false_of_ne_true hc'] at this
              · rw [if_neg hs] at h; cases h
            · cases h
      · cases h
    · intro s cs ss ia agf acc s' ia' agf' acc' h
      cases cs with
      | nil =>
        rw [argLoop] at h; cases h
        exact .stop (Or.inl rfl)
      | cons c cs =>
        cases ss with
        | nil =>
          rw [argLoop] at h; cases h
          exact .stop (Or.inr rfl)
        | cons Si ss =>
          rw [argLoop] at h
          split at h
          · cases h
          · rename_i s1 one r hq
            by_cases hemp : (s1.resolve r).isEmpty = true
            · rw [if_pos hemp] at h
              cases one with
              | false =>
                rw [Bool.not_false, if_pos rfl, Bool.or_false] at h; cases h
                exact .brk (ih.queryList hq) hemp
              | true =>
                rw [Bool.not_true, if_neg Bool.false_ne_true] at h
                refine .arg (ih.queryList hq) (fun _ => rfl) ?_
                rw [hemp]; exact ih.argLoop h
            · rw [if_neg hemp] at h
              refine .arg (ih.queryList hq) (fun he => absurd he hemp) ?_
              rw [eq_false_of_ne_true hemp]; exact ih.argLoop h
    · intro s args ci c combs ns hg s' ns' hg' h
      cases combs with
      | nil =>
        rw [combLoop] at h; cases h
        exact .nil
      | cons comb rest =>
        rw [combLoop] at h
        split at h
        · cases h
        · rename_i s1 ia agf poss ha
          dsimp only at h
          by_cases hfo : (agf && !ia) = true
          · rw [if_pos hfo, hfo, Bool.and_true] at h
            exact .failed (ih.argLoop ha) hfo (ih.combLoop h)
          rw [if_neg hfo, eq_false_of_ne_true hfo, Bool.and_false] at h
          split at h
          · cases h
          · rename_i s2 hsucc
            cases ia with
            | true =>
              rw [if_pos rfl] at h
              exact .allowed (ih.argLoop ha) hsucc (ih.combLoop h)
            | false =>
              rw [if_neg Bool.false_ne_true] at h
              cases agf with
              | true => exact absurd rfl hfo
              | false =>
                split at h
                · cases h
                · rename_i b hb
                  split at h
                  · cases h
                  · rename_i l hl
                    exact .store (ih.argLoop ha) hsucc hb hl (ih.combLoop h)
    · intro s args ci s' l h
      rw [queryDer] at h
      split at h
      · rename_i cl b q hcl hb hq
        by_cases hge : ci ≥ cl.length
        · rw [if_pos hge] at h; cases h
          exact .beyond hcl hge
        rw [if_neg hge] at h
        split at h
        · rename_i l0 hl0
          cases h
          exact .stored hb hl0
        · rename_i hl0
          dsimp only at h
          by_cases hqe : q.isEmpty = true
          · rw [if_pos hqe] at h; cases h
            exact .drained hb hl0 hq hqe
          rw [if_neg hqe] at h
          split at h
          · cases h
          · rename_i ct q' hpop
            split at h
            · cases h
            · rename_i s3 ns hg hc
              split at h
              · cases h
              · rename_i s4 hs4e
                have hM : MarkEmpty s3 args ci (!hg && !ns) s4 := by
                  unfold MarkEmpty
                  by_cases hm : (!hg && !ns) = true
                  · rw [if_pos hm] at hs4e ⊢
                    split at hs4e
                    · cases hs4e
                    · rename_i em hem
                      cases hs4e
                      exact ⟨em, hem, rfl⟩
                  · rw [if_neg hm] at hs4e ⊢
                    cases hs4e; rfl
                split at h
                · rename_i q2 cl2 hq2 hcl2
                  split at h
                  · cases h
                  · rename_i s5 hs5e
                    have hA : Advance E.A s4 args s5 := by
                      refine ⟨q2, cl2, hq2, hcl2, ?_⟩
                      by_cases he : q2.isEmpty = true
                      · rw [if_pos he] at hs5e; cases hs5e
                        exact Or.inl ⟨he, rfl⟩
                      rw [if_neg he] at hs5e
                      split at hs5e
                      · cases hs5e
                      · rename_i q3 hupd
                        split at hs5e
                        · cases hs5e
                        · rename_i pk hpk
                          cases hs5e
                          exact Or.inr ⟨q3, pk, hupd, hpk, rfl⟩
                    split at h
                    · cases h
                    · rename_i l5 hl5
                      cases h
                      exact .derive hb hl0 hq hpop (ih.combLoop hc) hM hA hl5
                · cases h
      · cases h

end PS.CD
