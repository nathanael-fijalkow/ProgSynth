/- Every function of the query block keeps the bank invariant `NInv` (banks disjoint,
   provenance of the stored programs), and every program `query` yields is new to the banks of its non-terminal.
   Every arithmetic, grammar, filter, fuel; nested and re-entrant queries (limbo sets `L`, `Λ`). -/
import PS.Proofs.Enum.CDGBanks
namespace PS.CD
variable {α : Type}

/-! ### the banks and `_deleted` only grow -/

theorem bmono_grows : Grows (α := α) BMono where
  same h _ _ := BMono.of_eq h
  trans := BMono.trans
  addDeleted s p := by obtain ⟨d, e⟩ := addDeleted_eq s p; rw [e]; exact BMono.of_eq rfl
  appendBank h := by obtain ⟨b, l, hb, hl, rfl⟩ := appendBank_eq h; exact bmono_append hb hl
  ensureBank he := (ensureBank_spec he).2.2.1
  costDer _ _ := BMono.of_eq rfl

theorem dsub_grows : Grows (α := α) DSub where
  same _ h _ := DSub.of_eq h
  trans := DSub.trans
  addDeleted := addDeleted_sub
  appendBank h := by obtain ⟨b, l, _, _, rfl⟩ := appendBank_eq h; exact DSub.of_eq rfl
  ensureBank he := by obtain ⟨b, rfl⟩ := ensureBank_eq he; exact DSub.of_eq rfl
  costDer _ _ := DSub.of_eq rfl

theorem Res.split_st (r : Res α) : r.split.1 = r.st := by cases r <;> rfl

/-- the six projections of a statement about runs that speaks of the two states only -/
theorem sound_rel {E : Env α} {f : Nat} (R : St α → St α → Prop) (h : ∀ {s c s'}, Exec E s c s' → R s s') :
    (∀ s fr r, resume E f s fr = some r → R s r.st) ∧ (∀ s fr s', drive E f s fr = some s' → R s s') ∧
    (∀ s S ci s' ia r, queryList E f s S ci = some (s', ia, r) → R s s') ∧
    (∀ s cs ss ia agf acc s' ia' agf' acc', argLoop E f s cs ss ia agf acc = some (s', ia', agf', acc') → R s s') ∧
    (∀ s args ci c combs ns hg s' ns' hg', combLoop E f s args ci c combs ns hg = some (s', ns', hg') → R s s') ∧
    (∀ s args ci s' l, queryDer E f s args ci = some (s', l) → R s s') :=
  ⟨fun _ _ r e => r.split_st ▸ h ((sound E f).resume e), fun _ _ _ e => h ((sound E f).drive e),
   fun _ _ _ _ _ _ e => h ((sound E f).queryList e), fun _ _ _ _ _ _ _ _ _ _ e => h ((sound E f).argLoop e),
   fun _ _ _ _ _ _ _ _ _ _ e => h ((sound E f).combLoop e), fun _ _ _ _ _ e => h ((sound E f).queryDer e)⟩

structure MOk (E : Env α) (f : Nat) : Prop where
  resume : ∀ s fr r, resume E f s fr = some r → BMono s r.st
  drive : ∀ s fr s', drive E f s fr = some s' → BMono s s'
  queryList : ∀ s S ci s' ia r, queryList E f s S ci = some (s', ia, r) → BMono s s'
  argLoop : ∀ s cs ss ia agf acc s' ia' agf' acc', argLoop E f s cs ss ia agf acc = some (s', ia', agf', acc') → BMono s s'
  combLoop : ∀ s args ci c combs ns hg s' ns' hg', combLoop E f s args ci c combs ns hg = some (s', ns', hg') → BMono s s'
  queryDer : ∀ s args ci s' l, queryDer E f s args ci = some (s', l) → BMono s s'

theorem mok_all (E : Env α) (f : Nat) : MOk E f :=
  have ⟨a, b, c, d, e, g⟩ := sound_rel (E := E) (f := f) BMono (Exec.grows bmono_grows)
  ⟨a, b, c, d, e, g⟩

structure DOk (E : Env α) (f : Nat) : Prop where
  resume : ∀ s fr r, resume E f s fr = some r → DSub s r.st
  drive : ∀ s fr s', drive E f s fr = some s' → DSub s s'
  queryList : ∀ s S ci s' ia r, queryList E f s S ci = some (s', ia, r) → DSub s s'
  argLoop : ∀ s cs ss ia agf acc s' ia' agf' acc', argLoop E f s cs ss ia agf acc = some (s', ia', agf', acc') → DSub s s'
  combLoop : ∀ s args ci c combs ns hg s' ns' hg', combLoop E f s args ci c combs ns hg = some (s', ns', hg') → DSub s s'
  queryDer : ∀ s args ci s' l, queryDer E f s args ci = some (s', l) → DSub s s'

theorem dok_all (E : Env α) (f : Nat) : DOk E f :=
  have ⟨a, b, c, d, e, g⟩ := sound_rel (E := E) (f := f) DSub (Exec.grows dsub_grows)
  ⟨a, b, c, d, e, g⟩

/-! ### where a yielded program is stored -/

def YieldAt (S : NT) (ci : Nat) (s' : St α) : Option (Frame α × Prog) → Prop
  | some (fr', p) => fr'.S = S ∧ fr'.ci = ci ∧ InBankAt s' S ci p
  | none => True

def Call.YieldAt (s' : St α) : Call α → Prop
  | .emit fr _ out | .resume fr out => PS.CD.YieldAt fr.S fr.ci s' out
  | _ => True

theorem Exec.yieldAt {E : Env α} {s s' : St α} {c : Call α} (h : Exec E s c s') : c.YieldAt s' := by
  induction h with
  | deleted _ _ ih | rejected _ _ _ ih | tuple _ _ ih | pools _ _ ih | ruleDone _ _ ih | leaf _ _ ih
  | node _ _ _ _ _ _ _ _ ih => exact ih
  | yield _ _ h =>
    obtain ⟨b, l, hb, hl, rfl⟩ := appendBank_eq h
    exact ⟨rfl, rfl, (inBankAt_append hb hl _ _ _).mpr (Or.inr ⟨rfl, rfl, rfl⟩)⟩
  | _ => trivial

/-! ### one pending `Derivation` per rule, over runs -/

theorem Pop.hinv {E : Env α} {s s1 : St α} {fr : Frame α} {heap heap' : List (Deriv α)} {el : Deriv α} {args : List NT}
    {w : Int} {L : NT → List Sym} (hP : Pop E s fr heap el heap' s1 args w) (hH : HInv s L) :
    HInv s1 (addLimbo L fr.S el.P) ∧ el.P ∉ L fr.S :=
  have ⟨a, b⟩ := hinv_pop (ltD E.A) hH hP.look hP.pop
  ⟨hinv_ensureBank a hP.bank, b⟩

/-! ### the bank invariant through the machine -/

def ResN (E : Env α) (s : St α) (S : NT) (L : NT → List (Sym × Nat)) : Res α → Prop
  | .yield s' fr' p => NInv E s' L ∧ FrOK E s' L fr' ∧ fr'.S = S ∧ ¬ InBank s S p ∧ InBank s' S p
  | .done s' => NInv E s' L

/-- `s`: the state the call started from -/
def Yields (E : Env α) (s : St α) (S : NT) (L : NT → List (Sym × Nat)) (s' : St α) : Option (Frame α × Prog) → Prop
  | some (fr', p) => FrOK E s' L fr' ∧ fr'.S = S ∧ ¬ InBank s S p ∧ InBank s' S p
  | none => True

theorem Yields.mono {E : Env α} {s s1 s' : St α} {S : NT} {L : NT → List (Sym × Nat)} {out : Option (Frame α × Prog)}
    (h : Yields E s1 S L s' out) (hm : BMono s s1) : Yields E s S L s' out := by
  cases out with
  | none => trivial
  | some x => exact ⟨h.1, h.2.1, fun hin => h.2.2.1 (hm.inBank hin), h.2.2.2⟩

theorem possAt_append_mono {bd : BD} {args : List NT} {b : AList Nat (List (List Ref))} {ci : Nat} {l : List (List Ref)}
    {x : List Ref} (hb : AList.lookup args bd = some b) (hl : AList.lookup ci b = some l) (a : List NT) (c : Nat)
    (ps : List Ref) (h : PossAt bd a c ps) : PossAt (AList.insert args (AList.insert ci (l ++ [x]) b) bd) a c ps :=
  (AList.at_append hb hl a c ps).mpr (Or.inl h)

theorem possAt_nil_mono {bd : BD} {args : List NT} {b : AList Nat (List (List Ref))} {ci : Nat}
    (hb : AList.lookup args bd = some b) (hl : AList.lookup ci b = none) (a : List NT) (c : Nat)
    (ps : List Ref) (h : PossAt bd a c ps) : PossAt (AList.insert args (AList.insert ci [] b) bd) a c ps :=
  (AList.at_nil_iff hb hl a c ps).mpr h

theorem ninv_pop {E : Env α} {s : St α} {L : NT → List (Sym × Nat)} {S : NT} {heap heap' : List (Deriv α)} {el : Deriv α}
    (lt : Deriv α → Deriv α → Bool) (hN : NInv E s L) (hl : AList.lookup S s.queueNt = some heap)
    (hp : Heapq.pop lt heap = some (el, heap')) : NInv E (s.setHeap S heap') (addL L S (el.P, el.comb)) := by
  have hperm := Heapq.pop_perm lt heap el heap' hp
  refine ⟨binv_of_eq rfl hN.binv, ?_, ?_, fun S c q h => hN.accb S c q h, fun p hp S c h => hN.delout p hp S c h⟩
  · exact fun S' hh d hlk => AList.forall_insert (P := fun S (hh : List (Deriv α)) => ∀ d ∈ hh, Consumed E s S d.P d.comb [])
      (fun S hh _ hlk d hd => hN.heapc S hh d hlk hd)
      (fun d hd => hN.heapc S heap d hl (hperm.mem_iff.mpr (List.mem_cons_of_mem _ hd))) S' hh hlk d
  · intro S' P' c0 hm
    unfold addL at hm
    split at hm
    · rename_i he
      rcases List.mem_cons.mp hm with h1 | h1
      · cases h1; subst he
        exact hN.heapc S' heap el hl (hperm.mem_iff.mpr List.mem_cons_self)
      · exact hN.limboc S' P' c0 h1
    · exact hN.limboc S' P' c0 hm

theorem ninv_pushNext {E : Env α} {s : St α} {L : NT → List (Sym × Nat)} {S : NT} {h2 : List (Deriv α)} {w : Int}
    {el : Deriv α} {cl : List α} {ns : Bool} (hN : NInv E s (addL L S (el.P, el.comb)))
    (hl : AList.lookup S s.queueNt = some h2) : NInv E (pushNext E.A s S h2 w el cl ns).1 L := by
  have hweak : NInv E s L := ninv_limbo hN (fun S' x hx => mem_addL S' x hx)
  unfold pushNext
  split
  · rename_i c1 _
    refine ⟨binv_of_eq rfl hN.binv, ?_, ?_, fun S c q h => hN.accb S c q h, fun p hp S c h => hN.delout p hp S c h⟩
    · refine fun S' hh d hlk => AList.forall_insert (P := fun S (hh : List (Deriv α)) => ∀ d ∈ hh, Consumed E s S d.P d.comb [])
        (fun S hh _ hlk d hd => hN.heapc S hh d hlk hd) (fun d hd => ?_) S' hh hlk d
      rcases List.mem_cons.mp ((Heapq.push_perm (ltD E.A) h2 _).mem_iff.mp hd) with h3 | h3
      · subst h3
        have h0 : Consumed E s S el.P el.comb [] := hN.limboc S el.P el.comb (by simp [addL])
        exact h0.mono (fun _ hk => hk) (fun _ _ _ hp => hp) (BMono.refl _) (DSub.refl _) (Or.inl (Nat.lt_succ_self _))
      · exact hN.heapc S h2 d hl h3
    · exact fun S' P' c0 hm => hweak.limboc S' P' c0 hm
  · exact hweak

theorem frok_start {E : Env α} {s : St α} {L : NT → List (Sym × Nat)} {fr : Frame α} {h2 : List (Deriv α)} {w : Int}
    {el : Deriv α} {cl : List α} {args : List NT} {possibles : List (List Ref)} {ns : Bool}
    (hN : NInv E s (addL L fr.S (el.P, el.comb))) (hH : HInv s (addLimbo (symL L) fr.S el.P))
    (hl : AList.lookup fr.S s.queueNt = some h2) (hrule : E.G.rule? fr.S el.P = some (args, w)) (hne : args ≠ [])
    (hnotL : el.P ∉ symL L fr.S)
    (hpost : possibles = [] ∨ ∃ b, AList.lookup args s.bankDer = some b ∧ AList.lookup el.comb b = some possibles) :
    FrOK E (pushNext E.A s fr.S h2 w el cl fr.noSucc).1 L { fr with noSucc := ns, cur := some (el.P, possibles, []) } := by
  have hnot : ∀ d ∈ h2, d.P ≠ el.P := fun d hd he =>
    (hH fr.S h2 hl).2 el.P (by simp [addLimbo]) (he ▸ List.mem_map.mpr ⟨d, hd, rfl⟩)
  obtain ⟨q, e⟩ := pushNext_eq E.A s fr.S h2 w el cl fr.noSucc
  have hb1 : (pushNext E.A s fr.S h2 w el cl fr.noSucc).1.bankNt = s.bankNt := by rw [e]
  have hd1 : (pushNext E.A s fr.S h2 w el cl fr.noSucc).1.bankDer = s.bankDer := by rw [e]
  refine (frOK_some rfl).mpr ⟨args, w, el.comb, [], ?_⟩
  exact {
    rule := hrule, ne := hne, nodup := .nil, fresh := nofun, built := nofun
    stored := by rw [hd1]; simpa using hpost
    consumed := (hN.limboc fr.S el.P el.comb (by simp [addL])).mono (fun kids hk => (BMono.of_eq hb1.symm).inBank hk)
      (fun _ _ _ hp => by rw [hd1]; exact hp) (BMono.of_eq hb1) (DSub.of_eq (by rw [e])) (Or.inr ⟨rfl, fun _ h => h⟩)
    notL := fun c1 hm => hnotL (List.mem_map.mpr ⟨(el.P, c1), hm, rfl⟩)
    ahead := by
      -- the heap of `fr.S` is `h2`, where no element has the symbol `el.P`, with or without the successor of `el`
      intro hh d hlk hd he
      unfold pushNext at hlk
      split at hlk
      · rw [St.setHeap, AList.lookup_insert_self] at hlk
        cases hlk
        rcases List.mem_cons.mp ((Heapq.push_perm (ltD E.A) h2 _).mem_iff.mp hd) with h3 | h3
        · subst h3; exact Nat.lt_succ_self _
        · exact absurd he (hnot d h3)
      · exact absurd he (hnot d (Option.some.inj (hl.symm.trans hlk) ▸ hd)) }

/-- what lets `query` deal with the program `p` it has built and go on with the frame `fr`: `p` is new, and once it is
    accepted and appended both invariants hold again -/
def EmitOK (E : Env α) (s : St α) (L : NT → List (Sym × Nat)) (fr : Frame α) (p : Prog) : Prop :=
  FrOK E s L fr ∧ ¬ InBank s fr.S p ∧
    ∀ s', s.appendBank fr.S fr.ci p = some s' → E.filter p = true → p ∉ s.deleted → NInv E s' L ∧ FrOK E s' L fr

theorem emitOK_tuple {E : Env α} {s : St α} {L : NT → List (Sym × Nat)} {fr : Frame α} {P : Sym} {poss : List (List Ref)}
    {tup : List Prog} {tups : List (List Prog)} (hN : NInv E s L) (hF : FrOK E s L fr)
    (hcur : fr.cur = some (P, poss, tup :: tups)) :
    EmitOK E s L { fr with cur := some (P, poss, tups) } (.node P tup) := by
  obtain ⟨args, w, c0, done, hC⟩ := (frOK_some hcur).mp hF
  obtain ⟨ps0, hps0, hp0, hk0⟩ := hC.built tup List.mem_cons_self
  have hnew : ¬ InBank s fr.S (.node P tup) := hC.fresh tup List.mem_cons_self
  have hC' : InProduct E s L fr.S P poss tups args w c0 done :=
    { hC with nodup := (List.nodup_cons.mp hC.nodup).2, fresh := fun t ht => hC.fresh t (List.mem_cons_of_mem _ ht),
              built := fun t ht => hC.built t (List.mem_cons_of_mem _ ht) }
  refine ⟨(frOK_some rfl).mpr ⟨args, w, c0, done, hC'⟩, hnew, fun s' hbk hacc hnd => ?_⟩
  obtain ⟨b, l, hb, hl, rfl⟩ := appendBank_eq hbk
  have hm := bmono_append (p := .node P tup) hb hl
  -- the provenance of `P(tup)`: the pools `ps0` of `done`, stored under the index `c0` of the frame
  have hprov : ∀ args' w', E.G.rule? fr.S P = some (args', w') → args' ≠ [] ∧ ∃ c ps, PossAt s.bankDer args' c ps ∧
      KidsIn s ps tup ∧ c = c0 ∧ ps ∈ done := fun args' w' hrule => by
    obtain ⟨rfl, _⟩ := Prod.mk.inj (Option.some.inj (hC.rule.symm.trans hrule))
    exact ⟨hC.ne, c0, ps0, hp0, hk0, rfl, hps0⟩
  refine ⟨ninv_append hN hb hl hnew (fun hh d hlk hd he args' w' hrule => ?_) hC.notL hacc hnd,
    (frOK_some rfl).mpr ⟨args, w, c0, done, { hC' with
      consumed := hC.consumed.append hb hl fun _ _ args' w' hrule =>
        have ⟨a, c, ps, b1, b2, b3⟩ := hprov args' w' hrule; ⟨a, c, ps, b1, b2, Or.inr b3⟩
      fresh := fun t ht ⟨c', hin⟩ => ?_
      built := fun t ht => have ⟨ps, hps, hp, hk⟩ := hC'.built t ht; ⟨ps, hps, hp, hk.mono hm (DSub.of_eq rfl)⟩ }⟩⟩
  · obtain ⟨a, c, ps, b1, b2, b3, _⟩ := hprov args' w' hrule
    exact ⟨a, c, ps, b1, b2, b3 ▸ hC.ahead hh d hlk hd he⟩
  · rcases (inBankAt_append hb hl _ c' _).mp hin with a | ⟨_, _, e3⟩
    · exact hC'.fresh t ht ⟨c', a⟩
    · exact (List.nodup_cons.mp hC.nodup).1 ((Tree.node.inj e3).2 ▸ ht)

/-- the next list of pools: its product is snapshotted -/
theorem frok_pools {E : Env α} {s : St α} {L : NT → List (Sym × Nat)} {Λ : List NT → List (List Nat)} {fr : Frame α}
    {P : Sym} {ps : List Ref} {poss : List (List Ref)} (hN : NInv E s L) (hT : TInv2 s Λ) (hF : FrOK E s L fr)
    (hcur : fr.cur = some (P, ps :: poss, [])) :
    FrOK E s L { fr with cur := some (P, poss, cartesian (ps.map s.resolve)) } := by
  obtain ⟨args, w, c0, done, hC⟩ := (frOK_some hcur).mp hF
  obtain ⟨b, hb, hlk⟩ := hC.stored.resolve_left nofun
  have hpAt : PossAt s.bankDer args c0 ps := ⟨b, _, hb, hlk, by simp⟩
  refine (frOK_some rfl).mpr ⟨args, w, c0, done ++ [ps], { hC with
    stored := Or.inr ⟨b, hb, by simpa [List.append_assoc] using hlk⟩
    consumed := hC.consumed.mono (fun _ hk => hk) (fun _ _ _ hp => hp) (BMono.refl _) (DSub.refl _)
      (Or.inr ⟨rfl, fun x hx => List.mem_append_left _ hx⟩)
    nodup := cartesian_nodup _ fun p hp => by
      obtain ⟨r, _, rfl⟩ := List.mem_map.mp hp
      exact resolve_nodup hN.binv r
    built := fun tup ht => ⟨ps, by simp, hpAt, (cartesian_kidsIn s ps tup ht).weak⟩
    fresh := fun tup ht hin => ?_ }⟩
  -- a tuple of the new product that is in a bank was built from `ps` under `c0` before: `ps` would be stored twice
  have hk := cartesian_kidsIn s ps tup ht
  obtain ⟨_, c, ps', hp', hk', hc⟩ := hC.consumed args w tup hC.rule hin
  obtain rfl : ps' = ps := refs_unique hN.binv hN.delout args ps' ps tup (tinv2_okRef hT hp') (tinv2_okRef hT hpAt) hk' hk
  have hU := tinv2_possU hT args
  have hc0 : c = c0 := hU.2 c c0 ps' hp' hpAt
  rcases hc with hc | hc
  · omega
  · exact (List.nodup_append.mp (hU.1 b c0 _ hb hlk)).2.2 ps' hc.2 ps' (by simp) rfl

theorem Pop.inv {E : Env α} {s s1 : St α} {fr : Frame α} {heap heap' : List (Deriv α)} {el : Deriv α} {args : List NT}
    {w : Int} {L : NT → List (Sym × Nat)} {Λ : List NT → List (List Nat)} (hP : Pop E s fr heap el heap' s1 args w)
    (hT : TInvK True Stored s Λ) (hN : NInv E s L) :
    TInvK True Stored s1 Λ ∧ NInv E s1 (addL L fr.S (el.P, el.comb)) ∧ BMono s s1 := by
  have hN0 := ninv_pop (ltD E.A) hN hP.look hP.pop
  obtain ⟨_, _, m1, m2, bB⟩ := ensureBank_spec hP.bank
  obtain ⟨b, rfl⟩ := ensureBank_eq hP.bank
  exact ⟨tinvK_of_eq rfl rfl hT, ninv_transfer hN0 rfl (bB hN0.binv) m2 m1 (fun _ _ _ hp => hp) rfl,
    (BMono.of_eq (s := s) (s' := s.setHeap fr.S heap') rfl).trans m1⟩

/-- a rule without arguments: its one program is new because the popped element is ahead of every program of the rule -/
theorem emitOK_leaf {E : Env α} {s s1 : St α} {fr : Frame α} {heap heap' : List (Deriv α)} {el : Deriv α} {w : Int}
    {L : NT → List (Sym × Nat)} (hP : Pop E s fr heap el heap' s1 [] w) (hH1 : HInv s1 (addLimbo (symL L) fr.S el.P))
    (hnotL : el.P ∉ symL L fr.S) (hN1 : NInv E s1 (addL L fr.S (el.P, el.comb))) :
    EmitOK E s1 L fr (.node el.P []) := by
  have hnew : ¬ InBank s1 fr.S (.node el.P []) := fun hin =>
    (hN1.limboc fr.S el.P el.comb (by simp [addL]) [] w [] hP.rule hin).1 rfl
  refine ⟨frok_none hP.cur, hnew, ?_⟩
  intro s' hbk hacc hnd
  obtain ⟨b, l, hb, hlb, rfl⟩ := appendBank_eq hbk
  refine ⟨ninv_append (ninv_limbo hN1 (fun S' x hx => mem_addL S' x hx)) hb hlb hnew ?_
    (fun c1 hm => hnotL (List.mem_map.mpr ⟨(el.P, c1), hm, rfl⟩)) hacc hnd, frok_none hP.cur⟩
  intro hh d hlk hd hdP
  exact absurd (by rw [← hdP]; exact List.mem_map.mpr ⟨d, hd, rfl⟩) ((hH1 fr.S hh hlk).2 el.P (by simp [addLimbo]))

def Call.NPost (E : Env α) (L : NT → List (Sym × Nat)) (s s' : St α) : Call α → Prop
  | .emit fr p out => EmitOK E s L fr p → NInv E s' L ∧ Yields E s fr.S L s' out
  | .resume fr out => FrOK E s L fr → NInv E s' L ∧ Yields E s fr.S L s' out
  | .drive fr => FrOK E s L fr → NInv E s' L
  | .queryDer args ci l => NInv E s' L ∧ (l = [] ∨ ∃ b, AList.lookup args s'.bankDer = some b ∧ AList.lookup ci b = some l)
  | _ => NInv E s' L

theorem Exec.ninv {E : Env α} {s s' : St α} {c : Call α} (h : Exec E s c s') :
    ∀ {L Λ}, HInv s (symL L) → TInvK True Stored s (c.pending Λ) → NInv E s L → c.NPost E L s s' := by
  induction h with
  | deleted _ _ ih => exact fun hH hT hN hE => ih hH hT hN hE.1
  | @rejected s fr p _ _ _ hf _ ih =>
    intro L Λ hH hT hN hE
    have hf : E.filter p = false := hf
    obtain ⟨d, e⟩ := addDeleted_eq s p
    have hF : FrOK E (s.addDeleted p) L fr := by
      have hd := addDeleted_sub s p
      rw [e] at hd ⊢
      exact frok_of_eq (s := s) rfl rfl rfl hd hE.1
    have hT' : TInvK True Stored (s.addDeleted p) Λ := by rw [e]; exact tinvK_of_eq rfl rfl hT
    obtain ⟨a, b⟩ := ih (hinv_addDeleted _ hH) hT' (ninv_addDeleted _ hN hf) hF
    exact ⟨a, b.mono (bmono_grows.addDeleted s p)⟩
  | yield hd hf hb =>
    intro L Λ _ _ _ hE
    obtain ⟨a, b⟩ := hE.2.2 _ hb hf (by simpa using hd)
    obtain ⟨b', l, hb', hl, rfl⟩ := appendBank_eq hb
    exact ⟨a, b, rfl, hE.2.1, _, (inBankAt_append hb' hl _ _ _).mpr (Or.inr ⟨rfl, rfl, rfl⟩)⟩
  | tuple hcur _ ih => exact fun hH hT hN hF => ih hH hT hN (emitOK_tuple hN hF hcur)
  | pools hcur _ ih => exact fun hH hT hN hF => ih hH hT hN (frok_pools hN (tinv2_iff.mpr hT) hF hcur)
  | ruleDone _ _ ih => exact fun hH hT hN _ => ih hH hT hN (frok_none rfl)
  | exit _ _ _ hx =>
    intro L Λ _ _ hN _
    obtain ⟨c, e, f, rfl⟩ := exitQuery_eq hx
    exact ⟨hN.same rfl rfl rfl rfl, trivial⟩
  | leaf hP _ ih =>
    intro L Λ hH hT hN _
    obtain ⟨hH1, hnotL⟩ := hP.hinv hH
    obtain ⟨hT1, hN1, m1⟩ := hP.inv hT hN
    obtain ⟨a, b⟩ := ih (hinv_dropLimbo hH1) hT1 (ninv_limbo hN1 (fun S' x hx => mem_addL S' x hx))
      (emitOK_leaf hP hH1 hnotL hN1)
    exact ⟨a, b.mono m1⟩
  | @node s fr _ el _ s1 args w s2 possibles em cl h2 _ _ hP hne hq _ _ hl2 _ ihq ih =>
    intro L Λ hH hT hN _
    obtain ⟨hH1, hnotL⟩ := hP.hinv hH
    obtain ⟨hT1, hN1, m1⟩ := hP.inv hT hN
    obtain ⟨hN2, hpost⟩ := ihq (by rw [symL_addL]; exact hH1) hT1 hN1
    have hH2 := hq.hinv hH1
    have hT3 : TInvK True Stored (pushNext E.A s2 fr.S h2 w el cl fr.noSucc).1 Λ := by
      obtain ⟨q, e⟩ := pushNext_eq E.A s2 fr.S h2 w el cl fr.noSucc
      rw [e]; exact tinvK_of_eq rfl rfl (hq.tinvK pools_stored hT1)
    have hF3 : ∀ cur, cur = none ∨ cur = some (el.P, possibles, []) →
        FrOK E (pushNext E.A s2 fr.S h2 w el cl fr.noSucc).1 L
          { fr with noSucc := (pushNext E.A s2 fr.S h2 w el cl fr.noSucc).2, cur := cur } := by
      rintro cur (rfl | rfl)
      · exact frok_none rfl
      · exact frok_start hN2 hH2 hl2 hP.rule hne hnotL hpost
    obtain ⟨a, b⟩ := ih (hinv_pushNext E.A hH2 hnotL hl2) hT3 (ninv_pushNext hN2 hl2) (hF3 _ (by split <;> simp))
    refine ⟨a, b.mono ((m1.trans (hq.grows bmono_grows)).trans ?_)⟩
    obtain ⟨q, e⟩ := pushNext_eq E.A s2 fr.S h2 w el cl fr.noSucc
    rw [e]; exact BMono.of_eq rfl
  | done _ ih => exact fun hH hT hN hF => (ih hH hT hN hF).1
  | next hr _ ih1 ih2 =>
    intro L Λ hH hT hN hF
    obtain ⟨a, b, _⟩ := ih1 hH hT hN hF
    exact ih2 (hr.hinv hH) (hr.tinvK pools_stored hT) a b
  | empty | noCost | cached | stop | nil => exact fun _ _ hN => hN
  | query _ _ _ _ _ _ _ _ ih => exact fun hH hT hN => ih hH hT hN (frok_none rfl)
  | brk _ _ ih => exact ih
  | arg hq _ _ ih1 ih2 => exact fun hH hT hN => ih2 (hq.hinv hH) (hq.tinvK pools_stored hT) (ih1 hH hT hN)
  | failed ha _ _ ih1 ih2 => exact fun hH hT hN => ih2 (ha.hinv hH) ((ha.tinvK pools_stored hT).drop pools_stored) (ih1 hH hT hN)
  | allowed ha hsucc _ ih1 ih2 =>
    intro L Λ hH hT hN
    have hT2 := ((ha.tinvK pools_stored hT).succLoop pools_stored _ _ _ _ _ _ _ _ hsucc).1
    have hH2 := hinv_succLoop _ _ _ _ _ _ _ _ _ hsucc (ha.hinv hH)
    obtain ⟨q, rfl⟩ := succLoop_eq _ _ _ _ _ _ _ _ _ hsucc
    exact ih2 hH2 hT2 (NInv.same (ih1 hH hT hN) rfl rfl rfl rfl)
  | store ha hsucc hb hl _ ih1 ih2 =>
    intro L Λ hH hT hN
    have hp := (ha.refs rfl).2
    rw [List.nil_append] at hp
    have hT3 := ((ha.tinvK pools_stored hT).succLoop pools_stored _ _ _ _ _ _ _ _ hsucc).2 _ _ _ hb hl
    rw [← hp] at hT3
    have hH2 := hinv_succLoop _ _ _ _ _ _ _ _ _ hsucc (ha.hinv hH)
    obtain ⟨q, rfl⟩ := succLoop_eq _ _ _ _ _ _ _ _ _ hsucc
    exact ih2 (hinv_of_eq rfl hH2) hT3 ((ih1 hH hT hN).morePools rfl rfl rfl (possAt_append_mono hb hl))
  | beyond => exact fun _ _ hN => ⟨hN, Or.inl rfl⟩
  | stored hb hl => exact fun _ _ hN => ⟨hN, Or.inr ⟨_, hb, hl⟩⟩
  | drained hb hl0 =>
    exact fun _ _ hN => ⟨hN.morePools rfl rfl rfl (possAt_nil_mono hb hl0), Or.inl rfl⟩
  | @derive s args ci b _ _ _ _ _ _ _ s5 l hb hl0 hq hpop _ hm ha hl5 ih =>
    intro L Λ hH hT hN
    have hN3 := ih (hinv_of_eq rfl hH) (hT.pop pools_stored hb hq hpop) (hN.morePools rfl rfl rfl (possAt_nil_mono hb hl0))
    have hpost := Option.bind_eq_some_iff.mp hl5
    obtain ⟨e, rfl⟩ := hm.eq
    obtain ⟨q, c, rfl⟩ := ha.eq
    exact ⟨NInv.same hN3 rfl rfl rfl rfl, Or.inr hpost⟩

structure NOk (E : Env α) (f : Nat) : Prop where
  resume : ∀ s fr r L Λ, resume E f s fr = some r → HInv s (symL L) → TInv2 s Λ → NInv E s L → FrOK E s L fr →
    ResN E s fr.S L r
  drive : ∀ s fr s' L Λ, drive E f s fr = some s' → HInv s (symL L) → TInv2 s Λ → NInv E s L → FrOK E s L fr → NInv E s' L
  queryList : ∀ s S ci s' ia r L Λ, queryList E f s S ci = some (s', ia, r) → HInv s (symL L) → TInv2 s Λ → NInv E s L →
    NInv E s' L
  argLoop : ∀ s cs ss ia agf acc s' ia' agf' acc' L Λ,
    argLoop E f s cs ss ia agf acc = some (s', ia', agf', acc') → HInv s (symL L) → TInv2 s Λ → NInv E s L → NInv E s' L
  combLoop : ∀ s args ci c combs ns hg s' ns' hg' L Λ,
    combLoop E f s args ci c combs ns hg = some (s', ns', hg') → HInv s (symL L) → TInv2 s (addT Λ args combs) →
    NInv E s L → NInv E s' L
  queryDer : ∀ s args ci s' l L Λ, queryDer E f s args ci = some (s', l) → HInv s (symL L) → TInv2 s Λ → NInv E s L →
    NInv E s' L ∧ (l = [] ∨ ∃ b, AList.lookup args s'.bankDer = some b ∧ AList.lookup ci b = some l)

theorem nok_all (E : Env α) (f : Nat) : NOk E f where
  resume _ _ r _ _ h hH hT hN hF := by
    have := ((sound E f).resume h).ninv hH (tinv2_iff.mp hT) hN hF
    cases r
    · exact this
    · exact this.1
  drive _ _ _ _ _ h hH hT := ((sound E f).drive h).ninv hH (tinv2_iff.mp hT)
  queryList _ _ _ _ _ _ _ _ h hH hT := ((sound E f).queryList h).ninv hH (tinv2_iff.mp hT)
  argLoop _ _ _ _ _ _ _ _ _ _ _ _ h hH hT := ((sound E f).argLoop h).ninv hH (tinv2_iff.mp hT)
  combLoop _ _ _ _ _ _ _ _ _ _ _ _ h hH hT := ((sound E f).combLoop h).ninv hH (tinv2_iff.mp hT)
  queryDer _ _ _ _ _ _ _ h hH hT := ((sound E f).queryDer h).ninv hH (tinv2_iff.mp hT)

end PS.CD
