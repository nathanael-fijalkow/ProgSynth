/- The frontier rule of beap search ("Generate next combinations", beap_search.py:177-193): from a
   combination `c` the loop pushes `c + e_i` for i = 0, 1, … and stops after the first i whose new
   index is > 1 (i.e. `c[i] ≥ 1`), skipping positions whose cost list is exhausted.  Hence `t` is
   pushed from `c` iff `t = c + e_i` where `i` is the FIRST non-zero coordinate of `t` (and `t[i]` is
   inside the cost list): every combination has exactly one producer (decrement its first non-zero
   coordinate) — the "produced-from" relation is a tree rooted at `0ᵏ`, so each combination is pushed
   at most once. -/
import PS.Proofs.Enum.BeapRun
import PS.Proofs.Enum.Tuples
namespace PS.Beap
open PS PS.G
set_option linter.unusedSectionVars false

/-- the combinations pushed from `comb` at positions `i, i+1, …`; `lens` = lengths of the cost lists of
    the argument non-terminals at these positions -/
def succCombs (comb : List Nat) : Nat → List Nat → List (List Nat)
  | _, [] => []
  | i, len :: lens =>
    if comb.getD i 0 + 1 ≥ len then
      if comb.getD i 0 + 1 > 1 then [] else succCombs comb (i + 1) lens
    else
      comb.set i (comb.getD i 0 + 1) :: (if comb.getD i 0 + 1 > 1 then [] else succCombs comb (i + 1) lens)

theorem mem_succCombs (comb t : List Nat) : ∀ (lens : List Nat) (i0 : Nat),
    t ∈ succCombs comb i0 lens ↔
      ∃ i, i0 ≤ i ∧ i < i0 + lens.length ∧ (∀ j, i0 ≤ j → j < i → comb.getD j 0 = 0) ∧
        t = comb.set i (comb.getD i 0 + 1) ∧ comb.getD i 0 + 1 < lens.getD (i - i0) 0 := by
  intro lens
  induction lens with
  | nil =>
    intro i0
    simp only [succCombs, List.not_mem_nil, List.length_nil, false_iff]
    rintro ⟨i, h1, h2, _⟩
    omega
  | cons len lens ih =>
    intro i0
    unfold succCombs
    have hrest : (t ∈ (if comb.getD i0 0 + 1 > 1 then [] else succCombs comb (i0 + 1) lens)) ↔
        ∃ i, i0 + 1 ≤ i ∧ i < i0 + 1 + lens.length ∧ (∀ j, i0 ≤ j → j < i → comb.getD j 0 = 0) ∧
          t = comb.set i (comb.getD i 0 + 1) ∧ comb.getD i 0 + 1 < lens.getD (i - (i0 + 1)) 0 := by
      split
      · next hgt =>
        simp only [List.not_mem_nil, false_iff]
        rintro ⟨i, h1, _, h3, _⟩
        have := h3 i0 (Nat.le_refl _) (by omega)
        omega
      · next hle =>
        rw [ih (i0 + 1)]
        have hz : comb.getD i0 0 = 0 := by omega
        constructor
        · rintro ⟨i, h1, h2, h3, h4, h5⟩
          refine ⟨i, h1, h2, fun j hj1 hj2 => ?_, h4, h5⟩
          by_cases hj : j = i0
          · subst hj; exact hz
          · exact h3 j (by omega) hj2
        · rintro ⟨i, h1, h2, h3, h4, h5⟩
          exact ⟨i, h1, h2, fun j hj1 hj2 => h3 j (by omega) hj2, h4, h5⟩
    have hshift : ∀ i, i0 + 1 ≤ i → (len :: lens).getD (i - i0) 0 = lens.getD (i - (i0 + 1)) 0 := by
      intro i hi
      have : i - i0 = (i - (i0 + 1)) + 1 := by omega
      rw [this]; simp
    split
    · next hge =>
      rw [hrest]
      constructor
      · rintro ⟨i, h1, h2, h3, h4, h5⟩
        exact ⟨i, by omega, by simp; omega, h3, h4, by rw [hshift i h1]; exact h5⟩
      · rintro ⟨i, h1, h2, h3, h4, h5⟩
        by_cases hi : i = i0
        · subst hi
          rw [Nat.sub_self] at h5
          have h5' : comb.getD i 0 + 1 < len := h5
          omega
        · exact ⟨i, by omega, by simp at h2; omega, h3, h4, by rw [← hshift i (by omega)]; exact h5⟩
    · next hlt =>
      rw [List.mem_cons, hrest]
      constructor
      · rintro (h | ⟨i, h1, h2, h3, h4, h5⟩)
        · exact ⟨i0, Nat.le_refl _, by simp, fun j hj1 hj2 => by omega, h, by rw [Nat.sub_self]; show comb.getD i0 0 + 1 < len; omega⟩
        · exact ⟨i, by omega, by simp; omega, h3, h4, by rw [hshift i h1]; exact h5⟩
      · rintro ⟨i, h1, h2, h3, h4, h5⟩
        by_cases hi : i = i0
        · subst hi; exact Or.inl h4
        · exact Or.inr ⟨i, by omega, by simp at h2; omega, h3, h4, by rw [← hshift i (by omega)]; exact h5⟩

theorem getD_set_eq (l : List Nat) (i j v : Nat) (hi : i < l.length) : (l.set i v).getD j 0 = if j = i then v else l.getD j 0 := by
  simp only [List.getD_eq_getElem?_getD, List.getElem?_set]
  by_cases h : i = j
  · subst h; simp [hi]
  · have : ¬ j = i := fun e => h e.symm
    simp [h, this]

/-- `t = c + e_i` where `i` is the first non-zero coordinate of `t` -/
def Succ (c t : List Nat) : Prop :=
  ∃ i, i < c.length ∧ (∀ j, j < i → c.getD j 0 = 0) ∧ t = c.set i (c.getD i 0 + 1)

theorem succ_of_mem (comb t lens : List Nat) (hl : lens.length = comb.length) (h : t ∈ succCombs comb 0 lens) : Succ comb t := by
  obtain ⟨i, _, h2, h3, h4, _⟩ := (mem_succCombs comb t lens 0).mp h
  exact ⟨i, by omega, fun j hj => h3 j (Nat.zero_le _) hj, h4⟩

theorem succ_getD (c t : List Nat) (i : Nat) (hi : i < c.length) (ht : t = c.set i (c.getD i 0 + 1)) (j : Nat) :
    t.getD j 0 = if j = i then c.getD i 0 + 1 else c.getD j 0 := by
  rw [ht]; exact getD_set_eq c i j _ hi

/-- `Succ` is the successor relation of the forest of index tuples that constant-delay and bee search use -/
theorem succ_iff : ∀ (c t : List Nat), Succ c t ↔ t ∈ CD.succs c
  | [], t => by
    simp only [CD.succs, List.not_mem_nil, iff_false]
    rintro ⟨i, hi, _⟩; cases hi
  | x :: xs, t => by
    simp only [CD.succs, List.mem_cons]
    constructor
    · rintro ⟨i, hi, hz, rfl⟩
      cases i with
      | zero => exact Or.inl (by simp)
      | succ i =>
        have hx : x = 0 := by simpa using hz 0 (Nat.succ_pos _)
        subst hx
        refine Or.inr ?_
        rw [if_neg (by omega)]
        refine List.mem_map.mpr ⟨xs.set i (xs.getD i 0 + 1), (succ_iff xs _).mp ⟨i, by simpa using hi, fun j hj => ?_, rfl⟩, by simp⟩
        simpa using hz (j + 1) (Nat.succ_lt_succ hj)
    · rintro (rfl | h)
      · exact ⟨0, by simp, fun j hj => absurd hj (Nat.not_lt_zero _), by simp⟩
      · split at h
        · cases h
        · next hx =>
          have hx : x = 0 := by omega
          subst hx
          obtain ⟨t', ht', rfl⟩ := List.mem_map.mp h
          obtain ⟨i, hi, hz, rfl⟩ := (succ_iff xs t').mpr ht'
          refine ⟨i + 1, by simpa using hi, fun j hj => ?_, by simp⟩
          cases j with
          | zero => simp
          | succ j => simpa using hz j (Nat.lt_of_succ_lt_succ hj)

theorem succ_unique (c c' t : List Nat) (h : Succ c t) (h' : Succ c' t) : c = c' :=
  CD.succs_disjoint c c' t ((succ_iff c t).mp h) ((succ_iff c' t).mp h')

theorem succCombs_producer_unique (c c' t : List Nat) (lens : List Nat) (hc : c.length = lens.length)
    (hc' : c'.length = lens.length) (h : t ∈ succCombs c 0 lens) (h' : t ∈ succCombs c' 0 lens) : c = c' :=
  succ_unique c c' t (succ_of_mem c t lens hc.symm h) (succ_of_mem c' t lens hc'.symm h')

theorem succCombs_producer_exists (t lens : List Nat) (ht : t.length = lens.length)
    (hbox : ∀ j, j < t.length → t.getD j 0 < lens.getD j 0) (i : Nat) (hi : i < t.length)
    (hfirst : ∀ j, j < i → t.getD j 0 = 0) (hnz : 0 < t.getD i 0) :
    t ∈ succCombs (t.set i (t.getD i 0 - 1)) 0 lens ∧
      (∀ j, j < t.length → (t.set i (t.getD i 0 - 1)).getD j 0 < lens.getD j 0) ∧
      (t.set i (t.getD i 0 - 1)).getD i 0 + 1 = t.getD i 0 := by
  have hget : ∀ j, (t.set i (t.getD i 0 - 1)).getD j 0 = if j = i then t.getD i 0 - 1 else t.getD j 0 :=
    fun j => getD_set_eq t i j _ hi
  refine ⟨?_, fun j hj => ?_, by rw [hget i]; simp only [if_true]; omega⟩
  · rw [mem_succCombs]
    refine ⟨i, Nat.zero_le _, by omega, fun j _ hj => ?_, ?_, ?_⟩
    · rw [hget j]; have : ¬ j = i := by omega
      simp only [this, if_false]; exact hfirst j hj
    · rw [hget i]; simp only [if_true]
      have : t.getD i 0 - 1 + 1 = t.getD i 0 := by omega
      rw [this]
      apply List.ext_getElem
      · simp
      · intro j hj1 hj2
        simp only [List.getElem_set]
        by_cases hji : i = j
        · subst hji; simp [List.getD_eq_getElem?_getD, hi]
        · simp [hji]
    · rw [hget i]; simp only [if_true, Nat.sub_zero]
      have := hbox i hi; omega
  · rw [hget j]
    have := hbox j hj
    split
    · next h => subst h; omega
    · omega

theorem succCombs_nodup (comb : List Nat) : ∀ (lens : List Nat) (i0 : Nat), i0 + lens.length ≤ comb.length →
    (succCombs comb i0 lens).Nodup := by
  intro lens
  induction lens with
  | nil => intro i0 _; simp [succCombs]
  | cons len lens ih =>
    intro i0 hl
    simp only [List.length_cons] at hl
    unfold succCombs
    have hrest : (if comb.getD i0 0 + 1 > 1 then [] else succCombs comb (i0 + 1) lens).Nodup := by
      split
      · exact List.nodup_nil
      · exact ih (i0 + 1) (by omega)
    split
    · exact hrest
    · refine List.nodup_cons.mpr ⟨fun hmem => ?_, hrest⟩
      split at hmem
      · cases hmem
      · obtain ⟨i, h1, h2, _, h4, _⟩ := (mem_succCombs comb _ lens (i0 + 1)).mp hmem
        have hne : ¬ i0 = i := by omega
        have a1 : (comb.set i0 (comb.getD i0 0 + 1)).getD i0 0 = comb.getD i0 0 + 1 := by
          rw [getD_set_eq comb i0 i0 _ (by omega)]; simp only [if_true]
        have a2 : (comb.set i (comb.getD i 0 + 1)).getD i0 0 = comb.getD i0 0 := by
          rw [getD_set_eq comb i i0 _ (by omega)]; simp only [hne, if_false]
        rw [h4] at a1
        omega

/-! ### the model's successor loop pushes exactly `succCombs` -/
variable {S : Type} [DecidableEq S]

theorem succEls_comb (cost : Cost) (P : Sym) (comb : List Nat) (s : St S) : ∀ (as : List (NT S Unit)) (i : Nat),
    (succEls cost P comb s i as).map (·.comb) = succCombs comb i (as.map fun a => (s.clOf a).length) := by
  intro as
  induction as with
  | nil => intro i; rfl
  | cons a as ih =>
    intro i
    unfold succEls succCombs
    simp only [List.map_cons]
    split
    · split
      · rfl
      · exact ih (i + 1)
    · split
      · rfl
      · simp only [List.map_cons, ih (i + 1)]

theorem succEls_P (cost : Cost) (P : Sym) (comb : List Nat) (s : St S) : ∀ (as : List (NT S Unit)) (i : Nat),
    ∀ el ∈ succEls cost P comb s i as, el.P = P := by
  intro as i el h
  obtain ⟨_, _, _, _, rfl⟩ := mem_succEls h
  rfl

theorem succLoop_perm (nt : NT S Unit) (cost : Cost) (P : Sym) (comb : List Nat) (as : List (NT S Unit)) (s : St S) (i : Nat) :
    ((succLoop nt cost P comb s i as).queueOf nt).Perm (succEls cost P comb s i as ++ s.queueOf nt) ∧
    ∀ nt', nt' ≠ nt → (succLoop nt cost P comb s i as).queueOf nt' = s.queueOf nt' := by
  rw [succLoop_eq]
  exact ⟨queueOf_pushAll_perm nt s _, fun nt' hne => queueOf_pushAll_ne nt s _ hne⟩

end PS.Beap
