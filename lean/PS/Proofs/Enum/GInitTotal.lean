/- With enough fuel the max-priority phase of heap search returns (acyclic context-free grammar
   whose rules all have weights and whose non-terminals all have rows), and for every fuel it memoises
   the priority of every program it records (`init_cached`). -/
import PS.Proofs.Enum.GBase
import PS.Proofs.Enum.GFrontier
namespace PS.HG
open PS PS.G PS.HS
set_option linter.unusedSectionVars false
variable {S π : Type} [DecidableEq S]

def ArityLe (G : TT S Unit) (A : Nat) : Prop := ∀ nt F ra, G.rule? nt F = some (ra, ()) → ra.length ≤ A

structure CachedM (s : St S Unit π) : Prop where
  mn : ∀ nt m, MN s nt = some m → (AList.lookup (m, nt) s.cache).isSome = true
  mr : ∀ nt P prog, MR s nt P = some prog → (AList.lookup (prog, nt) s.cache).isSome = true

theorem cachedM_empty (E : Env S Unit π) : CachedM (St.empty (π := π) E.G) := by
  refine ⟨?_, ?_⟩
  · intro nt m h; simp [MN, St.empty] at h
  · intro nt P prog h; simp [MR, St.empty] at h

structure TotHyp (E : Env S Unit π) (rank : NT S Unit → Nat) (A Rm : Nat) : Prop where
  init : InitHyp E rank
  wtotal : WTotal E
  closed : Closed E.G
  arity : ArityLe E.G A
  rows : ∀ nt rs, AList.lookup nt E.G.rules = some rs → rs.length ≤ Rm

theorem CachedM.step {s1 : St S Unit π} (hc1 : CachedM s1) (nt : NT S Unit) (P : Sym) (prog : Prog)
    (c : AList (Prog × NT S Unit) π)
    (hmono : ∀ key, (AList.lookup key s1.cache).isSome = true → (AList.lookup key c).isSome = true)
    (hnew : (AList.lookup (prog, nt) c).isSome = true) :
    CachedM { s1 with cache := c, maxRule := AList.insert (nt, P) prog s1.maxRule } := by
  refine ⟨fun x m hm => hmono _ (hc1.mn x m hm), ?_⟩
  intro x Q p hm
  have hm' : AList.lookup (x, Q) (AList.insert (nt, P) prog s1.maxRule) = some p := hm
  rw [AList.lookup_insert] at hm'
  split at hm'
  · rename_i heq; cases heq; cases hm'; exact hnew
  · exact hmono _ (hc1.mr x Q p hm')

theorem init_cached (E : Env S Unit π) : ∀ n : Nat,
    (∀ s nt s', initNT E n s nt = some s' → CachedM s → CachedM s' ∧ CMono s s') ∧
    (∀ s nt rs best s' best', maxLoop E n s nt rs best = some (s', best') → CachedM s →
      (∀ b, best = some b → (AList.lookup (b.1, nt) s.cache).isSome = true) →
      CachedM s' ∧ CMono s s' ∧ (∀ b, best' = some b → (AList.lookup (b.1, nt) s'.cache).isSome = true)) ∧
    (∀ s k info cur acc s' arguments, maxArgs E n s k info cur acc = some (s', arguments) → CachedM s →
      CachedM s' ∧ CMono s s') := by
  intro n
  induction n with
  | zero =>
    refine ⟨?_, ?_, ?_⟩
    · intro s nt s' h; simp [initNT] at h
    · intro s nt rs best s' best' h; simp [maxLoop] at h
    · intro s k info cur acc s' arguments h; simp [maxArgs] at h
  | succ n ih =>
    obtain ⟨ihI, ihL, ihA⟩ := ih
    refine ⟨?_, ?_, ?_⟩
    · intro s nt s' h hc
      rcases initNT_succ_iff.mp h with ⟨_, hs'⟩ | ⟨_, rs, _, ⟨_, hs'⟩ | ⟨_, s1, best, hml, rfl⟩⟩
      · rw [hs']; exact ⟨hc, CMono.refl _⟩
      · rw [hs']; exact ⟨hc, CMono.refl _⟩
      · obtain ⟨hc1, hm1, hb1⟩ := ihL { s with initS := s.initS ++ [nt] } _ _ _ _ _ hml ⟨hc.mn, hc.mr⟩
          (by intro b hb; cases hb)
        have hm1' : CMono s s1 := hm1
        cases best with
        | none => exact ⟨⟨fun x m hm => hc1.mn x m hm, fun x P p hp => hc1.mr x P p hp⟩, hm1'⟩
        | some b =>
          refine ⟨⟨?_, fun x P p hp => hc1.mr x P p hp⟩, hm1'⟩
          intro x m hm
          have hm' : AList.lookup x (AList.insert nt b.1 s1.maxNT) = some m := hm
          rw [AList.lookup_insert] at hm'
          split at hm'
          · rename_i heq; cases heq; cases hm'; exact hb1 b rfl
          · exact hc1.mn x m hm'
    · intro s nt rs best s' best' h hc hbest
      cases rs with
      | nil =>
        simp only [maxLoop, Option.some.injEq, Prod.mk.injEq] at h
        obtain ⟨rfl, rfl⟩ := h
        exact ⟨hc, CMono.refl _, hbest⟩
      | cons hd rest =>
        obtain ⟨P, ra, u⟩ := hd
        obtain ⟨s1, args, hb, h⟩ := maxLoop_cons_iff.mp h
        obtain ⟨hc1, hmono1⟩ := builtArgs_rel (R := fun s s' => CachedM s → CachedM s' ∧ CMono s s')
          (fun _ h => ⟨h, CMono.refl _⟩) (fun _ _ _ _ _ _ _ h hc => ihA _ _ _ _ _ _ _ h hc) hb hc
        split at h
        · obtain ⟨a, b, c⟩ := ihL _ _ _ _ _ _ h hc1 (fun b hb => hmono1 _ (hbest b hb))
          exact ⟨a, hmono1.trans b, c⟩
        · obtain ⟨c, pr, hcp, h⟩ := h
          obtain ⟨hmono, hnew⟩ := computePrio_cache E _ _ _ _ _ hcp
          have hm2 : CMono s1 { s1 with cache := c, maxRule := AList.insert (nt, P) (.node P args) s1.maxRule } := hmono
          obtain ⟨a, b, d⟩ := ihL _ _ _ _ _ _ h (hc1.step nt P _ c hmono hnew) (by
            intro b0 hb0
            rcases bestUpd_cases hb0 with rfl | hb0
            · exact hnew
            · exact hmono _ (hmono1 _ (hbest _ hb0)))
          exact ⟨a, hmono1.trans (hm2.trans b), d⟩
    · intro s k info cur acc s' arguments h hc
      cases k with
      | zero =>
        simp only [maxArgs, Option.some.injEq, Prod.mk.injEq] at h
        obtain ⟨rfl, _⟩ := h
        exact ⟨hc, CMono.refl _⟩
      | succ k =>
        obtain ⟨s1, hi, ⟨_, hres⟩ | ⟨m, r, _, _, h⟩⟩ := maxArgs_succ_iff.mp h
        · cases hres; exact ihI _ _ _ hi hc
        · obtain ⟨hc1, hm1⟩ := ihI _ _ _ hi hc
          obtain ⟨a, b⟩ := ihA _ _ _ _ _ _ _ h hc1
          exact ⟨a, hm1.trans b⟩

/-- the non-terminals of rank below `R` are initialised with fuel `B` -/
def ChildInit (E : Env S Unit π) (rank : NT S Unit → Nat) (R B : Nat) : Prop :=
  ∀ nt, rank nt < R → ∀ n, B ≤ n → ∀ s, KInv E s → MInv E s → CachedM s →
    (AList.lookup nt E.G.rules).isSome = true → (∀ x ∈ s.initS, rank nt < rank x) →
    ∃ s', initNT E n s nt = some s'

theorem maxArgs_total {E : Env S Unit π} {rank} {A Rm : Nat} (T : TotHyp E rank A Rm) {R B : Nat}
    (ihc : ChildInit E rank R B) :
    ∀ (k m : Nat), B + 1 + k ≤ m → ∀ (s : St S Unit π) (nt : NT S Unit) (F : Sym) (ra : List (Ty × S))
      (info : Info S) (cur : NT S Unit) (acc : List Prog), rank nt ≤ R → Open E rank s nt → CachedM s →
      E.G.rule? nt F = some (ra, ()) → PreK ra acc k info cur s →
      ∃ res, maxArgs E m s k info cur acc = some res := by
  intro k
  induction k with
  | zero =>
    intro m hm s nt F ra info cur acc _ _ _ _ _
    obtain ⟨m', rfl⟩ : ∃ m', m = m' + 1 := ⟨m - 1, by omega⟩
    exact ⟨(s, acc), by simp [maxArgs]⟩
  | succ k ih =>
    intro m hm s nt F ra info cur acc hrk o hc hr hpre
    obtain ⟨m', rfl⟩ : ∃ m', m = m' + 1 := ⟨m - 1, by omega⟩
    obtain ⟨-, a, ha, hcur⟩ := hpre.next (Nat.succ_pos k)
    have hamem := List.mem_of_getElem? ha
    have hrc : rank cur < rank nt := by rw [hcur]; exact T.init.acyclic nt F ra hr a hamem
    have hrowc : (AList.lookup cur E.G.rules).isSome = true := by rw [hcur]; exact T.closed nt F ra hr a hamem
    have hlow : ∀ x ∈ s.initS, rank cur < rank x := fun x hx => Nat.lt_of_lt_of_le hrc (o.least x hx)
    obtain ⟨s1, hi⟩ := ihc cur (by omega) m' (by omega) s o.kinv o.minv hc hrowc hlow
    obtain ⟨k1, hsome⟩ := (init_K E rank T.init m').1 s cur s1 o.kinv o.minv hlow hi
    obtain ⟨mm, hm1⟩ := Option.isSome_iff_exists.mp hsome
    have hgm := k1.minv.nt_gen cur mm hm1
    obtain ⟨r2, hr2, -⟩ := deriveAll_gen E.G mm cur info hgm
    obtain ⟨res, hres⟩ := ih m' (by omega) s1 nt F ra r2.1 r2.2 (acc ++ [mm]) hrk (o.step k1)
      ((init_cached E m').1 _ _ _ hi hc).1 hr ((hpre.mono fun _ _ => k1.ext.1 _ _).snoc hm1 hgm hr2)
    exact ⟨res, maxArgs_succ_iff.mpr ⟨s1, hi, Or.inr ⟨mm, r2, hm1, hr2, hres⟩⟩⟩

theorem maxLoop_total {E : Env S Unit π} {rank} {A Rm : Nat} (T : TotHyp E rank A Rm) {R B : Nat}
    (ihc : ChildInit E rank R B) :
    ∀ (rest : AList Sym (List (Ty × S) × Unit)) (m : Nat), B + A + 3 + rest.length ≤ m →
      ∀ (s : St S Unit π) (nt : NT S Unit) (rs done : AList Sym (List (Ty × S) × Unit)) (best : Option (Prog × π)),
        rank nt ≤ R → Open E rank s nt → CachedM s → Row E s nt rs done rest best →
        ∃ res, maxLoop E m s nt rest best = some res := by
  intro rest
  induction rest with
  | nil =>
    intro m hm s nt rs done best _ _ _ _
    obtain ⟨m', rfl⟩ : ∃ m', m = m' + 1 := ⟨m - 1, by omega⟩
    exact ⟨(s, best), by simp [maxLoop]⟩
  | cons hd rest' ih =>
    intro m hm s nt rs done best hrk o hc row
    obtain ⟨m', rfl⟩ : ∃ m', m = m' + 1 := ⟨m - 1, by simp at hm; omega⟩
    simp only [List.length_cons] at hm
    obtain ⟨P, ra, ⟨⟩⟩ := hd
    have hr := row.rule T.init
    have hral := T.arity nt P ra hr
    obtain ⟨s1, args, hb⟩ : ∃ s1 args, builtArgs E m' s nt P ra = some (s1, args) := by
      unfold builtArgs
      by_cases hlen : ra.length > 0
      · obtain ⟨⟨s1, args⟩, hma⟩ := maxArgs_total T ihc ra.length m' (by omega) s nt P ra _ _ [] hrk o hc hr
          (.first _ nt ra)
        exact ⟨s1, args, by rw [if_pos hlen, TT.derive_of_rule hr]; exact hma⟩
      · exact ⟨s, [], if_neg hlen⟩
    obtain ⟨k1, hal, hargs⟩ := built_K E rank m' (init_K E rank T.init m').2.2 o hr hb
    have hc1 : CachedM s1 := (builtArgs_rel (R := fun s s' => CachedM s → CachedM s' ∧ CMono s s')
      (fun _ h => ⟨h, CMono.refl _⟩) (fun _ _ _ _ _ _ _ h hc => (init_cached E m').2.2 _ _ _ _ _ _ _ h hc) hb hc).1
    -- the priority of the program is computed: its arguments are memoised
    obtain ⟨⟨c, pr⟩, hcp⟩ := computePrio_total E T.wtotal s1.cache nt P args ra hr
      (genList_of_pointwise E.G args ra hal (fun j mm a hj ha => k1.minv.nt_gen _ mm (hargs j mm a hj ha)))
      (fun j kj aj hkj haj => hc1.mn _ _ (hargs j kj aj hkj haj))
    obtain ⟨k12, row2, _⟩ := tail_facts E rank T.init k1.kinv k1.minv (k1.init ▸ o.mem) k1.ext k1.low row hal hargs hcp
      rfl rfl
    obtain ⟨hmono, hnew⟩ := computePrio_cache E s1.cache nt _ c pr hcp
    obtain ⟨res, hres⟩ := ih m' (by omega) _ nt rs (done ++ [(P, (ra, ()))]) _ hrk
      (o.step ((k1.mono (Nat.le_succ _)).trans k12)) (hc1.step nt P _ c hmono hnew) row2
    exact ⟨res, maxLoop_cons_iff.mpr ⟨s1, args, hb, by rw [if_neg (not_not_intro hal)]; exact ⟨c, pr, hcp, hres⟩⟩⟩

/-- each rank costs `A + Rm + 4` units of fuel: one for the call and `A + 3 + Rm` for `maxLoop` over a row of at most
    `Rm` rules (`maxLoop_total`) -/
theorem initNT_total {E : Env S Unit π} {rank} {A Rm : Nat} (T : TotHyp E rank A Rm) :
    ∀ R, ChildInit E rank R (R * (A + Rm + 4)) := by
  intro R
  induction R with
  | zero => intro nt hr; omega
  | succ R ih =>
    intro nt hrk n hn s hk hmi hc hrow hrkx
    have hrk' : rank nt ≤ R := by omega
    have hn' : R * (A + Rm + 4) + A + Rm + 4 ≤ n := by
      have : (R + 1) * (A + Rm + 4) = R * (A + Rm + 4) + (A + Rm + 4) := Nat.succ_mul R _
      omega
    obtain ⟨n', rfl⟩ : ∃ n', n = n' + 1 := ⟨n - 1, by omega⟩
    have hnin : nt ∉ s.initS := fun hm => Nat.lt_irrefl _ (hrkx nt hm)
    obtain ⟨rs, hrs⟩ := Option.isSome_iff_exists.mp hrow
    by_cases hall : (rs.all fun r => (AList.lookup (nt, r.1) s.maxRule).isSome) = true
    · exact ⟨s, initNT_succ_iff.mpr (Or.inr ⟨hnin, rs, hrs, Or.inl ⟨hall, rfl⟩⟩)⟩
    · obtain ⟨o0, row0⟩ := hk.enter hmi hrs hrkx hall
      have hrl := T.rows nt rs hrs
      obtain ⟨⟨s1, best⟩, hml⟩ := maxLoop_total T ih rs n' (by omega) _ nt rs [] none hrk' o0 ⟨hc.mn, hc.mr⟩ row0
      exact ⟨_, initNT_succ_iff.mpr (Or.inr ⟨hnin, rs, hrs, Or.inr ⟨hall, s1, best, hml, rfl⟩⟩)⟩

end PS.HG
