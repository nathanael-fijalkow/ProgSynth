/- Bee search, order along every history: `__init__` establishes the order invariant, `merge_program` and whole
   histories keep it; the yielded costs never decrease. -/
import PS.Proofs.Enum.BeeOrder
import PS.Proofs.Enum.BeeSound
namespace PS.Bee
open PS PS.G PS.Heapq

variable {S : Type} [DecidableEq S]
set_option linter.unusedSectionVars false
set_option linter.unusedSimpArgs false

/-- the rule table behaves as a dict -/
def DictOK (E : Env S) : Prop := ∀ nt rs, (nt, rs) ∈ E.G.rules → ∀ P rl, (P, rl) ∈ rs → ruleArgs E nt P = some rl.1

theorem dictOK_of_check (E : Env S) (h : dictOK E = true) : DictOK E := by
  intro nt rs hm P rl hp
  unfold dictOK at h
  have h1 := List.all_eq_true.mp h _ hm
  have h2 := List.all_eq_true.mp h1 _ hp
  simpa using h2

/-- the state-level part of the order invariant during `__init__` (cost list still empty) -/
structure OInit (E : Env S) (s : St S) : Prop where
  cl : s.costList = []
  heaps : HAll s
  q : QAll (QOk E 0) s
  d : DAll (DOk E []) s

theorem realCost_nil_nonneg (E : Env S) (hw : NNW E) (nt : NT S Unit) (P : Sym) (idx : List Nat) (c : Int)
    (h : realCost E [] nt P idx = some c) : 0 ≤ c ∧ ∃ args, ruleArgs E nt P = some args := by
  obtain ⟨w, args, hwc, ha, h⟩ := realCost_eq_some.mp h
  have := (realCostLoop_lower [] idx (by simp) _ _ _ _ h).1
  have := hw nt P w hwc
  exact ⟨by omega, args, ha⟩

theorem gord_new (E : Env S) (hw : NNW E) (hdict : DictOK E) (g0 : Gen S) (h : Gen.new E = some g0) (b : Int) (hb : b ≤ 0) :
    GOrd E g0 b := by
  obtain ⟨o, hph⟩ := new_ind (I := OInit E) ⟨rfl, (fun _ _ h => nomatch h), QAll.nil _, DAll.nil _⟩
    (fun s nt ho => ⟨ho.cl, fun nt' l hm => (AList.mem_insert hm).elim (fun e => by cases e; exact isHeap_nil _) (ho.heaps _ _),
      ho.q.newRow nt, ho.d⟩)
    (fun nt rs P rl hnt hP s s' ha ho => by
      have hargs := hdict nt rs hnt P rl hP
      obtain ⟨hq1, hd1⟩ := addCombination_all E (QOk E 0) (DOk E []) s s' nt P _ none ha
        (fun c _ hc => by
          rw [ho.cl] at hc
          obtain ⟨h0, _⟩ := realCost_nil_nonneg E hw nt P _ c hc
          exact ⟨h0, h0, rl.1, hargs, by simp⟩)
        (fun hn => ⟨by rw [ho.cl] at hn; exact hn, rl.1, hargs, by simp⟩) ho.q ho.d
      exact ⟨(addCombination_frame ha).cl.trans ho.cl, addCombination_heaps E s s' nt P _ none ha ho.heaps,
        hq1, hd1⟩) h
  simp only [GOrd, hph, Phase.cost?]
  exact ⟨0, ⟨by rw [o.cl]; simp, by rw [o.cl]; simp, Int.le_refl _, by rw [o.cl]; simp, o.heaps, o.q, by rw [o.cl]; exact o.d⟩, hb⟩

theorem merge_order (E : Env S) (g : Gen S) (other : Prog) (ty : Ty) (b : Int) (h : GOrd E g b) :
    GOrd E (merge E g other ty) b := by
  unfold merge
  simp only [GOrd] at h ⊢
  cases hc : g.phase.cost? with
  | none =>
    simp only [hc] at h ⊢
    obtain ⟨low, hos, hb⟩ := h
    exact ⟨low, ost_of_eq E (s := g.st) rfl rfl rfl hos, hb⟩
  | some c =>
    simp only [hc] at h ⊢
    exact ⟨ost_of_eq E (s := g.st) rfl rfl rfl h.1, h.2⟩

def SortedUpTo (E : Env S) (acc : List Prog) (b : Int) : Prop :=
  (acc.map fun p => pcost E p E.G.start).Pairwise (· ≤ ·) ∧ ∀ p ∈ acc, pcost E p E.G.start ≤ b

theorem sortedUpTo_snoc (E : Env S) (acc : List Prog) (b : Int) (p : Prog) (h : SortedUpTo E acc b)
    (hp : b ≤ pcost E p E.G.start) : SortedUpTo E (acc ++ [p]) (pcost E p E.G.start) := by
  obtain ⟨h1, h2⟩ := h
  refine ⟨List.map_append ▸ pairwise_snoc h1 fun y hy => ?_, fun q hq => ?_⟩
  · obtain ⟨q, hq, rfl⟩ := List.mem_map.mp hy
    exact Int.le_trans (h2 q hq) hp
  · rcases List.mem_append.mp hq with hq | hq
    · exact Int.le_trans (h2 q hq) hp
    · rw [List.mem_singleton.mp hq]; exact Int.le_refl _

/-- a yield happens inside a round, at the round's cost, which is the bound from then on -/
theorem runActs_order (E : Env S) (hw : NNW E) (fuel : Nat) : ∀ (acts : List Act) (g g' : Gen S) (acc out : List Prog) (b : Int),
    runActs E fuel acts g acc = some (g', out) → GInv E g → GOrd E g b → SortedUpTo E acc b →
    ∃ b', GOrd E g' b' ∧ SortedUpTo E out b' := by
  intro acts g g' acc out b h hi ho hs
  refine (runActs_ind (J := fun g acc => GInv E g ∧ ∃ b, GOrd E g b ∧ SortedUpTo E acc b) ?_ fuel acts g g' acc out
    (fun other ty _ g acc hj => ⟨merge_sound E g other ty hj.1, hj.2.imp fun b hb => ⟨merge_order E g other ty b hb.1, hb.2⟩⟩) h
    ⟨hi, b, ho, hs⟩).2
  intro g g1 o acc hst hj
  obtain ⟨hi, b, ho, hs⟩ := hj
  obtain ⟨hi1, hy⟩ := step_sound E g g1 o hst hi
  have ho1 := step_order E hw g g1 o b hst hi ho
  refine ⟨hi1, ?_⟩
  cases o with
  | none => exact ⟨b, ho1, by simpa using hs⟩
  | some p =>
    obtain ⟨_, hc, _, _⟩ := hy p rfl
    obtain ⟨succ, cost, nt, rest, maxi, ci, ps, hph, hph1⟩ := step_yield hst
    rw [hph] at hc
    cases hc
    simp only [GOrd, hph1, Phase.cost?] at ho1
    exact ⟨_, by simp only [GOrd, hph1, Phase.cost?]; exact ⟨ho1.1, Int.le_refl _⟩, sortedUpTo_snoc E acc b p hs ho1.2⟩

theorem runActs_order_new (E : Env S) (hw : NNW E) (hdict : DictOK E) {fuel : Nat} {acts : List Act} {g0 g : Gen S}
    {out : List Prog} (h0 : Gen.new E = some g0) (h : runActs E fuel acts g0 [] = some (g, out)) :
    (∃ b, GOrd E g b) ∧ (out.map fun p => pcost E p E.G.start).Pairwise (· ≤ ·) :=
  let ⟨b, ho, hs⟩ := runActs_order E hw fuel acts g0 g [] out 0 h (ginv_new E g0 h0).1
    (gord_new E hw hdict g0 h0 0 (Int.le_refl _)) ⟨List.Pairwise.nil, nofun⟩
  ⟨⟨b, ho⟩, hs.1⟩

end PS.Bee
