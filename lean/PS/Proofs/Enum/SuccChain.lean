/- The successor table of a non-terminal (`succ[nt]`, keyed by the previous program, `none` for the first) read as a
   chain: following it from the sentinel lists what was popped, in order.  Heap search, its generic version and heap
   search on unambiguous grammars all keep such tables; what holds of the first link and is kept along the links holds
   of every recorded program, a chain of an injective table repeats nothing, and its positions number the pops. -/
import PS.Basic
import PS.Model.Grammar
namespace PS.HS
open PS PS.G

/-- `l` is what following the successor table from `prev` yields -/
def chainFrom (Tb : AList (Option Prog) Prog) : Option Prog → List Prog → Prop
  | _, [] => True
  | prev, y :: ys => AList.lookup prev Tb = some y ∧ chainFrom Tb (some y) ys

/-- the key of the next query: the last program yielded -/
def lastOr (prev : Option Prog) (l : List Prog) : Option Prog :=
  match l.getLast? with
  | none => prev
  | some x => some x

theorem lastOr_cons (prev : Option Prog) (y : Prog) (ys : List Prog) :
    lastOr prev (y :: ys) = lastOr (some y) ys := by
  unfold lastOr
  cases ys with
  | nil => rfl
  | cons z zs =>
    rw [List.getLast?_cons_cons]
    cases h : (z :: zs).getLast? with
    | none => simp at h
    | some x => rfl

theorem chainFrom_snoc (Tb : AList (Option Prog) Prog) :
    ∀ (l : List Prog) (prev : Option Prog) (p : Prog),
      chainFrom Tb prev (l ++ [p]) ↔ chainFrom Tb prev l ∧ AList.lookup (lastOr prev l) Tb = some p
  | [], prev, p => by simp [chainFrom, lastOr]
  | y :: ys, prev, p => by
    simp only [List.cons_append, chainFrom, lastOr_cons]
    rw [chainFrom_snoc Tb ys (some y) p]
    exact and_assoc.symm

theorem chainFrom_mid (Tb : AList (Option Prog) Prog) :
    ∀ (l1 : List Prog) (prev : Option Prog) (p : Prog) (l2 : List Prog),
      chainFrom Tb prev (l1 ++ p :: l2) → AList.lookup (lastOr prev l1) Tb = some p
  | [], prev, p, l2, h => h.1
  | y :: ys, prev, p, l2, h => by
    rw [lastOr_cons]
    exact chainFrom_mid Tb ys (some y) p l2 h.2

theorem lastOr_mem (prev : Option Prog) (l : List Prog) :
    lastOr prev l = prev ∨ ∃ z ∈ l, lastOr prev l = some z := by
  unfold lastOr
  cases h : l.getLast? with
  | none => exact Or.inl rfl
  | some x => exact Or.inr ⟨x, List.mem_of_getLast? h, rfl⟩

theorem chain_mem_value (Tb : AList (Option Prog) Prog) :
    ∀ (l : List Prog) (prev : Option Prog), chainFrom Tb prev l → ∀ z ∈ l, ∃ k, AList.lookup k Tb = some z
  | [], _, _, z, hz => by cases hz
  | y :: ys, prev, h, z, hz => by
    rcases List.mem_cons.mp hz with rfl | hz
    · exact ⟨prev, h.1⟩
    · exact chain_mem_value Tb ys (some y) h.2 z hz

theorem chain_last_value (Tb : AList (Option Prog) Prog) {l : List Prog} (hch : chainFrom Tb none l) {x : Prog}
    (hx : lastOr none l = some x) : ∃ k, AList.lookup k Tb = some x := by
  rcases lastOr_mem none l with e | ⟨z, hz, e⟩
  · rw [e] at hx; cases hx
  · rw [e] at hx; cases hx
    exact chain_mem_value _ l none hch x hz

theorem chain_total (Tb : AList (Option Prog) Prog) :
    ∀ (l1 l2 : List Prog) (prev : Option Prog), chainFrom Tb prev l1 → chainFrom Tb prev l2 →
      (∃ r, l2 = l1 ++ r) ∨ (∃ r, l1 = l2 ++ r)
  | [], l2, _, _, _ => Or.inl ⟨l2, rfl⟩
  | y :: ys, [], _, _, _ => Or.inr ⟨y :: ys, rfl⟩
  | y :: ys, y' :: ys', prev, h1, h2 => by
    have : y' = y := by
      have a := h1.1; have b := h2.1
      rw [a] at b; exact (Option.some.inj b).symm
    subst this
    rcases chain_total Tb ys ys' (some y') h1.2 h2.2 with ⟨r, hr⟩ | ⟨r, hr⟩
    · exact Or.inl ⟨r, by rw [hr]; rfl⟩
    · exact Or.inr ⟨r, by rw [hr]; rfl⟩

/-- Two chains from the same key are prefixes of one another; `l1` has ended, so `l2` is the prefix. -/
theorem chain_prefix (Tb : AList (Option Prog) Prog) (l2 l1 : List Prog) (prev : Option Prog)
    (h1 : chainFrom Tb prev l1) (h2 : chainFrom Tb prev l2) (hend : AList.lookup (lastOr prev l1) Tb = none) :
    ∀ p ∈ l2, p ∈ l1 := by
  rcases chain_total Tb l1 l2 prev h1 h2 with ⟨r, rfl⟩ | ⟨r, rfl⟩
  · cases r with
    | nil => intro p hp; simpa using hp
    | cons y r => rw [chainFrom_mid Tb l1 prev y r h2] at hend; cases hend
  · exact fun p hp => List.mem_append_left _ hp

theorem chainFrom_nodup (Tb : AList (Option Prog) Prog)
    (hinj : ∀ k k' v, AList.lookup k Tb = some v → AList.lookup k' Tb = some v → k = k') :
    ∀ (l : List Prog) (prev : Option Prog), chainFrom Tb prev l → (∀ z ∈ l, prev ≠ some z) → l.Nodup
  | [], _, _, _ => List.nodup_nil
  | y :: ys, prev, h, hp => by
    have hy : y ∉ ys := by
      intro hmem
      obtain ⟨l1, l2, rfl⟩ := List.append_of_mem hmem
      have h1 := chainFrom_mid Tb l1 (some y) y l2 h.2
      have h2 := hinj _ _ _ h.1 h1
      rcases lastOr_mem (some y) l1 with e | ⟨z, hz, e⟩
      · rw [e] at h2; exact hp y (List.mem_cons_self) h2
      · rw [e] at h2
        exact hp z (List.mem_cons_of_mem _ (List.mem_append_left _ hz)) h2
    refine List.nodup_cons.mpr ⟨hy, chainFrom_nodup Tb hinj ys (some y) h.2 ?_⟩
    intro z hz e
    cases e
    exact hy hz

theorem chainFrom_stable {Tb Tb' : AList (Option Prog) Prog}
    (hst : ∀ k v, AList.lookup k Tb = some v → AList.lookup k Tb' = some v) :
    ∀ (l : List Prog) (prev : Option Prog), chainFrom Tb prev l → chainFrom Tb' prev l
  | [], _, _ => trivial
  | y :: ys, _, h => ⟨hst _ _ h.1, chainFrom_stable hst ys (some y) h.2⟩

/-- Transitivity is asked only through a `b` that the table records: the orders of the searches are transitive only
    through a program that has a priority (one that is derivable), and a recorded program has one. -/
theorem chain_sortedR (Tb : AList (Option Prog) Prog) (Rel : Prog → Prog → Prop)
    (htrans : ∀ a b c, (∃ k, AList.lookup k Tb = some b) → Rel a b → Rel b c → Rel a c)
    (hlink : ∀ k v, AList.lookup (some k) Tb = some v → Rel k v) :
    ∀ (l : List Prog) (prev : Option Prog), chainFrom Tb prev l →
      l.Pairwise Rel ∧ ∀ x, prev = some x → ∀ z ∈ l, Rel x z
  | [], _, _ => ⟨List.Pairwise.nil, fun _ _ z hz => by cases hz⟩
  | y :: ys, prev, h => by
    obtain ⟨ih1, ih2⟩ := chain_sortedR Tb Rel htrans hlink ys (some y) h.2
    refine ⟨List.Pairwise.cons (fun z hz => ih2 y rfl z hz) ih1, ?_⟩
    intro x hx z hz
    subst hx
    have hyx := hlink x y h.1
    rcases List.mem_cons.mp hz with rfl | hz
    · exact hyx
    · exact htrans _ _ _ ⟨_, h.1⟩ hyx (ih2 y rfl z hz)

theorem chainFrom_induct (Tb : AList (Option Prog) Prog) (Q : Prog → Prop)
    (h0 : ∀ x, AList.lookup none Tb = some x → Q x)
    (hs : ∀ y q, Q y → AList.lookup (some y) Tb = some q → Q q) :
    ∀ (l : List Prog) (prev : Option Prog), chainFrom Tb prev l → (prev = none ∨ ∃ y, prev = some y ∧ Q y) → ∀ z ∈ l, Q z
  | [], _, _, _, z, hz => by cases hz
  | y :: ys, prev, h, hp, z, hz => by
    have hy : Q y := by
      rcases hp with rfl | ⟨y0, rfl, hy0⟩
      · exact h0 y h.1
      · exact hs y0 y hy0 h.1
    rcases List.mem_cons.mp hz with rfl | hz
    · exact hy
    · exact chainFrom_induct Tb Q h0 hs ys (some y) h.2 (Or.inr ⟨y, rfl, hy⟩) z hz

theorem lastOr_snoc (prev : Option Prog) (l : List Prog) (x : Prog) : lastOr prev (l ++ [x]) = some x := by
  unfold lastOr; simp

end PS.HS

namespace PS.HG
open PS PS.G PS.HS

theorem chainFrom_getElem (t : AList (Option Prog) Prog) : ∀ (L : List Prog) (prev : Option Prog), chainFrom t prev L →
    (∀ h : 0 < L.length, AList.lookup prev t = some L[0]) ∧
    ∀ (i : Nat) (h : i + 1 < L.length), AList.lookup (some L[i]) t = some L[i + 1]
  | [], _, _ => ⟨fun h => absurd h (by simp), fun i h => absurd h (by simp)⟩
  | y :: ys, prev, h => by
    obtain ⟨h0, hs⟩ := chainFrom_getElem t ys (some y) h.2
    refine ⟨fun _ => h.1, fun i hi => ?_⟩
    cases i with
    | zero => exact h0 (by simpa using hi)
    | succ i => exact hs i (by simpa using hi)

theorem lastOr_getElem (L : List Prog) (h : 0 < L.length) : lastOr none L = some L[L.length - 1] := by
  unfold lastOr
  rw [List.getLast?_eq_getElem?, List.getElem?_eq_getElem (by omega)]

/-- `L` is the whole chain of the table `t`: it starts at the sentinel, cannot be extended, and holds every recorded
    program once; the position in `L` is the number of a program in pop order -/
structure FullChain (t : AList (Option Prog) Prog) (L : List Prog) : Prop where
  chain : chainFrom t none L
  stop : AList.lookup (lastOr none L) t = none
  nodup : L.Nodup
  mem : ∀ x, (∃ k, AList.lookup k t = some x) ↔ x ∈ L

namespace FullChain
variable {t : AList (Option Prog) Prog} {L : List Prog}

theorem idx_next (F : FullChain t L) {x z : Prog} (hx : x ∈ L) (h : AList.lookup (some x) t = some z) :
    L.idxOf z = L.idxOf x + 1 := by
  have hi := List.idxOf_lt_length_iff.mpr hx
  have hxi : L[L.idxOf x] = x := List.getElem_idxOf hi
  by_cases h1 : L.idxOf x + 1 < L.length
  · have := (chainFrom_getElem t L none F.chain).2 _ h1
    rw [hxi, h] at this
    rw [Option.some.inj this]
    exact F.nodup.idxOf_getElem _ h1
  · have hs := F.stop
    rw [lastOr_getElem L (by omega)] at hs
    have e : L[L.length - 1] = x := (getElem_congr_idx (by omega)).trans hxi
    rw [e, h] at hs; cases hs

theorem idx_first (F : FullChain t L) {x : Prog} (h : AList.lookup none t = some x) : L.idxOf x = 0 := by
  cases L with
  | nil => have := F.stop; simp only [lastOr, List.getLast?_nil] at this; rw [h] at this; cases this
  | cons y ys =>
    have := F.chain.1
    rw [h] at this
    rw [Option.some.inj this]
    exact List.idxOf_cons_self

theorem idx_last (F : FullChain t L) {x : Prog} (hx : x ∈ L) (h : AList.lookup (some x) t = none) :
    L.idxOf x + 1 = L.length := by
  have hi := List.idxOf_lt_length_iff.mpr hx
  have hxi : L[L.idxOf x] = x := List.getElem_idxOf hi
  by_cases h1 : L.idxOf x + 1 < L.length
  · have := (chainFrom_getElem t L none F.chain).2 _ h1
    rw [hxi, h] at this; cases this
  · omega

end FullChain

end PS.HG
