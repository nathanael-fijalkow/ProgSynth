/- The order of beap search under positive rule costs, generator level: the order invariants hold
   after the prologue and are kept by `next` and `merge_program`; hence every cost list is strictly
   increasing at every moment and the yielded costs are non-decreasing. -/
import PS.Proofs.Enum.BeapOrderFull
import PS.Proofs.Enum.BeapOrderRun
namespace PS.Beap
open PS PS.G PS.Heapq
set_option linter.unusedSectionVars false
variable {S : Type} [DecidableEq S]

mutual
  theorem costOf_pos (E : Env S) (hpos : PosW E) : ∀ (t : Prog) (nt : NT S Unit) (k : Rat), costOf E t nt = some k → 0 < k
    | .node f kids, nt, k, hk => by
      obtain ⟨rl, w, x, _, hw, hx, rfl⟩ := costOf_inv hk
      have h1 := hpos nt f w hw
      have h2 := costOfList_nonneg E hpos kids rl.1 x hx
      grind
  theorem costOfList_nonneg (E : Env S) (hpos : PosW E) : ∀ (kids : List Prog) (args : List (Ty × S)) (x : Rat),
      costOfList E kids args = some x → 0 ≤ x
    | [], [], x, hx => by simp only [costOfList, Option.some.injEq] at hx; subst hx; exact Rat.le_refl
    | [], _ :: _, _, hx => by simp [costOfList] at hx
    | _ :: _, [], _, hx => by simp [costOfList] at hx
    | k1 :: ks, a :: as, x, hx => by
      obtain ⟨y, x', hy, hx', rfl⟩ := costOfList_cons_inv hx
      have h1 := costOf_pos E hpos k1 (ntOf a) y hy
      have h2 := costOfList_nonneg E hpos ks as x' hx'
      grind
end

/-- third clause: between two queries `n` is the last index of the cost list of the start symbol or beyond the list,
    a `query` that returns appending at most one cost (`RPpost.ret`) -/
def GO (E : Env S) (g : Gen S) : Prop :=
  OI g.st ∧ (∀ fr, g.frame = some fr → FrO g.st E.G.start fr) ∧
  (g.frame = none → g.n + 1 = (g.st.clOf E.G.start).length ∨ (g.st.clOf E.G.start).length ≤ g.n)

theorem nextLoop_order (E : Env S) (hpos : PosW E) (fuel : Nat) (k : Nat) (s : St S) (n : Nat) (failed : Bool) (fro : Option Frame)
    (r : Gen S × Option Prog) (h : nextLoop E fuel k s n failed fro = some r) : CInv E s → OI s →
    (∀ fr, fro = some fr → FrC E s E.G.start fr ∧ FrO s E.G.start fr ∧ fr.ci = n) →
    (fro = none → n + 1 = (s.clOf E.G.start).length ∨ (s.clOf E.G.start).length ≤ n) → GO E r.1 := by
  apply nextLoop_induct E fuel ?nl_yield ?nl_stop ?nl_next ?nl_end ?nl_enter k s n failed fro r h
  case nl_yield =>
    intro s n failed fr s1 p fr1 hr hc hs hf _
    obtain ⟨hfc, hfo, _⟩ := hf fr rfl
    have g := (order_runs E hpos fuel).rs hr (fr.cost.fin + 1) hc hfc hs hfo (rat_lt_succ _)
    exact ⟨g.oi, fun fr' he => (by cases he; exact g.yield p fr1 rfl), fun he => (by cases he)⟩
  case nl_stop =>
    intro s n failed fr s1 hr _ hc hs hf _
    obtain ⟨hfc, hfo, hci⟩ := hf fr rfl
    obtain ⟨_, g1, hlen⟩ := resume_ret_last E hpos hc hs hfc hfo hci hr
    exact ⟨g1, fun fr' he => (by cases he), fun _ => hlen⟩
  case nl_next =>
    intro s n failed fr s1 r hr ih hc hs hf _
    obtain ⟨hfc, hfo, hci⟩ := hf fr rfl
    obtain ⟨c1, g1, hlen⟩ := resume_ret_last E hpos hc hs hfc hfo hci hr
    exact ih c1 g1 (fun fr' he => by cases he) (fun _ => hlen)
  case nl_end =>
    -- here and in `nl_enter` the state is `{ s with failedByEmpties := false }` (beap_search.py:127), hence the `of_eq`
    intro s n failed hget _ hs _ _
    refine ⟨OI.of_eq (s := s) (fun _ => rfl) (fun _ => rfl) hs, fun fr' he => (by cases he), fun _ => Or.inr ?_⟩
    exact Nat.le_succ_of_le (List.getElem?_eq_none_iff.mp hget)
  case nl_enter =>
    intro s n failed c r hget ih hc hs _ hnone
    have hlt : n < (s.clOf E.G.start).length := (List.getElem?_eq_some_iff.mp hget).1
    have hl : n + 1 = (s.clOf E.G.start).length := (hnone rfl).resolve_right (Nat.not_le.mpr hlt)
    exact ih (CInv.of_eq (s := s) (fun _ => rfl) (fun _ => rfl) (fun _ _ => rfl) hc)
      (OI.of_eq (s := s) (fun _ => rfl) (fun _ => rfl) hs)
      (fun fr' he => by cases he; exact ⟨⟨hget, fun a ha => by cases ha⟩, ⟨hl, hget⟩, rfl⟩) (fun he => by cases he)

theorem Pro.oi {E : Env S} {s : St S} (hp : Pro E s) (hc : CInv E s) (hpos : PosW E) : OI s := by
  have hfinQ : ∀ nt el, el ∈ s.queueOf nt → el.cost.inf = 0 := fun nt el hel => by
    obtain ⟨_, _, _, _, _, _, h4⟩ := hc.queue nt el hel
    rw [h4]; rfl
  have hsingle : ∀ nt c, c ∈ s.clOf nt → s.clOf nt = [c] := fun nt c hcm => by
    cases hcl : s.clOf nt with
    | nil => rw [hcl] at hcm; cases hcm
    | cons c0 rest =>
      have h1 := hp.single hcl
      rw [h1] at hcm
      rw [← hcl, h1, List.mem_singleton.mp hcm]
  refine { fin := hc.fin, finQ := hfinQ, pos := fun nt c hcm => ?_, mono := fun nt => ?_, low := fun nt el c hel hcm => ?_, heap := hp.heaps }
  · obtain ⟨t, _, ht⟩ := (hp.att.cl nt c [] (hsingle nt c hcm)).2 (hc.fin nt c hcm)
    exact costOf_pos E hpos t nt _ ht
  · cases hcl : s.clOf nt with
    | nil => exact List.Pairwise.nil
    | cons c0 rest => rw [← hcl, hp.single hcl]; exact List.pairwise_singleton _ _
  · exact (Cost.lt_false_iff _ _ (hfinQ nt el hel) (hc.fin nt c hcm)).mp (hp.headMin nt c [] (hsingle nt c hcm) el hel)

theorem prologue_oi (E : Env S) (hnd : RowsNodup E.G) (hst : StableAfter E) (hprod : Productive E) (hpos : PosW E)
    (fuel : Nat) (s0 s : St S) (hf : Fresh E s0) (h : prologue E fuel s0 = some s) : OI s := by
  obtain ⟨t, ht, hp, hc, hq, _⟩ := prologue_back E hnd fuel s0 s hf h
  exact (hp.oi (hp.cinv (hst fuel t ht) hprod) hpos).of_eq hc hq

theorem next_order (E : Env S) (hnd : RowsNodup E.G) (hst : StableAfter E) (hprod : Productive E) (hpos : PosW E)
    (fuel : Nat) (g : Gen S) (r : Gen S × Option Prog) (hgc : GC E g) (hgo : GO E g)
    (hfresh : g.started = false → Fresh E g.st ∧ g.frame = none) (h : next E fuel g = some r) : GO E r.1 := by
  rcases next_cases h with ⟨_, rfl⟩ | ⟨_, h⟩ | ⟨hns, s, hp, h⟩
  · exact hgo
  · exact nextLoop_order E hpos fuel _ _ _ _ _ _ h hgc.1 hgo.1
      (fun fr he => ⟨(hgc.2 fr he).1, hgo.2.1 fr he, (hgc.2 fr he).2⟩) hgo.2.2
  · obtain ⟨hc, hlen⟩ := prologue_cinv E hnd hst hprod fuel _ s (hfresh hns).1 hp
    exact nextLoop_order E hpos fuel _ _ _ _ _ _ h hc (prologue_oi E hnd hst hprod hpos fuel _ s (hfresh hns).1 hp)
      (fun fr he => by cases he) (fun _ => by omega)

theorem merge_order (E : Env S) (g : Gen S) (other : Prog) (ok : NT S Unit → Bool) (hg : GO E g) : GO E (merge g other ok) := by
  obtain ⟨hcl, hq, _⟩ := merge_tables g other ok
  refine ⟨hg.1.of_eq hcl hq, fun fr he => ?_, fun he => ?_⟩
  · have := hg.2.1 fr he
    exact ⟨by rw [hcl]; exact this.1, by rw [hcl]; exact this.2⟩
  · have := hg.2.2 he
    rw [hcl]; exact this

theorem go_new (E : Env S) : GO E (Gen.new E.G) := by
  have hcl : ∀ nt, (Gen.new E.G).st.clOf nt = [] := St.clOf_empty E.G
  have hq : ∀ nt, (Gen.new E.G).st.queueOf nt = [] := St.queueOf_empty E.G
  refine ⟨
    { fin := fun nt c hm => (by rw [hcl] at hm; cases hm), finQ := fun nt el hm => (by rw [hq] at hm; cases hm),
      pos := fun nt c hm => (by rw [hcl] at hm; cases hm), mono := fun nt => (by rw [hcl]; exact List.Pairwise.nil),
      low := fun nt el c h1 _ => (by rw [hq] at h1; cases h1), heap := fun nt => (by rw [hq]; exact isHeap_nil ltE) },
    fun fr he => (by cases he), fun _ => Or.inr (by rw [hcl]; exact Nat.zero_le _)⟩

theorem clSorted_of_oi (E : Env S) (s : St S) (h : OI s) : ClSorted E s :=
  fun i j x y hij hx hy => mono_le _ (h.mono E.G.start) i j x y hx hy hij

end PS.Beap
