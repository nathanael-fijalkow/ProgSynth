/- Heap search on unambiguous grammars, no duplicates: the generator level.  The programs taken from
   one start symbol are the chain `succ[start]` from the sentinel (no repetition because `succ[start]`
   is injective); programs taken from two start symbols differ because the start languages are disjoint.
   So every entry taken from the start heap is new (`GInv.popStart`); the rejected programs being among the entries
   (`GD`), the merge loop of `start_query` ends after one turn, and `take_nodup` is an instance of `take_run`. -/
import PS.Proofs.Enum.UFrame
namespace PS.UHS
open PS PS.G
set_option linter.unusedSectionVars false
variable {U π : Type} [DecidableEq U]

/-- `l` (most recent first) is the chain of a successor table from the sentinel `None` -/
def ChainR (t : AList (Option Prog) Prog) : List Prog → Prop
  | [] => True
  | x :: rest => AList.lookup rest.head? t = some x ∧ ChainR t rest

theorem chainR_split (t : AList (Option Prog) Prog) (x : Prog) (b : List Prog) :
    ∀ a : List Prog, ChainR t (a ++ x :: b) → AList.lookup b.head? t = some x := by
  intro a
  induction a with
  | nil => exact fun h => h.1
  | cons _ a ih => exact fun h => ih h.2

theorem chainR_nodup (t : AList (Option Prog) Prog)
    (hinj : ∀ k k' v, AList.lookup k t = some v → AList.lookup k' t = some v → k = k') :
    ∀ l : List Prog, ChainR t l → l.Nodup := by
  intro l
  induction l with
  | nil => exact fun _ => List.nodup_nil
  | cons x rest ih0 =>
    intro h
    have ih := ih0 h.2
    refine List.nodup_cons.mpr ⟨?_, ih⟩
    intro hx
    obtain ⟨a, b, hab⟩ := List.append_of_mem hx
    have h2 : ChainR t (a ++ x :: b) := hab ▸ h.2
    have hk := hinj _ _ _ h.1 (chainR_split t x b a h2)
    rw [hab] at hk ih
    cases b with
    | nil => cases a <;> simp at hk
    | cons y b' =>
      cases a with
      | nil =>
        simp only [List.nil_append, List.head?_cons, Option.some.injEq] at hk
        subst hk
        simp at ih
      | cons a0 a' =>
        simp only [List.cons_append, List.head?_cons, Option.some.injEq] at hk
        subst hk
        simp at ih

theorem chainR_mono {t t' : AList (Option Prog) Prog}
    (h : ∀ k v, AList.lookup k t = some v → AList.lookup k t' = some v) : ∀ l, ChainR t l → ChainR t' l := by
  intro l
  induction l with
  | nil => exact fun _ => trivial
  | cons _ rest ih => exact fun hc => ⟨h _ _ hc.1, ih hc.2⟩

/-- the programs taken from the start symbol `nt` so far, most recent first -/
def doneR (em : List (Prog × UNT U)) (nt : UNT U) : List Prog :=
  (em.filter (fun x => decide (x.2 = nt))).map (·.1)

theorem doneR_cons_self (em : List (Prog × UNT U)) (q : Prog) (nt : UNT U) :
    doneR ((q, nt) :: em) nt = q :: doneR em nt := by
  simp [doneR]
theorem doneR_cons_ne (em : List (Prog × UNT U)) (q : Prog) (nt nt' : UNT U) (h : nt ≠ nt') :
    doneR ((q, nt) :: em) nt' = doneR em nt' := by
  simp [doneR, h]
theorem mem_doneR (em : List (Prog × UNT U)) (q : Prog) (nt : UNT U) : q ∈ doneR em nt ↔ (q, nt) ∈ em := by
  simp only [doneR, List.mem_map, List.mem_filter, decide_eq_true_eq]
  constructor
  · rintro ⟨x, ⟨hx, rfl⟩, rfl⟩; exact hx
  · intro h; exact ⟨(q, nt), ⟨h, rfl⟩, rfl⟩

/-- what `take_nodup` needs beyond `GHyp`: `disj` and `starts_nodup` for programs taken from two start symbols
    (`GInv.popStart`), `filt` for `NInv.del_ok` once a program was rejected (`GD.addDeleted`) -/
structure NHyp (E : Env U π) : Prop where
  ghyp : GHyp E
  disj : SDisj E
  starts_nodup : (E.G.starts.map (·.1)).Nodup
  /-- no filter, or `__add_successors__(p, S)` does not re-enter `query(S, ·)` (acyclic grammars) -/
  filt : (∀ p, E.filter p = true) ∨ NoReent E

/-- the invariant of the generator loop for no duplicates; `em` = the `(program, start)` pairs taken from the start heap,
    most recent first: the pairs of one start symbol are the chain `succ[start]` from the sentinel, the start heap holds
    at most one entry per start symbol, namely the successor of the last program taken from it (`front`) -/
structure GInv (E : Env U π) (s : St U π) (em : List (Prog × UNT U)) : Prop where
  ninv : NInv E s
  sinv : SInv E s
  chain : ∀ nt, ChainR (s.succOf nt) (doneR em nt)
  front : ∀ e, e ∈ s.startHeap → AList.lookup ((doneR em e.2.2).head?) (s.succOf e.2.2) = some e.2.1
  front_nodup : (s.startHeap.map (·.2.2)).Nodup
  em_nodup : (em.map (·.1)).Nodup
  em_der : ∀ x, x ∈ em → Der E x.1 x.2 ∧ ∃ w, startW E x.2 = some w
  inited : s.initS = [] → s.startHeap = [] ∧ em = []

theorem GInv.pushNext {E : Env U π} (H : NHyp E) {fuel : Nat} {s s' : St U π} {em : List (Prog × UNT U)}
    {nt : UNT U} {p : Option Prog} (h : GInv E s em) (hnt : nt ∉ s.startHeap.map (·.2.2))
    (hkey : p = (doneR em nt).head?)
    (hp : pushNext E fuel s nt p = some s') :
    GInv E s' em ∧ (∀ e, e ∈ s'.startHeap → e ∈ s.startHeap ∨ e.2.2 = nt) := by
  have hk := H.ghyp.kway
  have hs' := h.sinv.pushNext H.ghyp hp
  obtain ⟨s1, r, hq, hr⟩ := pushNext_eq hp
  have hb := big_of_query E hq
  obtain ⟨n1, st, npost⟩ := big_nodup E H.ghyp hb h.sinv trivial h.ninv trivial
  have hsh : s1.startHeap = s.startHeap := big_startHeap E hk hb
  have hinit : s1.initS ≠ [] := List.ne_nil_of_mem (query_initS E hk hb)
  rcases hr with ⟨_, rfl⟩ | ⟨q, s2, pr, w, rfl, hcp, hw, rfl⟩
  · refine ⟨⟨n1, hs', fun nt' => chainR_mono (st nt') _ (h.chain nt'), ?_, hsh ▸ h.front_nodup, h.em_nodup, h.em_der,
      fun h0 => absurd h0 hinit⟩, fun e he => Or.inl (hsh ▸ he)⟩
    intro e he
    rw [hsh] at he
    exact st _ _ _ (h.front e he)
  · obtain ⟨c, rfl⟩ := computePrio_step E hcp
    have hperm := Heapq.push_perm (ltS E.ops) s1.startHeap (E.ops.adjust pr w, q, nt)
    have hmem : ∀ e, e ∈ Heapq.push (ltS E.ops) s1.startHeap (E.ops.adjust pr w, q, nt) →
        e = (E.ops.adjust pr w, q, nt) ∨ e ∈ s.startHeap :=
      fun e he => (List.mem_cons.mp (hperm.subset he)).imp id (fun h1 => hsh ▸ h1)
    refine ⟨⟨{ n1 with }, hs',
      fun nt' => chainR_mono (st nt') _ (h.chain nt'), ?_, ?_, h.em_nodup, h.em_der, fun h0 => absurd h0 hinit⟩,
      fun e he => (hmem e he).symm.imp id (fun h1 => by rw [h1])⟩
    · intro e he
      rcases hmem e he with rfl | hm
      · rw [← hkey]; exact npost q rfl
      · exact st _ _ _ (h.front e hm)
    · show (List.map _ (Heapq.push (ltS E.ops) s1.startHeap (E.ops.adjust pr w, q, nt))).Nodup
      rw [(hperm.map (·.2.2)).nodup_iff, hsh]
      exact List.nodup_cons.mpr ⟨hnt, h.front_nodup⟩

theorem startHeap_disj_step {s s1 : St U π} {nt : UNT U} {rest : List (UNT U)} (hnd : (nt :: rest).Nodup)
    (hdisj : ∀ x, x ∈ s.startHeap.map (·.2.2) → x ∉ nt :: rest)
    (hsub : ∀ e, e ∈ s1.startHeap → e ∈ s.startHeap ∨ e.2.2 = nt) : ∀ x, x ∈ s1.startHeap.map (·.2.2) → x ∉ rest := by
  intro x hm
  obtain ⟨e, he, rfl⟩ := List.mem_map.mp hm
  rcases hsub e he with ho | hn
  · exact fun hr => hdisj _ (List.mem_map.mpr ⟨e, ho, rfl⟩) (List.mem_cons_of_mem _ hr)
  · rw [hn]; exact (List.nodup_cons.mp hnd).1

theorem GInv.pushNexts {E : Env U π} (H : NHyp E) {fuel : Nat} (l : List (UNT U)) {s s' : St U π}
    (h : GInv E s []) (hnd : l.Nodup) (hdisj : ∀ nt, nt ∈ s.startHeap.map (·.2.2) → nt ∉ l)
    (hp : pushNexts E fuel l s = some s') : GInv E s' [] := by
  refine (pushNexts_induct (fun l s => GInv E s [] ∧ l.Nodup ∧ ∀ nt, nt ∈ s.startHeap.map (·.2.2) → nt ∉ l) ?_ l
    ⟨h, hnd, hdisj⟩ hp).1
  intro nt rest s s1 ⟨h, hnd, hdisj⟩ h1
  obtain ⟨g1, hsub⟩ := h.pushNext H (fun hm => hdisj nt hm List.mem_cons_self) (by simp [doneR]) h1
  exact ⟨g1, (List.nodup_cons.mp hnd).2, startHeap_disj_step hnd hdisj hsub⟩

theorem GInv.popStart {E : Env U π} (hd : SDisj E) {s : St U π} {em : List (Prog × UNT U)} (h : GInv E s em)
    {pa : π} {q : Prog} {nt : UNT U} {h' : List (π × Prog × UNT U)}
    (hpop : Heapq.pop (ltS E.ops) s.startHeap = some ((pa, q, nt), h')) :
    GInv E { s with startHeap := h' } ((q, nt) :: em) ∧ nt ∉ h'.map (·.2.2) ∧
      AList.lookup ((doneR em nt).head?) (s.succOf nt) = some q := by
  have hperm := Heapq.pop_perm _ _ _ _ hpop
  have hm : (pa, q, nt) ∈ s.startHeap := hperm.symm.subset List.mem_cons_self
  have hsub : ∀ e, e ∈ h' → e ∈ s.startHeap := fun e he => hperm.symm.subset (List.mem_cons_of_mem _ he)
  have hnd : (nt :: h'.map (·.2.2)).Nodup :=
    (hperm.map fun e : π × Prog × UNT U => e.2.2).nodup_iff.mp h.front_nodup
  obtain ⟨w, pr, hw, hpr, _⟩ := h.sinv.start_ok _ hm
  have hfront : AList.lookup ((doneR em nt).head?) (s.succOf nt) = some q := h.front (pa, q, nt) hm
  have hchain : ChainR (s.succOf nt) (q :: doneR em nt) := ⟨hfront, h.chain nt⟩
  -- `q` is new: a program taken before from another start symbol is not derivable from `nt`,
  -- and the chain of `nt` has no repetition
  have hqnew : q ∉ em.map (·.1) := by
    intro hq
    obtain ⟨⟨x1, x2⟩, hx, rfl⟩ := List.mem_map.mp hq
    obtain ⟨hxd, hxs⟩ := h.em_der _ hx
    have : x2 = nt := hd x1 x2 nt hxd ⟨pr, hpr⟩ hxs ⟨w, hw⟩
    subst this
    have hnd' := chainR_nodup _ (h.ninv.succ_inj x2) _ hchain
    exact (List.nodup_cons.mp hnd').1 ((mem_doneR em x1 x2).mpr hx)
  refine ⟨⟨{ h.ninv with }, h.sinv.popStart hpop, ?_, ?_,
    (List.nodup_cons.mp hnd).2, List.nodup_cons.mpr ⟨hqnew, h.em_nodup⟩, ?_, ?_⟩,
    (List.nodup_cons.mp hnd).1, hfront⟩
  · intro nt'
    by_cases hn : nt = nt'
    · subst hn; rw [doneR_cons_self]; exact hchain
    · rw [doneR_cons_ne _ _ _ _ hn]; exact h.chain nt'
  · intro e he
    have hne : nt ≠ e.2.2 := by
      intro heq
      exact (List.nodup_cons.mp hnd).1 (heq ▸ List.mem_map.mpr ⟨e, he, rfl⟩)
    rw [doneR_cons_ne _ _ _ _ hne]
    exact h.front e (hsub e he)
  · intro x hx
    rcases List.mem_cons.mp hx with rfl | hx
    · exact ⟨⟨pr, hpr⟩, w, hw⟩
    · exact h.em_der x hx
  · intro hi0
    rw [(h.inited hi0).1] at hm
    cases hm

theorem ginv_empty (E : Env U π) : GInv E (St.empty E.G) [] := by
  refine ⟨⟨?_, ?_, ?_, ?_, ?_, Or.inl rfl⟩, sinv_empty E, fun _ => trivial, ?_, List.nodup_nil, List.nodup_nil, ?_,
    fun _ => ⟨rfl, rfl⟩⟩
  · intro nt; rw [St.heapProgs_of_heapOf (St.empty_heapOf _ _)]; exact List.nodup_nil
  · intro nt p hp; rw [St.heapProgs_of_heapOf (St.empty_heapOf _ _)] at hp; cases hp
  · intro nt k v hk; rw [St.empty_succOf] at hk; cases hk
  · intro nt k v hk; rw [St.empty_succOf] at hk; cases hk
  · intro nt k k' v hk; rw [St.empty_succOf] at hk; cases hk
  · intro e he; cases he
  · intro x hx; cases hx

theorem GInv.addDeleted {E : Env U π} {s : St U π} {em : List (Prog × UNT U)} (h : GInv E s em) (p : Prog)
    (hre : NoReent E) : GInv E (s.addDeleted p) em := by
  obtain ⟨d, hd⟩ := St.addDeleted_eq s p
  rw [hd]
  exact { h with ninv := { h.ninv with del_ok := Or.inr hre }, sinv := h.sinv.setDeleted _ }

/-- `GInv` over the entries taken from the start heap, most recent first; the rejected programs are among them, so that
    the program of a new entry was never rejected and the merge loop of `start_query` ends after one turn -/
structure GD (E : Env U π) (s : St U π) (emE : List (π × Prog × UNT U)) : Prop where
  ginv : GInv E s (emE.map (·.2))
  del_em : ∀ q, q ∈ s.deleted → q ∈ emE.map (·.2.1)

theorem GD.turn {E : Env U π} (H : NHyp E) {fuel : Nat} {s s1 : St U π} {emE : List (π × Prog × UNT U)} (h : GD E s emE)
    {e : π × Prog × UNT U} {h' : List (π × Prog × UNT U)} (hpop : Heapq.pop (ltS E.ops) s.startHeap = some (e, h'))
    (hpn : pushNext E fuel { s with startHeap := h' } e.2.2 (some e.2.1) = some s1) :
    GD E s1 (e :: emE) ∧ s1.deleted.contains e.2.1 = false := by
  obtain ⟨pa, q, nt⟩ := e
  obtain ⟨g0, hnt0, _⟩ := h.ginv.popStart H.disj hpop
  obtain ⟨g1, _⟩ := g0.pushNext H hnt0 (by rw [doneR_cons_self]; rfl) hpn
  have hdl : s1.deleted = s.deleted := pushNext_deleted (s := { s with startHeap := h' }) H.ghyp.kway hpn
  have hqnew : q ∉ emE.map (·.2.1) := by
    have := (List.nodup_cons.mp g0.em_nodup).1
    rwa [List.map_map] at this
  refine ⟨⟨g1, fun q' hq' => List.mem_cons_of_mem _ (h.del_em q' (hdl ▸ hq'))⟩, ?_⟩
  rw [hdl]
  exact Bool.eq_false_iff.mpr fun hc => hqnew (h.del_em q (by simpa using hc))

/-- `∧ True`: the shape `take_run` asks of `hq`, at `Stop := fun _ => True` (only `OC` claims something at the stop) -/
theorem GD.startQuery {E : Env U π} (H : NHyp E) {fuel : Nat} {s s' : St U π} {emE : List (π × Prog × UNT U)}
    {r : Option Prog} (h : GD E s emE) (hp : startQuery E fuel s = some (s', r)) :
    (r = none ∧ GD E s' emE ∧ True) ∨ ∃ e, r = some e.2.1 ∧ GD E s' (e :: emE) := by
  obtain ⟨s1, h1, hl⟩ := startQuery_kway H.ghyp.kway hp
  have g1 : GD E s1 emE := by
    rcases h1 with ⟨hi0, h1⟩ | ⟨_, rfl⟩
    · obtain ⟨hs0, he0⟩ := h.ginv.inited hi0
      have he0' : emE = [] := by simpa using he0
      subst he0'
      have hdl : s1.deleted = s.deleted :=
        pushNexts_induct (fun _ s1 => s1.deleted = s.deleted) (fun h h1 => (pushNext_deleted H.ghyp.kway h1).trans h) _ rfl h1
      exact ⟨h.ginv.pushNexts H _ H.starts_nodup (by rw [hs0]; intro nt hm; cases hm) h1, hdl ▸ h.del_em⟩
    · exact h
  rcases kwayLoop_eq hl with ⟨rfl, rfl, _⟩ | ⟨e, h', s2, hpop, hpn, hres⟩
  · exact Or.inl ⟨rfl, g1, trivial⟩
  · obtain ⟨g2, hnd⟩ := g1.turn H hpop hpn
    obtain ⟨rfl, rfl⟩ := hres hnd
    exact Or.inr ⟨e, rfl, g2⟩

theorem GD.addDeleted {E : Env U π} (H : NHyp E) {s : St U π} {emE : List (π × Prog × UNT U)} {e : π × Prog × UNT U}
    (h : GD E s (e :: emE)) (hf : E.filter e.2.1 = false) : GD E (s.addDeleted e.2.1) (e :: emE) := by
  refine ⟨h.ginv.addDeleted e.2.1 (H.filt.resolve_left fun hall => by rw [hall] at hf; cases hf), ?_⟩
  intro q hq
  rcases (s.mem_addDeleted_iff e.2.1 q).mp hq with rfl | h1
  · exact List.mem_cons_self
  · exact h.del_em q h1

theorem take_nodup (E : Env U π) (H : NHyp E) (fuel k : Nat) (s' : St U π) (out : List Prog) (b : Bool)
    (h : take E fuel k (St.empty E.G) [] = some (s', out, b)) :
    out.Nodup ∧ ∀ p, p ∈ out → E.filter p = true := by
  have g0 : GD E (St.empty E.G) [] := ⟨ginv_empty E, fun q hq => by cases hq⟩
  obtain ⟨emE, g, rfl, _⟩ := take_run (J := GD E) (Stop := fun _ => True) (fun h hp => h.startQuery H hp)
    (fun g hf => g.addDeleted H hf) k g0 rfl h
  refine ⟨accepted_nodup (by have := g.ginv.em_nodup; rwa [List.map_map] at this), fun p hp => ?_⟩
  obtain ⟨x, hx, rfl⟩ := List.mem_map.mp (List.mem_reverse.mp hp)
  exact (List.mem_filter.mp hx).2

end PS.UHS
