/- Cost soundness of beap search.  The invariant `CInv`: every queue element carries the cost
   `rule cost + Σ cost_list[arg_i][combination_i]`, every program of `_bank[S][i]` has cost `_cost_lists[S][i]`; then so
   has every program yielded by `query(S, i)`.  Cost lists are only extended at their end (`Ext`), so an entry once read
   stays.  `CInv` is kept by the loop of `next` and by `merge_program`; every program yielded while the generator is at
   index `n` has cost `_cost_lists[start][n]`, and `n` never decreases.  It holds of a fixpoint of `_reevaluate_` with
   finite costs, zero combinations and empty banks (`cinv_base`); that the prologue leaves such a state, and `next`
   itself, are in BeapOrderRun.lean. -/
import PS.Proofs.Enum.BeapWr
import PS.Proofs.Enum.BeapHeadMin
namespace PS.Beap
open PS PS.G PS.Heapq

set_option linter.unusedSectionVars false
variable {S : Type} [DecidableEq S]

/-! ## the query phase -/

/-- `Σ_i _cost_lists[arg_i][comb_i]` (`none`: lengths differ or an index outside its cost list) -/
def combCost (s : St S) : List (Ty × S) → List Nat → Option Rat
  | [], [] => some 0
  | a :: as, c :: cs =>
    match (s.clOf (ntOf a))[c]?, combCost s as cs with
    | some x, some y => some (x.fin + y)
    | _, _ => none
  | _, _ => none

def Ext (s s' : St S) : Prop := ∀ nt, s.clOf nt <+: s'.clOf nt

theorem Ext.refl (s : St S) : Ext s s := fun _ => List.prefix_refl _
theorem Ext.trans {a b c : St S} (h1 : Ext a b) (h2 : Ext b c) : Ext a c := fun nt => (h1 nt).trans (h2 nt)
theorem Ext.of_eq {s s' : St S} (h : ∀ nt, s'.clOf nt = s.clOf nt) : Ext s s' := fun nt => by rw [h nt]; exact List.prefix_refl _

theorem prefix_get {α : Type} {l l' : List α} (h : l <+: l') (i : Nat) (x : α) (hx : l[i]? = some x) : l'[i]? = some x := by
  obtain ⟨t, rfl⟩ := h
  have hi : i < l.length := (List.getElem?_eq_some_iff.mp hx).1
  rw [List.getElem?_append_left hi]; exact hx

theorem getElem?_getD' {α : Type} (l : List α) (i : Nat) (d : α) (h : i < l.length) : l[i]? = some (l.getD i d) := by
  rw [List.getD_eq_getElem?_getD, List.getElem?_eq_getElem h]; rfl

theorem Ext.get {s s' : St S} (h : Ext s s') (nt : NT S Unit) (i : Nat) (x : Cost) (hx : (s.clOf nt)[i]? = some x) :
    (s'.clOf nt)[i]? = some x := prefix_get (h nt) i x hx

/-- every index at which an argument is asked holds a cost below `x`: what the argument loop is entered with under
    the bound `x` -/
def AskedBelow (s : St S) (as : List (NT S Unit)) (cs : List Nat) (x : Rat) : Prop :=
  ∀ a c, (a, c) ∈ as.zip cs → ∃ e, (s.clOf a)[c]? = some e ∧ e.fin < x

theorem Ext.below {s s' : St S} (h : Ext s s') {as : List (NT S Unit)} {cs : List Nat} {x : Rat}
    (hb : AskedBelow s as cs x) : AskedBelow s' as cs x :=
  fun a c hm => (hb a c hm).imp fun e he => ⟨h.get a c e he.1, he.2⟩

theorem wr_ext {E : Env S} {s s' : St S} (h : Wr E s s') : Ext s s' := by
  cases h with
  | del p _ => exact Ext.of_eq (fun nt => St.addDeleted_clOf s nt p)
  | bank => exact Ext.of_eq (fun _ => rfl)
  | ensure nt ci => exact Ext.of_eq (fun nt' => St.clOf_ensureBank s nt nt' ci)
  | pop => exact Ext.of_eq (fun _ => rfl)
  | push => exact Ext.of_eq (fun _ => rfl)
  | mark nt fr => exact Ext.of_eq (fun nt' => markEmpty_clOf s nt nt' fr)
  | snoc nt e q _ =>
    intro nt'
    rw [St.clOf_setCL]
    split
    · next heq => subst heq; exact List.prefix_append _ _
    · exact List.prefix_refl _

theorem run_ext (E : Env S) (n : Nat) : RunsRel E n Ext :=
  run_lift E Ext.refl (fun _ _ _ => Ext.trans) (fun _ _ => wr_ext) n

theorem epilogue_ext (E : Env S) (s : St S) (nt : NT S Unit) (fr : Frame) : Ext s (epilogue s nt fr) :=
  (epilogue_star E s nt fr).lift Ext.refl (fun _ _ _ => Ext.trans) (fun _ _ => wr_ext)

theorem combCost_ext {s s' : St S} (h : Ext s s') (args : List (Ty × S)) (comb : List Nat) (k : Rat)
    (hk : combCost s args comb = some k) : combCost s' args comb = some k := by
  fun_induction combCost s args comb generalizing k with
  | case1 => exact hk
  | case2 a as c cs x y hy hx ih => rw [combCost, h.get _ _ _ hx, ih y hy]; exact hk
  | case3 => cases hk
  | case4 => cases hk

theorem combCost_of_cl {s s' : St S} (h : ∀ nt, s'.clOf nt = s.clOf nt) : ∀ (args : List (Ty × S)) (comb : List Nat),
    combCost s' args comb = combCost s args comb
  | [], [] => rfl
  | [], _ :: _ => rfl
  | _ :: _, [] => rfl
  | a :: as, c :: cs => by simp only [combCost, h, combCost_of_cl h as cs]

theorem combCost_setQueue (s : St S) (nt : NT S Unit) (q : List HeapEl) (args : List (Ty × S)) (comb : List Nat) :
    combCost (s.setQueue nt q) args comb = combCost s args comb :=
  combCost_of_cl (s := s) (s' := s.setQueue nt q) (fun _ => rfl) args comb
theorem combCost_setBank (s : St S) (nt : NT S Unit) (ci : Nat) (ps : List Prog) (args : List (Ty × S)) (comb : List Nat) :
    combCost (s.setBank nt ci ps) args comb = combCost s args comb :=
  combCost_of_cl (s := s) (s' := s.setBank nt ci ps) (fun _ => rfl) args comb

theorem combCost_length (s : St S) (args : List (Ty × S)) (comb : List Nat) (k : Rat)
    (hk : combCost s args comb = some k) : comb.length = args.length := by
  fun_induction combCost s args comb generalizing k with
  | case1 => rfl
  | case2 a as c cs x y hy _ ih => simp [ih y hy]
  | case3 => cases hk
  | case4 => cases hk

theorem rat_swap_entry (a b c : Rat) : c + b = a + b - a + c := by grind
theorem rat_add_sub_add (a b x y : Rat) : a + (b - x + y) = a + b - x + y := by grind

theorem combCost_set (s : St S) (args : List (Ty × S)) (comb : List Nat) (k : Rat) (i : Nat)
    (hk : combCost s args comb = some k) (hi : i < args.length) :
    ∃ a x, args[i]? = some a ∧ (s.clOf (ntOf a))[comb.getD i 0]? = some x ∧
      ∀ y, (s.clOf (ntOf a))[comb.getD i 0 + 1]? = some y →
        combCost s args (comb.set i (comb.getD i 0 + 1)) = some (k - x.fin + y.fin) := by
  fun_induction combCost s args comb generalizing k i with
  | case1 => cases hi
  | case2 a as c cs x0 y0 hy0 hx0 ih =>
    cases hk
    cases i with
    | zero =>
      refine ⟨a, x0, rfl, hx0, fun y hy => ?_⟩
      have hy' : (s.clOf (ntOf a))[c + 1]? = some y := hy
      show combCost s (a :: as) ((c + 1) :: cs) = _
      simp only [combCost, hy', hy0]
      exact congrArg some (rat_swap_entry _ _ _)
    | succ i =>
      obtain ⟨a', x, h1, h2, h3⟩ := ih y0 i hy0 (by simpa using hi)
      refine ⟨a', x, h1, h2, fun y hy => ?_⟩
      have := h3 y hy
      show combCost s (a :: as) (c :: cs.set i (cs.getD i 0 + 1)) = _
      simp only [combCost, hx0, this]
      exact congrArg some (rat_add_sub_add _ _ _ _)
  | case3 => cases hk
  | case4 => cases hk

structure CInv (E : Env S) (s : St S) : Prop where
  fin : ∀ nt c, c ∈ s.clOf nt → c.inf = 0
  queue : ∀ nt el, el ∈ s.queueOf nt → ∃ rl w k, E.G.rule? nt el.P = some rl ∧ ruleW E nt el.P = some w ∧
    combCost s rl.1 el.comb = some k ∧ el.cost = Cost.ofRat (w + k)
  bank : ∀ nt ci p, p ∈ s.bankAt nt ci → ∃ c, (s.clOf nt)[ci]? = some c ∧ costOf E p nt = some c.fin

/-- the suspended `query(nt, fr.ci)` produces programs of cost `_cost_lists[nt][fr.ci]` -/
def FrC (E : Env S) (s : St S) (nt : NT S Unit) (fr : Frame) : Prop :=
  (s.clOf nt)[fr.ci]? = some fr.cost ∧ ∀ a ∈ fr.pending, costOf E (mkProg fr.P fr.isFun a) nt = some fr.cost.fin

theorem FrC.ext {E : Env S} {s s' : St S} {nt : NT S Unit} {fr : Frame} (h : FrC E s nt fr) (he : Ext s s') : FrC E s' nt fr :=
  ⟨he.get _ _ _ h.1, h.2⟩

theorem CInv.of_eq {E : Env S} {s s' : St S} (hc : ∀ nt, s'.clOf nt = s.clOf nt) (hq : ∀ nt, s'.queueOf nt = s.queueOf nt)
    (hb : ∀ nt ci, s'.bankAt nt ci = s.bankAt nt ci) (h : CInv E s) : CInv E s' := by
  refine ⟨fun nt c hm => h.fin nt c (hc nt ▸ hm), fun nt el hm => ?_, fun nt ci p hp => ?_⟩
  · obtain ⟨rl, w, k, h1, h2, h3, h4⟩ := h.queue nt el (hq nt ▸ hm)
    exact ⟨rl, w, k, h1, h2, combCost_ext (Ext.of_eq hc) _ _ _ h3, h4⟩
  · obtain ⟨c, h1, h2⟩ := h.bank nt ci p (hb nt ci ▸ hp)
    exact ⟨c, by rw [hc nt]; exact h1, h2⟩

theorem emit_cost (E : Env S) (nt : NT S Unit) (ci : Nat) (P : Sym) (isFun : Bool) (cost : Cost) (pend : List (List Prog)) (s : St S)
    (r : St S × Option (Prog × List (List Prog))) (h : emit E nt ci P isFun s pend = r) :
    CInv E s → (s.clOf nt)[ci]? = some cost → (∀ a ∈ pend, costOf E (mkProg P isFun a) nt = some cost.fin) →
      CInv E r.1 ∧ (∀ nt', r.1.clOf nt' = s.clOf nt') ∧
      ∀ p rest, r.2 = some (p, rest) → costOf E p nt = some cost.fin ∧ (∀ a ∈ rest, a ∈ pend) := by
  apply emit_induct E nt ci P isFun ?nil ?deleted ?rejected ?yield pend s r h
  case nil => intro s hs _ _; exact ⟨hs, fun _ => rfl, fun _ _ h => by cases h⟩
  case deleted =>
    intro s a rest r _ ih hs hcl hp
    obtain ⟨h1, h2, h3⟩ := ih hs hcl fun a' h' => hp a' (List.mem_cons_of_mem _ h')
    exact ⟨h1, h2, fun p r hpr => ⟨(h3 p r hpr).1, fun a' h' => List.mem_cons_of_mem _ ((h3 p r hpr).2 a' h')⟩⟩
  case rejected =>
    intro s a rest r _ ih hs hcl hp
    have hs' : CInv E (s.addDeleted (mkProg P isFun a)) :=
      hs.of_eq (fun nt' => St.addDeleted_clOf s nt' _) (fun nt' => St.addDeleted_queueOf s nt' _) (fun nt' ci' => St.addDeleted_bankAt s nt' _ ci')
    obtain ⟨h1, h2, h3⟩ := ih hs' (by rw [St.addDeleted_clOf]; exact hcl) fun a' h' => hp a' (List.mem_cons_of_mem _ h')
    exact ⟨h1, fun nt' => by rw [h2 nt', St.addDeleted_clOf],
      fun p r hpr => ⟨(h3 p r hpr).1, fun a' h' => List.mem_cons_of_mem _ ((h3 p r hpr).2 a' h')⟩⟩
  case yield =>
    intro s a rest _ _ hs hcl hp
    have hc := hp a (List.mem_cons_self ..)
    refine ⟨⟨hs.fin, fun nt' el hm => ?_, fun nt' ci' p hp' => ?_⟩, fun _ => rfl, fun p r hpr => ?_⟩
    · obtain ⟨rl, w, k, h1, h2, h3, h4⟩ := hs.queue nt' el hm
      exact ⟨rl, w, k, h1, h2, (combCost_setBank s nt ci _ _ _).trans h3, h4⟩
    · rw [St.bankAt_setBank] at hp'
      split at hp'
      · next heq =>
        obtain ⟨rfl, rfl⟩ := heq
        rcases List.mem_append.mp hp' with h | h
        · exact hs.bank _ _ p h
        · rw [List.mem_singleton.mp h]; exact ⟨cost, hcl, hc⟩
      · exact hs.bank nt' ci' p hp'
    · obtain ⟨rfl, rfl⟩ := Prod.mk.inj (Option.some.inj hpr)
      exact ⟨hc, fun a' h' => List.mem_cons_of_mem _ h'⟩

theorem cost_sub_add (r : Rat) (x y : Cost) (hx : x.inf = 0) (hy : y.inf = 0) :
    Cost.ofRat r - x + y = Cost.ofRat (r - x.fin + y.fin) := by
  have h1 : (Cost.ofRat r - x) = ⟨0, r - x.fin⟩ := by
    show Cost.sub _ _ = _
    unfold Cost.sub; simp [Cost.ofRat, hx]
  rw [h1]
  show Cost.add _ _ = _
  unfold Cost.add; simp [Cost.ofRat, hy]

theorem CInv.setQueue {E : Env S} {s : St S} (h : CInv E s) (nt : NT S Unit) (q : List HeapEl)
    (hq : ∀ x ∈ q, ∃ rl w k, E.G.rule? nt x.P = some rl ∧ ruleW E nt x.P = some w ∧ combCost s rl.1 x.comb = some k ∧
      x.cost = Cost.ofRat (w + k)) : CInv E (s.setQueue nt q) := by
  refine ⟨h.fin, fun nt' el hm => ?_, h.bank⟩
  have hx : ∃ rl w k, E.G.rule? nt' el.P = some rl ∧ ruleW E nt' el.P = some w ∧ combCost s rl.1 el.comb = some k ∧
      el.cost = Cost.ofRat (w + k) := by
    rw [St.queueOf_setQueue] at hm
    split at hm
    · next heq => subst heq; exact hq el hm
    · exact h.queue nt' el hm
  obtain ⟨rl, w, k, h1, h2, h3, h4⟩ := hx
  exact ⟨rl, w, k, h1, h2, (combCost_setQueue s nt q _ _).trans h3, h4⟩

theorem CInv.push {E : Env S} {s : St S} (h : CInv E s) (nt : NT S Unit) (x : HeapEl)
    (hx : ∃ rl w k, E.G.rule? nt x.P = some rl ∧ ruleW E nt x.P = some w ∧ combCost s rl.1 x.comb = some k ∧ x.cost = Cost.ofRat (w + k)) :
    CInv E (s.setQueue nt (Heapq.push ltE (s.queueOf nt) x)) :=
  h.setQueue nt _ fun y hy => by
    rcases (mem_push _ _ _ _).mp hy with rfl | h'
    · exact hx
    · exact h.queue nt y h'

theorem succLoop_cost (E : Env S) (nt : NT S Unit) (P : Sym) (comb : List Nat) (rl : List (Ty × S) × Unit) (w k : Rat)
    (hr : E.G.rule? nt P = some rl) (hw : ruleW E nt P = some w) :
    ∀ (as : List (NT S Unit)) (s : St S) (i : Nat), CInv E s → combCost s rl.1 comb = some k →
      as = (rl.1.drop i).map ntOf →
      CInv E (succLoop nt (Cost.ofRat (w + k)) P comb s i as) ∧
      ∀ nt', (succLoop nt (Cost.ofRat (w + k)) P comb s i as).clOf nt' = s.clOf nt' := by
  intro as s i hs hk has
  rw [succLoop_eq]
  refine ⟨(pushAll_induct (I := fun s' => CInv E s' ∧ ∀ nt', s'.clOf nt' = s.clOf nt') nt
    (fun s' x hx ⟨hs', hcl⟩ => ⟨?_, hcl⟩) s ⟨hs, fun _ => rfl⟩).1, clOf_pushAll nt s _⟩
  obtain ⟨j, a, haj, hlen, rfl⟩ := mem_succEls hx
  -- `a` is the argument at position `i + j` of the rule
  subst has
  rw [List.getElem?_map, List.getElem?_drop] at haj
  obtain ⟨b, hb, rfl⟩ := Option.map_eq_some_iff.mp haj
  obtain ⟨a', x, g1, g2, g3⟩ := combCost_set s rl.1 comb k (i + j) hk (List.getElem?_eq_some_iff.mp hb).1
  obtain rfl : a' = b := Option.some.inj (g1.symm.trans hb)
  have hy := getElem?_getD' (s.clOf (ntOf a')) (comb.getD (i + j) 0 + 1) (Cost.ofRat 0) hlen
  have hxe : (s.clOf (ntOf a')).getD (comb.getD (i + j) 0) (Cost.ofRat 0) = x := by
    have := getElem?_getD' (s.clOf (ntOf a')) (comb.getD (i + j) 0) (Cost.ofRat 0) (Nat.lt_of_succ_lt hlen)
    rw [g2] at this; exact (Option.some.inj this).symm
  refine hs'.push nt _ ⟨rl, w, _, hr, hw, (combCost_of_cl hcl _ _).trans (g3 _ hy), ?_⟩
  rw [hxe, cost_sub_add _ _ _ (hs.fin _ x (List.mem_of_getElem? g2)) (hs.fin _ _ (List.mem_of_getElem? hy))]
  exact congrArg Cost.ofRat (rat_add_sub_add _ _ _ _).symm

theorem epilogue_cost (E : Env S) (s : St S) (nt : NT S Unit) (fr : Frame) (hs : CInv E s) : CInv E (epilogue s nt fr) := by
  have m1 : ∀ nt', (markEmpty s nt fr).clOf nt' = s.clOf nt' := fun nt' => markEmpty_clOf s nt nt' fr
  have h1 : CInv E (markEmpty s nt fr) :=
    hs.of_eq m1 (fun nt' => markEmpty_queueOf s nt nt' fr) (fun nt' ci => markEmpty_bankAt s nt nt' fr ci)
  fun_cases epilogue s nt fr with
  | case1 => exact h1
  | case2 _ e q hq =>
    have hemem : e ∈ (markEmpty s nt fr).queueOf nt := by rw [hq]; exact List.mem_cons_self ..
    have hext := wr_ext (Wr.snoc (E := E) (markEmpty s nt fr) nt e q hq)
    refine ⟨fun nt' c hm => ?_, fun nt' el hm => ?_, fun nt' ci p hp => ?_⟩
    · rcases St.mem_clOf_snoc hm with h' | ⟨_, rfl⟩
      · exact h1.fin nt' c h'
      · obtain ⟨_, _, _, _, _, _, h4⟩ := h1.queue _ e hemem
        rw [h4]; rfl
    · obtain ⟨rl, w, k, g1, g2, g3, g4⟩ := h1.queue nt' el hm
      exact ⟨rl, w, k, g1, g2, combCost_ext hext _ _ _ g3, g4⟩
    · obtain ⟨c, g1, g2⟩ := h1.bank nt' ci p hp
      exact ⟨c, hext.get _ _ _ g1, g2⟩

/-- the programs of `ps` have cost `_cost_lists[a][c]` -/
def PossC (E : Env S) (s : St S) (ps : List Prog) (ac : NT S Unit × Nat) : Prop :=
  ∀ p ∈ ps, ∃ x, (s.clOf ac.1)[ac.2]? = some x ∧ costOf E p ac.1 = some x.fin

theorem PossC.ext {E : Env S} {s s' : St S} (he : Ext s s') {ps : List Prog} {ac : NT S Unit × Nat} (h : PossC E s ps ac) :
    PossC E s' ps ac := fun p hp => let ⟨x, h1, h2⟩ := h p hp; ⟨x, he.get _ _ _ h1, h2⟩

theorem All2.mono {α β : Type} {R R' : α → β → Prop} (hr : ∀ a b, R a b → R' a b) {l1 : List α} {l2 : List β}
    (h : All2 R l1 l2) : All2 R' l1 l2 := by
  induction h with
  | nil => exact All2.nil
  | cons h1 _ ih => exact All2.cons (hr _ _ h1) ih

theorem tuple_cost (E : Env S) (s : St S) (a : List Prog) (args : List (Ty × S)) (comb : List Nat) (k : Rat)
    (h : All2 (fun p (ac : NT S Unit × Nat) => ∃ x, (s.clOf ac.1)[ac.2]? = some x ∧ costOf E p ac.1 = some x.fin) a ((args.map ntOf).zip comb))
    (hk : combCost s args comb = some k) : costOfList E a args = some k := by
  fun_induction combCost s args comb generalizing a k with
  | case1 => cases h; exact hk
  | case2 x xs c cs x0 y0 hy0 hx0 ih =>
    cases hk
    obtain _ | ⟨⟨x', g1, g2⟩, r⟩ := h
    obtain rfl : x0 = x' := Option.some.inj (hx0.symm.trans g1)
    simp only [costOfList, g2, ih _ y0 r hy0]
  | case3 => cases hk
  | case4 => cases hk

theorem pending_cost (E : Env S) (s : St S) (nt : NT S Unit) (P : Sym) (rl : List (Ty × S) × Unit) (w k : Rat) (comb : List Nat)
    (hrl : E.G.rule? nt P = some rl) (hw : ruleW E nt P = some w) (hk : combCost s rl.1 comb = some k)
    (poss : List (List Prog)) (hposs : All2 (PossC E s) poss ((rl.1.map ntOf).zip comb)) (a : List Prog) (ha : a ∈ product poss) :
    costOf E (mkProg P (!(rl.1.map ntOf).isEmpty) a) nt = some (w + k) := by
  have hl : poss.length = (rl.1.map ntOf).length := by
    rw [hposs.length_eq, List.length_zip, List.length_map, combCost_length s _ _ _ hk, Nat.min_self]
  rw [mkProg_tuple P ha hl]
  simp only [costOf, hrl, hw, tuple_cost E s a rl.1 comb k (All2.of_mem ((mem_product poss a).mp ha) hposs) hk]

theorem cinv_pop (E : Env S) (s1 : St S) (nt : NT S Unit) (el : HeapEl) (q' : List HeapEl) (hs1 : CInv E s1)
    (hpop : Heapq.pop ltE (s1.queueOf nt) = some (el, q')) : CInv E (s1.setQueue nt q') :=
  hs1.setQueue nt q' fun x hx => hs1.queue nt x ((mem_of_pop _ _ _ _ hpop x).mpr (Or.inr hx))

structure YieldC (E : Env S) (nt : NT S Unit) (fr : Frame) (s' : St S) (p : Prog) (fr' : Frame) : Prop where
  price : costOf E p nt = some fr.cost.fin
  fc : FrC E s' nt fr'
  ci : fr'.ci = fr.ci
  cost : fr'.cost = fr.cost

/-- In the motive of the argument loop `done` is a ghost list parallel to `acc`: the (argument, cost index) pairs
    answered so far.  The answers are priced unless one of them was empty (`arg_gen_failed`). -/
theorem cost_all (E : Env S) : ∀ n, Runs E n
    (fun s nt ci r => CInv E s → CInv E r.1 ∧ PossC E r.1 r.2.2 (nt, ci))
    (fun s _ _ s' => CInv E s → CInv E s')
    (fun s nt fr s' => CInv E s → FrC E s nt fr → CInv E s')
    (fun s nt fr r => CInv E s → FrC E s nt fr → CInv E r.1 ∧ ∀ p fr', r.2 = .yield p fr' → YieldC E nt fr r.1 p fr')
    (fun s as cs _ _ acc r => CInv E s → ∀ done, All2 (PossC E s) acc done →
      CInv E r.1 ∧ (r.2.2.1 = false → All2 (PossC E r.1) r.2.2.2 (done ++ as.zip cs))) := by
  refine run_induct E ?ql_empty ?ql_beyond ?ql_bank ?ql_run_empty ?ql_run_bank ?rq_none ?rq_some ?dr_ret ?dr_yield
    ?rs_yield ?rs_ret ?rs_pop ?ar_nil ?ar_break ?ar_cons
  case ql_empty => intro _ s nt ci _ hs; exact ⟨hs, fun p hp => by cases hp⟩
  case ql_beyond => intro _ s nt ci _ _ hs; exact ⟨hs, fun p hp => by cases hp⟩
  case ql_bank =>
    intro _ s nt ci ps _ _ hps hs
    exact ⟨hs, fun p hp => hs.bank nt ci p (by rw [St.bankAt_of_lookup hps]; exact hp)⟩
  case ql_run_empty => intro _ s nt ci s1 _ _ _ _ ih _ hs; exact ⟨ih hs, fun p hp => by cases hp⟩
  case ql_run_bank =>
    intro _ s nt ci s1 ps _ _ _ _ ih _ hps hs
    exact ⟨ih hs, fun p hp => (ih hs).bank nt ci p (by rw [St.bankAt_of_lookup hps]; exact hp)⟩
  case rq_none => intro _ s nt ci _ hs; exact hs
  case rq_some => intro _ s nt ci c s' hc _ ih hs; exact ih hs ⟨hc, fun a ha => by cases ha⟩
  case dr_ret => intro _ s nt fr s1 _ ih hs hf; exact (ih hs hf).1
  case dr_yield =>
    intro _ s nt fr s1 p fr1 s' _ ihR _ ihD hs hf
    exact ihD (ihR hs hf).1 ((ihR hs hf).2 p fr1 rfl).fc
  case rs_yield =>
    intro _ s nt fr s1 p rest hem hs hf
    have he := emit_cost E nt fr.ci fr.P fr.isFun fr.cost fr.pending s _ hem hs hf.1 hf.2
    obtain ⟨he1, he2, he3⟩ := he
    refine ⟨he1, fun p' fr' hy => ?_⟩
    cases hy
    obtain ⟨g1, g2⟩ := he3 p rest rfl
    exact { price := g1, fc := ⟨by rw [he2]; exact hf.1, fun a ha => hf.2 a (g2 a ha)⟩, ci := rfl, cost := rfl }
  case rs_ret =>
    intro _ s nt fr s1 hem _ hs hf
    have he := emit_cost E nt fr.ci fr.P fr.isFun fr.cost fr.pending s _ hem hs hf.1 hf.2
    exact ⟨epilogue_cost E s1 nt fr he.1, fun _ _ hy => by cases hy⟩
  case rs_pop =>
    intro n s nt fr s1 el q0 q' rl s3 ae af poss s' fr' r hem _ hcost hpop hrl hargs ihA hnext _ ihR hs hf
    have he := emit_cost E nt fr.ci fr.P fr.isFun fr.cost fr.pending s _ hem hs hf.1 hf.2
    obtain ⟨hs1, hcl1, _⟩ := he
    obtain ⟨rl0, w, k, hrl0, hw, hk, hc⟩ := hs1.queue nt el ((mem_of_pop _ _ _ _ hpop el).mpr (Or.inl rfl))
    obtain rfl : rl0 = rl := Option.some.inj (hrl0.symm.trans hrl)
    obtain ⟨hs3, hposs⟩ := ihA (cinv_pop E s1 nt el q' hs1 hpop) [] All2.nil
    have hx3 : Ext (s1.setQueue nt q') s3 := (run_ext E n).al hargs
    have hx03 : Ext s s3 := (Ext.of_eq hcl1).trans hx3
    have hk3 : combCost s3 rl0.1 el.comb = some k := combCost_ext hx3 _ _ _ ((combCost_setQueue s1 nt q' _ _).trans hk)
    have hfc : fr.cost = Cost.ofRat (w + k) := hcost ▸ hc
    obtain ⟨hs4, hcl4⟩ := succLoop_cost E nt el.P el.comb rl0 w k hrl hw (rl0.1.map ntOf) s3 0 hs3 hk3 (by simp)
    rw [← hfc] at hs4 hcl4
    -- the frame invariant, and the conclusion, from any state that extends `s3` with the same cost lists
    have key : ∀ s5 pend, CInv E s5 → (∀ nt', s5.clOf nt' = s3.clOf nt') →
        (∀ a ∈ pend, costOf E (mkProg fr'.P fr'.isFun a) nt = some fr.cost.fin) → fr'.ci = fr.ci → fr'.cost = fr.cost →
        fr'.pending = pend → s' = s5 →
        CInv E r.1 ∧ ∀ p fr'', r.2 = .yield p fr'' → YieldC E nt fr r.1 p fr'' := by
      intro s5 pend hs5 hcl5 hpend hci hco hpe hs'
      subst hs'
      obtain ⟨g1, g3⟩ := ihR hs5
        ⟨by rw [hci, hco]; exact (hx03.trans (Ext.of_eq hcl5)).get _ _ _ hf.1, by rw [hpe, hco]; exact hpend⟩
      refine ⟨g1, fun p fr'' hy => ?_⟩
      have q := g3 p fr'' hy
      exact { price := hco ▸ q.price, fc := q.fc, ci := q.ci.trans hci, cost := q.cost.trans hco }
    rcases hnext with ⟨_, rfl, rfl⟩ | ⟨_, _, rfl, rfl⟩ | ⟨haf, _, rfl, rfl⟩
    · exact key _ [] hs3 (fun _ => rfl) (fun a ha => by cases ha) rfl rfl rfl rfl
    · exact key _ [] hs4 hcl4 (fun a ha => by cases ha) rfl rfl rfl rfl
    · refine key _ (product poss) (hs4.of_eq (by simp) (by simp) (by simp)) (by simpa using hcl4) (fun a ha => ?_) rfl rfl rfl rfl
      rw [hfc]
      exact pending_cost E s3 nt el.P rl0 w k el.comb hrl hw hk3 poss (by simpa using hposs haf) a ha
  case ar_nil => intro _ s cs ae af acc hs done hacc; exact ⟨hs, fun _ => by simpa using hacc⟩
  case ar_break => intro _ s a as c cs ae af acc s1 poss _ ih _ hs done _; exact ⟨(ih hs).1, fun hf => by cases hf⟩
  case ar_cons =>
    intro n s a as c cs ae af acc s1 one poss r hql ihQ _ _ ihA hs done hacc
    obtain ⟨hs1, hp⟩ := ihQ hs
    have he1 : Ext s s1 := (run_ext E n).ql hql
    obtain ⟨g1, g3⟩ := ihA hs1 (done ++ [(a, c)]) ((hacc.mono fun _ _ hr => hr.ext he1).append (All2.cons hp All2.nil))
    exact ⟨g1, fun hf => by simpa using g3 hf⟩

/-! ## the loop of `next`, `merge_program` -/

def GC (E : Env S) (g : Gen S) : Prop :=
  CInv E g.st ∧ ∀ fr, g.frame = some fr → FrC E g.st E.G.start fr ∧ fr.ci = g.n

structure LoopCost (E : Env S) (s : St S) (n : Nat) (r : Gen S × Option Prog) : Prop where
  gc : GC E r.1
  ext : Ext s r.1.st
  mono : n ≤ r.1.n
  yield : ∀ p, r.2 = some p → ∃ c, (r.1.st.clOf E.G.start)[r.1.n]? = some c ∧ costOf E p E.G.start = some c.fin

theorem nextLoop_cost (E : Env S) (fuel : Nat) (k : Nat) (s : St S) (n : Nat) (failed : Bool) (fro : Option Frame)
    (r : Gen S × Option Prog) (h : nextLoop E fuel k s n failed fro = some r) :
    CInv E s → (∀ fr, fro = some fr → FrC E s E.G.start fr ∧ fr.ci = n) → LoopCost E s n r := by
  apply nextLoop_induct E fuel ?nl_yield ?nl_stop ?nl_next ?nl_end ?nl_enter k s n failed fro r h
  case nl_yield =>
    intro s n failed fr s1 p fr1 hr hs hf
    obtain ⟨hfr, hci⟩ := hf fr rfl
    obtain ⟨h1, h3⟩ := (cost_all E fuel).rs hr hs hfr
    have h2 := (run_ext E fuel).rs hr
    have g := h3 p fr1 rfl
    refine { gc := ⟨h1, fun fr' he => ?_⟩, ext := h2, mono := Nat.le_refl _, yield := fun p' hp' => ?_ }
    · cases he; exact ⟨g.fc, g.ci.trans hci⟩
    · cases hp'; exact ⟨fr.cost, by have := g.fc.1; rwa [g.ci, hci, g.cost] at this, g.price⟩
  case nl_stop =>
    intro s n failed fr s1 hr _ hs hf
    obtain ⟨h1, _⟩ := (cost_all E fuel).rs hr hs (hf fr rfl).1
    have h2 := (run_ext E fuel).rs hr
    exact { gc := ⟨h1, fun fr' he => by cases he⟩, ext := h2, mono := Nat.le_succ _, yield := fun p' hp' => by cases hp' }
  case nl_next =>
    intro s n failed fr s1 r hr ih hs hf
    obtain ⟨h1, _⟩ := (cost_all E fuel).rs hr hs (hf fr rfl).1
    have h2 := (run_ext E fuel).rs hr
    have q := ih h1 (fun fr' he => by cases he)
    exact { gc := q.gc, ext := h2.trans q.ext, mono := Nat.le_of_succ_le q.mono, yield := q.yield }
  case nl_end =>
    -- here and in `nl_enter` the state is `{ s with failedByEmpties := false }` (beap_search.py:127), hence the `of_eq`
    intro s n failed _ hs _
    exact { gc := ⟨CInv.of_eq (s := s) (fun _ => rfl) (fun _ => rfl) (fun _ _ => rfl) hs, fun fr' he => by cases he⟩,
            ext := Ext.of_eq (fun _ => rfl), mono := Nat.le_succ _, yield := fun p' hp' => by cases hp' }
  case nl_enter =>
    intro s n failed c r hc ih hs _
    have q := ih (CInv.of_eq (s := s) (fun _ => rfl) (fun _ => rfl) (fun _ _ => rfl) hs)
      (fun fr' he => by cases he; exact ⟨⟨hc, fun a ha => by cases ha⟩, rfl⟩)
    exact { q with ext := (Ext.of_eq fun _ => rfl).trans q.ext }

/-- `merge_program` only removes programs from the banks -/
theorem merge_cost (E : Env S) (g : Gen S) (other : Prog) (ok : NT S Unit → Bool) (hg : GC E g) : GC E (merge g other ok) := by
  obtain ⟨hcl, hq, _⟩ := merge_tables g other ok
  refine ⟨⟨fun nt c hm => hg.1.fin nt c (hcl nt ▸ hm), fun nt el hm => ?_, fun nt ci p hp => ?_⟩, fun fr he => ?_⟩
  · obtain ⟨rl, w, k, h1, h2, h3, h4⟩ := hg.1.queue nt el (hq nt ▸ hm)
    exact ⟨rl, w, k, h1, h2, (combCost_of_cl hcl _ _).trans h3, h4⟩
  · obtain ⟨c, h1, h2⟩ := hg.1.bank nt ci p (merge_bankAt_subset g other ok nt ci p hp)
    exact ⟨c, by rw [hcl nt]; exact h1, h2⟩
  · obtain ⟨h1, h2⟩ := hg.2 fr he
    exact ⟨⟨by rw [hcl]; exact h1.1, h1.2⟩, h2⟩

/-! ### the base case: the state after the prologue -/

/-- no placeholder is left in the cost lists (Boolean; `cinv_base` takes the proposition) -/
def finB (E : Env S) (s : St S) : Bool := (AList.keys E.G.rules).all fun nt => (s.clOf nt).all fun c => decide (c.inf = 0)

def zeroB (E : Env S) (s : St S) : Bool :=
  (AList.keys E.G.rules).all fun nt => (s.queueOf nt).all fun el => el.comb.all (· == 0)

def bankEmptyB (E : Env S) (s : St S) : Bool := (AList.keys E.G.rules).all fun nt => (s.bankOf nt).all fun e => e.2.isEmpty

theorem clOf_nil_of_not_mem (s : St S) (nt : NT S Unit) (h : nt ∉ AList.keys s.costLists) : s.clOf nt = [] :=
  AList.getD_lookup_of_not_mem [] h

theorem sumFirst_comb (s : St S) (hfin : ∀ nt c, c ∈ s.clOf nt → c.inf = 0) (args : List (Ty × S)) (acc c : Cost)
    (h : sumFirst s args acc = some c) (ha : acc.inf = 0) :
    c.inf = 0 ∧ ∃ k, combCost s args (List.replicate args.length 0) = some k ∧ c.fin = acc.fin + k := by
  fun_induction sumFirst s args acc with
  | case1 => cases h; exact ⟨ha, 0, by simp [combCost], by grind⟩
  | case2 => cases h
  | case3 a as acc c0 rest0 hcl ih =>
    have hc0 : c0.inf = 0 := hfin _ c0 (by rw [hcl]; exact List.mem_cons_self ..)
    obtain ⟨g1, k, g2, g3⟩ := ih h (by simp [ha, hc0])
    refine ⟨g1, c0.fin + k, ?_, ?_⟩
    · simp only [List.length_cons, List.replicate_succ, combCost, hcl, List.getElem?_cons_zero, g2]
    · rw [g3, Cost.add_fin _ _ (by simp [ha, hc0])]; grind

theorem cinv_base (E : Env S) (s : St S)
    (hfin : ∀ nt c, c ∈ s.clOf nt → c.inf = 0) (hst : Stable E s)
    (hz : ∀ nt el, el ∈ s.queueOf nt → ∀ rl, E.G.rule? nt el.P = some rl → el.comb = List.replicate rl.1.length 0)
    (hb : ∀ nt ci p, p ∉ s.bankAt nt ci) : CInv E s := by
  refine ⟨hfin, fun nt el hel => ?_, fun nt ci p hp => absurd hp (hb nt ci p)⟩
  obtain ⟨el', hre, hcost⟩ := hst nt el hel
  obtain ⟨w, rl, c, hw, hr, hc, rfl⟩ := recost_eq_some.mp hre
  simp only at hcost
  obtain ⟨g1, k, g2, g3⟩ := sumFirst_comb s hfin rl.1 (Cost.ofRat 0) c hc rfl
  refine ⟨rl, w, k, hr, hw, by rw [hz nt el hel rl hr]; exact g2, ?_⟩
  rw [← hcost]
  show Cost.add _ _ = _
  unfold Cost.add
  simp only [Cost.ofRat_inf, Cost.ofRat_fin, g1, Int.add_zero, if_true, g3]
  congr 1; grind

end PS.Beap
