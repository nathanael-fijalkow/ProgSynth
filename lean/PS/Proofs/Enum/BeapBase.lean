/- Basic facts about the beap-search machine (PS/Model/Enum/BeapSearch.lean): what each write, the epilogue of `query`
   and `merge_program` do to the tables; inversion of `costOf` and `gen` at a node; the heap operations keep the
   multiset; the pointwise relation `All2` between two lists, in which membership in a `product` is stated. -/
import PS.Model.Enum.BeapSearch
import PS.Proofs.Enum.Heapq
import PS.Proofs.Grammar
import PS.Proofs.OptAll
import PS.Proofs.AList
namespace PS.Beap
open PS PS.G
set_option linter.unusedSectionVars false
variable {S : Type} [DecidableEq S]

/-- `bank[S][ci]` (empty when absent) -/
def St.bankAt (s : St S) (nt : NT S Unit) (ci : Nat) : List Prog := (AList.lookup ci (s.bankOf nt)).getD []

namespace St
variable (s : St S) (nt nt' : NT S Unit)

@[simp] theorem queueOf_setCL (cl) : (s.setCL nt cl).queueOf nt' = s.queueOf nt' := rfl
@[simp] theorem bankOf_setCL (cl) : (s.setCL nt cl).bankOf nt' = s.bankOf nt' := rfl
@[simp] theorem emptiesOf_setCL (cl) : (s.setCL nt cl).emptiesOf nt' = s.emptiesOf nt' := rfl
@[simp] theorem deleted_setCL (cl) : (s.setCL nt cl).deleted = s.deleted := rfl
@[simp] theorem clOf_setQueue (q) : (s.setQueue nt q).clOf nt' = s.clOf nt' := rfl
@[simp] theorem bankOf_setQueue (q) : (s.setQueue nt q).bankOf nt' = s.bankOf nt' := rfl
@[simp] theorem emptiesOf_setQueue (q) : (s.setQueue nt q).emptiesOf nt' = s.emptiesOf nt' := rfl
@[simp] theorem deleted_setQueue (q) : (s.setQueue nt q).deleted = s.deleted := rfl
@[simp] theorem clOf_setBank (ci ps) : (s.setBank nt ci ps).clOf nt' = s.clOf nt' := rfl
@[simp] theorem queueOf_setBank (ci ps) : (s.setBank nt ci ps).queueOf nt' = s.queueOf nt' := rfl
@[simp] theorem emptiesOf_setBank (ci ps) : (s.setBank nt ci ps).emptiesOf nt' = s.emptiesOf nt' := rfl
@[simp] theorem deleted_setBank (ci ps) : (s.setBank nt ci ps).deleted = s.deleted := rfl

theorem queueOf_setQueue (q) : (s.setQueue nt q).queueOf nt' = if nt' = nt then q else s.queueOf nt' :=
  AList.getD_lookup_insert nt nt' q [] s.queues

theorem clOf_setCL (cl) : (s.setCL nt cl).clOf nt' = if nt' = nt then cl else s.clOf nt' :=
  AList.getD_lookup_insert nt nt' cl [] s.costLists

/-- `_cost_lists[nt].append(e)` -/
theorem mem_clOf_snoc {s : St S} {nt nt' : NT S Unit} {e c : Cost} (h : c ∈ (s.setCL nt (s.clOf nt ++ [e])).clOf nt') :
    c ∈ s.clOf nt' ∨ (nt' = nt ∧ c = e) := by
  rw [clOf_setCL] at h
  split at h
  · next heq => exact (List.mem_append.mp h).imp (heq ▸ ·) fun h' => ⟨heq, List.mem_singleton.mp h'⟩
  · exact Or.inl h

theorem bankOf_setBank (ci ps) :
    (s.setBank nt ci ps).bankOf nt' = if nt' = nt then AList.insert ci ps (s.bankOf nt) else s.bankOf nt' :=
  AList.getD_lookup_insert nt nt' _ [] s.bank

theorem bankAt_setBank (ci ci' ps) :
    (s.setBank nt ci ps).bankAt nt' ci' = if nt' = nt ∧ ci' = ci then ps else s.bankAt nt' ci' := by
  unfold bankAt
  rw [bankOf_setBank]
  by_cases h : nt' = nt
  · subst h
    simp only [true_and, if_true, AList.lookup_insert]
    by_cases h2 : ci' = ci <;> simp [h2]
  · simp [h]

theorem bankOf_congr {s s' : St S} (h : s'.bank = s.bank) (nt : NT S Unit) : s'.bankOf nt = s.bankOf nt := by
  rw [bankOf, h]; rfl

theorem bankAt_congr {s s' : St S} {nt : NT S Unit} (h : s'.bankOf nt = s.bankOf nt) (ci : Nat) :
    s'.bankAt nt ci = s.bankAt nt ci := by
  rw [bankAt, h]; rfl

@[simp] theorem bankAt_setCL (cl ci) : (s.setCL nt cl).bankAt nt' ci = s.bankAt nt' ci := rfl
@[simp] theorem bankAt_setQueue (q ci) : (s.setQueue nt q).bankAt nt' ci = s.bankAt nt' ci := rfl

theorem addDeleted_queueOf (p) : (s.addDeleted p).queueOf nt = s.queueOf nt := by
  unfold addDeleted; split <;> rfl
theorem addDeleted_bankAt (p ci) : (s.addDeleted p).bankAt nt ci = s.bankAt nt ci := by
  unfold addDeleted; split <;> rfl
theorem addDeleted_bankOf (p) : (s.addDeleted p).bankOf nt = s.bankOf nt := by
  unfold addDeleted; split <;> rfl
theorem addDeleted_clOf (p) : (s.addDeleted p).clOf nt = s.clOf nt := by
  unfold addDeleted; split <;> rfl
theorem addDeleted_emptiesOf (p) : (s.addDeleted p).emptiesOf nt = s.emptiesOf nt := by
  unfold addDeleted; split <;> rfl
theorem addEmpty_queueOf (ci) : (s.addEmpty nt ci).queueOf nt' = s.queueOf nt' := by
  unfold addEmpty; split <;> rfl
theorem addEmpty_bankAt (ci ci') : (s.addEmpty nt ci).bankAt nt' ci' = s.bankAt nt' ci' := by
  unfold addEmpty; split <;> rfl
theorem addEmpty_clOf (ci) : (s.addEmpty nt ci).clOf nt' = s.clOf nt' := by
  unfold addEmpty; split <;> rfl
theorem addEmpty_deleted (ci) : (s.addEmpty nt ci).deleted = s.deleted := by
  unfold addEmpty; split <;> rfl

theorem mem_addDeleted_iff (p q : Prog) : q ∈ (s.addDeleted p).deleted ↔ q = p ∨ q ∈ s.deleted := by
  unfold addDeleted
  split
  · next hc => exact ⟨Or.inr, fun h => h.elim (fun e => e ▸ by simpa using hc) id⟩
  · simp [or_comm]

theorem mem_addDeleted (p : Prog) : p ∈ (s.addDeleted p).deleted := (s.mem_addDeleted_iff p p).mpr (Or.inl rfl)

theorem addDeleted_mono (p q : Prog) (h : q ∈ s.deleted) : q ∈ (s.addDeleted p).deleted :=
  (s.mem_addDeleted_iff p q).mpr (Or.inr h)
end St

/- `markEmpty`: the `_empties.add` and `_failed_by_empties = True` at the end of `query` -/
@[simp] theorem markEmpty_clOf (s : St S) (nt nt' : NT S Unit) (fr : Frame) : (markEmpty s nt fr).clOf nt' = s.clOf nt' := by
  unfold markEmpty; split
  · exact St.addEmpty_clOf s nt nt' fr.ci
  · rfl
@[simp] theorem markEmpty_queueOf (s : St S) (nt nt' : NT S Unit) (fr : Frame) : (markEmpty s nt fr).queueOf nt' = s.queueOf nt' := by
  unfold markEmpty; split
  · exact St.addEmpty_queueOf s nt nt' fr.ci
  · rfl
@[simp] theorem markEmpty_bankAt (s : St S) (nt nt' : NT S Unit) (fr : Frame) (ci : Nat) :
    (markEmpty s nt fr).bankAt nt' ci = s.bankAt nt' ci := by
  unfold markEmpty; split
  · exact St.addEmpty_bankAt s nt nt' fr.ci ci
  · rfl
@[simp] theorem markEmpty_deleted (s : St S) (nt : NT S Unit) (fr : Frame) : (markEmpty s nt fr).deleted = s.deleted := by
  unfold markEmpty; split
  · exact St.addEmpty_deleted s nt fr.ci
  · rfl

theorem addEmpty_bankOf (s : St S) (nt nt' : NT S Unit) (ci : Nat) : (s.addEmpty nt ci).bankOf nt' = s.bankOf nt' := by
  unfold St.addEmpty; split <;> rfl

theorem addEmpty_emptiesOf_other (s : St S) (nt nt' : NT S Unit) (ci : Nat) (h : nt' ≠ nt) :
    (s.addEmpty nt ci).emptiesOf nt' = s.emptiesOf nt' := by
  unfold St.addEmpty; split
  · rfl
  · show (AList.lookup nt' (AList.insert nt _ s.empties)).getD [] = _
    rw [AList.lookup_insert_ne _ _ h]; rfl

theorem addEmpty_contains (s : St S) (nt : NT S Unit) (ci ci' : Nat) :
    ((s.addEmpty nt ci).emptiesOf nt).contains ci' = ((s.emptiesOf nt).contains ci' || decide (ci' = ci)) := by
  unfold St.addEmpty; split
  · next h =>
    by_cases hc : ci' = ci
    · subst hc; simp only [decide_true, Bool.or_true]; exact h
    · simp [hc]
  · have : ({ s with empties := AList.insert nt (s.emptiesOf nt ++ [ci]) s.empties } : St S).emptiesOf nt = s.emptiesOf nt ++ [ci] := by
      show (AList.lookup nt (AList.insert nt _ s.empties)).getD [] = _
      rw [AList.lookup_insert_self]; rfl
    rw [this]
    simp [List.contains_eq_mem, List.mem_append]

theorem epilogue_shape (s : St S) (nt : NT S Unit) (fr : Frame) :
    (∀ S', (epilogue s nt fr).queueOf S' = s.queueOf S') ∧ (∀ S', (epilogue s nt fr).bankOf S' = s.bankOf S') ∧
    (epilogue s nt fr).deleted = s.deleted ∧
    (∀ S', S' ≠ nt → (epilogue s nt fr).emptiesOf S' = s.emptiesOf S') ∧
    (∀ ci', ((epilogue s nt fr).emptiesOf nt).contains ci' =
      ((s.emptiesOf nt).contains ci' || (decide (ci' = fr.ci) && (!fr.hasGen && !fr.noSucc)))) ∧
    (∀ S', S' ≠ nt → (epilogue s nt fr).clOf S' = s.clOf S') ∧
    (epilogue s nt fr).clOf nt = (match s.queueOf nt with | [] => s.clOf nt | e :: _ => s.clOf nt ++ [e.cost]) := by
  have m1 := fun S' => markEmpty_clOf s nt S' fr
  have m2 := fun S' => markEmpty_queueOf s nt S' fr
  obtain ⟨m3, m4, m5, m6⟩ : (∀ S', (markEmpty s nt fr).bankOf S' = s.bankOf S') ∧ (markEmpty s nt fr).deleted = s.deleted ∧
      (∀ S', S' ≠ nt → (markEmpty s nt fr).emptiesOf S' = s.emptiesOf S') ∧
      ∀ ci', ((markEmpty s nt fr).emptiesOf nt).contains ci' =
        ((s.emptiesOf nt).contains ci' || (decide (ci' = fr.ci) && (!fr.hasGen && !fr.noSucc))) := by
    by_cases hc : (!fr.hasGen && !fr.noSucc) = true
    · rw [markEmpty, if_pos hc]
      exact ⟨fun S' => addEmpty_bankOf s nt S' fr.ci, St.addEmpty_deleted s nt fr.ci,
        fun S' hne => addEmpty_emptiesOf_other s nt S' fr.ci hne,
        fun ci' => by rw [hc, Bool.and_true]; exact addEmpty_contains s nt fr.ci ci'⟩
    · rw [markEmpty, if_neg hc]
      exact ⟨fun _ => rfl, rfl, fun _ _ => rfl, fun ci' => by rw [Bool.eq_false_iff.mpr hc, Bool.and_false, Bool.or_false]⟩
  cases hq : s.queueOf nt with
  | nil =>
    have he : epilogue s nt fr = markEmpty s nt fr := by unfold epilogue; simp only [m2 nt, hq]
    rw [he]; exact ⟨m2, m3, m4, m5, m6, fun S' _ => m1 S', m1 nt⟩
  | cons e q =>
    have he : epilogue s nt fr = (markEmpty s nt fr).setCL nt (s.clOf nt ++ [e.cost]) := by
      unfold epilogue; simp only [m2 nt, hq, m1 nt]
    rw [he]
    refine ⟨m2, m3, m4, m5, m6, fun S' hne => ?_, ?_⟩
    · rw [St.clOf_setCL, if_neg hne]; exact m1 S'
    · rw [St.clOf_setCL, if_pos rfl]

@[simp] theorem epilogue_queueOf (s : St S) (nt nt' : NT S Unit) (fr : Frame) : (epilogue s nt fr).queueOf nt' = s.queueOf nt' :=
  (epilogue_shape s nt fr).1 nt'
@[simp] theorem epilogue_bankAt (s : St S) (nt nt' : NT S Unit) (fr : Frame) (ci : Nat) :
    (epilogue s nt fr).bankAt nt' ci = s.bankAt nt' ci :=
  St.bankAt_congr ((epilogue_shape s nt fr).2.1 nt') ci
@[simp] theorem epilogue_deleted (s : St S) (nt : NT S Unit) (fr : Frame) : (epilogue s nt fr).deleted = s.deleted :=
  (epilogue_shape s nt fr).2.2.1

theorem epilogue_append (s : St S) (nt : NT S Unit) (fr : Frame) :
    ((epilogue s nt fr).queueOf nt = [] ∧ (epilogue s nt fr).clOf nt = s.clOf nt) ∨
    (∃ e q, (epilogue s nt fr).queueOf nt = e :: q ∧ (epilogue s nt fr).clOf nt = s.clOf nt ++ [e.cost]) := by
  obtain ⟨sq, _, _, _, _, _, sclnt⟩ := epilogue_shape s nt fr
  rw [sq nt, sclnt]
  cases hq : s.queueOf nt with
  | nil => exact Or.inl ⟨rfl, rfl⟩
  | cons e q => exact Or.inr ⟨e, q, rfl, rfl⟩

theorem epilogue_len (s : St S) (nt : NT S Unit) (fr : Frame) :
    ((epilogue s nt fr).clOf nt).length ≤ (s.clOf nt).length + 1 := by
  rcases epilogue_append s nt fr with ⟨_, h⟩ | ⟨_, _, _, h⟩ <;> rw [h] <;> simp

/-- `bank[nt][ci].append(p)` -/
theorem mem_bankAt_append (s : St S) (nt nt' : NT S Unit) (ci ci' : Nat) (p q : Prog) :
    q ∈ (s.setBank nt ci (s.bankAt nt ci ++ [p])).bankAt nt' ci' ↔ q ∈ s.bankAt nt' ci' ∨ (nt' = nt ∧ ci' = ci) ∧ q = p := by
  rw [St.bankAt_setBank]
  split
  · next hh => obtain ⟨rfl, rfl⟩ := hh; simp
  · next hh => simp [hh]

theorem costOfList_cons_inv {E : Env S} {k0 : Prog} {ks : List Prog} {a : Ty × S} {as : List (Ty × S)} {x : Rat}
    (h : costOfList E (k0 :: ks) (a :: as) = some x) :
    ∃ y x', costOf E k0 (ntOf a) = some y ∧ costOfList E ks as = some x' ∧ x = y + x' := by
  simp only [costOfList] at h
  split at h
  · next y x' hy hx' => exact ⟨y, x', hy, hx', (Option.some.inj h).symm⟩
  · cases h

theorem costOf_inv {E : Env S} {nt : NT S Unit} {f : Sym} {kids : List Prog} {y : Rat} (h : costOf E (.node f kids) nt = some y) :
    ∃ rl w xs, E.G.rule? nt f = some rl ∧ ruleW E nt f = some w ∧ costOfList E kids rl.1 = some xs ∧ y = w + xs := by
  simp only [costOf] at h
  split at h
  · next args u w hr hw =>
    split at h
    · next xs hxs => exact ⟨(args, u), w, xs, hr, hw, hxs, (Option.some.inj h).symm⟩
    · cases h
  · cases h

theorem merge_tables (g : Gen S) (other : Prog) (ok : NT S Unit → Bool) :
    (∀ nt, (merge g other ok).st.clOf nt = g.st.clOf nt) ∧ (∀ nt, (merge g other ok).st.queueOf nt = g.st.queueOf nt) ∧
    ∀ nt, (merge g other ok).st.emptiesOf nt = g.st.emptiesOf nt :=
  ⟨fun nt => St.addDeleted_clOf g.st nt other, fun nt => St.addDeleted_queueOf g.st nt other,
    fun nt => St.addDeleted_emptiesOf g.st nt other⟩

theorem merge_bankOf (g : Gen S) (other : Prog) (ok : NT S Unit → Bool) (nt : NT S Unit) :
    (merge g other ok).st.bankOf nt =
      if ok nt = true then (g.st.bankOf nt).map (fun e => (e.1, e.2.erase other)) else g.st.bankOf nt := by
  unfold merge
  simp only [St.bankOf]
  have hb : (g.st.addDeleted other).bank = g.st.bank := by unfold St.addDeleted; split <;> rfl
  rw [hb]
  have := AList.lookup_map_val (fun k (b : AList Nat (List Prog)) => if ok k then b.map (fun e => (e.1, e.2.erase other)) else b) nt g.st.bank
  have heq : (g.st.bank.map fun r => if ok r.1 = true then (r.1, r.2.map fun e => (e.1, e.2.erase other)) else r) =
      (g.st.bank.map fun r => (r.1, if ok r.1 = true then r.2.map (fun e => (e.1, e.2.erase other)) else r.2)) := by
    apply List.map_congr_left
    intro r _
    split <;> rfl
  rw [heq, this]
  cases hl : AList.lookup nt g.st.bank with
  | none => simp
  | some b => simp only [Option.map_some, Option.getD_some]

theorem merge_lookup (g : Gen S) (other : Prog) (ok : NT S Unit → Bool) (nt : NT S Unit) (ci : Nat) :
    AList.lookup ci ((merge g other ok).st.bankOf nt) =
      if ok nt = true then (AList.lookup ci (g.st.bankOf nt)).map (fun ps => ps.erase other) else AList.lookup ci (g.st.bankOf nt) := by
  rw [merge_bankOf]
  split
  · exact AList.lookup_map_val (fun _ (ps : List Prog) => ps.erase other) ci (g.st.bankOf nt)
  · rfl

/-! ### heap operations keep the multiset -/
section heap
variable {α : Type}
open PS.Heapq

theorem siftdownFrom_perm (lt : α → α → Bool) (start : Nat) (fuel : Nat) (h : List α) (pos : Nat) :
    (siftdownFrom lt start fuel h pos).Perm h :=
  (IsSiftdown.mk (f := siftdownFrom lt start) (fun _ _ => rfl) fun _ _ _ => rfl).perm fuel h pos

theorem siftupAt_perm (lt : α → α → Bool) (h : List α) (pos : Nat) : (siftupAt lt h pos).Perm h := by
  unfold siftupAt
  exact (siftdownFrom_perm lt _ _ _ _).trans (bubble_perm lt _ _ _)

theorem heapifyLoop_perm (lt : α → α → Bool) (k : Nat) (h : List α) : (heapifyLoop lt k h).Perm h := by
  induction k generalizing h with
  | zero => exact List.Perm.refl _
  | succ n ih => unfold heapifyLoop; exact (ih _).trans (siftupAt_perm lt h n)

theorem heapify_perm (lt : α → α → Bool) (h : List α) : (heapify lt h).Perm h := heapifyLoop_perm lt _ h

theorem mem_push (lt : α → α → Bool) (h : List α) (x y : α) : y ∈ push lt h x ↔ y = x ∨ y ∈ h := by
  rw [(push_perm lt h x).mem_iff]; simp

theorem mem_of_pop (lt : α → α → Bool) (h : List α) (x : α) (h' : List α) (hp : pop lt h = some (x, h')) (y : α) :
    y ∈ h ↔ y = x ∨ y ∈ h' := by
  rw [(pop_perm lt h x h' hp).mem_iff]; simp
end heap

inductive All2 {α β : Type} (R : α → β → Prop) : List α → List β → Prop
  | nil : All2 R [] []
  | cons {a b l1 l2} : R a b → All2 R l1 l2 → All2 R (a :: l1) (b :: l2)

theorem All2.length_eq {α β : Type} {R : α → β → Prop} {l1 : List α} {l2 : List β} (h : All2 R l1 l2) :
    l1.length = l2.length := by
  induction h with
  | nil => rfl
  | cons _ _ ih => simp [ih]

theorem All2.map_eq {α β γ : Type} {R : α → β → Prop} {f : α → γ} {g : β → γ} (hr : ∀ a b, R a b → f a = g b)
    {l1 : List α} {l2 : List β} (h : All2 R l1 l2) : l1.map f = l2.map g := by
  induction h with
  | nil => rfl
  | cons h1 _ ih => rw [List.map_cons, List.map_cons, hr _ _ h1, ih]

theorem All2.of_mem {α β : Type} {R : α → β → Prop} : ∀ {a : List α} {ls : List (List α)} {zs : List β},
    All2 (· ∈ ·) a ls → All2 (fun l z => ∀ x ∈ l, R x z) ls zs → All2 R a zs
  | _, _, _, .nil, .nil => .nil
  | _, _, _, .cons m r, .cons m' r' => .cons (m' _ m) (All2.of_mem r r')

theorem All2.of_map_right {α β γ : Type} {R : α → γ → Prop} {f : β → γ} : ∀ {l1 : List α} {l2 : List β},
    All2 R l1 (l2.map f) → All2 (fun a b => R a (f b)) l1 l2
  | _, [], .nil => .nil
  | _, _ :: _, .cons h r => .cons h (All2.of_map_right r)

theorem All2.append {α β : Type} {R : α → β → Prop} {l1 l1' : List α} {l2 l2' : List β}
    (h : All2 R l1 l2) (h' : All2 R l1' l2') : All2 R (l1 ++ l1') (l2 ++ l2') := by
  induction h with
  | nil => exact h'
  | cons hr _ ih => exact All2.cons hr ih

theorem mem_product {α : Type} : ∀ (ls : List (List α)) (a : List α), a ∈ product ls ↔ All2 (· ∈ ·) a ls
  | [], a => by
    simp only [product, List.mem_singleton]
    constructor
    · rintro rfl; exact All2.nil
    · intro h; cases h; rfl
  | l :: ls, a => by
    simp only [product, List.mem_flatMap, List.mem_map]
    constructor
    · rintro ⟨x, hx, r, hr, rfl⟩
      exact All2.cons hx ((mem_product ls r).mp hr)
    · intro h
      cases h with
      | cons hx hr => exact ⟨_, hx, _, (mem_product ls _).mpr hr, rfl⟩

/-- `mkProg P (len(args_possibles) > 0) a` is `P(a)` on every tuple of the product: without arguments the only tuple
    is the empty one -/
theorem mkProg_tuple (P : Sym) {args : List (NT S Unit)} {poss : List (List Prog)} {a : List Prog} (ha : a ∈ product poss)
    (hl : poss.length = args.length) : mkProg P (!args.isEmpty) a = .node P a := by
  unfold mkProg
  split
  · rfl
  · next hif =>
    have h0 : args = [] := by simpa using hif
    have := ((mem_product poss a).mp ha).length_eq
    rw [h0] at hl
    rw [List.length_eq_zero_iff.mp (this.trans hl)]

theorem mapOpt_eq_optAll {α β : Type} (f : α → Option β) : ∀ l : List α, mapOpt f l = optAll f l
  | [] => rfl
  | x :: xs => by rw [mapOpt, optAll, mapOpt_eq_optAll f xs]; cases f x <;> cases optAll f xs <;> rfl

/-- `W[nt][P]` -/
theorem ruleW_eq_lookup₂ (E : Env S) (nt : NT S Unit) (P : Sym) : ruleW E nt P = AList.lookup₂ E.W nt P := by
  unfold ruleW AList.lookup₂
  cases AList.lookup nt E.W <;> rfl

theorem genList_of_forall₂ (G : TT S Unit) : ∀ (kids : List Prog) (args : List (Ty × S)),
    All2 (fun k a => gen G k (ntOf a) = true) kids args → genList G kids args = true
  | [], [], _ => by simp [genList]
  | [], _ :: _, h => by cases h
  | _ :: _, [], h => by cases h
  | k :: ks, a :: as, h => by
    cases h with
    | cons h1 h2 =>
      obtain ⟨t, s⟩ := a
      simp only [genList, Bool.and_eq_true]
      exact ⟨h1, genList_of_forall₂ G ks as h2⟩

theorem gen_node (G : TT S Unit) (f : Sym) (kids : List Prog) (nt : NT S Unit) (rl : List (Ty × S) × Unit)
    (hr : G.rule? nt f = some rl) : gen G (.node f kids) nt = genList G kids rl.1 :=
  gen_node_eq hr kids

theorem sumFirst_congr (s s' : St S) : ∀ (as : List (Ty × S)) (acc : Cost), (∀ a ∈ as, s'.clOf (ntOf a) = s.clOf (ntOf a)) →
    sumFirst s' as acc = sumFirst s as acc := by
  intro as
  induction as with
  | nil => intro acc _; rfl
  | cons a as ih =>
    intro acc h
    simp only [sumFirst, h a (List.mem_cons_self ..)]
    split
    · rfl
    · exact ih _ (fun b hb => h b (List.mem_cons_of_mem _ hb))

theorem recost_congr (E : Env S) (s s' : St S) (nt : NT S Unit) (el : HeapEl)
    (h : ∀ rl, E.G.rule? nt el.P = some rl → ∀ a ∈ rl.1, s'.clOf (ntOf a) = s.clOf (ntOf a)) :
    recost E s' nt el = recost E s nt el := by
  unfold recost
  split
  · next w rl hw hr => rw [sumFirst_congr s s' rl.1 _ (h rl hr)]
  · rfl

end PS.Beap
