/- No duplicates in heap search: a program enters `heaps[S]` at most once, what is popped never comes back, the
   successor table `succ[S]` is injective and only grows — hence the yielded sequence has no duplicates. The five
   clauses that say so are kept by each of the three writes whatever is in `deleted` (`NInv5`); `NInv` adds
   `deleted = ∅` and is kept by every call of a run without a filter (`big_nodup`). Any tree-traversing grammar, any
   priority type. -/
import PS.Proofs.Enum.HSBig
import PS.Proofs.Enum.Tables
namespace PS.HS
open PS PS.G
set_option linter.unusedSectionVars false
variable {S T π : Type} [DecidableEq S] [DecidableEq T]

def St.heapProgs (s : St S T π) (nt : NT S T) : List Prog := (s.heapOf nt).map (·.2)

theorem St.heapProgs_of_heapOf {s : St S T π} {nt : NT S T} {l : List (π × Prog)} (h : s.heapOf nt = l) :
    s.heapProgs nt = l.map (·.2) := by
  rw [St.heapProgs, h]

theorem St.heapProgs_congr {s s' : St S T π} {nt : NT S T} (h : s'.heapOf nt = s.heapOf nt) :
    s'.heapProgs nt = s.heapProgs nt :=
  St.heapProgs_of_heapOf h

theorem St.heapProgs_setHeap (s : St S T π) (nt nt' : NT S T) (h : List (π × Prog)) :
    (s.setHeap nt h).heapProgs nt' = if nt' = nt then h.map (·.2) else s.heapProgs nt' := by
  rw [St.heapProgs, St.heapOf_setHeap]
  split <;> rfl

/-- the tables of a state, as the invariants read them (PS/Proofs/Enum/Tables.lean) -/
def St.tb (s : St S T π) : Tables.Tb (NT S T) := ⟨s.heapProgs, s.seenOf, s.succOf⟩

structure NInv (s : St S T π) : Prop where
  heap_nodup : ∀ nt, (s.heapProgs nt).Nodup
  heap_seen : ∀ nt p, p ∈ s.heapProgs nt → p ∈ s.seenOf nt
  succ_seen : ∀ nt k v, AList.lookup k (s.succOf nt) = some v → v ∈ s.seenOf nt
  /-- what was popped is not in the heap any more -/
  succ_out : ∀ nt k v, AList.lookup k (s.succOf nt) = some v → v ∉ s.heapProgs nt
  succ_inj : ∀ nt k k' v, AList.lookup k (s.succOf nt) = some v → AList.lookup k' (s.succOf nt) = some v → k = k'
  no_deleted : s.deleted = []

def Stable (s s' : St S T π) : Prop :=
  ∀ nt k v, AList.lookup k (s.succOf nt) = some v → AList.lookup k (s'.succOf nt) = some v

theorem Stable.refl (s : St S T π) : Stable s s := fun _ _ _ h => h
theorem Stable.trans {s s1 s2 : St S T π} (h1 : Stable s s1) (h2 : Stable s1 s2) : Stable s s2 :=
  fun nt k v h => h2 nt k v (h1 nt k v h)

theorem Stable.succ_ne_nil {s s' : St S T π} (h : Stable s s') {nt : NT S T} (hne : s.succOf nt ≠ []) :
    s'.succOf nt ≠ [] := by
  intro hempty
  cases hT : s.succOf nt with
  | nil => exact hne hT
  | cons p r =>
    have := h nt p.1 p.2 (by rw [hT]; simp [AList.lookup])
    rw [hempty] at this; simp at this

def NPre : Call S T → St S T π → Prop
  | .popLoop nt key, s => AList.lookup key (s.succOf nt) = none
  | _, _ => True

def NPost : Call S T → St S T π → Option Prog → Prop
  | .query nt p, s', r => ∀ q, r = some q → AList.lookup p (s'.succOf nt) = some q
  | .lop nt p, s', r => ∀ q, r = some q → AList.lookup p (s'.succOf nt) = some q
  | .popLoop nt p, s', r => ∀ q, r = some q → AList.lookup p (s'.succOf nt) = some q
  | _, _, _ => True

def St.popTake (s : St S T π) (nt : NT S T) (key : Option Prog) (e : π × Prog) (h' : List (π × Prog)) : St S T π :=
  ((s.setHeap nt h').setSucc nt key e.2).setPred nt e.2 key

theorem popTake_heapProgs (s : St S T π) (nt : NT S T) (key : Option Prog) (e : π × Prog) (h' : List (π × Prog)) :
    ∀ nt', (s.popTake nt key e h').heapProgs nt' = if nt' = nt then h'.map (·.2) else s.heapProgs nt' := by
  intro nt'
  show ((s.setHeap nt h').heapOf nt').map (·.2) = _
  rw [St.heapOf_setHeap]
  split <;> rfl

theorem popTake_succOf (s : St S T π) (nt : NT S T) (key : Option Prog) (e : π × Prog) (h' : List (π × Prog)) :
    ∀ nt', (s.popTake nt key e h').succOf nt' =
      if nt' = nt then AList.insert key e.2 (s.succOf nt) else s.succOf nt' := by
  intro nt'
  show ((s.setHeap nt h').setSucc nt key e.2).succOf nt' = _
  rw [St.succOf_setSucc]; rfl

theorem heapOf_setHeap_ne (s : St S T π) {nt nt' : NT S T} (h' : List (π × Prog)) (hne : nt' ≠ nt) :
    (s.setHeap nt h').heapOf nt' = s.heapOf nt' := by
  rw [St.heapOf_setHeap, if_neg hne]

theorem popTake_succOf_ne (s : St S T π) {nt nt' : NT S T} (key : Option Prog) (e : π × Prog)
    (h' : List (π × Prog)) (hne : nt' ≠ nt) : (s.popTake nt key e h').succOf nt' = s.succOf nt' := by
  rw [popTake_succOf, if_neg hne]

theorem lookup_popTake {s : St S T π} {nt nt' : NT S T} {key k : Option Prog} {e : π × Prog}
    {h' : List (π × Prog)} {v : Prog} (hk : AList.lookup k ((s.popTake nt key e h').succOf nt') = some v) :
    (nt' = nt ∧ k = key ∧ v = e.2) ∨ ((nt' = nt → k ≠ key) ∧ AList.lookup k (s.succOf nt') = some v) :=
  Tables.lookup_link (popTake_succOf s nt key e h') hk

theorem lookup_popTake_self (s : St S T π) (nt : NT S T) (key : Option Prog) (e : π × Prog)
    (h' : List (π × Prog)) : AList.lookup key ((s.popTake nt key e h').succOf nt) = some e.2 :=
  Tables.lookup_link_self (popTake_succOf s nt key e h')

theorem stable_popTake {s : St S T π} {nt : NT S T} {key : Option Prog} (e : π × Prog) (h' : List (π × Prog))
    (hkey : AList.lookup key (s.succOf nt) = none) : Stable s (s.popTake nt key e h') :=
  Tables.stable_link (popTake_succOf s nt key e h') hkey

/-! ### the three writes on the tables -/

theorem skip_setHeap {lt : (π × Prog) → (π × Prog) → Bool} {s : St S T π} {nt : NT S T} {e : π × Prog}
    {h' : List (π × Prog)} (h : Heapq.pop lt (s.heapOf nt) = some (e, h')) :
    Tables.Skip s.tb (s.setHeap nt h').tb nt e.2 (h'.map (·.2)) :=
  ⟨pop_progs h, popTake_heapProgs s nt none e h', fun _ => rfl, fun _ => rfl⟩

theorem take_popTake {lt : (π × Prog) → (π × Prog) → Bool} {s : St S T π} {nt : NT S T} {key : Option Prog}
    {e : π × Prog} {h' : List (π × Prog)} (h : Heapq.pop lt (s.heapOf nt) = some (e, h'))
    (hkey : AList.lookup key (s.succOf nt) = none) :
    Tables.Take s.tb (s.popTake nt key e h').tb nt key e.2 (h'.map (·.2)) :=
  ⟨pop_progs h, popTake_heapProgs s nt key e h', fun _ => rfl, hkey, popTake_succOf s nt key e h'⟩

theorem push_pushNew (E : Env S T π) {s : St S T π} {nt : NT S T} {np : Prog} (hnew : np ∉ s.seenOf nt) :
    Tables.Push s.tb (pushNew E s nt np).tb nt np := by
  refine ⟨hnew, ?_, fun nt' hne => St.heapProgs_congr (heapOf_pushNew_ne E s np hne), fun _ _ => mem_seenOf_pushNew,
    fun nt' => succOf_pushNew E s nt nt' np⟩
  rcases heapOf_pushNew E s nt np with h | ⟨c, v, _, _, h⟩
  · exact Or.inr (St.heapProgs_congr (h nt))
  · refine Or.inl ?_
    show ((pushNew E s nt np).heapProgs nt).Perm _
    rw [St.heapProgs_of_heapOf ((h nt).trans (if_pos rfl))]
    exact (Heapq.push_perm (ltE E.ops) (s.heapOf nt) (v, np)).map (·.2)

/-! ### the five clauses of "no duplicates", whatever is in `deleted` -/

/-- `Tables.Five` of the tables of the state. `NInv` is this with `deleted = []`; `HG.NInvF` is this for `T := Unit`. -/
abbrev NInv5 (s : St S T π) : Prop := Tables.Five s.tb

theorem NInv.five {s : St S T π} (h : NInv s) : NInv5 s :=
  ⟨h.heap_nodup, h.heap_seen, h.succ_seen, h.succ_out, h.succ_inj⟩

theorem NInv5.ninv {s : St S T π} (h : NInv5 s) (hd : s.deleted = []) : NInv s :=
  ⟨h.heap_nodup, h.heap_seen, h.succ_seen, h.succ_out, h.succ_inj, hd⟩

theorem NInv5.popTake {lt : (π × Prog) → (π × Prog) → Bool} {s : St S T π} (hi : NInv5 s) (nt : NT S T)
    (key : Option Prog) (e : π × Prog) (h' : List (π × Prog))
    (h : Heapq.pop lt (s.heapOf nt) = some (e, h'))
    (hkey : AList.lookup key (s.succOf nt) = none) :
    NInv5 (s.popTake nt key e h') ∧ Stable s (s.popTake nt key e h') :=
  ⟨Tables.Five.take hi (take_popTake h hkey), stable_popTake e h' hkey⟩

/-- a deleted program is popped and not recorded -/
theorem NInv5.popSkip {lt : (π × Prog) → (π × Prog) → Bool} {s : St S T π} (hi : NInv5 s) (nt : NT S T)
    (e : π × Prog) (h' : List (π × Prog)) (h : Heapq.pop lt (s.heapOf nt) = some (e, h')) :
    NInv5 (s.setHeap nt h') :=
  (Tables.Five.skip hi (skip_setHeap h)).1

theorem NInv5.pushNew {E : Env S T π} {s : St S T π} (h : NInv5 s) (nt : NT S T) (np : Prog)
    (hnew : np ∉ s.seenOf nt) : NInv5 (pushNew E s nt np) :=
  Tables.Five.push h (push_pushNew E hnew)

theorem NInv5.pushStep {E : Env S T π} {s : St S T π} (h : NInv5 s) (F : Sym) (args : List Prog)
    (nt : NT S T) (i : Nat) (r : Option Prog) : NInv5 (pushStep E s F args nt i r) := by
  rcases pushStep_cases E s F args nt i r with e | ⟨_, -, hnew, -, e⟩
  · rw [e]; exact h
  · rw [e]; exact h.pushNew nt _ hnew

/-! ### `NInv`: nothing was rejected -/

theorem NInv.pushNew {E : Env S T π} {s : St S T π} (h : NInv s) (nt : NT S T) (np : Prog)
    (hnew : np ∉ s.seenOf nt) : NInv (pushNew E s nt np) ∧ Stable s (pushNew E s nt np) :=
  ⟨(h.five.pushNew nt np hnew).ninv ((deleted_pushNew E s nt np).trans h.no_deleted),
   fun nt' _ _ hk => (succOf_pushNew E s nt nt' np).symm ▸ hk⟩

theorem NInv.pushStep {E : Env S T π} {s : St S T π} (h : NInv s) (F : Sym) (args : List Prog)
    (nt : NT S T) (i : Nat) (r : Option Prog) :
    NInv (pushStep E s F args nt i r) ∧ Stable s (pushStep E s F args nt i r) := by
  rcases pushStep_cases E s F args nt i r with e | ⟨_, -, hnew, -, e⟩
  · rw [e]; exact ⟨h, Stable.refl _⟩
  · rw [e]; exact h.pushNew nt _ hnew

theorem NInv.popTake {lt : (π × Prog) → (π × Prog) → Bool} {s : St S T π} (hi : NInv s) (nt : NT S T)
    (key : Option Prog) (e : π × Prog) (h' : List (π × Prog))
    (h : Heapq.pop lt (s.heapOf nt) = some (e, h'))
    (hkey : AList.lookup key (s.succOf nt) = none) :
    NInv (s.popTake nt key e h') ∧ Stable s (s.popTake nt key e h') :=
  (hi.five.popTake nt key e h' h hkey).imp_left fun h5 => h5.ninv hi.no_deleted

theorem big_nodup (E : Env S T π) {c : Call S T} {s s' : St S T π} {r : Option Prog}
    (hb : Big E c s s' r) : NInv s → NPre c s → NInv s' ∧ Stable s s' ∧ NPost c s' r := by
  induction hb with
  | query_direct h hb ih => intro hi _; exact ih hi trivial
  | query_first hp h h0 hb ih0 ih =>
    intro hi _
    obtain ⟨a1, a2, _⟩ := ih0 hi trivial
    obtain ⟨b1, b2, b3⟩ := ih a1 trivial
    exact ⟨b1, a2.trans b2, b3⟩
  | lop_hit h =>
    intro hi _
    exact ⟨hi, Stable.refl _, by intro q hq; cases hq; exact h⟩
  | lop_miss h hb ih => intro hi _; exact ih hi h
  | pop_empty h => intro hi _; exact ⟨hi, Stable.refl _, by intro q hq; cases hq⟩
  | pop_deleted h hd ha hb iha ihb =>
    intro hi _
    rw [hi.no_deleted] at hd
    simp at hd
  | @pop_take s s' nt key e h' x h hd ha iha =>
    intro hi hpre
    obtain ⟨h1, hst⟩ := hi.popTake nt key e h' h hpre
    obtain ⟨a1, a2, _⟩ := iha h1 trivial
    refine ⟨a1, hst.trans a2, ?_⟩
    intro q hq
    cases hq
    exact a2 _ _ _ (lookup_popTake_self s nt key e h')
  | succ_leaf => intro hi _; exact ⟨hi, Stable.refl _, trivial⟩
  | succ_fun hd hr hb ih =>
    intro hi _
    obtain ⟨a1, a2, _⟩ := ih hi trivial
    exact ⟨a1, a2, trivial⟩
  | loop_done h => intro hi _; exact ⟨hi, Stable.refl _, trivial⟩
  | @loop_step s s1 s' F args nt i argsLen info s2 ai r r' x h hai hq hc hda hb ihq ihb =>
    intro hi _
    obtain ⟨a1, a2, _⟩ := ihq hi trivial
    obtain ⟨b1, b2⟩ := a1.pushStep (E := E) F args nt i r
    obtain ⟨c1, c2, _⟩ := ihb b1 trivial
    exact ⟨c1, (a2.trans b2).trans c2, trivial⟩
  | @loop_last s s1 F args nt i argsLen info s2 ai r h hai hq hc ihq =>
    intro hi _
    obtain ⟨a1, a2, _⟩ := ihq hi trivial
    obtain ⟨b1, b2⟩ := a1.pushStep (E := E) F args nt i r
    exact ⟨b1, a2.trans b2, trivial⟩

end PS.HS
