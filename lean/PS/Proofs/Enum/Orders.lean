/- How the comparison functions of the six enumerators are built: every `__lt__` of the code is a strict total order
   on a key (a number, a list of indices) pulled back along a projection (`comap`) or the tuple comparison of two such
   keys (`lex`, Python's `(a, b) < (c, d)`); Python's `list < list` is any function with the equations `IsListLex`. -/
import PS.Proofs.Enum.HeapInv
namespace PS.Heapq
variable {α β γ : Type}

theorem WeakOrder.comap {lt : α → α → Bool} (w : WeakOrder lt) (f : γ → α) :
    WeakOrder (fun a b => lt (f a) (f b)) :=
  ⟨fun _ _ => w.asymm _ _, fun _ _ _ => w.ntrans _ _ _⟩

/-- a strict weak order whose incomparable elements are equal (`<` on numbers, on lists of numbers) -/
structure StrictTotal (lt : α → α → Bool) : Prop extends WeakOrder lt where
  eq_of_incomp : ∀ a b, lt a b = false → lt b a = false → a = b

/-- Python's tuple comparison `(k a, r a) < (k b, r b)` -/
theorem WeakOrder.lex [DecidableEq α] {lt1 : α → α → Bool} {lt2 : β → β → Bool} (w1 : StrictTotal lt1) (w2 : WeakOrder lt2)
    (k : γ → α) (r : γ → β) : WeakOrder (fun a b => if k a = k b then lt2 (r a) (r b) else lt1 (k a) (k b)) where
  asymm a b h := by
    by_cases hk : k a = k b
    · simp only [hk, if_true] at h ⊢; exact w2.asymm _ _ h
    · have hk' : ¬ k b = k a := fun e => hk e.symm
      simp only [hk, hk', if_false] at h ⊢; exact w1.asymm _ _ h
  ntrans a b c h1 h2 := by
    -- `h1 : ¬ b < a`, `h2 : ¬ c < b`; on the first components this is `k a ≤ k b ≤ k c`, and if `k c = k a` all three
    -- are equal (totality), so the second components decide
    by_cases hba : k b = k a
    · by_cases hcb : k c = k b
      · simp only [hba, hcb, if_true] at h1 h2 ⊢; exact w2.ntrans _ _ _ h1 h2
      · have hca : ¬ k c = k a := fun e => hcb (e.trans hba.symm)
        simp only [hcb, hca, if_false] at h2 ⊢; exact hba ▸ h2
    · simp only [hba, if_false] at h1
      by_cases hcb : k c = k b
      · have hca : ¬ k c = k a := fun e => hba (hcb.symm.trans e)
        simp only [hca, if_false]; exact hcb ▸ h1
      · simp only [hcb, if_false] at h2
        have h3 := w1.ntrans _ _ _ h1 h2
        by_cases hca : k c = k a
        · exact absurd (w1.eq_of_incomp _ _ (hca ▸ h2) h1).symm hba
        · simp only [hca, if_false]; exact h3

theorem lex_false_key [DecidableEq α] {lt1 : α → α → Bool} {lt2 : β → β → Bool} (w1 : WeakOrder lt1) {k : γ → α} {r : γ → β}
    {a b : γ} (h : (if k a = k b then lt2 (r a) (r b) else lt1 (k a) (k b)) = false) : lt1 (k a) (k b) = false := by
  by_cases hk : k a = k b
  · rw [hk]; exact w1.irrefl _
  · simpa only [hk, if_false] using h

theorem StrictTotal.lex [DecidableEq α] {lt1 : α → α → Bool} {lt2 : β → β → Bool} (w1 : StrictTotal lt1) (w2 : StrictTotal lt2) :
    StrictTotal (fun a b : α × β => if a.1 = b.1 then lt2 a.2 b.2 else lt1 a.1 b.1) where
  toWeakOrder := WeakOrder.lex w1 w2.toWeakOrder Prod.fst Prod.snd
  eq_of_incomp a b h1 h2 := by
    by_cases hk : a.1 = b.1
    · simp only [hk, if_true] at h1 h2; exact Prod.ext hk (w2.eq_of_incomp _ _ h1 h2)
    · have hk' : ¬ b.1 = a.1 := fun e => hk e.symm
      simp only [hk, hk', if_false] at h1 h2; exact absurd (w1.eq_of_incomp _ _ h1 h2) hk

theorem strictTotal_nat : StrictTotal (fun a b : Nat => decide (a < b)) where
  asymm a b h := by simp only [decide_eq_true_eq, decide_eq_false_iff_not] at h ⊢; omega
  ntrans a b c h1 h2 := by simp only [decide_eq_false_iff_not] at h1 h2 ⊢; omega
  eq_of_incomp a b h1 h2 := by simp only [decide_eq_false_iff_not] at h1 h2; omega

theorem strictTotal_int : StrictTotal (fun a b : Int => decide (a < b)) where
  asymm a b h := by simp only [decide_eq_true_eq, decide_eq_false_iff_not] at h ⊢; omega
  ntrans a b c h1 h2 := by simp only [decide_eq_false_iff_not] at h1 h2 ⊢; omega
  eq_of_incomp a b h1 h2 := by simp only [decide_eq_false_iff_not] at h1 h2; omega

theorem strictTotal_rat : StrictTotal (fun a b : Rat => decide (a < b)) where
  asymm a b h := by simp only [decide_eq_true_eq, decide_eq_false_iff_not] at h ⊢; exact Rat.not_lt.mpr (Rat.le_of_lt h)
  ntrans a b c h1 h2 := by
    simp only [decide_eq_false_iff_not, Rat.not_lt] at h1 h2 ⊢; exact Rat.le_trans h1 h2
  eq_of_incomp a b h1 h2 := by
    simp only [decide_eq_false_iff_not, Rat.not_lt] at h1 h2; exact Rat.le_antisymm h2 h1

/-- `f` is Python's `list < list` over the element order `lt`: the first differing position decides, a proper
    prefix is smaller.  The models of bee and beap search each have their own copy of this function. -/
structure IsListLex [DecidableEq α] (lt : α → α → Bool) (f : List α → List α → Bool) : Prop where
  nil_nil : f [] [] = false
  nil_cons : ∀ b bs, f [] (b :: bs) = true
  cons_nil : ∀ a as, f (a :: as) [] = false
  cons_cons : ∀ a as b bs, f (a :: as) (b :: bs) = if a = b then f as bs else lt a b

theorem IsListLex.strictTotal [DecidableEq α] {lt : α → α → Bool} {f : List α → List α → Bool} (hf : IsListLex lt f)
    (w : StrictTotal lt) : StrictTotal f where
  asymm := by
    intro a
    induction a with
    | nil => intro b h; cases b with
      | nil => exact hf.nil_nil
      | cons y ys => exact hf.cons_nil _ _
    | cons x xs ih => intro b h; cases b with
      | nil => rw [hf.cons_nil] at h; cases h
      | cons y ys =>
        rw [hf.cons_cons] at h ⊢
        by_cases hxy : x = y
        · simp only [hxy, if_true] at h ⊢; exact ih _ h
        · have hyx : ¬ y = x := fun e => hxy e.symm
          simp only [hxy, hyx, if_false] at h ⊢; exact w.asymm _ _ h
  ntrans := by
    intro a
    induction a with
    | nil => intro b c _ _; cases c with
      | nil => exact hf.nil_nil
      | cons z zs => exact hf.cons_nil _ _
    | cons x xs ih => intro b c h1 h2; cases b with
      | nil => rw [hf.nil_cons] at h1; cases h1
      | cons y ys => cases c with
        | nil => rw [hf.nil_cons] at h2; cases h2
        | cons z zs =>
          -- the head step is the tuple comparison of `(head, tail)`, with `ih` as the order on tails; `ih` has the one
          -- tail `xs` in first place, so it is no `WeakOrder` to hand to `WeakOrder.lex`, whose case tree stands here too
          rw [hf.cons_cons] at h1 h2 ⊢
          by_cases hyx : y = x
          · by_cases hzy : z = y
            · simp only [hyx, hzy, if_true] at h1 h2 ⊢; exact ih _ _ h1 h2
            · have hzx : ¬ z = x := fun e => hzy (e.trans hyx.symm)
              simp only [hzy, hzx, if_false] at h2 ⊢; exact hyx ▸ h2
          · simp only [hyx, if_false] at h1
            by_cases hzy : z = y
            · have hzx : ¬ z = x := fun e => hyx (hzy.symm.trans e)
              simp only [hzx, if_false]; exact hzy ▸ h1
            · simp only [hzy, if_false] at h2
              by_cases hzx : z = x
              · exact absurd (w.eq_of_incomp _ _ (hzx ▸ h2) h1).symm hyx
              · simp only [hzx, if_false]; exact w.ntrans _ _ _ h1 h2
  eq_of_incomp := by
    intro a
    induction a with
    | nil => intro b h1 _; cases b with
      | nil => rfl
      | cons y ys => rw [hf.nil_cons] at h1; cases h1
    | cons x xs ih => intro b h1 h2; cases b with
      | nil => rw [hf.nil_cons] at h2; cases h2
      | cons y ys =>
        rw [hf.cons_cons] at h1 h2
        by_cases hxy : x = y
        · simp only [hxy, if_true] at h1 h2; rw [hxy, ih _ h1 h2]
        · have hyx : ¬ y = x := fun e => hxy e.symm
          simp only [hxy, hyx, if_false] at h1 h2; exact absurd (w.eq_of_incomp _ _ h1 h2) hxy

theorem mem_left_of_sorted {f : α → Rat} {l1 l2 : List α} {q p : α}
    (hs : (l1 ++ q :: l2).Pairwise (fun a b => f b ≤ f a)) (hm : p ∈ l1 ++ q :: l2) (hlt : f q < f p) : p ∈ l1 := by
  rcases List.mem_append.mp hm with h1 | h2
  · exact h1
  · have hq := (List.pairwise_cons.mp (List.pairwise_append.mp hs).2.1).1
    rcases List.mem_cons.mp h2 with rfl | h3
    · exact absurd hlt Rat.lt_irrefl
    · exact absurd hlt (Rat.not_lt.mpr (hq p h3))

theorem WeakOrder.flip {lt : α → α → Bool} (w : WeakOrder lt) : WeakOrder (fun a b => lt b a) :=
  ⟨fun a b => w.asymm b a, fun a b c h1 h2 => w.ntrans c b a h2 h1⟩

end PS.Heapq

/-! ### a list that `r` relates pairwise, read at its indices and at its end (the cost lists of beap, bee and
    constant-delay search) -/
namespace PS

theorem pairwise_getElem? {α : Type} {r : α → α → Prop} {l : List α} (h : l.Pairwise r) {i j : Nat} {a b : α}
    (hi : l[i]? = some a) (hj : l[j]? = some b) (hij : i < j) : r a b := by
  obtain ⟨hi1, rfl⟩ := List.getElem?_eq_some_iff.mp hi
  obtain ⟨hj1, rfl⟩ := List.getElem?_eq_some_iff.mp hj
  exact List.pairwise_iff_getElem.mp h i j hi1 hj1 hij

theorem pairwise_getElem?_le {α : Type} {r : α → α → Prop} {l : List α} (h : l.Pairwise r) {i j : Nat} {a b : α}
    (hi : l[i]? = some a) (hj : l[j]? = some b) (hij : i ≤ j) : a = b ∨ r a b := by
  rcases Nat.eq_or_lt_of_le hij with rfl | hlt
  · rw [hi] at hj; exact Or.inl (Option.some.inj hj)
  · exact Or.inr (pairwise_getElem? h hi hj hlt)

theorem eq_or_rel_getLast {α : Type} {r : α → α → Prop} {l : List α} (h : l.Pairwise r) {last : α}
    (hl : l.getLast? = some last) {c : α} (hc : c ∈ l) : c = last ∨ r c last := by
  obtain ⟨ys, rfl⟩ := List.getLast?_eq_some_iff.mp hl
  rcases List.mem_append.mp hc with h' | h'
  · exact Or.inr ((List.pairwise_append.mp h).2.2 c h' last (List.mem_singleton_self _))
  · exact Or.inl (List.mem_singleton.mp h')

theorem pairwise_snoc {α : Type} {r : α → α → Prop} {l : List α} {x : α} (h : l.Pairwise r) (hx : ∀ y ∈ l, r y x) :
    (l ++ [x]).Pairwise r :=
  List.pairwise_append.mpr ⟨h, List.pairwise_singleton _ _, fun a ha b hb => List.mem_singleton.mp hb ▸ hx a ha⟩

end PS
