/- What `__init_heap__` writes when the max-priority tables are in sync: the heap and `hash_table_program` of every
   non-terminal with a row get the entries of its rules (the heap those that pass the threshold), in rule order;
   the successor tables, the max-priority tables and `deleted` are left alone and the memo table grows (`InitFrame`).
   The file begins with the fact that lets a threshold in: taking the first best commutes with dropping what fails
   the test, for a test that whatever is not worse than a passing element passes (`foldl_bestStep_filter`; with
   `pushOK` it makes the first pop of the heap built under a threshold the `max_priority[S]`, if that passes). -/
import PS.Proofs.Enum.GInit
import PS.Proofs.Enum.GCover
namespace PS.HG
open PS PS.G PS.HS
set_option linter.unusedSectionVars false
variable {S π : Type} [DecidableEq S]

theorem bestStep_filter_step {α : Type} {P : α → Prop} {lt : α → α → Bool} (w : Heapq.WeakOrderOn P lt)
    (ok : α → Bool) (hup : ∀ x y, P x → P y → ok x = true → lt x y = false → ok y = true)
    (acc : Option α) (x : α) (hx : P x) (ha : ∀ a, acc = some a → P a) :
    (if ok x = true then Heapq.bestStep lt (acc.filter ok) x else acc.filter ok) =
      (Heapq.bestStep lt acc x).filter ok := by
  cases acc with
  | none =>
    by_cases hox : ok x = true
    · simp [Option.filter, Heapq.bestStep, hox]
    · simp [Option.filter, Heapq.bestStep, hox]
  | some a =>
    have hPa := ha a rfl
    by_cases hlt : lt x a = true
    · by_cases hox : ok x = true
      · by_cases hoa : ok a = true
        · simp [Option.filter, Heapq.bestStep, hox, hoa, hlt]
        · simp [Option.filter, Heapq.bestStep, hox, hoa, hlt]
      · have hoa : ¬ ok a = true := fun hoa => hox (hup a x hPa hx hoa (w.asymm hx hPa hlt))
        simp [Option.filter, Heapq.bestStep, hox, hoa, hlt]
    · have hlt' : lt x a = false := by simpa using hlt
      by_cases hox : ok x = true
      · have hoa : ok a = true := hup x a hx hPa hox hlt'
        simp [Option.filter, Heapq.bestStep, hox, hoa, hlt']
      · by_cases hoa : ok a = true
        · simp [Option.filter, Heapq.bestStep, hox, hoa, hlt']
        · simp [Option.filter, Heapq.bestStep, hox, hoa, hlt']

theorem foldl_bestStep_filter {α : Type} {P : α → Prop} {lt : α → α → Bool} (w : Heapq.WeakOrderOn P lt)
    (ok : α → Bool) (hup : ∀ x y, P x → P y → ok x = true → lt x y = false → ok y = true) :
    ∀ (l : List α) (acc : Option α), (∀ x ∈ l, P x) → (∀ a, acc = some a → P a) →
      (l.filter ok).foldl (Heapq.bestStep lt) (acc.filter ok) = (l.foldl (Heapq.bestStep lt) acc).filter ok := by
  intro l
  induction l with
  | nil => intro acc _ _; rfl
  | cons x r ih =>
    intro acc hl ha
    have hx := hl x (List.mem_cons_self)
    have hr : ∀ y ∈ r, P y := fun y hy => hl y (List.mem_cons_of_mem _ hy)
    have hacc' : ∀ a, Heapq.bestStep lt acc x = some a → P a := by
      intro a h
      cases acc with
      | none => simp only [Heapq.bestStep, Option.some.injEq] at h; subst h; exact hx
      | some a0 =>
        simp only [Heapq.bestStep] at h
        split at h
        · simp only [Option.some.injEq] at h; subst h; exact hx
        · simp only [Option.some.injEq] at h; subst h; exact ha a0 rfl
    simp only [List.foldl_cons]
    rw [← ih (Heapq.bestStep lt acc x) hr hacc', ← bestStep_filter_step w ok hup acc x hx ha]
    by_cases hox : ok x = true
    · simp [List.filter_cons, hox]
    · simp [List.filter_cons, hox]

/-- the elements `__init_heap__` actually pushes -/
def pushed (E : Env S Unit π) (s : St S Unit π) (nt : NT S Unit) (Ps : List Sym) : List (π × Prog) :=
  (entries E s nt Ps).filter (fun e => pushOK E.ops e.1)

/-- the memo table only grows -/
def CMono (s s' : St S Unit π) : Prop :=
  ∀ key, (AList.lookup key s.cache).isSome = true → (AList.lookup key s'.cache).isSome = true

theorem CMono.refl (s : St S Unit π) : CMono s s := fun _ h => h
theorem CMono.trans {s s1 s2 : St S Unit π} (h1 : CMono s s1) (h2 : CMono s1 s2) : CMono s s2 :=
  fun k h => h2 k (h1 k h)

/-- what `__init_heap__` leaves alone; the memo table grows -/
structure InitFrame (s s' : St S Unit π) : Prop where
  succ : ∀ nt, s'.succOf nt = s.succOf nt
  maxRule : s'.maxRule = s.maxRule
  maxNT : s'.maxNT = s.maxNT
  deleted : s'.deleted = s.deleted
  cache : CMono s s'

theorem InitFrame.refl (s : St S Unit π) : InitFrame s s := ⟨fun _ => rfl, rfl, rfl, rfl, .refl s⟩
theorem InitFrame.trans {a b c : St S Unit π} (f : InitFrame a b) (g : InitFrame b c) : InitFrame a c :=
  ⟨fun nt => (g.succ nt).trans (f.succ nt), g.maxRule.trans f.maxRule, g.maxNT.trans f.maxNT,
    g.deleted.trans f.deleted, f.cache.trans g.cache⟩

theorem pushNew_frame (E : Env S Unit π) (s : St S Unit π) (nt : NT S Unit) (np : Prog) :
    InitFrame s (pushNew E s nt np) := by
  refine ⟨fun nt' => succOf_pushNew E s nt nt' np, (pushNew_maxRule E s nt np).1, (pushNew_maxRule E s nt np).2,
    deleted_pushNew E s nt np, fun key hk => ?_⟩
  rcases cache_pushNew E s nt np with ⟨_, e⟩ | ⟨v, hcp⟩
  · rw [e]; exact hk
  · exact (computePrio_cache E s.cache nt np _ v hcp).1 key hk

theorem initHeapLoop_frame (E : Env S Unit π) (nt : NT S Unit) (Ps : List Sym) (s s' : St S Unit π)
    (h : initHeapLoop E nt Ps s = some s') :
    InitFrame s s' ∧ ∀ nt', nt' ≠ nt → s'.heapOf nt' = s.heapOf nt' ∧ s'.seenOf nt' = s.seenOf nt' :=
  initHeapLoop_rel (R := fun s s' => InitFrame s s' ∧ ∀ nt', nt' ≠ nt → s'.heapOf nt' = s.heapOf nt' ∧ s'.seenOf nt' = s.seenOf nt')
    (fun s => ⟨.refl s, fun _ _ => ⟨rfl, rfl⟩⟩)
    (fun f g => ⟨f.1.trans g.1, fun nt' hne => ⟨((g.2 nt' hne).1).trans (f.2 nt' hne).1, ((g.2 nt' hne).2).trans (f.2 nt' hne).2⟩⟩)
    (fun s _ prog _ _ => ⟨pushNew_frame E s nt prog, fun nt' hne =>
      ⟨heapOf_pushNew_ne E s prog hne, by rw [seenOf_pushNew, if_neg hne]⟩⟩) Ps s s' h

theorem initHeaps_frame (E : Env S Unit π) (rows : List (NT S Unit × AList Sym (List (Ty × S) × Unit)))
    (s s' : St S Unit π) (h : initHeaps E rows s = some s') : InitFrame s s' :=
  initHeaps_rel InitFrame.refl InitFrame.trans (fun nt Ps s s' h => (initHeapLoop_frame E nt Ps s s' h).1) rows s s' h

/-- the priorities of the arguments of every recorded `max_priority[(S, P)]` are in the memo table, where
    `compute_priority` of `__init_heap__` reads them (`self.probabilities[arg][S2]`, heap_search.py:311: KeyError if
    missing, which `__init_heap__` does not catch) -/
def ArgsCached (E : Env S Unit π) (s : St S Unit π) : Prop :=
  ∀ nt P prog, MR s nt P = some prog → ∀ F args ra, prog = .node F args → E.G.rule? nt F = some (ra, ()) →
    ∀ (i : Nat) ai a, args[i]? = some ai → ra[i]? = some a → (AList.lookup (ai, argNT a) s.cache).isSome = true

theorem ArgsCached.frame {E : Env S Unit π} {s s' : St S Unit π} (h : ArgsCached E s) (f : InitFrame s s') :
    ArgsCached E s' := fun nt P prog hmr F args ra hp hr i ai a hai ha =>
  f.cache _ (h nt P prog (by unfold MR at hmr ⊢; rw [← f.maxRule]; exact hmr) F args ra hp hr i ai a hai ha)

theorem initHeapLoop_spec (E : Env S Unit π) (nt : NT S Unit) :
    ∀ (Ps : List Sym) (s s' : St S Unit π), SInv E s → MInv E s → CInv E s → ArgsCached E s →
      initHeapLoop E nt Ps s = some s' →
      s'.heapOf nt = (pushed E s nt Ps).foldl (Heapq.push (ltE E.ops)) (s.heapOf nt) ∧
      s'.seenOf nt = s.seenOf nt ++ (entries E s nt Ps).map (·.2) ∧
      (entries E s nt Ps).length = Ps.length ∧ CInv E s' := by
  intro Ps
  induction Ps with
  | nil =>
    intro s s' _ _ hc _ h
    simp only [initHeapLoop, Option.some.injEq] at h
    subst h
    exact ⟨rfl, by simp [entries], rfl, hc⟩
  | cons P rest ih =>
    intro s s' hs hm hc hargs h
    obtain ⟨prog, hl, hnew, hcps, h⟩ := initHeapLoop_cons.mp h
    obtain ⟨r, hcp'⟩ := Option.isSome_iff_exists.mp hcps
    have hg := hm.rule_gen nt P prog hl
    obtain ⟨hv, _⟩ := computePrio_spec E _ hs.cache_ok nt prog hg r.1 r.2 hcp'
    have hs1 := hs.pushNew nt prog hg
    have f1 := pushNew_frame E s nt prog
    obtain ⟨F, args⟩ := prog
    obtain ⟨ra, hr, hg'⟩ : ∃ ra, E.G.rule? nt F = some (ra, ()) ∧ genList E.G args ra = true := by
      rw [gen] at hg
      cases hr : E.G.rule? nt F with
      | none => simp [hr] at hg
      | some rl => obtain ⟨ra, ⟨⟩⟩ := rl; exact ⟨ra, rfl, by simpa [hr] using hg⟩
    have hc1 : CInv E (pushNew E s nt (.node F args)) :=
      hc.pushNew_of_some hs nt F args ra hr hg' hnew (hargs nt P _ hl F args ra rfl hr) r.1 r.2 hcp'
    obtain ⟨a1, a2, a2', a9⟩ := ih _ _ hs1 (hm.pushNew nt _ hs1.cache_ok) hc1 (hargs.frame f1) h
    have hcons : entries E s nt (P :: rest) = (r.2, .node F args) :: entries E s nt rest :=
      entries_cons_of_some (entry_eq_some.mpr ⟨hl, hv⟩) rest
    have hcg := entries_congr E f1.maxRule nt rest
    have hheap1 : (pushNew E s nt (.node F args)).heapOf nt =
        if pushOK E.ops r.2 = true then Heapq.push (ltE E.ops) (s.heapOf nt) (r.2, .node F args) else s.heapOf nt := by
      rw [pushNew_eq E s nt (.node F args) r.1 r.2 hcp']
      split
      · rw [St.heapOf_setHeap]; simp only [if_true]
      · rfl
    refine ⟨?_, ?_, ?_, a9⟩
    · rw [a1]
      unfold pushed
      rw [hcons, hcg, hheap1]
      by_cases hok : pushOK E.ops r.2 = true
      · simp [hok]
      · simp [hok]
    · rw [a2, hcons, seenOf_pushNew, hcg]; simp
    · rw [hcons, List.length_cons, ← hcg, a2', List.length_cons]

theorem initHeaps_spec (E : Env S Unit π) :
    ∀ (rows : List (NT S Unit × AList Sym (List (Ty × S) × Unit))) (s s' : St S Unit π),
      (AList.keys rows).Nodup → SInv E s → MInv E s → CInv E s → ArgsCached E s → initHeaps E rows s = some s' →
      (∀ nt rs, (nt, rs) ∈ rows →
        s'.heapOf nt = (pushed E s nt (AList.keys rs)).foldl (Heapq.push (ltE E.ops)) (s.heapOf nt) ∧
        s'.seenOf nt = s.seenOf nt ++ (entries E s nt (AList.keys rs)).map (·.2) ∧
        (entries E s nt (AList.keys rs)).length = (AList.keys rs).length) ∧
      (∀ nt, nt ∉ AList.keys rows → s'.heapOf nt = s.heapOf nt ∧ s'.seenOf nt = s.seenOf nt) ∧ CInv E s' := by
  intro rows s s' hnd hs hm hc hac h
  fun_induction initHeaps E rows s with
  | case1 => cases h; exact ⟨(fun _ _ hm => by cases hm), fun _ _ => ⟨rfl, rfl⟩, hc⟩
  | case2 => cases h
  | case3 nt0 rs0 rest s s1 hl ih =>
    simp only [AList.keys, List.map_cons, List.nodup_cons] at hnd
    obtain ⟨a1, a2, a2', a9⟩ := initHeapLoop_spec E nt0 _ _ _ hs hm hc hac hl
    obtain ⟨f1, a3⟩ := initHeapLoop_frame E nt0 _ _ _ hl
    obtain ⟨a7, a8⟩ := initHeapLoop_sound E nt0 _ _ _ hs hm hl
    obtain ⟨b1, b2, b8⟩ := ih hnd.2 a7 a8 a9 (hac.frame f1) h
    refine ⟨?_, ?_, b8⟩
    · intro nt rs hmem
      rcases List.mem_cons.mp hmem with heq | hmem'
      · cases heq
        obtain ⟨c1, c2⟩ := b2 nt0 hnd.1
        exact ⟨c1.trans a1, c2.trans a2, a2'⟩
      · have hne : nt ≠ nt0 := by
          intro heq; subst heq
          exact hnd.1 (List.mem_map.mpr ⟨(nt, rs), hmem', rfl⟩)
        obtain ⟨c1, c2, c3⟩ := b1 nt rs hmem'
        obtain ⟨d1, d2⟩ := a3 nt hne
        have he : entries E s1 nt (AList.keys rs) = entries E s nt (AList.keys rs) := entries_congr E f1.maxRule nt _
        unfold pushed at c1 ⊢
        rw [c1, c2, he, d1, d2]
        exact ⟨rfl, rfl, by rw [← he]; exact c3⟩
    · intro nt hnot
      simp only [AList.keys, List.map_cons, List.mem_cons, not_or] at hnot
      obtain ⟨c1, c2⟩ := b2 nt hnot.2
      obtain ⟨d1, d2⟩ := a3 nt hnot.1
      exact ⟨c1.trans d1, c2.trans d2⟩

end PS.HG
