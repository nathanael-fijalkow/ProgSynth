/- What the fuel bounds read off a grammar: the language of an acyclic grammar is finite (`members`), bounds on the
   arity of the rules, the length of the rows and the rank (`maxArity`, `maxRow`, `maxRank`, `enoughFuel`). -/
import PS.Proofs.Enum.HSSoundInit
import PS.Proofs.ListSum
namespace PS.HS
open PS PS.G
set_option linter.unusedSectionVars false
variable {S : Type} [DecidableEq S]

/-! ### the language of an acyclic grammar is finite -/
mutual
  theorem depth_le_rank (G : TT S Unit) (rank : NT S Unit → Nat)
      (hac : ∀ nt F ra, G.rule? nt F = some (ra, ()) → ∀ a ∈ ra, rank (argNT a) < rank nt) :
      ∀ (t : Prog) (nt : NT S Unit), gen G t nt = true → Tree.depth t ≤ rank nt + 1
    | .node f kids, nt, hg => by
      rw [gen] at hg
      cases hr : G.rule? nt f with
      | none => simp [hr] at hg
      | some rl =>
        obtain ⟨ra, u⟩ := rl
        cases u
        simp only [hr] at hg
        have := depthList_le_rank G rank hac kids ra (rank nt) (fun a ha => hac nt f ra hr a ha) hg
        simp only [Tree.depth]
        omega
  theorem depthList_le_rank (G : TT S Unit) (rank : NT S Unit → Nat)
      (hac : ∀ nt F ra, G.rule? nt F = some (ra, ()) → ∀ a ∈ ra, rank (argNT a) < rank nt) :
      ∀ (ks : List Prog) (ra : List (Ty × S)) (b : Nat), (∀ a ∈ ra, rank (argNT a) < b) →
        genList G ks ra = true → Tree.depthList ks ≤ b
    | [], _, _, _, _ => by simp [Tree.depthList]
    | _ :: _, [], _, _, hg => by simp [genList] at hg
    | k :: ks, (t, s) :: as, b, hb, hg => by
      simp only [genList, Bool.and_eq_true] at hg
      have h1 := depth_le_rank G rank hac k (t, (s, ())) hg.1
      have h2 := depthList_le_rank G rank hac ks as b (fun a ha => hb a (List.mem_cons_of_mem _ ha)) hg.2
      have h3 := hb (t, s) (List.mem_cons_self)
      simp only [Tree.depthList]
      have : rank (argNT (t, s)) = rank ((t, (s, ())) : NT S Unit) := rfl
      omega
end

/-- the members of the grammar, as a finite list -/
def members (G : TT S Unit) (rank : NT S Unit → Nat) : List Prog := lang G (rank G.start + 1) G.start

/-! ### bounds on arity, row length and rank -/

def maxArity (G : TT S Unit) : Nat :=
  (G.rules.flatMap (fun e => e.2.map (fun r => r.2.1.length))).foldl max 0

def ArityLe (G : TT S Unit) (A : Nat) : Prop := ∀ nt F ra, G.rule? nt F = some (ra, ()) → ra.length ≤ A

theorem arityLe_maxArity (G : TT S Unit) : ArityLe G (maxArity G) := by
  intro nt F ra hr
  obtain ⟨rs, h1, h2⟩ := TT.rule?_mem hr
  apply le_foldl_max
  left
  exact List.mem_flatMap.mpr ⟨(nt, rs), h1, List.mem_map.mpr ⟨(F, (ra, ())), h2, rfl⟩⟩

def maxRow (G : TT S Unit) : Nat := (G.rules.map (fun e => e.2.length)).foldl max 0
def maxRank (G : TT S Unit) (rank : NT S Unit → Nat) : Nat := ((AList.keys G.rules).map rank).foldl max 0 + 1

theorem rowLe_maxRow (G : TT S Unit) : ∀ nt rs, AList.lookup nt G.rules = some rs → rs.length ≤ maxRow G := by
  intro nt rs hl
  apply le_foldl_max
  left
  exact List.mem_map.mpr ⟨(nt, rs), AList.lookup_some_mem hl, rfl⟩

/-- The fuel of `prologue_total` and `take_total`. It dominates the bounds that meet there:
    `maxRank · (maxArity + maxRow + 4)` for the max-priority phase and 2 for the passes of `_reevaluate_`
    (`HG.preHeaps_total`; `1 ≤ maxRank` gives the 2),
    `maxRank · (maxArity + 5)` for a first `query` (`HG.query_total` with nothing rejected, `Dm := 0`) and
    `(rank start + 1) · (maxArity + 5)` for the `next` of the generator loop (`take_stops`). -/
def enoughFuel (G : TT S Unit) (rank : NT S Unit → Nat) : Nat :=
  maxRank G rank * (maxArity G + maxRow G + 5)

end PS.HS
