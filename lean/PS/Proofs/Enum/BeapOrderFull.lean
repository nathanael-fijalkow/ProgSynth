/- The order invariants of the query phase of beap search under POSITIVE rule costs (`OI`): every cost list is
   strictly increasing, every queue element is at least as expensive as every entry of the cost list
   of its non-terminal, every queue is a heap.  The delicate point is re-entrance on recursive
   grammars: a `query` running for non-terminal S at cost x only asks for cost indices of cost < x
   (every rule cost is > 0), and such nested queries never touch a non-terminal whose last cost is ≥ x
   (`Prot`): so the tables of S are unchanged while its own `query` is suspended in the argument loop.
   `order_runs` is the induction the other files call; `order_all` states the same with the hypotheses before the
   run equation. -/
import PS.Proofs.Enum.BeapCost
namespace PS.Beap
open PS PS.G PS.Heapq
set_option linter.unusedSectionVars false
variable {S : Type} [DecidableEq S]

namespace Cost
theorem lt_false_iff (a b : Cost) (ha : a.inf = 0) (hb : b.inf = 0) : lt a b = false ↔ b.fin ≤ a.fin := by
  unfold lt
  simp only [ha, hb, Bool.or_eq_false_iff, Bool.and_eq_false_iff, decide_eq_false_iff_not]
  constructor
  · rintro ⟨_, h | h⟩
    · exact absurd trivial h
    · grind
  · intro h; exact ⟨by omega, Or.inr (by grind)⟩

theorem eq_of_fin (a b : Cost) (ha : a.inf = 0) (hb : b.inf = 0) (h : a.fin = b.fin) : a = b := by
  cases a; cases b; simp_all
end Cost

theorem rat_lt_add_of_pos_of_le {w e k : Rat} (hw : 0 < w) (h : e ≤ k) : e < w + k := by grind
theorem rat_lt_succ (a : Rat) : a < a + 1 := by grind
theorem rat_le_sub_add {c a x y : Rat} (h : c ≤ a) (hxy : x < y) : c ≤ a - x + y := by grind
theorem rat_le_add_right {a b : Rat} (h : 0 ≤ b) : a ≤ a + b := by grind
theorem rat_le_add_left {a b c : Rat} (ha : 0 ≤ a) (h : c ≤ b) : c ≤ a + b := by grind

def PosW (E : Env S) : Prop := ∀ nt P w, ruleW E nt P = some w → 0 < w

/-- `pos` is what bounds each summand of `combCost` by the sum (`combCost_entry_le`), hence every argument of a popped
    element by the cost of the query (`pop_below`) -/
structure OI (s : St S) : Prop where
  fin : ∀ nt c, c ∈ s.clOf nt → c.inf = 0
  finQ : ∀ nt el, el ∈ s.queueOf nt → el.cost.inf = 0
  pos : ∀ nt c, c ∈ s.clOf nt → 0 < c.fin
  mono : ∀ nt, (s.clOf nt).Pairwise (fun a b => a.fin < b.fin)
  low : ∀ nt el c, el ∈ s.queueOf nt → c ∈ s.clOf nt → c.fin ≤ el.cost.fin
  heap : ∀ nt, IsHeap ltE (s.queueOf nt)

theorem OI.of_eq {s s' : St S} (hc : ∀ nt, s'.clOf nt = s.clOf nt) (hq : ∀ nt, s'.queueOf nt = s.queueOf nt)
    (h : OI s) : OI s' :=
  { fin := fun nt c hm => h.fin nt c (hc nt ▸ hm), finQ := fun nt el hm => h.finQ nt el (hq nt ▸ hm),
    pos := fun nt c hm => h.pos nt c (hc nt ▸ hm), mono := fun nt => (hc nt) ▸ h.mono nt,
    low := fun nt el c h1 h2 => h.low nt el c (hq nt ▸ h1) (hc nt ▸ h2), heap := fun nt => (hq nt) ▸ h.heap nt }

def lastGe (s : St S) (nt : NT S Unit) (x : Rat) : Prop := ∃ c, (s.clOf nt).getLast? = some c ∧ x ≤ c.fin

/-- What a call asked below `x` leaves alone.  A `query` on the last index of `nt` writes the queue of `nt` and
    appends to its cost list, and `nt` has last cost < `x`; the arguments it asks are below its own cost again.  (A
    `_query_list_` that starts a `query` on an earlier index does not return: the entry it reads afterwards was not
    written, cases `ql_run_empty`, `ql_run_bank` of `order_runs`.)  The same statement for the ghost entry and the
    banks is `ProtG` (BeapNodup.lean), for all four tables `Keep4` (BeapCompl.lean). -/
def Prot (x : Rat) (s s' : St S) : Prop := ∀ nt, lastGe s nt x → s'.clOf nt = s.clOf nt ∧ s'.queueOf nt = s.queueOf nt

theorem lastGe_of_same {s s' : St S} {nt : NT S Unit} {x : Rat} (h : lastGe s nt x) (hc : s'.clOf nt = s.clOf nt) : lastGe s' nt x := by
  obtain ⟨c0, g1, g2⟩ := h; exact ⟨c0, by rw [hc]; exact g1, g2⟩

theorem lastGe.mono {s : St S} {nt : NT S Unit} {x y : Rat} (h : lastGe s nt x) (hxy : y ≤ x) : lastGe s nt y :=
  let ⟨c0, g1, g2⟩ := h; ⟨c0, g1, Rat.le_trans hxy g2⟩

theorem Prot.refl (x : Rat) (s : St S) : Prot x s s := fun _ _ => ⟨rfl, rfl⟩
theorem Prot.trans {x : Rat} {a b c : St S} (h1 : Prot x a b) (h2 : Prot x b c) : Prot x a c := fun nt hl =>
  let ⟨e1, e2⟩ := h1 nt hl; let ⟨f1, f2⟩ := h2 nt (lastGe_of_same hl e1); ⟨f1.trans e1, f2.trans e2⟩

theorem Prot.mono {x y : Rat} {s s' : St S} (hxy : y ≤ x) (h : Prot y s s') : Prot x s s' := fun nt hl => h nt (hl.mono hxy)

theorem Prot.of_eq {x : Rat} {s s' : St S} (hc : ∀ nt, s'.clOf nt = s.clOf nt) (hq : ∀ nt, s'.queueOf nt = s.queueOf nt) :
    Prot x s s' := fun nt _ => ⟨hc nt, hq nt⟩

/-- the suspended `query(nt, fr.ci)` works on the last entry of the cost list of `nt` -/
def FrO (s : St S) (nt : NT S Unit) (fr : Frame) : Prop :=
  fr.ci + 1 = (s.clOf nt).length ∧ (s.clOf nt)[fr.ci]? = some fr.cost

theorem FrO.last {s : St S} {nt : NT S Unit} {fr : Frame} (h : FrO s nt fr) : (s.clOf nt).getLast? = some fr.cost := by
  rw [List.getLast?_eq_getElem?]
  have : (s.clOf nt).length - 1 = fr.ci := by have := h.1; omega
  rw [this]; exact h.2

theorem prot_setQueue (x : Rat) (s : St S) (nt : NT S Unit) (q : List HeapEl) (c : Cost)
    (hl : (s.clOf nt).getLast? = some c) (hc : c.fin < x) : Prot x s (s.setQueue nt q) := by
  intro nt' hl'
  refine ⟨rfl, ?_⟩
  rw [St.queueOf_setQueue]
  split
  · next heq =>
    subst heq
    obtain ⟨c0, g1, g2⟩ := hl'
    rw [hl] at g1; cases g1
    exact absurd g2 (Rat.not_le.mpr hc)
  · rfl

theorem getD_mem' {α : Type} (l : List α) (i : Nat) (d : α) (h : i < l.length) : l.getD i d ∈ l :=
  List.mem_of_getElem? (getElem?_getD' l i d h)

theorem OI.setQueue {s : St S} (h : OI s) (nt : NT S Unit) (q : List HeapEl)
    (hq : ∀ x ∈ q, x.cost.inf = 0 ∧ ∀ c ∈ s.clOf nt, c.fin ≤ x.cost.fin) (hh : IsHeap ltE q) : OI (s.setQueue nt q) := by
  refine { h with finQ := fun nt' el hm => ?_, low := fun nt' el c h1 h2 => ?_, heap := fun nt' => ?_ }
  · rw [St.queueOf_setQueue] at hm
    split at hm
    · next heq => subst heq; exact (hq el hm).1
    · exact h.finQ nt' el hm
  · rw [St.queueOf_setQueue] at h1
    split at h1
    · next heq => subst heq; exact (hq el h1).2 c h2
    · exact h.low nt' el c h1 h2
  · rw [St.queueOf_setQueue]
    split
    · exact hh
    · exact h.heap nt'

theorem OI.push {s : St S} (h : OI s) (nt : NT S Unit) (x : HeapEl) (hfin : x.cost.inf = 0)
    (hlow : ∀ c ∈ s.clOf nt, c.fin ≤ x.cost.fin) : OI (s.setQueue nt (Heapq.push ltE (s.queueOf nt) x)) :=
  h.setQueue nt _ (fun y hy => by
    rcases (mem_push _ _ _ _).mp hy with rfl | h'
    · exact ⟨hfin, hlow⟩
    · exact ⟨h.finQ nt y h', fun c hc => h.low nt y c h' hc⟩) (push_isHeap ltE_weak _ _ (h.heap nt))

theorem succLoop_oi (nt : NT S Unit) (cost : Cost) (P : Sym) (comb : List Nat) (hfin : cost.inf = 0) :
    ∀ (as : List (NT S Unit)) (s : St S) (i : Nat), OI s → (∀ c ∈ s.clOf nt, c.fin ≤ cost.fin) →
      OI (succLoop nt cost P comb s i as) ∧ (∀ nt', (succLoop nt cost P comb s i as).clOf nt' = s.clOf nt') ∧
      (∀ nt', nt' ≠ nt → (succLoop nt cost P comb s i as).queueOf nt' = s.queueOf nt') := by
  intro as s i hs hlow
  rw [succLoop_eq]
  refine ⟨(pushAll_induct (I := fun s' => OI s' ∧ ∀ nt', s'.clOf nt' = s.clOf nt') nt
    (fun s' x hx ⟨hs', hcl⟩ => ⟨?_, hcl⟩) s ⟨hs, fun _ => rfl⟩).1, clOf_pushAll nt s _, fun nt' hne => queueOf_pushAll_ne nt s _ hne⟩
  obtain ⟨j, a, _, hlen, rfl⟩ := mem_succEls hx
  have hx := getD_mem' (s.clOf a) (comb.getD (i + j) 0) (Cost.ofRat 0) (Nat.lt_of_succ_lt hlen)
  have hy := getD_mem' (s.clOf a) (comb.getD (i + j) 0 + 1) (Cost.ofRat 0) hlen
  -- the cost list of `a` is strictly increasing
  have hxy : ((s.clOf a).getD (comb.getD (i + j) 0) (Cost.ofRat 0)).fin < ((s.clOf a).getD (comb.getD (i + j) 0 + 1) (Cost.ofRat 0)).fin := by
    have hp := List.pairwise_iff_getElem.mp (hs.mono a) (comb.getD (i + j) 0) (comb.getD (i + j) 0 + 1) (Nat.lt_of_succ_lt hlen) hlen
      (Nat.lt_succ_self _)
    have e1 := getElem?_getD' (s.clOf a) (comb.getD (i + j) 0) (Cost.ofRat 0) (Nat.lt_of_succ_lt hlen)
    have e2 := getElem?_getD' (s.clOf a) (comb.getD (i + j) 0 + 1) (Cost.ofRat 0) hlen
    rw [List.getElem?_eq_getElem (Nat.lt_of_succ_lt hlen)] at e1
    rw [List.getElem?_eq_getElem hlen] at e2
    rw [← Option.some.inj e1, ← Option.some.inj e2]; exact hp
  obtain ⟨nf, nfin⟩ := Cost.sub_add_fin' cost _ _ hfin (hs.fin a _ hx) (hs.fin a _ hy)
  refine hs'.push nt _ nf (fun c hc => ?_)
  show c.fin ≤ (cost - _ + _).fin
  rw [nfin]; exact rat_le_sub_add (hlow c (hcl nt ▸ hc)) hxy
where
  Cost.sub_add_fin' (a b c : Cost) (ha : a.inf = 0) (hb : b.inf = 0) (hc : c.inf = 0) :
      (a - b + c).inf = 0 ∧ (a - b + c).fin = a.fin - b.fin + c.fin := by
    have h1 : (a - b).inf = 0 := by show a.inf - b.inf = 0; omega
    have h2 : (a - b).fin = a.fin - b.fin := by
      show (if a.inf - b.inf = 0 then a.fin - b.fin else 0) = _
      simp [ha, hb]
    refine ⟨by simp [h1, hc], ?_⟩
    rw [Cost.add_fin _ _ (by simp [h1, hc]), h2]

theorem emit_tables (E : Env S) (nt : NT S Unit) (ci : Nat) (P : Sym) (isFun : Bool) (pend : List (List Prog)) (s : St S)
    (r : St S × Option (Prog × List (List Prog))) (h : emit E nt ci P isFun s pend = r) :
    (∀ nt', r.1.clOf nt' = s.clOf nt') ∧ (∀ nt', r.1.queueOf nt' = s.queueOf nt') :=
  emit_induct E nt ci P isFun
    (M := fun s _ r => (∀ nt', r.1.clOf nt' = s.clOf nt') ∧ ∀ nt', r.1.queueOf nt' = s.queueOf nt')
    (fun _ => ⟨fun _ => rfl, fun _ => rfl⟩) (fun _ _ _ _ _ ih => ih)
    (fun s a _ _ _ ⟨h1, h2⟩ => ⟨fun nt' => by rw [h1, St.addDeleted_clOf], fun nt' => by rw [h2, St.addDeleted_queueOf]⟩)
    (fun _ _ _ _ _ => ⟨fun _ => rfl, fun _ => rfl⟩) pend s r h

theorem le_last_of_pairwise (l : List Cost) (h : l.Pairwise (fun a b => a.fin < b.fin)) (last : Cost)
    (hl : l.getLast? = some last) (c : Cost) (hc : c ∈ l) : c.fin ≤ last.fin :=
  (eq_or_rel_getLast h hl hc).elim (fun e => e ▸ Rat.le_refl) Rat.le_of_lt

theorem fin_lt_of_lt {l : List Cost} (h : l.Pairwise (fun a b => a.fin < b.fin)) {i j : Nat} {a b : Cost} (hi : l[i]? = some a)
    (hj : l[j]? = some b) (hij : i < j) : a.fin < b.fin := pairwise_getElem? h hi hj hij

theorem mono_le (l : List Cost) (h : l.Pairwise (fun a b => a.fin < b.fin)) (i j : Nat) (a b : Cost) (hi : l[i]? = some a)
    (hj : l[j]? = some b) (hij : i ≤ j) : a.fin ≤ b.fin :=
  (pairwise_getElem?_le h hi hj hij).elim (fun e => e ▸ Rat.le_refl) Rat.le_of_lt

theorem idx_of_fin (s : St S) (ho : OI s) (nt : NT S Unit) (i j : Nat) (e e' : Cost) (hi : (s.clOf nt)[i]? = some e)
    (hj : (s.clOf nt)[j]? = some e') (h : e.fin = e'.fin) : i = j := by
  rcases Nat.lt_trichotomy i j with hlt | heq | hgt
  · have := fin_lt_of_lt (ho.mono nt) hi hj hlt; rw [h] at this; exact absurd this Rat.lt_irrefl
  · exact heq
  · have := fin_lt_of_lt (ho.mono nt) hj hi hgt; rw [h] at this; exact absurd this Rat.lt_irrefl

theorem epilogue_oi (s : St S) (nt : NT S Unit) (fr : Frame) (x : Rat) (hs : OI s) (hf : FrO s nt fr) (hx : fr.cost.fin < x)
    (hne : ∀ e q, s.queueOf nt = e :: q → e.cost ≠ fr.cost) :
    OI (epilogue s nt fr) ∧ Prot x s (epilogue s nt fr) := by
  have m1 := fun nt' => markEmpty_clOf s nt nt' fr
  have m2 := fun nt' => markEmpty_queueOf s nt nt' fr
  have h1 : OI (markEmpty s nt fr) := hs.of_eq m1 m2
  have hlast := hf.last
  fun_cases epilogue s nt fr with
  | case1 => exact ⟨h1, Prot.of_eq m1 m2⟩
  | case2 _ e q hq =>
    have hq' : s.queueOf nt = e :: q := by rw [← m2]; exact hq
    have hemem : e ∈ s.queueOf nt := by rw [hq']; exact List.mem_cons_self ..
    have hef : e.cost.inf = 0 := hs.finQ nt e hemem
    have hfrmem : fr.cost ∈ s.clOf nt := List.mem_of_getElem? hf.2
    have hfrf : fr.cost.inf = 0 := hs.fin nt _ hfrmem
    have hge : fr.cost.fin ≤ e.cost.fin := hs.low nt e _ hemem hfrmem
    have hgt : fr.cost.fin < e.cost.fin := by
      have hne' := hne e q hq'
      exact Rat.not_le.mp fun h => hne' (Cost.eq_of_fin _ _ hef hfrf (Rat.le_antisymm h hge))
    have hmin : ∀ el ∈ s.queueOf nt, e.cost.fin ≤ el.cost.fin := by
      intro el hel
      have := head_min_of_heap _ e q hq' (hs.heap nt) el hel
      exact (Cost.lt_false_iff _ _ (hs.finQ nt el hel) hef).mp this
    refine ⟨
      { fin := fun nt' c hm => ?_, finQ := fun nt' el hm => hs.finQ nt' el (m2 nt' ▸ hm), pos := fun nt' c hm => ?_, mono := fun nt' => ?_,
        low := fun nt' el c hm1 hm2 => ?_, heap := fun nt' => (m2 nt') ▸ hs.heap nt' }, ?_⟩
    · rcases St.mem_clOf_snoc hm with h' | ⟨_, rfl⟩
      · exact h1.fin nt' c h'
      · exact hef
    · rcases St.mem_clOf_snoc hm with h' | ⟨_, rfl⟩
      · exact h1.pos nt' c h'
      · exact Std.lt_of_lt_of_le (hs.pos nt _ hfrmem) hge
    · rw [St.clOf_setCL]
      split
      · next heq =>
        subst heq
        exact pairwise_snoc (h1.mono _) fun a ha =>
          Std.lt_of_le_of_lt (le_last_of_pairwise _ (hs.mono nt') fr.cost hlast a (m1 nt' ▸ ha)) hgt
      · exact h1.mono nt'
    · have hm1' : el ∈ s.queueOf nt' := m2 nt' ▸ hm1
      rcases St.mem_clOf_snoc hm2 with h' | ⟨rfl, rfl⟩
      · exact hs.low nt' el c hm1' (m1 nt' ▸ h')
      · exact hmin el hm1'
    · intro nt' hl'
      have hne' : nt' ≠ nt := by
        intro heq; subst heq
        obtain ⟨c0, g1, g2⟩ := hl'
        rw [hlast] at g1; cases g1
        exact Rat.not_le.mpr hx g2
      refine ⟨?_, m2 nt'⟩
      rw [St.clOf_setCL]; simp only [hne', if_false]; exact m1 nt'

theorem combCost_entry_le (s : St S) (hpos : ∀ nt c, c ∈ s.clOf nt → 0 < c.fin)
    (args : List (Ty × S)) (comb : List Nat) (k : Rat) (hk : combCost s args comb = some k) :
    0 ≤ k ∧ ∀ a c, (a, c) ∈ (args.map ntOf).zip comb → ∃ e, (s.clOf a)[c]? = some e ∧ e.fin ≤ k := by
  fun_induction combCost s args comb generalizing k with
  | case1 => cases hk; exact ⟨Rat.le_refl, fun a c h => by simp at h⟩
  | case2 a as c cs x y hy hx ih =>
    cases hk
    obtain ⟨g1, g2⟩ := ih y hy
    have hxp := hpos _ x (List.mem_of_getElem? hx)
    refine ⟨Rat.add_nonneg (Rat.le_of_lt hxp) g1, fun a' c' h => ?_⟩
    simp only [List.map_cons, List.zip_cons_cons, List.mem_cons, Prod.mk.injEq] at h
    rcases h with ⟨rfl, rfl⟩ | h
    · exact ⟨x, hx, rat_le_add_right g1⟩
    · obtain ⟨e, h1, h2⟩ := g2 a' c' h
      exact ⟨e, h1, rat_le_add_left (Rat.le_of_lt hxp) h2⟩
  | case3 => cases hk
  | case4 => cases hk

theorem oi_pop (s1 : St S) (nt : NT S Unit) (el : HeapEl) (q' : List HeapEl) (hs1 : OI s1)
    (hpop : Heapq.pop ltE (s1.queueOf nt) = some (el, q')) : OI (s1.setQueue nt q') :=
  hs1.setQueue nt q' (fun x hx =>
    have hm := (mem_of_pop _ _ _ _ hpop x).mpr (Or.inr hx)
    ⟨hs1.finQ nt x hm, fun c hc => hs1.low nt x c hm hc⟩) (pop_isHeap ltE_weak _ _ _ (hs1.heap nt) hpop).1

/-- the arguments of the head popped by `query(nt, fr.ci)` are asked at costs below that of the query, every rule cost
    being positive -/
theorem pop_below (E : Env S) (hpos : PosW E) {s1 : St S} {nt : NT S Unit} {fr : Frame} {el : HeapEl} {q' : List HeapEl}
    {rl : List (Ty × S) × Unit} (hc1 : CInv E s1) (hs1 : OI s1) (hcost : el.cost = fr.cost)
    (hpop : Heapq.pop ltE (s1.queueOf nt) = some (el, q')) (hrl : E.G.rule? nt el.P = some rl) :
    ∃ w k, ruleW E nt el.P = some w ∧ combCost s1 rl.1 el.comb = some k ∧ fr.cost = Cost.ofRat (w + k) ∧
      CInv E (s1.setQueue nt q') ∧ OI (s1.setQueue nt q') ∧
      AskedBelow (s1.setQueue nt q') (rl.1.map ntOf) el.comb fr.cost.fin := by
  obtain ⟨rl0, w, k, hrl0, hw, hk, hcst⟩ := hc1.queue nt el ((mem_of_pop _ _ _ _ hpop el).mpr (Or.inl rfl))
  obtain rfl : rl0 = rl := Option.some.inj (hrl0.symm.trans hrl)
  have hfc' : fr.cost = Cost.ofRat (w + k) := hcost ▸ hcst
  refine ⟨w, k, hw, hk, hfc', cinv_pop E s1 nt el q' hc1 hpop, oi_pop s1 nt el q' hs1 hpop, fun a c hm => ?_⟩
  obtain ⟨e, h1, h2⟩ := (combCost_entry_le s1 hs1.pos rl0.1 el.comb k hk).2 a c hm
  exact ⟨e, h1, by rw [hfc']; exact rat_lt_add_of_pos_of_le (hpos nt el.P w hw) h2⟩

def QLP (E : Env S) (n : Nat) : Prop :=
  ∀ s nt ci r x, CInv E s → OI s → (∀ e, (s.clOf nt)[ci]? = some e → e.fin < x) → queryList E n s nt ci = some r →
    OI r.1 ∧ Prot x s r.1
def RQP (E : Env S) (n : Nat) : Prop :=
  ∀ s nt ci s' x c, CInv E s → OI s → (s.clOf nt)[ci]? = some c → c.fin < x → runQuery E n s nt ci = some s' →
    (ci + 1 = (s.clOf nt).length → OI s' ∧ Prot x s s') ∧
    (ci + 1 ≠ (s.clOf nt).length → s'.bankOf nt = s.bankOf nt ∧ s'.emptiesOf nt = s.emptiesOf nt)
def DP (E : Env S) (n : Nat) : Prop :=
  ∀ s nt fr s' x, CInv E s → FrC E s nt fr → OI s → FrO s nt fr → fr.cost.fin < x → drive E n s nt fr = some s' →
    OI s' ∧ Prot x s s'
def RP (E : Env S) (n : Nat) : Prop :=
  ∀ s nt fr r x, CInv E s → FrC E s nt fr → OI s → FrO s nt fr → fr.cost.fin < x → resume E n s nt fr = some r →
    OI r.1 ∧ Prot x s r.1 ∧ (∀ p fr', r.2 = .yield p fr' → FrO r.1 nt fr') ∧
    (r.2 = .ret → (r.1.clOf nt).length ≤ (s.clOf nt).length + 1)
def AP (E : Env S) (n : Nat) : Prop :=
  ∀ s as cs ae af acc r x, CInv E s → OI s → (∀ a c, (a, c) ∈ as.zip cs → ∃ e, (s.clOf a)[c]? = some e ∧ e.fin < x) →
    argsLoop E n s as cs ae af acc = some r → OI r.1 ∧ Prot x s r.1

theorem resume_idle (E : Env S) (n : Nat) (s : St S) (nt : NT S Unit) (fr : Frame) (hp : fr.pending = [])
    (hne : ∀ e q, s.queueOf nt = e :: q → e.cost ≠ fr.cost) : resume E (n + 1) s nt fr = some (epilogue s nt fr, .ret) := by
  unfold resume
  rw [hp]
  simp only [emit]
  cases hq : s.queueOf nt with
  | nil => rfl
  | cons e0 rest => simp [hne e0 rest hq]

theorem drive_idle (E : Env S) (n : Nat) (s : St S) (nt : NT S Unit) (fr : Frame) (s' : St S) (hp : fr.pending = [])
    (hne : ∀ e q, s.queueOf nt = e :: q → e.cost ≠ fr.cost) (h : drive E n s nt fr = some s') : s' = epilogue s nt fr := by
  cases n with
  | zero => simp [drive] at h
  | succ m =>
    cases m with
    | zero => simp [drive, resume] at h
    | succ k =>
      rw [drive, resume_idle E k s nt fr hp hne] at h
      exact (Option.some.inj h).symm


theorem FrO.of_eq {s s' : St S} {nt : NT S Unit} {fr fr' : Frame} (h : FrO s nt fr) (hcl : s'.clOf nt = s.clOf nt)
    (hci : fr'.ci = fr.ci) (hco : fr'.cost = fr.cost) : FrO s' nt fr' := by
  unfold FrO; rw [hcl, hci, hco]; exact h

theorem not_lastGe {s : St S} {nt : NT S Unit} {c : Cost} {x : Rat} (hl : (s.clOf nt).getLast? = some c) (hc : c.fin < x) :
    ¬ lastGe s nt x := fun ⟨c0, g1, g2⟩ => by
  rw [hl] at g1; cases g1; exact Rat.not_le.mpr hc g2

/-- One turn of the `while` loop of `query(nt, fr.ci)` read at the level of the cost and order invariants: the head `el`
    was popped (queue `q'` left), the argument loop took the tables to `s3`, and `query` goes round again from `s'`
    with the frame `fr'` (after the successor loop and, when the product is formed, the creation of the bank entry).
    `x` is a bound above the cost of the query. -/
structure Turn (E : Env S) (x : Rat) (s s1 : St S) (nt : NT S Unit) (fr : Frame) (el : HeapEl) (q' : List HeapEl)
    (rl : List (Ty × S) × Unit) (s3 : St S) (af : Bool) (poss : List (List Prog)) (s' : St S) (fr' : Frame) : Prop where
  cl1 : ∀ nt', s1.clOf nt' = s.clOf nt'
  q1 : ∀ nt', s1.queueOf nt' = s.queueOf nt'
  c2 : CInv E (s1.setQueue nt q')
  o2 : OI (s1.setQueue nt q')
  below : AskedBelow (s1.setQueue nt q') (rl.1.map ntOf) el.comb fr.cost.fin
  price : ∃ w k, ruleW E nt el.P = some w ∧ combCost s3 rl.1 el.comb = some k ∧ fr.cost = Cost.ofRat (w + k)
  prot3 : Prot x s s3
  cl3 : s3.clOf nt = s.clOf nt
  q3 : s3.queueOf nt = q'
  c4 : CInv E (succLoop nt fr.cost el.P el.comb s3 0 (rl.1.map ntOf))
  o4 : OI (succLoop nt fr.cost el.P el.comb s3 0 (rl.1.map ntOf))
  cl4 : ∀ nt', (succLoop nt fr.cost el.P el.comb s3 0 (rl.1.map ntOf)).clOf nt' = s3.clOf nt'
  q4 : ∀ nt', nt' ≠ nt → (succLoop nt fr.cost el.P el.comb s3 0 (rl.1.map ntOf)).queueOf nt' = s3.queueOf nt'
  c' : CInv E s'
  o' : OI s'
  cl' : ∀ nt', s'.clOf nt' = s3.clOf nt'
  qo' : ∀ nt', nt' ≠ nt → s'.queueOf nt' = s3.queueOf nt'
  bank' : ∀ nt' ci', s'.bankAt nt' ci' = s3.bankAt nt' ci'
  fc' : FrC E s' nt fr'
  fo' : FrO s' nt fr'
  ci : fr'.ci = fr.ci
  cost : fr'.cost = fr.cost

/-- the tables of `nt` are the only ones the turn writes after the argument loop, and `nt` is not protected -/
theorem Turn.prot {E : Env S} {x : Rat} {s s1 s3 s' : St S} {nt : NT S Unit} {fr fr' : Frame} {el : HeapEl} {q' : List HeapEl}
    {rl : List (Ty × S) × Unit} {af : Bool} {poss : List (List Prog)} (t : Turn E x s s1 nt fr el q' rl s3 af poss s' fr')
    (hfo : FrO s nt fr) (hx : fr.cost.fin < x) : Prot x s s' :=
  t.prot3.trans fun nt' hl' => ⟨t.cl' nt', t.qo' nt' fun heq => not_lastGe (heq ▸ t.cl3 ▸ hfo.last) hx (heq ▸ hl')⟩

/-- `Turn` from the run equations of the `rs_pop` path of `run_induct`; `hA` is what the argument loop keeps (inside
    `order_runs` its induction hypothesis, above it `order_runs` itself). -/
theorem pop_turn (E : Env S) (hpos : PosW E) {n : Nat} {s s1 s3 s' : St S} {nt : NT S Unit} {fr fr' : Frame} {el : HeapEl}
    {q' : List HeapEl} {rl : List (Ty × S) × Unit} {ae af : Bool} {poss : List (List Prog)} {x : Rat}
    (hem : emit E nt fr.ci fr.P fr.isFun s fr.pending = (s1, none)) (hcost : el.cost = fr.cost)
    (hpop : Heapq.pop ltE (s1.queueOf nt) = some (el, q')) (hrl : E.G.rule? nt el.P = some rl)
    (hargs : argsLoop E n (s1.setQueue nt q') (rl.1.map ntOf) el.comb false false [] = some (s3, ae, af, poss))
    (hnext : ((af && !ae) = true ∧ s' = s3 ∧ fr' = { fr with noSucc := fr.noSucc && (af && !ae), pending := [] }) ∨
      ((af && !ae) = false ∧ ae = true ∧ s' = succLoop nt fr.cost el.P el.comb s3 0 (rl.1.map ntOf) ∧
        fr' = { fr with noSucc := fr.noSucc && (af && !ae), pending := [] }) ∨
      (af = false ∧ ae = false ∧ s' = (succLoop nt fr.cost el.P el.comb s3 0 (rl.1.map ntOf)).ensureBank nt fr.ci ∧
        fr' = { fr with noSucc := fr.noSucc && (af && !ae), P := el.P, isFun := !(rl.1.map ntOf).isEmpty,
                        pending := product poss }))
    (hc : CInv E s) (hfc : FrC E s nt fr) (hs : OI s) (hfo : FrO s nt fr) (hx : fr.cost.fin < x)
    (hA : CInv E (s1.setQueue nt q') → OI (s1.setQueue nt q') →
      (AskedBelow (s1.setQueue nt q') (rl.1.map ntOf) el.comb fr.cost.fin) →
      OI s3 ∧ Prot fr.cost.fin (s1.setQueue nt q') s3) :
    Turn E x s s1 nt fr el q' rl s3 af poss s' fr' := by
  obtain ⟨t1, t2⟩ := emit_tables E nt fr.ci fr.P fr.isFun fr.pending s _ hem
  obtain ⟨hc1, _⟩ := emit_cost E nt fr.ci fr.P fr.isFun fr.cost fr.pending s _ hem hc hfc.1 hfc.2
  have hs1 : OI s1 := hs.of_eq t1 t2
  have hlast1 : (s1.clOf nt).getLast? = some fr.cost := by rw [t1]; exact hfo.last
  obtain ⟨w, k, hw, hk, hfc', hc2, hs2, hb⟩ := pop_below E hpos hc1 hs1 hcost hpop hrl
  obtain ⟨hs3, hp3⟩ := hA hc2 hs2 hb
  obtain ⟨hc3, hposs⟩ := (cost_all E n).al hargs hc2 [] All2.nil
  have hx3 := (run_ext E n).al hargs
  -- `nt` is protected during the argument loop: its tables did not change
  obtain ⟨hcl3, hq3⟩ := hp3 nt ⟨fr.cost, hlast1, Rat.le_refl⟩
  have hq3 : s3.queueOf nt = q' := by rw [hq3, St.queueOf_setQueue, if_pos rfl]
  have hcl3 : s3.clOf nt = s.clOf nt := hcl3.trans (t1 nt)
  have hp03 : Prot x s s3 :=
    ((Prot.of_eq t1 t2).trans (prot_setQueue x s1 nt q' fr.cost hlast1 hx)).trans (hp3.mono (Rat.le_of_lt hx))
  have hx03 : Ext s s3 := (Ext.of_eq t1).trans hx3
  have hk3 : combCost s3 rl.1 el.comb = some k := combCost_ext hx3 _ _ _ ((combCost_setQueue s1 nt q' _ _).trans hk)
  have hlow3 : ∀ c ∈ s3.clOf nt, c.fin ≤ fr.cost.fin := fun c hcm =>
    le_last_of_pairwise _ (hs.mono nt) fr.cost hfo.last c (hcl3 ▸ hcm)
  obtain ⟨hs4, hcl4, hq4⟩ := succLoop_oi nt fr.cost el.P el.comb (hfc' ▸ rfl) (rl.1.map ntOf) s3 0 hs3 hlow3
  obtain ⟨hc4, _⟩ := succLoop_cost E nt el.P el.comb rl w k hrl hw (rl.1.map ntOf) s3 0 hc3 hk3 (by simp)
  rw [← hfc'] at hc4
  have hb4 : ∀ nt' ci', (succLoop nt fr.cost el.P el.comb s3 0 (rl.1.map ntOf)).bankAt nt' ci' = s3.bankAt nt' ci' :=
    fun nt' ci' => by rw [succLoop_eq, bankAt_pushAll]
  -- the three ways round the loop: a state with the cost lists and banks of `s3`, and its queues except that of `nt`
  have key : ∀ s5 pend, CInv E s5 → OI s5 → (∀ nt', s5.clOf nt' = s3.clOf nt') →
      (∀ nt', nt' ≠ nt → s5.queueOf nt' = s3.queueOf nt') → (∀ nt' ci', s5.bankAt nt' ci' = s3.bankAt nt' ci') →
      (∀ a ∈ pend, costOf E (mkProg fr'.P fr'.isFun a) nt = some fr.cost.fin) → fr'.ci = fr.ci → fr'.cost = fr.cost →
      fr'.pending = pend → s' = s5 → Turn E x s s1 nt fr el q' rl s3 af poss s' fr' := by
    intro s5 pend hc5 hs5 hcl5 hq5 hb5 hpend hci hco hpe hs'
    subst hs'
    exact ⟨t1, t2, hc2, hs2, hb, ⟨w, k, hw, hk3, hfc'⟩, hp03, hcl3, hq3, hc4, hs4, hcl4, hq4, hc5, hs5, hcl5, hq5, hb5,
      ⟨by rw [hci, hco]; exact (hx03.trans (Ext.of_eq hcl5)).get _ _ _ hfc.1, by rw [hpe, hco]; exact hpend⟩,
      hfo.of_eq ((hcl5 nt).trans hcl3) hci hco, hci, hco⟩
  rcases hnext with ⟨_, rfl, rfl⟩ | ⟨_, _, rfl, rfl⟩ | ⟨haf, _, rfl, rfl⟩
  · exact key _ [] hc3 hs3 (fun _ => rfl) (fun _ _ => rfl) (fun _ _ => rfl) (fun a ha => by cases ha) rfl rfl rfl rfl
  · exact key _ [] hc4 hs4 hcl4 hq4 hb4 (fun a ha => by cases ha) rfl rfl rfl rfl
  · refine key _ (product poss) (hc4.of_eq (by simp) (by simp) (by simp)) (hs4.of_eq (by simp) (by simp))
      (by simpa using hcl4) (by simpa using hq4) (by simpa using hb4) (fun a ha => ?_) rfl rfl rfl rfl
    rw [hfc']
    exact pending_cost E s3 nt el.P rl w k el.comb hrl hw hk3 poss (by simpa using hposs haf) a ha

structure RPpost (x : Rat) (s : St S) (nt : NT S Unit) (r : St S × Res) : Prop where
  oi : OI r.1
  prot : Prot x s r.1
  yield : ∀ p fr', r.2 = .yield p fr' → FrO r.1 nt fr'
  ret : r.2 = .ret → (r.1.clOf nt).length ≤ (s.clOf nt).length + 1

theorem order_runs (E : Env S) (hpos : PosW E) : ∀ n, Runs E n
    (fun s nt ci r => ∀ x, CInv E s → OI s → (∀ e, (s.clOf nt)[ci]? = some e → e.fin < x) → OI r.1 ∧ Prot x s r.1)
    (fun s nt ci s' => ∀ x c, CInv E s → OI s → (s.clOf nt)[ci]? = some c → c.fin < x →
      (ci + 1 = (s.clOf nt).length → OI s' ∧ Prot x s s') ∧
      (ci + 1 ≠ (s.clOf nt).length → s'.bankOf nt = s.bankOf nt ∧ s'.emptiesOf nt = s.emptiesOf nt))
    (fun s nt fr s' => ∀ x, CInv E s → FrC E s nt fr → OI s → FrO s nt fr → fr.cost.fin < x → OI s' ∧ Prot x s s')
    (fun s nt fr r => ∀ x, CInv E s → FrC E s nt fr → OI s → FrO s nt fr → fr.cost.fin < x → RPpost x s nt r)
    (fun s as cs _ _ _ r => ∀ x, CInv E s → OI s →
      AskedBelow s as cs x → OI r.1 ∧ Prot x s r.1) := by
  refine run_induct E ?ql_empty ?ql_beyond ?ql_bank ?ql_run_empty ?ql_run_bank ?rq_none ?rq_some ?dr_ret ?dr_yield
    ?rs_yield ?rs_ret ?rs_pop ?ar_nil ?ar_break ?ar_cons
  case ql_empty => intro _ s nt ci _ x _ hs _; exact ⟨hs, Prot.refl _ _⟩
  case ql_beyond => intro _ s nt ci _ _ x _ hs _; exact ⟨hs, Prot.refl _ _⟩
  case ql_bank => intro _ s nt ci ps _ _ _ x _ hs _; exact ⟨hs, Prot.refl _ _⟩
  case ql_run_empty =>
    intro _ s nt ci s1 hemp hl _ _ ih he1 x hc hs hb
    have hget := List.getElem?_eq_getElem hl
    obtain ⟨g1, g2⟩ := ih x _ hc hs hget (hb _ hget)
    by_cases hlast : ci + 1 = (s.clOf nt).length
    · exact g1 hlast
    · rw [(g2 hlast).2] at he1; exact absurd he1 hemp
  case ql_run_bank =>
    intro _ s nt ci s1 ps _ hl hbank _ ih _ hps x hc hs hb
    have hget := List.getElem?_eq_getElem hl
    obtain ⟨g1, g2⟩ := ih x _ hc hs hget (hb _ hget)
    by_cases hlast : ci + 1 = (s.clOf nt).length
    · exact g1 hlast
    · rw [(g2 hlast).1, hbank] at hps; cases hps
  case rq_none => intro _ s nt ci hnone x c _ _ hget _; rw [hget] at hnone; cases hnone
  case rq_some =>
    intro n s nt ci c' s' hc' h ih x c hc hs hget hcx
    obtain rfl : c' = c := Option.some.inj (hc'.symm.trans hget)
    refine ⟨fun hl => ih x hc ⟨hget, fun a ha => by cases ha⟩ hs ⟨hl, hget⟩ hcx, fun hl => ?_⟩
    -- `ci` is not the last index: the head of the queue costs at least the last entry, which is more than entry `ci`
    have hci : ci < (s.clOf nt).length := (List.getElem?_eq_some_iff.mp hget).1
    have hl' : (s.clOf nt).length - 1 < (s.clOf nt).length := by omega
    have hlt : c'.fin < ((s.clOf nt)[(s.clOf nt).length - 1]).fin := by
      have := List.pairwise_iff_getElem.mp (hs.mono nt) ci ((s.clOf nt).length - 1) hci hl' (by omega)
      rwa [(List.getElem?_eq_some_iff.mp hget).2] at this
    have hne : ∀ e q, s.queueOf nt = e :: q → e.cost ≠ c' := fun e q hq heq => by
      have := hs.low nt e _ (by rw [hq]; exact List.mem_cons_self ..) (List.getElem_mem hl')
      rw [heq] at this
      exact Rat.not_le.mpr hlt this
    rw [drive_idle E n s nt _ s' rfl hne h]
    unfold epilogue markEmpty
    dsimp only [Bool.not_false, Bool.not_true, Bool.and_false]
    split <;> exact ⟨rfl, rfl⟩
  case dr_ret => intro _ s nt fr s1 _ ih x hc hfc hs hfo hx; exact ⟨(ih x hc hfc hs hfo hx).oi, (ih x hc hfc hs hfo hx).prot⟩
  case dr_yield =>
    intro n s nt fr s1 p fr1 s' hr ihR _ ihD x hc hfc hs hfo hx
    have g := ihR x hc hfc hs hfo hx
    obtain ⟨c1, c3⟩ := (cost_all E n).rs hr hc hfc
    have c := c3 p fr1 rfl
    obtain ⟨q1, q2⟩ := ihD x c1 c.fc g.oi (g.yield p fr1 rfl) (c.cost ▸ hx)
    exact ⟨q1, g.prot.trans q2⟩
  case rs_yield =>
    intro _ s nt fr s1 p rest hem x _ _ hs hfo _
    have ht := emit_tables E nt fr.ci fr.P fr.isFun fr.pending s _ hem
    exact { oi := hs.of_eq ht.1 ht.2, prot := Prot.of_eq ht.1 ht.2,
            yield := fun p' fr' hy => (by cases hy; exact hfo.of_eq (ht.1 nt) rfl rfl), ret := fun hr => (by cases hr) }
  case rs_ret =>
    intro _ s nt fr s1 hem hne x _ _ hs hfo hx
    have ht := emit_tables E nt fr.ci fr.P fr.isFun fr.pending s _ hem
    obtain ⟨g1, g2⟩ := epilogue_oi s1 nt fr x (hs.of_eq ht.1 ht.2) (hfo.of_eq (ht.1 nt) rfl rfl) hx hne
    exact { oi := g1, prot := (Prot.of_eq ht.1 ht.2).trans g2, yield := fun _ _ hy => (by cases hy),
            ret := fun _ => (by rw [← ht.1 nt]; exact epilogue_len s1 nt fr) }
  case rs_pop =>
    intro n s nt fr s1 el q0 q' rl s3 ae af poss s' fr' r hem _ hcost hpop hrl hargs ihA hnext _ ihR x hc hfc hs hfo hx
    have t := pop_turn E hpos hem hcost hpop hrl hargs hnext hc hfc hs hfo hx (ihA fr.cost.fin)
    have g := ihR x t.c' t.fc' t.o' t.fo' (t.cost ▸ hx)
    exact { oi := g.oi, prot := (t.prot hfo hx).trans g.prot, yield := g.yield,
            ret := fun hr => by have := g.ret hr; rwa [t.cl', t.cl3] at this }
  case ar_nil => intro _ s cs ae af acc x _ hs _; exact ⟨hs, Prot.refl _ _⟩
  case ar_break =>
    intro _ s a as c cs ae af acc s1 poss _ ih _ x hc hs hb
    obtain ⟨e0, he0, he0x⟩ := hb a c (by simp)
    exact ih x hc hs fun e he => by rw [he0] at he; cases he; exact he0x
  case ar_cons =>
    intro n s a as c cs ae af acc s1 one poss r hql ihQ _ _ ihA x hc hs hb
    obtain ⟨e0, he0, he0x⟩ := hb a c (by simp)
    obtain ⟨g1, g2⟩ := ihQ x hc hs fun e he => by rw [he0] at he; cases he; exact he0x
    obtain ⟨c1, _⟩ := (cost_all E n).ql hql hc
    have c2 := (run_ext E n).ql hql
    obtain ⟨q1, q2⟩ := ihA x c1 g1 (c2.below fun a' c' hm => hb a' c' (by simp [hm]))
    exact ⟨q1, g2.trans q2⟩

/-- `order_runs` with the hypotheses before the run equation (`QLP` … `AP`) -/
theorem order_all (E : Env S) (hpos : PosW E) : ∀ n : Nat, QLP E n ∧ RQP E n ∧ DP E n ∧ RP E n ∧ AP E n := fun n =>
  have h := order_runs E hpos n
  ⟨fun _ _ _ _ x hc hs hb hr => h.ql hr x hc hs hb, fun _ _ _ _ x c hc hs hg hx hr => h.rq hr x c hc hs hg hx,
    fun _ _ _ _ x hc hfc hs hfo hx hr => h.dr hr x hc hfc hs hfo hx, fun _ _ _ _ x hc hfc hs hfo hx hr =>
      have q := h.rs hr x hc hfc hs hfo hx; ⟨q.oi, q.prot, q.yield, q.ret⟩,
    fun _ _ _ _ _ _ _ x hc hs hb hr => h.al hr x hc hs hb⟩

/-- a `query` on the last index that returned: the next index is the last one or beyond the list -/
theorem resume_ret_last (E : Env S) (hpos : PosW E) {fuel n : Nat} {s s1 : St S} {nt : NT S Unit} {fr : Frame}
    (hc : CInv E s) (hs : OI s) (hfc : FrC E s nt fr) (hfo : FrO s nt fr) (hci : fr.ci = n)
    (hr : resume E fuel s nt fr = some (s1, .ret)) :
    CInv E s1 ∧ OI s1 ∧ (n + 1 + 1 = (s1.clOf nt).length ∨ (s1.clOf nt).length ≤ n + 1) := by
  -- any bound above the cost of the query does: nothing is suspended above the generator's own query
  have g := (order_runs E hpos fuel).rs hr (fr.cost.fin + 1) hc hfc hs hfo (rat_lt_succ _)
  have h1 : (s1.clOf nt).length ≤ (s.clOf nt).length + 1 := g.ret rfl
  have h2 := hfo.1
  have h3 : (s.clOf nt).length ≤ (s1.clOf nt).length := ((run_ext E fuel).rs hr nt).length_le
  exact ⟨((cost_all E fuel).rs hr hc hfc).1, g.oi, by omega⟩

theorem posW_of_check (E : Env S) (h : E.W.all (fun r => r.2.all (fun e => decide (0 < e.2))) = true) : PosW E := by
  intro nt P w hw
  exact of_decide_eq_true
    (AList.lookup₂_of_all (p := fun _ _ w => decide (0 < w)) h ((ruleW_eq_lookup₂ E nt P).symm.trans hw))

end PS.Beap
