/- Bee search, completeness without merge declarations (any filter), for the loop with `Env.fixF11 = true` (it stops when the
   cheapest queued cost exceeds the maximal program cost, as the loop of /repo does).  `All` joins the invariants of soundness
   (`GInv`), no duplicates (`GN`), cover (`CovSt`), order (`GOrd`) and completeness below the current cost (`GC`) with
   `Stopped`: once the generator is done, every accepted member of the start symbol is in the start bank.  One step keeps `All`,
   and when a program is yielded every cheaper accepted member of the start symbol is already in the start bank (`step_all`:
   `bank_complete` with the bound the state gives, the cost of the round or the cost at which the generator stops).  Along runs
   of takes the start bank is exactly the yielded sequence, whence prefix completeness (`RunOK`). -/
import PS.Proofs.Enum.BeeBelow
namespace PS.Bee
open PS PS.G

variable {S : Type} [DecidableEq S]
set_option linter.unusedSectionVars false
set_option linter.unusedSimpArgs false

/-- the static hypotheses (all decidable on a literal case, see `hyp_of_checks`) -/
structure Hyp (E : Env S) : Prop where
  nnw : NNW E
  pos : PosArgs E
  costs : HasCosts E
  dict : DictOK E
  front : initFrontOK E = true
  cover : initCoverOK E = true

theorem hyp_of_checks (E : Env S) (h1 : nonnegW E = true) (h2 : posArgCosts E = true) (h3 : hasCosts E = true)
    (h4 : dictOK E = true) (h5 : initFrontOK E = true) (h6 : initCoverOK E = true) : Hyp E :=
  ⟨nnw_of_check E h1, posArgs_of_check E h2, hasCosts_of_check E h3, dictOK_of_check E h4, h5, h6⟩

/-- what holds of the tables once the generator has stopped (`All.stop`), not that it has -/
def Stopped (E : Env S) (g : Gen S) : Prop :=
  ∀ p, gen E.G p E.G.start = true → Strict E p → (∀ m, E.maxCost = some m → pcost E p E.G.start ≤ m) →
    ∃ ci, inBank g.st E.G.start ci p

structure All (E : Env S) (g : Gen S) : Prop where
  sound : GInv E g
  nodup : GN E g
  cov : CovSt E g.st
  ord : ∃ b, GOrd E g b
  comp : GC E g
  stop : g.phase.isDone = true → Stopped E g

theorem step_bank_start (E : Env S) (g g' : Gen S) (out : Option Prog) (h : step E g = some (g', out)) :
    ∀ ci q, inBank g'.st E.G.start ci q → inBank g.st E.G.start ci q ∨ out = some q := by
  intro ci q hin
  cases step_cases h with
  | addCost hac => exact Or.inl ((inBank_of_bank_eq (addCost_frame hac).bank _ _ _).mp hin)
  | pop _ _ _ _ hsl _ => exact Or.inl ((inBank_of_bank_eq (succLoop_frame hsl).of_setQueue.bank _ _ _).mp hin)
  | @offer st _ _ succ cost nt rest maxi ci' p ps y hy =>
    rcases (addProgram_inBank E st nt p ci' _ _ _).mp hin with h1 | ⟨ha, hn, _, hq⟩
    · exact Or.inl h1
    · exact Or.inr (by rw [hy, ha, hn, hq]; simp)
  | _ => exact Or.inl hin

theorem step_to_done (E : Env S) (hfix : E.fixF11 = true) (g g' : Gen S) (out : Option Prog) (h : step E g = some (g', out))
    (hd : g'.phase.isDone = true) :
    (g.phase.isDone = true ∧ g' = g) ∨
    (g'.st = g.st ∧ ((∀ nt l, (nt, l) ∈ g.st.queued → l = []) ∨
      ∃ c nts, nextCheapest g.st = (nts, some c) ∧ stopAt E c = true)) := by
  cases step_cases h with
  | done => exact Or.inl ⟨rfl, rfl⟩
  | stop hwhy =>
    refine Or.inr ⟨rfl, ?_⟩
    rcases hwhy with hgo | ⟨nts, hnc⟩ | ⟨nts, c, hnc, hstop⟩
    · simp [goesOn, hfix] at hgo
    · exact Or.inl ((nextCheapest_spec _ hnc).none rfl).2
    · exact Or.inr ⟨c, nts, hnc, hstop⟩
  | pop _ _ _ _ _ hout => rcases hout with ⟨_, rfl⟩ | ⟨_, _, rfl⟩ <;> cases hd
  | _ => cases hd

theorem offered_cost (E : Env S) (g : Gen S) (hi : GInv E g) (nt : NT S Unit) (p : Prog) (h : Offered g nt p) :
    g.phase.cost? = some (pcost E p nt) := by
  have hph := hi.ph
  unfold Offered at h
  cases hp : g.phase with
  | pend succ cost nt' rest maxi ci pending =>
    rw [hp] at h hph
    simp only at h
    obtain ⟨rfl, hm⟩ := h
    simp only [PhaseOK] at hph
    simp [Phase.cost?, (hph.2 p hm).2]
  | _ => rw [hp] at h; simp at h

theorem step_all (E : Env S) (H : Hyp E) (hfix : E.fixF11 = true) (g g' : Gen S) (out : Option Prog)
    (h : step E g = some (g', out)) (ha : All E g) :
    All E g' ∧ ∀ q, out = some q → ∀ p, gen E.G p E.G.start = true → Strict E p →
      pcost E p E.G.start < pcost E q E.G.start → ∃ ci, inBank g.st E.G.start ci p := by
  obtain ⟨b, hob⟩ := ha.ord
  obtain ⟨hs', hyield⟩ := step_sound E g g' out h ha.sound
  obtain ⟨hn', _, _⟩ := step_nodup E g g' out h ha.nodup
  have hcov' := step_cover E g g' out h ha.nodup ha.cov
  have ho' := step_order E H.nnw g g' out b h ha.sound hob
  have hc' := step_comp E H.pos g g' out b h ha.sound ha.nodup hob ha.comp
  refine ⟨⟨hs', hn', hcov', ⟨b, ho'⟩, hc', ?_⟩, ?_⟩
  · intro hd
    rcases step_to_done E hfix g g' out h hd with ⟨hd0, rfl⟩ | ⟨hst, hreason⟩
    · exact ha.stop hd0
    · intro p hgen hstrict hmax
      obtain ⟨low, hos⟩ := ost_of_gord E g' b ho'
      have hoff : ∀ (L : Int) nt q, Offered g' nt q → L ≤ pcost E q nt := by
        intro L nt q hq
        unfold Offered at hq
        cases hp : g'.phase <;> rw [hp] at hq hd <;> simp [Phase.isDone] at hq hd
      rcases hreason with hempty | ⟨c, nts, hnc, hstop⟩
      · exact bank_complete E H.nnw H.pos H.costs g' hs' hcov' hc' low hos (pcost E p E.G.start + 1)
          (fun nt l hm e he => by rw [hst] at hm; rw [hempty nt l hm] at he; cases he) (hoff _) _ p E.G.start (Nat.le_refl _)
          hgen hstrict (by omega)
      · unfold stopAt at hstop
        rw [hfix] at hstop
        cases hm : E.maxCost with
        | none => simp [hm] at hstop
        | some m =>
          simp only [hm, Bool.true_and, decide_eq_true_eq] at hstop
          have hpm := hmax m hm
          have hmin := (nextCheapest_min g.st (by rw [← hst]; exact hos.heaps) nts c hnc).1
          exact bank_complete E H.nnw H.pos H.costs g' hs' hcov' hc' low hos c
            (fun nt l hmm e he => by rw [hst] at hmm; exact hmin nt l hmm e he) (hoff _) _ p E.G.start (Nat.le_refl _)
            hgen hstrict (by omega)
  · intro q hq p hgen hstrict hlt
    obtain ⟨_, hcq, _, _⟩ := hyield q hq
    -- the state before the yield: every queued / offered program costs at least the cost of the round
    have hor := hob.inRound hcq
    exact bank_complete E H.nnw H.pos H.costs g ha.sound ha.cov ha.comp _ hor.1 (pcost E q E.G.start)
      (fun nt l hm e he => (hor.1.q nt l hm e he).1)
      (fun nt x hx => by
        have := offered_cost E g ha.sound nt x hx
        rw [hcq] at this
        have e : pcost E q E.G.start = pcost E x nt := Option.some.inj this
        omega)
      _ p E.G.start (Nat.le_refl _) hgen hstrict hlt

theorem all_new (E : Env S) (H : Hyp E) (g0 : Gen S) (h : Gen.new E = some g0) :
    All E g0 ∧ ∀ nt ci p, ¬ inBank g0.st nt ci p := by
  have hfc : frontCheck g0.st = true := by
    have := H.front; unfold initFrontOK at this; rw [h] at this; exact this
  obtain ⟨hginv, hph, _, hdel, _, hbe⟩ := ginv_new E g0 h
  have hzero := zero_of_check g0.st hfc
  have hroot := root_mem_new E H.cover g0 h
  have hnodone : ∀ nt P args c, ruleArgs E nt P = some args → c.length = args.length → ¬ Done (pend g0.st nt P) c := by
    intro nt P args c ha hcl hd
    rcases hd with ⟨h1, h2⟩ | ⟨u, hu, hanc⟩
    · subst h1
      have : args = [] := List.length_eq_zero_iff.mp (by simpa using hcl.symm)
      subst this
      exact h2 (by simpa using hroot nt P [] ha)
    · have := hanc.nonzero; rw [hzero nt P u hu] at this; cases this
  have hnob : ∀ nt ci p, ¬ inBank g0.st nt ci p := fun nt ci p ⟨ps, hl, _⟩ => by rw [hbe.bankOf] at hl; cases hl
  refine ⟨⟨hginv, gn_new E H.dict H.front g0 h, cov_new E H.cover g0 h,
    ⟨0, gord_new E H.nnw H.dict g0 h 0 (Int.le_refl _)⟩, ⟨?_, ?_, ?_⟩, ?_⟩, hnob⟩
  · intro nt P u hu hnz; rw [hzero nt P u hu] at hnz; cases hnz
  · intro nt P args c kids ha hd hprem _
    exact absurd hd (hnodone nt P args c ha hprem.1)
  · intro p hp; rw [hdel] at hp; simp at hp
  · intro hd; rw [hph] at hd; simp [Phase.isDone] at hd

/-- prefix completeness of an output sequence -/
def PCOK (E : Env S) (acc : List Prog) : Prop :=
  ∀ l1 q l2, acc = l1 ++ q :: l2 → ∀ p, gen E.G p E.G.start = true → Strict E p →
    pcost E p E.G.start < pcost E q E.G.start → p ∈ l1

theorem pcok_snoc (E : Env S) (acc : List Prog) (x : Prog) (h : PCOK E acc)
    (hx : ∀ p, gen E.G p E.G.start = true → Strict E p → pcost E p E.G.start < pcost E x E.G.start → p ∈ acc) :
    PCOK E (acc ++ [x]) := by
  intro l1 q l2 he p hg hs hlt
  rcases List.eq_nil_or_concat l2 with hl2 | ⟨l2', y, hl2⟩
  · subst hl2
    have : acc = l1 ∧ x = q := by
      have := List.append_inj' he (by simp)
      exact ⟨this.1, by simpa using this.2⟩
    obtain ⟨rfl, rfl⟩ := this
    exact hx p hg hs hlt
  · subst hl2
    have e : acc ++ [x] = (l1 ++ q :: l2') ++ [y] := by rw [he]; simp
    have := List.append_inj' e (by simp)
    exact h l1 q l2' this.1 p hg hs hlt

/-- the start bank is exactly the yielded sequence, which is duplicate-free and prefix-complete -/
structure RunOK (E : Env S) (g : Gen S) (acc : List Prog) : Prop where
  ok : AccOK E g acc
  bank : ∀ ci p, inBank g.st E.G.start ci p → p ∈ acc
  pc : PCOK E acc

theorem step_runOK (E : Env S) (H : Hyp E) (hfix : E.fixF11 = true) (g g' : Gen S) (out : Option Prog) (acc : List Prog)
    (h : step E g = some (g', out)) (hj : All E g ∧ RunOK E g acc) : All E g' ∧ RunOK E g' (acc ++ out.toList) := by
  obtain ⟨ha, hr⟩ := hj
  obtain ⟨ha1, hy⟩ := step_all E H hfix g g' out h ha
  have hbank : ∀ ci q, inBank g'.st E.G.start ci q → q ∈ acc ++ out.toList := fun ci q hq => by
    rcases step_bank_start E g g' out h ci q hq with h1 | h1
    · exact List.mem_append_left _ (hr.bank ci q h1)
    · rw [h1]; simp
  refine ⟨ha1, (step_accOK E g g' out acc h ⟨ha.nodup, hr.ok⟩).2, hbank, ?_⟩
  cases out with
  | none => simpa using hr.pc
  | some p => exact pcok_snoc E acc p hr.pc fun x hg hst hlt => (hy p rfl x hg hst hlt).elim fun cj hcj => hr.bank cj x hcj

theorem take_all (E : Env S) (H : Hyp E) (hfix : E.fixF11 = true) (fuel : Nat) (k : Nat) (g g' : Gen S) (acc out : List Prog)
    (fin : Bool) (h : take E fuel k g acc = some (g', out, fin)) (ha : All E g) (hr : RunOK E g acc) :
    All E g' ∧ RunOK E g' out ∧ (fin = true → g'.phase.isDone = true) := by
  obtain ⟨⟨h1, h2⟩, h3⟩ := take_ind (J := fun g acc => All E g ∧ RunOK E g acc)
    (fun g g' out acc => step_runOK E H hfix g g' out acc) fuel k g g' acc out fin h ⟨ha, hr⟩
  exact ⟨h1, h2, h3⟩

theorem runActs_all (E : Env S) (H : Hyp E) (hfix : E.fixF11 = true) (fuel : Nat) (acts : List Act) (g g' : Gen S)
    (acc out : List Prog) (hall : acts.all Act.isTake = true) (h : runActs E fuel acts g acc = some (g', out)) (ha : All E g)
    (hr : RunOK E g acc) : All E g' ∧ RunOK E g' out :=
  runActs_ind (J := fun g acc => All E g ∧ RunOK E g acc) (fun g g' out acc => step_runOK E H hfix g g' out acc) fuel acts
    g g' acc out (fun o t hm => absurd hm (not_merge_of_isTake hall o t)) h ⟨ha, hr⟩

theorem run_new (E : Env S) (H : Hyp E) (hfix : E.fixF11 = true) {fuel : Nat} {acts : List Act} {g0 g : Gen S}
    {out : List Prog} (hall : acts.all Act.isTake = true) (h0 : Gen.new E = some g0)
    (h : runActs E fuel acts g0 [] = some (g, out)) : All E g ∧ RunOK E g out := by
  obtain ⟨ha0, hnob⟩ := all_new E H g0 h0
  exact runActs_all E H hfix fuel acts g0 g [] out hall h ha0
    ⟨⟨List.nodup_nil, nofun⟩, fun ci p hin => absurd hin (hnob _ ci p), fun l1 q l2 he => by simp at he⟩

theorem All.complete {E : Env S} {g : Gen S} {out : List Prog} (ha : All E g) (hr : RunOK E g out)
    (hstop : g.phase.isDone = true) (p : Prog) (hg : gen E.G p E.G.start = true) (hs : Strict E p)
    (hm : ∀ m, E.maxCost = some m → pcost E p E.G.start ≤ m) : p ∈ out :=
  (ha.stop hstop p hg hs hm).elim fun ci hin => hr.bank ci p hin

end PS.Bee
