/- Bee search, order: with a non-negative cost table the global cost list is strictly increasing, every queued
   element costs at least the cost of the current round, and the costs of the rounds never decrease. -/
import PS.Proofs.Enum.BeeSound
import PS.Proofs.Enum.BeeHeap
import PS.Proofs.Enum.BeeFront
namespace PS.Bee
open PS PS.G PS.Heapq

variable {S : Type} [DecidableEq S]
set_option linter.unusedSectionVars false
set_option linter.unusedSimpArgs false

def NNW (E : Env S) : Prop := ∀ nt P w, ruleCost E nt P = some w → 0 ≤ w

theorem nnw_of_check (E : Env S) (h : nonnegW E = true) : NNW E := by
  intro nt P w hw
  exact of_decide_eq_true
    (AList.lookup₂_of_all (p := fun _ _ w => decide (0 ≤ w)) h ((ruleCost_eq_lookup₂ E nt P).symm.trans hw))

theorem realCostLoop_lower (cl : List Int) (idx : List Nat) (hnn : ∀ x ∈ cl, 0 ≤ x) :
    ∀ (k i : Nat) (out c : Int), realCostLoop cl idx i k out = some c →
      out ≤ c ∧ ∀ j v x, i ≤ j → j < i + k → idx[j]? = some v → cl[v]? = some x → out + x ≤ c := by
  intro k i out c h
  obtain ⟨hd, rfl⟩ := (realCostLoop_iff cl idx k i out c).mp h
  obtain ⟨h0, hs⟩ := rsum_ge (f := argCost cl idx) k i fun j h1 h2 => by
    obtain ⟨v, hv, hvl⟩ := hd j h1 h2
    rw [argCost_eq hv (List.getElem?_eq_getElem hvl)]; exact hnn _ (List.getElem_mem hvl)
  refine ⟨by omega, fun j v x h1 h2 hv hx => ?_⟩
  have := hs j h1 h2
  rw [argCost_eq hv hx] at this; omega

theorem realCostLoop_mono (cl : List Int) (idx idx' : List Nat)
    (hm : ∀ (a b : Nat) (x y : Int), a ≤ b → cl[a]? = some x → cl[b]? = some y → x ≤ y)
    (hp : ∀ (j a b : Nat), idx[j]? = some a → idx'[j]? = some b → a ≤ b) :
    ∀ (k i : Nat) (out out' c c' : Int), out ≤ out' → realCostLoop cl idx i k out = some c →
      realCostLoop cl idx' i k out' = some c' → c ≤ c' := by
  intro k i out out' c c' ho h h'
  obtain ⟨hd, rfl⟩ := (realCostLoop_iff cl idx k i out c).mp h
  obtain ⟨hd', rfl⟩ := (realCostLoop_iff cl idx' k i out' c').mp h'
  have := rsum_le (f := argCost cl idx) (g := argCost cl idx') k i fun j h1 h2 =>
    argCost_rel (R := (· ≤ ·)) hd hd' h1 h2 fun a b x y ha hb hx hy => hm a b x y (hp j a b ha hb) hx hy
  omega

theorem pairwise_mono (cl : List Int) (h : cl.Pairwise (· < ·)) :
    ∀ (a b : Nat) (x y : Int), a ≤ b → cl[a]? = some x → cl[b]? = some y → x ≤ y := by
  intro a b x y hab hx hy
  rcases pairwise_getElem?_le h hx hy hab with rfl | hlt
  · exact Int.le_refl _
  · exact Int.le_of_lt hlt

theorem realCostLoop_strict (cl : List Int) (idx idx' : List Nat)
    (hm : ∀ (a b : Nat) (x y : Int), a ≤ b → cl[a]? = some x → cl[b]? = some y → x ≤ y)
    (hms : ∀ (a b : Nat) (x y : Int), a < b → cl[a]? = some x → cl[b]? = some y → x < y)
    (hp : ∀ (j a b : Nat), idx[j]? = some a → idx'[j]? = some b → a ≤ b) :
    ∀ (k i : Nat) (out out' c c' : Int), out ≤ out' →
      (∃ (p a b : Nat), i ≤ p ∧ p < i + k ∧ idx[p]? = some a ∧ idx'[p]? = some b ∧ a < b) →
      realCostLoop cl idx i k out = some c → realCostLoop cl idx' i k out' = some c' → c < c' := by
  intro k i out out' c c' ho hex h h'
  obtain ⟨hd, rfl⟩ := (realCostLoop_iff cl idx k i out c).mp h
  obtain ⟨hd', rfl⟩ := (realCostLoop_iff cl idx' k i out' c').mp h'
  obtain ⟨p, a, b, hp1, hp2, hpa, hpb, hab⟩ := hex
  have := rsum_lt (f := argCost cl idx) (g := argCost cl idx') k i
    (fun j h1 h2 => argCost_rel (R := (· ≤ ·)) hd hd' h1 h2 fun a b x y ha hb hx hy => hm a b x y (hp j a b ha hb) hx hy)
    ⟨p, hp1, hp2, argCost_rel (R := (· < ·)) hd hd' hp1 hp2 fun a' b' x y ha hb hx hy => by
      rw [hpa] at ha; cases ha; rw [hpb] at hb; cases hb; exact hms a b x y hab hx hy⟩
  omega

theorem pairwise_strict (cl : List Int) (h : cl.Pairwise (· < ·)) :
    ∀ (a b : Nat) (x y : Int), a < b → cl[a]? = some x → cl[b]? = some y → x < y :=
  fun _ _ _ _ hab hx hy => pairwise_getElem? h hx hy hab

theorem realCost_set (E : Env S) {cl : List Int} (hm : cl.Pairwise (· < ·)) {nt : NT S Unit} {P : Sym} {args : List (Ty × S)}
    (ha : ruleArgs E nt P = some args) {combo : List Nat} {i v : Nat} (hv : combo[i]? = some v) {c c' : Int}
    (hc : realCost E cl nt P combo = some c) (hc' : realCost E cl nt P (combo.set i (v + 1)) = some c') :
    c ≤ c' ∧ (i < args.length → c < c') := by
  obtain ⟨w, hw, hc⟩ := (realCost_eq_some_of_args ha).mp hc
  rw [realCost_of_rule hw ha] at hc'
  -- both costs are sums over the argument positions, and the new combination is pointwise larger
  have hle := (le_set hv).2
  refine ⟨realCostLoop_mono cl _ _ (pairwise_mono cl hm) hle _ _ _ _ _ _ (Int.le_refl _) hc hc', fun hi => ?_⟩
  -- position `i` is one of the summands, and there the index rises from `v` to `v + 1`
  have hv' : (combo.set i (v + 1))[i]? = some (v + 1) := List.getElem?_set_self (List.getElem?_eq_some_iff.mp hv).1
  exact realCostLoop_strict cl _ _ (pairwise_mono cl hm) (pairwise_strict cl hm) hle _ _ _ _ _ _ (Int.le_refl _)
    ⟨i, v, v + 1, Nat.zero_le _, by omega, hv, hv', Nat.lt_succ_self v⟩ hc hc'

/-- The length clause of `QOk`/`DOk` is there for `trigger_low`: the position the delay test finds (`i < idx.length`) has to
    be one of the `args.length` summands of `realCostLoop`.  `≤` is all that needs; every producer has `=`, which `QWf`/`DWf`
    (BeeNodup) keep, where the successor loop has to run over exactly the positions of the combination. -/
def QOk (E : Env S) (low : Int) : NT S Unit → HeapElem → Prop := fun nt e =>
  low ≤ e.cost ∧ 0 ≤ e.cost ∧ ∃ args, ruleArgs E nt e.P = some args ∧ e.combo.length ≤ args.length

def DOk (E : Env S) (cl : List Int) : NT S Unit → Delayed → Prop := fun nt d =>
  needsDelay cl d.1 d.2.2 = some true ∧ ∃ args, ruleArgs E nt d.2.1 = some args ∧ d.1.length ≤ args.length

/-- `low`: inside a round its cost; between rounds any bound that fits (`GOrd`): 0 in the fresh enumerator, then the cost of
    the round that ended -/
structure OSt (E : Env S) (s : St S) (low : Int) : Prop where
  mono : s.costList.Pairwise (· < ·)
  nonneg : ∀ x ∈ s.costList, 0 ≤ x
  low_nn : 0 ≤ low
  cl_le : ∀ x ∈ s.costList, x ≤ low
  heaps : HAll s
  q : QAll (QOk E low) s
  d : DAll (DOk E s.costList) s

theorem ost_of_eq (E : Env S) {s s' : St S} {low : Int} (hc : s'.costList = s.costList) (hq : s'.queued = s.queued)
    (hd : s'.delayed = s.delayed) (h : OSt E s low) : OSt E s' low := by
  refine ⟨by rw [hc]; exact h.mono, by rw [hc]; exact h.nonneg, h.low_nn, by rw [hc]; exact h.cl_le, ?_, ?_, ?_⟩
  · intro nt l hm; rw [hq] at hm; exact h.heaps _ _ hm
  · intro nt l hm; rw [hq] at hm; exact h.q _ _ hm
  · intro nt l hm; rw [hd] at hm; rw [hc]; exact h.d _ _ hm

theorem OSt.snoc_nonneg {E : Env S} {s : St S} {low : Int} (h : OSt E s low) : ∀ x ∈ s.costList ++ [low], 0 ≤ x := fun x hx =>
  (List.mem_append.mp hx).elim (h.nonneg x) fun hx => List.mem_singleton.mp hx ▸ h.low_nn

theorem trigger_index (E : Env S) (cl : List Int) (cost : Int) (nt : NT S Unit) (idx : List Nat) (P : Sym)
    (chk : Option Nat) (hd : DOk E cl nt (idx, P, chk)) (hn : needsDelay (cl ++ [cost]) idx chk = some false) :
    ∃ i, i < idx.length ∧ idx[i]? = some cl.length := by
  -- the position that was beyond `cl` is inside `cl ++ [cost]`
  obtain ⟨i, v, hv, hge, hc⟩ := needsDelay_true hd.1
  have hlt := needsDelay_false hn hc hv
  simp only [List.length_append, List.length_singleton] at hlt
  obtain rfl : v = cl.length := by omega
  exact ⟨i, (List.getElem?_eq_some_iff.mp hv).1, hv⟩

/-- a re-triggered combination that gets queued uses the new (last) cost -/
theorem trigger_low (E : Env S) (hw : NNW E) (cl : List Int) (cost : Int) (hnn : ∀ x ∈ cl ++ [cost], 0 ≤ x)
    (nt : NT S Unit) (idx : List Nat) (P : Sym) (chk : Option Nat) (c : Int)
    (hd : DOk E cl nt (idx, P, chk)) (hn : needsDelay (cl ++ [cost]) idx chk = some false)
    (hc : realCost E (cl ++ [cost]) nt P idx = some c) : cost ≤ c ∧ 0 ≤ c := by
  obtain ⟨i, hi, hiv⟩ := trigger_index E cl cost nt idx P chk hd hn
  obtain ⟨_, args, ha, hlen⟩ := hd
  simp only at ha hlen
  obtain ⟨w, hwc, hc⟩ := (realCost_eq_some_of_args ha).mp hc
  obtain ⟨h1, h2⟩ := realCostLoop_lower (cl ++ [cost]) idx hnn _ _ _ _ hc
  have hx : (cl ++ [cost])[cl.length]? = some cost := by simp
  have := h2 i cl.length cost (by omega) (by omega) hiv hx
  have hw0 := hw nt P w hwc
  have hcost0 : 0 ≤ cost := hnn cost (by simp)
  exact ⟨by omega, by omega⟩

/-- the order invariant of the generator: `b` is a lower bound of every cost still to come -/
def GOrd (E : Env S) (g : Gen S) (b : Int) : Prop :=
  match g.phase.cost? with
  | some c => OSt E g.st c ∧ b ≤ c
  | none => ∃ low, OSt E g.st low ∧ b ≤ low

theorem GOrd.inRound {E : Env S} {g : Gen S} {b c : Int} (h : GOrd E g b) (hc : g.phase.cost? = some c) :
    OSt E g.st c ∧ b ≤ c := by
  unfold GOrd at h; rw [hc] at h; exact h

theorem GOrd.between {E : Env S} {g : Gen S} {b : Int} (h : GOrd E g b) (hc : g.phase.cost? = none) :
    ∃ low, OSt E g.st low ∧ b ≤ low := by
  unfold GOrd at h; rw [hc] at h; exact h

theorem ost_of_gord (E : Env S) (g : Gen S) (b : Int) (h : GOrd E g b) : ∃ low, OSt E g.st low := by
  cases hc : g.phase.cost? with
  | none => obtain ⟨low, h1, _⟩ := h.between hc; exact ⟨low, h1⟩
  | some c => exact ⟨c, (h.inRound hc).1⟩

theorem pairwise_append_lt (cl : List Int) (c : Int) (hm : cl.Pairwise (· < ·)) (hle : ∀ x ∈ cl, x ≤ c)
    (hne : cl.getLast? ≠ some c) : (cl ++ [c]).Pairwise (· < ·) := by
  refine pairwise_snoc hm fun x hx => ?_
  have hxc := hle x hx
  -- were `x = c`: `c` is in `cl` and not at its end, so the last entry would be above `c`
  have hl := List.getLast?_eq_some_getLast (List.ne_nil_of_mem hx)
  rcases eq_or_rel_getLast hm hl hx with e | hlt
  · have : x ≠ c := fun he => hne (hl.trans (congrArg some (e.symm.trans he)))
    omega
  · have := hle _ (List.mem_of_getLast? hl); omega

theorem step_order (E : Env S) (hw : NNW E) (g g' : Gen S) (out : Option Prog) (b : Int)
    (h : step E g = some (g', out)) (hi : GInv E g) (ho : GOrd E g b) : GOrd E g' b := by
  cases step_cases h with
  | done | init | stop _ | endPend => exact ho
  | endRound => exact ⟨_, ho⟩
  | @leave st _ _ succ cost nt rest maxi ci _ => exact ⟨ost_of_eq E (s := st) rfl rfl rfl ho.1, ho.2⟩
  | @round st _ _ nt nts cost _ hnc _ =>
    obtain ⟨low, hos, hbl⟩ : ∃ low, OSt E st low ∧ b ≤ low := ho
    obtain ⟨hmin, nt0, l0, e0, hm0, he0, hc0⟩ := nextCheapest_min st hos.heaps _ _ hnc
    have hq0 := hos.q _ _ hm0 _ he0
    have hlc : low ≤ cost := by rw [← hc0]; exact hq0.1
    refine ⟨⟨hos.mono, hos.nonneg, by rw [← hc0]; exact hq0.2.1, fun x hx => Int.le_trans (hos.cl_le x hx) hlc,
      hos.heaps, ?_, hos.d⟩, Int.le_trans hbl hlc⟩
    intro nt1 l1 hm1 e1 he1
    exact ⟨hmin _ _ hm1 _ he1, (hos.q _ _ hm1 _ he1).2⟩
  | @addCost st _ _ succ cost nt rest s1 ci hac =>
    obtain ⟨hos, hbc⟩ : OSt E st cost ∧ b ≤ cost := ho
    have hos0 : OSt E { st with maxIndex := AList.insert nt ((AList.lookup nt st.maxIndex).getD 0) st.maxIndex } cost :=
      ost_of_eq E (s := st) rfl rfl rfl hos
    have hnn' := hos.snoc_nonneg
    have hac' := addCost_all E (QOk E cost) (DOk E st.costList) (DOk E (st.costList ++ [cost])) hac
      (fun nt idx P chk c hd hn hc => by
        obtain ⟨h1, h2⟩ := trigger_low E hw st.costList cost hnn' nt idx P chk c hd hn hc
        exact ⟨h1, h2, hd.2⟩)
      (fun nt idx P chk hd hn => ⟨hn, hd.2⟩) hos0.q hos0.d
    refine ⟨?_, hbc⟩
    rcases hac'.cases with ⟨rfl, _⟩ | ⟨hcl, hne, _, hq, hd⟩
    · exact hos0
    · refine ⟨?_, by rw [hcl]; exact hnn', hos.low_nn, ?_, addCost_heaps E _ s1 cost ci hac hos0.heaps, hq,
        by rw [hcl]; exact hd⟩
      · rw [hcl]; exact pairwise_append_lt _ _ hos.mono hos.cl_le hne
      · rw [hcl]; intro x hx
        rcases List.mem_append.mp hx with hx | hx
        · exact hos.cl_le x hx
        · rw [List.mem_singleton.mp hx]; exact Int.le_refl _
  | @pop st _ _ succ cost nt rest maxi ci top tl q' args s2 maxi' ph hq htop hpop hargs hsl hout =>
    obtain ⟨hos, hbc⟩ : OSt E st cost ∧ b ≤ cost := ho
    have helq : top ∈ st.queueOf nt := by rw [hq]; exact List.mem_cons_self
    have hel : realCost E st.costList nt top.P top.combo = some top.cost := hi.st.queue.of_queueOf helq
    obtain ⟨_, _, targs, htargs, htlen⟩ := hos.q.of_queueOf helq
    have hh1 : HAll (st.setQueue nt q') :=
      hos.heaps.setQueue (pop_isHeap ltE_weakOrder _ _ _ (queueOf_isHeap hos.heaps nt) hpop).1
    -- a successor costs at least as much as the popped combination: the cost list is increasing
    have hQ : ∀ i v c, top.combo[i]? = some v →
        needsDelay st.costList (top.combo.set i (v + 1)) (some i) = some false →
        realCost E st.costList nt top.P (top.combo.set i (v + 1)) = some c →
        QOk E cost nt ⟨c, top.combo.set i (v + 1), top.P⟩ := by
      intro i v c hv _ hc
      have hle : top.cost ≤ c := (realCost_set E hos.mono hargs hv hel hc).1
      have hl0 := hos.low_nn
      exact ⟨show cost ≤ c by omega, show 0 ≤ c by omega, targs, htargs, by simpa using htlen⟩
    obtain ⟨hqd, hq2, hd2⟩ := succLoop_all E (QOk E cost) (DOk E st.costList) nt top.P top.combo
      st.costList hQ (fun i v _ hn => ⟨hn, targs, htargs, by simpa using htlen⟩) _ _ _ _ _ _ hsl rfl (hos.q.pop hpop) hos.d
    have hos2 : OSt E s2 cost :=
      ⟨by rw [hqd.cl]; exact hos.mono, by rw [hqd.cl]; exact hos.nonneg, hos.low_nn,
       by rw [hqd.cl]; exact hos.cl_le, succLoop_heaps E nt top.P top.combo _ _ _ _ _ _ hsl hh1, hq2,
       by rw [hqd.cl]; exact hd2⟩
    rcases hout with ⟨_, rfl⟩ | ⟨aps, _, rfl⟩ <;> exact ⟨hos2, hbc⟩
  | @offer st _ _ succ cost nt rest maxi ci p ps y _ =>
    obtain ⟨fq, fd, fc⟩ := addProgram_frame E st nt p ci
    exact ⟨ost_of_eq E fc fq fd ho.1, ho.2⟩

end PS.Bee
