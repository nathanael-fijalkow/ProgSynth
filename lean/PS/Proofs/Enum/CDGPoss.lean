/- The frontier theorem on the machine together with the pools stored in `_bank_derivation`.  Every list of pools stored
   in `_bank_derivation[args][ci]` is the list of references `(args[i], comb[i])` of an index tuple `comb` that has been
   expanded, hence (frontier theorem: no index tuple is expanded twice) no list of pools is stored twice — neither
   inside one cost index nor under two cost indices.
   Every arithmetic, grammar, filter, fuel; nested and re-entrant queries (limbo `Λ` as in CDTuples.lean). -/
import PS.Proofs.Enum.CDTuples
import PS.Proofs.Enum.CDSound
namespace PS.CD
variable {α : Type}

theorem refsOf_inj (args : List NT) (c c' : List Nat) : c.length = args.length → c'.length = args.length →
    refsOf args c = refsOf args c' → c = c' := by
  induction args generalizing c c' with
  | nil => intro h1 h2 _; rw [List.length_eq_zero_iff.mp h1, List.length_eq_zero_iff.mp h2]
  | cons a as ih =>
    intro h1 h2 h
    obtain ⟨x, c, rfl⟩ := List.exists_cons_of_length_eq_add_one h1
    obtain ⟨y, c', rfl⟩ := List.exists_cons_of_length_eq_add_one h2
    obtain ⟨hx, hr⟩ := List.cons.inj h
    rw [(Prod.mk.inj (Option.some.inj hx)).2, ih c c' (Nat.succ.inj h1) (Nat.succ.inj h2) hr]

/-- `ps ∈ _bank_derivation[args][c]`: `AList.At bd args c ps` written out, as `InBankAt` (CDStep.lean) -/
def PossAt (bd : BD) (args : List NT) (c : Nat) (ps : List Ref) : Prop :=
  ∃ b l, AList.lookup args bd = some b ∧ AList.lookup c b = some l ∧ ps ∈ l

/-- the pools stored for `args`: no list of pools twice, each is `refsOf args comb` of an expanded index tuple -/
def PossD (bd : BD) (args : List NT) (D : List (List Nat)) : Prop :=
  (∀ b c l, AList.lookup args bd = some b → AList.lookup c b = some l → l.Nodup) ∧
  (∀ c c' ps, PossAt bd args c ps → PossAt bd args c' ps → c = c') ∧
  (∀ c ps, PossAt bd args c ps → ∃ comb ∈ D, comb.length = args.length ∧ ps = refsOf args comb)

/-- the joint invariant: queues well formed, index tuples of the right length, frontier invariant with the
    limbo tuples `Λ args`, stored pools = expanded index tuples -/
def TInv2 (s : St α) (Λ : List NT → List (List Nat)) : Prop :=
  ∀ args, (∀ q, AList.lookup args s.queueDer = some q → QWF q) ∧
    (∀ t ∈ contentsOf s args ++ Λ args, t.length = args.length) ∧
    ∃ D, FrontInv ⟨contentsOf s args ++ Λ args, D⟩ ∧ PossD s.bankDer args D

theorem tinv2_of_eq {s s' : St α} {Λ : List NT → List (List Nat)} (h1 : s'.queueDer = s.queueDer)
    (h2 : s'.bankDer = s.bankDer) (h : TInv2 s Λ) : TInv2 s' Λ := by
  unfold TInv2 contentsOf; rw [h1, h2]; exact h

theorem possAt_insert_ne {bd : BD} {args a : List NT} {b' : AList Nat (List (List Ref))} (hne : a ≠ args) (c : Nat)
    (ps : List Ref) : PossAt (AList.insert args b' bd) a c ps ↔ PossAt bd a c ps := by
  unfold PossAt; rw [AList.lookup_insert_ne _ _ hne]

theorem possD_insert_ne {bd : BD} {args a : List NT} {b' : AList Nat (List (List Ref))} (hne : a ≠ args)
    (D : List (List Nat)) (h : PossD bd a D) : PossD (AList.insert args b' bd) a D := by
  obtain ⟨h1, h2, h3⟩ := h
  refine ⟨?_, ?_, ?_⟩
  · intro b c l hb hl
    rw [AList.lookup_insert_ne _ _ hne] at hb
    exact h1 b c l hb hl
  · intro c c' ps hp hp'
    exact h2 c c' ps ((possAt_insert_ne hne c ps).mp hp) ((possAt_insert_ne hne c' ps).mp hp')
  · intro c ps hp
    exact h3 c ps ((possAt_insert_ne hne c ps).mp hp)

/-- `self._bank_derivation[args][cost_index] = []` for a new cost index -/
theorem possD_insert_nil {bd : BD} {args : List NT} {b : AList Nat (List (List Ref))} {ci : Nat} {D : List (List Nat)}
    (hb : AList.lookup args bd = some b) (h : PossD bd args D) :
    PossD (AList.insert args (AList.insert ci [] b) bd) args D := by
  obtain ⟨h1, h2, h3⟩ := h
  refine ⟨fun b2 c l hb2 hl => ?_, fun c c' ps hp hp' => h2 c c' ps (AList.at_nil hb hp) (AList.at_nil hb hp'),
    fun c ps hp => h3 c ps (AList.at_nil hb hp)⟩
  rw [AList.lookup_insert_self] at hb2
  cases hb2
  exact AList.forall_insert (P := fun _ l => l.Nodup) (fun c l _ hl => h1 b c l hb hl) List.nodup_nil c l hl

/-- `self._bank_derivation[args][cost_index].append(args_possibles)` for the pools of a fresh index tuple -/
theorem possD_append {bd : BD} {args : List NT} {b : AList Nat (List (List Ref))} {ci : Nat} {l : List (List Ref)}
    {D : List (List Nat)} {comb : List Nat} (hb : AList.lookup args bd = some b) (hl : AList.lookup ci b = some l)
    (h : PossD bd args D) (hfresh : ∀ c ps, PossAt bd args c ps → ps ≠ refsOf args comb) (hD : comb ∈ D)
    (hlen : comb.length = args.length) :
    PossD (AList.insert args (AList.insert ci (l ++ [refsOf args comb]) b) bd) args D := by
  obtain ⟨h1, h2, h3⟩ := h
  refine ⟨?_, ?_, ?_⟩
  · intro b2 c l2 hb2 hl2
    rw [AList.lookup_insert_self] at hb2
    cases hb2
    refine AList.forall_insert (P := fun _ l => l.Nodup) (fun c l _ hl => h1 b c l hb hl) ?_ c l2 hl2
    exact List.nodup_append.mpr ⟨h1 b ci l hb hl, by simp, fun x hx y hy hxy =>
      hfresh ci x ⟨b, l, hb, hl, hx⟩ (hxy.trans (List.mem_singleton.mp hy))⟩
  · exact AList.at_append_inj hb hl (fun _ c hp => hfresh c _ hp rfl) h2
  · intro c ps hp
    rcases (AList.at_append (y := refsOf args comb) hb hl args c ps).mp hp with a | a
    · exact h3 c ps a
    · exact ⟨comb, hD, hlen, a.2.2⟩

theorem possD_mono {bd : BD} {args : List NT} {D D' : List (List Nat)} (h : PossD bd args D) (hsub : ∀ t ∈ D, t ∈ D') :
    PossD bd args D' := by
  obtain ⟨h1, h2, h3⟩ := h
  refine ⟨h1, h2, ?_⟩
  intro c ps hp
  obtain ⟨comb, hc, hl, he⟩ := h3 c ps hp
  exact ⟨comb, hsub comb hc, hl, he⟩

/-- what `TInv2` asks beside the frontier invariant -/
def Stored (bd : BD) (args : List NT) (F D : List (List Nat)) : Prop :=
  (∀ t ∈ F, t.length = args.length) ∧ PossD bd args D

theorem pools_stored : Pools Stored := by
  have expand : ∀ {bd args F F' D comb}, Stored bd args F D → comb ∈ F → (∀ t ∈ F', t ∈ F ∨ t ∈ succs comb) →
      Stored bd args F' (comb :: D) := fun h hc hF =>
    ⟨fun t ht => (hF t ht).elim (h.1 t) fun hs => (succs_length _ t hs).trans (h.1 _ hc),
      possD_mono h.2 fun t ht => List.mem_cons_of_mem _ ht⟩
  refine ⟨fun he h => ⟨h.1, possD_insert_ne he _ h.2⟩, fun hb h => ⟨h.1, possD_insert_nil hb h.2⟩,
    fun hp h => ⟨fun t ht => h.1 t (hp.mem_iff.mpr ht), h.2⟩, expand, ?_⟩
  intro bd args F F' D comb b ci l h hc hD hF hb hl
  have h' := expand h hc hF
  -- the pools of `comb` are new: every stored list of pools is that of an expanded tuple, and `comb` was not expanded
  refine ⟨h'.1, possD_append hb hl h'.2 (fun c ps hp he => ?_) (by simp) (h.1 comb hc)⟩
  obtain ⟨comb', hc', hl', he'⟩ := h.2.2.2 c ps hp
  rw [he] at he'
  exact hD (refsOf_inj args comb comb' (h.1 comb hc) hl' he' ▸ hc')

/-- `TInv2` is `TInvK True Stored` with its conjuncts in another order: the induction over `Exec` is done once, for
    `TInvK` (`Exec.tinvK`, CDTuples.lean), and comes here through this equivalence -/
theorem tinv2_iff {s : St α} {Λ : List NT → List (List Nat)} : TInv2 s Λ ↔ TInvK True Stored s Λ :=
  ⟨fun h a _ => let ⟨h1, h2, D, h3, h4⟩ := h a; ⟨h1, D, h3, h2, h4⟩,
   fun h a => let ⟨h1, D, h3, h2, h4⟩ := h a (fun _ => trivial); ⟨h1, h2, D, h3, h4⟩⟩

theorem tinv2_setBankDer {s : St α} {Λ : List NT → List (List Nat)} {args : List NT} {b' : AList Nat (List (List Ref))}
    (h : TInv2 s Λ) (hP : ∀ D, PossD s.bankDer args D → PossD (AList.insert args b' s.bankDer) args D) :
    TInv2 { s with bankDer := AList.insert args b' s.bankDer } Λ :=
  tinv2_iff.2 ((tinv2_iff.1 h).setBankDer pools_stored fun _ D hk => ⟨hk.1, hP D hk.2⟩)

theorem tinv2_setQueueDer {s : St α} {Λ Λ' : List NT → List (List Nat)} {args : List NT} {q : Q α} (h : TInv2 s Λ)
    (hq : QWF q) (hp : (contentsOf s args ++ Λ args).Perm (q.contents ++ Λ' args)) (hΛ : ∀ a, a ≠ args → Λ' a = Λ a) :
    TInv2 (s.setQueueDer args q) Λ' :=
  tinv2_iff.2 ((tinv2_iff.1 h).setQueueDer pools_stored (fun _ => trivial) hq hp hΛ)

theorem Exec.tinv2 {E : Env α} {s s' : St α} {c : Call α} (h : Exec E s c s') {Λ : List NT → List (List Nat)}
    (hs : TInv2 s (c.pending Λ)) : TInv2 s' Λ :=
  tinv2_iff.mpr (h.tinvK pools_stored (tinv2_iff.mp hs))

structure TOk2 (E : Env α) (f : Nat) : Prop where
  resume : ∀ s fr r Λ, resume E f s fr = some r → TInv2 s Λ → TInv2 r.st Λ
  drive : ∀ s fr s' Λ, drive E f s fr = some s' → TInv2 s Λ → TInv2 s' Λ
  queryList : ∀ s S ci s' ia r Λ, queryList E f s S ci = some (s', ia, r) → TInv2 s Λ → TInv2 s' Λ
  argLoop : ∀ s cs ss ia agf acc s' ia' agf' acc' Λ,
    argLoop E f s cs ss ia agf acc = some (s', ia', agf', acc') → TInv2 s Λ → TInv2 s' Λ
  combLoop : ∀ s args ci c combs ns hg s' ns' hg' Λ,
    combLoop E f s args ci c combs ns hg = some (s', ns', hg') → TInv2 s (addT Λ args combs) → TInv2 s' Λ
  queryDer : ∀ s args ci s' l Λ, queryDer E f s args ci = some (s', l) → TInv2 s Λ → TInv2 s' Λ

theorem tok2_all (E : Env α) (f : Nat) : TOk2 E f where
  resume _ _ r _ h hs := by
    have := ((sound E f).resume h).tinv2 hs
    cases r <;> exact this
  drive _ _ _ _ h := ((sound E f).drive h).tinv2
  queryList _ _ _ _ _ _ _ h := ((sound E f).queryList h).tinv2
  argLoop _ _ _ _ _ _ _ _ _ _ _ h := ((sound E f).argLoop h).tinv2
  combLoop _ _ _ _ _ _ _ _ _ _ _ h := ((sound E f).combLoop h).tinv2
  queryDer _ _ _ _ _ _ h := ((sound E f).queryDer h).tinv2

theorem tinv2_possU {s : St α} {Λ : List NT → List (List Nat)} (h : TInv2 s Λ) (args : List NT) :
    (∀ b c l, AList.lookup args s.bankDer = some b → AList.lookup c b = some l → l.Nodup) ∧
    (∀ c c' ps, PossAt s.bankDer args c ps → PossAt s.bankDer args c' ps → c = c') := by
  obtain ⟨_, _, D, _, h1, h2, _⟩ := h args
  exact ⟨h1, h2⟩

theorem TInv2.tinv {s : St α} {Λ : List NT → List (List Nat)} (h : TInv2 s Λ) : TInv s Λ := fun args q hq =>
  have ⟨h1, _, D, hf, _⟩ := h args
  ⟨h1 q hq, D, contentsOf_some hq ▸ hf⟩

end PS.CD
