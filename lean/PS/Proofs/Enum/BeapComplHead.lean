/- Completeness of beap search: after the prologue the start symbol has a first cost, and it is the cost of the head of
   its queue. -/
import PS.Proofs.Enum.BeapOrderRun
namespace PS.Beap
open PS PS.G PS.Heapq
set_option linter.unusedSectionVars false
variable {S : Type} [DecidableEq S]

def HeadAt (s : St S) (nt : NT S Unit) : Prop :=
  ∀ c, (s.clOf nt)[0]? = some c → ∃ e q, s.queueOf nt = e :: q ∧ e.cost = c

theorem prologue_start_ne (E : Env S) (fuel : Nat) (s' : St S) (h : prologue E fuel (St.empty E.G) = some s') :
    s'.clOf E.G.start ≠ [] :=
  let ⟨s1, hin, hre⟩ := prologue_cases h
  reevaluate_ne E fuel s1 s' hre _ ((init_keep E fuel).nt hin).2.1

theorem prologue_he (E : Env S) (fuel : Nat) (s' : St S) (h : prologue E fuel (St.empty E.G) = some s') : HeadAt s' E.G.start :=
  (prologue_left E fuel s' h _ (prologue_start_ne E fuel s' h)).head

end PS.Beap
