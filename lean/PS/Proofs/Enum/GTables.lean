/- Structure of the successor tables (`TInv`; acyclic grammar, with or without filter): keys are popped programs, there
   is a last popped program (tip), the sentinel entry exists as soon as the table is not empty and
   is the first pop of the initial heap, every popped program is reached from the sentinel. -/
import PS.Proofs.Enum.GBig
namespace PS.HG
open PS PS.G PS.HS
set_option linter.unusedSectionVars false
variable {S π : Type} [DecidableEq S]

structure TInv (E : Env S Unit π) (H0 : NT S Unit → List (π × Prog)) (s : St S Unit π) : Prop where
  kv : ∀ nt x v, AList.lookup (some x) (s.succOf nt) = some v → ∃ k, AList.lookup k (s.succOf nt) = some x
  tip : ∀ nt, s.succOf nt ≠ [] →
    ∃ k v, AList.lookup k (s.succOf nt) = some v ∧ AList.lookup (some v) (s.succOf nt) = none
  none_first : ∀ nt, s.succOf nt ≠ [] → (AList.lookup none (s.succOf nt)).isSome = true
  reach : ∀ nt k v, AList.lookup k (s.succOf nt) = some v →
    ∃ l, chainFrom (s.succOf nt) none (l ++ [v]) ∧ lastOr none l = k
  first_val : ∀ nt v, AList.lookup none (s.succOf nt) = some v →
    ∃ e h', Heapq.pop (ltE E.ops) (H0 nt) = some (e, h') ∧ e.2 = v

theorem TInv.congr {E : Env S Unit π} {H0 : NT S Unit → List (π × Prog)} {s s' : St S Unit π}
    (h : TInv E H0 s) (hs : ∀ nt, s'.succOf nt = s.succOf nt) : TInv E H0 s' := by
  refine ⟨?_, ?_, ?_, ?_, ?_⟩
  · intro nt x v hk; rw [hs] at hk ⊢; exact h.kv nt x v hk
  · intro nt hne; rw [hs] at hne ⊢; exact h.tip nt hne
  · intro nt hne; rw [hs] at hne ⊢; exact h.none_first nt hne
  · intro nt k v hk; rw [hs] at hk ⊢; exact h.reach nt k v hk
  · intro nt v hk; rw [hs] at hk; exact h.first_val nt v hk

theorem tinv_push (E : Env S Unit π) (V : Val E) (H0 : NT S Unit → List (π × Prog)) : PushStep E V H0 (TInv E H0) :=
  fun s1 F args nt i r _ _ _ _ hP _ => hP.congr fun nt' => succOf_pushStep E s1 F args nt nt' i r

theorem tinv_pop (E : Env S Unit π) (V : Val E) (H0 : NT S Unit → List (π × Prog)) : PopStep E V H0 (TInv E H0) := by
  intro s nt key e h' hf hP hp _ hkey hnone
  have hsucc := popTake_succOf s nt key e h'
  have hlk : ∀ k, AList.lookup k ((s.popTake nt key e h').succOf nt) =
      if k = key then some e.2 else AList.lookup k (s.succOf nt) := by
    intro k; rw [hsucc]; simp only [if_true]; rw [AList.lookup_insert]
  have hother : ∀ nt', nt' ≠ nt → (s.popTake nt key e h').succOf nt' = s.succOf nt' :=
    fun nt' hne => popTake_succOf_ne s key e h' hne
  have hstab : ∀ k v, AList.lookup k (s.succOf nt) = some v →
      AList.lookup k ((s.popTake nt key e h').succOf nt) = some v := stable_popTake e h' hnone nt
  obtain ⟨hm, _⟩ := Heapq.mem_of_pop _ _ _ _ hp
  have he_heap : e.2 ∈ s.heapProgs nt := List.mem_map.mpr ⟨e, hm, rfl⟩
  have he_noval : ∀ k, AList.lookup k (s.succOf nt) ≠ some e.2 :=
    fun k hk => hf.ninv.succ_out nt k e.2 hk he_heap
  refine ⟨?_, ?_, ?_, ?_, ?_⟩
  · intro nt' x v hk
    by_cases hne : nt' = nt
    · subst hne
      rw [hlk] at hk
      split at hk
      · rename_i heq
        obtain ⟨k, hk'⟩ := hkey x heq.symm
        exact ⟨k, hstab k x hk'⟩
      · obtain ⟨k, hk'⟩ := hP.kv _ x v hk
        exact ⟨k, hstab k x hk'⟩
    · rw [hother nt' hne] at hk ⊢; exact hP.kv nt' x v hk
  · intro nt' hne'
    by_cases hne : nt' = nt
    · subst hne
      refine ⟨key, e.2, by rw [hlk]; simp, ?_⟩
      rw [hlk]
      split
      · rename_i heq
        obtain ⟨k, hk'⟩ := hkey e.2 heq.symm
        exact absurd hk' (he_noval k)
      · cases hl : AList.lookup (some e.2) (s.succOf nt') with
        | none => rfl
        | some v =>
          obtain ⟨k, hk'⟩ := hP.kv _ e.2 v hl
          exact absurd hk' (he_noval k)
    · rw [hother nt' hne] at hne' ⊢; exact hP.tip nt' hne'
  · intro nt' hne'
    by_cases hne : nt' = nt
    · subst hne
      rw [hlk]
      split
      · rfl
      · rename_i hk
        cases key with
        | none => exact absurd rfl hk
        | some x =>
          obtain ⟨k, hk'⟩ := hkey x rfl
          apply hP.none_first
          intro hempty; rw [hempty] at hk'; simp at hk'
    · rw [hother nt' hne] at hne' ⊢; exact hP.none_first nt' hne'
  · intro nt' k v hk
    by_cases hne : nt' = nt
    · subst hne
      have hst : ∀ k v, AList.lookup k (s.succOf nt') = some v →
          AList.lookup k ((s.popTake nt' key e h').succOf nt') = some v := hstab
      rw [hlk] at hk
      split at hk
      · rename_i heq
        cases hk
        subst heq
        cases k with
        | none =>
          refine ⟨[], ?_, rfl⟩
          simp only [List.nil_append, chainFrom, and_true]
          rw [hlk]; simp
        | some x =>
          obtain ⟨k0, hk0⟩ := hkey x rfl
          obtain ⟨l0, hc0, _⟩ := hP.reach _ k0 x hk0
          refine ⟨l0 ++ [x], ?_, lastOr_snoc _ _ _⟩
          rw [chainFrom_snoc]
          refine ⟨chainFrom_stable hst _ _ hc0, ?_⟩
          rw [lastOr_snoc, hlk]; simp
      · obtain ⟨l, hc, hl⟩ := hP.reach _ k v hk
        exact ⟨l, chainFrom_stable hst _ _ hc, hl⟩
    · rw [hother nt' hne] at hk ⊢; exact hP.reach nt' k v hk
  · intro nt' v hk
    by_cases hne : nt' = nt
    · subst hne
      rw [hlk] at hk
      split at hk
      · rename_i heq
        cases hk
        -- the enumeration starts: the table was empty, the heap is the initial one
        have hempty : s.succOf nt' = [] := by
          cases hl : s.succOf nt' with
          | nil => rfl
          | cons p r =>
            have := hP.none_first nt' (by rw [hl]; simp)
            rw [heq, hnone] at this
            cases this
        rw [hf.oinv.fresh nt' hempty] at hp
        exact ⟨e, h', hp, rfl⟩
      · exact hP.first_val _ v hk
    · rw [hother nt' hne] at hk; exact hP.first_val nt' v hk

theorem tinv_skip (E : Env S Unit π) (V : Val E) (H0 : NT S Unit → List (π × Prog)) : SkipStep E V H0 (TInv E H0) :=
  fun _ _ _ _ _ hP _ _ => hP.congr (fun _ => rfl)

theorem big_tinv {E : Env S Unit π} {rank} {Good} (L : Law E rank Good) {H0 : NT S Unit → List (π × Prog)}
    {c : Call S Unit} {s s' : St S Unit π} {r : Option Prog} (hb : Big E c s s' r)
    (hf : Full E H0 s) (h1 : SPre E c) (h2 : NPre c s) (h3 : OPre E H0 c s) (hP : TInv E H0 s) : TInv E H0 s' :=
  big_prim (L.ordLaw (E.ops.ofRule 0)) (TInv E H0) (tinv_pop E _ H0) (tinv_skip E _ H0) (tinv_push E _ H0) hb
    (Full.iffT.mp hf) h1 h2 ((OPre.iffT hf.oinv.val_prio).mp h3) hP

end PS.HG
