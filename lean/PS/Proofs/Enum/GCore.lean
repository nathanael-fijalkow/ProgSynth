/- Heap search over any priority type, with threshold and filter, on context-free grammars (`TT S Unit`): the laws asked
   of the priority order, the state invariants, and their preservation by the three table writes (`popTake`, `popSkip`,
   `pushStep`). -/
import PS.Proofs.Enum.HeapMap
import PS.Proofs.Enum.HSSoundInit
import PS.Proofs.Enum.HSNodupRun
import PS.Proofs.Enum.HSHeaps
import PS.Proofs.AList
namespace PS.HG
open PS PS.G PS.HS
set_option linter.unusedSectionVars false
variable {S π : Type} [DecidableEq S]

/-- laws of the priority order: a strict weak order on the `Good` priorities (all the priorities of
    a run are `Good`), acyclic grammar, replacing an argument by one that is not better gives a
    program that is not better -/
structure Law (E : Env S Unit π) (rank : NT S Unit → Nat) (Good : π → Prop) : Prop where
  weak : Heapq.WeakOrderOn Good E.ops.lt
  good : ∀ p nt v, prioSpec E p nt = some v → Good v
  thr_good : ∀ t, E.ops.thr = some t → Good t
  acyclic : ∀ nt F ra, E.G.rule? nt F = some (ra, ()) → ∀ a ∈ ra, rank (argNT a) < rank nt
  mono : ∀ nt F ra args (i : Nat) q ai a pq pa pF pF', E.G.rule? nt F = some (ra, ()) → genList E.G args ra = true →
    ra[i]? = some a → args[i]? = some ai → gen E.G q (argNT a) = true →
    prioSpec E q (argNT a) = some pq → prioSpec E ai (argNT a) = some pa → E.ops.lt pq pa = false →
    prioSpec E (.node F args) nt = some pF → prioSpec E (.node F (args.set i q)) nt = some pF' →
    E.ops.lt pF' pF = false

/-- the part of `Law` that compares heap elements and tests the threshold (no grammar, no `combine`) -/
structure HeapLaw (E : Env S Unit π) (Good : π → Prop) : Prop where
  weak : Heapq.WeakOrderOn Good E.ops.lt
  good : ∀ p nt v, prioSpec E p nt = some v → Good v
  thr_good : ∀ t, E.ops.thr = some t → Good t

theorem Law.heap {E : Env S Unit π} {rank} {Good} (L : Law E rank Good) : HeapLaw E Good := ⟨L.weak, L.good, L.thr_good⟩

theorem ltE_on {ops : Prio π} {Good : π → Prop} (w : Heapq.WeakOrderOn Good ops.lt) :
    Heapq.WeakOrderOn (fun e : π × Prog => Good e.1) (ltE ops) :=
  ⟨fun a b h => w.asymm a.2 b.2 h, fun a b c h1 h2 => w.ntrans a.2 b.2 c.2 h1 h2⟩

theorem HeapLaw.ltE {E : Env S Unit π} {Good} (L : HeapLaw E Good) :
    Heapq.WeakOrderOn (fun e : π × Prog => Good e.1) (ltE E.ops) := ltE_on L.weak

theorem HeapLaw.pushOK_mono {E : Env S Unit π} {Good} (L : HeapLaw E Good) {p p' : π} (hp : Good p) (hp' : Good p')
    (hle : E.ops.lt p p' = false) (h : pushOK E.ops p = true) : pushOK E.ops p' = true := by
  unfold pushOK at h ⊢
  cases ht : E.ops.thr with
  | none => rfl
  | some t =>
    rw [ht] at h
    simp only at h ⊢
    have hg := L.thr_good t ht
    cases hlt : E.ops.lt p' t with
    | true => rfl
    | false =>
      -- t ≤ p' ≤ p contradicts p < t
      have := L.weak.ntrans hg hp' hp hlt hle
      rw [h] at this; cases this

theorem Law.ltE {E : Env S Unit π} {rank} {Good} (L : Law E rank Good) :
    Heapq.WeakOrderOn (fun e : π × Prog => Good e.1) (ltE E.ops) := L.heap.ltE

theorem Law.pushOK_mono {E : Env S Unit π} {rank} {Good} (L : Law E rank Good) {p p' : π} (hp : Good p) (hp' : Good p')
    (hle : E.ops.lt p p' = false) (h : pushOK E.ops p = true) : pushOK E.ops p' = true := L.heap.pushOK_mono hp hp' hle h

/-- A valuation of the programs: a total priority `pr`, the programs `Def` on which it means something,
    and agreement with the specification there.  Heap search with probabilities: `prob`, every program
    (`HS.valProb`); any priority type: `(prioSpec …).getD d`, where `prioSpec` is defined (`Val.spec'`). -/
structure Val (E : Env S Unit π) where
  pr : Prog → NT S Unit → π
  Def : Prog → NT S Unit → Prop
  spec : ∀ p nt v, gen E.G p nt = true → prioSpec E p nt = some v → Def p nt ∧ pr p nt = v

/-- the part of `Law` that orders the programs, over a valuation (no threshold) -/
structure OrdLaw (E : Env S Unit π) (V : Val E) (rank : NT S Unit → Nat) (Good : π → Prop) : Prop where
  weak : Heapq.WeakOrderOn Good E.ops.lt
  good : ∀ p nt, V.Def p nt → Good (V.pr p nt)
  acyclic : ∀ nt F ra, E.G.rule? nt F = some (ra, ()) → ∀ a ∈ ra, rank (argNT a) < rank nt
  mono : ∀ nt F ra args (i : Nat) q ai a, E.G.rule? nt F = some (ra, ()) → genList E.G args ra = true →
    ra[i]? = some a → args[i]? = some ai → gen E.G q (argNT a) = true →
    V.Def q (argNT a) → V.Def ai (argNT a) → E.ops.lt (V.pr q (argNT a)) (V.pr ai (argNT a)) = false →
    V.Def (.node F args) nt → V.Def (.node F (args.set i q)) nt →
    E.ops.lt (V.pr (.node F (args.set i q)) nt) (V.pr (.node F args) nt) = false

/-- `prioSpec` as a valuation. `d` stands where `prioSpec` is undefined and is never looked at: the instances take
    `E.ops.ofRule 0`, to have some element of `π`. -/
def Val.spec' (E : Env S Unit π) (d : π) : Val E where
  pr p nt := (prioSpec E p nt).getD d
  Def p nt := (prioSpec E p nt).isSome = true
  spec p nt v _ h := by rw [h]; exact ⟨rfl, rfl⟩

/- `Val.spec'` is read through the next two lemmas only: `rw`/`simp` under `getD` would make the unifier unfold
   `prioSpec`, a structural recursion over the nested `Tree`. -/
theorem Val.spec'_some {E : Env S Unit π} {d : π} {p : Prog} {nt : NT S Unit} {v : π} (h : prioSpec E p nt = some v) :
    (Val.spec' E d).Def p nt ∧ (Val.spec' E d).pr p nt = v := by
  show (prioSpec E p nt).isSome = true ∧ (prioSpec E p nt).getD d = v
  rw [h]; exact ⟨rfl, rfl⟩

theorem Val.spec'_def {E : Env S Unit π} {d : π} {p : Prog} {nt : NT S Unit} (h : (Val.spec' E d).Def p nt) :
    prioSpec E p nt = some ((Val.spec' E d).pr p nt) := by
  change (prioSpec E p nt).isSome = true at h
  show prioSpec E p nt = some ((prioSpec E p nt).getD d)
  cases hp : prioSpec E p nt with
  | none => rw [hp] at h; cases h
  | some v => rfl

theorem Law.ordLaw {E : Env S Unit π} {rank} {Good} (L : Law E rank Good) (d : π) :
    OrdLaw E (Val.spec' E d) rank Good := by
  refine ⟨L.weak, fun p nt hd => L.good p nt _ (Val.spec'_def hd), L.acyclic, ?_⟩
  intro nt F ra args i q ai a hr hgl ha hai hgq hdq hdai hle hdF hdF'
  exact L.mono nt F ra args i q ai a _ _ _ _ hr hgl ha hai hgq (Val.spec'_def hdq) (Val.spec'_def hdai) hle
    (Val.spec'_def hdF) (Val.spec'_def hdF')

/-- `NInv` without `no_deleted`: the no-duplicate invariant of a run in which programs may be rejected. -/
structure NInvF (s : St S Unit π) : Prop where
  heap_nodup : ∀ nt, (s.heapProgs nt).Nodup
  heap_seen : ∀ nt p, p ∈ s.heapProgs nt → p ∈ s.seenOf nt
  succ_seen : ∀ nt k v, AList.lookup k (s.succOf nt) = some v → v ∈ s.seenOf nt
  succ_out : ∀ nt k v, AList.lookup k (s.succOf nt) = some v → v ∉ s.heapProgs nt
  succ_inj : ∀ nt k k' v, AList.lookup k (s.succOf nt) = some v → AList.lookup k' (s.succOf nt) = some v → k = k'

theorem NInvF.five {s : St S Unit π} (h : NInvF s) : NInv5 s :=
  ⟨h.heap_nodup, h.heap_seen, h.succ_seen, h.succ_out, h.succ_inj⟩

theorem NInvF.of5 {s : St S Unit π} (h : NInv5 s) : NInvF s :=
  ⟨h.heap_nodup, h.heap_seen, h.succ_seen, h.succ_out, h.succ_inj⟩

theorem NInvF.ofNInv {s : St S Unit π} (h : NInv s) : NInvF s := .of5 h.five

theorem NInvF.popTake {lt : (π × Prog) → (π × Prog) → Bool} {s : St S Unit π} (hi : NInvF s) (nt : NT S Unit)
    (key : Option Prog) (e : π × Prog) (h' : List (π × Prog))
    (h : Heapq.pop lt (s.heapOf nt) = some (e, h'))
    (hkey : AList.lookup key (s.succOf nt) = none) :
    NInvF (s.popTake nt key e h') ∧ Stable s (s.popTake nt key e h') :=
  (hi.five.popTake nt key e h' h hkey).imp_left .of5

theorem NInvF.popSkip {lt : (π × Prog) → (π × Prog) → Bool} {s : St S Unit π} (hi : NInvF s) (nt : NT S Unit)
    (e : π × Prog) (h' : List (π × Prog)) (h : Heapq.pop lt (s.heapOf nt) = some (e, h')) :
    NInvF (s.setHeap nt h') := .of5 (hi.five.popSkip nt e h' h)

theorem NInvF.pushStep {E : Env S Unit π} {s : St S Unit π} (h : NInvF s) (F : Sym) (args : List Prog)
    (nt : NT S Unit) (i : Nat) (r : Option Prog) : NInvF (pushStep E s F args nt i r) := .of5 (h.five.pushStep F args nt i r)

theorem pushNew_views (E : Env S Unit π) (s : St S Unit π) (nt : NT S Unit) (np : Prog) :
    (∀ nt', (pushNew E s nt np).succOf nt' = s.succOf nt') ∧
    (∀ nt', (pushNew E s nt np).seenOf nt' = if nt' = nt then s.seenOf nt ++ [np] else s.seenOf nt') ∧
    (∀ nt' e, e ∈ (pushNew E s nt np).heapOf nt' → e ∈ s.heapOf nt' ∨
      (nt' = nt ∧ e.2 = np ∧ ∃ c', computePrio E s.cache nt np = some (c', e.1))) ∧
    (∀ nt', nt' ≠ nt → (pushNew E s nt np).heapOf nt' = s.heapOf nt') ∧
    (pushNew E s nt np).deleted = s.deleted :=
  ⟨fun nt' => succOf_pushNew E s nt nt' np, fun nt' => seenOf_pushNew E s nt nt' np,
    fun _ _ he => (mem_heapOf_pushNew he).imp_right fun ⟨a, b, c, hc, _⟩ => ⟨a, b, c, hc⟩,
    fun _ hne => heapOf_pushNew_ne E s np hne, deleted_pushNew E s nt np⟩

theorem pushStep_views (E : Env S Unit π) (s1 : St S Unit π) (F : Sym) (args : List Prog) (nt : NT S Unit)
    (i : Nat) (r : Option Prog) :
    (∀ nt', (pushStep E s1 F args nt i r).succOf nt' = s1.succOf nt') ∧
    (∀ nt' p, p ∈ s1.seenOf nt' → p ∈ (pushStep E s1 F args nt i r).seenOf nt') ∧
    (∀ nt', nt' ≠ nt → (pushStep E s1 F args nt i r).heapOf nt' = s1.heapOf nt' ∧
      (pushStep E s1 F args nt i r).seenOf nt' = s1.seenOf nt') ∧
    (pushStep E s1 F args nt i r).deleted = s1.deleted := by
  rcases pushStep_cases E s1 F args nt i r with e | ⟨_, -, -, -, e⟩
  · rw [e]; exact ⟨fun _ => rfl, fun _ _ h => h, fun _ _ => ⟨rfl, rfl⟩, rfl⟩
  · rw [e]
    exact ⟨fun nt' => succOf_pushNew E s1 nt nt' _, fun _ _ hp => mem_seenOf_pushNew.mpr (Or.inl hp),
      fun nt' hne => ⟨heapOf_pushNew_ne E s1 _ hne, by rw [seenOf_pushNew, if_neg hne]⟩, deleted_pushNew E s1 nt _⟩

/-- `x` is what the first pop of the reference heap of `nt` returns (if it returns anything) -/
def FP (E : Env S Unit π) (H0 : NT S Unit → List (π × Prog)) (nt : NT S Unit) (x : Prog) : Prop :=
  ∀ e h', Heapq.pop (ltE E.ops) (H0 nt) = some (e, h') → e.2 = x

def HeapStarted (s : St S Unit π) : Prop := ∀ nt, s.heapOf nt ≠ [] → s.succOf nt ≠ []

/-- the order invariant. `H0` are the heaps as `__init_heap__` built them: the reference for the non-terminals
    whose enumeration has not started (`fresh`), of which the arguments of the initial programs are the first pops
    (`args`). It is chosen in `base_quiet`, as the heaps of the state `__init_heap__` returns. -/
structure OInv (E : Env S Unit π) (H0 : NT S Unit → List (π × Prog)) (s : St S Unit π) : Prop where
  /-- (I4) of DESIGN B.2: no heap element is better than a program already popped for the non-terminal -/
  below : ∀ nt e, e ∈ s.heapOf nt → ∀ k v pv, AList.lookup k (s.succOf nt) = some v →
    prioSpec E v nt = some pv → E.ops.lt e.1 pv = false
  /-- (I4) a successor is not better than its predecessor -/
  link : ∀ nt k v pk pv, AList.lookup (some k) (s.succOf nt) = some v → prioSpec E k nt = some pk →
    prioSpec E v nt = some pv → E.ops.lt pv pk = false
  val_prio : ∀ nt k v, AList.lookup k (s.succOf nt) = some v → (prioSpec E v nt).isSome = true
  /-- (I1) the arguments of every program ever pushed were popped for their non-terminals, or the
      enumeration of the non-terminal has not started and the argument is what it will pop first -/
  args : ∀ nt F args ra, Tree.node F args ∈ s.seenOf nt → E.G.rule? nt F = some (ra, ()) →
    ∀ (i : Nat) ai a, args[i]? = some ai → ra[i]? = some a →
      (∃ k, AList.lookup k (s.succOf (argNT a)) = some ai) ∨ (s.succOf (argNT a) = [] ∧ FP E H0 (argNT a) ai)
  fresh : ∀ nt, s.succOf nt = [] → s.heapOf nt = H0 nt
  /-- programs are rejected only once every non-terminal with a non-empty heap has started -/
  del_ok : s.deleted = [] ∨ HeapStarted s

def SeenMono (s s' : St S Unit π) : Prop := ∀ nt p, p ∈ s.seenOf nt → p ∈ s'.seenOf nt

def BelowVals (E : Env S Unit π) (s : St S Unit π) (nt : NT S Unit) (prog : Prog) : Prop :=
  ∃ pp, prioSpec E prog nt = some pp ∧
    ∀ k v pv, AList.lookup k (s.succOf nt) = some v → prioSpec E v nt = some pv → E.ops.lt pp pv = false

def OPre (E : Env S Unit π) (H0 : NT S Unit → List (π × Prog)) : Call S Unit → St S Unit π → Prop
  | .query nt p, s => ∀ x, p = some x →
      (∃ k, AList.lookup k (s.succOf nt) = some x) ∨ (s.succOf nt = [] ∧ FP E H0 nt x)
  | .lop nt p, s => ∀ x, p = some x → (∃ k, AList.lookup k (s.succOf nt) = some x) ∨ s.heapOf nt = []
  | .popLoop nt p, s => ∀ x, p = some x → (∃ k, AList.lookup k (s.succOf nt) = some x) ∨ s.heapOf nt = []
  | .addSucc prog nt, s => prog ∈ s.seenOf nt ∧ s.succOf nt ≠ [] ∧ BelowVals E s nt prog
  | .addLoop F args nt _ _ _ _, s => Tree.node F args ∈ s.seenOf nt ∧ s.succOf nt ≠ [] ∧ BelowVals E s nt (.node F args)

def OFrame (rank : NT S Unit → Nat) : Call S Unit → St S Unit π → St S Unit π → Prop
  | .query nt _, s, s' => ∀ nt', rank nt < rank nt' → s'.succOf nt' = s.succOf nt'
  | .lop nt _, s, s' => ∀ nt', rank nt < rank nt' → s'.succOf nt' = s.succOf nt'
  | .popLoop nt _, s, s' => ∀ nt', rank nt < rank nt' → s'.succOf nt' = s.succOf nt'
  | .addSucc _ nt, s, s' => ∀ nt', rank nt ≤ rank nt' → s'.succOf nt' = s.succOf nt'
  | .addLoop _ _ nt _ _ _ _, s, s' => ∀ nt', rank nt ≤ rank nt' → s'.succOf nt' = s.succOf nt'

structure Full (E : Env S Unit π) (H0 : NT S Unit → List (π × Prog)) (s : St S Unit π) : Prop where
  sinv : SInv E s
  ninv : NInvF s
  hinv : HInv E s
  oinv : OInv E H0 s

theorem prioList_arg (E : Env S Unit π) : ∀ (ks : List Prog) (ra : List (Ty × S)) (acc p : π),
    prioList E ks ra acc = some p → ∀ (i : Nat) ki a, ks[i]? = some ki → ra[i]? = some a →
      (prioSpec E ki (argNT a)).isSome = true
  | [], _, _, _, _, _, _, _, hk, _ => by simp at hk
  | _ :: _, [], _, _, h, _, _, _, _, _ => by simp [prioList] at h
  | k :: ks, a0 :: as, acc, p, h, i, ki, a, hk, ha => by
    rw [prioList] at h
    cases hk0 : prioSpec E k (argNT a0) with
    | none => simp [hk0] at h
    | some pk =>
      simp only [hk0] at h
      cases i with
      | zero =>
        simp only [List.getElem?_cons_zero, Option.some.injEq] at hk ha
        subst hk; subst ha; rw [hk0]; rfl
      | succ i =>
        simp only [List.getElem?_cons_succ] at hk ha
        exact prioList_arg E ks as _ p h i ki a hk ha

/-- `OInv` over a valuation, without `del_ok` (a field of `FullT`); `val_def` is `OInv.val_prio` -/
structure OInvT (E : Env S Unit π) (V : Val E) (H0 : NT S Unit → List (π × Prog)) (s : St S Unit π) : Prop where
  below : ∀ nt e, e ∈ s.heapOf nt → ∀ k v, AList.lookup k (s.succOf nt) = some v → V.Def v nt →
    E.ops.lt e.1 (V.pr v nt) = false
  link : ∀ nt k v, AList.lookup (some k) (s.succOf nt) = some v → V.Def k nt → V.Def v nt →
    E.ops.lt (V.pr v nt) (V.pr k nt) = false
  val_def : ∀ nt k v, AList.lookup k (s.succOf nt) = some v → V.Def v nt
  args : ∀ nt F args ra, Tree.node F args ∈ s.seenOf nt → E.G.rule? nt F = some (ra, ()) →
    ∀ (i : Nat) ai a, args[i]? = some ai → ra[i]? = some a →
      (∃ k, AList.lookup k (s.succOf (argNT a)) = some ai) ∨ (s.succOf (argNT a) = [] ∧ FP E H0 (argNT a) ai)
  fresh : ∀ nt, s.succOf nt = [] → s.heapOf nt = H0 nt

def BelowValsT (E : Env S Unit π) (V : Val E) (s : St S Unit π) (nt : NT S Unit) (prog : Prog) : Prop :=
  V.Def prog nt ∧ ∀ k v, AList.lookup k (s.succOf nt) = some v → E.ops.lt (V.pr prog nt) (V.pr v nt) = false

def OPreT (E : Env S Unit π) (V : Val E) (H0 : NT S Unit → List (π × Prog)) : Call S Unit → St S Unit π → Prop
  | .query nt p, s => ∀ x, p = some x →
      (∃ k, AList.lookup k (s.succOf nt) = some x) ∨ (s.succOf nt = [] ∧ FP E H0 nt x)
  | .lop nt p, s => ∀ x, p = some x → (∃ k, AList.lookup k (s.succOf nt) = some x) ∨ s.heapOf nt = []
  | .popLoop nt p, s => ∀ x, p = some x → (∃ k, AList.lookup k (s.succOf nt) = some x) ∨ s.heapOf nt = []
  | .addSucc prog nt, s => prog ∈ s.seenOf nt ∧ s.succOf nt ≠ [] ∧ BelowValsT E V s nt prog
  | .addLoop F args nt _ _ _ _, s => Tree.node F args ∈ s.seenOf nt ∧ s.succOf nt ≠ [] ∧ BelowValsT E V s nt (.node F args)

structure FullT (E : Env S Unit π) (V : Val E) (H0 : NT S Unit → List (π × Prog)) (s : St S Unit π) : Prop where
  sinv : SInv E s
  ninv : NInv5 s
  hinv : HInv E s
  oinv : OInvT E V H0 s
  del_ok : s.deleted = [] ∨ HeapStarted s

theorem OInv.iffT {E : Env S Unit π} {d : π} {H0 : NT S Unit → List (π × Prog)} {s : St S Unit π} :
    OInv E H0 s ↔ OInvT E (Val.spec' E d) H0 s ∧ (s.deleted = [] ∨ HeapStarted s) := by
  constructor
  · intro h
    refine ⟨⟨?_, ?_, h.val_prio, h.args, h.fresh⟩, h.del_ok⟩
    · intro nt e he k v hk hd; exact h.below nt e he k v _ hk (Val.spec'_def hd)
    · intro nt k v hk hdk hdv; exact h.link nt k v _ _ hk (Val.spec'_def hdk) (Val.spec'_def hdv)
  · rintro ⟨h, hdel⟩
    refine ⟨?_, ?_, h.val_def, h.args, h.fresh, hdel⟩
    · intro nt e he k v pv hk hpv
      obtain ⟨hd, rfl⟩ := Val.spec'_some (d := d) hpv
      exact h.below nt e he k v hk hd
    · intro nt k v pk pv hk hpk hpv
      obtain ⟨hdk, rfl⟩ := Val.spec'_some (d := d) hpk
      obtain ⟨hdv, rfl⟩ := Val.spec'_some (d := d) hpv
      exact h.link nt k v hk hdk hdv

theorem BelowVals.iffT {E : Env S Unit π} {d : π} {s : St S Unit π} {nt : NT S Unit} {prog : Prog}
    (hv : ∀ k v, AList.lookup k (s.succOf nt) = some v → (prioSpec E v nt).isSome = true) :
    BelowVals E s nt prog ↔ BelowValsT E (Val.spec' E d) s nt prog := by
  constructor
  · rintro ⟨pp, hpp, h⟩
    obtain ⟨hd, rfl⟩ := Val.spec'_some (d := d) hpp
    exact ⟨hd, fun k v hk => h k v _ hk (Val.spec'_def (hv k v hk))⟩
  · rintro ⟨hd, h⟩
    refine ⟨_, Val.spec'_def hd, fun k v pv hk hpv => ?_⟩
    obtain ⟨_, rfl⟩ := Val.spec'_some (d := d) hpv
    exact h k v hk

theorem OPre.iffT {E : Env S Unit π} {d : π} {H0 : NT S Unit → List (π × Prog)} {s : St S Unit π}
    (hv : ∀ nt k v, AList.lookup k (s.succOf nt) = some v → (prioSpec E v nt).isSome = true) :
    ∀ {c : Call S Unit}, OPre E H0 c s ↔ OPreT E (Val.spec' E d) H0 c s
  | .query _ _ | .lop _ _ | .popLoop _ _ => Iff.rfl
  | .addSucc _ nt | .addLoop _ _ nt _ _ _ _ => and_congr_right fun _ => and_congr_right fun _ => BelowVals.iffT (hv nt)

theorem Full.iffT {E : Env S Unit π} {d : π} {H0 : NT S Unit → List (π × Prog)} {s : St S Unit π} :
    Full E H0 s ↔ FullT E (Val.spec' E d) H0 s :=
  ⟨fun h => ⟨h.sinv, h.ninv.five, h.hinv, (OInv.iffT.mp h.oinv).1, h.oinv.del_ok⟩,
   fun h => ⟨h.sinv, .of5 h.ninv, h.hinv, OInv.iffT.mpr ⟨h.oinv, h.del_ok⟩⟩⟩

theorem OrdLaw.ltE {E : Env S Unit π} {V : Val E} {rank} {Good} (L : OrdLaw E V rank Good) :
    Heapq.WeakOrderOn (fun e : π × Prog => Good e.1) (ltE E.ops) := ltE_on L.weak

theorem heap_val {E : Env S Unit π} (V : Val E) {s : St S Unit π} (hs : SInv E s) {nt : NT S Unit}
    {e : π × Prog} (he : e ∈ s.heapOf nt) : V.Def e.2 nt ∧ V.pr e.2 nt = e.1 :=
  V.spec _ _ _ (hs.seen_gen nt e.2 (hs.heap_seen nt e he)) (hs.heap_prio nt e he)

theorem heap_good {E : Env S Unit π} {V : Val E} {rank} {Good} (L : OrdLaw E V rank Good) {s : St S Unit π}
    (hs : SInv E s) (nt : NT S Unit) : ∀ e ∈ s.heapOf nt, Good e.1 :=
  fun e he => (heap_val V hs he).2 ▸ L.good e.2 nt (heap_val V hs he).1

/-- The situation in which the loop of `__add_successors__(F(args), nt)` makes its push at position `i`: `s1` is the
    state in which `query(argNT a, ai)` returned `r`; the program is a member, was pushed for `nt`, whose enumeration
    has started, and is not better than anything popped for `nt`; a returned `q` is the recorded successor of `ai`. -/
structure PushSit (E : Env S Unit π) (V : Val E) (s1 : St S Unit π) (F : Sym) (args : List Prog) (nt : NT S Unit)
    (i : Nat) (r : Option Prog) (ra : List (Ty × S)) (a : Ty × S) (ai : Prog) : Prop where
  rule : E.G.rule? nt F = some (ra, ())
  gens : genList E.G args ra = true
  arg : ra[i]? = some a
  at_i : args[i]? = some ai
  seen : Tree.node F args ∈ s1.seenOf nt
  started : s1.succOf nt ≠ []
  below : BelowValsT E V s1 nt (.node F args)
  ret : ∀ q, r = some q → AList.lookup (some ai) (s1.succOf (argNT a)) = some q ∧ gen E.G q (argNT a) = true

theorem pushStep_order {E : Env S Unit π} {V : Val E} {rank} {Good} (L : OrdLaw E V rank Good)
    {H0 : NT S Unit → List (π × Prog)} {s1 : St S Unit π} {F : Sym} {args : List Prog} {nt : NT S Unit} {i : Nat}
    {r : Option Prog} {ra : List (Ty × S)} {a : Ty × S} {ai : Prog}
    (hs : SInv E s1) (ho : OInvT E V H0 s1) (sit : PushSit E V s1 F args nt i r ra a ai) :
    OInvT E V H0 (pushStep E s1 F args nt i r) := by
  obtain ⟨hr, hgl, ha, hai, hseen, hne, hvals, hq⟩ := sit
  rcases pushStep_cases E s1 F args nt i r with hps | ⟨q, rfl, -, -, hps⟩
  · rw [hps]; exact ho
  · rw [hps]
    obtain ⟨hlk, hgq⟩ := hq q rfl
    obtain ⟨v1, v2, v3, v4, _⟩ := pushNew_views E s1 nt (.node F (args.set i q))
    have hgnp : gen E.G (.node F (args.set i q)) nt = true := by
      rw [gen, hr]; exact genList_set E.G args ra i q a hgl ha hgq
    refine ⟨?_, ?_, ?_, ?_, ?_⟩
    · intro nt' e he k v hk hdv
      rw [v1] at hk
      rcases v3 nt' e he with hold | ⟨hnt, -, c', hcp⟩
      · exact ho.below nt' e hold k v hk hdv
      · subst hnt
        obtain ⟨hdnp, hpr⟩ := V.spec _ _ _ hgnp (computePrio_spec E _ hs.cache_ok nt' _ hgnp c' e.1 hcp).1
        -- the old argument has a successor in the table of its non-terminal, so it was popped for it
        have hdai : V.Def ai (argNT a) := by
          rcases ho.args nt' F args ra hseen hr i ai a hai ha with ⟨k0, hk0⟩ | ⟨hempty, -⟩
          · exact ho.val_def _ k0 ai hk0
          · rw [hempty] at hlk; cases hlk
        have hdq := ho.val_def _ _ _ hlk
        have hmono := L.mono nt' F ra args i q ai a hr hgl ha hai hgq hdq hdai (ho.link _ _ _ hlk hdai hdq) hvals.1 hdnp
        rw [← hpr]
        exact L.weak.ntrans (L.good _ _ hdv) (L.good _ _ hvals.1) (L.good _ _ hdnp) (hvals.2 k v hk) hmono
    · intro nt' k v hk
      rw [v1] at hk
      exact ho.link nt' k v hk
    · intro nt' k v hk
      rw [v1] at hk
      exact ho.val_def nt' k v hk
    · intro nt' F' args' ra' hmem hr' j aj a' haj ha'
      rw [v1]
      rw [v2] at hmem
      have hold : Tree.node F' args' ∈ s1.seenOf nt' →
          (∃ k, AList.lookup k (s1.succOf (argNT a')) = some aj) ∨
            (s1.succOf (argNT a') = [] ∧ FP E H0 (argNT a') aj) :=
        fun hm => ho.args nt' F' args' ra' hm hr' j aj a' haj ha'
      split at hmem
      · rename_i heq
        rcases List.mem_append.mp hmem with hm | hm
        · subst heq; exact hold hm
        · simp only [List.mem_singleton] at hm
          cases hm
          subst heq
          rw [hr] at hr'
          cases hr'
          by_cases hji : j = i
          · subst hji
            have hlen : j < args.length := (List.getElem?_eq_some_iff.mp hai).1
            rw [List.getElem?_set_self hlen] at haj
            cases haj
            rw [ha] at ha'; cases ha'
            exact Or.inl ⟨_, hlk⟩
          · rw [List.getElem?_set_ne (Ne.symm hji)] at haj
            exact ho.args nt' F args ra hseen hr j aj a' haj ha'
      · exact hold hmem
    · intro nt' he
      rw [v1] at he
      have hnn : nt' ≠ nt := by intro heq; subst heq; exact hne he
      rw [v4 nt' hnn]
      exact ho.fresh nt' he

theorem HeapStarted.popTake {s : St S Unit π} (h : HeapStarted s) (nt : NT S Unit) (key : Option Prog) (e : π × Prog)
    (h' : List (π × Prog)) : HeapStarted (s.popTake nt key e h') := by
  intro nt' hh' he
  have hne' : nt' ≠ nt := fun heq => by
    rw [heq, popTake_succOf, if_pos rfl] at he; exact AList.insert_ne_nil _ _ _ he
  rw [popTake_succOf_ne s key e h' hne'] at he
  exact h nt' ((heapOf_setHeap_ne s h' hne') ▸ hh') he

theorem HeapStarted.popSkip {lt : (π × Prog) → (π × Prog) → Bool} {s : St S Unit π} (h : HeapStarted s)
    {nt : NT S Unit} {e : π × Prog} {h' : List (π × Prog)} (hp : Heapq.pop lt (s.heapOf nt) = some (e, h')) :
    HeapStarted (s.setHeap nt h') := by
  intro nt' hh'
  by_cases hne : nt' = nt
  · subst hne
    exact h nt' fun he => by rw [he] at hp; cases hp
  · exact h nt' (heapOf_setHeap_ne s h' hne ▸ hh')

theorem HeapStarted.pushStep (E : Env S Unit π) {s1 : St S Unit π} (h : HeapStarted s1) (F : Sym) (args : List Prog)
    (nt : NT S Unit) (i : Nat) (r : Option Prog) (hne : s1.succOf nt ≠ []) :
    HeapStarted (pushStep E s1 F args nt i r) := by
  obtain ⟨w1, _, w3, _⟩ := pushStep_views E s1 F args nt i r
  intro nt' hh
  rw [w1]
  by_cases hnn : nt' = nt
  · subst hnn; exact hne
  · rw [(w3 nt' hnn).1] at hh; exact h nt' hh

theorem pushStep_delOK (E : Env S Unit π) {s1 : St S Unit π} (hd : s1.deleted = [] ∨ HeapStarted s1) (F : Sym)
    (args : List Prog) (nt : NT S Unit) (i : Nat) (r : Option Prog) (hne : s1.succOf nt ≠ []) :
    (pushStep E s1 F args nt i r).deleted = [] ∨ HeapStarted (pushStep E s1 F args nt i r) := by
  rw [deleted_pushStep]
  exact hd.imp_right fun h => h.pushStep E F args nt i r hne

theorem pop_facts {E : Env S Unit π} {V : Val E} {rank} {Good} (L : OrdLaw E V rank Good)
    {H0 : NT S Unit → List (π × Prog)}
    {s : St S Unit π} (hs : SInv E s) (hh : HInv E s) (ho : OInvT E V H0 s) (nt : NT S Unit) (e : π × Prog)
    (h' : List (π × Prog)) (hp : Heapq.pop (ltE E.ops) (s.heapOf nt) = some (e, h')) :
    e ∈ s.heapOf nt ∧ (∀ e' ∈ h', e' ∈ s.heapOf nt) ∧ (∀ e' ∈ s.heapOf nt, E.ops.lt e'.1 e.1 = false) ∧
    V.pr e.2 nt = e.1 ∧ BelowValsT E V s nt e.2 ∧ HInv E (s.setHeap nt h') := by
  obtain ⟨hm, hsub⟩ := Heapq.mem_of_pop _ _ _ _ hp
  obtain ⟨hheap', hmin⟩ := Heapq.pop_isHeap_on L.ltE _ _ _ (heap_good L hs nt) (hh nt) hp
  obtain ⟨hde, hpr⟩ := heap_val V hs hm
  refine ⟨hm, hsub, hmin, hpr, ⟨hde, fun k v hk => hpr ▸ ho.below nt e hm k v hk (ho.val_def nt k v hk)⟩, ?_⟩
  intro nt'
  rw [St.heapOf_setHeap]
  split
  · exact hheap'
  · exact hh nt'

theorem popTake_order {E : Env S Unit π} {V : Val E} {rank} {Good} (L : OrdLaw E V rank Good)
    {H0 : NT S Unit → List (π × Prog)} {s : St S Unit π}
    (hs : SInv E s) (hh : HInv E s) (ho : OInvT E V H0 s) (nt : NT S Unit) (key : Option Prog) (e : π × Prog)
    (h' : List (π × Prog)) (hp : Heapq.pop (ltE E.ops) (s.heapOf nt) = some (e, h'))
    (hkey : ∀ x, key = some x → (∃ k, AList.lookup k (s.succOf nt) = some x) ∨ s.heapOf nt = [])
    (hnone : AList.lookup key (s.succOf nt) = none) :
    OInvT E V H0 (s.popTake nt key e h') ∧ (s.popTake nt key e h').succOf nt ≠ [] ∧
    BelowValsT E V (s.popTake nt key e h') nt e.2 := by
  obtain ⟨hm, hsub, hle, hpr, ⟨hde, hbelow_e⟩, _⟩ := pop_facts L hs hh ho nt e h' hp
  have hkey' : ∀ x, key = some x → ∃ k, AList.lookup k (s.succOf nt) = some x :=
    fun x hx => (hkey x hx).resolve_right fun he => by rw [he] at hm; cases hm
  have hst := stable_popTake e h' hnone
  have hne : (s.popTake nt key e h').succOf nt ≠ [] := by
    rw [popTake_succOf, if_pos rfl]; exact AList.insert_ne_nil _ _ _
  have hold : ∀ nt', (s.popTake nt key e h').succOf nt' = [] → nt' ≠ nt := fun nt' he heq => hne (heq ▸ he)
  refine ⟨⟨?_, ?_, ?_, ?_, ?_⟩, hne, hde, ?_⟩
  · intro nt' e' he' k v hk hdv
    have he0 : e' ∈ s.heapOf nt' := mem_heapOf_setHeap hsub he'
    rcases lookup_popTake hk with ⟨rfl, -, rfl⟩ | ⟨-, hk⟩
    · -- the program just popped was a minimum of the heap
      rw [hpr]; exact hle e' he0
    · exact ho.below nt' e' he0 k v hk hdv
  · intro nt' k v hk hdk hdv
    rcases lookup_popTake hk with ⟨rfl, hkk, rfl⟩ | ⟨-, hk⟩
    · -- the key was popped before
      obtain ⟨k0, hk0⟩ := hkey' k hkk.symm
      rw [hpr]; exact ho.below _ e hm k0 k hk0 hdk
    · exact ho.link nt' k v hk hdk hdv
  · intro nt' k v hk
    rcases lookup_popTake hk with ⟨rfl, -, rfl⟩ | ⟨-, hk⟩
    · exact hde
    · exact ho.val_def nt' k v hk
  · intro nt' F args ra hmem hr i ai a hai ha
    rcases ho.args nt' F args ra hmem hr i ai a hai ha with ⟨k, hk⟩ | ⟨hempty, hfp⟩
    · exact Or.inl ⟨k, hst _ k _ hk⟩
    · by_cases heq : argNT a = nt
      · -- the enumeration of the argument's non-terminal starts with this pop
        left
        rw [heq] at hempty hfp ⊢
        have hkn : key = none := by
          cases key with
          | none => rfl
          | some x =>
            obtain ⟨k0, hk0⟩ := hkey' x rfl
            rw [hempty] at hk0; cases hk0
        rw [ho.fresh nt hempty] at hp
        exact ⟨none, by rw [← hfp e h' hp, ← hkn]; exact lookup_popTake_self s nt key e h'⟩
      · exact Or.inr ⟨by rw [popTake_succOf_ne s key e h' heq]; exact hempty, hfp⟩
  · intro nt' he
    have hne' := hold nt' he
    rw [popTake_succOf_ne s key e h' hne'] at he
    exact (heapOf_setHeap_ne s h' hne').trans (ho.fresh nt' he)
  · intro k v hk
    rcases lookup_popTake hk with ⟨-, -, rfl⟩ | ⟨-, hk⟩
    · exact L.weak.irrefl (L.good _ _ hde)
    · exact hbelow_e k v hk

theorem popTake_delOK {s : St S Unit π} (hd : s.deleted = [] ∨ HeapStarted s) (nt : NT S Unit) (key : Option Prog)
    (e : π × Prog) (h' : List (π × Prog)) :
    (s.popTake nt key e h').deleted = [] ∨ HeapStarted (s.popTake nt key e h') :=
  hd.imp_right fun h => h.popTake nt key e h'

theorem popSkip_order {E : Env S Unit π} {V : Val E} {H0 : NT S Unit → List (π × Prog)} {s : St S Unit π}
    (ho : OInvT E V H0 s) (hdel : s.deleted = [] ∨ HeapStarted s) (nt : NT S Unit) (e : π × Prog)
    (h' : List (π × Prog)) (hp : Heapq.pop (ltE E.ops) (s.heapOf nt) = some (e, h'))
    (hd : s.deleted.contains e.2 = true) :
    OInvT E V H0 (s.setHeap nt h') ∧ HeapStarted (s.setHeap nt h') ∧ (s.setHeap nt h').succOf nt ≠ [] := by
  obtain ⟨hm, hsub⟩ := Heapq.mem_of_pop _ _ _ _ hp
  -- a program has been rejected, so every non-empty heap belongs to a started enumeration
  have hstarted : HeapStarted s := hdel.resolve_left fun hd' => by rw [hd'] at hd; cases hd
  have hsne : s.succOf nt ≠ [] := hstarted nt fun he => by rw [he] at hm; cases hm
  have hold : ∀ nt', s.succOf nt' = [] → nt' ≠ nt := fun nt' he heq => hsne (heq ▸ he)
  refine ⟨⟨fun nt' e' he' => ho.below nt' e' (mem_heapOf_setHeap hsub he'), ho.link, ho.val_def, ho.args, ?_⟩,
    hstarted.popSkip hp, hsne⟩
  intro nt' he
  exact (heapOf_setHeap_ne s h' (hold nt' he)).trans (ho.fresh nt' he)

end PS.HG
