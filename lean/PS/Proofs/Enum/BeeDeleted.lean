/- Bee search: `_deleted` only grows, so a program declared merged (or rejected by the filter) is never yielded
   afterwards, along every history. -/
import PS.Proofs.Enum.BeeSound
namespace PS.Bee
open PS PS.G

variable {S : Type} [DecidableEq S]
set_option linter.unusedSectionVars false

def Del (g : Gen S) (q : Prog) : Prop := g.st.deleted.contains q = true

theorem addProgram_deleted (E : Env S) (s : St S) (nt : NT S Unit) (p : Prog) (ci : Nat) (q : Prog)
    (h : s.deleted.contains q = true) : (addProgram E s nt p ci).1.deleted.contains q = true := by
  rcases addProgram_cases E s nt p ci with ⟨_, h'⟩ | ⟨_, _, h'⟩ | ⟨_, _, h'⟩ <;> rw [h']
  · exact h
  · simp only [List.contains_eq_mem, List.mem_append, decide_eq_true_eq] at h ⊢
    exact Or.inl h
  · exact h

theorem step_deleted (E : Env S) (g g' : Gen S) (out : Option Prog) (q : Prog) (h : step E g = some (g', out))
    (hd : Del g q) : Del g' q := by
  unfold Del at hd ⊢
  cases step_cases h with
  | addCost hac => exact ((addCost_frame hac).deleted ▸ hd :)
  | pop _ _ _ _ hsl _ => exact ((succLoop_frame hsl).of_setQueue.deleted ▸ hd :)
  | offer _ _ => exact addProgram_deleted E _ _ _ _ q hd
  | _ => exact hd

theorem merge_deleted (E : Env S) (g : Gen S) (other : Prog) (ty : Ty) (q : Prog) (hd : Del g q) :
    Del (merge E g other ty) q := by
  unfold Del at hd ⊢
  unfold merge
  by_cases hc : g.st.deleted.contains other = true
  · simp only [hc, if_true]; exact hd
  · simp only [hc, if_false, Bool.false_eq_true]
    simp only [List.contains_eq_mem, List.mem_append, decide_eq_true_eq] at hd ⊢
    exact Or.inl hd

theorem merge_deletes (E : Env S) (g : Gen S) (other : Prog) (ty : Ty) : Del (merge E g other ty) other := by
  unfold Del merge
  by_cases hc : g.st.deleted.contains other = true
  · simp only [hc, if_true]
  · simp only [hc, if_false, Bool.false_eq_true]; simp

/-- a yielded program is not in `_deleted` at that moment (`step_sound`) -/
theorem runActs_deleted (E : Env S) (q : Prog) (fuel : Nat) (acts : List Act) (g g' : Gen S) (acc out : List Prog)
    (h : runActs E fuel acts g acc = some (g', out)) (hi : GInv E g) (hd : Del g q) (ha : q ∉ acc) : q ∉ out := by
  refine (runActs_ind (J := fun g acc => GInv E g ∧ Del g q ∧ q ∉ acc) ?_ fuel acts g g' acc out ?_ h ⟨hi, hd, ha⟩).2.2
  · intro g g1 o acc hs hj
    obtain ⟨hi, hd, ha⟩ := hj
    obtain ⟨hi1, hy⟩ := step_sound E g g1 o hs hi
    refine ⟨hi1, step_deleted E g g1 o q hs hd, ?_⟩
    cases o with
    | none => simpa using ha
    | some p =>
      have hp : p ≠ q := fun e => by
        have := (hy p rfl).2.2.2
        rw [e, hd] at this; cases this
      simpa [ha] using hp.symm
  · exact fun other ty _ g acc hj => ⟨merge_sound E g other ty hj.1, merge_deleted E g other ty q hj.2.1, hj.2.2⟩

end PS.Bee
