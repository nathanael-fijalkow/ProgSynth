/- (I3) of DESIGN B.2 with threshold and filter: every program popped for `S` (recorded or skipped) has, at every
   argument position, either the successor program added to `hash_table_program[S]` or an exhausted
   argument. -/
import PS.Proofs.Enum.GCover
namespace PS.HG
open PS PS.G PS.HS
set_option linter.unusedSectionVars false
variable {S π : Type} [DecidableEq S]

/-- position `i` of `F(args)`, whose argument there is `ai`, is dealt with for `nt` -/
def Fact (s : St S Unit π) (nt : NT S Unit) (F : Sym) (args : List Prog) (i : Nat) (a : Ty × S) (ai : Prog) : Prop :=
  (∃ z, AList.lookup (some ai) (s.succOf (argNT a)) = some z ∧ Tree.node F (args.set i z) ∈ s.seenOf nt) ∨
  (AList.lookup (some ai) (s.succOf (argNT a)) = none ∧ s.heapOf (argNT a) = [])

/-- the positions from `i0` on of `y` are dealt with: what the loop of `__add_successors__(y, S)` leaves when it is
    entered at position `i0` (`I3Post`) -/
def DoneFrom (E : Env S Unit π) (s : St S Unit π) (nt : NT S Unit) (y : Prog) (i0 : Nat) : Prop :=
  ∀ F args ra, y = .node F args → E.G.rule? nt F = some (ra, ()) →
    ∀ (i : Nat) a ai, i0 ≤ i → ra[i]? = some a → args[i]? = some ai → Fact s nt F args i a ai

def I3 (E : Env S Unit π) (s : St S Unit π) : Prop := ∀ nt y, Popped E s nt y → DoneFrom E s nt y 0

/-- what is needed of a transition for a fact to survive -/
structure Keeps (s s' : St S Unit π) (c : NT S Unit) : Prop where
  stable : Stable s s'
  seen : SeenMono s s'
  empty : s.heapOf c = [] → s'.heapOf c = [] ∧ s'.succOf c = s.succOf c

theorem Fact.keep {s s' : St S Unit π} {nt : NT S Unit} {F : Sym} {args : List Prog} {i : Nat} {a : Ty × S} {ai : Prog}
    (hf : Fact s nt F args i a ai) (k : Keeps s s' (argNT a)) : Fact s' nt F args i a ai := by
  rcases hf with ⟨z, hz, hm⟩ | ⟨hnone, hemp⟩
  · exact Or.inl ⟨z, k.stable _ _ _ hz, k.seen _ _ hm⟩
  · obtain ⟨h1, h2⟩ := k.empty hemp
    exact Or.inr ⟨by rw [h2]; exact hnone, h1⟩

theorem DoneFrom.keep {E : Env S Unit π} {s s' : St S Unit π} {nt : NT S Unit} {y : Prog} {i0 : Nat}
    (hd : DoneFrom E s nt y i0)
    (k : ∀ F args ra, y = .node F args → E.G.rule? nt F = some (ra, ()) → ∀ a ∈ ra, Keeps s s' (argNT a)) :
    DoneFrom E s' nt y i0 := by
  intro F args ra hy hr i a ai hi ha hai
  exact (hd F args ra hy hr i a ai hi ha hai).keep (k F args ra hy hr a (List.mem_of_getElem? ha))

theorem keeps_of_coreT {E : Env S Unit π} {V : Val E} {rank} {H0 : NT S Unit → List (π × Prog)} {c : Call S Unit}
    {s s' : St S Unit π} {r : Option Prog} (hb : Big E c s s' r) (hc : CoreT E V rank H0 c s s' r)
    (nt' : NT S Unit) (hna : ¬ c.addsAt nt') : Keeps s s' nt' :=
  ⟨hc.stable, big_seenMono E hb, fun he => big_emptyStable E hb nt' he hna⟩

theorem keeps_of_core {E : Env S Unit π} {rank} {H0 : NT S Unit → List (π × Prog)} {c : Call S Unit}
    {s s' : St S Unit π} {r : Option Prog} (hb : Big E c s s' r) (hc : Core E rank H0 c s s' r)
    (nt' : NT S Unit) (hna : ¬ c.addsAt nt') : Keeps s s' nt' :=
  ⟨hc.stable, hc.seen, fun he => big_emptyStable E hb nt' he hna⟩

theorem keeps_pushStep (E : Env S Unit π) (s : St S Unit π) (F : Sym) (args : List Prog) (nt nt' : NT S Unit)
    (i : Nat) (r : Option Prog) (hne : nt' ≠ nt) : Keeps s (pushStep E s F args nt i r) nt' := by
  obtain ⟨w1, w2, w3, _⟩ := pushStep_views E s F args nt i r
  refine ⟨fun nt'' k v hk => by rw [w1]; exact hk, w2, fun he => ⟨by rw [(w3 nt' hne).1]; exact he, w1 nt'⟩⟩

/-- what a call leaves: every popped program was popped before the call or is completely dealt with;
    `__add_successors__` deals with its program -/
def I3Post (E : Env S Unit π) (c : Call S Unit) (s s' : St S Unit π) : Prop :=
  (∀ nt y, Popped E s' nt y → Popped E s nt y ∨ DoneFrom E s' nt y 0) ∧
  (match c with
   | .addSucc prog nt => DoneFrom E s' nt prog 0
   | .addLoop F args nt i _ _ _ => DoneFrom E s' nt (.node F args) i
   | _ => True)

theorem child_ne {E : Env S Unit π} {V : Val E} {rank} {Good} (L : OrdLaw E V rank Good) {nt nt0 : NT S Unit} (hr : rank nt < rank nt0)
    {F : Sym} {ra : List (Ty × S)} (hrule : E.G.rule? nt F = some (ra, ())) {a : Ty × S} (ha : a ∈ ra) :
    argNT a ≠ nt0 := by
  intro heq
  have := L.acyclic nt F ra hrule a ha
  rw [heq] at this
  omega

/-- `__add_successors__` never drops a successor because it is in `deleted`: `dropDeleted = false` (/repo since
    repair 53c3acb, which took `and new_program not in self.deleted` out of the test at heap_search.py:223), or nothing
    was rejected so far. (I3) is false without it (finding C12-F4). -/
def NoDrop (E : Env S Unit π) (s : St S Unit π) : Prop := E.dropDeleted = false ∨ s.deleted = []

theorem NoDrop.congr {E : Env S Unit π} {s s' : St S Unit π} (h : NoDrop E s) (hd : s'.deleted = s.deleted) :
    NoDrop E s' := h.imp id (fun h0 => hd.trans h0)

/-- The second disjunct of `Popped` recognises a rejected program that was popped by its priority, which
    takes a weight for every rule and the cover invariant; while nothing is rejected it is empty and
    neither is needed. -/
def SkipOK (E : Env S Unit π) (s : St S Unit π) : Prop := s.deleted = [] ∨ (WTotal E ∧ CInv E s)

theorem SkipOK.big {E : Env S Unit π} {V : Val E} {rank} {Good} (L : OrdLaw E V rank Good)
    {H0 : NT S Unit → List (π × Prog)} {c : Call S Unit} {s s' : St S Unit π} {r : Option Prog} (hb : Big E c s s' r)
    (hf : FullT E V H0 s) (h1 : SPre E c) (h2 : NPre c s) (h3 : OPreT E V H0 c s) (hk : SkipOK E s) : SkipOK E s' :=
  hk.imp (fun hd => (big_deleted hb).trans hd) fun ⟨hw, hc⟩ => ⟨hw, big_cinvT L hw hb hf h1 h2 h3 hc⟩

theorem popped_after_pop {E : Env S Unit π} {s s0 : St S Unit π} {nt : NT S Unit} {e : π × Prog} {h' : List (π × Prog)}
    (hperm : (s.heapProgs nt).Perm (e.2 :: h'.map (·.2)))
    (hheap : ∀ nt', s0.heapProgs nt' = if nt' = nt then h'.map (·.2) else s.heapProgs nt')
    (hseen : ∀ nt', s0.seenOf nt' = s.seenOf nt') (hdel : s0.deleted = s.deleted)
    (hsucc : ∀ nt' k v, AList.lookup k (s0.succOf nt') = some v →
      AList.lookup k (s.succOf nt') = some v ∨ (nt' = nt ∧ v = e.2))
    (nt' : NT S Unit) (y : Prog) (hp : Popped E s0 nt' y) : Popped E s nt' y ∨ (nt' = nt ∧ y = e.2) := by
  rcases hp with ⟨k, hk⟩ | ⟨h1, h2, h3, h4⟩
  · rcases hsucc nt' k y hk with h | h
    · exact Or.inl (Or.inl ⟨k, h⟩)
    · exact Or.inr h
  · rw [hseen] at h1
    rw [hdel] at h3
    rw [hheap] at h2
    by_cases hne : nt' = nt
    · subst hne
      simp only [if_true] at h2
      by_cases hin : y ∈ s.heapProgs nt'
      · rcases List.mem_cons.mp (hperm.subset hin) with rfl | hin'
        · exact Or.inr ⟨rfl, rfl⟩
        · exact absurd hin' h2
      · exact Or.inl (Or.inr ⟨h1, hin, h3, h4⟩)
    · simp only [hne, if_false] at h2
      exact Or.inl (Or.inr ⟨h1, h2, h3, h4⟩)

theorem popped_pushStep {E : Env S Unit π} {V : Val E} {s1 : St S Unit π} (hs : SInv E s1) (hk : SkipOK E s1)
    {F : Sym} {args : List Prog} {nt : NT S Unit} {i : Nat} {r : Option Prog}
    {ra : List (Ty × S)} {a : Ty × S} {ai : Prog} (sit : PushSit E V s1 F args nt i r ra a ai)
    (nt' : NT S Unit) (y : Prog) (hp : Popped E (pushStep E s1 F args nt i r) nt' y) : Popped E s1 nt' y := by
  rcases hk with hdel | ⟨hw, hc⟩
  · rcases hp with ⟨k, hk⟩ | ⟨_, _, h3, _⟩
    · exact Or.inl ⟨k, succOf_pushStep E s1 F args nt nt' i r ▸ hk⟩
    · rw [deleted_pushStep, hdel] at h3; cases h3
  rcases pushStep_cases E s1 F args nt i r with hps | ⟨q, rfl, hnew, -, hps⟩
  · rw [hps] at hp; exact hp
  rw [hps] at hp
  obtain ⟨hgl', _, ⟨c', v⟩, hcp⟩ := pushStep_prio hw hc sit
  have hgen : gen E.G (.node F (args.set i q)) nt = true := by rw [gen, sit.rule]; exact hgl'
  have hv := (computePrio_spec E _ hs.cache_ok nt _ hgen c' v hcp).1
  rcases hp with ⟨k, hk⟩ | ⟨h1, h2, h3, py, hpy, hok⟩
  · rw [succOf_pushNew] at hk; exact Or.inl ⟨k, hk⟩
  · rw [deleted_pushNew] at h3
    rcases mem_seenOf_pushNew.mp h1 with hold | ⟨rfl, rfl⟩
    · exact Or.inr ⟨hold, fun hin => h2 ((push_pushNew E hnew).sub hin), h3, py, hpy, hok⟩
    · -- the new program passes the threshold: it is in the heap
      exfalso
      rw [hv] at hpy
      cases hpy
      apply h2
      rw [pushNew_eq E s1 nt' _ c' v hcp, if_pos hok, St.heapProgs_setHeap, if_pos rfl]
      exact List.mem_map.mpr ⟨(v, _), (Heapq.push_perm (ltE E.ops) _ _).symm.subset (List.mem_cons_self), rfl⟩

theorem pushStep_mem (E : Env S Unit π) (s : St S Unit π) (hnd : NoDrop E s) (F : Sym) (args : List Prog)
    (nt : NT S Unit) (i : Nat) (z : Prog) : Tree.node F (args.set i z) ∈ (pushStep E s F args nt i (some z)).seenOf nt := by
  have hg : (E.dropDeleted && s.deleted.contains (Tree.node F (args.set i z))) = false := by
    rcases hnd with h | h <;> simp [h]
  unfold pushStep
  simp only [hg, Bool.or_false]
  split
  · rename_i hc; simpa using hc
  · exact mem_seenOf_pushNew.mpr (Or.inr ⟨rfl, rfl⟩)

/-- what one iteration of the loop of `__add_successors__` gives for (I3), beside `LoopIter`: nothing new counts as
    popped except for non-terminals of lower rank, whose successors are complete; position `i` has been treated -/
structure I3Iter (E : Env S Unit π) (V : Val E) (rank : NT S Unit → Nat) (H0 : NT S Unit → List (π × Prog))
    (s s1 : St S Unit π) (F : Sym) (args : List Prog) (nt s2 : NT S Unit) (i : Nat) (ai : Prog) (r : Option Prog) :
    Prop where
  it : LoopIter E V rank H0 s s1 F args nt s2 i ai r
  skip : SkipOK E (pushStep E s1 F args nt i r)
  nodrop : NoDrop E (pushStep E s1 F args nt i r)
  popped : ∀ nt' y, Popped E (pushStep E s1 F args nt i r) nt' y →
    Popped E s nt' y ∨ (DoneFrom E (pushStep E s1 F args nt i r) nt' y 0 ∧ rank nt' < rank nt)
  fact : ∀ ra a, E.G.rule? nt F = some (ra, ()) → ra[i]? = some a →
    Fact (pushStep E s1 F args nt i r) nt F args i a ai ∧ argNT a ≠ nt

theorem iter_i3 {E : Env S Unit π} {V : Val E} {rank} {Good} (L : OrdLaw E V rank Good)
    {H0 : NT S Unit → List (π × Prog)}
    {s s1 : St S Unit π} {F : Sym} {args : List Prog} {nt s2 : NT S Unit} {i argsLen : Nat}
    {info : Info S} {ai : Prog} {r : Option Prog}
    (hai : args[i]? = some ai) (hlt : i < argsLen)
    (hq : Big E (.query s2 (some ai)) s s1 r)
    (ihq : FullT E V H0 s → SkipOK E s → NoDrop E s → SPre E (.query s2 (some ai)) → NPre (.query s2 (some ai)) s →
      OPreT E V H0 (.query s2 (some ai)) s → I3Post E (.query s2 (some ai)) s s1)
    (hf : FullT E V H0 s) (hk : SkipOK E s) (hnd : NoDrop E s)
    (hspre : SPre E (.addLoop F args nt i argsLen info s2))
    (hopre : OPreT E V H0 (.addLoop F args nt i argsLen info s2) s) :
    I3Iter E V rank H0 s s1 F args nt s2 i ai r := by
  have hqpre := opre_query_arg hai hlt hf hspre hopre
  have c1 := big_coreT L hq hf trivial trivial hqpre
  have it := loop_iter L hai hlt hq c1 hf hspre hopre
  obtain ⟨ra, a, sit, hs2, hrank⟩ := it.sit
  have hk1 := hk.big L hq hf trivial trivial hqpre
  obtain ⟨a1, _⟩ := ihq hf hk hnd trivial trivial hqpre
  have hnd1 : NoDrop E s1 := hnd.congr (big_deleted hq)
  have hs2ne : argNT a ≠ nt := fun heq => Nat.lt_irrefl _ (heq ▸ hs2 ▸ hrank)
  obtain ⟨w1, w2, w3, w4⟩ := pushStep_views E s1 F args nt i r
  have hk3 : SkipOK E (pushStep E s1 F args nt i r) :=
    hk1.imp (fun hd => w4.trans hd) fun ⟨hw, hc1⟩ => ⟨hw, cinv_push E V H0 hw s1 F args nt i r ra a ai c1.full hc1 sit⟩
  obtain ⟨hr, -, ha, -, -, -, -, hqs⟩ := id sit
  refine ⟨it, hk3, hnd1.congr w4, ?_, ?_⟩
  · intro nt' y hp
    have hp1 := popped_pushStep c1.full.sinv hk1 sit nt' y hp
    by_cases hle : rank nt' ≤ rank s2
    · rcases a1 nt' y hp1 with hold | hd
      · exact Or.inl hold
      · have hlt' : rank nt' < rank nt := by omega
        refine Or.inr ⟨?_, hlt'⟩
        exact hd.keep (fun F' args' ra' _ hr' a' ha' =>
          keeps_pushStep E s1 F args nt (argNT a') i r (child_ne L hlt' hr' ha'))
    · -- the tables of this non-terminal were not touched by the query
      left
      have hlt' : rank s2 < rank nt' := by omega
      have e1 : s1.succOf nt' = s.succOf nt' := c1.frame nt' hlt'
      obtain ⟨e2, e3⟩ := c1.frameH nt' hlt'
      rcases hp1 with ⟨k, hk⟩ | ⟨h1, h2, h3, h4⟩
      · exact Or.inl ⟨k, by rw [← e1]; exact hk⟩
      · exact Or.inr ⟨by rw [← e3]; exact h1, by rw [← St.heapProgs_congr e2]; exact h2, by rw [← big_deleted hq]; exact h3, h4⟩
  · intro ra' a' hr' ha'
    rw [hr] at hr'; cases hr'
    rw [ha] at ha'; cases ha'
    refine ⟨?_, hs2ne⟩
    cases hr' : r with
    | some z =>
      left
      refine ⟨z, ?_, pushStep_mem E s1 hnd1 F args nt i z⟩
      rw [succOf_pushStep]
      exact (hqs z hr').1
    | none =>
      right
      obtain ⟨n1, n2⟩ := c1.none_post hr'
      obtain ⟨p1, p2⟩ := pushStep_other E s1 F args nt (argNT a) i none hs2ne
      rw [p1, p2, ← hs2]
      exact ⟨n1, n2⟩

theorem big_i3T {E : Env S Unit π} {V : Val E} {rank} {Good} (L : OrdLaw E V rank Good)
    {H0 : NT S Unit → List (π × Prog)}
    {c : Call S Unit} {s s' : St S Unit π} {r : Option Prog} (hb : Big E c s s' r) :
    FullT E V H0 s → SkipOK E s → NoDrop E s → SPre E c → NPre c s → OPreT E V H0 c s → I3Post E c s s' := by
  induction hb with
  | @query_direct s s' nt p r h hb ih =>
    intro hf hc hnd _ _ hpre
    exact ⟨(ih hf hc hnd trivial trivial (opre_lop_direct h hpre)).1, trivial⟩
  | @query_first s s1 s' nt p r0 r hp h h0 hb ih0 ih =>
    intro hf hc hnd _ _ hpre
    have hq0 := opre_query_none E V H0 nt s
    have c0 := big_coreT L h0 hf trivial trivial hq0
    have hc1 := hc.big L h0 hf trivial trivial hq0
    have hpre' := opre_lop_first hf h h0 c0 hpre
    obtain ⟨a1, _⟩ := ih0 hf hc hnd trivial trivial hq0
    obtain ⟨b1, _⟩ := ih c0.full hc1 (hnd.congr (big_deleted h0)) trivial trivial hpre'
    have c1 := big_coreT L hb c0.full trivial trivial hpre'
    refine ⟨?_, trivial⟩
    intro nt' y hp'
    rcases b1 nt' y hp' with hold | hd
    · rcases a1 nt' y hold with hold' | hd
      · exact Or.inl hold'
      · exact Or.inr (hd.keep (fun _ _ _ _ _ a' _ => keeps_of_coreT hb c1 (argNT a') (fun h => h)))
    · exact Or.inr hd
  | lop_hit h => intro _ _ _ _ _ _; exact ⟨fun _ _ hp => Or.inl hp, trivial⟩
  | lop_miss h hb ih => intro hf hc hnd _ _ hpre; exact ⟨(ih hf hc hnd trivial h hpre).1, trivial⟩
  | pop_empty h => intro _ _ _ _ _ _; exact ⟨fun _ _ hp => Or.inl hp, trivial⟩
  | @pop_deleted s s1 s' nt key e h' x r h hd ha hb iha ihb =>
    intro hf hc hnd _ hnone hpre
    obtain ⟨hfa, hg, hopre⟩ := sub_skip L hf h hd
    have hca : SkipOK E (s.setHeap nt h') :=
      Or.inr ((hc.resolve_left fun h0 => by rw [h0] at hd; cases hd).imp_right (cinv_skip E V H0 s nt e h' hf · h hd))
    have ca := big_coreT L ha hfa hg trivial hopre
    have hc1 := hca.big L ha hfa hg trivial hopre
    obtain ⟨hnone1, hpre1⟩ := sub_skip_next h hnone hpre (ca.frame nt (Nat.le_refl _))
    have cb := big_coreT L hb ca.full trivial hnone1 hpre1
    obtain ⟨a1, a2⟩ := iha hfa hca hnd hg trivial hopre
    obtain ⟨b1, _⟩ := ihb ca.full hc1 (NoDrop.congr (s := s) hnd (big_deleted ha : s1.deleted = (s.setHeap nt h').deleted)) trivial hnone1 hpre1
    have hkeep : ∀ nt' y, DoneFrom E s1 nt' y 0 → DoneFrom E s' nt' y 0 :=
      fun nt' y hd' => hd'.keep (fun _ _ _ _ _ a' _ => keeps_of_coreT hb cb (argNT a') (fun h => h))
    have hheap0 : ∀ nt', (s.setHeap nt h').heapProgs nt' = if nt' = nt then h'.map (·.2) else s.heapProgs nt' :=
      fun nt' => St.heapProgs_setHeap s nt nt' h'
    refine ⟨?_, trivial⟩
    intro nt' y hp'
    rcases b1 nt' y hp' with hold | hd'
    · rcases a1 nt' y hold with hold' | hd'
      · rcases popped_after_pop (E := E) (pop_progs h) hheap0 (fun _ => rfl) rfl (fun _ _ _ hk => Or.inl hk) nt' y hold'
          with hs' | ⟨rfl, rfl⟩
        · exact Or.inl hs'
        · exact Or.inr (hkeep _ _ a2)
      · exact Or.inr (hkeep _ _ hd')
    · exact Or.inr hd'
  | @pop_take s s' nt key e h' x h hd ha iha =>
    intro hf hc hnd _ hnone hpre
    obtain ⟨hfa, hg, hopre, hkey⟩ := sub_take L hf h hnone hpre
    have hca : SkipOK E (s.popTake nt key e h') := hc.imp id (And.imp_right (cinv_pop E V H0 s nt key e h' hf · h hd hkey hnone))
    obtain ⟨a1, a2⟩ := iha hfa hca hnd hg trivial hopre
    refine ⟨?_, trivial⟩
    intro nt' y hp'
    rcases a1 nt' y hp' with hold | hd'
    · rcases popped_after_pop (E := E) (pop_progs h) (popTake_heapProgs s nt key e h') (fun _ => rfl) rfl (by
          intro nt'' k v hk
          rcases lookup_popTake hk with ⟨h1, -, h3⟩ | ⟨-, hk⟩
          · exact Or.inr ⟨h1, h3⟩
          · exact Or.inl hk) nt' y hold with hs' | ⟨rfl, rfl⟩
      · exact Or.inl hs'
      · exact Or.inr a2
    · exact Or.inr hd'
  | succ_leaf =>
    intro _ _ _ _ _ _
    refine ⟨fun _ _ hp => Or.inl hp, ?_⟩
    intro F args ra hy _ i a ai _ _ hai
    cases hy
    simp at hai
  | @succ_fun s s' F a as nt r rl x hd hr hb ih =>
    intro hf hc hnd hspre _ hpre
    obtain ⟨a1, a2⟩ := ih hf hc hnd (hspre.first hd hr) trivial hpre
    exact ⟨a1, a2⟩
  | @loop_done s F args nt i argsLen info s2 h =>
    intro _ _ _ hspre _ _
    refine ⟨fun _ _ hp => Or.inl hp, ?_⟩
    obtain ⟨ra, hr, _, hlen, _⟩ := hspre
    intro F' args' ra' hy hr' j a ai hj ha _
    cases hy
    rw [hr] at hr'; cases hr'
    have : j < ra.length := (List.getElem?_eq_some_iff.mp ha).1
    omega
  | @loop_step s s1 s' F args nt i argsLen info s2 ai r r' x h hai hq hc hda hb ihq ihb =>
    intro hf hcv hnd hspre _ hpre
    have I := iter_i3 L hai h hq ihq hf hcv hnd hspre hpre
    have hspre' := hspre.next hai hc hda
    obtain ⟨ra, hr, hgl, hlen, hinfo⟩ := hspre
    obtain ⟨hinf, a, ha, hs2⟩ := hinfo h
    obtain ⟨b1, b2⟩ := ihb I.it.full I.skip I.nodrop hspre' trivial (I.it.next _ _ _ _)
    have c4 := big_coreT L hb I.it.full hspre' trivial (I.it.next _ _ _ _)
    have hnew := I.popped
    obtain ⟨hfi, hane⟩ := I.fact ra a hr ha
    refine ⟨?_, ?_⟩
    · intro nt' y hp'
      rcases b1 nt' y hp' with hold | hd'
      · rcases hnew nt' y hold with hold' | ⟨hd', hrk⟩
        · exact Or.inl hold'
        · right
          exact hd'.keep (fun F' args' ra' _ hr' a' ha' =>
            keeps_of_coreT hb c4 (argNT a') (fun heq => child_ne L hrk hr' ha' heq.symm))
      · exact Or.inr hd'
    · intro F' args' ra' hy hr' j a' aj hj ha' haj
      cases hy
      rw [hr] at hr'; cases hr'
      by_cases hji : j = i
      · subst hji
        rw [ha] at ha'; cases ha'
        rw [hai] at haj; cases haj
        exact hfi.keep (keeps_of_coreT hb c4 (argNT a) (fun heq => hane heq.symm))
      · exact b2 F args ra rfl hr j a' aj (by omega) ha' haj
  | @loop_last s s1 F args nt i argsLen info s2 ai r h hai hq hc ihq =>
    intro hf hcv hnd hspre _ hpre
    have I := iter_i3 L hai h hq ihq hf hcv hnd hspre hpre
    have hnew := I.popped
    obtain ⟨ra, hr, hgl, hlen, hinfo⟩ := hspre
    obtain ⟨hinf, a, ha, hs2⟩ := hinfo h
    obtain ⟨hfi, _⟩ := I.fact ra a hr ha
    refine ⟨?_, ?_⟩
    · intro nt' y hp'
      rcases hnew nt' y hp' with hold | ⟨hd', _⟩
      · exact Or.inl hold
      · exact Or.inr hd'
    · intro F' args' ra' hy hr' j a' aj hj ha' haj
      cases hy
      rw [hr] at hr'; cases hr'
      have hjl : j < ra.length := (List.getElem?_eq_some_iff.mp ha').1
      have hji : j = i := by omega
      subst hji
      rw [ha] at ha'; cases ha'
      rw [hai] at haj; cases haj
      exact hfi

theorem big_i3 {E : Env S Unit π} {rank} {Good} (L : Law E rank Good) (hw : WTotal E) {H0 : NT S Unit → List (π × Prog)}
    {c : Call S Unit} {s s' : St S Unit π} {r : Option Prog} (hb : Big E c s s' r) :
    Full E H0 s → CInv E s → NoDrop E s → SPre E c → NPre c s → OPre E H0 c s → I3Post E c s s' :=
  fun hf hc hnd h1 h2 h3 => big_i3T (L.ordLaw (E.ops.ofRule 0)) hb (Full.iffT.mp hf) (Or.inr ⟨hw, hc⟩) hnd h1 h2
    ((OPre.iffT hf.oinv.val_prio).mp h3)

end PS.HG
