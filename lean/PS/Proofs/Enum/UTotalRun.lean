/- Heap search on unambiguous, acyclic grammars, termination at the generator level: `next` returns, and
   the generator stops after finitely many steps (the yielded programs are distinct members of a finite
   language). -/
import PS.Proofs.Enum.UTotalQuery
import PS.Proofs.Enum.UCompleteRun
namespace PS.UHS
open PS PS.G
set_option linter.unusedSectionVars false
variable {U π : Type} [DecidableEq U]
variable {E : Env U π} {rank : UNT U → Nat} {Good : π → Prop}

/-! ### a finite list containing the language -/

def prodLists : List (List Prog) → List (List Prog)
  | [] => [[]]
  | xs :: rest => xs.flatMap (fun x => (prodLists rest).map (fun t => x :: t))

theorem mem_prodLists : ∀ (xss : List (List Prog)) (t : List Prog), t.length = xss.length →
    (∀ (j : Nat) (x : Prog) (xs : List Prog), t[j]? = some x → xss[j]? = some xs → x ∈ xs) → t ∈ prodLists xss := by
  intro xss
  fun_induction prodLists xss with
  | case1 =>
    intro t h _
    cases t with
    | nil => exact List.mem_singleton.mpr rfl
    | cons _ _ => exact nomatch h
  | case2 xs rest ih =>
    intro t h hp
    cases t with
    | nil => exact nomatch h
    | cons x t =>
      exact List.mem_flatMap.mpr ⟨x, hp 0 x xs rfl rfl, List.mem_map.mpr
        ⟨t, ih t (Nat.succ.inj h) fun j y ys h1 h2 => hp (j + 1) y ys h1 h2, rfl⟩⟩

/-- the programs derivable from `nt` within `k` levels (with repetitions) -/
def langL (E : Env U π) : Nat → UNT U → List Prog
  | 0, _ => []
  | k + 1, nt =>
    match AList.lookup nt E.G.rules with
    | none => []
    | some rs => rs.flatMap (fun r => r.2.flatMap (fun vw => (prodLists (vw.1.map (langL E k))).map (Tree.node r.1)))

theorem mem_langL (hac : Acyclic E rank) : ∀ (k : Nat) (p : Prog) (nt : UNT U), rank nt < k → Der E p nt → p ∈ langL E k nt := by
  intro k
  induction k with
  | zero => intro p nt h; omega
  | succ k ih =>
    intro p nt hr hd
    obtain ⟨F, kids⟩ := p
    obtain ⟨v, w, hm, hdl⟩ := (der_node E F kids nt).mp hd
    obtain ⟨rs, hl, hl2⟩ := altsOf_row E nt F _ hm
    simp only [langL, hl, List.mem_flatMap, List.mem_map]
    refine ⟨(F, _), AList.lookup_some_mem hl2, (v, w), hm, kids, ?_, rfl⟩
    apply mem_prodLists
    · simp [derList_length E _ _ hdl]
    · intro j x xs hx hxs
      rw [List.getElem?_map] at hxs
      cases hv : v[j]? with
      | none => simp [hv] at hxs
      | some sj =>
        simp only [hv, Option.map_some, Option.some.injEq] at hxs
        subst hxs
        have hrk := hac nt F v w hm sj (List.mem_of_getElem? hv)
        exact ih x sj (by omega) (derList_get E kids v j x sj hdl hx hv)

/-- `OC` with the memo table of `compute_priority` filled for every program ever pushed, so that `compute_priority` finds
    the priorities of the arguments (no KeyError) -/
structure OT (E : Env U π) (rank : UNT U → Nat) (s : St U π) (emE : List (π × Prog × UNT U)) : Prop where
  oc : OC E rank s emE
  cache : CacheC s

def langList (E : Env U π) (rank : UNT U → Nat) : List Prog :=
  E.G.starts.flatMap (fun st => langL E (rank st.1 + 1) st.1)

theorem mem_langList (hac : Acyclic E rank) {p : Prog} {nt : UNT U} {w : Rat} (hw : AList.lookup nt E.G.starts = some w)
    (hd : Der E p nt) : p ∈ langList E rank :=
  List.mem_flatMap.mpr ⟨(nt, w), AList.lookup_some_mem hw, mem_langL hac _ p nt (Nat.lt_succ_self _) hd⟩

theorem em_fin (R : RHyp E rank Good) {s : St U π} {emE : List (π × Prog × UNT U)} (h : OG E rank s emE) :
    (emE.map (·.2.1)).Nodup ∧ emE.map (·.2.1) ⊆ langList E rank := by
  refine ⟨by have := h.ginv.em_nodup; rwa [List.map_map] at this, fun p hp => ?_⟩
  obtain ⟨x, hx, rfl⟩ := List.mem_map.mp hp
  obtain ⟨hd, w, hw⟩ := h.ginv.em_der (x.2.1, x.2.2) (List.mem_map.mpr ⟨x, hx, rfl⟩)
  exact mem_langList R.ohyp.acyclic hw hd

theorem em_length_le (R : RHyp E rank Good) {s : St U π} {emE : List (π × Prog × UNT U)} (h : OG E rank s emE) :
    emE.length ≤ (langList E rank).length := by
  have := (em_fin R h).1.length_le_of_subset (em_fin R h).2
  rwa [List.length_map] at this

theorem deleted_length_le (R : RHyp E rank Good) {s : St U π} {emE : List (π × Prog × UNT U)} (h : OG E rank s emE) :
    s.deleted.length ≤ (langList E rank).length := by
  have h1 := h.del_nodup.length_le_of_subset h.del_em
  have h2 := em_length_le R h
  simp only [List.length_map] at h1
  omega

theorem pushNext_total (R : RHyp E rank Good) {L Al A : Nat} (T : THyp E L Al A) {fuel : Nat}
    {s : St U π} {emE : List (π × Prog × UNT U)} {nt : UNT U} {p : Option Prog} {w : Rat} (h : OG E rank s emE) (hc : CacheC s)
    (hw : startW E nt = some w) (hfuel : (rank nt + 1) * (L + Al + A + 6 + (langList E rank).length) ≤ fuel)
    (hpp : ∀ k, p = some k → Popped s nt k) (hpn : p = none → emE = []) :
    ∃ s', pushNext E fuel s nt p = some s' ∧ CacheC s' := by
  have H := R.ohyp
  have hk := H.ghyp.kway
  have hopre := h.queryPre hpp hpn
  obtain ⟨⟨s1, r⟩, hq⟩ := (low_all H T (langList E rank).length (rank nt + 1)).query nt (Nat.lt_succ_self _)
    (T.starts_closed nt w hw) fuel s p hfuel h.base hc (deleted_length_le R h) hopre
  have hb := big_of_query E hq
  have hc1 := (big_cacheC E hk hb hc).1
  unfold pushNext
  simp only [hq]
  cases r with
  | none => exact ⟨s1, rfl, hc1⟩
  | some q =>
    simp only
    have a := big_after H hb h.base trivial trivial
    have hbase1 := a.base
    obtain ⟨_, a2, _, _⟩ := big_order H hb h.base trivial trivial hopre
    have hseen := Popped.seen hbase1.sinv ⟨p, a.npost q rfl⟩
    obtain ⟨F, kids⟩ := q
    obtain ⟨v, hv⟩ := a2.2.2.keyed _ hseen
    have hko := hbase1.sinv.keys_ok nt F kids v hv
    obtain ⟨⟨s2, pr⟩, hcp⟩ := computePrio_total H s1 nt F kids v hko hv (by
      intro i ai si hai hsi
      exact hc1 si ai ((a2.1.args F kids v hseen hv i ai si hai hsi).seen hbase1.sinv))
    simp only [hcp, hw]
    refine ⟨_, rfl, ?_⟩
    obtain ⟨_, hg⟩ := computePrio_cache E hcp
    have hcs := computePrio_step E hcp
    exact hc1.congr (fun nt' => by show s2.seenOf nt' = _; rw [hcs.seenOf]) hg

theorem pushNexts_total (R : RHyp E rank Good) {L Al A : Nat} (T : THyp E L Al A) {fuel : Nat} :
    ∀ (l : List (UNT U)) (s : St U π), OG E rank s [] → CacheC s → l.Nodup → (∀ nt, nt ∈ s.startHeap.map (·.2.2) → nt ∉ l) →
      (∀ nt, nt ∈ l → ∃ w, startW E nt = some w) →
      (∀ nt, nt ∈ l → (rank nt + 1) * (L + Al + A + 6 + (langList E rank).length) ≤ fuel) →
      ∃ s', pushNexts E fuel l s = some s' ∧ CacheC s' := by
  intro l
  induction l with
  | nil => exact fun s _ hc _ _ _ _ => ⟨s, rfl, hc⟩
  | cons nt rest ih =>
    intro s h hc hnd hdisj hst hfuel
    obtain ⟨w, hw⟩ := hst nt List.mem_cons_self
    obtain ⟨s1, h1, hc1⟩ := pushNext_total R T (p := none) h hc hw (hfuel nt List.mem_cons_self) (by intro k hk; cases hk)
      (fun _ => rfl)
    obtain ⟨g1, hsub, _, _, _, _⟩ := h.pushNext R (fun hm => hdisj nt hm List.mem_cons_self) (by simp [doneR])
      (by intro k hk; cases hk) (fun _ => rfl) (E.ops.ofRule 0) (by intro x hx; cases hx)  -- `bound` is not read: see `OG.pushNexts`
      (by intro k w pr hk; cases hk) h1
    obtain ⟨s', hs', hc'⟩ := ih s1 g1 hc1 (List.nodup_cons.mp hnd).2
      (startHeap_disj_step hnd hdisj fun e he => (hsub e he).imp id And.left)
      (fun nt' hn => hst nt' (List.mem_cons_of_mem _ hn)) (fun nt' hn => hfuel nt' (List.mem_cons_of_mem _ hn))
    exact ⟨s', by simp only [pushNexts, h1]; exact hs', hc'⟩

/-- the fuel is enough for every start symbol; `C` = rows + alternatives + arity + 6 + (number of programs a
    filter can reject) -/
def FuelOK (E : Env U π) (rank : UNT U → Nat) (C fuel : Nat) : Prop :=
  1 ≤ fuel ∧ ∀ nt w, startW E nt = some w → (rank nt + 1) * C ≤ fuel

theorem kwayLoop_total (R : RHyp E rank Good) {L Al A : Nat} (T : THyp E L Al A) {fuel : Nat}
    (hf : FuelOK E rank (L + Al + A + 6 + (langList E rank).length) fuel) (k : Nat) {s : St U π}
    {emE : List (π × Prog × UNT U)} (hc : OC E rank s emE) (hcc : CacheC s) :
    ∃ res, kwayLoop E fuel (k + 1) s = some res ∧ CacheC res.1 := by
  have H := R.ohyp
  have h := hc.og
  simp only [UHS.kwayLoop]
  cases hpop : Heapq.pop (ltS E.ops) s.startHeap with
  | none => exact ⟨_, rfl, hcc⟩
  | some eh =>
    obtain ⟨⟨pa, q, nt⟩, h'⟩ := eh
    simp only
    obtain ⟨h0, _, hpq, hm, _⟩ := h.popStart R hpop
    obtain ⟨w, _, hw, _⟩ := h.base.sinv.start_ok _ hm
    simp only at hw
    have hcc0 : CacheC { s with startHeap := h' } := hcc.congr (fun _ => rfl) (CacheGrow.refl _)
    obtain ⟨s1, hpn, hc1⟩ := pushNext_total R T (p := some q) h0 hcc0 hw (hf.2 nt w hw) (by intro k hk; cases hk; exact hpq)
      (by intro hk; cases hk)
    obtain ⟨_, _, _, _, hnd, _⟩ := h.turn R hpop hpn
    simp only [hpn, hnd, Bool.false_eq_true, if_false]
    exact ⟨_, rfl, hc1⟩

theorem startQuery_total (R : RHyp E rank Good) {L Al A : Nat} (T : THyp E L Al A) {fuel : Nat}
    (hf : FuelOK E rank (L + Al + A + 6 + (langList E rank).length) fuel) {s : St U π} {emE : List (π × Prog × UNT U)}
    (hc : OC E rank s emE) (hcc : CacheC s) : ∃ res, startQuery E fuel s = some res ∧ CacheC res.1 := by
  unfold UHS.startQuery
  rw [if_pos R.ohyp.ghyp.kway]
  obtain ⟨f', hf'⟩ : ∃ f', fuel = f' + 1 := Nat.exists_eq_add_one.mpr hf.1
  by_cases hi0 : s.initS.isEmpty = true
  · rw [if_pos hi0]
    have hi0' : s.initS = [] := by simpa using hi0
    obtain ⟨hs0, he0⟩ := hc.og.ginv.inited hi0'
    have he0' : emE = [] := by simpa using he0
    subst he0'
    obtain ⟨s1, h1, hc1⟩ := pushNexts_total R T (E.G.starts.map (·.1)) s hc.og hcc R.starts_nodup
      (by rw [hs0]; intro nt hm; cases hm) (fun nt hn => (startW_some_iff E nt).mpr hn)
      (fun nt hn => by obtain ⟨w, hw⟩ := (startW_some_iff E nt).mpr hn; exact hf.2 nt w hw)
    simp only [h1]
    obtain ⟨g1, hex1, _⟩ := oc_pushNexts R _ hc.og R.starts_nodup (by rw [hs0]; intro nt hm; cases hm)
      (by intro nt hn hs _; exact absurd hs hn) h1
    have hoc1 : OC E rank s1 [] := ⟨g1, fun _ nt w hw hn => hex1 nt ((startW_some_iff E nt).mp ⟨w, hw⟩) hn⟩
    rw [hf']
    exact kwayLoop_total R T (hf' ▸ hf) f' hoc1 hc1
  · rw [if_neg hi0, hf']
    exact kwayLoop_total R T (hf' ▸ hf) f' hc hcc

theorem cacheC_addDeleted {s : St U π} (h : CacheC s) (p : Prog) : CacheC (s.addDeleted p) := by
  obtain ⟨d, hd⟩ := St.addDeleted_eq s p
  rw [hd]
  exact h.congr (fun _ => rfl) (CacheGrow.refl _)

/-- a rejected program costs one step of the loop, and at most `|langList| − |taken so far|` programs can still be
    rejected -/
theorem next_total (R : RHyp E rank Good) {L Al A : Nat} (T : THyp E L Al A) {fuel : Nat}
    (hf : FuelOK E rank (L + Al + A + 6 + (langList E rank).length) fuel) : ∀ (k : Nat) {s : St U π}
    {emE : List (π × Prog × UNT U)}, (langList E rank).length - emE.length + 1 ≤ k → OC E rank s emE → CacheC s →
    ∃ res, next E fuel k s = some res ∧ CacheC res.1 := by
  intro k
  induction k with
  | zero => exact fun hk _ _ => absurd hk (Nat.not_succ_le_zero _)
  | succ k ih =>
    intro s emE hk hc hcc
    obtain ⟨⟨s1, r⟩, hq, hc1⟩ := startQuery_total R T hf hc hcc
    simp only [UHS.next, hq]
    cases r with
    | none => exact ⟨_, rfl, hc1⟩
    | some p =>
      simp only
      rcases hc.startQuery R hq with ⟨he, _⟩ | ⟨e, he, g⟩
      · cases he
      · cases he
        by_cases hfp : E.filter e.2.1 = true
        · rw [if_pos hfp]
          exact ⟨_, rfl, hc1⟩
        · rw [if_neg hfp]
          have hfp' : E.filter e.2.1 = false := by simpa using hfp
          have hlen := em_length_le R g.og
          simp only [List.length_cons] at hlen
          exact ih (by simp only [List.length_cons]; omega) (g.addDeleted R hfp')
            (cacheC_addDeleted hc1 _)

/-- with enough fuel there is a number of `next` steps after which the generator has raised `StopIteration` (the flag
    `true`) -/
theorem take_stops (R : RHyp E rank Good) {L Al A : Nat} (T : THyp E L Al A) {fuel : Nat}
    (hf : FuelOK E rank (L + Al + A + 6 + (langList E rank).length) fuel) (hN : (langList E rank).length + 1 ≤ fuel) :
    ∃ k s' out, take E fuel k (St.empty E.G) [] = some (s', out, true) := by
  have hce : CacheC (St.empty E.G : St U π) := by
    intro nt p hp
    rcases (og_empty (rank := rank) E).all nt with hu | hf'
    · rw [hu.2.2.2] at hp; cases hp
    · have := hf'.1.init
      simp [St.empty] at this
  -- `next` returns under `OT`, and what was yielded are distinct members of the finite `langList`
  obtain ⟨k, ⟨s', out, b⟩, hk, rfl⟩ := Iter.take_stops_finite (next := next E fuel fuel)
    (I := fun s acc => ∃ emE, OT E rank s emE ∧ acc = accepted E emE) (langList E rank)
    (fun s acc ⟨emE, h, _⟩ => (next_total R T hf fuel (by omega) h.oc h.cache).imp fun _ h => h.1)
    (fun s acc s1 p ⟨emE, h, e⟩ hn => by
      obtain ⟨res, hn', hc1⟩ := next_total R T hf fuel (by omega) h.oc h.cache
      obtain ⟨emE', g, ha, _⟩ := next_acc (fun h hp => h.startQuery R hp) (fun g hf => g.addDeleted R hf) fuel h.oc e hn
      cases hn.symm.trans hn'
      exact ⟨emE', ⟨g, hc1⟩, ha⟩)
    (fun s acc ⟨emE, h, e⟩ => by
      obtain ⟨hnd, hsub⟩ := em_fin R h.oc.og
      rw [e]
      exact ⟨accepted_nodup hnd, fun q hq => hsub ((List.filter_sublist.map _).subset (List.mem_reverse.mp hq))⟩)
    _ _ ⟨[], ⟨oc_empty E, hce⟩, rfl⟩
  exact ⟨k, s', out, (take_eq E fuel k _ _).trans hk⟩

end PS.UHS
