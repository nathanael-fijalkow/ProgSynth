/- The case analysis of the functions of the beap-search model, done once, as induction principles with one premise
   per path through the code.  A premise hands over what the code tested on that path, the equations of the calls it
   made and, for each call, the property being proved.  The successor loop is not given a principle of that shape:
   `succLoop_eq` rewrites it as the pushes of the list `succEls` (`pushAll`), and `pushAll_induct` carries a property
   over them.  `take` is the driver of Iter.lean (`take_eq`), and `take_induct` is its rule `Iter.take_rule`. -/
import PS.Proofs.Enum.BeapBase
import PS.Proofs.Enum.HeapInv
import PS.Proofs.Enum.Iter
namespace PS.Beap
open PS PS.G PS.Heapq
set_option linter.unusedSectionVars false
variable {S : Type} [DecidableEq S]

/-- `if cost_index not in bank: bank[cost_index] = []` (beap_search.py:198-199) -/
def St.ensureBank (s : St S) (nt : NT S Unit) (ci : Nat) : St S :=
  if (AList.lookup ci (s.bankOf nt)).isSome then s else s.setBank nt ci []

namespace St
variable (s : St S) (nt nt' : NT S Unit) (ci ci' : Nat)
@[simp] theorem clOf_ensureBank : (s.ensureBank nt ci).clOf nt' = s.clOf nt' := by unfold ensureBank; split <;> rfl
@[simp] theorem queueOf_ensureBank : (s.ensureBank nt ci).queueOf nt' = s.queueOf nt' := by unfold ensureBank; split <;> rfl
@[simp] theorem emptiesOf_ensureBank : (s.ensureBank nt ci).emptiesOf nt' = s.emptiesOf nt' := by
  unfold ensureBank; split <;> rfl
@[simp] theorem deleted_ensureBank : (s.ensureBank nt ci).deleted = s.deleted := by unfold ensureBank; split <;> rfl
/-- an absent entry and an empty one read the same -/
@[simp] theorem bankAt_ensureBank : (s.ensureBank nt ci).bankAt nt' ci' = s.bankAt nt' ci' := by
  unfold ensureBank
  split
  · rfl
  · next h =>
    rw [bankAt_setBank]
    split
    · next heq =>
      obtain ⟨rfl, rfl⟩ := heq
      cases hl : AList.lookup ci' (s.bankOf nt') with
      | none => simp [bankAt, hl]
      | some v => simp [hl] at h
    · rfl

theorem clOf_of_lookup {s : St S} {nt : NT S Unit} {cl : List Cost} (h : AList.lookup nt s.costLists = some cl) :
    s.clOf nt = cl := by simp [clOf, h]
theorem bankAt_of_lookup {s : St S} {nt : NT S Unit} {ci : Nat} {ps : List Prog}
    (h : AList.lookup ci (s.bankOf nt) = some ps) : s.bankAt nt ci = ps := by simp [bankAt, h]
end St

/-- the heap elements pushed by the successor loop -/
def succEls (cost : Cost) (P : Sym) (comb : List Nat) (s : St S) : Nat → List (NT S Unit) → List HeapEl
  | _, [] => []
  | i, a :: as =>
    if comb.getD i 0 + 1 ≥ (s.clOf a).length then
      if comb.getD i 0 + 1 > 1 then [] else succEls cost P comb s (i + 1) as
    else
      ⟨cost - (s.clOf a).getD (comb.getD i 0) (Cost.ofRat 0) + (s.clOf a).getD (comb.getD i 0 + 1) (Cost.ofRat 0),
        comb.set i (comb.getD i 0 + 1), P⟩ ::
        (if comb.getD i 0 + 1 > 1 then [] else succEls cost P comb s (i + 1) as)

theorem succEls_congr (cost : Cost) (P : Sym) (comb : List Nat) (s s' : St S) (h : ∀ a, s'.clOf a = s.clOf a) :
    ∀ (as : List (NT S Unit)) (i : Nat), succEls cost P comb s' i as = succEls cost P comb s i as := by
  intro as
  induction as with
  | nil => intro i; rfl
  | cons a as ih => intro i; unfold succEls; simp only [h a, ih (i + 1)]

theorem mem_succEls {cost : Cost} {P : Sym} {comb : List Nat} {s : St S} {el : HeapEl}
    {as : List (NT S Unit)} {i : Nat} (h : el ∈ succEls cost P comb s i as) :
    ∃ j a, as[j]? = some a ∧ comb.getD (i + j) 0 + 1 < (s.clOf a).length ∧
      el = ⟨cost - (s.clOf a).getD (comb.getD (i + j) 0) (Cost.ofRat 0) + (s.clOf a).getD (comb.getD (i + j) 0 + 1) (Cost.ofRat 0),
        comb.set (i + j) (comb.getD (i + j) 0 + 1), P⟩ := by
  fun_induction succEls cost P comb s i as with
  | case1 => cases h
  | case2 => cases h
  | case3 i a as _ _ ih =>
    obtain ⟨j, a', h1, h2⟩ := ih h
    exact ⟨j + 1, a', h1, by rwa [Nat.add_right_comm i 1 j] at h2⟩
  | case4 i a as hlt ih =>
    rcases List.mem_cons.mp h with rfl | h'
    · exact ⟨0, a, rfl, Nat.lt_of_not_ge hlt, rfl⟩
    · split at h'
      · cases h'
      · obtain ⟨j, a', h1, h2⟩ := ih h'
        exact ⟨j + 1, a', h1, by rwa [Nat.add_right_comm i 1 j] at h2⟩

def pushAll (nt : NT S Unit) (s : St S) (els : List HeapEl) : St S :=
  els.foldl (fun s x => s.setQueue nt (Heapq.push ltE (s.queueOf nt) x)) s

theorem succLoop_eq (nt : NT S Unit) (cost : Cost) (P : Sym) (comb : List Nat) (as : List (NT S Unit)) (s : St S) (i : Nat) :
    succLoop nt cost P comb s i as = pushAll nt s (succEls cost P comb s i as) := by
  fun_induction succLoop nt cost P comb s i as with
  | case1 => rfl
  | case2 s i a as _ _ hge hgt => rw [succEls, if_pos hge, if_pos hgt]; rfl
  | case3 s i a as _ _ hge hgt ih => rw [succEls, if_pos hge, if_neg hgt]; exact ih
  | case4 s i a as _ _ hge _ _ hgt => rw [succEls, if_neg hge, if_pos hgt]; rfl
  | case5 s i a as _ _ hge _ s' hgt ih =>
    rw [succEls, if_neg hge, if_neg hgt, ih, succEls_congr cost P comb s s' (fun _ => rfl)]; rfl

theorem pushAll_induct {I : St S → Prop} (nt : NT S Unit) {els : List HeapEl}
    (step : ∀ s x, x ∈ els → I s → I (s.setQueue nt (Heapq.push ltE (s.queueOf nt) x))) : ∀ s, I s → I (pushAll nt s els) := by
  induction els with
  | nil => exact fun s h => h
  | cons x xs ih =>
    exact fun s h => ih (fun s y hy => step s y (List.mem_cons_of_mem _ hy)) _ (step s x (List.mem_cons_self ..) h)

section
variable (nt : NT S Unit) (s : St S) (els : List HeapEl)
@[simp] theorem clOf_pushAll (nt' : NT S Unit) : (pushAll nt s els).clOf nt' = s.clOf nt' :=
  pushAll_induct (I := fun s' => s'.clOf nt' = s.clOf nt') nt (fun _ _ _ h => h) s rfl
@[simp] theorem deleted_pushAll : (pushAll nt s els).deleted = s.deleted :=
  pushAll_induct (I := fun s' => s'.deleted = s.deleted) nt (fun _ _ _ h => h) s rfl
@[simp] theorem bankAt_pushAll (nt' : NT S Unit) (ci : Nat) : (pushAll nt s els).bankAt nt' ci = s.bankAt nt' ci :=
  pushAll_induct (I := fun s' => s'.bankAt nt' ci = s.bankAt nt' ci) nt (fun _ _ _ h => h) s rfl
theorem queueOf_pushAll_ne {nt' : NT S Unit} (hne : nt' ≠ nt) : (pushAll nt s els).queueOf nt' = s.queueOf nt' :=
  pushAll_induct (I := fun s' => s'.queueOf nt' = s.queueOf nt') nt
    (fun s' _ _ h => by rw [St.queueOf_setQueue, if_neg hne]; exact h) s rfl
theorem queueOf_pushAll_perm : ((pushAll nt s els).queueOf nt).Perm (els ++ s.queueOf nt) := by
  induction els generalizing s with
  | nil => exact List.Perm.refl _
  | cons x xs ih =>
    refine (ih _).trans ?_
    rw [St.queueOf_setQueue, if_pos rfl]
    exact ((Heapq.push_perm ltE _ x).append_left xs).trans List.perm_middle
end

theorem emit_induct (E : Env S) (nt : NT S Unit) (ci : Nat) (P : Sym) (isFun : Bool)
    {M : St S → List (List Prog) → St S × Option (Prog × List (List Prog)) → Prop}
    (nil : ∀ s, M s [] (s, none))
    (deleted : ∀ s a rest r, mkProg P isFun a ∈ s.deleted → M s rest r → M s (a :: rest) r)
    (rejected : ∀ s a rest r, E.filter (mkProg P isFun a) = false → M (s.addDeleted (mkProg P isFun a)) rest r →
      M s (a :: rest) r)
    (yield : ∀ s a rest, mkProg P isFun a ∉ s.deleted → E.filter (mkProg P isFun a) = true →
      M s (a :: rest) (s.setBank nt ci (s.bankAt nt ci ++ [mkProg P isFun a]), some (mkProg P isFun a, rest))) :
    ∀ (pend : List (List Prog)) (s : St S) r, emit E nt ci P isFun s pend = r → M s pend r := by
  intro pend s r h
  subst h
  fun_induction emit E nt ci P isFun s pend with
  | case1 s => exact nil s
  | case2 s a rest _ hd ih => exact deleted s a rest _ (by simpa using hd) ih
  | case3 s a rest _ _ hf ih => exact rejected s a rest _ (by simpa using hf) ih
  | case4 s a rest _ hd hf => exact yield s a rest (by simpa using hd) (by simpa using hf)

/-- what a property of the five functions says of every run that returns: the conclusion of `run_induct` -/
structure Runs (E : Env S) (n : Nat)
    (QL : St S → NT S Unit → Nat → St S × Bool × List Prog → Prop) (RQ : St S → NT S Unit → Nat → St S → Prop)
    (Dr : St S → NT S Unit → Frame → St S → Prop) (Rs : St S → NT S Unit → Frame → St S × Res → Prop)
    (Ar : St S → List (NT S Unit) → List Nat → Bool → Bool → List (List Prog) → St S × Bool × Bool × List (List Prog) → Prop) :
    Prop where
  ql : ∀ {s nt ci r}, queryList E n s nt ci = some r → QL s nt ci r
  rq : ∀ {s nt ci s'}, runQuery E n s nt ci = some s' → RQ s nt ci s'
  dr : ∀ {s nt fr s'}, drive E n s nt fr = some s' → Dr s nt fr s'
  rs : ∀ {s nt fr r}, resume E n s nt fr = some r → Rs s nt fr r
  al : ∀ {s as cs ae af acc r}, argsLoop E n s as cs ae af acc = some r → Ar s as cs ae af acc r

theorem Runs.and {E : Env S} {n : Nat} {QL RQ Dr Rs Ar} (h : Runs E n QL RQ Dr Rs Ar) :
    (∀ s nt ci r, queryList E n s nt ci = some r → QL s nt ci r) ∧
    (∀ s nt ci s', runQuery E n s nt ci = some s' → RQ s nt ci s') ∧
    (∀ s nt fr s', drive E n s nt fr = some s' → Dr s nt fr s') ∧
    (∀ s nt fr r, resume E n s nt fr = some r → Rs s nt fr r) ∧
    (∀ s as cs ae af acc r, argsLoop E n s as cs ae af acc = some r → Ar s as cs ae af acc r) :=
  ⟨fun _ _ _ _ => h.ql, fun _ _ _ _ => h.rq, fun _ _ _ _ => h.dr, fun _ _ _ _ => h.rs, fun _ _ _ _ _ _ _ => h.al⟩

/-- a relation between the state before and the state after every run that returns -/
abbrev RunsRel (E : Env S) (n : Nat) (R : St S → St S → Prop) : Prop :=
  Runs E n (fun s _ _ r => R s r.1) (fun s _ _ s' => R s s') (fun s _ _ s' => R s s') (fun s _ _ r => R s r.1)
    (fun s _ _ _ _ _ r => R s r.1)

section run
variable (E : Env S)
  {QL : Nat → St S → NT S Unit → Nat → St S × Bool × List Prog → Prop}
  {RQ : Nat → St S → NT S Unit → Nat → St S → Prop}
  {Dr : Nat → St S → NT S Unit → Frame → St S → Prop}
  {Rs : Nat → St S → NT S Unit → Frame → St S × Res → Prop}
  {Ar : Nat → St S → List (NT S Unit) → List Nat → Bool → Bool → List (List Prog) →
    St S × Bool × Bool × List (List Prog) → Prop}

/-- In `rs_pop` the state and the frame with which `query` goes round its `while` loop again are `s'`, `fr'`: the three
    ways to get there (an argument failed; all arguments allowed-empty; the product is formed) are the three disjuncts. -/
theorem run_induct
    (ql_empty : ∀ n s nt ci, (s.emptiesOf nt).contains ci = true → QL (n + 1) s nt ci (s, true, []))
    (ql_beyond : ∀ n s nt ci, ¬ (s.emptiesOf nt).contains ci = true → ci ≥ (s.clOf nt).length →
      QL (n + 1) s nt ci (s, false, []))
    (ql_bank : ∀ n s nt ci ps, ¬ (s.emptiesOf nt).contains ci = true → ci < (s.clOf nt).length →
      AList.lookup ci (s.bankOf nt) = some ps → QL (n + 1) s nt ci (s, E.fixEmptied && ps.isEmpty, ps))
    (ql_run_empty : ∀ n s nt ci s1, ¬ (s.emptiesOf nt).contains ci = true → ci < (s.clOf nt).length →
      AList.lookup ci (s.bankOf nt) = none → runQuery E n s nt ci = some s1 → RQ n s nt ci s1 →
      (s1.emptiesOf nt).contains ci = true → QL (n + 1) s nt ci (s1, true, []))
    (ql_run_bank : ∀ n s nt ci s1 ps, ¬ (s.emptiesOf nt).contains ci = true → ci < (s.clOf nt).length →
      AList.lookup ci (s.bankOf nt) = none → runQuery E n s nt ci = some s1 → RQ n s nt ci s1 →
      ¬ (s1.emptiesOf nt).contains ci = true → AList.lookup ci (s1.bankOf nt) = some ps →
      QL (n + 1) s nt ci (s1, false, ps))
    (rq_none : ∀ n s nt ci, (s.clOf nt)[ci]? = none → RQ (n + 1) s nt ci s)
    (rq_some : ∀ n s nt ci c s', (s.clOf nt)[ci]? = some c →
      drive E n s nt { ci := ci, cost := c, P := default } = some s' →
      Dr n s nt { ci := ci, cost := c, P := default } s' → RQ (n + 1) s nt ci s')
    (dr_ret : ∀ n s nt (fr : Frame) s1, resume E n s nt fr = some (s1, .ret) → Rs n s nt fr (s1, .ret) → Dr (n + 1) s nt fr s1)
    (dr_yield : ∀ n s nt (fr : Frame) s1 p fr1 s', resume E n s nt fr = some (s1, .yield p fr1) → Rs n s nt fr (s1, .yield p fr1) →
      drive E n s1 nt fr1 = some s' → Dr n s1 nt fr1 s' → Dr (n + 1) s nt fr s')
    (rs_yield : ∀ n s nt (fr : Frame) s1 p rest, emit E nt fr.ci fr.P fr.isFun s fr.pending = (s1, some (p, rest)) →
      Rs (n + 1) s nt fr (s1, .yield p { fr with hasGen := true, pending := rest }))
    (rs_ret : ∀ n s nt (fr : Frame) s1, emit E nt fr.ci fr.P fr.isFun s fr.pending = (s1, none) →
      (∀ e q, s1.queueOf nt = e :: q → e.cost ≠ fr.cost) → Rs (n + 1) s nt fr (epilogue s1 nt fr, .ret))
    (rs_pop : ∀ n s nt (fr : Frame) s1 el q0 q' rl s3 ae af poss s' fr' r,
      emit E nt fr.ci fr.P fr.isFun s fr.pending = (s1, none) → s1.queueOf nt = el :: q0 → el.cost = fr.cost →
      Heapq.pop ltE (s1.queueOf nt) = some (el, q') → E.G.rule? nt el.P = some rl →
      argsLoop E n (s1.setQueue nt q') (rl.1.map ntOf) el.comb false false [] = some (s3, ae, af, poss) →
      Ar n (s1.setQueue nt q') (rl.1.map ntOf) el.comb false false [] (s3, ae, af, poss) →
      (((af && !ae) = true ∧ s' = s3 ∧ fr' = { fr with noSucc := fr.noSucc && (af && !ae), pending := [] }) ∨
        ((af && !ae) = false ∧ ae = true ∧ s' = succLoop nt fr.cost el.P el.comb s3 0 (rl.1.map ntOf) ∧
          fr' = { fr with noSucc := fr.noSucc && (af && !ae), pending := [] }) ∨
        (af = false ∧ ae = false ∧ s' = (succLoop nt fr.cost el.P el.comb s3 0 (rl.1.map ntOf)).ensureBank nt fr.ci ∧
          fr' = { fr with noSucc := fr.noSucc && (af && !ae), P := el.P, isFun := !(rl.1.map ntOf).isEmpty,
                          pending := product poss })) →
      resume E n s' nt fr' = some r → Rs n s' nt fr' r → Rs (n + 1) s nt fr r)
    (ar_nil : ∀ n s cs ae af acc, Ar (n + 1) s [] cs ae af acc (s, ae, af, acc))
    (ar_break : ∀ n s a as c cs ae af acc s1 poss, queryList E n s a c = some (s1, false, poss) →
      QL n s a c (s1, false, poss) → poss.isEmpty = true → Ar (n + 1) s (a :: as) (c :: cs) ae af acc (s1, ae, true, acc))
    (ar_cons : ∀ n s a as c cs ae af acc s1 one poss r, queryList E n s a c = some (s1, one, poss) →
      QL n s a c (s1, one, poss) → (poss.isEmpty = true → one = true) →
      argsLoop E n s1 as cs (ae || one) (af || poss.isEmpty) (acc ++ [poss]) = some r →
      Ar n s1 as cs (ae || one) (af || poss.isEmpty) (acc ++ [poss]) r → Ar (n + 1) s (a :: as) (c :: cs) ae af acc r) :
    ∀ n, Runs E n (QL n) (RQ n) (Dr n) (Rs n) (Ar n) := by
  intro n
  induction n with
  | zero =>
    refine ⟨?_, ?_, ?_, ?_, ?_⟩
    · intro s nt ci r h; cases h
    · intro s nt ci r h; cases h
    · intro s nt fr r h; cases h
    · intro s nt fr r h; cases h
    · intro s as cs ae af acc r h; cases h
  | succ n ih =>
    obtain ⟨ihQL, ihRQ, ihD, ihR, ihA⟩ := ih
    refine ⟨?_, ?_, ?_, ?_, ?_⟩
    · intro s nt ci r h
      unfold queryList at h
      -- an `if` is opened by `by_cases` and `rw [if_pos]`/`rw [if_neg]`: `split at h` rewrites the whole body by `simp`
      -- and costs up to 2 M heartbeats at one `if` of `resume`
      by_cases he : (s.emptiesOf nt).contains ci = true
      · rw [if_pos he] at h; cases h; exact ql_empty n s nt ci he
      rw [if_neg he] at h
      by_cases hl : ci ≥ (s.clOf nt).length
      · rw [if_pos hl] at h; cases h; exact ql_beyond n s nt ci he hl
      rw [if_neg hl] at h
      have hl : ci < (s.clOf nt).length := Nat.lt_of_not_ge hl
      split at h
      · next ps hps => cases h; exact ql_bank n s nt ci ps he hl hps
      · next hb =>
        split at h
        · cases h
        · next s1 hrq =>
          by_cases he1 : (s1.emptiesOf nt).contains ci = true
          · rw [if_pos he1] at h; cases h; exact ql_run_empty n s nt ci s1 he hl hb hrq (ihRQ hrq) he1
          rw [if_neg he1] at h
          split at h
          · next ps hps => cases h; exact ql_run_bank n s nt ci s1 ps he hl hb hrq (ihRQ hrq) he1 hps
          · cases h
    · intro s nt ci s' h
      unfold runQuery at h
      split at h
      · next hc => cases h; exact rq_none n s nt ci hc
      · next c hc => exact rq_some n s nt ci c s' hc h (ihD h)
    · intro s nt fr s' h
      unfold drive at h
      split at h
      · cases h
      · next s1 hr => cases h; exact dr_ret n s nt fr _ hr (ihR hr)
      · next s1 p fr1 hr => exact dr_yield n s nt fr s1 p fr1 s' hr (ihR hr) h (ihD h)
    · intro s nt fr r h
      unfold resume at h
      split at h
      · next s1 p rest hem => cases h; exact rs_yield n s nt fr s1 p rest hem
      · next s1 hem =>
        split at h
        · next hq => cases h; exact rs_ret n s nt fr s1 hem (fun e q hq' => by rw [hq] at hq'; cases hq')
        · next e0 q0 hq =>
          by_cases hc : e0.cost = fr.cost
          case neg =>
            rw [if_pos hc] at h; cases h
            exact rs_ret n s nt fr s1 hem (fun e q hq' => by rw [hq] at hq'; cases hq'; exact hc)
          rw [if_neg (not_not_intro hc)] at h
          split at h
          · cases h
          · next el q' hpop =>
            have hhead : e0 = el := by
              have := pop_head ltE _ _ _ hpop
              rw [hq] at this; exact Option.some.inj this
            subst hhead
            split at h
            · cases h
            · next rl hrl =>
              dsimp only at h
              split at h
              · cases h
              · next s3 ae af poss hargs =>
                have pop := fun s' fr' hnext h' hr' => rs_pop n s nt fr s1 e0 q0 q' rl s3 ae af poss s' fr' r
                  hem hq hc hpop hrl hargs (ihA hargs) hnext h' hr'
                by_cases hfo : (af && !ae) = true
                · rw [if_pos hfo] at h; exact pop _ _ (Or.inl ⟨hfo, rfl, rfl⟩) h (ihR h)
                rw [if_neg hfo] at h
                have hfo : (af && !ae) = false := eq_false_of_ne_true hfo
                by_cases hae : ae = true
                · rw [if_pos hae] at h; exact pop _ _ (Or.inr (Or.inl ⟨hfo, hae, rfl, rfl⟩)) h (ihR h)
                rw [if_neg hae] at h
                have hae : ae = false := eq_false_of_ne_true hae
                exact pop _ _ (Or.inr (Or.inr ⟨by simpa [hae] using hfo, hae, rfl, rfl⟩)) h (ihR h)
    · intro s as cs ae af acc r h
      cases as with
      | nil => simp only [argsLoop] at h; cases h; exact ar_nil n s cs ae af acc
      | cons a as =>
        cases cs with
        | nil => simp [argsLoop] at h
        | cons c cs =>
          simp only [argsLoop] at h
          split at h
          · cases h
          · next s1 one poss hql =>
            have hq := ihQL hql
            by_cases hp : poss.isEmpty = true
            · rw [if_pos hp] at h
              have e : (af || poss.isEmpty) = true := by rw [hp, Bool.or_true]
              cases one with
              | false => cases h; rw [Bool.or_false]; exact ar_break n s a as c cs ae af acc s1 poss hql hq hp
              | true =>
                exact ar_cons n s a as c cs ae af acc s1 true poss r hql hq (fun _ => rfl) (by rw [e]; exact h)
                  (by rw [e]; exact ihA h)
            · rw [if_neg hp] at h
              have e : (af || poss.isEmpty) = af := by rw [Bool.eq_false_iff.mpr hp, Bool.or_false]
              exact ar_cons n s a as c cs ae af acc s1 one poss r hql hq (fun he => absurd he hp) (by rw [e]; exact h)
                (by rw [e]; exact ihA h)
end run

/-- the same for the three functions of `_init_non_terminal_`: the conclusion of `init_induct` -/
structure Inits (E : Env S) (n : Nat) (IN : St S → NT S Unit → St S → Prop)
    (IR : St S → NT S Unit → List (Sym × (List (Ty × S) × Unit)) → St S → Prop)
    (IA : St S → List (Ty × S) → Cost → St S × Cost → Prop) : Prop where
  nt : ∀ {s nt s'}, initNT E n s nt = some s' → IN s nt s'
  rules : ∀ {s nt rest s'}, initRules E n s nt rest = some s' → IR s nt rest s'
  args : ∀ {s as c r}, initArgs E n s as c = some r → IA s as c r

section init
variable (E : Env S)
  {IN : Nat → St S → NT S Unit → St S → Prop}
  {IR : Nat → St S → NT S Unit → List (Sym × (List (Ty × S) × Unit)) → St S → Prop}
  {IA : Nat → St S → List (Ty × S) → Cost → St S × Cost → Prop}

theorem init_induct
    (in_done : ∀ n s nt cl, AList.lookup nt s.costLists = some cl → cl.length > 0 → IN (n + 1) s nt s)
    (in_run : ∀ n s nt rs s1 e q, AList.lookup nt s.costLists = some [] → AList.lookup nt E.G.rules = some rs →
      initRules E n (s.setCL nt [Cost.big]) nt rs = some s1 → IR n (s.setCL nt [Cost.big]) nt rs s1 →
      s1.queueOf nt = e :: q → IN (n + 1) s nt (s1.setCL nt ((s1.clOf nt).set 0 e.cost)))
    (ir_nil : ∀ n s nt, IR (n + 1) s nt [] s)
    (ir_cons : ∀ n s nt P rl rest w s1 cost s', ruleW E nt P = some w →
      initArgs E n s rl.1 (Cost.ofRat w) = some (s1, cost) → IA n s rl.1 (Cost.ofRat w) (s1, cost) →
      initRules E n (s1.setQueue nt (Heapq.push ltE (s1.queueOf nt) ⟨cost, List.replicate rl.1.length 0, P⟩)) nt rest = some s' →
      IR n (s1.setQueue nt (Heapq.push ltE (s1.queueOf nt) ⟨cost, List.replicate rl.1.length 0, P⟩)) nt rest s' →
      IR (n + 1) s nt ((P, rl) :: rest) s')
    (ia_nil : ∀ n s c, IA (n + 1) s [] c (s, c))
    (ia_cons : ∀ n s a as c s1 c0 cl0 r, initNT E n s (ntOf a) = some s1 → IN n s (ntOf a) s1 →
      s1.clOf (ntOf a) = c0 :: cl0 → initArgs E n s1 as (c + c0) = some r → IA n s1 as (c + c0) r →
      IA (n + 1) s (a :: as) c r) :
    ∀ n, Inits E n (IN n) (IR n) (IA n) := by
  intro n
  induction n with
  | zero =>
    refine ⟨?_, ?_, ?_⟩
    · intro s nt s' h; cases h
    · intro s nt rest s' h; cases h
    · intro s as c r h; cases h
  | succ n ih =>
    refine ⟨?_, ?_, ?_⟩
    · intro s nt s' h
      unfold initNT at h
      split at h
      · cases h
      · next cl hcl =>
        split at h
        · next hlen => cases h; exact in_done n s nt cl hcl hlen
        · next hlen =>
          have hnil : cl = [] := List.length_eq_zero_iff.mp (Nat.eq_zero_of_not_pos hlen)
          subst hnil
          split at h
          · cases h
          · next rs hrs =>
            split at h
            · cases h
            · next s1 hir =>
              split at h
              · cases h
              · next e q hq => cases h; exact in_run n s nt rs s1 e q hcl hrs hir (ih.rules hir) hq
    · intro s nt rest s' h
      cases rest with
      | nil => simp only [initRules] at h; cases h; exact ir_nil n s nt
      | cons pr rest =>
        obtain ⟨P, rl⟩ := pr
        simp only [initRules] at h
        split at h
        · cases h
        · next w hw =>
          split at h
          · cases h
          · next s1 cost hia => exact ir_cons n s nt P rl rest w s1 cost s' hw hia (ih.args hia) h (ih.rules h)
    · intro s as c r h
      cases as with
      | nil => simp only [initArgs] at h; cases h; exact ia_nil n s c
      | cons a as =>
        simp only [initArgs] at h
        split at h
        · cases h
        · next s1 hin =>
          split at h
          · cases h
          · next c0 cl0 hcl => exact ia_cons n s a as c s1 c0 cl0 r hin (ih.nt hin) hcl h (ih.args h)

theorem recost_eq_some {E : Env S} {s : St S} {nt : NT S Unit} {el el' : HeapEl} :
    recost E s nt el = some el' ↔
      ∃ w rl c, ruleW E nt el.P = some w ∧ E.G.rule? nt el.P = some rl ∧ sumFirst s rl.1 (Cost.ofRat 0) = some c ∧
        el' = { el with cost := Cost.ofRat w + c } := by
  unfold recost
  constructor
  · intro h
    split at h
    · next w rl hw hr =>
      split at h
      · cases h
      · next c hc => exact ⟨w, rl, c, hw, hr, hc, (Option.some.inj h).symm⟩
    · cases h
  · rintro ⟨w, rl, c, hw, hr, hc, rfl⟩
    simp only [hw, hr, hc]

theorem recost_keeps (E : Env S) (s : St S) (nt : NT S Unit) (el el' : HeapEl) (h : recost E s nt el = some el') :
    el'.P = el.P ∧ el'.comb = el.comb := by
  obtain ⟨_, _, _, _, _, _, rfl⟩ := recost_eq_some.mp h
  exact ⟨rfl, rfl⟩

theorem mapOpt_all2 {α β : Type} (f : α → Option β) (l : List α) (l' : List β) (h : mapOpt f l = some l') :
    All2 (fun x y => f x = some y) l l' := by
  fun_induction mapOpt f l generalizing l' with
  | case1 => cases h; exact All2.nil
  | case2 x xs y ys hxs hx ih => cases h; exact All2.cons hx (ih _ hxs)
  | case3 => cases h

theorem All2.exists_right {α β : Type} {R : α → β → Prop} {l1 : List α} {l2 : List β} (h : All2 R l1 l2) :
    ∀ a ∈ l1, ∃ b ∈ l2, R a b := by
  induction h with
  | nil => intro a ha; cases ha
  | cons hr _ ih =>
    intro a ha
    rcases List.mem_cons.mp ha with rfl | ha'
    · exact ⟨_, List.mem_cons_self .., hr⟩
    · obtain ⟨b, hb, hrb⟩ := ih a ha'
      exact ⟨b, List.mem_cons_of_mem _ hb, hrb⟩

theorem All2.exists_left {α β : Type} {R : α → β → Prop} {l1 : List α} {l2 : List β} (h : All2 R l1 l2) :
    ∀ b ∈ l2, ∃ a ∈ l1, R a b := by
  induction h with
  | nil => intro b hb; cases hb
  | cons hr _ ih =>
    intro b hb
    rcases List.mem_cons.mp hb with rfl | hb'
    · exact ⟨_, List.mem_cons_self .., hr⟩
    · obtain ⟨a, ha, hra⟩ := ih b hb'
      exact ⟨a, List.mem_cons_of_mem _ ha, hra⟩

theorem mem_repriced {E : Env S} {s : St S} {nt : NT S Unit} {q nq : List HeapEl} {e : HeapEl} {q' : List HeapEl}
    (hnq : mapOpt (recost E s nt) q = some nq) (hh : heapify ltE nq = e :: q') :
    (∀ el ∈ e :: q', ∃ x ∈ q, recost E s nt x = some el) ∧ (∀ x ∈ q, ∃ el ∈ e :: q', recost E s nt x = some el) := by
  have hm : ∀ el, el ∈ e :: q' ↔ el ∈ nq := fun el => by rw [← hh]; exact (heapify_perm ltE nq).mem_iff
  have ha := mapOpt_all2 _ _ _ hnq
  exact ⟨fun el he => ha.exists_left el ((hm el).mp he),
    fun x hx => let ⟨el, he, hr⟩ := ha.exists_right x hx; ⟨el, (hm el).mpr he, hr⟩⟩

/-- A property kept by every re-pricing of a queue (`new_queue != queue`: re-heapify, new first cost) is kept by
    `_reevaluate_`. -/
theorem reevaluate_induct {I : St S → Prop}
    (step : ∀ s nt nq e q' c0 cl', I s → mapOpt (recost E s nt) (s.queueOf nt) = some nq → heapify ltE nq = e :: q' →
      s.clOf nt = c0 :: cl' → I ((s.setQueue nt (e :: q')).setCL nt (e.cost :: cl'))) :
    ∀ fuel s s', I s → reevaluate E fuel s = some s' → I s' := by
  have pass : ∀ (nts : List (NT S Unit)) (s : St S) (ch : Bool) (r : St S × Bool),
      I s → reevalPass E nts s ch = some r → I r.1 := by
    intro nts s ch r hs h
    fun_induction reevalPass E nts s ch with
    | case1 => cases h; exact hs
    | case2 => cases h
    | case3 nt rest s ch nq hnq _ e q' c0 cl' hcl hh ih => exact ih (step s nt nq e q' c0 cl' hs hnq hh hcl) h
    | case4 => cases h
    | case5 nt rest s ch nq hnq _ ih => exact ih hs h
  have loop : ∀ (k : Nat) (s s' : St S), I s → reevalLoop E k s = some s' → I s' := by
    intro k s s' hs h
    fun_induction reevalLoop E k s with
    | case1 => cases h
    | case2 => cases h
    | case3 k s s1 hp ih => exact ih (pass _ _ _ _ hs hp) h
    | case4 k s s1 hp => cases h; exact pass _ _ _ _ hs hp
  intro fuel s s' hs h
  unfold reevaluate at h
  split at h
  · exact loop _ _ _ hs h
  · cases h; exact hs

theorem prologue_cases {E : Env S} {fuel : Nat} {s s' : St S} (h : prologue E fuel s = some s') :
    ∃ s1, initNT E fuel s E.G.start = some s1 ∧ reevaluate E fuel s1 = some s' := by
  unfold prologue at h
  split at h
  · cases h
  · next s1 hin => exact ⟨s1, hin, h⟩
end init

section gen
variable (E : Env S) (fuel : Nat) {NL : St S → Nat → Bool → Option Frame → Gen S × Option Prog → Prop}

theorem nextLoop_induct
    (nl_yield : ∀ s n failed fr s1 p fr1, resume E fuel s E.G.start fr = some (s1, .yield p fr1) →
      NL s n failed (some fr) ({ st := s1, started := true, n := n, failed := false, frame := some fr1 }, some p))
    (nl_stop : ∀ s n failed fr s1, resume E fuel s E.G.start fr = some (s1, .ret) →
      (failed && !s1.failedByEmpties) = true →
      NL s n failed (some fr) ({ st := s1, started := true, finished := true, n := n + 1, failed := true }, none))
    (nl_next : ∀ s n failed fr s1 r, resume E fuel s E.G.start fr = some (s1, .ret) → NL s1 (n + 1) false none r →
      NL s n failed (some fr) r)
    (nl_end : ∀ s n failed, (s.clOf E.G.start)[n]? = none → NL s n failed none
      ({ st := { s with failedByEmpties := false }, started := true, finished := true, n := n + 1, failed := true }, none))
    (nl_enter : ∀ s n failed c r, (s.clOf E.G.start)[n]? = some c →
      NL { s with failedByEmpties := false } n true (some { ci := n, cost := c, P := default }) r → NL s n failed none r) :
    ∀ k s n failed fro r, nextLoop E fuel k s n failed fro = some r → NL s n failed fro r := by
  intro k s n failed fro r h
  fun_induction nextLoop E fuel k s n failed fro with
  | case1 => cases h
  | case2 => cases h
  | case3 k s n failed fr s1 p fr1 hr => cases h; exact nl_yield s n failed fr s1 p fr1 hr
  | case4 k s n failed fr s1 hr hf => cases h; exact nl_stop s n failed fr s1 hr hf
  | case5 k s n failed fr s1 hr _ ih => exact nl_next s n failed fr s1 r hr (ih h)
  | case6 k s n failed _ hg => cases h; exact nl_end s n failed hg
  | case7 k s n failed _ c hg ih => exact nl_enter s n failed c r hg (ih h)

theorem next_cases {E : Env S} {fuel : Nat} {g : Gen S} {r : Gen S × Option Prog} : next E fuel g = some r →
    (g.finished = true ∧ r = (g, none)) ∨
    (g.started = true ∧ nextLoop E fuel fuel g.st g.n g.failed g.frame = some r) ∨
    (g.started = false ∧ ∃ s, prologue E fuel g.st = some s ∧ nextLoop E fuel fuel s 0 false none = some r) := by
  fun_cases next E fuel g with
  | case1 hf => intro h; cases h; exact Or.inl ⟨hf, rfl⟩
  | case2 _ hs => exact fun h => Or.inr (Or.inl ⟨hs, h⟩)
  | case3 => nofun
  | case4 _ hs s hp => exact fun h => Or.inr (Or.inr ⟨by simpa using hs, s, hp, h⟩)

/-- `take` is the shared driver over `next`: its rules are those of PS/Proofs/Enum/Iter.lean -/
theorem take_eq : ∀ k g acc, take E fuel k g acc = Iter.take (next E fuel) k g acc :=
  Iter.take_unique (fun _ _ => rfl) (fun _ _ _ h => by simp only [take, h]) (fun _ _ _ _ h => by simp only [take, h])
    (fun _ _ _ _ _ h => by simp only [take, h])

theorem take_induct {I : Gen S → List Prog → Prop} {Q : Gen S → List Prog → Bool → Prop}
    (tk_done : ∀ g acc, I g acc → Q g acc false)
    (tk_stop : ∀ g acc g', I g acc → next E fuel g = some (g', none) → Q g' acc true)
    (tk_yield : ∀ g acc g' p, I g acc → next E fuel g = some (g', some p) → I g' (acc ++ [p])) :
    ∀ k g acc r, I g acc → take E fuel k g acc = some r → Q r.1 r.2.1 r.2.2 :=
  fun k g acc r hi h => Iter.take_rule tk_done tk_stop tk_yield k g acc r hi (take_eq E fuel k g acc ▸ h)
end gen

end PS.Beap
