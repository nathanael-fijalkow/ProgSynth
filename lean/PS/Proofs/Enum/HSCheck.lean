/- Decidable sufficient conditions for the hypotheses of the order theorem and of the completeness theorem (used for
   the literal grammars of the test vectors). -/
import PS.Proofs.Enum.HSHyp
import PS.Proofs.ProbDet
namespace PS.HS
open PS PS.G
set_option linter.unusedSectionVars false
variable {S : Type} [DecidableEq S]

/-! ### the order theorem (for the non-vacuity examples: the state produced by the prologue satisfies the order invariant) -/

/-- `OInv` at `H0 := s.heapOf`, with the first disjunct of `args` only (every argument was popped). The last clause
    looks the key up again (`lookup kv.1 … = some ai`) instead of testing `kv.2 = ai`: a pair of the list that stands
    behind another with the same key is not an entry of the table (`lookup` takes the first). -/
def oinvB (E : Env S Unit Rat) (s : St S Unit Rat) : Bool :=
  (s.heaps.all fun nh => nh.2.all fun e => (s.succOf nh.1).all fun kv => decide (e.1 ≤ prob E.G E.W kv.2 nh.1)) &&
  (s.succ.all fun nt => nt.2.all fun kv =>
    match kv.1 with
    | some k => decide (prob E.G E.W kv.2 nt.1 ≤ prob E.G E.W k nt.1)
    | none => true) &&
  (s.seen.all fun nl => nl.2.all fun p =>
    match E.G.rule? nl.1 p.label with
    | some (ra, _) => (List.range p.kids.length).all fun i =>
        match p.kids[i]?, ra[i]? with
        | some ai, some a => (s.succOf (argNT a)).any fun kv =>
            decide (AList.lookup kv.1 (s.succOf (argNT a)) = some ai)
        | _, _ => true
    | none => true)

theorem oinv_of_oinvB (E : Env S Unit Rat) (s : St S Unit Rat) (h : oinvB E s = true) : OInv E s.heapOf s := by
  unfold oinvB at h
  simp only [Bool.and_eq_true] at h
  obtain ⟨⟨h1, h2⟩, h3⟩ := h
  refine ⟨?_, ?_, ?_, fun _ _ => rfl⟩
  · intro nt e he k v hk
    obtain ⟨hl, hmem, hel⟩ := AList.mem_of_mem_getD_lookup (k := nt) (d := s.heaps) he
    have a1 := List.all_eq_true.mp h1 (nt, hl) hmem
    have a2 := List.all_eq_true.mp a1 e hel
    have a3 := List.all_eq_true.mp a2 (k, v) (AList.lookup_some_mem hk)
    simpa using a3
  · intro nt k v hk
    have hkv := AList.lookup_some_mem hk
    obtain ⟨tb, hmem, hel⟩ := AList.mem_of_mem_getD_lookup (k := nt) (d := s.succ) hkv
    have a1 := List.all_eq_true.mp h2 (nt, tb) hmem
    have a2 := List.all_eq_true.mp a1 (some k, v) hel
    simpa using a2
  · intro nt F args ra hmem hr i ai a hai ha
    obtain ⟨l, hml, hel⟩ := AList.mem_of_mem_getD_lookup (k := nt) (d := s.seen) hmem
    have a1 := List.all_eq_true.mp h3 (nt, l) hml
    have a2 := List.all_eq_true.mp a1 (Tree.node F args) hel
    simp only [Tree.label, hr, Tree.kids] at a2
    have hil : i < args.length := (List.getElem?_eq_some_iff.mp hai).1
    have a3 := List.all_eq_true.mp a2 i (List.mem_range.mpr hil)
    simp only [hai, ha] at a3
    obtain ⟨kv, hkv, hdec⟩ := List.any_eq_true.mp a3
    exact Or.inl ⟨kv.1, by simpa using hdec⟩

theorem acyclic_of_all (G : TT S Unit) (rank : NT S Unit → Nat)
    (h : G.rules.all (fun e => e.2.all fun r => r.2.1.all fun a => decide (rank (argNT a) < rank e.1)) = true) :
    ∀ nt F ra, G.rule? nt F = some (ra, ()) → ∀ a ∈ ra, rank (argNT a) < rank nt := by
  intro nt F ra hr a ha
  have := AList.lookup₂_of_all (p := fun nt _ r => r.1.all fun a => decide (rank (argNT a) < rank nt)) h
    ((TT.rule?_eq_lookup₂ G nt F).symm.trans hr)
  exact of_decide_eq_true (List.all_eq_true.mp this a ha)

theorem wnonneg_of_all (W : Tags S Unit) (h : W.all (fun e => e.2.all fun r => decide (0 ≤ r.2)) = true) :
    WNonneg W := by
  intro nt P
  unfold weight
  cases hw : tagOf W nt P with
  | none => exact Rat.le_refl
  | some w =>
    exact of_decide_eq_true
      (AList.lookup₂_of_all (p := fun _ _ w => decide (0 ≤ w)) h ((tagOf_eq_lookup₂ W nt P).symm.trans hw))

/-! ### the completeness theorem -/

theorem wtotal_of_all (E : Env S Unit Rat)
    (h : E.G.rules.all (fun e => e.2.all fun r => (ruleW E e.1 r.1).isSome) = true) : WTotal E := by
  intro nt F rl hr
  exact AList.lookup₂_of_all (p := fun nt F _ => (ruleW E nt F).isSome) h ((TT.rule?_eq_lookup₂ E.G nt F).symm.trans hr)

theorem closed_of_all (G : TT S Unit)
    (h : G.rules.all (fun e => e.2.all fun r => r.2.1.all fun a => (AList.lookup (argNT a) G.rules).isSome) = true) :
    Closed G := by
  intro nt F ra hr a ha
  exact List.all_eq_true.mp (AList.lookup₂_of_all (p := fun _ _ r => r.1.all fun a => (AList.lookup (argNT a) G.rules).isSome) h
    ((TT.rule?_eq_lookup₂ G nt F).symm.trans hr)) a ha

theorem nonempty_of_all (G : TT S Unit) (h : G.rules.all (fun e => !e.2.isEmpty) = true) :
    ∀ nt rs, AList.lookup nt G.rules = some rs → rs ≠ [] := by
  intro nt rs hl hempty
  have a1 := List.all_eq_true.mp h (nt, rs) (AList.lookup_some_mem hl)
  subst hempty
  simp at a1

theorem compHyp_of_checks (E : Env S Unit Rat) (rank : NT S Unit → Nat)
    (hops : E.ops = probOps 0)
    (h1 : E.W.all (fun e => e.2.all fun r => decide (0 ≤ r.2)) = true)
    (h2 : E.G.rules.all (fun e => e.2.all fun r => r.2.1.all fun a => decide (rank (argNT a) < rank e.1)) = true)
    (h3 : E.G.rules.all (fun e => decide ((AList.keys e.2).Nodup)) = true)
    (h4 : E.G.rules.all (fun e => !e.2.isEmpty) = true)
    (h5 : (AList.keys E.G.rules).Nodup)
    (h6 : E.G.rules.all (fun e => e.2.all fun r => (ruleW E e.1 r.1).isSome) = true)
    (h7 : E.G.rules.all (fun e => e.2.all fun r => r.2.1.all fun a => (AList.lookup (argNT a) E.G.rules).isSome) = true)
    (h8 : ∀ p, E.filter p = true) : CompHyp E rank :=
  { ord := ⟨⟨0, hops⟩, wnonneg_of_all E.W h1, acyclic_of_all E.G rank h2⟩
    init := ⟨rowsNodup_of_all E.G h3, acyclic_of_all E.G rank h2, nonempty_of_all E.G h4⟩
    thr := by rw [hops]; rfl
    keys := h5
    wtotal := wtotal_of_all E h6
    closed := closed_of_all E.G h7
    nofilter := h8 }

end PS.HS
