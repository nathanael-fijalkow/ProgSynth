/- The fuel of the beap-search model is a proof artifact: a run that returns with some fuel returns the same result
   with every larger fuel. -/
import PS.Proofs.Enum.BeapRun
namespace PS.Beap
open PS PS.G PS.Heapq
set_option linter.unusedSectionVars false
variable {S : Type} [DecidableEq S]

theorem fuel_step (E : Env S) : ∀ n, Runs E n
    (fun s nt ci r => queryList E (n + 1) s nt ci = some r)
    (fun s nt ci r => runQuery E (n + 1) s nt ci = some r)
    (fun s nt fr r => drive E (n + 1) s nt fr = some r)
    (fun s nt fr r => resume E (n + 1) s nt fr = some r)
    (fun s as cs ae af acc r => argsLoop E (n + 1) s as cs ae af acc = some r) := by
  refine run_induct E ?ql_empty ?ql_beyond ?ql_bank ?ql_run_empty ?ql_run_bank ?rq_none ?rq_some ?dr_ret ?dr_yield
    ?rs_yield ?rs_ret ?rs_pop ?ar_nil ?ar_break ?ar_cons
  case ql_empty => intro n s nt ci he; rw [queryList, if_pos he]
  case ql_beyond => intro n s nt ci he hl; rw [queryList, if_neg he, if_pos hl]
  case ql_bank => intro n s nt ci ps he hl hps; rw [queryList, if_neg he, if_neg (Nat.not_le.mpr hl), hps]
  case ql_run_empty =>
    intro n s nt ci s1 he hl hb _ ih he1
    rw [queryList, if_neg he, if_neg (Nat.not_le.mpr hl), hb]; dsimp only; rw [ih]; dsimp only; rw [if_pos he1]
  case ql_run_bank =>
    intro n s nt ci s1 ps he hl hb _ ih he1 hps
    rw [queryList, if_neg he, if_neg (Nat.not_le.mpr hl), hb]; dsimp only; rw [ih]; dsimp only; rw [if_neg he1, hps]
  case rq_none => intro n s nt ci hc; rw [runQuery, hc]
  case rq_some => intro n s nt ci c s' hc _ ih; rw [runQuery, hc]; exact ih
  case dr_ret => intro n s nt fr s1 _ ih; rw [drive, ih]
  case dr_yield => intro n s nt fr s1 p fr1 s' _ ihR _ ihD; rw [drive, ihR]; exact ihD
  case rs_yield => intro n s nt fr s1 p rest hem; rw [resume, hem]
  case rs_ret =>
    intro n s nt fr s1 hem hne
    rw [resume, hem]; dsimp only
    cases hq : s1.queueOf nt with
    | nil => rfl
    | cons e0 q0 => dsimp only; rw [if_pos (hne e0 q0 hq)]
  case rs_pop =>
    intro n s nt fr s1 el q0 q' rl s3 ae af poss s' fr' r hem hq hc hpop hrl _ ihA hnext _ ihR
    rw [resume, hem]; dsimp only
    rw [hq] at hpop ⊢; dsimp only
    rw [if_neg (fun h => h hc), hpop]; dsimp only
    rw [hrl]; dsimp only
    rw [ihA]; dsimp only
    rcases hnext with ⟨hfo, rfl, rfl⟩ | ⟨hfo, hae, rfl, rfl⟩ | ⟨haf, hae, rfl, rfl⟩
    · rw [if_pos hfo]; exact ihR
    · rw [if_neg (by simp [hfo]), if_pos hae]; exact ihR
    · subst haf; subst hae; exact ihR
  case ar_nil => intro n s cs ae af acc; rw [argsLoop]
  case ar_break => intro n s a as c cs ae af acc s1 poss _ ih hp; rw [argsLoop, ih]; simp [hp]
  case ar_cons =>
    intro n s a as c cs ae af acc s1 one poss r _ ihQ himp _ ihA
    rw [argsLoop, ihQ]; dsimp only
    cases hp : poss.isEmpty with
    | true => rw [himp hp] at ihA ⊢; simpa [hp] using ihA
    | false => simpa [hp] using ihA
theorem init_fuel_step (E : Env S) : ∀ n, Inits E n
    (fun s nt r => initNT E (n + 1) s nt = some r)
    (fun s nt rs r => initRules E (n + 1) s nt rs = some r)
    (fun s as c r => initArgs E (n + 1) s as c = some r) := by
  refine init_induct E ?in_done ?in_run ?ir_nil ?ir_cons ?ia_nil ?ia_cons
  case in_done => intro n s nt cl hcl hlen; rw [initNT, hcl]; dsimp only; rw [if_pos hlen]
  case in_run =>
    intro n s nt rs s1 e q hcl hrs _ ih hq
    rw [initNT, hcl]; dsimp only
    rw [if_neg (show ¬ ([] : List Cost).length > 0 from Nat.lt_irrefl 0), hrs]; dsimp only
    rw [List.nil_append, ih]; dsimp only; rw [hq]
  case ir_nil => intro n s nt; rw [initRules]
  case ir_cons => intro n s nt P rl rest w s1 cost s' hw _ ihA _ ihR; rw [initRules, hw]; dsimp only; rw [ihA]; exact ihR
  case ia_nil => intro n s c; rw [initArgs]
  case ia_cons => intro n s a as c s1 c0 cl0 r _ ihN hcl _ ihA; rw [initArgs, ihN]; dsimp only; rw [hcl]; exact ihA

theorem reevalLoop_fuel_step (E : Env S) (k : Nat) (s r : St S) (h : reevalLoop E k s = some r) :
    reevalLoop E (k + 1) s = some r := by
  fun_induction reevalLoop E k s with
  | case1 => cases h
  | case2 => cases h
  | case3 k s s1 hp ih => rw [reevalLoop, hp]; exact ih h
  | case4 k s s1 hp => rw [reevalLoop, hp]; exact h

theorem prologue_fuel_step (E : Env S) (fuel : Nat) (s r : St S) (h : prologue E fuel s = some r) :
    prologue E (fuel + 1) s = some r := by
  obtain ⟨s1, hin, hre⟩ := prologue_cases h
  rw [prologue, (init_fuel_step E fuel).nt hin]
  unfold reevaluate at hre ⊢
  dsimp only
  split
  · next hr => exact reevalLoop_fuel_step E _ _ _ (by rwa [if_pos hr] at hre)
  · next hr => rwa [if_neg hr] at hre

theorem nextLoop_fuel_step (E : Env S) (fuel : Nat) (k : Nat) (s : St S) (n : Nat) (failed : Bool) (fro : Option Frame)
    (r : Gen S × Option Prog) (h : nextLoop E fuel k s n failed fro = some r) :
    nextLoop E (fuel + 1) (k + 1) s n failed fro = some r := by
  fun_induction nextLoop E fuel k s n failed fro with
  | case1 => cases h
  | case2 => cases h
  | case3 k s n failed fr s1 p fr1 hr => rw [nextLoop, (fuel_step E fuel).rs hr]; exact h
  | case4 k s n failed fr s1 hr hf => rw [nextLoop, (fuel_step E fuel).rs hr]; dsimp only; rw [if_pos hf]; exact h
  | case5 k s n failed fr s1 hr hf ih => rw [nextLoop, (fuel_step E fuel).rs hr]; dsimp only; rw [if_neg hf]; exact ih h
  | case6 k s n failed s0 hg => rw [nextLoop, hg]; exact h
  | case7 k s n failed s0 c hg ih => rw [nextLoop, hg]; exact ih h

theorem next_fuel_step (E : Env S) (fuel : Nat) (g : Gen S) (r : Gen S × Option Prog) : next E fuel g = some r →
    next E (fuel + 1) g = some r := by
  fun_cases next E fuel g with
  | case1 hf => intro h; rw [next, if_pos hf]; exact h
  | case2 hf hs => intro h; rw [next, if_neg hf, if_pos hs]; exact nextLoop_fuel_step E fuel fuel _ _ _ _ _ h
  | case3 => nofun
  | case4 hf hs s hp =>
    intro h; rw [next, if_neg hf, if_neg hs, prologue_fuel_step E fuel _ _ hp]; exact nextLoop_fuel_step E fuel fuel _ _ _ _ _ h
theorem take_fuel_step (E : Env S) (fuel : Nat) : ∀ (k : Nat) (g : Gen S) (acc : List Prog) (r : Gen S × List Prog × Bool),
    take E fuel k g acc = some r → take E (fuel + 1) k g acc = some r := by
  intro k g acc r h
  rw [take_eq] at h ⊢
  exact Iter.take_mono (next_fuel_step E fuel) k g acc r h

theorem take_fuel_mono (E : Env S) (k : Nat) (g : Gen S) (acc : List Prog) (r : Gen S × List Prog × Bool) :
    ∀ (fuel fuel' : Nat), fuel ≤ fuel' → take E fuel k g acc = some r → take E fuel' k g acc = some r := by
  intro fuel fuel' hle h
  obtain ⟨d, rfl⟩ := Nat.exists_eq_add_of_le hle
  induction d with
  | zero => exact h
  | succ d ih => exact take_fuel_step E (fuel + d) k g acc r (ih (Nat.le_add_right _ _))

end PS.Beap
