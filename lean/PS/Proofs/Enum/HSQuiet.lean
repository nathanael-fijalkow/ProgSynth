/- Facts about one call of the heap-search machine, with or without a filter (any grammar, any priority):
   an empty heap stays empty (and its successor table frozen) as long as no `__add_successors__` for that
   non-terminal is the running call. `NonePost` is what a `query` that returns `None` leaves: the heap of its
   non-terminal empty and the key without successor (proved in GBig, a field of `Core`). -/
import PS.Proofs.Enum.HSNodup
namespace PS.HS
open PS PS.G
set_option linter.unusedSectionVars false
variable {S T π : Type} [DecidableEq S] [DecidableEq T]

/-- the call is an `__add_successors__` (or its loop) for `nt` -/
def Call.addsAt : Call S T → NT S T → Prop
  | .addSucc _ nt', nt => nt' = nt
  | .addLoop _ _ nt' _ _ _ _, nt => nt' = nt
  | _, _ => False

theorem pushStep_other (E : Env S T π) (s : St S T π) (F : Sym) (args : List Prog) (nt nt' : NT S T) (i : Nat)
    (r : Option Prog) (hne : nt' ≠ nt) :
    (pushStep E s F args nt i r).heapOf nt' = s.heapOf nt' ∧ (pushStep E s F args nt i r).succOf nt' = s.succOf nt' := by
  rcases pushStep_cases E s F args nt i r with e | ⟨_, -, -, -, e⟩
  · rw [e]; exact ⟨rfl, rfl⟩
  · rw [e]; exact ⟨heapOf_pushNew_ne E s _ hne, succOf_pushNew E s nt nt' _⟩

/-- an exhausted non-terminal stays exhausted: only `__add_successors__` for `nt'` pushes on the heap
    of `nt'`, and only a pop from that heap writes its successor table -/
theorem big_emptyKeep (E : Env S T π) {c : Call S T} {s s' : St S T π} {r : Option Prog}
    (hb : Big E c s s' r) : ∀ nt', s.heapOf nt' = [] → ¬ c.addsAt nt' →
    s'.heapOf nt' = [] ∧ s'.succOf nt' = s.succOf nt' := by
  have pop_ne : ∀ {s : St S T π} {nt nt' : NT S T} {e h'}, Heapq.pop (ltE E.ops) (s.heapOf nt) = some (e, h') →
      s.heapOf nt' = [] → nt' ≠ nt := by
    intro s nt nt' e h' h he heq; subst heq
    rw [he] at h; simp [Heapq.pop] at h
  induction hb with
  | query_direct h hb ih => intro nt' he _; exact ih nt' he (fun h => h)
  | query_first hp h h0 hb ih0 ih =>
    intro nt' he _
    obtain ⟨a1, a2⟩ := ih0 nt' he (fun h => h)
    obtain ⟨b1, b2⟩ := ih nt' a1 (fun h => h)
    exact ⟨b1, b2.trans a2⟩
  | lop_hit h => intro _ he _; exact ⟨he, rfl⟩
  | lop_miss h hb ih => intro nt' he _; exact ih nt' he (fun h => h)
  | pop_empty h => intro _ he _; exact ⟨he, rfl⟩
  | @pop_deleted s s1 s' nt key e h' x r h hd ha hb iha ihb =>
    intro nt' he _
    have hne := pop_ne h he
    obtain ⟨a1, a2⟩ := iha nt' ((heapOf_setHeap_ne s h' hne).trans he) (fun heq => hne heq.symm)
    obtain ⟨b1, b2⟩ := ihb nt' a1 (fun h => h)
    exact ⟨b1, b2.trans a2⟩
  | @pop_take s s' nt key e h' x h hd ha iha =>
    intro nt' he _
    have hne := pop_ne h he
    obtain ⟨a1, a2⟩ := iha nt' ((heapOf_setHeap_ne s h' hne).trans he) (fun heq => hne heq.symm)
    exact ⟨a1, a2.trans (popTake_succOf_ne s key e h' hne)⟩
  | succ_leaf => intro _ he _; exact ⟨he, rfl⟩
  | succ_fun hd hr hb ih => intro nt' he hna; exact ih nt' he hna
  | loop_done h => intro _ he _; exact ⟨he, rfl⟩
  | @loop_step s s1 s' F args nt i argsLen info s2 ai r r' x h hai hq hc hda hb ihq ihb =>
    intro nt' he hna
    have hne : nt' ≠ nt := fun heq => hna heq.symm
    obtain ⟨a1, a2⟩ := ihq nt' he (fun h => h)
    obtain ⟨p1, p2⟩ := pushStep_other E s1 F args nt nt' i r hne
    obtain ⟨b1, b2⟩ := ihb nt' (p1.trans a1) hna
    exact ⟨b1, (b2.trans p2).trans a2⟩
  | @loop_last s s1 F args nt i argsLen info s2 ai r h hai hq hc ihq =>
    intro nt' he hna
    have hne : nt' ≠ nt := fun heq => hna heq.symm
    obtain ⟨a1, a2⟩ := ihq nt' he (fun h => h)
    obtain ⟨p1, p2⟩ := pushStep_other E s1 F args nt nt' i r hne
    exact ⟨p1.trans a1, p2.trans a2⟩

theorem big_emptyStable (E : Env S T π) {c : Call S T} {s s' : St S T π} {r : Option Prog}
    (hb : Big E c s s' r) : NInv s → NPre c s → ∀ nt', s.heapOf nt' = [] → ¬ c.addsAt nt' →
    s'.heapOf nt' = [] ∧ s'.succOf nt' = s.succOf nt' := fun _ _ => big_emptyKeep E hb

def NonePost : Call S T → St S T π → Option Prog → Prop
  | .query nt p, s', r => r = none → AList.lookup p (s'.succOf nt) = none ∧ s'.heapOf nt = []
  | .lop nt p, s', r => r = none → AList.lookup p (s'.succOf nt) = none ∧ s'.heapOf nt = []
  | .popLoop nt p, s', r => r = none → AList.lookup p (s'.succOf nt) = none ∧ s'.heapOf nt = []
  | _, _, _ => True

end PS.HS
