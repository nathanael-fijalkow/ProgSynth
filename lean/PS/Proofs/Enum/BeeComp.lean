/- Bee search, what completeness rests on (no merge declaration, any filter).
   One expansion is locally complete: when a combination is popped and every argument bank at its index is non-empty,
   every tuple of argument programs taken from those banks is offered to `_add_program_` (the suspended product is the
   full product), and each offered program is then banked, rejected by the filter, or was deleted.
   The frontier rule reaches every index combination (`CovSt`): for every rule and every combination of the rule's
   arity, the combination is expanded, pending, or a descendant of a pending one.
   The invariants `GC` (they need rules with arguments to cost > 0 and a non-negative cost table): (P) the parent of
   every pending combination has a cost in the cost list; (D) every program that can be built from an expanded
   combination and the argument banks at its indices is banked, or is still in the suspended product, unless the filter
   rejects it. (D) survives a banking because there is "no late arrival": a program never enters a bank at an index
   used by an expanded combination. -/
import PS.Proofs.Enum.BeeNodupRun
import PS.Proofs.Enum.BeeCost
namespace PS.Bee
open PS PS.G

variable {S : Type} [DecidableEq S]
set_option linter.unusedSectionVars false
set_option linter.unusedSimpArgs false

/-! ### one expansion offers every tuple -/

theorem offers_all (s : St S) (combo : List Nat) (args : List (Ty × S)) (aps : List (List Prog))
    (h : argsPossibles s combo args 0 = some (some aps)) (kids : List Prog) (hlen : kids.length = args.length)
    (hk : ∀ (j : Nat) (a : Ty × S) (k : Prog) (v : Nat), args[j]? = some a → kids[j]? = some k → combo[j]? = some v →
      inBank s (a.1, (a.2, ())) v k) : kids ∈ product aps := by
  obtain ⟨_, h1, h2⟩ := (argsPossibles_mem s combo args 0 _ h kids).mpr
    ⟨hlen, fun j a k v ha hkk hv => hk j a k v ha hkk (by simpa using hv)⟩
  cases h1; exact h2

theorem no_offer (s : St S) (combo : List Nat) :
    ∀ (args : List (Ty × S)) (i : Nat), argsPossibles s combo args i = some none →
      ¬ ∃ kids : List Prog, kids.length = args.length ∧
        ∀ (j : Nat) (a : Ty × S) (k : Prog) (v : Nat), args[j]? = some a → kids[j]? = some k → combo[i + j]? = some v →
          inBank s (a.1, (a.2, ())) v k :=
  fun args i h ⟨kids, hk⟩ => by
    obtain ⟨_, h1, _⟩ := (argsPossibles_mem s combo args i _ h kids).mpr hk
    cases h1

/-! ### the frontier rule reaches every combination -/

def CovSt (E : Env S) (s : St S) : Prop :=
  ∀ nt P args, ruleArgs E nt P = some args → ∀ c : List Nat, c.length = args.length → Cov (pend s nt P) c

theorem covSt_frame (E : Env S) {s s' : St S} (hp : ∀ nt P, (pend s' nt P).Perm (pend s nt P)) (h : CovSt E s) :
    CovSt E s' := fun nt P args ha c hc => (h nt P args ha c hc).perm (hp nt P)

theorem step_cover (E : Env S) (g g' : Gen S) (out : Option Prog) (h : step E g = some (g', out)) (hi : GN E g)
    (hc : CovSt E g.st) : CovSt E g'.st := by
  cases step_cases h with
  | addCost hac => exact covSt_frame E (fun nt P => addCost_pend E _ _ _ _ hac nt P) hc
  | pop _ _ hpop hargs hsl _ =>
    exact fun nt' P' args' ha c hcl => (pop_expanded E hi.st hpop hargs hsl).cov nt' P' c (hc nt' P' args' ha c hcl)
  | @offer st _ _ succ cost nt rest maxi ci p ps y _ =>
    exact covSt_frame E (fun nt' P' => .of_eq (addProgram_pend E st nt p ci nt' P')) hc
  | _ => exact hc

theorem root_mem_new (E : Env S) (hcheck : initCoverOK E = true) (g0 : Gen S) (h : Gen.new E = some g0) :
    ∀ nt P args, ruleArgs E nt P = some args → List.replicate args.length 0 ∈ pend g0.st nt P := by
  have hcc : coverCheck E g0.st = true := by
    unfold initCoverOK at hcheck; rw [h] at hcheck; exact hcheck
  intro nt P args ha
  obtain ⟨rs, rl, hl, hr, rfl⟩ := ruleArgs_mem ha
  unfold coverCheck at hcc
  have h2 := List.all_eq_true.mp (List.all_eq_true.mp hcc _ hl) _ hr
  simp only [List.contains_eq_mem, decide_eq_true_eq] at h2
  rw [pend_eq_pairs]
  simp only [List.mem_map, List.mem_filter, decide_eq_true_eq]
  exact ⟨(P, List.replicate rl.1.length 0), ⟨h2, rfl⟩, rfl⟩

theorem cov_new (E : Env S) (hcheck : initCoverOK E = true) (g0 : Gen S) (h : Gen.new E = some g0) : CovSt E g0.st := by
  intro nt P args ha c hcl
  have hroot := root_mem_new E hcheck g0 h nt P args ha
  rcases root_anc c with hcr | hcr
  · exact Or.inr (Or.inl (by rw [hcr, hcl]; exact hroot))
  · exact Or.inr (Or.inr ⟨_, hroot, by rw [← hcl]; exact hcr⟩)

theorem runActs_cover (E : Env S) (fuel : Nat) (acts : List Act) (g g' : Gen S) (acc out : List Prog)
    (hall : acts.all Act.isTake = true) (h : runActs E fuel acts g acc = some (g', out)) (hi : GN E g)
    (hc : CovSt E g.st) : CovSt E g'.st :=
  (runActs_ind (J := fun g _ => GN E g ∧ CovSt E g.st)
    (fun g g' out _ hs hj => ⟨(step_nodup E g g' out hs hj.1).1, step_cover E g g' out hs hj.1 hj.2⟩) fuel acts g g' acc out
    (fun o t hm => absurd hm (not_merge_of_isTake hall o t)) h ⟨hi, hc⟩).2

/-! ### the invariants (P), (D) and "no late arrival" -/

def Offered (g : Gen S) (nt : NT S Unit) (p : Prog) : Prop :=
  match g.phase with
  | .pend _ _ nt' _ _ _ pending => nt' = nt ∧ p ∈ pending
  | _ => False

def Prem (s : St S) (args : List (Ty × S)) (c : List Nat) (kids : List Prog) : Prop :=
  c.length = args.length ∧ kids.length = args.length ∧
  ∀ (i : Nat) (a : Ty × S) (k : Prog) (v : Nat), args[i]? = some a → kids[i]? = some k → c[i]? = some v →
    inBank s (a.1, (a.2, ())) v k

theorem Prem.of_inBank {s s' : St S} {args : List (Ty × S)} {c : List Nat} {kids : List Prog}
    (h : ∀ nt ci p, inBank s nt ci p → inBank s' nt ci p) (hp : Prem s args c kids) : Prem s' args c kids :=
  ⟨hp.1, hp.2.1, fun i a k v h1 h2 h3 => h _ _ _ (hp.2.2 i a k v h1 h2 h3)⟩

theorem prem_iff {s : St S} {args : List (Ty × S)} {c : List Nat} {kids : List Prog} (hc : c.length = args.length) :
    Prem s args c kids ↔ PremAt s c 0 args kids :=
  ⟨fun h => ⟨h.2.1, fun j a k v ha hk hv => h.2.2 j a k v ha hk (by simpa using hv)⟩,
   fun h => ⟨hc, h.1, fun j a k v ha hk hv => h.2 j a k v ha hk (by simpa using hv)⟩⟩

def DInv (E : Env S) (g : Gen S) : Prop :=
  ∀ nt P args c kids, ruleArgs E nt P = some args → Done (pend g.st nt P) c → Prem g.st args c kids →
    E.filter (.node P kids) = true → (∃ ci, inBank g.st nt ci (.node P kids)) ∨ Offered g nt (.node P kids)

/-- without merge declarations `_deleted` only holds rejected programs -/
def DelOK (E : Env S) (s : St S) : Prop := ∀ p, s.deleted.contains p = true → E.filter p = false

structure GC (E : Env S) (g : Gen S) : Prop where
  p : PSt E g.st
  d : DInv E g
  del : DelOK E g.st

theorem pst_frame (E : Env S) {s s' : St S} (hcl : s'.costList = s.costList ∨ ∃ x, s'.costList = s.costList ++ [x])
    (hp : ∀ nt P, (pend s' nt P).Perm (pend s nt P)) (h : PSt E s) : PSt E s' := by
  intro nt P u hu hnz
  obtain ⟨x, hx, hxin⟩ := h nt P u ((hp nt P).mem_iff.mp hu) hnz
  rcases hcl with hcl | ⟨y, hcl⟩
  · rw [hcl]; exact ⟨x, hx, hxin⟩
  · rw [hcl]; exact ⟨x, realCost_append E _ _ _ _ _ _ hx, List.mem_append_left _ hxin⟩

theorem dinv_frame (E : Env S) {g g' : Gen S} (hbank : g'.st.bank = g.st.bank)
    (hp : ∀ nt P, (pend g'.st nt P).Perm (pend g.st nt P)) (hoff : ∀ nt p, ¬ Offered g nt p) (h : DInv E g) : DInv E g' := by
  intro nt P args c kids ha hd hprem hf
  have hprem' : Prem g.st args c kids := hprem.of_inBank fun _ _ _ => (inBank_of_bank_eq hbank _ _ _).mp
  rcases h nt P args c kids ha (hd.perm (hp nt P).symm) hprem' hf with ⟨ci, hin⟩ | hoffd
  · exact Or.inl ⟨ci, (inBank_of_bank_eq hbank _ _ _).mpr hin⟩
  · exact absurd hoffd (hoff nt _)

theorem addProgram_deleted_cases (E : Env S) (s : St S) (nt : NT S Unit) (p : Prog) (ci : Nat) :
    ((addProgram E s nt p ci).1.deleted = s.deleted ∨
      ((addProgram E s nt p ci).1.deleted = s.deleted ++ [p] ∧ E.filter p = false)) ∧
    ((addProgram E s nt p ci).2 = false → s.deleted.contains p = true ∨ E.filter p = false) := by
  rcases addProgram_cases E s nt p ci with ⟨hd, h⟩ | ⟨_, hf, h⟩ | ⟨_, _, h⟩ <;> rw [h]
  · exact ⟨Or.inl rfl, fun _ => Or.inl hd⟩
  · exact ⟨Or.inr ⟨rfl, hf⟩, fun _ => Or.inr hf⟩
  · exact ⟨Or.inl rfl, fun h => by cases h⟩

theorem step_comp (E : Env S) (hpos : PosArgs E) (g g' : Gen S) (out : Option Prog) (b : Int)
    (h : step E g = some (g', out)) (hi : GInv E g) (hn : GN E g) (ho : GOrd E g b) (hc : GC E g) : GC E g' := by
  have dframe : ∀ g2 : Gen S, g2.st.bank = g.st.bank → (∀ nt P, (pend g2.st nt P).Perm (pend g.st nt P)) →
      (∀ nt p, ¬ Offered g nt p) → DInv E g2 := fun g2 hbank hp hoff => dinv_frame E hbank hp hoff hc.d
  cases step_cases h with
  | done | init | stop _ | round _ _ _ | endRound | leave _ =>
    exact ⟨hc.p, dframe _ rfl (fun _ _ => .refl _) (fun _ _ h => h), hc.del⟩
  | endPend => exact ⟨hc.p, dframe _ rfl (fun _ _ => .refl _) (fun _ _ h => nomatch h.2), hc.del⟩
  | @addCost st _ _ succ cost nt rest s1 ci hac =>
    have hf := addCost_frame hac
    have hpend := fun nt P => addCost_pend E _ s1 cost ci hac nt P
    exact ⟨pst_frame E (s := st) (hf.cases.imp (fun h => by rw [h.1]) fun h => ⟨cost, h.1⟩) hpend hc.p,
      dframe _ hf.bank hpend (fun _ _ h => h), fun p hp => hc.del p (by rw [← hf.deleted]; exact hp)⟩
  | @pop st _ _ succ cost nt rest maxi ci top tl q' args s2 maxi' ph hq htop hpop hargs hsl hout =>
    have hcostin : cost ∈ st.costList := List.mem_of_getElem? (hi.ph : st.costList[ci]? = some cost)
    have hel : realCost E st.costList nt top.P top.combo = some top.cost :=
      hi.st.queue.of_queueOf (by rw [hq]; exact List.mem_cons_self)
    have x := pop_expanded E hn.st hpop hargs hsl
    have hqd := (succLoop_frame hsl).of_setQueue
    have hin : ∀ nt' ci' p, inBank s2 nt' ci' p ↔ inBank st nt' ci' p := fun a b c => inBank_of_bank_eq x.bank a b c
    have hp2 : PSt E s2 := by
      intro nt' P' u hu hnz
      rw [hqd.cl]
      rcases x.pend_conv nt' P' u hu with h1 | ⟨rfl, rfl, h1⟩
      · exact hc.p nt' P' u h1 hnz
      · rw [((CD.mem_succs_iff _ _).mp h1).2]
        exact ⟨top.cost, hel, by rw [htop]; exact hcostin⟩
    have hdel2 : DelOK E s2 := fun p hp => hc.del p (by rw [← hqd.deleted]; exact hp)
    have hold : ∀ nt' P' args' c kids, ruleArgs E nt' P' = some args' → Done (pend st nt' P') c →
        Prem s2 args' c kids → E.filter (.node P' kids) = true → ∃ ci', inBank s2 nt' ci' (.node P' kids) := by
      intro nt' P' args' c kids ha' hd' hprem hf
      have hprem' : Prem st args' c kids := hprem.of_inBank fun _ _ _ => (hin _ _ _).mp
      rcases hc.d nt' P' args' c kids ha' hd' hprem' hf with ⟨ci', h1⟩ | h1
      · exact ⟨ci', (hin _ _ _).mpr h1⟩
      · exact False.elim h1
    refine ⟨hp2, ?_, hdel2⟩
    intro nt' P' args' c kids ha' hd' hprem hf
    rcases x.done_conv nt' P' c hd' with ⟨rfl, rfl, rfl⟩ | hd0
    · rw [hargs] at ha'; cases ha'
      rcases hout with ⟨hnone, rfl⟩ | ⟨aps, haps, rfl⟩
      · exact absurd ⟨kids, hprem.2.1, fun j a k v h1 h2 h3 => hprem.2.2 j a k v h1 h2 (by simpa using h3)⟩
          (no_offer s2 top.combo args 0 hnone)
      · exact Or.inr ⟨rfl, List.mem_map.mpr ⟨kids, offers_all s2 top.combo args aps haps kids hprem.2.1 hprem.2.2, rfl⟩⟩
    · exact Or.inl (hold nt' P' args' c kids ha' hd0 hprem hf)
  | @offer st _ _ succ cost nt rest maxi ci p ps y hy =>
    have hos : OSt E st cost := ho.1
    have hci : st.costList[ci]? = some cost := hi.ph.1
    obtain ⟨fq, fd, fc⟩ := addProgram_frame E st nt p ci
    have hpendeq := addProgram_pend E st nt p ci
    obtain ⟨hdelc, hnoadd⟩ := addProgram_deleted_cases E st nt p ci
    have hin := addProgram_inBank E st nt p ci
    have key : PSt E (addProgram E st nt p ci).1 ∧ DelOK E (addProgram E st nt p ci).1 ∧
        ∀ nt' P' args' c kids, ruleArgs E nt' P' = some args' → Done (pend (addProgram E st nt p ci).1 nt' P') c →
          Prem (addProgram E st nt p ci).1 args' c kids → E.filter (.node P' kids) = true →
          (∃ ci', inBank (addProgram E st nt p ci).1 nt' ci' (.node P' kids)) ∨ (nt = nt' ∧ Tree.node P' kids ∈ ps) := by
      refine ⟨?_, ?_, ?_⟩
      · intro nt' P' u hu hnz
        rw [hpendeq] at hu; rw [fc]; exact hc.p nt' P' u hu hnz
      · intro q hq
        rcases hdelc with e | ⟨e, hf⟩
        · rw [e] at hq; exact hc.del q hq
        · rw [e] at hq
          simp only [List.contains_eq_mem, List.mem_append, List.mem_singleton, decide_eq_true_eq] at hq
          rcases hq with hq | hq
          · exact hc.del q (by simpa using hq)
          · rw [hq]; exact hf
      · intro nt' P' args' c kids ha' hd' hprem hf
        rw [hpendeq] at hd'
        -- "no late arrival": an expanded combination cannot use the index of the current round
        have hprem' : Prem st args' c kids := by
          refine ⟨hprem.1, hprem.2.1, fun i a k v hai h2 hvi =>
            ((hin _ _ _).mp (hprem.2.2 i a k v hai h2 hvi)).resolve_right ?_⟩
          rintro ⟨_, _, hvci, _⟩
          rw [hvci] at hvi
          have hiargs : i < args'.length := (List.getElem?_eq_some_iff.mp hai).1
          have hanc : ∃ u ∈ pend st nt' P', Anc c u := by
            rcases hd' with ⟨h1, _⟩ | h1
            · subst h1; simp at hvi
            · exact h1
          obtain ⟨y, x, hy, hxin, hyx⟩ := done_cost E st hc.p hos.mono nt' P' c hanc
          have hgt := realCost_gt E hpos st.costList hos.nonneg nt' P' args' ha' c y hy i ci hiargs hvi cost hci
          have := hos.cl_le x hxin
          omega
        rcases hc.d nt' P' args' c kids ha' hd' hprem' hf with ⟨ci', h1⟩ | h1
        · exact Or.inl ⟨ci', (hin _ _ _).mpr (Or.inl h1)⟩
        · obtain ⟨hnt, hmem⟩ : nt = nt' ∧ Tree.node P' kids ∈ p :: ps := h1
          rcases List.mem_cons.mp hmem with hmem | hmem
          · -- the candidate itself: the filter accepts it and only rejected programs are deleted, so it is banked
            cases hadd : (addProgram E st nt p ci).2 with
            | true => exact Or.inl ⟨ci, (hin _ _ _).mpr (Or.inr ⟨hadd, hnt.symm, rfl, hmem⟩)⟩
            | false =>
              rcases hnoadd hadd with hd1 | hd1
              · have := hc.del p hd1; rw [← hmem, hf] at this; cases this
              · rw [← hmem, hf] at hd1; cases hd1
          · exact Or.inr ⟨hnt, hmem⟩
    exact ⟨key.1, key.2.2, key.2.1⟩

end PS.Bee
