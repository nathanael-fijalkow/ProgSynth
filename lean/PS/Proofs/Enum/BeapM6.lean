/- Merge-aware completeness: along `next` / `take` the repaired `_query_list_` (fix C12-F13, `Env.fixEmptied = true`) keeps
   the invariants for every effective filter, with no assumption on the marks in `_empties`. -/
import PS.Proofs.Enum.BeapComplFinal
namespace PS.Beap
open PS PS.G PS.Heapq
set_option linter.unusedSectionVars false
variable {S : Type} [DecidableEq S] {F : Prog → Bool}

theorem next_km (E : Env S) (hfix : E.fixEmptied = true) (hfle : ∀ q, F q = true → E.filter q = true) (hnd : RowsNodup E.G) (hst : StableAfter E) (hprod : Productive E) (hpos : PosW E)
    (fuel : Nat) (g : Gen S) (r : Gen S × Option Prog) (ys : List Prog) (htk : TKm E F g ys) (h : next E fuel g = some r) :
    TKm E F r.1 (ys ++ r.2.toList) ∧ (r.2 = none → r.1.finished = true) :=
  have ⟨a, _, c⟩ := next_k (P := False) E (Or.inr hfix) hfle hnd hst hprod hpos fuel g r ys htk (fun hp => hp.elim) h
  ⟨a, c⟩

theorem take_km (E : Env S) (hfix : E.fixEmptied = true) (hfle : ∀ q, F q = true → E.filter q = true) (hnd : RowsNodup E.G) (hst : StableAfter E) (hprod : Productive E) (hpos : PosW E) (fuel : Nat) :
    ∀ (k : Nat) (g : Gen S) (acc : List Prog) (r : Gen S × List Prog × Bool), TKm E F g acc → take E fuel k g acc = some r →
      TKm E F r.1 r.2.1 ∧ (r.2.2 = true → r.1.finished = true) := by
  intro k g acc r htk h
  have ⟨a, _, c⟩ := take_k (P := False) E (Or.inr hfix) hfle hnd hst hprod hpos fuel k g acc r htk (fun hp => hp.elim) h
  exact ⟨a, c⟩

end PS.Beap
