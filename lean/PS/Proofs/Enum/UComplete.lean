/- Heap search on unambiguous, acyclic grammars: completeness in a quiescent state.  The tables of a state with `Base` and
   `All` satisfy the laws of `PS.Frontier.Quiet` (the programs popped for a non-terminal are numbered by their position in
   `succ[nt]`, which is a chain: `ChainL`), so the frontier theorem applies: every derivable program all of whose
   sub-programs the filter accepts was popped for its non-terminal, or the heap holds a program that is not worse.
   Hence an exhausted non-terminal has popped everything (`exhausted_complete`) and nothing better than a popped
   program is left (`prefixOK_all`). -/
import PS.Proofs.Enum.UOrderRun
import PS.Proofs.Enum.Frontier
import PS.Proofs.Enum.SuccChain
namespace PS.UHS
open PS PS.G
set_option linter.unusedSectionVars false
variable {U π : Type} [DecidableEq U]
variable {E : Env U π} {rank : UNT U → Nat} {Good : π → Prop}

theorem lookup_of_mem {κ ν : Type} [DecidableEq κ] {t : AList κ ν} (hnd : (AList.keys t).Nodup) {k : κ} {x : ν}
    (h : (k, x) ∈ t) : AList.lookup k t = some x := AList.lookup_of_mem_nodup hnd h

/-- the popped programs of a successor table, in pop order -/
def vals (t : AList (Option Prog) Prog) : List Prog := t.map (·.2)

theorem mem_vals {t : AList (Option Prog) Prog} {x : Prog} : x ∈ vals t ↔ ∃ k, (k, x) ∈ t := by
  unfold vals
  constructor
  · intro h
    obtain ⟨e, he, rfl⟩ := List.mem_map.mp h
    exact ⟨e.1, he⟩
  · rintro ⟨k, hk⟩
    exact List.mem_map.mpr ⟨(k, x), hk, rfl⟩

/-- from the list layout `ChainL` to the chains of lookups of PS/Proofs/Enum/SuccChain.lean -/
theorem chainFrom_vals (t : AList (Option Prog) Prog) :
    ∀ (t' : AList (Option Prog) Prog) (k0 : Option Prog), ChainL k0 t' →
      (∀ e, e ∈ t' → AList.lookup e.1 t = some e.2) → HS.chainFrom t k0 (vals t') := by
  intro t'
  induction t' with
  | nil => exact fun _ _ _ => trivial
  | cons e rest ih =>
    intro k0 hc hl
    obtain ⟨rfl, hc'⟩ := hc
    exact ⟨hl _ List.mem_cons_self, ih (some e.2) hc' fun e he => hl e (List.mem_cons_of_mem _ he)⟩

theorem NTInv.chainFrom {s : St U π} {nt : UNT U} (hn : NTInv E s nt) :
    HS.chainFrom (s.succOf nt) none (vals (s.succOf nt)) :=
  chainFrom_vals _ _ none hn.chain fun _ he => lookup_of_mem hn.keys_nodup he

theorem popped_iff_vals {s : St U π} {nt : UNT U} (hn : NTInv E s nt) (x : Prog) : Popped s nt x ↔ x ∈ vals (s.succOf nt) := by
  rw [mem_vals]
  constructor
  · rintro ⟨k, hk⟩; exact ⟨k, AList.lookup_some_mem hk⟩
  · rintro ⟨k, hk⟩; exact ⟨k, lookup_of_mem hn.keys_nodup hk⟩

theorem popped_induct {s : St U π} {nt : UNT U} (hn : NTInv E s nt) (Q : Prog → Prop)
    (h0 : ∀ x, AList.lookup none (s.succOf nt) = some x → Q x)
    (hs : ∀ y q, Q y → AList.lookup (some y) (s.succOf nt) = some q → Q q) : ∀ x, Popped s nt x → Q x := fun x hx =>
  HS.chainFrom_induct _ Q h0 hs _ none hn.chainFrom (Or.inl rfl) x ((popped_iff_vals hn x).mp hx)

theorem chainL_key_pred : ∀ (l1 : AList (Option Prog) Prog) (k0 : Option Prog) (x z : Prog) (l2 : AList (Option Prog) Prog),
    ChainL k0 (l1 ++ (some x, z) :: l2) → (l1 = [] ∧ k0 = some x) ∨ ∃ l0 k', l1 = l0 ++ [(k', x)]
  | [], k0, x, z, l2, h => Or.inl ⟨rfl, h.1.symm⟩
  | [(k', y)], k0, x, z, l2, h => by
    have := h.2.1
    simp only [Option.some.injEq] at this
    subst this
    exact Or.inr ⟨[], k', rfl⟩
  | (k', y) :: e2 :: l1, k0, x, z, l2, h => by
    rcases chainL_key_pred (e2 :: l1) (some y) x z l2 h.2 with ⟨h1, _⟩ | ⟨l0, k'', h1⟩
    · cases h1
    · exact Or.inr ⟨(k', y) :: l0, k'', by rw [h1]; rfl⟩

theorem snoc_of_ne_nil {α : Type} (l : List α) (h : l ≠ []) : ∃ l' x, l = l' ++ [x] :=
  ⟨l.dropLast, l.getLast h, (List.dropLast_concat_getLast h).symm⟩

theorem derList_of_forall (E : Env U π) : ∀ (a : List Prog) (v : List (UNT U)), a.length = v.length →
    (∀ (j : Nat) (aj : Prog) (sj : UNT U), a[j]? = some aj → v[j]? = some sj → Der E aj sj) → DerList E a v := by
  intro a v
  fun_induction DerList E a v with
  | case1 => exact fun _ _ => trivial
  | case2 x a y v ih =>
    exact fun h hp => ⟨hp 0 x y rfl rfl, ih (Nat.succ.inj h) fun j aj sj h1 h2 => hp (j + 1) aj sj h1 h2⟩
  | case3 => exact fun h _ => nomatch h
  | case4 => exact fun h _ => nomatch h

/-- the scan of the rules in `__init_non_terminal__` queried every non-terminal of an alternative -/
theorem All.full_arg {s : St U π} (hall : All E rank s) {nt : UNT U} {e : Option Prog} {i : Nat} (hc : CInv E rank s nt e i)
    {F : Sym} {v : List (UNT U)} {w : Rat} (hm : (v, w) ∈ altsOf E nt F) (j : Nat) (sj : UNT U) (hsj : v[j]? = some sj) :
    Full E rank s sj := by
  obtain ⟨kids0, _, hlen, hfirst⟩ := hc.initial F v w hm
  have hj : j < kids0.length := hlen ▸ (List.getElem?_eq_some_iff.mp hsj).1
  exact UHS.full_of_popped (hall sj) (hfirst j _ sj (List.getElem?_eq_getElem hj) hsj)

theorem vals_nodup {s : St U π} {nt : UNT U} (hn : NTInv E s nt) (hi : NInv E s) : (vals (s.succOf nt)).Nodup :=
  HS.chainFrom_nodup _ (hi.succ_inj nt) _ none hn.chainFrom (fun _ _ h => by cases h)

theorem chainL_stop : ∀ (t : AList (Option Prog) Prog) (k0 : Option Prog), ChainL k0 t → (vals t).Nodup →
    (∀ y, k0 = some y → y ∉ vals t) → AList.lookup (HS.lastOr k0 (vals t)) t = none := by
  intro t
  induction t with
  | nil => exact fun _ _ _ _ => rfl
  | cons e rest ih =>
    obtain ⟨k', v⟩ := e
    intro k0 hc hv hk0
    obtain ⟨rfl, hc'⟩ := hc
    have hv' : v ∉ vals rest ∧ (vals rest).Nodup := List.nodup_cons.mp hv
    show AList.lookup (HS.lastOr k' (v :: vals rest)) ((k', v) :: rest) = none
    rw [HS.lastOr_cons]
    have hne : ¬ k' = HS.lastOr (some v) (vals rest) := by
      intro e
      rcases HS.lastOr_mem (some v) (vals rest) with h | ⟨z, hz, h⟩
      · rw [h] at e; exact hk0 v e List.mem_cons_self
      · rw [h] at e; exact hk0 z e (List.mem_cons_of_mem _ hz)
    simp only [AList.lookup, if_neg hne]
    exact ih (some v) hc' hv'.2 (fun y hy => by cases hy; exact hv'.1)

theorem fullChain {s : St U π} {nt : UNT U} (hn : NTInv E s nt) (hi : NInv E s) :
    HG.FullChain (s.succOf nt) (vals (s.succOf nt)) :=
  ⟨hn.chainFrom, chainL_stop _ none hn.chain (vals_nodup hn hi) (fun _ h => by cases h), vals_nodup hn hi,
   fun x => popped_iff_vals hn x⟩

theorem sorted_vals (H : OHyp E rank Good) {s : St U π} {nt : UNT U} (hb : Base E s) (hn : NTInv E s nt) :
    (vals (s.succOf nt)).Pairwise (LE E nt) :=
  (HS.chain_sortedR _ (LE E nt) (fun _ _ _ hk hab hbc => LE.trans H (Popped.der hb.sinv hk) hab hbc) hn.sorted _ none
    hn.chainFrom).1

theorem le_of_idx (H : OHyp E rank Good) {s : St U π} {nt : UNT U} (hb : Base E s) (hn : NTInv E s nt) (x y : Prog)
    (hx : x ∈ vals (s.succOf nt)) (hy : y ∈ vals (s.succOf nt))
    (h : (vals (s.succOf nt)).idxOf x ≤ (vals (s.succOf nt)).idxOf y) : LE E nt x y := by
  exact rel_of_idxOf_le (sorted_vals H hb hn) (fun z _ => LE.refl H nt z) hx hy h

/-- nothing better than a popped program of `nt` is left unpopped -/
def PrefixOK (E : Env U π) (s : St U π) (nt : UNT U) : Prop :=
  ∀ x y, Popped s nt x → Der E y nt → PS.HG.clean E.filter y = true → ¬ Popped s nt y → LE E nt x y

def sysOf (E : Env U π) (rank : UNT U → Nat) (s : St U π) : Frontier.Sys (UNT U) where
  rank := rank
  Mem nt y := Full E rank s nt ∧ Der E y nt ∧ PS.HG.clean E.filter y = true
  le := LE E
  Alt nt F v := Full E rank s nt ∧ ∃ w, (v, w) ∈ altsOf E nt F
  popped := Popped s
  pos nt x := (vals (s.succOf nt)).idxOf x
  len nt := (s.succOf nt).length
  heap nt p := p ∈ s.heapProgs nt
  seen nt p := p ∈ s.seenOf nt

theorem All.full_of_popped {s : St U π} (hall : All E rank s) {nt : UNT U} {x : Prog} (h : Popped s nt x) :
    Full E rank s nt :=
  UHS.full_of_popped (hall nt) h.choose_spec

theorem All.full_of_seen {s : St U π} (hall : All E rank s) {nt : UNT U} {x : Prog} (h : x ∈ s.seenOf nt) :
    Full E rank s nt := by
  rcases hall nt with hu | hf
  · rw [hu.2.2.2] at h; cases h
  · exact hf

theorem pos_last {s : St U π} {nt : UNT U} (hn : NTInv E s nt) (hi : NInv E s) {aj : Prog} (hp : Popped s nt aj)
    (h3 : AList.lookup (some aj) (s.succOf nt) = none) :
    (vals (s.succOf nt)).idxOf aj + 1 = (s.succOf nt).length := by
  simpa [vals] using (fullChain hn hi).idx_last ((popped_iff_vals hn aj).mp hp) h3

theorem quiet_sysOf (H : OHyp E rank Good) {s : St U π} (hb : Base E s) (hall : All E rank s) :
    Frontier.Quiet (sysOf E rank s) where
  mem_node := by
    rintro nt F b ⟨hf, hder, hcl⟩
    obtain ⟨v, w, hm, hdl⟩ := (der_node E F b nt).mp hder
    refine ⟨v, ⟨hf, w, hm⟩, derList_length E b v hdl, fun j bj sj hbj hsj =>
      ⟨hall.full_arg hf.2.2 hm j sj hsj, derList_get E b v j bj sj hdl hbj hsj, ?_⟩⟩
    rw [PS.HG.clean, Bool.and_eq_true] at hcl
    exact PS.HG.cleanList_get E.filter b j bj hcl.2 hbj
  acyclic := by
    rintro nt F v ⟨_, w, hm⟩ sj hsj
    exact H.acyclic nt F v w hm sj hsj
  le_trans := by
    intro nt x e y he h1 h2
    obtain ⟨e', he', rfl⟩ := List.mem_map.mp he
    exact LE.trans H (hb.sinv.seen_der nt e'.2 (hb.sinv.heap_seen nt e' he')) h1 h2
  le_pos := by
    intro nt x y hx hy hle
    have hn := (hall.full_of_popped hx).1
    exact le_of_idx H hb hn x y ((popped_iff_vals hn x).mp hx) ((popped_iff_vals hn y).mp hy) hle
  mono := by
    rintro nt F v a b ⟨_, w, hm⟩ hla hpop hlb hmemb hp
    exact LE.all H ⟨⟨w, hm⟩, derList_of_forall E a v hla fun j aj sj haj hsj => (hpop j aj sj haj hsj).der hb.sinv⟩
      ⟨⟨w, hm⟩, derList_of_forall E b v hlb fun j bj sj h1 h2 => (hmemb j bj sj h1 h2).2.1⟩ hp
  heap_le := by
    intro nt x e hx he
    obtain ⟨e', he', rfl⟩ := List.mem_map.mp he
    exact (hall.full_of_popped hx).1.heap_le x hx e' he'
  pos_inj := by
    intro nt x y hx hy h
    have hn := (hall.full_of_popped hx).1
    exact idxOf_inj _ x y ((popped_iff_vals hn x).mp hx) ((popped_iff_vals hn y).mp hy) h
  pos_lt := by
    intro nt x hx
    have hn := (hall.full_of_popped hx).1
    have hl : (vals (s.succOf nt)).length = (s.succOf nt).length := List.length_map _
    show (vals (s.succOf nt)).idxOf x < (s.succOf nt).length
    rw [← hl]
    exact List.idxOf_lt_length_iff.mpr ((popped_iff_vals hn x).mp hx)
  initial := by
    rintro nt F v ⟨hf, w, hm⟩ _
    obtain ⟨kids0, hseen, hlen, hfirst⟩ := hf.2.2.initial F v w hm
    refine ⟨kids0, hseen, hlen, fun j aj sj haj hsj => ?_⟩
    have h0 := hfirst j aj sj haj hsj
    exact ⟨⟨none, h0⟩, (fullChain (hall.full_arg hf.2.2 hm j sj hsj).1 hb.ninv).idx_first h0⟩
  cover := by
    intro nt p hseen
    rcases (hall.full_of_seen hseen).2.2.cover p hseen with h | h | h
    · exact Or.inl h
    · exact Or.inr (Or.inl h)
    · refine Or.inr (Or.inr ?_)
      rintro ⟨_, _, hcl⟩
      rw [PS.HG.clean_self E.filter _ hcl] at h; cases h
  succs := by
    rintro nt F v a ⟨hf, w, hm⟩ hla hpop hseen hnheap _ j aj sj haj hsj
    have hc := hf.2.2
    have hda : DerList E a v := derList_of_forall E a v hla fun j aj sj haj hsj => (hpop j aj sj haj hsj).der hb.sinv
    obtain ⟨v', hv'⟩ := hc.keyed _ hseen
    have hko' := hb.sinv.keys_ok nt F a v' hv'
    obtain ⟨w', hw'⟩ := hko'.1
    obtain ⟨rfl, _⟩ := H.ualt nt F a v' w' v w hw' hm hko'.2 hda
    have hpaj := hpop j aj sj haj hsj
    have hfj := hall.full_of_popped hpaj
    rcases hc.succs F a v' ⟨hseen, hnheap⟩ hv' j aj sj haj hsj (H.acyclic nt F v' w hm sj (List.mem_of_getElem? hsj))
      (by intro e; cases e) with ⟨q, h1, h2⟩ | ⟨_, h2, h3⟩
    · exact Or.inl ⟨q, ⟨some aj, h1⟩, (fullChain hfj.1 hb.ninv).idx_next
        ((popped_iff_vals hfj.1 aj).mp hpaj) h1, h2⟩
    · refine Or.inr ⟨pos_last hfj.1 hb.ninv hpaj h3, fun e he => ?_⟩
      have he' : e ∈ s.heapProgs sj := he
      rw [St.heapProgs_of_heapOf h2] at he'; cases he'

theorem front_all (H : OHyp E rank Good) {s : St U π} (hb : Base E s) (hall : All E rank s) {nt : UNT U}
    (hf : Full E rank s nt) {y : Prog} (hy : Der E y nt) (hcl : PS.HG.clean E.filter y = true) :
    Popped s nt y ∨ ∃ e, e ∈ s.heapOf nt ∧ LE E nt e.2 y := by
  rcases Frontier.front _ (quiet_sysOf H hb hall) _ nt rfl y ⟨hf, hy, hcl⟩ with h | ⟨e, he, hle⟩
  · exact Or.inl h
  · obtain ⟨e', he', rfl⟩ := List.mem_map.mp he
    exact Or.inr ⟨e', he', hle⟩

theorem exhausted_complete (H : OHyp E rank Good) {s : St U π} (hb : Base E s) (hall : All E rank s) :
    ∀ (r : Nat) (nt : UNT U), rank nt = r → Full E rank s nt → s.heapOf nt = [] → ∀ p, Der E p nt →
      PS.HG.clean E.filter p = true → Popped s nt p := by
  intro r nt _ hf hh p hd hcl
  rcases front_all H hb hall hf hd hcl with h | ⟨e, he, _⟩
  · exact h
  · rw [hh] at he; cases he

theorem dominated (H : OHyp E rank Good) {s : St U π} (hb : Base E s) (hall : All E rank s)
    (nt : UNT U) (hf : Full E rank s nt) (hlow : ∀ sj, rank sj < rank nt → Full E rank s sj → PrefixOK E s sj)
    (y : Prog) (hy : Der E y nt) (hcl : PS.HG.clean E.filter y = true) (hny : ¬ Popped s nt y) :
    ∃ e, e ∈ s.heapOf nt ∧ LE E nt e.2 y :=
  (front_all H hb hall hf hy hcl).resolve_left hny

theorem prefixOK_all (H : OHyp E rank Good) {s : St U π} (hb : Base E s) (hall : All E rank s) :
    ∀ (r : Nat) (nt : UNT U), rank nt = r → Full E rank s nt → PrefixOK E s nt := by
  intro r nt _ hf x y hx hy hcl hny
  rcases front_all H hb hall hf hy hcl with h | ⟨e, he, hle⟩
  · exact absurd h hny
  · exact LE.trans H (hb.sinv.seen_der nt e.2 (hb.sinv.heap_seen nt e he)) (hf.1.heap_le x hx e he) hle

end PS.UHS
