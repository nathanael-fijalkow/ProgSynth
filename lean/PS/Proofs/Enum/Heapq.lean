/- Correctness of the model of heapq (PS/Model/Enum/Heapq.lean): push and pop keep the multiset,
   the root of an array satisfying the heap invariant is a minimum. -/
import PS.Model.Enum.Heapq
namespace PS.Heapq
variable {α : Type}

theorem swap_perm (h : List α) (i j : Nat) : (swap h i j).Perm h := by
  unfold swap
  cases hi : h[i]? with
  | none => exact List.Perm.refl _
  | some a =>
    cases hj : h[j]? with
    | none => exact List.Perm.refl _
    | some b =>
      obtain ⟨hi', rfl⟩ := List.getElem?_eq_some_iff.mp hi
      obtain ⟨hj', rfl⟩ := List.getElem?_eq_some_iff.mp hj
      exact List.set_set_perm hi' hj'

theorem swap_length (h : List α) (i j : Nat) : (swap h i j).length = h.length :=
  (swap_perm h i j).length_eq

/-- `f` is the loop `siftdown(heap, k, pos)` of CPython's heapq: the models write it three times (`siftdown`: `k = 0`;
    `Beap.siftdownFrom`, `CD.siftdownFrom`: any `k`) -/
structure IsSiftdown (lt : α → α → Bool) (k : Nat) (f : Nat → List α → Nat → List α) : Prop where
  zero : ∀ h pos, f 0 h pos = h
  succ : ∀ n h pos, f (n + 1) h pos =
    if pos ≤ k then h else if ltAt lt h pos ((pos - 1) / 2) then f n (swap h pos ((pos - 1) / 2)) ((pos - 1) / 2) else h

theorem IsSiftdown.perm {lt : α → α → Bool} {k : Nat} {f} (hf : IsSiftdown lt k f) (fuel : Nat) (h : List α) (pos : Nat) :
    (f fuel h pos).Perm h := by
  induction fuel generalizing h pos with
  | zero => rw [hf.zero]
  | succ n ih =>
    rw [hf.succ]
    split
    · exact List.Perm.refl _
    · split
      · exact (ih _ _).trans (swap_perm h _ _)
      · exact List.Perm.refl _

theorem isSiftdown_siftdown (lt : α → α → Bool) : IsSiftdown lt 0 (siftdown lt) :=
  ⟨fun _ _ => rfl, fun n h pos => by simp only [siftdown, Nat.le_zero]⟩

theorem siftdown_perm (lt : α → α → Bool) (fuel : Nat) (h : List α) (pos : Nat) :
    (siftdown lt fuel h pos).Perm h := (isSiftdown_siftdown lt).perm fuel h pos

theorem bubble_perm (lt : α → α → Bool) (fuel : Nat) (h : List α) (pos : Nat) :
    (bubble lt fuel h pos).1.Perm h := by
  induction fuel generalizing h pos with
  | zero => exact List.Perm.refl _
  | succ n ih =>
    unfold bubble
    split
    · exact (ih _ _).trans (swap_perm _ _ _)
    · exact List.Perm.refl _

theorem siftup_perm (lt : α → α → Bool) (h : List α) : (siftup lt h).Perm h := by
  unfold siftup
  exact (siftdown_perm _ _ _ _).trans (bubble_perm _ _ _ _)

theorem push_perm (lt : α → α → Bool) (h : List α) (x : α) : (push lt h x).Perm (x :: h) := by
  unfold push
  exact (siftdown_perm _ _ _ _).trans (List.perm_append_comm (l₁ := h) (l₂ := [x]))

theorem pop_some (lt : α → α → Bool) (h : List α) (x : α) (h' : List α) (hp : pop lt h = some (x, h')) :
    (h = [x] ∧ h' = []) ∨ ∃ rest last, h = x :: rest ++ [last] ∧ h' = siftup lt (last :: rest) := by
  unfold pop at hp
  cases hl : h.getLast? with
  | none => rw [hl] at hp; cases hp
  | some last =>
    obtain ⟨ys, rfl⟩ := List.getLast?_eq_some_iff.mp hl
    rw [hl, List.dropLast_concat] at hp
    cases ys with
    | nil => cases hp; exact Or.inl ⟨rfl, rfl⟩
    | cons top rest => cases hp; exact Or.inr ⟨rest, last, rfl, rfl⟩

theorem pop_perm (lt : α → α → Bool) (h : List α) (x : α) (h' : List α)
    (hp : pop lt h = some (x, h')) : h.Perm (x :: h') := by
  rcases pop_some lt h x h' hp with ⟨rfl, rfl⟩ | ⟨rest, last, rfl, rfl⟩
  · exact List.Perm.refl _
  · exact ((List.perm_append_comm (l₁ := rest) (l₂ := [last])).trans (siftup_perm lt (last :: rest)).symm).cons x

theorem mem_of_pop (lt : α → α → Bool) (h : List α) (x : α) (h' : List α)
    (hp : pop lt h = some (x, h')) : x ∈ h ∧ ∀ e ∈ h', e ∈ h :=
  have := (pop_perm lt h x h' hp).symm
  ⟨this.subset List.mem_cons_self, fun _ he => this.subset (List.mem_cons_of_mem _ he)⟩

theorem pop_none_iff (lt : α → α → Bool) (h : List α) : pop lt h = none ↔ h = [] := by
  unfold pop
  cases hl : h.getLast? with
  | none => simp [List.getLast?_eq_none_iff.mp hl]
  | some last =>
    have : h ≠ [] := by intro e; simp [e] at hl
    cases hd : h.dropLast <;> simp [this]

/-- the heap invariant of `heapq`: no element is smaller than its parent -/
def IsHeap (lt : α → α → Bool) (h : List α) : Prop :=
  ∀ i (hi : i < h.length), 0 < i → lt h[i] (h[(i - 1) / 2]'(by omega)) = false

/-- `htrans`: `¬ <` is transitive, as it is for floats without NaN and for bucket tuples of one length -/
theorem root_min (lt : α → α → Bool)
    (htrans : ∀ a b c, lt b a = false → lt c b = false → lt c a = false)
    (hrefl : ∀ a, lt a a = false)
    (h : List α) (hh : IsHeap lt h) (i : Nat) (hi : i < h.length) :
    lt h[i] (h[0]'(by omega)) = false := by
  induction i using Nat.strongRecOn with
  | _ i ih =>
    by_cases h0 : i = 0
    · subst h0; exact hrefl _
    · have hpar : (i - 1) / 2 < i := by omega
      have hpl : (i - 1) / 2 < h.length := by omega
      exact htrans _ _ _ (ih _ hpar hpl) (hh i hi (by omega))

end PS.Heapq

namespace PS

theorem pop_progs {π β : Type} {lt : (π × β) → (π × β) → Bool} {h h' : List (π × β)} {e : π × β}
    (hp : Heapq.pop lt h = some (e, h')) : (h.map (·.2)).Perm (e.2 :: h'.map (·.2)) := by
  have := (Heapq.pop_perm lt h e h' hp).map (·.2)
  simpa using this

end PS
