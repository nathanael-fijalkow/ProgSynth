/- The placement invariant of the bucketed queue with exact rational arithmetic: every stored
   CostTuple sits in the cell its cost maps to (relative to `mini` / `translation`, nested cells
   included), and the order contract that follows: `pop` returns the stored CostTuple of strictly
   smallest cost. -/
import PS.Model.Enum.CDQueue
import PS.Proofs.Enum.CDQueue
namespace PS.CD

/-- exact rational arithmetic with either form of the bucket index expression: `ratA false` computes
    `int(cost / maxi * k)`, `ratA true` computes `int(cost * k / maxi)`, the form /repo has
    (constant_delay_queue.py:100, commit 8568413, fixes_applied/C03-F5.diff).  With exact rationals the two agree
    (`lbiOf_floor`: the floor of `cost / maxi * k`), so the theorems are stated for both. -/
def ratA (b : Bool) : Arith Rat := { ratArith with mulFirst := b }

/- the operations of `ratA b` are those of `Rat`; rewriting with these keeps the unifier from unfolding `Rat.add` -/
theorem ratA_add (b : Bool) (x y : Rat) : (ratA b).add x y = x + y := rfl
theorem ratA_sub (b : Bool) (x y : Rat) : (ratA b).sub x y = x - y := rfl
theorem ratA_mul (b : Bool) (x y : Rat) : (ratA b).mul x y = x * y := rfl
theorem ratA_div (b : Bool) (x y : Rat) : (ratA b).div x y = x / y := rfl
theorem ratA_ofNat (b : Bool) (k : Nat) : (ratA b).ofNat k = (k : Rat) := rfl

/-- the merge test of `__push__` (`abs(val.cost - element.cost) > 1` is false) with exact rationals -/
theorem ratA_close (b : Bool) (x y : Rat) :
    (ratA b).lt ((ratA b).ofInt 1) ((ratA b).abs ((ratA b).sub x y)) = false → x - y ≤ 1 ∧ y - x ≤ 1 := by
  intro h
  have h' : ¬ ((1 : Rat) < (if 0 ≤ x - y then x - y else -(x - y))) := by simpa [ratA, ratArith] using h
  split at h' <;> constructor <;> grind

theorem natCast_pos {k : Nat} (hk : 0 < k) : (0 : Rat) < (k : Rat) := by exact_mod_cast hk

theorem div_natCast_pos {m : Rat} {k : Nat} (hm : 0 < m) (hk : 0 < k) : 0 < m / (k : Rat) := by
  rw [Rat.div_def]; exact Rat.mul_pos hm (Rat.inv_pos.mpr (natCast_pos hk))

theorem idx_nonneg {cost maxi : Rat} (k : Nat) (h0 : 0 ≤ cost) (hm : 0 < maxi) : 0 ≤ cost / maxi * (k : Rat) :=
  Rat.mul_nonneg (by rw [Rat.div_def]; exact Rat.mul_nonneg h0 (Rat.le_of_lt (Rat.inv_pos.mpr hm)))
    (by exact_mod_cast Nat.zero_le k)

/-- `int` is the floor when the relative cost is not negative -/
theorem lbiOf_floor (b : Bool) (cost maxi : Rat) (k : Nat) (h0 : 0 ≤ cost) (hm : 0 < maxi) :
    lbiOf (ratA b) cost maxi k = (cost / maxi * (k : Rat)).floor := by
  have e2 : cost * (k : Rat) / maxi = cost / maxi * (k : Rat) := by simp only [Rat.div_def]; grind
  unfold lbiOf
  simp only [ratA_div, ratA_mul, ratA_ofNat, e2, ite_self]
  show ratTrunc _ = _
  rw [ratTrunc, if_pos (idx_nonneg k h0 hm)]

theorem lbi_spec (b : Bool) (cost maxi : Rat) (k : Nat) (hk : 0 < k) (hm : 0 < maxi) (h0 : 0 ≤ cost) (h1 : cost < maxi) :
    ∃ L : Nat, lbiOf (ratA b) cost maxi k = (L : Int) ∧ L < k ∧
      (L : Rat) * (maxi / (k : Rat)) ≤ cost ∧ cost < (L : Rat) * (maxi / (k : Rat)) + maxi / (k : Rat) := by
  have hkr := natCast_pos hk
  have hw := div_natCast_pos hm hk
  let x : Rat := cost / maxi * (k : Rat)
  have hx0 : 0 ≤ x := idx_nonneg k h0 hm
  have hval : lbiOf (ratA b) cost maxi k = x.floor := lbiOf_floor b cost maxi k h0 hm
  have hfl0 : 0 ≤ x.floor := by
    rw [Rat.le_floor_iff]; simpa using hx0
  have hcost : x * (maxi / (k : Rat)) = cost := by show cost / maxi * (k : Rat) * (maxi / (k : Rat)) = cost; grind
  have hc : ((x.floor.toNat : Nat) : Rat) = ((x.floor : Int) : Rat) := by
    have : ((x.floor.toNat : Nat) : Int) = x.floor := by omega
    rw [← this]; rfl
  refine ⟨x.floor.toNat, by rw [hval]; omega, ?_, ?_, ?_⟩
  · have hxk : x < (k : Rat) := by
      have : cost / maxi < 1 := (Rat.div_lt_iff hm).mpr (by simpa using h1)
      simpa using Rat.mul_lt_mul_of_pos_right this hkr
    have : x.floor < (k : Int) := by
      rw [Rat.floor_lt_iff]; exact_mod_cast hxk
    omega
  · rw [hc, ← hcost]
    exact Rat.mul_le_mul_of_nonneg_right (Rat.floor_le x) (Rat.le_of_lt hw)
  · rw [hc]
    have h2 := Rat.lt_floor_add_one x
    rw [show ((x.floor + 1 : Int) : Rat) = (x.floor : Rat) + 1 by simp [Rat.intCast_add]] at h2
    calc cost = x * (maxi / (k : Rat)) := hcost.symm
      _ < ((x.floor : Rat) + 1) * (maxi / (k : Rat)) := Rat.mul_lt_mul_of_pos_right h2 hw
      _ = _ := by rw [Rat.add_mul, Rat.one_mul]

/-- offset of cell `i` from the cell at `translation`, in the circular array -/
def off (k tr i : Nat) : Nat := (i + k - tr) % k

theorem off_lt (k tr i : Nat) (hk : 0 < k) : off k tr i < k := Nat.mod_lt _ hk

theorem off_inv (k tr i : Nat) (hi : i < k) (htr : tr < k) : (tr + off k tr i) % k = i := by
  rw [off, Nat.add_mod_mod, show tr + (i + k - tr) = i + k by omega, Nat.add_mod_right, Nat.mod_eq_of_lt hi]

theorem off_unique (k tr i o : Nat) (htr : tr < k) (ho : o < k) (h : (tr + o) % k = i) : off k tr i = o := by
  subst h
  unfold off
  by_cases h1 : tr + o < k
  · rw [Nat.mod_eq_of_lt h1, show tr + o + k - tr = o + k by omega, Nat.add_mod_right, Nat.mod_eq_of_lt ho]
  · have e : (tr + o) % k = tr + o - k := by rw [Nat.mod_eq_sub_mod (by omega), Nat.mod_eq_of_lt (by omega)]
    rw [e, show tr + o - k + k - tr = o by omega, Nat.mod_eq_of_lt ho]

theorem off_self (k tr : Nat) (htr : tr < k) : off k tr tr = 0 :=
  off_unique k tr tr 0 htr (by omega) (Nat.mod_eq_of_lt htr)

theorem off_zero (k i : Nat) (hi : i < k) : off k 0 i = i :=
  off_unique k 0 i i (by omega) hi (by rw [Nat.zero_add, Nat.mod_eq_of_lt hi])

theorem off_inj (k tr i j : Nat) (hi : i < k) (hj : j < k) (htr : tr < k) (h : off k tr i = off k tr j) : i = j := by
  rw [← off_inv k tr i hi htr, h, off_inv k tr j hj htr]

theorem off_index (k tr L : Nat) (hL : L < k) (htr : tr < k) : slot k (L : Int) tr < k ∧ off k tr (slot k L tr) = L := by
  have e : slot k (L : Int) tr = (tr + L) % k := by
    unfold slot
    rw [show ((L : Int) + (tr : Int)) % (k : Int) = (((tr + L) % k : Nat) : Int) by rw [Nat.add_comm]; simp]
    exact Int.toNat_natCast _
  rw [e]
  exact ⟨Nat.mod_lt _ (by omega), off_unique k tr _ L htr hL rfl⟩

theorem off_shift (k tr i d : Nat) (hi : i < k) (htr : tr < k) (hd : d ≤ off k tr i) (hk : 0 < k) :
    off k ((tr + d) % k) i = off k tr i - d := by
  apply off_unique k _ i _ (Nat.mod_lt _ hk) (by have := off_lt k tr i hk; omega)
  rw [Nat.mod_add_mod]
  have : tr + d + (off k tr i - d) = tr + off k tr i := by omega
  rw [this]
  exact off_inv k tr i hi htr

/-- a cell covering the cost interval `[b, b + w)`: a leaf holds a CostTuple of that
    interval, the `j`-th of the `k` sub-cells of a nested cell covers `[b + j·w/k, b + (j+1)·w/k)` -/
inductive Placed (k : Nat) : Rat → Rat → Cell Rat → Prop
  | empty (b w : Rat) : Placed k b w .empty
  | leaf (b w : Rat) (ct : CT Rat) : b ≤ ct.cost → ct.cost < b + w → Placed k b w (.leaf ct)
  | node (b w : Rat) (n : Nat) (sub : List (Cell Rat)) : sub.length = k →
      (∀ (j : Nat) c, sub[j]? = some c → Placed k (b + (j : Rat) * (w / (k : Rat))) (w / (k : Rat)) c) →
      Placed k b w (.node n sub)

/-- a (rotated) array of `k` cells starting at cost `base`: cell `i` covers the `off k tr i`-th interval
    of width `w` -/
def PlacedList (k : Nat) (base w : Rat) (tr : Nat) (cells : List (Cell Rat)) : Prop :=
  cells.length = k ∧ ∀ (i : Nat) c, cells[i]? = some c → Placed k (base + (off k tr i : Rat) * w) w c

/-- the cells of a list starting at cost `b`, one interval of width `w` each (no rotation) -/
def Run (k : Nat) (b w : Rat) (l : List (Cell Rat)) : Prop :=
  ∀ (j : Nat) c, l[j]? = some c → Placed k (b + (j : Rat) * w) w c

theorem placedList_replicate (k : Nat) (base w : Rat) (tr : Nat) : PlacedList k base w tr (List.replicate k .empty) := by
  refine ⟨by simp, ?_⟩
  intro i c h
  have := List.mem_of_getElem? h
  rw [List.mem_replicate] at this
  rw [this.2]; exact .empty _ _

theorem placedList_set {k : Nat} {base w : Rat} {tr : Nat} {cells : List (Cell Rat)} (h : PlacedList k base w tr cells)
    (i : Nat) (c' : Cell Rat) (hc : Placed k (base + (off k tr i : Rat) * w) w c') :
    PlacedList k base w tr (cells.set i c') := by
  refine ⟨by simp [h.1], ?_⟩
  intro j c hj
  rw [List.getElem?_set] at hj
  split at hj
  · rename_i hij
    subst hij
    split at hj
    · simp only [Option.some.injEq] at hj; subst hj; exact hc
    · simp at hj
  · exact h.2 j c hj

theorem placedList_zero {k : Nat} {b w : Rat} {l : List (Cell Rat)} : PlacedList k b w 0 l ↔ l.length = k ∧ Run k b w l := by
  refine and_congr_right fun hl => forall_congr' fun j => forall_congr' fun c => imp_congr_right fun hj => ?_
  rw [off_zero k j (hl ▸ (List.getElem?_eq_some_iff.mp hj).1)]

theorem placed_node_iff {k n : Nat} {b w : Rat} {sub : List (Cell Rat)} :
    Placed k b w (.node n sub) ↔ sub.length = k ∧ Run k b (w / (k : Rat)) sub :=
  ⟨fun h => by cases h with | node _ _ _ _ hl hs => exact ⟨hl, hs⟩, fun h => .node _ _ _ _ h.1 h.2⟩

theorem placed_node_list {k n : Nat} {b w : Rat} {sub : List (Cell Rat)} :
    Placed k b w (.node n sub) ↔ PlacedList k b (w / (k : Rat)) 0 sub := placed_node_iff.trans placedList_zero.symm

/-! a cost relative to `base`, moved to a cell that starts `d` later: the arithmetic of `__push__`, once -/
theorem rel_lo {e base cost d : Rat} (hc : cost = e - base) (h : d ≤ cost) : base + d ≤ e := by grind
theorem rel_hi {e base cost d w : Rat} (hc : cost = e - base) (h : cost < d + w) : e < base + d + w := by grind
theorem rel_nonneg {c x B : Rat} (hc : c = x - B) (h : B ≤ x) : 0 ≤ c := by grind
theorem rel_lt {c x B w : Rat} (hc : c = x - B) (h : x < B + w) : c < w := by grind
theorem lt_add_width {b w : Rat} (hw : 0 < w) : b < b + w := by grind
theorem rel_later {p m w o t : Rat} (hp : p < m + w) (ho : 1 * w ≤ o * w) (ht : m + o * w ≤ t) : p < t := by grind
theorem rel_shift {e base cost d : Rat} (hc : cost = e - base) : cost - d = e - (base + d) := by grind
theorem rel_shift_other {e base cost v d : Rat} (hc : cost = e - base) : cost + v - e - d = v - (base + d) := by grind

theorem cell_zero (b w : Rat) : b + ((0 : Nat) : Rat) * w = b := by grind
theorem cell_succ (b w : Rat) (j : Nat) : b + ((j + 1 : Nat) : Rat) * w = b + w + (j : Rat) * w := by grind
/-- the `k` sub-cells of a cell cover its interval -/
theorem cell_last {k : Nat} (hk : 0 < k) (b w : Rat) : b + (k : Rat) * (w / (k : Rat)) = b + w := by
  have := natCast_pos hk; grind
/-- a queue anchored at `x` has `mini = start + maxi * 0 / k` -/
theorem anchor_rel (x m k : Rat) : x = x + m * ((0 : Nat) : Rat) / k := by grind
/-- `update` after `d` more empty buckets: `start + maxi * (n + d) / k` is `mini + d` widths -/
theorem slide_mini (st m k : Rat) (n d : Nat) (hk : k ≠ 0) :
    st + m * ((n + d : Nat) : Rat) / k = st + m * (n : Rat) / k + (d : Rat) * (m / k) := by
  have e1 : ((n + d : Nat) : Rat) = (n : Rat) + (d : Rat) := by grind
  rw [e1]; grind
/-- a cell at offset `o ≥ d` from the old start is at offset `o - d` from the new one -/
theorem slide_cell (m w : Rat) (o d : Nat) (h : d ≤ o) : m + (d : Rat) * w + ((o - d : Nat) : Rat) * w = m + (o : Rat) * w := by
  have e1 : ((o : Nat) : Rat) = (((o - d) + d : Nat) : Rat) := by rw [Nat.sub_add_cancel h]
  have e2 : (((o - d) + d : Nat) : Rat) = ((o - d : Nat) : Rat) + (d : Rat) := by grind
  rw [e1, e2]; grind

theorem pushCells_placed (b : Bool) (k : Nat) (hk : 0 < k) :
    ∀ (f : Nat) (e : CT Rat) (cost maxi base : Rat) (cells : List (Cell Rat)) (tr : Nat)
      (cells' : List (Cell Rat)) (added : Bool),
      pushCells (ratA b) k f e cost maxi cells tr = some (cells', added) →
      0 < maxi → cost = e.cost - base → 0 ≤ cost → cost < maxi → tr < k →
      PlacedList k base (maxi / (k : Rat)) tr cells → PlacedList k base (maxi / (k : Rat)) tr cells' := by
  intro f
  induction f with
  | zero => intro e cost maxi base cells tr cells' added h; simp [pushCells] at h
  | succ f ih =>
    intro e cost maxi base cells tr cells' added h hm hc h0 h1 htr hp
    have hw := div_natCast_pos hm hk
    obtain ⟨_, c, c', hget, rfl, hstep⟩ := pushCells_succ h
    obtain ⟨L, hL, hLk, hlo, hhi⟩ := lbi_spec b cost maxi k hk hm h0 h1
    obtain ⟨hik, hoff⟩ := off_index k tr L hLk htr
    rw [hL] at hget hstep ⊢
    -- the selected cell covers `[base + L·w, base + (L+1)·w)`, which holds `e.cost`; in the sub-array of that
    -- cell the relative cost is `cost - L·w`
    change PushStep (ratA b) k f e cost ((L : Rat) * (maxi / (k : Rat))) (maxi / (k : Rat)) c c' added at hstep
    have hc0 := hp.2 _ _ hget
    refine placedList_set hp _ _ ?_
    rw [hoff] at hc0 ⊢
    have he_lo := rel_lo hc hlo
    have he_hi := rel_hi hc hhi
    have hsub : ∀ (x : CT Rat) (cells cells' : List (Cell Rat)) (bb : Bool) (c' : Rat),
        pushCells (ratA b) k f x c' (maxi / (k : Rat)) cells 0 = some (cells', bb) →
        c' = x.cost - (base + (L : Rat) * (maxi / (k : Rat))) → base + (L : Rat) * (maxi / (k : Rat)) ≤ x.cost →
        x.cost < base + (L : Rat) * (maxi / (k : Rat)) + maxi / (k : Rat) →
        PlacedList k (base + (L : Rat) * (maxi / (k : Rat))) (maxi / (k : Rat) / (k : Rat)) 0 cells →
        PlacedList k (base + (L : Rat) * (maxi / (k : Rat))) (maxi / (k : Rat) / (k : Rat)) 0 cells' :=
      fun x cells cells' bb c' hx e1 e2 e3 => ih x c' _ _ cells 0 cells' bb hx hw e1 (rel_nonneg e1 e2) (rel_lt e1 e3) hk
    cases hstep with
    | empty => exact .leaf _ _ _ he_lo he_hi
    | merge _ => cases hc0 with | leaf _ _ _ hv1 hv2 => exact .leaf _ _ _ hv1 hv2
    | @split val sub1 sub2 b1 b2 _ h1' h2' =>
      cases hc0 with
      | leaf _ _ _ hv1 hv2 =>
        have p1 := hsub val _ sub1 b1 _ h1' (by rw [ratA_sub, ratA_sub, ratA_add]; exact rel_shift_other hc) hv1 hv2
          (placedList_replicate k _ _ 0)
        exact placed_node_list.mpr (hsub e _ sub2 b2 _ h2' (by rw [ratA_sub]; exact rel_shift hc) he_lo he_hi p1)
    | node h1' =>
      exact placed_node_list.mpr (hsub e _ _ _ _ h1' (by rw [ratA_sub]; exact rel_shift hc) he_lo he_hi (placed_node_list.mp hc0))

/-! ### what a placed cell holds -/

theorem run_tail {k : Nat} {b w : Rat} {c : Cell Rat} {rest : List (Cell Rat)} (h : Run k b w (c :: rest)) :
    Placed k b w c ∧ Run k (b + w) w rest := by
  constructor
  · have := h 0 c (by simp)
    rwa [cell_zero] at this
  · intro j c' hj
    have := h (j + 1) c' (List.getElem?_cons_succ.trans hj)
    rwa [cell_succ] at this

theorem run_cons {k : Nat} {b w : Rat} {c : Cell Rat} {rest : List (Cell Rat)} (hc : Placed k b w c)
    (hr : Run k (b + w) w rest) : Run k b w (c :: rest) := by
  intro j c' hj
  cases j with
  | zero =>
    simp only [List.getElem?_cons_zero, Option.some.injEq] at hj
    subst hj
    rwa [cell_zero]
  | succ j =>
    have := hr j c' (List.getElem?_cons_succ.symm.trans hj)
    rwa [cell_succ]

theorem cell_in_run (b w : Rat) {j n : Nat} (hjn : j < n) (hw : 0 < w) :
    b ≤ b + (j : Rat) * w ∧ b + (j : Rat) * w + w ≤ b + (n : Rat) * w := by
  have h0 : (0 : Rat) ≤ (j : Rat) := by exact_mod_cast Nat.zero_le j
  have h1 : ((j + 1 : Nat) : Rat) ≤ (n : Rat) := by exact_mod_cast hjn
  have h2 := Rat.mul_le_mul_of_nonneg_right h1 (Rat.le_of_lt hw)
  have h3 := Rat.mul_nonneg h0 (Rat.le_of_lt hw)
  have e : ((j + 1 : Nat) : Rat) = (j : Rat) + 1 := by grind
  rw [e] at h2
  constructor <;> grind

theorem placed_bounds (k : Nat) (hk : 0 < k) (c : Cell Rat) (b w : Rat) (hw : 0 < w) (h : Placed k b w c) :
    ∀ t ∈ c.tuples, b ≤ t.cost ∧ t.cost < b + w := by
  induction h with
  | empty => intro t ht; simp [tuples_empty] at ht
  | leaf b w ct h1 h2 =>
    intro t ht
    rw [tuples_leaf, List.mem_singleton] at ht
    subst ht; exact ⟨h1, h2⟩
  | node b w n sub hl hs ih =>
    intro t ht
    rw [tuples_node] at ht
    obtain ⟨j, c, hj, htc⟩ := mem_tuplesList.mp ht
    have hw' := div_natCast_pos hw hk
    have hb := ih j c hj hw' t htc
    have hin := cell_in_run b (w / (k : Rat)) (hl ▸ (List.getElem?_eq_some_iff.mp hj).1) hw'
    rw [cell_last hk] at hin
    exact ⟨Rat.le_trans hin.1 hb.1, Std.lt_of_lt_of_le hb.2 hin.2⟩

theorem run_bounds (k : Nat) (hk : 0 < k) (l : List (Cell Rat)) (b w : Rat) (hw : 0 < w) (h : Run k b w l) :
    ∀ t ∈ tuplesList l, b ≤ t.cost ∧ t.cost < b + (l.length : Rat) * w := by
  intro t ht
  obtain ⟨j, c, hj, htc⟩ := mem_tuplesList.mp ht
  have hb := placed_bounds k hk c _ w hw (h j c hj) t htc
  have hin := cell_in_run b w (List.getElem?_eq_some_iff.mp hj).1 hw
  exact ⟨Rat.le_trans hin.1 hb.1, Std.lt_of_lt_of_le hb.2 hin.2⟩

/-- a cell ends where the next one starts -/
theorem run_sorted_of_cells (k : Nat) (hk : 0 < k) (l : List (Cell Rat)) (b w : Rat) (hw : 0 < w) : Run k b w l →
    (∀ c ∈ l, c.tuples.Pairwise (·.cost < ·.cost)) → (tuplesList l).Pairwise (·.cost < ·.cost) := by
  induction l generalizing b with
  | nil => intro _ _; rw [tuplesList_nil]; exact .nil
  | cons c rest ih =>
    intro hr hc
    obtain ⟨h1, hrt⟩ := run_tail hr
    rw [tuplesList_cons, List.pairwise_append]
    exact ⟨hc c List.mem_cons_self, ih (b + w) hrt fun c' h' => hc c' (List.mem_cons_of_mem _ h'),
      fun x hx y hy => Std.lt_of_lt_of_le (placed_bounds k hk c b w hw h1 x hx).2 (run_bounds k hk rest (b + w) w hw hrt y hy).1⟩

/-- `Cell.tuples` is the order in which `__pop__` and `__peek__` visit the CostTuples.  With `popCell_spec` (`pop` takes the
    head of that list) this is why `pop` returns the cheapest: no induction over `__pop__` is needed for the order. -/
theorem Placed.sorted (k : Nat) (hk : 0 < k) {c : Cell Rat} {b w : Rat} (hw : 0 < w) (h : Placed k b w c) :
    c.tuples.Pairwise (·.cost < ·.cost) := by
  induction h with
  | empty => simp [tuples_empty]
  | leaf => simp [tuples_leaf]
  | node b w n sub hl hs ih =>
    have hw' := div_natCast_pos hw hk
    rw [tuples_node]
    refine run_sorted_of_cells k hk sub b _ hw' hs fun c hc => ?_
    obtain ⟨j, hj, rfl⟩ := List.getElem_of_mem hc
    exact ih j _ (List.getElem?_eq_getElem hj) hw'

theorem Run.sorted (k : Nat) (hk : 0 < k) {l : List (Cell Rat)} {b w : Rat} (hw : 0 < w) (h : Run k b w l) :
    (tuplesList l).Pairwise (·.cost < ·.cost) :=
  run_sorted_of_cells k hk l b w hw h fun c hc => by
    obtain ⟨j, hj, rfl⟩ := List.getElem_of_mem hc
    exact (h j _ (List.getElem?_eq_getElem hj)).sorted k hk hw

/-- a nested cell of two collapses to the leaf of the CostTuple that stays, which lies in the interval of the cell -/
theorem pop_placed (k : Nat) (hk : 0 < k) :
    (∀ c : Cell Rat, WFCell c → ∀ b w p c', 0 < w → Placed k b w c → popCell c = some (p, c') → Placed k b w c') ∧
    ∀ l : List (Cell Rat), (∀ c ∈ l, WFCell c) → ∀ b w p l', 0 < w → Run k b w l → popList l = some (p, l') → Run k b w l' := by
  refine Cell.induct ?_ ?_ ?_ ?_ ?_
  · intro _ b w p c' _ _ h; simp [popCell] at h
  · intro ct _ b w p c' _ _ h
    rw [(popCell_leaf h).2]; exact .empty _ _
  · intro n sub ih hwf b w p c' hw hp h
    cases hwf with
    | node _ _ hs hn h2 =>
      obtain ⟨hl, hr⟩ := placed_node_iff.mp hp
      obtain ⟨_, sub', hpop, hcase⟩ := popCell_node h
      have hr' := ih hs b _ p sub' (div_natCast_pos hw hk) hr hpop
      obtain ⟨w1, _, hl'⟩ := pop_spec.2 sub hs p sub' hpop
      have hnode : Placed k b w (.node n sub') := placed_node_iff.mpr ⟨hl'.trans hl, hr'⟩
      rcases hcase with ⟨rfl, r, hfirst, rfl⟩ | ⟨_, rfl⟩
      · rw [first_spec.2 sub' w1] at hfirst
        have hb := placed_bounds k hk _ b w hw hnode r (by rw [tuples_node]; exact List.mem_of_mem_head? hfirst)
        exact .leaf _ _ _ hb.1 hb.2
      · exact placed_node_iff.mpr (placed_node_iff.mp hnode)
  · intro _ b w p l' _ _ h; simp [popList] at h
  · intro c rest ihc ihr hwf b w p l' hw hr h
    obtain ⟨hc, hrest⟩ := List.forall_mem_cons.mp hwf
    rcases popList_cons h with ⟨rfl, rest', hp, rfl⟩ | ⟨_, c', hp, rfl⟩
    · exact run_cons (.empty _ _) (ihr hrest (b + w) w p rest' hw (run_tail hr).2 hp)
    · exact run_cons (ihc hc b w p c' hw (run_tail hr).1 hp) (run_tail hr).2

theorem popCell_lt (k : Nat) (hk : 0 < k) {c c' : Cell Rat} {b w : Rat} {p : CT Rat} (hw : 0 < w) (hwf : WFCell c)
    (hp : Placed k b w c) (h : popCell c = some (p, c')) : ∀ t ∈ c'.tuples, p.cost < t.cost := by
  have hs := hp.sorted k hk hw
  rw [(popCell_spec c p c' hwf h).2] at hs
  exact (List.pairwise_cons.mp hs).1

theorem popList_placed (k : Nat) (hk : 0 < k) : ∀ (l : List (Cell Rat)) (b w : Rat) (p : CT Rat) (l' : List (Cell Rat)), 0 < w →
    (∀ c ∈ l, WFCell c) → Run k b w l → popList l = some (p, l') →
    Run k b w l' ∧ (∀ t ∈ tuplesList l', p.cost < t.cost) ∧ l'.length = l.length
  | l, b, w, p, l', hw, hwf, hr, h => by
    obtain ⟨_, ht, hlen⟩ := pop_spec.2 l hwf p l' h
    have hs := Run.sorted k hk hw hr
    rw [ht] at hs
    exact ⟨(pop_placed k hk).2 l hwf b w p l' hw hr h, (List.pairwise_cons.mp hs).1, hlen⟩

/-! ### the queue object with exact rationals -/

theorem wf_count_zero {α : Type} {c : Cell α} (hw : WFCell c) (h : c.count = 0) : c = .empty := by
  cases hw with
  | empty => rfl
  | leaf ct => simp [Cell.count] at h
  | node n sub _ hn h2 => simp [Cell.count] at h; omega

theorem placedList_of_empty {k : Nat} {base w : Rat} {tr : Nat} {cells : List (Cell Rat)} (hl : cells.length = k)
    (h : ∀ c ∈ cells, c = Cell.empty) : PlacedList k base w tr cells := by
  refine ⟨hl, ?_⟩
  intro i c hi
  rw [h c (List.mem_of_getElem? hi)]
  exact .empty _ _

/-- the invariant of a `CDQueue` computing with exact rationals: counters in sync, every CostTuple in the
    cell (and nested sub-cell) its cost maps to relative to `mini` and `translation`,
    `mini = start + maxi * n / k` -/
structure QOrd (q : Q Rat) : Prop where
  wf : QWF q
  maxi_pos : 0 < q.maxi
  tr : q.translation < q.k
  none_empty : q.mini = none → ∀ c ∈ q.cells, c = Cell.empty
  placed : ∀ mini, q.mini = some mini → PlacedList q.k mini (q.maxi / (q.k : Rat)) q.translation q.cells
  rel : ∀ mini, q.mini = some mini → ∃ st, q.start = some st ∧ mini = st + q.maxi * (q.n : Rat) / (q.k : Rat)

theorem qord_new (b : Bool) (maxi0 : Int) (k0 : Nat) (q : Q Rat) (hm : 0 < maxi0) (h : Q.new (ratA b) maxi0 k0 = some q) :
    QOrd q := by
  have hq := (qwf_new (ratA b) maxi0 k0 q h).1
  unfold Q.new at h
  split at h
  · simp at h
  · rename_i hk0
    simp only [Option.some.injEq] at h
    subst h
    refine ⟨hq, ?_, by simp, ?_, by simp, by simp⟩
    · show (0 : Rat) < ((maxi0 * ((k0 : Int) + 1) : Int) : Rat) / (((k0 : Nat) : Int) : Rat)
      have h1 : (0 : Rat) < ((maxi0 * ((k0 : Int) + 1) : Int) : Rat) := by
        have : 0 < maxi0 * ((k0 : Int) + 1) := Int.mul_pos hm (by omega)
        exact_mod_cast this
      have h2 : (0 : Rat) < (((k0 : Nat) : Int) : Rat) := by
        have : 0 < k0 := by omega
        exact_mod_cast this
      rw [Rat.div_def]; exact Rat.mul_pos h1 (Rat.inv_pos.mpr h2)
    · intro _ c hc
      exact (List.mem_replicate.mp hc).2

theorem qord_clear (q : Q Rat) (h : QOrd q) : QOrd q.clear := by
  refine ⟨(qwf_clear q h.wf).1, h.maxi_pos, h.wf.kpos, ?_, by simp [Q.clear], by simp [Q.clear]⟩
  intro _ c hc
  exact (List.mem_replicate.mp hc).2

/-- `hwin`: the pushed cost lies in the window `[mini, mini + maxi)` -/
theorem qord_push (b asserts : Bool) (q q' : Q Rat) (e : CT Rat) (hq : QOrd q)
    (hwin : ∀ mini, q.mini = some mini → mini ≤ e.cost ∧ e.cost < mini + q.maxi)
    (h : q.push (ratA b) e asserts = some q') : QOrd q' := by
  have hwf' := (qwf_push (ratA b) q q' e asserts hq.wf h).1
  obtain ⟨q1, m, cells, added, hcase, hp, rfl⟩ := Q.push_succ h
  -- the anchored queue `q1`: placed relative to `m`, with `e.cost` in the window
  have ha : m ≤ e.cost ∧ e.cost < m + q.maxi ∧ PlacedList q.k m (q.maxi / (q.k : Rat)) q.translation q.cells ∧
      q1.mini = some m ∧ q1.k = q.k ∧ q1.maxi = q.maxi ∧ q1.translation = q.translation ∧
      ∃ st, q1.start = some st ∧ m = st + q.maxi * (q1.n : Rat) / (q.k : Rat) := by
    rcases hcase with ⟨hm, rfl⟩ | ⟨hm, rfl, rfl⟩
    · exact ⟨(hwin m hm).1, (hwin m hm).2, hq.placed m hm, hm, rfl, rfl, rfl, hq.rel m hm⟩
    · refine ⟨Rat.le_refl, lt_add_width hq.maxi_pos, placedList_of_empty hq.wf.len (hq.none_empty hm), rfl, rfl, rfl,
        rfl, e.cost, rfl, anchor_rel _ _ _⟩
  obtain ⟨hlo, hhi, hpl, hm1, hk, hmx, htr, hrel⟩ := ha
  rw [ratA_sub] at hp
  have hpl' := pushCells_placed b q.k hq.wf.kpos _ e _ q.maxi m q.cells q.translation cells added hp
    hq.maxi_pos rfl (rel_nonneg rfl hlo) (rel_lt rfl hhi) hq.tr hpl
  have hmini : ∀ mini, q1.mini = some mini → mini = m := fun mini h => Option.some.inj (h.symm.trans hm1)
  refine ⟨hwf', ?_, ?_, fun hn => ?_, fun mini h => ?_, fun mini h => ?_⟩
  · show 0 < q1.maxi; rw [hmx]; exact hq.maxi_pos
  · show q1.translation < q1.k; rw [htr, hk]; exact hq.tr
  · rw [show _ = q1.mini from rfl, hm1] at hn; cases hn
  · show PlacedList q1.k mini (q1.maxi / (q1.k : Rat)) q1.translation cells
    rw [hmini mini h, hk, hmx, htr]; exact hpl'
  · show ∃ st, q1.start = some st ∧ mini = st + q1.maxi * (q1.n : Rat) / (q1.k : Rat)
    rw [hmini mini h, hk, hmx]; exact hrel

theorem qord_pop (q q' : Q Rat) (p : CT Rat) (hq : QOrd q) (h : q.pop = some (p, q')) :
    QOrd q' ∧ (∀ t ∈ q'.tuples, p.cost < t.cost) ∧
    ∃ mini, q.mini = some mini ∧ mini ≤ p.cost ∧ p.cost < mini + q.maxi / (q.k : Rat) := by
  have hwf' := (qwf_pop q q' p hq.wf h).1
  obtain ⟨c, c', hget, hp, _, rfl⟩ := Q.pop_succ h
  have hw := div_natCast_pos hq.maxi_pos hq.wf.kpos
  have hcw := hq.wf.cells c (List.mem_of_getElem? hget)
  rcases Option.eq_none_or_eq_some q.mini with hm | ⟨m, hm⟩
  · rw [hq.none_empty hm c (List.mem_of_getElem? hget)] at hp
    simp [popCell] at hp
  · have hpl := hq.placed m hm
    have hc := hpl.2 _ _ hget
    have e0 : m + (off q.k q.translation q.translation : Rat) * (q.maxi / (q.k : Rat)) = m := by
      rw [off_self _ _ hq.tr, cell_zero]
    rw [e0] at hc
    have hc' := (pop_placed q.k hq.wf.kpos).1 c hcw m _ p c' hw hc hp
    have hlt := popCell_lt q.k hq.wf.kpos hw hcw hc hp
    obtain ⟨_, t1⟩ := popCell_spec c p c' hcw hp
    have hpb := placed_bounds q.k hq.wf.kpos c m _ hw hc p (by rw [t1]; exact List.mem_cons_self)
    refine ⟨⟨hwf', hq.maxi_pos, hq.tr, fun hn => ?_, fun mini hmini => ?_, hq.rel⟩, fun t ht => ?_, m, hm, hpb.1, hpb.2⟩
    · rw [show _ = q.mini from rfl, hm] at hn; cases hn
    · obtain rfl : m = mini := Option.some.inj (hm.symm.trans hmini)
      exact placedList_set hpl _ _ (by rw [e0]; exact hc')
    · -- a CostTuple that stays is in the popped cell, or in a cell at offset ≥ 1, which starts a width later
      obtain ⟨j, d, hj, htd⟩ := mem_tuplesList.mp (show t ∈ tuplesList (q.cells.set q.translation c') from ht)
      rw [List.getElem?_set] at hj
      by_cases hij : q.translation = j
      · rw [if_pos hij] at hj
        split at hj
        · rw [← Option.some.inj hj] at htd; exact hlt t htd
        · cases hj
      · rw [if_neg hij] at hj
        have hjk : j < q.k := hq.wf.len ▸ (List.getElem?_eq_some_iff.mp hj).1
        have hoff : 1 ≤ off q.k q.translation j := by
          rcases Nat.eq_zero_or_pos (off q.k q.translation j) with h0 | h0
          · exact absurd (off_inj q.k q.translation j q.translation hjk hq.tr hq.tr
              (by rw [h0, off_self _ _ hq.tr])).symm hij
          · exact h0
        have hb := (placed_bounds q.k hq.wf.kpos d _ _ hw (hpl.2 _ _ hj) t htd).1
        have h1r : (1 : Rat) ≤ (off q.k q.translation j : Rat) := by exact_mod_cast hoff
        exact rel_later hpb.2 (Rat.mul_le_mul_of_nonneg_right h1r (Rat.le_of_lt hw)) hb

/-! ### `update` -/

/-- the `while` loop of `update`; one induction for what it returns and for when it returns nothing -/
theorem advance_cases {α : Type} (cells : List (Cell α)) (k : Nat) (hl : cells.length = k) : ∀ (f tr n : Nat), tr < k →
    match advance cells k f tr n with
    | some (tr', n') => ∃ d, d < f ∧ n' = n + d ∧ tr' = (tr + d) % k ∧
        (∀ d', d' < d → ∃ c, cells[(tr + d') % k]? = some c ∧ c.count = 0) ∧ ∃ c, cells[tr']? = some c ∧ c.count ≠ 0
    | none => ∀ d, d < f → ∃ c, cells[(tr + d) % k]? = some c ∧ c.count = 0 := by
  intro f
  induction f with
  | zero => intro tr n _; simp [advance]
  | succ f ih =>
    intro tr n htr
    have hk : 0 < k := by omega
    have : ∃ c, cells[tr]? = some c := ⟨cells[tr]'(by omega), List.getElem?_eq_getElem (by omega)⟩
    obtain ⟨c, hc⟩ := this
    have hc0 : cells[(tr + 0) % k]? = some c := by simpa [Nat.mod_eq_of_lt htr] using hc
    have shift : ∀ d, ((tr + 1) % k + d) % k = (tr + (d + 1)) % k := fun d => by
      rw [Nat.mod_add_mod]; congr 1; omega
    by_cases hz : c.count = 0
    · have := ih ((tr + 1) % k) (n + 1) (Nat.mod_lt _ hk)
      simp only [advance, hc, hz, if_true]
      cases heq : advance cells k f ((tr + 1) % k) (n + 1) with
      | some r =>
        rw [heq] at this
        obtain ⟨d, h0, h1, h2, h3, h4⟩ := this
        refine ⟨d + 1, by omega, by omega, by rw [h2]; exact shift d, fun d' hd' => ?_, h4⟩
        cases d' with
        | zero => exact ⟨c, hc0, hz⟩
        | succ d'' => obtain ⟨c2, hc2, hz2⟩ := h3 d'' (by omega); exact ⟨c2, shift d'' ▸ hc2, hz2⟩
      | none =>
        rw [heq] at this
        intro d hd
        cases d with
        | zero => exact ⟨c, hc0, hz⟩
        | succ d' => obtain ⟨c2, hc2, hz2⟩ := this d' (by omega); exact ⟨c2, shift d' ▸ hc2, hz2⟩
    · simp only [advance, hc, hz, if_false]
      exact ⟨0, by omega, rfl, by simp [Nat.mod_eq_of_lt htr], fun d' hd' => by omega, c, rfl, hz⟩

theorem advance_lt {α : Type} (cells : List (Cell α)) (k d tr : Nat) (hk : 0 < k)
    (h3 : ∀ d', d' < d → ∃ c, cells[(tr + d') % k]? = some c ∧ c.count = 0)
    (h4 : ∃ c, cells[(tr + d) % k]? = some c ∧ c.count ≠ 0) : d < k := by
  rcases Nat.lt_or_ge d k with h | h
  · exact h
  · exfalso
    obtain ⟨c, hc, hz⟩ := h3 (d - k) (by omega)
    obtain ⟨c', hc', hz'⟩ := h4
    have : (tr + (d - k)) % k = (tr + d) % k := by
      have : tr + d = tr + (d - k) + k := by omega
      rw [this, Nat.add_mod_right]
    rw [this, hc'] at hc
    simp only [Option.some.injEq] at hc
    subst hc; exact hz' hz

theorem tuples_len_le {α : Type} {cells : List (Cell α)} {j : Nat} {d : Cell α} (h : cells[j]? = some d) :
    d.tuples.length ≤ (tuplesList cells).length := by
  obtain ⟨A, B, hx, _⟩ := tuplesList_split h d
  rw [hx]; simp; omega

theorem tuples_two {α : Type} (cells : List (Cell α)) (i j : Nat) (c d : Cell α) (hne : i ≠ j) (hc : cells[i]? = some c)
    (hd : cells[j]? = some d) : c.tuples.length + d.tuples.length ≤ (tuplesList cells).length := by
  -- empty cell `i`: cell `j` is still there
  obtain ⟨A, B, hx, hy⟩ := tuplesList_split hc .empty
  have := tuples_len_le (cells := cells.set i .empty) (j := j) (d := d) (by rw [List.getElem?_set_ne hne]; exact hd)
  rw [hy, tuples_empty] at this
  rw [hx]
  simp only [List.length_append, List.length_nil] at this ⊢
  omega

theorem qord_update (b : Bool) (q q' : Q Rat) (hq : QOrd q) (h : q.update (ratA b) = some q') :
    QOrd q' ∧ q'.cells = q.cells ∧ q'.nelements = q.nelements ∧
    (q.nelements ≠ 0 → ∃ c, q'.cells[q'.translation]? = some c ∧ c.tuples ≠ []) := by
  have hk := hq.wf.kpos
  have hw := div_natCast_pos hq.maxi_pos hk
  have hwf := (qwf_update (ratA b) q q' hq.wf h).1
  rcases Q.update_succ h with ⟨h0, rfl⟩ | ⟨tr', n', hne, hadv, hcase⟩
  · exact ⟨hq, rfl, rfl, fun hne => absurd h0 hne⟩
  have hcases := advance_cases q.cells q.k hq.wf.len (q.k + 1) q.translation q.n hq.tr
  rw [hadv] at hcases
  obtain ⟨d, _, hn', htr', hempty, c0, hc0, hcount⟩ := hcases
  have hdk : d < q.k := advance_lt q.cells q.k d q.translation hk hempty ⟨c0, by rw [← htr']; exact hc0, hcount⟩
  have htrk : tr' < q.k := by rw [htr']; exact Nat.mod_lt _ hk
  have hwc0 := hq.wf.cells c0 (List.mem_of_getElem? hc0)
  have hne0 : c0.tuples ≠ [] := fun h0 => hcount (by rw [wf_no_tuples hwc0 h0]; rfl)
  rcases hcase with ⟨h1, ct, hleaf, rfl⟩ | ⟨h1, st, hst, rfl⟩
  · -- a single element: the grid is re-anchored at its cost, every other cell is empty
    have hlen : (tuplesList q.cells).length = 1 := by
      have := hq.wf.count; simp only [Q.tuples] at this; omega
    refine ⟨⟨hwf, hq.maxi_pos, htrk, (fun hn => nomatch hn), fun mini hmini => ?_, fun mini hmini => ?_⟩, rfl, rfl,
      fun _ => ⟨_, hleaf, by simp [tuples_leaf]⟩⟩
    · obtain rfl : ct.cost = mini := Option.some.inj hmini
      refine ⟨hq.wf.len, fun i c hi => ?_⟩
      by_cases hit : i = tr'
      · subst hit
        rw [hleaf] at hi
        rw [← Option.some.inj hi, off_self _ _ htrk, cell_zero]
        exact .leaf _ _ _ Rat.le_refl (lt_add_width hw)
      · have := tuples_two q.cells i tr' c (.leaf ct) hit hi hleaf
        rw [hlen, tuples_leaf] at this
        rw [wf_no_tuples (hq.wf.cells c (List.mem_of_getElem? hi)) (List.eq_nil_of_length_eq_zero (by simpa using this))]
        exact .empty _ _
    · obtain rfl : ct.cost = mini := Option.some.inj hmini
      exact ⟨ct.cost, rfl, anchor_rel _ _ _⟩
  · -- several elements: the window slides by the `d` empty buckets that were skipped
    rcases Option.eq_none_or_eq_some q.mini with hm | ⟨m, hm⟩
    · exact absurd (by rw [hq.none_empty hm c0 (List.mem_of_getElem? hc0)]; rfl) hcount
    obtain ⟨st', hst', hrel⟩ := hq.rel m hm
    obtain rfl : st = st' := Option.some.inj (hst.symm.trans hst')
    have hpl := hq.placed m hm
    have hnew : (ratA b).add st ((ratA b).div ((ratA b).mul q.maxi ((ratA b).ofNat n')) ((ratA b).ofNat q.k)) =
        m + (d : Rat) * (q.maxi / (q.k : Rat)) := by
      rw [ratA_add, ratA_div, ratA_mul, ratA_ofNat, ratA_ofNat, hn', hrel]
      exact slide_mini _ _ _ _ _ (Rat.ne_of_gt (natCast_pos hk))
    refine ⟨⟨hwf, hq.maxi_pos, htrk, (fun hn => nomatch hn), fun mini hmini => ?_, fun mini hmini => ?_⟩, rfl, rfl,
      fun _ => ⟨c0, hc0, hne0⟩⟩
    · rw [← Option.some.inj hmini, hnew]
      refine ⟨hq.wf.len, fun i c hi => ?_⟩
      have hik : i < q.k := hq.wf.len ▸ (List.getElem?_eq_some_iff.mp hi).1
      by_cases ho : off q.k q.translation i < d
      · -- a skipped cell: its counter is 0
        obtain ⟨c2, hc2, hz2⟩ := hempty _ ho
        rw [off_inv _ _ _ hik hq.tr, hi] at hc2
        rw [wf_count_zero (hq.wf.cells c (List.mem_of_getElem? hi)) (Option.some.inj hc2 ▸ hz2)]
        exact .empty _ _
      · -- the others keep their interval: the offset and the start both move by `d`
        have hsh := off_shift q.k q.translation i d hik hq.tr (by omega) hk
        rw [htr', hsh, slide_cell _ _ _ _ (by omega)]; exact hpl.2 i c hi
    · exact ⟨st, hst, (Option.some.inj hmini).symm⟩

theorem qord_update_total (b : Bool) (q : Q Rat) (hq : QOrd q) : ∃ q', q.update (ratA b) = some q' := by
  have hk := hq.wf.kpos
  have hcases := advance_cases q.cells q.k hq.wf.len (q.k + 1) q.translation q.n hq.tr
  fun_cases Q.update (ratA b) q
  · exact ⟨_, rfl⟩
  · -- some cell holds something; it is visited, and it is not empty
    rename_i hne hadv
    rw [hadv] at hcases
    obtain ⟨t, ht⟩ := List.exists_mem_of_ne_nil (tuplesList q.cells) fun h0 => hne (by rw [hq.wf.count, Q.tuples, h0]; rfl)
    obtain ⟨j, c, hj, htc⟩ := mem_tuplesList.mp ht
    have hjk : j < q.k := hq.wf.len ▸ (List.getElem?_eq_some_iff.mp hj).1
    obtain ⟨c2, hc2, hz2⟩ := hcases (off q.k q.translation j) (by have := off_lt q.k q.translation j hk; omega)
    rw [off_inv _ _ _ hjk hq.tr, hj] at hc2
    rw [wf_count_zero (hq.wf.cells c (List.mem_of_getElem? hj)) (Option.some.inj hc2 ▸ hz2), tuples_empty] at htc
    cases htc
  · exact ⟨_, rfl⟩
  · -- the only CostTuple is a leaf
    rename_i hne tr' n' hadv h1 hleaf
    rw [hadv] at hcases
    obtain ⟨d, _, _, _, _, c0, hc0, hcount⟩ := hcases
    have hle := tuples_len_le hc0
    have hlen1 : (tuplesList q.cells).length = 1 := by
      have := hq.wf.count; simp only [Q.tuples] at this; omega
    cases hq.wf.cells c0 (List.mem_of_getElem? hc0) with
    | empty => exact absurd rfl hcount
    | leaf ct => exact (hleaf ct hc0).elim
    | node n sub _ hn h2 => rw [tuples_node] at hle; omega
  · rename_i hne tr' n' hadv h1 hst
    rw [hadv] at hcases
    obtain ⟨d, _, _, _, _, c0, hc0, hcount⟩ := hcases
    rcases Option.eq_none_or_eq_some q.mini with hm | ⟨m, hm⟩
    · exact absurd (by rw [hq.none_empty hm c0 (List.mem_of_getElem? hc0)]; rfl) hcount
    · obtain ⟨st, hst', _⟩ := hq.rel m hm
      rw [hst] at hst'; cases hst'
  · exact ⟨_, rfl⟩

end PS.CD
