/- The order hypotheses `Law` from the algebra of the priorities: `combine` is monotone in both
   arguments.  Probabilities (multiplication of non-negative numbers) are an instance. -/
import PS.Proofs.Enum.GCore
namespace PS.HG
open PS PS.G PS.HS
set_option linter.unusedSectionVars false
variable {S π : Type} [DecidableEq S]

/-- What the operations on priorities owe for `Law` to hold.  The priority of a program is the priority of its rule
    combined from the left with the priorities of its arguments in turn (`prioList`), so these four facts give
    `Law.good` and `Law.mono` (`law_of_monoOps`). -/
structure MonoOps (E : Env S Unit π) (Good : π → Prop) : Prop where
  good_rule : ∀ nt F w, ruleW E nt F = some w → Good (E.ops.ofRule w)
  good_comb : ∀ a b, Good a → Good b → Good (E.ops.combine a b)
  /-- monotone in the first argument, the second (`c`) fixed; the name does not follow the
      position of the argument that varies. Used for the accumulator of `prioList`. -/
  mono_r : ∀ a b c, Good a → Good b → Good c → E.ops.lt a b = false →
    E.ops.lt (E.ops.combine a c) (E.ops.combine b c) = false
  /-- monotone in the second argument, the first (`c`) fixed. Used for the priority of the
      argument that is replaced. -/
  mono_l : ∀ a b c, Good a → Good b → Good c → E.ops.lt a b = false →
    E.ops.lt (E.ops.combine c a) (E.ops.combine c b) = false

mutual
  theorem prioSpec_good {E : Env S Unit π} {Good} (M : MonoOps E Good) :
      ∀ (p : Prog) (nt : NT S Unit) (v : π), prioSpec E p nt = some v → Good v
    | .node F kids, nt, v, h => by
      rw [prioSpec] at h
      cases hw : ruleW E nt F with
      | none => simp [hw] at h
      | some w =>
        cases hr : E.G.rule? nt F with
        | none => simp [hw, hr] at h
        | some rl =>
          obtain ⟨ra, u⟩ := rl
          simp only [hw, hr] at h
          exact prioList_good M kids ra _ v (M.good_rule nt F w hw) h
  theorem prioList_good {E : Env S Unit π} {Good} (M : MonoOps E Good) :
      ∀ (ks : List Prog) (ra : List (Ty × S)) (acc v : π), Good acc → prioList E ks ra acc = some v → Good v
    | [], [], acc, v, ha, h => by
      simp only [prioList, Option.some.injEq] at h; subst h; exact ha
    | [], _ :: _, _, _, _, h => by simp [prioList] at h
    | _ :: _, [], _, _, _, h => by simp [prioList] at h
    | k :: ks, a :: as, acc, v, ha, h => by
      rw [prioList] at h
      cases hk : prioSpec E k (argNT a) with
      | none => simp [hk] at h
      | some pk =>
        simp only [hk] at h
        exact prioList_good M ks as _ v (M.good_comb _ _ ha (prioSpec_good M k _ pk hk)) h
end

theorem prioList_acc {E : Env S Unit π} {Good} (M : MonoOps E Good) :
    ∀ (ks : List Prog) (ra : List (Ty × S)) (acc acc' v v' : π), Good acc → Good acc' →
      prioList E ks ra acc = some v → prioList E ks ra acc' = some v' → E.ops.lt acc' acc = false →
      E.ops.lt v' v = false
  | [], [], acc, acc', v, v', _, _, h, h', hle => by
    simp only [prioList, Option.some.injEq] at h h'; subst h; subst h'; exact hle
  | [], _ :: _, _, _, _, _, _, _, h, _, _ => by simp [prioList] at h
  | _ :: _, [], _, _, _, _, _, _, h, _, _ => by simp [prioList] at h
  | k :: ks, a :: as, acc, acc', v, v', ha, ha', h, h', hle => by
    rw [prioList] at h h'
    cases hk : prioSpec E k (argNT a) with
    | none => simp [hk] at h
    | some pk =>
      simp only [hk] at h h'
      have hg := prioSpec_good M k _ pk hk
      exact prioList_acc M ks as _ _ v v' (M.good_comb _ _ ha hg) (M.good_comb _ _ ha' hg) h h'
        (M.mono_r _ _ _ ha' ha hg hle)

theorem prioList_set {E : Env S Unit π} {Good} (M : MonoOps E Good) :
    ∀ (ks : List Prog) (ra : List (Ty × S)) (i : Nat) (q ai : Prog) (a : Ty × S) (acc v v' pq pa : π), Good acc →
      ra[i]? = some a → ks[i]? = some ai → prioSpec E q (argNT a) = some pq → prioSpec E ai (argNT a) = some pa →
      E.ops.lt pq pa = false → prioList E ks ra acc = some v → prioList E (ks.set i q) ra acc = some v' →
      E.ops.lt v' v = false
  | [], _, _, _, _, _, _, _, _, _, _, _, _, hk, _, _, _, _, _ => by simp at hk
  | _ :: _, [], _, _, _, _, _, _, _, _, _, _, hr, _, _, _, _, _, _ => by simp at hr
  | k :: ks, a0 :: as, 0, q, ai, a, acc, v, v', pq, pa, ha, hr, hk, hpq, hpa, hle, h, h' => by
    simp only [List.getElem?_cons_zero, Option.some.injEq] at hr hk
    subst hr; subst hk
    simp only [List.set_cons_zero] at h'
    rw [prioList] at h h'
    simp only [hpa] at h
    simp only [hpq] at h'
    have gq := prioSpec_good M _ _ _ hpq
    have ga := prioSpec_good M _ _ _ hpa
    exact prioList_acc M ks as _ _ v v' (M.good_comb _ _ ha ga) (M.good_comb _ _ ha gq) h h'
      (M.mono_l _ _ _ gq ga ha hle)
  | k :: ks, a0 :: as, i + 1, q, ai, a, acc, v, v', pq, pa, ha, hr, hk, hpq, hpa, hle, h, h' => by
    simp only [List.getElem?_cons_succ] at hr hk
    simp only [List.set_cons_succ] at h'
    rw [prioList] at h h'
    cases hk0 : prioSpec E k (argNT a0) with
    | none => simp [hk0] at h
    | some pk =>
      simp only [hk0] at h h'
      exact prioList_set M ks as i q ai a _ v v' pq pa (M.good_comb _ _ ha (prioSpec_good M _ _ _ hk0))
        hr hk hpq hpa hle h h'

theorem law_of_monoOps {E : Env S Unit π} {rank : NT S Unit → Nat} {Good : π → Prop} (M : MonoOps E Good)
    (w : Heapq.WeakOrderOn Good E.ops.lt) (hthr : ∀ t, E.ops.thr = some t → Good t)
    (hac : ∀ nt F ra, E.G.rule? nt F = some (ra, ()) → ∀ a ∈ ra, rank (argNT a) < rank nt) :
    Law E rank Good := by
  refine ⟨w, fun p nt v h => prioSpec_good M p nt v h, hthr, hac, ?_⟩
  intro nt F ra args i q ai a pq pa pF pF' hr _ hra hai _ hpq hpa hle hpF hpF'
  rw [prioSpec] at hpF hpF'
  cases hw : ruleW E nt F with
  | none => simp [hw] at hpF
  | some w0 =>
    simp only [hw, hr] at hpF hpF'
    exact prioList_set M args ra i q ai a _ pF pF' pq pa (M.good_rule nt F w0 hw) hra hai hpq hpa hle hpF hpF'

theorem monoOps_prob (E : Env S Unit Rat) (t : Rat) (hops : E.ops = probOps t)
    (hw : ∀ nt F w, ruleW E nt F = some w → 0 ≤ w) : MonoOps E (fun v => 0 ≤ v) := by
  refine ⟨?_, ?_, ?_, ?_⟩
  · intro nt F w h; rw [hops]; exact hw nt F w h
  · intro a b ha hb; rw [hops]; exact Rat.mul_nonneg ha hb
  · intro a b c ha hb hc h
    rw [hops] at h ⊢
    simp only [probOps, decide_eq_false_iff_not, Rat.not_lt] at h ⊢
    exact Rat.mul_le_mul_of_nonneg_right h hc
  · intro a b c ha hb hc h
    rw [hops] at h ⊢
    simp only [probOps, decide_eq_false_iff_not, Rat.not_lt] at h ⊢
    exact Rat.mul_le_mul_of_nonneg_left h hc

end PS.HG
