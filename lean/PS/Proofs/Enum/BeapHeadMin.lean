/- What the prologue of beap search leaves for every initialised non-terminal: its queue is a heap, holds an element for
   each of its rules (`AllRules`), and its first cost is the cost of the head of the queue, hence a minimum of the queue
   (`HeadMin`).  `_init_non_terminal_` is a depth-first traversal; the non-terminals whose loop over the rules is still
   running are tracked by a ghost stack (`Done`): a property `D` of the cost list and the queue of one non-terminal that
   holds when the non-terminal is left, and again after each re-pricing of its queue, holds for every initialised
   non-terminal after the prologue (`prologue_done`).  With `MInv` and the lower bound of BeapMin.lean
   this gives the minimal-cost theorem for the state returned by `_init_non_terminal_(start); _reevaluate_()`. -/
import PS.Proofs.Enum.BeapMin
import PS.Proofs.Enum.BeapHeap
namespace PS.Beap
open PS PS.G PS.Heapq
set_option linter.unusedSectionVars false
variable {S : Type} [DecidableEq S]

theorem head_min_of_heap (q : List HeapEl) (e : HeapEl) (q' : List HeapEl) (hq : q = e :: q') (hh : IsHeap ltE q) :
    ∀ el ∈ q, Cost.lt el.cost e.cost = false := fun el hel =>
  cost_of_ltE_false _ _ (head_min ltE_weak (hq ▸ hh) el (hq ▸ hel))

abbrev Heaps (s : St S) : Prop := Each (fun _ q => IsHeap ltE q) (fun _ _ => True) s

theorem heaps_empty (G : TT S Unit) : Heaps (St.empty G) := each_empty G (fun _ => isHeap_nil ltE) fun _ => trivial

theorem init_heaps (E : Env S) (n : Nat) : Inits E n
    (fun s _ s' => Heaps s → Heaps s')
    (fun s nt rest s' => Heaps s → ∀ rs, AList.lookup nt E.G.rules = some rs → (∀ x ∈ rest, x ∈ rs) → Heaps s')
    (fun s _ _ r => Heaps s → Heaps r.1) :=
  init_each E (fun _ _ _ _ _ => trivial) (fun _ nt _ _ _ _ _ hs _ _ _ _ => push_isHeap ltE_weak _ _ (hs.queue nt))
    (fun _ _ _ _ _ _ => trivial) n

theorem reevaluate_heaps (E : Env S) (fuel : Nat) (s s' : St S) (hs : Heaps s) (h : reevaluate E fuel s = some s') : Heaps s' :=
  reevaluate_each E (fun _ _ _ _ _ => trivial) (fun _ nt _ _ _ _ _ hs _ _ _ _ => push_isHeap ltE_weak _ _ (hs.queue nt))
    (fun _ _ _ _ _ _ => trivial) (fun _ _ nq _ _ _ _ _ _ hh _ => ⟨hh ▸ heapify_isHeap ltE_weak nq, trivial⟩) fuel s s' hs h

theorem mapOpt_P (E : Env S) (s : St S) (nt : NT S Unit) (q nq : List HeapEl) (h : mapOpt (recost E s nt) q = some nq) :
    nq.map (·.P) = q.map (·.P) :=
  ((mapOpt_all2 _ q nq h).map_eq fun a b hab => ((recost_keeps E s nt a b hab).1).symm).symm

def Done (D : NT S Unit → List Cost → List HeapEl → Prop) (stk : List (NT S Unit)) (s : St S) : Prop :=
  ∀ nt, s.clOf nt ≠ [] → nt ∈ stk ∨ D nt (s.clOf nt) (s.queueOf nt)

section done
variable (E : Env S) {D : NT S Unit → List Cost → List HeapEl → Prop}
  (leave : ∀ nt rs cl e q, AList.lookup nt E.G.rules = some rs → cl ≠ [] → IsHeap ltE (e :: q) →
    ((e :: q).map (·.P)).Perm (rs.map (·.1)) → D nt (cl.set 0 e.cost) (e :: q))
include leave

/-- `_init_non_terminal_` keeps `Done`: a non-terminal goes on the stack while its rules are traversed — its queue, empty
    before, receives one element for each rule and is not touched by the calls for the arguments — and has `D` when it is
    left. -/
theorem init_done : ∀ n, Inits E n
    (fun s _ s' => ∀ stk, Heaps s → FreshQ s → Done D stk s → Done D stk s')
    (fun s nt rest s' => ∀ stk, Heaps s → FreshQ s → Done D stk s → nt ∈ stk → s.clOf nt ≠ [] →
      Done D stk s' ∧ ((s'.queueOf nt).map (·.P)).Perm ((s.queueOf nt).map (·.P) ++ rest.map (·.1)))
    (fun s _ _ r => ∀ stk, Heaps s → FreshQ s → Done D stk s → Done D stk r.1) := by
  refine init_induct E ?in_done ?in_run ?ir_nil ?ir_cons ?ia_nil ?ia_cons
  case in_done => intro _ s nt cl _ _ stk _ _ hs; exact hs
  case in_run =>
    intro n s nt rs s1 e q hcl hrs hir ih hq stk hh hf hs
    have hne0 : (s.setCL nt [Cost.big]).clOf nt ≠ [] := by rw [St.clOf_setCL, if_pos rfl]; exact List.cons_ne_nil _ _
    have hh0 : Heaps (s.setCL nt [Cost.big]) := ⟨hh.queue, fun _ => trivial⟩
    have hs0 : Done D (nt :: stk) (s.setCL nt [Cost.big]) := by
      intro nt' hne
      by_cases heq : nt' = nt
      · exact Or.inl (heq ▸ List.mem_cons_self ..)
      · rw [St.clOf_setCL, if_neg heq] at hne ⊢
        exact (hs nt' hne).imp (List.mem_cons_of_mem _) id
    obtain ⟨hs1, hall⟩ := ih (nt :: stk) hh0 (hf.setCL nt (List.cons_ne_nil _ _)) hs0 (List.mem_cons_self ..) hne0
    rw [show (s.setCL nt [Cost.big]).queueOf nt = [] from hf nt (St.clOf_of_lookup hcl), hq] at hall
    have hh1 : Heaps s1 := (init_heaps E n).rules hir hh0 rs hrs (fun _ hx => hx)
    have hcl1 : s1.clOf nt ≠ [] := ((init_keep E n).rules hir hne0).2.1 ▸ hne0
    intro nt' hne
    by_cases heq : nt' = nt
    · subst heq
      rw [St.clOf_setCL, if_pos rfl]
      show _ ∨ D nt' _ (s1.queueOf nt')
      rw [hq]
      exact Or.inr (leave nt' rs _ e q hrs hcl1 (hq ▸ hh1.queue nt') hall)
    · rw [St.clOf_setCL, if_neg heq] at hne ⊢
      exact (hs1 nt' hne).imp (fun h1 => (List.mem_cons.mp h1).resolve_left heq) id
  case ir_nil => intro _ s nt stk _ _ hs _ _; exact ⟨hs, by simp⟩
  case ir_cons =>
    intro n s nt P rl rest w s1 cost s' _ hia ihA _ ihR stk hh hf hs hmem hne
    obtain ⟨k1, _, _, hf1⟩ := (init_keep E n).args hia
    obtain ⟨hcl1, hq1⟩ := k1 nt (by simp) hne
    have hh1 : Heaps s1 := (init_heaps E n).args hia hh
    have hs2 : Done D stk (s1.setQueue nt (Heapq.push ltE (s1.queueOf nt) ⟨cost, List.replicate rl.1.length 0, P⟩)) := by
      intro nt' hne'
      by_cases heq : nt' = nt
      · exact Or.inl (heq ▸ hmem)
      · rw [St.queueOf_setQueue, if_neg heq]; exact ihA stk hh hf hs nt' hne'
    obtain ⟨g1, g2⟩ := ihR stk (hh1.setQueue nt _ (push_isHeap ltE_weak _ _ (hh1.queue nt)))
      ((hf1 hf).setQueue (hcl1 ▸ hne) _) hs2 hmem (hcl1 ▸ hne)
    refine ⟨g1, g2.trans ?_⟩
    rw [St.queueOf_setQueue, if_pos rfl, hq1]
    exact (((push_perm ltE (s.queueOf nt) ⟨cost, List.replicate rl.1.length 0, P⟩).map (·.P)).append_right _).trans
      List.perm_middle.symm
  case ia_nil => intro _ s c stk _ _ hs; exact hs
  case ia_cons =>
    intro n s a as c s1 c0 cl0 r hin ihN _ _ ihA stk hh hf hs
    exact ihA stk ((init_heaps E n).nt hin hh) (((init_keep E n).nt hin).2.2 hf) (ihN stk hh hf hs)

theorem prologue_done
    (reprice : ∀ s nt nq e q' c0 cl', D nt (c0 :: cl') (s.queueOf nt) → mapOpt (recost E s nt) (s.queueOf nt) = some nq →
      heapify ltE nq = e :: q' → D nt (e.cost :: cl') (e :: q'))
    (fuel : Nat) (s' : St S) (h : prologue E fuel (St.empty E.G) = some s') :
    ∀ nt, s'.clOf nt ≠ [] → D nt (s'.clOf nt) (s'.queueOf nt) := by
  obtain ⟨s1, hin, hre⟩ := prologue_cases h
  have h0 : Done D [] (St.empty E.G) := fun nt hne =>
    absurd (St.clOf_empty E.G nt) hne
  have key : Done D [] s' := by
    refine reevaluate_induct E (fun s nt nq e q' c0 cl' hs hnq hh hcl nt' hne => Or.inr ?_) fuel s1 s'
      ((init_done E leave fuel).nt hin _ (heaps_empty E.G) (freshQ_empty E.G) h0) hre
    by_cases heq : nt' = nt
    · subst heq
      rw [St.clOf_setCL, if_pos rfl, St.queueOf_setCL, St.queueOf_setQueue, if_pos rfl]
      exact reprice s nt' nq e q' c0 cl' (hcl ▸ (hs nt' (by rw [hcl]; exact List.cons_ne_nil _ _)).resolve_left (by simp)) hnq hh
    · rw [St.clOf_setCL, if_neg heq] at hne ⊢
      rw [St.queueOf_setCL, St.queueOf_setQueue, if_neg heq]
      exact (hs nt' hne).resolve_left (by simp)
  exact fun nt hne => (key nt hne).resolve_left (by simp)
end done

/-- what the prologue leaves for an initialised non-terminal `nt` with cost list `cl` and queue `q` -/
structure Left (E : Env S) (nt : NT S Unit) (cl : List Cost) (q : List HeapEl) : Prop where
  heap : IsHeap ltE q
  head : ∀ c, cl[0]? = some c → ∃ e q', q = e :: q' ∧ e.cost = c
  names : ∃ rs, AList.lookup nt E.G.rules = some rs ∧ (q.map (·.P)).Perm (rs.map (·.1))

theorem Left.rules {E : Env S} {nt : NT S Unit} {cl : List Cost} {q : List HeapEl} (h : Left E nt cl q) (P : Sym)
    (rl : List (Ty × S) × Unit) (hr : E.G.rule? nt P = some rl) : ∃ el ∈ q, el.P = P := by
  obtain ⟨rs, hrs, hp⟩ := h.names
  rw [TT.rule?_of_lookup hrs] at hr
  exact List.mem_map.mp (hp.mem_iff.mpr (List.mem_map.mpr ⟨(P, rl), AList.lookup_some_mem hr, rfl⟩))

theorem Left.min {E : Env S} {nt : NT S Unit} {c : Cost} {rest : List Cost} {q : List HeapEl} (h : Left E nt (c :: rest) q) :
    ∀ el ∈ q, Cost.lt el.cost c = false := by
  obtain ⟨e, q', hq, he⟩ := h.head c rfl
  exact he ▸ head_min_of_heap _ e q' hq h.heap

theorem prologue_left (E : Env S) (fuel : Nat) (s' : St S) (h : prologue E fuel (St.empty E.G) = some s') :
    ∀ nt, s'.clOf nt ≠ [] → Left E nt (s'.clOf nt) (s'.queueOf nt) := by
  refine prologue_done E (D := Left E) (fun nt rs cl e q hrs hne hh hall => ⟨hh, fun c hc => ⟨e, q, rfl, ?_⟩, rs, hrs, hall⟩)
    (fun s nt nq e q' c0 cl' hd hnq hh => ⟨hh ▸ heapify_isHeap ltE_weak nq, fun c hc => ⟨e, q', rfl, by simpa using hc⟩, ?_⟩)
    fuel s' h
  · cases cl with
    | nil => exact absurd rfl hne
    | cons x xs => simpa using hc
  · obtain ⟨rs, hrs, hp⟩ := hd.names
    have h1 : ((e :: q').map (·.P)).Perm (nq.map (·.P)) := hh ▸ (heapify_perm ltE nq).map (·.P)
    exact ⟨rs, hrs, (mapOpt_P E s nt _ nq hnq ▸ h1).trans hp⟩

theorem prologue_headMin (E : Env S) (fuel : Nat) (s' : St S)
    (h : prologue E fuel (St.empty E.G) = some s') : HeadMin s' ∧ ∀ nt, IsHeap ltE (s'.queueOf nt) := by
  obtain ⟨s1, hin, hre⟩ := prologue_cases h
  refine ⟨fun nt c rest hc => ?_,
    (reevaluate_heaps E fuel s1 s' ((init_heaps E fuel).nt hin (heaps_empty E.G)) hre).queue⟩
  exact (hc ▸ prologue_left E fuel s' h nt (by rw [hc]; exact List.cons_ne_nil _ _)).min

theorem prologue_allRules (E : Env S) (fuel : Nat) (s' : St S)
    (h : prologue E fuel (St.empty E.G) = some s') : AllRules E s' := fun nt c rest hc =>
  (prologue_left E fuel s' h nt (by rw [hc]; exact List.cons_ne_nil _ _)).rules

theorem prologue_minCost (E : Env S) (hnd : RowsNodup E.G) (hst : StableAfter E) (fuel : Nat) (s' : St S)
    (h : prologue E fuel (St.empty E.G) = some s') (nt : NT S Unit) (c : Cost) (rest : List Cost)
    (hc : s'.clOf nt = c :: rest) :
    (∀ t k, costOf E t nt = some k → c.inf = 0 ∧ c.fin ≤ k) ∧
    (c.inf = 0 → ∃ t, gen E.G t nt = true ∧ costOf E t nt = some c.fin) := by
  have hst : Stable E s' := hst fuel s' h
  exact minCost_spec E s' (prologue_minv E hnd fuel _ _ (minv_empty E) h) (prologue_headMin E fuel s' h).1
    (prologue_allRules E fuel s' h) hst nt c rest hc

end PS.Beap
