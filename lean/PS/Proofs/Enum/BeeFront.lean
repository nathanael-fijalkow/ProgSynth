/- Bee search, the frontier rule "increment index i until the first index > 1" (bee_search.py:223-231) as pure
   combinatorics: the successor relation `PS.CD.succs` (shared with constant-delay search: every non-zero tuple
   has exactly one predecessor) generates a forest; a frontier that is an antichain stays one when a tuple is
   replaced by its successors.  Plus the algebra of "all entries filed under a key" of an association list. -/
import PS.Proofs.Enum.Tuples
import PS.Proofs.AList
import PS.Basic
namespace PS.Bee
open PS PS.CD

/-- `c` is a strict ancestor of `t` in the successor forest -/
inductive Anc : List Nat → List Nat → Prop
  | step {c t : List Nat} : t ∈ succs c → Anc c t
  | trans {c t u : List Nat} : Anc c t → u ∈ succs t → Anc c u

theorem sum_set_succ : ∀ {c : List Nat} {i v : Nat}, c[i]? = some v → (c.set i (v + 1)).sum = c.sum + 1
  | x :: xs, 0, v, h => by cases h; simp only [List.set_cons_zero, List.sum_cons]; omega
  | x :: xs, i + 1, v, h => by
    simp only [List.set_cons_succ, List.sum_cons, sum_set_succ (c := xs) h]; omega

theorem succs_sum (c t : List Nat) (h : t ∈ succs c) : t.sum = c.sum + 1 := by
  obtain ⟨i, v, hv, rfl⟩ := mem_succs_set c t h
  exact sum_set_succ hv
theorem Anc.sum_lt {c t : List Nat} (h : Anc c t) : c.sum < t.sum := by
  induction h with
  | step hs => have := succs_sum _ _ hs; omega
  | trans _ hs ih => have := succs_sum _ _ hs; omega

theorem Anc.irrefl (c : List Nat) : ¬ Anc c c := fun h => Nat.lt_irrefl _ h.sum_lt

theorem Anc.prepend {c t u : List Nat} (hs : t ∈ succs c) (h : Anc t u) : Anc c u := by
  induction h with
  | step h1 => exact Anc.trans (Anc.step hs) h1
  | trans _ h2 ih => exact Anc.trans ih h2

theorem Anc.into_succ {t u c0 : List Nat} (h : Anc t u) (hu : u ∈ succs c0) : t = c0 ∨ Anc t c0 := by
  cases h with
  | step h1 => exact Or.inl (succs_disjoint _ _ _ h1 hu)
  | trans h1 h2 =>
    have := succs_disjoint _ _ _ h2 hu
    subst this
    exact Or.inr h1

theorem Anc.nonzero {c t : List Nat} (h : Anc c t) : nonzero t = true := by
  cases h with
  | step h1 => exact ((mem_succs_iff _ _).mp h1).1
  | trans _ h2 => exact ((mem_succs_iff _ _).mp h2).1

theorem Anc.length {c t : List Nat} (h : Anc c t) : t.length = c.length := by
  induction h with
  | step hs => exact succs_length _ _ hs
  | trans _ hs ih => rw [succs_length _ _ hs, ih]

theorem succs_ne_nil_of_cons (x : Nat) (xs : List Nat) : succs (x :: xs) ≠ [] := by simp [succs]

/-- The machine keeps no list of the combinations it has expanded (unlike `PS.Forest.FrontInv`, which carries one): "expanded"
    has to be read off the pending ones (`Done`), and for that the pending combinations must form an antichain. -/
structure Frontier (F : List (List Nat)) : Prop where
  nodup : F.Nodup
  anti : ∀ t ∈ F, ∀ u ∈ F, ¬ Anc t u

/-- `c` has been expanded: it is a strict ancestor of a frontier element, or it is the empty tuple (rule
    without arguments) and is not in the frontier.  The second clause by itself only says "not pending" and holds of a `[]`
    never filed; it means "expanded" because `__init__` files the root of every rule (`root_mem_new`, used for this
    in `all_new`).  `Done` is about one combination; the phase `done` of the generator is something else. -/
def Done (F : List (List Nat)) (c : List Nat) : Prop := (c = [] ∧ [] ∉ F) ∨ ∃ u ∈ F, Anc c u

theorem Frontier.perm {F F' : List (List Nat)} (hp : F'.Perm F) (h : Frontier F) : Frontier F' :=
  ⟨hp.nodup_iff.mpr h.nodup, fun t ht u hu => h.anti t (hp.mem_iff.mp ht) u (hp.mem_iff.mp hu)⟩

theorem Done.perm {F F' : List (List Nat)} (hp : F'.Perm F) {c : List Nat} (h : Done F c) : Done F' c := by
  rcases h with ⟨h1, h2⟩ | ⟨u, hu, ha⟩
  · exact Or.inl ⟨h1, fun hm => h2 (hp.mem_iff.mp hm)⟩
  · exact Or.inr ⟨u, hp.mem_iff.mpr hu, ha⟩

theorem Done.not_mem {F : List (List Nat)} (hF : Frontier F) {c : List Nat} (h : Done F c) : c ∉ F := by
  intro hc
  rcases h with ⟨h1, h2⟩ | ⟨u, hu, ha⟩
  · subst h1; exact h2 hc
  · exact hF.anti c hc u hu ha

theorem Frontier.expand {F : List (List Nat)} (c0 : List Nat) (F' : List (List Nat)) (hF : Frontier (c0 :: F))
    (hp : F'.Perm (succs c0 ++ F)) :
    Frontier F' ∧ Done F' c0 ∧ ∀ c, Done (c0 :: F) c → Done F' c := by
  have hc0 : c0 ∉ F := (List.nodup_cons.mp hF.nodup).1
  have hFn : F.Nodup := (List.nodup_cons.mp hF.nodup).2
  have hfr : Frontier (succs c0 ++ F) := by
    constructor
    · rw [List.nodup_append]
      refine ⟨succs_nodup c0, hFn, ?_⟩
      intro t ht u hu htu
      subst htu
      exact hF.anti c0 List.mem_cons_self t (List.mem_cons_of_mem _ hu) (Anc.step ht)
    · -- `t` above `u`, four cases: two successors of `c0` have the same sum; a successor above an old element puts `c0`
      -- above it; an old element above a successor is `c0` or above `c0`; two old elements
      intro t ht u hu ha
      rcases List.mem_append.mp ht with ht1 | ht2
      · rcases List.mem_append.mp hu with hu1 | hu2
        · have h1 := succs_sum _ _ ht1; have h2 := succs_sum _ _ hu1; have := ha.sum_lt; omega
        · exact hF.anti c0 List.mem_cons_self u (List.mem_cons_of_mem _ hu2) (Anc.prepend ht1 ha)
      · rcases List.mem_append.mp hu with hu1 | hu2
        · rcases ha.into_succ hu1 with h1 | h1
          · rw [h1] at ht2; exact hc0 ht2
          · exact hF.anti t (List.mem_cons_of_mem _ ht2) c0 List.mem_cons_self h1
        · exact hF.anti t (List.mem_cons_of_mem _ ht2) u (List.mem_cons_of_mem _ hu2) ha
  have hdone0 : Done (succs c0 ++ F) c0 := by
    cases c0 with
    | nil =>
      refine Or.inl ⟨rfl, ?_⟩
      simp only [succs, List.nil_append]; exact hc0
    | cons x xs =>
      cases hs : succs (x :: xs) with
      | nil => exact absurd hs (succs_ne_nil_of_cons x xs)
      | cons t0 rest =>
        refine Or.inr ⟨t0, by simp, Anc.step (by rw [hs]; exact List.mem_cons_self)⟩
  refine ⟨hfr.perm hp, hdone0.perm hp, ?_⟩
  intro c hc
  apply Done.perm hp
  rcases hc with ⟨h1, h2⟩ | ⟨u, hu, ha⟩
  · subst h1
    refine Or.inl ⟨rfl, ?_⟩
    intro hm
    rcases List.mem_append.mp hm with hm | hm
    · have := ((mem_succs_iff _ _).mp hm).1; simp [nonzero] at this
    · exact h2 (List.mem_cons_of_mem _ hm)
  · rcases List.mem_cons.mp hu with hu | hu
    · subst hu
      cases hs : succs u with
      | nil =>
        cases u with
        | nil => exact absurd ha.nonzero (by simp [nonzero])
        | cons x xs => exact absurd hs (succs_ne_nil_of_cons x xs)
      | cons t0 rest =>
        have hm : t0 ∈ succs u := by rw [hs]; exact List.mem_cons_self
        exact Or.inr ⟨t0, List.mem_append_left _ List.mem_cons_self, Anc.trans ha hm⟩
    · exact Or.inr ⟨u, List.mem_append_right _ hu, ha⟩

theorem Anc.via_succ {c0 c : List Nat} (h : Anc c0 c) : ∃ t ∈ succs c0, t = c ∨ Anc t c := by
  induction h with
  | step hs => exact ⟨_, hs, Or.inl rfl⟩
  | trans _ h2 ih =>
    obtain ⟨t, ht, hc⟩ := ih
    rcases hc with hc | hc
    · subst hc; exact ⟨t, ht, Or.inr (Anc.step h2)⟩
    · exact ⟨t, ht, Or.inr (Anc.trans hc h2)⟩

/-- the trichotomy completeness stands on: `c` is expanded, pending, or below a pending combination.  Every combination of
    a rule's arity is in one of the three (`CovSt`): the root is pending from `__init__` on, every other combination lies
    below its root (`root_anc`), and an expansion keeps it (`Cov.expand`). -/
def Cov (F : List (List Nat)) (c : List Nat) : Prop := Done F c ∨ c ∈ F ∨ ∃ u ∈ F, Anc u c

theorem Cov.perm {F F' : List (List Nat)} (hp : F'.Perm F) {c : List Nat} (h : Cov F c) : Cov F' c := by
  rcases h with h | h | ⟨u, hu, ha⟩
  · exact Or.inl (h.perm hp)
  · exact Or.inr (Or.inl (hp.mem_iff.mpr h))
  · exact Or.inr (Or.inr ⟨u, hp.mem_iff.mpr hu, ha⟩)

theorem Cov.expand {F : List (List Nat)} (c0 : List Nat) (F' : List (List Nat)) (hF : Frontier (c0 :: F))
    (hp : F'.Perm (succs c0 ++ F)) {c : List Nat} (h : Cov (c0 :: F) c) : Cov F' c := by
  obtain ⟨_, e2, e3⟩ := Frontier.expand c0 F' hF hp
  rcases h with h | h | ⟨u, hu, ha⟩
  · exact Or.inl (e3 c h)
  · rcases List.mem_cons.mp h with h | h
    · subst h; exact Or.inl e2
    · exact Or.inr (Or.inl (hp.mem_iff.mpr (List.mem_append_right _ h)))
  · rcases List.mem_cons.mp hu with hu | hu
    · subst hu
      obtain ⟨t, ht, hc⟩ := ha.via_succ
      rcases hc with hc | hc
      · subst hc; exact Or.inr (Or.inl (hp.mem_iff.mpr (List.mem_append_left _ ht)))
      · exact Or.inr (Or.inr ⟨t, hp.mem_iff.mpr (List.mem_append_left _ ht), hc⟩)
    · exact Or.inr (Or.inr ⟨u, hp.mem_iff.mpr (List.mem_append_right _ hu), ha⟩)

theorem parent_length : ∀ t : List Nat, (parent t).length = t.length
  | [] => rfl
  | 0 :: xs => by simp [parent, parent_length xs]
  | (x + 1) :: xs => by simp [parent]

theorem eq_replicate_of_not_nonzero : ∀ t : List Nat, nonzero t = false → t = List.replicate t.length 0
  | [], _ => rfl
  | x :: xs, h => by
    simp only [nonzero, List.any_cons, Bool.or_eq_false_iff, bne_eq_false_iff_eq] at h
    have := eq_replicate_of_not_nonzero xs (by simpa [nonzero] using h.2)
    simp only [List.length_cons, List.replicate_succ, List.cons.injEq]
    exact ⟨h.1, this⟩

theorem root_anc (c : List Nat) : c = List.replicate c.length 0 ∨ Anc (List.replicate c.length 0) c := by
  generalize hn : c.sum = n
  induction n using Nat.strongRecOn generalizing c with
  | _ n ih =>
    cases hz : nonzero c with
    | false => exact Or.inl (eq_replicate_of_not_nonzero c hz)
    | true =>
      have hc := succs_cover c hz
      have hs := succs_sum _ _ hc
      have hl := parent_length c
      rcases ih (parent c).sum (by omega) (parent c) rfl with h | h
      · right; rw [← hl]; rw [h] at hc; exact Anc.step (by simpa using hc)
      · right; rw [← hl]; exact Anc.trans h hc

/-- pointwise order on combinations of one length: what makes an ancestor cheaper (`Anc.le`, `realCost_le`) -/
def Le (t u : List Nat) : Prop := t.length = u.length ∧ ∀ (j a b : Nat), t[j]? = some a → u[j]? = some b → a ≤ b

theorem Le.refl (t : List Nat) : Le t t := ⟨rfl, fun j a b ha hb => by rw [ha] at hb; cases hb; exact Nat.le_refl _⟩

theorem Le.trans {t u v : List Nat} (h1 : Le t u) (h2 : Le u v) : Le t v := by
  refine ⟨h1.1.trans h2.1, ?_⟩
  intro j a c ha hc
  have hj : j < u.length := by
    have := (List.getElem?_eq_some_iff.mp ha).1; rw [← h1.1]; exact this
  exact Nat.le_trans (h1.2 j a _ ha (List.getElem?_eq_getElem hj)) (h2.2 j _ c (List.getElem?_eq_getElem hj) hc)

theorem le_set {c : List Nat} {i v : Nat} (hv : c[i]? = some v) : Le c (c.set i (v + 1)) := by
  refine ⟨List.length_set.symm, fun j a b ha hb => ?_⟩
  by_cases hij : i = j
  · subst hij
    rw [List.getElem?_set_self (List.getElem?_eq_some_iff.mp hv).1] at hb
    rw [hv] at ha; cases ha; cases hb; exact Nat.le_succ _
  · rw [List.getElem?_set_ne hij, ha] at hb
    cases hb; exact Nat.le_refl _

theorem succs_le : ∀ (c t : List Nat), t ∈ succs c → Le c t := fun c t h => by
  obtain ⟨i, v, hv, rfl⟩ := mem_succs_set c t h
  exact le_set hv

theorem Anc.le {c t : List Nat} (h : Anc c t) : Le c t := by
  induction h with
  | step hs => exact succs_le _ _ hs
  | trans _ hs ih => exact ih.trans (succs_le _ _ hs)

theorem Done.expand_conv {F : List (List Nat)} (c0 : List Nat) (F' : List (List Nat)) (hp : F'.Perm (succs c0 ++ F))
    {c : List Nat} (h : Done F' c) : c = c0 ∨ Done (c0 :: F) c := by
  rcases h with ⟨h1, h2⟩ | ⟨u, hu, ha⟩
  · subst h1
    by_cases hc : c0 = []
    · exact Or.inl hc.symm
    · right; left
      refine ⟨rfl, ?_⟩
      intro hm
      rcases List.mem_cons.mp hm with hm | hm
      · exact hc hm.symm
      · exact h2 (hp.mem_iff.mpr (List.mem_append_right _ hm))
  · rcases List.mem_append.mp (hp.mem_iff.mp hu) with hu | hu
    · rcases ha.into_succ hu with h1 | h1
      · exact Or.inl h1
      · exact Or.inr (Or.inr ⟨c0, List.mem_cons_self, h1⟩)
    · exact Or.inr (Or.inr ⟨u, List.mem_cons_of_mem _ hu, ha⟩)

theorem Frontier.add_root {F : List (List Nat)} (z : List Nat) (hz : nonzero z = false) (hF : Frontier F) (hn : z ∉ F)
    (hall : ∀ t ∈ F, nonzero t = false) : Frontier (z :: F) := by
  constructor
  · exact List.nodup_cons.mpr ⟨hn, hF.nodup⟩
  · intro t ht u hu ha
    have := ha.nonzero
    rcases List.mem_cons.mp hu with hu | hu
    · subst hu; rw [hz] at this; cases this
    · rw [hall u hu] at this; cases this

/-! ### everything filed under a key of an association list (all rows, not only the first)

The pending combinations (`pend`, BeePend) are collected from every row with the key, not only from the row a lookup finds,
as the model's `pendPairs` does (the check `frontCheck` evaluates it on the fresh enumerator, before anything is known
about the keys).  The write lemmas then need no hypothesis: `AList.insert` rewrites the first row of the key and leaves the
others (`allOf_insert_all`), so the pending multiset changes by what is written even if a key occurs twice.  That the
keys of the queue table are distinct (`KN`, BeeStrict) is used for termination only. -/

section
variable {κ ν : Type} [DecidableEq κ]

def allOf (k : κ) : AList κ (List ν) → List ν
  | [] => []
  | (k', l) :: r => if k' = k then l ++ allOf k r else allOf k r

theorem allOf_eq_flatMap (k : κ) (T : AList κ (List ν)) :
    allOf k T = (T.filter fun r => decide (r.1 = k)).flatMap (·.2) := by
  induction T with
  | nil => rfl
  | cons p r ih =>
    obtain ⟨k', l⟩ := p
    by_cases hk : k' = k <;> simp [allOf, hk, ih]

theorem mem_allOf {k : κ} {T : AList κ (List ν)} {x : ν} : x ∈ allOf k T ↔ ∃ l, (k, l) ∈ T ∧ x ∈ l := by
  rw [allOf_eq_flatMap, List.mem_flatMap]
  constructor
  · rintro ⟨⟨k', l⟩, hm, hx⟩
    obtain ⟨h1, h2⟩ := List.mem_filter.mp hm
    cases of_decide_eq_true h2
    exact ⟨l, h1, hx⟩
  · rintro ⟨l, h1, hx⟩
    exact ⟨(k, l), List.mem_filter.mpr ⟨h1, decide_eq_true rfl⟩, hx⟩
theorem allOf_of_not_mem_keys {k : κ} {T : AList κ (List ν)} (h : k ∉ AList.keys T) : allOf k T = [] :=
  List.eq_nil_iff_forall_not_mem.mpr fun _ hx =>
    have ⟨l, hl, _⟩ := mem_allOf.mp hx
    h (List.mem_map.mpr ⟨(k, l), hl, rfl⟩)

theorem allOf_insert_all (k : κ) (T : AList κ (List ν)) :
    ∃ rest, allOf k T = (AList.lookup k T).getD [] ++ rest ∧ ∀ v, allOf k (AList.insert k v T) = v ++ rest := by
  induction T with
  | nil => exact ⟨[], by simp [allOf, AList.lookup], fun v => by simp [allOf, AList.insert]⟩
  | cons p r ih =>
    obtain ⟨k', l⟩ := p
    by_cases hk : k' = k
    · subst hk
      exact ⟨allOf k' r, by simp [allOf, AList.lookup], fun v => by simp [allOf, AList.insert]⟩
    · obtain ⟨rest, h1, h2⟩ := ih
      exact ⟨rest, by simpa only [allOf, hk, if_false, AList.lookup] using h1,
        fun v => by simpa only [AList.insert, hk, if_false, allOf] using h2 v⟩

theorem allOf_insert_self (k : κ) (f : List ν → List ν) (T : AList κ (List ν)) :
    ∃ rest, allOf k T = (AList.lookup k T).getD [] ++ rest ∧
      allOf k (AList.insert k (f ((AList.lookup k T).getD [])) T) = f ((AList.lookup k T).getD []) ++ rest :=
  let ⟨rest, h1, h2⟩ := allOf_insert_all k T
  ⟨rest, h1, h2 _⟩

theorem allOf_insert_ne {k k' : κ} (hne : k' ≠ k) (v : List ν) (T : AList κ (List ν)) :
    allOf k' (AList.insert k v T) = allOf k' T := by
  induction T with
  | nil => simp [allOf, AList.insert, Ne.symm hne]
  | cons p r ih =>
    obtain ⟨k2, l⟩ := p
    by_cases hk : k2 = k
    · subst hk; simp [AList.insert, allOf, Ne.symm hne]
    · by_cases hk' : k2 = k'
      · subst hk'; simp [AList.insert, allOf, hk, ih]
      · simp [AList.insert, allOf, hk, hk', ih]

end
end PS.Bee
