/- Heap search without a filter yields no duplicates: the prologue establishes the no-duplicate
   invariant, the yielded sequence is a chain of the injective successor table of the start symbol. -/
import PS.Proofs.Enum.HSNodup
import PS.Proofs.Enum.SuccChain
namespace PS.HS
open PS PS.G
set_option linter.unusedSectionVars false
variable {S T π : Type} [DecidableEq S] [DecidableEq T]

/-! ### the max-priority phase does not touch the tables of `query` -/

def FrameT (s s' : St S T π) : Prop :=
  s'.heaps = s.heaps ∧ s'.succ = s.succ ∧ s'.pred = s.pred ∧ s'.seen = s.seen ∧ s'.deleted = s.deleted

theorem FrameT.refl (s : St S T π) : FrameT s s := ⟨rfl, rfl, rfl, rfl, rfl⟩
theorem FrameT.trans {s s1 s2 : St S T π} (h1 : FrameT s s1) (h2 : FrameT s1 s2) : FrameT s s2 :=
  ⟨h2.1.trans h1.1, h2.2.1.trans h1.2.1, h2.2.2.1.trans h1.2.2.1, h2.2.2.2.1.trans h1.2.2.2.1,
   h2.2.2.2.2.trans h1.2.2.2.2⟩

theorem init_frame (E : Env S T π) : ∀ n : Nat,
    (∀ s nt s', initNT E n s nt = some s' → FrameT s s') ∧
    (∀ s nt rs best s' best', maxLoop E n s nt rs best = some (s', best') → FrameT s s') ∧
    (∀ s k info cur acc s' arguments, maxArgs E n s k info cur acc = some (s', arguments) → FrameT s s') := by
  intro n
  induction n with
  | zero =>
    refine ⟨?_, ?_, ?_⟩
    · intro s nt s' h; simp [initNT] at h
    · intro s nt rs best s' best' h; simp [maxLoop] at h
    · intro s k info cur acc s' arguments h; simp [maxArgs] at h
  | succ n ih =>
    obtain ⟨ihI, ihL, ihA⟩ := ih
    refine ⟨?_, ?_, ?_⟩
    · intro s nt s' h
      rcases initNT_succ_iff.mp h with ⟨_, rfl⟩ | ⟨_, rs, _, ⟨_, rfl⟩ | ⟨_, s1, best, hml, rfl⟩⟩
      · exact FrameT.refl _
      · exact FrameT.refl _
      · have hf : FrameT s s1 := ihL { s with initS := s.initS ++ [nt] } _ _ _ _ _ hml
        cases best <;> exact hf
    · intro s nt rs best s' best' h
      cases rs with
      | nil =>
        simp only [maxLoop, Option.some.injEq, Prod.mk.injEq] at h
        obtain ⟨rfl, _⟩ := h
        exact FrameT.refl _
      | cons hd rest =>
        obtain ⟨P, ra, u⟩ := hd
        obtain ⟨s1, args, hb, h⟩ := maxLoop_cons_iff.mp h
        have hf1 : FrameT s s1 := builtArgs_rel FrameT.refl ihA hb
        split at h
        · exact hf1.trans (ihL _ _ _ _ _ _ h)
        · obtain ⟨c, pr, _, h⟩ := h
          have hf2 := ihL _ _ _ _ _ _ h
          exact hf1.trans hf2
    · intro s k info cur acc s' arguments h
      cases k with
      | zero =>
        simp only [maxArgs, Option.some.injEq, Prod.mk.injEq] at h
        obtain ⟨rfl, _⟩ := h
        exact FrameT.refl _
      | succ k =>
        obtain ⟨s1, hi, ⟨_, hres⟩ | ⟨m, r, _, _, h⟩⟩ := maxArgs_succ_iff.mp h
        · cases hres; exact ihI _ _ _ hi
        · exact (ihI _ _ _ hi).trans (ihA _ _ _ _ _ _ _ h)

theorem reevaluate_frame (E : Env S T π) (fuel : Nat) :
    ∀ (k : Nat) (s s' : St S T π), reevaluate E fuel k s = some s' → FrameT s s' :=
  reevaluate_rel FrameT.refl FrameT.trans (init_frame E fuel).1

theorem FrameT.heapOf {s s' : St S T π} (f : FrameT s s') (nt : NT S T) : s'.heapOf nt = s.heapOf nt := by
  unfold St.heapOf; rw [f.1]
theorem FrameT.seenOf {s s' : St S T π} (f : FrameT s s') (nt : NT S T) : s'.seenOf nt = s.seenOf nt := by
  unfold St.seenOf; rw [f.2.2.2.1]
theorem FrameT.succOf {s s' : St S T π} (f : FrameT s s') (nt : NT S T) : s'.succOf nt = s.succOf nt := by
  unfold St.succOf; rw [f.2.1]
theorem FrameT.deleted {s s' : St S T π} (f : FrameT s s') : s'.deleted = s.deleted := f.2.2.2.2

theorem FrameT.tb {s s' : St S T π} (f : FrameT s s') : s'.tb = s.tb := by
  show Tables.Tb.mk _ _ _ = Tables.Tb.mk _ _ _
  rw [funext f.seenOf, funext f.succOf,
    show s'.heapProgs = s.heapProgs from funext fun nt => St.heapProgs_congr (f.heapOf nt)]

theorem FrameT.ninv {s s' : St S T π} (f : FrameT s s') (h : NInv s) : NInv s' :=
  NInv5.ninv (show Tables.Five s'.tb from f.tb ▸ h.five) (f.deleted.trans h.no_deleted)

theorem FrameT.stable {s s' : St S T π} (f : FrameT s s') : Stable s s' :=
  fun nt _ _ hk => (f.succOf nt).symm ▸ hk

/-! ### initial heaps, first queries -/

/-- the shape of the no-duplicate statements -/
def NStep (s s' : St S T π) : Prop := NInv s → NInv s' ∧ Stable s s'

theorem NStep.refl (s : St S T π) : NStep s s := fun h => ⟨h, Stable.refl s⟩
theorem NStep.trans {a b c : St S T π} (f : NStep a b) (g : NStep b c) : NStep a c :=
  fun h => ⟨(g (f h).1).1, (f h).2.trans (g (f h).1).2⟩

theorem initHeaps_ninv (E : Env S T π) :
    ∀ (rows : List (NT S T × AList Sym (List (Ty × S) × T))) (s s' : St S T π),
      NInv s → initHeaps E rows s = some s' → NInv s' ∧ Stable s s' :=
  fun rows s s' hs h => initHeaps_rel NStep.refl NStep.trans
    (fun nt => initHeapLoop_rel NStep.refl NStep.trans fun _ _ prog _ hnew hs => hs.pushNew (E := E) nt prog hnew)
    rows s s' h hs

theorem query_nodup (E : Env S T π) {n s nt p s' r} (hs : NInv s)
    (h : query E n s nt p = some (s', r)) :
    NInv s' ∧ Stable s s' ∧ ∀ q, r = some q → AList.lookup p (s'.succOf nt) = some q :=
  big_nodup E (big_of_query E h) hs trivial

theorem prologue_ninv (E : Env S T π) (fuel : Nat) (s s' : St S T π) (hs : NInv s)
    (h : prologue E fuel s = some s') : NInv s' ∧ Stable s s' :=
  prologue_rel NStep.refl NStep.trans
    (fun _ _ _ h hs => have f := (init_frame E fuel).1 _ _ _ h; ⟨f.ninv hs, f.stable⟩)
    (fun nt _ _ prog _ hnew hs => hs.pushNew (E := E) nt prog hnew)
    (fun _ _ _ _ hq hs => ⟨(query_nodup E hs hq).1, (query_nodup E hs hq).2.1⟩) h hs

/-! ### the generator loop without a filter -/

theorem nextLoop_nodup (E : Env S T π) (hf : ∀ p, E.filter p = true) (fuel : Nat) :
    ∀ (k : Nat) (s : St S T π) (cur : Option Prog) (g' : Gen S T π) (r : Option Prog),
      NInv s → nextLoop E fuel k s cur = some (g', r) →
      NInv g'.st ∧ Stable s g'.st ∧ g'.started = true ∧
      (∀ p, r = some p → AList.lookup cur (g'.st.succOf E.G.start) = some p ∧ g'.current = some p) ∧
      (r = none → g'.current = cur) := by
  intro k s cur g' r hs h
  obtain ⟨hq, hst, hc1, hc2⟩ := nextLoop_nofilter hf h
  obtain ⟨a1, a2, a3⟩ := query_nodup E hs hq
  exact ⟨a1, a2, hst, fun p hp => ⟨a3 p hp, hc1 p hp⟩, hc2⟩

theorem ninv_empty (G : TT S T) : NInv (St.empty G : St S T π) := by
  have hheap : ∀ nt, (St.empty G : St S T π).heapProgs nt = [] := fun nt =>
    St.heapProgs_of_heapOf (St.heapOf_empty G nt)
  refine ⟨?_, ?_, ?_, ?_, ?_, rfl⟩
  · intro nt; rw [hheap]; exact List.nodup_nil
  · intro nt p hp; rw [hheap] at hp; cases hp
  · intro nt k v hk; rw [St.succOf_empty] at hk; cases hk
  · intro nt k v hk; rw [St.succOf_empty] at hk; cases hk
  · intro nt k k' v hk; rw [St.succOf_empty] at hk; cases hk

/-- invariant of the generator object: the no-duplicate invariant, and what was yielded so far is
    the chain of `succ[start]` from the sentinel, `current` being its last element -/
def NGInv (E : Env S T π) (g : Gen S T π) (out : List Prog) : Prop :=
  NInv g.st ∧ chainFrom (g.st.succOf E.G.start) none out ∧ g.current = lastOr none out

theorem next_nodup (E : Env S T π) (hf : ∀ p, E.filter p = true) (fuel : Nat) (g g' : Gen S T π)
    (out : List Prog) (r : Option Prog) (hg : NGInv E g out) (h : next E fuel g = some (g', r)) :
    (∀ p, r = some p → NGInv E g' (out ++ [p])) ∧ (r = none → NGInv E g' out) := by
  obtain ⟨hn, hc, hcur⟩ := hg
  -- the state in which the loop starts
  have key : ∀ s : St S T π, NInv s → Stable g.st s → nextLoop E fuel fuel s g.current = some (g', r) →
      (∀ p, r = some p → NGInv E g' (out ++ [p])) ∧ (r = none → NGInv E g' out) := by
    intro s hs hst hl
    obtain ⟨a1, a2, _, a4, a5⟩ := nextLoop_nodup E hf fuel _ _ _ _ _ hs hl
    have hc' : chainFrom (g'.st.succOf E.G.start) none out :=
      chainFrom_stable (fun k v hk => (hst.trans a2) _ k v hk) _ _ hc
    constructor
    · intro p hp
      obtain ⟨b1, b2⟩ := a4 p hp
      refine ⟨a1, (chainFrom_snoc _ _ _ _).mpr ⟨hc', by rw [← hcur]; exact b1⟩, ?_⟩
      rw [b2]; unfold lastOr; simp
    · intro hr
      exact ⟨a1, hc', by rw [a5 hr, hcur]⟩
  obtain ⟨s, hl, ⟨_, rfl⟩ | ⟨_, hp⟩⟩ := next_cases h
  · exact key _ hn (Stable.refl _) hl
  · obtain ⟨hs, hst⟩ := prologue_ninv E fuel _ _ hn hp
    exact key _ hs hst hl

theorem take_ngInv (E : Env S T π) (hf : ∀ p, E.filter p = true) (fuel : Nat) :
    ∀ (k : Nat) (g : Gen S T π) (acc : List Prog) (g' : Gen S T π) (out : List Prog) (b : Bool),
      NGInv E g acc → take E fuel k g acc = some (g', out, b) → NGInv E g' out :=
  take_rel (NGInv E) fun g acc g' r => next_nodup E hf fuel g g' acc r

theorem ngInv_new (E : Env S T π) : NGInv E (Gen.new E.G) [] :=
  ⟨ninv_empty E.G, trivial, rfl⟩

theorem NGInv.nodup {E : Env S T π} {g : Gen S T π} {out : List Prog} (h : NGInv E g out) : out.Nodup :=
  chainFrom_nodup _ (h.1.succ_inj E.G.start) out none h.2.1 (by intro z _ e; cases e)

end PS.HS
