/- The two instances of the search over any priority type: heap search (rule weights in [0, 1], a threshold `0 ≤ t`,
   any filter) and bucket search (any filter), with hypotheses that are Boolean checks on a literal
   grammar, and the statements in terms of probabilities / bucket tuples. -/
import PS.Proofs.Enum.GStops
import PS.Proofs.Enum.GLaw
import PS.Proofs.Enum.HSCheck
namespace PS.HG
open PS PS.G PS.HS
set_option linter.unusedSectionVars false
variable {S π : Type} [DecidableEq S]

theorem wtotal_of_allG (E : Env S Unit π)
    (h : E.G.rules.all (fun e => e.2.all fun r => (ruleW E e.1 r.1).isSome) = true) : WTotal E := by
  intro nt F rl hr
  exact AList.lookup₂_of_all (p := fun nt F _ => (ruleW E nt F).isSome) h ((TT.rule?_eq_lookup₂ E.G nt F).symm.trans hr)

theorem wunit_of_all (E : Env S Unit π)
    (h : E.W.all (fun e => e.2.all fun r => decide (0 ≤ r.2 ∧ r.2 ≤ 1)) = true) : WUnit E := by
  intro nt F w hw
  exact of_decide_eq_true
    (AList.lookup₂_of_all (p := fun _ _ w => decide (0 ≤ w ∧ w ≤ 1)) h ((ruleW_eq_lookup₂ E nt F).symm.trans hw))

theorem closed_of_allG (G : TT S Unit)
    (h : G.rules.all (fun e => e.2.all fun r => r.2.1.all fun a => (AList.lookup (argNT a) G.rules).isSome) = true) :
    Closed G := fun nt F ra hr a ha => HS.closed_of_all G h nt F ra hr a ha

/-- static hypotheses for heap search with threshold `t` and a filter (`dropDeleted = false`: `__add_successors__` of
    /repo, repair 53c3acb); all of them are Boolean checks on a literal grammar -/
structure ProbHyp (E : Env S Unit Rat) (rank : NT S Unit → Nat) (t : Rat) : Prop where
  ops : E.ops = probOps t
  thr_nonneg : 0 ≤ t
  wunit : WUnit E
  init : InitHyp E rank
  keys : (AList.keys E.G.rules).Nodup
  wtotal : WTotal E
  nodrop : E.dropDeleted = false

theorem ProbHyp.all {E : Env S Unit Rat} {rank} {t : Rat} (P : ProbHyp E rank t) :
    AllHyp E rank (fun v => 0 ≤ v) := by
  have M := monoOps_prob E t P.ops (fun nt F w h => (P.wunit nt F w h).1)
  have w : Heapq.WeakOrderOn (fun v : Rat => 0 ≤ v) E.ops.lt := by
    rw [P.ops]; exact (probOps_weakOrder t).on _
  have hthr : ∀ t', E.ops.thr = some t' → 0 ≤ t' := by
    intro t' h
    rw [P.ops] at h
    simp only [probOps] at h
    split at h
    · cases h
    · cases h; exact P.thr_nonneg
  exact ⟨⟨law_of_monoOps M w hthr P.init.acyclic, P.wtotal, P.nodrop⟩, P.init, P.keys,
    subOK_prob E t P.ops P.wunit⟩

theorem probHyp_of_checks (E : Env S Unit Rat) (rank : NT S Unit → Nat) (t : Rat)
    (hops : E.ops = probOps t) (ht : 0 ≤ t)
    (h1 : E.W.all (fun e => e.2.all fun r => decide (0 ≤ r.2 ∧ r.2 ≤ 1)) = true)
    (h2 : E.G.rules.all (fun e => e.2.all fun r => r.2.1.all fun a => decide (rank (argNT a) < rank e.1)) = true)
    (h3 : E.G.rules.all (fun e => decide ((AList.keys e.2).Nodup)) = true)
    (h4 : E.G.rules.all (fun e => !e.2.isEmpty) = true)
    (h5 : (AList.keys E.G.rules).Nodup)
    (h6 : E.G.rules.all (fun e => e.2.all fun r => (ruleW E e.1 r.1).isSome) = true)
    (h7 : E.dropDeleted = false) : ProbHyp E rank t :=
  { ops := hops, thr_nonneg := ht, wunit := wunit_of_all E h1
    init := ⟨rowsNodup_of_all E.G h3, acyclic_of_all E.G rank h2, nonempty_of_all E.G h4⟩
    keys := h5, wtotal := wtotal_of_allG E h6, nodrop := h7 }

theorem pushOK_prob {E : Env S Unit Rat} {t : Rat} (hops : E.ops = probOps t) (v : Rat) (h : t < v ∨ t = 0) :
    pushOK E.ops v = true := by
  unfold pushOK
  rw [hops]
  simp only [probOps]
  split
  · rfl
  · rename_i t' ht
    split at ht
    · cases ht
    · cases ht
      rcases h with h | h
      · simpa using h
      · contradiction

theorem prio_member {E : Env S Unit Rat} {rank} {t : Rat} (P : ProbHyp E rank t) (p : Prog) (nt : NT S Unit)
    (hg : gen E.G p nt = true) : prioSpec E p nt = some (prob E.G E.W p nt) := by
  obtain ⟨v, h⟩ := prioSpec_some E P.wtotal hg
  rw [h, prioSpec_prob E t P.ops p nt v hg h]

theorem prob_safe {E : Env S Unit Rat} {rank} {t : Rat} (P : ProbHyp E rank t) (fuel k : Nat)
    (g' : Gen S Unit Rat) (out : List Prog) (b : Bool)
    (h : take E fuel k (Gen.new E.G) [] = some (g', out, b)) :
    (∀ p ∈ out, gen E.G p E.G.start = true) ∧ out.Nodup ∧ (∀ p ∈ out, E.filter p = true) ∧
    out.Pairwise (fun p q => prob E.G E.W q E.G.start ≤ prob E.G E.W p E.G.start) := by
  have hsound := take_sound_new E P.init.rows h
  obtain ⟨a, b', c⟩ := take_safe P.all.weak fuel k g' out b h
  refine ⟨hsound, a, b', ?_⟩
  have : ∀ x ∈ out, ∀ y ∈ out, NB E E.G.start x y → prob E.G E.W y E.G.start ≤ prob E.G E.W x E.G.start := by
    intro x hx y hy hnb
    exact (probLt_false_iff P.ops _ _).mp (hnb _ _ (prio_member P x _ (hsound x hx)) (prio_member P y _ (hsound y hy)))
  exact List.Pairwise.imp_of_mem (fun {x y} hx hy hxy => this x hx y hy hxy) c

theorem prob_prefix_complete {E : Env S Unit Rat} {rank} {t : Rat} (P : ProbHyp E rank t) (fuel k : Nat)
    (g' : Gen S Unit Rat) (l1 l2 : List Prog) (q p : Prog) (b : Bool)
    (h : take E fuel k (Gen.new E.G) [] = some (g', l1 ++ q :: l2, b))
    (hg : gen E.G p E.G.start = true) (hcl : clean E.filter p = true)
    (hthr : t < prob E.G E.W p E.G.start ∨ t = 0)
    (hlt : prob E.G E.W q E.G.start < prob E.G E.W p E.G.start) : p ∈ l1 := by
  obtain ⟨hsound, _, _, hsorted⟩ := prob_safe P fuel k g' _ b h
  have hq : q ∈ l1 ++ q :: l2 := by simp
  have hmem : p ∈ l1 ++ q :: l2 :=
    take_prefix_complete P.all.weak fuel k g' _ b h p q _ _ hq hg hcl (prio_member P p _ hg)
      (pushOK_prob P.ops _ hthr) (prio_member P q _ (hsound q hq)) (by rw [P.ops]; simpa [probOps] using hlt)
  exact Heapq.mem_left_of_sorted hsorted hmem hlt

theorem prob_stop_complete {E : Env S Unit Rat} {rank} {t : Rat} (P : ProbHyp E rank t) (fuel k : Nat)
    (g' : Gen S Unit Rat) (out : List Prog)
    (h : take E fuel k (Gen.new E.G) [] = some (g', out, true)) (p : Prog)
    (hg : gen E.G p E.G.start = true) (hcl : clean E.filter p = true)
    (hthr : t < prob E.G E.W p E.G.start ∨ t = 0) : p ∈ out :=
  take_stop_complete P.all.weak fuel k g' out h p _ hg hcl (prio_member P p _ hg) (pushOK_prob P.ops _ hthr)

theorem prob_total {E : Env S Unit Rat} {rank} {t : Rat} (P : ProbHyp E rank t) (hclosed : Closed E.G)
    (hstart : E.G.start ∈ AList.keys E.G.rules) (fuel : Nat) (hfuel : enoughFuelF E.G rank ≤ fuel) :
    ∃ k g' out, take E fuel k (Gen.new E.G) [] = some (g', out, true) :=
  take_totalG P.all hclosed hstart fuel hfuel

structure BucketHyp (E : Env S Unit Bucket) (rank : NT S Unit → Nat) (size : Nat) : Prop where
  ops : E.ops = bucketOps size
  init : InitHyp E rank
  keys : (AList.keys E.G.rules).Nodup
  wtotal : WTotal E
  nodrop : E.dropDeleted = false

theorem BucketHyp.all {E : Env S Unit Bucket} {rank} {size : Nat} (B : BucketHyp E rank size) :
    AllHyp E rank (fun b => b.length = size) := by
  have M := monoOps_bucket E size B.ops
  have w : Heapq.WeakOrderOn (fun b : Bucket => b.length = size) E.ops.lt := by
    rw [B.ops]; exact bucket_weakOn size
  have hthr : E.ops.thr = none := by rw [B.ops]; rfl
  exact ⟨⟨law_of_monoOps M w (fun t h => by rw [hthr] at h; cases h) B.init.acyclic, B.wtotal, B.nodrop⟩,
    B.init, B.keys, Or.inl hthr⟩

theorem bucketHyp_of_checks (E : Env S Unit Bucket) (rank : NT S Unit → Nat) (size : Nat)
    (hops : E.ops = bucketOps size)
    (h2 : E.G.rules.all (fun e => e.2.all fun r => r.2.1.all fun a => decide (rank (argNT a) < rank e.1)) = true)
    (h3 : E.G.rules.all (fun e => decide ((AList.keys e.2).Nodup)) = true)
    (h4 : E.G.rules.all (fun e => !e.2.isEmpty) = true)
    (h5 : (AList.keys E.G.rules).Nodup)
    (h6 : E.G.rules.all (fun e => e.2.all fun r => (ruleW E e.1 r.1).isSome) = true)
    (h7 : E.dropDeleted = false) : BucketHyp E rank size :=
  { ops := hops
    init := ⟨rowsNodup_of_all E.G h3, acyclic_of_all E.G rank h2, nonempty_of_all E.G h4⟩
    keys := h5, wtotal := wtotal_of_allG E h6, nodrop := h7 }

/-- the bucket tuple of a program: the sum of the buckets of the rules of its derivation -/
def bucketOf (E : Env S Unit Bucket) (p : Prog) : Bucket := (prioSpec E p E.G.start).getD []

theorem bucketOf_spec {E : Env S Unit Bucket} (hw : WTotal E) {x : Prog} (hx : gen E.G x E.G.start = true) :
    prioSpec E x E.G.start = some (bucketOf E x) := by
  obtain ⟨v, hv⟩ := prioSpec_some E hw hx
  rw [bucketOf, hv]; rfl

theorem bucket_pushOK {E : Env S Unit Bucket} {rank} {size} (B : BucketHyp E rank size) (v : Bucket) :
    pushOK E.ops v = true := by
  unfold pushOK; rw [B.ops]; rfl

theorem bucket_safe {E : Env S Unit Bucket} {rank} {size : Nat} (B : BucketHyp E rank size) (fuel k : Nat)
    (g' : Gen S Unit Bucket) (out : List Prog) (b : Bool)
    (h : take E fuel k (Gen.new E.G) [] = some (g', out, b)) :
    (∀ p ∈ out, gen E.G p E.G.start = true) ∧ out.Nodup ∧ (∀ p ∈ out, E.filter p = true) ∧
    (∀ p ∈ out, (bucketOf E p).length = size) ∧
    out.Pairwise (fun p q => Bucket.lt (bucketOf E q) (bucketOf E p) = false) := by
  have hsound := take_sound_new E B.init.rows h
  obtain ⟨a, b', c⟩ := take_safe B.all.weak fuel k g' out b h
  have hdef : ∀ x ∈ out, prioSpec E x E.G.start = some (bucketOf E x) := fun x hx => bucketOf_spec B.wtotal (hsound x hx)
  refine ⟨hsound, a, b', fun p hp => B.all.run.law.good _ _ _ (hdef p hp), ?_⟩
  refine List.Pairwise.imp_of_mem (fun {x y} hx hy hxy => ?_) c
  have := hxy _ _ (hdef x hx) (hdef y hy)
  rw [B.ops] at this
  exact this

theorem bucket_stop_complete {E : Env S Unit Bucket} {rank} {size : Nat} (B : BucketHyp E rank size) (fuel k : Nat)
    (g' : Gen S Unit Bucket) (out : List Prog)
    (h : take E fuel k (Gen.new E.G) [] = some (g', out, true)) (p : Prog)
    (hg : gen E.G p E.G.start = true) (hcl : clean E.filter p = true) : p ∈ out := by
  exact take_stop_complete B.all.weak fuel k g' out h p _ hg hcl (bucketOf_spec B.wtotal hg) (bucket_pushOK B _)

theorem bucket_prefix_complete {E : Env S Unit Bucket} {rank} {size : Nat} (B : BucketHyp E rank size) (fuel k : Nat)
    (g' : Gen S Unit Bucket) (out : List Prog) (b : Bool)
    (h : take E fuel k (Gen.new E.G) [] = some (g', out, b)) (p q : Prog) (hq : q ∈ out)
    (hg : gen E.G p E.G.start = true) (hcl : clean E.filter p = true)
    (hlt : Bucket.lt (bucketOf E p) (bucketOf E q) = true) : p ∈ out := by
  obtain ⟨hsound, _, _, _, _⟩ := bucket_safe B fuel k g' out b h
  exact take_prefix_complete B.all.weak fuel k g' out b h p q _ _ hq hg hcl (bucketOf_spec B.wtotal hg)
    (bucket_pushOK B _) (bucketOf_spec B.wtotal (hsound q hq)) (by rw [B.ops]; exact hlt)

theorem bucket_total {E : Env S Unit Bucket} {rank} {size : Nat} (B : BucketHyp E rank size) (hclosed : Closed E.G)
    (hstart : E.G.start ∈ AList.keys E.G.rules) (fuel : Nat) (hfuel : enoughFuelF E.G rank ≤ fuel) :
    ∃ k g' out, take E fuel k (Gen.new E.G) [] = some (g', out, true) :=
  take_totalG B.all hclosed hstart fuel hfuel

end PS.HG
