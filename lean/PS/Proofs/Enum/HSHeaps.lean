/- Every heap of the heap-search machine satisfies heapq's invariant in every reachable state
   (any grammar, any strict weak order of priorities, with or without filter). -/
import PS.Proofs.Enum.Orders
import PS.Proofs.Enum.HSNodupRun
namespace PS.HS
open PS PS.G
set_option linter.unusedSectionVars false
variable {S T π : Type} [DecidableEq S] [DecidableEq T]

theorem ltE_weakOrder (ops : Prio π) (w : Heapq.WeakOrder ops.lt) : Heapq.WeakOrder (ltE ops) :=
  w.comap Prod.fst

def HInv (E : Env S T π) (s : St S T π) : Prop := ∀ nt, Heapq.IsHeap (ltE E.ops) (s.heapOf nt)

theorem HInv.pushNew {E : Env S T π} (w : Heapq.WeakOrder E.ops.lt) {s : St S T π} (h : HInv E s)
    (nt : NT S T) (np : Prog) : HInv E (pushNew E s nt np) := by
  intro nt'
  rcases heapOf_pushNew E s nt np with e | ⟨_, v, _, _, e⟩
  · rw [e]; exact h nt'
  · rw [e]
    split
    · exact Heapq.push_isHeap (ltE_weakOrder E.ops w) _ _ (h nt)
    · exact h nt'

theorem HInv.pushStep {E : Env S T π} (w : Heapq.WeakOrder E.ops.lt) {s : St S T π} (h : HInv E s)
    (F : Sym) (args : List Prog) (nt : NT S T) (i : Nat) (r : Option Prog) :
    HInv E (pushStep E s F args nt i r) := by
  rcases pushStep_cases E s F args nt i r with e | ⟨_, -, -, -, e⟩
  · rw [e]; exact h
  · rw [e]; exact h.pushNew w nt _

theorem HInv.pop {E : Env S T π} (w : Heapq.WeakOrder E.ops.lt) {s : St S T π} (h : HInv E s)
    (nt : NT S T) (e : π × Prog) (h' : List (π × Prog))
    (hp : Heapq.pop (ltE E.ops) (s.heapOf nt) = some (e, h')) : HInv E (s.setHeap nt h') := by
  intro nt'
  rw [St.heapOf_setHeap]
  split
  · exact (Heapq.pop_isHeap (ltE_weakOrder E.ops w) _ _ _ (h nt) hp).1
  · exact h nt'

theorem big_heaps (E : Env S T π) (w : Heapq.WeakOrder E.ops.lt) {c : Call S T} {s s' : St S T π}
    {r : Option Prog} (hb : Big E c s s' r) : HInv E s → HInv E s' :=
  Big.rel (R := fun s s' => HInv E s → HInv E s') (fun _ h => h) (fun f g h => g (f h))
    (fun hp h => h.pop w _ _ _ hp) (fun _ _ _ _ h => h) (fun _ F args nt i r h => h.pushStep w F args nt i r) hb

theorem FrameT.hinv {E : Env S T π} {s s' : St S T π} (f : FrameT s s') (h : HInv E s) : HInv E s' :=
  fun nt => f.heapOf nt ▸ h nt

theorem initHeaps_hinv (E : Env S T π) (w : Heapq.WeakOrder E.ops.lt) :
    ∀ (rows : List (NT S T × AList Sym (List (Ty × S) × T))) (s s' : St S T π),
      HInv E s → initHeaps E rows s = some s' → HInv E s' :=
  fun rows s s' hs h => initHeaps_rel (R := fun s s' => HInv E s → HInv E s') (fun _ h => h) (fun f g h => g (f h))
    (fun nt => initHeapLoop_rel (fun _ h => h) (fun f g h => g (f h)) fun _ _ prog _ _ hs => hs.pushNew w nt prog)
    rows s s' h hs

theorem prologue_hinv (E : Env S T π) (w : Heapq.WeakOrder E.ops.lt) (fuel : Nat) (s s' : St S T π)
    (hs : HInv E s) (h : prologue E fuel s = some s') : HInv E s' :=
  prologue_rel (R := fun s s' => HInv E s → HInv E s') (fun _ h => h) (fun f g h => g (f h))
    (fun _ _ _ h hs => ((init_frame E fuel).1 _ _ _ h).hinv hs) (fun nt _ _ prog _ _ hs => hs.pushNew w nt prog)
    (fun _ _ _ _ hq hs => big_heaps E w (big_of_query E hq) hs) h hs

theorem nextLoop_hinv (E : Env S T π) (w : Heapq.WeakOrder E.ops.lt) (fuel : Nat) :
    ∀ (k : Nat) (s : St S T π) (cur : Option Prog) (g' : Gen S T π) (r : Option Prog),
      HInv E s → nextLoop E fuel k s cur = some (g', r) → HInv E g'.st :=
  nextLoop_rule (P := fun s _ => HInv E s) (Q := fun g' _ => HInv E g'.st)
    (fun _ _ _ hs hq => big_heaps E w (big_of_query E hq) hs)
    (fun _ _ _ _ hs hq _ => big_heaps E w (big_of_query E hq) hs)
    (fun _ _ s1 p hs hq _ nt => by
      rw [St.heapOf_addDeleted]; exact big_heaps E w (big_of_query E hq) hs nt)

theorem next_hinv (E : Env S T π) (w : Heapq.WeakOrder E.ops.lt) (fuel : Nat) (g g' : Gen S T π)
    (r : Option Prog) (hg : HInv E g.st) (h : next E fuel g = some (g', r)) : HInv E g'.st := by
  obtain ⟨s, hl, ⟨_, rfl⟩ | ⟨_, hp⟩⟩ := next_cases h
  · exact nextLoop_hinv E w fuel _ _ _ _ _ hg hl
  · exact nextLoop_hinv E w fuel _ _ _ _ _ (prologue_hinv E w fuel _ _ hg hp) hl

theorem hinv_new (E : Env S T π) : HInv E (Gen.new E.G : Gen S T π).st := fun nt => by
  show Heapq.IsHeap _ ((St.empty E.G : St S T π).heapOf nt)
  rw [St.heapOf_empty]; exact Heapq.isHeap_nil _

end PS.HS
