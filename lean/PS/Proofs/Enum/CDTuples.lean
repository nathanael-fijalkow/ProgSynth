/- The frontier rule and the frontier theorem on the machine (every arithmetic, grammar, filter, fuel).
   The rule of `query_derivation` (constant_delay.py:302-317): the successor loop `succLoop` of the model pushes exactly
   the index tuples `succIdx` of PS/Proofs/Enum/Tuples.lean, hence successors of the expanded tuple only, each once.
   The theorem: in every derivation queue the index tuples are pairwise distinct, and no index tuple that has been
   expanded is ever in the queue again — at every moment of every run, with the index tuples of a popped CostTuple
   that `query_derivation` has not expanded yet held in "limbo" (parameter `Λ`), through nested and re-entrant
   queries. -/
import PS.Proofs.Enum.Tuples
import PS.Proofs.Enum.CDHeapInv
namespace PS.CD

/-! ## the frontier rule of `query_derivation` -/

/-- `len(self._cost_lists_nt[args[i]])` for every argument position -/
def lensOf {α : Type} (s : St α) (args : List NT) : List Nat :=
  args.map fun Si => ((AList.lookup Si s.costNt).getD []).length

/-- the indices `succIdx` lists from position `i` on, with the length the loop reads there -/
theorem succIdx_lensOf {α : Type} {s : St α} {args : List NT} {comb : List Nat} {i x : Nat} {Si : NT} {cl : List α} (rem : Nat)
    (hx : comb[i]? = some x) (hSi : args[i]? = some Si) (hcl : AList.lookup Si s.costNt = some cl) :
    succIdx (lensOf s args) comb (rem + 1) i =
      if x + 1 ≥ cl.length then (if x + 1 > 1 then [] else succIdx (lensOf s args) comb rem (i + 1))
      else comb.set i (x + 1) :: (if x + 1 > 1 then [] else succIdx (lensOf s args) comb rem (i + 1)) := by
  rw [succIdx, hx, show (lensOf s args)[i]? = some cl.length by simp [lensOf, List.getElem?_map, hSi, hcl]]

theorem succLoop_spec {α : Type} (A : Arith α) (asserts : Bool) (args : List NT) (c : α) (comb : List Nat)
    (rem i : Nat) (s s' : St α) : succLoop A asserts args c comb rem i s = some s' →
    ∀ q, AList.lookup args s.queueDer = some q → QWF q →
    ∃ q', AList.lookup args s'.queueDer = some q' ∧ QWF q' ∧
      q'.contents.Perm (q.contents ++ succIdx (lensOf s args) comb rem i) ∧ q'.k = q.k ∧ q'.maxi = q.maxi ∧
      s' = { s with queueDer := s'.queueDer } ∧
      (∀ a, a ≠ args → AList.lookup a s'.queueDer = AList.lookup a s.queueDer) := by
  fun_induction succLoop A asserts args c comb rem i s <;> intro h q hq hwf
  · cases h
    exact ⟨q, hq, hwf, by simp [succIdx], rfl, rfl, rfl, fun _ _ => rfl⟩
  · cases h
  · -- no successor at this position
    rename_i hSi hx _ hcl hge hx1
    rw [succIdx_lensOf _ hx hSi hcl, if_pos hge, if_pos hx1]
    cases h
    exact ⟨q, hq, hwf, by simp, rfl, rfl, rfl, fun _ _ => rfl⟩
  · rename_i hSi hx _ hcl hge hx1 ih
    rw [succIdx_lensOf _ hx hSi hcl, if_pos hge, if_neg hx1]
    exact ih h q hq hwf
  · cases h
  · -- the successor `comb.set i (x + 1)` is pushed
    rename_i s _ _ hSi hx _ hcl hlt _ _ q0 hq0 _ _ q1 hpush hx1
    rw [succIdx_lensOf _ hx hSi hcl, if_neg hlt, if_pos hx1]
    cases h
    obtain rfl : q = q0 := Option.some.inj (hq.symm.trans hq0)
    obtain ⟨hwf1, _, hperm1, hk1, hm1⟩ := qwf_push A q q1 _ asserts hwf hpush
    exact ⟨q1, AList.lookup_insert_self args q1 s.queueDer, hwf1, hperm1, hk1, hm1, rfl, fun a ha => AList.lookup_insert_ne _ _ ha⟩
  · rename_i s _ _ hSi hx _ hcl hlt _ _ q0 hq0 _ _ q1 hpush hx1 ih
    rw [succIdx_lensOf _ hx hSi hcl, if_neg hlt, if_neg hx1]
    obtain rfl : q = q0 := Option.some.inj (hq.symm.trans hq0)
    obtain ⟨hwf1, _, hperm1, hk1, hm1⟩ := qwf_push A q q1 _ asserts hwf hpush
    obtain ⟨q2, h2a, h2b, h2c, h2d, h2e, h2f, h2g⟩ := ih h q1 (AList.lookup_insert_self args q1 s.queueDer) hwf1
    refine ⟨q2, h2a, h2b, ?_, by rw [h2d, hk1], by rw [h2e, hm1], by rw [h2f]; rfl,
      fun a ha => by rw [h2g a ha]; exact AList.lookup_insert_ne _ _ ha⟩
    rw [show lensOf (s.setQueueDer args q1) args = lensOf s args from rfl] at h2c
    refine h2c.trans ((List.Perm.append_right _ hperm1).trans ?_)
    simp
  · cases h
  · cases h

theorem succLoop_pushes_successors {α : Type} (A : Arith α) (asserts : Bool) (args : List NT) (c : α) (comb : List Nat)
    (s s' : St α) (h : succLoop A asserts args c comb comb.length 0 s = some s') (q : Q α)
    (hq : AList.lookup args s.queueDer = some q) (hwf : QWF q) :
    ∃ q' pushed, AList.lookup args s'.queueDer = some q' ∧ QWF q' ∧ q'.contents.Perm (q.contents ++ pushed) ∧
      pushed.Nodup ∧ ∀ t ∈ pushed, t ∈ succs comb ∧ t.length = comb.length := by
  obtain ⟨q', h1, h2, h3, _⟩ := succLoop_spec A asserts args c comb _ _ _ _ h q hq hwf
  exact ⟨q', _, h1, h2, h3, succIdx_nodup _ _ _ _, fun t ht => ⟨succIdx_sub _ _ t ht, succs_length _ _ (succIdx_sub _ _ t ht)⟩⟩

/-! ## the frontier invariant through the query block -/

variable {α : Type}

theorem frontInv_perm {F F' D : List (List Nat)} (hp : F.Perm F') (h : FrontInv ⟨F, D⟩) : FrontInv ⟨F', D⟩ := by
  obtain ⟨h1, h2⟩ := h
  simp only at h1 h2
  have hpa : (F ++ D).Perm (F' ++ D) := List.Perm.append_right D hp
  exact ⟨hpa.nodup_iff.mp h1, fun t ht hnz => h2 t (hpa.mem_iff.mpr ht) hnz⟩

theorem front_expand {F D : List (List Nat)} {c : List Nat} {rest new : List (List Nat)} (h : FrontInv ⟨F, D⟩)
    (hp : F.Perm (c :: rest)) (hnd : new.Nodup) (hsub : ∀ t ∈ new, t ∈ succs c) : FrontInv ⟨rest ++ new, c :: D⟩ := by
  have h1 : FrontInv ⟨[] ++ c :: rest, D⟩ := frontInv_perm (by simpa using hp) h
  have := front_step h1 (Front.Step.expand [] rest D c new hnd hsub)
  simpa using this

/-- the frontier invariant of the derivation queues: for every `args` that has a queue, the queue is well formed and
    the index tuples it holds, together with those in limbo, form a frontier of the successor relation over some set
    `D` of expanded tuples (`FrontInv`).  `Λ args` = the tuples in limbo: those of a popped CostTuple that a suspended
    `query_derivation(args)` has not expanded yet. -/
def TInv (s : St α) (Λ : List NT → List (List Nat)) : Prop :=
  ∀ args q, AList.lookup args s.queueDer = some q → QWF q ∧ ∃ D, FrontInv ⟨q.contents ++ Λ args, D⟩

def addT (Λ : List NT → List (List Nat)) (args : List NT) (l : List (List Nat)) : List NT → List (List Nat) :=
  fun a => if a = args then l ++ Λ a else Λ a

theorem addT_nil (Λ : List NT → List (List Nat)) (args : List NT) : addT Λ args [] = Λ := by
  funext a; unfold addT; split <;> simp

theorem addT_ne (Λ : List NT → List (List Nat)) (args : List NT) (l : List (List Nat)) (a : List NT) (h : a ≠ args) :
    addT Λ args l a = Λ a := by
  unfold addT; simp [h]

theorem addT_self (Λ : List NT → List (List Nat)) (args : List NT) (l : List (List Nat)) : addT Λ args l args = l ++ Λ args := by
  unfold addT; simp

theorem succLoop_none (A : Arith α) (b : Bool) (args : List NT) (c : α) (comb : List Nat) :
    ∀ (rem i : Nat) (s s' : St α), AList.lookup args s.queueDer = none → succLoop A b args c comb rem i s = some s' → s' = s :=
  fun rem i s s' hn h =>
    succLoop_rule (· = s) (fun _ _ _ _ _ _ _ _ _ e _ _ _ _ _ hq _ => by rw [e, hn] at hq; cases hq) rem i s s' h rfl

/-! ### the invariant in general

The frontier invariant is kept whatever else is asked of the frontier, of the expanded tuples and of the pools stored in
`_bank_derivation`, provided that survives the writes `query_derivation` makes (`Pools`).  `TInv` asks nothing more;
`TInv2` (CDGPoss.lean) asks that the stored pools are those of the expanded tuples. -/

/-- the pools `query_derivation` stores for an index tuple: position `i` refers to `_bank_nt[args[i]][comb[i]]` -/
def refsOf : List NT → List Nat → List Ref
  | a :: as, c :: cs => some (a, c) :: refsOf as cs
  | _, _ => []

theorem refsOf_nil_right (args : List NT) : refsOf args [] = [] := by cases args <;> rfl

abbrev BD := AList (List NT) (AList Nat (List (List Ref)))

def contentsOf (s : St α) (args : List NT) : List (List Nat) :=
  match AList.lookup args s.queueDer with
  | some q => q.contents
  | none => []

theorem contentsOf_some {s : St α} {args : List NT} {q : Q α} (h : AList.lookup args s.queueDer = some q) :
    contentsOf s args = q.contents := by unfold contentsOf; rw [h]

theorem contentsOf_congr {s s' : St α} {args : List NT} (h : AList.lookup args s'.queueDer = AList.lookup args s.queueDer) :
    contentsOf s' args = contentsOf s args := by unfold contentsOf; rw [h]

/-- the frontier invariant with a parameter `K` and a range `all`.  `K bd args F D` is what is asked, beside
    `FrontInv ⟨F, D⟩`, of the frontier `F` of `args` (queue and limbo), of its expanded tuples `D` and of
    `_bank_derivation`.  The guard `lookup args s.queueDer = none → all` selects the `args` spoken of: with
    `all := False` only the `args` that have a queue (an `args` without one makes the guard unprovable), with
    `all := True` every `args`, one without a queue having the empty frontier (`contentsOf`).  `TInv` is
    `TInvK False` with the trivial `K` (`tinv_iff`); `TInv2` of CDGPoss.lean is `TInvK True Stored` (`tinv2_iff`).
    `TInv` could not be `TInvK True`: it says nothing of an `args` without a queue, and `all := True` asks that the
    limbo `Λ args` of such an `args` be a frontier by itself. -/
def TInvK (all : Prop) (K : BD → List NT → List (List Nat) → List (List Nat) → Prop) (s : St α)
    (Λ : List NT → List (List Nat)) : Prop :=
  ∀ args, (AList.lookup args s.queueDer = none → all) → (∀ q, AList.lookup args s.queueDer = some q → QWF q) ∧
    ∃ D, FrontInv ⟨contentsOf s args ++ Λ args, D⟩ ∧ K s.bankDer args (contentsOf s args ++ Λ args) D

/-- `K` survives: a write under another key; a new, empty cost index; a reordering of the frontier; the expansion of
    `comb` (successors enter the frontier, or nothing does); the expansion of `comb` with its pools stored -/
structure Pools (K : BD → List NT → List (List Nat) → List (List Nat) → Prop) : Prop where
  other : ∀ {bd args a b' F D}, a ≠ args → K bd a F D → K (AList.insert args b' bd) a F D
  nil : ∀ {bd args b ci F D}, AList.lookup args bd = some b → K bd args F D →
    K (AList.insert args (AList.insert ci [] b) bd) args F D
  perm : ∀ {bd args F F' D}, F.Perm F' → K bd args F D → K bd args F' D
  expand : ∀ {bd args F F' D comb}, K bd args F D → comb ∈ F → (∀ t ∈ F', t ∈ F ∨ t ∈ succs comb) → K bd args F' (comb :: D)
  store : ∀ {bd args F F' D comb b ci l}, K bd args F D → comb ∈ F → comb ∉ D → (∀ t ∈ F', t ∈ F ∨ t ∈ succs comb) →
    AList.lookup args bd = some b → AList.lookup ci b = some l →
    K (AList.insert args (AList.insert ci (l ++ [refsOf args comb]) b) bd) args F' (comb :: D)

variable {all : Prop} {K : BD → List NT → List (List Nat) → List (List Nat) → Prop}

theorem tinvK_of_eq {s s' : St α} {Λ : List NT → List (List Nat)} (h1 : s'.queueDer = s.queueDer)
    (h2 : s'.bankDer = s.bankDer) (h : TInvK all K s Λ) : TInvK all K s' Λ := by
  unfold TInvK contentsOf; rw [h1, h2]; exact h

theorem TInvK.setBankDer (hK : Pools K) {s : St α} {Λ : List NT → List (List Nat)} {args : List NT}
    {b' : AList Nat (List (List Ref))} (h : TInvK all K s Λ)
    (hP : ∀ F D, K s.bankDer args F D → K (AList.insert args b' s.bankDer) args F D) :
    TInvK all K { s with bankDer := AList.insert args b' s.bankDer } Λ := by
  intro a hg
  obtain ⟨h1, D, h3, h4⟩ := h a hg
  refine ⟨h1, D, h3, ?_⟩
  by_cases he : a = args
  · subst he; exact hP _ D h4
  · exact hK.other he h4

/-- `self._bank_derivation[args][cost_index] = []` -/
theorem TInvK.insertNil (hK : Pools K) {s : St α} {Λ : List NT → List (List Nat)} {args : List NT}
    {b : AList Nat (List (List Ref))} {ci : Nat} (h : TInvK all K s Λ) (hb : AList.lookup args s.bankDer = some b) :
    TInvK all K { s with bankDer := AList.insert args (AList.insert ci [] b) s.bankDer } Λ :=
  h.setBankDer hK fun _ _ => hK.nil hb

/-- `hg0`: `args` has a queue, or gets its first one when every `args` is spoken of -/
theorem TInvK.setQueueDer (hK : Pools K) {s : St α} {Λ Λ' : List NT → List (List Nat)} {args : List NT} {q : Q α}
    (h : TInvK all K s Λ) (hg0 : AList.lookup args s.queueDer = none → all) (hq : QWF q)
    (hp : (contentsOf s args ++ Λ args).Perm (q.contents ++ Λ' args)) (hΛ : ∀ a, a ≠ args → Λ' a = Λ a) :
    TInvK all K (s.setQueueDer args q) Λ' := by
  intro a hg
  by_cases he : a = args
  · subst he
    obtain ⟨_, D, h3, h4⟩ := h a hg0
    have hl : AList.lookup a (s.setQueueDer a q).queueDer = some q := by simp [St.setQueueDer, AList.lookup_insert_self]
    rw [contentsOf_some hl]
    refine ⟨fun q2 hq2 => ?_, D, frontInv_perm hp h3, hK.perm hp h4⟩
    rw [hl, Option.some.injEq] at hq2
    exact hq2 ▸ hq
  · have hl : AList.lookup a (s.setQueueDer args q).queueDer = AList.lookup a s.queueDer := by
      simp [St.setQueueDer, AList.lookup_insert_ne _ _ he]
    rw [hl] at hg ⊢
    rw [contentsOf_congr hl, hΛ a he]
    exact h a hg

/-- an index tuple in limbo that is not expanded just leaves (it counts as expanded without successors) -/
theorem TInvK.drop (hK : Pools K) {s : St α} {Λ : List NT → List (List Nat)} {args : List NT} {comb : List Nat}
    {rest : List (List Nat)} (h : TInvK all K s (addT Λ args (comb :: rest))) : TInvK all K s (addT Λ args rest) := by
  intro a hg
  obtain ⟨h1, D, h3, h4⟩ := h a hg
  by_cases he : a = args
  · subst he
    rw [addT_self] at h3 h4 ⊢
    refine ⟨h1, comb :: D, ?_, hK.expand h4 (by simp) (fun t ht => Or.inl ?_)⟩
    · have := front_expand (c := comb) (rest := contentsOf s a ++ (rest ++ Λ a)) (new := []) h3
        List.perm_middle (by simp) (by simp)
      simpa using this
    · rcases List.mem_append.mp ht with h5 | h5
      · exact List.mem_append_left _ h5
      · exact List.mem_append_right _ (List.mem_cons_of_mem _ h5)
  · rw [addT_ne _ _ _ _ he] at h3 h4 ⊢
    exact ⟨h1, D, h3, h4⟩

/-- the successor loop expands the index tuple `comb` held in limbo; its pools are fresh and may be stored -/
theorem TInvK.succLoop (hK : Pools K) (A : Arith α) (bb : Bool) (args : List NT) (c : α) (comb : List Nat)
    (rest : List (List Nat)) {Λ : List NT → List (List Nat)} (s s' : St α)
    (h : succLoop A bb args c comb comb.length 0 s = some s') (hs : TInvK all K s (addT Λ args (comb :: rest))) :
    TInvK all K s' (addT Λ args rest) ∧
    ∀ b ci l, AList.lookup args s'.bankDer = some b → AList.lookup ci b = some l →
      TInvK all K { s' with bankDer := AList.insert args (AList.insert ci (l ++ [refsOf args comb]) b) s'.bankDer }
        (addT Λ args rest) := by
  -- what the loop does to the queue of `args`
  have hq' : ∃ new : List (List Nat), new.Nodup ∧ (∀ t ∈ new, t ∈ succs comb) ∧
      (contentsOf s' args).Perm (contentsOf s args ++ new) ∧ s'.bankDer = s.bankDer ∧
      (∀ q', AList.lookup args s'.queueDer = some q' → QWF q') ∧
      (AList.lookup args s.queueDer = none → AList.lookup args s'.queueDer = none) ∧
      (∀ a, a ≠ args → AList.lookup a s'.queueDer = AList.lookup a s.queueDer) := by
    cases hq : AList.lookup args s.queueDer with
    | none =>
      have := succLoop_none A bb args c comb _ _ _ _ hq h
      subst this
      exact ⟨[], by simp, by simp, by simp, rfl, fun q' hq' => by rw [hq] at hq'; simp at hq', fun _ => hq, fun _ _ => rfl⟩
    | some q =>
      obtain ⟨q', h1, h2, h3, _, _, h6, h7⟩ :=
        succLoop_spec A bb args c comb _ _ _ _ h q hq ((hs args (fun hn => nomatch hq.symm.trans hn)).1 q hq)
      refine ⟨succIdx (lensOf s args) comb comb.length 0, succIdx_nodup _ _ _ _, fun t ht => succIdx_sub _ _ t ht, ?_, ?_, ?_,
        nofun, h7⟩
      · rw [contentsOf_some h1, contentsOf_some hq]; exact h3
      · rw [h6]
      · intro q2 hq2; rw [h1] at hq2; simp only [Option.some.injEq] at hq2; subst hq2; exact h2
  obtain ⟨new, hnd, hsub, hperm, hbd, hwf, hnone, hother⟩ := hq'
  -- `args`: `comb` was in the frontier, so it had not been expanded; now it is, and `new` has entered the queue
  have hA : (AList.lookup args s'.queueDer = none → all) → ∃ D, comb ∉ D ∧
      K s'.bankDer args (contentsOf s args ++ (comb :: rest ++ Λ args)) D ∧
      FrontInv ⟨contentsOf s' args ++ (rest ++ Λ args), comb :: D⟩ := by
    intro hg
    obtain ⟨_, D, hf, hk⟩ := hs args (fun hn => hg (hnone hn))
    rw [addT_self] at hf hk
    refine ⟨D, fun hD => (List.nodup_append.mp hf.1).2.2 comb (by simp) comb hD rfl, by rw [hbd]; exact hk, ?_⟩
    have hexp := front_expand (c := comb) (rest := contentsOf s args ++ (rest ++ Λ args)) (new := new) hf
      List.perm_middle hnd hsub
    refine frontInv_perm ?_ hexp
    have : (contentsOf s args ++ (rest ++ Λ args) ++ new).Perm (contentsOf s args ++ new ++ (rest ++ Λ args)) := by
      rw [List.append_assoc (contentsOf s args), List.append_assoc (contentsOf s args)]
      exact List.Perm.append_left _ List.perm_append_comm
    exact this.trans (List.Perm.append_right _ hperm.symm)
  have hF : ∀ t ∈ contentsOf s' args ++ (rest ++ Λ args),
      t ∈ contentsOf s args ++ (comb :: rest ++ Λ args) ∨ t ∈ succs comb := by
    intro t ht
    rcases List.mem_append.mp ht with h5 | h5
    · rcases List.mem_append.mp (hperm.mem_iff.mp h5) with h6 | h6
      · exact Or.inl (List.mem_append_left _ h6)
      · exact Or.inr (hsub t h6)
    · exact Or.inl (List.mem_append_right _ (List.mem_cons_of_mem _ h5))
  have others : ∀ a, a ≠ args → (AList.lookup a s'.queueDer = none → all) →
      (∀ q, AList.lookup a s'.queueDer = some q → QWF q) ∧
      ∃ D, FrontInv ⟨contentsOf s' a ++ Λ a, D⟩ ∧ K s'.bankDer a (contentsOf s' a ++ Λ a) D := by
    intro a he hg
    rw [hother a he] at hg ⊢
    obtain ⟨h1, D, h3, h4⟩ := hs a hg
    rw [addT_ne _ _ _ _ he] at h3 h4
    rw [contentsOf_congr (hother a he), hbd]
    exact ⟨h1, D, h3, h4⟩
  refine ⟨fun a hg => ?_, fun b ci l hb hl a hg => ?_⟩
  · by_cases he : a = args
    · subst he
      obtain ⟨D, _, hk, hf⟩ := hA hg
      rw [addT_self]
      exact ⟨hwf, comb :: D, hf, hK.expand hk (by simp) hF⟩
    · rw [addT_ne _ _ _ _ he]; exact others a he hg
  · by_cases he : a = args
    · subst he
      obtain ⟨D, hD, hk, hf⟩ := hA hg
      rw [addT_self]
      exact ⟨hwf, comb :: D, hf, hK.store hk (by simp) hD hF hb hl⟩
    · rw [addT_ne _ _ _ _ he]
      obtain ⟨h1, D, h3, h4⟩ := others a he hg
      exact ⟨h1, D, h3, hK.other he h4⟩

/-- the state from which `query_derivation` runs its loop over the combinations -/
theorem TInvK.pop (hK : Pools K) {s : St α} {Λ : List NT → List (List Nat)} {args : List NT}
    {b : AList Nat (List (List Ref))} {q q' : Q α} {ct : CT α} {ci : Nat} (hs : TInvK all K s Λ)
    (hb : AList.lookup args s.bankDer = some b) (hq : AList.lookup args s.queueDer = some q) (hpop : q.pop = some (ct, q')) :
    TInvK all K ({ s with bankDer := AList.insert args (AList.insert ci [] b) s.bankDer }.setQueueDer args q')
      (addT Λ args ct.combs) := by
  obtain ⟨hwf', _, hperm, _⟩ := qwf_pop q q' ct ((hs args (fun hn => nomatch hq.symm.trans hn)).1 q hq) hpop
  refine (hs.insertNil hK hb).setQueueDer (Λ := Λ) hK (fun hn => nomatch hq.symm.trans hn) hwf' ?_
    (fun a ha => addT_ne _ _ _ _ ha)
  rw [addT_self, contentsOf_some (s := { s with bankDer := AList.insert args (AList.insert ci [] b) s.bankDer }) hq]
  exact (hperm.append_right _).trans (by rw [List.append_assoc]; exact List.perm_append_comm_assoc _ _ _)

theorem TInvK.advance (hK : Pools K) {A : Arith α} {s s' : St α} {Λ : List NT → List (List Nat)} {args : List NT}
    (h : Advance A s args s') (hs : TInvK all K s Λ) : TInvK all K s' Λ := by
  obtain ⟨q, cl, hq, _, ⟨_, rfl⟩ | ⟨q', pk, hupd, _, rfl⟩⟩ := h
  · exact hs
  · obtain ⟨hwf, hc⟩ := qwf_update A q q' ((hs args (fun hn => nomatch hq.symm.trans hn)).1 q hq) hupd
    exact tinvK_of_eq (s := s.setQueueDer args q') rfl rfl
      (hs.setQueueDer (Λ := Λ) hK (fun hn => nomatch hq.symm.trans hn) hwf (by rw [contentsOf_some hq, hc]) (fun _ _ => rfl))

/-! ### what `_query_list_` and the loop over the arguments return -/

theorem Exec.ref {E : Env α} {s s' : St α} {S : NT} {ci : Nat} {ia : Bool} {r : Ref}
    (h : Exec E s (.queryList S ci ia r) s') : r = none ∨ r = some (S, ci) := by
  cases h with
  | empty | noCost => exact Or.inl rfl
  | cached => exact Or.inr rfl
  | query => split <;> simp

/-- when no argument failed, the pools handed back are exactly the references of the index tuple -/
def Call.Refs : Call α → Prop
  | .argLoop cs ss _ agf acc _ agf' acc' => agf' = false → agf = false ∧ acc' = acc ++ refsOf ss cs
  | _ => True

theorem Exec.refs {E : Env α} {s s' : St α} {c : Call α} (h : Exec E s c s') : c.Refs := by
  induction h with
  | stop h =>
    intro hf
    rcases h with rfl | rfl
    · exact ⟨hf, by simp [refsOf_nil_right]⟩
    · exact ⟨hf, by simp [refsOf]⟩
  | brk => intro hf; cases hf
  | @arg _ _ _ _ _ _ agf _ s1 _ r _ _ _ _ hq _ _ _ ih =>
    intro hf
    obtain ⟨h1, h2⟩ := ih hf
    have h1 : (s1.resolve r).isEmpty = false ∧ agf = false := by simpa using h1
    rcases hq.ref with rfl | rfl
    · simp [St.resolve] at h1
    · exact ⟨h1.2, by rw [h2, List.append_assoc]; rfl⟩
  | _ => trivial

/-! ### the machine -/

/-- the index tuples in limbo when a call begins: beside `Λ`, those `combLoop` still has to go through -/
def Call.pending (c : Call α) (Λ : List NT → List (List Nat)) : List NT → List (List Nat) :=
  match c with
  | .combLoop args _ _ combs _ _ _ _ => addT Λ args combs
  | _ => Λ

/-- `query_derivation` takes the index tuples of the popped CostTuple into limbo and `combLoop` expands or drops them one by
    one -/
theorem Exec.tinvK (hK : Pools K) {E : Env α} {s s' : St α} {c : Call α} (h : Exec E s c s') :
    ∀ {Λ}, TInvK all K s (c.pending Λ) → TInvK all K s' Λ := by
  induction h with
  | deleted _ _ ih | tuple _ _ ih | pools _ _ ih | ruleDone _ _ ih | done _ ih | query _ _ _ _ _ _ _ _ ih | brk _ _ ih =>
    exact ih
  | empty | noCost | cached | stop | beyond | stored => exact id
  | @rejected s _ p _ _ _ _ _ ih =>
    intro Λ hs
    obtain ⟨d, e⟩ := addDeleted_eq s p
    rw [e] at ih
    exact ih (tinvK_of_eq rfl rfl hs)
  | yield _ _ hb =>
    intro Λ hs
    obtain ⟨b, l, _, _, rfl⟩ := appendBank_eq hb
    exact tinvK_of_eq rfl rfl hs
  | exit _ _ _ hx =>
    intro Λ hs
    obtain ⟨c, e, f, rfl⟩ := exitQuery_eq hx
    exact tinvK_of_eq rfl rfl hs
  | leaf hP _ ih =>
    intro Λ hs
    obtain ⟨b, rfl⟩ := ensureBank_eq hP.bank
    exact ih (tinvK_of_eq rfl rfl hs)
  | @node s fr _ el _ _ _ w s2 _ _ cl h2 _ _ hP _ _ _ _ _ _ ihq ih =>
    intro Λ hs
    obtain ⟨q, e⟩ := pushNext_eq E.A s2 fr.S h2 w el cl fr.noSucc
    rw [e] at ih
    obtain ⟨b, rfl⟩ := ensureBank_eq hP.bank
    exact ih (tinvK_of_eq rfl rfl (ihq (tinvK_of_eq rfl rfl hs)))
  | next _ _ ih1 ih2 | arg _ _ _ ih1 ih2 => exact fun hs => ih2 (ih1 hs)
  | nil => intro Λ hs; rwa [Call.pending, addT_nil] at hs
  | failed _ _ _ ih1 ih2 => exact fun hs => ih2 ((ih1 hs).drop hK)
  | allowed _ hsucc _ ih1 ih2 => exact fun hs => ih2 ((ih1 hs).succLoop hK _ _ _ _ _ _ _ _ hsucc).1
  | store ha hsucc hb hl _ ih1 ih2 =>
    intro Λ hs
    have hp := (ha.refs rfl).2
    rw [List.nil_append] at hp
    rw [hp] at ih2
    exact ih2 (((ih1 hs).succLoop hK _ _ _ _ _ _ _ _ hsucc).2 _ _ _ hb hl)
  | drained hb => exact fun hs => hs.insertNil hK hb
  | derive hb _ hq hpop _ hm ha _ ih =>
    intro Λ hs
    obtain ⟨em, rfl⟩ := hm.eq
    exact TInvK.advance hK ha (tinvK_of_eq rfl rfl (ih (hs.pop hK hb hq hpop)))

/-! ### the frontier invariant alone -/

theorem pools_true : Pools (fun _ _ _ _ => True) :=
  ⟨fun _ _ => trivial, fun _ _ => trivial, fun _ _ => trivial, fun _ _ _ => trivial, fun _ _ _ _ _ _ => trivial⟩

theorem tinv_iff {s : St α} {Λ : List NT → List (List Nat)} : TInv s Λ ↔ TInvK False (fun _ _ _ _ => True) s Λ := by
  constructor
  · intro h a hg
    cases hq : AList.lookup a s.queueDer with
    | none => exact (hg hq).elim
    | some q =>
      obtain ⟨hwf, D, hf⟩ := h a q hq
      rw [contentsOf_some hq]
      exact ⟨fun q2 hq2 => by cases hq2; exact hwf, D, hf, trivial⟩
  · intro h a q hq
    obtain ⟨hwf, D, hf, _⟩ := h a (fun hn => nomatch hq.symm.trans hn)
    rw [contentsOf_some hq] at hf
    exact ⟨hwf q hq, D, hf⟩

theorem tinv_of_eq {s s' : St α} {Λ : List NT → List (List Nat)} (h1 : s'.queueDer = s.queueDer) (h : TInv s Λ) : TInv s' Λ := by
  unfold TInv; rw [h1]; exact h

theorem Exec.tinv {E : Env α} {s s' : St α} {c : Call α} (h : Exec E s c s') {Λ : List NT → List (List Nat)}
    (hs : TInv s (c.pending Λ)) : TInv s' Λ :=
  tinv_iff.mpr (h.tinvK pools_true (tinv_iff.mp hs))

structure TOk (E : Env α) (f : Nat) : Prop where
  resume : ∀ s fr r Λ, resume E f s fr = some r → TInv s Λ → TInv r.st Λ
  drive : ∀ s fr s' Λ, drive E f s fr = some s' → TInv s Λ → TInv s' Λ
  queryList : ∀ s S ci s' ia r Λ, queryList E f s S ci = some (s', ia, r) → TInv s Λ → TInv s' Λ
  argLoop : ∀ s cs ss ia agf acc s' ia' agf' acc' Λ,
    argLoop E f s cs ss ia agf acc = some (s', ia', agf', acc') → TInv s Λ → TInv s' Λ
  combLoop : ∀ s args ci c combs ns hg s' ns' hg' Λ,
    combLoop E f s args ci c combs ns hg = some (s', ns', hg') → TInv s (addT Λ args combs) → TInv s' Λ
  queryDer : ∀ s args ci s' l Λ, queryDer E f s args ci = some (s', l) → TInv s Λ → TInv s' Λ

theorem tok_all (E : Env α) : ∀ f, TOk E f := fun f =>
  ⟨fun _ _ r _ h => by cases r <;> exact ((sound E f).resume h).tinv, fun _ _ _ _ h => ((sound E f).drive h).tinv,
   fun _ _ _ _ _ _ _ h => ((sound E f).queryList h).tinv, fun _ _ _ _ _ _ _ _ _ _ _ h => ((sound E f).argLoop h).tinv,
   fun _ _ _ _ _ _ _ _ _ _ _ h => ((sound E f).combLoop h).tinv, fun _ _ _ _ _ _ h => ((sound E f).queryDer h).tinv⟩

/-! ### the generator (after the prologue) -/

def noT : List NT → List (List Nat) := fun _ => []

/-- for a generator past the prologue only: that the prologue establishes `TInv` is proved with `TInv2` (`prologue_tinv2`,
    CDGRun.lean) -/
def TGInv (g : Gen α) : Prop := TInv g.st noT ∧ ¬ (g.phase matches .fresh)

theorem next_tinv (E : Env α) (fuel : Nat) (g g' : Gen α) (out : Option Prog) (h : next E fuel g = some (g', out))
    (hg : TGInv g) : TGInv g' := by
  rcases next_loop h with ⟨_, rfl, _⟩ | ⟨s, n, fr?, failed, hl, ⟨hph, _⟩ | ⟨rfl, _⟩⟩
  · exact hg
  · exact absurd (by rw [hph]) hg.2
  · exact ⟨hl.keeps (P := (TInv · noT)) (fun _ _ hs => tinv_of_eq rfl hs) (fun hr => hr.tinv) hg.1, hl.phase⟩

theorem merge_tinv (E : Env α) (g : Gen α) (other : Prog) (ty : Nat) (hg : TGInv g) : TGInv (merge E g other ty) := by
  obtain ⟨b, d, e⟩ := merge_eq E g other ty
  rw [e]
  exact ⟨tinv_of_eq rfl hg.1, hg.2⟩

theorem runHist_tinv (E : Env α) (fuel : Nat) : ∀ (acts : List Act) (g : Gen α) (out : List Prog) (g' : Gen α)
    (ys : List Prog), runHist E fuel acts g out = some (g', ys) → TGInv g → TGInv g' :=
  fun acts g out g' ys h =>
    runHist_rule E fuel (fun g _ => TGInv g) (fun _ _ => True) (fun g g' o _ hn => next_tinv E fuel g g' o hn)
      (fun g p t _ _ => merge_tinv E g p t) acts g out g' ys h (fun _ _ _ => trivial)

theorem tinv_contents_nodup {s : St α} (h : TInv s noT) (args : List NT) (q : Q α) (hq : AList.lookup args s.queueDer = some q) :
    q.contents.Nodup := by
  obtain ⟨_, D, hf⟩ := h args q hq
  have := hf.1
  simp only [noT, List.append_nil] at this
  exact (List.nodup_append.mp this).1

end PS.CD
