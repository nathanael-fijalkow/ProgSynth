/- Completeness of beap search: the generator.  The invariant of a started generator with the programs `ys` yielded so
   far is `GKm` (over an effective filter, see BeapCompl.lean) with, under the mode `P`, the marks `Marks`; it holds
   after the prologue and is kept by `next` and along `take` (`next_k`, `take_k`).  From `GKm`: prefix completeness (a
   clean program cheaper than a yielded one has been yielded) and completeness at the stop.  `GK` is the two in one
   record for `E.filter` (`GK.iff`); no proof goes through it. -/
import PS.Proofs.Enum.BeapComplHead
import PS.Proofs.Enum.BeapComplResume
namespace PS.Beap
open PS PS.G PS.Heapq
set_option linter.unusedSectionVars false
variable {S : Type} [DecidableEq S]

theorem below_zeros (E : Env S) (s : St S) : ∀ (as : List (Ty × S)) (ks : List Prog), ks.length = as.length →
    BelowArgs E s as (List.replicate as.length 0) ks
  | [], [], _ => trivial
  | a :: as, k :: ks, h => by
    simp only [List.length_cons, List.replicate_succ]
    exact Or.inl ⟨rfl, below_zeros E s as ks (by simpa using h)⟩
  | [], _ :: _, h => by simp at h
  | _ :: _, [], h => by simp at h

theorem costOfList_length (E : Env S) : ∀ (ks : List Prog) (as : List (Ty × S)) (x : Rat), costOfList E ks as = some x →
    ks.length = as.length
  | [], [], _, _ => rfl
  | [], _ :: _, _, h => by simp [costOfList] at h
  | _ :: _, [], _, h => by simp [costOfList] at h
  | k :: ks, a :: as, x, h => by
    obtain ⟨_, x', _, hx', _⟩ := costOfList_cons_inv h
    simp only [List.length_cons]; rw [costOfList_length E ks as x' hx']

/-- `GKm` at `E.filter` with `Marks` (`GK.iff`): a started generator on which no program was merged -/
structure GK (E : Env S) (g : Gen S) (ys : List Prog) : Prop where
  started : g.started = true
  w : WInv E g.st
  e4 : E4g g.st
  fro : ∀ S', S' ≠ E.G.start → FR E g.st S'
  fr : ∀ fr, g.frame = some fr → FrK E g.st E.G.start fr ∧ fr.ci = g.n ∧ (g.failed = true → fr.hasGen = false) ∧
    (fr.noSucc = false ∨ ∃ e q, g.st.queueOf E.G.start = e :: q ∧ e.cost = fr.cost)
  idle : g.frame = none → FR E g.st E.G.start ∧ (∀ ci, Entered g.st E.G.start ci → ci < g.n) ∧
    ((g.n + 1 = (g.st.clOf E.G.start).length ∧
        ∀ c, (g.st.clOf E.G.start)[g.n]? = some c → ∃ e q, g.st.queueOf E.G.start = e :: q ∧ e.cost = c) ∨
     ((g.st.clOf E.G.start).length ≤ g.n ∧ g.st.queueOf E.G.start = []))
  fin : g.finished = true → g.frame = none ∧ g.st.queueOf E.G.start = []
  ne : g.st.clOf E.G.start ≠ []
  yb : ∀ ci q, q ∈ g.st.bankAt E.G.start ci → q ∈ ys
  yc : ∀ p ∈ ys, ∃ c, c ∈ g.st.clOf E.G.start ∧ costOf E p E.G.start = some c.fin

set_option linter.unusedVariables false in
/-- `GKm` says nothing of the marks in `_empties` (with `Env.fixEmptied = true` an empty bank entry needs no mark);
    the field `GKm.e4` stands where `GK.e4` does -/
def E4gm (s : St S) : Prop := True

/-- the invariant of a started generator; `ys`: the programs yielded so far -/
structure GKm (E : Env S) (F : Prog → Bool) (g : Gen S) (ys : List Prog) : Prop where
  started : g.started = true
  w : WInvm E F g.st
  e4 : E4gm g.st
  fro : ∀ S', S' ≠ E.G.start → FRm E F g.st S'
  fr : ∀ fr, g.frame = some fr → FrKm E F g.st E.G.start fr ∧ fr.ci = g.n ∧ (g.failed = true → fr.hasGen = false) ∧
    (fr.noSucc = false ∨ ∃ e q, g.st.queueOf E.G.start = e :: q ∧ e.cost = fr.cost)
  idle : g.frame = none → FRm E F g.st E.G.start ∧ (∀ ci, Entered g.st E.G.start ci → ci < g.n) ∧
    ((g.n + 1 = (g.st.clOf E.G.start).length ∧
        ∀ c, (g.st.clOf E.G.start)[g.n]? = some c → ∃ e q, g.st.queueOf E.G.start = e :: q ∧ e.cost = c) ∨
     ((g.st.clOf E.G.start).length ≤ g.n ∧ g.st.queueOf E.G.start = []))
  fin : g.finished = true → g.frame = none ∧ g.st.queueOf E.G.start = []
  ne : g.st.clOf E.G.start ≠ []
  yb : ∀ ci q, q ∈ g.st.bankAt E.G.start ci → q ∈ ys
  yc : ∀ p ∈ ys, ∃ c, c ∈ g.st.clOf E.G.start ∧ costOf E p E.G.start = some c.fin


def TKm (E : Env S) (F : Prog → Bool) (g : Gen S) (ys : List Prog) : Prop :=
  (g.started = false ∧ g.finished = false ∧ g.st = St.empty E.G ∧ ys = []) ∨ GKm E F g ys

variable {F : Prog → Bool} {P : Prop}

/-- the marks of a generator on which nothing was merged: `E4P True`, `MK` at every index of a non-terminal without
    running query, `HG2` for the generator's own query -/
structure Marks (E : Env S) (s : St S) (fro : Option Frame) : Prop where
  e4 : E4g s
  idle : ∀ S', (S' = E.G.start → fro = none) → ∀ ci, MK s S' ci
  hg2 : ∀ fr, fro = some fr → HG2 s E.G.start fr

theorem GK.iff {E : Env S} {g : Gen S} {ys : List Prog} : GK E g ys ↔ GKm E E.filter g ys ∧ Marks E g.st g.frame := by
  constructor
  · intro h
    refine ⟨⟨h.started, WInv.iff.mp h.w, trivial, fun S' hS => (FR.iff.mp (h.fro S' hS)).1,
      fun fr he => ⟨(FrK.iff.mp (h.fr fr he).1).1, (h.fr fr he).2⟩,
      fun he => ⟨(FR.iff.mp (h.idle he).1).1, (h.idle he).2⟩, h.fin, h.ne, h.yb, h.yc⟩,
      h.e4, fun S' hS => ?_, fun fr he => (FrK.iff.mp (h.fr fr he).1).2.1⟩
    by_cases hs : S' = E.G.start
    · subst hs; exact (h.idle (hS rfl)).1.2.2
    · exact (h.fro S' hs).2.2
  · intro ⟨h, m⟩
    refine ⟨h.started, WInv.iff.mpr h.w, m.e4, fun S' hS => FR.iff.mpr ⟨h.fro S' hS, fun _ => m.idle S' (fun e => absurd e hS)⟩,
      fun fr he => ⟨FrK.iff.mpr ⟨(h.fr fr he).1, m.hg2 fr he, fun ci' hne hlk => ?_⟩, (h.fr fr he).2⟩,
      fun he => ⟨FR.iff.mpr ⟨(h.idle he).1, fun _ => m.idle _ (fun _ => he)⟩, (h.idle he).2⟩, h.fin, h.ne, h.yb, h.yc⟩
    -- an entered index other than the running one lies before the last index
    have := h.w.e.be _ ci' (Or.inl (by rw [hlk]; rfl))
    have := (h.fr fr he).1.fo.1
    exact m.e4 _ ci' (by omega) hlk

theorem prologue_k (E : Env S) (F : Prog → Bool) (hfle : ∀ q, F q = true → E.filter q = true)
    (hnd : RowsNodup E.G) (hst : StableAfter E) (hprod : Productive E) (hpos : PosW E)
    (fuel : Nat) (s' : St S) (h : prologue E fuel (St.empty E.G) = some s') :
    WInvm E F s' ∧ E4P P s' ∧ (∀ nt, FRP E F P s' nt) ∧ (∀ nt ci, ¬ Entered s' nt ci) ∧ (∀ nt ci, s'.bankAt nt ci = []) := by
  have hp := prologue_pro E hnd fuel s' h
  have hst' : Stable E s' := hst fuel s' h
  have hc := hp.cinv hst' hprod
  have hlk : ∀ nt ci, AList.lookup ci (s'.bankOf nt) = none := fun nt ci => by rw [hp.bankOf]; rfl
  have hnotent : ∀ nt ci, ¬ Entered s' nt ci := fun nt ci => not_entered_iff.mpr ⟨hlk nt ci, by rw [hp.emptiesOf]; rfl⟩
  have hlb : LB E s' := fun nt c rest p x hcl hx =>
    ((minCost_spec E s' hp.att hp.headMin hp.allRules hst' nt c rest hcl).1 p x hx).2
  have hsingle : ∀ nt l, (s'.clOf nt).getLast? = some l → s'.clOf nt = [l] := by
    intro nt l hl
    obtain ⟨ys, hys⟩ := List.getLast?_eq_some_iff.mp hl
    have hlen := hp.shape.len nt
    rw [hys, List.length_append, List.length_singleton] at hlen
    rw [hys, List.length_eq_zero_iff.mp (Nat.le_zero.mp (Nat.le_of_add_le_add_right hlen)), List.nil_append]
  refine ⟨
    { c := hc, o := hp.oi hc hpos,
      e := { e2 := fun nt ci hh => (by rw [hp.emptiesOf] at hh; cases hh), d1 := fun q hq => ?_, fle := hfle,
             be := fun nt ci hen => absurd hen (hnotent nt ci), lb := hlb },
      cr := fun nt p x l hcl hx hl hlt => ?_ }, fun _ nt ci _ hh => (by rw [hlk] at hh; cases hh),
    fun nt => ⟨⟨fun f kids x l rl hcl hx hl hle hr => ?_, fun hen => absurd hen (hnotent nt _)⟩,
      fun _ ci hh => (by rw [hlk] at hh; cases hh)⟩, hnotent, hp.bankAt⟩
  · rw [hp.deleted] at hq; cases hq
  · exfalso
    exact absurd (Std.lt_of_lt_of_le hlt (hlb nt l [] p x (hsingle nt l hl) hx)) Rat.lt_irrefl
  · right
    have hcl1 := hsingle nt l hl
    obtain ⟨el, hel, hP⟩ := hp.allRules nt l [] hcl1 f rl hr
    refine ⟨el, hel, hP, ?_⟩
    have hz := hp.shape.zero nt el hel rl (by rw [hP]; exact hr)
    rw [hz]
    obtain ⟨rl', _, xs, hr', _, hxs, _⟩ := costOf_inv hx
    obtain rfl : rl' = rl := Option.some.inj (hr'.symm.trans hr)
    exact below_zeros E s' rl'.1 kids (costOfList_length E kids rl'.1 xs hxs)

theorem WInvm.reset {E : Env S} {s : St S} (hw : WInvm E F s) :
    WInvm E F { s with failedByEmpties := false } ∧ ∀ S', FRm E F s S' → FRm E F { s with failedByEmpties := false } S' :=
  ⟨⟨CInv.of_eq (s := s) (fun _ => rfl) (fun _ => rfl) (fun _ _ => rfl) hw.c, OI.of_eq (s := s) (fun _ => rfl) (fun _ => rfl) hw.o,
     hw.e.of_tables (fun _ => rfl) (fun _ => rfl) (fun _ => rfl) rfl, fun S' => (hw.cr S').of_same rfl (fun _ => rfl)⟩,
   fun _ hh => hh.of_same ⟨rfl, rfl, rfl, rfl⟩ (Ext.of_eq fun _ => rfl)⟩

theorem gk_resume (E : Env S) (hP : P ∨ E.fixEmptied = true) (hpos : PosW E) (fuel : Nat) {s s1 : St S} {n : Nat} {failed : Bool}
    {fr : Frame} {ys : List Prog} {res : Res}
    (hg : GKm E F { st := s, started := true, n := n, failed := failed, frame := some fr } ys) (hm : P → Marks E s (some fr))
    (hr : resume E fuel s E.G.start fr = some (s1, res)) :
    RKpost E F P (fr.cost.fin + 1) s E.G.start fr (s1, res) ∧ (∀ S', S' ≠ E.G.start → FRP E F P s1 S') ∧
    s1.clOf E.G.start ≠ [] ∧ (∀ p ∈ ys, ∃ c, c ∈ s1.clOf E.G.start ∧ costOf E p E.G.start = some c.fin) ∧
    fr.cost ∈ s1.clOf E.G.start := by
  have hw : WInvm E F s := hg.w
  obtain ⟨hk, _⟩ := hg.fr fr rfl
  have hfro : ∀ S', S' ≠ E.G.start → FRP E F P s S' := fun S' hS =>
    ⟨hg.fro S' hS, fun hp => (hm hp).idle S' (fun e => absurd e hS)⟩
  -- any bound above the cost of the query does: nothing is suspended above the generator's own query
  have hpost := (compl_runs E hP hpos fuel).rs hr _ hw (fun hp => (hm hp).e4) (fun S' hS _ => hfro S' hS) hk
    (fun hp => (hm hp).hg2 fr rfl) (rat_lt_succ fr.cost.fin)
  have c2 := (run_ext E fuel).rs hr
  refine ⟨hpost, fun S' hS => (hfro S' hS).keep hpost.keep c2 (hpost.frp S' hS), fun h0 => ?_, fun p' hp' => ?_,
    (c2 E.G.start).subset (List.mem_of_getElem? hk.fo.2)⟩
  · have := (c2 E.G.start).length_le
    rw [h0] at this
    exact hg.ne (List.length_eq_zero_iff.mp (by simpa using this))
  · obtain ⟨c, m1, m2⟩ := hg.yc p' hp'
    exact ⟨c, (c2 E.G.start).subset m1, m2⟩

theorem nextLoop_k (E : Env S) (hP : P ∨ E.fixEmptied = true) (hpos : PosW E) (fuel k : Nat) (s : St S) (n : Nat) (failed : Bool)
    (fro : Option Frame) (r : Gen S × Option Prog) (h : nextLoop E fuel k s n failed fro = some r) :
    ∀ ys, GKm E F { st := s, started := true, n := n, failed := failed, frame := fro } ys → (P → Marks E s fro) →
      GKm E F r.1 (ys ++ r.2.toList) ∧ (P → Marks E r.1.st r.1.frame) ∧ (r.2 = none → r.1.finished = true) := by
  apply nextLoop_induct E fuel ?nl_yield ?nl_stop ?nl_next ?nl_end ?nl_enter k s n failed fro r h
  case nl_yield =>
    intro s n failed fr s1 p fr1 hr ys hg hm
    obtain ⟨g, hfro1, hne1, hyc1, hmem⟩ := gk_resume E hP hpos fuel hg hm hr
    obtain ⟨hk, hci, _⟩ := hg.fr fr rfl
    have c := ((cost_all E fuel).rs hr hg.w.c hk.fc).2 p fr1 rfl
    refine ⟨
      { started := rfl, w := g.w, e4 := trivial, fro := fun S' hS => (hfro1 S' hS).1,
        fr := fun fr' he => (by
          cases he
          exact ⟨(g.yield p fr1 rfl).1, by rw [c.ci, hci], fun hh => (by cases hh), Or.inl (g.yield p fr1 rfl).2.1⟩),
        idle := fun he => (by cases he), fin := fun hh => (by cases hh), ne := hne1, yb := fun ci q hq => ?_, yc := fun p' hp' => ?_ },
      fun hp => ⟨g.e4 hp, fun S' hS => (hfro1 S' (fun e => by cases hS e)).2 hp, fun fr' he => (by cases he; exact (g.yield p fr1 rfl).2.2)⟩,
      fun hh => (by cases hh)⟩
    · simp only [Option.toList_some, List.mem_append, List.mem_singleton]
      rcases g.bank ci q hq with h' | ⟨fr', h'⟩
      · exact Or.inl (hg.yb ci q h')
      · cases h'; exact Or.inr rfl
    · simp only [Option.toList_some, List.mem_append, List.mem_singleton] at hp'
      rcases hp' with h' | rfl
      · exact hyc1 p' h'
      · exact ⟨fr.cost, hmem, c.price⟩
  case nl_stop =>
    -- the early stop is not reached: a query that generated nothing but processed an element sets `_failed_by_empties`
    intro s n failed fr s1 hr hf ys hg hm
    have g := (gk_resume E hP hpos fuel hg hm hr).1
    obtain ⟨_, _, hfail, hproc⟩ := hg.fr fr rfl
    simp only [Bool.and_eq_true, Bool.not_eq_true'] at hf
    have := g.failed hproc rfl (hfail hf.1)
    rw [hf.2] at this; cases this
  case nl_next =>
    intro s n failed fr s1 r hr ih ys hg hm
    obtain ⟨g, hfro1, hne1, hyc1, _⟩ := gk_resume E hP hpos fuel hg hm hr
    obtain ⟨hk, hci, _⟩ := hg.fr fr rfl
    have hci : fr.ci = n := hci
    have hl := (resume_ret_last E hpos hg.w.c hg.w.o hk.fc hk.fo hci hr).2.2
    obtain ⟨q1, _, q3⟩ := g.ret rfl
    have hidle1 : (n + 1 + 1 = (s1.clOf E.G.start).length ∧
          ∀ c, (s1.clOf E.G.start)[n + 1]? = some c → ∃ e q, s1.queueOf E.G.start = e :: q ∧ e.cost = c) ∨
        ((s1.clOf E.G.start).length ≤ n + 1 ∧ s1.queueOf E.G.start = []) := by
      rcases g.next rfl with ⟨a1, a2⟩ | ⟨e, q, a1, a2⟩
      · right; rw [hci] at a2; exact ⟨Nat.le_of_eq a2, a1⟩
      · left
        rw [hci] at a2
        refine ⟨hl.resolve_right (Nat.not_le.mpr (List.getElem?_eq_some_iff.mp a2).1), fun c hc => ⟨e, q, a1, ?_⟩⟩
        rw [a2] at hc; exact Option.some.inj hc
    refine ih ys
      { started := rfl, w := g.w, e4 := trivial, fro := fun S' hS => (hfro1 S' hS).1, fr := fun fr' he => (by cases he),
        idle := fun _ => ⟨q1.1, fun ci hen => Nat.lt_succ_of_le (hci ▸ q3 ci hen), hidle1⟩, fin := fun hh => (by cases hh), ne := hne1,
        yb := fun ci q hq => ?_, yc := hyc1 }
      (fun hp => ⟨g.e4 hp, fun S' _ => ?_, fun fr' he => (by cases he)⟩)
    · rcases g.bank ci q hq with h' | ⟨fr', h'⟩
      · exact hg.yb ci q h'
      · cases h'
    · by_cases hS : S' = E.G.start
      · subst hS; exact q1.2 hp
      · exact (hfro1 S' hS).2 hp
  case nl_end =>
    intro s n failed hget ys hg hm
    obtain ⟨i1, i2, i3⟩ := hg.idle rfl
    dsimp only at i1 i2 i3
    obtain ⟨hw0, hfr0⟩ := hg.w.reset
    have hlen : (s.clOf E.G.start).length ≤ n := List.getElem?_eq_none_iff.mp hget
    have hq0 : s.queueOf E.G.start = [] := by
      rcases i3 with ⟨a1, _⟩ | ⟨_, a2⟩
      · omega
      · exact a2
    exact ⟨
      { started := rfl, w := hw0, e4 := trivial, fro := fun S' hS => hfr0 S' (hg.fro S' hS), fr := fun fr' he => (by cases he),
        idle := fun _ => ⟨hfr0 _ i1, fun ci hen => Nat.lt_succ_of_lt (i2 ci hen), Or.inr ⟨Nat.le_succ_of_le hlen, hq0⟩⟩,
        fin := fun _ => ⟨rfl, hq0⟩, ne := hg.ne,
        yb := fun ci q hq => (by simp only [Option.toList_none, List.append_nil]; exact hg.yb ci q hq),
        yc := fun p' hp' => (by simp only [Option.toList_none, List.append_nil] at hp'; exact hg.yc p' hp') },
      fun hp => ⟨(hm hp).e4, fun S' _ => (hm hp).idle S' (fun _ => rfl), fun fr he => (by cases he)⟩, fun _ => rfl⟩
  case nl_enter =>
    intro s n failed c r hget ih ys hg hm
    obtain ⟨i1, i2, i3⟩ := hg.idle rfl
    dsimp only at i1 i2 i3
    obtain ⟨hw0, hfr0⟩ := hg.w.reset
    have hlt : n < (s.clOf E.G.start).length := (List.getElem?_eq_some_iff.mp hget).1
    obtain ⟨hl, hhead⟩ : n + 1 = (s.clOf E.G.start).length ∧
        ∀ c, (s.clOf E.G.start)[n]? = some c → ∃ e q, s.queueOf E.G.start = e :: q ∧ e.cost = c := by
      rcases i3 with h1 | ⟨h1, _⟩
      · exact h1
      · omega
    have hnotent : ¬ Entered s E.G.start n := fun hen => Nat.lt_irrefl _ (i2 n hen)
    exact ih ys
      { started := rfl, w := hw0, e4 := trivial, fro := fun S' hS => hfr0 S' (hg.fro S' hS),
        fr := fun fr' he => (by cases he; exact ⟨FrKm.fresh hw0 (hfr0 _ i1) hget hl hnotent, rfl, fun _ => rfl, Or.inr (hhead c hget)⟩),
        idle := fun he => (by cases he), fin := fun hh => (by cases hh), ne := hg.ne, yb := hg.yb, yc := hg.yc }
      (fun hp => ⟨(hm hp).e4, fun S' _ => (hm hp).idle S' (fun _ => rfl), fun fr he hh => (by cases he; cases hh)⟩)

/-- `fin` says nothing of a generator that is not finished, and no other field reads `finished` -/
theorem GKm.unfinished {E : Env S} {g : Gen S} {ys : List Prog} (hg : GKm E F g ys) :
    GKm E F { st := g.st, started := true, n := g.n, failed := g.failed, frame := g.frame } ys :=
  { hg with started := rfl, fin := fun h => (by cases h) }

theorem next_k (E : Env S) (hP : P ∨ E.fixEmptied = true) (hfle : ∀ q, F q = true → E.filter q = true) (hnd : RowsNodup E.G)
    (hst : StableAfter E) (hprod : Productive E) (hpos : PosW E) (fuel : Nat) (g : Gen S) (r : Gen S × Option Prog) (ys : List Prog)
    (htk : TKm E F g ys) (hm : P → g.started = true → Marks E g.st g.frame) (h : next E fuel g = some r) :
    TKm E F r.1 (ys ++ r.2.toList) ∧ (P → r.1.started = true → Marks E r.1.st r.1.frame) ∧ (r.2 = none → r.1.finished = true) := by
  rcases next_cases h with ⟨hfin, rfl⟩ | ⟨hs, h⟩ | ⟨hns, s, hp, h⟩
  · exact ⟨by simpa using htk, hm, fun _ => hfin⟩
  · rcases htk with ⟨h1, _, _⟩ | hg
    · rw [h1] at hs; cases hs
    · obtain ⟨a, b, c⟩ := nextLoop_k E hP hpos fuel _ _ _ _ _ _ h ys hg.unfinished (fun hp => hm hp hs)
      exact ⟨Or.inr a, fun hp _ => b hp, c⟩
  · rcases htk with ⟨_, _, h2, rfl⟩ | hg
    · rw [h2] at hp
      obtain ⟨k1, k2, k3, k4, k5⟩ := prologue_k (P := P) E F hfle hnd hst hprod hpos fuel s hp
      have hlen := (prologue_pi E hnd fuel s hp).len E.G.start
      have hne := prologue_start_ne E fuel s hp
      have hl1 : 0 + 1 = (s.clOf E.G.start).length := by
        cases hcl : s.clOf E.G.start with
        | nil => exact absurd hcl hne
        | cons c0 r0 => rw [hcl] at hlen; simp at hlen ⊢; omega
      obtain ⟨a, b, c⟩ := nextLoop_k E hP hpos fuel _ _ _ _ _ _ h []
        { started := rfl, w := k1, e4 := trivial, fro := fun S' _ => (k3 S').1, fr := fun fr he => (by cases he),
          idle := fun _ => ⟨(k3 _).1, fun ci hen => absurd hen (k4 _ ci), Or.inl ⟨hl1, prologue_he E fuel s hp⟩⟩,
          fin := fun hh => (by cases hh), ne := hne, yb := fun ci q hq => (by rw [k5] at hq; cases hq), yc := fun p hp' => (by cases hp') }
        (fun hp => ⟨k2 hp, fun S' _ => (k3 S').2 hp, fun fr he => (by cases he)⟩)
      exact ⟨Or.inr a, fun hp _ => b hp, c⟩
    · rw [hg.started] at hns; cases hns

theorem take_k (E : Env S) (hP : P ∨ E.fixEmptied = true) (hfle : ∀ q, F q = true → E.filter q = true) (hnd : RowsNodup E.G)
    (hst : StableAfter E) (hprod : Productive E) (hpos : PosW E) (fuel : Nat) :
    ∀ (k : Nat) (g : Gen S) (acc : List Prog) (r : Gen S × List Prog × Bool), TKm E F g acc →
      (P → g.started = true → Marks E g.st g.frame) → take E fuel k g acc = some r →
      TKm E F r.1 r.2.1 ∧ (P → r.1.started = true → Marks E r.1.st r.1.frame) ∧ (r.2.2 = true → r.1.finished = true) := by
  intro k g acc r htk hm
  refine take_induct E fuel (I := fun g acc => TKm E F g acc ∧ (P → g.started = true → Marks E g.st g.frame))
    (Q := fun g acc fin => TKm E F g acc ∧ (P → g.started = true → Marks E g.st g.frame) ∧ (fin = true → g.finished = true))
    (fun _ _ hi => ⟨hi.1, hi.2, fun hh => by cases hh⟩) (fun g acc g' hi hn => ?_) (fun g acc g' p hi hn => ?_) k g acc r ⟨htk, hm⟩
  · obtain ⟨a, b, c⟩ := next_k E hP hfle hnd hst hprod hpos fuel g _ acc hi.1 hi.2 hn
    exact ⟨by simpa using a, b, fun _ => c rfl⟩
  · obtain ⟨a, b, _⟩ := next_k E hP hfle hnd hst hprod hpos fuel g _ acc hi.1 hi.2 hn
    exact ⟨by simpa using a, b⟩

theorem take_new (E : Env S) (hnd : RowsNodup E.G) (hst : StableAfter E) (hprod : Productive E) (hpos : PosW E)
    (fuel k : Nat) (r : Gen S × List Prog × Bool) (h : take E fuel k (Gen.new E.G) [] = some r) :
    TKm E E.filter r.1 r.2.1 ∧ (r.2.2 = true → r.1.finished = true) :=
  have ⟨a, _, c⟩ := take_k (P := True) E (Or.inl trivial) (fun _ hq => hq) hnd hst hprod hpos fuel k _ _ r
    (Or.inl ⟨rfl, rfl, rfl, rfl⟩) (fun _ hs => by cases hs) h
  ⟨a, c⟩

theorem GKm.prefix_complete {E : Env S} {g : Gen S} {ys : List Prog} (hg : GKm E F g ys) (p q : Prog) (x y : Rat) (hp : p ∈ ys)
    (hy : costOf E p E.G.start = some y) (hcl : clean F q = true) (hx : costOf E q E.G.start = some x) (hlt : x < y) : q ∈ ys := by
  obtain ⟨c, hc1, hc2⟩ := hg.yc p hp
  rw [hy] at hc2
  have hyc : y = c.fin := Option.some.inj hc2
  obtain ⟨L, hlast⟩ := getLast_of_ne hg.ne
  have hle := le_last_of_pairwise _ (hg.w.o.mono E.G.start) L hlast c hc1
  obtain ⟨i, e, _, _, g3⟩ := hg.w.cr E.G.start q x L hcl hx hlast (Std.lt_of_lt_of_le (hyc ▸ hlt) hle)
  exact hg.yb i q g3

theorem GKm.complete {E : Env S} {g : Gen S} {ys : List Prog} (hg : GKm E F g ys) (hfin : g.finished = true)
    (q : Prog) (x : Rat) (hcl : clean F q = true) (hx : costOf E q E.G.start = some x) : q ∈ ys := by
  obtain ⟨hfr, hq⟩ := hg.fin hfin
  obtain ⟨L, hlast⟩ := getLast_of_ne hg.ne
  cases q with
  | node f kids =>
    obtain ⟨rl, hr⟩ := rule_of_cost E E.G.start f kids x hx
    rcases ((hg.idle hfr).1.acc (hg.w.cr _) hlast) f kids x rl hcl hx hr with ⟨i, _, _, _, g3⟩ | ⟨el, g1, _⟩ | g
    · exact hg.yb i _ g3
    · rw [hq] at g1; cases g1
    · exact g.elim

theorem prefix_complete (E : Env S) (hnd : RowsNodup E.G) (hst : StableAfter E) (hprod : Productive E) (hpos : PosW E)
    (fuel k : Nat) (r : Gen S × List Prog × Bool) (h : take E fuel k (Gen.new E.G) [] = some r)
    (p q : Prog) (x y : Rat) (hp : p ∈ r.2.1) (hy : costOf E p E.G.start = some y) (hcl : clean E.filter q = true)
    (hx : costOf E q E.G.start = some x) (hlt : x < y) : q ∈ r.2.1 := by
  rcases (take_new E hnd hst hprod hpos fuel k r h).1 with ⟨_, _, _, h3⟩ | hg
  · rw [h3] at hp; cases hp
  · exact hg.prefix_complete p q x y hp hy hcl hx hlt

/-- `r.2.2 = true`: `next` raised StopIteration -/
theorem complete_at_stop (E : Env S) (hnd : RowsNodup E.G) (hst : StableAfter E) (hprod : Productive E) (hpos : PosW E)
    (fuel k : Nat) (r : Gen S × List Prog × Bool) (h : take E fuel k (Gen.new E.G) [] = some r) (hfin : r.2.2 = true)
    (q : Prog) (x : Rat) (hcl : clean E.filter q = true) (hx : costOf E q E.G.start = some x) : q ∈ r.2.1 := by
  obtain ⟨htk, hf⟩ := take_new E hnd hst hprod hpos fuel k r h
  rcases htk with ⟨_, h2, _, _⟩ | hg
  · rw [h2] at hf; cases hf hfin
  · exact hg.complete (hf hfin) q x hcl hx

theorem yields_priced (E : Env S) (hnd : RowsNodup E.G) (hst : StableAfter E) (hprod : Productive E) (hpos : PosW E)
    (fuel k : Nat) (r : Gen S × List Prog × Bool) (h : take E fuel k (Gen.new E.G) [] = some r) :
    ∀ p ∈ r.2.1, ∃ x, costOf E p E.G.start = some x := by
  intro p hp
  rcases (take_new E hnd hst hprod hpos fuel k r h).1 with ⟨_, _, _, h3⟩ | hg
  · rw [h3] at hp; cases hp
  · obtain ⟨c, _, hc⟩ := hg.yc p hp
    exact ⟨c.fin, hc⟩

theorem take_length (E : Env S) (fuel : Nat) : ∀ (k : Nat) (g : Gen S) (acc : List Prog) (r : Gen S × List Prog × Bool),
    take E fuel k g acc = some r → r.2.2 = false → r.2.1.length = acc.length + k :=
  fun k g acc r h => (Iter.take_length _ k g acc r (take_eq E fuel k g acc ▸ h)).2

mutual
  theorem clean_accept_all (f : Prog → Bool) (hf : ∀ t, f t = true) : ∀ t : Prog, clean f t = true
    | .node F kids => by simp only [clean, hf, Bool.true_and]; exact cleanList_accept_all f hf kids
  theorem cleanList_accept_all (f : Prog → Bool) (hf : ∀ t, f t = true) : ∀ ts : List Prog, cleanList f ts = true
    | [] => rfl
    | t :: ts => by simp only [cleanList, Bool.and_eq_true]; exact ⟨clean_accept_all f hf t, cleanList_accept_all f hf ts⟩
end

end PS.Beap
