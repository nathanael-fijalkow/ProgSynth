/- On an ACYCLIC grammar (a rank decreasing along the rules) the depth-first initialisation
   `_init_non_terminal_` alone produces a fixpoint of `_reevaluate_` — re-evaluation is not needed:
   `StableAfter E` holds whatever the flag `is_recursive()`. -/
import PS.Proofs.Enum.BeapMin
namespace PS.Beap
open PS PS.G PS.Heapq
set_option linter.unusedSectionVars false
variable {S : Type} [DecidableEq S]

/-- the grammar is acyclic: `rank` decreases along the rules -/
def Ranked (E : Env S) (rank : NT S Unit → Nat) : Prop :=
  ∀ nt P rl, E.G.rule? nt P = some rl → ∀ a ∈ rl.1, rank (ntOf a) < rank nt

theorem ranked_of_check (E : Env S) (rank : NT S Unit → Nat)
    (h : E.G.rules.all (fun r => r.2.all (fun rule => rule.2.1.all (fun a => decide (rank (ntOf a) < rank r.1)))) = true) :
    Ranked E rank := by
  intro nt P rl hr a ha
  have := AList.lookup₂_of_all (p := fun nt _ rule => rule.1.all fun a => decide (rank (ntOf a) < rank nt)) h
    ((TT.rule?_eq_lookup₂ E.G nt P).symm.trans hr)
  exact of_decide_eq_true (List.all_eq_true.mp this a ha)

namespace Cost
theorem add_assoc_nonneg (a b c : Cost) (ha : 0 ≤ a.inf) (hb : 0 ≤ b.inf) (hc : 0 ≤ c.inf) : (a + b) + c = a + (b + c) := by
  show Cost.add (Cost.add a b) c = Cost.add a (Cost.add b c)
  unfold Cost.add
  simp only
  by_cases h : a.inf + b.inf + c.inf = 0
  · have h1 : a.inf = 0 := by omega
    have h2 : b.inf = 0 := by omega
    have h3 : c.inf = 0 := by omega
    simp [h1, h2, h3, Rat.add_assoc]
  · have h' : ¬ a.inf + (b.inf + c.inf) = 0 := by omega
    simp only [h, h', if_false]
    congr 1; omega
end Cost

/-- shifting the start of the sum: `w + (0 + c₁ + … + cₙ) = (w + c₁ + … + cₙ)` when no count is negative -/
theorem sumFirst_shift (s : St S) (hnn : ∀ nt c rest, s.clOf nt = c :: rest → 0 ≤ c.inf) (w : Cost) (hw : 0 ≤ w.inf)
    (as : List (Ty × S)) (acc acc' r : Cost) (ha : 0 ≤ acc.inf) (he : acc' = w + acc) (h : sumFirst s as acc' = some r) :
      ∃ r0, sumFirst s as acc = some r0 ∧ r = w + r0 := by
  fun_induction sumFirst s as acc' generalizing acc with
  | case1 => cases h; exact ⟨acc, rfl, he⟩
  | case2 => cases h
  | case3 a as acc' c0 rest0 hcl ih =>
    rw [sumFirst, hcl]
    have hc0 := hnn _ c0 rest0 hcl
    exact ih (acc + c0) (by simp only [Cost.add_inf]; omega) (by rw [he, Cost.add_assoc_nonneg w acc c0 hw ha hc0]) h

/-- the element is priced from the current first costs (`Stable`: every queued element is) -/
def Priced (E : Env S) (s : St S) (nt : NT S Unit) (el : HeapEl) : Prop :=
  ∃ el', recost E s nt el = some el' ∧ el'.cost = el.cost

/-- the arguments of the rules of the elements are initialised, not in progress, and different from `nt` -/
def ArgsOK (E : Env S) (stk : List (NT S Unit)) (s : St S) (nt : NT S Unit) (P : Sym) : Prop :=
  ∀ rl, E.G.rule? nt P = some rl → ∀ a ∈ rl.1, s.clOf (ntOf a) ≠ [] ∧ ntOf a ∉ stk ∧ ntOf a ≠ nt

/-- what `AInv` says of a non-terminal that is initialised and not on the stack -/
def QProg (E : Env S) (stk : List (NT S Unit)) (s : St S) (nt : NT S Unit) : Prop :=
  ∀ el, el ∈ s.queueOf nt → Priced E s nt el ∧ ArgsOK E stk s nt el.P

theorem priced_keep (E : Env S) (stk : List (NT S Unit)) (s s' : St S) (nt : NT S Unit) (el : HeapEl) (ex : Option (NT S Unit))
    (hp : Priced E s nt el) (ha : ArgsOK E stk s nt el.P) (hex : ∀ x, ex = some x → x = nt ∨ s.clOf x = [] ∨ x ∈ stk) (hk : Keep ex s s') :
    Priced E s' nt el ∧ ArgsOK E stk s' nt el.P := by
  have hcl : ∀ rl, E.G.rule? nt el.P = some rl → ∀ a ∈ rl.1, s'.clOf (ntOf a) = s.clOf (ntOf a) := by
    intro rl hr a ha'
    obtain ⟨g1, g2, g3⟩ := ha rl hr a ha'
    refine (hk _ ?_ g1).1
    intro he
    rcases hex _ he.symm with h | h | h
    · exact g3 h
    · exact g1 h
    · exact g2 h
  obtain ⟨el', h1, h2⟩ := hp
  refine ⟨⟨el', ?_, h2⟩, fun rl hr a ha' => ?_⟩
  · rw [recost_congr E s s' nt el hcl]; exact h1
  · obtain ⟨g1, g2, g3⟩ := ha rl hr a ha'
    exact ⟨by rw [hcl rl hr a ha']; exact g1, g2, g3⟩

theorem QProg.keep {E : Env S} {stk : List (NT S Unit)} {s s' : St S} {nt : NT S Unit} (h : QProg E stk s nt)
    (ex : Option (NT S Unit)) (hex : ∀ x, ex = some x → x = nt ∨ s.clOf x = [] ∨ x ∈ stk) (hk : Keep ex s s')
    (hq : s'.queueOf nt = s.queueOf nt) : QProg E stk s' nt := fun el hel =>
  let ⟨p1, p2⟩ := h el (hq ▸ hel)
  priced_keep E stk s s' nt el ex p1 p2 hex hk

theorem QProg.restack {E : Env S} {stk stk' : List (NT S Unit)} {s : St S} {nt : NT S Unit} (h : QProg E stk s nt)
    (hst : ∀ y, s.clOf y ≠ [] → y ∉ stk → y ∉ stk') : QProg E stk' s nt := fun el hel =>
  let ⟨p1, p2⟩ := h el hel
  ⟨p1, fun rl hr a ha => let ⟨g1, g2, g3⟩ := p2 rl hr a ha; ⟨g1, hst _ g1 g2, g3⟩⟩

/-- invariant of the depth-first initialisation; `stk` = the non-terminals whose loop over the rules is running -/
def AInv (E : Env S) (stk : List (NT S Unit)) (s : St S) : Prop :=
  ∀ nt, s.clOf nt ≠ [] → nt ∈ stk ∨ QProg E stk s nt

/-- the tables of a non-terminal on the stack may change: no finished non-terminal reads them -/
theorem AInv.frame {E : Env S} {stk : List (NT S Unit)} {s s' : St S} {nt : NT S Unit} (hs : AInv E stk s) (hmem : nt ∈ stk)
    (hcl : ∀ x, x ≠ nt → s'.clOf x = s.clOf x) (hq : ∀ x, x ≠ nt → s'.queueOf x = s.queueOf x) : AInv E stk s' := by
  intro x hx
  by_cases hxe : x = nt
  · exact Or.inl (hxe ▸ hmem)
  · refine (hs x (hcl x hxe ▸ hx)).imp id fun h => h.keep (some nt) (fun y hy => ?_) (fun y hy _ => ?_) (hq x hxe)
    · cases hy; exact Or.inr (Or.inr hmem)
    · have hyne : y ≠ nt := fun e => hy (by rw [e])
      exact ⟨hcl y hyne, hq y hyne⟩

theorem AInv.setCL {E : Env S} {stk : List (NT S Unit)} {s : St S} {nt : NT S Unit} (hs : AInv E stk s) (hmem : nt ∈ stk)
    (cl : List Cost) : AInv E stk (s.setCL nt cl) :=
  hs.frame hmem (fun x hx => by rw [St.clOf_setCL, if_neg hx]) (fun _ _ => rfl)

theorem AInv.setQueue {E : Env S} {stk : List (NT S Unit)} {s : St S} {nt : NT S Unit} (hs : AInv E stk s) (hmem : nt ∈ stk)
    (q : List HeapEl) : AInv E stk (s.setQueue nt q) :=
  hs.frame hmem (fun _ _ => rfl) (fun x hx => by rw [St.queueOf_setQueue, if_neg hx])

theorem AInv.enter {E : Env S} {stk : List (NT S Unit)} {s : St S} {nt : NT S Unit} (hs : AInv E stk s) (hnil : s.clOf nt = []) :
    AInv E (nt :: stk) s := fun x hx =>
  (hs x hx).imp (List.mem_cons_of_mem _) fun h => h.restack fun _ hy hn hm =>
    (List.mem_cons.mp hm).elim (fun e => hy (e ▸ hnil)) hn

theorem AInv.leave {E : Env S} {stk : List (NT S Unit)} {s : St S} {nt : NT S Unit} (hs : AInv E (nt :: stk) s)
    (hq : QProg E stk s nt) : AInv E stk s := by
  intro x hx
  by_cases hxe : x = nt
  · exact Or.inr (hxe ▸ hq)
  · exact (hs x hx).imp (fun h => (List.mem_cons.mp h).resolve_left hxe) fun h =>
      h.restack fun y _ hn hm => hn (List.mem_cons_of_mem _ hm)

variable (rank : NT S Unit → Nat)

theorem not_mem_of_rank (stk : List (NT S Unit)) (nt : NT S Unit) (h : ∀ x ∈ stk, rank nt < rank x) : nt ∉ stk :=
  fun hm => Nat.lt_irrefl _ (h nt hm)

theorem init_ainv (E : Env S) (hnd : RowsNodup E.G) (hrk : Ranked E rank) : ∀ n, Inits E n
    (fun s nt s' => ∀ stk, MInv E s → FreshQ s → AInv E stk s → (∀ x ∈ stk, rank nt < rank x) → AInv E stk s')
    (fun s nt rest s' => ∀ stk, MInv E s → FreshQ s → AInv E (nt :: stk) s → (∀ x ∈ stk, rank nt < rank x) →
      (∀ P rl, (P, rl) ∈ rest → E.G.rule? nt P = some rl) → QProg E (nt :: stk) s nt → s.clOf nt ≠ [] →
      AInv E (nt :: stk) s' ∧ QProg E (nt :: stk) s' nt)
    (fun s as _ r => ∀ stk, MInv E s → FreshQ s → AInv E stk s → (∀ a ∈ as, ∀ x ∈ stk, rank (ntOf a) < rank x) →
      AInv E stk r.1) := by
  refine init_induct E ?in_done ?in_run ?ir_nil ?ir_cons ?ia_nil ?ia_cons
  case in_done => intro _ s nt cl _ _ stk _ _ hs _; exact hs
  case in_run =>
    intro _ s nt rs s1 e q hcl hrs _ ih _ stk hm hf hs hlt
    have hclof : s.clOf nt = [] := St.clOf_of_lookup hcl
    have htop : nt ∈ nt :: stk := List.mem_cons_self ..
    have hm0 : MInv E (s.setCL nt [Cost.big]) :=
      minv_each.mpr ((minv_each.mp hm).setCL nt _ (minv_enter E nt rs _ hrs ((minv_each.mp hm).costs nt)))
    have hqp0 : QProg E (nt :: stk) (s.setCL nt [Cost.big]) nt := fun el hel => by
      rw [show (s.setCL nt [Cost.big]).queueOf nt = [] from hf nt hclof] at hel; cases hel
    obtain ⟨q1, q3⟩ := ih stk hm0 (hf.setCL nt (List.cons_ne_nil _ _)) ((hs.enter hclof).setCL htop _) hlt
      (fun P rl hmem => rule_of_mem hnd hrs hmem) hqp0 (by rw [St.clOf_setCL, if_pos rfl]; exact List.cons_ne_nil _ _)
    -- only the cost list of `nt` changes at the end, and `nt` leaves the stack with its queue priced
    refine (q1.setCL htop _).leave ((q3.keep (some nt) (fun _ hy => ?_) (keep_setCL s1 nt _) rfl).restack
      fun _ _ hn hm => hn (List.mem_cons_of_mem _ hm))
    cases hy; exact Or.inl rfl
  case ir_nil => intro _ s nt stk _ _ hs _ _ hqp _; exact ⟨hs, hqp⟩
  case ir_cons =>
    intro n s nt P rl rest w s1 cost s' hw hia ihA _ ihR stk hm hf hs hlt hrest hqp hne
    have hr : E.G.rule? nt P = some rl := hrest P rl (List.mem_cons_self ..)
    have htop : nt ∈ nt :: stk := List.mem_cons_self ..
    have hargs : ∀ a ∈ rl.1, ∀ x ∈ nt :: stk, rank (ntOf a) < rank x := by
      intro a ha x hx
      have h1 := hrk nt P rl hr a ha
      rcases List.mem_cons.mp hx with rfl | hx'
      · exact h1
      · exact Nat.lt_trans h1 (hlt x hx')
    obtain ⟨g2, g3, g4, hf1'⟩ := (init_keep E n).args hia
    have hf1 := hf1' hf
    have hm1 := (init_minv E hnd n).args hia hm
    obtain ⟨hcl1, hq1⟩ := g2 nt (by simp) hne
    have hnn : ∀ x c rest, s1.clOf x = c :: rest → 0 ≤ c.inf := fun x c rest hc => (hm1.cl x c rest hc).1
    obtain ⟨r0, hr0, hcost⟩ := sumFirst_shift s1 hnn (Cost.ofRat w) (by simp) rl.1 (Cost.ofRat 0) (Cost.ofRat w) cost
      (by simp) (by show _ = Cost.add _ _; unfold Cost.add; simp [Cost.ofRat, Rat.add_zero]) g4
    have hargsok : ArgsOK E (nt :: stk) s1 nt P := by
      intro rl' hr' a ha
      rw [hr] at hr'; cases hr'
      have hnot := not_mem_of_rank rank _ _ (hargs a ha)
      exact ⟨g3 a ha, hnot, fun he => hnot (he ▸ htop)⟩
    have hpr0 : Priced E s1 nt ⟨cost, List.replicate rl.1.length 0, P⟩ := by
      exact ⟨{ cost := Cost.ofRat w + r0, comb := List.replicate rl.1.length 0, P := P },
        recost_eq_some.mpr ⟨w, rl, r0, hw, hr, hr0, rfl⟩, hcost.symm⟩
    have hk12 := keep_push s1 nt ⟨cost, List.replicate rl.1.length 0, P⟩
    have hexnt : ∀ x, some nt = some x → x = nt ∨ s1.clOf x = [] ∨ x ∈ nt :: stk := fun x hx => by cases hx; exact Or.inl rfl
    have hqp2 : QProg E (nt :: stk) (s1.setQueue nt (Heapq.push ltE (s1.queueOf nt) ⟨cost, List.replicate rl.1.length 0, P⟩)) nt := by
      intro el hel
      rw [St.queueOf_setQueue, if_pos rfl] at hel
      rcases (mem_push _ _ _ _).mp hel with rfl | h'
      · exact priced_keep E (nt :: stk) s1 _ nt _ (some nt) hpr0 hargsok hexnt hk12
      · obtain ⟨p1, p2⟩ := hqp.keep none (fun x hx => by cases hx) g2 hq1 el h'
        exact priced_keep E (nt :: stk) s1 _ nt el (some nt) p1 p2 hexnt hk12
    have hm2 : MInv E (s1.setQueue nt (Heapq.push ltE (s1.queueOf nt) ⟨cost, List.replicate rl.1.length 0, P⟩)) :=
      hm1.setQueue nt _ (minv_push E s1 nt P rl w cost hm1 hr hw g4)
    exact ihR stk hm2 (hf1.setQueue (hcl1 ▸ hne) _) ((ihA _ hm hf hs hargs).setQueue htop _) hlt
      (fun P' rl' hm' => hrest P' rl' (List.mem_cons_of_mem _ hm')) hqp2 (hcl1 ▸ hne)
  case ia_nil => intro _ s c stk _ _ hs _; exact hs
  case ia_cons =>
    intro n s a as c s1 c0 cl0 r hin ihN _ _ ihA stk hm hf hs hrk'
    exact ihA stk ((init_minv E hnd n).nt hin hm) (((init_keep E n).nt hin).2.2 hf)
      (ihN stk hm hf hs (hrk' a (List.mem_cons_self ..))) fun b hb => hrk' b (List.mem_cons_of_mem _ hb)

/-- **on an acyclic grammar the state returned by the prologue is a fixpoint of `_reevaluate_`**, whether or
    not `_reevaluate_` runs (whatever `is_recursive()` says) -/
theorem stableAfter_of_ranked (E : Env S) (hnd : RowsNodup E.G) (hrk : Ranked E rank) : StableAfter E := by
  intro fuel s' h
  by_cases hrec : E.recursive = true
  · exact stableAfter_of_rec E hrec fuel s' h
  · obtain ⟨s1, hin, h⟩ := prologue_cases h
    unfold reevaluate at h
    simp only [hrec] at h
    cases h
    have hnil : ∀ nt, (St.empty E.G).clOf nt = [] := St.clOf_empty E.G
    have hf0 := freshQ_empty E.G
    have g1 := (init_ainv rank E hnd hrk fuel).nt hin [] (minv_empty E) hf0 (fun nt hne => absurd (hnil nt) hne)
      (fun x hx => by cases hx)
    intro nt el hel
    by_cases hcl : s'.clOf nt = []
    · rw [((init_keep E fuel).nt hin).2.2 hf0 nt hcl] at hel; cases hel
    · exact (((g1 nt hcl).resolve_left (by simp)) el hel).1

end PS.Beap
