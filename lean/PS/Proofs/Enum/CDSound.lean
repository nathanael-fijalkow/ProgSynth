/- Soundness of constant-delay search (PS/Model/Enum/ConstantDelay.lean), for every arithmetic, grammar, filter,
   fuel and history.  Filter and merge facts: what `query` yields was accepted by the filter and was not in `_deleted`
   when it was yielded.  Soundness as a state invariant: every program in a bank is derivable from the non-terminal
   of the bank, every stored pool reference points to the bank of the right argument non-terminal, every index tuple
   in a derivation queue has one index per argument. -/
import PS.Proofs.Enum.CDInit
namespace PS.CD

variable {α : Type}

/-! ## filter and merge -/

theorem mem_addDeleted (s : St α) (p : Prog) : p ∈ (s.addDeleted p).deleted := (addDeleted_deleted s p p).mpr (Or.inr rfl)

def Call.yielded : Call α → Option (Frame α × Prog)
  | .emit _ _ out => out
  | .resume _ out => out
  | _ => none

/-- a program is yielded only on the path that has tested `_deleted` and the filter -/
theorem Exec.accepted {E : Env α} {s s' : St α} {c : Call α} (h : Exec E s c s') :
    ∀ {fr' q}, c.yielded = some (fr', q) → E.filter q = true ∧ q ∉ s'.deleted := by
  induction h with
  | deleted _ _ ih | rejected _ _ _ ih | tuple _ _ ih | pools _ _ ih | ruleDone _ _ ih | leaf _ _ ih => exact ih
  | node _ _ _ _ _ _ _ _ ih => exact ih
  | yield hd hf hb =>
    intro fr' q e
    obtain ⟨_, rfl⟩ := Prod.mk.inj (Option.some.inj e)
    obtain ⟨b, l, _, _, rfl⟩ := appendBank_eq hb
    exact ⟨hf, by simpa using hd⟩
  | _ => intro _ _ e; cases e

theorem resume_yield (E : Env α) : ∀ (f : Nat) (s : St α) (fr : Frame α) (s' : St α) (fr' : Frame α) (p : Prog),
    resume E f s fr = some (.yield s' fr' p) → E.filter p = true ∧ p ∉ s'.deleted :=
  fun f _ _ _ _ _ h => ((sound E f).resume h).accepted rfl

theorem Loop.accepted {E : Env α} {s : St α} {n : Nat} {fr? : Option (Frame α)} {failed : Bool} {g' : Gen α} {out : Option Prog}
    (h : Loop E s n fr? failed g' out) : ∀ q, out = some q → E.filter q = true ∧ q ∉ g'.st.deleted := by
  induction h with
  | stop | ended => exact fun _ e => nomatch e
  | skip _ _ ih | again _ _ _ ih => exact ih
  | yield _ hr => exact fun q e => Option.some.inj e ▸ hr.accepted rfl

theorem next_yield (E : Env α) (fuel : Nat) (g g' : Gen α) (p : Prog) (h : next E fuel g = some (g', some p)) :
    E.filter p = true ∧ p ∉ g'.st.deleted := by
  rcases next_loop h with ⟨_, _, h0⟩ | ⟨s, n, fr?, failed, hl, _⟩
  · cases h0
  · exact hl.accepted p rfl

theorem take_accepted (E : Env α) (fuel : Nat) : ∀ (k : Nat) (g : Gen α) (acc : List Prog) (g' : Gen α) (ys : List Prog) (fin : Bool),
    take E fuel k g acc = some (g', ys, fin) → (∀ p ∈ acc, E.filter p = true) → ∀ p ∈ ys, E.filter p = true :=
  fun k g acc g' ys fin h ha =>
    Iter.take_rule (I := fun _ out => ∀ p ∈ out, E.filter p = true) (Q := fun _ out _ => ∀ p ∈ out, E.filter p = true)
      (fun _ _ h => h) (fun _ _ _ h _ => h)
      (fun g _ g' p h hn => List.forall_mem_append.mpr
        ⟨h, fun q hq => List.mem_singleton.mp hq ▸ (next_yield E fuel g g' p hn).1⟩)
      k g acc (g', ys, fin) ha (take_eq E fuel k g acc ▸ h)

theorem merge_deleted (E : Env α) (g : Gen α) (other : Prog) (ty : Nat) :
    other ∈ (merge E g other ty).st.deleted ∧ ∀ q ∈ g.st.deleted, q ∈ (merge E g other ty).st.deleted :=
  ⟨mem_addDeleted g.st other, fun q hq => (addDeleted_deleted g.st other q).mpr (Or.inl hq)⟩

/-- `programs.remove(other)` is `List.erase` -/
theorem removeFirst_eq_erase (p : Prog) : ∀ l : List Prog, removeFirst p l = l.erase p
  | [] => rfl
  | x :: xs => by
    rw [removeFirst, List.erase_cons, removeFirst_eq_erase p xs]
    by_cases h : x = p <;> simp [h]

theorem removeFirst_sub (p : Prog) (l : List Prog) (x : Prog) (h : x ∈ removeFirst p l) : x ∈ l :=
  List.mem_of_mem_erase (removeFirst_eq_erase p l ▸ h)

theorem removeFirst_count (p : Prog) (l : List Prog) (h : p ∈ l) : (removeFirst p l).length + 1 = l.length := by
  rw [removeFirst_eq_erase, List.length_erase_of_mem h]
  have := List.length_pos_of_mem h
  omega

theorem removeFirst_sublist (p : Prog) (l : List Prog) : (removeFirst p l).Sublist l :=
  removeFirst_eq_erase p l ▸ List.erase_sublist

theorem removeFirst_not_mem (p : Prog) (l : List Prog) (h : l.Nodup) : p ∉ removeFirst p l :=
  removeFirst_eq_erase p l ▸ h.not_mem_erase

theorem mem_removeFirst_or (p x : Prog) (l : List Prog) (h : x ∈ l) : x ∈ removeFirst p l ∨ x = p := by
  by_cases hx : x = p
  · exact Or.inr hx
  · exact Or.inl (removeFirst_eq_erase p l ▸ (List.mem_erase_of_ne hx).mpr h)

/-! ## the soundness invariant -/

inductive All2 {β γ : Type} (R : β → γ → Prop) : List β → List γ → Prop
  | nil : All2 R [] []
  | cons {x y xs ys} : R x y → All2 R xs ys → All2 R (x :: xs) (y :: ys)

theorem All2.length_eq {β γ : Type} {R : β → γ → Prop} {l1 : List β} {l2 : List γ} (h : All2 R l1 l2) :
    l1.length = l2.length := by
  induction h with
  | nil => rfl
  | cons _ _ ih => simp [ih]

theorem All2.snoc {β γ : Type} {R : β → γ → Prop} {l1 : List β} {l2 : List γ} {x : β} {y : γ} (h : All2 R l1 l2)
    (hxy : R x y) : All2 R (l1 ++ [x]) (l2 ++ [y]) := by
  induction h with
  | nil => exact .cons hxy .nil
  | cons h1 _ ih => exact .cons h1 ih

/-- a stored pool of argument position `a` refers to a bank of `a` -/
def okRef (r : Ref) (a : NT) : Prop := ∀ S ci, r = some (S, ci) → S = a

def BankOK (G : Gram) (bank : AList NT (AList Nat (List Prog))) : Prop :=
  ∀ S b ci l p, AList.lookup S bank = some b → AList.lookup ci b = some l → p ∈ l → derives G S p = true

def DerOK (bd : AList (List NT) (AList Nat (List (List Ref)))) : Prop :=
  ∀ args b ci l poss, AList.lookup args bd = some b → AList.lookup ci b = some l → poss ∈ l →
    All2 okRef poss args

def QueuesOK (qd : AList (List NT) (Q α)) : Prop :=
  ∀ args q, AList.lookup args qd = some q → QWF q ∧ ∀ cb ∈ q.contents, cb.length = args.length

def SInv (E : Env α) (s : St α) : Prop := BankOK E.G s.bankNt ∧ DerOK s.bankDer ∧ QueuesOK s.queueDer

theorem SInv.bank {E : Env α} {s : St α} (h : SInv E s) : BankOK E.G s.bankNt := h.1
theorem SInv.der {E : Env α} {s : St α} (h : SInv E s) : DerOK s.bankDer := h.2.1
theorem SInv.queues {E : Env α} {s : St α} (h : SInv E s) : QueuesOK s.queueDer := h.2.2

theorem sinv_of_eq {E : Env α} {s s' : St α} (h1 : s'.bankNt = s.bankNt) (h2 : s'.bankDer = s.bankDer)
    (h3 : s'.queueDer = s.queueDer) (h : SInv E s) : SInv E s' := by
  unfold SInv; rw [h1, h2, h3]; exact h

theorem bankOK_insert {G : Gram} {bank : AList NT (AList Nat (List Prog))} {S : NT} {b : AList Nat (List Prog)} {ci : Nat}
    {v : List Prog} (h : BankOK G bank) (hb : AList.lookup S bank = some b) (hv : ∀ p ∈ v, derives G S p = true) :
    BankOK G (AList.insert S (AList.insert ci v b) bank) :=
  fun S2 b2 c l p h1 h2 => AList.forall_insert₂ (P := fun S _ l => ∀ p ∈ l, derives G S p = true) hb
    (fun S b c l h1 h2 p => h S b c l p h1 h2) hv S2 b2 c l h1 h2 p

theorem sinv_addDeleted {E : Env α} {s : St α} (p : Prog) (h : SInv E s) : SInv E (s.addDeleted p) := by
  obtain ⟨d, e⟩ := addDeleted_eq s p
  rw [e]; exact sinv_of_eq rfl rfl rfl h

theorem sinv_ensureBank {E : Env α} {s s' : St α} {S : NT} {ci : Nat} (h : SInv E s) (he : s.ensureBank S ci = some s') :
    SInv E s' := by
  rcases ensureBank_cases he with rfl | ⟨b, hb, _, rfl⟩
  · exact h
  · exact ⟨bankOK_insert h.bank hb nofun, h.der, h.queues⟩

theorem sinv_appendBank {E : Env α} {s s' : St α} {S : NT} {ci : Nat} {p : Prog} (h : SInv E s)
    (hp : derives E.G S p = true) (he : s.appendBank S ci p = some s') : SInv E s' := by
  obtain ⟨b, l, hb, hl, rfl⟩ := appendBank_eq he
  refine ⟨bankOK_insert h.bank hb fun p2 h2 => ?_, h.der, h.queues⟩
  rcases List.mem_append.mp h2 with h3 | h3
  · exact h.bank S b _ l p2 hb hl h3
  · rw [List.mem_singleton.mp h3]; exact hp

theorem sinv_setQueueDer {E : Env α} {s : St α} {args : List NT} {q : Q α} (h : SInv E s) (hq : QWF q)
    (hl : ∀ cb ∈ q.contents, cb.length = args.length) : SInv E (s.setQueueDer args q) :=
  ⟨h.bank, h.der, AList.forall_insert (fun a q2 _ h1 => h.queues a q2 h1) ⟨hq, hl⟩⟩

/-- `self._bank_derivation[args][ci] = v` -/
theorem sinv_insertDer {E : Env α} {s : St α} {args : List NT} {b : AList Nat (List (List Ref))} {ci : Nat}
    {v : List (List Ref)} (h : SInv E s) (hb : AList.lookup args s.bankDer = some b) (hv : ∀ poss ∈ v, All2 okRef poss args) :
    SInv E { s with bankDer := AList.insert args (AList.insert ci v b) s.bankDer } :=
  ⟨h.bank, fun a b2 c l poss h1 h2 => AList.forall_insert₂ (P := fun a _ l => ∀ poss ∈ l, All2 okRef poss a) hb
    (fun a b c l h1 h2 poss => h.der a b c l poss h1 h2) hv a b2 c l h1 h2 poss, h.queues⟩

/-! ### products of pools -/

theorem derives_node {G : Gram} {S : NT} {P : Sym} {args : List NT} {w : Int} {kids : List Prog}
    (hr : G.rule? S P = some (args, w)) (hk : derivesL G args kids = true) : derives G S (.node P kids) = true := by
  simp [derives, hr, hk]

theorem cartesian_derives {G : Gram} {pools : List (List Prog)} {args : List NT}
    (hf : All2 (fun pool a => ∀ p ∈ pool, derives G a p = true) pools args) :
    ∀ tup ∈ cartesian pools, derivesL G args tup = true := by
  induction hf with
  | nil => intro tup h; rw [List.mem_singleton.mp h]; rfl
  | cons h1 _ ih =>
    intro tup h
    simp only [cartesian, List.mem_flatMap, List.mem_map] at h
    obtain ⟨x, hx, r, hr, rfl⟩ := h
    simp [derivesL, h1 x hx, ih r hr]

theorem resolve_pools {E : Env α} {s : St α} (h : BankOK E.G s.bankNt) {ps : List Ref} {args : List NT} (hf : All2 okRef ps args) :
    All2 (fun pool a => ∀ p ∈ pool, derives E.G a p = true) (ps.map s.resolve) args := by
  induction hf with
  | nil => exact .nil
  | cons h1 _ ih =>
    refine .cons (fun p hp => ?_) ih
    obtain ⟨S, ci, rfl, b, l, hb, hl, hm⟩ := mem_resolve hp
    obtain rfl := h1 S ci rfl
    exact h S b ci l p hb hl hm

/-- the invariant of a suspended `query(S, ci)`: the symbol of the popped element is a rule of `S`, the
    remaining pools refer to the banks of its argument non-terminals, the remaining tuples are derivable -/
def FInv (E : Env α) (fr : Frame α) : Prop :=
  match fr.cur with
  | none => True
  | some (P, poss, tups) => ∃ args w, E.G.rule? fr.S P = some (args, w) ∧
      (∀ ps ∈ poss, All2 okRef ps args) ∧ ∀ tup ∈ tups, derivesL E.G args tup = true

theorem succLoop_sinv (E : Env α) (args : List NT) (c : α) (comb : List Nat) (hlen : comb.length = args.length) :
    ∀ (rem i : Nat) (s s' : St α), succLoop E.A E.asserts args c comb rem i s = some s' → SInv E s → SInv E s' :=
  succLoop_rule (SInv E) fun s i x _ _ _ _ q q' hs _ _ _ _ _ hq hpush => by
    obtain ⟨hwf, hl⟩ := hs.queues args q hq
    obtain ⟨hwf', _, hperm, _, _⟩ := qwf_push E.A q q' _ E.asserts hwf hpush
    refine sinv_setQueueDer hs hwf' fun cb hcb => ?_
    rcases List.mem_append.mp (hperm.mem_iff.mp hcb) with h1 | h1
    · exact hl cb h1
    · rw [List.mem_singleton.mp h1, List.length_set, hlen]

/-! ### the machine -/

def ResOK (E : Env α) (S : NT) : Res α → Prop
  | .yield s' fr' p => SInv E s' ∧ FInv E fr' ∧ fr'.S = S ∧ derives E.G S p = true
  | .done s' => SInv E s'

structure Snd (E : Env α) (f : Nat) : Prop where
  resume : ∀ s fr r, resume E f s fr = some r → SInv E s → FInv E fr → ResOK E fr.S r
  drive : ∀ s fr s', drive E f s fr = some s' → SInv E s → FInv E fr → SInv E s'
  queryList : ∀ s S ci s' ia r, queryList E f s S ci = some (s', ia, r) → SInv E s → SInv E s' ∧ okRef r S
  argLoop : ∀ s cs ss ia agf acc s' ia' agf' acc' pre,
    argLoop E f s cs ss ia agf acc = some (s', ia', agf', acc') → SInv E s → All2 okRef acc pre →
    cs.length = ss.length → SInv E s' ∧ (agf' = false → All2 okRef acc' (pre ++ ss))
  combLoop : ∀ s args ci c combs ns hg s' ns' hg',
    combLoop E f s args ci c combs ns hg = some (s', ns', hg') → SInv E s →
    (∀ cb ∈ combs, cb.length = args.length) → SInv E s'
  queryDer : ∀ s args ci s' l, queryDer E f s args ci = some (s', l) → SInv E s →
    SInv E s' ∧ ∀ poss ∈ l, All2 okRef poss args

theorem finv_none {E : Env α} {fr : Frame α} (h : fr.cur = none) : FInv E fr := by
  unfold FInv; rw [h]; trivial

theorem finv_some {E : Env α} {fr : Frame α} {P : Sym} {poss : List (List Ref)} {tups : List (List Prog)}
    (h : fr.cur = some (P, poss, tups)) : FInv E fr ↔ ∃ args w, E.G.rule? fr.S P = some (args, w) ∧
      (∀ ps ∈ poss, All2 okRef ps args) ∧ ∀ tup ∈ tups, derivesL E.G args tup = true := by
  unfold FInv; rw [h]

/-- what a call needs beside sound tables: a sound frame, a derivable program, index tuples of the right length -/
def Call.Pre (E : Env α) : Call α → Prop
  | .emit fr p _ => FInv E fr ∧ derives E.G fr.S p = true
  | .resume fr _ => FInv E fr
  | .drive fr => FInv E fr
  | .argLoop cs ss _ _ _ _ _ _ => cs.length = ss.length
  | .combLoop args _ _ combs _ _ _ _ => ∀ cb ∈ combs, cb.length = args.length
  | _ => True

/-- what it returns beside sound tables -/
def Call.Post (E : Env α) : Call α → Prop
  | .emit fr _ out => ∀ fr' p, out = some (fr', p) → FInv E fr' ∧ fr'.S = fr.S ∧ derives E.G fr.S p = true
  | .resume fr out => ∀ fr' p, out = some (fr', p) → FInv E fr' ∧ fr'.S = fr.S ∧ derives E.G fr.S p = true
  | .queryList S _ _ r => okRef r S
  | .argLoop _ ss _ _ acc _ agf' acc' => ∀ pre, All2 okRef acc pre → agf' = false → All2 okRef acc' (pre ++ ss)
  | .queryDer args _ l => ∀ poss ∈ l, All2 okRef poss args
  | _ => True

theorem Exec.sinv {E : Env α} {s s' : St α} {c : Call α} (h : Exec E s c s') : SInv E s → c.Pre E → SInv E s' ∧ c.Post E := by
  induction h with
  | deleted _ _ ih => exact fun hs hp => ih hs hp.1
  | rejected _ _ _ ih => exact fun hs hp => ih (sinv_addDeleted _ hs) hp.1
  | yield _ _ hb =>
    intro hs hp
    refine ⟨sinv_appendBank hs hp.2 hb, fun fr' q e => ?_⟩
    obtain ⟨rfl, rfl⟩ := Prod.mk.inj (Option.some.inj e)
    exact ⟨hp.1, rfl, hp.2⟩
  | @tuple s fr P poss tup tups _ _ hcur _ ih =>
    intro hs hf
    obtain ⟨args, w, hrule, hposs, htups⟩ := (finv_some hcur).mp hf
    have hfr' : FInv E { fr with cur := some (P, poss, tups) } :=
      ⟨args, w, hrule, hposs, fun t ht => htups t (List.mem_cons_of_mem _ ht)⟩
    exact ih hs ⟨hfr', derives_node hrule (htups tup List.mem_cons_self)⟩
  | @pools s fr P ps poss _ _ hcur _ ih =>
    intro hs hf
    obtain ⟨args, w, hrule, hposs, _⟩ := (finv_some hcur).mp hf
    have hfr' : FInv E { fr with cur := some (P, poss, cartesian (ps.map s.resolve)) } :=
      ⟨args, w, hrule, fun ps' hps' => hposs ps' (List.mem_cons_of_mem _ hps'),
        cartesian_derives (resolve_pools hs.bank (hposs ps List.mem_cons_self))⟩
    exact ih hs hfr'
  | ruleDone _ _ ih => exact fun hs _ => ih hs trivial
  | exit _ _ _ hx =>
    intro hs _
    obtain ⟨c, e, f, rfl⟩ := exitQuery_eq hx
    exact ⟨sinv_of_eq rfl rfl rfl hs, fun _ _ e => nomatch e⟩
  | leaf hP _ ih =>
    intro hs hf
    have hs1 := sinv_ensureBank (s := St.setHeap _ _ _) (sinv_of_eq rfl rfl rfl hs) hP.bank
    exact ih hs1 ⟨hf, derives_node hP.rule (by simp [derivesL])⟩
  | @node s fr _ el _ _ args w s2 possibles em cl h2 _ _ hP _ _ _ _ _ _ ihq ih =>
    intro hs _
    have hs1 := sinv_ensureBank (s := St.setHeap _ _ _) (sinv_of_eq rfl rfl rfl hs) hP.bank
    obtain ⟨hs2, hposs⟩ := ihq hs1 trivial
    obtain ⟨q, e⟩ := pushNext_eq E.A s2 fr.S h2 w el cl fr.noSucc
    refine ih (e ▸ sinv_of_eq rfl rfl rfl hs2) ?_
    -- the frame goes back to the head of the loop, or starts the products of the popped rule
    show FInv E _
    cases hc : em.contains el.comb <;> simp only [FInv, Bool.false_eq_true, if_true, if_false]
    exact ⟨args, w, hP.rule, hposs, fun _ h => nomatch h⟩
  | done _ ih => exact fun hs hf => ⟨(ih hs hf).1, trivial⟩
  | next _ _ ih1 ih2 =>
    intro hs hf
    obtain ⟨h1, hp⟩ := ih1 hs hf
    exact ih2 h1 (hp _ _ rfl).1
  | empty | noCost => exact fun hs _ => ⟨hs, fun _ _ e => nomatch e⟩
  | cached => exact fun hs _ => ⟨hs, fun _ _ e => (Prod.mk.inj (Option.some.inj e)).1.symm⟩
  | query _ _ _ _ _ _ _ _ ih =>
    intro hs _
    refine ⟨(ih hs trivial).1, fun S2 ci2 e => ?_⟩
    split at e
    · cases e
    · exact (Prod.mk.inj (Option.some.inj e)).1.symm
  | @stop s cs ss _ _ acc hnil =>
    intro hs hlen
    refine ⟨hs, fun pre hacc _ => ?_⟩
    have hss : ss = [] := by
      rcases hnil with rfl | rfl
      · exact List.eq_nil_of_length_eq_zero (show ss.length = 0 from hlen ▸ rfl)
      · rfl
    rw [hss, List.append_nil]; exact hacc
  | brk _ _ ih => exact fun hs _ => ⟨(ih hs trivial).1, fun _ _ e => nomatch e⟩
  | arg _ _ _ ih1 ih2 =>
    intro hs hlen
    obtain ⟨hs1, hr⟩ := ih1 hs trivial
    obtain ⟨h', hpost⟩ := ih2 hs1 (Nat.succ.inj hlen)
    exact ⟨h', fun pre hacc e => by simpa using hpost _ (hacc.snoc hr) e⟩
  | nil => exact fun hs _ => ⟨hs, trivial⟩
  | failed _ _ _ ih1 ih2 =>
    exact fun hs hl => ih2 (ih1 hs (hl _ List.mem_cons_self)).1 fun cb hcb => hl cb (List.mem_cons_of_mem _ hcb)
  | allowed _ hsucc _ ih1 ih2 =>
    intro hs hl
    have hcomb := hl _ List.mem_cons_self
    exact ih2 (succLoop_sinv E _ _ _ hcomb _ _ _ _ hsucc (ih1 hs hcomb).1) fun cb hcb => hl cb (List.mem_cons_of_mem _ hcb)
  | @store s args ci _ _ _ _ _ _ poss s2 b l _ _ _ _ hsucc hb hlk _ ih1 ih2 =>
    intro hs hl
    have hcomb := hl _ List.mem_cons_self
    obtain ⟨hs1, hposs⟩ := ih1 hs hcomb
    have hs2 := succLoop_sinv E _ _ _ hcomb _ _ _ _ hsucc hs1
    refine ih2 (sinv_insertDer hs2 hb fun poss2 h2 => ?_) fun cb hcb => hl cb (List.mem_cons_of_mem _ hcb)
    rcases List.mem_append.mp h2 with h3 | h3
    · exact hs2.der args b _ l poss2 hb hlk h3
    · rw [List.mem_singleton.mp h3]; exact hposs [] .nil rfl
  | beyond => exact fun hs _ => ⟨hs, fun _ h => nomatch h⟩
  | stored hb hl => exact fun hs _ => ⟨hs, fun poss hp => hs.der _ _ _ _ poss hb hl hp⟩
  | @drained s args ci b _ hb _ _ _ =>
    intro hs _
    exact ⟨sinv_insertDer hs hb nofun, nofun⟩
  | @derive s args ci b q ct q' _ _ _ s4 s5 _ hb _ hq hpop _ hM hA hl5 ih =>
    intro hs _
    have hs1 := sinv_insertDer (ci := ci) (v := []) hs hb nofun
    obtain ⟨hwf, hlen⟩ := hs.queues args q hq
    obtain ⟨hwf', _, hperm, _⟩ := qwf_pop q q' ct hwf hpop
    have hs2 := sinv_setQueueDer (args := args) hs1 hwf'
      fun cb hcb => hlen cb (hperm.mem_iff.mpr (List.mem_append_right _ hcb))
    have hs3 := (ih hs2 fun cb hcb => hlen cb (hperm.mem_iff.mpr (List.mem_append_left _ hcb))).1
    obtain ⟨em, e4⟩ := hM.eq
    have hs4 : SInv E s4 := e4 ▸ sinv_of_eq rfl rfl rfl hs3
    have hs5 : SInv E s5 := by
      obtain ⟨q2, cl2, hq2, _, ⟨_, rfl⟩ | ⟨q3, pk, hupd, _, rfl⟩⟩ := hA
      · exact hs4
      · obtain ⟨hwf2, hlen2⟩ := hs4.queues args q2 hq2
        obtain ⟨hwf3, hc3⟩ := qwf_update E.A q2 q3 hwf2 hupd
        exact sinv_of_eq rfl rfl rfl (sinv_setQueueDer (args := args) hs4 hwf3 (by rw [hc3]; exact hlen2))
    obtain ⟨b5, hb5, hl5⟩ := Option.bind_eq_some_iff.mp hl5
    exact ⟨hs5, fun poss hp => hs5.der args b5 ci _ poss hb5 hl5 hp⟩

theorem snd_all (E : Env α) : ∀ f, Snd E f := fun f =>
  ⟨fun s fr r h hs hf => by
      obtain ⟨h1, hp⟩ := ((sound E f).resume h).sinv hs hf
      cases r with
      | yield s' fr' p => exact ⟨h1, hp _ _ rfl⟩
      | done s' => exact h1,
   fun _ _ _ h hs hf => (((sound E f).drive h).sinv hs hf).1,
   fun _ _ _ _ _ _ h hs => ((sound E f).queryList h).sinv hs trivial,
   fun _ _ _ _ _ _ _ _ _ _ pre h hs hacc hlen =>
      ⟨(((sound E f).argLoop h).sinv hs hlen).1, (((sound E f).argLoop h).sinv hs hlen).2 pre hacc⟩,
   fun _ _ _ _ _ _ _ _ _ _ h hs hl => (((sound E f).combLoop h).sinv hs hl).1,
   fun _ _ _ _ _ h hs => ((sound E f).queryDer h).sinv hs trivial⟩

/-! ### the generator -/

/-- the frame of the suspended top-level `query` is part of the invariant: the tuples it still holds are made into
    programs and yielded at later calls of `next`, so they have to be derivable at every moment in between -/
def GInv (E : Env α) (g : Gen α) : Prop :=
  SInv E g.st ∧ match g.phase with
    | .inQuery _ fr => FInv E fr ∧ fr.S = E.G.start
    | _ => True

theorem Loop.sound {E : Env α} {s : St α} {n : Nat} {fr? : Option (Frame α)} {failed : Bool} {g' : Gen α} {out : Option Prog}
    (h : Loop E s n fr? failed g' out) : SInv E s → (∀ fr, fr? = some fr → FInv E fr ∧ fr.S = E.G.start) →
    GInv E g' ∧ ∀ p, out = some p → derives E.G E.G.start p = true := by
  have start : ∀ {s n fr? s0 fr0}, Start E s n fr? s0 fr0 → SInv E s → (∀ fr, fr? = some fr → FInv E fr ∧ fr.S = E.G.start) →
      SInv E s0 ∧ ∀ fr, fr0 = some fr → FInv E fr ∧ fr.S = E.G.start := by
    intro s n fr? s0 fr0 hs h hf
    obtain ⟨f, e⟩ := hs.eq
    refine ⟨e ▸ sinv_of_eq rfl rfl rfl h, ?_⟩
    rintro fr rfl
    rcases hs.frame with rfl | ⟨h1, _, h3⟩
    · exact hf fr rfl
    · exact ⟨finv_none h3, h1⟩
  induction h with
  | stop hs => exact fun h hf => ⟨⟨(start hs h hf).1, trivial⟩, fun _ e => nomatch e⟩
  | skip hs _ ih => exact fun h hf => ih (start hs h hf).1 (fun _ e => nomatch e)
  | yield hs hr =>
    intro h hf
    obtain ⟨a, b⟩ := start hs h hf
    obtain ⟨h1, hp⟩ := hr.sinv a (b _ rfl).1
    obtain ⟨h2, h3, h4⟩ := hp _ _ rfl
    exact ⟨⟨h1, h2, h3.trans (b _ rfl).2⟩, fun _ e => Option.some.inj e ▸ (b _ rfl).2 ▸ h4⟩
  | ended hs hr =>
    intro h hf
    obtain ⟨a, b⟩ := start hs h hf
    exact ⟨⟨(hr.sinv a (b _ rfl).1).1, trivial⟩, fun _ e => nomatch e⟩
  | again hs hr _ ih =>
    intro h hf
    obtain ⟨a, b⟩ := start hs h hf
    exact ih (hr.sinv a (b _ rfl).1).1 (fun _ e => nomatch e)

/-! ### the prologue: `__init__`, `_init_non_terminal_`, `_reevaluate_`, `__compute_bounds__` -/

theorem fresh_sinv {E : Env α} {s : St α} (h : Fresh s) : SInv E s := by
  refine ⟨fun S b ci l p h1 h2 _ => ?_, fun a b ci l poss h1 h2 _ => ?_, fun a q hq => ⟨(h.queueDer a q hq).1, fun cb hcb => ?_⟩⟩
  · rw [h.bankNt S b h1] at h2; cases h2
  · rw [h.bankDer a b h1] at h2; cases h2
  · rw [(h.queueDer a q hq).2] at hcb; cases hcb

theorem init_sinv (E : Env α) (s : St α) (h : St.init E = some s) : SInv E s := fresh_sinv (init_fresh h)

/-- only `_init_derivation_` matters: it pushes the tuple (0,…,0), one index per argument -/
theorem Init.sinv {E : Env α} {s s' : St α} {c : ICall α} (h : Init E s c s') : SInv E s → SInv E s' := by
  induction h with
  | known | done | noArgs | knownDer | argsNil => exact id
  | nt _ _ _ _ _ ih => exact fun hs => sinv_of_eq rfl rfl rfl (ih (sinv_of_eq rfl rfl rfl hs))
  | rule _ _ _ ih1 ih2 => exact fun hs => ih2 (sinv_of_eq rfl rfl rfl (ih1 hs))
  | first _ _ _ ih => exact ih
  | arg _ _ _ ih1 ih2 => exact fun hs => ih2 (ih1 hs)
  | @der s args s2 cost q q1 q2 pk cl2 _ _ hq hp hu _ _ ih =>
    intro hs
    have hs2 := ih (sinv_of_eq rfl rfl rfl hs)
    obtain ⟨hwf, hlen⟩ := hs2.queues args q hq
    obtain ⟨hwf1, _, hperm, _⟩ := qwf_push E.A q q1 _ E.asserts hwf hp
    obtain ⟨hwf2, hc2⟩ := qwf_update E.A q1 q2 hwf1 hu
    refine sinv_of_eq rfl rfl rfl (sinv_setQueueDer (args := args) hs2 hwf2 fun cb hcb => ?_)
    rw [hc2] at hcb
    rcases List.mem_append.mp (hperm.mem_iff.mp hcb) with h1 | h1
    · exact hlen cb h1
    · rw [List.mem_singleton.mp h1, List.length_replicate]

/-- a requeued derivation queue holds index tuples it held before -/
theorem Reeval.sinv {E : Env α} {s s' : St α} (h : Reeval E s s') : SInv E s → SInv E s' := by
  induction h with
  | refl => exact id
  | @queueDer s args q q2 _ hq hr _ ih =>
    intro hs
    obtain ⟨hwf, hlen⟩ := hs.queues args q hq
    obtain ⟨hwf2, hp⟩ := hr hwf
    exact ih (sinv_setQueueDer hs hwf2 fun cb hcb => hlen cb (hp.mem_iff.mp hcb))
  | costDer _ _ _ ih | heap _ _ _ ih | costNt _ _ ih => exact fun hs => ih (sinv_of_eq rfl rfl rfl hs)

theorem prologue_sinv (E : Env α) (fuel : Nat) (s s' : St α) (h : prologue E fuel s = some s') (hs : SInv E s) : SInv E s' := by
  obtain ⟨s1, h1, h2⟩ := prologue_sound h
  exact h2.sinv (h1.sinv hs)

theorem next_sound (E : Env α) (fuel : Nat) (g g' : Gen α) (out : Option Prog) (h : next E fuel g = some (g', out))
    (hg : GInv E g) : GInv E g' ∧ ∀ p, out = some p → derives E.G E.G.start p = true := by
  rcases next_loop h with ⟨_, rfl, rfl⟩ | ⟨s, n, fr?, failed, hl, hc⟩
  · exact ⟨hg, fun _ e => nomatch e⟩
  · rcases hc with ⟨_, hp, rfl⟩ | ⟨rfl, ⟨_, rfl⟩ | ⟨fr, hph, rfl⟩⟩
    · exact hl.sound (prologue_sinv E fuel _ _ hp hg.1) (fun _ e => nomatch e)
    · exact hl.sound hg.1 (fun _ e => nomatch e)
    · refine hl.sound hg.1 fun fr' e => ?_
      have := hg.2
      rw [hph] at this
      exact Option.some.inj e ▸ this

theorem gen_new_ginv (E : Env α) (g : Gen α) (h : Gen.new E = some g) : GInv E g :=
  ⟨init_sinv E g.st (Gen.new_some h).1, by rw [(Gen.new_some h).2]; trivial⟩

/-- `merge_program` only removes programs from banks -/
theorem merge_ginv (E : Env α) (g : Gen α) (other : Prog) (ty : Nat) (hg : GInv E g) : GInv E (merge E g other ty) := by
  obtain ⟨b, d, e⟩ := merge_eq E g other ty
  refine ⟨⟨fun S b ci l p h1 h2 h3 => ?_, ?_, ?_⟩, by rw [e]; exact hg.2⟩
  · obtain ⟨b0, l0, hb0, hl0, rfl⟩ := (merge_lookup E g other ty S ci l).mp ⟨b, h1, h2⟩
    refine hg.1.bank S b0 ci l0 p hb0 hl0 ?_
    split at h3
    · exact removeFirst_sub other l0 p h3
    · exact h3
  · rw [e]; exact hg.1.der
  · rw [e]; exact hg.1.queues

def GSound (E : Env α) (g : Gen α) (out : List Prog) : Prop := GInv E g ∧ ∀ p ∈ out, derives E.G E.G.start p = true

theorem GSound.next {E : Env α} {fuel : Nat} {g g' : Gen α} {o : Option Prog} {out : List Prog}
    (hn : next E fuel g = some (g', o)) (h : GSound E g out) : GSound E g' (out ++ o.toList) :=
  have ⟨a, b⟩ := next_sound E fuel g g' o hn h.1
  ⟨a, List.forall_mem_append.mpr ⟨h.2, fun q hq => b q (Option.mem_toList.mp hq)⟩⟩

theorem runHist_sound (E : Env α) (fuel : Nat) : ∀ (acts : List Act) (g : Gen α) (out : List Prog) (g' : Gen α) (ys : List Prog),
    runHist E fuel acts g out = some (g', ys) → GInv E g → (∀ p ∈ out, derives E.G E.G.start p = true) →
    GInv E g' ∧ ∀ p ∈ ys, derives E.G E.G.start p = true :=
  fun acts g out g' ys h hg ho =>
    runHist_rule E fuel (GSound E) (fun _ _ => True) (fun _ _ _ _ hn h => h.next hn)
      (fun g p t _ _ h => ⟨merge_ginv E g p t h.1, h.2⟩) acts g out g' ys h (fun _ _ _ => trivial) ⟨hg, ho⟩

end PS.CD
