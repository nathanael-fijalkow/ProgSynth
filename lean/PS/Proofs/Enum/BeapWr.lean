/- Every run of the query machine of beap search (`queryList`, `runQuery`, `drive`, `resume`, `argsLoop`) is a sequence of
   primitive writes (`Wr`): `run_writes`, one walk over the machine.  A relation between the state before and after a call
   that is reflexive, transitive and holds for each of the seven writes therefore holds for every call (`run_lift`). -/
import PS.Proofs.Enum.BeapRun
namespace PS.Beap
open PS PS.G PS.Heapq
set_option linter.unusedSectionVars false
variable {S : Type} [DecidableEq S]

inductive Star {α : Type} (r : α → α → Prop) (a : α) : α → Prop
  | refl : Star r a a
  | tail {b c : α} : Star r a b → r b c → Star r a c

theorem Star.single {α : Type} {r : α → α → Prop} {a b : α} (h : r a b) : Star r a b := .tail .refl h

theorem Star.trans {α : Type} {r : α → α → Prop} {a b c : α} (h1 : Star r a b) (h2 : Star r b c) : Star r a c := by
  induction h2 with
  | refl => exact h1
  | tail _ hr ih => exact .tail ih hr

theorem Star.head {α : Type} {r : α → α → Prop} {a b c : α} (h : r a b) (h2 : Star r b c) : Star r a c :=
  (Star.single h).trans h2

/-! ### the primitive writes of `_query_list_` / `query` -/

inductive Wr (E : Env S) : St S → St S → Prop
  /-- `self._deleted.add(p)` for a rejected program (beap_search.py:207-209) -/
  | del (s : St S) (p : Prog) : E.filter p = false → Wr E s (s.addDeleted p)
  /-- `bank[cost_index].append(p)` for an accepted program (beap_search.py:210-212) -/
  | bank (s : St S) (nt : NT S Unit) (ci : Nat) (p : Prog) : p ∉ s.deleted → E.filter p = true →
      Wr E s (s.setBank nt ci (s.bankAt nt ci ++ [p]))
  /-- `if cost_index not in bank: bank[cost_index] = []` (beap_search.py:198-199) -/
  | ensure (s : St S) (nt : NT S Unit) (ci : Nat) : Wr E s (s.ensureBank nt ci)
  /-- `heappop(queue)` -/
  | pop (s : St S) (nt : NT S Unit) (el : HeapEl) (q' : List HeapEl) :
      Heapq.pop ltE (s.queueOf nt) = some (el, q') → Wr E s (s.setQueue nt q')
  /-- `heappush(queue, x)` -/
  | push (s : St S) (nt : NT S Unit) (x : HeapEl) : Wr E s (s.setQueue nt (Heapq.push ltE (s.queueOf nt) x))
  /-- `self._empties[S].add(cost_index); self._failed_by_empties = True` (or nothing) -/
  | mark (s : St S) (nt : NT S Unit) (fr : Frame) : Wr E s (markEmpty s nt fr)
  /-- `cost_list.append(queue[0].cost)` -/
  | snoc (s : St S) (nt : NT S Unit) (e : HeapEl) (q : List HeapEl) : s.queueOf nt = e :: q →
      Wr E s (s.setCL nt (s.clOf nt ++ [e.cost]))

theorem Star.lift {E : Env S} {R : St S → St S → Prop} (refl : ∀ s, R s s) (trans : ∀ a b c, R a b → R b c → R a c)
    (step : ∀ s s', Wr E s s' → R s s') {s s' : St S} (h : Star (Wr E) s s') : R s s' := by
  induction h with
  | refl => exact refl s
  | tail _ hr ih => exact trans _ _ _ ih (step _ _ hr)

theorem emit_star (E : Env S) (nt : NT S Unit) (ci : Nat) (P : Sym) (isFun : Bool) (pend : List (List Prog)) (s : St S)
    (r : St S × Option (Prog × List (List Prog))) (h : emit E nt ci P isFun s pend = r) : Star (Wr E) s r.1 := by
  apply emit_induct E nt ci P isFun ?nil ?deleted ?rejected ?yield pend s r h
  case nil => exact fun _ => .refl
  case deleted => intro _ _ _ _ _ ih; exact ih
  case rejected => intro s _ _ _ hf ih; exact Star.head (.del s _ hf) ih
  case yield => intro s _ _ hd hf; exact .single (.bank s nt ci _ hd hf)

/-- `p` was yielded from tables `s1`: the last write was its `bank[ci].append(p)`, `p` accepted and not in `_deleted` -/
def YieldWr (E : Env S) (s : St S) (nt : NT S Unit) (ci : Nat) (p : Prog) (s1 : St S) : Prop :=
  ∃ s0, Star (Wr E) s s0 ∧ p ∉ s0.deleted ∧ E.filter p = true ∧ s1 = s0.setBank nt ci (s0.bankAt nt ci ++ [p])

theorem YieldWr.from {E : Env S} {s s' s1 : St S} {nt : NT S Unit} {ci : Nat} {p : Prog} (h : Star (Wr E) s s')
    (hy : YieldWr E s' nt ci p s1) : YieldWr E s nt ci p s1 :=
  let ⟨s0, h0, hy'⟩ := hy; ⟨s0, h.trans h0, hy'⟩

theorem emit_yield (E : Env S) (nt : NT S Unit) (ci : Nat) (P : Sym) (isFun : Bool) (pend : List (List Prog)) (s : St S)
    (r : St S × Option (Prog × List (List Prog))) (h : emit E nt ci P isFun s pend = r) :
    ∀ p rest, r.2 = some (p, rest) → YieldWr E s nt ci p r.1 := by
  apply emit_induct E nt ci P isFun ?nil ?deleted ?rejected ?yield pend s r h
  case nil => intro _ _ _ h; cases h
  case deleted => intro _ _ _ _ _ ih; exact ih
  case rejected => intro s _ _ _ hf ih p rest h; exact (ih p rest h).from (.single (.del s _ hf))
  case yield => intro s _ _ hd hf p rest h; cases h; exact ⟨s, .refl, hd, hf, rfl⟩

theorem pushAll_star (E : Env S) (nt : NT S Unit) (s : St S) (els : List HeapEl) : Star (Wr E) s (pushAll nt s els) :=
  pushAll_induct (I := fun s' => Star (Wr E) s s') nt (fun s' x _ h => h.tail (.push s' nt x)) s .refl

theorem succLoop_star (E : Env S) (nt : NT S Unit) (cost : Cost) (P : Sym) (comb : List Nat) (as : List (NT S Unit)) (s : St S)
    (i : Nat) : Star (Wr E) s (succLoop nt cost P comb s i as) := by
  rw [succLoop_eq]; exact pushAll_star E nt s _

theorem epilogue_star (E : Env S) (s : St S) (nt : NT S Unit) (fr : Frame) : Star (Wr E) s (epilogue s nt fr) := by
  fun_cases epilogue s nt fr with
  | case1 => exact .single (.mark s nt fr)
  | case2 _ e q hq => exact (Star.single (.mark s nt fr)).tail (.snoc _ nt e q hq)

theorem run_writes (E : Env S) : ∀ n, Runs E n (fun s _ _ r => Star (Wr E) s r.1) (fun s _ _ s' => Star (Wr E) s s')
    (fun s _ _ s' => Star (Wr E) s s')
    (fun s nt fr r => Star (Wr E) s r.1 ∧ ∀ p fr', r.2 = .yield p fr' → YieldWr E s nt fr.ci p r.1)
    (fun s _ _ _ _ _ r => Star (Wr E) s r.1) := by
  refine run_induct E ?ql_empty ?ql_beyond ?ql_bank ?ql_run_empty ?ql_run_bank ?rq_none ?rq_some ?dr_ret ?dr_yield
    ?rs_yield ?rs_ret ?rs_pop ?ar_nil ?ar_break ?ar_cons
  case ql_empty => intros; exact .refl
  case ql_beyond => intros; exact .refl
  case ql_bank => intros; exact .refl
  case ql_run_empty => intro _ _ _ _ _ _ _ _ _ ih _; exact ih
  case ql_run_bank => intro _ _ _ _ _ _ _ _ _ _ ih _ _; exact ih
  case rq_none => intros; exact .refl
  case rq_some => intro _ _ _ _ _ _ _ _ ih; exact ih
  case dr_ret => intro _ _ _ _ _ _ ih; exact ih.1
  case dr_yield => intro _ _ _ _ _ _ _ _ _ ihR _ ihD; exact ihR.1.trans ihD
  case rs_yield =>
    intro _ s nt fr s1 p rest hem
    exact ⟨emit_star E nt fr.ci fr.P fr.isFun fr.pending s _ hem, fun p' fr' hy => by
      cases hy; exact emit_yield E nt fr.ci fr.P fr.isFun fr.pending s _ hem p rest rfl⟩
  case rs_ret =>
    intro _ s nt fr s1 hem _
    exact ⟨(emit_star E nt fr.ci fr.P fr.isFun fr.pending s _ hem).trans (epilogue_star E s1 nt fr), fun _ _ hy => by cases hy⟩
  case rs_pop =>
    intro _ s nt fr s1 el _ q' rl s3 _ _ _ s' _ r hem _ _ hpop _ _ ihA hnext _ ihR
    have h1 : Star (Wr E) s s1 := emit_star E nt fr.ci fr.P fr.isFun fr.pending s _ hem
    have h3 : Star (Wr E) s s3 := (h1.tail (.pop s1 nt el q' hpop)).trans ihA
    have h4 := h3.trans (succLoop_star E nt fr.cost el.P el.comb (rl.1.map ntOf) s3 0)
    rcases hnext with ⟨_, rfl, rfl⟩ | ⟨_, _, rfl, rfl⟩ | ⟨_, _, rfl, rfl⟩
    · exact ⟨h3.trans ihR.1, fun p fr'' hy => (ihR.2 p fr'' hy).from h3⟩
    · exact ⟨h4.trans ihR.1, fun p fr'' hy => (ihR.2 p fr'' hy).from h4⟩
    · exact ⟨(h4.tail (.ensure _ nt fr.ci)).trans ihR.1, fun p fr'' hy => (ihR.2 p fr'' hy).from (h4.tail (.ensure _ nt fr.ci))⟩
  case ar_nil => intros; exact .refl
  case ar_break => intro _ _ _ _ _ _ _ _ _ _ _ _ ih _; exact ih
  case ar_cons => intro _ _ _ _ _ _ _ _ _ _ _ _ _ _ ihQ _ _ ihA; exact ihQ.trans ihA

theorem run_lift (E : Env S) {R : St S → St S → Prop} (refl : ∀ s, R s s) (trans : ∀ a b c, R a b → R b c → R a c)
    (step : ∀ s s', Wr E s s' → R s s') (n : Nat) : RunsRel E n R :=
  have w := run_writes E n
  ⟨fun h => (w.ql h).lift refl trans step, fun h => (w.rq h).lift refl trans step, fun h => (w.dr h).lift refl trans step,
    fun h => (w.rs h).1.lift refl trans step, fun h => (w.al h).lift refl trans step⟩

end PS.Beap
