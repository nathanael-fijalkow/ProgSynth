/- Heap search on unambiguous grammars: a program enters `heaps[S]` at most once, what is popped never
   comes back, the successor table `succ[S]` is injective and only grows.  Any grammar, any priority
   type; with a filter (`deleted ≠ ∅`) under the hypothesis that `__add_successors__(p, S)` does not
   touch `succ[S]` (`NoReent`; true on acyclic grammars: `noReent_of_acyclic`, PS/Proofs/Enum/UFrame.lean). -/
import PS.Proofs.Enum.USound
import PS.Proofs.Enum.Tables
namespace PS.UHS
open PS PS.G

set_option linter.unusedSectionVars false
variable {U π : Type} [DecidableEq U]

def St.heapProgs (s : St U π) (nt : UNT U) : List Prog := (s.heapOf nt).map (·.2)

theorem mem_heapProgs {s : St U π} {nt : UNT U} {p : Prog} : p ∈ s.heapProgs nt ↔ ∃ e, e ∈ s.heapOf nt ∧ e.2 = p :=
  List.mem_map

theorem heapOf_nil_iff {s : St U π} {nt : UNT U} : s.heapOf nt = [] ↔ s.heapProgs nt = [] :=
  List.map_eq_nil_iff.symm

theorem St.heapProgs_of_heapOf {s : St U π} {nt : UNT U} {l : List (π × Prog)} (h : s.heapOf nt = l) :
    s.heapProgs nt = l.map (·.2) := by
  rw [St.heapProgs, h]

theorem St.heapProgs_congr {s s' : St U π} {nt : UNT U} (h : s'.heapOf nt = s.heapOf nt) :
    s'.heapProgs nt = s.heapProgs nt :=
  St.heapProgs_of_heapOf h

/-- the tables of a state, as the invariants read them (PS/Proofs/Enum/Tables.lean) -/
def St.tb (s : St U π) : Tables.Tb (UNT U) := ⟨s.heapProgs, s.seenOf, s.succOf⟩

/-- `__add_successors__(program, S)` leaves `succ[S]` alone (no re-entrant `query(S, ·)`),
    from a sound state -/
def NoReent (E : Env U π) : Prop :=
  ∀ prog nt s s' x, SInv E s → Big E (.addSucc prog nt) s s' x → s'.succOf nt = s.succOf nt

/-- the five table laws of PS/Proofs/Enum/Tables.lean (`NInv.five`), and `del_ok`: when the pop loop of `query` skips a
    rejected program it calls `__add_successors__` before the successor of `key` is recorded; that `key` is still free
    afterwards is `NoReent` (case `pop_deleted` of `big_nodup`) -/
structure NInv (E : Env U π) (s : St U π) : Prop where
  heap_nodup : ∀ nt, (s.heapProgs nt).Nodup
  heap_seen : ∀ nt p, p ∈ s.heapProgs nt → p ∈ s.seenOf nt
  succ_seen : ∀ nt k v, AList.lookup k (s.succOf nt) = some v → v ∈ s.seenOf nt
  /-- what was popped is not in the heap any more -/
  succ_out : ∀ nt k v, AList.lookup k (s.succOf nt) = some v → v ∉ s.heapProgs nt
  succ_inj : ∀ nt k k' v, AList.lookup k (s.succOf nt) = some v → AList.lookup k' (s.succOf nt) = some v → k = k'
  del_ok : s.deleted = [] ∨ NoReent E

theorem NInv.five {E : Env U π} {s : St U π} (h : NInv E s) : Tables.Five s.tb :=
  ⟨h.heap_nodup, h.heap_seen, h.succ_seen, h.succ_out, h.succ_inj⟩

theorem NInv.of_five {E : Env U π} {s : St U π} (h : Tables.Five s.tb) (hd : s.deleted = [] ∨ NoReent E) : NInv E s :=
  ⟨h.heap_nodup, h.heap_seen, h.succ_seen, h.succ_out, h.succ_inj, hd⟩

/-- the successor table only grows -/
def Stable (s s' : St U π) : Prop :=
  ∀ nt k v, AList.lookup k (s.succOf nt) = some v → AList.lookup k (s'.succOf nt) = some v

theorem Stable.refl (s : St U π) : Stable s s := fun _ _ _ h => h
theorem Stable.trans {s s1 s2 : St U π} (h1 : Stable s s1) (h2 : Stable s1 s2) : Stable s s2 :=
  fun nt k v h => h2 nt k v (h1 nt k v h)

theorem NInv.congr {E : Env U π} {s s' : St U π} (h : NInv E s)
    (h1 : ∀ nt, s'.heapOf nt = s.heapOf nt) (h2 : ∀ nt, s'.seenOf nt = s.seenOf nt)
    (h3 : ∀ nt, s'.succOf nt = s.succOf nt) (h4 : s'.deleted = s.deleted) : NInv E s' := by
  have hp : ∀ nt, s'.heapProgs nt = s.heapProgs nt := fun nt => St.heapProgs_congr (h1 nt)
  refine ⟨fun nt => hp nt ▸ h.heap_nodup nt, ?_, ?_, ?_, ?_, h4 ▸ h.del_ok⟩
  · intro nt p; rw [hp, h2]; exact h.heap_seen nt p
  · intro nt k v; rw [h3, h2]; exact h.succ_seen nt k v
  · intro nt k v; rw [h3, hp]; exact h.succ_out nt k v
  · intro nt k k' v; rw [h3]; exact h.succ_inj nt k k' v

theorem Stable.of_succOf {s s' : St U π} (h : ∀ nt, s'.succOf nt = s.succOf nt) : Stable s s' := by
  intro nt k v hk; rw [h]; exact hk

theorem NInv.cacheStep {E : Env U π} {s s' : St U π} (h : NInv E s) (hs : CacheStep s s') : NInv E s' := by
  obtain ⟨c, rfl⟩ := hs
  exact { h with }

theorem CacheStep.stable {s s' : St U π} (hs : CacheStep s s') : Stable s s' := by
  obtain ⟨c, rfl⟩ := hs
  exact Stable.refl _

theorem CacheStep.heapOf {s s' : St U π} (h : CacheStep s s') (nt : UNT U) : s'.heapOf nt = s.heapOf nt := by
  obtain ⟨c, rfl⟩ := h; rfl
theorem CacheStep.succOf {s s' : St U π} (h : CacheStep s s') (nt : UNT U) : s'.succOf nt = s.succOf nt := by
  obtain ⟨c, rfl⟩ := h; rfl

theorem St.heapProgs_setHeap (s : St U π) (nt nt' : UNT U) (h : List (π × Prog)) :
    (s.setHeap nt h).heapProgs nt' = if nt' = nt then h.map (·.2) else s.heapProgs nt' := by
  unfold St.heapProgs
  rw [St.heapOf_setHeap]
  split <;> rfl

/-- `s2` is `s` after `hash_table_program[S].add(np)` and the writes to `_keys` and the memo table, which the tables
    do not show -/
theorem push_pushBoth {E : Env U π} (hk : E.kway = true) {s s2 : St U π} {nt : UNT U} (pr : π) {np : Prog}
    (hnew : np ∉ s.seenOf nt) (e1 : ∀ nt', s2.heapOf nt' = s.heapOf nt')
    (e2 : ∀ nt', s2.seenOf nt' = (s.addSeen nt np).seenOf nt') (e3 : ∀ nt', s2.succOf nt' = s.succOf nt') :
    Tables.Push s.tb (pushBoth E s2 nt pr np).tb nt np := by
  have hp2 : ∀ nt', s2.heapProgs nt' = s.heapProgs nt' := fun nt' => by unfold St.heapProgs; rw [e1]
  have hseen : ∀ nt' p, p ∈ s2.seenOf nt' ↔ p ∈ s.seenOf nt' ∨ (nt' = nt ∧ p = np) := fun nt' p => by
    rw [e2]; exact mem_seenOf_addSeen s nt nt' np p
  rw [pushBoth_kway E hk]
  split
  · refine ⟨hnew, Or.inl ?_, fun nt' hne => ?_, hseen, e3⟩
    · show ((s2.setHeap nt _).heapProgs nt).Perm (np :: s.heapProgs nt)
      rw [St.heapProgs_setHeap, if_pos rfl, ← hp2]
      exact (Heapq.push_perm (ltE E.ops) (s2.heapOf nt) (pr, np)).map (·.2)
    · show (s2.setHeap nt _).heapProgs nt' = s.heapProgs nt'
      rw [St.heapProgs_setHeap, if_neg hne, hp2]
  · exact ⟨hnew, Or.inr (hp2 nt), fun nt' _ => hp2 nt', hseen, e3⟩

theorem NInv.newPush {E : Env U π} (hk : E.kway = true) {s s2 : St U π} (h : NInv E s) (nt : UNT U) (pr : π)
    (np : Prog) (hnew : np ∉ s.seenOf nt)
    (e1 : ∀ nt', s2.heapOf nt' = s.heapOf nt') (e2 : ∀ nt', s2.seenOf nt' = (s.addSeen nt np).seenOf nt')
    (e3 : ∀ nt', s2.succOf nt' = s.succOf nt') (e4 : s2.deleted = s.deleted) :
    NInv E (pushBoth E s2 nt pr np) ∧ Stable s (pushBoth E s2 nt pr np) := by
  have W := push_pushBoth hk pr hnew e1 e2 e3
  refine ⟨.of_five (h.five.push W) ?_, fun nt' k v hk' => by
    rw [show (pushBoth E s2 nt pr np).succOf nt' = s.succOf nt' from W.succ nt']; exact hk'⟩
  obtain ⟨hs, e⟩ := pushBoth_heaps E hk s2 nt pr np
  rw [e]; exact e4 ▸ h.del_ok

theorem NInv.pushStep {E : Env U π} (hk : E.kway = true) {s s' : St U π} (h : NInv E s) (F : Sym) (args : List Prog)
    (nt : UNT U) (v : List (UNT U)) (i : Nat) (r : Option Prog) (hp : pushStep E s F args nt v i r = some s') :
    NInv E s' ∧ Stable s s' := by
  rcases pushStep_eq hp with ⟨rfl, _⟩ | ⟨q, s2, pr, _, hnew, hcp, rfl⟩
  · exact ⟨h, Stable.refl _⟩
  · have hcs := computePrio_step E hcp
    exact h.newPush hk nt pr _ hnew (fun _ => hcs.heapOf _) (fun _ => hcs.seenOf _) (fun _ => hcs.succOf _)
      (by obtain ⟨c, rfl⟩ := hcs; rfl)

theorem NInv.initPush {E : Env U π} (hk : E.kway = true) (nt : UNT U) (l : List (Sym × List (UNT U))) {s s' : St U π}
    (h : NInv E s) (hp : initPush E s nt l = some s') : NInv E s' ∧ Stable s s' := by
  refine initPush_induct (I := fun s' => NInv E s' ∧ Stable s s') ?_ l ⟨h, Stable.refl _⟩ hp
  intro s1 _ _ prog s2 pr ⟨a, b⟩ _ hnew hcp _
  have hcs := computePrio_step E hcp
  obtain ⟨a', b'⟩ := a.newPush hk nt pr prog hnew (fun _ => hcs.heapOf _) (fun _ => hcs.seenOf _)
    (fun _ => hcs.succOf _) (by obtain ⟨c, rfl⟩ := hcs; rfl)
  exact ⟨a', b.trans b'⟩

def NPre : Call U π → St U π → Prop
  | .popLoop nt key, s => AList.lookup key (s.succOf nt) = none
  | _, _ => True

def ResSucc (s' : St U π) (nt : UNT U) (p : Option Prog) : Res π → Prop
  | .prog r => ∀ q, r = some q → AList.lookup p (s'.succOf nt) = some q
  | _ => True

def NPost : Call U π → St U π → Res π → Prop
  | .query nt p, s', r => ResSucc s' nt p r
  | .lop nt p, s', r => ResSucc s' nt p r
  | .popLoop nt p, s', r => ResSucc s' nt p r
  | _, _, _ => True

theorem popTake_heapProgs (s : St U π) (nt : UNT U) (key : Option Prog) (e : π × Prog) (h' : List (π × Prog)) :
    ∀ nt', (s.popTake nt key e h').heapProgs nt' = if nt' = nt then h'.map (·.2) else s.heapProgs nt' :=
  fun nt' => St.heapProgs_setHeap s nt nt' h'

theorem popTake_succOf (s : St U π) (nt : UNT U) (key : Option Prog) (e : π × Prog) (h' : List (π × Prog)) :
    ∀ nt', (s.popTake nt key e h').succOf nt' =
      if nt' = nt then AList.insert key e.2 (s.succOf nt) else s.succOf nt' := by
  intro nt'
  show ((s.setHeap nt h').setSucc nt key e.2).succOf nt' = _
  rw [St.succOf_setSucc]; rfl

theorem skip_setHeap {lt : (π × Prog) → (π × Prog) → Bool} {s : St U π} {nt : UNT U} {e : π × Prog} {h' : List (π × Prog)}
    (h : Heapq.pop lt (s.heapOf nt) = some (e, h')) : Tables.Skip s.tb (s.setHeap nt h').tb nt e.2 (h'.map (·.2)) :=
  ⟨pop_progs h, fun nt' => St.heapProgs_setHeap s nt nt' h', fun _ => rfl, fun _ => rfl⟩

theorem take_popTake {lt : (π × Prog) → (π × Prog) → Bool} {s : St U π} {nt : UNT U} {key : Option Prog} {e : π × Prog}
    {h' : List (π × Prog)} (h : Heapq.pop lt (s.heapOf nt) = some (e, h'))
    (hkey : AList.lookup key (s.succOf nt) = none) :
    Tables.Take s.tb (s.popTake nt key e h').tb nt key e.2 (h'.map (·.2)) :=
  ⟨pop_progs h, popTake_heapProgs s nt key e h', fun _ => rfl, hkey, popTake_succOf s nt key e h'⟩

theorem NInv.popDrop {E : Env U π} {lt : (π × Prog) → (π × Prog) → Bool} {s : St U π} (hi : NInv E s) (nt : UNT U)
    (e : π × Prog) (h' : List (π × Prog)) (h : Heapq.pop lt (s.heapOf nt) = some (e, h')) :
    NInv E (s.setHeap nt h') :=
  .of_five (hi.five.skip (skip_setHeap h)).1 hi.del_ok

theorem NInv.popTake {E : Env U π} {lt : (π × Prog) → (π × Prog) → Bool} {s : St U π} (hi : NInv E s) (nt : UNT U)
    (key : Option Prog) (e : π × Prog) (h' : List (π × Prog))
    (h : Heapq.pop lt (s.heapOf nt) = some (e, h'))
    (hkey : AList.lookup key (s.succOf nt) = none) :
    NInv E (s.popTake nt key e h') ∧ Stable s (s.popTake nt key e h') :=
  ⟨.of_five (hi.five.take (take_popTake h hkey)) hi.del_ok, (take_popTake h hkey).stable⟩

theorem big_nodup (E : Env U π) (H : GHyp E) {c : Call U π} {s s' : St U π} {r : Res π}
    (hb : Big E c s s' r) : SInv E s → SPre E c → NInv E s → NPre c s → NInv E s' ∧ Stable s s' ∧ NPost c s' r := by
  have hk := H.kway
  induction hb with
  | query_direct h hb ih => intro hs _ hi _; exact ih hs trivial hi trivial
  | query_init h h0 hb ih0 ih =>
    intro hs _ hi _
    obtain ⟨a1, a2, _⟩ := ih0 hs trivial hi trivial
    obtain ⟨b1, b2, b3⟩ := ih (big_sound E H h0 hs trivial).1 trivial a1 trivial
    exact ⟨b1, a2.trans b2, b3⟩
  | lop_hit h =>
    intro _ _ hi _
    exact ⟨hi, Stable.refl _, by intro q hq; cases hq; exact h⟩
  | lop_miss h hb ih => intro hs _ hi _; exact ih hs trivial hi h
  | pop_empty h => intro _ _ hi _; exact ⟨hi, Stable.refl _, by intro q hq; cases hq⟩
  | @pop_deleted s s1 s' nt key e h' x r h hd ha hb iha ihb =>
    intro hs _ hi hpre
    have hs1 : SInv E (s.setHeap nt h') := hs.popDrop h
    obtain ⟨a1, a2, _⟩ := iha hs1 trivial (hi.popDrop nt e h' h) trivial
    have hre : NoReent E := by
      rcases hi.del_ok with hd0 | hre
      · rw [hd0] at hd; simp at hd
      · exact hre
    have hpre1 : AList.lookup key (s1.succOf nt) = none := by
      rw [hre _ _ _ _ _ hs1 ha]
      exact hpre
    obtain ⟨b1, b2, b3⟩ := ihb (big_sound E H ha hs1 trivial).1 trivial a1 hpre1
    exact ⟨b1, Stable.trans (show Stable s s1 from a2) b2, b3⟩
  | @pop_take s s' nt key e h' x h hd ha iha =>
    intro hs _ hi hpre
    obtain ⟨h1, hst⟩ := hi.popTake nt key e h' h hpre
    obtain ⟨a1, a2, _⟩ := iha (hs.popTake h key) trivial h1 trivial
    refine ⟨a1, hst.trans a2, ?_⟩
    intro q hq
    cases hq
    apply a2
    show AList.lookup key ((s.popTake nt key e h').succOf nt) = some e.2
    rw [popTake_succOf]
    simp only [if_true]
    exact AList.lookup_insert_self _ _ _
  | succ_leaf => intro _ _ hi _; exact ⟨hi, Stable.refl _, trivial⟩
  | succ_fun hk' hb ih =>
    intro hs _ hi _
    obtain ⟨a1, a2, _⟩ := ih hs (hs.keys_ok _ _ _ _ hk') hi trivial
    exact ⟨a1, a2, trivial⟩
  | loop_done => intro _ _ hi _; exact ⟨hi, Stable.refl _, trivial⟩
  | @loop_step s s1 s3 s' F args nt v i ai si r x hai hsi hq hp hb ihq ihb =>
    intro hs hpre hi _
    obtain ⟨_, _, hs3⟩ := hs.loopStep H hpre hsi hq hp
    obtain ⟨a1, a2, _⟩ := ihq hs trivial hi trivial
    obtain ⟨b1, b2⟩ := a1.pushStep hk F args nt v i r hp
    obtain ⟨c1, c2, _⟩ := ihb hs3 hpre b1 trivial
    exact ⟨c1, (a2.trans b2).trans c2, trivial⟩
  | init_skip h => intro _ _ hi _; exact ⟨hi, Stable.refl _, trivial⟩
  | @init_run s s1 s3 s' nt rs b r h hrs hr hp hq ihr ihq =>
    intro hs _ hi _
    obtain ⟨hs0, hpre1, _, _, hs3⟩ := hs.initRun H hrs hr hp
    obtain ⟨a1, a2, _⟩ := ihr hs0 hpre1 ({ hi with }) trivial
    obtain ⟨b1, b2⟩ := NInv.initPush hk nt _ (a1.congr (s' := { s1 with maxNT := AList.insert nt b.1 s1.maxNT })
      (fun _ => rfl) (fun _ => rfl) (fun _ => rfl) rfl) hp
    obtain ⟨c1, c2, _⟩ := ihq hs3 trivial b1 trivial
    exact ⟨c1, ((show Stable s s1 from a2).trans (show Stable s1 s3 from b2)).trans c2, trivial⟩
  | rules_nil => intro _ _ hi _; exact ⟨hi, Stable.refl _, trivial⟩
  | @rules_cons s s1 s' nt P alts rest best best1 best' ha hb iha ihb =>
    intro hs hpre hi _
    obtain ⟨hpreA, hs1, hpreR⟩ := hs.rulesCons H hpre ha
    obtain ⟨a1, a2, _⟩ := iha hs hpreA hi trivial
    obtain ⟨b1, b2, _⟩ := ihb hs1 hpreR a1 trivial
    exact ⟨b1, a2.trans b2, trivial⟩
  | alts_nil => intro _ _ hi _; exact ⟨hi, Stable.refl _, trivial⟩
  | @alts_leaf s s1 s3 nt P v w rest best arguments pr ha hc hv iha =>
    intro hs _ hi _
    obtain ⟨a1, a2, _⟩ := iha hs trivial hi trivial
    obtain ⟨c, rfl⟩ := computePrio_step E hc
    exact ⟨{ a1 with }, a2, trivial⟩
  | @alts_cons s s1 s3 s' nt P v w rest best arguments pr best' ha hc hv hb iha ihb =>
    intro hs hpre hi _
    obtain ⟨_, _, hs2, hpreR⟩ := hs.altsCons H hpre ha hc
    obtain ⟨a1, a2, _⟩ := iha hs trivial hi trivial
    obtain ⟨c, rfl⟩ := computePrio_step E hc
    obtain ⟨b1, b2, _⟩ := ihb hs2 hpreR ({ a1 with }) trivial
    exact ⟨b1, Stable.trans a2 (show Stable s1 s' from b2), trivial⟩
  | args_nil => intro _ _ hi _; exact ⟨hi, Stable.refl _, trivial⟩
  | args_cons hi' hm hb ihi ihb =>
    intro hs _ hi _
    obtain ⟨a1, a2, _⟩ := ihi hs trivial hi trivial
    obtain ⟨b1, b2, _⟩ := ihb (big_sound E H hi' hs trivial).1 trivial a1 trivial
    exact ⟨b1, a2.trans b2, trivial⟩

end PS.UHS
