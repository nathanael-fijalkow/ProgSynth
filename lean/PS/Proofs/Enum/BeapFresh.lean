/- The prologue of beap search (`_init_non_terminal_`, `_reevaluate_`) only reads and writes the cost
   lists and the queues: two states that agree on these two tables are taken to states that agree on
   them, the other tables being carried along unchanged.  Hence a `merge_program` BEFORE the first
   `next` (it touches `_deleted` and the — still empty — banks) does not change what the prologue computes. -/
import PS.Proofs.Enum.BeapPrologue
namespace PS.Beap
open PS PS.G PS.Heapq
set_option linter.unusedSectionVars false
variable {S : Type} [DecidableEq S]

def Sim (s t : St S) : Prop := s.costLists = t.costLists ∧ s.queues = t.queues

theorem Sim.clOf {s t : St S} (h : Sim s t) (nt : NT S Unit) : s.clOf nt = t.clOf nt := by unfold St.clOf; rw [h.1]
theorem Sim.queueOf {s t : St S} (h : Sim s t) (nt : NT S Unit) : s.queueOf nt = t.queueOf nt := by unfold St.queueOf; rw [h.2]
theorem Sim.setCL {s t : St S} (h : Sim s t) (nt : NT S Unit) (cl : List Cost) : Sim (s.setCL nt cl) (t.setCL nt cl) := by
  unfold St.setCL; exact ⟨by simp only; rw [h.1], h.2⟩
theorem Sim.setQueue {s t : St S} (h : Sim s t) (nt : NT S Unit) (q : List HeapEl) : Sim (s.setQueue nt q) (t.setQueue nt q) := by
  unfold St.setQueue; exact ⟨h.1, by simp only; rw [h.2]⟩

def SimRes {α : Type} (r : Option (St S × α)) (r' : Option (St S × α)) : Prop :=
  match r, r' with
  | none, none => True
  | some a, some b => Sim a.1 b.1 ∧ a.2 = b.2
  | _, _ => False

theorem Sim.symm {s t : St S} (h : Sim s t) : Sim t s := ⟨h.1.symm, h.2.symm⟩

theorem init_sim (E : Env S) : ∀ n, Inits E n
    (fun s nt s' => ∀ t, Sim s t → ∃ t', initNT E n t nt = some t' ∧ Sim s' t')
    (fun s nt rest s' => ∀ t, Sim s t → ∃ t', initRules E n t nt rest = some t' ∧ Sim s' t')
    (fun s as c r => ∀ t, Sim s t → ∃ t', initArgs E n t as c = some (t', r.2) ∧ Sim r.1 t') := by
  apply init_induct E ?in_done ?in_run ?ir_nil ?ir_cons ?ia_nil ?ia_cons
  case in_done =>
    intro n s nt cl hcl hlen t h
    rw [h.1] at hcl
    exact ⟨t, by simp only [initNT, hcl, hlen, if_true], h⟩
  case in_run =>
    intro n s nt rs s1 e q hcl hrs _ ih hq t h
    obtain ⟨t1, e1, h1⟩ := ih _ (h.setCL nt _)
    rw [h.1] at hcl
    rw [h1.queueOf nt] at hq
    refine ⟨t1.setCL nt ((t1.clOf nt).set 0 e.cost), ?_, ?_⟩
    · simp only [initNT, hcl, List.length_nil, Nat.lt_irrefl, if_false, hrs, List.nil_append, e1, hq]
    · rw [h1.clOf nt]; exact h1.setCL nt _
  case ir_nil => intro n s nt t h; exact ⟨t, by simp only [initRules], h⟩
  case ir_cons =>
    intro n s nt P rl rest w s1 cost s' hw _ ihA _ ihR t h
    obtain ⟨t1, e1, h1⟩ := ihA t h
    obtain ⟨t', e2, h2⟩ := ihR _ (h1.setQueue nt _)
    rw [h1.queueOf nt] at e2
    exact ⟨t', by simp only [initRules, hw, e1, e2], h2⟩
  case ia_nil => intro n s c t h; exact ⟨t, by simp only [initArgs], h⟩
  case ia_cons =>
    intro n s a as c s1 c0 cl0 r _ ihN hcl _ ihA t h
    obtain ⟨t1, e1, h1⟩ := ihN t h
    obtain ⟨t', e2, h2⟩ := ihA t1 h1
    rw [h1.clOf (ntOf a)] at hcl
    exact ⟨t', by simp only [initArgs, e1, hcl, e2], h2⟩

theorem mapOpt_congr {α β : Type} (f g : α → Option β) (l : List α) (h : ∀ x ∈ l, f x = g x) : mapOpt f l = mapOpt g l := by
  rw [mapOpt_eq_optAll, mapOpt_eq_optAll, optAll_congr f g l h]

theorem reevalPass_sim (E : Env S) (nts : List (NT S Unit)) (s t : St S) (ch : Bool) (r : St S × Bool) (h : Sim s t)
    (hr : reevalPass E nts s ch = some r) : ∃ t', reevalPass E nts t ch = some (t', r.2) ∧ Sim r.1 t' := by
  -- both runs re-price the same queue with the same first costs
  have hq : ∀ {s t : St S}, Sim s t → ∀ nt, mapOpt (recost E t nt) (t.queueOf nt) = mapOpt (recost E s nt) (s.queueOf nt) :=
    fun {s t} h nt => by
      rw [h.queueOf nt]
      exact mapOpt_congr _ _ _ fun el _ => recost_congr E s t nt el fun _ _ a _ => (h.clOf (ntOf a)).symm
  fun_induction reevalPass E nts s ch generalizing t with
  | case1 => cases hr; exact ⟨t, rfl, h⟩
  | case2 => cases hr
  | case3 nt rest s ch nq hnq hne e q' c0 cl' hcl hh ih =>
    rw [reevalPass, hq h nt, hnq, ← h.queueOf nt]; dsimp only; rw [if_pos hne, hh, ← h.clOf nt, hcl]
    exact ih _ ((h.setQueue nt _).setCL nt _) hr
  | case4 => cases hr
  | case5 nt rest s ch nq hnq hne ih =>
    rw [reevalPass, hq h nt, hnq, ← h.queueOf nt]; dsimp only; rw [if_neg hne]; exact ih t h hr

theorem reevalLoop_sim (E : Env S) (k : Nat) (s t s' : St S) (h : Sim s t) (hr : reevalLoop E k s = some s') :
    ∃ t', reevalLoop E k t = some t' ∧ Sim s' t' := by
  fun_induction reevalLoop E k s generalizing t with
  | case1 => cases hr
  | case2 => cases hr
  | case3 k s s1 hp ih =>
    obtain ⟨t1, e1, h1⟩ := reevalPass_sim E _ s t false _ h hp
    rw [reevalLoop, ← h.2, e1]; exact ih t1 h1 hr
  | case4 k s s1 hp =>
    obtain ⟨t1, e1, h1⟩ := reevalPass_sim E _ s t false _ h hp
    cases hr
    rw [reevalLoop, ← h.2, e1]; exact ⟨t1, rfl, h1⟩

theorem prologue_match (E : Env S) (fuel : Nat) (s t s' : St S) (h : Sim s t) (hp : prologue E fuel s = some s') :
    ∃ t', prologue E fuel t = some t' ∧ Sim s' t' := by
  obtain ⟨s1, hin, hre⟩ := prologue_cases hp
  obtain ⟨t1, e1, h1⟩ := (init_sim E fuel).nt hin t h
  simp only [prologue, e1]
  unfold reevaluate at hre ⊢
  split
  · next hrec => rw [if_pos hrec] at hre; exact reevalLoop_sim E fuel s1 t1 s' h1 hre
  · next hrec => rw [if_neg hrec] at hre; cases hre; exact ⟨t1, rfl, h1⟩

/-- `prologue_match` in both directions, as one relation between the two results -/
theorem prologue_sim (E : Env S) (fuel : Nat) (s t : St S) (h : Sim s t) :
    SimRes ((prologue E fuel s).map fun x => (x, ())) ((prologue E fuel t).map fun x => (x, ())) := by
  cases h1 : prologue E fuel s with
  | none =>
    cases h2 : prologue E fuel t with
    | none => trivial
    | some b => obtain ⟨a, e, _⟩ := prologue_match E fuel t s b h.symm h2; rw [h1] at e; cases e
  | some a =>
    obtain ⟨b, e, hab⟩ := prologue_match E fuel s t a h h1
    rw [e]; exact ⟨hab, rfl⟩

/-- a state as `__init__` leaves it, up to `_deleted` and the (empty) banks: what a `merge_program` before the
    first `next` produces -/
def Fresh (E : Env S) (s : St S) : Prop := Sim s (St.empty E.G) ∧ ∀ nt ci, s.bankAt nt ci = []

theorem Fresh.clOf {E : Env S} {s : St S} (hf : Fresh E s) (nt : NT S Unit) : s.clOf nt = [] := by
  rw [hf.1.clOf, St.clOf_empty]
theorem Fresh.queueOf {E : Env S} {s : St S} (hf : Fresh E s) (nt : NT S Unit) : s.queueOf nt = [] := by
  rw [hf.1.queueOf, St.queueOf_empty]

theorem fresh_empty (E : Env S) : Fresh E (St.empty E.G) := ⟨⟨rfl, rfl⟩, St.bankAt_empty E.G⟩

theorem prologue_fresh (E : Env S) (fuel : Nat) (s0 s : St S) (hf : Fresh E s0) (h : prologue E fuel s0 = some s) :
    ∃ s', prologue E fuel (St.empty E.G) = some s' ∧ Sim s s' ∧ (∀ nt ci, s.bankAt nt ci = []) := by
  obtain ⟨s', e, hs⟩ := prologue_match E fuel s0 (St.empty E.G) s hf.1 h
  refine ⟨s', e, hs, fun nt ci => ?_⟩
  have : s.bankAt nt ci = s0.bankAt nt ci := St.bankAt_congr (St.bankOf_congr (prologue_rest E fuel s0 s h).1 nt) ci
  rw [this]; exact hf.2 nt ci

end PS.Beap
