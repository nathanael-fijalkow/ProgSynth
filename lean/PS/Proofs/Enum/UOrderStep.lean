/- Heap search on unambiguous, acyclic grammars: the order invariant of a non-terminal under
   `__init_non_terminal__` — the programs pushed in phase 2 are the ones scanned in phase 1, in the same order, so
   the root of the heap is `max_priority[S]` (tie-breaking of heapq = strict `<` of the scan) — and the order and
   completeness invariants (`NTInv`, `CInv`) under the primitive steps (a recorded pop, a skipped pop, a pushed
   successor).  Before them `Base`, the invariants that need no rank, and what every call gives from a state with `Base`
   (`After`). -/
import PS.Proofs.Enum.UHeaps
namespace PS.UHS
open PS PS.G

set_option linter.unusedSectionVars false
variable {U π : Type} [DecidableEq U]

/-- the invariants of the whole state that need no rank: soundness, no duplicates, valid heaps of the non-terminals, and
    `delF`: only rejected programs are in `deleted`, so that a program the pop loop skips falls under the third case of
    `CInv.cover` -/
structure Base (E : Env U π) (s : St U π) : Prop where
  sinv : SInv E s
  ninv : NInv E s
  hinv : HInvN E s
  delF : ∀ q, q ∈ s.deleted → E.filter q = false

/-- What a call gives from a state with `Base`. `frame`: among the non-terminals of rank at least `c.bound rank` only
    the tables of `c.site` were written; `kept`: every non-terminal other than `c.inner` that was initialised with an
    empty heap is still so, with the same successors. -/
structure After (E : Env U π) (rank : UNT U → Nat) (c : Call U π) (s s' : St U π) (r : Res π) : Prop where
  base : Base E s'
  stable : Stable s s'
  frame : Frame rank (c.bound rank) c.site s s'
  npost : NPost c s' r
  spost : SPost E c r
  kept : ∀ sj, c.inner ≠ some sj → Kept s s' sj

/-- a call that pops before it pushes (`query`, `__init_non_terminal__`, `__init_helper__`) keeps every exhausted
    non-terminal exhausted -/
theorem After.keptAll {E : Env U π} {rank : UNT U → Nat} {c : Call U π} {s s' : St U π} {r : Res π}
    (a : After E rank c s s' r) (hc : c.inner = none) (sj : UNT U) : Kept s s' sj :=
  a.kept sj (by rw [hc]; nofun)

theorem big_after {E : Env U π} {rank : UNT U → Nat} {Good : π → Prop} (H : OHyp E rank Good) {c : Call U π}
    {s s' : St U π} {r : Res π} (hb : Big E c s s' r) (h : Base E s) (h1 : SPre E c) (h2 : NPre c s) :
    After E rank c s s' r := by
  obtain ⟨a1, a2⟩ := big_sound E H.ghyp hb h.sinv h1
  obtain ⟨b1, b2, b3⟩ := big_nodup E H.ghyp hb h.sinv h1 h.ninv h2
  exact ⟨⟨a1, b1, big_heaps_on H hb h.sinv h1 h.hinv, by rw [big_deleted E hb H.ghyp.kway]; exact h.delF⟩,
    b2, big_frame E H.ghyp rank H.acyclic hb h.sinv h1, b3, a2, big_emptyKeep E H.ghyp.kway hb⟩

theorem big_all {E : Env U π} {rank : UNT U → Nat} {Good : π → Prop} (H : OHyp E rank Good) {c : Call U π}
    {s s' : St U π} {r : Res π} (hb : Big E c s s' r) (h : Base E s) (h1 : SPre E c) (h2 : NPre c s) :
    Base E s' ∧ Stable s s' ∧ Frame rank (c.bound rank) c.site s s' ∧ NPost c s' r ∧ SPost E c r ∧
      (∀ sj, c.inner ≠ some sj → Kept s s' sj) :=
  have a := big_after H hb h h1 h2
  ⟨a.base, a.stable, a.frame, a.npost, a.spost, a.kept⟩

theorem Base.pushStep {E : Env U π} {rank : UNT U → Nat} {Good : π → Prop} (H : OHyp E rank Good) {s s3 : St U π}
    (hb : Base E s) {F : Sym} {args : List Prog} {nt : UNT U} {v : List (UNT U)} {i : Nat} {r : Option Prog}
    (hkq : ∀ q, r = some q → KeyOK E nt F (args.set i q) v) (hp : pushStep E s F args nt v i r = some s3) :
    Base E s3 ∧ Stable s s3 ∧ Only nt s s3 := by
  have hk := H.ghyp.kway
  obtain ⟨n3, st⟩ := hb.ninv.pushStep hk F args nt v i r hp
  refine ⟨⟨hb.sinv.pushStep H.ghyp F args nt v i r hkq s3 hp, n3, HInvN.pushStep_on H hb.sinv hb.hinv F args nt v i r hkq hp,
    ?_⟩, st, only_pushStep E hk hp⟩
  obtain ⟨_, _, _, _, rfl⟩ := pushStep_fields E hk hp
  exact hb.delF

theorem Base.initPush {E : Env U π} {rank : UNT U → Nat} {Good : π → Prop} (H : OHyp E rank Good) {s s' : St U π}
    (hb : Base E s) {nt : UNT U} {l : List (Sym × List (UNT U))} (hp : initPush E s nt l = some s') :
    Base E s' ∧ Stable s s' ∧ Only nt s s' := by
  have hk := H.ghyp.kway
  obtain ⟨n3, st⟩ := hb.ninv.initPush hk nt l hp
  refine ⟨⟨hb.sinv.initPush H.ghyp nt l hp, n3, HInvN.initPush_on H nt l hb.sinv hb.hinv hp, ?_⟩, st, only_initPush E hk nt l s s' hp⟩
  obtain ⟨_, _, _, _, rfl⟩ := initPush_fields E hk hp
  exact hb.delF

def Items {α β : Type} (R : α → β → Prop) : List α → List β → Prop
  | [], [] => True
  | a :: as, b :: bs => R a b ∧ Items R as bs
  | [], _ :: _ => False
  | _ :: _, [] => False

theorem Items.mono {α β : Type} {R R' : α → β → Prop} : ∀ {l : List α} {m : List β},
    (∀ a b, a ∈ l → R a b → R' a b) → Items R l m → Items R' l m := by
  intro l m
  fun_induction Items R l m with
  | case1 => exact fun _ _ => trivial
  | case2 a as b bs ih =>
    exact fun hr h => ⟨hr a b List.mem_cons_self h.1, ih (fun x y hx => hr x y (List.mem_cons_of_mem _ hx)) h.2⟩
  | case3 => exact fun _ => nofun
  | case4 => exact fun _ => nofun

theorem Items.snoc {α β : Type} {R : α → β → Prop} : ∀ {l : List α} {m : List β} {a : α} {b : β},
    Items R l m → R a b → Items R (l ++ [a]) (m ++ [b]) := by
  intro l m
  fun_induction Items R l m with
  | case1 => exact fun h hr => ⟨hr, trivial⟩
  | case2 a as b bs ih => exact fun h hr => ⟨h.1, ih h.2 hr⟩
  | case3 => exact nofun
  | case4 => exact nofun

/-- `max_priority[(nt, P, v)] = program` with its priority, arguments popped for their non-terminals -/
def ItemOK (E : Env U π) (s : St U π) (nt : UNT U) (d : Sym × List (UNT U)) (it : π × Prog) : Prop :=
  AList.lookup (nt, d.1, d.2) s.maxRule = some it.2 ∧ HasPrio E it.2 nt it.1 ∧
  ∃ w kids, (d.2, w) ∈ altsOf E nt d.1 ∧ it.2 = Tree.node d.1 kids ∧ DerList E kids d.2 ∧
    (∀ (i : Nat) (ai : Prog) (si : UNT U), kids[i]? = some ai → d.2[i]? = some si →
      AList.lookup none (s.succOf si) = some ai) ∧
    AList.lookup (nt, it.2) s.keys = some d.2

theorem ItemOK.mono {E : Env U π} {s s' : St U π} {nt : UNT U} {d : Sym × List (UNT U)} {it : π × Prog}
    (h : ItemOK E s nt d it) (hst : Stable s s')
    (h1 : AList.lookup (nt, d.1, d.2) s'.maxRule = AList.lookup (nt, d.1, d.2) s.maxRule)
    (h2 : AList.lookup (nt, it.2) s'.keys = AList.lookup (nt, it.2) s.keys) : ItemOK E s' nt d it := by
  obtain ⟨a, b, w, kids, c1, c2, c3, c4, c5⟩ := h
  exact ⟨h1.trans a, b, w, kids, c1, c2, c3, fun i ai si hi hs => hst _ _ _ (c4 i ai si hi hs), h2.trans c5⟩

/-- phase 1 of `__init_non_terminal__` after the alternatives `done` -/
structure Phase1 (E : Env U π) (s : St U π) (nt : UNT U) (done : List (Sym × List (UNT U))) (items : List (π × Prog))
    (best : Option (Prog × π)) : Prop where
  ok : Items (ItemOK E s nt) done items
  root : best.map (fun b => (b.2, b.1)) = (items.foldl (Heapq.push (ltE E.ops)) []).head?

theorem phase1_nil (E : Env U π) (s : St U π) (nt : UNT U) : Phase1 E s nt [] [] none := ⟨trivial, rfl⟩

theorem bestUpd_swap (E : Env U π) (best : Option (Prog × π)) (prog : Prog) (pr : π) :
    (bestUpd E.ops.lt best prog pr).map (fun b => (b.2, b.1)) =
      Heapq.bestStep (ltE E.ops) (best.map (fun b => (b.2, b.1))) (pr, prog) := by
  cases best with
  | none => rfl
  | some b =>
    by_cases h : E.ops.lt pr b.2 = true <;> simp [bestUpd, Heapq.bestStep, ltE, h]

theorem Items.mem_right {α β : Type} {R : α → β → Prop} : ∀ {l : List α} {m : List β}, Items R l m →
    ∀ b, b ∈ m → ∃ a, a ∈ l ∧ R a b := by
  intro l m
  fun_induction Items R l m with
  | case1 => exact fun _ _ => nofun
  | case2 a as b0 bs ih =>
    intro h b hb
    rcases List.mem_cons.mp hb with rfl | hb'
    · exact ⟨a, List.mem_cons_self, h.1⟩
    · obtain ⟨a', ha', hr⟩ := ih h.2 b hb'
      exact ⟨a', List.mem_cons_of_mem _ ha', hr⟩
  | case3 => exact nofun
  | case4 => exact nofun

theorem Items.mem_left {α β : Type} {R : α → β → Prop} : ∀ {l : List α} {m : List β}, Items R l m →
    ∀ a, a ∈ l → ∃ b, b ∈ m ∧ R a b := by
  intro l m
  fun_induction Items R l m with
  | case1 => exact fun _ _ => nofun
  | case2 a0 as b bs ih =>
    intro h a ha
    rcases List.mem_cons.mp ha with rfl | ha'
    · exact ⟨b, List.mem_cons_self, h.1⟩
    · obtain ⟨b', hb', hr⟩ := ih h.2 a ha'
      exact ⟨b', List.mem_cons_of_mem _ hb', hr⟩
  | case3 => exact nofun
  | case4 => exact nofun

theorem Phase1.step {E : Env U π} {rank : UNT U → Nat} {Good : π → Prop} (H : OHyp E rank Good) {s s' : St U π} {nt : UNT U}
    {done : List (Sym × List (UNT U))} {items : List (π × Prog)} {best : Option (Prog × π)} (h : Phase1 E s nt done items best)
    (d : Sym × List (UNT U)) (pr : π) (prog : Prog)
    (hstab : ∀ d' it, d' ∈ done → ItemOK E s nt d' it → ItemOK E s' nt d' it) (hnew : ItemOK E s' nt d (pr, prog)) :
    Phase1 E s' nt (done ++ [d]) (items ++ [(pr, prog)]) (bestUpd E.ops.lt best prog pr) := by
  refine ⟨Items.snoc (Items.mono hstab h.ok) hnew, ?_⟩
  rw [bestUpd_swap, h.root, List.foldl_append]
  simp only [List.foldl_cons, List.foldl_nil]
  have hgood : ∀ y, y ∈ items → Good y.1 := fun y hy =>
    have ⟨_, _, hab⟩ := Items.mem_right h.ok y hy
    hasPrio_good H _ _ _ hab.2.1
  have hfold : ∀ y, y ∈ items.foldl (Heapq.push (ltE E.ops)) [] → Good y.1 :=
    fun y hy => hgood y ((Heapq.build_perm (ltE E.ops) items).subset hy)
  rw [Heapq.push_head_on (ltE_weakOrderOn H) _ _ hfold (hasPrio_good H _ _ _ hnew.2.1)
    (foldl_push_isHeap_on (ltE_weakOrderOn H) items [] (by intro y hy; cases hy) hgood (Heapq.isHeap_nil _))]

theorem Items.length_eq {α β : Type} {R : α → β → Prop} : ∀ {l : List α} {m : List β}, Items R l m → l.length = m.length := by
  intro l m
  fun_induction Items R l m with
  | case1 => exact fun _ => rfl
  | case2 a as b bs ih => exact fun h => congrArg (· + 1) (ih h.2)
  | case3 => exact nofun
  | case4 => exact nofun

/-- phase 2 pushes exactly the programs scanned in phase 1, with the scanned priorities -/
theorem initPush_spec {E : Env U π} {rank : UNT U → Nat} {Good : π → Prop} (H : OHyp E rank Good) (nt : UNT U) :
    ∀ (l : List (Sym × List (UNT U))) (items : List (π × Prog)) (s s' : St U π),
      Items (ItemOK E s nt) l items → Base E s → initPush E s nt l = some s' →
      Base E s' ∧ Only nt s s' ∧ Stable s s' ∧
      s'.heapOf nt = items.foldl (Heapq.push (ltE E.ops)) (s.heapOf nt) ∧
      s'.seenOf nt = s.seenOf nt ++ items.map (·.2) ∧ s'.succOf nt = s.succOf nt ∧
      s'.initS = s.initS ∧ s'.maxNT = s.maxNT ∧ s'.keys = s.keys ∧
      (∀ it, it ∈ items → ∃ v, AList.lookup (nt, it.2) s.keys = some v) ∧ s'.deleted = s.deleted := by
  intro l
  induction l with
  | nil =>
    intro items s s' hit hb hp
    cases items with
    | cons _ _ => exact hit.elim
    | nil =>
      cases hp
      exact ⟨hb, Only.refl nt s, Stable.refl s, rfl, (List.append_nil _).symm, rfl, rfl, rfl, rfl, nofun, rfl⟩
  | cons d rest ih =>
    obtain ⟨P, v⟩ := d
    intro items s s' hit hb hp
    cases items with
    | nil => exact hit.elim
    | cons it items =>
    obtain ⟨pr, prog⟩ := it
    have hk := H.ghyp.kway
    obtain ⟨⟨hmr, hpr, _⟩, hrest⟩ := hit
    obtain ⟨prog', s1, pr1, hm, hnew, hcp, hkey, hp'⟩ := initPush_cons_eq.mp hp
    rw [hmr] at hm
    cases hm
    have hd : Der E prog nt := ⟨pr, hpr⟩
    have hpe : pr1 = pr :=
      hasPrio_fun H prog nt pr1 pr ((hb.sinv.addSeen nt prog hd).computePrio H.ghyp nt prog hd s1 pr1 hcp).1 hpr
    subst hpe
    -- the state after the first push: `s` with a new `hash_table_program[nt]`, memo table and heap of `nt`
    obtain ⟨hb2, st2, ho2⟩ := hb.initPush H (l := [(P, v)]) (initPush_cons_eq.mpr ⟨prog, s1, pr1, hmr, hnew, hcp, hkey, rfl⟩)
    obtain ⟨c, rfl⟩ := computePrio_step E hcp
    rw [pushBoth_plain E hk H.thr] at hp' hb2 st2 ho2
    obtain ⟨r1, r2, r3, r4, r5, r6, r7, r8, r9, r10, r11⟩ := ih items _ s'
      (Items.mono (fun d it _ h => h.mono st2 rfl rfl) hrest) hb2 hp'
    refine ⟨r1, ho2.trans r2, st2.trans r3, ?_, ?_, r6, r7, r8, r9, ?_, r11⟩
    · rw [r4, St.heapOf_setHeap, if_pos rfl]
      rfl
    · rw [r5]
      show (s.addSeen nt prog).seenOf nt ++ _ = _
      rw [St.seenOf_addSeen, if_pos rfl, List.map_cons, List.append_assoc]
      rfl
    · intro it hit
      rcases List.mem_cons.mp hit with rfl | hit'
      · exact Option.isSome_iff_exists.mp hkey
      · exact r10 it hit'

variable {E : Env U π} {rank : UNT U → Nat} {Good : π → Prop}

theorem Base.popTake (H : OHyp E rank Good) {s : St U π} (hb : Base E s) (nt : UNT U) (key : Option Prog)
    (e : π × Prog) (h' : List (π × Prog)) (h : Heapq.pop (ltE E.ops) (s.heapOf nt) = some (e, h'))
    (hkey : AList.lookup key (s.succOf nt) = none) :
    Base E (s.popTake nt key e h') ∧ Stable s (s.popTake nt key e h') ∧ Only nt s (s.popTake nt key e h') := by
  obtain ⟨n1, st⟩ := hb.ninv.popTake nt key e h' h hkey
  exact ⟨⟨hb.sinv.popTake h key, n1, (hb.hinv.pop_on H hb.sinv nt e h' h).1, hb.delF⟩, st, only_popTake s nt key e h'⟩

theorem Popped.der {s : St U π} (hs : SInv E s) {nt : UNT U} {x : Prog} (h : Popped s nt x) : Der E x nt := by
  obtain ⟨k, hk⟩ := h
  exact hs.seen_der nt x (hs.succ_seen nt k x hk)

theorem Popped.seen {s : St U π} (hs : SInv E s) {nt : UNT U} {x : Prog} (h : Popped s nt x) : x ∈ s.seenOf nt := by
  obtain ⟨k, hk⟩ := h
  exact hs.succ_seen nt k x hk

/-! ### the order clauses of `NTInv` under the three writes of PS/Proofs/Enum/Tables.lean -/

section TableInvariants
open Tables
variable {NT : Type} [DecidableEq NT] {T T' : Tb NT} {nt : NT} {key : Option Prog} {x np : Prog} {rest : List Prog}

/-- no program of the heap is better than a popped one; a recorded successor is not better than its key -/
structure Ord (le : Prog → Prog → Prop) (T : Tb NT) (nt : NT) : Prop where
  below : ∀ y, Val T nt y → ∀ e ∈ T.heap nt, le y e
  link : ∀ k y, AList.lookup (some k) (T.succ nt) = some y → le k y

variable {le : Prog → Prog → Prop}

theorem Ord.skip (h : Ord le T nt) (W : Skip T T' nt x rest) : Ord le T' nt ∧ ∀ y, Val T' nt y → le y x :=
  ⟨⟨fun y hy e he => h.below y ((Val.of_eq (W.succ nt)).mp hy) e (W.sub he), fun k y hk => h.link k y (W.succ nt ▸ hk)⟩,
    fun y hy => h.below y ((Val.of_eq (W.succ nt)).mp hy) x (W.perm.symm.subset List.mem_cons_self)⟩

theorem Ord.take (h : Ord le T nt) (W : Take T T' nt key x rest) (refl : le x x) (hmin : ∀ e ∈ rest, le x e)
    (hkey : ∀ k, key = some k → Val T nt k) : Ord le T' nt ∧ ∀ y, Val T' nt y → le y x := by
  have hx : ∀ y, Val T nt y → le y x := fun y hy => h.below y hy x (W.perm.symm.subset List.mem_cons_self)
  refine ⟨⟨fun y hy e he => ?_, fun k y hk => ?_⟩, fun y hy => (W.val hy).elim (fun e => e ▸ refl) (hx y)⟩
  · have he' : e ∈ rest := by have := W.heap nt ▸ he; rwa [if_pos rfl] at this
    rcases W.val hy with rfl | hy
    · exact hmin e he'
    · exact h.below y hy e (W.sub he)
  · rcases W.lookup hk with ⟨-, hkk, rfl⟩ | ⟨-, hk⟩
    · exact hx k (hkey k hkk.symm)
    · exact h.link k y hk

theorem Ord.push (h : Ord le T nt) (W : Push T T' nt np) (hnp : ∀ y, Val T nt y → le y np) : Ord le T' nt :=
  ⟨fun y hy e he => (W.mem_heap he).elim (fun hn => hn.2 ▸ hnp y ((Val.of_eq (W.succ nt)).mp hy)) (h.below y ((Val.of_eq (W.succ nt)).mp hy) e),
    fun k y hk => h.link k y (W.succ nt ▸ hk)⟩

end TableInvariants

theorem NTInv.ord {s : St U π} {nt : UNT U} (h : NTInv E s nt) : Ord (LE E nt) s.tb nt :=
  ⟨fun y hy p hp => by obtain ⟨e, he, rfl⟩ := mem_heapProgs.mp hp; exact h.heap_le y hy e he, h.sorted⟩

theorem CInv.cov {s : St U π} {nt : UNT U} {e : Option Prog} {i : Nat} (h : CInv E rank s nt e i) :
    Tables.Cover (fun p => E.filter p = false) s.tb nt := h.cover

theorem NTInv.popTake (H : OHyp E rank Good) {s : St U π} (hb : Base E s) {nt : UNT U} (hn : NTInv E s nt)
    (key : Option Prog) (e : π × Prog) (h' : List (π × Prog))
    (h : Heapq.pop (ltE E.ops) (s.heapOf nt) = some (e, h'))
    (hkey : AList.lookup key (s.succOf nt) = none) (hkp : ∀ k, key = some k → Popped s nt k) :
    NTInv E (s.popTake nt key e h') nt ∧ Popped (s.popTake nt key e h') nt e.2 ∧
    (∀ x, Popped (s.popTake nt key e h') nt x → LE E nt x e.2) ∧ (∀ k, key = some k → LE E nt k e.2) := by
  obtain ⟨hm, hsub⟩ := mem_of_pop _ _ _ _ h
  have hmin := (hb.hinv.pop_on H hb.sinv nt e h' h).2
  have W := take_popTake h hkey
  have hle_h : ∀ p, p ∈ h'.map (·.2) → LE E nt e.2 p := by
    intro p hp px py hx hy
    obtain ⟨e', he', rfl⟩ := List.mem_map.mp hp
    rw [hasPrio_fun H _ _ _ _ hx (hb.sinv.heap_prio nt e hm), hasPrio_fun H _ _ _ _ hy (hb.sinv.heap_prio nt e' (hsub e' he'))]
    exact hmin e' (hsub e' he')
  obtain ⟨ord, hlast⟩ := hn.ord.take W (LE.refl H nt _) hle_h hkp
  have hkeyEnd : key = lastK none (s.succOf nt) := by
    apply chainL_miss _ none key hn.chain hkey
    cases key with
    | none => exact Or.inl rfl
    | some k =>
      obtain ⟨k', hk'⟩ := hkp k rfl
      exact Or.inr ⟨(k', k), AList.lookup_some_mem hk', rfl⟩
  have hsucc : (s.popTake nt key e h').succOf nt = AList.insert key e.2 (s.succOf nt) := by
    rw [popTake_succOf, if_pos rfl]
  refine ⟨⟨hn.init, ?_, ?_, ?_, ?_, ?_, ord.link, fun F v w hm a ha => by
      obtain ⟨x, hx⟩ := hn.closed F v w hm a ha
      exact ⟨x, W.stable _ _ _ hx⟩⟩, ⟨key, W.self⟩, hlast, fun k hk => hn.heap_le k (hkp k hk) e hm⟩
  · rw [hsucc, AList.insert_of_lookup_none e.2 hkey, hkeyEnd]
    exact chainL_snoc _ none e.2 hn.chain
  · rw [hsucc]
    exact AList.keys_insert_nodup key e.2 hn.keys_nodup
  · obtain ⟨m, h1, h2⟩ := hn.first
    refine ⟨m, h1, Or.inl ?_⟩
    rcases h2 with h2 | ⟨h2, pr, h3⟩
    · exact W.stable _ _ _ h2
    · have hk : key = none := by rw [hkeyEnd, h2]; rfl
      have := Heapq.pop_head _ _ _ _ h
      rw [h3] at this
      cases this
      exact hk ▸ W.self
  · intro F kids v hseen hk i ai si hai hsi
    obtain ⟨k', hk'⟩ := hn.args F kids v hseen hk i ai si hai hsi
    exact ⟨k', W.stable _ _ _ hk'⟩
  · intro x hx e' he'
    exact ord.below x hx e'.2 (List.mem_map.mpr ⟨e', he', rfl⟩)

/-- `succs` after a pop (recorded or skipped): the popped program `x` is the one whose positions are pending, the
    others were treated before -/
theorem CInv.succs_pop {s s' : St U π} {nt : UNT U} {x : Prog} {rest : List Prog} (hc : CInv E rank s nt none 0)
    (hperm : (s.heapProgs nt).Perm (x :: rest)) (hheap : s'.heapProgs nt = rest) (hseen : s'.seenOf nt = s.seenOf nt)
    (hkeys : s'.keys = s.keys) (i : Nat) (hi : ∀ F args, x = Tree.node F args → args.length ≤ i)
    (hdone : ∀ F args j aj sj, sj ≠ nt → SuccDone s nt F args j aj sj → SuccDone s' nt F args j aj sj) :
    ∀ (F : Sym) (args : List Prog) (v : List (UNT U)), Proc s' nt (Tree.node F args) →
      AList.lookup (nt, Tree.node F args) s'.keys = some v →
      ∀ (j : Nat) (aj : Prog) (sj : UNT U), args[j]? = some aj → v[j]? = some sj → rank sj < rank nt →
        (some x = some (Tree.node F args) → i ≤ j) → SuccDone s' nt F args j aj sj := by
  intro F args v hp hk j aj sj haj hsj hr hex
  have hne : sj ≠ nt := by intro e'; subst e'; exact Nat.lt_irrefl _ hr
  by_cases heq : x = Tree.node F args
  · exfalso
    have h1 := hex (by rw [heq])
    have h2 := hi F args heq
    have h3 : j < args.length := (List.getElem?_eq_some_iff.mp haj).1
    omega
  · have hp0 : Proc s nt (Tree.node F args) := by
      refine ⟨hseen ▸ hp.1, fun hin => ?_⟩
      rcases List.mem_cons.mp (hperm.subset hin) with h1 | h1
      · exact heq h1.symm
      · exact hp.2 (hheap ▸ h1)
    exact hdone F args j aj sj hne (hc.succs F args v hp0 (hkeys ▸ hk) j aj sj haj hsj hr (by intro e'; cases e'))

theorem CInv.popTake {s : St U π} (hb : Base E s) {nt : UNT U} (hc : CInv E rank s nt none 0)
    (key : Option Prog) (e : π × Prog) (h' : List (π × Prog))
    (h : Heapq.pop (ltE E.ops) (s.heapOf nt) = some (e, h'))
    (hkey : AList.lookup key (s.succOf nt) = none) (i : Nat) (hi : ∀ F args, e.2 = Tree.node F args → args.length ≤ i) :
    CInv E rank (s.popTake nt key e h') nt (some e.2) i := by
  have W := take_popTake h hkey
  refine ⟨hc.keyed, ?_, hc.cov.take W,
    CInv.succs_pop (s' := s.popTake nt key e h') hc W.perm (by rw [popTake_heapProgs, if_pos rfl]) rfl rfl i hi ?_⟩
  · intro F v w hm
    obtain ⟨kids, h1, h2, h3⟩ := hc.initial F v w hm
    exact ⟨kids, h1, h2, fun j aj sj a b => W.stable _ _ _ (h3 j aj sj a b)⟩
  · rintro F args j aj sj hne (⟨q, h1, h2⟩ | ⟨h1, h2, h3⟩)
    · exact Or.inl ⟨q, W.stable _ _ _ h1, h2⟩
    · refine Or.inr ⟨h1, ?_, by rw [popTake_succOf, if_neg hne]; exact h3⟩
      show (s.setHeap nt h').heapOf sj = []
      rw [St.heapOf_setHeap, if_neg hne]; exact h2

/-- a popped program that is in `deleted` is skipped -/
theorem Base.popDrop (H : OHyp E rank Good) {s : St U π} (hb : Base E s) (nt : UNT U) (e : π × Prog) (h' : List (π × Prog))
    (h : Heapq.pop (ltE E.ops) (s.heapOf nt) = some (e, h')) :
    Base E (s.setHeap nt h') ∧ Stable s (s.setHeap nt h') ∧ Only nt s (s.setHeap nt h') :=
  ⟨⟨hb.sinv.setHeap_sub _ _ (mem_of_pop _ _ _ _ h).2, hb.ninv.popDrop nt e h' h, (hb.hinv.pop_on H hb.sinv nt e h' h).1,
    hb.delF⟩, Stable.refl _, only_setHeap s nt h'⟩

theorem NTInv.popDrop (H : OHyp E rank Good) {s : St U π} (hb : Base E s) {nt : UNT U} (hn : NTInv E s nt)
    (e : π × Prog) (h' : List (π × Prog)) (h : Heapq.pop (ltE E.ops) (s.heapOf nt) = some (e, h'))
    (hlive : s.succOf nt ≠ []) :
    NTInv E (s.setHeap nt h') nt ∧ (∀ x, Popped (s.setHeap nt h') nt x → LE E nt x e.2) := by
  obtain ⟨ord, hlast⟩ := hn.ord.skip (skip_setHeap h)
  refine ⟨{ hn with first := ?_, heap_le := fun x hx e' he' => ord.below x hx e'.2 (List.mem_map.mpr ⟨e', he', rfl⟩) }, hlast⟩
  obtain ⟨m, h1, h2⟩ := hn.first
  exact ⟨m, h1, Or.inl (h2.resolve_right fun h => hlive h.1)⟩

theorem CInv.popDrop {s : St U π} (hb : Base E s) {nt : UNT U} (hc : CInv E rank s nt none 0)
    (e : π × Prog) (h' : List (π × Prog)) (h : Heapq.pop (ltE E.ops) (s.heapOf nt) = some (e, h'))
    (hd : s.deleted.contains e.2 = true) (i : Nat) (hi : ∀ F args, e.2 = Tree.node F args → args.length ≤ i) :
    CInv E rank (s.setHeap nt h') nt (some e.2) i := by
  have W := skip_setHeap h
  refine ⟨hc.keyed, hc.initial, hc.cov.skip W (hb.delF _ (by simpa using hd)),
    CInv.succs_pop (s' := s.setHeap nt h') hc W.perm (by rw [St.heapProgs_setHeap, if_pos rfl]) rfl rfl i hi ?_⟩
  rintro F args j aj sj hne (⟨q, h1, h2⟩ | ⟨h1, h2, h3⟩)
  · exact Or.inl ⟨q, h1, h2⟩
  · exact Or.inr ⟨h1, by rw [St.heapOf_setHeap, if_neg hne]; exact h2, h3⟩

theorem NTInv.pushStep (H : OHyp E rank Good) {s1 s3 : St U π} (hb : Base E s1) {nt : UNT U} (hn : NTInv E s1 nt)
    {F : Sym} {args : List Prog} {v : List (UNT U)} {i : Nat} {ai : Prog} {si : UNT U} {r : Option Prog}
    (hko : KeyOK E nt F args v) (hkey : AList.lookup (nt, Tree.node F args) s1.keys = some v)
    (hprogseen : Tree.node F args ∈ s1.seenOf nt) (hlive : s1.succOf nt ≠ [])
    (hlatest : ∀ x, Popped s1 nt x → LE E nt x (Tree.node F args))
    (hai : args[i]? = some ai) (hsi : v[i]? = some si) (hne : si ≠ nt)
    (hr : ∀ q, r = some q → Popped s1 si q ∧ LE E si ai q)
    (hc : CInv E rank s1 nt (some (Tree.node F args)) (i + 1))
    (hr1 : ∀ q, r = some q → AList.lookup (some ai) (s1.succOf si) = some q)
    (hr2 : r = none → s1.initS.contains si = true ∧ s1.heapOf si = [] ∧ AList.lookup (some ai) (s1.succOf si) = none)
    (hp : pushStep E s1 F args nt v i r = some s3) :
    Base E s3 ∧ NTInv E s3 nt ∧ s3.succOf nt = s1.succOf nt ∧ Only nt s1 s3 ∧ Stable s1 s3 ∧
      AList.lookup (nt, Tree.node F args) s3.keys = some v ∧ CInv E rank s3 nt (some (Tree.node F args)) i ∧
      (∀ p, p ∈ s1.seenOf nt → p ∈ s3.seenOf nt) := by
  have hk := H.ghyp.kway
  have hkq : ∀ q, r = some q → KeyOK E nt F (args.set i q) v :=
    fun q hq => ⟨hko.1, derList_set E args v i q si hko.2 hsi ((hr q hq).1.der hb.sinv)⟩
  obtain ⟨hb3, st3, ho3⟩ := hb.pushStep H hkq hp
  -- the position `i` of `F(args)` is the one being treated; every other position asked for was treated before
  have hsuccs : ∀ {F' : Sym} {args' : List Prog} {v' : List (UNT U)} {j : Nat} {aj : Prog} {sj : UNT U},
      Proc s1 nt (Tree.node F' args') → AList.lookup (nt, Tree.node F' args') s1.keys = some v' → args'[j]? = some aj →
      v'[j]? = some sj → rank sj < rank nt → (some (Tree.node F args) = some (Tree.node F' args') → i ≤ j) →
      (F' = F ∧ args' = args ∧ j = i ∧ aj = ai ∧ sj = si) ∨ SuccDone s1 nt F' args' j aj sj := by
    intro F' args' v' j aj sj hp' hk' haj hsj hrk hex
    by_cases hji : some (Tree.node F args) = some (Tree.node F' args') ∧ j = i
    · obtain ⟨e1, e2⟩ := hji
      cases e1
      subst e2
      rw [hk'] at hkey
      cases hkey
      rw [hai] at haj; cases haj
      rw [hsi] at hsj; cases hsj
      exact Or.inl ⟨rfl, rfl, rfl, rfl, rfl⟩
    · refine Or.inr (hc.succs F' args' v' hp' hk' j aj sj haj hsj hrk fun e1 => ?_)
      exact Nat.lt_of_le_of_ne (hex e1) fun e2 => hji ⟨e1, e2.symm⟩
  rcases pushStep_eq hp with ⟨rfl, hdone⟩ | ⟨q, s2, pr, rfl, hnew', hcp, rfl⟩
  · -- nothing is pushed: the position `i` is done
    have hd : SuccDone s3 nt F args i ai si := by
      rcases hdone with rfl | ⟨q, rfl, hseenq⟩
      · exact Or.inr (hr2 rfl)
      · exact Or.inl ⟨q, hr1 q rfl, hseenq⟩
    refine ⟨hb, hn, rfl, ho3, st3, hkey, { hc with succs := ?_ }, fun _ h => h⟩
    intro F' args' v' hp' hk' j aj sj haj hsj hrk hex
    rcases hsuccs hp' hk' haj hsj hrk hex with ⟨rfl, rfl, rfl, rfl, rfl⟩ | h
    · exact hd
    · exact h
  · obtain ⟨hqp, hqle⟩ := hr q rfl
    have hcs := computePrio_step E hcp
    -- the write, seen on the tables; no threshold: the program went into the heap; `_keys`, `_init`, `max_priority` apart
    have W := push_pushBoth hk pr hnew' (fun _ => hcs.heapOf _) (fun _ => hcs.seenOf _) (fun _ => hcs.succOf _)
    obtain ⟨c, rfl⟩ := hcs
    generalize hs3 : pushBoth E _ nt pr _ = s3 at hb3 st3 ho3 W ⊢
    rw [pushBoth_plain E hk H.thr] at hs3
    have hperm : (s3.heapProgs nt).Perm (Tree.node F (args.set i q) :: s1.heapProgs nt) := by
      rw [← hs3, St.heapProgs_setHeap, if_pos rfl]
      exact (Heapq.push_perm (ltE E.ops) (s1.heapOf nt) (pr, _)).map (·.2)
    have hkeys3 : s3.keys = AList.insert (nt, Tree.node F (args.set i q)) v s1.keys := hs3 ▸ rfl
    have hinit3 : s3.initS = s1.initS := hs3 ▸ rfl
    have hsucc3 : ∀ nt', s3.succOf nt' = s1.succOf nt' := W.succ
    have hseen3 : ∀ p, p ∈ s3.seenOf nt ↔ p ∈ s1.seenOf nt ∨ p = Tree.node F (args.set i q) := fun p => by
      have : p ∈ s3.seenOf nt ↔ p ∈ s1.seenOf nt ∨ (nt = nt ∧ p = _) := W.seen nt p
      simpa using this
    have hnp_ne : Tree.node F (args.set i q) ≠ Tree.node F args := fun e => hnew' (e ▸ hprogseen)
    have hPop3 : ∀ nt' x, Popped s3 nt' x ↔ Popped s1 nt' x := fun nt' x => Tables.Val.of_eq (W.succ nt')
    have hord := hn.ord.push W fun x hx =>
      LE.trans H hko.der (hlatest x hx) (LE.set H hko hai hsi (hqp.der hb.sinv) hqle)
    have hcov : Tables.Cover (fun p => E.filter p = false) s3.tb nt := hc.cov.push W (Or.inl hperm)
    refine ⟨hb3, ⟨?_, ?_, ?_, ?_, ?_, ?_, ?_, ?_⟩, hsucc3 nt, ho3, st3, ?_, ?_, fun p hp => (hseen3 p).mpr (Or.inl hp)⟩
    · rw [hinit3]; exact hn.init
    · rw [hsucc3]; exact hn.chain
    · rw [hsucc3]; exact hn.keys_nodup
    · obtain ⟨m, h1, h2⟩ := hn.first
      refine ⟨m, by rw [← hs3]; exact h1, Or.inl ?_⟩
      rw [hsucc3]
      exact h2.resolve_right fun h => hlive h.1
    · intro F' kids v' hseen hk' j aj sj haj hsj
      rw [hPop3]
      rw [hkeys3, AList.lookup_insert] at hk'
      rcases (hseen3 _).mp hseen with hold | hnewp
      · rw [if_neg (by intro e; cases e; exact hnew' hold)] at hk'
        exact hn.args F' kids v' hold hk' j aj sj haj hsj
      · cases hnewp
        rw [if_pos rfl] at hk'
        cases hk'
        rcases getElem?_set_cases haj with ⟨rfl, rfl⟩ | ⟨_, haj⟩
        · rw [hsi] at hsj
          cases hsj
          exact hqp
        · exact hn.args F args v hprogseen hkey j aj sj haj hsj
    · exact fun x hx e he => hord.below x hx e.2 (List.mem_map.mpr ⟨e, he, rfl⟩)
    · exact hord.link
    · intro F' v' w' hm' a ha
      rw [hsucc3]
      exact hn.closed F' v' w' hm' a ha
    · rw [hkeys3, AList.lookup_insert, if_neg (by intro e; exact hnp_ne (congrArg Prod.snd e).symm)]
      exact hkey
    · have hheapsub : ∀ p, p ∈ s1.heapProgs nt → p ∈ s3.heapProgs nt :=
        fun p hp' => hperm.symm.subset (List.mem_cons_of_mem _ hp')
      refine ⟨?_, ?_, hcov, ?_⟩
      · intro p hp'
        rw [hkeys3, AList.lookup_insert]
        rcases (hseen3 p).mp hp' with hold | rfl
        · rw [if_neg (by intro e; cases e; exact hnew' hold)]
          exact hc.keyed p hold
        · rw [if_pos rfl]; exact ⟨v, rfl⟩
      · intro F' v' w' hm'
        obtain ⟨kids, h1, h2, h3⟩ := hc.initial F' v' w' hm'
        exact ⟨kids, (hseen3 _).mpr (Or.inl h1), h2, fun j aj sj a b => by rw [hsucc3]; exact h3 j aj sj a b⟩
      · intro F' args' v' hp'3 hk' j aj sj haj hsj hrk hex
        have hold : Tree.node F' args' ∈ s1.seenOf nt := by
          rcases (hseen3 _).mp hp'3.1 with h1 | h1
          · exact h1
          · exact absurd (h1 ▸ hperm.symm.subset List.mem_cons_self) hp'3.2
        rw [hkeys3, AList.lookup_insert, if_neg (by intro e; cases e; exact hnew' hold)] at hk'
        have hnej : sj ≠ nt := by intro e'; subst e'; exact Nat.lt_irrefl _ hrk
        rcases hsuccs ⟨hold, fun hin => hp'3.2 (hheapsub _ hin)⟩ hk' haj hsj hrk hex with
          ⟨rfl, rfl, rfl, rfl, rfl⟩ | ⟨q', h1, h2⟩ | ⟨h1, h2, h3⟩
        · exact Or.inl ⟨q, by rw [hsucc3]; exact hr1 q rfl, (hseen3 _).mpr (Or.inr rfl)⟩
        · exact Or.inl ⟨q', by rw [hsucc3]; exact h1, (hseen3 _).mpr (Or.inl h2)⟩
        · exact Or.inr ⟨by rw [hinit3]; exact h1,
            by rw [heapOf_nil_iff, show s3.heapProgs sj = s1.heapProgs sj from W.heap_ne sj hnej, ← heapOf_nil_iff]; exact h2,
            by rw [hsucc3]; exact h3⟩

end PS.UHS
