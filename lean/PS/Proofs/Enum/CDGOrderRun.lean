/- Along `next` calls the order invariant `OInv` is kept (given the sorted
   derivation cost lists of the final state), so the cost lists `_cost_lists_nt[S]` are non-decreasing; every program is
   yielded from the bank `_bank_nt[start][n]` of the current cost index `n`, which only increases: programs are yielded
   in non-decreasing order of their claimed cost `_cost_lists_nt[start][n]`.  Then the hypotheses of that theorem as
   Boolean checks: the order invariant of a state without suspended frames (`oinvB`), sorted derivation cost lists
   (`derSortedB`), acyclic grammar with a rank (`acyB`). -/
import PS.Proofs.Enum.CDGOrderInv
import PS.Proofs.Enum.CDGRun
namespace PS.CD

/-! ## the order invariant along `next` -/

theorem Loop.stored {α : Type} {E : Env α} {s : St α} {n : Nat} {fr? : Option (Frame α)} {failed : Bool} {g' : Gen α}
    {out : Option Prog} (h : Loop E s n fr? failed g' out) : (∀ fr, fr? = some fr → fr.S = E.G.start ∧ fr.ci = n) →
    (∀ p, out = some p → ∃ n' fr', g'.phase = .inQuery n' fr' ∧ fr'.S = E.G.start ∧ fr'.ci = n' ∧ n ≤ n' ∧
      InBankAt g'.st E.G.start n' p) ∧
    (out = none → g'.phase = .stopped) := by
  induction h with
  | stop | ended => exact fun _ => ⟨fun p hp => by simp at hp, fun _ => rfl⟩
  | skip _ _ ih | again _ _ _ ih =>
    intro _
    obtain ⟨c, d⟩ := ih (fun fr he => by simp at he)
    refine ⟨fun p hp => ?_, d⟩
    obtain ⟨n', fr', c1, c2, c3, c4, c5⟩ := c p hp
    exact ⟨n', fr', c1, c2, c3, by omega, c5⟩
  | @yield s n fr? _ _ fr _ fr1 p hs hr =>
    intro hF
    have hfr : fr.S = E.G.start ∧ fr.ci = n := by
      rcases hs.frame with rfl | ⟨h1, h2, _⟩
      · exact hF fr rfl
      · exact ⟨h1, h2⟩
    obtain ⟨y1, y2, y3⟩ := hr.yieldAt
    refine ⟨fun p' hp' => ?_, fun hn => by simp at hn⟩
    simp only [Option.some.injEq] at hp'
    rw [hfr.1, hfr.2, hp'] at y3
    exact ⟨n, fr1, rfl, y1.trans hfr.1, y2.trans hfr.2, Nat.le_refl _, y3⟩

theorem Loop.oinv {E : Env Rat} {b : Bool} (hA : E.A = ratA b) {rank : NT → Nat} (hAcy : Acy E rank) {s : St Rat} {n : Nat}
    {fr? : Option (Frame Rat)} {failed : Bool} {g' : Gen Rat} {out : Option Prog} (h : Loop E s n fr? failed g' out) :
    OInv E s [] → DSorted g'.st → OInv E g'.st [] := by
  have start : ∀ {s n fr? s0 fr0}, Start E s n fr? s0 fr0 → OInv E s [] → OInv E s0 [] := by
    intro s n fr? s0 fr0 hs hO
    obtain ⟨f, rfl⟩ := hs.eq
    exact oinv_transfer hO rfl rfl (CMono.of_eq rfl)
  induction h with
  | stop hs => exact fun hO _ => start hs hO
  | skip hs _ ih => exact fun hO hD => ih (start hs hO) hD
  | yield hs hr | ended hs hr => exact fun hO hD => hr.oinv hA hAcy (start hs hO) (fun x hx => by simp at hx) hD
  | again hs hr h ih =>
    intro hO hD
    exact ih (hr.oinv hA hAcy (start hs hO) (fun x hx => by simp at hx) (DSorted.of_cmono (h.grows cmono_grows) hD)) hD

/-- the frame `generator()` is suspended in is that of its own call `query(self.G.start, n)` -/
def YG {α : Type} (E : Env α) (g : Gen α) : Prop := ∀ n fr, g.phase = .inQuery n fr → fr.S = E.G.start ∧ fr.ci = n

/-- the current cost index `n` of `generator()` -/
def pidx {α : Type} (g : Gen α) : Nat :=
  match g.phase with
  | .outer n => n
  | .inQuery n _ => n
  | _ => 0

/-- before the prologue: the hypothesis on the state it will produce -/
def GO (E : Env Rat) (fuel : Nat) (g : Gen Rat) : Prop :=
  (g.phase = .fresh → ∀ s, prologue E fuel g.st = some s → OInv E s []) ∧ (g.phase ≠ .fresh → OInv E g.st [])

theorem next_tables {α : Type} (E : Env α) (fuel : Nat) (g g' : Gen α) (out : Option Prog) (h : next E fuel g = some (g', out))
    (hY : YG E g) :
    YG E g' ∧ g'.phase ≠ .fresh ∧ BMono g.st g'.st ∧ (g.phase ≠ .fresh → CMono g.st g'.st) ∧
    (∀ p, out = some p → pidx g ≤ pidx g' ∧ InBankAt g'.st E.G.start (pidx g') p) := by
  rcases next_loop h with ⟨hph, rfl, rfl⟩ | ⟨s, n, fr?, failed, hl, hcase⟩
  · exact ⟨hY, by rw [hph]; simp, BMono.refl _, fun _ => CMono.refl _, fun p hp => by simp at hp⟩
  -- the loop starts from the tables of `g` (after the prologue, which leaves the banks alone), at an index `≥` the current one
  have pre : (∀ fr, fr? = some fr → fr.S = E.G.start ∧ fr.ci = n) ∧ BMono g.st s ∧ (g.phase ≠ .fresh → s = g.st) ∧
      pidx g ≤ n := by
    rcases hcase with ⟨hph, hp, rfl⟩ | ⟨rfl, ⟨hph, rfl⟩ | ⟨fr, hph, rfl⟩⟩
    · exact ⟨by simp, BMono.of_eq (prologue_bk E fuel _ _ hp).1, fun hc => absurd hph hc, by simp [pidx, hph]⟩
    · exact ⟨by simp, BMono.refl _, fun _ => rfl, by simp [pidx, hph]⟩
    · exact ⟨fun fr' he => by cases he; exact hY n fr hph, BMono.refl _, fun _ => rfl, by simp [pidx, hph]⟩
  obtain ⟨hF, m, hs, hle⟩ := pre
  obtain ⟨c, d⟩ := hl.stored hF
  refine ⟨?_, next_not_fresh h, m.trans (hl.grows bmono_grows),
    fun hc => hs hc ▸ hl.grows cmono_grows, ?_⟩
  · intro n1 fr1 he
    cases out with
    | none => rw [d rfl] at he; simp at he
    | some p =>
      obtain ⟨n', fr', c1, c2, c3, _, _⟩ := c p rfl
      rw [c1] at he
      simp only [Phase.inQuery.injEq] at he
      rw [← he.1, ← he.2]; exact ⟨c2, c3⟩
  · intro p hp
    obtain ⟨n', fr', c1, _, _, c4, c5⟩ := c p hp
    have : pidx g' = n' := by simp [pidx, c1]
    rw [this]
    exact ⟨Nat.le_trans hle c4, c5⟩

theorem next_go (E : Env Rat) (b : Bool) (hA : E.A = ratA b) (rank : NT → Nat) (hAcy : Acy E rank) (fuel : Nat)
    (g g' : Gen Rat) (out : Option Prog) (h : next E fuel g = some (g', out)) (hY : YG E g) (hg : GO E fuel g)
    (hD : DSorted g'.st) : GO E fuel g' := by
  refine ⟨fun he => absurd he (next_tables E fuel g g' out h hY).2.1, fun _ => ?_⟩
  rcases next_loop h with ⟨hph, rfl, _⟩ | ⟨s, n, fr?, failed, hl, hcase⟩
  · exact hg.2 (by rw [hph]; simp)
  · refine hl.oinv hA hAcy ?_ hD
    rcases hcase with ⟨hph, hp, _⟩ | ⟨rfl, ⟨hph, _⟩ | ⟨fr, hph, _⟩⟩
    · exact hg.1 hph s hp
    · exact hg.2 (by rw [hph]; simp)
    · exact hg.2 (by rw [hph]; simp)

/-- what is kept about the programs yielded so far, in terms of the banks of `g` (`BMono` carries it to later states): the
    first clause is what lets a further program, stored under the current index, be appended to the second -/
def YAcc {α : Type} (E : Env α) (g : Gen α) (acc : List Prog) : Prop :=
  (∀ p ∈ acc, ∃ ci, ci ≤ pidx g ∧ InBankAt g.st E.G.start ci p) ∧
  acc.Pairwise (fun p q => ∃ ci cj, ci ≤ cj ∧ InBankAt g.st E.G.start ci p ∧ InBankAt g.st E.G.start cj q)

theorem YAcc.snoc {α : Type} {E : Env α} {g g1 : Gen α} {acc : List Prog} {p1 : Prog} (hA : YAcc E g acc)
    (c : BMono g.st g1.st) (e1 : pidx g ≤ pidx g1) (e2 : InBankAt g1.st E.G.start (pidx g1) p1) : YAcc E g1 (acc ++ [p1]) := by
  refine ⟨?_, ?_⟩
  · intro p hp
    rcases List.mem_append.mp hp with h3 | h3
    · obtain ⟨ci, h4, h5⟩ := hA.1 p h3
      exact ⟨ci, Nat.le_trans h4 e1, c _ _ _ h5⟩
    · simp only [List.mem_singleton] at h3; subst h3
      exact ⟨pidx g1, Nat.le_refl _, e2⟩
  · refine pairwise_snoc (hA.2.imp ?_) fun p hp => ?_
    · rintro p q ⟨ci, cj, h1, h2, h3⟩
      exact ⟨ci, cj, h1, c _ _ _ h2, c _ _ _ h3⟩
    · obtain ⟨ci, h4, h5⟩ := hA.1 p hp
      exact ⟨ci, pidx g1, Nat.le_trans h4 e1, c _ _ _ h5, e2⟩

theorem take_tables {α : Type} (E : Env α) (fuel : Nat) : ∀ (k : Nat) (g : Gen α) (acc : List Prog) (g' : Gen α) (ys : List Prog)
    (fin : Bool), take E fuel k g acc = some (g', ys, fin) → YG E g → YAcc E g acc →
    YG E g' ∧ (g.phase ≠ .fresh → CMono g.st g'.st) ∧
    ys.Pairwise (fun p q => ∃ ci cj, ci ≤ cj ∧ InBankAt g'.st E.G.start ci p ∧ InBankAt g'.st E.G.start cj q) := by
  intro k g0 acc g' ys fin h hY hA
  -- once a `next` has run the phase is not `fresh`, and from a phase that is not `fresh` the costs only grow
  refine Iter.take_rule
    (I := fun g out => YG E g ∧ YAcc E g out ∧ (g0.phase ≠ .fresh → g.phase ≠ .fresh ∧ CMono g0.st g.st))
    (Q := fun g out _ => YG E g ∧ (g0.phase ≠ .fresh → CMono g0.st g.st) ∧ out.Pairwise _)
    (fun _ _ h => ⟨h.1, fun hne => (h.2.2 hne).2, h.2.1.2⟩) ?_ ?_ k g0 acc (g', ys, fin)
    ⟨hY, hA, fun hne => ⟨hne, CMono.refl _⟩⟩ (take_eq E fuel k g0 acc ▸ h)
  · rintro g out g1 ⟨hY, hA, m⟩ hn
    obtain ⟨a, _, c, d, _⟩ := next_tables E fuel g g1 none hn hY
    exact ⟨a, fun hne => (m hne).2.trans (d (m hne).1),
      hA.2.imp fun ⟨ci, cj, h1, h2, h3⟩ => ⟨ci, cj, h1, c _ _ _ h2, c _ _ _ h3⟩⟩
  · rintro g out g1 p1 ⟨hY, hA, m⟩ hn
    obtain ⟨a, a2, c, d, e⟩ := next_tables E fuel g g1 (some p1) hn hY
    obtain ⟨e1, e2⟩ := e p1 rfl
    exact ⟨a, hA.snoc c e1 e2, fun hne => ⟨a2, (m hne).2.trans (d (m hne).1)⟩⟩

theorem next_phase_not_fresh {α : Type} (E : Env α) (fuel : Nat) (g g' : Gen α) (out : Option Prog)
    (h : next E fuel g = some (g', out)) (hY : YG E g) : g'.phase ≠ .fresh := (next_tables E fuel g g' out h hY).2.1

theorem take_go (E : Env Rat) (b : Bool) (hA : E.A = ratA b) (rank : NT → Nat) (hAcy : Acy E rank) (fuel : Nat) :
    ∀ (k : Nat) (g : Gen Rat) (acc : List Prog) (g' : Gen Rat) (ys : List Prog) (fin : Bool),
    take E fuel k g acc = some (g', ys, fin) → YG E g → YAcc E g acc → GO E fuel g → DSorted g'.st → GO E fuel g' := by
  intro k g acc g' ys fin h hY hAc hg hD
  -- `DSorted` is known of the last tables only; `CMono` hands it back one `next` at a time, so `GO` is kept under it
  refine Iter.take_rule
    (I := fun g out => YG E g ∧ YAcc E g out ∧ ((g.phase ≠ .fresh → DSorted g.st) → GO E fuel g))
    (Q := fun g _ _ => DSorted g.st → GO E fuel g) (fun _ _ h hD => h.2.2 fun _ => hD) ?_ ?_ k g acc (g', ys, fin)
    ⟨hY, hAc, fun _ => hg⟩ (take_eq E fuel k g acc ▸ h) hD
  · rintro g out g1 ⟨hY, _, hg⟩ hn hD
    obtain ⟨_, _, _, d, _⟩ := next_tables E fuel g g1 none hn hY
    exact next_go E b hA rank hAcy fuel g g1 none hn hY (hg fun hne => DSorted.of_cmono (d hne) hD) hD
  · rintro g out g1 p1 ⟨hY, hAc, hg⟩ hn
    obtain ⟨a, a2, c, d, e⟩ := next_tables E fuel g g1 (some p1) hn hY
    obtain ⟨e1, e2⟩ := e p1 rfl
    exact ⟨a, hAc.snoc c e1 e2, fun hD => next_go E b hA rank hAcy fuel g g1 (some p1) hn hY
      (hg fun hne => DSorted.of_cmono (d hne) (hD a2)) (hD a2)⟩

/-! ## the hypotheses as Boolean checks -/

def isHeapB {α : Type} (lt : α → α → Bool) (h : List α) : Bool :=
  (List.range h.length).all fun i => i == 0 ||
    match h[i]?, h[(i - 1) / 2]? with
    | some a, some p => !lt a p
    | _, _ => true

theorem isHeapB_sound {α : Type} (lt : α → α → Bool) (h : List α) (hb : isHeapB lt h = true) : Heapq.IsHeap lt h := by
  intro i hi hpos
  unfold isHeapB at hb
  rw [List.all_eq_true] at hb
  have := hb i (List.mem_range.mpr hi)
  have hne : (i == 0) = false := by simp; omega
  rw [hne, Bool.false_or] at this
  have hp : (i - 1) / 2 < h.length := Nat.lt_of_le_of_lt (Nat.le_trans (Nat.div_le_self _ _) (Nat.sub_le _ _)) hi
  rw [List.getElem?_eq_getElem hi, List.getElem?_eq_getElem hp] at this
  simpa using this

def lowB (s : St Rat) (S : NT) (x : Rat) : Bool :=
  match AList.lookup S s.costNt with
  | none => true
  | some cl => cl.all fun c => decide (c ≤ x)

def linkB (E : Env Rat) (s : St Rat) (S : NT) (d : Deriv Rat) : Bool :=
  match E.G.rule? S d.P with
  | none => true
  | some (args, w) =>
    args.isEmpty ||
    match AList.lookup args s.costDer with
    | none => false
    | some cl =>
      match cl[d.comb]? with
      | none => false
      | some c => decide (d.cost = (w : Rat) + c)

def oinvB (E : Env Rat) (s : St Rat) : Bool :=
  (s.queueNt.all fun x => isHeapB (ltD E.A) x.2 && x.2.all fun d => lowB s x.1 d.cost && linkB E s x.1 d) &&
  s.costNt.all fun x => decide (x.2.Pairwise (· ≤ ·))

theorem oinvB_sound (E : Env Rat) (s : St Rat) (h : oinvB E s = true) : OInv E s [] := by
  unfold oinvB at h
  rw [Bool.and_eq_true, List.all_eq_true, List.all_eq_true] at h
  obtain ⟨h1, h2⟩ := h
  refine ⟨?_, ?_, fun x hx => by simp at hx⟩
  · intro S hh hl
    have := h1 (S, hh) (AList.lookup_some_mem hl)
    simp only [Bool.and_eq_true, List.all_eq_true] at this
    obtain ⟨a, c⟩ := this
    refine ⟨isHeapB_sound _ _ a, ?_⟩
    intro d hd
    obtain ⟨c1, c2⟩ := c d hd
    refine ⟨?_, ?_⟩
    · intro cl hcl x hx
      unfold lowB at c1
      rw [hcl] at c1
      simp only [List.all_eq_true, decide_eq_true_eq] at c1
      exact c1 x hx
    · intro args w hr hne
      unfold linkB at c2
      rw [hr] at c2
      simp only [Bool.or_eq_true] at c2
      rcases c2 with c2 | c2
      · exfalso; apply hne; simpa using c2
      · cases hl2 : AList.lookup args s.costDer with
        | none => simp [hl2] at c2
        | some cl =>
          cases hc : cl[d.comb]? with
          | none => simp [hl2, hc] at c2
          | some c => exact ⟨cl, c, rfl, hc, by simpa [hl2, hc] using c2⟩
  · intro S cl hl
    have := h2 (S, cl) (AList.lookup_some_mem hl)
    simpa using this

def derSortedB (s : St Rat) : Bool := s.costDer.all fun x => decide (x.2.Pairwise (· ≤ ·))

theorem derSortedB_sound (s : St Rat) (h : derSortedB s = true) : DSorted s := by
  intro args cl hl
  unfold derSortedB at h
  rw [List.all_eq_true] at h
  simpa using h (args, cl) (AList.lookup_some_mem hl)

def acyB (G : Gram) (rank : NT → Nat) : Bool :=
  G.rules.all fun r => r.2.all fun p => p.2.1.all fun a => decide (rank a < rank r.1)

theorem acyB_sound (E : Env Rat) (rank : NT → Nat) (h : acyB E.G rank = true) : Acy E rank := by
  intro S P args w hr a ha
  have := AList.lookup₂_of_all (d := E.G.rules) (p := fun S _ r => r.1.all fun a => decide (rank a < rank S)) h
    ((Gram.rule?_eq_lookup₂ E.G S P).symm.trans hr)
  exact of_decide_eq_true (List.all_eq_true.mp this a ha)

theorem take_new_order (E : Env Rat) (b : Bool) (hA : E.A = ratA b) (rank : NT → Nat) (hAcy : Acy E rank) {fuel k : Nat}
    {g g' : Gen Rat} {ys : List Prog} {fin : Bool} (hnew : Gen.new E = some g)
    (hstart : ∀ s, prologue E fuel g.st = some s → OInv E s []) (h : take E fuel k g [] = some (g', ys, fin))
    (hD : DSorted g'.st) :
    GO E fuel g' ∧
    ys.Pairwise (fun p q => ∃ ci cj, ci ≤ cj ∧ InBankAt g'.st E.G.start ci p ∧ InBankAt g'.st E.G.start cj q) := by
  have hfresh := (Gen.new_some hnew).2
  have hY : YG E g := fun n fr he => by rw [hfresh] at he; cases he
  have hAc : YAcc E g [] := ⟨by simp, by simp⟩
  exact ⟨take_go E b hA rank hAcy fuel k g [] g' ys fin h hY hAc ⟨fun _ => hstart, fun hne => absurd hfresh hne⟩ hD,
    (take_tables E fuel k g [] g' ys fin h hY hAc).2.2⟩

end PS.CD
