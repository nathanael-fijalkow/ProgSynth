/- Bee search, the generator whose loop stops on the program count (`Env.fixF11 = false`: the loop before repair d763a26,
   fixes_applied/C12-F11.diff; /repo has the repair) does not stop while programs are missing from the count:
   once a combination of a rule with arguments is queued, one is queued for ever (a popped combination of the round's
   cost uses only cheaper cost indices, so its first successor is queued, not delayed), so the queues never run empty;
   and the program count is not reached when the filter leaves fewer programs than `G.programs()` promised. -/
import PS.Proofs.Enum.BeeNodupRun
import PS.Proofs.Enum.BeeCost
namespace PS.Bee
open PS PS.G

variable {S : Type} [DecidableEq S]
set_option linter.unusedSectionVars false

def Live (E : Env S) (s : St S) : Prop :=
  ∃ nt e a args, e ∈ s.queueOf nt ∧ ruleArgs E nt e.P = some (a :: args)

theorem addCombination_queueOf {E : Env S} {s s' : St S} {nt : NT S Unit} {P : Sym} {idx : List Nat} {chk : Option Nat}
    (h : addCombination E s nt P idx chk = some s') :
    (∀ nt' e, e ∈ s.queueOf nt' → e ∈ s'.queueOf nt') ∧
      (needsDelay s.costList idx chk = some false → ∃ c, ⟨c, idx, P⟩ ∈ s'.queueOf nt) := by
  rcases addCombination_eq h with ⟨hn, rfl⟩ | ⟨_, c, _, rfl⟩
  · exact ⟨fun _ _ he => he, fun hn' => by rw [hn] at hn'; cases hn'⟩
  · exact ⟨fun _ _ he => mem_queueOf_push.mpr (Or.inr he), fun _ => ⟨c, mem_queueOf_push.mpr (Or.inl ⟨rfl, rfl⟩)⟩⟩

theorem Live.of_mem {E : Env S} {s s' : St S} (h : ∀ nt e, e ∈ s.queueOf nt → e ∈ s'.queueOf nt) (hl : Live E s) : Live E s' :=
  let ⟨nt, e, a, args, he, ha⟩ := hl
  ⟨nt, e, a, args, h nt e he, ha⟩

theorem succLoop_pushes {E : Env S} {nt : NT S Unit} {P : Sym} {combo : List Nat} {k v : Nat} {s s' : St S} {maxi maxi' : Nat}
    (h : succLoop E nt P combo 0 (k + 1) s maxi = some (s', maxi')) (hv : combo[0]? = some v)
    (hlt : v + 1 < s.costList.length) :
    (∀ nt' e, e ∈ s.queueOf nt' → e ∈ s'.queueOf nt') ∧ ∃ c, ⟨c, combo.set 0 (v + 1), P⟩ ∈ s'.queueOf nt := by
  -- the first request files the successor, the later ones remove nothing
  have ha := succLoop_addAll h
  rw [succReqs_step hv, addAll] at ha
  cases h1 : addCombination E s nt P (combo.set 0 (v + 1)) (some 0) with
  | none => rw [h1] at ha; cases ha
  | some s1 =>
    rw [h1] at ha
    obtain ⟨hmono, hpush⟩ := addCombination_queueOf h1
    have hrest : ∀ nt' e, e ∈ s1.queueOf nt' → e ∈ s'.queueOf nt' := fun nt' e =>
      addAll_ind (I := fun x => e ∈ x.queueOf nt') _ s1 s' ha fun _ _ _ _ _ _ _ hc he => (addCombination_queueOf hc).1 nt' e he
    have h0 : 0 < combo.length := (List.getElem?_eq_some_iff.mp hv).1
    obtain ⟨c, hc⟩ := hpush (needsDelay_checked_lt (List.getElem?_set_self h0) hlt)
    exact ⟨fun nt' e he => hrest nt' e (hmono nt' e he), c, hrest nt _ hc⟩

theorem step_live (E : Env S) (hpos : PosArgs E) (g g' : Gen S) (out : Option Prog) (b : Int)
    (h : step E g = some (g', out)) (hi : GInv E g) (ho : GOrd E g b) (hl : Live E g.st) : Live E g'.st := by
  cases step_cases h with
  | done | init | stop _ | round _ _ _ | endRound | endPend | leave _ => exact hl
  | addCost hac =>
    exact addCost_ind (I := Live E) hac (fun _ _ _ _ _ _ _ _ _ ha => Live.of_mem (addCombination_queueOf ha).1) id hl
  | @offer st _ _ succ cost nt rest maxi ci p ps y _ =>
    obtain ⟨fq, _, _⟩ := addProgram_frame E st nt p ci
    exact hl.of_mem fun nt' e he => (St.queueOf_congr fq nt').symm ▸ he
  | @pop st _ _ succ cost nt rest maxi ci top tl q' args s2 maxi' ph hq htop hpop hargs hsl _ =>
    obtain ⟨nt1, e, a, as, he, hea⟩ : Live E st := hl
    have hmono : ∀ nt' e, e ∈ (st.setQueue nt q').queueOf nt' → e ∈ s2.queueOf nt' := fun nt' e =>
      succLoop_ind (I := fun x => e ∈ x.queueOf nt') (fun _ _ _ _ _ ha he => (addCombination_queueOf ha).1 nt' e he) _ _ _ _ _ _ hsl
    by_cases hc : nt1 = nt ∧ e = top
    · -- the popped combination is the witness: its first successor takes over
      obtain ⟨rfl, rfl⟩ := hc
      obtain rfl : args = a :: as := Option.some.inj (hargs.symm.trans hea)
      have hos : OSt E st cost := ho.1
      have hci : st.costList[ci]? = some cost := hi.ph
      have hreal : realCost E st.costList nt1 e.P e.combo = some e.cost := hi.st.queue.of_queueOf he
      obtain ⟨v, hv, hx⟩ : ∃ v, e.combo[0]? = some v ∧ v < st.costList.length := by
        obtain ⟨w, _, hreal⟩ := (realCost_eq_some_of_args hea).mp hreal
        exact ((realCostLoop_iff _ _ _ _ _ _).mp hreal).1 0 (Nat.le_refl 0) (Nat.succ_pos _)
      have hx := List.getElem?_eq_getElem hx
      -- `cl[v] < cost = cl[ci]` in an increasing list: `v < ci`
      have hvl : v + 1 < st.costList.length := by
        have hlt := realCost_gt E hpos _ hos.nonneg nt1 e.P _ hea e.combo _ hreal 0 v (by simp) hv _ hx
        have hcil := (List.getElem?_eq_some_iff.mp hci).1
        by_cases hvc : v < ci
        · omega
        · have := pairwise_mono _ hos.mono ci v _ _ (by omega) hci hx
          omega
      obtain ⟨_, c, hc⟩ := succLoop_pushes hsl hv hvl
      exact ⟨nt1, _, a, as, hc, hea⟩
    · refine ⟨nt1, e, a, as, hmono nt1 e ?_, hea⟩
      rw [St.queueOf_setQueue]
      split
      · rename_i hnt
        rcases List.mem_cons.mp ((Heapq.pop_perm ltE _ _ _ hpop).mem_iff.mp (hnt ▸ he)) with h1 | h1
        · exact absurd ⟨hnt, h1⟩ hc
        · exact h1
      · exact he

def Cnt (E : Env S) (g : Gen S) (acc : List Prog) : Prop :=
  g.st.hasMerged = false ∧
    match g.phase with
    | .init => acc = []
    | _ => g.progs + acc.length = E.progs0

theorem step_cnt (E : Env S) (g g' : Gen S) (out : Option Prog) (acc : List Prog) (h : step E g = some (g', out))
    (hc : Cnt E g acc) : Cnt E g' (acc ++ out.toList) := by
  obtain ⟨hm, hc⟩ := hc
  have hnil : acc ++ (none : Option Prog).toList = acc := List.append_nil acc
  cases step_cases h with
  | done | stop _ | round _ _ _ | endRound | endPend | leave _ => rw [hnil]; exact ⟨hm, hc⟩
  | init =>
    obtain rfl : acc = [] := hc
    exact ⟨hm, Int.add_zero _⟩
  | addCost hac =>
    rw [hnil]
    exact ⟨(addCost_frame hac).hasMerged.trans hm, hc⟩
  | pop _ _ _ _ hsl hout =>
    have hm2 := (succLoop_frame hsl).of_setQueue.hasMerged.trans hm
    rw [hnil]
    rcases hout with ⟨_, rfl⟩ | ⟨_, _, rfl⟩ <;> exact ⟨hm2, hc⟩
  | @offer st progs _ succ cost nt rest maxi ci p ps y _ =>
    have hc : progs + acc.length = E.progs0 := hc
    refine ⟨?_, ?_⟩
    · show (addProgram E st nt p ci).1.hasMerged = false
      rcases addProgram_cases E st nt p ci with ⟨_, h'⟩ | ⟨_, _, h'⟩ | ⟨_, _, h'⟩ <;> rw [h'] <;> exact hm
    · cases y
      · simpa using hc
      · simp only [if_true, Option.toList_some, List.length_append, List.length_singleton]
        omega

/-- `L` lists the accepted members of the start symbol -/
structure Run (E : Env S) (L : List Prog) (g : Gen S) (acc : List Prog) : Prop where
  sound : GInv E g
  ord : GOrd E g 0
  nodup : GN E g ∧ AccOK E g acc
  live : Live E g.st
  cnt : Cnt E g acc
  acc : ∀ p ∈ acc, p ∈ L
  going : g.phase.isDone = false

theorem step_run (E : Env S) (hw : NNW E) (hpos : PosArgs E) (hfix : E.fixF11 = false) (L : List Prog)
    (hL : ∀ p, gen E.G p E.G.start = true → E.filter p = true → p ∈ L) (hlt : (L.length : Int) < E.progs0)
    (g g' : Gen S) (out : Option Prog) (acc : List Prog) (h : step E g = some (g', out)) (hr : Run E L g acc) :
    Run E L g' (acc ++ out.toList) := by
  have hgo' : g'.phase.isDone = false := by
    have hgoing := hr.going
    cases step_cases h with
    | done => cases hgoing
    | @stop st progs _ hwhy =>
      exfalso
      rcases hwhy with hgo | ⟨nts, hnc⟩ | ⟨nts, c, _, hstop⟩
      · -- fewer than `progs0` programs have been yielded: they are distinct members of `L`
        obtain ⟨hm, hc⟩ : st.hasMerged = false ∧ progs + acc.length = E.progs0 := hr.cnt
        have := List.Nodup.length_le_of_subset hr.nodup.2.1 hr.acc
        have hp : 0 < progs := by omega
        simp [goesOn, hm, hp] at hgo
      · obtain ⟨nt, e, _, _, he, _⟩ : Live E st := hr.live
        obtain ⟨l, hl, hel⟩ := queueOf_mem he
        rw [((nextCheapest_spec _ hnc).none rfl).2 nt l hl] at hel
        cases hel
      · simp [stopAt, hfix] at hstop
    | pop _ _ _ _ _ hout => rcases hout with ⟨_, rfl⟩ | ⟨_, _, rfl⟩ <;> rfl
    | _ => rfl
  obtain ⟨hs', hy⟩ := step_sound E g g' out h hr.sound
  refine ⟨hs', step_order E hw g g' out 0 h hr.sound hr.ord, step_accOK E g g' out acc h hr.nodup,
    step_live E hpos g g' out 0 h hr.sound hr.ord hr.live, step_cnt E g g' out acc h hr.cnt, fun p hp => ?_, hgo'⟩
  rcases List.mem_append.mp hp with hp | hp
  · exact hr.acc p hp
  · cases out with
    | none => simp at hp
    | some q =>
      obtain rfl : p = q := by simpa using hp
      obtain ⟨hg, _, hf, _⟩ := hy p rfl
      exact hL p hg hf

/-- `Live` and `Cnt` of the state reached, `hp` and `hgo` are hypotheses: they depend on the grammar and are checked on
    the concrete case. -/
theorem run_after_next (E : Env S) (hw : NNW E) (hd : DictOK E) (hf : initFrontOK E = true) (L : List Prog) (fuel : Nat)
    (g0 g1 : Gen S) (p : Prog) (h0 : Gen.new E = some g0) (hn : next E fuel g0 = some (g1, some p)) (hl : Live E g1.st)
    (hc : Cnt E g1 [p]) (hp : p ∈ L) (hgo : g1.phase.isDone = false) : Run E L g1 [p] := by
  obtain ⟨⟨hs, ho, hn'⟩, _⟩ := next_ind (J := fun g acc => GInv E g ∧ GOrd E g 0 ∧ GN E g ∧ AccOK E g acc)
    (fun g g' out acc hst hj => ⟨(step_sound E g g' out hst hj.1).1, step_order E hw g g' out 0 hst hj.1 hj.2.1,
      step_accOK E g g' out acc hst hj.2.2⟩) fuel g0 g1 (some p) [] hn
    ⟨(ginv_new E g0 h0).1, gord_new E hw hd g0 h0 0 (Int.le_refl _), gn_new E hd hf g0 h0, List.nodup_nil, fun _ h => nomatch h⟩
  exact ⟨hs, ho, hn', hl, hc, fun q hq => List.mem_singleton.mp hq ▸ hp, hgo⟩

theorem take_succ_of_next {E : Env S} {fuel k : Nat} {g g' : Gen S} {p : Prog} {acc : List Prog}
    (h : next E fuel g = some (g', some p)) : take E fuel (k + 1) g acc = take E fuel k g' (acc ++ [p]) := by
  simp only [take, h]

/-- By `step_run` the generator never becomes done, so `take` could only return with `k` further distinct members of `L`
    (`Iter.take_fin_of_finite`), and there are not that many. -/
theorem take_never_returns (E : Env S) (hw : NNW E) (hpos : PosArgs E) (hfix : E.fixF11 = false) (L : List Prog)
    (hL : ∀ p, gen E.G p E.G.start = true → E.filter p = true → p ∈ L) (hlt : (L.length : Int) < E.progs0)
    (fuel k : Nat) (g : Gen S) (acc : List Prog) (hr : Run E L g acc) (hk : L.length < acc.length + k) :
    take E fuel k g acc = none := by
  cases h : take E fuel k g acc with
  | none => rfl
  | some r =>
    obtain ⟨g', out, fin⟩ := r
    obtain ⟨hr', hfin⟩ := take_ind (J := Run E L) (step_run E hw hpos hfix L hL hlt) fuel k g g' acc out fin h hr
    rw [take_eq] at h
    cases (hfin (Iter.take_fin_of_finite L h hr'.nodup.2.1 hr'.acc hk)).symm.trans hr'.going

end PS.Bee
