/- Big-step presentation of the heap-search machine (PS/Model/Enum/HeapSearch.lean): the fuelled
   mutual recursion `query / popLoop / addSucc / addLoop` is sound for the inductive relation `Big`
   (every terminating run of the model is a derivation), so state invariants are proved by rule
   induction on `Big`.  Also: how the primitive updates act on the tables, one step of the
   max-priority phase read as an equivalence, the loops of the prologue and of the generator for an
   arbitrary relation. -/
import PS.Model.Enum.HeapSearch
import PS.Proofs.Enum.Heapq
import PS.Proofs.Enum.Iter
import PS.Proofs.AList
namespace PS.HS
open PS PS.G
set_option linter.unusedSectionVars false
variable {S T π : Type} [DecidableEq S] [DecidableEq T]

/-! ### table accessors under the primitive updates -/
namespace St

@[simp] theorem heapOf_setHeap (s : St S T π) (nt nt' : NT S T) (h : List (π × Prog)) :
    (s.setHeap nt h).heapOf nt' = if nt' = nt then h else s.heapOf nt' := by
  unfold heapOf setHeap; exact AList.getD_lookup_insert _ _ _ _ _
@[simp] theorem seenOf_setHeap (s : St S T π) (nt nt' : NT S T) (h : List (π × Prog)) :
    (s.setHeap nt h).seenOf nt' = s.seenOf nt' := rfl
@[simp] theorem succOf_setHeap (s : St S T π) (nt nt' : NT S T) (h : List (π × Prog)) :
    (s.setHeap nt h).succOf nt' = s.succOf nt' := rfl
@[simp] theorem deleted_setHeap (s : St S T π) (nt : NT S T) (h : List (π × Prog)) :
    (s.setHeap nt h).deleted = s.deleted := rfl
@[simp] theorem cache_setHeap (s : St S T π) (nt : NT S T) (h : List (π × Prog)) :
    (s.setHeap nt h).cache = s.cache := rfl

@[simp] theorem succOf_setSucc (s : St S T π) (nt nt' : NT S T) (k : Option Prog) (v : Prog) :
    (s.setSucc nt k v).succOf nt' = if nt' = nt then AList.insert k v (s.succOf nt) else s.succOf nt' := by
  unfold succOf setSucc; exact AList.getD_lookup_insert _ _ _ _ _
@[simp] theorem heapOf_setSucc (s : St S T π) (nt nt' : NT S T) (k : Option Prog) (v : Prog) :
    (s.setSucc nt k v).heapOf nt' = s.heapOf nt' := rfl
@[simp] theorem seenOf_setSucc (s : St S T π) (nt nt' : NT S T) (k : Option Prog) (v : Prog) :
    (s.setSucc nt k v).seenOf nt' = s.seenOf nt' := rfl
@[simp] theorem deleted_setSucc (s : St S T π) (nt : NT S T) (k : Option Prog) (v : Prog) :
    (s.setSucc nt k v).deleted = s.deleted := rfl
@[simp] theorem cache_setSucc (s : St S T π) (nt : NT S T) (k : Option Prog) (v : Prog) :
    (s.setSucc nt k v).cache = s.cache := rfl

@[simp] theorem succOf_setPred (s : St S T π) (nt nt' : NT S T) (k : Prog) (v : Option Prog) :
    (s.setPred nt k v).succOf nt' = s.succOf nt' := rfl
@[simp] theorem heapOf_setPred (s : St S T π) (nt nt' : NT S T) (k : Prog) (v : Option Prog) :
    (s.setPred nt k v).heapOf nt' = s.heapOf nt' := rfl
@[simp] theorem seenOf_setPred (s : St S T π) (nt nt' : NT S T) (k : Prog) (v : Option Prog) :
    (s.setPred nt k v).seenOf nt' = s.seenOf nt' := rfl
@[simp] theorem deleted_setPred (s : St S T π) (nt : NT S T) (k : Prog) (v : Option Prog) :
    (s.setPred nt k v).deleted = s.deleted := rfl
@[simp] theorem cache_setPred (s : St S T π) (nt : NT S T) (k : Prog) (v : Option Prog) :
    (s.setPred nt k v).cache = s.cache := rfl

@[simp] theorem seenOf_addSeen (s : St S T π) (nt nt' : NT S T) (p : Prog) :
    (s.addSeen nt p).seenOf nt' = if nt' = nt then s.seenOf nt ++ [p] else s.seenOf nt' := by
  unfold seenOf addSeen; exact AList.getD_lookup_insert _ _ _ _ _
@[simp] theorem heapOf_addSeen (s : St S T π) (nt nt' : NT S T) (p : Prog) :
    (s.addSeen nt p).heapOf nt' = s.heapOf nt' := rfl
@[simp] theorem succOf_addSeen (s : St S T π) (nt nt' : NT S T) (p : Prog) :
    (s.addSeen nt p).succOf nt' = s.succOf nt' := rfl
@[simp] theorem deleted_addSeen (s : St S T π) (nt : NT S T) (p : Prog) :
    (s.addSeen nt p).deleted = s.deleted := rfl
@[simp] theorem cache_addSeen (s : St S T π) (nt : NT S T) (p : Prog) :
    (s.addSeen nt p).cache = s.cache := rfl

theorem addDeleted_eq (s : St S T π) (p : Prog) : ∃ d, s.addDeleted p = { s with deleted := d } := by
  unfold addDeleted
  split
  · exact ⟨s.deleted, rfl⟩
  · exact ⟨_, rfl⟩
theorem length_addDeleted_le (s : St S T π) (p : Prog) : (s.addDeleted p).deleted.length ≤ s.deleted.length + 1 := by
  unfold addDeleted
  split <;> simp
@[simp] theorem heapOf_addDeleted (s : St S T π) (nt : NT S T) (p : Prog) : (s.addDeleted p).heapOf nt = s.heapOf nt := by
  obtain ⟨d, e⟩ := s.addDeleted_eq p; rw [e]; rfl
@[simp] theorem succOf_addDeleted (s : St S T π) (nt : NT S T) (p : Prog) : (s.addDeleted p).succOf nt = s.succOf nt := by
  obtain ⟨d, e⟩ := s.addDeleted_eq p; rw [e]; rfl

@[simp] theorem heapOf_empty (G : TT S T) (nt : NT S T) : (St.empty G : St S T π).heapOf nt = [] :=
  AList.getD_lookup_map_const _ _ _
@[simp] theorem seenOf_empty (G : TT S T) (nt : NT S T) : (St.empty G : St S T π).seenOf nt = [] :=
  AList.getD_lookup_map_const _ _ _
@[simp] theorem succOf_empty (G : TT S T) (nt : NT S T) : (St.empty G : St S T π).succOf nt = [] :=
  AList.getD_lookup_map_const _ _ _

end St

theorem mem_heapOf_setHeap {s : St S T π} {nt nt' : NT S T} {h' : List (π × Prog)}
    (hsub : ∀ e ∈ h', e ∈ s.heapOf nt) {e' : π × Prog} (he : e' ∈ (s.setHeap nt h').heapOf nt') :
    e' ∈ s.heapOf nt' := by
  rw [St.heapOf_setHeap] at he
  split at he
  · rename_i heq; exact heq ▸ hsub e' he
  · exact he

/-! ### what `pushNew` writes -/

theorem pushNew_cases (E : Env S T π) (s : St S T π) (nt : NT S T) (np : Prog) :
    (computePrio E s.cache nt np = none ∧ pushNew E s nt np = s.addSeen nt np) ∨
    ∃ c v, computePrio E s.cache nt np = some (c, v) ∧
      ((pushOK E.ops v = true ∧ pushNew E s nt np =
          St.setHeap { s.addSeen nt np with cache := c } nt (Heapq.push (ltE E.ops) (s.heapOf nt) (v, np))) ∨
       (pushOK E.ops v = false ∧ pushNew E s nt np = { s.addSeen nt np with cache := c })) := by
  unfold pushNew
  dsimp only
  cases hcp : computePrio E (s.addSeen nt np).cache nt np with
  | none => exact Or.inl ⟨hcp, rfl⟩
  | some r =>
    refine Or.inr ⟨r.1, r.2, hcp, ?_⟩
    dsimp only
    by_cases hok : pushOK E.ops r.2 = true
    · exact Or.inl ⟨hok, by rw [if_pos hok]; rfl⟩
    · exact Or.inr ⟨by simpa using hok, by rw [if_neg hok]⟩

theorem pushNew_shape (E : Env S T π) (s : St S T π) (nt : NT S T) (np : Prog) :
    ∃ c hs, pushNew E s nt np = { s.addSeen nt np with cache := c, heaps := hs } := by
  rcases pushNew_cases E s nt np with ⟨_, e⟩ | ⟨c, v, _, ⟨_, e⟩ | ⟨_, e⟩⟩
  · exact ⟨s.cache, s.heaps, e⟩
  · exact ⟨c, _, e⟩
  · exact ⟨c, s.heaps, e⟩

@[simp] theorem seenOf_pushNew (E : Env S T π) (s : St S T π) (nt nt' : NT S T) (np : Prog) :
    (pushNew E s nt np).seenOf nt' = if nt' = nt then s.seenOf nt ++ [np] else s.seenOf nt' := by
  obtain ⟨c, hs, e⟩ := pushNew_shape E s nt np
  rw [e]; exact St.seenOf_addSeen s nt nt' np
@[simp] theorem succOf_pushNew (E : Env S T π) (s : St S T π) (nt nt' : NT S T) (np : Prog) :
    (pushNew E s nt np).succOf nt' = s.succOf nt' := by
  obtain ⟨c, hs, e⟩ := pushNew_shape E s nt np; rw [e]; rfl
@[simp] theorem deleted_pushNew (E : Env S T π) (s : St S T π) (nt : NT S T) (np : Prog) :
    (pushNew E s nt np).deleted = s.deleted := by
  obtain ⟨c, hs, e⟩ := pushNew_shape E s nt np; rw [e]; rfl
theorem pushNew_maxRule (E : Env S T π) (s : St S T π) (nt : NT S T) (np : Prog) :
    (pushNew E s nt np).maxRule = s.maxRule ∧ (pushNew E s nt np).maxNT = s.maxNT := by
  obtain ⟨c, hs, e⟩ := pushNew_shape E s nt np; rw [e]; exact ⟨rfl, rfl⟩

theorem heapOf_pushNew (E : Env S T π) (s : St S T π) (nt : NT S T) (np : Prog) :
    (∀ nt', (pushNew E s nt np).heapOf nt' = s.heapOf nt') ∨
    ∃ c v, computePrio E s.cache nt np = some (c, v) ∧ pushOK E.ops v = true ∧
      ∀ nt', (pushNew E s nt np).heapOf nt' =
        if nt' = nt then Heapq.push (ltE E.ops) (s.heapOf nt) (v, np) else s.heapOf nt' := by
  rcases pushNew_cases E s nt np with ⟨_, e⟩ | ⟨c, v, hcp, ⟨hok, e⟩ | ⟨_, e⟩⟩
  · exact Or.inl fun _ => by rw [e]; rfl
  · exact Or.inr ⟨c, v, hcp, hok, fun nt' => by rw [e, St.heapOf_setHeap]; rfl⟩
  · exact Or.inl fun _ => by rw [e]; rfl

theorem heapOf_pushNew_ne (E : Env S T π) (s : St S T π) {nt nt' : NT S T} (np : Prog) (hne : nt' ≠ nt) :
    (pushNew E s nt np).heapOf nt' = s.heapOf nt' := by
  rcases heapOf_pushNew E s nt np with h | ⟨_, _, _, _, h⟩
  · exact h nt'
  · rw [h, if_neg hne]

theorem mem_seenOf_pushNew {E : Env S T π} {s : St S T π} {nt nt' : NT S T} {np p : Prog} :
    p ∈ (pushNew E s nt np).seenOf nt' ↔ p ∈ s.seenOf nt' ∨ (nt' = nt ∧ p = np) := by
  rw [seenOf_pushNew]
  split
  · rename_i h; subst h; simp
  · rename_i h; simp [h]

theorem mem_heapOf_pushNew {E : Env S T π} {s : St S T π} {nt nt' : NT S T} {np : Prog} {e : π × Prog}
    (he : e ∈ (pushNew E s nt np).heapOf nt') :
    e ∈ s.heapOf nt' ∨
    (nt' = nt ∧ e.2 = np ∧ ∃ c, computePrio E s.cache nt np = some (c, e.1) ∧ pushOK E.ops e.1 = true) := by
  rcases heapOf_pushNew E s nt np with h | ⟨c, v, hcp, hok, h⟩
  · exact Or.inl (h nt' ▸ he)
  · rw [h] at he
    split at he
    · rename_i heq
      rcases List.mem_cons.mp ((Heapq.push_perm (ltE E.ops) _ (v, np)).subset he) with rfl | hm
      · exact Or.inr ⟨heq, rfl, c, hcp, hok⟩
      · exact Or.inl (heq ▸ hm)
    · exact Or.inl he

theorem cache_pushNew (E : Env S T π) (s : St S T π) (nt : NT S T) (np : Prog) :
    (computePrio E s.cache nt np = none ∧ (pushNew E s nt np).cache = s.cache) ∨
    ∃ v, computePrio E s.cache nt np = some ((pushNew E s nt np).cache, v) := by
  rcases pushNew_cases E s nt np with ⟨h, e⟩ | ⟨c, v, hcp, ⟨_, e⟩ | ⟨_, e⟩⟩
  · exact Or.inl ⟨h, by rw [e]; rfl⟩
  · exact Or.inr ⟨v, by rw [e]; exact hcp⟩
  · exact Or.inr ⟨v, by rw [e]; exact hcp⟩

/-- `W[nt][P]` -/
theorem ruleW_eq_lookup₂ (E : Env S T π) (nt : NT S T) (P : Sym) : ruleW E nt P = AList.lookup₂ E.W nt P := by
  unfold ruleW AList.lookup₂
  cases AList.lookup nt E.W <;> rfl

/-! ### the big-step relation -/

/-- the body of the `for i` loop of `__add_successors__` after `query` returned `r` -/
def pushStep (E : Env S T π) (s1 : St S T π) (F : Sym) (args : List Prog) (nt : NT S T) (i : Nat)
    (r : Option Prog) : St S T π :=
  match r with
  | none => s1
  | some q =>
    let np : Prog := .node F (args.set i q)
    if (s1.seenOf nt).contains np || (E.dropDeleted && s1.deleted.contains np) then s1
    else pushNew E s1 nt np

theorem pushStep_cases (E : Env S T π) (s1 : St S T π) (F : Sym) (args : List Prog) (nt : NT S T) (i : Nat)
    (r : Option Prog) :
    pushStep E s1 F args nt i r = s1 ∨
    ∃ q, r = some q ∧ Tree.node F (args.set i q) ∉ s1.seenOf nt ∧
      (E.dropDeleted && s1.deleted.contains (Tree.node F (args.set i q))) = false ∧
      pushStep E s1 F args nt i r = pushNew E s1 nt (.node F (args.set i q)) := by
  unfold pushStep
  cases r with
  | none => exact Or.inl rfl
  | some q =>
    dsimp only
    split
    · exact Or.inl rfl
    · rename_i hg
      rw [Bool.or_eq_true, not_or] at hg
      exact Or.inr ⟨q, rfl, fun hm => hg.1 (List.contains_iff_mem.mpr hm), by simpa using hg.2, rfl⟩

@[simp] theorem succOf_pushStep (E : Env S T π) (s1 : St S T π) (F : Sym) (args : List Prog) (nt nt' : NT S T) (i : Nat)
    (r : Option Prog) : (pushStep E s1 F args nt i r).succOf nt' = s1.succOf nt' := by
  rcases pushStep_cases E s1 F args nt i r with e | ⟨_, -, -, -, e⟩ <;> rw [e]
  exact succOf_pushNew E s1 nt nt' _

@[simp] theorem deleted_pushStep (E : Env S T π) (s1 : St S T π) (F : Sym) (args : List Prog) (nt : NT S T) (i : Nat)
    (r : Option Prog) : (pushStep E s1 F args nt i r).deleted = s1.deleted := by
  rcases pushStep_cases E s1 F args nt i r with e | ⟨_, -, -, -, e⟩ <;> rw [e]
  exact deleted_pushNew E s1 nt _

/-- `query`, `popLoop`, `addSucc` and `addLoop` are the four functions of the mutual recursion of the model.
    `lop` is no function of the model: it is the second half of `query`, the look-up of `p` in the
    successor table of `nt` followed, when `p` is absent, by the pop loop. It is a call kind of its
    own because `query` reaches it in two ways, at once or after the inner `query(S, None)`, and the
    state in which the table is read differs between the two. -/
inductive Call (S T : Type) where
  | query (nt : NT S T) (p : Option Prog)
  | lop (nt : NT S T) (p : Option Prog)
  | popLoop (nt : NT S T) (key : Option Prog)
  | addSucc (prog : Prog) (nt : NT S T)
  | addLoop (F : Sym) (args : List Prog) (nt : NT S T) (i argsLen : Nat) (info : Info S) (s2 : NT S T)

/-- `Big E c s s' r`: the call `c` started in state `s` returns `r` in state `s'`. `addSucc` and `addLoop` return
    nothing: their `r` is `none`, and the `x` left free in `pop_deleted`, `pop_take`, `succ_fun`, `loop_step` is that
    `none`. -/
inductive Big (E : Env S T π) : Call S T → St S T π → St S T π → Option Prog → Prop
  | query_direct {s s' nt p r} (h : p = none ∨ (AList.lookup none (s.succOf nt)).isSome = true)
      (hb : Big E (.lop nt p) s s' r) : Big E (.query nt p) s s' r
  | query_first {s s1 s' nt p r0 r} (hp : p ≠ none) (h : (AList.lookup none (s.succOf nt)).isSome = false)
      (h0 : Big E (.query nt none) s s1 r0) (hb : Big E (.lop nt p) s1 s' r) : Big E (.query nt p) s s' r
  | lop_hit {s nt p r} (h : AList.lookup p (s.succOf nt) = some r) : Big E (.lop nt p) s s (some r)
  | lop_miss {s s' nt p r} (h : AList.lookup p (s.succOf nt) = none)
      (hb : Big E (.popLoop nt p) s s' r) : Big E (.lop nt p) s s' r
  | pop_empty {s nt key} (h : Heapq.pop (ltE E.ops) (s.heapOf nt) = none) : Big E (.popLoop nt key) s s none
  | pop_deleted {s s1 s' nt key e h' x r} (h : Heapq.pop (ltE E.ops) (s.heapOf nt) = some (e, h'))
      (hd : s.deleted.contains e.2 = true)
      (ha : Big E (.addSucc e.2 nt) (s.setHeap nt h') s1 x)
      (hb : Big E (.popLoop nt key) s1 s' r) : Big E (.popLoop nt key) s s' r
  | pop_take {s s' nt key e h' x} (h : Heapq.pop (ltE E.ops) (s.heapOf nt) = some (e, h'))
      (hd : s.deleted.contains e.2 = false)
      (ha : Big E (.addSucc e.2 nt) (((s.setHeap nt h').setSucc nt key e.2).setPred nt e.2 key) s' x) :
      Big E (.popLoop nt key) s s' (some e.2)
  | succ_leaf {s F nt} : Big E (.addSucc (.node F []) nt) s s none
  | succ_fun {s s' F a as nt r rl x} (hd : derive E.G [] nt F = some r) (hr : E.G.rule? nt F = some rl)
      (hb : Big E (.addLoop F (a :: as) nt 0 rl.1.length r.1 r.2) s s' x) :
      Big E (.addSucc (.node F (a :: as)) nt) s s' none
  | loop_done {s F args nt i argsLen info s2} (h : i ≥ argsLen) :
      Big E (.addLoop F args nt i argsLen info s2) s s none
  | loop_step {s s1 s' F args nt i argsLen info s2 ai r r' x} (h : i < argsLen) (hai : args[i]? = some ai)
      (hq : Big E (.query s2 (some ai)) s s1 r) (hc : i + 1 < argsLen)
      (hda : deriveAll E.G ai info s2 = some r')
      (hb : Big E (.addLoop F args nt (i + 1) argsLen r'.1 r'.2) (pushStep E s1 F args nt i r) s' x) :
      Big E (.addLoop F args nt i argsLen info s2) s s' none
  | loop_last {s s1 F args nt i argsLen info s2 ai r} (h : i < argsLen) (hai : args[i]? = some ai)
      (hq : Big E (.query s2 (some ai)) s s1 r) (hc : ¬ i + 1 < argsLen) :
      Big E (.addLoop F args nt i argsLen info s2) s (pushStep E s1 F args nt i r) none

theorem big_of_run (E : Env S T π) : ∀ n : Nat,
    (∀ s nt p s' r, query E n s nt p = some (s', r) → Big E (.query nt p) s s' r) ∧
    (∀ s nt key s' r, popLoop E n s nt key = some (s', r) → Big E (.popLoop nt key) s s' r) ∧
    (∀ s prog nt s', addSucc E n s prog nt = some s' → Big E (.addSucc prog nt) s s' none) ∧
    (∀ s F args nt i argsLen info s2 s', addLoop E n s F args nt i argsLen info s2 = some s' →
      Big E (.addLoop F args nt i argsLen info s2) s s' none) := by
  intro n
  induction n with
  | zero =>
    refine ⟨?_, ?_, ?_, ?_⟩
    · intro s nt p s' r h; simp [query] at h
    · intro s nt key s' r h; simp [popLoop] at h
    · intro s prog nt s' h; simp [addSucc] at h
    · intro s F args nt i argsLen info s2 s' h; simp [addLoop] at h
  | succ n ih =>
    obtain ⟨ihq, ihp, ihs, ihl⟩ := ih
    refine ⟨?_, ?_, ?_, ?_⟩
    · intro s nt p s' r h
      unfold query at h
      -- the continuation after the optional first query
      have cont : ∀ s1 : St S T π,
          (match AList.lookup p (s1.succOf nt) with
            | some r => some (s1, some r)
            | none => popLoop E n s1 nt p) = some (s', r) → Big E (.lop nt p) s1 s' r := by
        intro s1 h1
        cases hl : AList.lookup p (s1.succOf nt) with
        | some q =>
          simp only [hl, Option.some.injEq, Prod.mk.injEq] at h1
          obtain ⟨rfl, rfl⟩ := h1
          exact Big.lop_hit hl
        | none =>
          simp only [hl] at h1
          exact Big.lop_miss hl (ihp _ _ _ _ _ h1)
      cases p with
      | none =>
        simp only at h
        exact Big.query_direct (Or.inl rfl) (cont s h)
      | some x =>
        simp only at h
        cases hn : (AList.lookup none (s.succOf nt)).isSome with
        | true =>
          simp only [hn, if_true] at h
          exact Big.query_direct (Or.inr hn) (cont s h)
        | false =>
          simp only [hn, Bool.false_eq_true, if_false] at h
          cases hq : query E n s nt none with
          | none => simp [hq] at h
          | some r0 =>
            simp only [hq, Option.map_some] at h
            exact Big.query_first (by simp) hn (ihq _ _ _ _ _ hq) (cont r0.1 h)
    · intro s nt key s' r h
      unfold popLoop at h
      cases hp : Heapq.pop (ltE E.ops) (s.heapOf nt) with
      | none =>
        simp only [hp, Option.some.injEq, Prod.mk.injEq] at h
        obtain ⟨rfl, rfl⟩ := h
        exact Big.pop_empty hp
      | some eh =>
        obtain ⟨e, h'⟩ := eh
        simp only [hp] at h
        cases hd : s.deleted.contains e.2 with
        | true =>
          have hd' : (s.setHeap nt h').deleted.contains e.2 = true := hd
          simp only [hd', if_true] at h
          cases ha : addSucc E n (s.setHeap nt h') e.2 nt with
          | none => simp [ha] at h
          | some s1 =>
            simp only [ha] at h
            exact Big.pop_deleted hp hd (ihs _ _ _ _ ha) (ihp _ _ _ _ _ h)
        | false =>
          have hd' : (s.setHeap nt h').deleted.contains e.2 = false := hd
          simp only [hd', Bool.false_eq_true, if_false] at h
          cases ha : addSucc E n (((s.setHeap nt h').setSucc nt key e.2).setPred nt e.2 key) e.2 nt with
          | none => simp [ha] at h
          | some s1 =>
            simp only [ha, Option.some.injEq, Prod.mk.injEq] at h
            obtain ⟨rfl, rfl⟩ := h
            exact Big.pop_take hp hd (ihs _ _ _ _ ha)
    · intro s prog nt s' h
      obtain ⟨F, kids⟩ := prog
      cases kids with
      | nil =>
        simp only [addSucc, Option.some.injEq] at h
        subst h
        exact Big.succ_leaf
      | cons a as =>
        simp only [addSucc] at h
        cases hd : derive E.G [] nt F with
        | none => simp [hd] at h
        | some r =>
          cases hr : E.G.rule? nt F with
          | none => simp [hd, hr] at h
          | some rl =>
            simp only [hd, hr] at h
            exact Big.succ_fun hd hr (ihl _ _ _ _ _ _ _ _ _ h)
    · intro s F args nt i argsLen info s2 s' h
      unfold addLoop at h
      by_cases hi : i ≥ argsLen
      · simp only [hi, if_true, Option.some.injEq] at h
        subst h
        exact Big.loop_done hi
      · simp only [hi, if_false] at h
        cases hai : args[i]? with
        | none => simp [hai] at h
        | some ai =>
          simp only [hai] at h
          cases hq : query E n s s2 (some ai) with
          | none => simp [hq] at h
          | some sr =>
            obtain ⟨s1, r⟩ := sr
            simp only [hq] at h
            by_cases hc : i + 1 < argsLen
            · simp only [hc, if_true] at h
              cases hda : deriveAll E.G ai info s2 with
              | none => simp [hda] at h
              | some r' =>
                simp only [hda] at h
                have h2 : addLoop E n (pushStep E s1 F args nt i r) F args nt (i + 1) argsLen r'.1 r'.2 = some s' := by
                  cases r <;> exact h
                exact Big.loop_step (by omega) hai (ihq _ _ _ _ _ hq) hc hda (ihl _ _ _ _ _ _ _ _ _ h2)
            · simp only [hc, if_false, Option.some.injEq] at h
              have h2 : pushStep E s1 F args nt i r = s' := by
                cases r <;> exact h
              subst h2
              exact Big.loop_last (by omega) hai (ihq _ _ _ _ _ hq) hc

theorem big_of_query (E : Env S T π) {n s nt p s' r} (h : query E n s nt p = some (s', r)) :
    Big E (.query nt p) s s' r := (big_of_run E n).1 _ _ _ _ _ h

/-- a reflexive, transitive relation between states that the three writes of the machine establish (a pop, the record
    of a pop in `succ`/`pred`, the push of one successor) holds between the states before and after every call -/
theorem Big.rel {E : Env S T π} {R : St S T π → St S T π → Prop} (refl : ∀ s, R s s)
    (trans : ∀ {a b c}, R a b → R b c → R a c)
    (pop : ∀ {s nt e h'}, Heapq.pop (ltE E.ops) (s.heapOf nt) = some (e, h') → R s (s.setHeap nt h'))
    (link : ∀ s nt key x, R s ((s.setSucc nt key x).setPred nt x key))
    (push : ∀ s F args nt i r, R s (pushStep E s F args nt i r))
    {c : Call S T} {s s' : St S T π} {r : Option Prog} (hb : Big E c s s' r) : R s s' := by
  induction hb with
  | query_direct _ _ ih => exact ih
  | query_first _ _ _ _ ih0 ih => exact trans ih0 ih
  | lop_hit _ => exact refl _
  | lop_miss _ _ ih => exact ih
  | pop_empty _ => exact refl _
  | pop_deleted h _ _ _ iha ihb => exact trans (trans (pop h) iha) ihb
  | pop_take h _ _ iha => exact trans (trans (pop h) (link _ _ _ _)) iha
  | succ_leaf => exact refl _
  | succ_fun _ _ _ ih => exact ih
  | loop_done _ => exact refl _
  | loop_step _ _ _ _ _ _ ihq ihb => exact trans (trans ihq (push _ _ _ _ _ _)) ihb
  | loop_last _ _ _ _ ihq => exact trans ihq (push _ _ _ _ _ _)

theorem big_deleted {E : Env S T π} {c : Call S T} {s s' : St S T π} {r : Option Prog} (hb : Big E c s s' r) :
    s'.deleted = s.deleted :=
  Big.rel (R := fun s s' => s'.deleted = s.deleted) (fun _ => rfl) (fun f g => g.trans f) (fun _ => rfl) (fun _ _ _ _ => rfl)
    (deleted_pushStep E) hb

/-! ### one step of the max-priority phase

`__init_non_terminal__`, one iteration of `__compute_max_prio__` and one iteration of its argument loop, read as
equivalences: what a step that returns has done, and what it takes for a step to return. -/

/-- `if best_priority is None or priority < best_priority` -/
def bestUpd (lt : π → π → Bool) (best : Option (Prog × π)) (prog : Prog) (pr : π) : Option (Prog × π) :=
  match best with
  | none => some (prog, pr)
  | some b => if lt pr b.2 then some (prog, pr) else some b

theorem bestUpd_cases {lt : π → π → Bool} {best : Option (Prog × π)} {prog : Prog} {pr : π} {b : Prog × π}
    (h : bestUpd lt best prog pr = some b) : b = (prog, pr) ∨ best = some b := by
  revert h
  fun_cases bestUpd lt best prog pr <;> intro h <;> cases h
  · exact Or.inl rfl
  · exact Or.inl rfl
  · exact Or.inr rfl

/-- the arguments `__compute_max_prio__` collects for rule `P` of `nt` -/
def builtArgs (E : Env S T π) (n : Nat) (s : St S T π) (nt : NT S T) (P : Sym) (ra : List (Ty × S)) :
    Option (St S T π × List Prog) :=
  if ra.length > 0 then
    match derive E.G [] nt P with
    | none => none
    | some r => maxArgs E n s ra.length r.1 r.2 []
  else some (s, [])

theorem builtArgs_cases {E : Env S T π} {n : Nat} {s : St S T π} {nt : NT S T} {P : Sym} {ra : List (Ty × S)}
    {s1 : St S T π} {args : List Prog} (h : builtArgs E n s nt P ra = some (s1, args)) :
    (0 < ra.length ∧ ∃ r, derive E.G [] nt P = some r ∧ maxArgs E n s ra.length r.1 r.2 [] = some (s1, args)) ∨
    (ra = [] ∧ s1 = s ∧ args = []) := by
  revert h
  fun_cases builtArgs E n s nt P ra <;> intro h
  case case1 => cases h
  case case2 hlen r hd => exact Or.inl ⟨hlen, r, hd, h⟩
  case case3 hlen => cases h; exact Or.inr ⟨List.length_eq_zero_iff.mp (by omega), rfl, rfl⟩

theorem builtArgs_rel {E : Env S T π} {n : Nat} {R : St S T π → St S T π → Prop} (hr : ∀ s, R s s)
    (hA : ∀ s k info cur acc s' args, maxArgs E n s k info cur acc = some (s', args) → R s s')
    {s : St S T π} {nt : NT S T} {P : Sym} {ra : List (Ty × S)} {s1 : St S T π} {args : List Prog}
    (hb : builtArgs E n s nt P ra = some (s1, args)) : R s s1 := by
  rcases builtArgs_cases hb with ⟨_, r, _, hma⟩ | ⟨_, rfl, _⟩
  · exact hA _ _ _ _ _ _ _ hma
  · exact hr _

theorem maxArgs_succ_iff {E : Env S T π} {n : Nat} {s : St S T π} {k : Nat} {info : Info S} {cur : NT S T}
    {acc : List Prog} {res : St S T π × List Prog} :
    maxArgs E (n + 1) s (k + 1) info cur acc = some res ↔
    ∃ s1, initNT E n s cur = some s1 ∧
      ((AList.lookup cur s1.maxNT = none ∧ res = (s1, acc)) ∨
       ∃ m r, AList.lookup cur s1.maxNT = some m ∧ deriveAll E.G m info cur = some r ∧
         maxArgs E n s1 k r.1 r.2 (acc ++ [m]) = some res) := by
  rw [maxArgs]
  constructor
  · intro h
    split at h
    · cases h
    · rename_i s1 hi
      refine ⟨s1, hi, ?_⟩
      split at h
      · rename_i hl; cases h; exact Or.inl ⟨hl, rfl⟩
      · rename_i m hl
        split at h
        · cases h
        · rename_i r hd; exact Or.inr ⟨m, r, hl, hd, h⟩
  · rintro ⟨s1, hi, ⟨hl, rfl⟩ | ⟨m, r, hl, hd, h⟩⟩
    · simp only [hi, hl]
    · simp only [hi, hl, hd]; exact h

theorem maxLoop_cons_eq {E : Env S T π} {n : Nat} {s : St S T π} {nt : NT S T} {P : Sym} {ra : List (Ty × S)} {u : T}
    {rest : List (Sym × (List (Ty × S) × T))} {best : Option (Prog × π)} :
    maxLoop E (n + 1) s nt ((P, (ra, u)) :: rest) best =
      match builtArgs E n s nt P ra with
      | none => none
      | some (s1, args) =>
        if args.length ≠ ra.length then maxLoop E n s1 nt rest best
        else match computePrio E s1.cache nt (.node P args) with
          | none => none
          | some (c, pr) =>
            maxLoop E n { s1 with cache := c, maxRule := AList.insert (nt, P) (.node P args) s1.maxRule } nt rest
              (bestUpd E.ops.lt best (.node P args) pr) := by
  rw [maxLoop, builtArgs]
  dsimp only
  by_cases hlen : ra.length > 0
  · rw [if_pos hlen, if_pos hlen]
    cases derive E.G [] nt P with
    | none => rfl
    | some r =>
      dsimp only
      cases maxArgs E n s ra.length r.1 r.2 [] with
      | none => rfl
      | some sa =>
        obtain ⟨s1, args⟩ := sa
        dsimp only
        by_cases hal : args.length ≠ ra.length
        · rw [if_pos hal, if_pos hal]
        · rw [if_neg hal, if_neg hal]; rfl
  · rw [if_neg hlen, if_neg hlen]
    dsimp only
    rw [if_neg (by simp; omega)]
    rfl

theorem maxLoop_cons_iff {E : Env S T π} {n : Nat} {s : St S T π} {nt : NT S T} {P : Sym} {ra : List (Ty × S)} {u : T}
    {rest : List (Sym × (List (Ty × S) × T))} {best : Option (Prog × π)} {res : St S T π × Option (Prog × π)} :
    maxLoop E (n + 1) s nt ((P, (ra, u)) :: rest) best = some res ↔
    ∃ s1 args, builtArgs E n s nt P ra = some (s1, args) ∧
      if args.length ≠ ra.length then maxLoop E n s1 nt rest best = some res
      else ∃ c pr, computePrio E s1.cache nt (.node P args) = some (c, pr) ∧
        maxLoop E n { s1 with cache := c, maxRule := AList.insert (nt, P) (.node P args) s1.maxRule } nt rest
          (bestUpd E.ops.lt best (.node P args) pr) = some res := by
  rw [maxLoop_cons_eq]
  constructor
  · intro h
    split at h
    · cases h
    · rename_i s1 args hb
      refine ⟨s1, args, hb, ?_⟩
      split at h
      · rename_i hal; rw [if_pos hal]; exact h
      · rename_i hal
        rw [if_neg hal]
        split at h
        · cases h
        · rename_i c pr hcp; exact ⟨c, pr, hcp, h⟩
  · rintro ⟨s1, args, hb, h⟩
    rw [hb]
    dsimp only
    split at h
    · rename_i hal; rw [if_pos hal]; exact h
    · rename_i hal
      obtain ⟨c, pr, hcp, h⟩ := h
      rw [if_neg hal, hcp]; exact h

theorem initNT_succ_iff {E : Env S T π} {n : Nat} {s : St S T π} {nt : NT S T} {s' : St S T π} :
    initNT E (n + 1) s nt = some s' ↔
    (nt ∈ s.initS ∧ s' = s) ∨
    (nt ∉ s.initS ∧ ∃ rs, AList.lookup nt E.G.rules = some rs ∧
      ((rs.all (fun r => (AList.lookup (nt, r.1) s.maxRule).isSome) = true ∧ s' = s) ∨
       (¬ rs.all (fun r => (AList.lookup (nt, r.1) s.maxRule).isSome) = true ∧
        ∃ s1 best, maxLoop E n { s with initS := s.initS ++ [nt] } nt rs none = some (s1, best) ∧
          s' = match best with
            | some b => { s1 with initS := s1.initS.erase nt, maxNT := AList.insert nt b.1 s1.maxNT }
            | none => { s1 with initS := s1.initS.erase nt }))) := by
  rw [initNT]
  constructor
  · intro h
    split at h
    · rename_i hc; cases h; exact Or.inl ⟨by simpa using hc, rfl⟩
    · rename_i hc
      split at h
      · cases h
      · rename_i rs hrs
        refine Or.inr ⟨by simpa using hc, rs, hrs, ?_⟩
        split at h
        · rename_i hall; cases h; exact Or.inl ⟨hall, rfl⟩
        · rename_i hall
          split at h
          · cases h
          · rename_i s1 best hml
            refine Or.inr ⟨hall, s1, best, hml, ?_⟩
            split at h <;> (cases h; rfl)
  · rintro (⟨hin, rfl⟩ | ⟨hnin, rs, hrs, ⟨hall, rfl⟩ | ⟨hall, s1, best, hml, rfl⟩⟩)
    · rw [if_pos (by simpa using hin)]
    · rw [if_neg (by simpa using hnin), hrs]; dsimp only; rw [if_pos hall]
    · rw [if_neg (by simpa using hnin), hrs]; dsimp only; rw [if_neg hall, hml]; cases best <;> rfl

/-! ### the loops of the prologue

A reflexive and transitive relation between states that every call of the loop body establishes
holds between the state before and the state after the loop. State invariants are the case
`R s s' := I s → I s' ∧ …`. -/

theorem initHeapLoop_cons {E : Env S T π} {nt : NT S T} {P : Sym} {rest : List Sym} {s s' : St S T π} :
    initHeapLoop E nt (P :: rest) s = some s' ↔
    ∃ prog, AList.lookup (nt, P) s.maxRule = some prog ∧ prog ∉ s.seenOf nt ∧
      (computePrio E s.cache nt prog).isSome = true ∧ initHeapLoop E nt rest (pushNew E s nt prog) = some s' := by
  have step : ∀ prog r, computePrio E (s.addSeen nt prog).cache nt prog = some r →
      initHeapLoop E nt rest (if pushOK E.ops r.2 = true then
          St.setHeap { s.addSeen nt prog with cache := r.1 } nt
            (Heapq.push (ltE E.ops) (St.heapOf { s.addSeen nt prog with cache := r.1 } nt) (r.2, prog))
        else { s.addSeen nt prog with cache := r.1 }) = initHeapLoop E nt rest (pushNew E s nt prog) := by
    intro prog r hcp; rw [pushNew]; simp only [hcp]
  rw [initHeapLoop]
  constructor
  · intro h
    split at h
    · cases h
    · rename_i prog hl
      split at h
      · cases h
      · rename_i hnc
        dsimp only at h
        split at h
        · cases h
        · rename_i r hcp
          exact ⟨prog, hl, fun hm => hnc (List.contains_iff_mem.mpr hm),
            by rw [show computePrio E s.cache nt prog = some r from hcp]; rfl, step prog r hcp ▸ h⟩
  · rintro ⟨prog, hl, hnew, hcp, h⟩
    rw [hl]
    dsimp only
    rw [if_neg (fun hc => hnew (List.contains_iff_mem.mp hc))]
    cases hr : computePrio E (s.addSeen nt prog).cache nt prog with
    | none => rw [show computePrio E s.cache nt prog = none from hr] at hcp; cases hcp
    | some r => exact (step prog r hr).trans h

section Loops
variable {E : Env S T π} {R : St S T π → St S T π → Prop} (hr : ∀ s, R s s)
  (ht : ∀ {a b c}, R a b → R b c → R a c)
include hr ht

theorem reevalPass_rel {fuel : Nat} (hI : ∀ s nt s', initNT E fuel s nt = some s' → R s s')
    (nts s ch s' ch') (h : reevalPass E fuel nts s ch = some (s', ch')) : R s s' := by
  fun_induction reevalPass E fuel nts s ch with
  | case1 => cases h; exact hr _
  | case2 => cases h
  | case3 nt rest s ch s1 hi _ _ ih => exact ht (hI _ _ _ hi) (ih h)

theorem reevaluate_rel {fuel : Nat} (hI : ∀ s nt s', initNT E fuel s nt = some s' → R s s')
    (k s s') (h : reevaluate E fuel k s = some s') : R s s' := by
  fun_induction reevaluate E fuel k s with
  | case1 => cases h
  | case2 => cases h
  | case3 k s s1 hp ih => exact ht (reevalPass_rel hr ht hI _ _ _ _ _ hp) (ih h)
  | case4 k s s1 hp => cases h; exact reevalPass_rel hr ht hI _ _ _ _ _ hp

/-- The hypothesis on the body of the loop of `__init_heap__` is asked only of the pushes the loop
    makes: `prog` is the entry of `maxRule` for a rule of `nt` and is not in `seen`, so an invariant
    may use both facts to show that it survives `pushNew`. -/
theorem initHeapLoop_rel {nt : NT S T}
    (hP : ∀ s P prog, AList.lookup (nt, P) s.maxRule = some prog → prog ∉ s.seenOf nt → R s (pushNew E s nt prog)) :
    ∀ Ps s s', initHeapLoop E nt Ps s = some s' → R s s'
  | [], s, s', h => by cases h; exact hr s
  | P :: rest, s, s', h => by
    obtain ⟨prog, hl, hnew, _, h'⟩ := initHeapLoop_cons.mp h
    exact ht (hP s P prog hl hnew) (initHeapLoop_rel hP rest _ _ h')

theorem initHeaps_rel (hL : ∀ nt Ps s s', initHeapLoop E nt Ps s = some s' → R s s')
    (rows s s') (h : initHeaps E rows s = some s') : R s s' := by
  fun_induction initHeaps E rows s with
  | case1 => cases h; exact hr _
  | case2 => cases h
  | case3 nt rs rest s s1 hl ih => exact ht (hL _ _ _ _ hl) (ih h)

theorem firstQueries_rel {fuel : Nat} (hQ : ∀ s nt s' r, query E fuel s nt none = some (s', r) → R s s')
    (nts s s') (h : firstQueries E fuel nts s = some s') : R s s' := by
  fun_induction firstQueries E fuel nts s with
  | case1 => cases h; exact hr _
  | case2 => cases h
  | case3 nt rest s r hq ih => exact ht (hQ s nt r.1 r.2 hq) (ih h)

end Loops

/-- the prologue up to (and including) `__init_heap__` -/
def preHeaps {S : Type} [DecidableEq S] {T π : Type} [DecidableEq T] (E : Env S T π) (fuel : Nat) (s : St S T π) :
    Option (St S T π) :=
  match initNT E fuel s E.G.start with
  | none => none
  | some s1 =>
    match reevaluate E fuel fuel s1 with
    | none => none
    | some s2 => initHeaps E E.G.rules s2

theorem preHeaps_iff {E : Env S T π} {fuel : Nat} {s s3 : St S T π} :
    preHeaps E fuel s = some s3 ↔
    ∃ s1 s2, initNT E fuel s E.G.start = some s1 ∧ reevaluate E fuel fuel s1 = some s2 ∧
      initHeaps E E.G.rules s2 = some s3 := by
  unfold preHeaps
  cases h1 : initNT E fuel s E.G.start with
  | none => simp
  | some s1 => cases h2 : reevaluate E fuel fuel s1 <;> simp [h2]

theorem prologue_iff {E : Env S T π} {fuel : Nat} {s s' : St S T π} :
    prologue E fuel s = some s' ↔
    ∃ s3, preHeaps E fuel s = some s3 ∧ firstQueries E fuel (AList.keys E.G.rules) s3 = some s' := by
  unfold prologue preHeaps
  cases h1 : initNT E fuel s E.G.start with
  | none => simp
  | some s1 =>
    cases h2 : reevaluate E fuel fuel s1 with
    | none => simp [h2]
    | some s2 => cases h3 : initHeaps E E.G.rules s2 <;> simp [h2, h3]

/-- the prologue of `generator()` for a relation: it is made of calls of `__init_non_terminal__`, pushes of recorded
    programs that are not in `seen`, and first queries -/
theorem prologue_rel {E : Env S T π} {R : St S T π → St S T π → Prop} (hr : ∀ s, R s s)
    (ht : ∀ {a b c}, R a b → R b c → R a c) {fuel : Nat} (hI : ∀ s nt s', initNT E fuel s nt = some s' → R s s')
    (hP : ∀ nt s P prog, AList.lookup (nt, P) s.maxRule = some prog → prog ∉ s.seenOf nt → R s (pushNew E s nt prog))
    (hQ : ∀ s nt s' r, query E fuel s nt none = some (s', r) → R s s') {s s' : St S T π}
    (h : prologue E fuel s = some s') : R s s' := by
  obtain ⟨s3, h3, h⟩ := prologue_iff.mp h
  obtain ⟨s1, s2, h1, h2, h3⟩ := preHeaps_iff.mp h3
  exact ht (ht (ht (hI _ _ _ h1) (reevaluate_rel hr ht hI _ _ _ h2))
    (initHeaps_rel hr ht (fun nt => initHeapLoop_rel hr ht (hP nt)) _ _ _ h3)) (firstQueries_rel hr ht hQ _ _ _ h)

theorem next_cases {E : Env S T π} {fuel : Nat} {g g' : Gen S T π} {r : Option Prog}
    (h : next E fuel g = some (g', r)) :
    ∃ s, nextLoop E fuel fuel s g.current = some (g', r) ∧
      ((g.started = true ∧ s = g.st) ∨ (g.started = false ∧ prologue E fuel g.st = some s)) := by
  revert h
  fun_cases next E fuel g <;> intro h
  case case1 hst => exact ⟨_, h, Or.inl ⟨hst, rfl⟩⟩
  case case2 => cases h
  case case3 hst s hp => exact ⟨s, h, Or.inr ⟨by simpa using hst, hp⟩⟩

/-- rule for the yield loop: `P` holds of the state and the key before each `query(start, key)`, `Q` of what the loop
    returns -/
theorem nextLoop_rule {E : Env S T π} {fuel : Nat} {P : St S T π → Option Prog → Prop}
    {Q : Gen S T π → Option Prog → Prop}
    (hstop : ∀ s cur s1, P s cur → query E fuel s E.G.start cur = some (s1, none) →
      Q { st := s1, current := cur, started := true } none)
    (hacc : ∀ s cur s1 p, P s cur → query E fuel s E.G.start cur = some (s1, some p) → E.filter p = true →
      Q { st := s1, current := some p, started := true } (some p))
    (hrej : ∀ s cur s1 p, P s cur → query E fuel s E.G.start cur = some (s1, some p) → E.filter p = false →
      P (s1.addDeleted p) (some p))
    (k : Nat) (s : St S T π) (cur : Option Prog) (g' : Gen S T π) (r : Option Prog)
    (hp : P s cur) (h : nextLoop E fuel k s cur = some (g', r)) : Q g' r := by
  fun_induction nextLoop E fuel k s cur with
  | case1 => cases h
  | case2 => cases h
  | case3 k s cur s1 hq => cases h; exact hstop s cur s1 hp hq
  | case4 k s cur s1 p hq hf => cases h; exact hacc s cur s1 p hp hq hf
  | case5 k s cur s1 p hq hf ih => exact ih (hrej s cur s1 p hp hq (by simpa using hf)) h

/-- without a filter the yield loop is one `query` -/
theorem nextLoop_nofilter {E : Env S T π} (hf : ∀ p, E.filter p = true) {fuel k : Nat} {s : St S T π}
    {cur : Option Prog} {g' : Gen S T π} {r : Option Prog} (h : nextLoop E fuel k s cur = some (g', r)) :
    query E fuel s E.G.start cur = some (g'.st, r) ∧ g'.started = true ∧
      (∀ p, r = some p → g'.current = some p) ∧ (r = none → g'.current = cur) :=
  nextLoop_rule (P := fun s' c' => s' = s ∧ c' = cur)
    (Q := fun g' r => query E fuel s E.G.start cur = some (g'.st, r) ∧ g'.started = true ∧
      (∀ p, r = some p → g'.current = some p) ∧ (r = none → g'.current = cur))
    (fun _ _ s1 ⟨e1, e2⟩ hq => by subst e1 e2; exact ⟨hq, rfl, fun p hp => (by cases hp), fun _ => rfl⟩)
    (fun _ _ s1 p ⟨e1, e2⟩ hq _ => by subst e1 e2; exact ⟨hq, rfl, fun p' hp' => (by cases hp'; rfl), fun hh => (by cases hh)⟩)
    (fun _ _ _ p _ _ hr => by rw [hf p] at hr; cases hr) k s cur g' r ⟨rfl, rfl⟩ h

theorem take_eq (E : Env S T π) (fuel : Nat) : ∀ k g acc, take E fuel k g acc = Iter.take (next E fuel) k g acc :=
  Iter.take_unique (fun _ _ => rfl) (fun _ _ _ h => by simp only [take, h]) (fun _ _ _ _ h => by simp only [take, h])
    (fun _ _ _ _ _ h => by simp only [take, h])

/-- `Iter.take_inv` for a step lemma stated as a conjunction over the two results of `next`, a program or `None`
    (`next_nodup`, `next_order`) -/
theorem take_rel {E : Env S T π} {fuel : Nat} (I : Gen S T π → List Prog → Prop)
    (hnext : ∀ g acc g' r, I g acc → next E fuel g = some (g', r) →
      (∀ p, r = some p → I g' (acc ++ [p])) ∧ (r = none → I g' acc)) :
    ∀ (k : Nat) (g : Gen S T π) (acc : List Prog) (g' : Gen S T π) (out : List Prog) (b : Bool),
      I g acc → take E fuel k g acc = some (g', out, b) → I g' out := fun k g acc _ _ _ hg h =>
  Iter.take_inv (fun g acc g' o hi hn => Iter.step_of_cases (hnext g acc g' o hi hn)) k g acc _ hg (take_eq E fuel k g acc ▸ h)

end PS.HS
