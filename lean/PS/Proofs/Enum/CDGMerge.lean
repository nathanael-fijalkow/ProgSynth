/- `merge_program(rep, other)` removes `other` from the banks
   of the non-terminals of its type and puts it in `_deleted`; the bank invariant survives because the provenance of a
   stored program only asks its sub-programs to be in their pool or deleted since, and a deleted program never
   re-enters a bank.  Hypothesis on a merge: `other` is only derivable from non-terminals of the declared type
   (`TyOK`), so that it is removed from every bank that holds it. -/
import PS.Proofs.Enum.CDGRun
namespace PS.CD
variable {α : Type}

theorem merge_inBankAt (E : Env α) (g : Gen α) (other : Prog) (ty : Nat) (S : NT) (c : Nat) (q : Prog) :
    InBankAt (merge E g other ty).st S c q ↔
      ∃ b l, AList.lookup S g.st.bankNt = some b ∧ AList.lookup c b = some l ∧
        q ∈ (if matched E ty S then removeFirst other l else l) := by
  constructor
  · rintro ⟨b, l, h1, h2, h3⟩
    obtain ⟨b0, l0, hb0, hl0, rfl⟩ := (merge_lookup E g other ty S c l).mp ⟨b, h1, h2⟩
    exact ⟨b0, l0, hb0, hl0, h3⟩
  · rintro ⟨b0, l0, hb0, hl0, h3⟩
    obtain ⟨b, h1, h2⟩ := (merge_lookup E g other ty S c _).mpr ⟨b0, l0, hb0, hl0, rfl⟩
    exact ⟨b, _, h1, h2, h3⟩

theorem merge_bank_sub (E : Env α) (g : Gen α) (other : Prog) (ty : Nat) : BMono (merge E g other ty).st g.st := by
  intro S c q h
  obtain ⟨b, l, h1, h2, h3⟩ := (merge_inBankAt E g other ty S c q).mp h
  refine ⟨b, l, h1, h2, ?_⟩
  split at h3
  · exact removeFirst_sub other l q h3
  · exact h3

/-- `other` is only in banks that `merge_program` visits -/
def MergeOK (E : Env α) (g : Gen α) (other : Prog) (ty : Nat) : Prop :=
  ∀ S c, InBankAt g.st S c other → matched E ty S = true

theorem merge_bank_or (E : Env α) (g : Gen α) (other : Prog) (ty : Nat) (S : NT) (c : Nat) (q : Prog)
    (h : InBankAt g.st S c q) : InBankAt (merge E g other ty).st S c q ∨ q ∈ (merge E g other ty).st.deleted := by
  obtain ⟨b, l, h1, h2, h3⟩ := h
  by_cases hm : matched E ty S = true
  · rcases mem_removeFirst_or other q l h3 with h4 | h4
    · exact Or.inl ((merge_inBankAt E g other ty S c q).mpr ⟨b, l, h1, h2, by rw [if_pos hm]; exact h4⟩)
    · exact Or.inr (h4 ▸ (merge_deleted E g other ty).1)
  · exact Or.inl ((merge_inBankAt E g other ty S c q).mpr ⟨b, l, h1, h2, by rw [if_neg hm]; exact h3⟩)

theorem merge_other_out (E : Env α) (g : Gen α) (other : Prog) (ty : Nat) (hB : BInv g.st) (hM : MergeOK E g other ty)
    (S : NT) (c : Nat) : ¬ InBankAt (merge E g other ty).st S c other := by
  intro h
  obtain ⟨b, l, h1, h2, h3⟩ := (merge_inBankAt E g other ty S c other).mp h
  split at h3
  · exact removeFirst_not_mem other l (hB.1 S b c l h1 h2) h3
  · rename_i hm
    exact hm (hM S c ⟨b, l, h1, h2, h3⟩)

structure MergeKeeps (E : Env α) (g : Gen α) (other : Prog) (ty : Nat) : Prop where
  queueNt : (merge E g other ty).st.queueNt = g.st.queueNt
  queueDer : (merge E g other ty).st.queueDer = g.st.queueDer
  bankDer : (merge E g other ty).st.bankDer = g.st.bankDer
  costDer : (merge E g other ty).st.costDer = g.st.costDer
  deleted : (merge E g other ty).st.deleted = (g.st.addDeleted other).deleted
  phase : (merge E g other ty).phase = g.phase

theorem merge_keeps (E : Env α) (g : Gen α) (other : Prog) (ty : Nat) : MergeKeeps E g other ty := by
  obtain ⟨b, d, e⟩ := merge_eq E g other ty
  exact ⟨by rw [e], by rw [e], by rw [e], by rw [e], rfl, rfl⟩

theorem merge_dsub (E : Env α) (g : Gen α) (other : Prog) (ty : Nat) : DSub g.st (merge E g other ty).st :=
  (merge_deleted E g other ty).2

theorem merge_kids (E : Env α) (g : Gen α) (other : Prog) (ty : Nat) (ps : List Ref) (kids : List Prog)
    (h : KidsIn g.st ps kids) : KidsIn (merge E g other ty).st ps kids := by
  refine All2.imp ?_ h
  intro r k hk
  rcases hk with hk | hk
  · obtain ⟨S, ci, rfl, hi⟩ := mem_resolve hk
    exact (merge_bank_or E g other ty S ci k hi).imp_left (mem_resolve_iff _ S ci k).mpr
  · exact Or.inr (merge_dsub E g other ty k hk)

theorem Consumed.merge {E : Env α} {g : Gen α} {S : NT} {P : Sym} {c0 : Nat} {extra : List (List Ref)} (other : Prog) (ty : Nat)
    (h : Consumed E g.st S P c0 extra) : Consumed E (merge E g other ty).st S P c0 extra :=
  h.carry (fun _ => (merge_bank_sub E g other ty).inBank) (fun _ _ _ hp => (merge_keeps E g other ty).bankDer ▸ hp)
    (merge_kids E g other ty)

theorem ninv_merge {E : Env α} {g : Gen α} {L : NT → List (Sym × Nat)} (other : Prog) (ty : Nat) (hN : NInv E g.st L)
    (hM : MergeOK E g other ty) : NInv E (merge E g other ty).st L := by
  have hsub := merge_bank_sub E g other ty
  have f := merge_keeps E g other ty
  refine hN.carry f.queueNt ⟨fun S b c l hb hl => ?_, fun S ci cj p h1 h2 => hN.binv.2 S ci cj p (hsub S ci p h1) (hsub S cj p h2)⟩
    hsub (fun _ _ _ hp => f.bankDer ▸ hp) (merge_kids E g other ty) fun p hp => ?_
  · obtain ⟨b0, l0, h1, h2, rfl⟩ := (merge_lookup E g other ty S c l).mp ⟨b, hb, hl⟩
    have hnd := hN.binv.1 S b0 c l0 h1 h2
    split
    · exact hnd.sublist (removeFirst_sublist other l0)
    · exact hnd
  · rw [f.deleted] at hp
    rcases mem_addDeleted_iff _ _ _ hp with h1 | rfl
    · exact Or.inl (Or.inl h1)
    · exact Or.inr (merge_other_out E g p ty hN.binv hM)

theorem frok_merge {E : Env α} {g : Gen α} {L : NT → List (Sym × Nat)} {fr : Frame α} (other : Prog) (ty : Nat)
    (h : FrOK E g.st L fr) : FrOK E (merge E g other ty).st L fr :=
  h.carry (merge_keeps E g other ty).queueNt (merge_keeps E g other ty).bankDer
    (fun _ => (merge_bank_sub E g other ty).inBank) (merge_kids E g other ty)

/-! ### the generator along histories -/

/-- the invariant of the generator object, with the prologue invariant of a new one.  `GI` alone is not kept by a merge
    before the first `next`: its clause about the state the prologue will produce speaks of `prologue E fuel g.st`, and
    the merge changes `g.st`; `ZInv g.st []` is kept by the merge and gives that clause back (`merge_gi2`). -/
def GI2 (E : Env α) (fuel : Nat) (g : Gen α) : Prop := GI E fuel g ∧ GInv E g ∧ (g.phase = .fresh → ZInv g.st [])

theorem gen_new_gi2 (E : Env α) (fuel : Nat) (g : Gen α) (h : Gen.new E = some g) : GI2 E fuel g :=
  ⟨gen_new_gi E fuel g h (fun s hp hS hE => prologue_tinv2 E fuel g h s hp hS hE), gen_new_ginv E g h,
    fun _ => init_zinv E _ (Gen.new_some h).1⟩

theorem next_gi2 (E : Env α) (hG : RowsNodup E.G) (fuel : Nat) (g g' : Gen α) (out : Option Prog)
    (h : next E fuel g = some (g', out)) (hg : GI2 E fuel g) : GI2 E fuel g' := by
  obtain ⟨a, _, _⟩ := next_gi E hG fuel g g' out h hg.1
  refine ⟨a, (next_sound E fuel g g' out h hg.2.1).1, ?_⟩
  exact fun hf => absurd hf (next_not_fresh h)

def TyOK (E : Env α) (other : Prog) (ty : Nat) : Prop := ∀ S, derives E.G S other = true → matched E ty S = true

theorem mergeOK_of_tyOK {E : Env α} {g : Gen α} {other : Prog} {ty : Nat} (hg : GInv E g) (h : TyOK E other ty) :
    MergeOK E g other ty := by
  intro S c hin
  obtain ⟨b, l, h1, h2, h3⟩ := hin
  exact h S (hg.1.bank S b c l other h1 h2 h3)

theorem merge_gi2 (E : Env α) (fuel : Nat) (g : Gen α) (other : Prog) (ty : Nat) (hg : GI2 E fuel g) (hT : TyOK E other ty) :
    GI2 E fuel (merge E g other ty) := by
  have f := merge_keeps E g other ty
  have hM := mergeOK_of_tyOK hg.2.1 hT
  have hginv := merge_ginv E g other ty hg.2.1
  have hz : g.phase = .fresh → ZInv (merge E g other ty).st [] := fun hf => zinv_of_eq f.queueDer f.costDer (hg.2.2 hf)
  refine ⟨⟨?_, ?_⟩, hginv, fun hf => hz (f.phase ▸ hf)⟩
  · intro hf
    rw [f.phase] at hf
    obtain ⟨hI, hS, hE, _⟩ := hg.1.1 hf
    have hh := merge_hinv E g other ty ⟨iinv_hinv hI, fun _ => hI⟩
    refine ⟨hh.2 (by rw [f.phase, hf]), hginv.1, ?_, ?_⟩
    · refine ⟨?_, ?_⟩
      · intro S b hb
        -- a merged bank is the image of the bank before, which is empty
        rw [merge_bank, AList.lookup_map_val] at hb
        obtain ⟨b1, hb1, rfl⟩ := Option.map_eq_some_iff.mp hb
        rw [hE.1 S b1 hb1, mergedRow]; split <;> rfl
      · intro a b hb
        rw [f.bankDer] at hb
        exact hE.2 a b hb
    · intro s hp hS' hE'
      exact tinv2_of_zinv hS' hE' (prologue_zinv E fuel _ _ hp (hz hf))
  · intro hne
    rw [f.phase] at hne
    obtain ⟨hH, hT2, hN, hF⟩ := hg.1.2 hne
    refine ⟨hinv_of_eq f.queueNt hH, tinv2_of_eq f.queueDer f.bankDer hT2, ninv_merge other ty hN hM, ?_⟩
    intro n fr he
    rw [f.phase] at he
    obtain ⟨h1, h2⟩ := hF n fr he
    exact ⟨frok_merge other ty h1, h2⟩

theorem next_dsub (E : Env α) (fuel : Nat) (g g' : Gen α) (out : Option Prog) (h : next E fuel g = some (g', out)) :
    DSub g.st g'.st := by
  rcases next_loop h with ⟨_, rfl, _⟩ | ⟨s, n, fr?, failed, hl, hcase⟩
  · exact DSub.refl _
  · have m := hl.grows dsub_grows
    rcases hcase with ⟨_, hp, _⟩ | ⟨rfl, _⟩
    · exact (DSub.of_eq (prologue_bk E fuel _ _ hp).2.2).trans m
    · exact m

def Seen (E : Env α) (g : Gen α) (out : List Prog) : Prop :=
  out.Nodup ∧ ∀ q ∈ out, InBank g.st E.G.start q ∨ q ∈ g.st.deleted

def ActsOK (E : Env α) : List Act → Prop
  | [] => True
  | .merge p t :: rest => TyOK E p t ∧ ActsOK E rest
  | .take _ :: rest => ActsOK E rest

theorem ActsOK.merge {E : Env α} {acts : List Act} : ActsOK E acts → ∀ p t, Act.merge p t ∈ acts → TyOK E p t := by
  fun_induction ActsOK E acts with
  | case1 => intro _ p t hm; nomatch hm
  | case2 q u rest ih =>
    intro h p t hm
    rcases List.mem_cons.mp hm with e | hm
    · cases e; exact h.1
    · exact ih h.2 p t hm
  | case3 k rest ih => intro h p t hm; exact ih h p t (by simpa using hm)

/-- `Seen` is what survives a merge: a yielded program stays in a bank of the start symbol or moves to `_deleted`, and in
    either place it cannot be yielded again -/
theorem runHist_gi2 (E : Env α) (hG : RowsNodup E.G) (fuel : Nat) : ∀ (acts : List Act) (g : Gen α) (out : List Prog) (g' : Gen α)
    (ys : List Prog), runHist E fuel acts g out = some (g', ys) → ActsOK E acts → GI2 E fuel g → Seen E g out →
    GI2 E fuel g' ∧ Seen E g' ys := by
  intro acts g out g' ys h ha hg hs
  -- what was seen stays in a bank of the start symbol or deleted: banks and `_deleted` grow along `next`
  have keep : ∀ {g g1 : Gen α} {o : Option Prog} {acc : List Prog}, next E fuel g = some (g1, o) → GI2 E fuel g → Seen E g acc →
      ∀ q ∈ acc, InBank g1.st E.G.start q ∨ q ∈ g1.st.deleted := fun hn hg hs q hq =>
    (hs.2 q hq).imp (next_gi E hG fuel _ _ _ hn hg.1).2.1.inBank (next_dsub E fuel _ _ _ hn q)
  refine runHist_rule E fuel (fun g out => GI2 E fuel g ∧ Seen E g out) (TyOK E) ?_ ?_ acts g out g' ys h ha.merge ⟨hg, hs⟩
  · intro g g1 o acc hn ⟨hg, hs⟩
    cases o with
    | none => exact ⟨next_gi2 E hG fuel g g1 none hn hg, by simpa using hs.1, by simpa using keep hn hg hs⟩
    | some p1 =>
      obtain ⟨c1, c2⟩ := (next_gi E hG fuel g g1 (some p1) hn hg.1).2.2 p1 rfl
      have hnd := (next_yield E fuel g g1 p1 hn).2
      -- the yielded program was in no bank of the start symbol and is not deleted: it was not seen before
      refine ⟨next_gi2 E hG fuel g g1 (some p1) hn hg, List.nodup_append.mpr ⟨hs.1, by simp, fun x hx y hy e => ?_⟩,
        List.forall_mem_append.mpr ⟨keep hn hg hs, fun q hq => List.mem_singleton.mp hq ▸ Or.inl c2⟩⟩
      obtain rfl : x = p1 := e.trans (List.mem_singleton.mp hy)
      exact (hs.2 x hx).elim c1 fun h3 => hnd (next_dsub E fuel g g1 _ hn x h3)
  · intro g p t acc hT ⟨hg, hs⟩
    refine ⟨merge_gi2 E fuel g p t hg hT, hs.1, fun q hq => ?_⟩
    rcases hs.2 q hq with ⟨c, hc⟩ | h1
    · exact (merge_bank_or E g p t _ c q hc).imp_left fun h2 => ⟨c, h2⟩
    · exact Or.inr (merge_dsub E g p t q h1)

theorem take_new {E : Env α} (hG : RowsNodup E.G) {fuel k : Nat} {g g' : Gen α} {ys : List Prog} {fin : Bool}
    (hnew : Gen.new E = some g) (h : take E fuel k g [] = some (g', ys, fin)) :
    GI E fuel g' ∧ ys.Nodup ∧ (∀ p ∈ ys, InBank g'.st E.G.start p) ∧ BMono g.st g'.st :=
  take_gi E hG fuel k g [] g' ys fin h (gen_new_gi2 E fuel g hnew).1 (by simp) (by simp)

theorem GI2.tinv2 {E : Env α} {fuel : Nat} {g : Gen α} (h : GI2 E fuel g) : TInv2 g.st noT := by
  by_cases hph : g.phase = .fresh
  · obtain ⟨_, hS, hE, _⟩ := h.1.1 hph
    exact tinv2_of_zinv hS hE (h.2.2 hph)
  · exact (h.1.2 hph).2.1

theorem runHist_new {E : Env α} (hG : RowsNodup E.G) {fuel : Nat} {acts : List Act} {g g' : Gen α} {ys : List Prog}
    (hnew : Gen.new E = some g) (hacts : ActsOK E acts) (h : runHist E fuel acts g [] = some (g', ys)) :
    GI2 E fuel g' ∧ Seen E g' ys :=
  runHist_gi2 E hG fuel acts g [] g' ys h hacts (gen_new_gi2 E fuel g hnew) ⟨by simp, by simp⟩

end PS.CD
