/- Facts about the heap-search machine (PS/Model/Enum/HeapSearch.lean):
   the yield site (filter safety), merge bookkeeping, monotonicity of the priority; the bucket tuples: `Bucket.__lt__` is a
   strict weak order on tuples of one length (what `HeapInv` needs), and the algebra of `+` that bucket search uses. -/
import PS.Model.Enum.HeapSearch
import PS.Proofs.Enum.Heapq
import PS.Proofs.Enum.HeapMap
namespace PS.HS
open PS PS.G
set_option linter.unusedSectionVars false
variable {S T π : Type} [DecidableEq S] [DecidableEq T]

theorem nextLoop_yield (E : Env S T π) (fuel : Nat) :
    ∀ (k : Nat) (s : St S T π) (cur : Option Prog) (g' : Gen S T π) (p : Prog),
      nextLoop E fuel k s cur = some (g', some p) →
      E.filter p = true ∧ g'.current = some p ∧ g'.started = true := by
  intro k
  induction k with
  | zero => intro s cur g' p h; simp [nextLoop] at h
  | succ k ih =>
    intro s cur g' p h
    unfold nextLoop at h
    split at h
    · simp at h
    · simp at h
    · rename_i s1 q hq
      by_cases hf : E.filter q = true
      · simp only [hf, if_true, Option.some.injEq, Prod.mk.injEq] at h
        obtain ⟨rfl, rfl⟩ := h
        exact ⟨hf, rfl, rfl⟩
      · simp only [hf] at h
        exact ih _ _ _ _ h

theorem mem_addDeleted (s : St S T π) (p : Prog) : p ∈ (s.addDeleted p).deleted := by
  unfold St.addDeleted
  by_cases h : s.deleted.contains p = true
  · simp only [h, if_true]; simpa using h
  · have h' : p ∉ s.deleted := by simpa using h
    simp [h']

theorem addDeleted_mono (s : St S T π) (p q : Prog) (h : q ∈ s.deleted) : q ∈ (s.addDeleted p).deleted := by
  unfold St.addDeleted
  by_cases hc : s.deleted.contains p = true
  · simp only [hc, if_true]; exact h
  · have h' : p ∉ s.deleted := by simpa using hc
    simp [h', h]

theorem mergeAt_deleted (other : Prog) (nt : NT S T) (s : St S T π) :
    (mergeAt other nt s).deleted = s.deleted := by
  unfold mergeAt
  split <;> rfl

theorem foldl_mergeAt_deleted (other : Prog) (nts : List (NT S T)) (s : St S T π) :
    (nts.foldl (fun s nt => mergeAt other nt s) s).deleted = s.deleted := by
  induction nts generalizing s with
  | nil => rfl
  | cons a r ih => simp only [List.foldl_cons]; rw [ih, mergeAt_deleted]

/-! ### Bucket order (heap_search.py:341-349) -/

theorem Bucket.lt_irrefl : ∀ a : Bucket, Bucket.lt a a = false
  | [] => rfl
  | x :: xs => by simp [Bucket.lt, Bucket.lt_irrefl xs]

theorem Bucket.lt_asymm : ∀ a b : Bucket, Bucket.lt a b = true → Bucket.lt b a = false
  | [], _, h => by simp [Bucket.lt] at h
  | _ :: _, [], h => by simp [Bucket.lt] at h
  | x :: xs, y :: ys, h => by
    simp only [Bucket.lt] at h ⊢
    by_cases h1 : x < y
    · have : ¬ y < x := by omega
      simp [this, h1]
    · by_cases h2 : x > y
      · simp [h1, h2] at h
      · have : x = y := by omega
        subst this
        simp only [Nat.lt_irrefl, if_false, gt_iff_lt] at h ⊢
        exact Bucket.lt_asymm xs ys h

theorem Bucket.lt_trans : ∀ a b c : Bucket, Bucket.lt a b = true → Bucket.lt b c = true → Bucket.lt a c = true
  | [], _, _, h, _ => by simp [Bucket.lt] at h
  | _ :: _, [], _, h, _ => by simp [Bucket.lt] at h
  | _ :: _, _ :: _, [], _, h => by simp [Bucket.lt] at h
  | x :: xs, y :: ys, z :: zs, h1, h2 => by
    simp only [Bucket.lt] at h1 h2 ⊢
    by_cases hxy : x < y
    · by_cases hyz : y < z
      · have : x < z := by omega
        simp [this]
      · by_cases hzy : y > z
        · simp [hyz, hzy] at h2
        · have : y = z := by omega
          subst this; simp [hxy]
    · by_cases hyx : x > y
      · simp [hxy, hyx] at h1
      · have : x = y := by omega
        subst this
        simp only [Nat.lt_irrefl, if_false, gt_iff_lt] at h1
        by_cases hyz : x < z
        · simp [hyz]
        · by_cases hzy : x > z
          · simp [hyz, hzy] at h2
          · have : x = z := by omega
            subst this
            simp only [Nat.lt_irrefl, if_false, gt_iff_lt] at h2 ⊢
            exact Bucket.lt_trans xs ys zs h1 h2

theorem Bucket.add_lt_iff : ∀ a b c : Bucket, a.length = b.length → b.length = c.length →
    Bucket.lt (Bucket.add a c) (Bucket.add b c) = Bucket.lt a b
  | [], [], _, _, _ => by simp [Bucket.lt, Bucket.add]
  | [], _ :: _, _, h, _ => by simp at h
  | _ :: _, [], _, h, _ => by simp at h
  | _ :: _, _ :: _, [], _, h2 => by simp at h2
  | x :: xs, y :: ys, z :: zs, h1, h2 => by
    simp only [Bucket.add, List.zipWith_cons_cons, Bucket.lt]
    have ih := Bucket.add_lt_iff xs ys zs (by simpa using h1) (by simpa using h2)
    simp only [Bucket.add] at ih
    by_cases hxy : x < y
    · have : x + z < y + z := by omega
      simp [this, hxy]
    · by_cases hyx : x > y
      · have h3 : ¬ (x + z < y + z) := by omega
        have h4 : x + z > y + z := by omega
        simp [hxy, hyx, h3, h4]
      · have : x = y := by omega
        subst this
        simp only [Nat.lt_irrefl, if_false, gt_iff_lt]
        exact ih

theorem Bucket.add_lt_add (a b c : Bucket) (h1 : a.length = b.length) (h2 : b.length = c.length)
    (h : Bucket.lt a b = true) : Bucket.lt (Bucket.add a c) (Bucket.add b c) = true :=
  (Bucket.add_lt_iff a b c h1 h2).trans h

/-- heap search: the successor of an argument gives a program that is not more probable -/
theorem prob_mono (w a b rest : Rat) (hw : 0 ≤ w) (hr : 0 ≤ rest) (hab : b ≤ a) :
    w * b * rest ≤ w * a * rest :=
  Rat.mul_le_mul_of_nonneg_right (Rat.mul_le_mul_of_nonneg_left hab hw) hr

theorem Bucket.not_lt_trans : ∀ a b c : Bucket, a.length = b.length → b.length = c.length →
    Bucket.lt b a = false → Bucket.lt c b = false → Bucket.lt c a = false
  | [], _, [], _, _, _, _ => by simp [Bucket.lt]
  | [], _, _ :: _, _, _, _, _ => by simp [Bucket.lt]
  | _ :: _, _, [], _, _, _, _ => by simp [Bucket.lt]
  | _ :: _, [], _ :: _, h1, _, _, _ => by simp at h1
  | x :: xs, y :: ys, z :: zs, h1, h2, hba, hcb => by
    simp only [Bucket.lt] at hba hcb ⊢
    by_cases hyx : y < x
    · simp [hyx] at hba
    · by_cases hxy : y > x
      · by_cases hzy : z < y
        · simp [hzy] at hcb
        · have : ¬ z < x := by omega
          have : z > x := by omega
          simp [*]
      · have : y = x := by omega
        subst this
        simp only [Nat.lt_irrefl, if_false, gt_iff_lt] at hba
        by_cases hzy : z < y
        · simp [hzy] at hcb
        · by_cases hyz : z > y
          · simp [hzy, hyz]
          · have : z = y := by omega
            subst this
            simp only [Nat.lt_irrefl, if_false, gt_iff_lt] at hcb ⊢
            exact Bucket.not_lt_trans xs ys zs (by simpa using h1) (by simpa using h2) hba hcb

theorem Bucket.weakOrder (n : Nat) :
    Heapq.WeakOrder (fun a b : { b : Bucket // b.length = n } => Bucket.lt a.1 b.1) :=
  ⟨fun a b h => Bucket.lt_asymm a.1 b.1 h,
   fun a b c h1 h2 => Bucket.not_lt_trans a.1 b.1 c.1 (a.2.trans b.2.symm) (b.2.trans c.2.symm) h1 h2⟩

theorem next_yield (E : Env S T π) (fuel : Nat) (g g' : Gen S T π) (p : Prog)
    (h : next E fuel g = some (g', some p)) : E.filter p = true ∧ g'.current = some p := by
  unfold next at h
  split at h
  · exact ⟨(nextLoop_yield E fuel _ _ _ _ _ h).1, (nextLoop_yield E fuel _ _ _ _ _ h).2.1⟩
  · split at h
    · simp at h
    · exact ⟨(nextLoop_yield E fuel _ _ _ _ _ h).1, (nextLoop_yield E fuel _ _ _ _ _ h).2.1⟩

theorem merge_deleted (E : Env S T π) (g : Gen S T π) (other : Prog) : other ∈ (merge E g other).st.deleted := by
  unfold merge
  simp only
  rw [foldl_mergeAt_deleted]
  exact mem_addDeleted _ _

end PS.HS

namespace PS.HG
open PS PS.G PS.HS

theorem Bucket.add_lt_iff (a b c : Bucket) (h1 : a.length = b.length) (h2 : b.length = c.length) :
    Bucket.lt (Bucket.add a c) (Bucket.add b c) = Bucket.lt a b := HS.Bucket.add_lt_iff a b c h1 h2

theorem Bucket.add_comm (a b : Bucket) : Bucket.add a b = Bucket.add b a := by
  unfold Bucket.add
  exact List.zipWith_comm_of_comm (fun x y => Nat.add_comm x y)

theorem Bucket.ofProb_length (size : Nat) (p : Rat) : (Bucket.ofProb size p).length = size := by
  unfold Bucket.ofProb
  simp

theorem bucket_weakOn (size : Nat) : Heapq.WeakOrderOn (fun b : Bucket => b.length = size) Bucket.lt :=
  Bucket.weakOrder size

end PS.HG
