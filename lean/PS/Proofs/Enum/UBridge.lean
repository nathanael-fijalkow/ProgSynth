/- The derivability relation of the heap-search development (`UHS.Der`) is membership in the
   specification of unambiguous grammars (PS/Model/Ucfg.lean: `U.derivs`, `PS.U.allDerivs`, `PS.U.genU`)
   for the grammar table stripped of its weights. -/
import PS.Proofs.Ucfg
import PS.Proofs.Enum.USpec
namespace PS.UHS
open PS PS.G
set_option linter.unusedSectionVars false
variable {U π : Type} [DecidableEq U]

/-- the UCFG under the weighted table (`someStart` is only used in the end-of-derivation marker
    of `UCFG.derive`, not in the specification) -/
def UG.toUCFG (G : UG U) (d : UNT U) : PS.U.UCFG U :=
  { starts := G.starts.map (·.1),
    rules := G.rules.map (fun r => (r.1, r.2.map (fun a => (a.1, a.2.map (·.1))))),
    someStart := d }

theorem alts?_toUCFG (E : Env U π) (d : UNT U) (nt : UNT U) (F : Sym) :
    (E.G.toUCFG d).alts? nt F =
      match AList.lookup nt E.G.rules with
      | none => none
      | some rs => (AList.lookup F rs).map (fun a => a.map (·.1)) := by
  unfold PS.U.UCFG.alts? UG.toUCFG
  simp only
  rw [AList.lookup_map_val (fun _ (x : AList Sym (List (List (UNT U) × Rat))) => x.map (fun a => (a.1, a.2.map (·.1))))]
  cases AList.lookup nt E.G.rules with
  | none => rfl
  | some rs =>
    simp only [Option.map_some]
    exact AList.lookup_map_val (fun _ (a : List (List (UNT U) × Rat)) => a.map (·.1)) F rs

theorem mem_alts_iff (E : Env U π) (d : UNT U) (nt : UNT U) (F : Sym) (v : List (UNT U)) :
    (∃ cands, (E.G.toUCFG d).alts? nt F = some cands ∧ v ∈ cands) ↔ ∃ w, (v, w) ∈ altsOf E nt F := by
  rw [alts?_toUCFG]
  unfold altsOf
  cases AList.lookup nt E.G.rules with
  | none => simp
  | some rs =>
    simp only
    cases AList.lookup F rs with
    | none => simp
    | some a =>
      simp only [Option.map_some, Option.some.injEq, Option.getD_some]
      constructor
      · rintro ⟨cands, rfl, hv⟩
        obtain ⟨x, hx, rfl⟩ := List.mem_map.mp hv
        exact ⟨x.2, hx⟩
      · rintro ⟨w, hw⟩
        exact ⟨_, rfl, List.mem_map.mpr ⟨(v, w), hw, rfl⟩⟩

theorem der_iff_derivs_both (E : Env U π) (d : UNT U) :
    (∀ (p : Prog) (nt : UNT U), Der E p nt ↔ PS.U.derivs (E.G.toUCFG d) p nt ≠ []) ∧
    ∀ (ks : List Prog) (v : List (UNT U)), DerList E ks v ↔ PS.U.derivsList (E.G.toUCFG d) ks v ≠ [] := by
  refine Tree.ind₂ (fun F kids ih nt => ?_) (fun v => ?_) (fun k ks ihk ihks v => ?_)
  · rw [der_node, PS.U.derivs]
    constructor
    · rintro ⟨v, w, hm, hl⟩
      obtain ⟨cands, hc, hv⟩ := (mem_alts_iff E d nt F v).mpr ⟨w, hm⟩
      rw [hc]
      simp only
      have hne := (ih v).mp hl
      obtain ⟨x, hx⟩ := List.exists_mem_of_ne_nil _ hne
      intro hcon
      have : ((nt, F, v) :: x) ∈ cands.flatMap (fun args =>
          (PS.U.derivsList (E.G.toUCFG d) kids args).map (fun r => (nt, F, args) :: r)) :=
        List.mem_flatMap.mpr ⟨v, hv, List.mem_map.mpr ⟨x, hx, rfl⟩⟩
      rw [hcon] at this
      cases this
    · intro hne
      cases hc : (E.G.toUCFG d).alts? nt F with
      | none => simp [hc] at hne
      | some cands =>
        simp only [hc] at hne
        obtain ⟨x, hx⟩ := List.exists_mem_of_ne_nil _ hne
        obtain ⟨v, hv, hx'⟩ := List.mem_flatMap.mp hx
        obtain ⟨y, hy, _⟩ := List.mem_map.mp hx'
        obtain ⟨w, hw⟩ := (mem_alts_iff E d nt F v).mp ⟨cands, hc, hv⟩
        exact ⟨v, w, hw, (ih v).mpr (List.ne_nil_of_mem hy)⟩
  · cases v <;> simp [DerList, PS.U.derivsList]
  · cases v with
    | nil => simp [DerList, PS.U.derivsList]
    | cons a as =>
      rw [DerList, PS.U.derivsList, ihk a, ihks as]
      constructor
      · rintro ⟨h1, h2⟩
        obtain ⟨x, hx⟩ := List.exists_mem_of_ne_nil _ h1
        obtain ⟨y, hy⟩ := List.exists_mem_of_ne_nil _ h2
        exact List.ne_nil_of_mem (List.mem_flatMap.mpr ⟨x, hx, List.mem_map.mpr ⟨y, hy, rfl⟩⟩)
      · intro hne
        obtain ⟨z, hz⟩ := List.exists_mem_of_ne_nil _ hne
        obtain ⟨x, hx, hz'⟩ := List.mem_flatMap.mp hz
        obtain ⟨y, hy, _⟩ := List.mem_map.mp hz'
        exact ⟨List.ne_nil_of_mem hx, List.ne_nil_of_mem hy⟩

theorem der_iff_derivs (E : Env U π) (d : UNT U) : ∀ (p : Prog) (nt : UNT U),
    Der E p nt ↔ PS.U.derivs (E.G.toUCFG d) p nt ≠ [] :=
  (der_iff_derivs_both E d).1

theorem derList_iff_derivsList (E : Env U π) (d : UNT U) : ∀ (ks : List Prog) (v : List (UNT U)),
    DerList E ks v ↔ PS.U.derivsList (E.G.toUCFG d) ks v ≠ [] :=
  (der_iff_derivs_both E d).2

theorem startW_some_iff (E : Env U π) (nt : UNT U) :
    (∃ w, startW E nt = some w) ↔ nt ∈ E.G.starts.map (·.1) := by
  unfold startW
  have := @AList.lookup_isSome_iff_mem_keys _ _ _ nt E.G.starts
  rw [Option.isSome_iff_exists] at this
  exact this

theorem derStart_iff_genU (E : Env U π) (d : UNT U) (p : Prog) :
    (∃ nt w, startW E nt = some w ∧ Der E p nt) ↔ PS.U.genU (E.G.toUCFG d) p = true := by
  rw [PS.U.genU_iff]
  constructor
  · rintro ⟨nt, w, hw, hd⟩
    exact ⟨nt, (startW_some_iff E nt).mp ⟨w, hw⟩, (der_iff_derivs E d p nt).mp hd⟩
  · rintro ⟨nt, hs, hne⟩
    obtain ⟨w, hw⟩ := (startW_some_iff E nt).mpr hs
    exact ⟨nt, w, hw, (der_iff_derivs E d p nt).mpr hne⟩

end PS.UHS
