/- Heap search on unambiguous, acyclic grammars, no threshold: every call keeps the order and completeness invariants
   (`big_order`, rule induction on the big-step relation).  With a filter, rejected programs are skipped by the pop
   loop. -/
import PS.Proofs.Enum.UOrderStep
namespace PS.UHS
open PS PS.G
set_option linter.unusedSectionVars false
variable {U π : Type} [DecidableEq U]
variable {E : Env U π} {rank : UNT U → Nat} {Good : π → Prop}

/-- the (symbol, alternative) pairs of a list of rules, in the order in which `__init_non_terminal__` first scans
    them to fill `max_priority` (phase 1) and then pushes their best programs on the heap (phase 2) -/
def flatOf (rs : List (Sym × List (List (UNT U) × Rat))) : List (Sym × List (UNT U)) :=
  rs.flatMap fun r => r.2.map fun vw => (r.1, vw.1)

def altsFlat (P : Sym) (alts : List (List (UNT U) × Rat)) : List (Sym × List (UNT U)) := alts.map fun vw => (P, vw.1)

def ResLE (E : Env U π) (nt : UNT U) (p : Option Prog) : Res π → Prop
  | .prog r => ∀ q, r = some q → ∀ k, p = some k → LE E nt k q
  | _ => True

def ResPhase (E : Env U π) (s s' : St U π) (nt : UNT U) (flat : List (Sym × List (UNT U))) (best : Option (Prog × π)) :
    Res π → Prop
  | .best best' => ∀ done items, Phase1 E s nt done items best → (done ++ flat).Nodup →
      ∃ items', Phase1 E s' nt (done ++ flat) (items ++ items') best'
  | _ => True

def ResArgs (s' : St U π) (v : List (UNT U)) (acc : List Prog) : Res π → Prop
  | .args l => ∃ l', l = acc ++ l' ∧ l'.length = v.length ∧
      ∀ (i : Nat) (ai : Prog) (si : UNT U), l'[i]? = some ai → v[i]? = some si →
        AList.lookup none (s'.succOf si) = some ai
  | _ => True

def ResExh (s' : St U π) (nt : UNT U) (p : Option Prog) : Res π → Prop
  | .prog r => r = none → s'.heapOf nt = [] ∧ AList.lookup p (s'.succOf nt) = none
  | _ => True

/-- the number of arguments of a program: the value of the position counter of `CInv` when `addSucc` starts on the
    program, all argument positions still to be treated -/
def arity : Prog → Nat
  | .node _ kids => kids.length

/-- the first query of a non-terminal happens before any program was rejected -/
def FirstOK (s : St U π) (nt : UNT U) : Prop := s.succOf nt = [] → s.deleted = []

/-- The precondition of `big_order` on the state in which a call starts.  For every call the non-terminals of rank
    below that of the call are untouched or fully initialised (`Below`).  Besides:
    `query` — `nt` is untouched, or its order and completeness invariants hold with no successors pending
      (`CInv … none 0`); the key was popped for `nt`; the first query of `nt` comes before any rejection (`FirstOK`);
    `lop`, `popLoop` — the same, `nt` being initialised;
    `addSucc`, `addLoop` — the invariants hold with the program as the one whose successors are being added and all,
      resp. the first `i`, argument positions still to be treated; the program was pushed for `nt`, something was
      popped for `nt` already, and every program popped for `nt` is not worse than it (it is the program just
      taken from the heap); for `addLoop` also its key;
    `initNT` — `nt` is untouched or fully initialised, and `FirstOK`;
    `initRules`, `initAlts` — `nt` is marked initialised with empty tables (`Mid`) and nothing was rejected yet;
    `initArgs` — `Below` for the bound of the ranks of `v`, and nothing was rejected yet. -/
def OPre (E : Env U π) (rank : UNT U → Nat) : Call U π → St U π → Prop
  | .query nt p, s => Below E rank (rank nt) s ∧ (Uninit s nt ∨ (NTInv E s nt ∧ CInv E rank s nt none 0)) ∧
      (∀ k, p = some k → Popped s nt k) ∧ FirstOK s nt
  | .lop nt p, s => Below E rank (rank nt) s ∧ (NTInv E s nt ∧ CInv E rank s nt none 0) ∧ (∀ k, p = some k → Popped s nt k) ∧
      FirstOK s nt
  | .popLoop nt p, s => Below E rank (rank nt) s ∧ (NTInv E s nt ∧ CInv E rank s nt none 0) ∧
      (∀ k, p = some k → Popped s nt k) ∧ FirstOK s nt
  | .addSucc prog nt, s => Below E rank (rank nt) s ∧ (NTInv E s nt ∧ CInv E rank s nt (some prog) (arity prog)) ∧
      prog ∈ s.seenOf nt ∧ s.succOf nt ≠ [] ∧ (∀ x, Popped s nt x → LE E nt x prog)
  | .addLoop F args nt v i, s => Below E rank (rank nt) s ∧ (NTInv E s nt ∧ CInv E rank s nt (some (.node F args)) i) ∧
      Tree.node F args ∈ s.seenOf nt ∧ s.succOf nt ≠ [] ∧
      (∀ x, Popped s nt x → LE E nt x (.node F args)) ∧ AList.lookup (nt, .node F args) s.keys = some v
  | .initNT nt, s => Below E rank (rank nt) s ∧ (Uninit s nt ∨ Full E rank s nt) ∧ FirstOK s nt
  | .initRules nt _ _, s => Below E rank (rank nt) s ∧ Mid s nt ∧ s.deleted = []
  | .initAlts nt _ _ _, s => Below E rank (rank nt) s ∧ Mid s nt ∧ s.deleted = []
  | .initArgs v acc, s => Below E rank (Call.bound rank (.initArgs v acc : Call U π)) s ∧ s.deleted = []

/-- The conclusion of `big_order`, relating the states `s`, `s'` at the start and the end of a call and its result.
    `Below` holds again in every case.  Besides:
    `query`, `lop`, `popLoop` — `nt` is fully initialised; the key is not worse than the program returned (`ResLE`);
      `None` is returned only when the heap of `nt` is empty and the key has no successor (`ResExh`);
    `addSucc`, `addLoop` — the invariants of `nt` hold with no successors pending, and `succ[nt]` is as in `s`;
    `initNT` — `nt` is fully initialised;
    `initRules`, `initAlts` — still `Mid`, and a scan `Phase1` of `s` is extended to one of `s'` by the alternatives
      of the call (`ResPhase`);
    `initArgs` — the programs appended to `acc` are the first pops of the non-terminals of `v` (`ResArgs`). -/
def OPost (E : Env U π) (rank : UNT U → Nat) : Call U π → St U π → St U π → Res π → Prop
  | .query nt p, _, s', r => Below E rank (rank nt) s' ∧ Full E rank s' nt ∧ ResLE E nt p r ∧ ResExh s' nt p r
  | .lop nt p, _, s', r => Below E rank (rank nt) s' ∧ Full E rank s' nt ∧ ResLE E nt p r ∧ ResExh s' nt p r
  | .popLoop nt p, _, s', r => Below E rank (rank nt) s' ∧ Full E rank s' nt ∧ ResLE E nt p r ∧ ResExh s' nt p r
  | .addSucc _ nt, s, s', _ => Below E rank (rank nt) s' ∧ (NTInv E s' nt ∧ CInv E rank s' nt none 0) ∧
      s'.succOf nt = s.succOf nt
  | .addLoop _ _ nt _ _, s, s', _ => Below E rank (rank nt) s' ∧ (NTInv E s' nt ∧ CInv E rank s' nt none 0) ∧
      s'.succOf nt = s.succOf nt
  | .initNT nt, _, s', _ => Below E rank (rank nt) s' ∧ Full E rank s' nt
  | .initRules nt rs best, s, s', r => Below E rank (rank nt) s' ∧ Mid s' nt ∧ ResPhase E s s' nt (flatOf rs) best r
  | .initAlts nt P alts best, s, s', r => Below E rank (rank nt) s' ∧ Mid s' nt ∧
      ResPhase E s s' nt (altsFlat P alts) best r
  | .initArgs v acc, _, s', r => Below E rank (Call.bound rank (.initArgs v acc : Call U π)) s' ∧ ResArgs s' v acc r

theorem ntinv_live_of_first {s : St U π} {nt : UNT U} (hn : NTInv E s nt) (hh : s.heapOf nt = []) :
    s.succOf nt ≠ [] := by
  obtain ⟨m, _, h2⟩ := hn.first
  rcases h2 with h2 | ⟨_, pr, h3⟩
  · intro e; rw [e] at h2; cases h2
  · rw [hh] at h3; cases h3

theorem ntinv_after_initPush (H : OHyp E rank Good) {s1 s3 : St U π} {nt : UNT U} {rs} {b : Prog × π}
    {items : List (π × Prog)} (hmid : Mid s1 nt)
    (hph : Phase1 E s1 nt (flatOf rs) items (some b))
    (hp : initPush E { s1 with maxNT := AList.insert nt b.1 s1.maxNT } nt (flatOf rs) = some s3)
    (hb2 : Base E { s1 with maxNT := AList.insert nt b.1 s1.maxNT })
    (hflat : ∀ F v w, (v, w) ∈ altsOf E nt F → (F, v) ∈ flatOf rs) :
    Base E s3 ∧ (NTInv E s3 nt ∧ CInv E rank s3 nt none 0) ∧ Only nt s1 s3 ∧ Stable s1 s3 ∧ s3.deleted = s1.deleted := by
  have hit : Items (ItemOK E { s1 with maxNT := AList.insert nt b.1 s1.maxNT } nt) (flatOf rs) items :=
    Items.mono (fun d it _ h => h) hph.ok
  obtain ⟨r1, r2, r3, r4, r5, r6, r7, r8, r9, r10, r11⟩ := initPush_spec H nt _ items _ s3 hit hb2 hp
  obtain ⟨m1, m2, m3, m4⟩ := hmid
  have hheap : s3.heapOf nt = items.foldl (Heapq.push (ltE E.ops)) [] := by rw [r4]; show List.foldl _ (s1.heapOf nt) _ = _; rw [m2]
  have hseen : s3.seenOf nt = items.map (·.2) := by rw [r5]; show s1.seenOf nt ++ _ = _; rw [m4]; rfl
  have hsucc : s3.succOf nt = [] := by rw [r6]; exact m3
  have hst : Stable s1 s3 := r3
  refine ⟨r1, ⟨⟨?_, ?_, ?_, ?_, ?_, ?_, ?_, ?_⟩, ?_, ?_, ?_, ?_⟩, (only_setMaxNT s1 nt b.1).trans r2, hst, r11⟩
  · rw [r7]; exact m1
  · rw [hsucc]; trivial
  · rw [hsucc]; exact List.nodup_nil
  · refine ⟨b.1, by rw [r8]; exact AList.lookup_insert_self _ _ _, Or.inr ⟨hsucc, b.2, ?_⟩⟩
    rw [hheap, ← hph.root]; rfl
  · intro F kids v hm hk i ai si hai hsi
    rw [hseen] at hm
    obtain ⟨it, hit', hite⟩ := List.mem_map.mp hm
    obtain ⟨⟨dP, dv⟩, _, hmr, hpr, w, kids', hmw, hprog, hdl, hpop, _⟩ := Items.mem_right hph.ok it hit'
    rw [hite] at hprog
    simp only at hprog hmw hdl hpop
    have e1 : F = dP := by injection hprog
    have e2 : kids = kids' := by injection hprog
    subst e1; subst e2
    have hko := r1.sinv.keys_ok nt F kids v hk
    obtain ⟨w', hw'⟩ := hko.1
    obtain ⟨rfl, _⟩ := H.ualt nt F kids v w' dv w hw' hmw hko.2 hdl
    exact ⟨none, hst _ _ _ (hpop i ai si hai hsi)⟩
  · intro x hx
    obtain ⟨k, hk⟩ := hx
    rw [hsucc] at hk; cases hk
  · intro k x hk
    rw [hsucc] at hk; cases hk
  · intro F v w hm a ha
    obtain ⟨it, _, hok⟩ := Items.mem_left hph.ok (F, v) (hflat F v w hm)
    obtain ⟨_, _, w', kids, _, _, hdl, hpop, _⟩ := hok
    simp only at hdl hpop
    obtain ⟨j, hj⟩ := List.getElem?_of_mem ha
    have hjl : j < kids.length := by
      rw [derList_length E _ _ hdl]; exact (List.getElem?_eq_some_iff.mp hj).1
    exact ⟨kids[j], hst _ _ _ (hpop j _ a (List.getElem?_eq_getElem hjl) hj)⟩
  · intro p hp'
    rw [hseen] at hp'
    obtain ⟨it, hit', rfl⟩ := List.mem_map.mp hp'
    obtain ⟨v', hv'⟩ := r10 it hit'
    exact ⟨v', by rw [r9]; exact hv'⟩
  · intro F v w hm
    obtain ⟨it, hit', hok⟩ := Items.mem_left hph.ok (F, v) (hflat F v w hm)
    obtain ⟨_, _, w', kids, _, hprog, hdl, hpop, _⟩ := hok
    simp only at hprog hdl hpop
    refine ⟨kids, ?_, derList_length E _ _ hdl, fun j aj sj a b => hst _ _ _ (hpop j aj sj a b)⟩
    rw [hseen, ← hprog]
    exact List.mem_map.mpr ⟨it, hit', rfl⟩
  · intro p hp'
    left
    rw [hseen] at hp'
    rw [St.heapProgs_of_heapOf hheap]
    exact ((Heapq.build_perm (ltE E.ops) items).map (·.2)).symm.subset hp'
  · intro F args v hp'
    exfalso
    apply hp'.2
    have hs := hp'.1
    rw [hseen] at hs
    rw [St.heapProgs_of_heapOf hheap]
    exact ((Heapq.build_perm (ltE E.ops) items).map (·.2)).symm.subset hs

theorem OPre.altArgs (H : OHyp E rank Good) {s : St U π} {nt : UNT U} {P : Sym} {v : List (UNT U)} {w : Rat} {rest}
    {best : Option (Prog × π)} (hspre : SPre E (.initAlts nt P ((v, w) :: rest) best))
    (hpre : OPre E rank (.initAlts nt P ((v, w) :: rest) best) s) : OPre E rank (.initArgs v []) s :=
  ⟨hpre.1.mono (bound_le_of_forall rank v _ (H.acyclic nt P v w (hspre.1 _ List.mem_cons_self))), hpre.2.2⟩

theorem alt_step (H : OHyp E rank Good) {s s1 s3 : St U π} {nt : UNT U} {P : Sym} {v : List (UNT U)} {w : Rat}
    {arguments : List Prog} {pr : π} {best : Option (Prog × π)}
    (hb : Base E s) (hbelow : Below E rank (rank nt) s) (hmid : Mid s nt) (hm : (v, w) ∈ altsOf E nt P)
    (ha : Big E (.initArgs v []) s s1 (.args arguments))
    (hpost : OPost E rank (.initArgs v []) s s1 (.args arguments))
    (hc : computePrio E { s1 with keys := AList.insert (nt, .node P arguments) v s1.keys } nt (.node P arguments)
      = some (s3, pr)) :
    Base E { s3 with maxRule := AList.insert (nt, P, v) (.node P arguments) s3.maxRule } ∧
    Below E rank (rank nt) { s3 with maxRule := AList.insert (nt, P, v) (.node P arguments) s3.maxRule } ∧
    Mid { s3 with maxRule := AList.insert (nt, P, v) (.node P arguments) s3.maxRule } nt ∧
    Der E (.node P arguments) nt ∧
    (∀ done items, Phase1 E s nt done items best → (P, v) ∉ done →
      Phase1 E { s3 with maxRule := AList.insert (nt, P, v) (.node P arguments) s3.maxRule } nt (done ++ [(P, v)])
        (items ++ [(pr, .node P arguments)]) (bestUpd E.ops.lt best (.node P arguments) pr)) := by
  have a := big_after H ha hb trivial trivial
  have hb1 := a.base
  have hsame1 : Same s s1 nt := a.frame nt (bound_le_of_forall rank v _ (H.acyclic nt P v w hm)) nofun
  have hl : DerList E arguments v := by simpa using a.spost [] trivial
  obtain ⟨hbel1, l', hl', hlen, hpop⟩ := hpost
  simp only [List.nil_append] at hl'
  subst hl'
  obtain ⟨hs4, hd⟩ := hb1.sinv.altStep H.ghyp nt P v w arguments pr hm hl hc
  have hko : KeyOK E nt P arguments v := ⟨⟨w, hm⟩, hl⟩
  obtain ⟨hpr, _, _⟩ := (hb1.sinv.setKey nt P arguments v hko).computePrio H.ghyp nt _ hko.der s3 pr hc
  have ho := only_altStep E hc
  -- `compute_priority` only wrote its memo table: from here the tables of the new state are those of `s1`, by `rfl`
  obtain ⟨c, rfl⟩ := computePrio_step E hc
  refine ⟨⟨hs4, { hb1.ninv with }, hb1.hinv, hb1.delF⟩, ?_,
    (hmid.transfer hsame1 : Mid s1 nt), hd, ?_⟩
  · exact ((hbelow.merge_none a.frame a.stable (a.keptAll rfl) hbel1).only ho (Stable.of_succOf fun _ => rfl) (Nat.le_refl _))
  · intro done items hph hnd
    apply hph.step H (P, v) pr (.node P arguments)
    · intro d' it hd' hok
      refine hok.mono (a.stable.trans (Stable.of_succOf fun _ => rfl)) ?_ ?_
      · show AList.lookup (nt, d'.1, d'.2) (AList.insert (nt, P, v) _ s1.maxRule) = _
        rw [AList.lookup_insert_ne _ _ (by intro e; apply hnd; cases e; exact hd')]
        exact hsame1.maxRule _ _
      · -- the key of an earlier alternative is not overwritten: its program is another one
        obtain ⟨_, _, w', kids', c3, c4, c5, _, _⟩ := hok
        show AList.lookup (nt, it.2) (AList.insert (nt, Tree.node P arguments) v s1.keys) = _
        rw [AList.lookup_insert]
        split
        · rename_i heq
          exfalso
          have hprog : it.2 = Tree.node P arguments := congrArg Prod.snd heq
          rw [c4] at hprog
          have e1 : d'.1 = P := by injection hprog
          have e2 : kids' = arguments := by injection hprog
          subst e2
          rw [e1] at c3
          obtain ⟨e3, _⟩ := H.ualt nt P kids' d'.2 w' v w c3 hm c5 hl
          apply hnd
          have : d' = (P, v) := Prod.ext e1 e3
          rw [← this]; exact hd'
        · exact hsame1.keys _
    · exact ⟨AList.lookup_insert_self _ _ _, hpr, w, arguments, hm, rfl, hl, hpop, AList.lookup_insert_self _ _ _⟩

theorem alt_step_pre (H : OHyp E rank Good) {s s1 s3 : St U π} {nt : UNT U} {P : Sym} {v : List (UNT U)} {w : Rat} {rest}
    {arguments : List Prog} {pr : π} {best : Option (Prog × π)}
    (hb : Base E s) (hspre : SPre E (.initAlts nt P ((v, w) :: rest) best))
    (hpre : OPre E rank (.initAlts nt P ((v, w) :: rest) best) s)
    (ha : Big E (.initArgs v []) s s1 (.args arguments))
    (hpost : OPost E rank (.initArgs v []) s s1 (.args arguments))
    (hc : computePrio E { s1 with keys := AList.insert (nt, .node P arguments) v s1.keys } nt (.node P arguments)
      = some (s3, pr)) :
    Base E { s3 with maxRule := AList.insert (nt, P, v) (.node P arguments) s3.maxRule } ∧
    SPre E (.initAlts nt P rest (bestUpd E.ops.lt best (.node P arguments) pr)) ∧
    OPre E rank (.initAlts nt P rest (bestUpd E.ops.lt best (.node P arguments) pr))
      { s3 with maxRule := AList.insert (nt, P, v) (.node P arguments) s3.maxRule } ∧
    (∀ done items, Phase1 E s nt done items best → (P, v) ∉ done →
      Phase1 E { s3 with maxRule := AList.insert (nt, P, v) (.node P arguments) s3.maxRule } nt (done ++ [(P, v)])
        (items ++ [(pr, .node P arguments)]) (bestUpd E.ops.lt best (.node P arguments) pr)) := by
  obtain ⟨r1, r2, r3, hd, r5⟩ := alt_step H (best := best) hb hpre.1 hpre.2.1 (hspre.1 _ List.mem_cons_self) ha hpost hc
  refine ⟨r1, hspre.tail (bestUpd_der E nt best _ pr hspre.2 hd), ⟨r2, r3, ?_⟩, r5⟩
  show s3.deleted = []
  obtain ⟨c, rfl⟩ := computePrio_step E hc
  show s1.deleted = []
  rw [big_deleted E ha H.ghyp.kway]; exact hpre.2.2

theorem mem_flatOf_of_alts {nt : UNT U} {rs} (hrs : AList.lookup nt E.G.rules = some rs) (F : Sym) (v : List (UNT U))
    (w : Rat) (hm : (v, w) ∈ altsOf E nt F) : (F, v) ∈ flatOf rs := by
  obtain ⟨rs', h1, h2⟩ := altsOf_row E nt F _ hm
  rw [hrs] at h1
  cases h1
  exact List.mem_flatMap.mpr ⟨(F, _), AList.lookup_some_mem h2, List.mem_map.mpr ⟨(v, w), hm, rfl⟩⟩

/-! ### what each rule owes: the precondition of its sub-calls, and of what follows them

Used by the rule induction below and again by the termination proofs, which run the same rules forwards. -/

theorem arity_le (p : Prog) : ∀ F args, p = Tree.node F args → args.length ≤ arity p := by
  rintro F args rfl; exact Nat.le_refl _

theorem OPre.popDrop (H : OHyp E rank Good) {s : St U π} {nt : UNT U} {key : Option Prog} {e : π × Prog}
    {h' : List (π × Prog)} (hbase : Base E s) (hnpre : AList.lookup key (s.succOf nt) = none)
    (hpre : OPre E rank (.popLoop nt key) s) (h : Heapq.pop (ltE E.ops) (s.heapOf nt) = some (e, h'))
    (hd : s.deleted.contains e.2 = true) :
    Base E (s.setHeap nt h') ∧ OPre E rank (.addSucc e.2 nt) (s.setHeap nt h') ∧
      ∀ {s1 : St U π} {x : Res π}, OPost E rank (.addSucc e.2 nt) (s.setHeap nt h') s1 x →
        AList.lookup key (s1.succOf nt) = none ∧ OPre E rank (.popLoop nt key) s1 := by
  obtain ⟨h1, h2, h3, h4⟩ := hpre
  have hlive : s.succOf nt ≠ [] := by
    intro e0
    rw [h4 e0] at hd
    cases hd
  obtain ⟨hbase0, hst0, ho0⟩ := hbase.popDrop H nt e h' h
  obtain ⟨n0, l0⟩ := h2.1.popDrop H hbase e h' h hlive
  refine ⟨hbase0, ⟨h1.only ho0 hst0 (Nat.le_refl _), ⟨n0, h2.2.popDrop hbase e h' h hd _ (arity_le e.2)⟩,
    hbase.sinv.heap_seen nt e (mem_of_pop _ _ _ _ h).1, hlive, l0⟩, ?_⟩
  rintro s1 x ⟨a1, a2, a3⟩
  have hsucc1 : s1.succOf nt = s.succOf nt := a3
  exact ⟨by rw [hsucc1]; exact hnpre, a1, a2, fun k hk => (Popped.congr hsucc1).mpr (h3 k hk),
    fun e0 => absurd (hsucc1 ▸ e0) hlive⟩

theorem OPre.popTake (H : OHyp E rank Good) {s : St U π} {nt : UNT U} {key : Option Prog} {e : π × Prog}
    {h' : List (π × Prog)} (hbase : Base E s) (hnpre : AList.lookup key (s.succOf nt) = none)
    (hpre : OPre E rank (.popLoop nt key) s) (h : Heapq.pop (ltE E.ops) (s.heapOf nt) = some (e, h')) :
    Base E (s.popTake nt key e h') ∧ OPre E rank (.addSucc e.2 nt) (s.popTake nt key e h') ∧
      ∀ {s' : St U π} {x : Res π}, OPost E rank (.addSucc e.2 nt) (s.popTake nt key e h') s' x →
        OPost E rank (.popLoop nt key) s s' (.prog (some e.2)) := by
  obtain ⟨h1, h2, h3, _⟩ := hpre
  obtain ⟨hbase0, hst0, ho0⟩ := hbase.popTake H nt key e h' h hnpre
  obtain ⟨n0, p0, l0, le0⟩ := h2.1.popTake H hbase key e h' h hnpre h3
  have hlive0 : (s.popTake nt key e h').succOf nt ≠ [] := by
    obtain ⟨k, hk⟩ := p0
    intro e'; rw [e'] at hk; cases hk
  refine ⟨hbase0, ⟨h1.only ho0 hst0 (Nat.le_refl _), ⟨n0, h2.2.popTake hbase key e h' h hnpre _ (arity_le e.2)⟩,
    p0.seen hbase0.sinv, hlive0, l0⟩, ?_⟩
  rintro s' x ⟨a1, a2, a3⟩
  refine ⟨a1, ⟨a2.1, by rw [a3]; exact hlive0, a2.2⟩, ?_, fun hq => by cases hq⟩
  intro q hq k hk
  cases hq
  exact le0 k hk

theorem OPre.queryDirect {s : St U π} {nt : UNT U} {p : Option Prog} (hpre : OPre E rank (.query nt p) s)
    (h : s.initS.contains nt = true) : OPre E rank (.lop nt p) s := by
  obtain ⟨h1, h2, h3, h4⟩ := hpre
  exact ⟨h1, of_init h2 h, h3, h4⟩

theorem OPre.queryInit (H : OHyp E rank Good) {s : St U π} {nt : UNT U} {p : Option Prog} (hbase : Base E s)
    (hpre : OPre E rank (.query nt p) s) (h : s.initS.contains nt = false) :
    OPre E rank (.initNT nt) s ∧
      ∀ {s1 : St U π} {r0 : Res π}, Big E (.initNT nt) s s1 r0 → OPost E rank (.initNT nt) s s1 r0 →
        Base E s1 ∧ OPre E rank (.lop nt p) s1 := by
  obtain ⟨h1, h2, h3, h4⟩ := hpre
  have hu : Uninit s nt := h2.resolve_right fun hn => by rw [hn.1.init] at h; cases h
  refine ⟨⟨h1, Or.inl hu, h4⟩, ?_⟩
  intro s1 r0 h0 ⟨a1, a2⟩
  have a := big_after H h0 hbase trivial trivial
  exact ⟨a.base, a1, ⟨a2.1, a2.2.2⟩, fun k hk => (h3 k hk).mono a.stable, fun e => absurd e a2.2.1⟩

theorem loop_pre_query (H : OHyp E rank Good) {s : St U π} {F : Sym} {args : List Prog} {nt : UNT U} {v : List (UNT U)}
    {i : Nat} {ai : Prog} {si : UNT U} (hko : KeyOK E nt F args v)
    (hpre : OPre E rank (.addLoop F args nt v (i + 1)) s) (hai : args[i]? = some ai) (hsi : v[i]? = some si) :
    rank si < rank nt ∧ OPre E rank (.query si (some ai)) s := by
  obtain ⟨h1, h2, hseen, hlive, h4, h5⟩ := hpre
  obtain ⟨w, hw⟩ := hko.1
  have hrk : rank si < rank nt := H.acyclic nt F v w hw si (List.mem_of_getElem? hsi)
  have hkp : Popped s si ai := h2.1.args F args v hseen h5 i ai si hai hsi
  obtain ⟨x0, hx0⟩ := h2.1.closed F v w hw si (List.mem_of_getElem? hsi)
  have hsi_full : Full E rank s si := full_of_popped (h1 si hrk) hx0
  exact ⟨hrk, h1.mono (Nat.le_of_lt hrk), Or.inr ⟨hsi_full.1, hsi_full.2.2⟩, fun k hk => by cases hk; exact hkp,
    fun e0 => absurd e0 hsi_full.2.1⟩

/-- the nested query only writes below `nt`, so the loop body finds the invariants of `nt` as they were -/
theorem OPre.loopStep (H : OHyp E rank Good) {s s1 s3 : St U π} {F : Sym} {args : List Prog} {nt : UNT U}
    {v : List (UNT U)} {i : Nat} {ai : Prog} {si : UNT U} {r : Option Prog} (hbase : Base E s) (hko : KeyOK E nt F args v)
    (hpre : OPre E rank (.addLoop F args nt v (i + 1)) s) (hai : args[i]? = some ai) (hsi : v[i]? = some si)
    (hq : Big E (.query si (some ai)) s s1 (.prog r)) (hpost : OPost E rank (.query si (some ai)) s s1 (.prog r))
    (hp : pushStep E s1 F args nt v i r = some s3) :
    Base E s3 ∧ OPre E rank (.addLoop F args nt v i) s3 ∧ s3.succOf nt = s.succOf nt := by
  obtain ⟨hrk, _⟩ := loop_pre_query H hko hpre hai hsi
  obtain ⟨h1, h2, hseen, hlive, h4, h5⟩ := hpre
  have hne : si ≠ nt := by intro e; rw [e] at hrk; exact Nat.lt_irrefl _ hrk
  have a := big_after H hq hbase trivial trivial
  obtain ⟨a1, a2, a4, a5⟩ := hpost
  have hsame : Same s s1 nt := a.frame nt (Nat.le_of_lt hrk) (by intro e; cases e; exact hne rfl)
  have hr1 : ∀ q, r = some q → AList.lookup (some ai) (s1.succOf si) = some q := fun q hq' => a.npost q hq'
  have hpop1 : ∀ x, Popped s1 nt x → Popped s nt x := fun x => (Popped.congr hsame.succ).mp
  obtain ⟨hbase3, hn3, hsucc3, ho3, hst3, hkey3, hc3, hseen3⟩ := (h2.1.transfer hsame a.stable).pushStep H a.base hko
    (by rw [hsame.keys]; exact h5) (by rw [hsame.seen]; exact hseen) (by rw [hsame.succ]; exact hlive)
    (fun x hx => h4 x (hpop1 x hx)) hai hsi hne
    (fun q hq' => by subst hq'; exact ⟨⟨_, hr1 q rfl⟩, a4 q rfl ai rfl⟩)
    (h2.2.transfer hsame a.stable (fun sj _ => a.keptAll rfl sj)) hr1
    (fun hq' => by subst hq'; exact ⟨a2.1.init, (a5 rfl).1, (a5 rfl).2⟩) hp
  have hpop3 : ∀ x, Popped s3 nt x → Popped s1 nt x := fun x => (Popped.congr hsucc3).mp
  exact ⟨hbase3, ⟨(h1.merge a.frame a.stable (a.keptAll rfl) a1 a2).only ho3 hst3 (Nat.le_refl _), ⟨hn3, hc3⟩,
    hseen3 _ (by rw [hsame.seen]; exact hseen), by rw [hsucc3, hsame.succ]; exact hlive,
    fun x hx => h4 x (hpop1 x (hpop3 x hx)), hkey3⟩, by rw [hsucc3, hsame.succ]⟩

theorem OPre.argsCons (H : OHyp E rank Good) {s : St U π} {si : UNT U} {v : List (UNT U)} {acc : List Prog}
    (hbase : Base E s) (hpre : OPre E rank (.initArgs (si :: v) acc) s) :
    OPre E rank (.initNT si) s ∧
      ∀ {s1 : St U π} {r0 : Res π}, Big E (.initNT si) s s1 r0 → OPost E rank (.initNT si) s s1 r0 →
        Base E s1 ∧ Below E rank (Call.bound rank (.initArgs (si :: v) acc : Call U π)) s1 ∧ Full E rank s1 si ∧
          ∀ m, OPre E rank (.initArgs v (acc ++ [m])) s1 := by
  have hpre' : Below E rank (Call.bound rank (.initArgs (si :: v) acc : Call U π)) s := hpre.1
  have hdel : s.deleted = [] := hpre.2
  have hrk : rank si < Call.bound rank (.initArgs (si :: v) acc : Call U π) := by
    show rank si < max (rank si + 1) _; omega
  refine ⟨⟨hpre'.mono (Nat.le_of_lt hrk), hpre' si hrk, fun _ => hdel⟩, ?_⟩
  intro s1 r0 hi' ⟨a1, a2⟩
  have a := big_after H hi' hbase trivial trivial
  have hbel1 := hpre'.merge a.frame a.stable (a.keptAll rfl) a1 a2
  refine ⟨a.base, hbel1, a2, fun m => ⟨hbel1.mono ?_, by rw [big_deleted E hi' H.ghyp.kway]; exact hdel⟩⟩
  show _ ≤ max (rank si + 1) _
  exact Nat.le_max_right _ _

theorem OPre.rulesCons (H : OHyp E rank Good) {s : St U π} {nt : UNT U} {P : Sym} {alts rest} {best : Option (Prog × π)}
    (hbase : Base E s) (hspre : SPre E (.initRules nt ((P, alts) :: rest) best))
    (hpre : OPre E rank (.initRules nt ((P, alts) :: rest) best) s) :
    SPre E (.initAlts nt P alts best) ∧ OPre E rank (.initAlts nt P alts best) s ∧
      ∀ {s1 : St U π} {best1 : Option (Prog × π)}, Big E (.initAlts nt P alts best) s s1 (.best best1) →
        OPost E rank (.initAlts nt P alts best) s s1 (.best best1) →
        Base E s1 ∧ SPre E (.initRules nt rest best1) ∧ OPre E rank (.initRules nt rest best1) s1 := by
  refine ⟨hspre.rulesHead, hpre, ?_⟩
  intro s1 best1 ha ⟨a1, a2, _⟩
  have a := big_after H ha hbase hspre.rulesHead trivial
  exact ⟨a.base, hspre.rulesTail a.spost, a1, a2, by rw [big_deleted E ha H.ghyp.kway]; exact hpre.2.2⟩

theorem OPre.initRun (H : OHyp E rank Good) {s : St U π} {nt : UNT U} {rs} (hbase : Base E s)
    (hpre : OPre E rank (.initNT nt) s) (h : s.initS.contains nt = false) (hrs : AList.lookup nt E.G.rules = some rs) :
    s.deleted = [] ∧ Base E { s with initS := s.initS ++ [nt] } ∧ SPre E (.initRules nt rs none) ∧
      OPre E rank (.initRules nt rs none) { s with initS := s.initS ++ [nt] } := by
  obtain ⟨h1, h2, h4⟩ := hpre
  have hu : Uninit s nt := h2.resolve_right fun hf => by rw [hf.1.init] at h; cases h
  have hdel : s.deleted = [] := h4 hu.2.2.1
  refine ⟨hdel, ⟨hbase.sinv.setInit _, { hbase.ninv with }, hbase.hinv,
    hbase.delF⟩, ⟨rows_alts H.ghyp hrs, by intro b hb; cases hb⟩,
    h1.only (only_addInit s nt) (Stable.refl _) (Nat.le_refl _), ⟨?_, hu.2.1, hu.2.2.1, hu.2.2.2⟩, hdel⟩
  show (s.initS ++ [nt]).contains nt = true
  simp

/-- `init_run` after phase 1 -/
theorem OPost.initRules (H : OHyp E rank Good) {s0 s1 : St U π} {nt : UNT U} {rs} {best : Option (Prog × π)}
    (hbase0 : Base E s0) (hrs : AList.lookup nt E.G.rules = some rs) (hr : Big E (.initRules nt rs none) s0 s1 (.best best))
    (hdel : s0.deleted = []) (hpost : OPost E rank (.initRules nt rs none) s0 s1 (.best best)) :
    Base E s1 ∧ s1.deleted = [] ∧ (∃ items, Phase1 E s1 nt (flatOf rs) items best) ∧
      ∀ b, best = some b → Base E { s1 with maxNT := AList.insert nt b.1 s1.maxNT } := by
  have a := big_after H hr hbase0 ⟨rows_alts H.ghyp hrs, by intro b hb; cases hb⟩ trivial
  have hbase1 := a.base
  obtain ⟨items, hph⟩ := hpost.2.2 [] [] (phase1_nil E _ nt) (by rw [List.nil_append]; exact H.flat_nodup nt rs hrs)
  rw [List.nil_append, List.nil_append] at hph
  exact ⟨hbase1, by rw [big_deleted E hr H.ghyp.kway]; exact hdel, ⟨items, hph⟩, fun b hb =>
    ⟨hbase1.sinv.setMaxNT (a.spost b hb), { hbase1.ninv with }, hbase1.hinv,
      hbase1.delF⟩⟩

/-- `init_run` after phase 2, before the first query of `nt` -/
theorem OPre.initPushed (H : OHyp E rank Good) {s1 s3 : St U π} {nt : UNT U} {rs} {b : Prog × π} {items : List (π × Prog)}
    (hbel : Below E rank (rank nt) s1) (hmid : Mid s1 nt) (hdel : s1.deleted = [])
    (hph : Phase1 E s1 nt (flatOf rs) items (some b)) (hrs : AList.lookup nt E.G.rules = some rs)
    (hb2 : Base E { s1 with maxNT := AList.insert nt b.1 s1.maxNT })
    (hp : initPush E { s1 with maxNT := AList.insert nt b.1 s1.maxNT } nt (flatOf rs) = some s3) :
    Base E s3 ∧ s3.deleted = [] ∧ NTInv E s3 nt ∧ OPre E rank (.query nt none) s3 := by
  obtain ⟨hbase3, hn3, ho3, hst3, hdel3⟩ := ntinv_after_initPush H hmid hph hp hb2 (mem_flatOf_of_alts hrs)
  have hdel3' : s3.deleted = [] := by rw [hdel3]; exact hdel
  exact ⟨hbase3, hdel3', hn3.1, hbel.only ho3 hst3 (Nat.le_refl _), Or.inr hn3, (by intro k hk; cases hk), fun _ => hdel3'⟩

theorem CInv.done {s : St U π} {nt : UNT U} {e : Option Prog} (hc : CInv E rank s nt e 0) : CInv E rank s nt none 0 :=
  { hc with succs := fun F args v hp hk j aj sj haj hsj hr _ => hc.succs F args v hp hk j aj sj haj hsj hr fun _ => Nat.zero_le _ }

theorem big_order (H : OHyp E rank Good) {c : Call U π} {s s' : St U π} {r : Res π} (hb : Big E c s s' r) :
    Base E s → SPre E c → NPre c s → OPre E rank c s → OPost E rank c s s' r := by
  have hk := H.ghyp.kway
  induction hb with
  | query_direct h hb ih => intro hbase _ _ hpre; exact ih hbase trivial trivial (hpre.queryDirect h)
  | query_init h h0 hb ih0 ih =>
    intro hbase _ _ hpre
    obtain ⟨hipre, next⟩ := hpre.queryInit H hbase h
    obtain ⟨hbase1, hpre1⟩ := next h0 (ih0 hbase trivial trivial hipre)
    exact ih hbase1 trivial trivial hpre1
  | @lop_hit s nt p r h =>
    intro _ _ _ hpre
    obtain ⟨h1, h2, h3, _⟩ := hpre
    refine ⟨h1, ⟨h2.1, ?_, h2.2⟩, ?_, ?_⟩
    · intro e; rw [e] at h; cases h
    · intro q hq k hk
      cases hq; subst hk
      exact h2.1.sorted k _ h
    · intro hq; cases hq
  | lop_miss h hb ih => intro hbase _ _ hpre; exact ih hbase trivial h hpre
  | @pop_empty s nt key h =>
    intro _ _ hnpre hpre
    obtain ⟨h1, h2, h3, _⟩ := hpre
    have hh := (Heapq.pop_none_iff _ _).mp h
    exact ⟨h1, ⟨h2.1, ntinv_live_of_first h2.1 hh, h2.2⟩, (by intro q hq; cases hq), fun _ => ⟨hh, hnpre⟩⟩
  | @pop_deleted s s1 s' nt key e h' x r h hd ha hb iha ihb =>
    intro hbase _ hnpre hpre
    obtain ⟨hbase0, hpre0, next⟩ := hpre.popDrop H hbase hnpre h hd
    obtain ⟨hnpre1, hpre1⟩ := next (iha hbase0 trivial trivial hpre0)
    exact ihb (big_after H ha hbase0 trivial trivial).base trivial hnpre1 hpre1
  | @pop_take s s' nt key e h' x h hd ha iha =>
    intro hbase _ hnpre hpre
    obtain ⟨hbase0, hpre0, next⟩ := hpre.popTake H hbase hnpre h
    exact next (iha hbase0 trivial trivial hpre0)
  | @succ_leaf s F nt =>
    intro _ _ _ hpre
    exact ⟨hpre.1, ⟨hpre.2.1.1, hpre.2.1.2.done⟩, rfl⟩
  | @succ_fun s s' F a as nt v x hk' hb ih =>
    intro hbase _ _ hpre
    obtain ⟨h1, h2, h3, h3', h4⟩ := hpre
    exact ih hbase (hbase.sinv.keys_ok _ _ _ _ hk') trivial ⟨h1, h2, h3, h3', h4, hk'⟩
  | @loop_done s F args nt v =>
    intro _ _ _ hpre
    exact ⟨hpre.1, ⟨hpre.2.1.1, hpre.2.1.2.done⟩, rfl⟩
  | @loop_step s s1 s3 s' F args nt v i ai si r x hai hsi hq hp hb ihq ihb =>
    intro hbase hspre _ hpre
    have hko : KeyOK E nt F args v := hspre
    have hpost := ihq hbase trivial trivial (loop_pre_query H hko hpre hai hsi).2
    obtain ⟨hbase3, hpre3, hsucc3⟩ := hpre.loopStep H hbase hko hai hsi hq hpost hp
    obtain ⟨b1, b2, b3⟩ := ihb hbase3 hko trivial hpre3
    exact ⟨b1, b2, b3.trans hsucc3⟩
  | @init_skip s nt h =>
    intro _ _ _ hpre
    exact ⟨hpre.1, of_init hpre.2.1 h⟩
  | @init_run s s1 s3 s' nt rs b r h hrs hr hp hq ihr ihq =>
    intro hbase _ _ hpre
    obtain ⟨hdel, hbase0, hpre1, hopre0⟩ := hpre.initRun H hbase h hrs
    have hpost := ihr hbase0 hpre1 trivial hopre0
    obtain ⟨_, hdel1, ⟨items, hph⟩, hb2⟩ := hpost.initRules H hbase0 hrs hr hdel
    obtain ⟨hbase3, _, _, hpre3⟩ := OPre.initPushed H hpost.1 hpost.2.1 hdel1 hph hrs (hb2 b rfl) hp
    obtain ⟨c1, c2, _, _⟩ := ihq hbase3 trivial trivial hpre3
    exact ⟨c1, c2⟩
  | @rules_nil s nt best =>
    intro _ _ _ hpre
    refine ⟨hpre.1, hpre.2.1, ?_⟩
    intro done items hph _
    exact ⟨[], by simpa [flatOf] using hph⟩
  | @rules_cons s s1 s' nt P alts rest best best1 best' ha hb iha ihb =>
    intro hbase hspre _ hpre
    obtain ⟨hpreA, hopreA, next⟩ := hpre.rulesCons H hbase hspre
    obtain ⟨a1, a2, a3⟩ := iha hbase hpreA trivial hopreA
    obtain ⟨hbase1, hpreR, hopreR⟩ := next ha ⟨a1, a2, a3⟩
    obtain ⟨b1, b2, b3⟩ := ihb hbase1 hpreR trivial hopreR
    refine ⟨b1, b2, ?_⟩
    intro done items hph hnd
    have hflat : flatOf ((P, alts) :: rest) = altsFlat P alts ++ flatOf rest := by simp [flatOf, altsFlat]
    rw [hflat, ← List.append_assoc] at hnd ⊢
    obtain ⟨items1, hph1⟩ := a3 done items hph (List.Nodup.sublist (List.sublist_append_left _ _) hnd)
    obtain ⟨items2, hph2⟩ := b3 _ _ hph1 hnd
    exact ⟨items1 ++ items2, by rw [← List.append_assoc]; exact hph2⟩
  | @alts_nil s nt P best =>
    intro _ _ _ hpre
    refine ⟨hpre.1, hpre.2.1, ?_⟩
    intro done items hph _
    exact ⟨[], by simpa [altsFlat] using hph⟩
  | @alts_leaf s s1 s3 nt P v w rest best arguments pr ha hc hv iha =>
    intro hbase hspre _ hpre
    have hm := hspre.1 _ List.mem_cons_self
    obtain ⟨_, _, ⟨r2, r3, _⟩, r5⟩ :=
      alt_step_pre H hbase hspre hpre ha (iha hbase trivial trivial (hpre.altArgs H hspre)) hc
    refine ⟨r2, r3, ?_⟩
    intro done items hph hnd
    have hvnil : v = [] := by simpa using hv
    have hrest : rest = [] := by
      cases rest with
      | nil => rfl
      | cons x rest' =>
        exfalso
        have hone := H.leaf_one nt P w (hvnil ▸ hm)
        have hx : x ∈ altsOf E nt P := hspre.1 x (List.mem_cons_of_mem _ List.mem_cons_self)
        rw [hone] at hx
        simp only [List.mem_singleton] at hx
        subst hx
        subst hvnil
        exact (List.nodup_cons.mp (List.nodup_append.mp hnd).2.1).1 List.mem_cons_self
    subst hrest
    refine ⟨[(pr, .node P arguments)], ?_⟩
    apply r5 done items hph
    intro hin
    simp only [altsFlat, List.map_cons, List.map_nil] at hnd
    exact (List.nodup_append.mp hnd).2.2 _ hin _ List.mem_cons_self rfl
  | @alts_cons s s1 s3 s' nt P v w rest best arguments pr best' ha hc hv hb iha ihb =>
    intro hbase hspre _ hpre
    obtain ⟨r1, hpreR, hopreR, r5⟩ :=
      alt_step_pre H hbase hspre hpre ha (iha hbase trivial trivial (hpre.altArgs H hspre)) hc
    obtain ⟨b1, b2, b3⟩ := ihb r1 hpreR trivial hopreR
    refine ⟨b1, b2, ?_⟩
    intro done items hph hnd
    have hflat : altsFlat P ((v, w) :: rest) = [(P, v)] ++ altsFlat P rest := by simp [altsFlat]
    rw [hflat, ← List.append_assoc] at hnd ⊢
    have hnotin : (P, v) ∉ done := by
      intro hin
      have := (List.nodup_append.mp (List.Nodup.sublist (List.sublist_append_left _ _) hnd)).2.2
      exact this _ hin _ List.mem_cons_self rfl
    obtain ⟨items2, hph2⟩ := b3 _ _ (r5 done items hph hnotin) hnd
    exact ⟨(pr, .node P arguments) :: items2, by
      have : items ++ (pr, Tree.node P arguments) :: items2 = (items ++ [(pr, Tree.node P arguments)]) ++ items2 := by simp
      rw [this]; exact hph2⟩
  | @args_nil s acc =>
    intro _ _ _ hpre
    exact ⟨hpre.1, [], by simp, rfl, by intro i ai si h; simp at h⟩
  | @args_cons s s1 s' si v acc m r0 l hi' hm hb ihi ihb =>
    intro hbase _ _ hpre
    obtain ⟨hipre, next⟩ := hpre.argsCons H hbase
    obtain ⟨hbase1, hbel1, a2, hpre1⟩ := next hi' (ihi hbase trivial trivial hipre)
    have a := big_after H hb hbase1 trivial trivial
    obtain ⟨b1, l', hl', hlen, hpop⟩ := ihb hbase1 trivial trivial (hpre1 m)
    have hb2 : Below E rank (Call.bound rank (.initArgs (si :: v) acc : Call U π)) s' :=
      hbel1.merge_none a.frame a.stable (a.keptAll rfl) b1
    refine ⟨hb2, m :: l', by rw [hl']; simp, by simp [hlen], ?_⟩
    intro i ai sj hai hsj
    cases i with
    | zero =>
      simp only [List.getElem?_cons_zero, Option.some.injEq] at hai hsj
      subst hai; subst hsj
      obtain ⟨m', e1, e2⟩ := a2.1.first
      rw [hm] at e1
      cases e1
      rcases e2 with e2 | ⟨e2, _⟩
      · exact a.stable _ _ _ e2
      · exact absurd e2 a2.2.1
    | succ i =>
      simp only [List.getElem?_cons_succ] at hai hsj
      exact hpop i ai sj hai hsj

end PS.UHS
