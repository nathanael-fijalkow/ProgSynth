/- The tables of a heap search, and its three writes.

   `Tb` is what the invariants of a heap search read of a state: for every non-terminal the programs in its heap
   (`heaps[S]`, without their priorities), the programs ever pushed for it (`hash_table_program[S]`) and its successor
   table (`succ[S]`).  The pop loop of `query` and the loop of `__add_successors__` write them in three ways only, stated
   as relations between two `Tb`: a popped program is dropped (`Skip`: it was rejected), a popped program is recorded as
   the successor of a key that had none (`Take`), a program not seen before is added and, unless a threshold keeps it
   out, pushed (`Push`).  Three invariants that speak of the tables alone are kept by the three writes: no duplicates
   (`Five`), "what was taken out of a heap does not come back" (`Out`, with the measure `pending` of the pop loop), and
   "what was pushed is in the heap, was popped, or was left out for a stated reason" (`Cover`).  No machine, no state
   type, no priority type: heap search on unambiguous grammars and heap search with its generic development (which
   share a state type) are the instances, each by a projection `St.tb`. -/
import PS.Model.Grammar
import PS.Proofs.ListSum

/-! ### the measure of the pop loop

   The rejected programs that the pop loop of a non-terminal can still meet: those of `deleted` that are not (pushed and
   out of the heap).  The count speaks of three lists only; each machine supplies `deleted`, `seenOf nt`, `heapProgs nt`. -/
namespace PS
open PS.G

/-- taken out of the heap: pushed once and no longer in the heap -/
def outB (seen heap : List Prog) (q : Prog) : Bool := seen.contains q && !heap.contains q

def pending (D seen heap : List Prog) : Nat := (D.filter fun q => !outB seen heap q).length

theorem outB_iff {seen heap : List Prog} {q : Prog} : outB seen heap q = true ↔ q ∈ seen ∧ q ∉ heap := by
  simp [outB]

theorem pending_le (D seen heap : List Prog) : pending D seen heap ≤ D.length := List.length_filter_le _ _

theorem pending_mono {D seen heap seen' heap' : List Prog}
    (h : ∀ q, q ∈ seen → q ∉ heap → q ∈ seen' ∧ q ∉ heap') : pending D seen' heap' ≤ pending D seen heap := by
  unfold pending
  simp only [← List.countP_eq_length_filter]
  apply List.countP_mono_left
  intro q _ hq
  cases hc : outB seen heap q with
  | false => rfl
  | true =>
    have := outB_iff.mpr (h q (outB_iff.mp hc).1 (outB_iff.mp hc).2)
    rw [this] at hq; cases hq

theorem pending_lt {D seen heap seen' heap' : List Prog}
    (h : ∀ q, q ∈ seen → q ∉ heap → q ∈ seen' ∧ q ∉ heap') (q0 : Prog) (h0 : q0 ∈ D) (h1 : ¬ (q0 ∈ seen ∧ q0 ∉ heap))
    (h2 : q0 ∈ seen' ∧ q0 ∉ heap') : pending D seen' heap' < pending D seen heap := by
  unfold pending
  apply filter_length_lt
  · intro q _ hq
    cases hc : outB seen heap q with
    | false => rfl
    | true =>
      have := outB_iff.mpr (h q (outB_iff.mp hc).1 (outB_iff.mp hc).2)
      rw [this] at hq; cases hq
  · refine ⟨q0, h0, ?_, ?_⟩
    · cases hc : outB seen heap q0 with
      | false => rfl
      | true => exact absurd (outB_iff.mp hc) h1
    · rw [outB_iff.mpr h2]; rfl

end PS

namespace PS.Tables
open PS PS.G
-- for `Val.of_eq`, which gets the `[DecidableEq NT]` of the writes below and compares no two non-terminals
set_option linter.unusedSectionVars false
variable {NT : Type} [DecidableEq NT]

structure Tb (NT : Type) where
  heap : NT → List Prog
  seen : NT → List Prog
  succ : NT → AList (Option Prog) Prog

/-- `x` is a value of the successor table of `nt`: it was popped for `nt` -/
def Val (T : Tb NT) (nt : NT) (x : Prog) : Prop := ∃ k, AList.lookup k (T.succ nt) = some x

theorem Val.of_eq {T T' : Tb NT} {nt : NT} (h : T'.succ nt = T.succ nt) {y : Prog} : Val T' nt y ↔ Val T nt y := by
  unfold Val; rw [h]

def Stable (T T' : Tb NT) : Prop :=
  ∀ nt k v, AList.lookup k (T.succ nt) = some v → AList.lookup k (T'.succ nt) = some v

/-! ### a successor table gets an entry -/

section Link
variable {sc sc' : NT → AList (Option Prog) Prog} {nt : NT} {key : Option Prog} {x : Prog}

theorem lookup_link (h : ∀ nt', sc' nt' = if nt' = nt then AList.insert key x (sc nt) else sc nt') {nt' : NT}
    {k : Option Prog} {v : Prog} (hk : AList.lookup k (sc' nt') = some v) :
    (nt' = nt ∧ k = key ∧ v = x) ∨ ((nt' = nt → k ≠ key) ∧ AList.lookup k (sc nt') = some v) := by
  rw [h] at hk
  split at hk
  · rename_i heq
    rw [AList.lookup_insert] at hk
    split at hk
    · rename_i hkk; exact Or.inl ⟨heq, hkk, (Option.some.inj hk).symm⟩
    · rename_i hkk; exact Or.inr ⟨fun _ => hkk, heq ▸ hk⟩
  · rename_i hne; exact Or.inr ⟨fun h => absurd h hne, hk⟩

theorem lookup_link_self (h : ∀ nt', sc' nt' = if nt' = nt then AList.insert key x (sc nt) else sc nt') :
    AList.lookup key (sc' nt) = some x := by
  rw [h, if_pos rfl]; exact AList.lookup_insert_self _ _ _

theorem stable_link (h : ∀ nt', sc' nt' = if nt' = nt then AList.insert key x (sc nt) else sc nt')
    (fresh : AList.lookup key (sc nt) = none) :
    ∀ nt' k v, AList.lookup k (sc nt') = some v → AList.lookup k (sc' nt') = some v := by
  intro nt' k v hk
  rw [h]
  split
  · rename_i heq; subst heq
    rw [AList.lookup_insert_ne _ _ (fun hkk => by rw [hkk, fresh] at hk; cases hk)]
    exact hk
  · exact hk

end Link

/-! ### the three writes -/

/-- `x` leaves the heap of `nt`, `rest` stays -/
structure Skip (T T' : Tb NT) (nt : NT) (x : Prog) (rest : List Prog) : Prop where
  perm : (T.heap nt).Perm (x :: rest)
  heap : ∀ nt', T'.heap nt' = if nt' = nt then rest else T.heap nt'
  seen : ∀ nt', T'.seen nt' = T.seen nt'
  succ : ∀ nt', T'.succ nt' = T.succ nt'

/-- `x` leaves the heap of `nt` and becomes the successor of `key`, which had none -/
structure Take (T T' : Tb NT) (nt : NT) (key : Option Prog) (x : Prog) (rest : List Prog) : Prop where
  perm : (T.heap nt).Perm (x :: rest)
  heap : ∀ nt', T'.heap nt' = if nt' = nt then rest else T.heap nt'
  seen : ∀ nt', T'.seen nt' = T.seen nt'
  fresh : AList.lookup key (T.succ nt) = none
  succ : ∀ nt', T'.succ nt' = if nt' = nt then AList.insert key x (T.succ nt) else T.succ nt'

/-- `np`, not seen before for `nt`, is added to `seen nt` and (unless a threshold keeps it out) to the heap of `nt` -/
structure Push (T T' : Tb NT) (nt : NT) (np : Prog) : Prop where
  new : np ∉ T.seen nt
  heap : (T'.heap nt).Perm (np :: T.heap nt) ∨ T'.heap nt = T.heap nt
  heap_ne : ∀ nt', nt' ≠ nt → T'.heap nt' = T.heap nt'
  seen : ∀ nt' p, p ∈ T'.seen nt' ↔ p ∈ T.seen nt' ∨ (nt' = nt ∧ p = np)
  succ : ∀ nt', T'.succ nt' = T.succ nt'

section Writes
variable {T T' : Tb NT} {nt : NT} {key : Option Prog} {x np : Prog} {rest : List Prog}

theorem Skip.sub (W : Skip T T' nt x rest) {nt' : NT} {p : Prog} (hp : p ∈ T'.heap nt') : p ∈ T.heap nt' := by
  rw [W.heap] at hp
  split at hp
  · rename_i heq; exact heq ▸ W.perm.symm.subset (List.mem_cons_of_mem _ hp)
  · exact hp

/-- A `Take` is a `Skip` into the table that has the heaps of `T'` and still the successor tables of `T`: what `Skip`
    keeps is proved for `Skip` alone, and `Five.take` starts from `Five.skip` with only the entry `key ↦ x` left to
    look at. -/
theorem Take.skip (W : Take T T' nt key x rest) : Skip T ⟨T'.heap, T'.seen, T.succ⟩ nt x rest :=
  ⟨W.perm, W.heap, W.seen, fun _ => rfl⟩

theorem Take.sub (W : Take T T' nt key x rest) {nt' : NT} {p : Prog} (hp : p ∈ T'.heap nt') : p ∈ T.heap nt' :=
  W.skip.sub hp

theorem Take.lookup (W : Take T T' nt key x rest) {nt' : NT} {k : Option Prog} {v : Prog}
    (hk : AList.lookup k (T'.succ nt') = some v) :
    (nt' = nt ∧ k = key ∧ v = x) ∨ ((nt' = nt → k ≠ key) ∧ AList.lookup k (T.succ nt') = some v) :=
  lookup_link W.succ hk

theorem Take.self (W : Take T T' nt key x rest) : AList.lookup key (T'.succ nt) = some x := lookup_link_self W.succ

theorem Take.stable (W : Take T T' nt key x rest) : Stable T T' := stable_link W.succ W.fresh

theorem Take.val (W : Take T T' nt key x rest) {y : Prog} (h : Val T' nt y) : y = x ∨ Val T nt y := by
  obtain ⟨k, hk⟩ := h
  rcases W.lookup hk with ⟨-, -, rfl⟩ | ⟨-, hk⟩
  · exact Or.inl rfl
  · exact Or.inr ⟨k, hk⟩

theorem Push.sub (W : Push T T' nt np) {nt' : NT} {p : Prog} (hp : p ∈ T.heap nt') : p ∈ T'.heap nt' := by
  by_cases heq : nt' = nt
  · subst heq
    rcases W.heap with h | h
    · exact h.symm.subset (List.mem_cons_of_mem _ hp)
    · exact h ▸ hp
  · exact W.heap_ne nt' heq ▸ hp

theorem Push.mem_heap (W : Push T T' nt np) {nt' : NT} {p : Prog} (hp : p ∈ T'.heap nt') :
    (nt' = nt ∧ p = np) ∨ p ∈ T.heap nt' := by
  by_cases heq : nt' = nt
  · subst heq
    rcases W.heap with h | h
    · rcases List.mem_cons.mp (h.subset hp) with rfl | hm
      · exact Or.inl ⟨rfl, rfl⟩
      · exact Or.inr hm
    · exact Or.inr (h ▸ hp)
  · exact Or.inr (W.heap_ne nt' heq ▸ hp)

end Writes

/-! ### no duplicates -/

/-- no program occurs twice in a heap; what is in a heap or in a successor table was seen; a program that
    was popped is not in the heap any more and is the successor of one key only -/
structure Five (T : Tb NT) : Prop where
  heap_nodup : ∀ nt, (T.heap nt).Nodup
  heap_seen : ∀ nt p, p ∈ T.heap nt → p ∈ T.seen nt
  succ_seen : ∀ nt k v, AList.lookup k (T.succ nt) = some v → v ∈ T.seen nt
  succ_out : ∀ nt k v, AList.lookup k (T.succ nt) = some v → v ∉ T.heap nt
  succ_inj : ∀ nt k k' v, AList.lookup k (T.succ nt) = some v → AList.lookup k' (T.succ nt) = some v → k = k'

variable {T T' : Tb NT} {nt : NT} {key : Option Prog} {x np : Prog} {rest : List Prog}

theorem Five.skip (h : Five T) (W : Skip T T' nt x rest) : Five T' ∧ x ∈ T.heap nt ∧ x ∉ T'.heap nt := by
  have hnd : (x :: rest).Nodup := W.perm.nodup_iff.mp (h.heap_nodup nt)
  refine ⟨⟨fun nt' => ?_, fun nt' p hp => W.seen nt' ▸ h.heap_seen nt' p (W.sub hp),
    fun nt' k v hk => W.seen nt' ▸ h.succ_seen nt' k v (W.succ nt' ▸ hk),
    fun nt' k v hk hv => h.succ_out nt' k v (W.succ nt' ▸ hk) (W.sub hv),
    fun nt' k k' v hk hk' => h.succ_inj nt' k k' v (W.succ nt' ▸ hk) (W.succ nt' ▸ hk')⟩,
    W.perm.symm.subset List.mem_cons_self, ?_⟩
  · rw [W.heap]; split
    · exact (List.nodup_cons.mp hnd).2
    · exact h.heap_nodup nt'
  · rw [W.heap, if_pos rfl]; exact (List.nodup_cons.mp hnd).1

theorem Five.take (h : Five T) (W : Take T T' nt key x rest) : Five T' := by
  obtain ⟨h0, hin, hout⟩ := h.skip W.skip
  refine ⟨h0.heap_nodup, h0.heap_seen, fun nt' k v hk => ?_, fun nt' k v hk hv => ?_, fun nt' k k' v hk hk' => ?_⟩
  · rcases W.lookup hk with ⟨rfl, -, rfl⟩ | ⟨-, hk⟩
    · exact W.seen _ ▸ h.heap_seen _ _ hin
    · exact h0.succ_seen nt' k v hk
  · rcases W.lookup hk with ⟨rfl, -, rfl⟩ | ⟨-, hk⟩
    · exact hout hv
    · exact h0.succ_out nt' k v hk hv
  · -- the popped program was not a value before: it was in the heap
    rcases W.lookup hk with ⟨rfl, rfl, rfl⟩ | ⟨-, hk0⟩ <;> rcases W.lookup hk' with ⟨hn, rfl, hv⟩ | ⟨-, hk0'⟩
    · rfl
    · exact absurd hin (h.succ_out _ k' _ hk0')
    · subst hn hv; exact absurd hin (h.succ_out _ k _ hk0)
    · exact h.succ_inj nt' k k' v hk0 hk0'

theorem Five.push (h : Five T) (W : Push T T' nt np) : Five T' := by
  have hold : ∀ nt' p, p ∈ T.seen nt' → p ∈ T'.seen nt' := fun nt' p hp => (W.seen nt' p).mpr (Or.inl hp)
  refine ⟨fun nt' => ?_, fun nt' p hp => ?_, fun nt' k v hk => hold nt' v (h.succ_seen nt' k v (W.succ nt' ▸ hk)),
    fun nt' k v hk hv => ?_, fun nt' k k' v hk hk' => h.succ_inj nt' k k' v (W.succ nt' ▸ hk) (W.succ nt' ▸ hk')⟩
  · by_cases heq : nt' = nt
    · subst heq
      rcases W.heap with hp | hp
      · exact hp.nodup_iff.mpr (List.nodup_cons.mpr ⟨fun hh => W.new (h.heap_seen _ _ hh), h.heap_nodup _⟩)
      · rw [hp]; exact h.heap_nodup _
    · rw [W.heap_ne nt' heq]; exact h.heap_nodup nt'
  · rcases W.mem_heap hp with hnew | hp
    · exact (W.seen nt' p).mpr (Or.inr hnew)
    · exact hold nt' p (h.heap_seen nt' p hp)
  · rw [W.succ] at hk
    rcases W.mem_heap hv with ⟨rfl, rfl⟩ | hv
    · exact W.new (h.succ_seen _ k _ hk)
    · exact h.succ_out nt' k v hk hv

/-! ### what was taken out of a heap does not come back -/

/-- `q` was pushed for `nt` and is not in its heap: it was popped, or skipped as a rejected program -/
def Out (T : Tb NT) (nt : NT) (q : Prog) : Prop := q ∈ T.seen nt ∧ q ∉ T.heap nt

theorem Skip.outs (W : Skip T T' nt x rest) (h : Five T) : Out T' nt x ∧ ∀ q, Out T nt q → Out T' nt q :=
  have h0 := h.skip W
  ⟨⟨W.seen nt ▸ h.heap_seen nt x h0.2.1, h0.2.2⟩, fun q hq => ⟨W.seen nt ▸ hq.1, fun hin => hq.2 (W.sub hin)⟩⟩

/-- the pushed program is new, so it is none of those taken out before -/
theorem Push.outs (W : Push T T' nt np) {q : Prog} (hq : Out T nt q) : Out T' nt q :=
  ⟨(W.seen nt q).mpr (Or.inl hq.1), fun hin => (W.mem_heap hin).elim (fun e => W.new (e.2 ▸ hq.1)) hq.2⟩

theorem Skip.pending_lt (W : Skip T T' nt x rest) (h : Five T) (D : List Prog) (hd : x ∈ D) :
    pending D (T'.seen nt) (T'.heap nt) < pending D (T.seen nt) (T.heap nt) :=
  have ⟨h1, h2⟩ := W.outs h
  PS.pending_lt (fun q a b => h2 q ⟨a, b⟩) x hd (fun hc => hc.2 (h.skip W).2.1) h1

/-! ### what was pushed is accounted for -/

/-- what was pushed is in the heap, was popped, or was left out -/
def Cover (out : Prog → Prop) (T : Tb NT) (nt : NT) : Prop :=
  ∀ p, p ∈ T.seen nt → p ∈ T.heap nt ∨ Val T nt p ∨ out p

variable {out : Prog → Prop}

theorem Cover.congr (h : Cover out T nt) (hh : T'.heap nt = T.heap nt) (hs : T'.seen nt = T.seen nt)
    (hc : T'.succ nt = T.succ nt) : Cover out T' nt :=
  fun p hp => (h p (hs ▸ hp)).imp (hh ▸ ·) (Or.imp_left (Val.of_eq hc).mpr)

theorem Cover.skip (h : Cover out T nt) (W : Skip T T' nt x rest) (hx : out x) : Cover out T' nt := by
  intro p hp
  rcases h p (W.seen nt ▸ hp) with hh | hv | ho
  · rcases List.mem_cons.mp (W.perm.subset hh) with rfl | hm
    · exact Or.inr (Or.inr hx)
    · exact Or.inl (by rw [W.heap, if_pos rfl]; exact hm)
  · exact Or.inr (Or.inl ((Val.of_eq (W.succ nt)).mpr hv))
  · exact Or.inr (Or.inr ho)

theorem Cover.take (h : Cover out T nt) (W : Take T T' nt key x rest) : Cover out T' nt := by
  intro p hp
  rcases h p (W.seen nt ▸ hp) with hh | ⟨k, hk⟩ | ho
  · rcases List.mem_cons.mp (W.perm.subset hh) with rfl | hm
    · exact Or.inr (Or.inl ⟨key, W.self⟩)
    · exact Or.inl (by rw [W.heap, if_pos rfl]; exact hm)
  · exact Or.inr (Or.inl ⟨k, W.stable nt k p hk⟩)
  · exact Or.inr (Or.inr ho)

/-- `np` went into the heap, or the threshold kept it out -/
theorem Cover.push (h : Cover out T nt) (W : Push T T' nt np) (hnp : (T'.heap nt).Perm (np :: T.heap nt) ∨ out np) :
    Cover out T' nt := by
  intro p hp
  rcases (W.seen nt p).mp hp with hold | ⟨-, rfl⟩
  · rcases h p hold with hh | hv | ho
    · exact Or.inl (W.sub hh)
    · exact Or.inr (Or.inl ((Val.of_eq (W.succ nt)).mpr hv))
    · exact Or.inr (Or.inr ho)
  · exact hnp.elim (fun hh => Or.inl (hh.symm.subset List.mem_cons_self)) fun ho => Or.inr (Or.inr ho)

end PS.Tables
