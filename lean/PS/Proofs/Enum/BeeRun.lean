/- Bee search: `step` by cases, one constructor per stretch of code between two control points, and induction
   along `next`, `take` and histories.  Every invariant of the machine is proved by cases on `Step` and carried
   along runs by `runActs_ind`. -/
import PS.Proofs.Enum.BeeBase
import PS.Proofs.Enum.HeapInv
import PS.Proofs.Enum.Iter
namespace PS.Bee
open PS PS.G

variable {S : Type} [DecidableEq S]
set_option linter.unusedSectionVars false

/-- the loop test of `generator()`: with `E.fixF11` the `while True:` of bee_search.py:173; without it the test of the loop
    before repair d763a26 (fixes_applied/C12-F11.diff: `infinite or (self._has_merged and failed < 1000) or
    (not self._has_merged and progs > 0)`); /repo has the repair -/
def goesOn (E : Env S) (g : Gen S) : Bool :=
  E.fixF11 || decide (E.progs0 < 0) || (g.st.hasMerged && decide (g.failed < 1000)) ||
    (!g.st.hasMerged && decide (g.progs > 0))

/-- `step` as a relation, one constructor per stretch of bee_search.py between two control points (the phases of
    the generator): the generator before and after (tables, the two counters, phase) and the `yield` are the indices, the
    tests made on that stretch the premises; `step_cases` shows that every result of `step` is one of them.  Invariants
    are proved by cases on this relation (what they say at the phase of the case is then there by unfolding); `step`
    itself is unfolded only in this file. -/
inductive Step (E : Env S) : Gen S → Gen S → Option Prog → Prop
  | done {st progs failed} : Step E ⟨st, progs, failed, .done⟩ ⟨st, progs, failed, .done⟩ none
  | init {st progs failed} : Step E ⟨st, progs, failed, .init⟩ ⟨st, E.progs0, 0, .outer⟩ none
  /-- the generator returns: the `while` test fails, every queue is empty, or (`E.fixF11`) the cheapest queued
      cost is beyond the bound `E.maxCost` -/
  | stop {st progs failed} :
      (goesOn E ⟨st, progs, failed, .outer⟩ = false ∨ (∃ nts, nextCheapest st = (nts, none)) ∨
        ∃ nts c, nextCheapest st = (nts, some c) ∧ stopAt E c = true) →
      Step E ⟨st, progs, failed, .outer⟩ ⟨st, progs, failed, .done⟩ none
  | round {st progs failed nt nts cost} : goesOn E ⟨st, progs, failed, .outer⟩ = true →
      nextCheapest st = (nt :: nts, some cost) → stopAt E cost = false →
      Step E ⟨st, progs, failed, .outer⟩ ⟨st, progs, failed + 1, .forS false cost (nt :: nts)⟩ none
  | endRound {st progs failed succ cost} : Step E ⟨st, progs, failed, .forS succ cost []⟩ ⟨st, progs, failed, .outer⟩ none
  | addCost {st progs failed succ cost nt rest s1 ci} :
      addCost E { st with maxIndex := AList.insert nt ((AList.lookup nt st.maxIndex).getD 0) st.maxIndex } cost = some (s1, ci) →
      Step E ⟨st, progs, failed, .forS succ cost (nt :: rest)⟩
        ⟨s1, progs, failed, .whileQ succ cost nt rest ((AList.lookup nt st.maxIndex).getD 0) ci⟩ none
  | leave {st progs failed succ cost nt rest maxi ci} : (∀ top tl, st.queueOf nt = top :: tl → top.cost ≠ cost) →
      Step E ⟨st, progs, failed, .whileQ succ cost nt rest maxi ci⟩
        ⟨{ st with maxIndex := AList.insert nt maxi st.maxIndex }, progs, failed, .forS succ cost rest⟩ none
  /-- the root of the queue of `nt` is popped, its successors are filed, and its candidate programs (if every
      argument bank has some) become the suspended product -/
  | pop {st progs failed succ cost nt rest maxi ci top tl q' args s2 maxi' ph} :
      st.queueOf nt = top :: tl → top.cost = cost → Heapq.pop ltE (st.queueOf nt) = some (top, q') →
      ruleArgs E nt top.P = some args →
      succLoop E nt top.P top.combo 0 args.length (st.setQueue nt q') maxi = some (s2, maxi') →
      ((argsPossibles s2 top.combo args 0 = some none ∧ ph = .whileQ succ cost nt rest maxi' ci) ∨
        ∃ aps, argsPossibles s2 top.combo args 0 = some (some aps) ∧
          ph = .pend succ cost nt rest maxi' ci ((product aps).map fun kids => Tree.node top.P kids)) →
      Step E ⟨st, progs, failed, .whileQ succ cost nt rest maxi ci⟩ ⟨s2, progs, failed, ph⟩ none
  | endPend {st progs failed succ cost nt rest maxi ci} :
      Step E ⟨st, progs, failed, .pend succ cost nt rest maxi ci []⟩ ⟨st, progs, failed, .whileQ succ cost nt rest maxi ci⟩ none
  /-- the next candidate is offered to `_add_program_`; `y`: it is yielded -/
  | offer {st progs failed succ cost nt rest maxi ci p ps} (y : Bool) :
      y = ((addProgram E st nt p ci).2 && decide (nt = E.G.start)) →
      Step E ⟨st, progs, failed, .pend succ cost nt rest maxi ci (p :: ps)⟩
        ⟨(addProgram E st nt p ci).1, if y then progs - 1 else progs, if y && !succ then failed - 1 else failed,
          .pend (y || succ) cost nt rest maxi ci ps⟩ (if y then some p else none)

theorem step_cases {E : Env S} {g g' : Gen S} {out : Option Prog} (h : step E g = some (g', out)) : Step E g g' out := by
  obtain ⟨st, progs, failed, phase⟩ := g
  revert h
  -- the clauses of `step` in the order it is written; those that raise are `case9` and `case12` to `case15`
  fun_cases step E ⟨st, progs, failed, phase⟩
  case case1 hph => cases hph; rintro ⟨⟩; exact .done
  case case2 hph => cases hph; rintro ⟨⟩; exact .init
  case case3 hph _ _ nts hnc => cases hph; rintro ⟨⟩; exact .stop (Or.inr (Or.inl ⟨nts, hnc⟩))
  case case4 hnc => exact fun _ => absurd rfl ((nextCheapest_spec _ hnc).nonempty nofun rfl)
  case case5 hph _ _ _ _ cost hnc hstop => cases hph; rintro ⟨⟩; exact .stop (Or.inr (Or.inr ⟨_, cost, hnc, hstop⟩))
  case case6 hph _ hgo _ _ _ hnc hstop => cases hph; rintro ⟨⟩; exact .round hgo hnc (by simpa using hstop)
  case case7 hph inf hgo => cases hph; rintro ⟨⟩; exact .stop (Or.inl (by simpa [goesOn, inf] using hgo))
  case case8 hph => cases hph; rintro ⟨⟩; exact .endRound
  case case9 | case12 | case13 | case14 | case15 => nofun
  case case10 hph _ _ _ _ hac => cases hph; rintro ⟨⟩; exact .addCost hac
  case case11 hph _ _ hq => cases hph; intro h; cases Option.some.inj h; exact .leave fun top tl ht => by rw [hq] at ht; cases ht
  case case16 hq _ _ hpop _ _ hargs _ _ hsl hnone hph =>
    cases hph; rintro ⟨⟩
    cases Option.some.inj ((congrArg List.head? hq).symm.trans (Heapq.pop_head ltE _ _ _ hpop))
    exact .pop hq rfl hpop hargs hsl (Or.inl ⟨hnone, rfl⟩)
  case case17 hq _ _ hpop _ _ hargs _ _ hsl _ haps hph =>
    cases hph; rintro ⟨⟩
    cases Option.some.inj ((congrArg List.head? hq).symm.trans (Heapq.pop_head ltE _ _ _ hpop))
    exact .pop hq rfl hpop hargs hsl (Or.inr ⟨_, haps, rfl⟩)
  case case18 hph _ _ _ _ hq hne =>
    cases hph; intro h; cases Option.some.inj h; exact .leave fun top' tl' ht => by rw [hq] at ht; cases ht; exact hne
  case case19 hph => cases hph; rintro ⟨⟩; exact .endPend
  case case20 succ cost nt rest maxi ci p ps hph _ _ hap hy =>
    cases hph; rintro ⟨⟩
    have hs := Step.offer (E := E) (progs := progs) (failed := failed) (succ := succ) (cost := cost) (rest := rest)
      (maxi := maxi) (ps := ps) true (by rw [hap]; exact hy.symm)
    rw [hap] at hs
    cases succ <;> exact hs
  case case21 succ cost nt rest maxi ci p ps hph _ _ hap hy =>
    cases hph; rintro ⟨⟩
    have hs := Step.offer (E := E) (progs := progs) (failed := failed) (succ := succ) (cost := cost) (rest := rest)
      (maxi := maxi) (ps := ps) false (by rw [hap]; exact (Bool.eq_false_iff.mpr hy).symm)
    rw [hap] at hs
    exact hs

theorem step_yield {E : Env S} {g g' : Gen S} {p : Prog} (h : step E g = some (g', some p)) :
    ∃ succ cost nt rest maxi ci ps, g.phase = .pend succ cost nt rest maxi ci (p :: ps) ∧
      g'.phase = .pend true cost nt rest maxi ci ps := by
  generalize ho : some p = out at h
  cases step_cases h with
  | offer y _ =>
    cases y
    · cases ho
    · cases ho; exact ⟨_, _, _, _, _, _, _, rfl, rfl⟩
  | _ => cases ho

/-- `step` raises only where `_add_cost_` or the stretch from `heappop` to `argsPossibles` does -/
theorem step_some {E : Env S} {g : Gen S}
    (hac : ∀ succ cost nt rest, g.phase = .forS succ cost (nt :: rest) → ∃ r,
      addCost E { g.st with maxIndex := AList.insert nt ((AList.lookup nt g.st.maxIndex).getD 0) g.st.maxIndex } cost = some r)
    (hpop : ∀ succ cost nt rest maxi ci top tl, g.phase = .whileQ succ cost nt rest maxi ci → g.st.queueOf nt = top :: tl →
      ∃ el q' args r r2, Heapq.pop ltE (g.st.queueOf nt) = some (el, q') ∧ ruleArgs E nt el.P = some args ∧
        succLoop E nt el.P el.combo 0 args.length (g.st.setQueue nt q') maxi = some r ∧
        argsPossibles r.1 el.combo args 0 = some r2) : ∃ r, step E g = some r := by
  -- the clauses of `step` that raise: each contradicts `hac` or `hpop`; every other clause returns
  fun_cases step E g
  case case9 hph _ _ hn =>
    obtain ⟨r, hr⟩ := hac _ _ _ _ hph
    cases hn.symm.trans hr
  case case12 hq hn hph =>
    obtain ⟨_, _, _, _, _, h1, _⟩ := hpop _ _ _ _ _ _ _ _ hph hq
    cases hn.symm.trans h1
  case case13 hq _ _ hp hn hph =>
    obtain ⟨_, _, _, _, _, h1, h2, _⟩ := hpop _ _ _ _ _ _ _ _ hph hq
    cases hp.symm.trans h1; cases hn.symm.trans h2
  case case14 hq _ _ hp _ _ ha hn hph =>
    obtain ⟨_, _, _, _, _, h1, h2, h3, _⟩ := hpop _ _ _ _ _ _ _ _ hph hq
    cases hp.symm.trans h1; cases ha.symm.trans h2; cases hn.symm.trans h3
  case case15 hq _ _ hp _ _ ha _ _ hs hn hph =>
    obtain ⟨_, _, _, _, _, h1, h2, h3, h4⟩ := hpop _ _ _ _ _ _ _ _ hph hq
    cases hp.symm.trans h1; cases ha.symm.trans h2; cases hs.symm.trans h3; cases hn.symm.trans h4
  all_goals exact ⟨_, rfl⟩

section
variable {E : Env S} {I : St S → Prop}

theorem initRules_ind {nt : NT S Unit} {leaves : Bool} (rs : List (Sym × (List (Ty × S) × Unit))) (s s' : St S)
    (h : initRules E nt leaves rs s = some s')
    (hr : ∀ P rl, (P, rl) ∈ rs → ∀ s s', addCombination E s nt P (List.replicate rl.1.length 0) none = some s' → I s → I s')
    (hi : I s) : I s' := by
  fun_induction initRules E nt leaves rs s with
  | case1 => cases h; exact hi
  | case2 | case5 => cases h
  | case3 P rl rest s _ hz s1 ha ih =>
    exact ih h (fun P rl hm => hr P rl (List.mem_cons_of_mem _ hm)) (hr P rl List.mem_cons_self s s1 (by rw [hz]; exact ha) hi)
  | case6 P rl rest s _ _ s1 ha ih =>
    exact ih h (fun P rl hm => hr P rl (List.mem_cons_of_mem _ hm)) (hr P rl List.mem_cons_self s s1 ha hi)
  | case4 P rl rest s _ _ ih | case7 P rl rest s _ _ ih => exact ih h (fun P rl hm => hr P rl (List.mem_cons_of_mem _ hm)) hi

theorem initAll_ind {leaves : Bool}
    (hrow : ∀ s nt, I s → I { s with bank := AList.insert nt [] s.bank, queued := AList.insert nt [] s.queued })
    (hadd : ∀ nt rs P rl, (nt, rs) ∈ E.G.rules → (P, rl) ∈ rs → ∀ s s',
      addCombination E s nt P (List.replicate rl.1.length 0) none = some s' → I s → I s')
    (tab : List (NT S Unit × AList Sym (List (Ty × S) × Unit))) (s s' : St S) (h : initAll E leaves tab s = some s')
    (hsub : ∀ e ∈ tab, e ∈ E.G.rules) (hi : I s) : I s' := by
  fun_induction initAll E leaves tab s with
  | case1 => cases h; exact hi
  | case2 => cases h
  | case3 nt rs rest s s0 s1 hr ih =>
    refine ih h (fun e he => hsub e (List.mem_cons_of_mem _ he))
      (initRules_ind rs _ s1 hr (fun P rl hm => hadd nt rs P rl (hsub _ List.mem_cons_self) hm) ?_)
    cases leaves
    · exact hi
    · exact hrow s nt hi

theorem new_ind (h0 : I {})
    (hrow : ∀ s nt, I s → I { s with bank := AList.insert nt [] s.bank, queued := AList.insert nt [] s.queued })
    (hadd : ∀ nt rs P rl, (nt, rs) ∈ E.G.rules → (P, rl) ∈ rs → ∀ s s',
      addCombination E s nt P (List.replicate rl.1.length 0) none = some s' → I s → I s')
    {g0 : Gen S} (h : Gen.new E = some g0) : I g0.st ∧ g0.phase = .init := by
  revert h
  fun_cases Gen.new E with
  | case1 | case2 => nofun
  | case3 s1 h1 s2 h2 =>
    rintro ⟨⟩
    exact ⟨initAll_ind hrow hadd _ s1 s2 h2 (fun _ he => he) (initAll_ind hrow hadd _ _ s1 h1 (fun _ he => he) h0), rfl⟩

end

theorem next_ind {E : Env S} {J : Gen S → List Prog → Prop}
    (hs : ∀ g g' out acc, step E g = some (g', out) → J g acc → J g' (acc ++ out.toList))
    (n : Nat) (g g' : Gen S) (out : Option Prog) (acc : List Prog) (h : next E n g = some (g', out)) (hj : J g acc) :
      J g' (acc ++ out.toList) ∧ (out = none → g'.phase.isDone = true) := by
  fun_induction next E n g with
  | case1 | case3 => cases h
  | case2 n g hd => cases h; exact ⟨by simpa using hj, fun _ => hd⟩
  | case4 n g hd g1 p hst => cases h; exact ⟨hs _ _ _ _ hst hj, nofun⟩
  | case5 n g hd g1 hst ih => exact ih h (by simpa using hs _ _ _ _ hst hj)

/-- `take` is the shared driver over `next`: its rules are those of PS/Proofs/Enum/Iter.lean -/
theorem take_eq (E : Env S) (fuel : Nat) : ∀ k g acc, take E fuel k g acc = Iter.take (next E fuel) k g acc :=
  Iter.take_unique (fun _ _ => rfl) (fun _ _ _ h => by simp only [take, h]) (fun _ _ _ _ h => by simp only [take, h])
    (fun _ _ _ _ _ h => by simp only [take, h])

def Act.iter : Act → Iter.Act (Prog × Ty)
  | .take k => .take k
  | .merge p ty => .merge (p, ty)

theorem runActs_eq (E : Env S) (fuel : Nat) : ∀ acts g acc,
    runActs E fuel acts g acc = Iter.run (next E fuel) (fun g m => merge E g m.1 m.2) (acts.map Act.iter) g acc
  | [], _, _ => rfl
  | .merge p ty :: rest, g, acc => by rw [runActs]; exact runActs_eq E fuel rest _ acc
  | .take k :: rest, g, acc => by
    rw [runActs, List.map_cons, Act.iter, Iter.run, ← take_eq]
    cases take E fuel k g [] with
    | none => rfl
    | some r => exact runActs_eq E fuel rest _ _

theorem take_ind {E : Env S} {J : Gen S → List Prog → Prop}
    (hs : ∀ g g' out acc, step E g = some (g', out) → J g acc → J g' (acc ++ out.toList)) (fuel : Nat)
    (k : Nat) (g g' : Gen S) (acc out : List Prog) (fin : Bool) (h : take E fuel k g acc = some (g', out, fin)) (hj : J g acc) :
    J g' out ∧ (fin = true → g'.phase.isDone = true) :=
  Iter.take_rule (I := J) (Q := fun g' out fin => J g' out ∧ (fin = true → g'.phase.isDone = true))
    (fun _ _ hj => ⟨hj, nofun⟩)
    (fun g acc g' hj hn => (next_ind hs fuel g g' none acc hn hj).imp (fun h => List.append_nil acc ▸ h) fun h _ => h rfl)
    (fun g acc g' p hj hn => (next_ind hs fuel g g' (some p) acc hn hj).1) k g acc _ hj (take_eq E fuel k g acc ▸ h)

theorem take_prefix (E : Env S) (fuel : Nat) : ∀ (k : Nat) (g g1 : Gen S) (a0 ys : List Prog) (fin : Bool),
    take E fuel k g a0 = some (g1, ys, fin) → ∀ pre, take E fuel k g (pre ++ a0) = some (g1, pre ++ ys, fin) := by
  intro k g g1 a0 ys fin h pre
  rw [take_eq, Iter.take_acc] at h ⊢
  obtain ⟨r, hr, e⟩ := Option.map_eq_some_iff.mp h
  cases e
  rw [hr, Option.map_some, List.append_assoc]

/-- `merge_program` has to keep the relation only for the merges that occur -/
theorem runActs_ind {E : Env S} {J : Gen S → List Prog → Prop}
    (hs : ∀ g g' out acc, step E g = some (g', out) → J g acc → J g' (acc ++ out.toList)) (fuel : Nat)
    (acts : List Act) (g g' : Gen S) (acc out : List Prog)
    (hm : ∀ other ty, Act.merge other ty ∈ acts → ∀ g acc, J g acc → J (merge E g other ty) acc)
    (h : runActs E fuel acts g acc = some (g', out)) (hj : J g acc) : J g' out :=
  Iter.run_rule (I := J) (fun m => Act.merge m.1 m.2 ∈ acts)
    (fun g acc g' o hi hn => (next_ind hs fuel g g' o acc hn hi).1) (fun g m acc hmem hi => hm m.1 m.2 hmem g acc hi)
    (acts.map Act.iter) g acc (g', out) (runActs_eq E fuel acts g acc ▸ h)
    (fun m hmem => by
      obtain ⟨a, ha, e⟩ := List.mem_map.mp hmem
      cases a with
      | take k => cases e
      | merge p ty => cases e; exact ha) hj

theorem take_done {E : Env S} {fuel k : Nat} {g g' : Gen S} {acc out : List Prog}
    (h : take E fuel k g acc = some (g', out, true)) : g'.phase.isDone = true :=
  (take_ind (J := fun _ _ => True) (fun _ _ _ _ _ _ => trivial) fuel k g g' acc out true h trivial).2 rfl

theorem runActs_take {E : Env S} {fuel k : Nat} {g g' : Gen S} {ys : List Prog} {fin : Bool}
    (h : take E fuel k g [] = some (g', ys, fin)) (acc : List Prog) :
    runActs E fuel [.take k] g acc = some (g', acc ++ ys) := by
  simp only [runActs, h]

end PS.Bee
