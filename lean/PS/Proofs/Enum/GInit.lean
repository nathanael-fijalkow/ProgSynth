/- The max-priority phase of heap search (`__init_non_terminal__` / `__compute_max_prio__`) on an acyclic
   grammar without empty rows and with distinct rule names in every row (`InitHyp`) leaves the tables in sync (`KInv`,
   hence `MaxOK`), for any priority type.
   `initNT`, `maxLoop` and `maxArgs` call one another, so their statements `StI`, `StL`, `StA` are proved
   together by induction on the fuel (`init_K`).
   `entry` here has no element where the recorded program has no priority; `HS.entry` (probabilities, HSHyp)
   puts priority 0 there; under `KInv.prio` the two lists of entries are equal (`HS.entries_eq_G`). -/
import PS.Proofs.Enum.GBig
namespace PS.HG
open PS PS.G PS.HS
set_option linter.unusedSectionVars false
variable {S π : Type} [DecidableEq S]

/-- the heap element `__init_heap__` pushes for rule `P` of `nt` -/
def entry (E : Env S Unit π) (s : St S Unit π) (nt : NT S Unit) (P : Sym) : Option (π × Prog) :=
  (AList.lookup (nt, P) s.maxRule).bind (fun p => (prioSpec E p nt).map (fun v => (v, p)))

def entries (E : Env S Unit π) (s : St S Unit π) (nt : NT S Unit) (Ps : List Sym) : List (π × Prog) :=
  Ps.filterMap (entry E s nt)

theorem entry_eq_some {E : Env S Unit π} {s : St S Unit π} {nt : NT S Unit} {P : Sym} {e : π × Prog} :
    entry E s nt P = some e ↔ AList.lookup (nt, P) s.maxRule = some e.2 ∧ prioSpec E e.2 nt = some e.1 := by
  unfold entry
  cases AList.lookup (nt, P) s.maxRule with
  | none => simp
  | some prog =>
    simp only [Option.bind_some, Option.map_eq_some_iff, Option.some.injEq]
    constructor
    · rintro ⟨v, hv, rfl⟩; exact ⟨rfl, hv⟩
    · rintro ⟨rfl, hv⟩; exact ⟨e.1, hv, rfl⟩

structure MaxOK (E : Env S Unit π) (s : St S Unit π) : Prop where
  /-- `max_priority[(S, P)] = P(max_priority[S1], …)` for the current `max_priority[Si]` -/
  sync : ∀ nt F prog ra, AList.lookup (nt, F) s.maxRule = some prog → E.G.rule? nt F = some (ra, ()) →
    ∃ ms, prog = .node F ms ∧
      ∀ (i : Nat) a m, ra[i]? = some a → ms[i]? = some m → AList.lookup (argNT a) s.maxNT = some m
  /-- `max_priority[S]` is the first best of the `max_priority[(S, P)]` in rule order -/
  best : ∀ nt rs m, AList.lookup nt E.G.rules = some rs → AList.lookup nt s.maxNT = some m →
    ∃ pr, (entries E s nt (AList.keys rs)).foldl (Heapq.bestStep (ltE E.ops)) none = some (pr, m)

theorem entries_congr (E : Env S Unit π) {s s' : St S Unit π} (h : s'.maxRule = s.maxRule)
    (nt : NT S Unit) (Ps : List Sym) : entries E s' nt Ps = entries E s nt Ps := by
  unfold entries entry; rw [h]

abbrev MN (s : St S Unit π) (nt : NT S Unit) : Option Prog := AList.lookup nt s.maxNT
abbrev MR (s : St S Unit π) (nt : NT S Unit) (P : Sym) : Option Prog := AList.lookup (nt, P) s.maxRule

structure InitHyp (E : Env S Unit π) (rank : NT S Unit → Nat) : Prop where
  rows : RowsNodup E.G
  acyclic : ∀ nt F ra, E.G.rule? nt F = some (ra, ()) → ∀ a ∈ ra, rank (argNT a) < rank nt
  /-- over an empty row the test `all((S, P) in self.max_priority …)` of `__init_non_terminal__` is true: the call
      returns at once and `max_priority[S]` is never set -/
  nonempty : ∀ nt rs, AList.lookup nt E.G.rules = some rs → rs ≠ []

/-- Invariant of the tables `max_priority[S]` (`MN`) and `max_priority[(S, P)]` (`MR`) while
    `__init_non_terminal__` runs, `s.initS` being the set `_init` of the non-terminals whose call is open.
    It holds between any two steps of the recursion, not only between outer calls; with `_init` empty it is
    `MaxOK` plus the facts needed to go on. -/
structure KInv (E : Env S Unit π) (s : St S Unit π) : Prop where
  sync : ∀ nt F prog ra, MR s nt F = some prog → E.G.rule? nt F = some (ra, ()) →
    ∃ ms, prog = .node F ms ∧ ∀ (i : Nat) a m, ra[i]? = some a → ms[i]? = some m → MN s (argNT a) = some m
  /-- first conjunct: the test `all((S, P) in self.max_priority …)` succeeds for a finished non-terminal, so
      entering it again returns at once -/
  best : ∀ nt rs m, AList.lookup nt E.G.rules = some rs → MN s nt = some m →
    (∀ P ∈ AList.keys rs, (MR s nt P).isSome = true) ∧
    ∃ pr, (entries E s nt (AList.keys rs)).foldl (Heapq.bestStep (ltE E.ops)) none = some (pr, m)
  /-- a non-terminal whose call is open has no `max_priority[S]` yet (it is set when the call ends) -/
  prog_init : ∀ nt, nt ∈ s.initS → MN s nt = none
  /-- `max_priority[(S, P)]` is only written for `S` finished or open: a non-terminal neither in `_init` nor
      with a `max_priority[S]` has no entry at all (used in `KInv.enter`) -/
  owned : ∀ nt P prog, MR s nt P = some prog → (MN s nt).isSome = true ∨ nt ∈ s.initS
  /-- a recorded program has a priority, so that `entry` yields an element for it -/
  prio : ∀ nt P prog, MR s nt P = some prog → (prioSpec E prog nt).isSome = true
  has_rule : ∀ nt P prog, MR s nt P = some prog → ∃ ra, E.G.rule? nt P = some (ra, ())

theorem KInv.maxOK {E : Env S Unit π} {s : St S Unit π} (h : KInv E s) : MaxOK E s :=
  ⟨h.sync, fun nt rs m hl hm => (h.best nt rs m hl hm).2⟩

def Ext (s s' : St S Unit π) : Prop :=
  (∀ nt m, MN s nt = some m → MN s' nt = some m) ∧ (∀ nt P p, MR s nt P = some p → MR s' nt P = some p)

theorem Ext.refl (s : St S Unit π) : Ext s s := ⟨fun _ _ h => h, fun _ _ _ h => h⟩
theorem Ext.trans {s s1 s2 : St S Unit π} (h1 : Ext s s1) (h2 : Ext s1 s2) : Ext s s2 :=
  ⟨fun nt m h => h2.1 nt m (h1.1 nt m h), fun nt P p h => h2.2 nt P p (h1.2 nt P p h)⟩

theorem Ext.isSome_MN {s s' : St S Unit π} (hx : Ext s s') {nt : NT S Unit} (h : (MN s nt).isSome = true) :
    (MN s' nt).isSome = true := by
  obtain ⟨m, hm⟩ := Option.isSome_iff_exists.mp h
  rw [hx.1 nt m hm]; rfl

theorem Ext.isSome_MR {s s' : St S Unit π} (hx : Ext s s') {nt : NT S Unit} {P : Sym} (h : (MR s nt P).isSome = true) :
    (MR s' nt P).isSome = true := by
  obtain ⟨p, hp⟩ := Option.isSome_iff_exists.mp h
  rw [hx.2 nt P p hp]; rfl

/-- frame condition of a call that writes only entries of non-terminals of rank below `b` -/
def LowFrame (rank : NT S Unit → Nat) (b : Nat) (s s' : St S Unit π) : Prop :=
  ∀ nt, b ≤ rank nt → MN s' nt = MN s nt ∧ ∀ P, MR s' nt P = MR s nt P

theorem LowFrame.refl (rank : NT S Unit → Nat) (b : Nat) (s : St S Unit π) : LowFrame rank b s s :=
  fun _ _ => ⟨rfl, fun _ => rfl⟩
theorem LowFrame.trans {rank : NT S Unit → Nat} {b : Nat} {s s1 s2 : St S Unit π}
    (h1 : LowFrame rank b s s1) (h2 : LowFrame rank b s1 s2) : LowFrame rank b s s2 :=
  fun nt hb => ⟨((h2 nt hb).1).trans (h1 nt hb).1, fun P => ((h2 nt hb).2 P).trans ((h1 nt hb).2 P)⟩
theorem LowFrame.mono {rank : NT S Unit → Nat} {b b' : Nat} {s s' : St S Unit π}
    (h : LowFrame rank b s s') (hb : b ≤ b') : LowFrame rank b' s s' :=
  fun nt hn => h nt (Nat.le_trans hb hn)

/-- what a call of the max-priority phase does to the tables: `KInv` and `MInv` hold again, `_init` is as before, the
    tables are only extended, and no entry of a non-terminal of rank `b` or more is written -/
structure KStep (E : Env S Unit π) (rank : NT S Unit → Nat) (b : Nat) (s s' : St S Unit π) : Prop where
  kinv : KInv E s'
  minv : MInv E s'
  init : s'.initS = s.initS
  ext : Ext s s'
  low : LowFrame rank b s s'

theorem KStep.refl {E : Env S Unit π} {rank : NT S Unit → Nat} {b : Nat} {s : St S Unit π} (hk : KInv E s)
    (hm : MInv E s) : KStep E rank b s s := ⟨hk, hm, rfl, Ext.refl _, LowFrame.refl _ _ _⟩
theorem KStep.trans {E : Env S Unit π} {rank : NT S Unit → Nat} {b : Nat} {s s1 s2 : St S Unit π}
    (h1 : KStep E rank b s s1) (h2 : KStep E rank b s1 s2) : KStep E rank b s s2 :=
  ⟨h2.kinv, h2.minv, h2.init.trans h1.init, h1.ext.trans h2.ext, h1.low.trans h2.low⟩
theorem KStep.mono {E : Env S Unit π} {rank : NT S Unit → Nat} {b b' : Nat} {s s' : St S Unit π}
    (h : KStep E rank b s s') (hb : b ≤ b') : KStep E rank b' s s' :=
  ⟨h.kinv, h.minv, h.init, h.ext, h.low.mono hb⟩

/-- `nt` is the non-terminal `__compute_max_prio__` is working on: the innermost open call -/
structure Open (E : Env S Unit π) (rank : NT S Unit → Nat) (s : St S Unit π) (nt : NT S Unit) : Prop where
  kinv : KInv E s
  minv : MInv E s
  mem : nt ∈ s.initS
  least : ∀ x ∈ s.initS, rank nt ≤ rank x

theorem Open.step {E : Env S Unit π} {rank : NT S Unit → Nat} {b : Nat} {s s' : St S Unit π} {nt : NT S Unit}
    (o : Open E rank s nt) (k : KStep E rank b s s') : Open E rank s' nt :=
  ⟨k.kinv, k.minv, k.init ▸ o.mem, fun x hx => o.least x (k.init ▸ hx)⟩

theorem entries_eq_of_MR (E : Env S Unit π) {s s' : St S Unit π} (nt : NT S Unit) (Ps : List Sym)
    (h : ∀ P ∈ Ps, MR s' nt P = MR s nt P) : entries E s' nt Ps = entries E s nt Ps := by
  unfold entries
  induction Ps with
  | nil => rfl
  | cons P rest ih =>
    have h1 : entry E s' nt P = entry E s nt P := by
      unfold entry
      have := h P (List.mem_cons_self)
      unfold MR at this
      rw [this]
    simp only [List.filterMap_cons, h1]
    rw [ih (fun Q hQ => h Q (List.mem_cons_of_mem _ hQ))]

theorem entries_ext (E : Env S Unit π) {s s' : St S Unit π} (hx : Ext s s') (nt : NT S Unit) (Ps : List Sym)
    (hall : ∀ P ∈ Ps, (MR s nt P).isSome = true) : entries E s' nt Ps = entries E s nt Ps := by
  apply entries_eq_of_MR
  intro P hP
  obtain ⟨p, hm⟩ := Option.isSome_iff_exists.mp (hall P hP)
  rw [hm]; exact hx.2 nt P p hm

theorem entries_append (E : Env S Unit π) (s : St S Unit π) (nt : NT S Unit) (a b : List Sym) :
    entries E s nt (a ++ b) = entries E s nt a ++ entries E s nt b := by
  unfold entries; simp

theorem mem_entries {E : Env S Unit π} {s : St S Unit π} {nt : NT S Unit} {Ps : List Sym} {e : π × Prog} :
    e ∈ entries E s nt Ps ↔ ∃ P ∈ Ps, entry E s nt P = some e :=
  List.mem_filterMap

theorem entries_cons_of_some {E : Env S Unit π} {s : St S Unit π} {nt : NT S Unit} {P : Sym} {e : π × Prog}
    (h : entry E s nt P = some e) (rest : List Sym) : entries E s nt (P :: rest) = e :: entries E s nt rest := by
  rw [entries, List.filterMap_cons, h]; rfl

theorem KInv.ext_sync {E : Env S Unit π} {s s' : St S Unit π} (h : KInv E s) (hx : Ext s s') :
    ∀ nt F prog ra, MR s nt F = some prog → E.G.rule? nt F = some (ra, ()) →
    ∃ ms, prog = .node F ms ∧ ∀ (i : Nat) a m, ra[i]? = some a → ms[i]? = some m → MN s' (argNT a) = some m := by
  intro nt F prog ra hm hr
  obtain ⟨ms, h1, h2⟩ := h.sync nt F prog ra hm hr
  exact ⟨ms, h1, fun i a m ha hmi => hx.1 _ _ (h2 i a m ha hmi)⟩

/-- `maxLoop` carries its running best as (program, priority), as `__compute_max_prio__` does, whereas the heap
    elements `entry` are (priority, program); `StL` compares the two through `swapP`. -/
def swapP (b : Prog × π) : π × Prog := (b.2, b.1)

theorem foldl_bestStep_some {α : Type} (lt : α → α → Bool) (l : List α) (b : α) :
    ∃ c, l.foldl (Heapq.bestStep lt) (some b) = some c := by
  induction l generalizing b with
  | nil => exact ⟨b, rfl⟩
  | cons x r ih =>
    simp only [List.foldl_cons, Heapq.bestStep]
    split <;> exact ih _

theorem foldl_bestStep_ne_none {α : Type} (lt : α → α → Bool) (l : List α) (h : l ≠ []) :
    ∃ c, l.foldl (Heapq.bestStep lt) none = some c := by
  cases l with
  | nil => exact absurd rfl h
  | cons x r => simp only [List.foldl_cons, Heapq.bestStep]; exact foldl_bestStep_some lt r x

/-- Loop invariant of `__compute_max_prio__` over the row `rs = done ++ rest` of `nt`: the rules of `done` have
    their entries, those of `rest` none, and `best` is the first best of the entries of `done`. -/
structure Row (E : Env S Unit π) (s : St S Unit π) (nt : NT S Unit) (rs done rest : AList Sym (List (Ty × S) × Unit))
    (best : Option (Prog × π)) : Prop where
  row : AList.lookup nt E.G.rules = some rs
  split : rs = done ++ rest
  done_some : ∀ P ∈ AList.keys done, (MR s nt P).isSome = true
  rest_none : ∀ P ∈ AList.keys rest, MR s nt P = none
  best : best.map swapP = (entries E s nt (AList.keys done)).foldl (Heapq.bestStep (ltE E.ops)) none

theorem Row.rule {E : Env S Unit π} {rank : NT S Unit → Nat} (H : InitHyp E rank) {s : St S Unit π} {nt : NT S Unit}
    {rs done rest : AList Sym (List (Ty × S) × Unit)} {best : Option (Prog × π)} {P : Sym} {ra : List (Ty × S)}
    (r : Row E s nt rs done ((P, (ra, ())) :: rest) best) : E.G.rule? nt P = some (ra, ()) :=
  (TT.rule?_of_lookup r.row P).trans (AList.lookup_of_mem_nodup (H.rows nt rs r.row) (by rw [r.split]; simp))

/-- `PreArgs` as `init_K` takes it: the programs collected so far are the `max_priority` of their non-terminals -/
abbrev PreK (ra : List (Ty × S)) (acc : List Prog) (k : Nat) (info : Info S) (cur : NT S Unit)
    (s : St S Unit π) : Prop :=
  PreArgs (fun m nt => MN s nt = some m) ra acc k info cur

/-- `__init_non_terminal__` goes on to `__compute_max_prio__` only for a non-terminal that has no entry
    yet; marking it as being initialised keeps the invariant, and the loop over its row starts with nothing done -/
theorem KInv.enter {E : Env S Unit π} {rank : NT S Unit → Nat} {s : St S Unit π} (hk : KInv E s) (hmi : MInv E s)
    {nt : NT S Unit} {rs : AList Sym (List (Ty × S) × Unit)} (hrs : AList.lookup nt E.G.rules = some rs)
    (hrk : ∀ x ∈ s.initS, rank nt < rank x)
    (hall : ¬ (rs.all fun r => (AList.lookup (nt, r.1) s.maxRule).isSome) = true) :
    Open E rank { s with initS := s.initS ++ [nt] } nt ∧ Row E { s with initS := s.initS ++ [nt] } nt rs [] rs none := by
  have hnin : nt ∉ s.initS := fun hm => Nat.lt_irrefl _ (hrk nt hm)
  have hMN : MN s nt = none := by
    cases hm : MN s nt with
    | none => rfl
    | some m =>
      refine absurd (List.all_eq_true.mpr fun r hr => ?_) hall
      exact (hk.best nt rs m hrs hm).1 r.1 (List.mem_map.mpr ⟨r, hr, rfl⟩)
  have hMR : ∀ P, MR s nt P = none := by
    intro P
    cases hm : MR s nt P with
    | none => rfl
    | some p =>
      rcases hk.owned nt P p hm with h1 | h1
      · rw [hMN] at h1; cases h1
      · exact absurd h1 hnin
  refine ⟨⟨⟨hk.sync, hk.best, ?_, ?_, hk.prio, hk.has_rule⟩, ⟨hmi.rule_gen, hmi.nt_gen, hmi.cache_ok⟩,
    List.mem_append_right _ (List.mem_singleton.mpr rfl), ?_⟩,
    hrs, rfl, fun P hP => by simp [AList.keys] at hP, fun P _ => hMR P, rfl⟩
  · intro x hx
    rcases List.mem_append.mp hx with hx | hx
    · exact hk.prog_init x hx
    · exact List.mem_singleton.mp hx ▸ hMN
  · exact fun x P p hm => (hk.owned x P p hm).imp_right (List.mem_append_left _)
  · intro x hx
    rcases List.mem_append.mp hx with hx | hx
    · exact Nat.le_of_lt (hrk x hx)
    · rw [List.mem_singleton.mp hx]; exact Nat.le_refl _

/-- the end of `__init_non_terminal__`: `nt` leaves `_init`, and the first best of its row becomes
    `max_priority[nt]` -/
theorem KInv.finish {E : Env S Unit π} {s1 s2 : St S Unit π} (k1 : KInv E s1) {nt : NT S Unit}
    {rs : AList Sym (List (Ty × S) × Unit)} {l : List (NT S Unit)} {b : Prog × π}
    (hrs : AList.lookup nt E.G.rules = some rs) (hinit : s1.initS = l ++ [nt]) (hnin : nt ∉ l)
    (hall : ∀ P ∈ AList.keys rs, (MR s1 nt P).isSome = true)
    (hb : (entries E s1 nt (AList.keys rs)).foldl (Heapq.bestStep (ltE E.ops)) none = some (swapP b))
    (hs2 : s2 = { s1 with initS := s1.initS.erase nt, maxNT := AList.insert nt b.1 s1.maxNT }) :
    KInv E s2 ∧ (MN s2 nt).isSome = true ∧ s2.initS = l ∧ Ext s1 s2 ∧
    ∀ x, x ≠ nt → MN s2 x = MN s1 x ∧ ∀ P, MR s2 x P = MR s1 x P := by
  have hMN2 : ∀ x, MN s2 x = if x = nt then some b.1 else MN s1 x := by
    intro x; rw [hs2]; exact AList.lookup_insert _ _ _ _
  have hMR2 : ∀ x P, MR s2 x P = MR s1 x P := by intro x P; rw [hs2]
  have hI2 : s2.initS = l := by rw [hs2, show s1.initS = l ++ [nt] from hinit]; rw [List.erase_append_right _ hnin, List.erase_cons_head, List.append_nil]
  clear hs2
  have hMN1 : MN s1 nt = none := k1.prog_init nt (hinit ▸ List.mem_append_right _ (List.mem_singleton.mpr rfl))
  have hx2 : Ext s1 s2 := by
    refine ⟨fun x m hm => ?_, fun x P p hm => by rw [hMR2]; exact hm⟩
    rw [hMN2]
    split
    · rename_i heq; subst heq; rw [hMN1] at hm; cases hm
    · exact hm
  have hent : ∀ x Ps, entries E s2 x Ps = entries E s1 x Ps := fun x Ps => entries_eq_of_MR E x Ps (fun P _ => hMR2 x P)
  refine ⟨⟨?_, ?_, ?_, ?_, ?_, ?_⟩, by rw [hMN2, if_pos rfl]; rfl, hI2, hx2,
    fun x hne => ⟨by rw [hMN2, if_neg hne], hMR2 x⟩⟩
  · intro x F prog ra hm hr
    rw [hMR2] at hm
    exact k1.ext_sync hx2 x F prog ra hm hr
  · intro x rs' m hl hm
    rw [hMN2] at hm
    rw [hent]
    split at hm
    · rename_i heq
      subst heq
      rw [hrs] at hl; cases hl
      cases hm
      exact ⟨fun P hP => by rw [hMR2]; exact hall P hP, b.2, hb⟩
    · obtain ⟨h1, h2⟩ := k1.best x rs' m hl hm
      exact ⟨fun P hP => by rw [hMR2]; exact h1 P hP, h2⟩
  · intro x hx
    rw [hI2] at hx
    rw [hMN2, if_neg (fun e : x = nt => hnin (e ▸ hx))]
    exact k1.prog_init x (hinit ▸ List.mem_append_left _ hx)
  · intro x P p hm
    rw [hMR2] at hm
    rcases k1.owned x P p hm with h1 | h1
    · exact Or.inl (hx2.isSome_MN h1)
    · rw [hinit] at h1
      rcases List.mem_append.mp h1 with h1 | h1
      · exact Or.inr (hI2 ▸ h1)
      · left; rw [List.mem_singleton.mp h1, hMN2, if_pos rfl]; rfl
  · intro x P p hm; rw [hMR2] at hm; exact k1.prio x P p hm
  · intro x P p hm; rw [hMR2] at hm; exact k1.has_rule x P p hm

/-- What `init_K` proves of `initNT` (`__init_non_terminal__`) with fuel `n`, called for an `nt` of rank below
    everything in `_init`: `nt` gets its `max_priority`, and the non-terminals of rank above `rank nt` are not written. -/
def StI (E : Env S Unit π) (rank : NT S Unit → Nat) (n : Nat) : Prop :=
  ∀ s nt s', KInv E s → MInv E s → (∀ x ∈ s.initS, rank nt < rank x) → initNT E n s nt = some s' →
    KStep E rank (rank nt + 1) s s' ∧ (MN s' nt).isSome = true

/-- What `init_K` proves of `maxLoop` (the loop of `__compute_max_prio__` over the row of the open non-terminal
    `nt`): on return `Row` holds with the whole row done. -/
def StL (E : Env S Unit π) (rank : NT S Unit → Nat) (n : Nat) : Prop :=
  ∀ s nt rs done rest best s' best', Open E rank s nt → Row E s nt rs done rest best →
    maxLoop E n s nt rest best = some (s', best') →
    KStep E rank (rank nt + 1) s s' ∧ Row E s' nt rs rs [] best'

/-- What `init_K` proves of `maxArgs` (the loop of `__compute_max_prio__` over the arguments of one rule of the
    open non-terminal `nt`): from `PreK` it returns one program per argument, each the `max_priority` of the
    argument's non-terminal; only non-terminals of rank below `rank nt` are written. -/
def StA (E : Env S Unit π) (rank : NT S Unit → Nat) (n : Nat) : Prop :=
  ∀ s nt F ra k info cur acc s' arguments, Open E rank s nt → E.G.rule? nt F = some (ra, ()) →
    PreK ra acc k info cur s → maxArgs E n s k info cur acc = some (s', arguments) →
    KStep E rank (rank nt) s s' ∧ arguments.length = ra.length ∧
    (∀ (j : Nat) m a, arguments[j]? = some m → ra[j]? = some a → MN s' (argNT a) = some m)

theorem stA_step (E : Env S Unit π) (rank : NT S Unit → Nat) (H : InitHyp E rank) (n : Nat)
    (ihI : StI E rank n) (ihA : StA E rank n) : StA E rank (n + 1) := by
  intro s nt F ra k info cur acc s' arguments o hr hpre h
  cases k with
  | zero =>
    simp only [maxArgs, Option.some.injEq, Prod.mk.injEq] at h
    obtain ⟨rfl, rfl⟩ := h
    exact ⟨.refl o.kinv o.minv, by have := hpre.len; omega, hpre.done⟩
  | succ k =>
    obtain ⟨-, a, ha, hcur⟩ := hpre.next (Nat.succ_pos k)
    have hrc : rank cur < rank nt := by
      rw [hcur]; exact H.acyclic nt F ra hr a (List.mem_of_getElem? ha)
    obtain ⟨s1, hi, hbr⟩ := maxArgs_succ_iff.mp h
    obtain ⟨k1, hsome⟩ := ihI s cur s1 o.kinv o.minv (fun x hx => Nat.lt_of_lt_of_le hrc (o.least x hx)) hi
    rcases hbr with ⟨hnone, _⟩ | ⟨m, r, hm, hda, h⟩
    · -- the `break` is never taken: the non-terminal has just been initialised
      have hnone' : MN s1 cur = none := hnone
      rw [hnone'] at hsome; cases hsome
    · obtain ⟨k2, hl2, ha2⟩ := ihA s1 nt F ra k r.1 r.2 (acc ++ [m]) s' arguments (o.step k1) hr
        ((hpre.mono fun _ _ => k1.ext.1 _ _).snoc hm (k1.minv.nt_gen cur m hm) hda) h
      exact ⟨(k1.mono (by omega)).trans k2, hl2, ha2⟩

theorem stI_step (E : Env S Unit π) (rank : NT S Unit → Nat) (H : InitHyp E rank) (n : Nat)
    (ihL : StL E rank n) : StI E rank (n + 1) := by
  intro s nt s' hk hmi hrk h
  have hnin : nt ∉ s.initS := fun hm => Nat.lt_irrefl _ (hrk nt hm)
  rcases initNT_succ_iff.mp h with ⟨hc, _⟩ | ⟨_, rs, hrs, ⟨hall, hs'⟩ | ⟨hall, s1, best, hml, rfl⟩⟩
  · exact absurd hc hnin
  · -- every rule has its entry: the non-terminal is done
    rw [hs']
    refine ⟨.refl hk hmi, ?_⟩
    cases rs with
    | nil => exact absurd rfl (H.nonempty nt _ hrs)
    | cons r0 rest =>
      obtain ⟨p, hm⟩ := Option.isSome_iff_exists.mp ((List.all_eq_true.mp hall) r0 (List.mem_cons_self))
      exact (hk.owned nt r0.1 p hm).resolve_right hnin
  · have hne := H.nonempty nt rs hrs
    obtain ⟨o0, row0⟩ := hk.enter hmi hrs hrk hall
    obtain ⟨k1, row1⟩ := ihL _ nt rs [] rs none s1 best o0 row0 hml
    -- the best program exists: the row is not empty
    have hent : entries E s1 nt (AList.keys rs) ≠ [] := by
      cases rs with
      | nil => exact absurd rfl hne
      | cons r0 rest =>
        obtain ⟨p, hm⟩ := Option.isSome_iff_exists.mp (row1.done_some r0.1 (by simp [AList.keys]))
        obtain ⟨v, hpv⟩ := Option.isSome_iff_exists.mp (k1.kinv.prio nt r0.1 p hm)
        have : entry E s1 nt r0.1 = some (v, p) := entry_eq_some.mpr ⟨hm, hpv⟩
        exact entries_cons_of_some this (AList.keys rest) ▸ List.cons_ne_nil _ _
    obtain ⟨c, hc⟩ := foldl_bestStep_ne_none (ltE E.ops) _ hent
    have hbest1 := row1.best
    rw [hc] at hbest1
    cases best with
    | none => simp at hbest1
    | some b =>
      simp only [Option.map_some, Option.some.injEq] at hbest1
      obtain ⟨k2, hsome, hi2, hx2, hlf2⟩ := k1.kinv.finish hrs k1.init hnin row1.done_some (hbest1 ▸ hc) rfl
      refine ⟨⟨k2, (init_sound E H.rows (n + 1)).1 s nt _ hmi h, hi2,
        (Ext.trans ⟨fun _ _ h => h, fun _ _ _ h => h⟩ k1.ext).trans hx2, fun x hx => ?_⟩, hsome⟩
      obtain ⟨a1, a2⟩ := k1.low x hx
      obtain ⟨b1, b2⟩ := hlf2 x (by intro e; subst e; omega)
      exact ⟨b1.trans a1, fun P => (b2 P).trans (a2 P)⟩

/-- one iteration of `__compute_max_prio__`, after the arguments are there: the program is recorded, the best
    updated, and `Row` holds with one more rule done -/
theorem tail_facts (E : Env S Unit π) (rank : NT S Unit → Nat) (H : InitHyp E rank)
    {s s1 s2 : St S Unit π} {nt : NT S Unit} {rs done rest' : AList Sym (List (Ty × S) × Unit)} {P : Sym}
    {ra : List (Ty × S)} {best : Option (Prog × π)}
    {args : List Prog} {c : AList (Prog × NT S Unit) π} {pr : π} {bb : Option (Prog × π)}
    (hk1 : KInv E s1) (hmi1 : MInv E s1) (hin : nt ∈ s1.initS) (hx1 : Ext s s1) (hlf1 : LowFrame rank (rank nt) s s1)
    (row : Row E s nt rs done ((P, (ra, ())) :: rest') best) (hlen : args.length = ra.length)
    (hargs : ∀ (j : Nat) m a, args[j]? = some m → ra[j]? = some a → MN s1 (argNT a) = some m)
    (hcp : computePrio E s1.cache nt (.node P args) = some (c, pr))
    (hbb : bb = bestUpd E.ops.lt best (Tree.node P args) pr)
    (hs2 : s2 = { s1 with cache := c, maxRule := AList.insert (nt, P) (.node P args) s1.maxRule }) :
    KStep E rank (rank nt + 1) s1 s2 ∧ Row E s2 nt rs (done ++ [(P, (ra, ()))]) rest' bb ∧
    gen E.G (.node P args) nt = true := by
  have hr := row.rule H
  have hg : gen E.G (.node P args) nt = true := by
    rw [gen, hr]
    exact genList_of_pointwise E.G args ra hlen (fun j m a hj ha => hmi1.nt_gen _ m (hargs j m a hj ha))
  obtain ⟨hv, hcc⟩ := computePrio_spec E _ hmi1.cache_ok nt _ hg c pr hcp
  -- `s2` comes as a variable with its equation so that, once these four facts are drawn from `hs2`, the record
  -- update can be cleared: the rest of the proof reads the new state through them alone
  have hMR2 : ∀ x Q, MR s2 x Q = if (x, Q) = (nt, P) then some (.node P args) else MR s1 x Q := by
    intro x Q; rw [hs2]; exact AList.lookup_insert _ _ _ _
  have hMN2 : ∀ x, MN s2 x = MN s1 x := by intro x; rw [hs2]
  have hI2 : s2.initS = s1.initS := by rw [hs2]
  have hmi2 : MInv E s2 := hs2 ▸ hmi1.setRule hg hcc
  clear hs2
  have hnd := H.rows nt rs row.row
  rw [row.split, AList.keys_append] at hnd
  simp only [AList.keys, List.map_cons] at hnd
  have hPrest : P ∉ AList.keys rest' := (List.nodup_cons.mp (List.nodup_append.mp hnd).2.1).1
  have hMRs1 : MR s1 nt P = none := by
    rw [(hlf1 nt (Nat.le_refl _)).2 P]; exact row.rest_none P (by simp [AList.keys])
  have hMN1 : MN s1 nt = none := hk1.prog_init nt hin
  have hother : ∀ x Q, x ≠ nt → MR s2 x Q = MR s1 x Q := by
    intro x Q hne
    rw [hMR2, if_neg (fun e => hne (congrArg Prod.fst e))]
  have hx2 : Ext s1 s2 := by
    refine ⟨fun x m hm => by rw [hMN2]; exact hm, fun x Q p hm => ?_⟩
    rw [hMR2]
    split
    · rename_i heq; cases heq; rw [hMRs1] at hm; cases hm
    · exact hm
  have hk2 : KInv E s2 := by
    refine ⟨?_, ?_, fun x hx => by rw [hMN2]; exact hk1.prog_init x (hI2 ▸ hx), ?_, ?_, ?_⟩
    · intro x F prog ra' hm hr'
      rw [hMR2] at hm
      split at hm
      · rename_i heq
        cases heq
        cases hm
        rw [hr] at hr'; cases hr'
        exact ⟨args, rfl, fun i a m ha hm => by rw [hMN2]; exact hargs i m a hm ha⟩
      · exact hk1.ext_sync hx2 x F prog ra' hm hr'
    · intro x rs' m hl hm
      rw [hMN2] at hm
      have hxne : x ≠ nt := by intro e; subst e; rw [hMN1] at hm; cases hm
      obtain ⟨h1, pr', h2⟩ := hk1.best x rs' m hl hm
      refine ⟨fun Q hQ => by rw [hother x Q hxne]; exact h1 Q hQ, pr', ?_⟩
      rw [entries_eq_of_MR E x _ (fun Q _ => hother x Q hxne)]; exact h2
    · intro x Q p hm
      rw [hMN2, hI2]
      rw [hMR2] at hm
      split at hm
      · rename_i heq; cases heq; exact Or.inr hin
      · exact hk1.owned x Q p hm
    · intro x Q p hm
      rw [hMR2] at hm
      split at hm
      · rename_i heq; cases heq; cases hm; rw [hv]; rfl
      · exact hk1.prio x Q p hm
    · intro x Q p hm
      rw [hMR2] at hm
      split at hm
      · rename_i heq; cases heq; exact ⟨ra, hr⟩
      · exact hk1.has_rule x Q p hm
  have hxs2 := hx1.trans hx2
  have hdone2 : ∀ Q ∈ AList.keys (done ++ [(P, (ra, ()))]), (MR s2 nt Q).isSome = true := by
    intro Q hQ
    rw [AList.keys_append] at hQ
    rcases List.mem_append.mp hQ with hQ | hQ
    · exact hxs2.isSome_MR (row.done_some Q hQ)
    · simp only [AList.keys, List.map_cons, List.map_nil, List.mem_singleton] at hQ
      subst hQ
      rw [hMR2, if_pos rfl]; rfl
  have hrest2 : ∀ Q ∈ AList.keys rest', MR s2 nt Q = none := by
    intro Q hQ
    have hne : (nt, Q) ≠ (nt, P) := by intro e; cases e; exact hPrest hQ
    rw [hMR2, if_neg hne, (hlf1 nt (Nat.le_refl _)).2 Q]
    exact row.rest_none Q (by simp only [AList.keys, List.map_cons, List.mem_cons]; exact Or.inr hQ)
  have hbest2 : bb.map swapP =
      (entries E s2 nt (AList.keys (done ++ [(P, (ra, ()))]))).foldl (Heapq.bestStep (ltE E.ops)) none := by
    rw [AList.keys_append, entries_append, List.foldl_append]
    have e1 : entries E s2 nt (AList.keys done) = entries E s nt (AList.keys done) := entries_ext E hxs2 nt _ row.done_some
    have e2 : entries E s2 nt (AList.keys [(P, (ra, ()))]) = [(pr, .node P args)] := by
      have : entry E s2 nt P = some (pr, .node P args) := by
        have hm := hMR2 nt P
        rw [if_pos rfl] at hm
        exact entry_eq_some.mpr ⟨hm, hv⟩
      exact entries_cons_of_some this []
    rw [e1, e2, ← row.best, hbb]
    simp only [List.foldl_cons, List.foldl_nil]
    cases best with
    | none => rfl
    | some b =>
      simp only [bestUpd, Option.map_some, Heapq.bestStep, ltE, swapP]
      by_cases hlt : E.ops.lt pr b.2 = true <;> simp [hlt, swapP]
  refine ⟨⟨hk2, hmi2, hI2, hx2, fun x hx => ⟨hMN2 x, fun Q => ?_⟩⟩,
    ⟨row.row, by rw [row.split]; simp, hdone2, hrest2, hbest2⟩, hg⟩
  exact hother x Q (by intro e; subst e; omega)

theorem built_K (E : Env S Unit π) (rank : NT S Unit → Nat) (n : Nat) (ihA : StA E rank n)
    {s s1 : St S Unit π} {nt : NT S Unit} {P : Sym} {ra : List (Ty × S)} {args : List Prog}
    (o : Open E rank s nt) (hr : E.G.rule? nt P = some (ra, ())) (hb : builtArgs E n s nt P ra = some (s1, args)) :
    KStep E rank (rank nt) s s1 ∧ args.length = ra.length ∧ ∀ (j : Nat) m a, args[j]? = some m → ra[j]? = some a → MN s1 (argNT a) = some m := by
  rcases builtArgs_cases hb with ⟨_, r, hd, hma⟩ | ⟨rfl, rfl, rfl⟩
  · rw [TT.derive_of_rule hr] at hd
    cases hd
    exact ihA s nt P ra ra.length _ _ [] s1 args o hr (.first _ nt ra) hma
  · exact ⟨.refl o.kinv o.minv, rfl, by intro j m a hj; simp at hj⟩

theorem stL_step (E : Env S Unit π) (rank : NT S Unit → Nat) (H : InitHyp E rank) (n : Nat)
    (ihL : StL E rank n) (ihA : StA E rank n) : StL E rank (n + 1) := by
  intro s nt rs done rest best s' best' o row h
  cases rest with
  | nil =>
    simp only [maxLoop, Option.some.injEq, Prod.mk.injEq] at h
    obtain ⟨rfl, rfl⟩ := h
    have : rs = done := by rw [row.split]; simp
    subst this
    exact ⟨.refl o.kinv o.minv, row⟩
  | cons hd rest' =>
    obtain ⟨P, ra, ⟨⟩⟩ := hd
    obtain ⟨s1, args, hb, h⟩ := maxLoop_cons_iff.mp h
    obtain ⟨k1, hal, hargs⟩ := built_K E rank n ihA o (row.rule H) hb
    -- the arguments are complete, so that the rule is not skipped
    rw [if_neg (not_not_intro hal)] at h
    obtain ⟨c, pr, hcp, h⟩ := h
    obtain ⟨k12, row2, _⟩ := tail_facts E rank H k1.kinv k1.minv (k1.init ▸ o.mem) k1.ext k1.low row hal hargs hcp rfl rfl
    have k2 := (k1.mono (Nat.le_succ _)).trans k12
    obtain ⟨k3, row3⟩ := ihL _ nt rs _ rest' _ s' best' (o.step k2) row2 h
    exact ⟨k2.trans k3, row3⟩

theorem init_K (E : Env S Unit π) (rank : NT S Unit → Nat) (H : InitHyp E rank) :
    ∀ n, StI E rank n ∧ StL E rank n ∧ StA E rank n := by
  intro n
  induction n with
  | zero =>
    refine ⟨?_, ?_, ?_⟩
    · intro s nt s' _ _ _ h; simp [initNT] at h
    · intro s nt rs done rest best s' best' _ _ h; simp [maxLoop] at h
    · intro s nt F ra k info cur acc s' arguments _ _ _ h; simp [maxArgs] at h
  | succ n ih =>
    obtain ⟨ihI, ihL, ihA⟩ := ih
    exact ⟨stI_step E rank H n ihL, stL_step E rank H n ihL ihA, stA_step E rank H n ihI ihA⟩

theorem kinv_empty (E : Env S Unit π) : KInv E (St.empty E.G) := by
  refine ⟨?_, ?_, ?_, ?_, ?_, ?_⟩
  · intro nt F prog ra h; simp [MR, St.empty] at h
  · intro nt rs m _ h; simp [MN, St.empty] at h
  · intro nt h; simp [St.empty] at h
  · intro nt P prog h; simp [MR, St.empty] at h
  · intro nt P prog h; simp [MR, St.empty] at h
  · intro nt P prog h; simp [MR, St.empty] at h

end PS.HG
