/- Bee search: `HeapElement.__lt__` is a strict weak order; the writes to the tables (`_add_combination_`, `_add_cost_`, the
   successor loop) keep every queue a heap of heapq (`HAll`); on such tables the result of `_next_cheapest_` is the minimum of
   the queued costs.  Along runs `HAll` is carried as the field `heaps` of the order invariant `OSt` (BeeOrder), so it is
   stated for reachable states under the hypotheses of that invariant only (non-negative cost table, `dictOK`), although no
   write needs them. -/
import PS.Proofs.Enum.BeeBase
import PS.Proofs.Enum.Orders
namespace PS.Bee
open PS PS.G PS.Heapq

variable {S : Type} [DecidableEq S]
set_option linter.unusedSectionVars false
set_option linter.unusedSimpArgs false

theorem listLt_isLex : IsListLex (fun a b : Nat => decide (a < b)) listLt :=
  ⟨rfl, fun _ _ => rfl, fun _ _ => rfl, fun _ _ _ _ => rfl⟩

theorem listLt_irrefl : ∀ a : List Nat, listLt a a = false :=
  (listLt_isLex.strictTotal strictTotal_nat).irrefl

theorem ltE_weakOrder : WeakOrder ltE :=
  WeakOrder.lex strictTotal_int (listLt_isLex.strictTotal strictTotal_nat).toWeakOrder HeapElem.cost HeapElem.combo

theorem ltE_false_cost {a b : HeapElem} (h : ltE a b = false) : b.cost ≤ a.cost := by
  have := lex_false_key strictTotal_int.toWeakOrder h
  simp only [decide_eq_false_iff_not] at this; omega

def HAll (s : St S) : Prop := ∀ nt h, (nt, h) ∈ s.queued → IsHeap ltE h

theorem queueOf_isHeap {s : St S} (hh : HAll s) (nt : NT S Unit) : IsHeap ltE (s.queueOf nt) := by
  unfold St.queueOf
  cases hl : AList.lookup nt s.queued with
  | none => exact isHeap_nil _
  | some h => exact hh _ _ (AList.lookup_some_mem hl)

theorem top_min {s : St S} (hh : HAll s) (nt : NT S Unit) (top : HeapElem) (tl : List HeapElem)
    (hq : s.queueOf nt = top :: tl) : ∀ e ∈ s.queueOf nt, top.cost ≤ e.cost := by
  intro e he
  exact ltE_false_cost (head_min ltE_weakOrder (hq ▸ queueOf_isHeap hh nt) e (hq ▸ he))

theorem HAll.setQueue {s : St S} (hh : HAll s) {nt : NT S Unit} {l : List HeapElem} (hl : IsHeap ltE l) :
    HAll (s.setQueue nt l) := fun _ _ hm =>
  (AList.mem_insert hm).elim (fun e => by cases e; exact hl) (hh _ _)

theorem addCombination_heaps (E : Env S) (s s' : St S) (nt : NT S Unit) (P : Sym) (idx : List Nat) (chk : Option Nat)
    (h : addCombination E s nt P idx chk = some s') (hh : HAll s) : HAll s' := by
  rcases addCombination_eq h with ⟨_, rfl⟩ | ⟨_, c, _, rfl⟩
  · exact hh
  · exact hh.setQueue (push_isHeap ltE_weakOrder _ _ (queueOf_isHeap hh nt))

theorem addCost_heaps (E : Env S) (s s' : St S) (cost : Int) (ci : Nat) (h : addCost E s cost = some (s', ci))
    (hh : HAll s) : HAll s' :=
  addCost_ind h (fun nt _ idx P chk _ _ s s' ha => addCombination_heaps E s s' nt P idx chk ha) id hh

theorem succLoop_heaps (E : Env S) (nt : NT S Unit) (P : Sym) (combo : List Nat) (k i : Nat) (s s' : St S) (maxi maxi' : Nat)
    (h : succLoop E nt P combo i k s maxi = some (s', maxi')) (hh : HAll s) : HAll s' :=
  succLoop_ind (fun _ _ _ s s' ha => addCombination_heaps E s s' nt P _ _ ha) k i s s' maxi maxi' h hh

theorem nextCheapest_min (s : St S) (hh : HAll s) (nts : List (NT S Unit)) (c : Int)
    (h : nextCheapest s = (nts, some c)) :
    (∀ nt l, (nt, l) ∈ s.queued → ∀ e ∈ l, c ≤ e.cost) ∧ ∃ nt l e, (nt, l) ∈ s.queued ∧ e ∈ l ∧ e.cost = c := by
  have hs := nextCheapest_spec s h
  constructor
  · intro nt l hm e he
    cases l with
    | nil => cases he
    | cons top tl =>
      obtain ⟨i, hi, rfl⟩ := List.getElem_of_mem he
      have := ltE_false_cost (root_min ltE ltE_weakOrder.ntrans ltE_weakOrder.irrefl _ (hh _ _ hm) i hi)
      have ht := hs.le_root c nt top tl rfl hm
      simp only [List.getElem_cons_zero] at this
      omega
  · rcases hs.attained c rfl with h3 | ⟨nt, top, tl, hm, hc⟩
    · cases h3
    · exact ⟨nt, _, top, hm, List.mem_cons_self, hc⟩

end PS.Bee
