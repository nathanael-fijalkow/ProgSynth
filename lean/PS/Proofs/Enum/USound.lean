/- Soundness of the heap search on unambiguous grammars as a state invariant: everything stored for
   a non-terminal (heap, `hash_table_program`, `succ`, `max_priority`, `_keys`, the memo table of
   `compute_priority`, the start heap) is derivable from it and carries the priority of a derivation.
   Then the generator level (`start_query`, the k-way merge of the start symbols, `next`, `take`), and the
   hypotheses `GHyp` as Boolean checks on a literal grammar. -/
import PS.Proofs.Enum.USpec
import PS.Proofs.Enum.URun
namespace PS.UHS
open PS PS.G

set_option linter.unusedSectionVars false
variable {U π : Type} [DecidableEq U]

/-- hypotheses on the grammar table and the variant of the code:
    `rows` — a Python dict has no repeated key (`rules[S]`);
    `arity` — bucket search (`firstFit`) tries the alternatives of `rules[S][P]` in turn: they all have the
      arity of `P`;
    `kway` — the start heap is a k-way merge of the start symbols (`__push_next_from_start__`); the model's default
      `false` is u_heap_search.py before repair 7721229 (fixes_applied/C02-F2.diff), which /repo has -/
structure GHyp (E : Env U π) : Prop where
  rows : ∀ nt rs, AList.lookup nt E.G.rules = some rs → (AList.keys rs).Nodup
  arity : E.ops.firstFit = true → ∀ nt F v w v' w', (v, w) ∈ altsOf E nt F → (v', w') ∈ altsOf E nt F →
    v.length = v'.length
  kway : E.kway = true

/-- `_keys[S][program] = v`: `v` is an alternative of the head of `program` at `S` from which the
    arguments are derivable -/
def KeyOK (E : Env U π) (nt : UNT U) (F : Sym) (kids : List Prog) (v : List (UNT U)) : Prop :=
  (∃ w, (v, w) ∈ altsOf E nt F) ∧ DerList E kids v

theorem KeyOK.der {E : Env U π} {nt F kids v} (h : KeyOK E nt F kids v) : Der E (.node F kids) nt := by
  obtain ⟨⟨w, hm⟩, hl⟩ := h
  exact (der_node E F kids nt).mpr ⟨v, w, hm, hl⟩

structure SInv (E : Env U π) (s : St U π) : Prop where
  cache_ok : CacheOK E s.cache
  heap_prio : ∀ nt e, e ∈ s.heapOf nt → HasPrio E e.2 nt e.1
  heap_seen : ∀ nt e, e ∈ s.heapOf nt → e.2 ∈ s.seenOf nt
  seen_der : ∀ nt p, p ∈ s.seenOf nt → Der E p nt
  succ_seen : ∀ nt k v, AList.lookup k (s.succOf nt) = some v → v ∈ s.seenOf nt
  keys_ok : ∀ nt F kids v, AList.lookup (nt, .node F kids) s.keys = some v → KeyOK E nt F kids v
  maxNT_ok : ∀ nt m, AList.lookup nt s.maxNT = some m → Der E m nt
  maxRule_ok : ∀ nt P v m, AList.lookup (nt, P, v) s.maxRule = some m → Der E m nt
  start_ok : ∀ e, e ∈ s.startHeap →
    ∃ w pr, startW E e.2.2 = some w ∧ HasPrio E e.2.1 e.2.2 pr ∧ e.1 = E.ops.adjust pr w

theorem mem_of_pop {α : Type} (lt : α → α → Bool) (h : List α) (x : α) (h' : List α)
    (hp : Heapq.pop lt h = some (x, h')) : x ∈ h ∧ ∀ e ∈ h', e ∈ h :=
  Heapq.mem_of_pop lt h x h' hp

theorem SInv.setHeap {E : Env U π} {s : St U π} (h : SInv E s) (nt : UNT U) (h' : List (π × Prog))
    (hnew : ∀ e ∈ h', HasPrio E e.2 nt e.1 ∧ e.2 ∈ s.seenOf nt) : SInv E (s.setHeap nt h') := by
  refine { h with heap_prio := ?_, heap_seen := ?_ }
  all_goals
    intro nt' e he
    rw [St.heapOf_setHeap] at he
    split at he
  · rename_i heq; subst heq; exact (hnew e he).1
  · exact h.heap_prio nt' e he
  · rename_i heq; subst heq; exact (hnew e he).2
  · exact h.heap_seen nt' e he

theorem SInv.setHeap_sub {E : Env U π} {s : St U π} (h : SInv E s) (nt : UNT U)
    (h' : List (π × Prog)) (hsub : ∀ e ∈ h', e ∈ s.heapOf nt) : SInv E (s.setHeap nt h') :=
  h.setHeap nt h' fun e he => ⟨h.heap_prio nt e (hsub e he), h.heap_seen nt e (hsub e he)⟩

theorem SInv.setSucc {E : Env U π} {s : St U π} (h : SInv E s) (nt : UNT U)
    (k : Option Prog) (v : Prog) (hv : v ∈ s.seenOf nt) : SInv E (s.setSucc nt k v) := by
  refine { h with succ_seen := ?_ }
  intro nt' k' v' hk
  rw [St.succOf_setSucc] at hk
  split at hk
  · rename_i heq; subst heq
    rw [AList.lookup_insert] at hk
    split at hk
    · cases hk; exact hv
    · exact h.succ_seen _ k' v' hk
  · exact h.succ_seen nt' k' v' hk

theorem SInv.setPred {E : Env U π} {s : St U π} (h : SInv E s) (nt : UNT U) (k : Prog) (v : Option Prog) :
    SInv E (s.setPred nt k v) := { h with }

theorem SInv.setInit {E : Env U π} {s : St U π} (h : SInv E s) (l : List (UNT U)) : SInv E { s with initS := l } :=
  { h with }

theorem SInv.setDeleted {E : Env U π} {s : St U π} (h : SInv E s) (l : List Prog) : SInv E { s with deleted := l } :=
  { h with }

theorem SInv.setStartHeap {E : Env U π} {s : St U π} (h : SInv E s) (h' : List (π × Prog × UNT U))
    (hnew : ∀ e ∈ h', ∃ w pr, startW E e.2.2 = some w ∧ HasPrio E e.2.1 e.2.2 pr ∧ e.1 = E.ops.adjust pr w) :
    SInv E { s with startHeap := h' } :=
  { h with start_ok := hnew }

theorem SInv.setMaxNT {E : Env U π} {s : St U π} (h : SInv E s) {nt : UNT U} {m : Prog} (hd : Der E m nt) :
    SInv E { s with maxNT := AList.insert nt m s.maxNT } := by
  refine { h with maxNT_ok := ?_ }
  intro nt' m' hl
  rw [AList.lookup_insert] at hl
  split at hl
  · rename_i heq; cases hl; subst heq; exact hd
  · exact h.maxNT_ok nt' m' hl

theorem SInv.setMaxRule {E : Env U π} {s : St U π} (h : SInv E s) {nt : UNT U} (P : Sym) (v : List (UNT U)) {m : Prog}
    (hd : Der E m nt) : SInv E { s with maxRule := AList.insert (nt, P, v) m s.maxRule } := by
  refine { h with maxRule_ok := ?_ }
  intro nt' P' v' m' hl
  rw [AList.lookup_insert] at hl
  split at hl
  · rename_i heq; cases hl; cases heq; exact hd
  · exact h.maxRule_ok nt' P' v' m' hl

theorem SInv.cacheStep {E : Env U π} {s s' : St U π} (h : SInv E s) (hs : CacheStep s s')
    (hc : CacheOK E s'.cache) : SInv E s' := by
  obtain ⟨c, rfl⟩ := hs
  exact { h with cache_ok := hc }

theorem mem_seenOf_addSeen (s : St U π) (nt nt' : UNT U) (p q : Prog) :
    q ∈ (s.addSeen nt p).seenOf nt' ↔ q ∈ s.seenOf nt' ∨ (nt' = nt ∧ q = p) := by
  rw [St.seenOf_addSeen]
  split
  · rename_i heq; subst heq; simp
  · rename_i hne; simp [hne]

theorem mem_addSeen_self (s : St U π) (nt : UNT U) (p : Prog) : p ∈ (s.addSeen nt p).seenOf nt :=
  (mem_seenOf_addSeen s nt nt p p).mpr (Or.inr ⟨rfl, rfl⟩)

theorem SInv.addSeen {E : Env U π} {s : St U π} (h : SInv E s) (nt : UNT U) (p : Prog) (hd : Der E p nt) :
    SInv E (s.addSeen nt p) := by
  refine { h with heap_seen := ?_, seen_der := ?_, succ_seen := ?_ }
  · intro nt' e he
    exact (mem_seenOf_addSeen s nt nt' p e.2).mpr (Or.inl (h.heap_seen nt' e he))
  · intro nt' q hq
    rcases (mem_seenOf_addSeen s nt nt' p q).mp hq with hq | ⟨rfl, rfl⟩
    · exact h.seen_der nt' q hq
    · exact hd
  · intro nt' k v hk
    exact (mem_seenOf_addSeen s nt nt' p v).mpr (Or.inl (h.succ_seen nt' k v hk))

theorem SInv.setKey {E : Env U π} {s : St U π} (h : SInv E s) (nt : UNT U) (F : Sym) (kids : List Prog)
    (v : List (UNT U)) (hk : KeyOK E nt F kids v) :
    SInv E { s with keys := AList.insert (nt, .node F kids) v s.keys } := by
  refine { h with keys_ok := ?_ }
  intro nt' F' kids' v' hl
  rw [AList.lookup_insert] at hl
  split at hl
  · rename_i heq
    cases hl
    cases heq
    exact hk
  · exact h.keys_ok nt' F' kids' v' hl

theorem SInv.pushBoth {E : Env U π} (H : GHyp E) {s : St U π} (h : SInv E s) (nt : UNT U) (pr : π) (p : Prog)
    (hp : HasPrio E p nt pr) (hs : p ∈ s.seenOf nt) : SInv E (pushBoth E s nt pr p) := by
  rw [pushBoth_kway E H.kway]
  split
  · refine h.setHeap nt _ fun e he => ?_
    rcases List.mem_cons.mp ((Heapq.push_perm (ltE E.ops) _ (pr, p)).subset he) with rfl | hm
    · exact ⟨hp, hs⟩
    · exact ⟨h.heap_prio nt e hm, h.heap_seen nt e hm⟩
  · exact h

theorem SInv.computePrio {E : Env U π} (H : GHyp E) {s : St U π} (h : SInv E s) (nt : UNT U) (p : Prog)
    (hd : Der E p nt) (s' : St U π) (pr : π) (hc : UHS.computePrio E s nt p = some (s', pr)) :
    HasPrio E p nt pr ∧ SInv E s' ∧ CacheStep s s' := by
  have := computePrio_spec E s h.cache_ok nt p hd ?_ ?_ s' pr hc
  · exact ⟨this.1, h.cacheStep this.2.2 this.2.1, this.2.2⟩
  · intro F kids v hp hl
    subst hp
    exact derList_length E _ _ (h.keys_ok nt F kids v hl).2
  · intro hff F kids v w hp hm _
    subst hp
    obtain ⟨v0, w0, hm0, hl0⟩ := (der_node E F kids nt).mp hd
    rw [derList_length E _ _ hl0]
    exact H.arity hff nt F v0 w0 v w hm0 hm

theorem computePrio_step (E : Env U π) {s s' : St U π} {nt : UNT U} {p : Prog} {pr : π}
    (hcp : UHS.computePrio E s nt p = some (s', pr)) : CacheStep s s' := by
  rcases computePrio_shape hcp with ⟨_, rfl⟩ | rfl
  · exact ⟨_, rfl⟩
  · exact ⟨_, rfl⟩

theorem CacheStep.seenOf {s s' : St U π} (h : CacheStep s s') (nt : UNT U) : s'.seenOf nt = s.seenOf nt := by
  obtain ⟨c, rfl⟩ := h; rfl
theorem CacheStep.keys {s s' : St U π} (h : CacheStep s s') : s'.keys = s.keys := by
  obtain ⟨c, rfl⟩ := h; rfl

theorem pushStep_fields (E : Env U π) (hk : E.kway = true) {s s3 : St U π} {F args nt v i r}
    (hp : pushStep E s F args nt v i r = some s3) :
    ∃ hs sn ks c, s3 = { s with heaps := hs, seen := sn, keys := ks, cache := c } := by
  rcases pushStep_eq hp with ⟨rfl, _⟩ | ⟨q, s2, pr, _, _, hcp, rfl⟩
  · exact ⟨_, _, _, _, rfl⟩
  · obtain ⟨c, rfl⟩ := computePrio_step E hcp
    obtain ⟨hs, e⟩ := pushBoth_heaps E hk _ nt pr (.node F (args.set i q))
    exact ⟨hs, _, _, _, e⟩

theorem initPush_fields (E : Env U π) (hk : E.kway = true) {nt : UNT U} {l : List (Sym × List (UNT U))} {s s' : St U π}
    (hp : initPush E s nt l = some s') :
    ∃ hs sn ks c, s' = { s with heaps := hs, seen := sn, keys := ks, cache := c } := by
  refine initPush_induct (I := fun s' => ∃ hs sn ks c, s' = { s with heaps := hs, seen := sn, keys := ks, cache := c })
    ?_ l ⟨_, _, _, _, rfl⟩ hp
  rintro _ _ _ prog s1 pr ⟨_, _, _, _, rfl⟩ _ _ hcp _
  obtain ⟨c, rfl⟩ := computePrio_step E hcp
  obtain ⟨hs, e⟩ := pushBoth_heaps E hk _ nt pr prog
  exact ⟨hs, _, _, _, e⟩

theorem SInv.newPush {E : Env U π} (H : GHyp E) {s s2 : St U π} (h : SInv E s) {nt : UNT U} {p : Prog} {pr : π}
    (hd : Der E p nt) (hs : p ∈ s.seenOf nt) (hcp : UHS.computePrio E s nt p = some (s2, pr)) :
    HasPrio E p nt pr ∧ SInv E s2 ∧ SInv E (UHS.pushBoth E s2 nt pr p) := by
  obtain ⟨hpr, h2, hcs⟩ := h.computePrio H nt p hd s2 pr hcp
  exact ⟨hpr, h2, h2.pushBoth H nt pr p hpr (by rw [hcs.seenOf]; exact hs)⟩

theorem SInv.pushStep {E : Env U π} (H : GHyp E) {s : St U π} (h : SInv E s) (F : Sym) (args : List Prog)
    (nt : UNT U) (v : List (UNT U)) (i : Nat) (r : Option Prog)
    (hk : ∀ q, r = some q → KeyOK E nt F (args.set i q) v)
    (s' : St U π) (hp : pushStep E s F args nt v i r = some s') : SInv E s' := by
  rcases pushStep_eq hp with ⟨rfl, _⟩ | ⟨q, s2, pr, rfl, _, hcp, rfl⟩
  · exact h
  · have hko := hk q rfl
    exact (((h.addSeen nt _ hko.der).setKey nt F _ v hko).newPush H hko.der (mem_addSeen_self s nt _) hcp).2.2

/-- what is pushed is derivable from `S` because `maxRule` only holds such programs -/
theorem SInv.initPush {E : Env U π} (H : GHyp E) (nt : UNT U) (l : List (Sym × List (UNT U))) {s s' : St U π}
    (h : SInv E s) (hp : initPush E s nt l = some s') : SInv E s' :=
  initPush_induct (I := SInv E) (fun {s P v prog} _ _ h hm _ hcp _ =>
    have hd := h.maxRule_ok nt P v prog hm
    ((h.addSeen nt prog hd).newPush H hd (mem_addSeen_self s nt prog) hcp).2.2) l h hp

/-- What `big_sound` asks of the arguments of a call besides `SInv` of the state: the argument loop of
    `__add_successors_to_heap__` runs on a program with a valid key; the scan of the rules of `__init_non_terminal__`
    runs on rows, resp. alternatives, of the rule table of `nt`, and the best program so far is derivable from `nt`. -/
def SPre (E : Env U π) : Call U π → Prop
  | .addLoop F args nt v _ => KeyOK E nt F args v
  | .initRules nt rs best => (∀ x ∈ rs, altsOf E nt x.1 = x.2) ∧ ∀ b, best = some b → Der E b.1 nt
  | .initAlts nt P alts best => (∀ vw ∈ alts, vw ∈ altsOf E nt P) ∧ ∀ b, best = some b → Der E b.1 nt
  | _ => True

def ResDer (E : Env U π) (nt : UNT U) : Res π → Prop
  | .prog r => ∀ q, r = some q → Der E q nt
  | .best b' => ∀ b, b' = some b → Der E b.1 nt
  | .args _ => True

/-- What `big_sound` gives of the result of a call. For `initArgs` it is stated for any `v0` the accumulator is derived
    from: the list is built by appending. -/
def SPost (E : Env U π) : Call U π → Res π → Prop
  | .query nt _, r => ResDer E nt r
  | .lop nt _, r => ResDer E nt r
  | .popLoop nt _, r => ResDer E nt r
  | .initRules nt _ _, r => ResDer E nt r
  | .initAlts nt _ _ _, r => ResDer E nt r
  | .initArgs v acc, .args l => ∀ v0, DerList E acc v0 → DerList E l (v0 ++ v)
  | _, _ => True

theorem bestUpd_der (E : Env U π) (nt : UNT U) (best : Option (Prog × π)) (prog : Prog) (pr : π)
    (hb : ∀ b, best = some b → Der E b.1 nt) (hp : Der E prog nt) :
    ∀ b, bestUpd E.ops.lt best prog pr = some b → Der E b.1 nt := by
  intro b hbu
  unfold bestUpd at hbu
  cases best with
  | none => simp only [Option.some.injEq] at hbu; subst hbu; exact hp
  | some b0 =>
    simp only at hbu
    split at hbu
    · simp only [Option.some.injEq] at hbu; subst hbu; exact hp
    · simp only [Option.some.injEq] at hbu; subst hbu; exact hb _ rfl

/-- one alternative in the scan of the rules of `__init_non_terminal__` (comment `# 1)` of the Python code): the
    program built from the best arguments gets its key, its priority, and enters `maxRule` -/
theorem SInv.altStep {E : Env U π} (H : GHyp E) {s1 s3 : St U π} (h : SInv E s1) (nt : UNT U) (P : Sym)
    (v : List (UNT U)) (w : Rat) (arguments : List Prog) (pr : π) (hm : (v, w) ∈ altsOf E nt P)
    (hl : DerList E arguments v)
    (hc : UHS.computePrio E { s1 with keys := AList.insert (nt, .node P arguments) v s1.keys } nt (.node P arguments)
      = some (s3, pr)) :
    SInv E { s3 with maxRule := AList.insert (nt, P, v) (.node P arguments) s3.maxRule } ∧
      Der E (.node P arguments) nt := by
  have hko : KeyOK E nt P arguments v := ⟨⟨w, hm⟩, hl⟩
  obtain ⟨_, h2, _⟩ := (h.setKey nt P arguments v hko).computePrio H nt _ hko.der s3 pr hc
  exact ⟨h2.setMaxRule P v hko.der, hko.der⟩

theorem rows_alts {E : Env U π} (H : GHyp E) {nt : UNT U} {rs} (hrs : AList.lookup nt E.G.rules = some rs) :
    ∀ x ∈ rs, altsOf E nt x.1 = x.2 :=
  fun x hx => altsOf_of_lookup hrs (AList.lookup_of_mem_nodup (H.rows nt rs hrs) (show (x.1, x.2) ∈ rs from hx))

/-- the state after a pop that is recorded as the successor of `key` -/
def St.popTake (s : St U π) (nt : UNT U) (key : Option Prog) (e : π × Prog) (h' : List (π × Prog)) : St U π :=
  ((s.setHeap nt h').setSucc nt key e.2).setPred nt e.2 key

theorem SInv.popTake {E : Env U π} {lt : π × Prog → π × Prog → Bool} {s : St U π} (h : SInv E s) {nt : UNT U} {e : π × Prog}
    {h' : List (π × Prog)} (hp : Heapq.pop lt (s.heapOf nt) = some (e, h')) (key : Option Prog) :
    SInv E (s.popTake nt key e h') :=
  have ⟨hm, hsub⟩ := mem_of_pop _ _ _ _ hp
  ((h.setHeap_sub nt h' hsub).setSucc nt key e.2 (h.heap_seen _ _ hm)).setPred nt e.2 key

theorem SInv.popDrop {E : Env U π} {lt : π × Prog → π × Prog → Bool} {s : St U π} (h : SInv E s) {nt : UNT U} {e : π × Prog}
    {h' : List (π × Prog)} (hp : Heapq.pop lt (s.heapOf nt) = some (e, h')) : SInv E (s.setHeap nt h') :=
  h.setHeap_sub _ _ (mem_of_pop _ _ _ _ hp).2

theorem SPre.tail {E : Env U π} {nt : UNT U} {P : Sym} {x} {rest : List (List (UNT U) × Rat)} {best best' : Option (Prog × π)}
    (h : SPre E (.initAlts nt P (x :: rest) best)) (hb : ∀ b, best' = some b → Der E b.1 nt) :
    SPre E (.initAlts nt P rest best') :=
  ⟨fun vw hvw => h.1 vw (List.mem_cons_of_mem _ hvw), hb⟩

theorem SPre.rulesHead {E : Env U π} {nt : UNT U} {P : Sym} {alts rest} {best : Option (Prog × π)}
    (h : SPre E (.initRules nt ((P, alts) :: rest) best)) : SPre E (.initAlts nt P alts best) :=
  ⟨fun _ hvw => h.1 (P, alts) List.mem_cons_self ▸ hvw, h.2⟩

theorem SPre.rulesTail {E : Env U π} {nt : UNT U} {x} {rest : List (Sym × List (List (UNT U) × Rat))}
    {best best' : Option (Prog × π)} (h : SPre E (.initRules nt (x :: rest) best)) (hb : ∀ b, best' = some b → Der E b.1 nt) :
    SPre E (.initRules nt rest best') :=
  ⟨fun y hy => h.1 y (List.mem_cons_of_mem _ hy), hb⟩

theorem big_sound (E : Env U π) (H : GHyp E) {c : Call U π} {s s' : St U π} {r : Res π}
    (hb : Big E c s s' r) : SInv E s → SPre E c → SInv E s' ∧ SPost E c r := by
  induction hb with
  | query_direct h hb ih => intro hi _; exact ih hi trivial
  | query_init h h0 hb ih0 ih => intro hi _; exact ih (ih0 hi trivial).1 trivial
  | lop_hit h =>
    intro hi _
    refine ⟨hi, ?_⟩
    intro q hq; cases hq
    exact hi.seen_der _ _ (hi.succ_seen _ _ _ h)
  | lop_miss h hb ih => intro hi _; exact ih hi trivial
  | pop_empty h => intro hi _; exact ⟨hi, by intro q hq; cases hq⟩
  | pop_deleted h hd ha hb iha ihb =>
    intro hi _
    exact ihb (iha (hi.popDrop h) trivial).1 trivial
  | @pop_take s s' nt key e h' x h hd ha iha =>
    intro hi _
    refine ⟨(iha (hi.popTake h key) trivial).1, ?_⟩
    intro q hq; cases hq
    exact hi.seen_der _ _ (hi.heap_seen _ _ (mem_of_pop _ _ _ _ h).1)
  | succ_leaf => intro hi _; exact ⟨hi, trivial⟩
  | succ_fun hk hb ih =>
    intro hi _
    exact ⟨(ih hi (hi.keys_ok _ _ _ _ hk)).1, trivial⟩
  | loop_done => intro hi _; exact ⟨hi, trivial⟩
  | @loop_step s s1 s3 s' F args nt v i ai si r x hai hsi hq hp hb ihq ihb =>
    intro hi hpre
    obtain ⟨hi1, hpost⟩ := ihq hi trivial
    have hpre' : KeyOK E nt F args v := hpre
    have hstep : SInv E s3 := hi1.pushStep H F args nt v i r
      (fun q hq' => ⟨hpre'.1, derList_set E args v i q si hpre'.2 hsi (hpost q hq')⟩) s3 hp
    exact ⟨(ihb hstep hpre').1, trivial⟩
  | init_skip h => intro hi _; exact ⟨hi, trivial⟩
  | @init_run s s1 s3 s' nt rs b r h hrs hr hp hq ihr ihq =>
    intro hi _
    obtain ⟨h1, hbest⟩ := ihr (hi.setInit _) ⟨rows_alts H hrs, by intro b hb; cases hb⟩
    exact ⟨(ihq (SInv.initPush H nt _ (h1.setMaxNT (hbest b rfl)) hp) trivial).1, trivial⟩
  | rules_nil => intro hi hpre; exact ⟨hi, hpre.2⟩
  | @rules_cons s s1 s' nt P alts rest best best1 best' ha hb iha ihb =>
    intro hi hpre
    obtain ⟨h1, hb1⟩ := iha hi hpre.rulesHead
    exact ihb h1 (hpre.rulesTail hb1)
  | alts_nil => intro hi hpre; exact ⟨hi, hpre.2⟩
  | @alts_leaf s s1 s3 nt P v w rest best arguments pr ha hc hv iha =>
    intro hi hpre
    obtain ⟨h1, hargs⟩ := iha hi trivial
    have hl : DerList E arguments v := by simpa using hargs [] trivial
    obtain ⟨h2, hd⟩ := h1.altStep H nt P v w arguments pr (hpre.1 _ List.mem_cons_self) hl hc
    exact ⟨h2, bestUpd_der E nt best _ pr hpre.2 hd⟩
  | @alts_cons s s1 s3 s' nt P v w rest best arguments pr best' ha hc hv hb iha ihb =>
    intro hi hpre
    obtain ⟨h1, hargs⟩ := iha hi trivial
    have hl : DerList E arguments v := by simpa using hargs [] trivial
    obtain ⟨h2, hd⟩ := h1.altStep H nt P v w arguments pr (hpre.1 _ List.mem_cons_self) hl hc
    exact ihb h2 (hpre.tail (bestUpd_der E nt best _ pr hpre.2 hd))
  | args_nil =>
    intro hi _
    refine ⟨hi, ?_⟩
    intro v0 h0
    simpa using h0
  | @args_cons s s1 s' si v acc m r0 l hi' hm hb ihi ihb =>
    intro hi _
    obtain ⟨h1, _⟩ := ihi hi trivial
    obtain ⟨h2, hpost⟩ := ihb h1 trivial
    refine ⟨h2, ?_⟩
    intro v0 h0
    have := hpost (v0 ++ [si]) (derList_append E acc v0 m si h0 (h1.maxNT_ok si m hm))
    simpa using this

/-! ### the soundness facts a later rule induction needs at each rule -/

section Rules
variable {E : Env U π} (H : GHyp E)
include H

theorem SInv.loopStep {s s1 s3 : St U π} {F : Sym} {args : List Prog} {nt : UNT U} {v : List (UNT U)} {i : Nat} {ai : Prog}
    {si : UNT U} {r : Option Prog} (hs : SInv E s) (hko : KeyOK E nt F args v) (hsi : v[i]? = some si)
    (hq : Big E (.query si (some ai)) s s1 (.prog r)) (hp : UHS.pushStep E s1 F args nt v i r = some s3) :
    SInv E s1 ∧ (∀ q, r = some q → KeyOK E nt F (args.set i q) v) ∧ SInv E s3 := by
  obtain ⟨hs1, hpost⟩ := big_sound E H hq hs trivial
  have hkq : ∀ q, r = some q → KeyOK E nt F (args.set i q) v :=
    fun q hq' => ⟨hko.1, derList_set E args v i q si hko.2 hsi (hpost q hq')⟩
  exact ⟨hs1, hkq, hs1.pushStep H F args nt v i r hkq s3 hp⟩

theorem SInv.initRun {s s1 s3 : St U π} {nt : UNT U} {rs} {b : Prog × π} {l} (hs : SInv E s)
    (hrs : AList.lookup nt E.G.rules = some rs)
    (hr : Big E (.initRules nt rs none) { s with initS := s.initS ++ [nt] } s1 (.best (some b)))
    (hp : UHS.initPush E { s1 with maxNT := AList.insert nt b.1 s1.maxNT } nt l = some s3) :
    SInv E { s with initS := s.initS ++ [nt] } ∧ SPre E (.initRules nt rs none) ∧ SInv E s1 ∧
      SInv E { s1 with maxNT := AList.insert nt b.1 s1.maxNT } ∧ SInv E s3 := by
  have hpre : SPre E (.initRules nt rs none) := ⟨rows_alts H hrs, by intro b hb; cases hb⟩
  obtain ⟨hs1, hbest⟩ := big_sound E H hr (hs.setInit _) hpre
  have hs2 := hs1.setMaxNT (hbest b rfl)
  exact ⟨hs.setInit _, hpre, hs1, hs2, SInv.initPush H nt _ hs2 hp⟩

theorem SInv.rulesCons {s s1 : St U π} {nt : UNT U} {P : Sym} {alts rest} {best best1 : Option (Prog × π)} (hs : SInv E s)
    (hpre : SPre E (.initRules nt ((P, alts) :: rest) best)) (ha : Big E (.initAlts nt P alts best) s s1 (.best best1)) :
    SPre E (.initAlts nt P alts best) ∧ SInv E s1 ∧ SPre E (.initRules nt rest best1) := by
  obtain ⟨hs1, hb1⟩ := big_sound E H ha hs hpre.rulesHead
  exact ⟨hpre.rulesHead, hs1, hpre.rulesTail hb1⟩

/-- for the rules `alts_leaf` and `alts_cons` of `Big`, which share their first three premises -/
theorem SInv.altsCons {s s1 s3 : St U π} {nt : UNT U} {P : Sym} {v : List (UNT U)} {w : Rat} {rest} {best : Option (Prog × π)}
    {arguments : List Prog} {pr : π} (hs : SInv E s) (hpre : SPre E (.initAlts nt P ((v, w) :: rest) best))
    (ha : Big E (.initArgs v []) s s1 (.args arguments))
    (hc : UHS.computePrio E { s1 with keys := AList.insert (nt, .node P arguments) v s1.keys } nt (.node P arguments)
      = some (s3, pr)) :
    SInv E s1 ∧ DerList E arguments v ∧
      SInv E { s3 with maxRule := AList.insert (nt, P, v) (.node P arguments) s3.maxRule } ∧
      SPre E (.initAlts nt P rest (bestUpd E.ops.lt best (.node P arguments) pr)) := by
  obtain ⟨hs1, hargs⟩ := big_sound E H ha hs trivial
  have hl : DerList E arguments v := by simpa using hargs [] trivial
  obtain ⟨hs2, hd⟩ := hs1.altStep H nt P v w arguments pr (hpre.1 _ List.mem_cons_self) hl hc
  exact ⟨hs1, hl, hs2, hpre.tail (bestUpd_der E nt best _ pr hpre.2 hd)⟩

end Rules

theorem sinv_empty (E : Env U π) : SInv E (St.empty E.G) := by
  refine ⟨?_, ?_, ?_, ?_, ?_, ?_, ?_, ?_, ?_⟩
  · intro p nt pr h; cases h
  · intro nt e he; rw [St.empty_heapOf] at he; cases he
  · intro nt e he; rw [St.empty_heapOf] at he; cases he
  · intro nt p hp; rw [St.empty_seenOf] at hp; cases hp
  · intro nt k v hk; rw [St.empty_succOf] at hk; cases hk
  · intro nt F kids v h; cases h
  · intro nt m h; cases h
  · intro nt P v m h; cases h
  · intro e he; cases he

theorem SInv.pushNext {E : Env U π} (H : GHyp E) {fuel : Nat} {s s' : St U π} {start : UNT U} {p : Option Prog}
    (h : SInv E s) (hp : pushNext E fuel s start p = some s') : SInv E s' := by
  obtain ⟨s1, r, hq, hr⟩ := pushNext_eq hp
  obtain ⟨h1, hpost⟩ := big_sound E H (big_of_query E hq) h trivial
  rcases hr with ⟨_, rfl⟩ | ⟨q, s2, pr, w, rfl, hcp, hw, rfl⟩
  · exact h1
  · obtain ⟨hpr, h2, _⟩ := h1.computePrio H start q (hpost q rfl) s2 pr hcp
    refine h2.setStartHeap _ fun e he => ?_
    rcases List.mem_cons.mp ((Heapq.push_perm (ltS E.ops) _ _).subset he) with rfl | hm
    · exact ⟨w, pr, hw, hpr, rfl⟩
    · exact h2.start_ok e hm

theorem SInv.pushNexts {E : Env U π} (H : GHyp E) {fuel : Nat} (l : List (UNT U)) {s s' : St U π}
    (h : SInv E s) (hp : pushNexts E fuel l s = some s') : SInv E s' :=
  pushNexts_induct (fun _ s => SInv E s) (fun h h1 => h.pushNext H h1) l h hp

def DerStart (E : Env U π) (p : Prog) : Prop := ∃ nt w, startW E nt = some w ∧ Der E p nt

theorem SInv.popStart {E : Env U π} {s : St U π} (h : SInv E s) {e : π × Prog × UNT U} {h' : List (π × Prog × UNT U)}
    (hpop : Heapq.pop (ltS E.ops) s.startHeap = some (e, h')) : SInv E { s with startHeap := h' } :=
  h.setStartHeap h' fun e he => h.start_ok e ((mem_of_pop _ _ _ _ hpop).2 e he)

theorem SInv.kwayLoop {E : Env U π} (H : GHyp E) {fuel : Nat} (k : Nat) {s s' : St U π} {r : Option Prog}
    (h : SInv E s) (hp : kwayLoop E fuel k s = some (s', r)) : SInv E s' ∧ ∀ p, r = some p → DerStart E p := by
  obtain ⟨h', hr⟩ := kwayLoop_induct (fun s => SInv E s) (fun h hpop hpn => (h.popStart hpop).pushNext H hpn) k h hp
  refine ⟨h', fun p hp => ?_⟩
  obtain ⟨s0, e, _, h0, hpop, rfl⟩ := hr p hp
  obtain ⟨w, pr, hw, hpr, _⟩ := h0.start_ok e (mem_of_pop _ _ _ _ hpop).1
  exact ⟨e.2.2, w, hw, pr, hpr⟩

theorem SInv.startQuery {E : Env U π} (H : GHyp E) {fuel : Nat} {s s' : St U π} {r : Option Prog}
    (h : SInv E s) (hp : startQuery E fuel s = some (s', r)) : SInv E s' ∧ ∀ p, r = some p → DerStart E p := by
  obtain ⟨s1, ⟨_, h1⟩ | ⟨_, rfl⟩, hl⟩ := startQuery_kway H.kway hp
  · exact SInv.kwayLoop H fuel (h.pushNexts H _ h1) hl
  · exact SInv.kwayLoop H fuel h hl

theorem SInv.addDeleted {E : Env U π} {s : St U π} (h : SInv E s) (p : Prog) : SInv E (s.addDeleted p) := by
  obtain ⟨d, hd⟩ := St.addDeleted_eq s p
  exact hd ▸ h.setDeleted d

theorem SInv.next {E : Env U π} (H : GHyp E) {fuel : Nat} : ∀ (k : Nat) {s s' : St U π} {r : Option Prog},
    SInv E s → next E fuel k s = some (s', r) → SInv E s' ∧ ∀ p, r = some p → DerStart E p := by
  intro k s s' r h hp
  obtain ⟨h', hr⟩ := next_induct (fun s => SInv E s) (fun h hq => (h.startQuery H hq).1) (fun p h => h.addDeleted p) k h hp
  refine ⟨h', fun p hp => ?_⟩
  obtain ⟨s0, h0, hq⟩ := hr p hp
  exact (h0.startQuery H hq).2 p rfl

theorem SInv.take {E : Env U π} (H : GHyp E) {fuel : Nat} : ∀ (k : Nat) {s s' : St U π} {acc out : List Prog} {b : Bool},
    SInv E s → (∀ p ∈ acc, DerStart E p) → take E fuel k s acc = some (s', out, b) →
    SInv E s' ∧ ∀ p ∈ out, DerStart E p := by
  intro k s s' acc out b h hacc hp
  refine Iter.take_inv (I := fun s acc => SInv E s ∧ ∀ p ∈ acc, DerStart E p) ?_ k s acc _ ⟨h, hacc⟩ (take_eq E fuel k s acc ▸ hp)
  intro s acc s1 o ⟨h, hacc⟩ hn
  obtain ⟨h1, hd⟩ := h.next H fuel hn
  refine ⟨h1, fun q hq => ?_⟩
  rcases List.mem_append.mp hq with hq | hq
  · exact hacc q hq
  · exact hd q (Option.mem_toList.mp hq)

/-! ### the hypotheses as Boolean checks on a literal grammar -/

def rowsB (G : UG U) : Bool := G.rules.all (fun r => decide (AList.keys r.2).Nodup)
def arityB (G : UG U) : Bool :=
  G.rules.all (fun r => r.2.all (fun a => a.2.all (fun x => a.2.all (fun y => x.1.length == y.1.length))))

theorem GHyp.of_checks (E : Env U π) (h1 : rowsB E.G = true) (h2 : arityB E.G = true) (h3 : E.kway = true) :
    GHyp E := by
  refine ⟨?_, ?_, h3⟩
  · intro nt rs hl
    have := List.all_eq_true.mp h1 (nt, rs) (AList.lookup_some_mem hl)
    simpa using this
  · intro _ nt F v w v' w' hm hm'
    obtain ⟨rs, hl, hl2⟩ := altsOf_row E nt F _ hm
    have r1 := List.all_eq_true.mp h2 (nt, rs) (AList.lookup_some_mem hl)
    have r2 := List.all_eq_true.mp r1 (F, _) (AList.lookup_some_mem hl2)
    have r3 := List.all_eq_true.mp r2 (v, w) hm
    have r4 := List.all_eq_true.mp r3 (v', w') hm'
    simpa using r4

end PS.UHS
