/- The frontier argument of heap search: in a quiescent state every program that has to come out of a non-terminal
   was popped for it, or its heap holds a program that is not worse.  The tables of a state are seen through a small
   interface (`Sys`), and what the machines' invariants give is the list of laws `Quiet`; no machine, no state type and
   no priority type occurs here.  The programs popped for a non-terminal are numbered in pop order (`pos`), which is all
   the chain structure the argument uses.  Instances (`quiet_sysOf`): the unambiguous-grammar machine, the deterministic
   one with threshold and filter, and heap search without the order (every program "not worse" than every other, enough
   for an exhausted non-terminal).
   At the end, `HG.clean f p` (the filter accepts `p` and all its sub-programs), which the instances with a filter share. -/
import PS.Model.Grammar
import PS.Proofs.Tree
namespace PS


theorem getElem?_set_cases {α : Type} {l : List α} {i j : Nat} {x y : α} (h : (l.set i x)[j]? = some y) :
    (j = i ∧ y = x) ∨ (j ≠ i ∧ l[j]? = some y) := by
  by_cases hji : j = i
  · subst hji
    rw [List.getElem?_set] at h
    simp only [if_true] at h
    split at h
    · exact Or.inl ⟨rfl, (Option.some.inj h).symm⟩
    · cases h
  · rw [List.getElem?_set_ne (Ne.symm hji)] at h
    exact Or.inr ⟨hji, h⟩

theorem exists_ne_of_ne {α : Type} : ∀ (a b : List α), a.length = b.length → a ≠ b →
    ∃ (j : Nat) (x y : α), a[j]? = some x ∧ b[j]? = some y ∧ x ≠ y
  | [], [], _, h => absurd rfl h
  | [], _ :: _, h, _ => by simp at h
  | _ :: _, [], h, _ => by simp at h
  | x :: a, y :: b, hl, hne => by
    by_cases hxy : x = y
    · subst hxy
      obtain ⟨j, x', y', h1, h2, h3⟩ := exists_ne_of_ne a b (by simpa using hl) (by intro e; apply hne; rw [e])
      exact ⟨j + 1, x', y', h1, h2, h3⟩
    · exact ⟨0, x, y, rfl, rfl, hxy⟩

theorem idxOf_inj {α : Type} [DecidableEq α] (l : List α) (a b : α) (ha : a ∈ l) (hb : b ∈ l) (h : l.idxOf a = l.idxOf b) :
    a = b := by
  have h1 := List.getElem_idxOf (List.idxOf_lt_length_iff.mpr ha)
  have h2 := List.getElem_idxOf (List.idxOf_lt_length_iff.mpr hb)
  rw [← h1, ← h2]
  simp only [h]

theorem idxOf_cons_ne {α : Type} [DecidableEq α] (l : List α) (a x : α) (h : x ≠ a) :
    (a :: l).idxOf x = l.idxOf x + 1 := by
  rw [List.idxOf_cons]
  have : (a == x) = false := by simpa using Ne.symm h
  rw [this]; rfl

theorem idxOf_snoc_self {α : Type} [DecidableEq α] : ∀ (l : List α) (x : α), x ∉ l → (l ++ [x]).idxOf x = l.length
  | [], x, _ => by simp
  | a :: l, x, h => by
    have hne : x ≠ a := fun e => h (e ▸ List.mem_cons_self)
    rw [List.cons_append, idxOf_cons_ne _ _ _ hne, idxOf_snoc_self l x (fun hm => h (List.mem_cons_of_mem _ hm))]
    rfl

theorem rel_of_idxOf_le {α : Type} [DecidableEq α] {R : α → α → Prop} {l : List α} (hp : l.Pairwise R)
    (hr : ∀ x ∈ l, R x x) {x y : α} (hx : x ∈ l) (hy : y ∈ l) (h : l.idxOf x ≤ l.idxOf y) : R x y := by
  rcases Nat.lt_or_eq_of_le h with hlt | heq
  · have := List.pairwise_iff_getElem.mp hp _ _ (List.idxOf_lt_length_iff.mpr hx) (List.idxOf_lt_length_iff.mpr hy) hlt
    rwa [List.getElem_idxOf, List.getElem_idxOf] at this
  · rw [idxOf_inj _ x y hx hy heq]
    exact hr y hy

end PS

namespace PS.Frontier
open PS PS.G

/-- the tables of one state, per non-terminal, and the grammar as the argument needs it -/
structure Sys (NT : Type) where
  rank : NT → Nat
  /-- the programs that have to come out of `nt`: derivable, accepted by the filter with all their sub-programs, passing
      the threshold -/
  Mem : NT → Prog → Prop
  /-- not worse (comes first or ties) -/
  le : NT → Prog → Prog → Prop
  /-- `F` has a rule / an alternative at `nt` with these argument non-terminals -/
  Alt : NT → Sym → List NT → Prop
  /-- recorded in `succ[nt]`, with its number in pop order; `len` is the number of programs popped -/
  popped : NT → Prog → Prop
  pos : NT → Prog → Nat
  len : NT → Nat
  heap : NT → Prog → Prop
  /-- `hash_table_program[nt]` -/
  seen : NT → Prog → Prop

variable {NT : Type} (T : Sys NT)

/-- what the invariants of a quiescent state give -/
structure Quiet : Prop where
  mem_node : ∀ {nt F b}, T.Mem nt (.node F b) → ∃ v, T.Alt nt F v ∧ b.length = v.length ∧
    ∀ (j : Nat) bj sj, b[j]? = some bj → v[j]? = some sj → T.Mem sj bj
  acyclic : ∀ {nt F v}, T.Alt nt F v → ∀ sj ∈ v, T.rank sj < T.rank nt
  le_trans : ∀ {nt x e y}, T.heap nt e → T.le nt x e → T.le nt e y → T.le nt x y
  /-- the successor chain is sorted -/
  le_pos : ∀ {nt x y}, T.popped nt x → T.popped nt y → T.pos nt x ≤ T.pos nt y → T.le nt x y
  /-- the priority is monotone in every argument -/
  mono : ∀ {nt F v a b}, T.Alt nt F v → a.length = v.length →
    (∀ (j : Nat) aj sj, a[j]? = some aj → v[j]? = some sj → T.popped sj aj) → b.length = v.length →
    (∀ (j : Nat) bj sj, b[j]? = some bj → v[j]? = some sj → T.Mem sj bj) →
    (∀ (j : Nat) aj bj sj, a[j]? = some aj → b[j]? = some bj → v[j]? = some sj → T.le sj aj bj) →
    T.le nt (.node F a) (.node F b)
  /-- the pops come in order: nothing the heap still holds is better than a popped program -/
  heap_le : ∀ {nt x e}, T.popped nt x → T.heap nt e → T.le nt x e
  pos_inj : ∀ {nt x y}, T.popped nt x → T.popped nt y → T.pos nt x = T.pos nt y → x = y
  pos_lt : ∀ {nt x}, T.popped nt x → T.pos nt x < T.len nt
  /-- the program of the first pops of the arguments was pushed for every rule whose argument non-terminals have
      all started -/
  initial : ∀ {nt F v}, T.Alt nt F v → (∀ sj ∈ v, ∃ x, T.popped sj x ∨ T.heap sj x) →
    ∃ a0, T.seen nt (.node F a0) ∧ a0.length = v.length ∧
    ∀ (j : Nat) aj sj, a0[j]? = some aj → v[j]? = some sj → T.popped sj aj ∧ T.pos sj aj = 0
  /-- what was pushed is in the heap, was popped, or does not have to come out (`Tables.Cover`) -/
  cover : ∀ {nt p}, T.seen nt p → T.heap nt p ∨ T.popped nt p ∨ ¬ T.Mem nt p
  /-- every argument position of a program taken out of the heap was treated: the program with the next argument
      was pushed, or the argument is the last pop of an exhausted non-terminal (with a threshold: of a program that is not
      worse than one that has to come out, hence passes the threshold itself) -/
  succs : ∀ {nt F v a}, T.Alt nt F v → a.length = v.length →
    (∀ (j : Nat) aj sj, a[j]? = some aj → v[j]? = some sj → T.popped sj aj) → T.seen nt (.node F a) →
    ¬ T.heap nt (.node F a) → (∃ y, T.Mem nt y ∧ T.le nt (.node F a) y) →
    ∀ (j : Nat) aj sj, a[j]? = some aj → v[j]? = some sj →
      (∃ q, T.popped sj q ∧ T.pos sj q = T.pos sj aj + 1 ∧ T.seen nt (.node F (a.set j q))) ∨
      (T.pos sj aj + 1 = T.len sj ∧ ∀ e, ¬ T.heap sj e)

/-- the number of chain steps left, summed over the argument positions -/
def mu : List Prog → List NT → Nat
  | a :: as, sj :: v => (T.len sj - T.pos sj a) + mu as v
  | _, _ => 0

theorem mu_set : ∀ (a : List Prog) (v : List NT) (j : Nat) (aj q : Prog) (sj : NT),
    a[j]? = some aj → v[j]? = some sj → T.pos sj q = T.pos sj aj + 1 → T.pos sj q < T.len sj →
    mu T (a.set j q) v < mu T a v
  | [], _, _, _, _, _, h, _, _, _ => by simp at h
  | _ :: _, [], _, _, _, _, _, h, _, _ => by simp at h
  | x :: a, y :: v, 0, aj, q, sj, ha, hv, hidx, hlt => by
    simp only [List.getElem?_cons_zero, Option.some.injEq] at ha hv
    subst ha; subst hv
    simp only [List.set_cons_zero, mu]
    omega
  | x :: a, y :: v, j + 1, aj, q, sj, ha, hv, hidx, hlt => by
    simp only [List.getElem?_cons_succ] at ha hv
    simp only [List.set_cons_succ, mu]
    have := mu_set a v j aj q sj ha hv hidx hlt
    omega

theorem front (Q : Quiet T) : ∀ (r : Nat) (nt : NT), T.rank nt = r → ∀ y, T.Mem nt y →
    T.popped nt y ∨ ∃ e, T.heap nt e ∧ T.le nt e y := by
  intro r
  induction r using Nat.strongRecOn with
  | _ r ihr =>
  intro nt hr y hy
  obtain ⟨F, b⟩ := y
  obtain ⟨v, halt, hlen, hmemj⟩ := Q.mem_node hy
  have hlow : ∀ (j : Nat) bj sj, b[j]? = some bj → v[j]? = some sj →
      T.popped sj bj ∨ ∃ e, T.heap sj e ∧ T.le sj e bj := fun j bj sj hbj hsj =>
    ihr (T.rank sj) (hr ▸ Q.acyclic halt sj (List.mem_of_getElem? hsj)) sj rfl bj (hmemj j bj sj hbj hsj)
  -- from a pushed `F(a)` whose arguments are not after those of `b` in their chains, by induction on the chain steps left
  have claim : ∀ (n : Nat) (a : List Prog), mu T a v = n → a.length = v.length → T.seen nt (.node F a) →
      (∀ (j : Nat) aj bj sj, a[j]? = some aj → b[j]? = some bj → v[j]? = some sj →
        T.popped sj aj ∧ (T.popped sj bj → T.pos sj aj ≤ T.pos sj bj)) →
      T.popped nt (.node F b) ∨ ∃ e, T.heap nt e ∧ T.le nt e (.node F b) := by
    intro n
    induction n using Nat.strongRecOn with
    | _ n ih =>
    intro a hmu hla hseen hpre
    have hbget : ∀ {j : Nat} {sj : NT}, v[j]? = some sj → ∃ bj, b[j]? = some bj := fun {j sj} hsj =>
      ⟨b[j]'(by have := (List.getElem?_eq_some_iff.mp hsj).1; omega), List.getElem?_eq_getElem _⟩
    have hpop : ∀ (j : Nat) aj sj, a[j]? = some aj → v[j]? = some sj → T.popped sj aj := fun j aj sj haj hsj => by
      obtain ⟨bj, hbj⟩ := hbget hsj
      exact (hpre j aj bj sj haj hbj hsj).1
    -- coordinatewise, `a` is not worse than `b`
    have hleab : T.le nt (.node F a) (.node F b) := by
      refine Q.mono halt hla hpop hlen hmemj fun j aj bj sj haj hbj hsj => ?_
      obtain ⟨hpa, hidx⟩ := hpre j aj bj sj haj hbj hsj
      rcases hlow j bj sj hbj hsj with hpb | ⟨e, he, hle⟩
      · exact Q.le_pos hpa hpb (hidx hpb)
      · exact Q.le_trans he (Q.heap_le hpa he) hle
    by_cases hheap : T.heap nt (.node F a)
    · exact Or.inr ⟨_, hheap, hleab⟩
    · by_cases hab : a = b
      · subst hab
        rcases Q.cover hseen with h1 | h1 | h1
        · exact absurd h1 hheap
        · exact Or.inl h1
        · exact absurd hy h1
      · -- taken out of the heap: some argument differs from the target; its position has been treated
        obtain ⟨j, aj, bj, haj, hbj, hnej⟩ := exists_ne_of_ne a b (by omega) hab
        have hjv : j < v.length := by have := (List.getElem?_eq_some_iff.mp haj).1; omega
        have hsj : v[j]? = some (v[j]'hjv) := List.getElem?_eq_getElem hjv
        obtain ⟨hpaj, hidx⟩ := hpre j aj bj _ haj hbj hsj
        rcases Q.succs halt hla hpop hseen hheap ⟨_, hy, hleab⟩ j aj _ haj hsj with ⟨q, hq, hqpos, hqseen⟩ | ⟨hlast, hexh⟩
        · -- the successor of the argument: one chain step less
          refine ih _ (by have := mu_set T a v j aj q _ haj hsj hqpos (Q.pos_lt hq); omega) (a.set j q) rfl
            (by simpa using hla) hqseen ?_
          intro j' x x' sj' hx hx' hsj'
          rcases getElem?_set_cases hx with ⟨rfl, rfl⟩ | ⟨_, hx⟩
          · rw [hbj] at hx'; cases hx'
            rw [hsj] at hsj'; cases hsj'
            refine ⟨hq, fun hpb => ?_⟩
            have h1 := hidx hpb
            have : T.pos _ aj ≠ T.pos _ bj := fun e => hnej (Q.pos_inj hpaj hpb e)
            omega
          · exact hpre j' x x' sj' hx hx' hsj'
        · -- the non-terminal of the argument is exhausted: the target argument was popped, after the last pop
          exfalso
          rcases hlow j bj _ hbj hsj with hpb | ⟨e, he, _⟩
          · have h1 := hidx hpb
            have h2 := Q.pos_lt hpb
            exact hnej (Q.pos_inj hpaj hpb (by omega))
          · exact hexh e he
  obtain ⟨a0, hseen0, hlen0, hfirst⟩ := Q.initial halt fun sj hsj => by
    obtain ⟨j, hj, rfl⟩ := List.getElem_of_mem hsj
    have hbj : b[j]? = some (b[j]'(by omega)) := List.getElem?_eq_getElem _
    rcases hlow j _ _ hbj (List.getElem?_eq_getElem hj) with h | ⟨e, he, _⟩
    · exact ⟨_, Or.inl h⟩
    · exact ⟨e, Or.inr he⟩
  exact claim _ a0 rfl hlen0 hseen0 fun j aj bj sj haj _ hsj =>
    ⟨(hfirst j aj sj haj hsj).1, fun _ => by rw [(hfirst j aj sj haj hsj).2]; exact Nat.zero_le _⟩

theorem exhausted (Q : Quiet T) {nt : NT} (hh : ∀ e, ¬ T.heap nt e) {y : Prog} (hy : T.Mem nt y) : T.popped nt y :=
  (front T Q _ nt rfl y hy).resolve_right fun ⟨e, he, _⟩ => hh e he

theorem prefix_complete (Q : Quiet T) {nt : NT} {x y : Prog} (hx : T.popped nt x) (hy : T.Mem nt y) (hny : ¬ T.popped nt y) :
    T.le nt x y := by
  rcases front T Q _ nt rfl y hy with h | ⟨e, he, hle⟩
  · exact absurd h hny
  · exact Q.le_trans he (Q.heap_le hx he) hle

end PS.Frontier

namespace PS.HG
open PS PS.G

mutual
  def clean (f : Prog → Bool) : Prog → Bool
    | .node F kids => f (.node F kids) && cleanList f kids
  def cleanList (f : Prog → Bool) : List Prog → Bool
    | [] => true
    | k :: ks => clean f k && cleanList f ks
end

theorem cleanList_eq_all (f : Prog → Bool) (ks : List Prog) : cleanList f ks = ks.all (clean f) :=
  eq_all_of_rec (F := cleanList f) (by rw [cleanList]) (fun _ _ => by rw [cleanList]) ks

theorem clean_iff (f : Prog → Bool) (F : Sym) (kids : List Prog) :
    clean f (.node F kids) = true ↔ f (.node F kids) = true ∧ ∀ k ∈ kids, clean f k = true := by
  rw [clean, Bool.and_eq_true, cleanList_eq_all, List.all_eq_true]

theorem cleanList_get (f : Prog → Bool) : ∀ (ks : List Prog) (i : Nat) (k : Prog), cleanList f ks = true →
    ks[i]? = some k → clean f k = true := fun ks i k hc h => by
  rw [cleanList_eq_all, List.all_eq_true] at hc
  exact hc k (List.mem_of_getElem? h)

theorem clean_self (f : Prog → Bool) (p : Prog) (h : clean f p = true) : f p = true := by
  obtain ⟨F, kids⟩ := p
  simp only [clean, Bool.and_eq_true] at h
  exact h.1

theorem clean_of_all (f : Prog → Bool) (hf : ∀ p, f p = true) : ∀ p, clean f p = true :=
  Tree.ind (motive := fun p => clean f p = true) fun F ks ih => (clean_iff f F ks).mpr ⟨hf _, ih⟩

theorem clean_mono (f f' : Prog → Bool) (h : ∀ p, f' p = true → f p = true) : ∀ p, clean f' p = true → clean f p = true :=
  Tree.ind (motive := fun p => clean f' p = true → clean f p = true) fun F ks ih hc =>
    (clean_iff f F ks).mpr ⟨h _ ((clean_iff f' F ks).mp hc).1, fun k hk => ih k hk (((clean_iff f' F ks).mp hc).2 k hk)⟩

end PS.HG
