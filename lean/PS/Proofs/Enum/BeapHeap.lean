/- The queues of beap search as heaps.  `heapq.heapify` (its model in PS/Model/Enum/BeapSearch.lean) establishes the
   heap invariant: after `siftup(heap, k)` for `k = n/2 - 1, …, 0` every parent is ≤ its children.  The loop
   invariants are those of `heappush` / `heappop` (PS/Proofs/Enum/HeapInv.lean) with start position `k`;
   what is added here is that the sifted position stays in the sub-tree of `k`.  `HeapElement.__lt__` (the
   lexicographic order on (cost, combination)) is a strict weak order, so the heapq lemmas apply to the queues. -/
import PS.Proofs.Enum.BeapBase
import PS.Proofs.Enum.Orders
namespace PS.Beap
open PS PS.Heapq

variable {α : Type}

/-! ### `heapify` establishes the heap invariant -/

/-- `pos` lies in the sub-tree rooted at `k` -/
inductive Desc (k : Nat) : Nat → Prop
  | self : Desc k k
  | child {c : Nat} : 0 < c → Desc k ((c - 1) / 2) → Desc k c

theorem Desc.le {k pos : Nat} (h : Desc k pos) : k ≤ pos := by
  induction h with
  | self => exact Nat.le_refl _
  | child hc _ ih => exact Nat.le_trans ih (Nat.le_of_lt (parent_lt hc))

theorem Desc.parent {k pos : Nat} (h : Desc k pos) (hne : pos ≠ k) : Desc k ((pos - 1) / 2) ∧ k ≤ (pos - 1) / 2 := by
  cases h with
  | self => exact absurd rfl hne
  | child hc hp => exact ⟨hp, hp.le⟩

theorem siftdownFrom_heapFrom {lt : α → α → Bool} (w : WeakOrder lt) (k : Nat) :
    ∀ (fuel : Nat) (h : List α) (pos : Nat), pos ≤ fuel → pos < h.length → Desc k pos → SdInv lt h k pos →
      HeapFrom lt (siftdownFrom lt k fuel h pos) k :=
  (IsSiftdown.mk (f := siftdownFrom lt k) (fun _ _ => rfl) fun _ _ _ => rfl).heapFrom w (fun _ => Desc.le)
    fun _ hd hkq => (hd.parent (Nat.ne_of_gt hkq)).1

theorem bubble_desc (lt : α → α → Bool) {k : Nat} : ∀ (fuel : Nat) (h : List α) (pos : Nat), Desc k pos →
    Desc k (bubble lt fuel h pos).2 := by
  intro fuel
  induction fuel with
  | zero => exact fun _ _ hd => hd
  | succ n ih =>
    intro h pos hd
    rw [bubble]
    split
    · dsimp only
      split
      · exact ih _ _ (.child (Nat.succ_pos _) ((child_parent pos).2.symm ▸ hd))
      · exact ih _ _ (.child (Nat.succ_pos _) ((child_parent pos).1.symm ▸ hd))
    · exact hd

theorem siftdownFrom_length (lt : α → α → Bool) (k fuel : Nat) (h : List α) (pos : Nat) :
    (siftdownFrom lt k fuel h pos).length = h.length := (siftdownFrom_perm lt k fuel h pos).length_eq

theorem siftupAt_heapFrom {lt : α → α → Bool} (w : WeakOrder lt) (h : List α) (k : Nat) (hk : k < h.length)
    (hh : HeapFrom lt h (k + 1)) : HeapFrom lt (siftupAt lt h k) k := by
  obtain ⟨g1, g2⟩ := bubble_spec w k h.length h k (Nat.le_add_right _ _) hk (Nat.le_refl _)
    ⟨fun i hi hg _ hpk => hh i hi (Nat.lt_of_le_of_ne hg (Ne.symm hpk)), fun hlt => absurd hlt (Nat.lt_irrefl _)⟩
  exact siftdownFrom_heapFrom w k _ _ _ (Nat.le_succ _) g1 (bubble_desc lt _ _ _ .self) g2

theorem heapifyLoop_isHeap {lt : α → α → Bool} (w : WeakOrder lt) : ∀ (k : Nat) (h : List α), k ≤ h.length / 2 →
    HeapFrom lt h k → IsHeap lt (heapifyLoop lt k h) := by
  intro k
  induction k with
  | zero =>
    exact fun h _ hh => (isHeap_iff lt h).mpr hh
  | succ k ih =>
    intro h hk hh
    unfold heapifyLoop
    have hlen : (siftupAt lt h k).length = h.length := (siftupAt_perm lt h k).length_eq
    exact ih _ (by rw [hlen]; omega) (siftupAt_heapFrom w h k (by omega) hh)

theorem heapify_isHeap {lt : α → α → Bool} (w : WeakOrder lt) (h : List α) : IsHeap lt (heapify lt h) := by
  unfold heapify
  apply heapifyLoop_isHeap w _ _ (Nat.le_refl _)
  intro i hi hg a b _ hb
  have hil : i < h.length := (List.getElem?_eq_some_iff.mp hb).1
  omega

end PS.Beap

/-! ### `HeapElement.__lt__` is a strict weak order -/

namespace PS.Beap
open PS PS.Heapq

/-- `Cost.lt` is the tuple comparison of `(inf, fin)` -/
theorem Cost.lt_strictTotal : StrictTotal Cost.lt := by
  have h := StrictTotal.lex strictTotal_int strictTotal_rat
  have e : Cost.lt = fun a b => (fun a b : Int × Rat => if a.1 = b.1 then decide (a.2 < b.2) else decide (a.1 < b.1))
      (a.inf, a.fin) (b.inf, b.fin) := by
    funext a b
    simp only [Cost.lt]
    by_cases hi : a.inf = b.inf <;> simp [hi]
  refine ⟨e ▸ h.toWeakOrder.comap (fun a : Cost => (a.inf, a.fin)), fun a b h1 h2 => ?_⟩
  rw [e] at h1 h2
  have := h.eq_of_incomp _ _ h1 h2
  cases a; cases b; simp_all

theorem listLt_isLex : IsListLex (fun a b : Nat => decide (a < b)) listLt :=
  ⟨rfl, fun _ _ => rfl, fun _ _ => rfl, fun _ _ _ _ => rfl⟩

theorem listLt_irrefl : ∀ a : List Nat, listLt a a = false :=
  (listLt_isLex.strictTotal strictTotal_nat).irrefl

theorem ltE_weak : WeakOrder ltE :=
  WeakOrder.lex Cost.lt_strictTotal (listLt_isLex.strictTotal strictTotal_nat).toWeakOrder HeapEl.cost HeapEl.comb

theorem cost_of_ltE_false (a b : HeapEl) (h : ltE a b = false) : Cost.lt a.cost b.cost = false :=
  lex_false_key Cost.lt_strictTotal.toWeakOrder h

end PS.Beap
