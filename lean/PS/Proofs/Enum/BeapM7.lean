/- Completeness with `merge_program`: `merge_program` keeps the invariants for the effective filter "accepted and not
   merged"; histories of `next` / `merge_program` calls (`Hist`); along them, for `Env.fixEmptied = true`, completeness
   at the stop and prefix completeness for the programs clean for that filter (`merge_complete`,
   `merge_prefix_complete`). -/
import PS.Proofs.Enum.BeapM6
namespace PS.Beap
open PS PS.G PS.Heapq
set_option linter.unusedSectionVars false
variable {S : Type} [DecidableEq S] {F : Prog → Bool}

/-- the effective filter after `merge_program(_, m)` for the programs `m` of `ms`: accepted and not merged -/
def effFilter (E : Env S) (ms : List Prog) : Prog → Bool := fun p => E.filter p && !ms.contains p

theorem merge_lookup_isSome (g : Gen S) (other : Prog) (ok : NT S Unit → Bool) (nt : NT S Unit) (ci : Nat) :
    (AList.lookup ci ((merge g other ok).st.bankOf nt)).isSome = (AList.lookup ci (g.st.bankOf nt)).isSome := by
  rw [merge_lookup]
  split
  · cases AList.lookup ci (g.st.bankOf nt) <;> rfl
  · rfl

theorem merge_entered (g : Gen S) (other : Prog) (ok : NT S Unit → Bool) (nt : NT S Unit) (ci : Nat)
    (hem : (merge g other ok).st.emptiesOf nt = g.st.emptiesOf nt) :
    Entered (merge g other ok).st nt ci ↔ Entered g.st nt ci := by
  unfold Entered
  rw [merge_lookup_isSome, hem]

theorem merge_bankAt_keep (g : Gen S) (other : Prog) (ok : NT S Unit → Bool) (nt : NT S Unit) (ci : Nat) (q : Prog)
    (hq : q ∈ g.st.bankAt nt ci) (hne : q ≠ other) : q ∈ (merge g other ok).st.bankAt nt ci := by
  unfold St.bankAt at hq ⊢
  rw [merge_lookup]
  split
  · cases hl : AList.lookup ci (g.st.bankOf nt) with
    | none => rw [hl] at hq; simp at hq
    | some ps =>
      rw [hl] at hq
      simp only [Option.getD_some] at hq
      simp only [Option.map_some, Option.getD_some]
      exact (List.mem_erase_of_ne hne).mpr hq
  · exact hq

theorem clean_mono (f f' : Prog → Bool) (h : ∀ p, f' p = true → f p = true) (p : Prog) (hc : clean f' p = true) : clean f p = true := by
  rw [(clean_eq_hg f).1]; rw [(clean_eq_hg f').1] at hc; exact HG.clean_mono f f' h p hc

theorem merge_km (E : Env S) (F F' : Prog → Bool) (g : Gen S) (other : Prog) (ok : NT S Unit → Bool) (ys : List Prog)
    (hF' : ∀ p, F' p = true → F p = true ∧ p ≠ other) (hg : GKm E F g ys) : GKm E F' (merge g other ok) ys := by
  obtain ⟨hcl, hq, hem⟩ := merge_tables g other ok
  have hdel : ∀ q, q ∈ (merge g other ok).st.deleted → q = other ∨ q ∈ g.st.deleted := by
    intro q hq'
    have : (merge g other ok).st.deleted = (g.st.addDeleted other).deleted := rfl
    rw [this] at hq'
    exact (St.mem_addDeleted_iff g.st other q).mp hq'
  have hext : Ext g.st (merge g other ok).st := Ext.of_eq hcl
  have hsub := merge_bankAt_subset g other ok
  have hnil : ∀ nt ci, g.st.bankAt nt ci = [] → (merge g other ok).st.bankAt nt ci = [] := fun nt ci h0 =>
    List.eq_nil_iff_forall_not_mem.mpr fun a ha => by have := hsub nt ci a ha; rw [h0] at this; cases this
  have hkeep := merge_bankAt_keep g other ok
  have hent : ∀ nt ci, Entered (merge g other ok).st nt ci ↔ Entered g.st nt ci := fun nt ci => merge_entered g other ok nt ci (hem nt)
  have hclean : ∀ p, clean F' p = true → clean F p = true := clean_mono F F' (fun p hp => (hF' p hp).1)
  have hne : ∀ p, clean F' p = true → p ≠ other := fun p hp => (hF' p (clean_root F' p hp)).2
  have hfr : ∀ nt, FRm E F g.st nt → FRm E F' (merge g other ok).st nt := fun nt h =>
    h.mono hclean (hcl nt) (hq nt) (fun ci p hc hp => hkeep nt ci p hp (hne p hc)) (fun ci => (hent nt ci).mp) hext
  have hw : WInvm E F' (merge g other ok).st := by
    refine
      { c := (merge_cost E g other ok ⟨hg.w.c, fun fr he => ⟨(hg.fr fr he).1.fc, (hg.fr fr he).2.1⟩⟩).1, o := hg.w.o.of_eq hcl hq,
        e := { e2 := fun nt ci h => ?_, d1 := fun q hq' => ?_, fle := fun q hq' => hg.w.e.fle q (hF' q hq').1, be := fun nt ci h => ?_,
               lb := fun nt c rest p x hc hx => ?_ },
        cr := fun nt => (hg.w.cr nt).mono hclean (hcl nt) fun ci p hc hp => hkeep nt ci p hp (hne p hc) }
    · rw [hem] at h
      exact hnil nt ci (hg.w.e.e2 nt ci h)
    · cases hv : F' q with
      | false => rfl
      | true =>
        obtain ⟨a1, a2⟩ := hF' q hv
        rcases hdel q hq' with h' | h'
        · exact absurd h' a2
        · rw [hg.w.e.d1 q h'] at a1; cases a1
    · rw [hcl]; exact hg.w.e.be nt ci ((hent nt ci).mp h)
    · rw [hcl] at hc; exact hg.w.e.lb nt c rest p x hc hx
  refine
    { started := hg.started, w := hw, e4 := trivial, fro := fun S' hS => hfr S' (hg.fro S' hS), fr := fun fr he => ?_, idle := fun he => ?_,
      fin := fun hf => ?_, ne := by rw [hcl]; exact hg.ne, yb := fun ci q hq' => hg.yb ci q (hsub _ ci q hq'), yc := fun p hp => ?_ }
  · obtain ⟨k, k2, k3, k4⟩ := hg.fr fr he
    refine ⟨
      { fo := k.fo.of_eq (hcl _) rfl rfl, fc := k.fc.ext hext, fin := k.fin, hg := fun hh => ?_, ns := fun hh => ?_,
        ne := by rw [hem]; exact k.ne, pe := fun hh => ?_, frf := fun f kids x rl hc hx hle hr => ?_ }, k2, k3, ?_⟩
    · exact hnil _ _ (k.hg hh)
    · rw [merge_lookup_isSome] at hh; exact k.ns hh
    · rw [merge_lookup_isSome]; exact k.pe hh
    · rcases k.frf f kids x rl (hclean _ hc) hx hle hr with ⟨g1, g2⟩ | ⟨el, g1, g2, g3⟩ | g3
      · exact Or.inl ⟨g1, hkeep _ _ _ g2 (hne _ hc)⟩
      · exact Or.inr (Or.inl ⟨el, by rw [hq]; exact g1, g2, BelowArgs.ext hext _ _ _ g3⟩)
      · exact Or.inr (Or.inr g3)
    · rcases k4 with h' | ⟨e, q, h1, h2⟩
      · exact Or.inl h'
      · exact Or.inr ⟨e, q, by rw [hq]; exact h1, h2⟩
  · obtain ⟨i1, i2, i3⟩ := hg.idle he
    refine ⟨hfr _ i1, fun ci hen => i2 ci ((hent _ ci).mp hen), ?_⟩
    rw [hcl, hq]; exact i3
  · obtain ⟨a1, a2⟩ := hg.fin hf
    exact ⟨a1, by rw [hq]; exact a2⟩
  · obtain ⟨c, c1, c2⟩ := hg.yc p hp
    exact ⟨c, by rw [hcl]; exact c1, c2⟩

/-- histories of `next` and — after the first `next` — `merge_program` calls from the fresh generator;
    `ys`: the programs yielded so far, `ms`: the programs merged so far -/
inductive Hist (E : Env S) (fuel : Nat) : Gen S → List Prog → List Prog → Prop
  | new : Hist E fuel (Gen.new E.G) [] []
  | next (g g' : Gen S) (ys ms : List Prog) (p : Option Prog) : Hist E fuel g ys ms → Beap.next E fuel g = some (g', p) →
      Hist E fuel g' (ys ++ p.toList) ms
  | merge (g : Gen S) (ys ms : List Prog) (other : Prog) (ok : NT S Unit → Bool) : Hist E fuel g ys ms → g.started = true →
      Hist E fuel (Beap.merge g other ok) ys (other :: ms)

theorem effFilter_le (E : Env S) (ms : List Prog) (q : Prog) (h : effFilter E ms q = true) : E.filter q = true := by
  simp only [effFilter, Bool.and_eq_true] at h; exact h.1

theorem effFilter_cons (E : Env S) (ms : List Prog) (other p : Prog) (h : effFilter E (other :: ms) p = true) :
    effFilter E ms p = true ∧ p ≠ other := by
  simp only [effFilter, Bool.and_eq_true, Bool.not_eq_true', List.contains_cons, Bool.or_eq_false_iff, beq_eq_false_iff_ne] at h ⊢
  exact ⟨⟨h.1, h.2.2⟩, h.2.1⟩

theorem hist_km (E : Env S) (hfix : E.fixEmptied = true) (hnd : RowsNodup E.G) (hst : StableAfter E) (hprod : Productive E)
    (hpos : PosW E) (fuel : Nat) (g : Gen S) (ys ms : List Prog) (hh : Hist E fuel g ys ms) :
    TKm E (effFilter E ms) g ys := by
  induction hh with
  | new => exact Or.inl ⟨rfl, rfl, rfl, rfl⟩
  | next g g' ys ms p _ hn ih =>
    exact (next_km E hfix (effFilter_le E ms) hnd hst hprod hpos fuel g _ ys ih hn).1
  | merge g ys ms other ok _ hs ih =>
    rcases ih with ⟨h1, _⟩ | hg
    · rw [h1] at hs; cases hs
    · exact Or.inr (merge_km E _ _ g other ok ys (effFilter_cons E ms other) hg)

theorem merge_complete (E : Env S) (hfix : E.fixEmptied = true) (hnd : RowsNodup E.G) (hst : StableAfter E) (hprod : Productive E)
    (hpos : PosW E) (fuel : Nat) (g : Gen S) (ys ms : List Prog) (hh : Hist E fuel g ys ms) (hfin : g.finished = true)
    (q : Prog) (x : Rat) (hcl : clean (effFilter E ms) q = true) (hx : costOf E q E.G.start = some x) : q ∈ ys := by
  rcases hist_km E hfix hnd hst hprod hpos fuel g ys ms hh with ⟨_, h2, _, _⟩ | hg
  · rw [h2] at hfin; cases hfin
  · exact hg.complete hfin q x hcl hx

theorem merge_prefix_complete (E : Env S) (hfix : E.fixEmptied = true) (hnd : RowsNodup E.G) (hst : StableAfter E)
    (hprod : Productive E) (hpos : PosW E) (fuel : Nat) (g : Gen S) (ys ms : List Prog) (hh : Hist E fuel g ys ms)
    (p q : Prog) (x y : Rat) (hp : p ∈ ys) (hy : costOf E p E.G.start = some y) (hcl : clean (effFilter E ms) q = true)
    (hx : costOf E q E.G.start = some x) (hlt : x < y) : q ∈ ys := by
  rcases hist_km E hfix hnd hst hprod hpos fuel g ys ms hh with ⟨_, _, _, h3⟩ | hg
  · rw [h3] at hp; cases hp
  · exact hg.prefix_complete p q x y hp hy hcl hx hlt

theorem hist_take (E : Env S) (hfix : E.fixEmptied = true) (hnd : RowsNodup E.G) (hst : StableAfter E) (hprod : Productive E)
    (hpos : PosW E) (fuel : Nat) (ms : List Prog) : ∀ (k : Nat) (g : Gen S) (acc : List Prog) (r : Gen S × List Prog × Bool),
    Hist E fuel g acc ms → take E fuel k g acc = some r → Hist E fuel r.1 r.2.1 ms ∧ (r.2.2 = true → r.1.finished = true) := by
  refine take_induct E fuel (I := fun g acc => Hist E fuel g acc ms)
    (Q := fun g acc fin => Hist E fuel g acc ms ∧ (fin = true → g.finished = true))
    (fun _ _ hh => ⟨hh, fun hf => by cases hf⟩) (fun g acc g' hh hn => ?_) (fun g acc g' p hh hn => ?_)
  · have h1 := Hist.next g g' acc ms none hh hn
    simp only [Option.toList_none, List.append_nil] at h1
    exact ⟨h1, fun _ => (next_km E hfix (effFilter_le E ms) hnd hst hprod hpos fuel g _ acc
      (hist_km E hfix hnd hst hprod hpos fuel g acc ms hh) hn).2 rfl⟩
  · have h1 := Hist.next g g' acc ms (some p) hh hn
    simp only [Option.toList_some] at h1
    exact h1

theorem hist_started (E : Env S) (hfix : E.fixEmptied = true) (hnd : RowsNodup E.G) (hst : StableAfter E) (hprod : Productive E)
    (hpos : PosW E) (fuel : Nat) (g : Gen S) (ys ms : List Prog) (hh : Hist E fuel g ys ms) (hne : ys ≠ []) : g.started = true := by
  rcases hist_km E hfix hnd hst hprod hpos fuel g ys ms hh with ⟨_, _, _, h3⟩ | hg
  · exact absurd h3 hne
  · exact hg.started

end PS.Beap
