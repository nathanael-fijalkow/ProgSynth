/- The constant-delay machine around the query block, read once.  Which tables the primitive updates can change and
   what they write, the successor loop of `query_derivation` and the loops of `generator()` / `take` / `runHist` as
   rules (what is kept by each step is kept by the loop), and `merge_program`; the tables that only grow through the
   query block (`Grows`).  The query block itself is read in CDGSem.lean. -/
import PS.Proofs.Enum.CDGSem
import PS.Proofs.AList
import PS.Proofs.Enum.Iter
namespace PS.CD

variable {α : Type}

/-- `G.rules[S][P]` -/
theorem Gram.rule?_eq_lookup₂ (G : Gram) (S : NT) (P : Sym) : G.rule? S P = AList.lookup₂ G.rules S P := by
  unfold Gram.rule? AList.lookup₂
  cases AList.lookup S G.rules <;> rfl

/-! ### what the primitive updates change

The lemmas named `*_eq` (and `succLoop_eq` further down) are frame lemmas: each says that the state after the update is
the state before with the listed fields replaced, `∃ fields, s' = { s with … }`, so that a client rewrites with it
and every invariant that does not read those fields goes through by `rfl`. -/

theorem addDeleted_eq (s : St α) (p : Prog) : ∃ d, s.addDeleted p = { s with deleted := d } := by
  unfold St.addDeleted; split
  · exact ⟨s.deleted, rfl⟩
  · exact ⟨_, rfl⟩

/-- `self.deleted.add(p)` -/
theorem addDeleted_deleted (s : St α) (p q : Prog) : q ∈ (s.addDeleted p).deleted ↔ q ∈ s.deleted ∨ q = p := by
  unfold St.addDeleted
  split
  · rename_i h
    exact ⟨Or.inl, fun h' => h'.elim id fun e => e ▸ by simpa using h⟩
  · simp

theorem appendBank_eq {s s' : St α} {S : NT} {ci : Nat} {p : Prog} : s.appendBank S ci p = some s' →
    ∃ b l, AList.lookup S s.bankNt = some b ∧ AList.lookup ci b = some l ∧
      s' = { s with bankNt := AList.insert S (AList.insert ci (l ++ [p]) b) s.bankNt } := by
  fun_cases St.appendBank s S ci p <;> intro h
  · cases h
  · cases h
  · rename_i b hb l hl; cases h; exact ⟨b, l, hb, hl, rfl⟩

theorem ensureBank_cases {s s' : St α} {S : NT} {ci : Nat} : s.ensureBank S ci = some s' →
    s' = s ∨ ∃ b, AList.lookup S s.bankNt = some b ∧ AList.lookup ci b = none ∧
      s' = { s with bankNt := AList.insert S (AList.insert ci [] b) s.bankNt } := by
  fun_cases St.ensureBank s S ci <;> intro h
  · cases h
  · cases h; exact Or.inl rfl
  · rename_i b hb hn; cases h; exact Or.inr ⟨b, hb, by simpa using hn, rfl⟩

theorem ensureBank_eq {s s' : St α} {S : NT} {ci : Nat} (h : s.ensureBank S ci = some s') :
    ∃ b, s' = { s with bankNt := b } := by
  rcases ensureBank_cases h with rfl | ⟨b, _, _, rfl⟩
  · exact ⟨s'.bankNt, rfl⟩
  · exact ⟨_, rfl⟩

/-- the end of `query` read once: the flag and the set of empties may be written (`s1`), then the cost of the head
    of the heap of `fr.S`, if any, is appended to `_cost_lists_nt[fr.S]` -/
theorem exitQuery_succ {s s' : St α} {fr : Frame α} (h : exitQuery s fr = some s') :
    ∃ em fb, (∃ d rest cl, AList.lookup fr.S s.queueNt = some (d :: rest) ∧ AList.lookup fr.S s.costNt = some cl ∧
        s' = St.setCostNt { s with emptiesNt := em, failedByEmpties := fb } fr.S (cl ++ [d.cost])) ∨
      (AList.lookup fr.S s.queueNt = some [] ∧ s' = { s with emptiesNt := em, failedByEmpties := fb }) := by
  unfold exitQuery at h
  simp only at h
  split at h
  · simp at h
  · rename_i s1 hs1
    have h1 : ∃ em fb, s1 = { s with emptiesNt := em, failedByEmpties := fb } := by
      split at hs1
      · split at hs1
        · simp at hs1
        · exact ⟨_, _, (Option.some.inj hs1).symm⟩
      · exact ⟨s.emptiesNt, s.failedByEmpties, (Option.some.inj hs1).symm⟩
    obtain ⟨em, fb, rfl⟩ := h1
    refine ⟨em, fb, ?_⟩
    split at h
    · rename_i d rest cl hq hcl
      exact Or.inl ⟨d, rest, cl, hq, hcl, (Option.some.inj h).symm⟩
    · rename_i hq
      exact Or.inr ⟨hq, (Option.some.inj h).symm⟩
    · simp at h

theorem exitQuery_eq {s s' : St α} {fr : Frame α} (h : exitQuery s fr = some s') :
    ∃ c e f, s' = { s with costNt := c, emptiesNt := e, failedByEmpties := f } := by
  obtain ⟨em, fb, ⟨d, rest, cl, _, _, rfl⟩ | ⟨_, rfl⟩⟩ := exitQuery_succ h
  · exact ⟨_, em, fb, rfl⟩
  · exact ⟨s.costNt, em, fb, rfl⟩

/-- `p ∈ _bank_nt[S][ci]`: `AList.At s.bankNt S ci p` (PS/Proofs/AList.lean) written out, so that the lemmas `AList.at_*`
    on a write `d[k][c] = v` apply to it as they stand -/
def InBankAt (s : St α) (S : NT) (ci : Nat) (p : Prog) : Prop :=
  ∃ b l, AList.lookup S s.bankNt = some b ∧ AList.lookup ci b = some l ∧ p ∈ l

theorem resolve_cases (s : St α) (r : Ref) : s.resolve r = [] ∨
    ∃ S ci b l, r = some (S, ci) ∧ AList.lookup S s.bankNt = some b ∧ AList.lookup ci b = some l ∧ s.resolve r = l := by
  cases r with
  | none => exact Or.inl rfl
  | some x =>
    obtain ⟨S, ci⟩ := x
    simp only [St.resolve]
    cases hb : AList.lookup S s.bankNt with
    | none => exact Or.inl rfl
    | some b =>
      cases hl : AList.lookup ci b with
      | none => exact Or.inl (by simp [hl])
      | some l => exact Or.inr ⟨S, ci, b, l, rfl, hb, hl, by simp [hl]⟩

theorem mem_resolve_iff (s : St α) (S : NT) (ci : Nat) (k : Prog) : k ∈ s.resolve (some (S, ci)) ↔ InBankAt s S ci k := by
  unfold InBankAt
  simp only [St.resolve]
  cases hb : AList.lookup S s.bankNt with
  | none => simp
  | some b =>
    cases hl : AList.lookup ci b with
    | none => simp [hl]
    | some l => simp [hl]

theorem mem_resolve {s : St α} {r : Ref} {k : Prog} (h : k ∈ s.resolve r) : ∃ S ci, r = some (S, ci) ∧ InBankAt s S ci k := by
  cases r with
  | none => simp [St.resolve] at h
  | some x =>
    obtain ⟨S, ci⟩ := x
    exact ⟨S, ci, rfl, (mem_resolve_iff s S ci k).mp h⟩

theorem pushNext_eq (A : Arith α) (s : St α) (S : NT) (h : List (Deriv α)) (w : Int) (el : Deriv α) (cl : List α)
    (ns : Bool) : ∃ hq, (pushNext A s S h w el cl ns).1 = { s with queueNt := hq } := by
  unfold pushNext; split
  · exact ⟨_, rfl⟩
  · exact ⟨s.queueNt, rfl⟩

theorem MarkEmpty.eq {s s' : St α} {args : List NT} {ci : Nat} {mark : Bool} (h : MarkEmpty s args ci mark s') :
    ∃ em, s' = { s with emptiesDer := em } := by
  unfold MarkEmpty at h
  split at h
  · obtain ⟨em, _, rfl⟩ := h; exact ⟨_, rfl⟩
  · exact ⟨s.emptiesDer, h⟩

theorem Advance.eq {A : Arith α} {s s' : St α} {args : List NT} (h : Advance A s args s') :
    ∃ qd cd, s' = { s with queueDer := qd, costDer := cd } := by
  obtain ⟨q, cl, _, _, h⟩ := h
  rcases h with ⟨_, rfl⟩ | ⟨q', pk, _, _, rfl⟩
  · exact ⟨_, _, rfl⟩
  · exact ⟨_, _, rfl⟩

/-! ### the successor loop -/

theorem succLoop_rule {A : Arith α} {asserts : Bool} {args : List NT} {c : α} {comb : List Nat} (P : St α → Prop)
    (hpush : ∀ s i x Si cl c0 c1 q q', P s → comb[i]? = some x → args[i]? = some Si → AList.lookup Si s.costNt = some cl →
      cl[x]? = some c0 → cl[x + 1]? = some c1 → AList.lookup args s.queueDer = some q →
      q.push A ⟨A.add (A.sub c c0) c1, [comb.set i (x + 1)]⟩ asserts = some q' → P (s.setQueueDer args q'))
    (rem i : Nat) (s s' : St α) : succLoop A asserts args c comb rem i s = some s' → P s → P s' := by
  fun_induction succLoop A asserts args c comb rem i s <;> intro h hs
  · cases h; exact hs
  · cases h
  · cases h; exact hs
  · rename_i ih; exact ih h hs
  · cases h
  · rename_i hSi hx _ hcl _ _ _ _ hq h1 h0 _ hp _
    cases h; exact hpush _ _ _ _ _ _ _ _ _ hs hx hSi hcl h0 h1 hq hp
  · rename_i hSi hx _ hcl _ _ _ _ hq h1 h0 _ hp _ ih
    exact ih h (hpush _ _ _ _ _ _ _ _ _ hs hx hSi hcl h0 h1 hq hp)
  · cases h
  · cases h

theorem succLoop_eq (A : Arith α) (bb : Bool) (args : List NT) (c : α) (comb : List Nat) (rem i : Nat) (s s' : St α)
    (h : succLoop A bb args c comb rem i s = some s') : ∃ q, s' = { s with queueDer := q } :=
  succLoop_rule (fun t => ∃ q, t = { s with queueDer := q })
    (fun _ _ _ _ _ _ _ _ _ ⟨_, e⟩ _ _ _ _ _ _ _ => e ▸ ⟨_, rfl⟩) rem i s s' h ⟨s.queueDer, rfl⟩

/-! ### the generator -/

/-- how a turn of the `while not failed` loop starts: inside the suspended query `fr?`, or with a new query for the
    cost index `n` when `_cost_lists_nt[start]` has one (`none`: `query` returns at once) -/
def Start (E : Env α) (s : St α) (n : Nat) (fr? : Option (Frame α)) (s0 : St α) (fr0 : Option (Frame α)) : Prop :=
  match fr? with
  | some fr => s0 = s ∧ fr0 = some fr
  | none => s0 = { s with failedByEmpties := false } ∧ ∃ cl, AList.lookup E.G.start s.costNt = some cl ∧
      fr0 = cl[n]?.map fun cost => { S := E.G.start, ci := n, cost := cost }

/-- the loop of `generator()` up to the next `yield` or the `return`, over runs of `query`.  The relation keeps how a
    turn starts (`Start`: the lookup of `_cost_lists_nt[start][n]`) and how the query ran (`Exec`); it drops the stop
    test `failed and not self._failed_by_empties` of `nextLoop`.  The index `failed` therefore occurs in no premise, and
    where a query has ended `stop` and `skip` (`ended` and `again`) both apply: `Loop` contains the runs of the code
    (`nextLoop_loop`) and also runs that stop early or go on after the code would have returned.  That is enough for
    what is kept along every run; a statement that the generator goes on or stops needs the test back. -/
inductive Loop (E : Env α) : St α → Nat → Option (Frame α) → Bool → Gen α → Option Prog → Prop
  | stop {s n fr? failed s0} : Start E s n fr? s0 none → Loop E s n fr? failed { st := s0, phase := .stopped } none
  | skip {s n fr? failed s0 g' out} : Start E s n fr? s0 none → Loop E s0 (n + 1) none true g' out →
      Loop E s n fr? failed g' out
  | yield {s n fr? failed s0 fr s1 fr1 p} : Start E s n fr? s0 (some fr) → Exec E s0 (.resume fr (some (fr1, p))) s1 →
      Loop E s n fr? failed { st := s1, phase := .inQuery n fr1 } (some p)
  | ended {s n fr? failed s0 fr s1} : Start E s n fr? s0 (some fr) → Exec E s0 (.resume fr none) s1 →
      Loop E s n fr? failed { st := s1, phase := .stopped } none
  | again {s n fr? failed s0 fr s1 g' out} : Start E s n fr? s0 (some fr) → Exec E s0 (.resume fr none) s1 →
      Loop E s1 (n + 1) none true g' out → Loop E s n fr? failed g' out

theorem Start.of_eq {E : Env α} {s s0 : St α} {n : Nat} {fr? fr0 : Option (Frame α)}
    (h : (match fr? with
        | some fr => some (s, some fr)
        | none =>
          match AList.lookup E.G.start s.costNt with
          | none => none
          | some cl =>
            match cl[n]? with
            | none => some ({ s with failedByEmpties := false }, none)
            | some cost => some ({ s with failedByEmpties := false }, some { S := E.G.start, ci := n, cost := cost })) =
        some (s0, fr0)) : Start E s n fr? s0 fr0 := by
  unfold Start
  split at h
  · cases h; exact ⟨rfl, rfl⟩
  · split at h
    · cases h
    · rename_i cl hcl
      split at h <;> rename_i hn <;> cases h <;> exact ⟨rfl, cl, hcl, by rw [hn]; rfl⟩

theorem nextLoop_loop (E : Env α) (fuel k : Nat) (s : St α) (n : Nat) (fr? : Option (Frame α)) (failed : Bool)
    (g' : Gen α) (out : Option Prog) : nextLoop E fuel k s n fr? failed = some (g', out) → Loop E s n fr? failed g' out := by
  fun_induction nextLoop E fuel k s n fr? failed <;> intro h
  · cases h
  · cases h
  · rename_i hs _; cases h; exact .stop (Start.of_eq hs)
  · rename_i hs _ ih; exact .skip (Start.of_eq hs) (ih h)
  · cases h
  · rename_i hs _ _ _ hr; cases h; exact .yield (Start.of_eq hs) ((sound E fuel).resume hr)
  · rename_i hs _ hr _; cases h; exact .ended (Start.of_eq hs) ((sound E fuel).resume hr)
  · rename_i hs _ hr _ ih; exact .again (Start.of_eq hs) ((sound E fuel).resume hr) (ih h)

theorem Start.eq {E : Env α} {s s0 : St α} {n : Nat} {fr? fr0 : Option (Frame α)} (h : Start E s n fr? s0 fr0) :
    ∃ f, s0 = { s with failedByEmpties := f } := by
  unfold Start at h
  split at h
  · exact ⟨s.failedByEmpties, h.1⟩
  · exact ⟨_, h.1⟩

theorem Start.frame {E : Env α} {s s0 : St α} {n : Nat} {fr? : Option (Frame α)} {fr : Frame α}
    (h : Start E s n fr? s0 (some fr)) : fr? = some fr ∨ (fr.S = E.G.start ∧ fr.ci = n ∧ fr.cur = none) := by
  unfold Start at h
  split at h
  · exact Or.inl (by rw [h.2])
  · obtain ⟨_, cl, _, h2⟩ := h
    cases hc : cl[n]? with
    | none => simp [hc] at h2
    | some c =>
      simp only [hc, Option.map_some, Option.some.injEq] at h2
      rw [h2]; exact Or.inr ⟨rfl, rfl, rfl⟩

theorem Loop.keeps {E : Env α} {P : St α → Prop} (hflag : ∀ s f, P s → P { s with failedByEmpties := f })
    (hquery : ∀ {s fr out s'}, Exec E s (.resume fr out) s' → P s → P s') {s : St α} {n : Nat} {fr? : Option (Frame α)}
    {failed : Bool} {g' : Gen α} {out : Option Prog} (h : Loop E s n fr? failed g' out) : P s → P g'.st := by
  have start : ∀ {s n fr? s0 fr0}, Start E s n fr? s0 fr0 → P s → P s0 := fun hs h => by
    obtain ⟨f, rfl⟩ := hs.eq; exact hflag _ f h
  induction h with
  | stop hs => exact start hs
  | skip hs _ ih => exact fun h => ih (start hs h)
  | yield hs hr | ended hs hr => exact fun h => hquery hr (start hs h)
  | again hs hr _ ih => exact fun h => ih (hquery hr (start hs h))

theorem Loop.phase {E : Env α} {s : St α} {n : Nat} {fr? : Option (Frame α)} {failed : Bool} {g' : Gen α} {out : Option Prog}
    (h : Loop E s n fr? failed g' out) : ¬ (g'.phase matches .fresh) := by
  induction h with
  | stop | yield | ended => simp
  | skip _ _ ih | again _ _ _ ih => exact ih

/-- `next(generator)` is a run of the loop: after the prologue, from the head of the loop, or inside the suspended
    top-level query -/
theorem next_loop {E : Env α} {fuel : Nat} {g g' : Gen α} {out : Option Prog} : next E fuel g = some (g', out) →
    (g.phase = .stopped ∧ g' = g ∧ out = none) ∨
    ∃ s n fr? failed, Loop E s n fr? failed g' out ∧
      ((g.phase = .fresh ∧ prologue E fuel g.st = some s ∧ fr? = none) ∨
       (s = g.st ∧ ((g.phase = .outer n ∧ fr? = none) ∨ ∃ fr, g.phase = .inQuery n fr ∧ fr? = some fr))) := by
  fun_cases next E fuel g <;> intro h
  · rename_i hph; cases h; exact Or.inl ⟨hph, rfl, rfl⟩
  · cases h
  · rename_i hph s hp
    exact Or.inr ⟨s, _, _, _, nextLoop_loop _ _ _ _ _ _ _ _ _ h, Or.inl ⟨hph, hp, rfl⟩⟩
  · rename_i n hph
    exact Or.inr ⟨_, n, _, _, nextLoop_loop _ _ _ _ _ _ _ _ _ h, Or.inr ⟨rfl, Or.inl ⟨hph, rfl⟩⟩⟩
  · rename_i n fr hph
    exact Or.inr ⟨_, n, _, _, nextLoop_loop _ _ _ _ _ _ _ _ _ h, Or.inr ⟨rfl, Or.inr ⟨fr, hph, rfl⟩⟩⟩

theorem next_not_fresh {E : Env α} {fuel : Nat} {g g' : Gen α} {out : Option Prog} (h : next E fuel g = some (g', out)) :
    g'.phase ≠ .fresh := by
  rcases next_loop h with ⟨hph, rfl, _⟩ | ⟨_, _, _, _, hl, _⟩
  · rw [hph]; nofun
  · exact fun he => hl.phase (by rw [he])

/-- `take` is the shared driver over `next`: its rules are those of PS/Proofs/Enum/Iter.lean -/
theorem take_eq (E : Env α) (fuel : Nat) : ∀ k g acc, take E fuel k g acc = Iter.take (next E fuel) k g acc :=
  Iter.take_unique (fun _ _ => rfl) (fun _ _ _ h => by simp only [take, h]) (fun _ _ _ _ h => by simp only [take, h])
    (fun _ _ _ _ _ h => by simp only [take, h])

/-- the calls of a history as the shared driver reads them -/
def Act.iter : Act → Iter.Act (Prog × Nat)
  | .take k => .take k
  | .merge p t => .merge (p, t)

theorem runHist_eq (E : Env α) (fuel : Nat) (acts : List Act) (g : Gen α) (out : List Prog) :
    runHist E fuel acts g out = Iter.run (next E fuel) (fun g m => merge E g m.1 m.2) (acts.map Act.iter) g out := by
  fun_induction runHist E fuel acts g out with
  | case1 => rfl
  | case2 p t rest g out ih => exact ih
  | case3 k rest g out h => rw [List.map_cons, Act.iter, Iter.run, ← take_eq, h]
  | case4 k rest g out g' ys fin h ih => rw [List.map_cons, Act.iter, Iter.run, ← take_eq, h]; exact ih

/-- `Iter.run_rule` in the terms of this machine: `J g out` an invariant of the generator object together with the
    programs yielded so far, `M` a side condition on the arguments `(p, t)` of the merges, assumed of those that occur in
    `acts` -/
theorem runHist_rule (E : Env α) (fuel : Nat) (J : Gen α → List Prog → Prop) (M : Prog → Nat → Prop)
    (hnext : ∀ g g' o out, next E fuel g = some (g', o) → J g out → J g' (out ++ o.toList))
    (hmerge : ∀ g p t out, M p t → J g out → J (merge E g p t) out)
    (acts : List Act) (g : Gen α) (out : List Prog) (g' : Gen α) (ys : List Prog)
    (h : runHist E fuel acts g out = some (g', ys)) (hM : ∀ p t, .merge p t ∈ acts → M p t) (hg : J g out) : J g' ys :=
  Iter.run_rule (I := J) (fun m => M m.1 m.2) (fun g acc g' o hi hn => hnext g g' o acc hn hi)
    (fun g m acc hm hi => hmerge g m.1 m.2 acc hm hi) (acts.map Act.iter) g out (g', ys) (runHist_eq E fuel acts g out ▸ h)
    (fun m hm => by
      obtain ⟨a, ha, e⟩ := List.mem_map.mp hm
      cases a with
      | take k => cases e
      | merge p t => cases e; exact hM p t ha) hg

/-! ### `merge_program` -/

/-- the non-terminals whose banks `merge_program` visits -/
def matched (E : Env α) (ty : Nat) (S : NT) : Bool := AList.lookup S E.G.ty = some ty && (AList.lookup S E.G.rules).isSome

theorem merge_eq (E : Env α) (g : Gen α) (other : Prog) (ty : Nat) :
    ∃ b d, merge E g other ty = { g with st := { g.st with bankNt := b, deleted := d } } := by
  obtain ⟨d, e⟩ := addDeleted_eq g.st other
  simp only [merge, e]
  exact ⟨_, _, rfl⟩

/-- what `merge_program` makes of `_bank_nt[S]` -/
def mergedRow (E : Env α) (other : Prog) (ty : Nat) (S : NT) (b : AList Nat (List Prog)) : AList Nat (List Prog) :=
  if matched E ty S then b.map fun x => (x.1, removeFirst other x.2) else b

theorem merge_bank (E : Env α) (g : Gen α) (other : Prog) (ty : Nat) :
    (merge E g other ty).st.bankNt = g.st.bankNt.map fun e => (e.1, mergedRow E other ty e.1 e.2) := by
  obtain ⟨d, e⟩ := addDeleted_eq g.st other
  simp only [merge, e]
  refine List.map_congr_left fun x _ => ?_
  obtain ⟨S, b⟩ := x
  simp only [mergedRow, matched]; split <;> rename_i h <;> simp [h]

/-- `other` is removed once from every list of a non-terminal it visits -/
theorem merge_lookup (E : Env α) (g : Gen α) (other : Prog) (ty : Nat) (S : NT) (c : Nat) (l : List Prog) :
    (∃ b, AList.lookup S (merge E g other ty).st.bankNt = some b ∧ AList.lookup c b = some l) ↔
    ∃ b0 l0, AList.lookup S g.st.bankNt = some b0 ∧ AList.lookup c b0 = some l0 ∧
      l = if matched E ty S then removeFirst other l0 else l0 := by
  rw [merge_bank, AList.lookup_map_val]
  cases AList.lookup S g.st.bankNt with
  | none => simp
  | some b0 =>
    have hrow : AList.lookup c (mergedRow E other ty S b0) =
        (AList.lookup c b0).map fun l0 => if matched E ty S then removeFirst other l0 else l0 := by
      unfold mergedRow
      split
      · exact AList.lookup_map_val (fun _ l => removeFirst other l) c b0
      · simp
    simp only [Option.map_some, Option.some.injEq, exists_eq_left', hrow, Option.map_eq_some_iff]
    exact ⟨fun ⟨l0, h1, h2⟩ => ⟨b0, l0, rfl, h1, h2.symm⟩, fun ⟨_, l0, e, h1, h2⟩ => ⟨l0, e ▸ h1, h2.symm⟩⟩

/-! ### tables that only grow -/

/-- a preorder on states that looks at `_bank_nt`, `deleted` and `_cost_lists_derivation` only and is respected by the
    steps that write to one of them -/
structure Grows (R : St α → St α → Prop) : Prop where
  same : ∀ {s s'}, s'.bankNt = s.bankNt → s'.deleted = s.deleted → s'.costDer = s.costDer → R s s'
  trans : ∀ {s1 s2 s3}, R s1 s2 → R s2 s3 → R s1 s3
  addDeleted : ∀ s p, R s (s.addDeleted p)
  appendBank : ∀ {s S ci p s'}, s.appendBank S ci p = some s' → R s s'
  ensureBank : ∀ {s S ci s'}, s.ensureBank S ci = some s' → R s s'
  costDer : ∀ {s args cl} x, AList.lookup args s.costDer = some cl → R s (s.setCostDer args (cl ++ [x]))

namespace Grows
variable {R : St α → St α → Prop} {E : Env α} (hR : Grows R)
include hR

theorem step {s s' s'' : St α} (h : R s' s'') (h1 : s'.bankNt = s.bankNt) (h2 : s'.deleted = s.deleted)
    (h3 : s'.costDer = s.costDer) : R s s'' := hR.trans (hR.same h1 h2 h3) h

theorem pop {s fr heap el heap' s1 args w} (hP : Pop E s fr heap el heap' s1 args w) : R s s1 :=
  hR.step (hR.ensureBank hP.bank) rfl rfl rfl

theorem markEmpty {s args ci mark s'} (h : MarkEmpty (α := α) s args ci mark s') : R s s' := by
  obtain ⟨e, rfl⟩ := h.eq
  exact hR.same rfl rfl rfl

theorem advance {A : Arith α} {s args s'} (h : Advance A s args s') : R s s' := by
  obtain ⟨q, cl, _, hcl, ⟨_, rfl⟩ | ⟨q', pk, _, _, rfl⟩⟩ := h
  · exact hR.same rfl rfl rfl
  · exact hR.step (hR.costDer (s := s.setQueueDer args q') pk.cost hcl) rfl rfl rfl

end Grows

theorem Exec.grows {R : St α → St α → Prop} {E : Env α} (hR : Grows R) {s s' : St α} {c : Call α} (h : Exec E s c s') :
    R s s' := by
  induction h with
  | deleted _ _ ih | tuple _ _ ih | pools _ _ ih | ruleDone _ _ ih | done _ ih | query _ _ _ _ _ _ _ _ ih => exact ih
  | rejected _ _ _ ih => exact hR.trans (hR.addDeleted _ _) ih
  | yield _ _ hb => exact hR.appendBank hb
  | exit _ _ _ hx =>
    obtain ⟨c, e, f, rfl⟩ := exitQuery_eq hx
    exact hR.same rfl rfl rfl
  | leaf hP _ ih => exact hR.trans (hR.pop hP) ih
  | @node s fr _ el _ _ _ w s2 _ _ cl h2 _ _ hP _ _ _ _ _ _ ihq ih =>
    obtain ⟨q, e⟩ := pushNext_eq E.A s2 fr.S h2 w el cl fr.noSucc
    rw [e] at ih
    exact hR.trans (hR.pop hP) (hR.trans ihq (hR.step ih rfl rfl rfl))
  | next _ _ ih1 ih2 | arg _ _ _ ih1 ih2 | failed _ _ _ ih1 ih2 => exact hR.trans ih1 ih2
  | empty | noCost | cached | stop | nil | beyond | stored | drained => exact hR.same rfl rfl rfl
  | brk _ _ ih => exact ih
  | allowed _ hs _ ih1 ih2 | store _ hs _ _ _ ih1 ih2 =>
    obtain ⟨q, rfl⟩ := succLoop_eq _ _ _ _ _ _ _ _ _ hs
    exact hR.trans ih1 (hR.step ih2 rfl rfl rfl)
  | derive _ _ _ _ _ hm ha _ ih =>
    exact hR.step (hR.trans ih (hR.trans (hR.markEmpty hm) (hR.advance ha))) rfl rfl rfl

theorem Loop.grows {E : Env α} {R : St α → St α → Prop} (hR : Grows R) {s : St α} {n : Nat} {fr? : Option (Frame α)}
    {failed : Bool} {g' : Gen α} {out : Option Prog} (h : Loop E s n fr? failed g' out) : R s g'.st :=
  h.keeps (P := R s) (fun _ _ h => hR.trans h (hR.same rfl rfl rfl)) (fun hr h => hR.trans h (hr.grows hR)) (hR.same rfl rfl rfl)

end PS.CD
