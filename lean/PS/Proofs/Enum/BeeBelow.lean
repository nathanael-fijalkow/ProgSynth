/- Bee search, bank completeness below a bound (`bank_complete`): in a reachable state (no merge), when every queued
   element and every offered program costs at least `L`, a program of cost below `L` all of whose sub-programs the filter
   accepts is banked. By induction on the program: its arguments cost less (a rule with arguments costs > 0), so they
   are banked, at indices `c`; by coverage `c` is expanded, pending, or below a pending combination; a pending
   combination at or below `c` would be queued with a cost below `L`, or delayed with an index beyond the cost list;
   so `c` is expanded, and (D) gives the program banked or offered. -/
import PS.Proofs.Enum.BeeComp
namespace PS.Bee
open PS PS.G

variable {S : Type} [DecidableEq S]
set_option linter.unusedSectionVars false
set_option linter.unusedSimpArgs false

/-- the filter accepts `p` and every sub-program of it: `_add_program_` filters what enters a bank, so a program with a
    rejected part is never built.  Nothing to do with the strict progress of BeeStrict (`StrictQ`). -/
def Strict (E : Env S) (p : Prog) : Prop := ∀ q ∈ subs p, E.filter q = true

theorem subs_self (p : Prog) : p ∈ subs p := by cases p; simp [subs]

theorem subsList_mem {k : Prog} : ∀ {ks : List Prog}, k ∈ ks → ∀ q ∈ subs k, q ∈ subsList ks
  | [], h, _, _ => by cases h
  | x :: xs, h, q, hq => by
    simp only [subsList, List.mem_append]
    rcases List.mem_cons.mp h with h | h
    · subst h; exact Or.inl hq
    · exact Or.inr (subsList_mem h q hq)

theorem strict_kid (E : Env S) (P : Sym) (kids : List Prog) (h : Strict E (.node P kids)) (k : Prog) (hk : k ∈ kids) :
    Strict E k := fun q hq => h q (by simp only [subs, List.mem_cons]; exact Or.inr (subsList_mem hk q hq))

def HasCosts (E : Env S) : Prop := ∀ nt P args, ruleArgs E nt P = some args → ∃ w, ruleCost E nt P = some w

theorem hasCosts_of_check (E : Env S) (h : hasCosts E = true) : HasCosts E := by
  intro nt P args ha
  obtain ⟨rs, rl, hl, hr, _⟩ := ruleArgs_mem ha
  unfold hasCosts at h
  have h2 := List.all_eq_true.mp (List.all_eq_true.mp h _ hl) _ hr
  cases hw : ruleCost E nt P with
  | none => simp [hw] at h2
  | some w => exact ⟨w, rfl⟩

theorem pcostList_nonneg (E : Env S) : ∀ (ks : List Prog) (as : List (Ty × S)), (∀ k ∈ ks, ∀ nt, 0 ≤ pcost E k nt) →
    0 ≤ pcostList E ks as
  | [], as, _ => by cases as <;> simp [pcostList]
  | _ :: _, [], _ => by simp [pcostList]
  | k :: ks, (t, s) :: as, h => by
    simp only [pcostList]
    have := h k List.mem_cons_self (t, (s, ()))
    have := pcostList_nonneg E ks as fun k' hk' => h k' (List.mem_cons_of_mem _ hk')
    omega

theorem pcost_nonneg (E : Env S) (hw : NNW E) (p : Prog) : ∀ nt : NT S Unit, 0 ≤ pcost E p nt := by
  induction p using Tree.ind with
  | node f kids ih =>
    intro nt
    simp only [pcost]
    cases hr : E.G.rule? nt f with
    | none => simp
    | some rl =>
      obtain ⟨args, u⟩ := rl
      have h1 : 0 ≤ (ruleCost E nt f).getD 0 := by
        cases hc : ruleCost E nt f with
        | none => simp
        | some w => simpa using hw nt f w hc
      have := pcostList_nonneg E kids args ih
      show 0 ≤ (ruleCost E nt f).getD 0 + pcostList E kids args
      omega

theorem pcostList_ge (E : Env S) (hw : NNW E) : ∀ (kids : List Prog) (args : List (Ty × S)) (j : Nat) (a : Ty × S) (k : Prog),
    args[j]? = some a → kids[j]? = some k → pcost E k (a.1, (a.2, ())) ≤ pcostList E kids args
  | [], _, j, a, k, _, hk => by simp at hk
  | _ :: _, [], j, a, k, ha, _ => by simp at ha
  | k0 :: ks, (t, s) :: as, j, a, k, ha, hk => by
    simp only [pcostList]
    cases j with
    | zero =>
      simp at ha hk; subst ha; subst hk
      have := pcostList_nonneg E ks as fun k _ => pcost_nonneg E hw k
      show pcost E k0 (t, (s, ())) ≤ pcost E k0 (t, (s, ())) + pcostList E ks as
      omega
    | succ j =>
      simp at ha hk
      have := pcostList_ge E hw ks as j a k ha hk
      have := pcost_nonneg E hw k0 (t, (s, ()))
      omega

theorem build_combo (s : St S) : ∀ (args : List (Ty × S)) (kids : List Prog), kids.length = args.length →
    (∀ (j : Nat) (a : Ty × S) (k : Prog), args[j]? = some a → kids[j]? = some k → ∃ v, inBank s (a.1, (a.2, ())) v k) →
    ∃ c, Prem s args c kids
  | [], kids, hl, _ => ⟨[], (prem_iff rfl).mpr (premAt_nil.mpr (List.length_eq_zero_iff.mp hl))⟩
  | _ :: _, [], hl, _ => nomatch hl
  | a :: as, k :: ks, hl, h => by
    obtain ⟨v, hv⟩ := h 0 a k rfl rfl
    obtain ⟨c, hc⟩ := build_combo s as ks (Nat.succ.inj hl) fun j a' k' ha hk => h (j + 1) a' k' ha hk
    refine ⟨v :: c, (prem_iff (congrArg (· + 1) hc.1)).mpr (premAt_cons.mpr ⟨k, ks, rfl, fun v' e => ?_,
      premAt_shift.mpr ((prem_iff hc.1).mp hc)⟩)⟩
    cases e; exact hv

theorem mem_pend (s : St S) (nt : NT S Unit) (P : Sym) (u : List Nat) (h : u ∈ pend s nt P) :
    (∃ e ∈ allOf nt s.queued, e.P = P ∧ e.combo = u) ∨ (∃ d ∈ allOf nt s.delayed, d.2.1 = P ∧ d.1 = u) := by
  unfold pend qcmb dcmb at h
  simp only [List.mem_append, List.mem_map, List.mem_filter, decide_eq_true_eq] at h
  rcases h with ⟨e, ⟨he, hP⟩, hu⟩ | ⟨d, ⟨hd, hP⟩, hu⟩
  · exact Or.inl ⟨e, he, hP, hu⟩
  · exact Or.inr ⟨d, hd, hP, hu⟩

theorem bank_complete (E : Env S) (hw : NNW E) (hpos : PosArgs E) (hcosts : HasCosts E) (g : Gen S) (hi : GInv E g)
    (hcov : CovSt E g.st) (hc : GC E g) (low : Int) (hos : OSt E g.st low) (L : Int)
    (hq : ∀ nt l, (nt, l) ∈ g.st.queued → ∀ e ∈ l, L ≤ e.cost)
    (hoff : ∀ nt p, Offered g nt p → L ≤ pcost E p nt) :
    ∀ (n : Nat) (p : Prog) (nt : NT S Unit), Tree.size p ≤ n → gen E.G p nt = true → Strict E p → pcost E p nt < L →
      ∃ ci, inBank g.st nt ci p := by
  intro n p
  induction p using Tree.ind generalizing n with
  | node P kids ih =>
    intro nt _ hgen hstrict hlt
    have hgen' := hgen
    simp only [gen] at hgen'
    cases hr : E.G.rule? nt P with
    | none => simp [hr] at hgen'
    | some rl =>
      obtain ⟨args, uu⟩ := rl
      simp only [hr] at hgen'
      have hargs : ruleArgs E nt P = some args := by simp [ruleArgs, hr]
      obtain ⟨w, hwc⟩ := hcosts nt P args hargs
      obtain ⟨hklen, hkgen⟩ := (genList_iff E.G kids args).mp hgen'
      have hpc : pcost E (.node P kids) nt = w + pcostList E kids args := pcost_node E nt P kids args w hargs hwc
      have hw0 : 0 ≤ w := hw nt P w hwc
      have hkids : ∀ (j : Nat) (a : Ty × S) (k : Prog), args[j]? = some a → kids[j]? = some k → ∃ v, inBank g.st (a.1, (a.2, ())) v k := by
        intro j a k ha hk
        have hkm : k ∈ kids := List.mem_of_getElem? hk
        have hne : args ≠ [] := by intro e; rw [e] at ha; simp at ha
        have hwpos := hpos nt P args w hargs hne hwc
        have hle := pcostList_ge E hw kids args j a k ha hk
        exact ih k hkm _ (a.1, (a.2, ())) (Nat.le_refl _) (hkgen j k a hk ha) (strict_kid E P kids hstrict k hkm) (by omega)
      obtain ⟨c, hprem⟩ := build_combo g.st args kids hklen hkids
      have hdefd : ∀ j, j < args.length → ∃ v, c[0 + j]? = some v := by
        intro j hj; exact ⟨c[j]'(by rw [hprem.1]; exact hj), by simp⟩
      have hrc : realCost E g.st.costList nt P c = some (pcost E (.node P kids) nt) := by
        rw [realCost_of_rule hwc hargs, hpc]
        exact realCostLoop_of_premAt E g.st hi.st.bank c args kids 0 w ((prem_iff hprem.1).mp hprem) hdefd
      have hvalid : ∀ (j v : Nat), c[j]? = some v → v < g.st.costList.length := by
        intro j v hv
        have hj : j < args.length := by rw [← hprem.1]; exact (List.getElem?_eq_some_iff.mp hv).1
        have hjk : j < kids.length := by omega
        obtain ⟨a, ha⟩ : ∃ a, args[j]? = some a := ⟨_, List.getElem?_eq_getElem hj⟩
        exact (List.getElem?_eq_some_iff.mp
          (hi.st.bank.of_inBank (hprem.2.2 j a _ v ha (List.getElem?_eq_getElem hjk) hv)).2).1
      have hnopend : ∀ u, u ∈ pend g.st nt P → Le u c → False := by
        intro u hu hle
        rcases mem_pend g.st nt P u hu with ⟨e, he, hP, hcu⟩ | ⟨d, hd, hP, hcu⟩
        · obtain ⟨l, hl, hel⟩ := mem_allOf.mp he
          have hqs := hi.st.queue nt l hl e hel
          unfold QSound at hqs
          rw [hP, hcu] at hqs
          obtain ⟨y, hy, hyx⟩ := realCost_le E g.st.costList hos.mono nt P u c hle _ hrc
          rw [hqs] at hy; cases hy
          have := hq nt l hl e hel
          omega
        · obtain ⟨l, hl, hdl⟩ := mem_allOf.mp hd
          obtain ⟨hdelay, _⟩ := hos.d nt l hl d hdl
          rw [hcu] at hdelay
          -- some index of `u` is beyond the cost list, but `u ≤ c` pointwise and `c` is valid
          obtain ⟨i, v, hv, hge, _⟩ := needsDelay_true hdelay
          have hic : i < c.length := by rw [← hle.1]; exact (List.getElem?_eq_some_iff.mp hv).1
          have := hle.2 i v _ hv (List.getElem?_eq_getElem hic)
          have := hvalid i _ (List.getElem?_eq_getElem hic)
          omega
      rcases hcov nt P args hargs c hprem.1 with hdone | hmem | ⟨u, hu, hanc⟩
      · rcases hc.d nt P args c kids hargs hdone hprem (hstrict _ (subs_self _)) with h1 | h1
        · exact h1
        · have := hoff nt _ h1; omega
      · exact absurd (Le.refl c) (fun hle => hnopend c hmem hle)
      · exact absurd hanc.le (fun hle => hnopend u hu hle)

end PS.Bee
