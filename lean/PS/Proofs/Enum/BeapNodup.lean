/- No duplicates in beap search: the state invariant `NI`.  A ghost table `pp` records, per non-terminal, the
   (rule, combination) pairs popped so far.
   * `k1` the pairs in the queue and the popped pairs are pairwise distinct;
   * `k2` every non-zero combination in the queue or popped has its `Succ`-predecessor among the popped ones (a
     combination has at most one);
   * `k3` every program of a bank was built from a popped pair and a tuple taken from the banks of the arguments (`Prov`);
   * `k4` every bank entry is duplicate-free.
   Two programs built from different (rule, combination) pairs are different (`prog_differ`): different rules give
   different heads, different combinations of one rule give, at some position, arguments of different cost. -/
import PS.Proofs.Enum.BeapFrontier
import PS.Proofs.Product
import PS.Proofs.Enum.BeapOrderFull
namespace PS.Beap
open PS PS.G PS.Heapq

set_option linter.unusedSectionVars false
variable {S : Type} [DecidableEq S]

/-- what identifies a queue element in the ghost table: (rule, combination); the model's `HeapEl.key` is the heap
    key (cost, combination) -/
def key2 (el : HeapEl) : Sym × List Nat := (el.P, el.comb)

theorem succ_ne (c t : List Nat) (h : Succ c t) : t ≠ c := by
  obtain ⟨i, hil, _, ht⟩ := h
  intro he
  have := succ_getD c t i hil ht i
  simp only [if_true] at this
  rw [he] at this; omega

theorem succ_not_zero (c t : List Nat) (h : Succ c t) : ¬ (∀ j, t.getD j 0 = 0) := by
  obtain ⟨i, hil, _, ht⟩ := h
  intro hz
  have := succ_getD c t i hil ht i
  simp only [if_true] at this
  rw [hz i] at this; omega

/-! ### programs with different provenance are different -/

/-- the tuple `a` was taken from the banks of the arguments at the cost indices of `comb` -/
def Prov (s : St S) (args : List (Ty × S)) (comb : List Nat) (a : List Prog) : Prop :=
  All2 (fun x (ac : NT S Unit × Nat) => x ∈ s.bankAt ac.1 ac.2) a ((args.map ntOf).zip comb) ∧ comb.length = args.length

/-- the cost of a program determines its bank index -/
theorem bank_index_unique (E : Env S) (s : St S) (hc : CInv E s) (ho : OI s) (nt : NT S Unit) (x : Prog) (c c' : Nat)
    (h : x ∈ s.bankAt nt c) (h' : x ∈ s.bankAt nt c') : c = c' := by
  obtain ⟨e, g1, g2⟩ := hc.bank nt c x h
  obtain ⟨e', g1', g2'⟩ := hc.bank nt c' x h'
  exact idx_of_fin s ho nt c c' e e' g1 g1' (Option.some.inj (g2.symm.trans g2'))

theorem prov_comb_unique (E : Env S) (s : St S) (hc : CInv E s) (ho : OI s) :
    ∀ (args : List (Ty × S)) (comb comb' : List Nat) (a : List Prog),
      All2 (fun x (ac : NT S Unit × Nat) => x ∈ s.bankAt ac.1 ac.2) a ((args.map ntOf).zip comb) →
      All2 (fun x (ac : NT S Unit × Nat) => x ∈ s.bankAt ac.1 ac.2) a ((args.map ntOf).zip comb') →
      comb.length = args.length → comb'.length = args.length → comb = comb'
  | [], comb, comb', _, _, _, h3, h4 => by
    have e1 : comb = [] := List.length_eq_zero_iff.mp h3
    have e2 : comb' = [] := List.length_eq_zero_iff.mp h4
    rw [e1, e2]
  | arg :: args, [], _, _, _, _, h3, _ => by simp at h3
  | arg :: args, _ :: _, [], _, _, _, _, h4 => by simp at h4
  | arg :: args, c :: cs, c' :: cs', a, h1, h2, h3, h4 => by
    simp only [List.map_cons, List.zip_cons_cons] at h1 h2
    cases h1 with
    | cons m1 r1 =>
      cases h2 with
      | cons m2 r2 =>
        have hcc := bank_index_unique E s hc ho _ _ c c' m1 m2
        have := prov_comb_unique E s hc ho args cs cs' _ r1 r2 (by simpa using h3) (by simpa using h4)
        rw [hcc, this]

theorem prog_differ (E : Env S) (s : St S) (hc : CInv E s) (ho : OI s) (nt : NT S Unit) (P P' : Sym)
    (rl rl' : List (Ty × S) × Unit) (hr : E.G.rule? nt P = some rl) (hr' : E.G.rule? nt P' = some rl')
    (comb comb' : List Nat) (a a' : List Prog) (hp : Prov s rl.1 comb a) (hp' : Prov s rl'.1 comb' a')
    (hne : (P, comb) ≠ (P', comb')) :
    mkProg P (!(rl.1.map ntOf).isEmpty) a ≠ mkProg P' (!(rl'.1.map ntOf).isEmpty) a' := by
  intro heq
  by_cases hP : P = P'
  · subst hP
    have : rl = rl' := by rw [hr] at hr'; exact Option.some.inj hr'
    subst this
    apply hne
    congr 1
    cases hrl : rl.1 with
    | nil =>
      have e1 : comb = [] := List.length_eq_zero_iff.mp (by rw [hp.2, hrl]; rfl)
      have e2 : comb' = [] := List.length_eq_zero_iff.mp (by rw [hp'.2, hrl]; rfl)
      rw [e1, e2]
    | cons x xs =>
      have hfun : (!(rl.1.map ntOf).isEmpty) = true := by rw [hrl]; rfl
      rw [hfun] at heq
      simp only [mkProg, if_true, Tree.node.injEq, true_and] at heq
      subst heq
      exact prov_comb_unique E s hc ho rl.1 comb comb' a hp.1 hp'.1 hp.2 hp'.2
  · unfold mkProg at heq
    split at heq <;> split at heq <;> (simp only [Tree.node.injEq] at heq; exact hP heq.1)

abbrev Ghost (S : Type) := NT S Unit → List (Sym × List Nat)

structure NI (E : Env S) (s : St S) (pp : Ghost S) : Prop where
  k1 : ∀ nt, ((s.queueOf nt).map key2 ++ pp nt).Nodup
  k2 : ∀ nt P t, (P, t) ∈ (s.queueOf nt).map key2 ++ pp nt → (∀ j, t.getD j 0 = 0) ∨ ∃ c, (P, c) ∈ pp nt ∧ Succ c t
  k3 : ∀ nt ci p, p ∈ s.bankAt nt ci → ∃ P comb a rl, (P, comb) ∈ pp nt ∧ E.G.rule? nt P = some rl ∧
    p = mkProg P (!(rl.1.map ntOf).isEmpty) a ∧ Prov s rl.1 comb a
  k4 : ∀ nt ci, (s.bankAt nt ci).Nodup

def BankMono (s s' : St S) : Prop := ∀ nt ci p, p ∈ s.bankAt nt ci → p ∈ s'.bankAt nt ci
theorem BankMono.refl (s : St S) : BankMono s s := fun _ _ _ h => h
theorem BankMono.trans {a b c : St S} (h1 : BankMono a b) (h2 : BankMono b c) : BankMono a c :=
  fun nt ci p h => h2 nt ci p (h1 nt ci p h)
theorem BankMono.of_eq {s s' : St S} (h : ∀ nt ci, s'.bankAt nt ci = s.bankAt nt ci) : BankMono s s' :=
  fun nt ci p hp => by rw [h]; exact hp

theorem BankMono.append (s : St S) (nt : NT S Unit) (ci : Nat) (p : Prog) :
    BankMono s (s.setBank nt ci (s.bankAt nt ci ++ [p])) :=
  fun nt' ci' x hx => (mem_bankAt_append s nt nt' ci ci' p x).mpr (Or.inl hx)

theorem wr_bankMono {E : Env S} {s s' : St S} (h : Wr E s s') : BankMono s s' := by
  cases h with
  | del p _ => exact BankMono.of_eq (fun nt ci => St.addDeleted_bankAt s nt p ci)
  | bank nt ci p _ _ => exact BankMono.append s nt ci p
  | ensure nt ci => exact BankMono.of_eq (fun nt' ci' => St.bankAt_ensureBank s nt nt' ci ci')
  | pop => exact BankMono.of_eq (fun _ _ => rfl)
  | push => exact BankMono.of_eq (fun _ _ => rfl)
  | mark nt fr => exact BankMono.of_eq (fun nt' ci => markEmpty_bankAt s nt nt' fr ci)
  | snoc => exact BankMono.of_eq (fun _ _ => rfl)

theorem run_bankMono (E : Env S) (n : Nat) : RunsRel E n BankMono :=
  run_lift E BankMono.refl (fun _ _ _ => BankMono.trans) (fun _ _ => wr_bankMono) n

theorem Prov.mono {s s' : St S} {args : List (Ty × S)} {comb : List Nat} {a : List Prog} (h : Prov s args comb a)
    (hm : BankMono s s') : Prov s' args comb a :=
  ⟨h.1.mono (fun _ _ hr => hm _ _ _ hr), h.2⟩

/-- `Prot` for the ghost entry and the banks; it says nothing of the cost lists, so its transitivity takes a `Prot`
    to carry `lastGe` over the first step (`ProtG.trans`) -/
def ProtG (x : Rat) (s s' : St S) (pp pp' : Ghost S) : Prop :=
  ∀ nt, lastGe s nt x → pp' nt = pp nt ∧ ∀ ci, s'.bankAt nt ci = s.bankAt nt ci

/-- the tuples the suspended `query(nt, ci)` still has to consume: pairwise distinct, built from one popped pair, and
    the program of none of them is in `_bank[nt][ci]` so far, which is what keeps `k4` when it is appended -/
def PendOK (E : Env S) (s : St S) (nt : NT S Unit) (ci : Nat) (P : Sym) (isFun : Bool) (pend : List (List Prog)) (pp : Ghost S) : Prop :=
  pend.Nodup ∧ (pend = [] ∨ ∃ comb rl, (P, comb) ∈ pp nt ∧ E.G.rule? nt P = some rl ∧ isFun = (!(rl.1.map ntOf).isEmpty) ∧
    ∀ a ∈ pend, Prov s rl.1 comb a ∧ mkProg P isFun a ∉ s.bankAt nt ci)

theorem NI.of_eq {E : Env S} {s s' : St S} {pp : Ghost S} (hq : ∀ nt, s'.queueOf nt = s.queueOf nt)
    (hb : ∀ nt ci, s'.bankAt nt ci = s.bankAt nt ci) (h : NI E s pp) : NI E s' pp := by
  refine ⟨fun nt => (hq nt) ▸ h.k1 nt, fun nt P t hm => h.k2 nt P t ((hq nt) ▸ hm), fun nt ci p hp => ?_, fun nt ci => (hb nt ci) ▸ h.k4 nt ci⟩
  obtain ⟨P, comb, a, rl, g1, g2, g3, g4⟩ := h.k3 nt ci p (hb nt ci ▸ hp)
  exact ⟨P, comb, a, rl, g1, g2, g3, g4.mono (BankMono.of_eq hb)⟩

theorem prov_nil_args (s : St S) (comb : List Nat) (a : List Prog) (h : Prov s [] comb a) : a = [] := by
  have := h.1
  simp only [List.map_nil, List.zip_nil_left] at this
  cases this; rfl

theorem PendOK.tail {E : Env S} {s s' : St S} {nt : NT S Unit} {ci : Nat} {P : Sym} {isFun : Bool} {a : List Prog}
    {rest : List (List Prog)} {pp : Ghost S} (hp : PendOK E s nt ci P isFun (a :: rest) pp) (hm : BankMono s s')
    (hnew : ∀ a' ∈ rest, mkProg P isFun a' ∉ s.bankAt nt ci → mkProg P isFun a' ∉ s'.bankAt nt ci) :
    PendOK E s' nt ci P isFun rest pp := by
  refine ⟨(List.nodup_cons.mp hp.1).2, ?_⟩
  rcases hp.2 with h | ⟨comb, rl, g1, g2, g3, g4⟩
  · cases h
  · exact Or.inr ⟨comb, rl, g1, g2, g3, fun a' ha' =>
      let ⟨q1, q2⟩ := g4 a' (List.mem_cons_of_mem _ ha'); ⟨q1.mono hm, hnew a' ha' q2⟩⟩

theorem emit_ni (E : Env S) (nt : NT S Unit) (ci : Nat) (P : Sym) (isFun : Bool) (pp : Ghost S)
    (pend : List (List Prog)) (s : St S) (r) (h : emit E nt ci P isFun s pend = r) :
    NI E s pp → PendOK E s nt ci P isFun pend pp →
      NI E r.1 pp ∧ (∀ nt' ci', (nt', ci') ≠ (nt, ci) → r.1.bankAt nt' ci' = s.bankAt nt' ci') ∧
      ∀ p rest, r.2 = some (p, rest) →
        p ∉ s.bankAt nt ci ∧ p ∈ r.1.bankAt nt ci ∧ PendOK E r.1 nt ci P isFun rest pp := by
  apply emit_induct E nt ci P isFun ?nil ?deleted ?rejected ?yield pend s r h
  case nil => exact fun s hs _ => ⟨hs, fun _ _ _ => rfl, nofun⟩
  case deleted => exact fun s a rest r _ ih hs hp => ih hs (hp.tail (BankMono.refl s) fun _ _ h => h)
  case rejected =>
    intro s a rest r _ ih hs hp
    have hb : ∀ nt' ci', (s.addDeleted (mkProg P isFun a)).bankAt nt' ci' = s.bankAt nt' ci' :=
      fun nt' ci' => St.addDeleted_bankAt s nt' _ ci'
    obtain ⟨h1, h3, h4⟩ := ih (hs.of_eq (fun nt' => St.addDeleted_queueOf s nt' _) hb)
      (hp.tail (BankMono.of_eq hb) fun _ _ h => by rwa [hb])
    refine ⟨h1, fun nt' ci' hne => by rw [h3 nt' ci' hne, hb], fun p r hpr => ?_⟩
    obtain ⟨q1, q2, q3⟩ := h4 p r hpr
    exact ⟨by rw [← hb]; exact q1, q2, q3⟩
  case yield =>
    intro s a rest _ _ hs hp
    have hnd := List.nodup_cons.mp hp.1
    rcases hp.2 with h | ⟨comb, rl, g1, g2, g3, g4⟩
    · cases h
    obtain ⟨ga, gnew⟩ := g4 a (List.mem_cons_self ..)
    have hbm := BankMono.append s nt ci (mkProg P isFun a)
    have hother : ∀ nt' ci', (nt', ci') ≠ (nt, ci) →
        (s.setBank nt ci (s.bankAt nt ci ++ [mkProg P isFun a])).bankAt nt' ci' = s.bankAt nt' ci' := by
      intro nt' ci' hne
      rw [St.bankAt_setBank]
      split
      · next heq => exact absurd (Prod.ext heq.1 heq.2) hne
      · rfl
    have hself : (s.setBank nt ci (s.bankAt nt ci ++ [mkProg P isFun a])).bankAt nt ci = s.bankAt nt ci ++ [mkProg P isFun a] := by
      rw [St.bankAt_setBank]; simp
    refine ⟨⟨fun nt' => hs.k1 nt', fun nt' P' t hm => hs.k2 nt' P' t hm, fun nt' ci' p hp' => ?_, fun nt' ci' => ?_⟩, hother, ?_⟩
    · by_cases heq : (nt', ci') = (nt, ci)
      · cases heq
        rw [hself] at hp'
        rcases List.mem_append.mp hp' with h | h
        · obtain ⟨P', comb', a', rl', q1, q2, q3, q4⟩ := hs.k3 nt ci p h
          exact ⟨P', comb', a', rl', q1, q2, q3, q4.mono hbm⟩
        · simp only [List.mem_singleton] at h; subst h
          exact ⟨P, comb, a, rl, g1, g2, by rw [g3], ga.mono hbm⟩
      · rw [hother nt' ci' heq] at hp'
        obtain ⟨P', comb', a', rl', q1, q2, q3, q4⟩ := hs.k3 nt' ci' p hp'
        exact ⟨P', comb', a', rl', q1, q2, q3, q4.mono hbm⟩
    · by_cases heq : (nt', ci') = (nt, ci)
      · cases heq
        rw [hself, List.nodup_append]
        refine ⟨hs.k4 nt ci, List.pairwise_singleton _ _, fun x hx y hy hxy => ?_⟩
        simp only [List.mem_singleton] at hy; subst hy; subst hxy
        exact gnew hx
      · rw [hother nt' ci' heq]; exact hs.k4 nt' ci'
    · intro p r hpr
      simp only [Option.some.injEq, Prod.mk.injEq] at hpr
      obtain ⟨rfl, rfl⟩ := hpr
      refine ⟨gnew, by rw [hself]; simp, hp.tail hbm fun a' ha' q2 => ?_⟩
      rw [hself]
      intro hm
      rcases List.mem_append.mp hm with h | h
      · exact q2 h
      · simp only [List.mem_singleton] at h
        -- two different tuples of the same element build different programs
        have hne : a' ≠ a := fun e => hnd.1 (e ▸ ha')
        by_cases hf : isFun = true
        · rw [hf] at h
          simp only [mkProg, if_true, Tree.node.injEq, true_and] at h
          exact hne h
        · -- no argument: both tuples are empty
          have hf' : (!(rl.1.map ntOf).isEmpty) = false := by rw [← g3]; simpa using hf
          have hnil : rl.1 = [] := by
            cases hrl : rl.1 with
            | nil => rfl
            | cons x xs => simp [hrl] at hf'
          have e1 := prov_nil_args s comb a (hnil ▸ ga)
          have e2 := prov_nil_args s comb a' (hnil ▸ (g4 a' (List.mem_cons_of_mem _ ha')).1)
          exact hne (e2.trans e1.symm)

def gset (pp : Ghost S) (nt : NT S Unit) (l : List (Sym × List Nat)) : Ghost S := fun x => if x = nt then l else pp x

theorem gset_self (pp : Ghost S) (nt : NT S Unit) (l : List (Sym × List Nat)) : gset pp nt l nt = l := by simp [gset]
theorem gset_other (pp : Ghost S) (nt nt' : NT S Unit) (l : List (Sym × List Nat)) (h : nt' ≠ nt) : gset pp nt l nt' = pp nt' := by
  simp [gset, h]

theorem pop_ni (E : Env S) (s : St S) (pp : Ghost S) (nt : NT S Unit) (el : HeapEl) (q' : List HeapEl) (hs : NI E s pp)
    (hpop : Heapq.pop ltE (s.queueOf nt) = some (el, q')) :
    NI E (s.setQueue nt q') (gset pp nt (key2 el :: pp nt)) ∧ key2 el ∉ pp nt ∧ key2 el ∉ q'.map key2 := by
  have hperm : (s.queueOf nt).Perm (el :: q') := pop_perm ltE _ _ _ hpop
  have hperm2 : ((s.queueOf nt).map key2 ++ pp nt).Perm (q'.map key2 ++ key2 el :: pp nt) := by
    have h1 : ((s.queueOf nt).map key2).Perm (key2 el :: q'.map key2) := by simpa using hperm.map key2
    refine (h1.append_right _).trans ?_
    simp only [List.cons_append]
    exact List.perm_middle.symm
  have hnd := (hperm2.nodup_iff).mp (hs.k1 nt)
  have hnotpp : key2 el ∉ pp nt ∧ key2 el ∉ q'.map key2 := by
    rw [List.nodup_append] at hnd
    obtain ⟨_, h2, h3⟩ := hnd
    exact ⟨(List.nodup_cons.mp h2).1, fun hm => h3 _ hm _ (List.mem_cons_self ..) rfl⟩
  refine ⟨⟨fun nt' => ?_, fun nt' P t hm => ?_, fun nt' ci p hp => ?_, fun nt' ci => hs.k4 nt' ci⟩, hnotpp.1, hnotpp.2⟩
  · by_cases heq : nt' = nt
    · subst heq
      rw [St.queueOf_setQueue, gset_self]; simp only [if_true]; exact hnd
    · rw [St.queueOf_setQueue, gset_other _ _ _ _ heq]; simp only [heq, if_false]; exact hs.k1 nt'
  · by_cases heq : nt' = nt
    · subst heq
      rw [St.queueOf_setQueue, gset_self] at hm; simp only [if_true] at hm
      have hm' : (P, t) ∈ (s.queueOf nt').map key2 ++ pp nt' := (hperm2.mem_iff).mpr hm
      rcases hs.k2 nt' P t hm' with h | ⟨c, h1, h2⟩
      · exact Or.inl h
      · exact Or.inr ⟨c, by rw [gset_self]; exact List.mem_cons_of_mem _ h1, h2⟩
    · rw [St.queueOf_setQueue, gset_other _ _ _ _ heq] at hm; simp only [heq, if_false] at hm
      rcases hs.k2 nt' P t hm with h | ⟨c, h1, h2⟩
      · exact Or.inl h
      · exact Or.inr ⟨c, by rw [gset_other _ _ _ _ heq]; exact h1, h2⟩
  · obtain ⟨P, comb, a, rl, g1, g2, g3, g4⟩ := hs.k3 nt' ci p hp
    refine ⟨P, comb, a, rl, ?_, g2, g3, g4⟩
    by_cases heq : nt' = nt
    · subst heq; rw [gset_self]; exact List.mem_cons_of_mem _ g1
    · rw [gset_other _ _ _ _ heq]; exact g1

theorem succLoop_ni (E : Env S) (s : St S) (pp : Ghost S) (nt : NT S Unit) (cost : Cost) (P : Sym) (comb : List Nat)
    (sargs : List (NT S Unit)) (hs : NI E s pp) (hlen : sargs.length = comb.length) (hk : (P, comb) ∈ pp nt)
    (hnew : ∀ t, Succ comb t → (P, t) ∉ (s.queueOf nt).map key2 ++ pp nt) :
    NI E (succLoop nt cost P comb s 0 sargs) pp ∧ (∀ nt' ci, (succLoop nt cost P comb s 0 sargs).bankAt nt' ci = s.bankAt nt' ci) := by
  obtain ⟨hperm, hother⟩ := succLoop_perm nt cost P comb sargs s 0
  have hcomb := succEls_comb cost P comb s sargs 0
  have hP := succEls_P cost P comb s sargs 0
  have hbank : ∀ nt' ci, (succLoop nt cost P comb s 0 sargs).bankAt nt' ci = s.bankAt nt' ci := fun nt' ci => by
    rw [succLoop_eq, bankAt_pushAll]
  have hkeys : (succEls cost P comb s 0 sargs).map key2 = (succCombs comb 0 (sargs.map fun a => (s.clOf a).length)).map (fun t => (P, t)) := by
    rw [← hcomb, List.map_map]
    apply List.map_congr_left
    intro el hel
    simp [key2, hP el hel]
  have hsucc : ∀ t ∈ succCombs comb 0 (sargs.map fun a => (s.clOf a).length), Succ comb t :=
    fun t ht => succ_of_mem comb t _ (by simpa using hlen) ht
  have hnd0 : (succCombs comb 0 (sargs.map fun a => (s.clOf a).length)).Nodup :=
    succCombs_nodup comb _ 0 (by simp; omega)
  have hpermk : ((succLoop nt cost P comb s 0 sargs).queueOf nt).map key2 ++ pp nt |>.Perm
      ((succCombs comb 0 (sargs.map fun a => (s.clOf a).length)).map (fun t => (P, t)) ++ ((s.queueOf nt).map key2 ++ pp nt)) := by
    have := (hperm.map key2).append_right (pp nt)
    simpa [hkeys, List.append_assoc] using this
  refine ⟨⟨fun nt' => ?_, fun nt' P' t hm => ?_, fun nt' ci p hp => ?_, fun nt' ci => (hbank nt' ci) ▸ hs.k4 nt' ci⟩, hbank⟩
  · by_cases heq : nt' = nt
    · subst heq
      rw [hpermk.nodup_iff, List.nodup_append]
      refine ⟨?_, hs.k1 nt', fun x hx y hy hxy => ?_⟩
      · exact map_pair_nodup P _ hnd0
      · subst hxy
        simp only [List.mem_map] at hx
        obtain ⟨t, ht, rfl⟩ := hx
        exact hnew t (hsucc t ht) hy
    · rw [hother nt' heq]; exact hs.k1 nt'
  · by_cases heq : nt' = nt
    · subst heq
      have hm' := (hpermk.mem_iff).mp hm
      rcases List.mem_append.mp hm' with h | h
      · simp only [List.mem_map, Prod.mk.injEq] at h
        obtain ⟨t', ht', rfl, rfl⟩ := h
        exact Or.inr ⟨comb, hk, hsucc t' ht'⟩
      · exact hs.k2 nt' P' t h
    · rw [hother nt' heq] at hm; exact hs.k2 nt' P' t hm
  · rw [hbank] at hp
    obtain ⟨P', comb', a, rl, g1, g2, g3, g4⟩ := hs.k3 nt' ci p hp
    exact ⟨P', comb', a, rl, g1, g2, g3, g4.mono (BankMono.of_eq hbank)⟩
where
  map_pair_nodup (P : Sym) : ∀ (l : List (List Nat)), l.Nodup → (l.map (fun t => (P, t))).Nodup
    | [], _ => List.nodup_nil
    | t :: ts, h => by
      have hh := List.nodup_cons.mp h
      simp only [List.map_cons]
      refine List.nodup_cons.mpr ⟨fun hm => ?_, map_pair_nodup P ts hh.2⟩
      simp only [List.mem_map, Prod.mk.injEq, true_and] at hm
      obtain ⟨t', ht', he⟩ := hm
      exact hh.1 (he ▸ ht')

end PS.Beap
