/- Completeness of beap search: the invariants.  For a non-terminal `S`:
   * completed region (`CRm`): every clean program of `S` cheaper than the last cost of `S` is in the bank entry of
     its cost;
   * frontier (`FRm`): every clean program of `S` at least as expensive as the last cost is in the last bank entry
     or has, in the queue of `S`, an element of its rule whose combination lies on the producer chain of its own
     combination (`BelowArgs`);
   * `EInvm`: bookkeeping of `_empties`, `_deleted`, the bank keys, and `LB`: the first cost of a non-terminal bounds
     the cost of its programs from below.
   `WInvm` joins `CRm` (every non-terminal) and `EInvm` with `CInv` (costs of queue elements and bank entries,
   BeapCost.lean) and `OI` (cost lists increasing, queues are heaps, BeapOrderFull.lean).  The frontier clause is not
   in it: it is false of a non-terminal whose `query` is suspended (the programs of the popped element are neither
   stored nor queued: the third disjunct of `FrKm.frf`), so it is carried beside `WInvm`, for the non-terminals that
   a call cannot find suspended (BeapComplRun.lean).
   The proofs rest on these forms.  They take an effective filter `F` (accepted by `E.filter` and not merged so far:
   `EInvm.fle`, `EInvm.d1`), so that `merge_program` is a step that strengthens the filter, and say nothing of the
   marks in `_empties`.  The marks (`MK`: an empty bank entry is marked; false after a merge emptied an entry) ride
   along under a mode `P` (`E4P`, `FRP`; `P := True` as long as nothing is merged), and `P ∨ E.fixEmptied = true` is
   assumed: the `_query_list_` of /repo (fix C12-F13, `fixEmptied = true`) needs no marks.
   The forms without suffix (`EInv`, `CR`, `FR`, `WInv`, `FrK`) are the `m` forms at `E.filter` with the marks written
   out (`EInv.iff`, `WInv.iff`, `FR.iff`, `FrK.iff`); `next_ok` (BeapComplStep.lean) and `GK` (BeapComplFinal.lean)
   are stated on them, no proof goes through them.
   Field names: `e2` = an index marked in `_empties` has an empty bank entry; `e4`, `MK`, `E4P`, `E4g` = the converse;
   `d1` = a program in `_deleted` is rejected by the filter.  The "4" of `Same4`, `Keep4` counts the four tables of a
   non-terminal. -/
import PS.Proofs.Enum.BeapComplBase
import PS.Proofs.Enum.Frontier
namespace PS.Beap
open PS PS.G PS.Heapq

set_option linter.unusedSectionVars false
variable {S : Type} [DecidableEq S]

/-- `_query_list_(nt, ci)` answers from the tables without calling `query`: `ci` is a key of `_bank[nt]` or is in
    `_empties[nt]`.  `query(nt, ci)` creates the key before its first product (beap_search.py:198-199) and writes the
    mark in its epilogue (:216), so a query that has just been entered is `¬ Entered` (`FrKm.fresh`). -/
def Entered (s : St S) (nt : NT S Unit) (ci : Nat) : Prop :=
  (AList.lookup ci (s.bankOf nt)).isSome = true ∨ (s.emptiesOf nt).contains ci = true

theorem Entered.congr {s s' : St S} {nt : NT S Unit} (hb : s'.bankOf nt = s.bankOf nt) (he : s'.emptiesOf nt = s.emptiesOf nt)
    (ci : Nat) : Entered s' nt ci ↔ Entered s nt ci := by
  rw [Entered, Entered, hb, he]

theorem not_entered_iff {s : St S} {nt : NT S Unit} {ci : Nat} :
    ¬ Entered s nt ci ↔ AList.lookup ci (s.bankOf nt) = none ∧ (s.emptiesOf nt).contains ci = false := by
  unfold Entered
  cases AList.lookup ci (s.bankOf nt) <;> cases (s.emptiesOf nt).contains ci <;> simp

structure EInv (E : Env S) (s : St S) : Prop where
  e2 : ∀ nt ci, (s.emptiesOf nt).contains ci = true → s.bankAt nt ci = []
  d1 : ∀ q, q ∈ s.deleted → E.filter q = false
  be : ∀ nt ci, Entered s nt ci → ci < (s.clOf nt).length
  lb : LB E s

def CR (E : Env S) (s : St S) (nt : NT S Unit) : Prop :=
  ∀ p x l, clean E.filter p = true → costOf E p nt = some x → (s.clOf nt).getLast? = some l → x < l.fin →
    ∃ i e, (s.clOf nt)[i]? = some e ∧ e.fin = x ∧ p ∈ s.bankAt nt i

def Covered (E : Env S) (s : St S) (nt : NT S Unit) (f : Sym) (kids : List Prog) (x : Rat) (l : Cost) (rl : List (Ty × S) × Unit) : Prop :=
  (x = l.fin ∧ Tree.node f kids ∈ s.bankAt nt ((s.clOf nt).length - 1)) ∨
  ∃ el, el ∈ s.queueOf nt ∧ el.P = f ∧ BelowArgs E s rl.1 el.comb kids

/-- Clause 1: the frontier.  Clause 2: when the last index has been answered (`Entered`) and is still the last,
    the queue is empty (the epilogue of `query` appends the cost of the head whenever there is one), so `nt` has no
    program above its last cost: what `next_okm` and `idxDone_of_entered` read.  Clause 3: `MK` at every index. -/
def FR (E : Env S) (s : St S) (nt : NT S Unit) : Prop :=
  (∀ f kids x l rl, clean E.filter (.node f kids) = true → costOf E (.node f kids) nt = some x →
    (s.clOf nt).getLast? = some l → l.fin ≤ x → E.G.rule? nt f = some rl → Covered E s nt f kids x l rl) ∧
  (Entered s nt ((s.clOf nt).length - 1) → s.queueOf nt = []) ∧
  (∀ ci, AList.lookup ci (s.bankOf nt) = some [] → (s.emptiesOf nt).contains ci = true)

structure WInv (E : Env S) (s : St S) : Prop where
  c : CInv E s
  o : OI s
  e : EInv E s
  cr : ∀ nt, CR E s nt

def Same4 (s s' : St S) (nt : NT S Unit) : Prop :=
  s'.clOf nt = s.clOf nt ∧ s'.queueOf nt = s.queueOf nt ∧ s'.bankOf nt = s.bankOf nt ∧ s'.emptiesOf nt = s.emptiesOf nt

/-- What a call with bound `x` leaves alone: `Prot` (BeapOrderFull.lean) with the bank and `_empties`.  The
    non-terminals of last cost ≥ `x` are those a nested call could find with a suspended `query`, where `FRm` fails;
    since it does not touch them, their frame and frontier clauses survive the call (`FRP.keep`). -/
def Keep4 (x : Rat) (s s' : St S) : Prop := ∀ nt, lastGe s nt x → Same4 s s' nt

theorem Same4.cl {s s' : St S} {nt : NT S Unit} (h : Same4 s s' nt) : s'.clOf nt = s.clOf nt := h.1
theorem Same4.queue {s s' : St S} {nt : NT S Unit} (h : Same4 s s' nt) : s'.queueOf nt = s.queueOf nt := h.2.1
theorem Same4.bank {s s' : St S} {nt : NT S Unit} (h : Same4 s s' nt) : s'.bankOf nt = s.bankOf nt := h.2.2.1
theorem Same4.empties {s s' : St S} {nt : NT S Unit} (h : Same4 s s' nt) : s'.emptiesOf nt = s.emptiesOf nt := h.2.2.2

theorem Same4.refl (s : St S) (nt : NT S Unit) : Same4 s s nt := ⟨rfl, rfl, rfl, rfl⟩
theorem Same4.trans {a b c : St S} {nt : NT S Unit} (h1 : Same4 a b nt) (h2 : Same4 b c nt) : Same4 a c nt :=
  ⟨h2.cl.trans h1.cl, h2.queue.trans h1.queue, h2.bank.trans h1.bank, h2.empties.trans h1.empties⟩
theorem Same4.bankAt {s s' : St S} {nt : NT S Unit} (h : Same4 s s' nt) (ci : Nat) : s'.bankAt nt ci = s.bankAt nt ci :=
  St.bankAt_congr h.bank ci

theorem Keep4.refl (x : Rat) (s : St S) : Keep4 x s s := fun nt _ => Same4.refl s nt
theorem Keep4.trans {x : Rat} {a b c : St S} (h1 : Keep4 x a b) (h2 : Keep4 x b c) : Keep4 x a c := fun nt hl =>
  (h1 nt hl).trans (h2 nt (lastGe_of_same hl (h1 nt hl).cl))

theorem Keep4.mono {x y : Rat} {s s' : St S} (hxy : y ≤ x) (h : Keep4 y s s') : Keep4 x s s' := fun nt hl => h nt (hl.mono hxy)

theorem clean_eq_hg (f : Prog → Bool) : (∀ p, clean f p = HG.clean f p) ∧ ∀ ks, cleanList f ks = HG.cleanList f ks :=
  Tree.ind₂ (fun F ks ih => by rw [clean, HG.clean, ih]) (by rw [cleanList, HG.cleanList])
    (fun t ts h1 h2 => by rw [cleanList, HG.cleanList, h1, h2])

theorem clean_root (f : Prog → Bool) (p : Prog) (h : clean f p = true) : f p = true := by
  cases p with
  | node F kids => simp only [clean, Bool.and_eq_true] at h; exact h.1

theorem clean_kids (f : Prog → Bool) (F : Sym) (kids : List Prog) (h : clean f (.node F kids) = true) : cleanList f kids = true := by
  simp only [clean, Bool.and_eq_true] at h; exact h.2

/-- the invariant of a running `query(nt, fr.ci)` (the frame works on the last cost index of `nt`) -/
structure FrK (E : Env S) (s : St S) (nt : NT S Unit) (fr : Frame) : Prop where
  fo : FrO s nt fr
  fc : FrC E s nt fr
  fin : fr.cost.inf = 0
  hg : fr.hasGen = false → s.bankAt nt fr.ci = []
  hg2 : fr.hasGen = true → s.bankAt nt fr.ci ≠ []
  ns : (AList.lookup fr.ci (s.bankOf nt)).isSome = true → fr.noSucc = false
  ne : (s.emptiesOf nt).contains fr.ci = false
  e4 : ∀ ci', ci' ≠ fr.ci → AList.lookup ci' (s.bankOf nt) = some [] → (s.emptiesOf nt).contains ci' = true
  pe : fr.pending ≠ [] → (AList.lookup fr.ci (s.bankOf nt)).isSome = true
  frf : ∀ f kids x rl, clean E.filter (.node f kids) = true → costOf E (.node f kids) nt = some x → fr.cost.fin ≤ x →
    E.G.rule? nt f = some rl →
      (x = fr.cost.fin ∧ Tree.node f kids ∈ s.bankAt nt fr.ci) ∨
      (∃ el, el ∈ s.queueOf nt ∧ el.P = f ∧ BelowArgs E s rl.1 el.comb kids) ∨
      (∃ a, a ∈ fr.pending ∧ Tree.node f kids = mkProg fr.P fr.isFun a)

theorem bankAt_of_lookup (s : St S) (nt : NT S Unit) (ci : Nat) (h : AList.lookup ci (s.bankOf nt) = none) : s.bankAt nt ci = [] := by
  simp [St.bankAt, h]

theorem lookup_setBank_self (s : St S) (nt : NT S Unit) (ci : Nat) (ps : List Prog) :
    AList.lookup ci ((s.setBank nt ci ps).bankOf nt) = some ps := by
  rw [St.bankOf_setBank]; simp only [if_true]; exact AList.lookup_insert_self ci ps _

theorem lookup_setBank_other (s : St S) (nt nt' : NT S Unit) (ci ci' : Nat) (ps : List Prog) (h : ¬ (nt' = nt ∧ ci' = ci)) :
    AList.lookup ci' ((s.setBank nt ci ps).bankOf nt') = AList.lookup ci' (s.bankOf nt') := by
  rw [St.bankOf_setBank]
  by_cases hn : nt' = nt
  · subst hn
    simp only [if_true]
    have : ci' ≠ ci := fun e => h ⟨rfl, e⟩
    exact AList.lookup_insert_ne ps _ this
  · simp [hn]

theorem entered_setBank (s : St S) (nt nt' : NT S Unit) (ci ci' : Nat) (ps : List Prog) :
    Entered (s.setBank nt ci ps) nt' ci' ↔ (nt' = nt ∧ ci' = ci) ∨ Entered s nt' ci' := by
  unfold Entered
  by_cases hh : nt' = nt ∧ ci' = ci
  · obtain ⟨rfl, rfl⟩ := hh; simp [lookup_setBank_self]
  · rw [lookup_setBank_other s nt nt' ci ci' ps hh]; simp [hh]

theorem BelowArgs.setBank {E : Env S} {s : St S} (nt : NT S Unit) (ci : Nat) (ps : List Prog) {as : List (Ty × S)} {cs : List Nat}
    {ks : List Prog} (h : BelowArgs E s as cs ks) : BelowArgs E (s.setBank nt ci ps) as cs ks :=
  BelowArgs.ext (s := s) (s' := s.setBank nt ci ps) (Ext.of_eq fun _ => rfl) _ _ _ h
theorem BelowArgs.setQueue {E : Env S} {s : St S} (nt : NT S Unit) (q : List HeapEl) {as : List (Ty × S)} {cs : List Nat}
    {ks : List Prog} (h : BelowArgs E s as cs ks) : BelowArgs E (s.setQueue nt q) as cs ks :=
  BelowArgs.ext (s := s) (s' := s.setQueue nt q) (Ext.of_eq fun _ => rfl) _ _ _ h

def MK (s : St S) (nt : NT S Unit) (ci : Nat) : Prop :=
  AList.lookup ci (s.bankOf nt) = some [] → (s.emptiesOf nt).contains ci = true
/-- A query that generated a program has a non-empty bank entry; then an entry the epilogue leaves empty is one it
    marks (`epilogue_k`: `MK` at the index of the query).  A `merge_program` between two `next` calls can empty the
    entry of the generator's own suspended query, whereas a nested query runs to its end inside one `next`: `RK`
    assumes `P → HG2`, `DK` assumes `HG2`. -/
def HG2 (s : St S) (nt : NT S Unit) (fr : Frame) : Prop := fr.hasGen = true → s.bankAt nt fr.ci ≠ []

structure EInvm (E : Env S) (F : Prog → Bool) (s : St S) : Prop where
  e2 : ∀ nt ci, (s.emptiesOf nt).contains ci = true → s.bankAt nt ci = []
  d1 : ∀ q, q ∈ s.deleted → F q = false
  fle : ∀ q, F q = true → E.filter q = true
  be : ∀ nt ci, Entered s nt ci → ci < (s.clOf nt).length
  lb : LB E s

def CRm (E : Env S) (F : Prog → Bool) (s : St S) (nt : NT S Unit) : Prop :=
  ∀ p x l, clean F p = true → costOf E p nt = some x → (s.clOf nt).getLast? = some l → x < l.fin →
    ∃ i e, (s.clOf nt)[i]? = some e ∧ e.fin = x ∧ p ∈ s.bankAt nt i

set_option linter.unusedVariables false in
def Coveredm (E : Env S) (F : Prog → Bool) (s : St S) (nt : NT S Unit) (f : Sym) (kids : List Prog) (x : Rat) (l : Cost) (rl : List (Ty × S) × Unit) : Prop :=
  (x = l.fin ∧ Tree.node f kids ∈ s.bankAt nt ((s.clOf nt).length - 1)) ∨
  ∃ el, el ∈ s.queueOf nt ∧ el.P = f ∧ BelowArgs E s rl.1 el.comb kids

def FRm (E : Env S) (F : Prog → Bool) (s : St S) (nt : NT S Unit) : Prop :=
  (∀ f kids x l rl, clean F (.node f kids) = true → costOf E (.node f kids) nt = some x →
    (s.clOf nt).getLast? = some l → l.fin ≤ x → E.G.rule? nt f = some rl → Coveredm E F s nt f kids x l rl) ∧
  (Entered s nt ((s.clOf nt).length - 1) → s.queueOf nt = [])

structure WInvm (E : Env S) (F : Prog → Bool) (s : St S) : Prop where
  c : CInv E s
  o : OI s
  e : EInvm E F s
  cr : ∀ nt, CRm E F s nt

structure FrKm (E : Env S) (F : Prog → Bool) (s : St S) (nt : NT S Unit) (fr : Frame) : Prop where
  fo : FrO s nt fr
  fc : FrC E s nt fr
  fin : fr.cost.inf = 0
  hg : fr.hasGen = false → s.bankAt nt fr.ci = []
  ns : (AList.lookup fr.ci (s.bankOf nt)).isSome = true → fr.noSucc = false
  ne : (s.emptiesOf nt).contains fr.ci = false
  pe : fr.pending ≠ [] → (AList.lookup fr.ci (s.bankOf nt)).isSome = true
  frf : ∀ f kids x rl, clean F (.node f kids) = true → costOf E (.node f kids) nt = some x → fr.cost.fin ≤ x →
    E.G.rule? nt f = some rl →
      (x = fr.cost.fin ∧ Tree.node f kids ∈ s.bankAt nt fr.ci) ∨
      (∃ el, el ∈ s.queueOf nt ∧ el.P = f ∧ BelowArgs E s rl.1 el.comb kids) ∨
      (∃ a, a ∈ fr.pending ∧ Tree.node f kids = mkProg fr.P fr.isFun a)

variable {F : Prog → Bool} {P : Prop}

/-- The marks before the last index.  The last index is left out because a running `query` has created its bank
    entry, empty (beap_search.py:198-199), and marks it only in its epilogue; where no query runs the mark of the last
    index is `FRP.2`, at the end of a query it is `RKpost.mark`. -/
def E4P (P : Prop) (s : St S) : Prop :=
  P → ∀ nt ci, ci + 1 < (s.clOf nt).length → MK s nt ci

def FRP (E : Env S) (F : Prog → Bool) (P : Prop) (s : St S) (nt : NT S Unit) : Prop :=
  FRm E F s nt ∧ (P → ∀ ci, MK s nt ci)

theorem CRm.mono {E : Env S} {F' : Prog → Bool} {s s' : St S} {nt : NT S Unit} (h : CRm E F s nt)
    (hF : ∀ p, clean F' p = true → clean F p = true) (hc : s'.clOf nt = s.clOf nt)
    (hb : ∀ ci p, clean F' p = true → p ∈ s.bankAt nt ci → p ∈ s'.bankAt nt ci) : CRm E F' s' nt := by
  intro p x l hcl hx hl hlt
  rw [hc] at hl
  obtain ⟨i, e, g1, g2, g3⟩ := h p x l (hF p hcl) hx hl hlt
  exact ⟨i, e, by rw [hc]; exact g1, g2, hb i p hcl g3⟩

theorem CRm.of_same {E : Env S} {s s' : St S} {nt : NT S Unit} (h : CRm E F s nt) (hc : s'.clOf nt = s.clOf nt)
    (hb : ∀ ci, s'.bankAt nt ci = s.bankAt nt ci) : CRm E F s' nt :=
  h.mono (fun _ hp => hp) hc fun ci _ _ hp => hb ci ▸ hp

theorem FRm.mono {E : Env S} {F' : Prog → Bool} {s s' : St S} {nt : NT S Unit} (h : FRm E F s nt)
    (hF : ∀ p, clean F' p = true → clean F p = true) (hc : s'.clOf nt = s.clOf nt) (hq : s'.queueOf nt = s.queueOf nt)
    (hb : ∀ ci p, clean F' p = true → p ∈ s.bankAt nt ci → p ∈ s'.bankAt nt ci)
    (hen : ∀ ci, Entered s' nt ci → Entered s nt ci) (he : Ext s s') : FRm E F' s' nt := by
  refine ⟨fun f kids x l rl hcl hx hl hle hr => ?_, fun hen' => ?_⟩
  · rw [hc] at hl
    rcases h.1 f kids x l rl (hF _ hcl) hx hl hle hr with ⟨g1, g2⟩ | ⟨el, g1, g2, g3⟩
    · exact Or.inl ⟨g1, by rw [hc]; exact hb _ _ hcl g2⟩
    · exact Or.inr ⟨el, by rw [hq]; exact g1, g2, BelowArgs.ext he _ _ _ g3⟩
  · rw [hc] at hen'; rw [hq]; exact h.2 (hen _ hen')

theorem FRm.of_same {E : Env S} {s s' : St S} {nt : NT S Unit} (h : FRm E F s nt) (h4 : Same4 s s' nt) (he : Ext s s') : FRm E F s' nt :=
  h.mono (fun _ hp => hp) h4.cl h4.queue (fun ci _ _ hp => h4.bankAt ci ▸ hp) (fun ci => (Entered.congr h4.bank h4.empties ci).mp) he

theorem FRP.of_same {E : Env S} {s s' : St S} {nt : NT S Unit} (h : FRP E F P s nt) (h4 : Same4 s s' nt) (he : Ext s s') :
    FRP E F P s' nt :=
  ⟨h.1.of_same h4 he, fun hp ci hlk => by rw [h4.empties]; exact h.2 hp ci (by rw [← h4.bank]; exact hlk)⟩

theorem EInvm.setBank {E : Env S} {s : St S} (he : EInvm E F s) (nt : NT S Unit) (ci : Nat) (ps : List Prog)
    (hne : (s.emptiesOf nt).contains ci = false) (hci : ci < (s.clOf nt).length) : EInvm E F (s.setBank nt ci ps) := by
  refine { he with e2 := fun nt' ci' h => ?_, be := fun nt' ci' h => ?_ }
  · rw [St.bankAt_setBank]
    split
    · next hh =>
      obtain ⟨rfl, rfl⟩ := hh
      have : (s.emptiesOf nt').contains ci' = true := h
      rw [hne] at this; cases this
    · exact he.e2 nt' ci' h
  · rcases (entered_setBank s nt nt' ci ci' ps).mp h with ⟨rfl, rfl⟩ | h'
    · exact hci
    · exact he.be nt' ci' h'

theorem FrKm.drop {E : Env S} {s s' : St S} {nt : NT S Unit} {fr : Frame} {a : List Prog} {rest : List (List Prog)}
    (hk : FrKm E F s nt { fr with pending := a :: rest }) (hc : ∀ S', s'.clOf S' = s.clOf S')
    (hq : ∀ S', s'.queueOf S' = s.queueOf S') (hb : ∀ S', s'.bankOf S' = s.bankOf S') (hem : ∀ S', s'.emptiesOf S' = s.emptiesOf S')
    (hrej : F (mkProg fr.P fr.isFun a) = false) : FrKm E F s' nt { fr with pending := rest } := by
  have hba : ∀ S' ci, s'.bankAt S' ci = s.bankAt S' ci := fun S' => St.bankAt_congr (hb S')
  refine
    { fo := hk.fo.of_eq (hc nt) rfl rfl, fc := ⟨by rw [hc]; exact hk.fc.1, fun a' ha' => hk.fc.2 a' (List.mem_cons_of_mem _ ha')⟩,
      fin := hk.fin, hg := fun h => by rw [hba]; exact hk.hg h, ns := fun h => hk.ns (by rw [← hb]; exact h),
      ne := by rw [hem]; exact hk.ne, pe := fun h => by rw [hb]; exact hk.pe (by simp), frf := fun f kids x rl hcl hx hle hr => ?_ }
  rcases hk.frf f kids x rl hcl hx hle hr with g | ⟨el, g1, g2, g3⟩ | ⟨a', g1, g2⟩
  · exact Or.inl ⟨g.1, by rw [hba]; exact g.2⟩
  · exact Or.inr (Or.inl ⟨el, by rw [hq]; exact g1, g2, BelowArgs.ext (Ext.of_eq hc) _ _ _ g3⟩)
  · rcases List.mem_cons.mp g1 with rfl | g1'
    · exfalso
      have := clean_root F _ hcl
      rw [g2, hrej] at this; cases this
    · exact Or.inr (Or.inr ⟨a', g1', g2⟩)

theorem emit_shape (E : Env S) (nt : NT S Unit) (ci : Nat) (P : Sym) (isFun : Bool) (pend : List (List Prog)) (s : St S)
    (r : St S × Option (Prog × List (List Prog))) (h : emit E nt ci P isFun s pend = r) :
    (∀ S', r.1.emptiesOf S' = s.emptiesOf S') ∧ (∀ S', S' ≠ nt → r.1.bankOf S' = s.bankOf S') ∧
    (∀ ci', ci' ≠ ci → AList.lookup ci' (r.1.bankOf nt) = AList.lookup ci' (s.bankOf nt)) ∧
    (∀ S' ci' q, q ∈ s.bankAt S' ci' → q ∈ r.1.bankAt S' ci') ∧
    (∀ S' ci' q, q ∈ r.1.bankAt S' ci' → q ∈ s.bankAt S' ci' ∨ ∃ rest, r.2 = some (q, rest)) := by
  apply emit_induct E nt ci P isFun ?nil ?deleted ?rejected ?yield pend s r h
  case nil => intro s; exact ⟨fun _ => rfl, fun _ _ => rfl, fun _ _ => rfl, fun _ _ _ h => h, fun _ _ _ h => Or.inl h⟩
  case deleted => intro s a rest r _ ih; exact ih
  case rejected =>
    intro s a rest r _ ⟨h1, h2, h3, h4, h5⟩
    refine ⟨fun S' => by rw [h1, St.addDeleted_emptiesOf], fun S' hS => by rw [h2 S' hS, St.addDeleted_bankOf],
      fun ci' hc => by rw [h3 ci' hc, St.addDeleted_bankOf], fun S' ci' q hq => h4 S' ci' q (by rw [St.addDeleted_bankAt]; exact hq),
      fun S' ci' q hq => ?_⟩
    rw [← St.addDeleted_bankAt s S' (mkProg P isFun a) ci']; exact h5 S' ci' q hq
  case yield =>
    intro s a rest _ _
    refine ⟨fun _ => rfl, fun S' hS => by rw [St.bankOf_setBank, if_neg hS],
      fun ci' hc => lookup_setBank_other s nt nt ci ci' _ (fun hh => hc hh.2),
      fun S' ci' q hq => (mem_bankAt_append s nt S' ci ci' _ q).mpr (Or.inl hq),
      fun S' ci' q hq => ((mem_bankAt_append s nt S' ci ci' _ q).mp hq).imp id fun h => ⟨rest, by rw [h.2]⟩⟩

/-- a clean program is never skipped -/
theorem emit_k (E : Env S) (nt : NT S Unit) (fr : Frame) (pend : List (List Prog)) (s : St S)
    (r : St S × Option (Prog × List (List Prog))) (h : emit E nt fr.ci fr.P fr.isFun s pend = r) :
    EInvm E F s → FrKm E F s nt { fr with pending := pend } →
      EInvm E F r.1 ∧
      (match r.2 with
       | none => FrKm E F r.1 nt { fr with pending := [] }
       | some (_, rest) => FrKm E F r.1 nt { fr with hasGen := true, pending := rest } ∧ r.1.bankAt nt fr.ci ≠ []) := by
  apply emit_induct E nt fr.ci fr.P fr.isFun ?nil ?deleted ?rejected ?yield pend s r h
  case nil => intro s he hk; exact ⟨he, hk⟩
  case deleted =>
    intro s a rest r hd ih he hk
    exact ih he (hk.drop (fun _ => rfl) (fun _ => rfl) (fun _ => rfl) (fun _ => rfl) (he.d1 _ hd))
  case rejected =>
    intro s a rest r hf ih he hk
    have hrej : F (mkProg fr.P fr.isFun a) = false := by
      cases hF : F (mkProg fr.P fr.isFun a) with
      | false => rfl
      | true => rw [he.fle _ hF] at hf; cases hf
    refine ih { e2 := fun nt' ci h => ?_, d1 := fun q hq => ?_, fle := he.fle, be := fun nt' ci h => ?_, lb := fun nt' c rest' p x hc hx => ?_ }
      (hk.drop (fun S' => St.addDeleted_clOf s S' _) (fun S' => St.addDeleted_queueOf s S' _)
        (fun S' => St.addDeleted_bankOf s S' _) (fun S' => St.addDeleted_emptiesOf s S' _) hrej)
    · rw [St.addDeleted_bankAt]; exact he.e2 nt' ci (by rw [← St.addDeleted_emptiesOf]; exact h)
    · rcases (St.mem_addDeleted_iff s _ q).mp hq with rfl | h
      · exact hrej
      · exact he.d1 q h
    · rw [St.addDeleted_clOf]
      exact he.be nt' ci ((Entered.congr (St.addDeleted_bankOf s nt' _) (St.addDeleted_emptiesOf s nt' _) ci).mp h)
    · rw [St.addDeleted_clOf] at hc
      exact he.lb nt' c rest' p x hc hx
  case yield =>
    intro s a rest _ _ he hk
    have hmem := mem_bankAt_append s nt nt fr.ci fr.ci (mkProg fr.P fr.isFun a)
    have hcost : costOf E (mkProg fr.P fr.isFun a) nt = some fr.cost.fin := hk.fc.2 a (List.mem_cons_self ..)
    refine ⟨he.setBank nt fr.ci _ hk.ne (Nat.lt_of_succ_le (Nat.le_of_eq hk.fo.1)), ?_⟩
    · refine ⟨
        { fo := hk.fo, fc := ⟨hk.fc.1, fun a' ha' => hk.fc.2 a' (List.mem_cons_of_mem _ ha')⟩, fin := hk.fin, hg := fun h => (by cases h),
          ns := fun _ => hk.ns (hk.pe (by simp)), ne := hk.ne, pe := fun _ => (by rw [lookup_setBank_self]; rfl),
          frf := fun f kids x rl hcl hx hle hr => ?_ },
        List.ne_nil_of_mem ((hmem _).mpr (Or.inr ⟨⟨rfl, rfl⟩, rfl⟩))⟩
      rcases hk.frf f kids x rl hcl hx hle hr with g | ⟨el, g1, g2, g3⟩ | ⟨a', g1, g2⟩
      · exact Or.inl ⟨g.1, (hmem _).mpr (Or.inl g.2)⟩
      · exact Or.inr (Or.inl ⟨el, g1, g2, g3.setBank nt fr.ci _⟩)
      · rcases List.mem_cons.mp g1 with rfl | g1'
        · left
          rw [g2] at hx
          have hxe : x = fr.cost.fin := by rw [hcost] at hx; exact (Option.some.inj hx).symm
          exact ⟨hxe, (hmem _).mpr (Or.inr ⟨⟨rfl, rfl⟩, g2⟩)⟩
        · exact Or.inr (Or.inr ⟨a', g1', g2⟩)

theorem EInv.iff {E : Env S} {s : St S} : EInv E s ↔ EInvm E E.filter s :=
  ⟨fun h => ⟨h.e2, h.d1, fun _ hq => hq, h.be, h.lb⟩, fun h => ⟨h.e2, h.d1, h.be, h.lb⟩⟩

theorem WInv.iff {E : Env S} {s : St S} : WInv E s ↔ WInvm E E.filter s :=
  ⟨fun h => ⟨h.c, h.o, EInv.iff.mp h.e, h.cr⟩, fun h => ⟨h.c, h.o, EInv.iff.mpr h.e, h.cr⟩⟩

theorem FR.iff {E : Env S} {s : St S} {nt : NT S Unit} : FR E s nt ↔ FRP E E.filter True s nt :=
  ⟨fun h => ⟨⟨h.1, h.2.1⟩, fun _ => h.2.2⟩, fun h => ⟨h.1.1, h.1.2, h.2 trivial⟩⟩

theorem FrK.iff {E : Env S} {s : St S} {nt : NT S Unit} {fr : Frame} :
    FrK E s nt fr ↔ FrKm E E.filter s nt fr ∧ HG2 s nt fr ∧ ∀ ci', ci' ≠ fr.ci → MK s nt ci' :=
  ⟨fun h => ⟨⟨h.fo, h.fc, h.fin, h.hg, h.ns, h.ne, h.pe, h.frf⟩, h.hg2, h.e4⟩,
   fun h => ⟨h.1.fo, h.1.fc, h.1.fin, h.1.hg, h.2.1, h.1.ns, h.1.ne, h.2.2, h.1.pe, h.1.frf⟩⟩

end PS.Beap

/-! ### `query(S, ci)` once entered stays entered: bank keys and `_empties` only grow as long as no program is merged -/

namespace PS.Beap
open PS PS.G PS.Heapq

set_option linter.unusedSectionVars false
variable {S : Type} [DecidableEq S]

def EM (s s' : St S) : Prop := ∀ nt ci, Entered s nt ci → Entered s' nt ci

theorem EM.refl (s : St S) : EM s s := fun _ _ h => h
theorem EM.trans {a b c : St S} (h1 : EM a b) (h2 : EM b c) : EM a c := fun nt ci h => h2 nt ci (h1 nt ci h)
theorem EM.of_eq {s s' : St S} (hb : ∀ nt, s'.bankOf nt = s.bankOf nt) (he : ∀ nt, s'.emptiesOf nt = s.emptiesOf nt) : EM s s' := by
  exact fun nt ci h => (Entered.congr (hb nt) (he nt) ci).mpr h

theorem em_setBank (s : St S) (nt : NT S Unit) (ci : Nat) (ps : List Prog) : EM s (s.setBank nt ci ps) :=
  fun nt' ci' h => (entered_setBank s nt nt' ci ci' ps).mpr (Or.inr h)

theorem succLoop_tables (nt : NT S Unit) (cost : Cost) (P : Sym) (comb : List Nat) (as : List (NT S Unit)) (s : St S) (i : Nat) :
    (∀ nt', (succLoop nt cost P comb s i as).bankOf nt' = s.bankOf nt') ∧
    (∀ nt', (succLoop nt cost P comb s i as).emptiesOf nt' = s.emptiesOf nt') ∧
    (succLoop nt cost P comb s i as).deleted = s.deleted := by
  rw [succLoop_eq]
  exact pushAll_induct (I := fun s' => (∀ nt', s'.bankOf nt' = s.bankOf nt') ∧ (∀ nt', s'.emptiesOf nt' = s.emptiesOf nt') ∧
    s'.deleted = s.deleted) nt (fun _ _ _ h => h) s ⟨fun _ => rfl, fun _ => rfl, rfl⟩

theorem em_ensureBank (s : St S) (nt : NT S Unit) (ci : Nat) : EM s (s.ensureBank nt ci) := by
  unfold St.ensureBank; split
  · exact EM.refl s
  · exact em_setBank s nt ci []

theorem markEmpty_em (s : St S) (nt : NT S Unit) (fr : Frame) : EM s (markEmpty s nt fr) := by
  intro nt' ci h
  unfold markEmpty; split
  · unfold Entered at h ⊢
    show (AList.lookup ci ((s.addEmpty nt fr.ci).bankOf nt')).isSome = true ∨
      ((s.addEmpty nt fr.ci).emptiesOf nt').contains ci = true
    rw [addEmpty_bankOf]
    rcases h with h | h
    · exact Or.inl h
    · right
      by_cases hS : nt' = nt
      · subst hS; rw [addEmpty_contains, h]; rfl
      · rw [addEmpty_emptiesOf_other s nt nt' fr.ci hS]; exact h
  · exact h

theorem wr_em {E : Env S} {s s' : St S} (h : Wr E s s') : EM s s' := by
  cases h with
  | del p _ => exact EM.of_eq (fun nt => St.addDeleted_bankOf s nt p) (fun nt => St.addDeleted_emptiesOf s nt p)
  | bank nt ci p _ _ => exact em_setBank s nt ci _
  | ensure nt ci => exact em_ensureBank s nt ci
  | pop => exact EM.of_eq (fun _ => rfl) (fun _ => rfl)
  | push => exact EM.of_eq (fun _ => rfl) (fun _ => rfl)
  | mark nt fr => exact markEmpty_em s nt fr
  | snoc => exact EM.of_eq (fun _ => rfl) (fun _ => rfl)

theorem entered_all (E : Env S) (n : Nat) : RunsRel E n EM :=
  run_lift E EM.refl (fun _ _ _ => EM.trans) (fun _ _ => wr_em) n

end PS.Beap
