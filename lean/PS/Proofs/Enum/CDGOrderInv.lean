/- Order argument, heap layer (exact rationals, acyclic grammars): if the cost lists `_cost_lists_derivation[args]` of the
   state reached are non-decreasing — what the monotone-queue theorem (CDSorted.lean) gives as long as every push stays
   inside the window of its queue — then every heap `_queue_nt[S]` is a valid heap whose elements cost at least every
   entry of `_cost_lists_nt[S]`, every pending `Derivation` costs `w + _cost_lists_derivation[args][comb]`, and every cost
   list `_cost_lists_nt[S]` is non-decreasing (`OInv`): the claimed costs under which programs are yielded never decrease.
   Every function of the query block keeps `OInv`. -/
import PS.Proofs.Enum.CDGOrder
import PS.Proofs.Enum.Orders
namespace PS.CD

theorem ltD_rat (b : Bool) (x y : Deriv Rat) :
    ltD (ratA b) x y = if x.cost = y.cost then decide (x.comb < y.comb) else decide (x.cost < y.cost) := by
  unfold ltD
  simp [ratA, ratArith]

theorem ltD_rat_eq (b : Bool) : ltD (ratA b) =
    fun x y => if x.cost = y.cost then decide (x.comb < y.comb) else decide (x.cost < y.cost) :=
  funext fun x => funext fun y => ltD_rat b x y

/-- `Derivation.__lt__` on exact rationals is the tuple comparison of `(cost, comb)` -/
theorem ltD_weak (b : Bool) : Heapq.WeakOrder (ltD (ratA b)) :=
  ltD_rat_eq b ▸ Heapq.WeakOrder.lex Heapq.strictTotal_rat Heapq.strictTotal_nat.toWeakOrder Deriv.cost Deriv.comb

theorem root_cheapest (b : Bool) (d : Deriv Rat) (rest : List (Deriv Rat)) (hh : Heapq.IsHeap (ltD (ratA b)) (d :: rest))
    (d' : Deriv Rat) (hd : d' ∈ d :: rest) : d.cost ≤ d'.cost := by
  have h := Heapq.head_min (ltD_weak b) hh d' hd
  rw [ltD_rat] at h
  simpa [Rat.not_lt] using Heapq.lex_false_key (lt2 := fun a b : Nat => decide (a < b)) (k := Deriv.cost) (r := Deriv.comb)
    Heapq.strictTotal_rat.toWeakOrder h

/-- acyclic grammar, with a witness.  The order argument needs it because `query(S, ·)` appends to `_cost_lists_nt[S]` when
    it ends: with a rank, every suspended frame belongs to a non-terminal above the one a call works on (`Call.Below`),
    so no element of `S` is in limbo at that moment; `Low` could fail for one (`hne` in `oinv_exit`). -/
def Acy (E : Env Rat) (rank : NT → Nat) : Prop :=
  ∀ S P args w, E.G.rule? S P = some (args, w) → ∀ a ∈ args, rank a < rank S

def DSorted (s : St Rat) : Prop := ∀ args cl, AList.lookup args s.costDer = some cl → cl.Pairwise (· ≤ ·)

theorem DSorted.of_cmono {s s' : St Rat} (h : CMono s s') (hs : DSorted s') : DSorted s := by
  intro a cl hl
  obtain ⟨cl', h1, h2⟩ := h a cl hl
  exact (hs a cl' h1).sublist h2.sublist

/-- a `Derivation` of a rule with arguments costs `w + _cost_lists_derivation[args][comb]`: with that list sorted its
    successor, pushed at `comb + 1`, costs at least as much (`oinv_pushNext`) -/
def Link (E : Env Rat) (s : St Rat) (S : NT) (d : Deriv Rat) : Prop :=
  ∀ args w, E.G.rule? S d.P = some (args, w) → args ≠ [] →
    ∃ cl c, AList.lookup args s.costDer = some cl ∧ cl[d.comb]? = some c ∧ d.cost = (w : Rat) + c

/-- every entry of `_cost_lists_nt[S]` is `≤ x`.  Asked of the cost of every element of the heap of `S`: the end of
    `query` appends the cost of the root, which then keeps the list sorted, and the other elements cost at least the root
    (`oinv_exit`) -/
def Low (s : St Rat) (S : NT) (x : Rat) : Prop := ∀ cl, AList.lookup S s.costNt = some cl → ∀ c ∈ cl, c ≤ x

theorem Low.setCostNt {s : St Rat} {S S' : NT} {cl : List Rat} {x : Rat} (h : Low s S' x) (hS : S' = S → ∀ c ∈ cl, c ≤ x) :
    Low (s.setCostNt S cl) S' x := fun cl' hcl' =>
  AList.forall_insert (P := fun k v => k = S' → ∀ c ∈ v, c ≤ x) (fun _ v _ hk e => h v (e ▸ hk)) (fun e => hS e.symm) S' cl' hcl' rfl

theorem Link.mono {E : Env Rat} {s s' : St Rat} {S : NT} {d : Deriv Rat} (h : CMono s s') (hl : Link E s S d) :
    Link E s' S d := by
  intro args w hr hne
  obtain ⟨cl, c, h1, h2, h3⟩ := hl args w hr hne
  obtain ⟨cl', h4, ⟨t, rfl⟩⟩ := h args cl h1
  refine ⟨cl ++ t, c, h4, ?_, h3⟩
  rw [List.getElem?_append_left (List.getElem?_eq_some_iff.mp h2).1]; exact h2

/-- `L`: the popped elements of suspended frames -/
structure OInv (E : Env Rat) (s : St Rat) (L : List (NT × Deriv Rat)) : Prop where
  heap : ∀ S h, AList.lookup S s.queueNt = some h → Heapq.IsHeap (ltD E.A) h ∧ ∀ d ∈ h, Low s S d.cost ∧ Link E s S d
  sorted : ∀ S cl, AList.lookup S s.costNt = some cl → cl.Pairwise (· ≤ ·)
  limbo : ∀ x ∈ L, Low s x.1 x.2.cost ∧ Link E s x.1 x.2

theorem oinv_transfer {E : Env Rat} {s s' : St Rat} {L : List (NT × Deriv Rat)} (h : OInv E s L)
    (hq : s'.queueNt = s.queueNt) (hc : s'.costNt = s.costNt) (hm : CMono s s') : OInv E s' L := by
  have hlow : ∀ S x, Low s S x → Low s' S x := by
    intro S x hl; unfold Low; rw [hc]; exact hl
  refine ⟨?_, ?_, ?_⟩
  · intro S hh hl
    rw [hq] at hl
    obtain ⟨a, b⟩ := h.heap S hh hl
    exact ⟨a, fun d hd => ⟨hlow S _ (b d hd).1, (b d hd).2.mono hm⟩⟩
  · rw [hc]; exact h.sorted
  · intro x hx
    exact ⟨hlow _ _ (h.limbo x hx).1, (h.limbo x hx).2.mono hm⟩

theorem oinv_sub {E : Env Rat} {s : St Rat} {L L' : List (NT × Deriv Rat)} (h : OInv E s L') (hs : ∀ x ∈ L, x ∈ L') :
    OInv E s L := ⟨h.heap, h.sorted, fun x hx => h.limbo x (hs x hx)⟩

theorem oinv_pop {E : Env Rat} {b : Bool} (hA : E.A = ratA b) {s : St Rat} {L : List (NT × Deriv Rat)} {S : NT}
    {heap heap' : List (Deriv Rat)} {el : Deriv Rat} (h : OInv E s L) (hl : AList.lookup S s.queueNt = some heap)
    (hp : Heapq.pop (ltD E.A) heap = some (el, heap')) : OInv E (s.setHeap S heap') ((S, el) :: L) := by
  have w : Heapq.WeakOrder (ltD E.A) := by rw [hA]; exact ltD_weak b
  have hperm := Heapq.pop_perm (ltD E.A) heap el heap' hp
  obtain ⟨hh, hm⟩ := h.heap S heap hl
  refine ⟨?_, h.sorted, ?_⟩
  · exact AList.forall_insert (fun S' h' _ hl' => h.heap S' h' hl')
      ⟨(Heapq.pop_isHeap w heap el heap' hh hp).1, fun d hd => hm d (hperm.mem_iff.mpr (List.mem_cons_of_mem _ hd))⟩
  · intro x hx
    rcases List.mem_cons.mp hx with h1 | h1
    · subst h1; exact hm el (hperm.mem_iff.mpr List.mem_cons_self)
    · exact h.limbo x h1

theorem oinv_exit {E : Env Rat} {b : Bool} (hA : E.A = ratA b) {s s' : St Rat} {L : List (NT × Deriv Rat)} {fr : Frame Rat}
    (h : OInv E s L) (hne : ∀ x ∈ L, x.1 ≠ fr.S) (he : exitQuery s fr = some s') : OInv E s' L := by
  obtain ⟨em, fb, ⟨d, rest, cl, hq, hcl, rfl⟩ | ⟨_, rfl⟩⟩ := exitQuery_succ he
  · have h1 : OInv E { s with emptiesNt := em, failedByEmpties := fb } L := oinv_transfer h rfl rfl (CMono.of_eq rfl)
    obtain ⟨hh, hm⟩ := h1.heap fr.S (d :: rest) hq
    rw [hA] at hh
    refine ⟨?_, ?_, ?_⟩
    · intro S' h' hl'
      obtain ⟨a, bb⟩ := h1.heap S' h' hl'
      refine ⟨a, fun d' hd' => ⟨(bb d' hd').1.setCostNt fun e c hc => ?_, (bb d' hd').2⟩⟩
      -- the heap of `fr.S` is `d :: rest`: `d'` costs at least its root, whose cost is appended
      subst e
      obtain rfl : d :: rest = h' := Option.some.inj (hq.symm.trans hl')
      rcases List.mem_append.mp hc with h3 | h3
      · exact (bb d' hd').1 cl hcl c h3
      · exact List.mem_singleton.mp h3 ▸ root_cheapest b d rest hh d' hd'
    · exact AList.forall_insert (fun S' cl' _ hcl' => h1.sorted S' cl' hcl')
        (pairwise_snoc (h1.sorted fr.S cl hcl) fun y hy => (hm d List.mem_cons_self).1 cl hcl y hy)
    · exact fun x hx => ⟨(h1.limbo x hx).1.setCostNt fun e => absurd e (hne x hx), (h1.limbo x hx).2⟩
  · exact oinv_transfer h rfl rfl (CMono.of_eq rfl)

theorem oinv_pushNext {E : Env Rat} {b : Bool} (hA : E.A = ratA b) {s : St Rat} {L : List (NT × Deriv Rat)} {S : NT}
    {h2 : List (Deriv Rat)} {w : Int} {el : Deriv Rat} {cl : List Rat} {args : List NT} {ns : Bool}
    (h : OInv E s ((S, el) :: L)) (hD : DSorted s) (hl : AList.lookup S s.queueNt = some h2)
    (hrule : E.G.rule? S el.P = some (args, w)) (hne : args ≠ []) (hcl : AList.lookup args s.costDer = some cl) :
    OInv E (pushNext E.A s S h2 w el cl ns).1 L := by
  have hweak : OInv E s L := oinv_sub h (fun x hx => List.mem_cons_of_mem _ hx)
  have wo : Heapq.WeakOrder (ltD E.A) := by rw [hA]; exact ltD_weak b
  unfold pushNext
  split
  · rename_i c1 hc1
    have hcost : E.A.add (E.A.ofInt w) c1 = (w : Rat) + c1 := by rw [hA]; rfl
    obtain ⟨hlow, hlink⟩ := h.limbo (S, el) List.mem_cons_self
    obtain ⟨cl0, c, e1, e2, e3⟩ := hlink args w hrule hne
    rw [hcl] at e1; simp only [Option.some.injEq] at e1; subst e1
    have hle : el.cost ≤ (w : Rat) + c1 := by
      simp only at e3
      rw [e3]; exact Rat.add_le_add_left.mpr (pairwise_getElem? (hD args cl hcl) e2 hc1 (Nat.lt_succ_self _))
    obtain ⟨hh, hm⟩ := h.heap S h2 hl
    refine ⟨?_, h.sorted, hweak.limbo⟩
    refine AList.forall_insert (fun S' h' _ hl' => h.heap S' h' hl') ⟨Heapq.push_isHeap wo h2 _ hh, fun d hd => ?_⟩
    rcases List.mem_cons.mp ((Heapq.push_perm (ltD E.A) h2 _).mem_iff.mp hd) with h3 | h3
    · subst h3
      refine ⟨?_, ?_⟩
      · intro cl' hcl' c' hc'
        simp only [hcost]
        exact Rat.le_trans (hlow cl' hcl' c' hc') hle
      · intro args' w' hr' _
        obtain ⟨rfl, rfl⟩ := Prod.mk.inj (Option.some.inj (hrule.symm.trans hr'))
        exact ⟨cl, c1, hcl, hc1, hcost⟩
    · exact hm d h3
  · exact hweak

/-- the non-terminals a call works on rank below those of the suspended frames -/
def Call.Below (rank : NT → Nat) (L : List (NT × Deriv Rat)) : Call Rat → Prop
  | .emit fr _ _ | .resume fr _ | .drive fr => ∀ x ∈ L, rank fr.S < rank x.1
  | .queryList S _ _ _ => ∀ x ∈ L, rank S < rank x.1
  | .argLoop _ ss _ _ _ _ _ _ => ∀ a ∈ ss, ∀ x ∈ L, rank a < rank x.1
  | .combLoop args _ _ _ _ _ _ _ | .queryDer args _ _ => ∀ a ∈ args, ∀ x ∈ L, rank a < rank x.1

/-- the cost lists only grow, so that those of the state reached are sorted says the same of every state on the way:
    `DSorted` is asked of the end of the run only -/
theorem Exec.oinv {E : Env Rat} {b : Bool} (hA : E.A = ratA b) {rank : NT → Nat} (hAcy : Acy E rank) {s s' : St Rat}
    {c : Call Rat} (h : Exec E s c s') : ∀ {L}, OInv E s L → c.Below rank L → DSorted s' → OInv E s' L := by
  induction h with
  | deleted _ _ ih | tuple _ _ ih | pools _ _ ih | ruleDone _ _ ih | done _ ih | query _ _ _ _ _ _ _ _ ih => exact ih
  | empty | noCost | cached | stop | nil | beyond | stored => exact fun hO _ _ => hO
  | @rejected s _ p _ _ _ _ _ ih =>
    intro L hO hR hD
    obtain ⟨d, e⟩ := addDeleted_eq s p
    rw [e] at ih
    exact ih (oinv_transfer hO rfl rfl (CMono.of_eq rfl)) hR hD
  | yield _ _ hb =>
    intro L hO _ _
    obtain ⟨b, l, _, _, rfl⟩ := appendBank_eq hb
    exact oinv_transfer hO rfl rfl (CMono.of_eq rfl)
  | exit _ _ _ hx =>
    intro L hO hR _
    exact oinv_exit hA hO (fun x hx he => Nat.lt_irrefl _ (he ▸ hR x hx)) hx
  | leaf hP _ ih =>
    intro L hO hR hD
    have hO0 := oinv_pop hA hO hP.look hP.pop
    obtain ⟨b, rfl⟩ := ensureBank_eq hP.bank
    exact ih (oinv_sub (oinv_transfer hO0 rfl rfl (CMono.of_eq rfl)) (fun x hx => List.mem_cons_of_mem _ hx)) hR hD
  | @node s fr _ el _ s1 args w s2 _ _ cl h2 _ _ hP hne _ _ hcl hl2 hr ihq ih =>
    intro L hO hR hD
    have hO0 := oinv_pop hA hO hP.look hP.pop
    have hR' : ∀ a ∈ args, ∀ x ∈ (fr.S, el) :: L, rank a < rank x.1 := by
      intro a ha x hx
      rcases List.mem_cons.mp hx with rfl | h1
      · exact hAcy fr.S el.P args w hP.rule a ha
      · exact Nat.lt_trans (hAcy fr.S el.P args w hP.rule a ha) (hR x h1)
    have hD2 : DSorted s2 := by
      refine DSorted.of_cmono ((CMono.of_eq ?_).trans (hr.grows cmono_grows)) hD
      obtain ⟨q, e⟩ := pushNext_eq E.A s2 fr.S h2 w el cl fr.noSucc
      rw [e]
    obtain ⟨b, rfl⟩ := ensureBank_eq hP.bank
    have hO2 := ihq (oinv_transfer hO0 rfl rfl (CMono.of_eq rfl)) hR' hD2
    exact ih (oinv_pushNext hA hO2 hD2 hl2 hP.rule hne hcl) hR hD
  | next hr hd ih1 ih2 =>
    intro L hO hR hD
    have hO1 := ih1 hO hR (DSorted.of_cmono (hd.grows cmono_grows) hD)
    have hS : _ = _ := hr.yieldAt.1
    exact ih2 hO1 (fun x hx => hS ▸ hR x hx) hD
  | brk _ _ ih => exact fun hO hR hD => ih hO (hR _ List.mem_cons_self) hD
  | arg _ _ h ih1 ih2 =>
    intro L hO hR hD
    have hO1 := ih1 hO (hR _ List.mem_cons_self) (DSorted.of_cmono (h.grows cmono_grows) hD)
    exact ih2 hO1 (fun a ha => hR a (List.mem_cons_of_mem _ ha)) hD
  | failed _ _ h ih1 ih2 => exact fun hO hR hD => ih2 (ih1 hO hR (DSorted.of_cmono (h.grows cmono_grows) hD)) hR hD
  | allowed _ hs h ih1 ih2 | store _ hs _ _ h ih1 ih2 =>
    intro L hO hR hD
    have m := h.grows cmono_grows
    obtain ⟨q, rfl⟩ := succLoop_eq _ _ _ _ _ _ _ _ _ hs
    have hO1 := ih1 hO hR (DSorted.of_cmono ((CMono.of_eq rfl).trans m) hD)
    exact ih2 (oinv_transfer hO1 rfl rfl (CMono.of_eq rfl)) hR hD
  | drained => exact fun hO _ _ => oinv_transfer hO rfl rfl (CMono.of_eq rfl)
  | derive _ _ _ _ _ hm ha _ ih =>
    intro L hO hR hD
    have m45 := cmono_grows.advance ha
    have hO3 := ih (oinv_transfer hO rfl rfl (CMono.of_eq rfl)) hR
      (DSorted.of_cmono ((cmono_grows.markEmpty hm).trans m45) hD)
    obtain ⟨e, rfl⟩ := hm.eq
    obtain ⟨q, c, rfl⟩ := ha.eq
    exact oinv_transfer (oinv_transfer hO3 rfl rfl (CMono.of_eq rfl)) rfl rfl m45

structure OOk (E : Env Rat) (rank : NT → Nat) (f : Nat) : Prop where
  resume : ∀ s fr r L, resume E f s fr = some r → OInv E s L → (∀ x ∈ L, rank fr.S < rank x.1) → DSorted r.st →
    OInv E r.st L
  drive : ∀ s fr s' L, drive E f s fr = some s' → OInv E s L → (∀ x ∈ L, rank fr.S < rank x.1) → DSorted s' → OInv E s' L
  queryList : ∀ s S ci s' ia r L, queryList E f s S ci = some (s', ia, r) → OInv E s L → (∀ x ∈ L, rank S < rank x.1) →
    DSorted s' → OInv E s' L
  argLoop : ∀ s cs ss ia agf acc s' ia' agf' acc' L, argLoop E f s cs ss ia agf acc = some (s', ia', agf', acc') →
    OInv E s L → (∀ a ∈ ss, ∀ x ∈ L, rank a < rank x.1) → DSorted s' → OInv E s' L
  combLoop : ∀ s args ci c combs ns hg s' ns' hg' L, combLoop E f s args ci c combs ns hg = some (s', ns', hg') →
    OInv E s L → (∀ a ∈ args, ∀ x ∈ L, rank a < rank x.1) → DSorted s' → OInv E s' L
  queryDer : ∀ s args ci s' l L, queryDer E f s args ci = some (s', l) →
    OInv E s L → (∀ a ∈ args, ∀ x ∈ L, rank a < rank x.1) → DSorted s' → OInv E s' L

theorem ook_all (E : Env Rat) (b : Bool) (hA : E.A = ratA b) (rank : NT → Nat) (hAcy : Acy E rank) (f : Nat) :
    OOk E rank f where
  resume _ _ r _ h hO hR hD := by
    rw [← r.split_st] at hD ⊢
    exact ((sound E f).resume h).oinv hA hAcy hO hR hD
  drive _ _ _ _ h := ((sound E f).drive h).oinv hA hAcy
  queryList _ _ _ _ _ _ _ h := ((sound E f).queryList h).oinv hA hAcy
  argLoop _ _ _ _ _ _ _ _ _ _ _ h := ((sound E f).argLoop h).oinv hA hAcy
  combLoop _ _ _ _ _ _ _ _ _ _ _ h := ((sound E f).combLoop h).oinv hA hAcy
  queryDer _ _ _ _ _ _ h := ((sound E f).queryDer h).oinv hA hAcy

end PS.CD
