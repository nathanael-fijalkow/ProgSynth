/- With enough fuel `query` returns (acyclic context-free grammar, any priority satisfying `Law`,
   filter and threshold allowed): the nesting depth of the mutual recursion is bounded by the rank
   of the non-terminal, the arity of the rules and the number of rejected programs (each pop of a
   rejected program costs one level of the pop loop, and a popped program never comes back). -/
import PS.Proofs.Enum.GInitTotal
import PS.Proofs.Enum.Tables
namespace PS.HG
open PS PS.G PS.HS
set_option linter.unusedSectionVars false
variable {S π : Type} [DecidableEq S]

/-- a popped program never comes back: what was pushed for `nt` and has left its heap stays out -/
def NoBack (s0 s : St S Unit π) : Prop :=
  SeenMono s0 s ∧ ∀ nt y, y ∈ s0.seenOf nt → y ∉ s0.heapProgs nt → y ∉ s.heapProgs nt

theorem NoBack.refl (s : St S Unit π) : NoBack s s := ⟨fun _ _ h => h, fun _ _ _ h => h⟩

theorem pushStep_heap_fresh (E : Env S Unit π) (s1 : St S Unit π) (F : Sym) (args : List Prog) (nt : NT S Unit)
    (i : Nat) (r : Option Prog) (nt' : NT S Unit) (p : Prog)
    (hp : p ∈ (pushStep E s1 F args nt i r).heapProgs nt') : p ∈ s1.heapProgs nt' ∨ p ∉ s1.seenOf nt' := by
  rcases pushStep_cases E s1 F args nt i r with hps | ⟨q, -, hnew, -, hps⟩
  · rw [hps] at hp; exact Or.inl hp
  · rw [hps] at hp
    rcases (push_pushNew E hnew).mem_heap hp with ⟨rfl, rfl⟩ | h
    · exact Or.inr hnew
    · exact Or.inl h

theorem big_noBackT {E : Env S Unit π} {V : Val E} {rank} {Good} (L : OrdLaw E V rank Good)
    {H0 : NT S Unit → List (π × Prog)}
    {c : Call S Unit} {s s' : St S Unit π} {r : Option Prog} (hb : Big E c s s' r)
    (hf : FullT E V H0 s) (h1 : SPre E c) (h2 : NPre c s) (h3 : OPreT E V H0 c s) : NoBack s s' := by
  refine big_prim L (NoBack s) ?_ ?_ ?_ hb hf h1 h2 h3 (NoBack.refl s)
  · intro s1 nt key e h' hf1 hP hp _ _ _
    exact ⟨hP.1, fun nt' y hy hny hmem => hP.2 nt' y hy hny ((skip_setHeap hp).sub hmem)⟩
  · intro s1 nt e h' hf1 hP hp _
    exact ⟨hP.1, fun nt' y hy hny hmem => hP.2 nt' y hy hny ((skip_setHeap hp).sub hmem)⟩
  · intro s1 F args nt i r ra a ai _ hP _
    obtain ⟨_, w2, _, _⟩ := pushStep_views E s1 F args nt i r
    refine ⟨fun nt' p hp' => w2 nt' p (hP.1 nt' p hp'), ?_⟩
    intro nt' y hy hny hmem
    rcases pushStep_heap_fresh E s1 F args nt i r nt' y hmem with h | h
    · exact hP.2 nt' y hy hny h
    · exact h (hP.1 nt' y hy)

theorem big_noBack {E : Env S Unit π} {rank} {Good} (L : Law E rank Good) {H0 : NT S Unit → List (π × Prog)}
    {c : Call S Unit} {s s' : St S Unit π} {r : Option Prog} (hb : Big E c s s' r)
    (hf : Full E H0 s) (h1 : SPre E c) (h2 : NPre c s) (h3 : OPre E H0 c s) : NoBack s s' :=
  big_noBackT (L.ordLaw (E.ops.ofRule 0)) hb (Full.iffT.mp hf) h1 h2 ((OPre.iffT hf.oinv.val_prio).mp h3)

/-- the rejected programs (`D`) that can still be popped for `nt`: those not yet pushed or still in the heap -/
def pend (s : St S Unit π) (nt : NT S Unit) (D : List Prog) : Nat := pending D (s.seenOf nt) (s.heapProgs nt)

theorem pend_le_of_noBack {s0 s : St S Unit π} (h : NoBack s0 s) (nt : NT S Unit) (D : List Prog) :
    pend s nt D ≤ pend s0 nt D :=
  pending_mono fun q a b => ⟨h.1 nt q a, h.2 nt q a b⟩

theorem pend_le_length (s : St S Unit π) (nt : NT S Unit) (D : List Prog) : pend s nt D ≤ D.length :=
  pending_le _ _ _

theorem pend_skip {lt : (π × Prog) → (π × Prog) → Bool} {s : St S Unit π} (hn : NInvF s) (nt : NT S Unit) (e : π × Prog)
    (h' : List (π × Prog)) (hp : Heapq.pop lt (s.heapOf nt) = some (e, h'))
    (D : List Prog) (hd : e.2 ∈ D) : pend (s.setHeap nt h') nt D < pend s nt D :=
  (skip_setHeap hp).pending_lt hn.five D hd

/-- the children (lower rank) answer with fuel `B` as long as at most `Dm` programs were rejected -/
def ChildTotal (E : Env S Unit π) (rank : NT S Unit → Nat) (H0 : NT S Unit → List (π × Prog)) (Dm R B : Nat) : Prop :=
  ∀ nt, rank nt < R → ∀ n, B ≤ n → ∀ s p, Full E H0 s → s.deleted.length ≤ Dm → OPre E H0 (.query nt p) s →
    ∃ res, query E n s nt p = some res

def ChildTotalT (E : Env S Unit π) (V : Val E) (rank : NT S Unit → Nat) (H0 : NT S Unit → List (π × Prog))
    (Dm R B : Nat) : Prop :=
  ∀ nt, rank nt < R → ∀ n, B ≤ n → ∀ s p, FullT E V H0 s → s.deleted.length ≤ Dm → OPreT E V H0 (.query nt p) s →
    ∃ res, query E n s nt p = some res

theorem fuel_succ {b m : Nat} (hm : b ≤ m) (hb : 0 < b) : ∃ m', m = m' + 1 :=
  Nat.exists_eq_add_one.mpr (Nat.lt_of_lt_of_le hb hm)

theorem addLoop_total {E : Env S Unit π} {V : Val E} {rank} {Good} (L : OrdLaw E V rank Good)
    {H0 : NT S Unit → List (π × Prog)}
    {Dm R B : Nat} (ihc : ChildTotalT E V rank H0 Dm R B) :
    ∀ (d : Nat) (i argsLen : Nat), argsLen - i = d → ∀ m, B + 1 + d ≤ m →
      ∀ (s : St S Unit π) (F : Sym) (args : List Prog) (nt : NT S Unit) (info : Info S) (s2 : NT S Unit),
        rank nt ≤ R → FullT E V H0 s → s.deleted.length ≤ Dm → SPre E (.addLoop F args nt i argsLen info s2) →
        OPreT E V H0 (.addLoop F args nt i argsLen info s2) s →
        ∃ s', addLoop E m s F args nt i argsLen info s2 = some s' := by
  intro d
  induction d with
  | zero =>
    intro i argsLen hd m hm s F args nt info s2 _ _ _ _ _
    -- the arithmetic is by its lemmas: each `omega` here costs a hundred thousand heartbeats and as much again in the kernel
    obtain ⟨m', rfl⟩ := fuel_succ hm (Nat.succ_pos B)
    unfold addLoop
    have : i ≥ argsLen := Nat.le_of_sub_eq_zero hd
    simp [this]
  | succ d ih =>
    intro i argsLen hd m hm s F args nt info s2 hrk hf hdm hspre hopre
    obtain ⟨m', rfl⟩ := fuel_succ hm (Nat.succ_pos _)
    have hlt : i < argsLen := Nat.lt_of_sub_pos (hd ▸ Nat.succ_pos d)
    have hd' : argsLen - (i + 1) = d := by rw [Nat.sub_add_eq, hd]; rfl
    have hm' : B + 1 + d ≤ m' := Nat.le_of_succ_le_succ hm
    have hB : B ≤ m' := Nat.le_trans (Nat.le_add_right B (1 + d)) (Nat.add_assoc B 1 d ▸ hm')
    unfold addLoop
    simp only [Nat.not_le_of_gt hlt, if_false]
    have hspre0 := hspre
    obtain ⟨ra, hr, hgl, hlen, hinfo⟩ := hspre
    obtain ⟨hinf, a, ha, hs2⟩ := hinfo hlt
    have hlenargs := genList_length' E.G args ra hgl
    have hil : i < args.length := by rw [hlenargs, ← hlen]; exact hlt
    have hai : args[i]? = some args[i] := List.getElem?_eq_getElem hil
    rw [hai]
    simp only
    have hqpre := opre_query_arg hai hlt hf hspre0 hopre
    obtain ⟨⟨s1, r⟩, hq⟩ := ihc s2 (by
      rw [hs2]; exact Nat.lt_of_lt_of_le (L.acyclic nt F ra hr a (List.mem_of_getElem? ha)) hrk) m' hB s
      (some args[i]) hf hdm hqpre
    rw [hq]
    simp only
    have hb := big_of_query E hq
    have it := loop_iter L hai hlt hb (big_coreT L hb hf trivial trivial hqpre) hf hspre0 hopre
    have hdel3 : (pushStep E s1 F args nt i r).deleted = s.deleted :=
      (deleted_pushStep E s1 F args nt i r).trans (big_deleted hb)
    by_cases hc : i + 1 < argsLen
    · simp only [hc, if_true]
      obtain ⟨r2, hr2, _, _⟩ := deriveAll_gen E.G args[i] s2 info it.gen_arg
      rw [hr2]
      simp only
      have := ih (i + 1) argsLen hd' m' hm' (pushStep E s1 F args nt i r) F args nt r2.1 r2.2 hrk it.full
        (by rw [hdel3]; exact hdm) (hspre0.next hai hc hr2) (it.next _ _ _ _)
      cases r <;> exact this
    · simp only [hc, if_false]
      exact ⟨_, rfl⟩

theorem addSucc_total {E : Env S Unit π} {V : Val E} {rank} {Good} (L : OrdLaw E V rank Good)
    {H0 : NT S Unit → List (π × Prog)}
    {Dm R B A : Nat} (hA : ArityLe E.G A) (ihc : ChildTotalT E V rank H0 Dm R B)
    (m : Nat) (hm : B + 2 + A ≤ m) (s : St S Unit π) (prog : Prog) (nt : NT S Unit) (hrk : rank nt ≤ R)
    (hf : FullT E V H0 s) (hdm : s.deleted.length ≤ Dm) (hg : gen E.G prog nt = true)
    (hopre : OPreT E V H0 (.addSucc prog nt) s) :
    ∃ s', addSucc E m s prog nt = some s' := by
  obtain ⟨m', rfl⟩ := fuel_succ hm (Nat.add_pos_left (Nat.succ_pos _) A)
  obtain ⟨F, kids⟩ := prog
  cases kids with
  | nil => exact ⟨s, by simp [addSucc]⟩
  | cons a as =>
    simp only [addSucc]
    rw [gen] at hg
    cases hr : E.G.rule? nt F with
    | none => simp [hr] at hg
    | some rl =>
      obtain ⟨ra, u⟩ := rl
      cases u
      simp only [hr] at hg
      have hd : derive E.G [] nt F = some (deriveWith [] nt ra ()) := TT.derive_of_rule hr []
      rw [hd]
      simp only
      have hspre : SPre E (.addLoop F (a :: as) nt 0 ra.length (deriveWith [] nt ra ()).1 (deriveWith [] nt ra ()).2) :=
        ⟨ra, hr, hg, rfl, fun h => AtArg.first nt h⟩
      exact addLoop_total L ihc ra.length 0 ra.length rfl m' (by have := hA nt F ra hr; omega) _ F (a :: as) nt _ _
        hrk hf hdm hspre hopre

theorem addSucc_take_total {E : Env S Unit π} {V : Val E} {rank} {Good} (L : OrdLaw E V rank Good)
    {H0 : NT S Unit → List (π × Prog)}
    {Dm R B A : Nat} (hA : ArityLe E.G A) (ihc : ChildTotalT E V rank H0 Dm R B) {nt : NT S Unit} {key : Option Prog}
    (hrk : rank nt ≤ R) {m : Nat} (hm : B + 2 + A ≤ m) {s : St S Unit π} {e : π × Prog} {h' : List (π × Prog)}
    (hp : Heapq.pop (ltE E.ops) (s.heapOf nt) = some (e, h')) (hf : FullT E V H0 s) (hdm : s.deleted.length ≤ Dm)
    (hnone : AList.lookup key (s.succOf nt) = none) (hpre : OPreT E V H0 (.popLoop nt key) s) :
    ∃ s', addSucc E m (((s.setHeap nt h').setSucc nt key e.2).setPred nt e.2 key) e.2 nt = some s' := by
  obtain ⟨hfa, hg, hopre, _⟩ := sub_take L hf hp hnone hpre
  exact addSucc_total L hA ihc m hm (s.popTake nt key e h') e.2 nt hrk hfa hdm hg hopre

theorem popLoop_total {E : Env S Unit π} {V : Val E} {rank} {Good} (L : OrdLaw E V rank Good)
    {H0 : NT S Unit → List (π × Prog)}
    {Dm R B A : Nat} (hA : ArityLe E.G A) (ihc : ChildTotalT E V rank H0 Dm R B) (nt : NT S Unit) (key : Option Prog)
    (hrk : rank nt ≤ R) :
    ∀ (μ : Nat) (m : Nat), B + 3 + A + μ ≤ m → ∀ (s : St S Unit π), pend s nt s.deleted ≤ μ →
      FullT E V H0 s → s.deleted.length ≤ Dm → AList.lookup key (s.succOf nt) = none →
      OPreT E V H0 (.popLoop nt key) s → ∃ res, popLoop E m s nt key = some res := by
  intro μ
  -- `μ` bounds the rejected programs the loop can still meet: the pop of one makes it smaller
  induction μ using Nat.strongRecOn with
  | _ μ ih =>
  intro m hm s hμ hf hdm hnone hpre
  obtain ⟨m', rfl⟩ := fuel_succ hm (Nat.add_pos_left (Nat.add_pos_left (Nat.succ_pos _) A) μ)
  have hm2 : B + 2 + A ≤ m' := by omega
  unfold popLoop
  cases hp : Heapq.pop (ltE E.ops) (s.heapOf nt) with
  | none => exact ⟨_, rfl⟩
  | some eh =>
    obtain ⟨e, h'⟩ := eh
    simp only
    cases hdel : (s.setHeap nt h').deleted.contains e.2 with
    | true =>
      simp only [if_true]
      have hdel' : s.deleted.contains e.2 = true := hdel
      have hlt := pend_skip (.of5 hf.ninv) nt e h' hp s.deleted (by simpa using hdel')
      obtain ⟨hfa, hg, hopre⟩ := sub_skip L hf hp hdel'
      obtain ⟨s1, hs1⟩ := addSucc_total L hA ihc m' hm2 (s.setHeap nt h') e.2 nt hrk hfa hdm hg hopre
      rw [hs1]
      simp only
      have ha := (big_of_run E m').2.2.1 _ _ _ _ hs1
      have ca := big_coreT L ha hfa hg trivial hopre
      have hnb := big_noBackT L ha hfa hg trivial hopre
      obtain ⟨hnone1, hpre1⟩ := sub_skip_next hp hnone hpre (ca.frame nt (Nat.le_refl _))
      have hdel1 : s1.deleted = s.deleted := (big_deleted ha : s1.deleted = (s.setHeap nt h').deleted)
      have hμ1 : pend s1 nt s1.deleted < μ := by
        rw [hdel1]
        have := pend_le_of_noBack hnb nt s.deleted
        have h2 : pend (s.setHeap nt h') nt s.deleted < pend s nt s.deleted := hlt
        omega
      exact ih _ hμ1 m' (by omega) s1 (Nat.le_refl _) ca.full (by rw [hdel1]; exact hdm) hnone1 hpre1
    | false =>
      obtain ⟨s', hs'⟩ := addSucc_take_total L hA ihc hrk (m := m') hm2 hp hf hdm hnone hpre
      simp only [Bool.false_eq_true, if_false, hs']
      exact ⟨_, rfl⟩

/-- `A + 5 + Dm` per rank: two units for `query` before it enters `popLoop`, one for the pop that is taken, at most
    `Dm` for the pops of rejected programs before it, and `2 + A` for the `__add_successors__` that follows a pop and
    its loop over at most `A` arguments; the queries on the arguments are of lower rank -/
theorem query_totalT {E : Env S Unit π} {V : Val E} {rank} {Good} (L : OrdLaw E V rank Good)
    {H0 : NT S Unit → List (π × Prog)}
    {A Dm : Nat} (hA : ArityLe E.G A) :
    ∀ R, ChildTotalT E V rank H0 Dm R (R * (A + 5 + Dm)) := by
  intro R
  induction R with
  | zero => intro nt hr; exact absurd hr (Nat.not_lt_zero _)
  | succ R ih =>
    intro nt hrk n hn s p hf hdm hpre
    have hrk' : rank nt ≤ R := Nat.le_of_lt_succ hrk
    -- `query` spends at most two units of fuel before it enters `popLoop`
    have hn' : R * (A + 5 + Dm) + 3 + A + Dm + 2 ≤ n := by
      have : (R + 1) * (A + 5 + Dm) = R * (A + 5 + Dm) + (A + 5 + Dm) := Nat.succ_mul R _
      omega
    obtain ⟨n1, rfl⟩ := fuel_succ hn' (Nat.succ_pos _)
    have hn1 : R * (A + 5 + Dm) + 3 + A + Dm + 1 ≤ n1 := Nat.le_of_succ_le_succ hn'
    have pl : ∀ (m : Nat), R * (A + 5 + Dm) + 3 + A + Dm ≤ m → ∀ (s1 : St S Unit π) (key : Option Prog), FullT E V H0 s1 →
        s1.deleted.length ≤ Dm → AList.lookup key (s1.succOf nt) = none → OPreT E V H0 (.popLoop nt key) s1 →
        ∃ res, popLoop E m s1 nt key = some res := by
      intro m hm s1 key hf1 hd1 hl hp1
      exact popLoop_total L hA ih nt key hrk' Dm m hm s1
        (Nat.le_trans (pend_le_length s1 nt s1.deleted) hd1) hf1 hd1 hl hp1
    -- the part after the optional first query
    have cont : ∀ s1 : St S Unit π, FullT E V H0 s1 → s1.deleted.length ≤ Dm → OPreT E V H0 (.lop nt p) s1 →
        ∃ res, (match AList.lookup p (s1.succOf nt) with
          | some r => some (s1, some r)
          | none => popLoop E n1 s1 nt p) = some res := by
      intro s1 hf1 hd1 hpre1
      cases hl : AList.lookup p (s1.succOf nt) with
      | some q => exact ⟨_, rfl⟩
      | none => exact pl n1 (Nat.le_of_succ_le hn1) s1 p hf1 hd1 hl hpre1
    unfold query
    cases p with
    | none =>
      simp only
      exact cont s hf hdm (by intro x hx; cases hx)
    | some x =>
      simp only
      cases hn0 : (AList.lookup none (s.succOf nt)).isSome with
      | true =>
        simp only [if_true]
        exact cont s hf hdm (opre_lop_direct (Or.inr hn0) hpre)
      | false =>
        simp only [Bool.false_eq_true, if_false]
        have hnone : AList.lookup none (s.succOf nt) = none := by
          cases hl : AList.lookup none (s.succOf nt) with
          | none => rfl
          | some v => rw [hl] at hn0; cases hn0
        obtain ⟨n2, rfl⟩ := fuel_succ hn1 (Nat.succ_pos _)
        have hq0pre : OPreT E V H0 (.query nt none) s := by intro y hy; cases hy
        obtain ⟨res0, hres0⟩ : ∃ res, query E (n2 + 1) s nt none = some res := by
          unfold query
          simp only [hnone]
          exact pl n2 (Nat.le_of_succ_le_succ hn1) s none hf hdm hnone (by intro y hy; cases hy)
        rw [hres0]
        simp only [Option.map_some]
        have hb0 := big_of_query E (s' := res0.1) (r := res0.2) hres0
        have c0 := big_coreT L hb0 hf trivial trivial hq0pre
        exact cont res0.1 c0.full (by rw [big_deleted hb0]; exact hdm) (opre_lop_first hf hn0 hb0 c0 hpre)

theorem query_total {E : Env S Unit π} {rank} {Good} (L : Law E rank Good) {H0 : NT S Unit → List (π × Prog)}
    {A Dm : Nat} (hA : ArityLe E.G A) :
    ∀ R, ChildTotal E rank H0 Dm R (R * (A + 5 + Dm)) :=
  fun R nt hrk n hn s p hf hdm hpre => query_totalT (L.ordLaw (E.ops.ofRule 0)) hA R nt hrk n hn s p (Full.iffT.mp hf) hdm
    ((OPre.iffT hf.oinv.val_prio).mp hpre)

end PS.HG
