/- `compute_priority` never fails on the programs heap search builds; every program added to
   `hash_table_program[S]` is in the heap, or was popped, or is below the threshold (`CInv`).
   Any priority type, threshold, filter. -/
import PS.Proofs.Enum.GTables
namespace PS.HG
open PS PS.G PS.HS
set_option linter.unusedSectionVars false
variable {S π : Type} [DecidableEq S]

def WTotal (E : Env S Unit π) : Prop := ∀ nt F rl, E.G.rule? nt F = some rl → (ruleW E nt F).isSome = true

theorem prioArgs_total (E : Env S Unit π) (c : AList (Prog × NT S Unit) π) :
    ∀ (ks : List Prog) (a : Ty × S) (as : List (Ty × S)) (acc : π),
      genList E.G ks (a :: as) = true →
      (∀ (j : Nat) kj aj, ks[j]? = some kj → (a :: as)[j]? = some aj → (AList.lookup (kj, argNT aj) c).isSome = true) →
      ∃ p, prioArgs E c ks as (argNT a) acc = some p
  | [], a, as, acc, hg, _ => by simp [genList] at hg
  | k :: rest, (t, s0), as, acc, hg, hc => by
    simp only [genList, Bool.and_eq_true] at hg
    unfold prioArgs
    have h0 := hc 0 k (t, s0) rfl rfl
    cases hl : AList.lookup (k, argNT (t, s0)) c with
    | none => rw [hl] at h0; cases h0
    | some pa =>
      simp only
      cases as with
      | nil =>
        have hr := genList_nil_right E.G rest hg.2
        subst hr
        split
        · exact ⟨_, rfl⟩
        · obtain ⟨r2, hr2, _, _⟩ := deriveAll_gen E.G k (argNT (t, s0)) [] hg.1
          rw [hr2]
          exact ⟨E.ops.combine acc pa, by simp [prioArgs]⟩
      | cons a' as' =>
        cases rest with
        | nil => simp [genList] at hg
        | cons k' rest' =>
          simp only [List.isEmpty_cons, Bool.false_and, Bool.false_eq_true, if_false]
          obtain ⟨r2, hr2, hadv1, hadv2⟩ := deriveAll_gen E.G k (argNT (t, s0)) (a' :: as') hg.1
          rw [hr2]
          simp only
          rw [hadv1, hadv2 a' as' rfl]
          exact prioArgs_total E c (k' :: rest') a' as' _ hg.2
            (fun j kj aj hk ha => hc (j + 1) kj aj (by simpa using hk) (by simpa using ha))

theorem computePrio_total (E : Env S Unit π) (hw : WTotal E) (c : AList (Prog × NT S Unit) π)
    (nt : NT S Unit) (F : Sym) (args : List Prog) (ra : List (Ty × S))
    (hr : E.G.rule? nt F = some (ra, ())) (hg : genList E.G args ra = true)
    (hc : ∀ (j : Nat) kj aj, args[j]? = some kj → ra[j]? = some aj → (AList.lookup (kj, argNT aj) c).isSome = true) :
    ∃ r, computePrio E c nt (.node F args) = some r := by
  unfold computePrio
  split
  · exact ⟨_, rfl⟩
  · have hws := hw nt F _ hr
    cases hwv : ruleW E nt F with
    | none => rw [hwv] at hws; cases hws
    | some w =>
      cases args with
      | nil => exact ⟨(AList.insert (Tree.node F [], nt) (E.ops.ofRule w) c, E.ops.ofRule w), by simp [hwv]⟩
      | cons a as =>
        cases ra with
        | nil => simp [genList] at hg
        | cons a0 as0 =>
          have hlen := genList_length' E.G _ _ hg
          obtain ⟨p, hp⟩ := prioArgs_total E c (a :: as) a0 as0 (E.ops.ofRule w) hg hc
          have hdw : deriveWith ([] : Info S) nt (a0 :: as0) () = (as0, argNT a0) := by
            obtain ⟨t0, s0⟩ := a0
            simp [deriveWith, argNT]
          refine ⟨(AList.insert (Tree.node F (a :: as), nt) p c, p), ?_⟩
          simp only [hwv, derive, hr, hdw]
          have : ¬ ((a0 :: as0).length ≠ (a :: as).length) := by rw [hlen]; simp
          simp only [this, if_false, hp]

theorem computePrio_cache (E : Env S Unit π) (c : AList (Prog × NT S Unit) π) (nt : NT S Unit) (prog : Prog)
    (c' : AList (Prog × NT S Unit) π) (v : π) (h : computePrio E c nt prog = some (c', v)) :
    (∀ key, (AList.lookup key c).isSome = true → (AList.lookup key c').isSome = true) ∧
    (AList.lookup (prog, nt) c').isSome = true := by
  have hins : ∀ (x : π), (∀ key, (AList.lookup key c).isSome = true →
      (AList.lookup key (AList.insert (prog, nt) x c)).isSome = true) ∧
      (AList.lookup (prog, nt) (AList.insert (prog, nt) x c)).isSome = true := by
    intro x
    refine ⟨?_, by rw [AList.lookup_insert_self]; rfl⟩
    intro key hk
    rw [AList.lookup_insert]
    split
    · rfl
    · exact hk
  revert h
  fun_cases computePrio E c nt prog <;> intro h <;> cases h
  case case1 hp =>
    split at hp
    · exact ⟨fun _ hk => hk, by rw [hp]; rfl⟩
    · cases hp
  all_goals exact hins _

/-- `y` was popped for `nt`: recorded as a successor, or skipped because it is deleted -/
def Popped (E : Env S Unit π) (s : St S Unit π) (nt : NT S Unit) (y : Prog) : Prop :=
  (∃ k, AList.lookup k (s.succOf nt) = some y) ∨
  (y ∈ s.seenOf nt ∧ y ∉ s.heapProgs nt ∧ y ∈ s.deleted ∧ ∃ py, prioSpec E y nt = some py ∧ pushOK E.ops py = true)

/-- The three `*_cached` clauses keep `compute_priority` from raising KeyError at `self.probabilities[arg][S2]`
    (heap_search.py:311; `__add_successors__` swallows it and the successor is lost): in a successor `F(args[i := z])`
    the new argument `z` is a popped value (`val_cached`, which a pop gets from `heap_cached`) and the others are
    arguments of a program in `hash_table_program` (`args_cached`). -/
structure CInv (E : Env S Unit π) (s : St S Unit π) : Prop where
  seen_cover : ∀ nt p, p ∈ s.seenOf nt → p ∈ s.heapProgs nt ∨ Popped E s nt p ∨
    ∃ pp, prioSpec E p nt = some pp ∧ pushOK E.ops pp = false
  heap_ok : ∀ nt e, e ∈ s.heapOf nt → pushOK E.ops e.1 = true
  heap_cached : ∀ nt e, e ∈ s.heapOf nt → (AList.lookup (e.2, nt) s.cache).isSome = true
  val_cached : ∀ nt k v, AList.lookup k (s.succOf nt) = some v → (AList.lookup (v, nt) s.cache).isSome = true
  args_cached : ∀ nt F args ra, Tree.node F args ∈ s.seenOf nt → E.G.rule? nt F = some (ra, ()) →
    ∀ (i : Nat) ai a, args[i]? = some ai → ra[i]? = some a → (AList.lookup (ai, argNT a) s.cache).isSome = true

theorem Popped.mono {E : Env S Unit π} {s s' : St S Unit π} {nt : NT S Unit} {y : Prog} (hp : Popped E s nt y)
    (hst : Stable s s') (hseen : s'.seenOf nt = s.seenOf nt) (hdel : s'.deleted = s.deleted)
    (hsub : ∀ p, p ∈ s'.heapProgs nt → p ∈ s.heapProgs nt) : Popped E s' nt y := by
  rcases hp with ⟨k, hk⟩ | ⟨h1, h2, h3, h4⟩
  · exact Or.inl ⟨k, hst nt k y hk⟩
  · exact Or.inr ⟨hseen ▸ h1, fun hin => h2 (hsub y hin), hdel ▸ h3, h4⟩

/-- why a program that was pushed for `nt` is neither in its heap nor recorded: it was rejected (`D` is `deleted`)
    and skipped when popped, or the threshold kept it out -/
def OutG (E : Env S Unit π) (D : List Prog) (nt : NT S Unit) (p : Prog) : Prop :=
  (p ∈ D ∧ ∃ py, prioSpec E p nt = some py ∧ pushOK E.ops py = true) ∨
  ∃ pp, prioSpec E p nt = some pp ∧ pushOK E.ops pp = false

/-- `CInv.seen_cover` is `Tables.Cover` -/
theorem seen_cover_iff {E : Env S Unit π} {s : St S Unit π} :
    (∀ nt p, p ∈ s.seenOf nt → p ∈ s.heapProgs nt ∨ Popped E s nt p ∨
      ∃ pp, prioSpec E p nt = some pp ∧ pushOK E.ops pp = false) ↔
    ∀ nt, Tables.Cover (OutG E s.deleted nt) s.tb nt := by
  constructor
  · intro h nt p hp
    rcases h nt p hp with hh | (hv | ⟨_, _, hd, hpy⟩) | hthr
    · exact Or.inl hh
    · exact Or.inr (Or.inl hv)
    · exact Or.inr (Or.inr (Or.inl ⟨hd, hpy⟩))
    · exact Or.inr (Or.inr (Or.inr hthr))
  · intro h nt p hp
    rcases h nt p hp with hh | hv | ⟨hd, hpy⟩ | hthr
    · exact Or.inl hh
    · exact Or.inr (Or.inl (Or.inl hv))
    · by_cases hh : p ∈ s.heapProgs nt
      · exact Or.inl hh
      · exact Or.inr (Or.inl (Or.inr ⟨hp, hh, hd, hpy⟩))
    · exact Or.inr (Or.inr hthr)

theorem cinv_pop (E : Env S Unit π) (V : Val E) (H0 : NT S Unit → List (π × Prog)) : PopStep E V H0 (CInv E) := by
  intro s nt key e h' hf hP hp _ hkey hnone
  obtain ⟨hm, hsub⟩ := Heapq.mem_of_pop _ _ _ _ hp
  have W := take_popTake (key := key) hp hnone
  have hmemh : ∀ nt' e', e' ∈ (s.popTake nt key e h').heapOf nt' → e' ∈ s.heapOf nt' :=
    fun nt' e' he' => mem_heapOf_setHeap hsub he'
  refine ⟨seen_cover_iff.mpr fun nt' => ?_, fun nt' e' he' => hP.heap_ok nt' e' (hmemh nt' e' he'),
    fun nt' e' he' => hP.heap_cached nt' e' (hmemh nt' e' he'), ?_, hP.args_cached⟩
  · have h0 := seen_cover_iff.mp hP.seen_cover nt'
    by_cases hne : nt' = nt
    · subst hne; exact h0.take W
    · exact h0.congr (by rw [W.heap, if_neg hne]) (W.seen nt') (by rw [W.succ, if_neg hne])
  · intro nt' k v hk
    rcases lookup_popTake hk with ⟨rfl, -, rfl⟩ | ⟨-, hk⟩
    · exact hP.heap_cached _ e hm
    · exact hP.val_cached nt' k v hk

theorem cinv_skip (E : Env S Unit π) (V : Val E) (H0 : NT S Unit → List (π × Prog)) : SkipStep E V H0 (CInv E) := by
  intro s nt e h' hf hP hp hd
  obtain ⟨hm, hsub⟩ := Heapq.mem_of_pop _ _ _ _ hp
  have W := skip_setHeap hp
  refine ⟨seen_cover_iff.mpr fun nt' => ?_, fun nt' e' he' => hP.heap_ok nt' e' (mem_heapOf_setHeap hsub he'),
    fun nt' e' he' => hP.heap_cached nt' e' (mem_heapOf_setHeap hsub he'), hP.val_cached, hP.args_cached⟩
  have h0 := seen_cover_iff.mp hP.seen_cover nt'
  by_cases hne : nt' = nt
  · -- the rejected program just popped leaves the heap
    subst hne
    exact h0.skip W (Or.inl ⟨by simpa using hd, e.1, hf.sinv.heap_prio _ e hm, hP.heap_ok _ e hm⟩)
  · exact h0.congr (by rw [W.heap, if_neg hne]) (W.seen nt') (W.succ nt')

theorem pushNew_eq (E : Env S Unit π) (s : St S Unit π) (nt : NT S Unit) (np : Prog)
    (c' : AList (Prog × NT S Unit) π) (v : π) (hcp : computePrio E s.cache nt np = some (c', v)) :
    pushNew E s nt np =
      if pushOK E.ops v = true then
        St.setHeap { s.addSeen nt np with cache := c' } nt (Heapq.push (ltE E.ops) (s.heapOf nt) (v, np))
      else { s.addSeen nt np with cache := c' } := by
  unfold pushNew
  have : computePrio E (s.addSeen nt np).cache nt np = some (c', v) := hcp
  simp only [this]
  rfl

theorem CInv.pushNew_of_some {E : Env S Unit π} {s : St S Unit π} (hP : CInv E s) (hs : SInv E s) (nt : NT S Unit)
    (F : Sym) (args : List Prog) (ra : List (Ty × S)) (hr : E.G.rule? nt F = some (ra, ()))
    (hg : genList E.G args ra = true) (hnew : Tree.node F args ∉ s.seenOf nt)
    (hargs : ∀ (j : Nat) kj aj, args[j]? = some kj → ra[j]? = some aj → (AList.lookup (kj, argNT aj) s.cache).isSome = true)
    (c' : AList (Prog × NT S Unit) π) (v : π) (hcp : computePrio E s.cache nt (.node F args) = some (c', v)) :
    CInv E (pushNew E s nt (.node F args)) := by
  obtain ⟨hmono, hnewc⟩ := computePrio_cache E s.cache nt _ c' v hcp
  have hgen : gen E.G (.node F args) nt = true := by rw [gen, hr]; exact hg
  have hv := (computePrio_spec E _ hs.cache_ok nt _ hgen c' v hcp).1
  have W := push_pushNew E hnew
  have hc : (pushNew E s nt (.node F args)).cache = c' := by
    rcases cache_pushNew E s nt (.node F args) with ⟨h0, _⟩ | ⟨_, h1⟩
    · rw [hcp] at h0; cases h0
    · rw [hcp] at h1; cases h1; rfl
  refine ⟨seen_cover_iff.mpr fun nt' => ?_, ?_, ?_, ?_, ?_⟩
  · have h0 := seen_cover_iff.mp hP.seen_cover nt'
    rw [deleted_pushNew]
    by_cases hne : nt' = nt
    · subst hne
      refine h0.push W ?_
      -- the new program went into the heap, or the threshold kept it out
      rw [pushNew_eq E s nt' _ c' v hcp]
      by_cases hok : pushOK E.ops v = true
      · left
        rw [if_pos hok]
        show ((St.setHeap _ nt' _).heapProgs nt').Perm _
        rw [St.heapProgs_setHeap, if_pos rfl]
        exact (Heapq.push_perm (ltE E.ops) (s.heapOf nt') (v, _)).map (·.2)
      · exact Or.inr (Or.inr ⟨v, hv, by simpa using hok⟩)
    · exact h0.congr (W.heap_ne nt' hne) (by show (pushNew E s nt _).seenOf nt' = s.seenOf nt'; rw [seenOf_pushNew, if_neg hne])
        (W.succ nt')
  · intro nt' e' he'
    rcases mem_heapOf_pushNew he' with hold | ⟨-, -, -, -, hok⟩
    · exact hP.heap_ok nt' e' hold
    · exact hok
  · intro nt' e' he'
    rw [hc]
    rcases mem_heapOf_pushNew he' with hold | ⟨rfl, he2, -⟩
    · exact hmono _ (hP.heap_cached nt' e' hold)
    · rw [he2]; exact hnewc
  · intro nt' k v' hk
    rw [succOf_pushNew] at hk
    rw [hc]; exact hmono _ (hP.val_cached nt' k v' hk)
  · intro nt' F' args' ra' hmem hr' i ai a hai ha
    rw [hc]
    rcases mem_seenOf_pushNew.mp hmem with hold | ⟨rfl, hp⟩
    · exact hmono _ (hP.args_cached nt' F' args' ra' hold hr' i ai a hai ha)
    · cases hp
      rw [hr] at hr'; cases hr'
      exact hmono _ (hargs i ai a hai ha)

/-- the priority of the successor that `__add_successors__` builds at position `i` is computed: its
    arguments are memoised -/
theorem pushStep_prio {E : Env S Unit π} {V : Val E} (hw : WTotal E) {s1 : St S Unit π} (hP : CInv E s1) {F : Sym}
    {args : List Prog} {nt : NT S Unit} {i : Nat} {ra : List (Ty × S)} {a : Ty × S} {ai q : Prog}
    (sit : PushSit E V s1 F args nt i (some q) ra a ai) :
    genList E.G (args.set i q) ra = true ∧
    (∀ (j : Nat) kj aj, (args.set i q)[j]? = some kj → ra[j]? = some aj →
      (AList.lookup (kj, argNT aj) s1.cache).isSome = true) ∧
    ∃ r, computePrio E s1.cache nt (.node F (args.set i q)) = some r := by
  obtain ⟨hr, hgl, ha, hai, hseen, -, -, hq⟩ := sit
  obtain ⟨hlk, hgq⟩ := hq q rfl
  have hgl' : genList E.G (args.set i q) ra = true := genList_set E.G args ra i q a hgl ha hgq
  have hargs : ∀ (j : Nat) kj aj, (args.set i q)[j]? = some kj → ra[j]? = some aj →
      (AList.lookup (kj, argNT aj) s1.cache).isSome = true := by
    intro j kj aj hkj haj
    by_cases hji : j = i
    · subst hji
      rw [List.getElem?_set_self (List.getElem?_eq_some_iff.mp hai).1] at hkj
      cases hkj
      rw [ha] at haj; cases haj
      exact hP.val_cached _ _ _ hlk
    · rw [List.getElem?_set_ne (Ne.symm hji)] at hkj
      exact hP.args_cached nt F args ra hseen hr j kj aj hkj haj
  exact ⟨hgl', hargs, computePrio_total E hw s1.cache nt F (args.set i q) ra hr hgl' hargs⟩

theorem cinv_push (E : Env S Unit π) (V : Val E) (H0 : NT S Unit → List (π × Prog)) (hw : WTotal E) :
    PushStep E V H0 (CInv E) := by
  intro s1 F args nt i r ra a ai hf hP sit
  rcases pushStep_cases E s1 F args nt i r with hps | ⟨q, rfl, hnew, -, hps⟩
  · rw [hps]; exact hP
  · rw [hps]
    obtain ⟨hgl', hargs, ⟨c', v⟩, hcp⟩ := pushStep_prio hw hP sit
    exact hP.pushNew_of_some hf.sinv nt F _ ra sit.rule hgl' hnew hargs c' v hcp

theorem big_cinvT {E : Env S Unit π} {V : Val E} {rank} {Good} (L : OrdLaw E V rank Good)
    {H0 : NT S Unit → List (π × Prog)}
    (hw : WTotal E) {c : Call S Unit} {s s' : St S Unit π} {r : Option Prog} (hb : Big E c s s' r)
    (hf : FullT E V H0 s) (h1 : SPre E c) (h2 : NPre c s) (h3 : OPreT E V H0 c s) (hP : CInv E s) : CInv E s' :=
  big_prim L (CInv E) (cinv_pop E V H0) (cinv_skip E V H0) (cinv_push E V H0 hw) hb hf h1 h2 h3 hP

theorem big_cinv {E : Env S Unit π} {rank} {Good} (L : Law E rank Good) {H0 : NT S Unit → List (π × Prog)}
    (hw : WTotal E) {c : Call S Unit} {s s' : St S Unit π} {r : Option Prog} (hb : Big E c s s' r)
    (hf : Full E H0 s) (h1 : SPre E c) (h2 : NPre c s) (h3 : OPre E H0 c s) (hP : CInv E s) : CInv E s' :=
  big_cinvT (L.ordLaw (E.ops.ofRule 0)) hw hb (Full.iffT.mp hf) h1 h2 ((OPre.iffT hf.oinv.val_prio).mp h3) hP

end PS.HG
