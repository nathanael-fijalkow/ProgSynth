/- Filter / merge safety of beap search: `_deleted` only grows; a yielded program is accepted by the
   filter and is not in `_deleted`; hence a program merged away (`merge_program(_, other)`) is never
   yielded afterwards. -/
import PS.Proofs.Enum.BeapFresh
import PS.Proofs.Enum.BeapWr
namespace PS.Beap
open PS PS.G
set_option linter.unusedSectionVars false
variable {S : Type} [DecidableEq S]

def DMono (s s' : St S) : Prop := ∀ q, q ∈ s.deleted → q ∈ s'.deleted

theorem DMono.refl (s : St S) : DMono s s := fun _ h => h
theorem DMono.trans {a b c : St S} (h1 : DMono a b) (h2 : DMono b c) : DMono a c := fun q h => h2 q (h1 q h)
theorem DMono.of_eq {s s' : St S} (h : s'.deleted = s.deleted) : DMono s s' := fun q hq => h ▸ hq

theorem wr_dmono {E : Env S} {s s' : St S} (h : Wr E s s') : DMono s s' := by
  cases h with
  | del p _ => exact fun q hq => St.addDeleted_mono s p q hq
  | bank => exact DMono.of_eq rfl
  | ensure nt ci => exact DMono.of_eq (St.deleted_ensureBank s nt ci)
  | pop => exact DMono.of_eq rfl
  | push => exact DMono.of_eq rfl
  | mark nt fr => exact DMono.of_eq (markEmpty_deleted s nt fr)
  | snoc => exact DMono.of_eq rfl

/-- what `query` yields is accepted and not deleted: a `yield` follows the write of the program to the bank (`YieldWr`) -/
theorem mono_all (E : Env S) (n : Nat) : Runs E n (fun s _ _ r => DMono s r.1) (fun s _ _ s' => DMono s s')
    (fun s _ _ s' => DMono s s') (fun s _ _ r => DMono s r.1 ∧ ∀ p fr', r.2 = .yield p fr' → E.filter p = true ∧ p ∉ r.1.deleted)
    (fun s _ _ _ _ _ r => DMono s r.1) := by
  have l := run_lift E DMono.refl (fun _ _ _ => DMono.trans) (fun _ _ => wr_dmono) n
  refine ⟨l.ql, l.rq, l.dr, fun h => ⟨l.rs h, fun p fr' hy => ?_⟩, l.al⟩
  obtain ⟨s0, _, hd, hf, hs1⟩ := ((run_writes E n).rs h).2 p fr' hy
  exact ⟨hf, by rw [hs1]; exact hd⟩

theorem prologue_deleted (E : Env S) (fuel : Nat) (s s' : St S) (h : prologue E fuel s = some s') : s'.deleted = s.deleted :=
  (prologue_rest E fuel s s' h).2.2.1

theorem nextLoop_filter (E : Env S) (fuel : Nat) (k : Nat) (s : St S) (n : Nat) (failed : Bool) (fro : Option Frame)
    (r : Gen S × Option Prog) (h : nextLoop E fuel k s n failed fro = some r) :
    DMono s r.1.st ∧ ∀ p, r.2 = some p → E.filter p = true ∧ p ∉ r.1.st.deleted := by
  apply nextLoop_induct E fuel ?nl_yield ?nl_stop ?nl_next ?nl_end ?nl_enter k s n failed fro r h
  case nl_yield =>
    intro s n failed fr s1 p fr1 hr
    obtain ⟨h1, h2⟩ := (mono_all E fuel).rs hr
    exact ⟨h1, fun p' hp' => by cases hp'; exact h2 p fr1 rfl⟩
  case nl_stop => intro s n failed fr s1 hr _; exact ⟨((mono_all E fuel).rs hr).1, fun p' hp' => by cases hp'⟩
  case nl_next => intro s n failed fr s1 r hr ih; exact ⟨((mono_all E fuel).rs hr).1.trans ih.1, ih.2⟩
  case nl_end => intro s n failed _; exact ⟨DMono.of_eq rfl, fun p' hp' => by cases hp'⟩
  case nl_enter => intro s n failed c r _ ih; exact ⟨(DMono.of_eq rfl).trans ih.1, ih.2⟩

theorem next_filter (E : Env S) (fuel : Nat) (g : Gen S) (r : Gen S × Option Prog) (h : next E fuel g = some r) :
    DMono g.st r.1.st ∧ ∀ p, r.2 = some p → E.filter p = true ∧ p ∉ r.1.st.deleted := by
  rcases next_cases h with ⟨_, rfl⟩ | ⟨_, h⟩ | ⟨_, s, hp, h⟩
  · exact ⟨DMono.refl _, fun p hp => by cases hp⟩
  · exact nextLoop_filter E fuel _ _ _ _ _ _ h
  · obtain ⟨g1, g2⟩ := nextLoop_filter E fuel _ _ _ _ _ _ h
    exact ⟨(DMono.of_eq (prologue_deleted E fuel _ _ hp)).trans g1, g2⟩

theorem merge_deleted (g : Gen S) (other : Prog) (ok : NT S Unit → Bool) :
    other ∈ (merge g other ok).st.deleted ∧ DMono g.st (merge g other ok).st := by
  unfold merge
  exact ⟨St.mem_addDeleted _ _, fun q hq => St.addDeleted_mono _ _ _ hq⟩

end PS.Beap
