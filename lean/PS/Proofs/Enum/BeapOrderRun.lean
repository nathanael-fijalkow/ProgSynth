/- What the prologue of beap search leaves, as one predicate `Pro` (every cost list has at most one entry, only
   non-terminals of the rule table are initialised, every queued combination is the all-zero one, the banks are
   untouched, with the invariants of the earlier files), and from it `CInv` when every non-terminal derives a
   program (`Productive`).  `prologue_back` leads a prologue that starts after a `merge_program` back to one from the
   tables of `__init__`.  Then `next` and `take` at the level of costs: the k-th yielded program has cost
   `_cost_lists[start][i_k]` for a non-decreasing sequence of indices `i_k`; hence the yielded costs are
   non-decreasing whenever the (final) cost list of the start symbol is non-decreasing — a Boolean check on the
   final state. -/
import PS.Proofs.Enum.BeapCost
import PS.Proofs.Enum.BeapFresh
import PS.Model.Enum.BeapSpec
namespace PS.Beap
open PS PS.G PS.Heapq

set_option linter.unusedSectionVars false
variable {S : Type} [DecidableEq S]

/-! ### the tables after the prologue -/

structure PI (E : Env S) (s : St S) : Prop where
  len : ∀ nt, (s.clOf nt).length ≤ 1
  keys : ∀ nt, s.clOf nt ≠ [] → (AList.lookup nt E.G.rules).isSome
  zero : ∀ nt el, el ∈ s.queueOf nt → ∀ rl, E.G.rule? nt el.P = some rl → el.comb = List.replicate rl.1.length 0

/-- `prologue_each` for "all combinations zero" and "at most one cost, only for non-terminals of the rule table" -/
theorem prologue_pi (E : Env S) (hnd : RowsNodup E.G) (fuel : Nat) (s' : St S)
    (h : prologue E fuel (St.empty E.G) = some s') : PI E s' := by
  have he := prologue_each E
    (W := fun nt q => ∀ el ∈ q, ∀ rl, E.G.rule? nt el.P = some rl → el.comb = List.replicate rl.1.length 0)
    (C := fun nt cl => cl.length ≤ 1 ∧ (cl ≠ [] → (AList.lookup nt E.G.rules).isSome))
    (fun nt rs _ hrs _ => ⟨Nat.le_refl _, fun _ => by simp [hrs]⟩)
    (fun s nt rs P rl _ _ hs hrs hm _ _ => forall_push (hs.queue nt) fun rl' hr' => by
      rw [rule_of_mem hnd hrs hm] at hr'; cases hr'; rfl)
    (fun nt e q cl _ hc => ⟨(by rw [List.length_set]; exact hc.1), fun hne => hc.2 fun h0 => hne (by rw [h0]; rfl)⟩)
    (fun s nt nq e q' c0 cl' hs hnq hh hcl =>
      ⟨forall_repriced hnq hh (hs.queue nt) fun x el hx hf rl hrl => by
        obtain ⟨h1, h2⟩ := recost_keeps E s nt x el hf
        rw [h2]; exact hx rl (h1 ▸ hrl),
       (by have := (hs.costs nt).1; rw [hcl] at this; simpa using this), fun _ => (hs.costs nt).2 (by rw [hcl]; simp)⟩)
    fuel _ s' (each_empty E.G (fun _ _ he => nomatch he) fun _ => ⟨Nat.zero_le _, fun h0 => absurd rfl h0⟩) h
  exact ⟨fun nt => (he.costs nt).1, fun nt => (he.costs nt).2, he.queue⟩

/-- the state the prologue leaves from the tables of `__init__` -/
structure Pro (E : Env S) (s : St S) : Prop where
  rest : SameRest (St.empty E.G) s
  sound : SInv E s
  shape : PI E s
  att : MInv E s
  fresh : FreshQ s
  heaps : ∀ nt, IsHeap ltE (s.queueOf nt)
  left : ∀ nt, s.clOf nt ≠ [] → Left E nt (s.clOf nt) (s.queueOf nt)

theorem prologue_pro (E : Env S) (hnd : RowsNodup E.G) (fuel : Nat) (s' : St S)
    (h : prologue E fuel (St.empty E.G) = some s') : Pro E s' :=
  ⟨prologue_rest E fuel _ s' h, prologue_sound E hnd fuel _ s' (sinv_empty E) h, prologue_pi E hnd fuel s' h,
    prologue_minv E hnd fuel _ s' (minv_empty E) h, prologue_freshQ E fuel _ s' (freshQ_empty E.G) h,
    (prologue_headMin E fuel s' h).2, prologue_left E fuel s' h⟩

namespace Pro
variable {E : Env S} {s : St S} (hp : Pro E s)
include hp

theorem bankOf (nt : NT S Unit) : s.bankOf nt = [] := by
  unfold St.bankOf; rw [hp.rest.1]; exact lookup_map_nil E.G.rules nt
theorem bankAt (nt : NT S Unit) (ci : Nat) : s.bankAt nt ci = [] := by simp [St.bankAt, hp.bankOf nt]
theorem emptiesOf (nt : NT S Unit) : s.emptiesOf nt = [] := by
  unfold St.emptiesOf; rw [hp.rest.2.1]; exact lookup_map_nil E.G.rules nt
theorem deleted : s.deleted = [] := hp.rest.2.2.1

theorem single {nt : NT S Unit} {c : Cost} {rest : List Cost} (hc : s.clOf nt = c :: rest) : s.clOf nt = [c] := by
  have hlen := hp.shape.len nt
  rw [hc] at hlen ⊢
  cases rest with
  | nil => rfl
  | cons _ _ => simp at hlen

theorem headMin : HeadMin s := fun nt c rest hc => (hc ▸ hp.left nt (by rw [hc]; exact List.cons_ne_nil _ _)).min

theorem allRules : AllRules E s := fun nt c rest hc => (hp.left nt (by rw [hc]; exact List.cons_ne_nil _ _)).rules

theorem distinct (hnd : RowsNodup E.G) (nt : NT S Unit) : ((s.queueOf nt).map (·.P)).Nodup := by
  by_cases hcl : s.clOf nt = []
  · rw [hp.fresh nt hcl]; exact List.nodup_nil
  · obtain ⟨rs, hrs, hperm⟩ := (hp.left nt hcl).names
    exact hperm.nodup_iff.mpr (hnd nt rs hrs)
end Pro

/-- every non-terminal of the rule table derives a program (with all rule costs defined).  The first cost of a
    non-terminal is the minimum over its programs (`minCost_spec`); it is finite, not the placeholder 1e99, only if
    there is a program to attain it, and `CInv.fin` needs it finite (`Pro.cinv`). -/
def Productive (E : Env S) : Prop := ∀ nt, (AList.lookup nt E.G.rules).isSome → ∃ t k, costOf E t nt = some k

def productiveB (E : Env S) (ws : List (NT S Unit × Prog)) : Bool :=
  (AList.keys E.G.rules).all fun nt => ws.any fun w => decide (w.1 = nt) && (costOf E w.2 nt).isSome

theorem productive_of_check (E : Env S) (ws : List (NT S Unit × Prog)) (h : productiveB E ws = true) : Productive E := by
  intro nt hnt
  have hk : nt ∈ AList.keys E.G.rules := by
    cases hl : AList.lookup nt E.G.rules with
    | none => rw [hl] at hnt; cases hnt
    | some v => exact AList.mem_keys_of_lookup hl
  obtain ⟨w, _, hw⟩ := List.any_eq_true.mp (List.all_eq_true.mp h nt hk)
  cases hc : costOf E w.2 nt with
  | none => simp [hc] at hw
  | some k => exact ⟨w.2, k, hc⟩

theorem Pro.cinv {E : Env S} {s : St S} (hp : Pro E s) (hst : Stable E s) (hprod : Productive E) : CInv E s := by
  refine cinv_base E s (fun nt c hc => ?_) hst hp.shape.zero (fun nt ci p hm => by rw [hp.bankAt] at hm; cases hm)
  cases hcl : s.clOf nt with
  | nil => rw [hcl] at hc; cases hc
  | cons c0 rest =>
    have h1 := hp.single hcl
    rw [h1] at hc
    obtain rfl := List.mem_singleton.mp hc
    obtain ⟨t, k, hk⟩ := hprod nt (hp.shape.keys nt (by rw [hcl]; exact List.cons_ne_nil _ _))
    exact ((minCost_spec E s hp.att hp.headMin hp.allRules hst nt c [] h1).1 t k hk).1

/-- the prologue from a fresh state, led back to the prologue from the tables of `__init__`: the three tables the
    invariants read are those of the state `t` it returns there -/
theorem prologue_back (E : Env S) (hnd : RowsNodup E.G) (fuel : Nat) (s0 s : St S) (hf : Fresh E s0) (h : prologue E fuel s0 = some s) :
    ∃ t, prologue E fuel (St.empty E.G) = some t ∧ Pro E t ∧ (∀ nt, s.clOf nt = t.clOf nt) ∧ (∀ nt, s.queueOf nt = t.queueOf nt) ∧
      ∀ nt ci, s.bankAt nt ci = t.bankAt nt ci := by
  obtain ⟨t, ht, hsim, hb⟩ := prologue_fresh E fuel s0 s hf h
  have hp := prologue_pro E hnd fuel t ht
  exact ⟨t, ht, hp, hsim.clOf, hsim.queueOf, fun nt ci => by rw [hb, hp.bankAt]⟩

theorem prologue_cinv (E : Env S) (hnd : RowsNodup E.G) (hst : StableAfter E) (hprod : Productive E) (fuel : Nat) (s0 s : St S)
    (hf : Fresh E s0) (h : prologue E fuel s0 = some s) : CInv E s ∧ (s.clOf E.G.start).length ≤ 1 := by
  obtain ⟨t, ht, hp, hc, hq, hb⟩ := prologue_back E hnd fuel s0 s hf h
  exact ⟨(hp.cinv (hst fuel t ht) hprod).of_eq hc hq hb, by rw [hc]; exact hp.shape.len _⟩

theorem gc_new (E : Env S) : GC E (Gen.new E.G) := by
  have hf := fresh_empty E
  refine ⟨⟨fun nt c hc => ?_, fun nt el he => ?_, fun nt ci p hp => ?_⟩, fun fr he => by cases he⟩
  · have h : c ∈ (St.empty E.G).clOf nt := hc
    rw [hf.clOf] at h; cases h
  · have h : el ∈ (St.empty E.G).queueOf nt := he
    rw [hf.queueOf] at h; cases h
  · have h : p ∈ (St.empty E.G).bankAt nt ci := hp
    rw [hf.2] at h; cases h

/-! ### the yielded sequence follows the cost list of the start symbol -/

/-- program `p` was yielded at index `i`: its cost is `_cost_lists[start][i]` -/
def YieldAt (E : Env S) (s : St S) (p : Prog) (i : Nat) : Prop :=
  ∃ c, (s.clOf E.G.start)[i]? = some c ∧ costOf E p E.G.start = some c.fin

theorem next_cost.nextLoop_started (E : Env S) (fuel : Nat) (k : Nat) (s : St S) (n : Nat) (failed : Bool) (fro : Option Frame)
    (r : Gen S × Option Prog) (h : nextLoop E fuel k s n failed fro = some r) : r.1.started = true := by
  apply nextLoop_induct E fuel ?_ ?_ ?_ ?_ ?_ k s n failed fro r h
  · intros; rfl
  · intros; rfl
  · intro _ _ _ _ _ _ _ ih; exact ih
  · intros; rfl
  · intro _ _ _ _ _ _ ih; exact ih

structure NextCost (E : Env S) (g : Gen S) (r : Gen S × Option Prog) : Prop where
  gc : GC E r.1
  ext : Ext g.st r.1.st
  mono : g.started = true → g.n ≤ r.1.n
  yield : ∀ p, r.2 = some p → r.1.started = true ∧ YieldAt E r.1.st p r.1.n
  started : r.1.started = true ∨ r.1 = g

theorem next_cost (E : Env S) (hnd : RowsNodup E.G) (hst : StableAfter E) (hprod : Productive E) (fuel : Nat)
    (g : Gen S) (r : Gen S × Option Prog) (hg : GC E g) (hfresh : g.started = false → Fresh E g.st ∧ g.frame = none)
    (h : next E fuel g = some r) : NextCost E g r := by
  rcases next_cases h with ⟨_, rfl⟩ | ⟨_, h⟩ | ⟨hns, s, hp, h⟩
  · exact { gc := hg, ext := Ext.refl _, mono := fun _ => Nat.le_refl _, yield := fun p hp => (by cases hp), started := Or.inr rfl }
  · have q := nextLoop_cost E fuel _ _ _ _ _ _ h hg.1 hg.2
    have hs := next_cost.nextLoop_started E fuel _ _ _ _ _ _ h
    exact { gc := q.gc, ext := q.ext, mono := fun _ => q.mono, yield := fun p hp => ⟨hs, q.yield p hp⟩, started := Or.inl hs }
  · have q := nextLoop_cost E fuel _ _ _ _ _ _ h (prologue_cinv E hnd hst hprod fuel _ s (hfresh hns).1 hp).1
      (fun fr he => by cases he)
    have hs := next_cost.nextLoop_started E fuel _ _ _ _ _ _ h
    have hx : Ext g.st s := fun nt => by rw [(hfresh hns).1.clOf nt]; exact List.nil_prefix
    exact { gc := q.gc, ext := hx.trans q.ext, mono := fun hc => (by rw [hns] at hc; cases hc), yield := fun p hp => ⟨hs, q.yield p hp⟩,
            started := Or.inl hs }

theorem YieldAt.ext {E : Env S} {s s' : St S} {p : Prog} {i : Nat} (h : YieldAt E s p i) (he : Ext s s') : YieldAt E s' p i :=
  let ⟨c, h1, h2⟩ := h; ⟨c, he.get _ _ _ h1, h2⟩

theorem take_index (E : Env S) (hnd : RowsNodup E.G) (hst : StableAfter E) (hprod : Productive E) (fuel : Nat) :
    ∀ (k : Nat) (g : Gen S) (acc : List Prog) (idx : List Nat) (r : Gen S × List Prog × Bool),
      GC E g → (g.started = false → Fresh E g.st ∧ g.frame = none) →
      All2 (YieldAt E g.st) acc idx → idx.Pairwise (· ≤ ·) → (∀ i ∈ idx, g.started = true ∧ i ≤ g.n) →
      take E fuel k g acc = some r →
      ∃ idx', All2 (YieldAt E r.1.st) r.2.1 idx' ∧ idx'.Pairwise (· ≤ ·) ∧ GC E r.1 := by
  intro k g acc idx r hg hfresh ha hp hle
  refine take_induct E fuel
    (I := fun g acc => GC E g ∧ (g.started = false → Fresh E g.st ∧ g.frame = none) ∧
      ∃ idx, All2 (YieldAt E g.st) acc idx ∧ idx.Pairwise (· ≤ ·) ∧ ∀ i ∈ idx, g.started = true ∧ i ≤ g.n)
    (Q := fun g acc _ => ∃ idx', All2 (YieldAt E g.st) acc idx' ∧ idx'.Pairwise (· ≤ ·) ∧ GC E g)
    (fun g acc ⟨hg, _, idx, ha, hp, _⟩ => ⟨idx, ha, hp, hg⟩)
    (fun g acc g' ⟨hg, hfresh, idx, ha, hp, _⟩ hn => ?_) (fun g acc g' p ⟨hg, hfresh, idx, ha, hp, hle⟩ hn => ?_)
    k g acc r ⟨hg, hfresh, idx, ha, hp, hle⟩
  · have q := next_cost E hnd hst hprod fuel g _ hg hfresh hn
    exact ⟨idx, ha.mono (fun _ _ hr => hr.ext q.ext), hp, q.gc⟩
  · have q := next_cost E hnd hst hprod fuel g _ hg hfresh hn
    have hst' : g'.started = true := (q.yield p rfl).1
    refine ⟨q.gc, (fun hs => by rw [hst'] at hs; cases hs), idx ++ [g'.n],
      (ha.mono (fun _ _ hr => hr.ext q.ext)).append (All2.cons (q.yield p rfl).2 All2.nil), ?_, fun i hi => ?_⟩
    · exact pairwise_snoc hp fun a ha' => Nat.le_trans (hle a ha').2 (q.mono (hle a ha').1)
    · rcases List.mem_append.mp hi with hi | hi
      · exact ⟨hst', Nat.le_trans (hle i hi).2 (q.mono (hle i hi).1)⟩
      · rw [List.mem_singleton.mp hi]; exact ⟨hst', Nat.le_refl _⟩

def ClSorted (E : Env S) (s : St S) : Prop :=
  ∀ (i j : Nat) (x y : Cost), i ≤ j → (s.clOf E.G.start)[i]? = some x → (s.clOf E.G.start)[j]? = some y → x.fin ≤ y.fin

theorem sorted_of_index (E : Env S) (s : St S) (hs : ClSorted E s) : ∀ (ys : List Prog) (idx : List Nat),
    All2 (YieldAt E s) ys idx → idx.Pairwise (· ≤ ·) →
    ys.Pairwise (fun p q => ∀ a b, costOf E p E.G.start = some a → costOf E q E.G.start = some b → a ≤ b) := by
  intro ys idx h
  induction h with
  | nil => intro _; exact List.Pairwise.nil
  | @cons p i ps is hpi hrest ih =>
    intro hp
    rw [List.pairwise_cons] at hp ⊢
    refine ⟨fun q hq a b ha hb => ?_, ih hp.2⟩
    -- q sits at some index j ∈ is with i ≤ j
    obtain ⟨j, hj, hqj⟩ := hrest.exists_right q hq
    obtain ⟨c1, g1, g2⟩ := hpi
    obtain ⟨c2, k1, k2⟩ := hqj
    rw [ha] at g2; rw [hb] at k2
    cases g2; cases k2
    exact hs i j c1 c2 (hp.1 j hj) g1 k1

end PS.Beap

namespace PS.Beap
open PS PS.G
variable {S : Type} [DecidableEq S]

theorem sortedB_spec : ∀ (l : List Cost), sortedB l = true →
    ∀ (i j : Nat) (x y : Cost), i ≤ j → l[i]? = some x → l[j]? = some y → x.fin ≤ y.fin
  | [], _, i, j, x, y, _, hx, _ => by simp at hx
  | a :: as, h, i, j, x, y, hij, hx, hy => by
    simp only [sortedB, Bool.and_eq_true, List.all_eq_true, decide_eq_true_eq] at h
    cases i with
    | zero =>
      simp only [List.getElem?_cons_zero, Option.some.injEq] at hx
      subst hx
      cases j with
      | zero => simp only [List.getElem?_cons_zero, Option.some.injEq] at hy; subst hy; exact Rat.le_refl
      | succ j =>
        simp only [List.getElem?_cons_succ] at hy
        exact h.1 y (List.mem_of_getElem? hy)
    | succ i =>
      cases j with
      | zero => omega
      | succ j =>
        simp only [List.getElem?_cons_succ] at hx hy
        exact sortedB_spec as h.2 i j x y (by omega) hx hy

theorem clSorted_of_check (E : Env S) (s : St S) (h : sortedB (s.clOf E.G.start) = true) : ClSorted E s :=
  fun i j x y hij hx hy => sortedB_spec _ h i j x y hij hx hy

theorem take_new_index (E : Env S) (hnd : RowsNodup E.G) (hst : StableAfter E) (hprod : Productive E) (fuel k : Nat)
    (r : Gen S × List Prog × Bool) (h : take E fuel k (Gen.new E.G) [] = some r) :
    ∃ idx : List Nat, idx.Pairwise (· ≤ ·) ∧ All2 (YieldAt E r.1.st) r.2.1 idx :=
  have ⟨idx, h1, h2, _⟩ := take_index E hnd hst hprod fuel k (Gen.new E.G) [] [] r (gc_new E) (fun _ => ⟨fresh_empty E, rfl⟩)
    All2.nil List.Pairwise.nil (fun i hi => by cases hi) h
  ⟨idx, h2, h1⟩

theorem take_new_sorted (E : Env S) (hnd : RowsNodup E.G) (hst : StableAfter E) (hprod : Productive E) (fuel k : Nat)
    (r : Gen S × List Prog × Bool) (h : take E fuel k (Gen.new E.G) [] = some r) (hs : ClSorted E r.1.st) :
    r.2.1.Pairwise (fun p q => ∀ a b, costOf E p E.G.start = some a → costOf E q E.G.start = some b → a ≤ b) ∧
    ∀ p ∈ r.2.1, ∃ a, costOf E p E.G.start = some a := by
  obtain ⟨idx, h2, h1⟩ := take_new_index E hnd hst hprod fuel k r h
  refine ⟨sorted_of_index E r.1.st hs r.2.1 idx h1 h2, fun p hp => ?_⟩
  obtain ⟨i, _, c, _, hc⟩ := h1.exists_right p hp
  exact ⟨c.fin, hc⟩

end PS.Beap
