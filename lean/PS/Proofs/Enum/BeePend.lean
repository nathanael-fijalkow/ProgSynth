/- Bee search: the multiset of pending combinations (queued or delayed) of a rule, and how the table writes change it:
   `_add_combination_` adds one, `addAll` the requested ones, so that `_add_cost_` permutes and a pop followed by the
   successor loop replaces the popped combination by its successors `PS.CD.succs` (`pop_pend`). -/
import PS.Proofs.Enum.BeeFront
import PS.Proofs.Enum.BeeBase
namespace PS.Bee
open PS PS.G

variable {S : Type} [DecidableEq S]
set_option linter.unusedSectionVars false
set_option linter.unusedSimpArgs false

def qcmb (P : Sym) (l : List HeapElem) : List (List Nat) := (l.filter fun e => decide (e.P = P)).map (·.combo)
def dcmb (P : Sym) (l : List Delayed) : List (List Nat) := (l.filter fun d => decide (d.2.1 = P)).map (·.1)

theorem qcmb_append (P : Sym) (a b : List HeapElem) : qcmb P (a ++ b) = qcmb P a ++ qcmb P b := by simp [qcmb]
theorem dcmb_append (P : Sym) (a b : List Delayed) : dcmb P (a ++ b) = dcmb P a ++ dcmb P b := by simp [dcmb]
theorem qcmb_perm (P : Sym) {a b : List HeapElem} (h : a.Perm b) : (qcmb P a).Perm (qcmb P b) := (h.filter _).map _

/-- over every row with key `nt` (`allOf` in BeeFront says why); hence the remainder `R` of `pend_of_queue`: the rows of
    `nt` that `queueOf` does not see and `setQueue` does not touch -/
def pend (s : St S) (nt : NT S Unit) (P : Sym) : List (List Nat) :=
  qcmb P (allOf nt s.queued) ++ dcmb P (allOf nt s.delayed)

theorem pend_congr {s s' : St S} (hq : s'.queued = s.queued) (hd : s'.delayed = s.delayed) (nt : NT S Unit) (P : Sym) :
    pend s' nt P = pend s nt P := by
  rw [pend, hq, hd]; rfl

theorem pend_of_not_mem_keys {s : St S} {nt : NT S Unit} (hk : nt ∉ AList.keys s.queued ++ AList.keys s.delayed) (P : Sym) :
    pend s nt P = [] := by
  rw [pend, allOf_of_not_mem_keys fun h => hk (List.mem_append_left _ h),
    allOf_of_not_mem_keys fun h => hk (List.mem_append_right _ h)]
  rfl

theorem qcmb_of_perm (P : Sym) {l l' : List HeapElem} {e : HeapElem} (h : l.Perm (e :: l')) :
    (qcmb P l).Perm ((if P = e.P then [e.combo] else []) ++ qcmb P l') := by
  refine (qcmb_perm P h).trans (List.Perm.of_eq ?_)
  by_cases hP : P = e.P
  · subst hP; simp [qcmb]
  · simp [qcmb, hP, Ne.symm hP]

theorem pend_of_queue (s : St S) (nt : NT S Unit) : ∃ R : Sym → List (List Nat),
    (∀ P, pend s nt P = qcmb P (s.queueOf nt) ++ R P) ∧ ∀ l P, pend (s.setQueue nt l) nt P = qcmb P l ++ R P := by
  obtain ⟨rest, h1, h2⟩ := allOf_insert_all nt s.queued
  refine ⟨fun P => qcmb P rest ++ dcmb P (allOf nt s.delayed), fun P => ?_, fun l P => ?_⟩
  · unfold pend St.queueOf; rw [h1, qcmb_append, List.append_assoc]
  · unfold pend St.setQueue; simp only; rw [h2, qcmb_append, List.append_assoc]

theorem pend_setQueue_ne (s : St S) {nt nt' : NT S Unit} (hne : nt' ≠ nt) (l : List HeapElem) (P : Sym) :
    pend (s.setQueue nt l) nt' P = pend s nt' P := by
  unfold pend St.setQueue; simp only; rw [allOf_insert_ne hne]

theorem pend_setQueue (s : St S) (nt : NT S Unit) (l' : List HeapElem) :
    ∃ rest, (∀ P, pend s nt P = qcmb P (s.queueOf nt) ++ (qcmb P rest ++ dcmb P (allOf nt s.delayed))) ∧
      (∀ P, pend (s.setQueue nt l') nt P = qcmb P l' ++ (qcmb P rest ++ dcmb P (allOf nt s.delayed))) ∧
      ∀ nt' P, nt' ≠ nt → pend (s.setQueue nt l') nt' P = pend s nt' P := by
  obtain ⟨rest, h1, h2⟩ := allOf_insert_all nt s.queued
  refine ⟨rest, fun P => ?_, fun P => ?_, fun nt' P hne => pend_setQueue_ne s hne l' P⟩
  · unfold pend St.queueOf; rw [h1, qcmb_append, List.append_assoc]
  · unfold pend St.setQueue; simp only; rw [h2, qcmb_append, List.append_assoc]

theorem pend_push (s : St S) {nt : NT S Unit} {l : List HeapElem} {e : HeapElem} (h : l.Perm (e :: s.queueOf nt))
    (nt' : NT S Unit) (P' : Sym) :
    (pend (s.setQueue nt l) nt' P').Perm ((if nt' = nt ∧ P' = e.P then [e.combo] else []) ++ pend s nt' P') := by
  by_cases hn : nt' = nt
  · subst hn
    obtain ⟨R, h1, h2⟩ := pend_of_queue s nt'
    rw [h1, h2, ← List.append_assoc]
    simpa using (qcmb_of_perm P' h).append_right (R P')
  · rw [pend_setQueue_ne s hn]; simp [hn]

theorem pend_pop (s : St S) {nt : NT S Unit} {l : List HeapElem} {e : HeapElem} (h : (s.queueOf nt).Perm (e :: l))
    (nt' : NT S Unit) (P' : Sym) :
    (pend s nt' P').Perm ((if nt' = nt ∧ P' = e.P then [e.combo] else []) ++ pend (s.setQueue nt l) nt' P') := by
  by_cases hn : nt' = nt
  · subst hn
    obtain ⟨R, h1, h2⟩ := pend_of_queue s nt'
    rw [h1, h2, ← List.append_assoc]
    simpa using (qcmb_of_perm P' h).append_right (R P')
  · rw [pend_setQueue_ne s hn]; simp [hn]

theorem pend_delay (s : St S) (nt : NT S Unit) (x : Delayed) (nt' : NT S Unit) (P' : Sym) :
    (pend (s.addDelayed nt x) nt' P').Perm ((if nt' = nt ∧ P' = x.2.1 then [x.1] else []) ++ pend s nt' P') := by
  by_cases hn : nt' = nt
  · subst hn
    obtain ⟨rest, h1, h2⟩ := allOf_insert_all nt' s.delayed
    unfold pend St.addDelayed St.delayedOf; simp only
    rw [h2, h1]
    by_cases hP : P' = x.2.1
    · -- q ++ (d ++ x :: r) ~ x :: (q ++ (d ++ r))
      simp only [dcmb, hP, List.filter_append, List.map_append, List.filter_cons, decide_true, if_true, List.map_cons,
        and_self, List.append_assoc, List.singleton_append]
      rw [← List.append_assoc, ← List.append_assoc]
      exact List.perm_middle
    · simp [dcmb, hP, Ne.symm hP]
  · unfold pend St.addDelayed; simp only; rw [allOf_insert_ne hn]; simp [hn]

theorem addCombination_pend (E : Env S) (s s' : St S) (nt : NT S Unit) (P : Sym) (idx : List Nat) (chk : Option Nat)
    (h : addCombination E s nt P idx chk = some s') :
    ∀ nt' P', (pend s' nt' P').Perm ((if nt' = nt ∧ P' = P then [idx] else []) ++ pend s nt' P') := by
  intro nt' P'
  rcases addCombination_eq h with ⟨_, rfl⟩ | ⟨_, c, _, rfl⟩
  · exact pend_delay s nt (idx, P, chk) nt' P'
  · exact pend_push s (e := ⟨c, idx, P⟩) (Heapq.push_perm ltE _ _) nt' P'

def rcmb (nt : NT S Unit) (P : Sym) (reqs : List (Req S)) : List (List Nat) :=
  (reqs.filter fun r => decide (r.1 = nt ∧ r.2.2.1 = P)).map (·.2.1)

theorem addAll_pend (E : Env S) (reqs : List (Req S)) (s s' : St S) (h : addAll E reqs s = some s') (nt' : NT S Unit)
    (P' : Sym) : (pend s' nt' P').Perm (rcmb nt' P' reqs ++ pend s nt' P') := by
  fun_induction addAll E reqs s with
  | case1 => cases h; exact List.Perm.refl _
  | case2 => cases h
  | case3 nt idx P chk rest s s1 h1 ih =>
    refine (ih h).trans ?_
    refine ((addCombination_pend E s s1 nt P idx chk h1 nt' P').append_left _).trans ?_
    rw [← List.append_assoc]
    refine List.Perm.append_right _ ?_
    by_cases hc : nt' = nt ∧ P' = P
    · obtain ⟨rfl, rfl⟩ := hc
      simp only [rcmb, List.filter_cons, and_self, decide_true, if_true, List.map_cons]
      exact List.perm_append_comm (l₂ := [idx])
    · have hc' : ¬ (nt = nt' ∧ P = P') := fun e => hc ⟨e.1.symm, e.2.symm⟩
      simp only [rcmb, List.filter_cons, hc, hc', decide_false, if_false, List.append_nil, Bool.false_eq_true]
      exact List.Perm.refl _

theorem rcmb_tabReqs (nt : NT S Unit) (P : Sym) : ∀ tab : AList (NT S Unit) (List Delayed),
    rcmb nt P (tabReqs tab) = dcmb P (allOf nt tab)
  | [] => rfl
  | (nt0, ds) :: rest => by
    have ih := rcmb_tabReqs nt P rest
    unfold rcmb tabReqs at ih ⊢
    simp only [List.flatMap_cons, List.filter_append, List.map_append, ih, allOf, dcmb]
    by_cases hn : nt0 = nt
    · subst hn
      simp only [if_true, List.filter_append, List.map_append, List.filter_map, List.map_map]
      congr 2
      exact List.filter_congr fun d _ => by simp
    · simp only [hn, if_false, List.filter_map]
      rw [List.filter_eq_nil_iff.mpr (fun d hd => by simp [hn])]
      rfl

theorem addCost_pend (E : Env S) (s s' : St S) (cost : Int) (ci : Nat) (h : addCost E s cost = some (s', ci)) :
    ∀ nt P, (pend s' nt P).Perm (pend s nt P) := by
  intro nt P
  rcases (addCost_cases h).2 with ⟨rfl, _⟩ | ⟨_, ha⟩
  · exact List.Perm.refl _
  · refine (addAll_pend E _ _ s' ha nt P).trans ?_
    rw [rcmb_tabReqs]
    unfold pend
    simp only [allOf, dcmb, List.filter_nil, List.map_nil, List.append_nil]
    exact List.perm_append_comm

theorem succReqs_rule (nt : NT S Unit) (P : Sym) : ∀ (k : Nat) (suf pre : List Nat), ∀ r ∈ succReqs nt P k pre suf,
    r.1 = nt ∧ r.2.2.1 = P := fun k suf pre r h => by
  obtain ⟨_, _, _, rfl⟩ := mem_succReqs nt P k suf pre r h; exact ⟨rfl, rfl⟩

theorem succReqs_combos (nt : NT S Unit) (P : Sym) : ∀ (suf pre : List Nat),
    (succReqs nt P suf.length pre suf).map (·.2.1) = (CD.succs suf).map (pre ++ ·)
  | [], _ => rfl
  | x :: xs, pre => by
    simp only [List.length_cons, succReqs, CD.succs, List.map_cons]
    split
    · rfl
    · simp only [List.map_map, succReqs_combos nt P xs (pre ++ [x]), List.cons.injEq, true_and]
      apply List.map_congr_left; intro a _; simp

theorem succLoop_pend (E : Env S) (nt : NT S Unit) (P : Sym) :
    ∀ (suf pre : List Nat) (s s' : St S) (maxi maxi' : Nat),
      succLoop E nt P (pre ++ suf) pre.length suf.length s maxi = some (s', maxi') →
      ∀ nt' P', (pend s' nt' P').Perm ((if nt' = nt ∧ P' = P then (CD.succs suf).map (pre ++ ·) else []) ++ pend s nt' P') := by
  intro suf pre s s' maxi maxi' h nt' P'
  have ha := succLoop_addAll h
  rw [List.take_left' rfl, List.drop_left' rfl] at ha
  refine (addAll_pend E _ s s' ha nt' P').trans (List.Perm.of_eq ?_)
  congr 1
  unfold rcmb
  by_cases hc : nt' = nt ∧ P' = P
  · obtain ⟨rfl, rfl⟩ := hc
    rw [List.filter_eq_self.mpr fun r hr => by simpa using succReqs_rule nt' P' _ suf pre r hr]
    simp only [and_self, if_true]; exact succReqs_combos nt' P' suf pre
  · rw [List.filter_eq_nil_iff.mpr fun r hr => by
      obtain ⟨e1, e2⟩ := succReqs_rule nt P _ suf pre r hr
      simpa [e1, e2] using fun e : nt = nt' => fun e' : P = P' => hc ⟨e.symm, e'.symm⟩]
    simp [hc]

theorem pop_pend {E : Env S} {s s2 : St S} {nt : NT S Unit} {top : HeapElem} {q' : List HeapElem} {maxi maxi' : Nat}
    (hpop : Heapq.pop ltE (s.queueOf nt) = some (top, q'))
    (hsl : succLoop E nt top.P top.combo 0 top.combo.length (s.setQueue nt q') maxi = some (s2, maxi')) :
    ∃ F, (pend s nt top.P).Perm (top.combo :: F) ∧ (pend s2 nt top.P).Perm (CD.succs top.combo ++ F) ∧
      ∀ nt' P', ¬ (nt' = nt ∧ P' = top.P) → (pend s2 nt' P').Perm (pend s nt' P') := by
  have h1 := pend_pop s (Heapq.pop_perm ltE _ _ _ hpop)
  have h2 := succLoop_pend E nt top.P top.combo [] _ _ _ _ hsl
  refine ⟨pend (s.setQueue nt q') nt top.P, by simpa using h1 nt top.P, by simpa using h2 nt top.P, fun nt' P' hne => ?_⟩
  have a := h2 nt' P'
  have b := h1 nt' P'
  simp only [hne, if_false, List.nil_append] at a b
  exact a.trans b.symm

end PS.Bee
