/- Bee search, TERMINATION of the generator loop with `Env.fixF11 = true` on a finite grammar (a bound `maxCost = some m` is
   handed to the loop): a lexicographic measure (twice the distance of the round's cost to m+1, the non-terminals still to be
   handled in the round, the elements of the round's cost in the current queue, the candidate programs of the
   suspended product) decreases with every step taken under the invariants `TInv`, and no step raises; hence there are
   a fuel and a number of `next` calls after which the generator has stopped (`take_terminates`). -/
import PS.Proofs.Enum.BeeStrict
import PS.Proofs.Enum.BeeFull
import PS.Proofs.Enum.BeeTotal
namespace PS.Bee
open PS PS.G PS.Heapq

variable {S : Type} [DecidableEq S]
set_option linter.unusedSectionVars false
set_option linter.unusedSimpArgs false

def cnt (c : Int) (l : List HeapElem) : Nat := (l.filter fun e => decide (e.cost = c)).length

theorem cnt_perm (c : Int) {a b : List HeapElem} (h : a.Perm b) : cnt c a = cnt c b := (h.filter _).length_eq

theorem addCombination_cnt (E : Env S) (s s' : St S) (nt : NT S Unit) (P : Sym) (idx : List Nat) (chk : Option Nat) (c : Int)
    (h : addCombination E s nt P idx chk = some s') (hne : ∀ c', realCost E s.costList nt P idx = some c' → c' ≠ c) :
    cnt c (s'.queueOf nt) = cnt c (s.queueOf nt) := by
  rcases addCombination_eq h with ⟨_, rfl⟩ | ⟨_, c', hc', rfl⟩
  · rfl
  · rw [St.queueOf_setQueue, if_pos rfl, cnt_perm c (Heapq.push_perm ltE _ _)]
    simp [cnt, hne c' hc']

theorem succLoop_cnt (E : Env S) (nt : NT S Unit) (P : Sym) (combo : List Nat) (cl : List Int) (c : Int)
    (hne : ∀ i v c', combo[i]? = some v → realCost E cl nt P (combo.set i (v + 1)) = some c' → c' ≠ c)
    (k i : Nat) (s s' : St S) (maxi maxi' : Nat) (h : succLoop E nt P combo i k s maxi = some (s', maxi')) (hcl : s.costList = cl) :
    cnt c (s'.queueOf nt) = cnt c (s.queueOf nt) :=
  (succLoop_ind (I := fun x => x.costList = cl ∧ cnt c (x.queueOf nt) = cnt c (s.queueOf nt))
    (fun i v hv x x' ha hx => ⟨(addCombination_frame ha).cl.trans hx.1,
      (addCombination_cnt E x x' nt P _ _ c ha fun c' hc' => hne i v c' hv (hx.1 ▸ hc')).trans hx.2⟩)
    k i s s' maxi maxi' h ⟨hcl, rfl⟩).2

/-- in `forS` the round's cost is already in the cost list unless no non-terminal was handled yet -/
def InCl (g : Gen S) : Prop :=
  match g.phase with
  | .forS _ c nts => c ∈ g.st.costList ∨ nts ≠ []
  | _ => True

def lastD (cl : List Int) : Int := cl.getLast?.getD (-1)

def bud (m x : Int) : Nat := (m + 1 - x).toNat

/-- First component: twice the budget `bud` left above the cost of the round, `+ 2` inside the round, `+ 1` at `.outer` after
    it (there `lastD` is that cost), so that `.outer` lies strictly between a round and the next one, whose cost is above
    `lastD` (`step_term`, case `round`).  `lastD [] = -1` is below every cost, and `.init` sits above `.outer` on the empty
    cost list.  The second component puts `forS` (odd) between the `whileQ`/`pend` (even) of two non-terminals in the same
    way. -/
def meas (m : Int) (g : Gen S) : Nat × Nat × Nat × Nat :=
  match g.phase with
  | .done => (0, 0, 0, 0)
  | .init => (2 * (m + 2).toNat + 4, 0, 0, 0)
  | .outer => (2 * bud m (lastD g.st.costList) + 1, 0, 0, 0)
  | .forS _ c nts => (2 * bud m c + 2, 2 * nts.length + 1, 0, 0)
  | .whileQ _ c nt rest _ _ => (2 * bud m c + 2, 2 * rest.length + 2, cnt c (g.st.queueOf nt), 0)
  | .pend _ c nt rest _ _ pending => (2 * bud m c + 2, 2 * rest.length + 2, cnt c (g.st.queueOf nt), pending.length + 1)

def LT4 : (Nat × Nat × Nat × Nat) → (Nat × Nat × Nat × Nat) → Prop :=
  Prod.Lex (· < ·) (Prod.Lex (· < ·) (Prod.Lex (· < ·) (· < ·)))

theorem lt4_wf : WellFounded LT4 :=
  (Prod.lex Nat.lt_wfRel (Prod.lex Nat.lt_wfRel (Prod.lex Nat.lt_wfRel Nat.lt_wfRel))).wf

theorem lastD_ge (cl : List Int) (hnn : ∀ x ∈ cl, 0 ≤ x) : -1 ≤ lastD cl := by
  unfold lastD
  cases h : cl.getLast? with
  | none => simp
  | some x => simp; have := hnn x (List.mem_of_getLast? h); omega

theorem lastD_max (cl : List Int) (hm : cl.Pairwise (· < ·)) (x : Int) (hx : x ∈ cl) : x ≤ lastD cl := by
  unfold lastD
  have hl := List.getLast?_eq_some_getLast (List.ne_nil_of_mem hx)
  rw [hl]
  rcases eq_or_rel_getLast hm hl hx with e | hlt
  · exact Int.le_of_eq e
  · exact Int.le_of_lt hlt

theorem lastD_mem (cl : List Int) (hne : cl ≠ []) : lastD cl ∈ cl := by
  unfold lastD
  rw [List.getLast?_eq_some_getLast hne]; simp

theorem step_term (E : Env S) (m : Int) (hmax : E.maxCost = some m) (hfix : E.fixF11 = true) (g g' : Gen S)
    (out : Option Prog) (b : Int) (h : step E g = some (g', out)) (hnd : g.phase.isDone = false) (hi : GInv E g)
    (hn : NSt E g.st) (ho : GOrd E g b) (hk : KN g.st) (hs : StrictQ g) (hic : InCl g) :
    LT4 (meas m g') (meas m g) ∧ InCl g' := by
  cases step_cases h with
  | done => cases hnd
  | @init st _ _ =>
    obtain ⟨low, hos, -⟩ : ∃ low, OSt E st low ∧ b ≤ low := ho
    have := lastD_ge st.costList hos.nonneg
    refine ⟨?_, trivial⟩
    -- the measure written out (`omega` compares atoms syntactically: no `Gen.st ⟨…⟩` redex may be left in it)
    simp only [meas]
    exact Prod.Lex.left _ _ (by unfold bud; omega)
  | stop _ => exact ⟨Prod.Lex.left _ _ (by omega), trivial⟩
  | @round st _ _ nt nts cost _ hnc hstop =>
    obtain ⟨low, hos, -⟩ : ∃ low, OSt E st low ∧ b ≤ low := ho
    have hcm : cost ≤ m := by
      unfold stopAt at hstop
      rw [hfix, hmax] at hstop
      simpa using hstop
    obtain ⟨_, nt0, l0, e0, hm0, he0, hc0⟩ := nextCheapest_min st hos.heaps _ _ hnc
    -- every queued element is strictly above the cost list: the new round's cost is beyond the last one
    have hgt : lastD st.costList < cost := by
      by_cases hne : st.costList = []
      · rw [hne]; simp only [lastD, List.getLast?_nil, Option.getD_none]
        have := (hos.q _ _ hm0 _ he0).2.1; omega
      · have : lastD st.costList < e0.cost := hs nt0 l0 hm0 e0 he0 _ (lastD_mem _ hne)
        omega
    refine ⟨?_, Or.inr (List.cons_ne_nil _ _)⟩
    simp only [meas]
    exact Prod.Lex.left _ _ (by unfold bud; omega)
  | @endRound st _ _ succ cost =>
    have hos : OSt E st cost := ho.1
    -- every non-terminal of the round was handled, so the round's cost is the last entry of the cost list
    have hin : cost ∈ st.costList := hic.resolve_right fun h1 => h1 rfl
    have h1 := lastD_max _ hos.mono cost hin
    have h2 := hos.cl_le _ (lastD_mem _ (List.ne_nil_of_mem hin))
    refine ⟨?_, trivial⟩
    simp only [meas, show lastD st.costList = cost from Int.le_antisymm h2 h1]
    exact Prod.Lex.left _ _ (by omega)
  | addCost _ => exact ⟨Prod.Lex.right _ (Prod.Lex.left _ _ (by rw [List.length_cons]; omega)), trivial⟩
  | @leave st _ _ succ cost nt rest maxi ci _ =>
    have hcostin : cost ∈ st.costList := List.mem_of_getElem? (hi.ph : st.costList[ci]? = some cost)
    exact ⟨Prod.Lex.right _ (Prod.Lex.left _ _ (by omega)), Or.inl hcostin⟩
  | @pop st _ _ succ cost nt rest maxi ci top tl q' args s2 maxi' ph hq htop hpop hargs hsl hout =>
    have hos : OSt E st cost := ho.1
    have helq : top ∈ st.queueOf nt := by rw [hq]; exact List.mem_cons_self
    have hel : realCost E st.costList nt top.P top.combo = some top.cost := hi.st.queue.of_queueOf helq
    obtain ⟨args', ha', hlen⟩ := hn.wfq.of_queueOf helq
    have hlen2 : top.combo.length = args.length := by
      rw [hargs] at ha'; rw [Option.some.inj ha']; exact hlen
    -- the pop removes an element of the round's cost, what it files costs strictly more: every index of the
    -- popped combination is an argument position
    have hc2 := succLoop_cnt E nt top.P top.combo st.costList cost
      (fun i v c' hv hc' => by
        have hia : i < args.length := by rw [← hlen2]; exact (List.getElem?_eq_some_iff.mp hv).1
        rw [← htop]
        exact (Int.ne_of_lt ((realCost_set E hos.mono hargs hv hel hc').2 hia)).symm)
      _ _ _ _ _ _ hsl rfl
    rw [St.queueOf_setQueue, if_pos rfl] at hc2
    have hc1 : cnt cost (st.queueOf nt) = cnt cost q' + 1 := by
      rw [cnt_perm cost (Heapq.pop_perm ltE _ _ _ hpop)]; simp [cnt, htop]
    have hlt : cnt cost (s2.queueOf nt) < cnt cost (st.queueOf nt) := by omega
    rcases hout with ⟨_, rfl⟩ | ⟨_, _, rfl⟩ <;>
      exact ⟨Prod.Lex.right _ (Prod.Lex.right _ (Prod.Lex.left _ _ hlt)), trivial⟩
  | endPend => exact ⟨Prod.Lex.right _ (Prod.Lex.right _ (Prod.Lex.right _ (Nat.succ_pos _))), trivial⟩
  | @offer st _ _ succ cost nt rest maxi ci p ps y _ =>
    have hqo : (addProgram E st nt p ci).1.queueOf nt = st.queueOf nt :=
      St.queueOf_congr (addProgram_frame E st nt p ci).1 nt
    refine ⟨?_, trivial⟩
    simp only [meas, hqo]
    exact Prod.Lex.right _ (Prod.Lex.right _ (Prod.Lex.right _ (Nat.lt_succ_self _)))

structure TInv (E : Env S) (g : Gen S) : Prop where
  all : All E g
  strict : StrictQ g
  kn : KN g.st
  valid : VSt E g.st
  incl : InCl g

theorem step_tinv (E : Env S) (H : Hyp E) (hfix : E.fixF11 = true) (m : Int) (hmax : E.maxCost = some m) (g g' : Gen S)
    (out : Option Prog) (h : step E g = some (g', out)) (ht : TInv E g) :
    TInv E g' ∧ (g.phase.isDone = false → LT4 (meas m g') (meas m g)) := by
  by_cases hd : g.phase.isDone = true
  · -- only the stopped generator has a done phase, and it stays as it is
    obtain rfl : g' = g := by
      cases step_cases h with
      | done => rfl
      | _ => cases hd
    exact ⟨ht, fun hnd => by rw [hd] at hnd; cases hnd⟩
  · have hnd : g.phase.isDone = false := by simpa using hd
    obtain ⟨b, hob⟩ := ht.all.ord
    obtain ⟨ha', _⟩ := step_all E H hfix g g' out h ht.all
    obtain ⟨hs', hk'⟩ := step_strict E H.nnw H.pos g g' out b h ht.all.sound hob ht.kn ht.strict
    obtain ⟨hlt, hic'⟩ := step_term E m hmax hfix g g' out b h hnd ht.all.sound ht.all.nodup.st hob ht.kn ht.strict ht.incl
    exact ⟨⟨ha', hs', hk', step_valid E g g' out h ht.valid, hic'⟩, fun _ => hlt⟩

/-- `__init__` creates a bank for every non-terminal of the rule table (first loop), and no bank goes away -/
theorem new_bank_rows (E : Env S) (g0 : Gen S) (h : Gen.new E = some g0) :
    ∀ nt ∈ AList.keys E.G.rules, (AList.lookup nt g0.st.bank).isSome = true := by
  intro nt hk
  have hadd : ∀ nt' rs P rl, (nt', rs) ∈ E.G.rules → (P, rl) ∈ rs → ∀ s s' : St S,
      addCombination E s nt' P (List.replicate rl.1.length 0) none = some s' →
      (AList.lookup nt s.bank).isSome = true → (AList.lookup nt s'.bank).isSome = true :=
    fun nt' _ P _ _ _ s s' ha hi => by rw [(addCombination_frame ha).bank]; exact hi
  have hrow : ∀ (s : St S) nt', (AList.lookup nt s.bank).isSome = true →
      (AList.lookup nt (AList.insert nt' ([] : AList Nat (List Prog)) s.bank)).isSome = true := fun s nt' hi => by
    rw [AList.lookup_insert]; split
    · rfl
    · exact hi
  -- the first loop reaches the row of `nt`
  have first : ∀ (tab : List (NT S Unit × AList Sym (List (Ty × S) × Unit))) (s s' : St S), initAll E true tab s = some s' →
      (∀ e ∈ tab, e ∈ E.G.rules) → nt ∈ AList.keys tab ∨ (AList.lookup nt s.bank).isSome = true →
      (AList.lookup nt s'.bank).isSome = true := by
    intro tab s s' h hsub hi
    fun_induction initAll E true tab s with
    | case1 => cases h; simpa [AList.keys] using hi
    | case2 => cases h
    | case3 nt' rs rest s s0 s1 hr ih =>
      refine ih h (fun e he => hsub e (List.mem_cons_of_mem _ he)) (Or.elim ?_ Or.inl fun h0 => Or.inr
        (initRules_ind (I := fun s => (AList.lookup nt s.bank).isSome = true) rs _ s1 hr
          (fun P rl hm => hadd nt' rs P rl (hsub _ List.mem_cons_self) hm) h0))
      by_cases hn : nt' = nt
      · exact Or.inr (by simp [s0, hn, AList.lookup_insert_self])
      · rcases hi with hi | hi
        · simp only [AList.keys, List.map_cons, List.mem_cons] at hi
          exact Or.inl (hi.resolve_left (fun e => hn e.symm))
        · exact Or.inr (hrow s nt' hi)
  revert h
  fun_cases Gen.new E with
  | case1 | case2 => nofun
  | case3 s1 h1 s2 h2 =>
    rintro ⟨⟩
    exact initAll_ind (I := fun s => (AList.lookup nt s.bank).isSome = true) (fun s nt' hi => hrow s nt' hi) hadd _ s1 s2 h2
      (fun _ he => he) (first _ _ s1 h1 (fun _ he => he) (Or.inl hk))

theorem tinv_new (E : Env S) (H : Hyp E) (g0 : Gen S) (h : Gen.new E = some g0) : TInv E g0 := by
  obtain ⟨ha, _⟩ := all_new E H g0 h
  obtain ⟨⟨hk, hq, hd, hcl⟩, hph⟩ := new_ind
    (I := fun s => KN s ∧ QAll (QV []) s ∧ DAll (DV []) s ∧ s.costList = []) ⟨by simp [KN, AList.keys], QAll.nil _, DAll.nil _, rfl⟩
    (fun s nt hi => ⟨AList.keys_insert_nodup _ _ hi.1, hi.2.1.newRow nt, hi.2.2⟩)
    (fun nt rs P rl _ _ s s' ha hi => by
      obtain ⟨hq1, hd1⟩ := addCombination_all E (QV []) (DV []) s s' nt P _ none ha
        (fun c hn _ => qv_of_not_delayed [] nt _ P none c (fun i hi => by cases hi) (hi.2.2.2 ▸ hn))
        (fun _ => fun i hi => by cases hi) hi.2.1 hi.2.2.1
      exact ⟨addCombination_kn E s s' nt P _ none ha hi.1, hq1, hd1,
        (addCombination_frame ha).cl.trans hi.2.2.2⟩) h
  refine ⟨ha, ?_, hk, ⟨by rw [hcl]; exact hq, by rw [hcl]; exact hd, new_bank_rows E g0 h⟩, by simp [InCl, hph]⟩
  simp only [StrictQ, hph, Phase.cost?]
  intro nt l _ e _ x hx
  rw [hcl] at hx; cases hx

theorem next_mono (E : Env S) (n : Nat) (g : Gen S) (r : Gen S × Option Prog) (h : next E n g = some r) (d : Nat) :
    next E (n + d) g = some r := by
  fun_induction next E n g with
  | case1 | case3 => cases h
  | case2 n g hd => rw [Nat.succ_add, next, if_pos hd]; exact h
  | case4 n g hd g1 p hst => rw [Nat.succ_add, next, if_neg hd, hst]; exact h
  | case5 n g hd g1 hst ih => rw [Nat.succ_add, next, if_neg hd, hst]; exact ih h

theorem take_mono (E : Env S) (f : Nat) : ∀ (k : Nat) (g : Gen S) (acc : List Prog) (r : Gen S × List Prog × Bool),
    take E f k g acc = some r → ∀ d, take E (f + d) k g acc = some r := by
  intro k g acc r h d
  rw [take_eq] at h ⊢
  exact Iter.take_mono (fun g r hn => next_mono E f g r hn d) k g acc r h

/-- By induction on the measure: one step of the machine in front of a run that stops.  It costs one unit of fuel; if it
    yields it costs one more call of `next`, otherwise it is absorbed by the first `next` of that run (hence the cases on `k1`
    and on what that `next` returns). -/
theorem take_terminates (E : Env S) (H : Hyp E) (hclosed : Closed E) (hfix : E.fixF11 = true) (m : Int)
    (hmax : E.maxCost = some m) :
    ∀ (x : Nat × Nat × Nat × Nat) (g : Gen S), meas m g = x → TInv E g →
      ∀ acc, ∃ fuel k g' out, take E fuel k g acc = some (g', out, true) := by
  intro x
  induction x using (lt4_wf).induction with
  | _ x ih =>
    intro g hx ht acc
    by_cases hd : g.phase.isDone = true
    · exact ⟨1, 1, g, acc, by simp [take, next, hd]⟩
    · have hnd : g.phase.isDone = false := by simpa using hd
      obtain ⟨b, hob⟩ := ht.all.ord
      obtain ⟨⟨g1, o⟩, hs⟩ := step_total E H.costs hclosed g ht.all.nodup.st ht.valid (ost_of_gord E g b hob)
      obtain ⟨ht1, hlt⟩ := step_tinv E H hfix m hmax g g1 o hs ht
      have hlt' := hlt hnd
      rw [hx] at hlt'
      cases o with
      | some p =>
        obtain ⟨f1, k1, g', out, h1⟩ := ih _ hlt' g1 rfl ht1 (acc ++ [p])
        refine ⟨f1 + 1, k1 + 1, g', out, ?_⟩
        have hn : next E (f1 + 1) g = some (g1, some p) := by simp [next, hnd, hs]
        simp only [take, hn]
        exact take_mono E f1 k1 g1 _ _ h1 1
      | none =>
        obtain ⟨f1, k1, g', out, h1⟩ := ih _ hlt' g1 rfl ht1 acc
        cases k1 with
        | zero => simp [take] at h1
        | succ k1 =>
          refine ⟨f1 + 1, k1 + 1, g', out, ?_⟩
          simp only [take] at h1 ⊢
          cases hn1 : next E f1 g1 with
          | none => simp [hn1] at h1
          | some r1 =>
            have hn : next E (f1 + 1) g = some r1 := by
              simp only [next, hnd, hs]; exact hn1
            rw [hn]
            obtain ⟨g2, o2⟩ := r1
            simp only [hn1] at h1
            cases o2 with
            | none => exact h1
            | some p2 => exact take_mono E f1 k1 g2 _ _ h1 1

end PS.Bee
