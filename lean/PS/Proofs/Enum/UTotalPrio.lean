/- Heap search on unambiguous, acyclic grammars, termination, what the loops rest on.  A program taken out of
   the heap of a non-terminal never comes back (`__add_successors__` only pushes programs that are not in
   `hash_table_program`), so the pop loop skips every rejected program at most once.  `compute_priority` never
   fails on a program whose arguments are memoised; the memo table covers every program ever pushed. -/
import PS.Proofs.Enum.UOrder
namespace PS.UHS
open PS PS.G

set_option linter.unusedSectionVars false
variable {U π : Type} [DecidableEq U]

/-! ### what is taken out of a heap never comes back -/

theorem pushStep_proc (E : Env U π) (hk : E.kway = true) {s s3 : St U π} {F args nt v i r}
    (hp : pushStep E s F args nt v i r = some s3) : (∀ q, Proc s nt q → Proc s3 nt q) ∧ s3.deleted = s.deleted := by
  refine ⟨?_, by obtain ⟨_, _, _, _, rfl⟩ := pushStep_fields E hk hp; rfl⟩
  rcases pushStep_eq hp with ⟨rfl, _⟩ | ⟨q, s2, pr, _, hnew, hcp, rfl⟩
  · exact fun _ h => h
  · have hcs := computePrio_step E hcp
    -- the pushed program is new, so it is none of those taken out before
    exact fun q' => (push_pushBoth hk pr hnew (fun _ => hcs.heapOf _) (fun _ => hcs.seenOf _) (fun _ => hcs.succOf _)).outs

theorem addSucc_proc (E : Env U π) (H : GHyp E) (rank : UNT U → Nat) (hac : Acyclic E rank) {prog : Prog}
    {nt : UNT U} {s s' : St U π} {x : Res π} (hb : Big E (.addSucc prog nt) s s' x) (hi : SInv E s) :
    ∀ q, Proc s nt q → Proc s' nt q := by
  cases hb with
  | succ_leaf => exact fun _ h => h
  | @succ_fun _ _ F a as _ v x hk' hb' =>
    refine addLoop_rel E H rank hac (fun s s' => ∀ q, Proc s nt q → Proc s' nt q) (fun _ _ h => h)
      (fun h1 h2 q hq => h2 q (h1 q hq)) (fun f q hq => ?_) (fun hp => (pushStep_proc E H.kway hp).1) hb' hi
      (hi.keys_ok _ _ _ _ hk')
    exact (Proc.congr f.seen f.heap).mpr hq

/-- the rejected programs that were not yet taken out of the heap of `nt` -/
def undone (s : St U π) (nt : UNT U) : Nat :=
  (s.deleted.filter (fun q => !((s.seenOf nt).contains q && !(s.heapProgs nt).contains q))).length

theorem undone_le (s : St U π) (nt : UNT U) : undone s nt ≤ s.deleted.length := List.length_filter_le _ _

theorem undone_lt {s s' : St U π} {nt : UNT U} (hd : s'.deleted = s.deleted) (hp : ∀ q, Proc s nt q → Proc s' nt q)
    (q0 : Prog) (h0 : q0 ∈ s.deleted) (h1 : ¬ Proc s nt q0) (h2 : Proc s' nt q0) : undone s' nt < undone s nt := by
  show pending s'.deleted (s'.seenOf nt) (s'.heapProgs nt) < pending s.deleted (s.seenOf nt) (s.heapProgs nt)
  rw [hd]
  exact pending_lt (fun q a b => hp q ⟨a, b⟩) q0 h0 h1 h2

theorem undone_skip {E : Env U π} {lt : (π × Prog) → (π × Prog) → Bool} {s s1 : St U π} (hn : NInv E s) {nt : UNT U}
    {e : π × Prog} {h' : List (π × Prog)} (hp : Heapq.pop lt (s.heapOf nt) = some (e, h')) (hd : e.2 ∈ s.deleted)
    (hdl : s1.deleted = s.deleted) (hproc : ∀ q, Proc (s.setHeap nt h') nt q → Proc s1 nt q) :
    undone s1 nt < undone s nt := by
  have W := skip_setHeap hp
  have ⟨h1, h2⟩ := W.outs hn.five
  exact undone_lt hdl (fun q hq => hproc q (h2 q hq)) e.2 hd (fun hc => hc.2 (hn.five.skip W).2.1) (hproc _ h1)

/-! ### `compute_priority` returns -/

variable {E : Env U π} {rank : UNT U → Nat} {Good : π → Prop}

def CacheC (s : St U π) : Prop := ∀ nt p, p ∈ s.seenOf nt → ∃ pr, AList.lookup (p, nt) s.cache = some pr

def CacheGrow (s s' : St U π) : Prop := ∀ k v, AList.lookup k s.cache = some v → ∃ v', AList.lookup k s'.cache = some v'

theorem CacheGrow.refl (s : St U π) : CacheGrow s s := fun _ v h => ⟨v, h⟩
theorem CacheGrow.trans {s s1 s2 : St U π} (h1 : CacheGrow s s1) (h2 : CacheGrow s1 s2) : CacheGrow s s2 := by
  intro k v h
  obtain ⟨v1, hv1⟩ := h1 k v h
  exact h2 k v1 hv1

theorem computePrio_cache (E : Env U π) {s s' : St U π} {nt : UNT U} {p : Prog} {pr : π}
    (h : computePrio E s nt p = some (s', pr)) :
    (∃ v, AList.lookup (p, nt) s'.cache = some v) ∧ CacheGrow s s' := by
  rcases computePrio_shape h with ⟨hl, rfl⟩ | rfl
  · exact ⟨⟨_, hl⟩, CacheGrow.refl _⟩
  · refine ⟨⟨_, AList.lookup_insert_self _ _ _⟩, fun k v hl => ?_⟩
    show ∃ v', AList.lookup k (AList.insert (p, nt) pr s.cache) = some v'
    rw [AList.lookup_insert]
    split
    · exact ⟨_, rfl⟩
    · exact ⟨v, hl⟩

theorem argsPrio_total (ops : Prio π) (c : AList (Prog × UNT U) π) (as : List Prog) (v : List (UNT U)) (acc : π) :
    as.length ≤ v.length →
    (∀ (i : Nat) (ai : Prog) (si : UNT U), as[i]? = some ai → v[i]? = some si → ∃ pr, AList.lookup (ai, si) c = some pr) →
    ∃ pr, argsPrio ops c as v acc = some pr := by
  fun_induction argsPrio ops c as v acc with
  | case1 v acc => exact fun _ _ => ⟨acc, rfl⟩
  | case2 a as si v acc hl =>
    intro _ hc
    obtain ⟨pa, hpa⟩ := hc 0 a si rfl rfl
    rw [hl] at hpa; cases hpa
  | case3 a as si v acc pa hl ih =>
    exact fun h hc => ih (Nat.le_of_succ_le_succ h) fun i ai sj h1 h2 => hc (i + 1) ai sj h1 h2
  | case4 => exact fun h _ => absurd h (Nat.not_succ_le_zero _)

theorem computePrio_total (H : OHyp E rank Good) (s : St U π) (nt : UNT U) (F : Sym) (kids : List Prog) (v : List (UNT U))
    (hko : KeyOK E nt F kids v) (hkey : AList.lookup (nt, .node F kids) s.keys = some v)
    (hc : ∀ (i : Nat) (ai : Prog) (si : UNT U), kids[i]? = some ai → v[i]? = some si →
      ∃ pr, AList.lookup (ai, si) s.cache = some pr) :
    ∃ res, computePrio E s nt (.node F kids) = some res := by
  obtain ⟨w, hm⟩ := hko.1
  have hlen := derList_length E _ _ hko.2
  generalize hp : Tree.node F kids = p at hkey ⊢
  fun_cases computePrio E s nt p with
  | case1 => exact ⟨_, rfl⟩
  | case2 => exact ⟨_, rfl⟩
  | case3 F' hne _ =>
    cases hp
    cases v with
    | nil => exact (hne [] w (H.leaf_one nt F w hm)).elim
    | cons _ _ => cases hlen
  | case4 F' a as alts _ found hf =>
    -- the search for the priority cannot fail: `(v, w)` is among the alternatives and its arguments are memoised
    cases hp
    exfalso
    dsimp only [found, alts] at hf
    obtain ⟨pr, hpr⟩ := argsPrio_total E.ops s.cache (a :: as) v (E.ops.ofRule w) (Nat.le_of_eq hlen) hc
    by_cases hff : E.ops.firstFit = true
    · rw [if_pos hff, List.findSome?_eq_none_iff] at hf
      exact nomatch hpr.symm.trans (hf (v, w) hm)
    · rw [if_neg hff, hkey] at hf
      dsimp only at hf
      split at hf
      · rename_i hfd
        rw [List.find?_eq_none] at hfd
        exact hfd (v, w) hm (decide_eq_true rfl)
      · rename_i vw hfd
        obtain ⟨hm', hv'⟩ := find?_mem_fst _ _ _ hfd
        obtain ⟨vw1, vw2⟩ := vw
        cases hv'
        obtain ⟨pr', hpr'⟩ := argsPrio_total E.ops s.cache (a :: as) vw1 (E.ops.ofRule vw2) (Nat.le_of_eq hlen) hc
        exact nomatch hpr'.symm.trans hf
  | case5 F' a as alts pa _ found hf =>
    dsimp only [found, alts] at hf
    dsimp only
    rw [hf]
    exact ⟨_, rfl⟩

theorem CacheC.congr {s s' : St U π} (h : CacheC s) (h1 : ∀ nt, s'.seenOf nt = s.seenOf nt) (h2 : CacheGrow s s') :
    CacheC s' := by
  intro nt p hp
  rw [h1] at hp
  obtain ⟨pr, hpr⟩ := h nt p hp
  exact h2 _ _ hpr

theorem CacheC.push {s s2 : St U π} (h : CacheC s) (nt : UNT U) (p : Prog)
    (hseen : ∀ nt' q, q ∈ s2.seenOf nt' → q ∈ s.seenOf nt' ∨ (nt' = nt ∧ q = p))
    (hg : CacheGrow s s2) (hnew : ∃ v, AList.lookup (p, nt) s2.cache = some v) : CacheC s2 := by
  intro nt' q hq
  rcases hseen nt' q hq with h1 | ⟨rfl, rfl⟩
  · obtain ⟨pr, hpr⟩ := h nt' q h1
    exact hg _ _ hpr
  · exact hnew

theorem CacheC.newPush (E : Env U π) (hk : E.kway = true) {s s0 s2 : St U π} {nt : UNT U} {p : Prog} {pr : π} (h : CacheC s)
    (hcp : computePrio E s0 nt p = some (s2, pr))
    (hseen : ∀ nt', s0.seenOf nt' = (s.addSeen nt p).seenOf nt') (hc0 : s0.cache = s.cache) :
    CacheC (pushBoth E s2 nt pr p) ∧ CacheGrow s (pushBoth E s2 nt pr p) := by
  obtain ⟨hnew, hg⟩ := computePrio_cache E hcp
  have hcs := computePrio_step E hcp
  have e : (∀ nt', (pushBoth E s2 nt pr p).seenOf nt' = s2.seenOf nt') ∧ (pushBoth E s2 nt pr p).cache = s2.cache := by
    obtain ⟨hs, e⟩ := pushBoth_heaps E hk s2 nt pr p
    rw [e]; exact ⟨fun _ => rfl, rfl⟩
  have hg' : CacheGrow s (pushBoth E s2 nt pr p) := by
    intro k v hl
    rw [e.2]
    exact hg k v (hc0 ▸ hl)
  refine ⟨h.push nt p ?_ hg' (by rw [e.2]; exact hnew), hg'⟩
  intro nt' q' hq'
  rw [e.1, hcs.seenOf, hseen] at hq'
  exact (mem_seenOf_addSeen s nt nt' _ q').mp hq'

theorem CacheC.pushStep (E : Env U π) (hk : E.kway = true) {s s3 : St U π} {F args nt v i r} (h : CacheC s)
    (hp : pushStep E s F args nt v i r = some s3) : CacheC s3 ∧ CacheGrow s s3 := by
  rcases pushStep_eq hp with ⟨rfl, _⟩ | ⟨q, s2, pr, _, _, hcp, rfl⟩
  · exact ⟨h, CacheGrow.refl _⟩
  · exact h.newPush E hk hcp (fun _ => rfl) rfl

theorem CacheC.initPush (E : Env U π) (hk : E.kway = true) (nt : UNT U) (l : List (Sym × List (UNT U))) {s s' : St U π}
    (h : CacheC s) (hp : initPush E s nt l = some s') : CacheC s' ∧ CacheGrow s s' := by
  refine initPush_induct (I := fun s' => CacheC s' ∧ CacheGrow s s') ?_ l ⟨h, CacheGrow.refl _⟩ hp
  intro s1 _ _ prog s2 pr ⟨a, b⟩ _ _ hcp _
  obtain ⟨a', b'⟩ := a.newPush E hk hcp (fun _ => rfl) rfl
  exact ⟨a', b.trans b'⟩

theorem big_cacheC (E : Env U π) (hk : E.kway = true) {c : Call U π} {s s' : St U π} {r : Res π}
    (hb : Big E c s s' r) : CacheC s → CacheC s' ∧ CacheGrow s s' := by
  have same : ∀ {s s' : St U π}, (∀ nt, s'.seenOf nt = s.seenOf nt) → s'.cache = s.cache →
      CacheC s → CacheC s' ∧ CacheGrow s s' :=
    fun h1 h2 hc => ⟨hc.congr h1 (fun k v hl => ⟨v, h2 ▸ hl⟩), fun k v hl => ⟨v, h2 ▸ hl⟩⟩
  refine Big.rel (R := fun s s' => CacheC s → CacheC s' ∧ CacheGrow s s') (fun _ hc => ⟨hc, CacheGrow.refl _⟩)
    (fun h1 h2 hc => have ⟨a1, a2⟩ := h1 hc; have ⟨b1, b2⟩ := h2 a1; ⟨b1, a2.trans b2⟩)
    (fun _ => same (fun _ => rfl) rfl) (fun _ _ _ _ => same (fun _ => rfl) rfl) (fun hp hc => hc.pushStep E hk hp)
    (fun _ _ => same (fun _ => rfl) rfl) ?_ ?_ hb
  · intro s nt m l s3 hp hc
    have := CacheC.initPush E hk nt l (hc.congr (s' := { s with maxNT := AList.insert nt m s.maxNT }) (fun _ => rfl)
      (CacheGrow.refl _)) hp
    exact this
  · intro s nt P args v s3 pr hc' hc
    obtain ⟨_, hg⟩ := computePrio_cache E hc'
    have hcs := computePrio_step E hc'
    have hg' : CacheGrow s { s3 with maxRule := AList.insert (nt, P, v) (.node P args) s3.maxRule } := hg
    exact ⟨hc.congr (fun nt' => by show s3.seenOf nt' = _; rw [hcs.seenOf]; rfl) hg', hg'⟩

end PS.UHS
