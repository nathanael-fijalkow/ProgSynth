/- Heap search on unambiguous, acyclic grammars: the hypotheses of the order theorem as Boolean checks
   on a literal grammar, with the instance of heap search (probabilities); the size / closedness hypotheses of the
   termination theorem as Boolean checks. -/
import PS.Proofs.Enum.UUnamb
import PS.Proofs.Enum.UTotalRun
namespace PS.UHS
open PS PS.G

set_option linter.unusedSectionVars false
variable {U π : Type} [DecidableEq U]

/-- the alternatives of a symbol have distinct keys (`tags[S][P]` is a dict) -/
def altKeysB (G : UG U) : Bool := G.rules.all (fun r => r.2.all (fun a => decide ((a.2.map (·.1)).Nodup)))

theorem altKeys_of_check (E : Env U π) (h : altKeysB E.G = true) : ∀ nt F, ((altsOf E nt F).map (·.1)).Nodup := by
  intro nt F
  rcases altsOf_cases E nt F with h0 | ⟨rs, hl, hl2⟩
  · rw [h0]; exact List.nodup_nil
  · have r1 := List.all_eq_true.mp h (nt, rs) (AList.lookup_some_mem hl)
    have r2 := List.all_eq_true.mp r1 (F, _) (AList.lookup_some_mem hl2)
    simpa using r2

theorem ualt_of_budet (E : Env U π) (hdet : BUDet E) (hkeys : ∀ nt F, ((altsOf E nt F).map (·.1)).Nodup) : UAlt E := by
  intro nt F ks v w v' w' hm hm' hl hl'
  have hv := derList_unique E hdet ks v v' hl hl'
  subst hv
  refine ⟨rfl, ?_⟩
  -- two entries with the same key in a list with distinct keys
  have := hkeys nt F
  generalize altsOf E nt F = l at hm hm' this
  induction l with
  | nil => cases hm
  | cons a l ih =>
    simp only [List.map_cons, List.nodup_cons] at this
    rcases List.mem_cons.mp hm with rfl | hm1
    · rcases List.mem_cons.mp hm' with h2 | hm2
      · exact (congrArg Prod.snd h2).symm
      · exact absurd (List.mem_map.mpr ⟨(v, w'), hm2, rfl⟩) this.1
    · rcases List.mem_cons.mp hm' with rfl | hm2
      · exact absurd (List.mem_map.mpr ⟨(v, w), hm1, rfl⟩) this.1
      · exact ih hm1 hm2 this.2

def flatB (G : UG U) : Bool :=
  G.rules.all (fun r => decide ((r.2.flatMap fun x => x.2.map fun vw => (x.1, vw.1)).Nodup))

theorem flat_of_check (E : Env U π) (h : flatB E.G = true) : ∀ nt rs, AList.lookup nt E.G.rules = some rs →
    (rs.flatMap fun r => r.2.map fun vw => (r.1, vw.1)).Nodup := by
  intro nt rs hl
  have := List.all_eq_true.mp h (nt, rs) (AList.lookup_some_mem hl)
  simpa using this

def leafOneB (G : UG U) : Bool :=
  G.rules.all (fun r => r.2.all (fun a => a.2.all (fun x => !x.1.isEmpty || a.2.length == 1)))

theorem leafOne_of_check (E : Env U π) (h : leafOneB E.G = true) :
    ∀ nt F w, ([], w) ∈ altsOf E nt F → altsOf E nt F = [([], w)] := by
  intro nt F w hm
  obtain ⟨rs, hl, hl2⟩ := altsOf_row E nt F _ hm
  have r1 := List.all_eq_true.mp h (nt, rs) (AList.lookup_some_mem hl)
  have r2 := List.all_eq_true.mp r1 (F, _) (AList.lookup_some_mem hl2)
  have r3 := List.all_eq_true.mp r2 ([], w) hm
  simp only [List.isEmpty_nil, Bool.not_true, Bool.false_or, beq_iff_eq] at r3
  obtain ⟨x, hx⟩ := List.length_eq_one_iff.mp r3
  rw [hx] at hm ⊢
  rw [List.mem_singleton.mp hm]

def weightsB (G : UG U) : Bool :=
  G.rules.all (fun r => r.2.all (fun a => a.2.all (fun x => decide (0 ≤ x.2)))) &&
  G.starts.all (fun x => decide (0 ≤ x.2))

theorem weights_of_check (E : Env U π) (h : weightsB E.G = true) :
    (∀ nt F v w, (v, w) ∈ altsOf E nt F → 0 ≤ w) ∧ (∀ nt w, startW E nt = some w → 0 ≤ w) := by
  simp only [weightsB, Bool.and_eq_true] at h
  constructor
  · intro nt F v w hm
    obtain ⟨rs, h1, a, h2, h3⟩ := altsOf_mem E nt F _ hm
    have r1 := List.all_eq_true.mp h.1 (nt, rs) h1
    have r2 := List.all_eq_true.mp r1 (F, a) h2
    have r3 := List.all_eq_true.mp r2 (v, w) h3
    simpa using r3
  · intro nt w hw
    have := List.all_eq_true.mp h.2 (nt, w) (AList.lookup_some_mem hw)
    simpa using this

theorem probOps_weakOrder (t : Rat) : Heapq.WeakOrder (probOps t).lt := Heapq.strictTotal_rat.toWeakOrder.flip

theorem rhyp_prob (E : Env U Rat) (rank : UNT U → Nat) (hops : E.ops = probOps 0) (hk : E.kway = true)
    (c1 : rowsB E.G = true) (c2 : arityB E.G = true) (c3 : acyclicB E.G rank = true) (c4 : budetB E.G = true)
    (c5 : altKeysB E.G = true) (c6 : flatB E.G = true) (c7 : leafOneB E.G = true) (c8 : weightsB E.G = true)
    (c9 : (E.G.starts.map (·.1)).Nodup) : RHyp E rank (fun v : Rat => 0 ≤ v) := by
  have hdet := budet_of_check E c4
  obtain ⟨hw1, hw2⟩ := weights_of_check E c8
  refine ⟨⟨GHyp.of_checks E c1 c2 hk, acyclic_of_check E rank c3, ?_, by rw [hops]; rfl,
    ualt_of_budet E hdet (altKeys_of_check E c5), flat_of_check E c6, leafOne_of_check E c7, ?_, ?_, ?_, ?_⟩,
    sdisj_of_budet E hdet, c9, ?_, ?_⟩
  · rw [hops]
    exact (probOps_weakOrder 0).on _
  · intro nt F v w hm; rw [hops]; exact hw1 nt F v w hm
  · intro a b ha hb; rw [hops]; exact Rat.mul_nonneg ha hb
  · intro a b c ha hb hc h
    rw [hops] at h ⊢
    simp only [probOps, decide_eq_false_iff_not, Rat.not_lt] at h ⊢
    exact Rat.mul_le_mul_of_nonneg_right h hc
  · intro a b c ha hb hc h
    rw [hops] at h ⊢
    simp only [probOps, decide_eq_false_iff_not, Rat.not_lt] at h ⊢
    exact Rat.mul_le_mul_of_nonneg_left h hc
  · intro a b nt w hw ha hb h
    rw [hops] at h ⊢
    simp only [probOps, decide_eq_false_iff_not, Rat.not_lt] at h ⊢
    exact Rat.mul_le_mul_of_nonneg_right h (hw2 nt w hw)
  · intro a nt w hw ha
    rw [hops]
    exact Rat.mul_nonneg ha (hw2 nt w hw)

def thypB (G : UG U) (L Al A : Nat) : Bool :=
  G.rules.all (fun r => decide (r.2.length ≤ L) && r.2.all (fun a => decide (a.2.length ≤ Al) &&
    a.2.all (fun x => decide (x.1.length ≤ A) && x.1.all (fun y => (AList.lookup y G.rules).isSome))) &&
    !(r.2.flatMap fun x => x.2.map fun vw => (x.1, vw.1)).isEmpty) &&
  G.starts.all (fun st => (AList.lookup st.1 G.rules).isSome)

theorem thyp_of_check (E : Env U π) (L Al A : Nat) (h : thypB E.G L Al A = true) : THyp E L Al A := by
  simp only [thypB, Bool.and_eq_true] at h
  obtain ⟨h1, h2⟩ := h
  have row : ∀ nt rs, AList.lookup nt E.G.rules = some rs → _ :=
    fun nt rs hl => List.all_eq_true.mp h1 (nt, rs) (AList.lookup_some_mem hl)
  have alt : ∀ nt F v w, (v, w) ∈ altsOf E nt F → v.length ≤ A ∧ ∀ y ∈ v, (AList.lookup y E.G.rules).isSome = true := by
    intro nt F v w hm
    obtain ⟨rs, hr, a, ha, hx⟩ := altsOf_mem E nt F _ hm
    have r1 := List.all_eq_true.mp h1 (nt, rs) hr
    simp only [Bool.and_eq_true] at r1
    have r2 := List.all_eq_true.mp r1.1.2 (F, a) ha
    simp only [Bool.and_eq_true] at r2
    have r3 := List.all_eq_true.mp r2.2 (v, w) hx
    simp only [Bool.and_eq_true, decide_eq_true_eq] at r3
    exact ⟨r3.1, fun y hy => List.all_eq_true.mp r3.2 y hy⟩
  refine ⟨?_, ?_, ?_, ?_, ?_, ?_⟩
  · intro nt rs hl
    have := row nt rs hl
    simp only [Bool.and_eq_true, decide_eq_true_eq] at this
    exact this.1.1
  · intro nt rs hl x hx
    have := row nt rs hl
    simp only [Bool.and_eq_true] at this
    have r2 := List.all_eq_true.mp this.1.2 x hx
    simp only [Bool.and_eq_true, decide_eq_true_eq] at r2
    exact r2.1
  · intro nt F v w hm; exact (alt nt F v w hm).1
  · intro nt F v w hm a ha
    have := (alt nt F v w hm).2 a ha
    exact Option.isSome_iff_exists.mp this
  · intro nt w hw
    have := List.all_eq_true.mp h2 (nt, w) (AList.lookup_some_mem hw)
    exact Option.isSome_iff_exists.mp this
  · intro nt rs hl
    have := row nt rs hl
    simp only [Bool.and_eq_true, Bool.not_eq_eq_eq_not, Bool.not_true, List.isEmpty_eq_false_iff] at this
    exact this.2

def fuelB (G : UG U) (rank : UNT U → Nat) (C fuel : Nat) : Bool :=
  decide (1 ≤ fuel) && G.starts.all (fun st => decide ((rank st.1 + 1) * C ≤ fuel))

theorem fuelOK_of_check (E : Env U π) (rank : UNT U → Nat) (C fuel : Nat) (h : fuelB E.G rank C fuel = true) :
    FuelOK E rank C fuel := by
  simp only [fuelB, Bool.and_eq_true, decide_eq_true_eq] at h
  refine ⟨h.1, ?_⟩
  intro nt w hw
  have := List.all_eq_true.mp h.2 (nt, w) (AList.lookup_some_mem hw)
  simpa using this

end PS.UHS
