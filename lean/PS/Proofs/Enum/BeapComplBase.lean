/- Completeness of beap search: the relations between a queued combination and a program.
   For a program `P(k₁ … kₙ)` of non-terminal `S` (rule `P ↦ a₁ … aₙ`) and a combination `u`:
   * `EqArgs`   : `u` is the combination of the program: `cost(kⱼ) = cost_list[aⱼ][uⱼ]` for every j;
   * `BelowArgs`: `u` lies on the producer chain of the program's combination: a prefix of zeros, then one
     position whose cost is ≤ the cost of the corresponding argument, then positions that are equal.
   The successor loop moves a combination that is below, but not equal to, a program one step up its chain. -/
import PS.Proofs.Enum.BeapNodupRun
namespace PS.Beap
open PS PS.G PS.Heapq
set_option linter.unusedSectionVars false
variable {S : Type} [DecidableEq S]

def EqArgs (E : Env S) (s : St S) : List (Ty × S) → List Nat → List Prog → Prop
  | [], [], [] => True
  | a :: as, c :: cs, k :: ks =>
    (∃ e, (s.clOf (ntOf a))[c]? = some e ∧ costOf E k (ntOf a) = some e.fin) ∧ EqArgs E s as cs ks
  | _, _, _ => False

def BelowArgs (E : Env S) (s : St S) : List (Ty × S) → List Nat → List Prog → Prop
  | [], [], [] => True
  | a :: as, c :: cs, k :: ks =>
    (c = 0 ∧ BelowArgs E s as cs ks) ∨
    ((∃ e y, (s.clOf (ntOf a))[c]? = some e ∧ costOf E k (ntOf a) = some y ∧ e.fin ≤ y) ∧ EqArgs E s as cs ks)
  | _, _, _ => False

/-! Induction on the three lists at once (`EqArgs.induct`, `BelowArgs.induct`); in the last case the lists do not have
    the same shape and the relation is `False` (`EqArgs.eq_3`, `BelowArgs.eq_3`). -/

theorem EqArgs.ext {E : Env S} {s s' : St S} (he : Ext s s') (as : List (Ty × S)) (cs : List Nat) (ks : List Prog)
    (h : EqArgs E s as cs ks) : EqArgs E s' as cs ks := by
  induction as, cs, ks using EqArgs.induct with
  | case1 => trivial
  | case2 a as c cs k ks ih => exact ⟨let ⟨e, h1, h2⟩ := h.1; ⟨e, he.get _ _ _ h1, h2⟩, ih h.2⟩
  | case3 as cs ks n1 n2 => rw [EqArgs.eq_3 _ _ _ _ _ n1 n2] at h; exact h.elim

theorem BelowArgs.ext {E : Env S} {s s' : St S} (he : Ext s s') : ∀ (as : List (Ty × S)) (cs : List Nat) (ks : List Prog),
    BelowArgs E s as cs ks → BelowArgs E s' as cs ks := by
  intro as cs ks h
  induction as, cs, ks using BelowArgs.induct with
  | case1 => trivial
  | case2 a as c cs k ks ih =>
    rcases h with ⟨h1, h2⟩ | ⟨⟨e, y, h1, h2, h3⟩, h4⟩
    · exact Or.inl ⟨h1, ih h2⟩
    · exact Or.inr ⟨⟨e, y, he.get _ _ _ h1, h2, h3⟩, EqArgs.ext he as cs ks h4⟩
  | case3 as cs ks n1 n2 => rw [BelowArgs.eq_3 _ _ _ _ _ n1 n2] at h; exact h.elim

theorem EqArgs.below {E : Env S} {s : St S} (as : List (Ty × S)) (cs : List Nat) (ks : List Prog)
    (h : EqArgs E s as cs ks) : BelowArgs E s as cs ks := by
  induction as, cs, ks using EqArgs.induct with
  | case1 => trivial
  | case2 a as c cs k ks _ =>
    obtain ⟨⟨e, h1, h2⟩, h3⟩ := h
    exact Or.inr ⟨⟨e, e.fin, h1, h2, Rat.le_refl⟩, h3⟩
  | case3 as cs ks n1 n2 => rw [EqArgs.eq_3 _ _ _ _ _ n1 n2] at h; exact h.elim

theorem BelowArgs.length {E : Env S} {s : St S} : ∀ (as : List (Ty × S)) (cs : List Nat) (ks : List Prog),
    BelowArgs E s as cs ks → cs.length = as.length ∧ ks.length = as.length := by
  intro as cs ks h
  induction as, cs, ks using BelowArgs.induct with
  | case1 => exact ⟨rfl, rfl⟩
  | case2 a as c cs k ks ih =>
    obtain ⟨g1, g2⟩ := ih (h.elim (·.2) fun h4 => EqArgs.below as cs ks h4.2); simp [g1, g2]
  | case3 as cs ks n1 n2 => rw [BelowArgs.eq_3 _ _ _ _ _ n1 n2] at h; exact h.elim

theorem EqArgs.length {E : Env S} {s : St S} : ∀ (as : List (Ty × S)) (cs : List Nat) (ks : List Prog),
    EqArgs E s as cs ks → cs.length = as.length ∧ ks.length = as.length :=
  fun as cs ks h => BelowArgs.length as cs ks (EqArgs.below as cs ks h)

def LB (E : Env S) (s : St S) : Prop :=
  ∀ nt c rest p x, s.clOf nt = c :: rest → costOf E p nt = some x → c.fin ≤ x

theorem LB.le_first {E : Env S} {s : St S} (hlb : LB E s) {nt : NT S Unit} {e : Cost} {p : Prog} {y : Rat}
    (he : (s.clOf nt)[0]? = some e) (hy : costOf E p nt = some y) : e.fin ≤ y := by
  cases hc : s.clOf nt with
  | nil => rw [hc] at he; cases he
  | cons c0 r =>
    rw [hc] at he
    obtain rfl : c0 = e := Option.some.inj he
    exact hlb nt c0 r p y hc hy

theorem combCost_cons_inv {s : St S} {a : Ty × S} {as : List (Ty × S)} {c : Nat} {cs : List Nat} {k : Rat}
    (h : combCost s (a :: as) (c :: cs) = some k) :
    ∃ e k', (s.clOf (ntOf a))[c]? = some e ∧ combCost s as cs = some k' ∧ k = e.fin + k' := by
  simp only [combCost] at h
  split at h
  · next e k' he hk' => exact ⟨e, k', he, hk', (Option.some.inj h).symm⟩
  · cases h

theorem rule_of_cost (E : Env S) (nt : NT S Unit) (f : Sym) (kids : List Prog) (y : Rat) (h : costOf E (.node f kids) nt = some y) :
    ∃ rl, E.G.rule? nt f = some rl :=
  let ⟨rl, _, _, hr, _⟩ := costOf_inv h; ⟨rl, hr⟩

theorem below_cost (E : Env S) (s : St S) (hlb : LB E s) : ∀ (as : List (Ty × S)) (cs : List Nat) (ks : List Prog) (k x : Rat),
    BelowArgs E s as cs ks → combCost s as cs = some k → costOfList E ks as = some x → k ≤ x := by
  intro as cs ks k x h hk hx
  induction as, cs, ks using BelowArgs.induct generalizing k x with
  | case1 =>
    simp only [combCost, Option.some.injEq] at hk
    simp only [costOfList, Option.some.injEq] at hx
    subst hk; subst hx; exact Rat.le_refl
  | case2 a as c cs k0 ks ih =>
    obtain ⟨e, k', he, hk', rfl⟩ := combCost_cons_inv hk
    obtain ⟨y, x', hy, hx', rfl⟩ := costOfList_cons_inv hx
    rcases h with ⟨rfl, h2⟩ | ⟨⟨e', y', g1, g2, g3⟩, g4⟩
    · exact Rat.le_trans (Rat.add_le_add_left.mpr (ih k' x' h2 hk' hx')) (Rat.add_le_add_right.mpr (hlb.le_first he hy))
    · obtain rfl : e = e' := Option.some.inj (he.symm.trans g1)
      obtain rfl : y = y' := Option.some.inj (hy.symm.trans g2)
      exact Rat.le_trans (Rat.add_le_add_left.mpr (ih k' x' (EqArgs.below as cs ks g4) hk' hx')) (Rat.add_le_add_right.mpr g3)
  | case3 as cs ks n1 n2 => rw [BelowArgs.eq_3 _ _ _ _ _ n1 n2] at h; exact h.elim

theorem below_step (E : Env S) (s : St S) (hlb : LB E s) : ∀ (as : List (Ty × S)) (cs : List Nat) (ks : List Prog) (k x : Rat),
    BelowArgs E s as cs ks → ¬ EqArgs E s as cs ks → combCost s as cs = some k → costOfList E ks as = some x →
    ∃ i a k0 e y, i < as.length ∧ (∀ j, j < i → cs.getD j 0 = 0) ∧ as[i]? = some a ∧ ks[i]? = some k0 ∧
      (s.clOf (ntOf a))[cs.getD i 0]? = some e ∧ costOf E k0 (ntOf a) = some y ∧ e.fin < y ∧
      ∀ e', (s.clOf (ntOf a))[cs.getD i 0 + 1]? = some e' → e'.fin ≤ y → BelowArgs E s as (cs.set i (cs.getD i 0 + 1)) ks := by
  intro as cs ks k x h hne hk hx
  induction as, cs, ks using BelowArgs.induct generalizing k x with
  | case1 => exact absurd trivial hne
  | case2 a as c cs k0 ks ih =>
    obtain ⟨e, k', he, hk', rfl⟩ := combCost_cons_inv hk
    obtain ⟨y, x', hy, hx', rfl⟩ := costOfList_cons_inv hx
    -- the rest is equal: the first position is the one to move on
    have here : e.fin ≤ y → EqArgs E s as cs ks →
        ∃ i a' k0' e0 y0, i < (a :: as).length ∧ (∀ j, j < i → (c :: cs).getD j 0 = 0) ∧ (a :: as)[i]? = some a' ∧
          (k0 :: ks)[i]? = some k0' ∧ (s.clOf (ntOf a'))[(c :: cs).getD i 0]? = some e0 ∧ costOf E k0' (ntOf a') = some y0 ∧
          e0.fin < y0 ∧ ∀ e', (s.clOf (ntOf a'))[(c :: cs).getD i 0 + 1]? = some e' → e'.fin ≤ y0 →
            BelowArgs E s (a :: as) ((c :: cs).set i ((c :: cs).getD i 0 + 1)) (k0 :: ks) := by
      intro hle heq
      have hlt : e.fin < y := Rat.lt_iff_le_and_ne.mpr ⟨hle, fun hey => hne ⟨⟨e, he, by rw [hey]; exact hy⟩, heq⟩⟩
      exact ⟨0, a, k0, e, y, Nat.succ_pos _, fun j hj => absurd hj (Nat.not_lt_zero j), rfl, rfl, he, hy, hlt,
        fun e' he' hle' => Or.inr ⟨⟨e', y, he', hy, hle'⟩, heq⟩⟩
    rcases h with ⟨rfl, h2⟩ | ⟨⟨e', y', g1, g2, g3⟩, g4⟩
    · by_cases heq : EqArgs E s as cs ks
      · exact here (hlb.le_first he hy) heq
      · obtain ⟨i, a', k0', e0, y0, q1, q2, q3, q4, q5, q6, q7, q8⟩ := ih k' x' h2 heq hk' hx'
        refine ⟨i + 1, a', k0', e0, y0, Nat.succ_lt_succ q1, fun j hj => ?_, q3, q4, q5, q6, q7, fun e' he' hle' => Or.inl ⟨rfl, q8 e' he' hle'⟩⟩
        cases j with
        | zero => rfl
        | succ j => exact q2 j (Nat.lt_of_succ_lt_succ hj)
    · obtain rfl : e = e' := Option.some.inj (he.symm.trans g1)
      obtain rfl : y = y' := Option.some.inj (hy.symm.trans g2)
      exact here g3 g4
  | case3 as cs ks n1 n2 => rw [BelowArgs.eq_3 _ _ _ _ _ n1 n2] at h; exact h.elim

def PossComp (E : Env S) (F : Prog → Bool) (s : St S) (ps : List Prog) (ac : NT S Unit × Nat) : Prop :=
  ∀ q e, clean F q = true → (s.clOf ac.1)[ac.2]? = some e → costOf E q ac.1 = some e.fin → q ∈ ps

theorem eq_product (E : Env S) (F : Prog → Bool) (s : St S) : ∀ (as : List (Ty × S)) (cs : List Nat) (ks : List Prog) (poss : List (List Prog)),
    EqArgs E s as cs ks → cleanList F ks = true → All2 (PossComp E F s) poss ((as.map ntOf).zip cs) → All2 (· ∈ ·) ks poss := by
  intro as cs ks poss h hc hp
  induction as, cs, ks using EqArgs.induct generalizing poss with
  | case1 =>
    simp only [List.map_nil, List.zip_nil_left] at hp
    cases hp; exact All2.nil
  | case2 a as c cs k ks ih =>
    simp only [List.map_cons, List.zip_cons_cons] at hp
    cases hp with
    | cons m r =>
      obtain ⟨⟨e, h1, h2⟩, h3⟩ := h
      simp only [cleanList, Bool.and_eq_true] at hc
      exact All2.cons (m k e hc.1 h1 h2) (ih _ h3 hc.2 r)
  | case3 as cs ks n1 n2 => rw [EqArgs.eq_3 _ _ _ _ _ n1 n2] at h; exact h.elim

end PS.Beap
