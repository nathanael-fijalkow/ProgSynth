/- What the bucketed queue guarantees to its user (exact rationals).
   The slack, in one statement: track, for every stored CostTuple, the pushes `(cost, index tuple)` that were merged
   into it.  Every member of a group is within 1 of the cost of its CostTuple, `pop` returns the group of the cheapest
   CostTuple, hence every popped push is cheaper than every push that stays, up to 2 cost units.
   The queue as a monotone priority queue: along every run of the usage protocol in which every pushed cost is at
   least the cost of the last popped CostTuple (what the successor rule of the search does when the cost lists of the
   arguments are non-decreasing) and lies inside the window, the popped costs are non-decreasing. -/
import PS.Proofs.Enum.CDOrder
import PS.Proofs.Enum.CDStep
import PS.Proofs.Enum.Orders
namespace PS.CD

/-! ## the slack: a popped push is cheaper than every push that stays, up to 2 -/

/-- a push: the cost it was pushed with and its index tuple -/
abbrev Push := Rat × List Nat

/-- the pushes of a CostTuple as handed to `push` -/
def ghostOf (e : CT Rat) : List Push := e.combs.map fun cb => (e.cost, cb)

/-- a stored CostTuple with the pushes merged into it: it carries exactly their index tuples, and each of them
    was pushed with a cost at most 1 away from the cost of the CostTuple -/
def GroupOK (pr : CT Rat × List Push) : Prop :=
  pr.1.combs = pr.2.map (·.2) ∧ ∀ m ∈ pr.2, m.1 - pr.1.cost ≤ 1 ∧ pr.1.cost - m.1 ≤ 1

/-- `G` tracks the queue: its first components are the stored CostTuples -/
def Tracked (q : Q Rat) (G : List (CT Rat × List Push)) : Prop :=
  (G.map (·.1)).Perm q.tuples ∧ ∀ pr ∈ G, GroupOK pr

theorem tracked_empty (q : Q Rat) (h : q.tuples = []) : Tracked q [] := by
  refine ⟨by simp [h], by simp⟩

theorem exists_split_of_mem_map {β γ : Type} (f : β → γ) {l : List β} {y : γ} (h : y ∈ l.map f) :
    ∃ l1 x l2, l = l1 ++ x :: l2 ∧ f x = y := by
  rw [List.mem_map] at h
  obtain ⟨x, hx, hxy⟩ := h
  obtain ⟨l1, l2, hl⟩ := List.append_of_mem hx
  exact ⟨l1, x, l2, hl, hxy⟩

/-- the tracking is extended by the pushes of `e`, as a new group or inside one existing group -/
theorem tracked_push (b asserts : Bool) (q q' : Q Rat) (e : CT Rat) (G : List (CT Rat × List Push)) (hq : QWF q)
    (ht : Tracked q G) (h : q.push (ratA b) e asserts = some q') :
    ∃ G', Tracked q' G' ∧ (G'.flatMap (·.2)).Perm (G.flatMap (·.2) ++ ghostOf e) := by
  obtain ⟨_, ⟨added, hrel⟩, _⟩ := qwf_push (ratA b) q q' e asserts hq h
  cases added with
  | true =>
    have hp : q'.tuples.Perm (e :: q.tuples) := hrel
    refine ⟨(e, ghostOf e) :: G, ⟨?_, ?_⟩, ?_⟩
    · simp only [List.map_cons]
      exact (List.Perm.cons e ht.1).trans hp.symm
    · intro pr hpr
      rcases List.mem_cons.mp hpr with h1 | h1
      · subst h1
        refine ⟨by simp [ghostOf, List.map_map, Function.comp_def], ?_⟩
        intro m hm
        simp only [ghostOf, List.mem_map] at hm
        obtain ⟨cb, _, rfl⟩ := hm
        simp only
        rw [Rat.sub_self]; decide
      · exact ht.2 pr h1
    · simp only [List.flatMap_cons]
      exact List.perm_append_comm
  | false =>
    obtain ⟨X, Y, val, h1, h2, h3⟩ := hrel
    have hclose := ratA_close b val.cost e.cost h3
    have hmem : val ∈ G.map (·.1) := ht.1.mem_iff.mpr (by rw [h1]; simp)
    obtain ⟨G1, pr, G2, hG, hpr⟩ := exists_split_of_mem_map (fun (x : CT Rat × List Push) => x.1) hmem
    subst hG
    have hprOK := ht.2 pr (by simp)
    refine ⟨G1 ++ ({ val with combs := val.combs ++ e.combs }, pr.2 ++ ghostOf e) :: G2, ⟨?_, ?_⟩, ?_⟩
    · have hp := ht.1
      rw [h1] at hp
      simp only [List.map_append, List.map_cons, hpr] at hp
      have hp2 : (G1.map (·.1) ++ G2.map (·.1)).Perm (X ++ Y) :=
        List.Perm.cons_inv ((List.perm_middle.symm.trans hp).trans List.perm_middle)
      rw [h2]
      simp only [List.map_append, List.map_cons]
      exact (List.perm_middle.trans (List.Perm.cons _ hp2)).trans List.perm_middle.symm
    · intro pr' hpr'
      rcases List.mem_append.mp hpr' with h4 | h4
      · exact ht.2 pr' (by simp [h4])
      · rcases List.mem_cons.mp h4 with h5 | h5
        · subst h5
          refine ⟨?_, ?_⟩
          · simp only [List.map_append]
            rw [← hpr] at *
            rw [hprOK.1]
            simp [ghostOf, List.map_map, Function.comp_def]
          · intro m hm
            simp only
            rcases List.mem_append.mp hm with h6 | h6
            · have := hprOK.2 m h6
              rw [hpr] at this; exact this
            · simp only [ghostOf, List.mem_map] at h6
              obtain ⟨cb, _, rfl⟩ := h6
              exact ⟨hclose.2, hclose.1⟩
        · exact ht.2 pr' (by simp [h5])
    · simp only [List.flatMap_append, List.flatMap_cons, List.append_assoc]
      refine List.Perm.append_left _ ?_
      refine List.Perm.append_left _ ?_
      exact List.perm_append_comm

/-- two pushes merged into CostTuples of costs `p < c`, each within 1 of its CostTuple -/
theorem slack_two {a p c b : Rat} (h1 : a - p ≤ 1) (h3 : p < c) (h2 : c - b ≤ 1) : a < b + 2 := by grind

theorem tracked_pop (q q' : Q Rat) (p : CT Rat) (G : List (CT Rat × List Push)) (hq : QOrd q) (ht : Tracked q G)
    (h : q.pop = some (p, q')) :
    ∃ grp G', G.Perm ((p, grp) :: G') ∧ Tracked q' G' ∧ QOrd q' ∧ p.combs = grp.map (·.2) ∧
      (∀ m ∈ grp, m.1 - p.cost ≤ 1 ∧ p.cost - m.1 ≤ 1) ∧
      ∀ m ∈ grp, ∀ pr' ∈ G', ∀ m' ∈ pr'.2, m.1 < m'.1 + 2 := by
  obtain ⟨hq', hmin, _⟩ := qord_pop q q' p hq h
  obtain ⟨_, hperm, _⟩ := qwf_pop q q' p hq.wf h
  have hmem : p ∈ G.map (·.1) := ht.1.mem_iff.mpr (hperm.mem_iff.mpr List.mem_cons_self)
  obtain ⟨G1, pr, G2, hG, hpr⟩ := exists_split_of_mem_map (fun (x : CT Rat × List Push) => x.1) hmem
  subst hG
  have hprOK := ht.2 pr (by simp)
  have hp2 : ((G1 ++ G2).map (·.1)).Perm q'.tuples := by
    have hp := ht.1.trans hperm
    simp only [List.map_append, List.map_cons, hpr] at hp
    simpa using List.Perm.cons_inv (List.perm_middle.symm.trans hp)
  have hpair : pr = (p, pr.2) := by rw [← hpr]
  refine ⟨pr.2, G1 ++ G2, ?_, ⟨hp2, fun pr' hpr' => ht.2 pr' ?_⟩, hq', ?_, ?_, ?_⟩
  · rw [← hpair]; exact List.perm_middle
  · rcases List.mem_append.mp hpr' with h1 | h1 <;> simp [h1]
  · rw [← hpr]; exact hprOK.1
  · intro m hm; have := hprOK.2 m hm; rw [hpr] at this; exact this
  · intro m hm pr' hpr' m' hm'
    have h1 := hprOK.2 m hm
    rw [hpr] at h1
    have hpr'G : pr' ∈ G1 ++ pr :: G2 := by
      rcases List.mem_append.mp hpr' with h2 | h2 <;> simp [h2]
    have h2 := (ht.2 pr' hpr'G).2 m' hm'
    exact slack_two h1.1 (hmin pr'.1 (hp2.mem_iff.mp (List.mem_map_of_mem hpr'))) h2.2

/-! ## the monotone-queue discipline -/

def LowerBound (q : Q Rat) (lo : Rat) : Prop := ∀ t ∈ q.tuples, lo ≤ t.cost

theorem lowerBound_push (b asserts : Bool) (q q' : Q Rat) (e : CT Rat) (lo : Rat) (hq : QWF q) (hl : LowerBound q lo)
    (he : lo ≤ e.cost) (h : q.push (ratA b) e asserts = some q') : LowerBound q' lo := by
  obtain ⟨_, ⟨added, hrel⟩, _⟩ := qwf_push (ratA b) q q' e asserts hq h
  intro t ht
  cases added with
  | true =>
    have hp : q'.tuples.Perm (e :: q.tuples) := hrel
    rcases List.mem_cons.mp (hp.mem_iff.mp ht) with h1 | h1
    · rw [h1]; exact he
    · exact hl t h1
  | false =>
    obtain ⟨X, Y, val, h1, h2, _⟩ := hrel
    rw [h2] at ht
    rcases List.mem_append.mp ht with h3 | h3
    · exact hl t (by rw [h1]; exact List.mem_append_left _ h3)
    · rcases List.mem_cons.mp h3 with h4 | h4
      · rw [h4]; exact hl val (by rw [h1]; simp)
      · exact hl t (by rw [h1]; exact List.mem_append_right _ (List.mem_cons_of_mem _ h4))

inductive QOp where
  | push (e : CT Rat)
  | update
  | pop

/-- the popped CostTuples in order; `none`: an operation is undefined -/
def runOps (b : Bool) : List QOp → Q Rat → List (CT Rat) → Option (Q Rat × List (CT Rat))
  | [], q, out => some (q, out)
  | .push e :: rest, q, out =>
    match q.push (ratA b) e true with
    | none => none
    | some q' => runOps b rest q' out
  | .update :: rest, q, out =>
    match q.update (ratA b) with
    | none => none
    | some q' => runOps b rest q' out
  | .pop :: rest, q, out =>
    match q.pop with
    | none => none
    | some (p, q') => runOps b rest q' (out ++ [p])

/-- the discipline of a monotone priority queue: every push costs at least `lo` — the cost of the last pop
    (initially any lower bound of the content) — and lies inside the window `[mini, mini + maxi)` of the queue
    at that moment.  Decidable on a script by running it. -/
def Monotone (b : Bool) : List QOp → Q Rat → Rat → Prop
  | [], _, _ => True
  | .push e :: rest, q, lo =>
    lo ≤ e.cost ∧ (∀ mini, q.mini = some mini → mini ≤ e.cost ∧ e.cost < mini + q.maxi) ∧
    ∀ q', q.push (ratA b) e true = some q' → Monotone b rest q' lo
  | .update :: rest, q, lo => ∀ q', q.update (ratA b) = some q' → Monotone b rest q' lo
  | .pop :: rest, q, lo => ∀ p q', q.pop = some (p, q') → Monotone b rest q' p.cost

theorem runOps_sorted (b : Bool) (ops : List QOp) (q : Q Rat) (out : List (CT Rat)) (lo : Rat) (q' : Q Rat) (out' : List (CT Rat)) :
    runOps b ops q out = some (q', out') → QOrd q → LowerBound q lo → Monotone b ops q lo →
    (out.map (·.cost)).Pairwise (· ≤ ·) → (∀ c ∈ out.map (·.cost), c ≤ lo) →
    QOrd q' ∧ (out'.map (·.cost)).Pairwise (· ≤ ·) := by
  fun_induction runOps b ops q out generalizing lo <;> intro h hq hl hm hs hb
  · cases h; exact ⟨hq, hs⟩
  · cases h
  · rename_i e rest q out q1 hp ih
    obtain ⟨h1, h2, h3⟩ := hm
    exact ih lo h (qord_push b true q q1 e hq h2 hp) (lowerBound_push b true q q1 e lo hq.wf hl h1 hp) (h3 q1 hp) hs hb
  · cases h
  · rename_i rest q out q1 hu ih
    obtain ⟨hq1, hc, _⟩ := qord_update b q q1 hq hu
    have hl1 : LowerBound q1 lo := by
      intro t ht
      have : q1.tuples = q.tuples := by simp only [Q.tuples, hc]
      rw [this] at ht; exact hl t ht
    exact ih lo h hq1 hl1 (hm q1 hu) hs hb
  · cases h
  · rename_i rest q out p q1 hp ih
    obtain ⟨hq1, hmin, _⟩ := qord_pop q q1 p hq hp
    obtain ⟨_, hperm, _⟩ := qwf_pop q q1 p hq.wf hp
    have hlo : lo ≤ p.cost := hl p (hperm.mem_iff.mpr List.mem_cons_self)
    have hl1 : LowerBound q1 p.cost := fun t ht => Rat.le_of_lt (hmin t ht)
    refine ih p.cost h hq1 hl1 (hm p q1 hp) ?_ ?_
    · simp only [List.map_append, List.map_cons, List.map_nil]
      exact pairwise_snoc hs (fun y hy => Rat.le_trans (hb y hy) hlo)
    · intro c hc
      simp only [List.map_append, List.map_cons, List.map_nil, List.mem_append, List.mem_singleton] at hc
      rcases hc with h1 | h1
      · exact Rat.le_trans (hb c h1) hlo
      · rw [h1]; exact Rat.le_refl

/-- `Monotone` as a check: it runs the script; an undefined operation ends the check with `true`, as it makes the rest of
    `Monotone` vacuous -/
def monotoneB (b : Bool) : List QOp → Q Rat → Rat → Bool
  | [], _, _ => true
  | .push e :: rest, q, lo =>
    decide (lo ≤ e.cost) &&
    (match q.mini with
     | none => true
     | some m => decide (m ≤ e.cost) && decide (e.cost < m + q.maxi)) &&
    (match q.push (ratA b) e true with
     | none => true
     | some q' => monotoneB b rest q' lo)
  | .update :: rest, q, lo =>
    match q.update (ratA b) with
    | none => true
    | some q' => monotoneB b rest q' lo
  | .pop :: rest, q, lo =>
    match q.pop with
    | none => true
    | some (p, q') => monotoneB b rest q' p.cost

theorem monotoneB_sound (b : Bool) (ops : List QOp) (q : Q Rat) (lo : Rat) : monotoneB b ops q lo = true → Monotone b ops q lo := by
  fun_induction monotoneB b ops q lo <;> intro h
  · trivial
  · rename_i e rest q lo ih
    simp only [Bool.and_eq_true, decide_eq_true_eq] at h
    obtain ⟨⟨h1, h2⟩, h3⟩ := h
    refine ⟨h1, fun mini hm => ?_, fun q' hq' => ?_⟩
    · rw [hm] at h2; simpa using h2
    · rw [hq'] at h3; exact ih q' h3
  · rename_i hq; intro q' hq'; rw [hq] at hq'; cases hq'
  · rename_i hq ih; intro q' hq'; rw [hq] at hq'; cases hq'; exact ih h
  · rename_i hq; intro p q' hq'; rw [hq] at hq'; cases hq'
  · rename_i hq ih; intro p q' hq'; rw [hq] at hq'; cases hq'; exact ih h

/-! ### the successor loop of the machine respects the discipline -/

theorem le_sub_add {lo c c0 c1 : Rat} (h : lo ≤ c) (h01 : c0 ≤ c1) : lo ≤ c - c0 + c1 := by grind

/-- a successor pushed by `query_derivation` costs `ct.cost - cl[i] + cl[i+1]`: at least `ct.cost` when the cost lists of the
    argument non-terminals are non-decreasing -/
theorem succLoop_lowerBound (b asserts : Bool) (args : List NT) (c lo : Rat) (comb : List Nat) (hlo : lo ≤ c)
    (rem i : Nat) (s s' : St Rat) (h : succLoop (ratA b) asserts args c comb rem i s = some s')
    (hsorted : ∀ a cl, AList.lookup a s.costNt = some cl → cl.Pairwise (· ≤ ·))
    (q : Q Rat) (hq : AList.lookup args s.queueDer = some q) (hwf : QWF q) (hl : LowerBound q lo) :
    ∃ q', AList.lookup args s'.queueDer = some q' ∧ QWF q' ∧ LowerBound q' lo :=
  (succLoop_rule (A := ratA b) (asserts := asserts) (args := args) (c := c) (comb := comb)
    (fun t => t.costNt = s.costNt ∧ ∃ q', AList.lookup args t.queueDer = some q' ∧ QWF q' ∧ LowerBound q' lo)
    (fun t i x Si cl c0 c1 q0 q1 ⟨hc, q', hq', hwf', hl'⟩ _ _ hcl h0 h1 hq0 hpush => by
      obtain rfl : q' = q0 := Option.some.inj (hq'.symm.trans hq0)
      have hcost : lo ≤ (ratA b).add ((ratA b).sub c c0) c1 :=
        le_sub_add hlo (pairwise_getElem? (hsorted Si cl (hc ▸ hcl)) h0 h1 (Nat.lt_succ_self x))
      -- the CostTuple is written out: left to unify `?e.cost` with the sum, Lean unfolds `Rat.add`
      exact ⟨hc, q1, AList.lookup_insert_self args q1 t.queueDer, (qwf_push (ratA b) q' q1 _ asserts hwf' hpush).1,
        lowerBound_push b asserts q' q1 ⟨_, [comb.set i (x + 1)]⟩ lo hwf' hl' hcost hpush⟩)
    rem i s s' h ⟨rfl, q, hq, hwf, hl⟩).2

end PS.CD
