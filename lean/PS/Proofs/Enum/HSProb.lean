/- Probabilities of programs: they are non-negative and monotone in each argument (what the order invariant (I4)
   uses), and the priority specification of heap search (`prioSpec` with `probOps`) is the probability. -/
import PS.Proofs.Mass
import PS.Proofs.ProbDet
import PS.Proofs.Enum.HSSound
namespace PS.HS
open PS PS.G
set_option linter.unusedSectionVars false
variable {S : Type} [DecidableEq S]

/-! ### monotonicity of the probability in each argument (DESIGN B.2 (I4)) -/

def WNonneg (tags : Tags S Unit) : Prop := ∀ nt P, 0 ≤ weight tags nt P

theorem derWeight_nonneg (tags : Tags S Unit) (h : WNonneg tags) (d : List (NT S Unit × Sym)) :
    0 ≤ derWeight tags d := by
  unfold derWeight
  induction d with
  | nil => simp only [List.map_nil, List.prod_nil]; decide
  | cons x xs ih =>
    simp only [List.map_cons, List.prod_cons]
    exact Rat.mul_nonneg (h x.1 x.2) ih

theorem prob_nonneg (G : TT S Unit) (tags : Tags S Unit) (h : WNonneg tags) (t : Prog) (nt : NT S Unit) :
    0 ≤ prob G tags t nt := by
  unfold prob
  split
  · exact derWeight_nonneg tags h _
  · exact Rat.le_refl

/-- the product over the arguments, as in `prob_node` -/
def argProd (G : TT S Unit) (tags : Tags S Unit) (ra : List (Ty × S)) (ks : List Prog) : Rat :=
  ((ra.zip ks).map (fun p => prob G tags p.2 (argNT p.1))).prod

theorem argProd_nonneg (G : TT S Unit) (tags : Tags S Unit) (h : WNonneg tags) :
    ∀ (ra : List (Ty × S)) (ks : List Prog), 0 ≤ argProd G tags ra ks
  | [], _ => by simp only [argProd, List.zip_nil_left, List.map_nil, List.prod_nil]; decide
  | _ :: _, [] => by simp only [argProd, List.zip_nil_right, List.map_nil, List.prod_nil]; decide
  | a :: ra, k :: ks => by
    simp only [argProd, List.zip_cons_cons, List.map_cons, List.prod_cons]
    exact Rat.mul_nonneg (prob_nonneg G tags h k (argNT a)) (argProd_nonneg G tags h ra ks)

theorem argProd_set_le (G : TT S Unit) (tags : Tags S Unit) (h : WNonneg tags) :
    ∀ (ra : List (Ty × S)) (ks : List Prog) (i : Nat) (q ai : Prog) (a : Ty × S),
      ra[i]? = some a → ks[i]? = some ai → prob G tags q (argNT a) ≤ prob G tags ai (argNT a) →
      argProd G tags ra (ks.set i q) ≤ argProd G tags ra ks
  | [], _, _, _, _, _, ha, _, _ => by simp at ha
  | _ :: _, [], _, _, _, _, _, hk, _ => by simp at hk
  | a0 :: ra, k :: ks, 0, q, ai, a, ha, hk, hle => by
    simp only [List.getElem?_cons_zero, Option.some.injEq] at ha hk
    subst ha; subst hk
    simp only [List.set_cons_zero, argProd, List.zip_cons_cons, List.map_cons, List.prod_cons]
    exact Rat.mul_le_mul_of_nonneg_right hle (argProd_nonneg G tags h ra ks)
  | a0 :: ra, k :: ks, i + 1, q, ai, a, ha, hk, hle => by
    simp only [List.getElem?_cons_succ] at ha hk
    simp only [List.set_cons_succ, argProd, List.zip_cons_cons, List.map_cons, List.prod_cons]
    exact Rat.mul_le_mul_of_nonneg_left (argProd_set_le G tags h ra ks i q ai a ha hk hle)
      (prob_nonneg G tags h k (argNT a0))

theorem prob_set_le (G : TT S Unit) (tags : Tags S Unit) (h : WNonneg tags) (nt : NT S Unit) (F : Sym)
    (ra : List (Ty × S)) (args : List Prog) (i : Nat) (q ai : Prog) (a : Ty × S)
    (hr : G.rule? nt F = some (ra, ())) (hg : genList G args ra = true)
    (ha : ra[i]? = some a) (hai : args[i]? = some ai) (hq : gen G q (argNT a) = true)
    (hle : prob G tags q (argNT a) ≤ prob G tags ai (argNT a)) :
    prob G tags (.node F (args.set i q)) nt ≤ prob G tags (.node F args) nt := by
  rw [prob_node G tags nt F ra args hr hg,
    prob_node G tags nt F ra (args.set i q) hr (genList_set G args ra i q a hg ha hq)]
  exact Rat.mul_le_mul_of_nonneg_left (argProd_set_le G tags h ra args i q ai a ha hai hle) (h nt F)

/-! ### `prioSpec` with `probOps` is the probability (`PS.G.prob`: product of the rule weights along the derivation) -/

theorem weight_of_ruleW (E : Env S Unit Rat) (nt : NT S Unit) (F : Sym) (w : Rat) (h : ruleW E nt F = some w) :
    weight E.W nt F = w := by
  rw [weight, tagOf_eq_lookup₂, ← ruleW_eq_lookup₂, h]
  rfl

mutual
  theorem prioSpec_prob (E : Env S Unit Rat) (t : Rat) (hops : E.ops = probOps t) :
      ∀ (p : Prog) (nt : NT S Unit) (v : Rat), gen E.G p nt = true → prioSpec E p nt = some v →
        v = prob E.G E.W p nt
    | .node F kids, nt, v, hg, h => by
      rw [prioSpec] at h
      rw [gen] at hg
      cases hw : ruleW E nt F with
      | none => simp [hw] at h
      | some w =>
        cases hr : E.G.rule? nt F with
        | none => simp [hr] at hg
        | some rl =>
          obtain ⟨ra, u⟩ := rl
          cases u
          simp only [hw, hr] at h hg
          rw [prob_node E.G E.W nt F ra kids hr hg, weight_of_ruleW E nt F w hw]
          have := prioList_prob E t hops kids ra (E.ops.ofRule w) v hg h
          rw [this, hops]; rfl
  theorem prioList_prob (E : Env S Unit Rat) (t : Rat) (hops : E.ops = probOps t) :
      ∀ (ks : List Prog) (as : List (Ty × S)) (acc v : Rat), genList E.G ks as = true →
        prioList E ks as acc = some v →
        v = acc * ((as.zip ks).map (fun p => prob E.G E.W p.2 (argNT p.1))).prod
    | [], [], acc, v, _, h => by
      simp only [prioList, Option.some.injEq] at h
      subst h; simp [Rat.mul_one]
    | [], _ :: _, _, _, hg, _ => by simp [genList] at hg
    | _ :: _, [], _, _, hg, _ => by simp [genList] at hg
    | k :: ks, (t0, s0) :: as, acc, v, hg, h => by
      simp only [genList, Bool.and_eq_true] at hg
      rw [prioList] at h
      cases hk : prioSpec E k (argNT (t0, s0)) with
      | none => simp [hk] at h
      | some pk =>
        simp only [hk] at h
        have h1 := prioSpec_prob E t hops k (argNT (t0, s0)) pk hg.1 hk
        have h2 := prioList_prob E t hops ks as _ v hg.2 h
        rw [h2, h1, hops]
        simp only [List.zip_cons_cons, List.map_cons, List.prod_cons]
        show acc * prob E.G E.W k (argNT (t0, s0)) * _ = _
        rw [Rat.mul_assoc]
end

end PS.HS
