/- Heap search with rule weights in [0, 1] satisfies `SubOK`: a program is not more probable than its arguments.
   Bucket search (tuples of one length, pointwise addition, lexicographic order) is an instance of `MonoOps`. -/
import PS.Proofs.Enum.GFrontier
import PS.Proofs.Enum.HeapSearch
import PS.Proofs.Enum.GLawOps
namespace PS.HG
open PS PS.G PS.HS
set_option linter.unusedSectionVars false
variable {S π : Type} [DecidableEq S]

def WUnit (E : Env S Unit π) : Prop := ∀ nt F w, ruleW E nt F = some w → 0 ≤ w ∧ w ≤ 1

mutual
  theorem prioSpec_unit (E : Env S Unit Rat) (t : Rat) (hops : E.ops = probOps t) (hw : WUnit E) :
      ∀ (p : Prog) (nt : NT S Unit) (v : Rat), prioSpec E p nt = some v → 0 ≤ v ∧ v ≤ 1
    | .node F kids, nt, v, h => by
      rw [prioSpec] at h
      cases hwv : ruleW E nt F with
      | none => simp [hwv] at h
      | some w =>
        cases hr : E.G.rule? nt F with
        | none => simp [hwv, hr] at h
        | some rl =>
          obtain ⟨ra, u⟩ := rl
          simp only [hwv, hr] at h
          have hw0 := hw nt F w hwv
          have hof : E.ops.ofRule w = w := by rw [hops]; rfl
          rw [hof] at h
          obtain ⟨a, b, _⟩ := prioList_unit E t hops hw kids ra w v hw0.1 h
          exact ⟨a, Rat.le_trans b hw0.2⟩
  theorem prioList_unit (E : Env S Unit Rat) (t : Rat) (hops : E.ops = probOps t) (hw : WUnit E) :
      ∀ (ks : List Prog) (ra : List (Ty × S)) (acc v : Rat), 0 ≤ acc → prioList E ks ra acc = some v →
        0 ≤ v ∧ v ≤ acc ∧ (acc ≤ 1 → ∀ (i : Nat) ai a pa, ks[i]? = some ai → ra[i]? = some a →
          prioSpec E ai (argNT a) = some pa → v ≤ pa)
    | [], [], acc, v, ha, h => by
      simp only [prioList, Option.some.injEq] at h; subst h
      exact ⟨ha, Rat.le_refl, fun _ i ai a pa hk => by simp at hk⟩
    | [], _ :: _, _, _, _, h => by simp [prioList] at h
    | _ :: _, [], _, _, _, h => by simp [prioList] at h
    | k :: ks, a0 :: as, acc, v, ha, h => by
      rw [prioList] at h
      cases hk : prioSpec E k (argNT a0) with
      | none => simp [hk] at h
      | some pk =>
        simp only [hk] at h
        obtain ⟨k0, k1⟩ := prioSpec_unit E t hops hw k _ pk hk
        have hc : E.ops.combine acc pk = acc * pk := by rw [hops]; rfl
        rw [hc] at h
        have hacc' : 0 ≤ acc * pk := Rat.mul_nonneg ha k0
        have hle' : acc * pk ≤ acc := by
          have := Rat.mul_le_mul_of_nonneg_left k1 ha
          rwa [Rat.mul_one] at this
        obtain ⟨r0, r1, r2⟩ := prioList_unit E t hops hw ks as (acc * pk) v hacc' h
        refine ⟨r0, Rat.le_trans r1 hle', ?_⟩
        intro hacc1 i ai a pa hki hai hpa
        cases i with
        | zero =>
          simp only [List.getElem?_cons_zero, Option.some.injEq] at hki hai
          subst hki; subst hai
          rw [hk] at hpa; cases hpa
          have : acc * pk ≤ pk := by
            have := Rat.mul_le_mul_of_nonneg_right hacc1 k0
            rwa [Rat.one_mul] at this
          exact Rat.le_trans r1 this
        | succ i =>
          simp only [List.getElem?_cons_succ] at hki hai
          exact r2 (Rat.le_trans hle' hacc1) i ai a pa hki hai hpa
end

theorem subOK_prob (E : Env S Unit Rat) (t : Rat) (hops : E.ops = probOps t) (hw : WUnit E) : SubOK E := by
  right
  intro nt F ra args pF i ai a pa hr hpF hai hra hpa
  rw [prioSpec] at hpF
  cases hwv : ruleW E nt F with
  | none => simp [hwv] at hpF
  | some w =>
    simp only [hwv, hr] at hpF
    have hw0 := hw nt F w hwv
    have hof : E.ops.ofRule w = w := by rw [hops]; rfl
    rw [hof] at hpF
    have := (prioList_unit E t hops hw args ra w pF hw0.1 hpF).2.2 hw0.2 i ai a pa hai hra hpa
    rw [hops]
    simp only [probOps, decide_eq_false_iff_not, Rat.not_lt]
    exact this

theorem monoOps_bucket (E : Env S Unit Bucket) (size : Nat) (hops : E.ops = bucketOps size) :
    MonoOps E (fun b => b.length = size) := by
  refine ⟨?_, ?_, ?_, ?_⟩
  · intro nt F w _; rw [hops]; exact Bucket.ofProb_length size w
  · intro a b ha hb; rw [hops]
    show (Bucket.add a b).length = size
    unfold Bucket.add
    rw [List.length_zipWith, ha, hb, Nat.min_self]
  · intro a b c ha hb hc h
    rw [hops] at h ⊢
    show Bucket.lt (Bucket.add a c) (Bucket.add b c) = false
    rw [Bucket.add_lt_iff a b c (ha.trans hb.symm) (hb.trans hc.symm)]
    exact h
  · intro a b c ha hb hc h
    rw [hops] at h ⊢
    show Bucket.lt (Bucket.add c a) (Bucket.add c b) = false
    rw [Bucket.add_comm c a, Bucket.add_comm c b, Bucket.add_lt_iff a b c (ha.trans hb.symm) (hb.trans hc.symm)]
    exact h

end PS.HG
