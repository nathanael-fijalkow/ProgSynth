/- The cost lists `_cost_lists_derivation[args]` only grow by appending (`CMono`): a hypothesis that they are sorted is needed
   for the final state only. -/
import PS.Proofs.Enum.CDSorted
import PS.Proofs.Enum.HeapInv
import PS.Proofs.Enum.CDGMachine
namespace PS.CD

def CMono {α : Type} (s s' : St α) : Prop :=
  ∀ args cl, AList.lookup args s.costDer = some cl → ∃ cl', AList.lookup args s'.costDer = some cl' ∧ cl <+: cl'

theorem CMono.refl {α : Type} (s : St α) : CMono s s := fun _ cl h => ⟨cl, h, List.prefix_refl _⟩
theorem CMono.trans {α : Type} {s1 s2 s3 : St α} (h1 : CMono s1 s2) (h2 : CMono s2 s3) : CMono s1 s3 := by
  intro a cl h
  obtain ⟨cl2, a2, p2⟩ := h1 a cl h
  obtain ⟨cl3, a3, p3⟩ := h2 a cl2 a2
  exact ⟨cl3, a3, p2.trans p3⟩
theorem CMono.of_eq {α : Type} {s s' : St α} (h : s'.costDer = s.costDer) : CMono s s' := by
  intro a cl hl; exact ⟨cl, by rw [h]; exact hl, List.prefix_refl _⟩

theorem cmono_append {α : Type} {s : St α} {args : List NT} {cl2 : List α} (x : α)
    (h : AList.lookup args s.costDer = some cl2) : CMono s (s.setCostDer args (cl2 ++ [x])) := by
  intro a cl hl
  by_cases he : a = args
  · subst he
    rw [h] at hl; simp only [Option.some.injEq] at hl; subst hl
    exact ⟨cl2 ++ [x], by simp [St.setCostDer, AList.lookup_insert_self], List.prefix_append _ _⟩
  · exact ⟨cl, by simp only [St.setCostDer]; rw [AList.lookup_insert_ne _ _ he]; exact hl, List.prefix_refl _⟩

variable {α : Type}

theorem cmono_grows : Grows (α := α) CMono where
  same _ _ h := CMono.of_eq h
  trans := CMono.trans
  addDeleted s p := by obtain ⟨d, e⟩ := addDeleted_eq s p; rw [e]; exact CMono.of_eq rfl
  appendBank h := by obtain ⟨b, l, _, _, rfl⟩ := appendBank_eq h; exact CMono.of_eq rfl
  ensureBank h := by obtain ⟨b, rfl⟩ := ensureBank_eq h; exact CMono.of_eq rfl
  costDer x h := cmono_append x h

structure COk (E : Env α) (f : Nat) : Prop where
  resume : ∀ s fr r, resume E f s fr = some r → CMono s r.st
  drive : ∀ s fr s', drive E f s fr = some s' → CMono s s'
  queryList : ∀ s S ci s' ia r, queryList E f s S ci = some (s', ia, r) → CMono s s'
  argLoop : ∀ s cs ss ia agf acc s' ia' agf' acc', argLoop E f s cs ss ia agf acc = some (s', ia', agf', acc') → CMono s s'
  combLoop : ∀ s args ci c combs ns hg s' ns' hg', combLoop E f s args ci c combs ns hg = some (s', ns', hg') → CMono s s'
  queryDer : ∀ s args ci s' l, queryDer E f s args ci = some (s', l) → CMono s s'

theorem cok_all (E : Env α) (f : Nat) : COk E f :=
  have ⟨a, b, c, d, e, g⟩ := sound_rel (E := E) (f := f) CMono (Exec.grows cmono_grows)
  ⟨a, b, c, d, e, g⟩

end PS.CD
