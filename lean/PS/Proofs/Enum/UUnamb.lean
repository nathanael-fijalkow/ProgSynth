/- An unambiguous grammar (`U.unambiguousOn`: at most one derivation from at most one start symbol)
   has pairwise disjoint start languages; a bottom-up deterministic rule table (`BUDet`) is unambiguous. -/
import PS.Proofs.Enum.UBridge
namespace PS.UHS
open PS PS.G
set_option linter.unusedSectionVars false
variable {U π : Type} [DecidableEq U]

theorem two_le_flatMap_length {α β : Type} (f : α → List β) : ∀ (l : List α) (x y : α), x ∈ l → y ∈ l → x ≠ y →
    f x ≠ [] → f y ≠ [] → 2 ≤ (l.flatMap f).length := by
  intro l
  induction l with
  | nil => exact fun _ _ hx => nomatch hx
  | cons a l ih =>
    intro x y hx hy hne fx fy
    have one : ∀ z, z ∈ l → f z ≠ [] → 1 ≤ (l.flatMap f).length := by
      intro z hz hfz
      obtain ⟨b, hb⟩ := List.exists_mem_of_ne_nil _ hfz
      exact List.length_pos_of_mem (List.mem_flatMap.mpr ⟨z, hz, hb⟩)
    simp only [List.flatMap_cons, List.length_append]
    rcases List.mem_cons.mp hx with rfl | hx'
    · rcases List.mem_cons.mp hy with rfl | hy'
      · exact absurd rfl hne
      · have := one y hy' fy
        have := List.length_pos_iff.mpr fx
        omega
    · rcases List.mem_cons.mp hy with rfl | hy'
      · have := one x hx' fx
        have := List.length_pos_iff.mpr fy
        omega
      · have := ih x y hx' hy' hne fx fy
        omega

theorem sdisj_of_unambiguous (E : Env U π) (d : UNT U)
    (h : ∀ p, PS.U.unambiguousOn (E.G.toUCFG d) p = true) : SDisj E := by
  intro p nt nt' hd hd' hs hs'
  apply Classical.byContradiction
  intro hne
  have hu := h p
  unfold PS.U.unambiguousOn PS.U.allDerivs at hu
  simp only [decide_eq_true_eq] at hu
  have h1 : nt ∈ (E.G.toUCFG d).starts := (startW_some_iff E nt).mp hs
  have h2 : nt' ∈ (E.G.toUCFG d).starts := (startW_some_iff E nt').mp hs'
  have := two_le_flatMap_length (fun s => (PS.U.derivs (E.G.toUCFG d) p s).map (fun d => (s, d)))
    (E.G.toUCFG d).starts nt nt' h1 h2 hne
    (by simpa using (der_iff_derivs E d p nt).mp hd) (by simpa using (der_iff_derivs E d p nt').mp hd')
  omega

/-- the rule table is bottom-up deterministic (the shape produced by `UCFG.from_DFTA`): a symbol and
    a vector of argument non-terminals determine the non-terminal -/
def BUDet (E : Env U π) : Prop :=
  ∀ nt nt' F v w w', (v, w) ∈ altsOf E nt F → (v, w') ∈ altsOf E nt' F → nt = nt'

theorem der_unique_both (E : Env U π) (hdet : BUDet E) :
    (∀ (p : Prog) (nt nt' : UNT U), Der E p nt → Der E p nt' → nt = nt') ∧
    ∀ (ks : List Prog) (v v' : List (UNT U)), DerList E ks v → DerList E ks v' → v = v' := by
  refine Tree.ind₂ (fun F kids ih nt nt' h h' => ?_) (fun v v' h h' => ?_) (fun k ks ihk ihks v v' h h' => ?_)
  · obtain ⟨v, w, hm, hl⟩ := (der_node E F kids nt).mp h
    obtain ⟨v', w', hm', hl'⟩ := (der_node E F kids nt').mp h'
    cases ih v v' hl hl'
    exact hdet nt nt' F v w w' hm hm'
  · cases v with
    | nil => cases v' with
      | nil => rfl
      | cons _ _ => exact False.elim h'
    | cons _ _ => exact False.elim h
  · cases v with
    | nil => exact False.elim h
    | cons a as => cases v' with
      | nil => exact False.elim h'
      | cons a' as' => rw [ihk a a' h.1 h'.1, ihks as as' h.2 h'.2]

theorem der_unique (E : Env U π) (hdet : BUDet E) : ∀ (p : Prog) (nt nt' : UNT U), Der E p nt → Der E p nt' → nt = nt' :=
  (der_unique_both E hdet).1

theorem derList_unique (E : Env U π) (hdet : BUDet E) : ∀ (ks : List Prog) (v v' : List (UNT U)),
    DerList E ks v → DerList E ks v' → v = v' :=
  (der_unique_both E hdet).2

theorem sdisj_of_budet (E : Env U π) (hdet : BUDet E) : SDisj E :=
  fun p nt nt' h h' _ _ => der_unique E hdet p nt nt' h h'

def budetB (G : UG U) : Bool :=
  G.rules.all (fun r => G.rules.all (fun r' => r.2.all (fun a => r'.2.all (fun a' =>
    decide (a.1 = a'.1) → a.2.all (fun x => a'.2.all (fun y => decide (x.1 = y.1) → decide (r.1 = r'.1)))))))

theorem budet_of_check (E : Env U π) (h : budetB E.G = true) : BUDet E := by
  intro nt nt' F v w w' hm hm'
  obtain ⟨rs, h1, a, h2, h3⟩ := altsOf_mem E nt F _ hm
  obtain ⟨rs', h1', a', h2', h3'⟩ := altsOf_mem E nt' F _ hm'
  have r1 := List.all_eq_true.mp h (nt, rs) h1
  have r2 := List.all_eq_true.mp r1 (nt', rs') h1'
  have r3 := List.all_eq_true.mp r2 (F, a) h2
  have r4 := List.all_eq_true.mp r3 (F, a') h2'
  simp only [decide_true, Bool.decide_eq_true, forall_const] at r4
  have r5 := List.all_eq_true.mp r4 (v, w) h3
  have r6 := List.all_eq_true.mp r5 (v, w') h3'
  simpa using r6

theorem flatMap_length_le_one {α β : Type} (f : α → List β) : ∀ (l : List α), l.Nodup → (∀ x, x ∈ l → (f x).length ≤ 1) →
    (∀ x y, x ∈ l → y ∈ l → f x ≠ [] → f y ≠ [] → x = y) → (l.flatMap f).length ≤ 1 := by
  intro l
  induction l with
  | nil => exact fun _ _ _ => Nat.zero_le _
  | cons a l ih0 =>
    intro hnd h1 h2
    simp only [List.flatMap_cons, List.length_append]
    have ih := ih0 (List.nodup_cons.mp hnd).2 (fun x hx => h1 x (List.mem_cons_of_mem _ hx))
      (fun x y hx hy => h2 x y (List.mem_cons_of_mem _ hx) (List.mem_cons_of_mem _ hy))
    have ha := h1 a List.mem_cons_self
    by_cases hfa : f a = []
    · rw [hfa]; simpa using ih
    · have : l.flatMap f = [] := by
        rw [List.flatMap_eq_nil_iff]
        intro x hx
        apply Classical.byContradiction
        intro hfx
        have := h2 a x List.mem_cons_self (List.mem_cons_of_mem _ hx) hfa hfx
        subst this
        exact (List.nodup_cons.mp hnd).1 hx
      rw [this]; simpa using ha

theorem alts?_nodup (E : Env U π) (d : UNT U) (hkeys : ∀ nt F, ((altsOf E nt F).map (·.1)).Nodup) (nt : UNT U) (F : Sym)
    (cands : List (List (UNT U))) (hc : (E.G.toUCFG d).alts? nt F = some cands) : cands.Nodup := by
  rw [alts?_toUCFG] at hc
  have := hkeys nt F
  unfold altsOf at this
  cases hl : AList.lookup nt E.G.rules with
  | none => simp [hl] at hc
  | some rs =>
    simp only [hl] at hc this
    cases hl2 : AList.lookup F rs with
    | none => simp [hl2] at hc
    | some a =>
      simp only [hl2, Option.map_some, Option.some.injEq, Option.getD_some] at hc this
      rw [← hc]; exact this

theorem derivs_length_le_one_both (E : Env U π) (d : UNT U) (hdet : BUDet E)
    (hkeys : ∀ nt F, ((altsOf E nt F).map (·.1)).Nodup) :
    (∀ (p : Prog) (nt : UNT U), (PS.U.derivs (E.G.toUCFG d) p nt).length ≤ 1) ∧
    ∀ (ks : List Prog) (v : List (UNT U)), (PS.U.derivsList (E.G.toUCFG d) ks v).length ≤ 1 := by
  refine Tree.ind₂ (fun F kids ih nt => ?_) (fun v => ?_) (fun k ks ihk ihks v => ?_)
  · rw [PS.U.derivs]
    cases hc : (E.G.toUCFG d).alts? nt F with
    | none => simp
    | some cands =>
      simp only
      apply flatMap_length_le_one _ cands (alts?_nodup E d hkeys nt F cands hc)
      · intro v _
        rw [List.length_map]
        exact ih v
      · intro v v' _ _ h1 h2
        have e1 : PS.U.derivsList (E.G.toUCFG d) kids v ≠ [] := by intro e; apply h1; rw [e]; rfl
        have e2 : PS.U.derivsList (E.G.toUCFG d) kids v' ≠ [] := by intro e; apply h2; rw [e]; rfl
        exact derList_unique E hdet kids v v' ((derList_iff_derivsList E d kids v).mpr e1)
          ((derList_iff_derivsList E d kids v').mpr e2)
  · cases v <;> simp [PS.U.derivsList]
  · cases v with
    | nil => simp [PS.U.derivsList]
    | cons a as =>
      rw [PS.U.derivsList]
      have h2 := ihks as
      match hd : PS.U.derivs (E.G.toUCFG d) k a, ihk a with
      | [], _ => simp
      | [x], _ =>
        simp only [List.flatMap_cons, List.flatMap_nil, List.append_nil, List.length_map]
        exact h2

theorem derivs_length_le_one (E : Env U π) (d : UNT U) (hdet : BUDet E)
    (hkeys : ∀ nt F, ((altsOf E nt F).map (·.1)).Nodup) : ∀ (p : Prog) (nt : UNT U),
    (PS.U.derivs (E.G.toUCFG d) p nt).length ≤ 1 :=
  (derivs_length_le_one_both E d hdet hkeys).1

theorem derivsList_length_le_one (E : Env U π) (d : UNT U) (hdet : BUDet E)
    (hkeys : ∀ nt F, ((altsOf E nt F).map (·.1)).Nodup) : ∀ (ks : List Prog) (v : List (UNT U)),
    (PS.U.derivsList (E.G.toUCFG d) ks v).length ≤ 1 :=
  (derivs_length_le_one_both E d hdet hkeys).2

theorem unambiguous_of_budet (E : Env U π) (d : UNT U) (hdet : BUDet E)
    (hkeys : ∀ nt F, ((altsOf E nt F).map (·.1)).Nodup) (hstarts : (E.G.starts.map (·.1)).Nodup) (p : Prog) :
    PS.U.unambiguousOn (E.G.toUCFG d) p = true := by
  unfold PS.U.unambiguousOn PS.U.allDerivs
  simp only [decide_eq_true_eq]
  apply flatMap_length_le_one _ _ hstarts
  · intro nt _
    rw [List.length_map]
    exact derivs_length_le_one E d hdet hkeys p nt
  · intro nt nt' _ _ h1 h2
    have e1 : PS.U.derivs (E.G.toUCFG d) p nt ≠ [] := by intro e; apply h1; rw [e]; rfl
    have e2 : PS.U.derivs (E.G.toUCFG d) p nt' ≠ [] := by intro e; apply h2; rw [e]; rfl
    exact der_unique E hdet p nt nt' ((der_iff_derivs E d p nt).mpr e1) ((der_iff_derivs E d p nt').mpr e2)

end PS.UHS
