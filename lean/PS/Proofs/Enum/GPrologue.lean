/- The prologue of `generator()` up to the first queries (`preHeaps`: max-priority phase, then `__init_heap__`): with
   enough fuel it returns (`preHeaps_total`); for every fuel the state it builds satisfies the quiescent invariants but
   for `HeapStarted` (`preHeaps_quiet`). Any priority type, with threshold. -/
import PS.Proofs.Enum.GInitTotal
namespace PS.HG
open PS PS.G PS.HS
set_option linter.unusedSectionVars false
variable {S π : Type} [DecidableEq S]

def RankLt (G : TT S Unit) (rank : NT S Unit → Nat) (Rall : Nat) : Prop :=
  ∀ nt, nt ∈ AList.keys G.rules → rank nt < Rall

/-- what holds of the tables between two outer calls of `__init_non_terminal__` (`_init` is empty) -/
structure MaxSt (E : Env S Unit π) (s : St S Unit π) : Prop where
  kinv : KInv E s
  minv : MInv E s
  cached : CachedM s
  noinit : s.initS = []

theorem maxSt_empty (E : Env S Unit π) : MaxSt E (St.empty E.G) :=
  ⟨kinv_empty E, (ginv_new E).2 rfl, cachedM_empty E, rfl⟩

theorem MaxSt.initNT {E : Env S Unit π} {rank} (H : InitHyp E rank) {fuel : Nat} {s s' : St S Unit π} {nt : NT S Unit}
    (hs : MaxSt E s) (h : initNT E fuel s nt = some s') : MaxSt E s' ∧ (MN s' nt).isSome = true ∧ Ext s s' := by
  obtain ⟨k, hsome⟩ := (init_K E rank H fuel).1 s nt s' hs.kinv hs.minv (by rw [hs.noinit]; intro x hx; cases hx) h
  exact ⟨⟨k.kinv, k.minv, ((init_cached E fuel).1 _ _ _ h hs.cached).1, k.init.trans hs.noinit⟩, hsome, k.ext⟩

theorem MaxSt.reevaluate {E : Env S Unit π} {rank} (H : InitHyp E rank) {fuel k : Nat} {s s' : St S Unit π}
    (hs : MaxSt E s) (h : reevaluate E fuel k s = some s') : MaxSt E s' :=
  reevaluate_rel (R := fun s s' => MaxSt E s → MaxSt E s') (fun _ h => h) (fun f g h => g (f h))
    (fun _ _ _ hi hs => (hs.initNT H hi).1) k s s' h hs

theorem initNT_top {E : Env S Unit π} {rank} {A Rm : Nat} (T : TotHyp E rank A Rm) {Rall : Nat}
    (hR : RankLt E.G rank Rall) (fuel : Nat) (hfuel : Rall * (A + Rm + 4) ≤ fuel)
    (s : St S Unit π) (hs : MaxSt E s) (nt : NT S Unit) (hnt : nt ∈ AList.keys E.G.rules) :
    ∃ s', initNT E fuel s nt = some s' ∧ MaxSt E s' ∧ (MN s' nt).isSome = true ∧ Ext s s' ∧ FrameT s s' := by
  have hrow := (AList.lookup_isSome_iff_mem_keys (k := nt) (d := E.G.rules)).mpr hnt
  obtain ⟨s', h⟩ := initNT_total T Rall nt (hR nt hnt) fuel hfuel s hs.kinv hs.minv hs.cached hrow
    (by rw [hs.noinit]; intro x hx; cases hx)
  obtain ⟨hs', hsome, hx⟩ := hs.initNT T.init h
  exact ⟨s', h, hs', hsome, hx, (init_frame E fuel).1 _ _ _ h⟩

theorem reevalPass_total {E : Env S Unit π} {rank} {A Rm : Nat} (T : TotHyp E rank A Rm) {Rall : Nat}
    (hR : RankLt E.G rank Rall) (fuel : Nat) (hfuel : Rall * (A + Rm + 4) ≤ fuel) :
    ∀ (nts : List (NT S Unit)), (∀ nt ∈ nts, nt ∈ AList.keys E.G.rules) → ∀ (s : St S Unit π) (ch : Bool),
      MaxSt E s → ∃ s' ch', reevalPass E fuel nts s ch = some (s', ch') ∧ MaxSt E s' ∧ Ext s s' ∧ FrameT s s' ∧
        ∀ nt ∈ nts, (MN s' nt).isSome = true := by
  intro nts
  induction nts with
  | nil => intro _ s ch hs; exact ⟨s, ch, rfl, hs, Ext.refl _, FrameT.refl _, by intro nt hm; cases hm⟩
  | cons nt rest ih =>
    intro hk s ch hs
    obtain ⟨s1, h1, hs1, hsome, hx1, hf1⟩ := initNT_top T hR fuel hfuel s hs nt (hk nt (List.mem_cons_self))
    obtain ⟨s', ch', h2, hs', hx2, hf2, hall⟩ := ih (fun x hx => hk x (List.mem_cons_of_mem _ hx)) s1
      (ch || (AList.lookup nt s1.maxNT).isNone || decide (AList.lookup nt s.maxNT ≠ AList.lookup nt s1.maxNT)) hs1
    refine ⟨s', ch', ?_, hs', hx1.trans hx2, hf1.trans hf2, ?_⟩
    · unfold reevalPass; rw [h1]; exact h2
    · intro x hx
      rcases List.mem_cons.mp hx with rfl | hx
      · exact hx2.isSome_MN hsome
      · exact hall x hx

theorem reevalPass_done {E : Env S Unit π} (fuel : Nat) (hf : 1 ≤ fuel) :
    ∀ (nts : List (NT S Unit)) (s : St S Unit π) (ch : Bool), KInv E s → s.initS = [] →
      (∀ nt ∈ nts, (MN s nt).isSome = true ∧ (AList.lookup nt E.G.rules).isSome = true) →
      reevalPass E fuel nts s ch = some (s, ch) := by
  intro nts
  induction nts with
  | nil => intro s ch _ _ _; rfl
  | cons nt rest ih =>
    intro s ch hk hinit hall
    obtain ⟨hsome, hrow⟩ := hall nt (List.mem_cons_self)
    obtain ⟨f', rfl⟩ : ∃ f', fuel = f' + 1 := ⟨fuel - 1, by omega⟩
    obtain ⟨m, hm⟩ := Option.isSome_iff_exists.mp hsome
    obtain ⟨rs, hrs⟩ := Option.isSome_iff_exists.mp hrow
    have hi : initNT E (f' + 1) s nt = some s := initNT_succ_iff.mpr (Or.inr ⟨by rw [hinit]; exact List.not_mem_nil, rs, hrs,
      Or.inl ⟨List.all_eq_true.mpr fun r hr => (hk.best nt rs m hrs hm).1 r.1 (List.mem_map.mpr ⟨r, hr, rfl⟩), rfl⟩⟩)
    unfold reevalPass
    rw [hi]
    simp only
    rw [show (ch || (AList.lookup nt s.maxNT).isNone || decide (AList.lookup nt s.maxNT ≠ AList.lookup nt s.maxNT)) = ch by
      rw [show AList.lookup nt s.maxNT = some m from hm]; simp]
    exact ih s ch hk hinit (fun x hx => hall x (List.mem_cons_of_mem _ hx))

theorem reevaluate_total {E : Env S Unit π} {rank} {A Rm : Nat} (T : TotHyp E rank A Rm) {Rall : Nat}
    (hR : RankLt E.G rank Rall) (fuel : Nat) (hfuel : Rall * (A + Rm + 4) ≤ fuel) (hf1 : 1 ≤ fuel)
    (k : Nat) (hk : 2 ≤ k) (s : St S Unit π) (hs : MaxSt E s) :
    ∃ s', reevaluate E fuel k s = some s' ∧ MaxSt E s' ∧ FrameT s s' ∧
      ∀ nt ∈ AList.keys E.G.rules, (MN s' nt).isSome = true := by
  obtain ⟨s1, ch, h1, hs1, _, hf1', hall1⟩ := reevalPass_total T hR fuel hfuel (AList.keys E.G.rules) (fun _ h => h) s false hs
  obtain ⟨k', rfl⟩ : ∃ k', k = k' + 1 := ⟨k - 1, by omega⟩
  unfold reevaluate
  rw [h1]
  cases ch with
  | false => exact ⟨s1, rfl, hs1, hf1', hall1⟩
  | true =>
    -- hence `2 ≤ k`: a second pass, over non-terminals that are all initialised, changes nothing
    simp only
    obtain ⟨k'', rfl⟩ : ∃ k'', k' = k'' + 1 := ⟨k' - 1, by omega⟩
    have h2 := reevalPass_done (E := E) fuel hf1 (AList.keys E.G.rules) s1 false hs1.kinv hs1.noinit
      (fun nt hnt => ⟨hall1 nt hnt, (AList.lookup_isSome_iff_mem_keys (k := nt) (d := E.G.rules)).mpr hnt⟩)
    unfold reevaluate
    rw [h2]
    exact ⟨s1, rfl, hs1, hf1', hall1⟩

theorem initHeapLoop_total (E : Env S Unit π) (hw : WTotal E)
    (s0 : St S Unit π) (hk : KInv E s0) (hm0 : MInv E s0) (nt : NT S Unit) (rs : AList Sym (List (Ty × S) × Unit))
    (hrs : AList.lookup nt E.G.rules = some rs) (hnd : (AList.keys rs).Nodup)
    (hpres : ∀ P ∈ AList.keys rs, (MR s0 nt P).isSome = true) :
    ∀ (Ps processed : List Sym), AList.keys rs = processed ++ Ps → ∀ (s : St S Unit π),
      s.maxRule = s0.maxRule →
      (∀ p ∈ s.seenOf nt, ∃ Q ∈ processed, MR s0 nt Q = some p) →
      CMono s0 s → ArgsCached E s0 →
      ∃ s', initHeapLoop E nt Ps s = some s' := by
  intro Ps
  induction Ps with
  | nil =>
    intro processed _ s _ _ _ _
    exact ⟨s, rfl⟩
  | cons P rest ih =>
    intro processed hsplit s hm hseen hc hac
    have hPk : P ∈ AList.keys rs := by rw [hsplit]; simp
    have hPnp : P ∉ processed := by
      rw [hsplit] at hnd
      intro hmem
      exact (List.nodup_append.mp hnd).2.2 P hmem P (List.mem_cons_self) rfl
    have hrule : ∀ Q ∈ AList.keys rs, ∃ ra, E.G.rule? nt Q = some (ra, ()) := by
      intro Q hQ
      have := (AList.lookup_isSome_iff_mem_keys (k := Q) (d := rs)).mpr hQ
      cases hl : AList.lookup Q rs with
      | none => rw [hl] at this; cases this
      | some rl =>
        obtain ⟨ra, u⟩ := rl
        cases u
        exact ⟨ra, (TT.rule?_of_lookup hrs _).trans hl⟩
    obtain ⟨prog, hmr⟩ := Option.isSome_iff_exists.mp (hpres P hPk)
    obtain ⟨ra, hr⟩ := hrule P hPk
    obtain ⟨ms, hms, _⟩ := hk.sync nt P prog ra hmr hr
    have hlk : AList.lookup (nt, P) s.maxRule = some prog := by rw [hm]; exact hmr
    -- the `assert` of `__init_heap__` holds: the programs recorded for two rules of the row differ in their head symbol
    -- (`sync`), and the rule names of a row are distinct; `processed` is carried along for this step alone
    have hnotseen : prog ∉ s.seenOf nt := by
      intro hcc
      obtain ⟨Q, hQ, hQm⟩ := hseen prog hcc
      have hQk : Q ∈ AList.keys rs := by rw [hsplit]; exact List.mem_append_left _ hQ
      obtain ⟨raQ, hrQ⟩ := hrule Q hQk
      obtain ⟨msQ, hmsQ, _⟩ := hk.sync nt Q prog raQ hQm hrQ
      rw [hms] at hmsQ
      cases hmsQ
      exact hPnp hQ
    -- `compute_priority` succeeds: the arguments are memoised
    have hg := hm0.rule_gen nt P prog hmr
    have hgl : genList E.G ms ra = true := by rw [hms, gen, hr] at hg; exact hg
    obtain ⟨⟨c', v⟩, hcp⟩ := computePrio_total E hw s.cache nt P ms ra hr hgl
      (fun j kj aj hkj haj => hc _ (hac nt P prog hmr P ms ra hms hr j kj aj hkj haj))
    rw [← hms] at hcp
    have f1 := pushNew_frame E s nt prog
    obtain ⟨s', h'⟩ := ih (processed ++ [P]) (by rw [hsplit]; simp) (pushNew E s nt prog)
      (f1.maxRule.trans hm)
      (by
        intro p hp'
        rcases mem_seenOf_pushNew.mp hp' with hold | ⟨-, rfl⟩
        · obtain ⟨Q, hQ, hQm⟩ := hseen p hold
          exact ⟨Q, List.mem_append_left _ hQ, hQm⟩
        · exact ⟨P, by simp, hmr⟩)
      (hc.trans f1.cache) hac
    exact ⟨s', initHeapLoop_cons.mpr ⟨prog, hlk, hnotseen, by rw [hcp]; rfl, h'⟩⟩

theorem initHeaps_total (E : Env S Unit π) {rank : NT S Unit → Nat} (H : InitHyp E rank) (hw : WTotal E)
    (s0 : St S Unit π) (hk : KInv E s0) (hm0 : MInv E s0) (hac : ArgsCached E s0)
    (hdone : ∀ nt ∈ AList.keys E.G.rules, (MN s0 nt).isSome = true) :
    ∀ (rows : List (NT S Unit × AList Sym (List (Ty × S) × Unit))), (AList.keys rows).Nodup →
      (∀ nt rs, (nt, rs) ∈ rows → AList.lookup nt E.G.rules = some rs) → ∀ (s : St S Unit π),
      s.maxRule = s0.maxRule → (∀ nt rs, (nt, rs) ∈ rows → s.seenOf nt = []) →
      (∀ key, (AList.lookup key s0.cache).isSome = true → (AList.lookup key s.cache).isSome = true) →
      ∃ s', initHeaps E rows s = some s' := by
  intro rows
  induction rows with
  | nil => intro _ _ s _ _ _; exact ⟨s, rfl⟩
  | cons row rest ih =>
    intro hnd hrows s hm hseen hc
    obtain ⟨nt, rs⟩ := row
    have hrs := hrows nt rs (List.mem_cons_self)
    have hntk : nt ∈ AList.keys E.G.rules := List.mem_map.mpr ⟨(nt, rs), AList.lookup_some_mem hrs, rfl⟩
    obtain ⟨m, hmn⟩ := Option.isSome_iff_exists.mp (hdone nt hntk)
    have hpres := (hk.best nt rs m hrs hmn).1
    obtain ⟨s1, h1⟩ := initHeapLoop_total E hw s0 hk hm0 nt rs hrs (H.rows nt rs hrs) hpres
      (AList.keys rs) [] rfl s hm (by rw [hseen nt rs (List.mem_cons_self)]; intro p hp; cases hp) hc hac
    obtain ⟨f1, a3⟩ := initHeapLoop_frame E nt _ _ _ h1
    simp only [AList.keys, List.map_cons, List.nodup_cons] at hnd
    obtain ⟨s', h'⟩ := ih hnd.2 (fun nt' rs' hmem => hrows nt' rs' (List.mem_cons_of_mem _ hmem)) s1
      (f1.maxRule.trans hm)
      (by
        intro nt' rs' hmem
        have hne : nt' ≠ nt := by
          intro heq; subst heq
          exact hnd.1 (List.mem_map.mpr ⟨(nt', rs'), hmem, rfl⟩)
        rw [(a3 nt' hne).2]
        exact hseen nt' rs' (List.mem_cons_of_mem _ hmem))
      (CMono.trans hc f1.cache)
    exact ⟨s', by unfold initHeaps; rw [h1]; exact h'⟩

theorem argsCached_of {E : Env S Unit π} {s : St S Unit π} (hk : KInv E s) (hc : CachedM s) : ArgsCached E s := by
  intro nt P prog hmr F args ra hp hr i ai a hai ha
  have hFP : F = P := by
    obtain ⟨raP, hrp⟩ := hk.has_rule nt P prog hmr
    obtain ⟨ms, hms, _⟩ := hk.sync nt P prog raP hmr hrp
    rw [hp] at hms
    cases hms; rfl
  subst hFP
  obtain ⟨ms, hms, hsync⟩ := hk.sync nt F prog ra hmr hr
  rw [hp] at hms
  cases hms
  exact hc.mn _ _ (hsync i a ai ha hai)

theorem preHeaps_total {E : Env S Unit π} {rank} {A Rm Rall : Nat} (T : TotHyp E rank A Rm) (hR : RankLt E.G rank Rall)
    (hkeys : (AList.keys E.G.rules).Nodup) (hstart : E.G.start ∈ AList.keys E.G.rules) (fuel : Nat)
    (hfuel : Rall * (A + Rm + 4) ≤ fuel) (hf2 : 2 ≤ fuel) :
    ∃ s3, preHeaps E fuel (St.empty E.G) = some s3 := by
  obtain ⟨s1, h1, hs1, _, _, hf1⟩ := initNT_top T hR fuel hfuel _ (maxSt_empty E) E.G.start hstart
  obtain ⟨s2, h2, hs2, hf2', hdone⟩ := reevaluate_total T hR fuel hfuel (by omega) fuel hf2 s1 hs1
  have hseen : ∀ nt, s2.seenOf nt = [] := fun nt =>
    ((hf1.trans hf2').seenOf nt).trans (St.seenOf_empty E.G nt)
  obtain ⟨s3, h3⟩ := initHeaps_total E T.init T.wtotal s2 hs2.kinv hs2.minv (argsCached_of hs2.kinv hs2.cached) hdone
    E.G.rules hkeys (fun nt rs hmem => AList.lookup_of_mem_nodup hkeys hmem) s2 rfl (fun nt _ _ => hseen nt)
    (fun _ h => h)
  exact ⟨s3, preHeaps_iff.mpr ⟨s1, s2, h1, h2, h3⟩⟩

/-- `Quiet` without `started` -/
structure Quiet0 (E : Env S Unit π) (H0 : NT S Unit → List (π × Prog)) (s : St S Unit π) : Prop where
  full : Full E H0 s
  tinv : TInv E H0 s
  cinv : CInv E s
  i3 : I3 E s
  init_seen : ∀ nt F ra, E.G.rule? nt F = some (ra, ()) →
    ∃ ms, Tree.node F ms ∈ s.seenOf nt ∧
      ∀ (i : Nat) a m, ra[i]? = some a → ms[i]? = some m → FP E H0 (argNT a) m
  del_rej : ∀ p ∈ s.deleted, E.filter p = false

theorem Quiet0.quiet {E : Env S Unit π} {H0} {s : St S Unit π} (q : Quiet0 E H0 s) (hs : HeapStarted s) : Quiet E H0 s :=
  ⟨q.full, q.tinv, q.cinv, q.i3, hs, q.init_seen, q.del_rej⟩

theorem base_quiet {E : Env S Unit π} {Good} (L : HeapLaw E Good) (hkeys : (AList.keys E.G.rules).Nodup)
    (s2 s3 : St S Unit π) (hk : KInv E s2) (hm : MInv E s2) (hcm : CachedM s2) (hs2 : SInv E s2) (hn2 : NInv s2)
    (hempty : ∀ nt, s2.heapOf nt = [] ∧ s2.seenOf nt = [] ∧ s2.succOf nt = [])
    (h : initHeaps E E.G.rules s2 = some s3) :
    Quiet0 E s3.heapOf s3 ∧ (∀ nt, AList.lookup nt E.G.rules = none → s3.heapOf nt = []) ∧ ∀ nt, s3.succOf nt = [] := by
  have hc2 : CInv E s2 := by
    refine ⟨?_, ?_, ?_, ?_, ?_⟩
    · intro nt p hp; rw [(hempty nt).2.1] at hp; cases hp
    · intro nt e he; rw [(hempty nt).1] at he; cases he
    · intro nt e he; rw [(hempty nt).1] at he; cases he
    · intro nt k v hkk; rw [(hempty nt).2.2] at hkk; simp at hkk
    · intro nt F args ra hp; rw [(hempty nt).2.1] at hp; cases hp
  obtain ⟨a1, a2, hc3⟩ := initHeaps_spec E _ _ _ hkeys hs2 hm hc2 (argsCached_of hk hcm) h
  have f3 := initHeaps_frame E _ _ _ h
  have hs3 := (initHeaps_sound E _ _ _ hs2 hm h).1
  have hn3 : NInvF s3 := NInvF.ofNInv (initHeaps_ninv E _ _ _ hn2 h).1
  have hdel3 : s3.deleted = [] := f3.deleted.trans hn2.no_deleted
  have hno_succ : ∀ nt, s3.succOf nt = [] := fun nt => (f3.succ nt).trans (hempty nt).2.2
  have hgoodent : ∀ nt Ps, ∀ e ∈ entries E s2 nt Ps, Good e.1 := by
    intro nt Ps e he
    obtain ⟨P, _, hP⟩ := mem_entries.mp he
    exact L.good _ _ _ (entry_eq_some.mp hP).2
  have hok_up : ∀ x y : π × Prog, Good x.1 → Good y.1 → pushOK E.ops x.1 = true → ltE E.ops x y = false →
      pushOK E.ops y.1 = true := fun x y hx hy hox hlt => L.pushOK_mono hx hy hlt hox
  have hrow : ∀ nt rs, AList.lookup nt E.G.rules = some rs →
      s3.heapOf nt = (pushed E s2 nt (AList.keys rs)).foldl (Heapq.push (ltE E.ops)) [] ∧
      s3.seenOf nt = (entries E s2 nt (AList.keys rs)).map (·.2) ∧
      (entries E s2 nt (AList.keys rs)).length = (AList.keys rs).length := by
    intro nt rs hl
    obtain ⟨b1, b2, b3⟩ := a1 nt rs (AList.lookup_some_mem hl)
    rw [(hempty nt).1] at b1
    rw [(hempty nt).2.1] at b2
    exact ⟨b1, by simpa using b2, b3⟩
  have hnorow : ∀ nt, AList.lookup nt E.G.rules = none → s3.heapOf nt = [] ∧ s3.seenOf nt = [] := by
    intro nt hl
    have hnk : nt ∉ AList.keys E.G.rules := by
      intro hmem
      have := (AList.lookup_isSome_iff_mem_keys (k := nt) (d := E.G.rules)).mpr hmem
      rw [hl] at this; cases this
    obtain ⟨b1, b2⟩ := a2 nt hnk
    exact ⟨b1.trans (hempty nt).1, b2.trans (hempty nt).2.1⟩
  have hpushed_good : ∀ nt Ps, ∀ e ∈ pushed E s2 nt Ps, Good e.1 :=
    fun nt Ps e he => hgoodent nt Ps e (List.mem_filter.mp he).1
  -- heaps are valid, and their first pop is `max_priority[S]`
  have hheapfacts : ∀ nt rs, AList.lookup nt E.G.rules = some rs →
      Heapq.IsHeap (ltE E.ops) (s3.heapOf nt) ∧
      (s3.heapOf nt).head? = ((entries E s2 nt (AList.keys rs)).foldl (Heapq.bestStep (ltE E.ops)) none).filter
        (fun e => pushOK E.ops e.1) := by
    intro nt rs hl
    obtain ⟨b1, _, _⟩ := hrow nt rs hl
    obtain ⟨c1, c2⟩ := Heapq.foldl_push_on L.ltE (pushed E s2 nt (AList.keys rs)) []
      (by intro y hy; cases hy) (hpushed_good nt _) (Heapq.isHeap_nil _)
    rw [b1]
    refine ⟨c2, ?_⟩
    rw [c1]
    have := foldl_bestStep_filter L.ltE (fun e : π × Prog => pushOK E.ops e.1) hok_up (entries E s2 nt (AList.keys rs)) none
      (hgoodent nt _) (by intro a ha; cases ha)
    simpa [pushed] using this
  have hh3 : HInv E s3 := by
    intro nt
    cases hl : AList.lookup nt E.G.rules with
    | none => rw [(hnorow nt hl).1]; exact Heapq.isHeap_nil _
    | some rs => exact (hheapfacts nt rs hl).1
  have hfp : ∀ c m, MN s2 c = some m → FP E s3.heapOf c m := by
    intro c m hmn e h' hp
    cases hlc : AList.lookup c E.G.rules with
    | none => rw [(hnorow c hlc).1] at hp; simp [Heapq.pop] at hp
    | some rsc =>
      obtain ⟨_, pr, hbest⟩ := hk.best c rsc m hlc hmn
      have hhead := Heapq.pop_head _ _ _ _ hp
      rw [(hheapfacts c rsc hlc).2, hbest] at hhead
      simp only [Option.filter] at hhead
      split at hhead
      · cases hhead; rfl
      · cases hhead
  have hargs_first : ∀ nt F args ra, Tree.node F args ∈ s3.seenOf nt → E.G.rule? nt F = some (ra, ()) →
      ∀ (i : Nat) ai a, args[i]? = some ai → ra[i]? = some a → FP E s3.heapOf (argNT a) ai := by
    intro nt F args ra hmem hr i ai a hai ha
    cases hl : AList.lookup nt E.G.rules with
    | none => rw [(hnorow nt hl).2] at hmem; cases hmem
    | some rs =>
      rw [(hrow nt rs hl).2.1] at hmem
      obtain ⟨ent, hent, hent2⟩ := List.mem_map.mp hmem
      obtain ⟨P, hPk, hP⟩ := mem_entries.mp hent
      have hent2 : ent.2 = .node F args := hent2
      obtain ⟨hmr, _⟩ := entry_eq_some.mp hP
      rw [hent2] at hmr
      obtain ⟨raP, hrP⟩ := hk.has_rule nt P _ hmr
      obtain ⟨ms', hms', _⟩ := hk.sync nt P _ raP hmr hrP
      have hF : F = P := by cases hms'; rfl
      subst hF
      obtain ⟨ms, hms, hsync⟩ := hk.sync nt F _ ra hmr hr
      cases hms
      exact hfp _ _ (hsync i a ai ha hai)
  have ho3 : OInv E s3.heapOf s3 := by
    refine ⟨?_, ?_, ?_, ?_, fun _ _ => rfl, Or.inl hdel3⟩
    · intro nt e _ k v pv hkk; rw [hno_succ] at hkk; simp at hkk
    · intro nt k v pk pv hkk; rw [hno_succ] at hkk; simp at hkk
    · intro nt k v hkk; rw [hno_succ] at hkk; simp at hkk
    · intro nt F args ra hmem hr i ai a hai ha
      exact Or.inr ⟨hno_succ _, hargs_first nt F args ra hmem hr i ai a hai ha⟩
  refine ⟨⟨⟨hs3, hn3, hh3, ho3⟩, ?_, hc3, ?_, ?_, ?_⟩, fun nt hl => (hnorow nt hl).1, hno_succ⟩
  · refine ⟨?_, ?_, ?_, ?_, ?_⟩
    · intro nt x v hkk; rw [hno_succ] at hkk; simp at hkk
    · intro nt hne; exact absurd (hno_succ nt) hne
    · intro nt hne; exact absurd (hno_succ nt) hne
    · intro nt k v hkk; rw [hno_succ] at hkk; simp at hkk
    · intro nt v hkk; rw [hno_succ] at hkk; simp at hkk
  · intro nt y hp
    rcases hp with ⟨k, hkk⟩ | ⟨_, _, hd, _⟩
    · rw [hno_succ] at hkk; simp at hkk
    · rw [hdel3] at hd; cases hd
  · intro nt F ra hr
    obtain ⟨rs, hl, hr'⟩ := TT.rule?_eq_some.mp hr
    have hFk : F ∈ AList.keys rs := List.mem_map.mpr ⟨(F, (ra, ())), AList.lookup_some_mem hr', rfl⟩
    obtain ⟨_, b2, b3⟩ := hrow nt rs hl
    obtain ⟨ent, hent⟩ := Option.isSome_iff_exists.mp (List.filterMap_length_eq_length.mp b3 F hFk)
    have hmemE : ent ∈ entries E s2 nt (AList.keys rs) := mem_entries.mpr ⟨F, hFk, hent⟩
    obtain ⟨ms, hms, _⟩ := hk.sync nt F _ ra (entry_eq_some.mp hent).1 hr
    have hin : Tree.node F ms ∈ s3.seenOf nt := by
      rw [b2]
      exact List.mem_map.mpr ⟨ent, hmemE, hms⟩
    exact ⟨ms, hin, fun i a m ha hmi => hargs_first nt F ms ra hin hr i m a hmi ha⟩
  · intro p hp; rw [hdel3] at hp; cases hp

theorem reevaluate_cached (E : Env S Unit π) (fuel : Nat) :
    ∀ (k : Nat) (s s' : St S Unit π), reevaluate E fuel k s = some s' → CachedM s → CachedM s' :=
  reevaluate_rel (R := fun s s' => CachedM s → CachedM s') (fun _ h => h) (fun f g h => g (f h))
    (fun _ _ _ hi hc => ((init_cached E fuel).1 _ _ _ hi hc).1)

/-- the state in which `generator()` calls `__init_heap__`: the tables are in sync and nothing is enumerated yet -/
theorem preHeaps_K (E : Env S Unit π) (rank : NT S Unit → Nat) (H : InitHyp E rank) (fuel : Nat) {s3 : St S Unit π}
    (h : preHeaps E fuel (St.empty E.G) = some s3) :
    ∃ s2, initHeaps E E.G.rules s2 = some s3 ∧ MaxSt E s2 ∧ SInv E s2 ∧ NInv s2 ∧
      ∀ nt, s2.heapOf nt = [] ∧ s2.seenOf nt = [] ∧ s2.succOf nt = [] := by
  obtain ⟨s1, s2, h1, h2, h⟩ := preHeaps_iff.mp h
  have ms1 := ((maxSt_empty E).initNT H h1).1
  have ms2 := ms1.reevaluate H h2
  have hf1 := (init_frame E fuel).1 _ _ _ h1
  have hf2 := reevaluate_frame E fuel _ _ _ h2
  have f := hf1.trans hf2
  exact ⟨s2, h, ms2, hf2.sinv (hf1.sinv (ginv_new E).1 ms1.minv.cache_ok) ms2.minv.cache_ok,
    hf2.ninv (hf1.ninv (ninv_empty E.G)), fun nt =>
      ⟨(f.heapOf nt).trans (St.heapOf_empty E.G nt), (f.seenOf nt).trans (St.seenOf_empty E.G nt),
        (f.succOf nt).trans (St.succOf_empty E.G nt)⟩⟩

theorem preHeaps_quiet {E : Env S Unit π} {rank} {Good} (L : HeapLaw E Good) (HI : InitHyp E rank)
    (hkeys : (AList.keys E.G.rules).Nodup) (fuel : Nat) :
    ∀ s3, preHeaps E fuel (St.empty E.G) = some s3 →
      Quiet0 E s3.heapOf s3 ∧ (∀ nt, AList.lookup nt E.G.rules = none → s3.heapOf nt = []) ∧ s3.deleted = [] ∧
      ∀ nt, s3.succOf nt = [] := by
  intro s3 h
  obtain ⟨s2, h, ms2, hs2, hn2, hempty⟩ := preHeaps_K E rank HI fuel h
  obtain ⟨b1, b2, b3⟩ := base_quiet L hkeys s2 s3 ms2.kinv ms2.minv ms2.cached hs2 hn2 hempty h
  exact ⟨b1, b2, (initHeaps_ninv E _ _ _ hn2 h).1.no_deleted, b3⟩

end PS.HG
