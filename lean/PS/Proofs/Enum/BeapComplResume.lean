/- Completeness of beap search: the induction over the machine.  `compl_runs` proves the five statements of
   BeapComplRun.lean (`QLK`, `RQK`, `DK`, `RK`, `AK`) together, by `run_induct`; it is the only induction over
   `_query_list_` / `query` in the completeness proof.  Before it come the three cases for `resume`, one step of
   `query`: `rk_yield` (a pending program is yielded), `rk_ret` (the queue holds nothing of the frame's cost: the
   epilogue), `rk_pop` (an element is popped, its arguments are queried, its successors pushed, its product formed). -/
import PS.Proofs.Enum.BeapComplStep
import PS.Proofs.Enum.BeapComplEpi
namespace PS.Beap
open PS PS.G PS.Heapq
set_option linter.unusedSectionVars false
variable {S : Type} [DecidableEq S] {F : Prog → Bool} {P : Prop}

theorem lookup_ensureBank_self (s : St S) (nt : NT S Unit) (ci : Nat) :
    (AList.lookup ci ((s.ensureBank nt ci).bankOf nt)).isSome = true := by
  unfold St.ensureBank; split
  · next h => exact h
  · rw [lookup_setBank_self]; rfl

theorem lookup_ensureBank_other (s : St S) (nt nt' : NT S Unit) (ci ci' : Nat) (h : ¬ (nt' = nt ∧ ci' = ci)) :
    AList.lookup ci' ((s.ensureBank nt ci).bankOf nt') = AList.lookup ci' (s.bankOf nt') := by
  unfold St.ensureBank; split
  · rfl
  · exact lookup_setBank_other s nt nt' ci ci' [] h

theorem same4_ensureBank (s : St S) (nt S' : NT S Unit) (ci : Nat) (h : S' ≠ nt) : Same4 s (s.ensureBank nt ci) S' := by
  refine ⟨by simp, by simp, ?_, by simp⟩
  unfold St.ensureBank; split
  · rfl
  · rw [St.bankOf_setBank, if_neg h]

theorem ensureBank_k {E : Env S} {s : St S} (hw : WInvm E F s) (h4 : E4P P s) (nt : NT S Unit) (ci : Nat)
    (hci : ci + 1 = (s.clOf nt).length) (hne : (s.emptiesOf nt).contains ci = false) :
    WInvm E F (s.ensureBank nt ci) ∧ E4P P (s.ensureBank nt ci) := by
  have he : EInvm E F (s.ensureBank nt ci) := by
    unfold St.ensureBank; split
    · exact hw.e
    · exact hw.e.setBank nt ci [] hne (Nat.lt_of_succ_le (Nat.le_of_eq hci))
  refine ⟨⟨hw.c.of_eq (by simp) (by simp) (by simp), hw.o.of_eq (by simp) (by simp), he,
    fun S' => (hw.cr S').of_same (by simp) (by simp)⟩, ?_⟩
  · exact e4p_of_local s _ nt ci h4 (same4_ensureBank s nt · ci) (by simp) (fun _ hh => by simpa using hh)
      (fun ci' hne => lookup_ensureBank_other s nt nt ci ci' (fun hh => hne hh.2)) hci

structure EmitK (E : Env S) (F : Prog → Bool) (P : Prop) (s : St S) (nt : NT S Unit) (fr : Frame) (s1 : St S)
    (o : Option (Prog × List (List Prog))) : Prop where
  w : WInvm E F s1
  e4 : E4P P s1
  same : ∀ S', S' ≠ nt → Same4 s s1 S'
  cl : ∀ S', s1.clOf S' = s.clOf S'
  queue : ∀ S', s1.queueOf S' = s.queueOf S'
  mono : ∀ ci q, q ∈ s.bankAt nt ci → q ∈ s1.bankAt nt ci
  bank : ∀ ci q, q ∈ s1.bankAt nt ci → q ∈ s.bankAt nt ci ∨ ∃ rest, o = some (q, rest)
  frame : match (generalizing := false) o with
    | none => FrKm E F s1 nt { fr with pending := [] }
    | some (_, rest) => FrKm E F s1 nt { fr with hasGen := true, pending := rest } ∧ s1.bankAt nt fr.ci ≠ []

theorem emit_step {E : Env S} {s s1 : St S} {nt : NT S Unit} {fr : Frame} {o : Option (Prog × List (List Prog))}
    (hw : WInvm E F s) (h4 : E4P P s) (hk : FrKm E F s nt fr) (hem : emit E nt fr.ci fr.P fr.isFun s fr.pending = (s1, o)) :
    EmitK E F P s nt fr s1 o := by
  obtain ⟨t1, t2⟩ := emit_tables E nt fr.ci fr.P fr.isFun fr.pending s _ hem
  have hc := (emit_cost E nt fr.ci fr.P fr.isFun fr.cost fr.pending s _ hem hw.c hk.fc.1 hk.fc.2).1
  obtain ⟨b1, b2, b3, b4, b5⟩ := emit_shape E nt fr.ci fr.P fr.isFun fr.pending s _ hem
  obtain ⟨k1, k2⟩ := emit_k E nt fr fr.pending s _ hem hw.e hk
  have hsame : ∀ S', S' ≠ nt → Same4 s s1 S' := fun S' hS => ⟨t1 S', t2 S', b2 S' hS, b1 S'⟩
  exact
    { w := ⟨hc, hw.o.of_eq t1 t2, k1, fun S' => (hw.cr S').mono (fun _ hp => hp) (t1 S') fun ci p _ => b4 S' ci p⟩,
      e4 := e4p_of_local s s1 nt fr.ci h4 hsame (t1 nt) (fun ci' hh => by rw [b1]; exact hh) b3 hk.fo.1,
      same := hsame, cl := t1, queue := t2, mono := b4 nt, bank := b5 nt, frame := k2 }

theorem rk_yield (E : Env S) {s s1 : St S} {nt : NT S Unit} {fr : Frame} {p : Prog} {rest : List (List Prog)}
    (hem : emit E nt fr.ci fr.P fr.isFun s fr.pending = (s1, some (p, rest))) :
    RK E F P s nt fr (s1, .yield p { fr with hasGen := true, pending := rest }) := by
  intro x hw h4 hfo hk _ hx
  have em := emit_step hw h4 hk hem
  obtain ⟨k6, hne⟩ := em.frame
  refine
    { w := em.w, e4 := em.e4, keep := keep4_of_other x s s1 nt em.same (not_lastGe hk.fo.last hx),
      frp := fun S' hS hl => (hfo S' hS hl).of_same (em.same S' hS) (Ext.of_eq em.cl), yield := fun p' fr' hy => ?_,
      ret := fun hr => (by cases hr), bank := fun ci q hq => ?_,
      next := fun hr => (by cases hr), failed := fun _ hr => (by cases hr), mark := fun _ hr => (by cases hr) }
  · cases hy
    refine ⟨k6, hk.ns (hk.pe fun hnil => ?_), fun _ => hne⟩
    rw [hnil] at hem; cases hem
  · rcases em.bank ci q hq with h' | ⟨rest', h'⟩
    · exact Or.inl h'
    · cases h'; exact Or.inr ⟨_, rfl⟩

theorem rk_ret (E : Env S) {s s1 : St S} {nt : NT S Unit} {fr : Frame}
    (hem : emit E nt fr.ci fr.P fr.isFun s fr.pending = (s1, none)) (hne : ∀ e q, s1.queueOf nt = e :: q → e.cost ≠ fr.cost) :
    RK E F P s nt fr (epilogue s1 nt fr, .ret) := by
  intro x hw h4 hfo hk hg hx
  have em := emit_step hw h4 hk hem
  have k6 : FrKm E F s1 nt { fr with pending := [] } := em.frame
  have hnl := not_lastGe hk.fo.last hx
  have hg2_1 : HG2 s nt fr → HG2 s1 nt { fr with pending := [] } := fun hg2 hh => by
    obtain ⟨q0, hq0⟩ := List.exists_mem_of_ne_nil _ (hg2 hh)
    exact List.ne_nil_of_mem (em.mono fr.ci q0 hq0)
  obtain ⟨g1, g2, g3, g4, g5, g6, g7, g8, g9⟩ := epilogue_k E s1 nt { fr with pending := [] } x em.w em.e4 k6 (fun hp => hg2_1 (hg hp)) rfl hx hne
  refine
    { w := g1, e4 := g2,
      keep := (keep4_of_other x s s1 nt em.same hnl).trans (keep4_of_other x s1 _ nt g3 (not_lastGe k6.fo.last hx)),
      frp := fun S' hS hl => ((hfo S' hS hl).of_same (em.same S' hS) (Ext.of_eq em.cl)).of_same (g3 S' hS) g6,
      yield := fun _ _ hy => (by cases hy), ret := fun _ => ⟨g4, g5, g7⟩, bank := fun ci q hq => ?_, next := fun _ => ?_,
      failed := fun hproc _ hgen => ?_, mark := fun hg2 _ => g9 (hg2_1 hg2) }
  · rcases em.bank ci q (by rw [← g8]; exact hq) with h' | ⟨_, h'⟩
    · exact Or.inl h'
    · cases h'
  · have hlen1 : (s1.clOf nt).length = fr.ci + 1 := k6.fo.1.symm
    rcases epilogue_append s1 nt fr with ⟨a1, a2⟩ | ⟨e, q, a1, a2⟩
    · exact Or.inl ⟨a1, by rw [a2]; exact hlen1⟩
    · refine Or.inr ⟨e, q, a1, ?_⟩
      rw [a2, List.getElem?_append_right (Nat.le_of_eq hlen1), hlen1, Nat.sub_self]; rfl
  · apply epilogue_fbe
    have hns : fr.noSucc = false := by
      rcases hproc with h' | ⟨e, q, h1, h2⟩
      · exact h'
      · exact absurd h2 (hne e q (by rw [em.queue nt]; exact h1))
    rw [hgen, hns]; rfl

/-- the arguments of the popped element are asked below the cost of the query, so the tables of `nt` are not touched
    meanwhile; every clean program the element stood for is in the product of the answers or has the successor pushed
    for it on its producer chain (`succ_covers`) -/
theorem rk_pop (E : Env S) (hpos : PosW E) {n : Nat} {s s1 s3 s' : St S} {nt : NT S Unit} {fr fr' : Frame} {el : HeapEl}
    {q' : List HeapEl} {rl : List (Ty × S) × Unit} {ae af : Bool} {poss : List (List Prog)} {r : St S × Res}
    (hem : emit E nt fr.ci fr.P fr.isFun s fr.pending = (s1, none)) (hcost : el.cost = fr.cost)
    (hpop : Heapq.pop ltE (s1.queueOf nt) = some (el, q')) (hrl : E.G.rule? nt el.P = some rl)
    (hargs : argsLoop E n (s1.setQueue nt q') (rl.1.map ntOf) el.comb false false [] = some (s3, ae, af, poss))
    (ihA : AK E F P (s1.setQueue nt q') (rl.1.map ntOf) el.comb false false [] (s3, ae, af, poss))
    (hnext : ((af && !ae) = true ∧ s' = s3 ∧ fr' = { fr with noSucc := fr.noSucc && (af && !ae), pending := [] }) ∨
      ((af && !ae) = false ∧ ae = true ∧ s' = succLoop nt fr.cost el.P el.comb s3 0 (rl.1.map ntOf) ∧
        fr' = { fr with noSucc := fr.noSucc && (af && !ae), pending := [] }) ∨
      (af = false ∧ ae = false ∧ s' = (succLoop nt fr.cost el.P el.comb s3 0 (rl.1.map ntOf)).ensureBank nt fr.ci ∧
        fr' = { fr with noSucc := fr.noSucc && (af && !ae), P := el.P, isFun := !(rl.1.map ntOf).isEmpty,
                        pending := product poss }))
    (hres : resume E n s' nt fr' = some r) (ihR : RK E F P s' nt fr' r) : RK E F P s nt fr r := by
  intro x hw h4 hfo hk hg hx
  have em := emit_step hw h4 hk hem
  have k6 : FrKm E F s1 nt { fr with pending := [] } := em.frame
  have hnl := not_lastGe hk.fo.last hx
  have hlast1 := k6.fo.last
  have t := pop_turn E hpos hem hcost hpop hrl hargs hnext hw.c hk.fc hw.o hk.fo hx
    (fun hc2 hs2 hb => (order_runs E hpos n).al hargs fr.cost.fin hc2 hs2 hb)
  obtain ⟨_, k, _, hk3, _⟩ := t.price
  have hb := t.below
  have hw2 : WInvm E F (s1.setQueue nt q') :=
    ⟨t.c2, t.o2, em.w.e.of_tables (fun _ => rfl) (fun _ => rfl) (fun _ => rfl) rfl, fun S' => (em.w.cr S').of_same rfl (fun _ => rfl)⟩
  have hsame2 : ∀ S', S' ≠ nt → Same4 s (s1.setQueue nt q') S' := fun S' hS =>
    (em.same S' hS).trans ⟨rfl, by rw [St.queueOf_setQueue, if_neg hS], rfl, rfl⟩
  have hFR2 : ∀ S', S' ≠ nt → ¬ lastGe s S' x → FRP E F P (s1.setQueue nt q') S' := fun S' hS hl =>
    (hfo S' hS hl).of_same (hsame2 S' hS) (Ext.of_eq em.cl)
  -- the argument loop is entered with the bound `fr.cost.fin`: `nt` itself, whose popped element is in flight, is
  -- protected, and no frontier clause is claimed for it
  have hlG2 : lastGe (s1.setQueue nt q') nt fr.cost.fin := ⟨fr.cost, hlast1, Rat.le_refl⟩
  have hfrset2 : FRset E F P fr.cost.fin (s1.setQueue nt q') := by
    intro S' hl
    by_cases hS : S' = nt
    · subst hS; exact absurd hlG2 hl
    · exact hFR2 S' hS fun hl0 => hl ((lastGe_of_same (s' := s1.setQueue nt q') hl0 (em.cl S')).mono (Rat.le_of_lt hx))
  have a3 := ihA [] fr.cost.fin hw2 (em.e4.of_tables (fun _ => rfl) (fun _ => rfl) (fun _ => rfl)) hfrset2 hb All2.nil (fun hh => by cases hh)
  have hposs : All2 (PossK E F s3) poss ((rl.1.map ntOf).zip el.comb) := by simpa using a3.poss
  have hafae : af = true → ae = true := a3.ae_of_af
  have haenil : ae = true → false = true ∨ [] ∈ poss := a3.nil_of_ae
  have hw3 : WInvm E F s3 := a3.w
  have hnt3 : Same4 (s1.setQueue nt q') s3 nt := a3.keep nt hlG2
  have hcl3 : s3.clOf nt = s1.clOf nt := hnt3.cl
  have hx13 : Ext s1 s3 := (Ext.of_eq fun _ => rfl).trans a3.ext
  have hkeep3 : Keep4 x s s3 := (keep4_of_other x s _ nt hsame2 hnl).trans (a3.keep.mono (Rat.le_of_lt hx))
  have hFR3 : ∀ S', S' ≠ nt → ¬ lastGe s S' x → FRP E F P s3 S' := fun S' hS hl => (hFR2 S' hS hl).keep a3.keep a3.ext (a3.frp S')
  -- an empty answer comes with "allowed empty" (`ae_of_af`): the `continue` of beap_search.py:175-176, first case of
  -- `hnext`, is not reached
  have hfailed : (af && !ae) = false := by
    cases af
    · rfl
    · rw [hafae rfl]; rfl
  have hc4 := t.c4; have hs4 := t.o4; have hcl4 := t.cl4; have hq4 := t.q4
  obtain ⟨hb4, hem4, hd4⟩ := succLoop_tables nt fr.cost el.P el.comb (rl.1.map ntOf) s3 0
  obtain ⟨hperm4, _⟩ := succLoop_perm nt fr.cost el.P el.comb (rl.1.map ntOf) s3 0
  generalize hs4def : succLoop nt fr.cost el.P el.comb s3 0 (rl.1.map ntOf) = s4 at *
  have hx34 : Ext s3 s4 := Ext.of_eq hcl4
  have hx14 : Ext s1 s4 := hx13.trans hx34
  have hw4 : WInvm E F s4 := ⟨hc4, hs4, hw3.e.of_tables hcl4 hb4 hem4 hd4,
    fun S' => (hw3.cr S').of_same (hcl4 S') (St.bankAt_congr (hb4 S'))⟩
  have he4 : E4P P s4 := a3.e4.of_tables hcl4 hb4 hem4
  have hsame34 : ∀ S', S' ≠ nt → Same4 s3 s4 S' := fun S' hS => ⟨hcl4 S', hq4 S' hS, hb4 S', hem4 S'⟩
  have hclnt4 : s4.clOf nt = s1.clOf nt := by rw [hcl4, hcl3]
  have hbank4 : s4.bankOf nt = s1.bankOf nt := by rw [hb4, hnt3.bank]; rfl
  have hemp4 : s4.emptiesOf nt = s1.emptiesOf nt := by rw [hem4, hnt3.empties]; rfl
  have hba4 : ∀ ci, s4.bankAt nt ci = s1.bankAt nt ci := St.bankAt_congr hbank4
  have hqmem4 : ∀ el', el' ∈ q' → el' ∈ s4.queueOf nt := fun el' hm =>
    hperm4.mem_iff.mpr (List.mem_append_right _ (by rw [t.q3]; exact hm))
  have hlen : el.comb.length = rl.1.length := combCost_length s3 _ _ _ hk3
  have hfr3 : ∀ A, ¬ lastGe s3 A fr.cost.fin → FRm E F s3 A := fun A hl =>
    (frp_now E _ (fun _ => True) _ s3 (fun S' _ => a3.frp S') a3.keep A trivial hl).1
  have hwit : ∀ f kids y rl', clean F (.node f kids) = true → costOf E (.node f kids) nt = some y →
      fr.cost.fin ≤ y → E.G.rule? nt f = some rl' →
      (y = fr.cost.fin ∧ Tree.node f kids ∈ s4.bankAt nt fr.ci) ∨
      (∃ el', el' ∈ s4.queueOf nt ∧ el'.P = f ∧ BelowArgs E s4 rl'.1 el'.comb kids) ∨
      (f = el.P ∧ All2 (· ∈ ·) kids poss) := by
    intro f kids y rl' hcl hy hle hr
    rcases k6.frf f kids y rl' hcl hy hle hr with g | ⟨el', g1, g2, g3⟩ | ⟨a, g1, _⟩
    · exact Or.inl ⟨g.1, by rw [hba4]; exact g.2⟩
    · rcases (mem_of_pop _ _ _ _ hpop el').mp g1 with heq | hq'
      · subst heq
        subst g2
        obtain rfl : rl' = rl := Option.some.inj (hr.symm.trans hrl)
        have hb3 : BelowArgs E s3 rl'.1 el'.comb kids := BelowArgs.ext hx13 _ _ _ g3
        by_cases heq : EqArgs E s3 rl'.1 el'.comb kids
        · right; right
          exact ⟨rfl, eq_product E F s3 _ _ _ _ heq (clean_kids _ _ _ hcl) (hposs.mono (fun _ _ hh => hh.2))⟩
        · right; left
          obtain ⟨el'', m1, m2, m3⟩ := succ_covers E hw3 nt fr.cost hcl hy hr hb3 heq hk3 (a3.ext.below hb) a3.entered hfr3
          rw [hs4def] at m1
          exact ⟨el'', m1, m2, BelowArgs.ext hx34 _ _ _ m3⟩
      · exact Or.inr (Or.inl ⟨el', hqmem4 el' hq', g2, BelowArgs.ext hx14 _ _ _ g3⟩)
    · cases g1
  -- the tables of `nt` in `s'` are those of `s4`, up to the created entry
  have hci4 : fr.ci + 1 = (s4.clOf nt).length := by rw [hclnt4]; exact k6.fo.1
  obtain ⟨hw5, he5, hsame5, hq5, hba5, hemp5, hhg5, hns5, hpe5, hthird⟩ :
      WInvm E F s' ∧ E4P P s' ∧ (∀ S', S' ≠ nt → Same4 s4 s' S') ∧
      s'.queueOf nt = s4.queueOf nt ∧ (∀ ci, s'.bankAt nt ci = s4.bankAt nt ci) ∧ s'.emptiesOf nt = s4.emptiesOf nt ∧
      fr'.hasGen = fr.hasGen ∧ fr'.noSucc = false ∧
      (fr'.pending ≠ [] → (AList.lookup fr'.ci (s'.bankOf nt)).isSome = true) ∧
      (∀ kids, All2 (· ∈ ·) kids poss → ∃ a, a ∈ fr'.pending ∧ Tree.node el.P kids = mkProg fr'.P fr'.isFun a) := by
    rcases hnext with ⟨h', _⟩ | ⟨_, hae, rfl, rfl⟩ | ⟨haf, _, rfl, rfl⟩
    · rw [hfailed] at h'; cases h'
    · -- an argument is allowed to be empty: no program of this combination
      refine ⟨hw4, he4, fun S' _ => Same4.refl _ S', rfl, fun _ => rfl, rfl, rfl, by rw [hfailed, Bool.and_false],
        fun hh => absurd rfl hh, fun kids hk' => ?_⟩
      rcases haenil hae with h' | h'
      · cases h'
      · exact (all2_mem_nil _ _ hk' h').elim
    · obtain ⟨hw5, he5⟩ := ensureBank_k hw4 he4 nt fr.ci hci4 (by rw [hemp4]; exact k6.ne)
      refine ⟨hw5, he5, fun S' hS => same4_ensureBank s4 nt S' fr.ci hS,
        St.queueOf_ensureBank s4 nt nt fr.ci, fun ci => St.bankAt_ensureBank s4 nt nt fr.ci ci, St.emptiesOf_ensureBank s4 nt nt fr.ci, rfl,
        by rw [hfailed, Bool.and_false], fun _ => lookup_ensureBank_self s4 nt fr.ci, fun kids hk' => ?_⟩
      have hm := (mem_product poss kids).mpr hk'
      exact ⟨kids, hm, (mkProg_tuple el.P hm (by rw [hposs.length_eq, List.length_zip, List.length_map, hlen, Nat.min_self])).symm⟩
  have hci5 := t.ci
  have hco5 := t.cost
  have hcl5 : ∀ S', s'.clOf S' = s4.clOf S' := fun S' => (t.cl' S').trans (hcl4 S').symm
  have hx45 : Ext s4 s' := Ext.of_eq hcl5
  have hnl3 : ¬ lastGe s3 nt x := not_lastGe (hcl3 ▸ hlast1) hx
  have hkeep5 : Keep4 x s s' := hkeep3.trans (keep4_of_other x s3 s' nt (fun S' hS => (hsame34 S' hS).trans (hsame5 S' hS)) hnl3)
  have hFR5 : ∀ S', S' ≠ nt → ¬ lastGe s S' x → FRP E F P s' S' := fun S' hS hl =>
    ((hFR3 S' hS hl).of_same (hsame34 S' hS) hx34).of_same (hsame5 S' hS) hx45
  have hk5 : FrKm E F s' nt fr' := by
    refine
      { fo := t.fo', fc := t.fc', fin := by rw [hco5]; exact k6.fin, hg := fun hh => by rw [hci5, hba5, hba4]; exact k6.hg (hhg5 ▸ hh),
        ns := fun _ => hns5, ne := by rw [hci5, hemp5, hemp4]; exact k6.ne, pe := hpe5, frf := fun f kids y rl' hcl hy hle hr => ?_ }
    rw [hco5, hci5]
    rcases hwit f kids y rl' hcl hy (hco5 ▸ hle) hr with g | ⟨el', g1, g2, g3⟩ | ⟨rfl, g2⟩
    · exact Or.inl ⟨g.1, by rw [hba5]; exact g.2⟩
    · exact Or.inr (Or.inl ⟨el', by rw [hq5]; exact g1, g2, BelowArgs.ext hx45 _ _ _ g3⟩)
    · exact Or.inr (Or.inr (hthird kids g2))
  have hg2_5 : HG2 s nt fr → HG2 s' nt fr' := fun hg2 hh => by
    rw [hci5, hba5, hba4]
    obtain ⟨q0, hq0⟩ := List.exists_mem_of_ne_nil _ (hg2 (hhg5 ▸ hh))
    exact List.ne_nil_of_mem (em.mono fr.ci q0 hq0)
  have post := ihR x hw5 he5 (frp_now E x (· ≠ nt) s s' hFR5 hkeep5) hk5 (fun hp => hg2_5 (hg hp)) (by rw [hco5]; exact hx)
  have ext5r := (run_ext E n).rs hres
  refine
    { w := post.w, e4 := post.e4, keep := hkeep5.trans post.keep, frp := frp_trans E x (· ≠ nt) s s' r.1 hFR5 post.frp post.keep ext5r,
      yield := post.yield, ret := fun hr => (by rw [← hci5]; exact post.ret hr), bank := fun ci q hq => ?_,
      next := fun hr => (by rw [← hci5]; exact post.next hr),
      failed := fun _ hr hgen => post.failed (Or.inl hns5) hr (by rw [hhg5]; exact hgen),
      mark := fun hg2 hr => (by rw [← hci5]; exact post.mark (hg2_5 hg2) hr) }
  rcases post.bank ci q hq with h' | h'
  · rw [hba5, hba4] at h'
    rcases em.bank ci q h' with h'' | ⟨_, h''⟩
    · exact Or.inl h''
    · cases h''
  · exact Or.inr h'

theorem compl_runs (E : Env S) (hP : P ∨ E.fixEmptied = true) (hpos : PosW E) (n : Nat) :
    Runs E n (QLK E F P) (RQK E F P) (DK E F P) (RK E F P) (AK E F P) := by
  refine run_induct E (QL := fun _ => QLK E F P) (RQ := fun _ => RQK E F P) (Dr := fun _ => DK E F P) (Rs := fun _ => RK E F P)
    (Ar := fun _ => AK E F P) ?ql_empty ?ql_beyond ?ql_bank ?ql_run_empty ?ql_run_bank ?rq_none ?rq_some ?dr_ret ?dr_yield
    ?rs_yield ?rs_ret ?rs_pop ?ar_nil ?ar_break ?ar_cons n
  case ql_empty =>
    intro _ s nt ci hemp
    exact qlk_entered E s nt ci true [] (Or.inr hemp) (fun hw => hw.e.e2 nt ci hemp) (fun _ => rfl) (fun _ => rfl)
  case ql_beyond =>
    intro _ s nt ci _ hlen x _ _ _ ⟨e, he, _⟩
    exact absurd (List.getElem?_eq_some_iff.mp he).1 (Nat.not_lt.mpr hlen)
  case ql_bank => intro _ s nt ci ps hemp _ hps; exact qlk_bank E hP s nt ci ps hemp hps
  case ql_run_empty =>
    intro n s nt ci s1 hemp _ hbank hrq ih hemp1
    exact qlk_run E hpos n s s1 nt ci true [] hemp hbank hrq ih (Or.inr hemp1) (fun hw1 => hw1.e.e2 nt ci hemp1) (fun _ _ => rfl)
      (fun _ => rfl)
  case ql_run_bank =>
    intro n s nt ci s1 ps hemp _ hbank hrq ih hemp1 hps
    exact qlk_run E hpos n s s1 nt ci false ps hemp hbank hrq ih (Or.inl (by rw [hps]; rfl)) (fun _ => St.bankAt_of_lookup hps)
      (fun hmk hnil => absurd (hmk (hnil ▸ hps)) hemp1) (fun h => by cases h)
  case rq_none => intro _ s nt ci hnone x c _ _ _ hget; rw [hget] at hnone; cases hnone
  case rq_some => intro _ s nt ci c s' hc _ ih; exact rqk_some E s s' nt ci c hc ih
  case dr_ret => intro _ s nt fr s1 _ ih; exact dk_ret E s s1 nt fr ih
  case dr_yield => intro n s nt fr s1 p fr1 s' hr ihR h ihD; exact dk_yield E n s s1 s' nt fr fr1 p hr ihR h ihD
  case rs_yield => intro _ s nt fr s1 p rest hem; exact rk_yield E hem
  case rs_ret => intro _ s nt fr s1 hem hne; exact rk_ret E hem hne
  case rs_pop =>
    intro n s nt fr s1 el q0 q' rl s3 ae af poss s' fr' r hem hq0 hcost hpop hrl hargs ihA hnext hres ihR
    exact rk_pop E hpos hem hcost hpop hrl hargs ihA hnext hres ihR
  case ar_nil =>
    intro _ s cs ae af acc done x hw h4 hfr _ hacc haf
    exact { w := hw, e4 := h4, frp := hfr, keep := Keep4.refl _ _, ext := Ext.refl _, poss := by simpa using hacc, ae_of_af := haf,
            nil_of_ae := fun hh => Or.inl hh, acc := fun l hl => hl, entered := fun a c hm => (by simp at hm) }
  case ar_break =>
    -- an empty answer comes with "allowed empty"
    intro _ s a as c cs ae af acc s1 poss _ ih hp done x hw h4 hfr hb
    obtain ⟨e0, he0, he0x⟩ := hb a c (by simp)
    exact absurd ((ih x hw h4 hfr ⟨e0, he0, he0x⟩).one_of_nil (List.isEmpty_iff.mp hp)) (by simp)
  case ar_cons =>
    intro n s a as c cs ae af acc s1 one poss r hql ihQ hone h ihA
    exact ak_cons E n s s1 a as c cs ae af one acc poss r hql ihQ hone h ihA

/-- `compl_runs` as a conjunction -/
theorem compl_all (E : Env S) (hP : P ∨ E.fixEmptied = true) (hpos : PosW E) (n : Nat) :
    (∀ s nt ci r, queryList E n s nt ci = some r → QLK E F P s nt ci r) ∧
    (∀ s nt ci s', runQuery E n s nt ci = some s' → RQK E F P s nt ci s') ∧
    (∀ s nt fr s', drive E n s nt fr = some s' → DK E F P s nt fr s') ∧
    (∀ s nt fr r, resume E n s nt fr = some r → RK E F P s nt fr r) ∧
    (∀ s as cs ae af acc r, argsLoop E n s as cs ae af acc = some r → AK E F P s as cs ae af acc r) :=
  (compl_runs E hP hpos n).and

end PS.Beap
