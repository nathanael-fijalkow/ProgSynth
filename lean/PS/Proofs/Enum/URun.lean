/- The generator level of the heap search on unambiguous grammars with `E.kway = true` (the start heap holds, per start
   symbol, the successor of the last program taken from it): `__push_next_from_start__`, `start_query`, `next`, `take` are
   plain recursions on a list or a counter, each with its induction principle. An invariant `J` over the state and the
   list of entries taken from the start heap so far goes through `next` and `take`: the yielded programs are the
   accepted ones among the entries (`accepted`). -/
import PS.Proofs.Enum.UBig
import PS.Proofs.Enum.Iter
namespace PS.UHS
open PS PS.G
set_option linter.unusedSectionVars false
variable {U π : Type} [DecidableEq U]

/-- `start_query`, first call: one `__push_next_from_start__(start, None)` per start symbol; `I rest s` is what holds when
    the symbols `rest` are still to come -/
theorem pushNexts_induct {E : Env U π} {fuel : Nat} (I : List (UNT U) → St U π → Prop)
    (step : ∀ {nt rest s s1}, I (nt :: rest) s → pushNext E fuel s nt none = some s1 → I rest s1)
    (l : List (UNT U)) {s s' : St U π} : I l s → pushNexts E fuel l s = some s' → I [] s' := by
  fun_induction pushNexts E fuel l s with
  | case1 s => intro h hp; cases hp; exact h
  | case2 nt rest s h1 => exact fun _ => nofun
  | case3 nt rest s s1 h1 ih => exact fun h hp => ih (step h h1) hp

/-- a turn of the merge loop of `start_query`: the root of the start heap is taken, the successor of its program is
    pushed -/
theorem kwayLoop_induct {E : Env U π} {fuel : Nat} (I : St U π → Prop)
    (turn : ∀ {s s1 e h'}, I s → Heapq.pop (ltS E.ops) s.startHeap = some (e, h') →
      pushNext E fuel { s with startHeap := h' } e.2.2 (some e.2.1) = some s1 → I s1)
    (k : Nat) {s s' : St U π} {r : Option Prog} : I s → kwayLoop E fuel k s = some (s', r) →
      I s' ∧ ∀ p, r = some p → ∃ s0 e h', I s0 ∧ Heapq.pop (ltS E.ops) s0.startHeap = some (e, h') ∧ p = e.2.1 := by
  fun_induction kwayLoop E fuel k s with
  | case1 s => exact fun _ => nofun
  | case2 k s hpop => intro h hp; cases hp; exact ⟨h, nofun⟩
  | case3 k s e h' hpop hpn => exact fun _ => nofun
  | case4 k s e h' hpop s1 hpn hd ih => exact fun h hp => ih (turn h hpop hpn) hp
  | case5 k s e h' hpop s1 hpn hd =>
    intro h hp; cases hp
    exact ⟨turn h hpop hpn, fun p hp => ⟨s, e, h', h, hpop, (Option.some.inj hp).symm⟩⟩

/-- `next(generator)`: `I` holds whenever `start_query` is called (it survives the rejection of the program returned),
    `Q` of what `next` returns: the end of the enumeration, or a program the filter accepts -/
theorem next_rule {E : Env U π} {fuel : Nat} {I : St U π → Prop} {Q : St U π → Option Prog → Prop}
    (stop : ∀ {s s1}, I s → startQuery E fuel s = some (s1, none) → Q s1 none)
    (yield : ∀ {s s1 p}, I s → startQuery E fuel s = some (s1, some p) → E.filter p = true → Q s1 (some p))
    (skip : ∀ {s s1 p}, I s → startQuery E fuel s = some (s1, some p) → E.filter p = false → I (s1.addDeleted p))
    (k : Nat) {s s' : St U π} {r : Option Prog} : I s → next E fuel k s = some (s', r) → Q s' r := by
  fun_induction next E fuel k s with
  | case1 s => exact fun _ => nofun
  | case2 k s hsq => exact fun _ => nofun
  | case3 k s s1 hsq => intro h hp; cases hp; exact stop h hsq
  | case4 k s s1 p hsq hf => intro h hp; cases hp; exact yield h hsq hf
  | case5 k s s1 p hsq hf ih => exact fun h hp => ih (skip h hsq (by simpa using hf)) hp

theorem next_yield (E : Env U π) (fuel k : Nat) (s s' : St U π) (p : Prog) (h : next E fuel k s = some (s', some p)) :
    E.filter p = true :=
  next_rule (I := fun _ => True) (Q := fun _ r => ∀ q, r = some q → E.filter q = true) (fun _ _ => nofun)
    (fun _ _ hf _ e => Option.some.inj e ▸ hf) (fun _ _ _ => trivial) k trivial h p rfl

theorem next_induct {E : Env U π} {fuel : Nat} (I : St U π → Prop)
    (hq : ∀ {s s1 r}, I s → startQuery E fuel s = some (s1, r) → I s1)
    (hd : ∀ {s} p, I s → I (s.addDeleted p)) :
    ∀ (k : Nat) {s s' : St U π} {r : Option Prog}, I s → next E fuel k s = some (s', r) →
      I s' ∧ ∀ p, r = some p → ∃ s0, I s0 ∧ startQuery E fuel s0 = some (s', some p) :=
  next_rule (fun h hsq => ⟨hq h hsq, nofun⟩)
    (fun h hsq _ => ⟨hq h hsq, fun _ e => ⟨_, h, Option.some.inj e ▸ hsq⟩⟩) (fun {_ _ p} h hsq _ => hd p (hq h hsq))

/-- `take` is the shared driver over `next`: its rules are those of PS/Proofs/Enum/Iter.lean -/
theorem take_eq (E : Env U π) (fuel : Nat) : ∀ k s acc, take E fuel k s acc = Iter.take (next E fuel fuel) k s acc :=
  Iter.take_unique (fun _ _ => rfl) (fun _ _ _ h => by simp only [take, h]) (fun _ _ _ _ h => by simp only [take, h])
    (fun _ _ _ _ _ h => by simp only [take, h])

theorem pushNext_eq {E : Env U π} {fuel : Nat} {s s' : St U π} {nt : UNT U} {p : Option Prog} :
    pushNext E fuel s nt p = some s' →
    ∃ s1 r, query E fuel s nt p = some (s1, r) ∧
      ((r = none ∧ s' = s1) ∨ ∃ q s2 pr w, r = some q ∧ computePrio E s1 nt q = some (s2, pr) ∧ startW E nt = some w ∧
        s' = { s2 with startHeap := Heapq.push (ltS E.ops) s2.startHeap (E.ops.adjust pr w, q, nt) }) := by
  fun_cases pushNext E fuel s nt p with
  | case1 hq => exact nofun
  | case2 s1 hq => exact fun hp => ⟨s1, none, hq, Or.inl ⟨rfl, (Option.some.inj hp).symm⟩⟩
  | case3 s1 q hq s2 pr w hw hcp =>
    exact fun hp => ⟨s1, some q, hq, Or.inr ⟨q, s2, pr, w, rfl, hcp, hw, (Option.some.inj hp).symm⟩⟩
  | case4 => exact nofun

theorem startQuery_kway {E : Env U π} (hk : E.kway = true) {fuel : Nat} {s s' : St U π} {r : Option Prog}
    (hp : startQuery E fuel s = some (s', r)) :
    ∃ s1, ((s.initS = [] ∧ pushNexts E fuel (E.G.starts.map (·.1)) s = some s1) ∨ (s.initS ≠ [] ∧ s1 = s)) ∧
      kwayLoop E fuel fuel s1 = some (s', r) := by
  unfold startQuery at hp
  rw [if_pos hk] at hp
  split at hp
  · cases hp
  · rename_i s1 h1
    refine ⟨s1, ?_, hp⟩
    cases hi : s.initS with
    | nil => rw [hi] at h1; exact Or.inl ⟨rfl, h1⟩
    | cons a l => rw [hi] at h1; exact Or.inr ⟨nofun, (Option.some.inj h1).symm⟩

theorem kwayLoop_eq {E : Env U π} {fuel k : Nat} {s s' : St U π} {r : Option Prog} :
    kwayLoop E fuel k s = some (s', r) →
    (r = none ∧ s' = s ∧ s.startHeap = []) ∨
    ∃ e h' s1, Heapq.pop (ltS E.ops) s.startHeap = some (e, h') ∧
      pushNext E fuel { s with startHeap := h' } e.2.2 (some e.2.1) = some s1 ∧
      (s1.deleted.contains e.2.1 = false → r = some e.2.1 ∧ s' = s1) := by
  fun_cases kwayLoop E fuel k s with
  | case1 => exact nofun
  | case2 k s hpop => intro hp; cases hp; exact Or.inl ⟨rfl, rfl, (Heapq.pop_none_iff _ _).mp hpop⟩
  | case3 => exact nofun
  | case4 k s e h' hpop s1 hpn hd =>
    exact fun _ => Or.inr ⟨e, h', s1, hpop, hpn, fun hnd => absurd hd (by rw [hnd]; exact Bool.false_ne_true)⟩
  | case5 k s e h' hpop s1 hpn hd => intro hp; cases hp; exact Or.inr ⟨e, h', _, hpop, hpn, fun _ => ⟨rfl, rfl⟩⟩

def RejAll (E : Env U π) (l : List (π × Prog × UNT U)) : Prop := ∀ x, x ∈ l → E.filter x.2.1 = false

/-- the yielded programs: the accepted ones among those taken from the start heap, oldest first -/
def accepted (E : Env U π) (emE : List (π × Prog × UNT U)) : List Prog :=
  ((emE.filter (fun e => E.filter e.2.1)).map (·.2.1)).reverse

theorem accepted_rej (E : Env U π) (new emE : List (π × Prog × UNT U)) (h : RejAll E new) :
    accepted E (new ++ emE) = accepted E emE := by
  unfold accepted
  rw [List.filter_append]
  have : new.filter (fun e => E.filter e.2.1) = [] := by
    rw [List.filter_eq_nil_iff]
    intro x hx
    rw [h x hx]; simp
  rw [this]; rfl

theorem accepted_nodup {E : Env U π} {emE : List (π × Prog × UNT U)} (h : (emE.map (·.2.1)).Nodup) : (accepted E emE).Nodup :=
  (List.reverse_perm _).nodup_iff.mpr ((List.filter_sublist.map _).nodup h)

theorem accepted_cons (E : Env U π) (e : π × Prog × UNT U) (emE : List (π × Prog × UNT U)) (hf : E.filter e.2.1 = true) :
    accepted E (e :: emE) = accepted E emE ++ [e.2.1] := by
  simp only [accepted, List.filter_cons, hf, if_true, List.map_cons, List.reverse_cons]

/-! `next` and `take` for any invariant `J` of `start_query` (over the state and the entries taken from the
    start heap) that survives the rejection of the entry just taken; `Stop` is what is known when
    `start_query` finds the start heap empty -/
section Run
variable {E : Env U π} {J : St U π → List (π × Prog × UNT U) → Prop} {Stop : St U π → Prop} {fuel : Nat}
  (hq : ∀ {s s' emE r}, J s emE → startQuery E fuel s = some (s', r) →
    (r = none ∧ J s' emE ∧ Stop s') ∨ ∃ e, r = some e.2.1 ∧ J s' (e :: emE))
  (hd : ∀ {s emE e}, J s (e :: emE) → E.filter e.2.1 = false → J (s.addDeleted e.2.1) (e :: emE))
include hq hd

theorem next_run (k : Nat) {s s' : St U π} {emE : List (π × Prog × UNT U)} {r : Option Prog}
    (h : J s emE) (hp : next E fuel k s = some (s', r)) :
    ∃ new, RejAll E new ∧ ((r = none ∧ J s' (new ++ emE) ∧ Stop s') ∨
      (∃ e, r = some e.2.1 ∧ E.filter e.2.1 = true ∧ J s' (e :: (new ++ emE)))) := by
  refine next_rule (I := fun s => ∃ new, RejAll E new ∧ J s (new ++ emE))
    (Q := fun s' r => ∃ new, RejAll E new ∧ ((r = none ∧ J s' (new ++ emE) ∧ Stop s') ∨
      (∃ e, r = some e.2.1 ∧ E.filter e.2.1 = true ∧ J s' (e :: (new ++ emE))))) ?_ ?_ ?_ k ⟨[], nofun, h⟩ hp
  · rintro s s1 ⟨new, hn, g⟩ hsq
    rcases hq g hsq with ⟨_, g'⟩ | ⟨e, he, _⟩
    · exact ⟨new, hn, Or.inl ⟨rfl, g'⟩⟩
    · cases he
  · rintro s s1 p ⟨new, hn, g⟩ hsq hf
    rcases hq g hsq with ⟨he, _⟩ | ⟨e, he, g'⟩
    · cases he
    · cases he
      exact ⟨new, hn, Or.inr ⟨e, rfl, hf, g'⟩⟩
  · rintro s s1 p ⟨new, hn, g⟩ hsq hf
    rcases hq g hsq with ⟨he, _⟩ | ⟨e, he, g'⟩
    · cases he
    · cases he
      exact ⟨e :: new, fun x hx => (List.mem_cons.mp hx).elim (fun e' => e' ▸ hf) (hn x), hd g' hf⟩

theorem next_acc (k : Nat) {s s' : St U π} {emE : List (π × Prog × UNT U)} {acc : List Prog} {r : Option Prog}
    (h : J s emE) (hacc : acc = accepted E emE) (hn : next E fuel k s = some (s', r)) :
    ∃ emE', J s' emE' ∧ acc ++ r.toList = accepted E emE' ∧ (r = none → Stop s') := by
  obtain ⟨new, hnew, ⟨rfl, g, c⟩ | ⟨e, rfl, hf, g⟩⟩ := next_run hq hd k h hn
  · exact ⟨new ++ emE, g, by rw [accepted_rej E new emE hnew, hacc]; exact List.append_nil _, fun _ => c⟩
  · exact ⟨e :: (new ++ emE), g, by rw [accepted_cons E e _ hf, accepted_rej E new emE hnew, hacc]; rfl, nofun⟩

theorem take_run (k : Nat) {s s' : St U π} {emE : List (π × Prog × UNT U)} {acc out : List Prog} {b : Bool}
    (h : J s emE) (hacc : acc = accepted E emE) (hp : take E fuel k s acc = some (s', out, b)) :
    ∃ emE', J s' emE' ∧ out = accepted E emE' ∧ (b = true → Stop s') := by
  refine Iter.take_rule (I := fun s acc => ∃ emE, J s emE ∧ acc = accepted E emE)
    (Q := fun s' out b => ∃ emE', J s' emE' ∧ out = accepted E emE' ∧ (b = true → Stop s'))
    ?_ ?_ ?_ k s acc _ ⟨emE, h, hacc⟩ (take_eq E fuel k s acc ▸ hp)
  · intro s acc ⟨emE, h, e⟩
    exact ⟨emE, h, e, nofun⟩
  · intro s acc s1 ⟨emE, h, e⟩ hn
    obtain ⟨emE', g, ha, hs⟩ := next_acc hq hd fuel h e hn
    exact ⟨emE', g, (List.append_nil _).symm.trans ha, fun _ => hs rfl⟩
  · intro s acc s1 p ⟨emE, h, e⟩ hn
    obtain ⟨emE', g, ha, _⟩ := next_acc hq hd fuel h e hn
    exact ⟨emE', g, ha⟩

end Run

end PS.UHS
