/- Completeness of beap search: what is proved of each of the five functions of `_query_list_` / `query`.  The
   statements `QLK` (`queryList`), `RQK` (`runQuery`), `DK` (`drive`), `RK` (`resume`) and `AK` (`argsLoop`) each speak of
   one call and its result, with the conclusions `QLKpost`, `DKpost` (for both `RQK` and `DK`), `RKpost`, `AKpost` as
   records; they are the five motives of the induction `compl_runs` in BeapComplResume.lean, whose cases are here
   except those for `resume`, which need the epilogue and the successor step.
   `WInvm` holds of the whole state; the frontier clause `FRP` is assumed and concluded only for the non-terminals
   whose last cost is below the bound `x` of the call (`FRset`, `FRo`, `FRp`).  A non-terminal with a suspended
   `query` up the call chain has the programs of its popped element in flight, so `FRP` is false of it; every rule
   cost being positive, a query at cost `c` asks its arguments below `c` (`pop_below`), so all of those have last
   cost ≥ `x`, and `Keep4` says the call leaves them alone.  After the call the frontier clause of a non-terminal of
   last cost ≥ `x` is the one it had before (`FRP.keep`). -/
import PS.Proofs.Enum.BeapCompl
namespace PS.Beap
open PS PS.G PS.Heapq
set_option linter.unusedSectionVars false
variable {S : Type} [DecidableEq S]

/-- `E4P True` written out: the form `GK` (BeapComplFinal.lean) is stated with -/
def E4g (s : St S) : Prop :=
  ∀ nt ci, ci + 1 < (s.clOf nt).length → AList.lookup ci (s.bankOf nt) = some [] → (s.emptiesOf nt).contains ci = true

theorem witness_le (E : Env S) (s : St S) (hc : CInv E s) (hlb : LB E s) (nt : NT S Unit) (el : HeapEl) (hel : el ∈ s.queueOf nt)
    (kids : List Prog) (x : Rat) (rl : List (Ty × S) × Unit) (hr : E.G.rule? nt el.P = some rl)
    (hx : costOf E (.node el.P kids) nt = some x) (hb : BelowArgs E s rl.1 el.comb kids) : el.cost.fin ≤ x := by
  obtain ⟨rl', w, k, g1, g2, g3, g4⟩ := hc.queue nt el hel
  obtain ⟨rl'', w', xs, h1, h2, hxs, rfl⟩ := costOf_inv hx
  obtain rfl : rl' = rl := Option.some.inj (g1.symm.trans hr)
  obtain rfl : rl'' = rl' := Option.some.inj (h1.symm.trans hr)
  obtain rfl : w' = w := Option.some.inj (h2.symm.trans g2)
  rw [g4]
  exact Rat.add_le_add_left.mpr (below_cost E s hlb rl''.1 el.comb kids k xs hb g3 hxs)

theorem getLast_of_len (l : List Cost) (ci : Nat) (e : Cost) (h : l[ci]? = some e) (hl : ci + 1 = l.length) : l.getLast? = some e := by
  rw [List.getLast?_eq_getElem?]
  have : l.length - 1 = ci := by omega
  rw [this]; exact h

theorem getLast_of_ne {l : List Cost} (h : l ≠ []) : ∃ L, l.getLast? = some L :=
  ⟨l.getLast h, List.getLast?_eq_some_getLast h⟩

theorem not_lastGe_of_last (s : St S) (nt : NT S Unit) (ci : Nat) (e : Cost) (x : Rat) (he : (s.clOf nt)[ci]? = some e)
    (hl : ci + 1 = (s.clOf nt).length) (hx : e.fin < x) : ¬ lastGe s nt x :=
  not_lastGe (getLast_of_len _ ci e he hl) hx

variable {F : Prog → Bool} {P : Prop}

/-- every clean program of cost `cost_list[nt][ci]` is in `bank[nt][ci]` -/
def IdxDone (E : Env S) (F : Prog → Bool) (s : St S) (nt : NT S Unit) (ci : Nat) : Prop := PossComp E F s (s.bankAt nt ci) (nt, ci)

/-! The completed region `CRm`, the frontier clause `FRm.1` and the clause `FrKm.frf` of a running frame are three readings
    of one covering statement, `Acc`: every clean program of `nt` is stored at the index of its cost, or an element of its
    rule that lies below it is queued, or `Q` holds of it (it is pending).  `Acc` does not mention the last cost, so
    appending a cost, extending other cost lists, growing the bank or the queue keep it (`Acc.mono`); where the last cost
    stands is read off `OI`/`CInv` afterwards (`Acc.cr`, `Acc.fr`, `Acc.done`). -/

def Acc (E : Env S) (F : Prog → Bool) (s : St S) (nt : NT S Unit) (Q : Prog → Prop) : Prop :=
  ∀ f kids y rl, clean F (.node f kids) = true → costOf E (.node f kids) nt = some y → E.G.rule? nt f = some rl →
    (∃ i e, (s.clOf nt)[i]? = some e ∧ e.fin = y ∧ Tree.node f kids ∈ s.bankAt nt i) ∨
    (∃ el, el ∈ s.queueOf nt ∧ el.P = f ∧ BelowArgs E s rl.1 el.comb kids) ∨ Q (.node f kids)

def Frame.Pend (fr : Frame) (p : Prog) : Prop := ∃ a, a ∈ fr.pending ∧ p = mkProg fr.P fr.isFun a

theorem Acc.mono {E : Env S} {s s' : St S} {nt : NT S Unit} {Q Q' : Prog → Prop} (h : Acc E F s nt Q)
    (hq : ∀ el, el ∈ s.queueOf nt → el ∈ s'.queueOf nt) (hb : ∀ ci p, p ∈ s.bankAt nt ci → p ∈ s'.bankAt nt ci)
    (he : Ext s s') (hQ : ∀ p, Q p → Q' p) : Acc E F s' nt Q' := fun f kids y rl hcl hy hr =>
  (h f kids y rl hcl hy hr).imp (fun ⟨i, e, g1, g2, g3⟩ => ⟨i, e, he.get nt i e g1, g2, hb i _ g3⟩)
    (Or.imp (fun ⟨el, g1, g2, g3⟩ => ⟨el, hq el g1, g2, BelowArgs.ext he _ _ _ g3⟩) (hQ _))

theorem FrKm.acc {E : Env S} {s : St S} {nt : NT S Unit} {fr : Frame} (hk : FrKm E F s nt fr) (hcr : CRm E F s nt) :
    Acc E F s nt fr.Pend := fun f kids y rl hcl hy hr => by
  by_cases hlt : y < fr.cost.fin
  · exact Or.inl (hcr _ y fr.cost hcl hy hk.fo.last hlt)
  · rcases hk.frf f kids y rl hcl hy (Rat.not_lt.mp hlt) hr with ⟨g1, g2⟩ | g | g
    · exact Or.inl ⟨fr.ci, fr.cost, hk.fo.2, g1.symm, g2⟩
    · exact Or.inr (Or.inl g)
    · exact Or.inr (Or.inr g)

theorem queued_ge {E : Env S} {s : St S} (hc : CInv E s) (ho : OI s) (hlb : LB E s) {nt : NT S Unit} {el : HeapEl} {kids : List Prog}
    {y : Rat} {rl : List (Ty × S) × Unit} (hel : el ∈ s.queueOf nt) (hr : E.G.rule? nt el.P = some rl)
    (hy : costOf E (.node el.P kids) nt = some y) (hb : BelowArgs E s rl.1 el.comb kids) {c : Cost} (hm : c ∈ s.clOf nt) : c.fin ≤ y :=
  Rat.le_trans (ho.low nt el c hel hm) (witness_le E s hc hlb nt el hel kids y rl hr hy hb)

theorem Acc.cr {E : Env S} {s : St S} {nt : NT S Unit} {Q : Prog → Prop} (h : Acc E F s nt Q) (hc : CInv E s) (ho : OI s) (hlb : LB E s)
    (hQ : ∀ p y l, Q p → costOf E p nt = some y → (s.clOf nt).getLast? = some l → l.fin ≤ y) : CRm E F s nt := by
  intro p y l hcl hy hl hlt
  cases p with
  | node f kids =>
    obtain ⟨rl, hr⟩ := rule_of_cost E nt f kids y hy
    rcases h f kids y rl hcl hy hr with g | ⟨el, g1, rfl, g3⟩ | g
    · exact g
    · exact absurd (Std.lt_of_lt_of_le hlt (queued_ge hc ho hlb g1 hr hy g3 (List.mem_of_mem_getLast? hl))) Rat.lt_irrefl
    · exact absurd (Std.lt_of_lt_of_le hlt (hQ _ y l g hy hl)) Rat.lt_irrefl

theorem Acc.fr {E : Env S} {s : St S} {nt : NT S Unit} (h : Acc E F s nt fun _ => False) (ho : OI s) (f : Sym) (kids : List Prog)
    (y : Rat) (l : Cost) (rl : List (Ty × S) × Unit) (hcl : clean F (.node f kids) = true) (hy : costOf E (.node f kids) nt = some y)
    (hl : (s.clOf nt).getLast? = some l) (hle : l.fin ≤ y) (hr : E.G.rule? nt f = some rl) : Coveredm E F s nt f kids y l rl := by
  rcases h f kids y rl hcl hy hr with ⟨i, e, g1, g2, g3⟩ | g | g
  · have hel : e.fin = l.fin :=
      Rat.le_antisymm (le_last_of_pairwise _ (ho.mono nt) l hl e (List.mem_of_getElem? g1)) (g2 ▸ hle)
    rw [List.getLast?_eq_getElem?] at hl
    obtain rfl := idx_of_fin s ho nt i _ e l g1 hl hel
    exact Or.inl ⟨by rw [← g2, hel], g3⟩
  · exact Or.inr g
  · exact g.elim

theorem Acc.done {E : Env S} {s : St S} {nt : NT S Unit} (h : Acc E F s nt fun _ => False) (hc : CInv E s) (ho : OI s) (hlb : LB E s)
    {ci : Nat} {e : Cost} (he : (s.clOf nt)[ci]? = some e) (hq : ∀ el, el ∈ s.queueOf nt → e.fin < el.cost.fin) :
    IdxDone E F s nt ci := by
  intro q e' hcl he' hy
  simp only at he' hy
  obtain rfl : e = e' := Option.some.inj (he.symm.trans he')
  cases q with
  | node f kids =>
    obtain ⟨rl, hr⟩ := rule_of_cost E nt f kids _ hy
    rcases h f kids _ rl hcl hy hr with ⟨i, e', g1, g2, g3⟩ | ⟨el, g1, rfl, g3⟩ | g
    · obtain rfl := idx_of_fin s ho nt i ci e' e g1 he g2; exact g3
    · exact absurd (Std.lt_of_lt_of_le (hq el g1) (witness_le E s hc hlb nt el g1 kids _ rl hr hy g3)) Rat.lt_irrefl
    · exact g.elim

theorem FRm.acc {E : Env S} {s : St S} {nt : NT S Unit} (hf : FRm E F s nt) (hcr : CRm E F s nt) {l : Cost}
    (hl : (s.clOf nt).getLast? = some l) : Acc E F s nt fun _ => False := fun f kids y rl hcl hy hr => by
  by_cases hlt : y < l.fin
  · exact Or.inl (hcr _ y l hcl hy hl hlt)
  · rcases hf.1 f kids y l rl hcl hy hl (Rat.not_lt.mp hlt) hr with ⟨g1, g2⟩ | g
    · exact Or.inl ⟨_, l, by rw [← List.getLast?_eq_getElem?]; exact hl, g1.symm, g2⟩
    · exact Or.inr (Or.inl g)

/-- an index that was entered and is not the index of a running query is complete -/
theorem idxDone_of_entered (E : Env S) (s : St S) (hw : WInvm E F s) (nt : NT S Unit) (ci : Nat) (e : Cost)
    (he : (s.clOf nt)[ci]? = some e) (hen : Entered s nt ci) (hfr : ci + 1 = (s.clOf nt).length → FRm E F s nt) : IdxDone E F s nt ci := by
  by_cases hl : ci + 1 = (s.clOf nt).length
  · have hlen : (s.clOf nt).length - 1 = ci := by omega
    exact ((hfr hl).acc (hw.cr nt) (getLast_of_len _ ci e he hl)).done hw.c hw.o hw.e.lb he
      (fun el hel => by rw [(hfr hl).2 (by rw [hlen]; exact hen)] at hel; cases hel)
  · intro q e' hcl he' hq
    simp only at he' hq
    rw [he] at he'; cases he'
    have hci : ci < (s.clOf nt).length := (List.getElem?_eq_some_iff.mp he).1
    obtain ⟨l, hlast⟩ := getLast_of_ne (l := s.clOf nt) (by intro h0; rw [h0] at hci; simp at hci)
    have hlt : e.fin < l.fin :=
      fin_lt_of_lt (hw.o.mono nt) he (by rw [← List.getLast?_eq_getElem?]; exact hlast) (by omega)
    obtain ⟨i, e', g1, g2, g3⟩ := hw.cr nt q e.fin l hcl hq hlast hlt
    obtain rfl := idx_of_fin s hw.o nt i ci e' e g1 he g2
    exact g3

theorem PossComp.ext {E : Env S} {s s' : St S} (he : Ext s s') {ps : List Prog} {ac : NT S Unit × Nat}
    (hd : ∃ e, (s.clOf ac.1)[ac.2]? = some e) (h : PossComp E F s ps ac) : PossComp E F s' ps ac := by
  intro q e' hcl he' hq
  obtain ⟨e, hee⟩ := hd
  have := he.get _ _ _ hee
  rw [this] at he'
  have e1 : e = e' := Option.some.inj he'
  subst e1
  exact h q e hcl hee hq

/-- `PossComp` at an index that exists: without the index `PossComp` does not survive an extension of the cost
    list (`PossComp.ext`) -/
def PossK (E : Env S) (F : Prog → Bool) (s : St S) (ps : List Prog) (ac : NT S Unit × Nat) : Prop :=
  (∃ e, (s.clOf ac.1)[ac.2]? = some e) ∧ PossComp E F s ps ac
theorem PossK.ext {E : Env S} {s s' : St S} (he : Ext s s') {ps : List Prog} {ac : NT S Unit × Nat}
    (h : PossK E F s ps ac) : PossK E F s' ps ac :=
  ⟨let ⟨e, h1⟩ := h.1; ⟨e, he.get _ _ _ h1⟩, PossComp.ext he h.1 h.2⟩

def FRset (E : Env S) (F : Prog → Bool) (P : Prop) (x : Rat) (s : St S) : Prop := ∀ nt, ¬ lastGe s nt x → FRP E F P s nt
def FRo (E : Env S) (F : Prog → Bool) (P : Prop) (x : Rat) (s : St S) (nt : NT S Unit) : Prop :=
  ∀ S', S' ≠ nt → ¬ lastGe s S' x → FRP E F P s S'
def FRp (E : Env S) (F : Prog → Bool) (P : Prop) (x : Rat) (s s' : St S) : Prop := ∀ S', ¬ lastGe s S' x → FRP E F P s' S'

theorem FRP.keep {E : Env S} {x : Rat} {s s' : St S} {nt : NT S Unit} (h : FRP E F P s nt) (hk : Keep4 x s s') (he : Ext s s')
    (h' : ¬ lastGe s nt x → FRP E F P s' nt) : FRP E F P s' nt := by
  by_cases hl : lastGe s nt x
  · exact h.of_same (hk nt hl) he
  · exact h' hl

/-- from "relative to the state before the call" to "relative to the state after the call" -/
theorem frp_now (E : Env S) (x : Rat) (Q : NT S Unit → Prop) (s s' : St S) (h : ∀ S', Q S' → ¬ lastGe s S' x → FRP E F P s' S')
    (hk : Keep4 x s s') : ∀ S', Q S' → ¬ lastGe s' S' x → FRP E F P s' S' := by
  intro S' hp hl
  apply h S' hp
  intro hl0
  exact hl (lastGe_of_same hl0 (hk S' hl0).cl)

theorem frp_trans (E : Env S) (x : Rat) (Q : NT S Unit → Prop) (a b c : St S) (h1 : ∀ S', Q S' → ¬ lastGe a S' x → FRP E F P b S')
    (h2 : ∀ S', Q S' → ¬ lastGe b S' x → FRP E F P c S') (hk : Keep4 x b c) (he : Ext b c) :
    ∀ S', Q S' → ¬ lastGe a S' x → FRP E F P c S' :=
  fun S' hp hl => (h1 S' hp hl).keep hk he (h2 S' hp)

structure QLKpost (E : Env S) (F : Prog → Bool) (P : Prop) (x : Rat) (s : St S) (nt : NT S Unit) (ci : Nat)
    (r : St S × Bool × List Prog) : Prop where
  w : WInvm E F r.1
  e4 : E4P P r.1
  frp : FRp E F P x s r.1
  keep : Keep4 x s r.1
  comp : PossComp E F r.1 r.2.2 (nt, ci)
  one_of_nil : r.2.2 = [] → r.2.1 = true
  nil_of_one : r.2.1 = true → r.2.2 = []
  entered : Entered r.1 nt ci
def QLK (E : Env S) (F : Prog → Bool) (P : Prop) (s : St S) (nt : NT S Unit) (ci : Nat) (r : St S × Bool × List Prog) : Prop :=
  ∀ x, WInvm E F s → E4P P s → FRset E F P x s → (∃ e, (s.clOf nt)[ci]? = some e ∧ e.fin < x) → QLKpost E F P x s nt ci r
structure DKpost (E : Env S) (F : Prog → Bool) (P : Prop) (x : Rat) (s : St S) (nt : NT S Unit) (ci : Nat) (s' : St S) : Prop where
  w : WInvm E F s'
  e4 : E4P P s'
  frp : FRp E F P x s s'
  keep : Keep4 x s s'
  done : IdxDone E F s' nt ci
  mark : MK s' nt ci
def RQK (E : Env S) (F : Prog → Bool) (P : Prop) (s : St S) (nt : NT S Unit) (ci : Nat) (s' : St S) : Prop :=
  ∀ x c, WInvm E F s → E4P P s → FRset E F P x s → (s.clOf nt)[ci]? = some c → c.fin < x → ci + 1 = (s.clOf nt).length →
    ¬ Entered s nt ci → DKpost E F P x s nt ci s'
def DK (E : Env S) (F : Prog → Bool) (P : Prop) (s : St S) (nt : NT S Unit) (fr : Frame) (s' : St S) : Prop :=
  ∀ x, WInvm E F s → E4P P s → FRo E F P x s nt → FrKm E F s nt fr → HG2 s nt fr → fr.cost.fin < x → DKpost E F P x s nt fr.ci s'
/-- `bank`, `next`, `failed` and the bound on `Entered` in `ret` are for the generator (`nextLoop_k`); the induction
    only hands them on.  The premise of `failed`, "the query has processed an element or will", is what the
    generator knows of a frame it resumes. -/
structure RKpost (E : Env S) (F : Prog → Bool) (P : Prop) (x : Rat) (s : St S) (nt : NT S Unit) (fr : Frame) (r : St S × Res) : Prop where
  w : WInvm E F r.1
  e4 : E4P P r.1
  keep : Keep4 x s r.1
  frp : ∀ S', S' ≠ nt → ¬ lastGe s S' x → FRP E F P r.1 S'
  yield : ∀ p fr', r.2 = .yield p fr' → FrKm E F r.1 nt fr' ∧ fr'.noSucc = false ∧ HG2 r.1 nt fr'
  ret : r.2 = .ret → FRP E F P r.1 nt ∧ IdxDone E F r.1 nt fr.ci ∧ ∀ ci', Entered r.1 nt ci' → ci' ≤ fr.ci
  bank : ∀ ci q, q ∈ r.1.bankAt nt ci → q ∈ s.bankAt nt ci ∨ ∃ fr', r.2 = .yield q fr'
  next : r.2 = .ret → (r.1.queueOf nt = [] ∧ (r.1.clOf nt).length = fr.ci + 1) ∨
    (∃ e q, r.1.queueOf nt = e :: q ∧ (r.1.clOf nt)[fr.ci + 1]? = some e.cost)
  failed : (fr.noSucc = false ∨ ∃ e q, s.queueOf nt = e :: q ∧ e.cost = fr.cost) → r.2 = .ret → fr.hasGen = false →
    r.1.failedByEmpties = true
  mark : HG2 s nt fr → r.2 = .ret → MK r.1 nt fr.ci
def RK (E : Env S) (F : Prog → Bool) (P : Prop) (s : St S) (nt : NT S Unit) (fr : Frame) (r : St S × Res) : Prop :=
  ∀ x, WInvm E F s → E4P P s → FRo E F P x s nt → FrKm E F s nt fr → (P → HG2 s nt fr) → fr.cost.fin < x →
    RKpost E F P x s nt fr r
/-- `done` is a ghost list parallel to `acc`: the (argument, cost index) pairs whose answers the loop has
    collected so far. -/
structure AKpost (E : Env S) (F : Prog → Bool) (P : Prop) (x : Rat) (s : St S) (as : List (NT S Unit)) (cs : List Nat) (ae : Bool)
    (acc : List (List Prog)) (done : List (NT S Unit × Nat)) (r : St S × Bool × Bool × List (List Prog)) : Prop where
  w : WInvm E F r.1
  e4 : E4P P r.1
  frp : FRp E F P x s r.1
  keep : Keep4 x s r.1
  ext : Ext s r.1
  poss : All2 (PossK E F r.1) r.2.2.2 (done ++ as.zip cs)
  ae_of_af : r.2.2.1 = true → r.2.1 = true
  nil_of_ae : r.2.1 = true → ae = true ∨ [] ∈ r.2.2.2
  acc : ∀ l ∈ acc, l ∈ r.2.2.2
  entered : ∀ a c, (a, c) ∈ as.zip cs → Entered r.1 a c
def AK (E : Env S) (F : Prog → Bool) (P : Prop) (s : St S) (as : List (NT S Unit)) (cs : List Nat) (ae af : Bool)
    (acc : List (List Prog)) (r : St S × Bool × Bool × List (List Prog)) : Prop :=
  ∀ done x, WInvm E F s → E4P P s → FRset E F P x s →
    AskedBelow s as cs x →
    All2 (PossK E F s) acc done → (af = true → ae = true) → AKpost E F P x s as cs ae acc done r

theorem qlk_entered (E : Env S) (s : St S) (nt : NT S Unit) (ci : Nat) (one : Bool) (ps : List Prog) (hen : Entered s nt ci)
    (hba : WInvm E F s → s.bankAt nt ci = ps) (h1 : ps = [] → one = true) (h2 : one = true → ps = []) :
    QLK E F P s nt ci (s, one, ps) := by
  intro x hw h4 hfr ⟨e, he, hex⟩
  exact
    { w := hw, e4 := h4, frp := hfr, keep := Keep4.refl _ _,
      comp := hba hw ▸ idxDone_of_entered E s hw nt ci e he hen (fun hl => (hfr nt (not_lastGe_of_last s nt ci e x he hl hex)).1),
      one_of_nil := h1, nil_of_one := h2, entered := hen }

/-- when the bank entry is empty and has no mark, the marks exclude it or `fixEmptied` answers "allowed empty" -/
theorem qlk_bank (E : Env S) (hP : P ∨ E.fixEmptied = true) (s : St S) (nt : NT S Unit) (ci : Nat) (ps : List Prog)
    (hemp : ¬ (s.emptiesOf nt).contains ci = true) (hps : AList.lookup ci (s.bankOf nt) = some ps) :
    QLK E F P s nt ci (s, E.fixEmptied && ps.isEmpty, ps) := by
  intro x hw h4 hfr ⟨e, he, hex⟩
  refine qlk_entered E s nt ci _ ps (Or.inl (by rw [hps]; rfl)) (fun _ => St.bankAt_of_lookup hps) (fun hnil => ?_)
    (fun hone => ?_) x hw h4 hfr ⟨e, he, hex⟩
  · subst hnil
    rcases hP with hp | hfix
    · have hci : ci < (s.clOf nt).length := (List.getElem?_eq_some_iff.mp he).1
      by_cases hl : ci + 1 = (s.clOf nt).length
      · exact absurd ((hfr nt (not_lastGe_of_last s nt ci e x he hl hex)).2 hp ci hps) hemp
      · exact absurd (h4 hp nt ci (by omega) hps) hemp
    · simp [hfix]
  · simp only [Bool.and_eq_true, List.isEmpty_iff] at hone
    exact hone.2

theorem qlk_run (E : Env S) (hpos : PosW E) (n : Nat) (s s1 : St S) (nt : NT S Unit) (ci : Nat) (one : Bool) (ps : List Prog)
    (hemp : ¬ (s.emptiesOf nt).contains ci = true) (hbank : AList.lookup ci (s.bankOf nt) = none)
    (hrq : runQuery E n s nt ci = some s1) (ih : RQK E F P s nt ci s1) (hen : Entered s1 nt ci)
    (hba : WInvm E F s1 → s1.bankAt nt ci = ps) (h1 : MK s1 nt ci → ps = [] → one = true) (h2 : one = true → ps = []) :
    QLK E F P s nt ci (s1, one, ps) := by
  intro x hw h4 hfr ⟨e, he, hex⟩
  have hnotent : ¬ Entered s nt ci := not_entered_iff.mpr ⟨hbank, Bool.eq_false_iff.mpr hemp⟩
  have hl : ci + 1 = (s.clOf nt).length := by
    -- a query on an index before the last one returns at once and enters nothing
    apply Classical.byContradiction
    intro hl
    obtain ⟨q1, q2⟩ := ((order_runs E hpos n).rq hrq x _ hw.c hw.o he hex).2 hl
    exact hnotent ((Entered.congr q1 q2 ci).mp hen)
  have g := ih x e hw h4 hfr he hex hl hnotent
  exact { w := g.w, e4 := g.e4, frp := g.frp, keep := g.keep, comp := hba g.w ▸ g.done, one_of_nil := h1 g.mark, nil_of_one := h2,
          entered := hen }

theorem FrKm.fresh {E : Env S} {s : St S} {nt : NT S Unit} {ci : Nat} {c : Cost} (hw : WInvm E F s) (hfr : FRm E F s nt)
    (hget : (s.clOf nt)[ci]? = some c) (hl : ci + 1 = (s.clOf nt).length) (hnotent : ¬ Entered s nt ci) :
    FrKm E F s nt { ci := ci, cost := c, P := default } := by
  obtain ⟨hlookup, hne⟩ := not_entered_iff.mp hnotent
  have hlen : (s.clOf nt).length - 1 = ci := by omega
  refine
    { fo := ⟨hl, hget⟩, fc := ⟨hget, fun a ha => (by cases ha)⟩, fin := hw.o.fin nt c (List.mem_of_getElem? hget),
      hg := fun _ => bankAt_of_lookup s nt ci hlookup, ns := fun hh => ?_, ne := hne, pe := fun hh => absurd rfl hh,
      frf := fun f kids y rl hcl hy hle hr => ?_ }
  · simp only at hh; rw [hlookup] at hh; cases hh
  · rcases hfr.1 f kids y c rl hcl hy (getLast_of_len _ ci c hget hl) hle hr with ⟨g1, g2⟩ | g
    · left; rw [hlen] at g2; exact ⟨g1, g2⟩
    · right; left; exact g

theorem rqk_some (E : Env S) (s s' : St S) (nt : NT S Unit) (ci : Nat) (c : Cost) (hc : (s.clOf nt)[ci]? = some c)
    (ih : DK E F P s nt { ci := ci, cost := c, P := default } s') : RQK E F P s nt ci s' := by
  intro x c' hw h4 hfr hget hcx hl hnotent
  obtain rfl : c = c' := Option.some.inj (hc.symm.trans hget)
  have hnl := not_lastGe_of_last s nt ci c x hget hl hcx
  exact ih x hw h4 (fun S' _ hl' => hfr S' hl') (FrKm.fresh hw (hfr nt hnl).1 hget hl hnotent) (fun hh => by cases hh) hcx

theorem dk_ret (E : Env S) (s s1 : St S) (nt : NT S Unit) (fr : Frame) (ih : RK E F P s nt fr (s1, .ret)) : DK E F P s nt fr s1 := by
  intro x hw h4 hfo hk hg2 hx
  have g := ih x hw h4 hfo hk (fun _ => hg2) hx
  obtain ⟨q1, q2, _⟩ := g.ret rfl
  refine { w := g.w, e4 := g.e4, frp := fun S' hl' => ?_, keep := g.keep, done := q2, mark := g.mark hg2 rfl }
  by_cases hS : S' = nt
  · subst hS; exact q1
  · exact g.frp S' hS hl'

theorem dk_yield (E : Env S) (n : Nat) (s s1 s' : St S) (nt : NT S Unit) (fr fr1 : Frame) (p : Prog)
    (hr : resume E n s nt fr = some (s1, .yield p fr1)) (ihR : RK E F P s nt fr (s1, .yield p fr1))
    (h : drive E n s1 nt fr1 = some s') (ihD : DK E F P s1 nt fr1 s') : DK E F P s nt fr s' := by
  intro x hw h4 hfo hk hg2 hx
  have g := ihR x hw h4 hfo hk (fun _ => hg2) hx
  have c := ((cost_all E n).rs hr hw.c hk.fc).2 p fr1 rfl
  obtain ⟨hk1, _, hg1⟩ := g.yield p fr1 rfl
  have q := ihD x g.w g.e4 (frp_now E x (· ≠ nt) s s1 g.frp g.keep) hk1 hg1 (by rw [c.cost]; exact hx)
  have e2 := (run_ext E n).dr h
  refine { w := q.w, e4 := q.e4, frp := fun S' hl' => ?_, keep := g.keep.trans q.keep, done := by rw [← c.ci]; exact q.done,
           mark := by rw [← c.ci]; exact q.mark }
  by_cases hS : S' = nt
  · subst hS
    exact q.frp S' (not_lastGe hk1.fo.last (by rw [c.cost]; exact hx))
  · exact (g.frp S' hS hl').keep q.keep e2 (q.frp S')

theorem ak_cons (E : Env S) (n : Nat) (s s1 : St S) (a : NT S Unit) (as : List (NT S Unit)) (c : Nat) (cs : List Nat)
    (ae af one : Bool) (acc : List (List Prog)) (poss : List Prog) (r : St S × Bool × Bool × List (List Prog))
    (hql : queryList E n s a c = some (s1, one, poss)) (ihQ : QLK E F P s a c (s1, one, poss))
    (hone : poss.isEmpty = true → one = true)
    (h : argsLoop E n s1 as cs (ae || one) (af || poss.isEmpty) (acc ++ [poss]) = some r)
    (ihA : AK E F P s1 as cs (ae || one) (af || poss.isEmpty) (acc ++ [poss]) r) : AK E F P s (a :: as) (c :: cs) ae af acc r := by
  intro done x hw h4 hfr hb hacc haf
  obtain ⟨e0, he0, he0x⟩ := hb a c (by simp)
  have g := ihQ x hw h4 hfr ⟨e0, he0, he0x⟩
  have c2 := (run_ext E n).ql hql
  have c2 : Ext s s1 := c2
  have hfr1 : FRset E F P x s1 := fun S' hl' => frp_now E x (fun _ => True) s s1 (fun S'' _ hl'' => g.frp S'' hl'') g.keep S' trivial hl'
  have hacc' : All2 (PossK E F s1) (acc ++ [poss]) (done ++ [(a, c)]) :=
    All2.append (hacc.mono (fun _ _ hr => hr.ext c2)) (All2.cons ⟨⟨e0, c2.get _ _ _ he0⟩, g.comp⟩ All2.nil)
  have q := ihA (done ++ [(a, c)]) x g.w g.e4 hfr1
    (c2.below fun a' c' hm => hb a' c' (by simp [hm])) hacc' (fun hh => by
    rcases Bool.or_eq_true .. |>.mp hh with hh | hh
    · rw [haf hh]; rfl
    · rw [hone hh]; simp)
  refine
    { w := q.w, e4 := q.e4, frp := fun S' hl' => (g.frp S' hl').keep q.keep q.ext (q.frp S'), keep := g.keep.trans q.keep,
      ext := c2.trans q.ext, poss := by simpa using q.poss, ae_of_af := q.ae_of_af, nil_of_ae := fun hh => ?_,
      acc := fun l hl => q.acc l (List.mem_append_left _ hl), entered := fun a' c' hm => ?_ }
  · rcases q.nil_of_ae hh with h1 | h1
    · rcases Bool.or_eq_true .. |>.mp h1 with h2 | h2
      · exact Or.inl h2
      · have hp : poss = [] := g.nil_of_one h2
        right; apply q.acc; rw [hp]; simp
    · exact Or.inr h1
  · simp only [List.zip_cons_cons, List.mem_cons, Prod.mk.injEq] at hm
    rcases hm with ⟨rfl, rfl⟩ | hm
    · exact (entered_all E n).al h _ _ g.entered
    · exact q.entered a' c' hm

end PS.Beap
