/- Soundness of beap search as a state invariant `SInv`: every queue element is a rule of its non-terminal with a
   combination of the right length, every program in a bank is derivable from the non-terminal of the bank.  It holds
   for the tables of `__init__` and is kept by `_init_non_terminal_`, `_reevaluate_`, `_query_list_` / `query`, `next`
   and `merge_program`; hence every program yielded by `next`, after any sequence of `next` / `merge_program` calls, is
   derivable from the start symbol and accepted by the filter. -/
import PS.Proofs.Enum.BeapPrologue
namespace PS.Beap
open PS PS.G

set_option linter.unusedSectionVars false
variable {S : Type} [DecidableEq S]

structure SInv (E : Env S) (s : St S) : Prop where
  queue : ∀ nt el, el ∈ s.queueOf nt → ∃ rl, E.G.rule? nt el.P = some rl ∧ el.comb.length = rl.1.length
  bank : ∀ nt ci p, p ∈ s.bankAt nt ci → gen E.G p nt = true

theorem SInv.of_eq {E : Env S} {s s' : St S} (hq : ∀ nt, s'.queueOf nt = s.queueOf nt)
    (hb : ∀ nt ci, s'.bankAt nt ci = s.bankAt nt ci) (h : SInv E s) : SInv E s' :=
  ⟨fun nt el he => h.queue nt el (hq nt ▸ he), fun nt ci p hp => h.bank nt ci p (hb nt ci ▸ hp)⟩

theorem SInv.setQueue {E : Env S} {s : St S} (h : SInv E s) (nt : NT S Unit) (q : List HeapEl)
    (hq : ∀ el ∈ q, ∃ rl, E.G.rule? nt el.P = some rl ∧ el.comb.length = rl.1.length) : SInv E (s.setQueue nt q) := by
  refine ⟨fun nt' el he => ?_, fun nt' ci p hp => h.bank nt' ci p (by simpa using hp)⟩
  rw [St.queueOf_setQueue] at he
  split at he
  · next heq => subst heq; exact hq el he
  · exact h.queue nt' el he

theorem SInv.setBank {E : Env S} {s : St S} (h : SInv E s) (nt : NT S Unit) (ci : Nat) (ps : List Prog)
    (hp : ∀ p ∈ ps, gen E.G p nt = true) : SInv E (s.setBank nt ci ps) := by
  refine ⟨fun nt' el he => h.queue nt' el (by simpa using he), fun nt' ci' p hp' => ?_⟩
  rw [St.bankAt_setBank] at hp'
  split at hp'
  · next heq => obtain ⟨rfl, rfl⟩ := heq; exact hp p hp'
  · exact h.bank nt' ci' p hp'

theorem SInv.addDeleted {E : Env S} {s : St S} (h : SInv E s) (p : Prog) : SInv E (s.addDeleted p) :=
  h.of_eq (fun nt => St.addDeleted_queueOf s nt p) (fun nt ci => St.addDeleted_bankAt s nt p ci)

/-- the tuples still to be consumed by a suspended query build derivable programs -/
def FrInv (E : Env S) (nt : NT S Unit) (fr : Frame) : Prop :=
  ∀ a ∈ fr.pending, gen E.G (mkProg fr.P fr.isFun a) nt = true

theorem emit_sound (E : Env S) (nt : NT S Unit) (ci : Nat) (P : Sym) (isFun : Bool) (pend : List (List Prog)) (s : St S) (r)
    (h : emit E nt ci P isFun s pend = r) : SInv E s → (∀ a ∈ pend, gen E.G (mkProg P isFun a) nt = true) →
      SInv E r.1 ∧
      ∀ p rest, r.2 = some (p, rest) → gen E.G p nt = true ∧ E.filter p = true ∧ p ∉ s.deleted ∧ (∀ a ∈ rest, a ∈ pend) := by
  apply emit_induct E nt ci P isFun ?nil ?deleted ?rejected ?yield pend s r h
  case nil => intro s hs _; exact ⟨hs, fun _ _ h => by cases h⟩
  case deleted =>
    intro s a rest r _ ih hs hp
    obtain ⟨h1, h2⟩ := ih hs fun a' h' => hp a' (List.mem_cons_of_mem _ h')
    refine ⟨h1, fun p r hpr => ?_⟩
    obtain ⟨g1, g2, g3, g4⟩ := h2 p r hpr
    exact ⟨g1, g2, g3, fun a' h' => List.mem_cons_of_mem _ (g4 a' h')⟩
  case rejected =>
    intro s a rest r _ ih hs hp
    obtain ⟨h1, h2⟩ := ih (hs.addDeleted _) fun a' h' => hp a' (List.mem_cons_of_mem _ h')
    refine ⟨h1, fun p r hpr => ?_⟩
    obtain ⟨g1, g2, g3, g4⟩ := h2 p r hpr
    exact ⟨g1, g2, fun hin => g3 (St.addDeleted_mono _ _ _ hin), fun a' h' => List.mem_cons_of_mem _ (g4 a' h')⟩
  case yield =>
    intro s a rest hdel hfil hs hp
    have hgen : gen E.G (mkProg P isFun a) nt = true := hp a (List.mem_cons_self ..)
    refine ⟨hs.setBank nt ci _ fun p hp' => ?_, fun p r hpr => ?_⟩
    · rcases List.mem_append.mp hp' with h | h
      · exact hs.bank nt ci p h
      · rw [List.mem_singleton.mp h]; exact hgen
    · obtain ⟨rfl, rfl⟩ := Prod.mk.inj (Option.some.inj hpr)
      exact ⟨hgen, hfil, hdel, fun a' h' => List.mem_cons_of_mem _ h'⟩

theorem succLoop_sound (E : Env S) (nt : NT S Unit) (cost : Cost) (P : Sym) (comb : List Nat)
    (hr : ∃ rl, E.G.rule? nt P = some rl ∧ comb.length = rl.1.length) (as : List (NT S Unit)) (s : St S) (i : Nat)
    (hs : SInv E s) : SInv E (succLoop nt cost P comb s i as) := by
  rw [succLoop_eq]
  refine pushAll_induct nt (fun s x hx hs => hs.setQueue nt _ fun el he => ?_) s hs
  rcases (mem_push _ _ _ _).mp he with rfl | h
  · obtain ⟨j, a, _, _, rfl⟩ := mem_succEls hx
    obtain ⟨rl, h1, h2⟩ := hr
    exact ⟨rl, h1, by simpa using h2⟩
  · exact hs.queue nt el h

theorem epilogue_sound (E : Env S) (s : St S) (nt : NT S Unit) (fr : Frame) (hs : SInv E s) :
    SInv E (epilogue s nt fr) :=
  hs.of_eq (fun nt' => epilogue_queueOf s nt nt' fr) (fun nt' ci => epilogue_bankAt s nt nt' fr ci)

def PossOK (E : Env S) (ps : List Prog) (a : NT S Unit) : Prop := ∀ p ∈ ps, gen E.G p a = true

theorem tuple_gen (E : Env S) (a : List Prog) (poss : List (List Prog)) (args : List (Ty × S))
    (h1 : All2 (· ∈ ·) a poss) (h2 : All2 (PossOK E) poss (args.map ntOf)) :
    All2 (fun k x => gen E.G k (ntOf x) = true) a args := (All2.of_mem h1 h2).of_map_right

theorem pending_gen (E : Env S) (nt : NT S Unit) (P : Sym) (rl : List (Ty × S) × Unit) (hrl : E.G.rule? nt P = some rl)
    (poss : List (List Prog)) (hposs : All2 (PossOK E) poss (rl.1.map ntOf)) (a : List Prog) (ha : a ∈ product poss) :
    gen E.G (mkProg P (!(rl.1.map ntOf).isEmpty) a) nt = true := by
  rw [mkProg_tuple P ha hposs.length_eq, gen_node E.G P a nt rl hrl]
  exact genList_of_forall₂ E.G a rl.1 (tuple_gen E a poss rl.1 ((mem_product poss a).mp ha) hposs)

/-- In the motive of the argument loop `done` is a ghost list parallel to `acc`: the arguments answered so far. -/
theorem sound_all (E : Env S) : ∀ n, Runs E n
    (fun s nt _ r => SInv E s → SInv E r.1 ∧ PossOK E r.2.2 nt)
    (fun s _ _ s' => SInv E s → SInv E s')
    (fun s nt fr s' => SInv E s → FrInv E nt fr → SInv E s')
    (fun s nt fr r => SInv E s → FrInv E nt fr →
      SInv E r.1 ∧ ∀ p fr', r.2 = .yield p fr' → gen E.G p nt = true ∧ E.filter p = true ∧ FrInv E nt fr')
    (fun s as _ _ _ acc r => SInv E s → ∀ done, All2 (PossOK E) acc done →
      SInv E r.1 ∧ (r.2.2.1 = false → All2 (PossOK E) r.2.2.2 (done ++ as))) := by
  refine run_induct E ?ql_empty ?ql_beyond ?ql_bank ?ql_run_empty ?ql_run_bank ?rq_none ?rq_some ?dr_ret ?dr_yield
    ?rs_yield ?rs_ret ?rs_pop ?ar_nil ?ar_break ?ar_cons
  case ql_empty => intro _ s nt ci _ hs; exact ⟨hs, fun p hp => by cases hp⟩
  case ql_beyond => intro _ s nt ci _ _ hs; exact ⟨hs, fun p hp => by cases hp⟩
  case ql_bank =>
    intro _ s nt ci ps _ _ hps hs
    exact ⟨hs, fun p hp => hs.bank nt ci p (by rw [St.bankAt_of_lookup hps]; exact hp)⟩
  case ql_run_empty => intro _ s nt ci s1 _ _ _ _ ih _ hs; exact ⟨ih hs, fun p hp => by cases hp⟩
  case ql_run_bank =>
    intro _ s nt ci s1 ps _ _ _ _ ih _ hps hs
    exact ⟨ih hs, fun p hp => (ih hs).bank nt ci p (by rw [St.bankAt_of_lookup hps]; exact hp)⟩
  case rq_none => intro _ s nt ci _ hs; exact hs
  case rq_some => intro _ s nt ci c s' _ _ ih hs; exact ih hs (fun a ha => by cases ha)
  case dr_ret => intro _ s nt fr s1 _ ih hs hf; exact (ih hs hf).1
  case dr_yield => intro _ s nt fr s1 p fr1 s' _ ihR _ ihD hs hf; exact ihD (ihR hs hf).1 ((ihR hs hf).2 p fr1 rfl).2.2
  case rs_yield =>
    intro _ s nt fr s1 p rest hem hs hf
    have he := emit_sound E nt fr.ci fr.P fr.isFun fr.pending s _ hem hs hf
    refine ⟨he.1, fun p' fr' hy => ?_⟩
    cases hy
    obtain ⟨g1, g2, _, g4⟩ := he.2 p rest rfl
    exact ⟨g1, g2, fun a ha => hf a (g4 a ha)⟩
  case rs_ret =>
    intro _ s nt fr s1 hem _ hs hf
    exact ⟨epilogue_sound E s1 nt fr (emit_sound E nt fr.ci fr.P fr.isFun fr.pending s _ hem hs hf).1, fun _ _ hy => by cases hy⟩
  case rs_pop =>
    intro _ s nt fr s1 el q0 q' rl s3 ae af poss s' fr' r hem _ _ hpop hrl _ ihA hnext _ ihR hs hf
    have hs1 : SInv E s1 := (emit_sound E nt fr.ci fr.P fr.isFun fr.pending s _ hem hs hf).1
    obtain ⟨rl0, hrl0, hlen⟩ := hs1.queue nt el ((mem_of_pop _ _ _ _ hpop el).mpr (Or.inl rfl))
    obtain ⟨hs3, hposs⟩ := ihA (hs1.setQueue nt q' fun x hx => hs1.queue nt x ((mem_of_pop _ _ _ _ hpop x).mpr (Or.inr hx)))
      [] All2.nil
    have hs4 := succLoop_sound E nt fr.cost el.P el.comb ⟨rl0, hrl0, hlen⟩ (rl.1.map ntOf) s3 0 hs3
    rcases hnext with ⟨_, rfl, rfl⟩ | ⟨_, _, rfl, rfl⟩ | ⟨haf, _, rfl, rfl⟩
    · exact ihR hs3 (fun a ha => by cases ha)
    · exact ihR hs4 (fun a ha => by cases ha)
    · exact ihR (hs4.of_eq (by simp) (by simp)) (fun a ha => pending_gen E nt el.P rl hrl poss (hposs haf) a ha)
  case ar_nil => intro _ s cs ae af acc hs done hacc; exact ⟨hs, fun _ => by simpa using hacc⟩
  case ar_break => intro _ s a as c cs ae af acc s1 poss _ ih _ hs done _; exact ⟨(ih hs).1, fun hf => by cases hf⟩
  case ar_cons =>
    intro _ s a as c cs ae af acc s1 one poss r _ ihQ _ _ ihA hs done hacc
    obtain ⟨g1, g2⟩ := ihA (ihQ hs).1 (done ++ [a]) (hacc.append (All2.cons (ihQ hs).2 All2.nil))
    exact ⟨g1, fun hf => by simpa using g2 hf⟩

/-- Python dicts have distinct keys: every row of the rule table -/
def RowsNodup (G : TT S Unit) : Prop := ∀ nt rs, AList.lookup nt G.rules = some rs → (AList.keys rs).Nodup

theorem rowsNodup_of_check (G : TT S Unit) (h : G.rules.all (fun r => decide (AList.keys r.2).Nodup) = true) :
    RowsNodup G := fun nt rs hl => of_decide_eq_true (List.all_eq_true.mp h (nt, rs) (AList.lookup_some_mem hl))

theorem sinv_empty (E : Env S) : SInv E (St.empty E.G) := by
  refine ⟨fun nt el he => ?_, fun nt ci p hp => ?_⟩
  · rw [St.queueOf_empty] at he; cases he
  · rw [St.bankAt_empty] at hp; cases hp

theorem prologue_sound (E : Env S) (hnd : RowsNodup E.G) (fuel : Nat) (s s' : St S) (hs : SInv E s)
    (h : prologue E fuel s = some s') : SInv E s' := by
  have he := prologue_each E
    (W := fun nt q => ∀ el ∈ q, ∃ rl, E.G.rule? nt el.P = some rl ∧ el.comb.length = rl.1.length) (C := fun _ _ => True)
    (fun _ _ _ _ _ => trivial) (fun s nt rs P rl _ _ hs hrs hm _ _ => forall_push (hs.queue nt) ⟨rl, rule_of_mem hnd hrs hm, by simp⟩)
    (fun _ _ _ _ _ _ => trivial)
    (fun s nt nq e q' _ _ hs hnq hh _ => ⟨forall_repriced hnq hh (hs.queue nt) fun x el ⟨rl, g1, g2⟩ hf =>
      ⟨rl, (recost_keeps E s nt x el hf).1 ▸ g1, (recost_keeps E s nt x el hf).2 ▸ g2⟩, trivial⟩)
    fuel s s' ⟨hs.queue, fun _ => trivial⟩ h
  exact ⟨he.queue, fun nt ci p hp => hs.bank nt ci p ((prologue_rest E fuel s s' h).bankAt nt ci ▸ hp)⟩

def GInv (E : Env S) (g : Gen S) : Prop := SInv E g.st ∧ ∀ fr, g.frame = some fr → FrInv E E.G.start fr

theorem nextLoop_sound (E : Env S) (fuel : Nat) (k : Nat) (s : St S) (n : Nat) (failed : Bool) (fro : Option Frame)
    (r : Gen S × Option Prog) (h : nextLoop E fuel k s n failed fro = some r) :
    SInv E s → (∀ fr, fro = some fr → FrInv E E.G.start fr) →
      GInv E r.1 ∧ ∀ p, r.2 = some p → gen E.G p E.G.start = true ∧ E.filter p = true := by
  apply nextLoop_induct E fuel ?nl_yield ?nl_stop ?nl_next ?nl_end ?nl_enter k s n failed fro r h
  case nl_yield =>
    intro s n failed fr s1 p fr1 hr hs hf
    obtain ⟨h1, h2⟩ := (sound_all E fuel).rs hr hs (hf fr rfl)
    obtain ⟨g1, g2, g3⟩ := h2 p fr1 rfl
    exact ⟨⟨h1, fun fr' he => by cases he; exact g3⟩, fun p' hp' => by cases hp'; exact ⟨g1, g2⟩⟩
  case nl_stop =>
    intro s n failed fr s1 hr _ hs hf
    exact ⟨⟨((sound_all E fuel).rs hr hs (hf fr rfl)).1, fun fr' he => by cases he⟩, fun p' hp' => by cases hp'⟩
  case nl_next =>
    intro s n failed fr s1 r hr ih hs hf
    exact ih ((sound_all E fuel).rs hr hs (hf fr rfl)).1 (fun fr' he => by cases he)
  case nl_end =>
    -- here and in `nl_enter` the state is `{ s with failedByEmpties := false }` (beap_search.py:127), hence the `of_eq`
    intro s n failed _ hs _
    exact ⟨⟨SInv.of_eq (s := s) (fun _ => rfl) (fun _ _ => rfl) hs, fun fr' he => by cases he⟩, fun p' hp' => by cases hp'⟩
  case nl_enter =>
    intro s n failed c r _ ih hs _
    exact ih (SInv.of_eq (s := s) (fun _ => rfl) (fun _ _ => rfl) hs) (fun fr' he => by cases he; intro a ha; cases ha)

theorem next_sound (E : Env S) (hnd : RowsNodup E.G) (fuel : Nat) (g : Gen S) (r : Gen S × Option Prog)
    (hg : GInv E g) (h : next E fuel g = some r) :
    GInv E r.1 ∧ ∀ p, r.2 = some p → gen E.G p E.G.start = true ∧ E.filter p = true := by
  rcases next_cases h with ⟨_, rfl⟩ | ⟨_, h⟩ | ⟨_, s, hp, h⟩
  · exact ⟨hg, fun p hp => by cases hp⟩
  · exact nextLoop_sound E fuel _ _ _ _ _ _ h hg.1 hg.2
  · exact nextLoop_sound E fuel _ _ _ _ _ _ h (prologue_sound E hnd fuel _ _ hg.1 hp) (fun fr he => by cases he)

theorem ginv_new (E : Env S) : GInv E (Gen.new E.G) := ⟨sinv_empty E, fun fr he => by cases he⟩

theorem merge_bankAt_subset (g : Gen S) (other : Prog) (ok : NT S Unit → Bool) (nt : NT S Unit) (ci : Nat) (p : Prog)
    (hp : p ∈ (merge g other ok).st.bankAt nt ci) : p ∈ g.st.bankAt nt ci := by
  unfold St.bankAt at hp ⊢
  rw [merge_lookup] at hp
  split at hp
  · cases hl : AList.lookup ci (g.st.bankOf nt) with
    | none => rw [hl] at hp; simp at hp
    | some ps => rw [hl] at hp; exact List.mem_of_mem_erase hp
  · exact hp

theorem merge_sound (E : Env S) (g : Gen S) (other : Prog) (ok : NT S Unit → Bool) (hg : GInv E g) :
    GInv E (merge g other ok) := by
  refine ⟨⟨fun nt el he => hg.1.queue nt el ?_, fun nt ci p hp => hg.1.bank nt ci p (merge_bankAt_subset g other ok nt ci p hp)⟩, hg.2⟩
  rw [(merge_tables g other ok).2.1] at he; exact he

theorem take_sound (E : Env S) (hnd : RowsNodup E.G) (fuel : Nat) : ∀ (k : Nat) (g : Gen S) (acc : List Prog)
    (r : Gen S × List Prog × Bool), GInv E g → (∀ p ∈ acc, gen E.G p E.G.start = true ∧ E.filter p = true) →
    take E fuel k g acc = some r → GInv E r.1 ∧ ∀ p ∈ r.2.1, gen E.G p E.G.start = true ∧ E.filter p = true := by
  intro k g acc r hg ha
  refine take_induct E fuel (I := fun g acc => GInv E g ∧ ∀ p ∈ acc, gen E.G p E.G.start = true ∧ E.filter p = true)
    (Q := fun g acc _ => GInv E g ∧ ∀ p ∈ acc, gen E.G p E.G.start = true ∧ E.filter p = true) (fun _ _ hi => hi) (fun g acc g' hi hn => ⟨(next_sound E hnd fuel g _ hi.1 hn).1, hi.2⟩)
    (fun g acc g' p hi hn => ?_) k g acc r ⟨hg, ha⟩
  obtain ⟨h1, h2⟩ := next_sound E hnd fuel g _ hi.1 hn
  refine ⟨h1, fun q hq => ?_⟩
  rcases List.mem_append.mp hq with hq | hq
  · exact hi.2 q hq
  · rw [List.mem_singleton.mp hq]; exact h2 _ rfl

end PS.Beap
