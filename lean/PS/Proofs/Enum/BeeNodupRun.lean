/- Bee search, no duplicates along runs without merge declarations: the fresh enumerator satisfies the invariant
   (decidable check `initFrontOK` + `dictOK`), histories of takes keep it, the yielded sequence is duplicate-free. -/
import PS.Proofs.Enum.BeeNodup
import PS.Proofs.Enum.BeeOrderRun
namespace PS.Bee
open PS PS.G

variable {S : Type} [DecidableEq S]
set_option linter.unusedSectionVars false
set_option linter.unusedSimpArgs false

theorem pendPairs_eq (s : St S) (nt : NT S Unit) :
    pendPairs s nt = (allOf nt s.queued).map (fun e => (e.P, e.combo)) ++ (allOf nt s.delayed).map (fun d => (d.2.1, d.1)) := by
  unfold pendPairs
  rw [allOf_eq_flatMap, allOf_eq_flatMap, List.map_flatMap, List.map_flatMap]

theorem qcmb_eq (P : Sym) (l : List HeapElem) :
    qcmb P l = ((l.map fun e => (e.P, e.combo)).filter fun x => decide (x.1 = P)).map (·.2) := by
  rw [List.filter_map, List.map_map]; rfl

theorem dcmb_eq (P : Sym) (l : List Delayed) :
    dcmb P l = ((l.map fun d => (d.2.1, d.1)).filter fun x => decide (x.1 = P)).map (·.2) := by
  rw [List.filter_map, List.map_map]; rfl

theorem pend_eq_pairs (s : St S) (nt : NT S Unit) (P : Sym) :
    pend s nt P = ((pendPairs s nt).filter fun x => decide (x.1 = P)).map (·.2) := by
  rw [pendPairs_eq]; unfold pend
  rw [qcmb_eq, dcmb_eq, List.filter_append, List.map_append]

theorem nodup_proj (P : Sym) (l : List (Sym × List Nat)) (h : l.Nodup) :
    ((l.filter fun x => decide (x.1 = P)).map (·.2)).Nodup := by
  -- two pairs with first component `P` that differ, differ in the second component
  refine List.pairwise_map.mpr ((h.filter _).imp_of_mem fun ha hb hab e => hab (Prod.ext ?_ e))
  exact (of_decide_eq_true (List.mem_filter.mp ha).2).trans (of_decide_eq_true (List.mem_filter.mp hb).2).symm

theorem frontCheck_spec {s : St S} (h : frontCheck s = true) {nt : NT S Unit} {P : Sym} {t : List Nat} (ht : t ∈ pend s nt P) :
    (pendPairs s nt).Nodup ∧ ∀ x ∈ pendPairs s nt, CD.nonzero x.2 = false := by
  have hk : nt ∈ AList.keys s.queued ++ AList.keys s.delayed := Decidable.by_contra fun hk => by
    rw [pend_of_not_mem_keys hk] at ht; cases ht
  have h1 := List.all_eq_true.mp h nt hk
  rw [Bool.and_eq_true, decide_eq_true_eq, List.all_eq_true] at h1
  refine ⟨h1.1, fun x hx => List.any_eq_false.mpr fun y hy => ?_⟩
  have := List.all_eq_true.mp (h1.2 x hx) y hy
  simpa using this

theorem zero_of_check (s : St S) (h : frontCheck s = true) : ∀ nt P t, t ∈ pend s nt P → CD.nonzero t = false := by
  intro nt P t ht
  have h2 := (frontCheck_spec h ht).2
  rw [pend_eq_pairs] at ht
  obtain ⟨x, hx, rfl⟩ := List.mem_map.mp ht
  exact h2 x (List.mem_filter.mp hx).1

theorem front_of_check (s : St S) (h : frontCheck s = true) : ∀ nt P, Frontier (pend s nt P) := fun nt P =>
  ⟨by
    cases hp : pend s nt P with
    | nil => exact List.nodup_nil
    | cons t _ =>
      rw [← hp, pend_eq_pairs]
      exact nodup_proj P _ (frontCheck_spec h (t := t) (hp ▸ List.mem_cons_self)).1,
   fun t _ u hu ha => by
    have := ha.nonzero
    rw [zero_of_check s h nt P u hu] at this; cases this⟩

theorem gn_new (E : Env S) (hdict : DictOK E) (hfront : initFrontOK E = true) (g0 : Gen S) (h : Gen.new E = some g0) :
    GN E g0 := by
  have hfc : frontCheck g0.st = true := by
    unfold initFrontOK at hfront; rw [h] at hfront; exact hfront
  obtain ⟨_, hph, _, _, _, hbe⟩ := ginv_new E g0 h
  have hwf : QAll (QWf E) g0.st ∧ DAll (DWf E) g0.st :=
    (new_ind (I := fun s => QAll (QWf E) s ∧ DAll (DWf E) s) ⟨QAll.nil _, DAll.nil _⟩
      (fun s nt hi => ⟨hi.1.newRow nt, hi.2⟩)
      (fun nt rs P rl hnt hP s s' ha hi =>
        addCombination_all E (QWf E) (DWf E) s s' nt P _ none ha (fun c _ _ => ⟨rl.1, hdict nt rs hnt P rl hP, by simp⟩)
          (fun _ => ⟨rl.1, hdict nt rs hnt P rl hP, by simp⟩) hi.1 hi.2) h).1
  have hnob : ∀ nt ci p, ¬ inBank g0.st nt ci p := fun nt ci p ⟨ps, hl, _⟩ => by rw [hbe.bankOf] at hl; cases hl
  refine ⟨⟨hwf.1, hwf.2, front_of_check g0.st hfc, ?_, fun nt ci cj p h1 _ => absurd h1 (hnob nt ci p),
    fun nt ci p h1 => absurd h1 (hnob nt ci p)⟩, by rw [hph]; trivial⟩
  intro nt ci ps hl
  rw [hbe.bankOf] at hl; cases hl

def AccOK (E : Env S) (g : Gen S) (acc : List Prog) : Prop :=
  acc.Nodup ∧ ∀ q ∈ acc, ∃ cj, inBank g.st E.G.start cj q

def Act.isTake : Act → Bool
  | .take _ => true
  | .merge _ _ => false

theorem not_merge_of_isTake {acts : List Act} (h : acts.all Act.isTake = true) (other : Prog) (ty : Ty) :
    Act.merge other ty ∉ acts := fun hm => by simpa [Act.isTake] using List.all_eq_true.mp h _ hm

theorem step_accOK (E : Env S) (g g' : Gen S) (out : Option Prog) (acc : List Prog) (h : step E g = some (g', out))
    (hj : GN E g ∧ AccOK E g acc) : GN E g' ∧ AccOK E g' (acc ++ out.toList) := by
  obtain ⟨h1, h2, h3⟩ := step_nodup E g g' out h hj.1
  have hold : ∀ q ∈ acc, ∃ cj, inBank g'.st E.G.start cj q := fun q hq => by
    obtain ⟨cj, hcj⟩ := hj.2.2 q hq; exact ⟨cj, h2 _ _ _ hcj⟩
  refine ⟨h1, ?_⟩
  cases out with
  | none => exact ⟨by simpa using hj.2.1, by simpa using hold⟩
  | some p =>
    obtain ⟨hfresh, ci, hin⟩ := h3 p rfl
    refine ⟨List.nodup_append.mpr ⟨hj.2.1, by simp, ?_⟩, ?_⟩
    · intro a haa b hb hab
      obtain ⟨cj, hcj⟩ := hj.2.2 a haa
      rw [List.mem_singleton.mp hb] at hab
      exact hfresh cj (hab ▸ hcj)
    · intro q hq
      rcases List.mem_append.mp hq with hq | hq
      · exact hold q hq
      · rw [List.mem_singleton.mp hq]; exact ⟨ci, hin⟩

theorem runActs_nodup (E : Env S) (fuel : Nat) : ∀ (acts : List Act) (g g' : Gen S) (acc out : List Prog),
    acts.all Act.isTake = true → runActs E fuel acts g acc = some (g', out) → GN E g → AccOK E g acc →
    GN E g' ∧ AccOK E g' out :=
  fun acts g g' acc out hall h hi ha =>
    runActs_ind (J := fun g acc => GN E g ∧ AccOK E g acc) (fun g g' out acc => step_accOK E g g' out acc) fuel acts g g' acc
      out (fun o t hm => absurd hm (not_merge_of_isTake hall o t)) h ⟨hi, ha⟩

theorem next_nodup (E : Env S) : ∀ (n : Nat) (g g' : Gen S) (out : Option Prog) (acc : List Prog),
    next E n g = some (g', out) → GN E g → AccOK E g acc →
    GN E g' ∧ (match out with | none => AccOK E g' acc | some p => AccOK E g' (acc ++ [p])) := by
  intro n g g' out acc h hi ha
  have := (next_ind (J := fun g acc => GN E g ∧ AccOK E g acc) (step_accOK E) n g g' out acc h ⟨hi, ha⟩).1
  cases out <;> simpa using this

theorem take_nodup (E : Env S) (fuel : Nat) : ∀ (k : Nat) (g g' : Gen S) (acc out : List Prog) (fin : Bool),
    take E fuel k g acc = some (g', out, fin) → GN E g → AccOK E g acc → GN E g' ∧ AccOK E g' out :=
  fun k g g' acc out fin h hi ha =>
    (take_ind (J := fun g acc => GN E g ∧ AccOK E g acc) (step_accOK E) fuel k g g' acc out fin h ⟨hi, ha⟩).1

theorem runActs_nodup_new (E : Env S) (hdict : DictOK E) (hfront : initFrontOK E = true) {fuel : Nat} {acts : List Act}
    {g0 g : Gen S} {out : List Prog} (hall : acts.all Act.isTake = true) (h0 : Gen.new E = some g0)
    (h : runActs E fuel acts g0 [] = some (g, out)) : GN E g ∧ out.Nodup :=
  (runActs_nodup E fuel acts g0 g [] out hall h (gn_new E hdict hfront g0 h0) ⟨List.nodup_nil, nofun⟩).imp_right And.left

end PS.Bee
