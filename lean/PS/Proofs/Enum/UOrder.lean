/- Heap search on unambiguous, acyclic grammars: the algebra of priorities (`LE E nt`: the order of the priorities of
   the derivations from `nt`), the two invariants of an initialised non-terminal — order (`NTInv`: `succ[nt]` is a sorted
   chain that nothing in the heap beats) and completeness (`CInv`: every pushed program is accounted for and the
   successors of every program taken out were added) — and how both pass to a state that left the tables of the
   non-terminal alone. -/
import PS.Proofs.Enum.Frontier
import PS.Proofs.Enum.HeapMap
import PS.Proofs.Enum.UFrame
namespace PS.UHS
open PS PS.G
set_option linter.unusedSectionVars false
variable {U π : Type} [DecidableEq U]

/-- the grammar is unambiguous at the level of the alternatives: arguments derivable from two
    alternatives of one symbol at one non-terminal → the same alternative (and weight) -/
def UAlt (E : Env U π) : Prop :=
  ∀ nt F ks v w v' w', (v, w) ∈ altsOf E nt F → (v', w') ∈ altsOf E nt F → DerList E ks v → DerList E ks v' →
    v = v' ∧ w = w'

/-- hypotheses of the order and completeness invariants of a non-terminal. `Good` is a set that holds the priorities of
    all derivations (`good_rule`, `good_comb`): the order laws are asked on it only, since `Bucket.__lt__` is a strict
    weak order on tuples of one length only. `ualt` makes the priority of a program at a non-terminal unique
    (`hasPrio_fun`); `leaf_one` and `flat_nodup` are for `__init_non_terminal__` (the scan of a constant stops after its
    first alternative; phase 2 pushes distinct programs). -/
structure OHyp (E : Env U π) (rank : UNT U → Nat) (Good : π → Prop) : Prop where
  ghyp : GHyp E
  acyclic : Acyclic E rank
  /-- `<` is a strict weak order on the priorities of derivations (bucket tuples of one length) -/
  weak : Heapq.WeakOrderOn Good E.ops.lt
  thr : E.ops.thr = none
  ualt : UAlt E
  /-- the pairs (symbol, alternative) of a non-terminal are distinct (dict keys) -/
  flat_nodup : ∀ nt rs, AList.lookup nt E.G.rules = some rs →
    (rs.flatMap fun r => r.2.map fun vw => (r.1, vw.1)).Nodup
  /-- a constant has one alternative (`assert len(possibles) == 1`) -/
  leaf_one : ∀ nt F w, ([], w) ∈ altsOf E nt F → altsOf E nt F = [([], w)]
  good_rule : ∀ nt F v w, (v, w) ∈ altsOf E nt F → Good (E.ops.ofRule w)
  good_comb : ∀ a b, Good a → Good b → Good (E.ops.combine a b)
  mono_r : ∀ a b c, Good a → Good b → Good c → E.ops.lt a b = false →
    E.ops.lt (E.ops.combine a c) (E.ops.combine b c) = false
  mono_l : ∀ a b c, Good a → Good b → Good c → E.ops.lt a b = false →
    E.ops.lt (E.ops.combine c a) (E.ops.combine c b) = false

section Algebra
variable {E : Env U π} {rank : UNT U → Nat} {Good : π → Prop}

theorem hasPrio_good_both (H : OHyp E rank Good) :
    (∀ (p : Prog) (nt : UNT U) (pr : π), HasPrio E p nt pr → Good pr) ∧
    ∀ (ks : List Prog) (v : List (UNT U)) (acc pr : π), Good acc → HasPrioList E ks v acc pr → Good pr := by
  refine Tree.ind₂ (fun F kids ih nt pr h => ?_) (fun v acc pr ha h => ?_) (fun k ks ihk ihks v acc pr ha h => ?_)
  · rw [hasPrio_node] at h
    obtain ⟨v, w, hm, hl⟩ := h
    exact ih v _ pr (H.good_rule nt F v w hm) hl
  · cases v with
    | nil => rw [HasPrioList] at h; exact h ▸ ha
    | cons _ _ => rw [HasPrioList] at h; exact h.elim
  · cases v with
    | nil => rw [HasPrioList] at h; exact h.elim
    | cons a as =>
      rw [HasPrioList] at h
      obtain ⟨pk, h1, h2⟩ := h
      exact ihks as _ pr (H.good_comb _ _ ha (ihk a pk h1)) h2

theorem hasPrio_good (H : OHyp E rank Good) : ∀ (p : Prog) (nt : UNT U) (pr : π), HasPrio E p nt pr → Good pr :=
  (hasPrio_good_both H).1

theorem hasPrioList_good (H : OHyp E rank Good) : ∀ (ks : List Prog) (v : List (UNT U)) (acc pr : π),
    Good acc → HasPrioList E ks v acc pr → Good pr :=
  (hasPrio_good_both H).2

theorem hasPrio_fun_both (H : OHyp E rank Good) :
    (∀ (p : Prog) (nt : UNT U) (pr pr' : π), HasPrio E p nt pr → HasPrio E p nt pr' → pr = pr') ∧
    ∀ (ks : List Prog) (v : List (UNT U)) (acc pr pr' : π),
      HasPrioList E ks v acc pr → HasPrioList E ks v acc pr' → pr = pr' := by
  refine Tree.ind₂ (fun F kids ih nt pr pr' h h' => ?_) (fun v acc pr pr' h h' => ?_)
    (fun k ks ihk ihks v acc pr pr' h h' => ?_)
  · rw [hasPrio_node] at h h'
    obtain ⟨v, w, hm, hl⟩ := h
    obtain ⟨v', w', hm', hl'⟩ := h'
    obtain ⟨rfl, rfl⟩ := H.ualt nt F kids v w v' w' hm hm' (hasPrioList_derList E _ _ _ _ hl)
      (hasPrioList_derList E _ _ _ _ hl')
    exact ih v _ pr pr' hl hl'
  · cases v with
    | nil => rw [HasPrioList] at h h'; rw [h, h']
    | cons _ _ => rw [HasPrioList] at h; exact h.elim
  · cases v with
    | nil => rw [HasPrioList] at h; exact h.elim
    | cons a as =>
      rw [HasPrioList] at h h'
      obtain ⟨pk, h1, h2⟩ := h
      obtain ⟨pk', h1', h2'⟩ := h'
      cases ihk a pk pk' h1 h1'
      exact ihks as _ pr pr' h2 h2'

theorem hasPrio_fun (H : OHyp E rank Good) : ∀ (p : Prog) (nt : UNT U) (pr pr' : π),
    HasPrio E p nt pr → HasPrio E p nt pr' → pr = pr' :=
  (hasPrio_fun_both H).1

theorem hasPrioList_fun (H : OHyp E rank Good) : ∀ (ks : List Prog) (v : List (UNT U)) (acc pr pr' : π),
    HasPrioList E ks v acc pr → HasPrioList E ks v acc pr' → pr = pr' :=
  (hasPrio_fun_both H).2

/-- `x` is not worse than `y` at `nt` (comes first or ties) -/
def LE (E : Env U π) (nt : UNT U) (x y : Prog) : Prop :=
  ∀ px py, HasPrio E x nt px → HasPrio E y nt py → E.ops.lt py px = false

theorem LE.refl (H : OHyp E rank Good) (nt : UNT U) (x : Prog) : LE E nt x x := by
  intro px py hx hy
  rw [hasPrio_fun H x nt px py hx hy]
  exact H.weak.irrefl (hasPrio_good H x nt py hy)

theorem LE.trans (H : OHyp E rank Good) {nt : UNT U} {x y z : Prog} (hy : Der E y nt) (h1 : LE E nt x y) (h2 : LE E nt y z) :
    LE E nt x z := by
  intro px pz hx hz
  obtain ⟨py, hpy⟩ := hy
  exact H.weak.ntrans (hasPrio_good H _ _ _ hx) (hasPrio_good H _ _ _ hpy) (hasPrio_good H _ _ _ hz)
    (h1 px py hx hpy) (h2 py pz hpy hz)

/-- monotonicity in the accumulator and in all the arguments at once -/
theorem hasPrioList_mono (H : OHyp E rank Good) : ∀ (ks ks' : List Prog) (v : List (UNT U)) (acc acc' pr pr' : π),
    Good acc → Good acc' → E.ops.lt acc' acc = false →
    (∀ (j : Nat) (a a' : Prog) (sj : UNT U), ks[j]? = some a → ks'[j]? = some a' → v[j]? = some sj → LE E sj a a') →
    HasPrioList E ks v acc pr → HasPrioList E ks' v acc' pr' → E.ops.lt pr' pr = false := by
  intro ks ks' v
  fun_induction DerList E ks v generalizing ks' with
  | case1 =>
    intro acc acc' pr pr' _ _ hle _ h h'
    cases ks' with
    | nil => rw [HasPrioList] at h h'; rw [h, h']; exact hle
    | cons _ _ => rw [HasPrioList] at h'; exact h'.elim
  | case2 k ks a as ih =>
    intro acc acc' pr pr' ha ha' hle hp h h'
    cases ks' with
    | nil => rw [HasPrioList] at h'; exact h'.elim
    | cons k' ks' =>
      rw [HasPrioList] at h h'
      obtain ⟨pk, h1, h2⟩ := h
      obtain ⟨pk', h1', h2'⟩ := h'
      have gk := hasPrio_good H _ _ _ h1
      have gk' := hasPrio_good H _ _ _ h1'
      have hkk : E.ops.lt pk' pk = false := hp 0 k k' a rfl rfl rfl pk pk' h1 h1'
      have e1 : E.ops.lt (E.ops.combine acc' pk) (E.ops.combine acc pk) = false := H.mono_r _ _ _ ha' ha gk hle
      have e2 : E.ops.lt (E.ops.combine acc' pk') (E.ops.combine acc' pk) = false := H.mono_l _ _ _ gk' gk ha' hkk
      exact ih ks' _ _ pr pr' (H.good_comb _ _ ha gk) (H.good_comb _ _ ha' gk')
        (H.weak.ntrans (H.good_comb _ _ ha gk) (H.good_comb _ _ ha' gk) (H.good_comb _ _ ha' gk') e1 e2)
        (fun j x x' sj hx hx' hsj => hp (j + 1) x x' sj hx hx' hsj) h2 h2'
  | case3 => intro _ _ _ _ _ _ _ _ h; rw [HasPrioList] at h; exact h.elim
  | case4 => intro _ _ _ _ _ _ _ _ h; rw [HasPrioList] at h; exact h.elim

theorem LE.all (H : OHyp E rank Good) {nt : UNT U} {F : Sym} {a b : List Prog} {v : List (UNT U)}
    (hka : KeyOK E nt F a v) (hkb : KeyOK E nt F b v)
    (hp : ∀ (j : Nat) (x x' : Prog) (sj : UNT U), a[j]? = some x → b[j]? = some x' → v[j]? = some sj → LE E sj x x') :
    LE E nt (.node F a) (.node F b) := by
  intro px py hx hy
  rw [hasPrio_node] at hx hy
  obtain ⟨v1, w1, hm1, hl1⟩ := hx
  obtain ⟨v2, w2, hm2, hl2⟩ := hy
  obtain ⟨w, hm⟩ := hka.1
  obtain ⟨rfl, rfl⟩ := H.ualt nt F a v w v1 w1 hm hm1 hka.2 (hasPrioList_derList E _ _ _ _ hl1)
  obtain ⟨rfl, rfl⟩ := H.ualt nt F b v w v2 w2 hm hm2 hkb.2 (hasPrioList_derList E _ _ _ _ hl2)
  exact hasPrioList_mono H a b v _ _ px py (H.good_rule nt F v w hm) (H.good_rule nt F v w hm) (H.weak.irrefl (H.good_rule nt F v w hm)) hp hl1 hl2

theorem LE.set (H : OHyp E rank Good) {nt : UNT U} {F : Sym} {args : List Prog} {v : List (UNT U)} {i : Nat}
    {ai q : Prog} {si : UNT U} (hk : KeyOK E nt F args v) (hai : args[i]? = some ai) (hsi : v[i]? = some si)
    (hq : Der E q si) (hle : LE E si ai q) : LE E nt (.node F args) (.node F (args.set i q)) := by
  refine LE.all H hk ⟨hk.1, derList_set E args v i q si hk.2 hsi hq⟩ fun j x x' sj hx hx' hsj => ?_
  rcases getElem?_set_cases hx' with ⟨rfl, rfl⟩ | ⟨_, hx'⟩
  · rw [hai] at hx; cases hx
    rw [hsi] at hsj; cases hsj
    exact hle
  · rw [hx] at hx'; cases hx'
    exact LE.refl H sj x

end Algebra

/-! ### the successor table as a chain -/

/-- the table is `[(k, v₀), (some v₀, v₁), (some v₁, v₂), …]` -/
def ChainL : Option Prog → AList (Option Prog) Prog → Prop
  | _, [] => True
  | k, (k', v) :: rest => k' = k ∧ ChainL (some v) rest

/-- the key under which the next pop is recorded -/
def lastK (k : Option Prog) (t : AList (Option Prog) Prog) : Option Prog :=
  match t.getLast? with
  | none => k
  | some e => some e.2

theorem lastK_cons (k : Option Prog) (k' : Option Prog) (v : Prog) (rest : AList (Option Prog) Prog) :
    lastK k ((k', v) :: rest) = lastK (some v) rest := by
  unfold lastK
  cases rest with
  | nil => rfl
  | cons a r =>
    rw [List.getLast?_cons_cons]
    cases h : (a :: r).getLast? with
    | none => simp at h
    | some e => rfl

theorem chainL_snoc : ∀ (t : AList (Option Prog) Prog) (k : Option Prog) (v : Prog),
    ChainL k t → ChainL k (t ++ [(lastK k t, v)]) := by
  intro t
  induction t with
  | nil => exact fun k v _ => ⟨rfl, trivial⟩
  | cons e rest ih =>
    intro k v h
    rw [lastK_cons]
    exact ⟨h.1, ih (some e.2) v h.2⟩

theorem chainL_miss : ∀ (t : AList (Option Prog) Prog) (k0 key : Option Prog),
    ChainL k0 t → AList.lookup key t = none → (key = k0 ∨ ∃ e, e ∈ t ∧ key = some e.2) → key = lastK k0 t := by
  intro t
  induction t with
  | nil =>
    intro k0 key _ _ h
    rcases h with h | ⟨e, he, _⟩
    · exact h
    · cases he
  | cons e0 rest ih =>
    obtain ⟨k', v⟩ := e0
    intro k0 key hc hl h
    obtain ⟨rfl, hc'⟩ := hc
    simp only [AList.lookup] at hl
    split at hl
    · cases hl
    · rename_i hne
      rw [lastK_cons]
      apply ih (some v) key hc' hl
      rcases h with h | ⟨e, he, hk⟩
      · exact absurd h.symm hne
      · rcases List.mem_cons.mp he with rfl | he'
        · exact Or.inl hk
        · exact Or.inr ⟨e, he', hk⟩

/-- `x` was popped for `nt` (is a value of `succ[nt]`) -/
def Popped (s : St U π) (nt : UNT U) (x : Prog) : Prop := ∃ k, AList.lookup k (s.succOf nt) = some x

theorem Popped.congr {s s' : St U π} {nt : UNT U} {x : Prog} (h : s'.succOf nt = s.succOf nt) :
    Popped s' nt x ↔ Popped s nt x := by
  rw [Popped, Popped, h]

theorem Popped.mono {s s' : St U π} (h : Stable s s') {nt : UNT U} {x : Prog} (hp : Popped s nt x) : Popped s' nt x := by
  obtain ⟨k, hk⟩ := hp
  exact ⟨k, h nt k x hk⟩

/-- order invariant of an initialised non-terminal -/
structure NTInv (E : Env U π) (s : St U π) (nt : UNT U) : Prop where
  init : s.initS.contains nt = true
  chain : ChainL none (s.succOf nt)
  /-- `succ[nt]` is a dict -/
  keys_nodup : (AList.keys (s.succOf nt)).Nodup
  /-- the first pop is `max_priority[nt]` -/
  first : ∃ m, AList.lookup nt s.maxNT = some m ∧
    (AList.lookup none (s.succOf nt) = some m ∨ (s.succOf nt = [] ∧ ∃ pr, (s.heapOf nt).head? = some (pr, m)))
  /-- the arguments of every program ever pushed were popped for their non-terminals -/
  args : ∀ (F : Sym) (kids : List Prog) (v : List (UNT U)), Tree.node F kids ∈ s.seenOf nt →
    AList.lookup (nt, Tree.node F kids) s.keys = some v →
    ∀ (i : Nat) (ai : Prog) (si : UNT U), kids[i]? = some ai → v[i]? = some si → Popped s si ai
  /-- no heap element is better than a program already popped -/
  heap_le : ∀ x, Popped s nt x → ∀ e, e ∈ s.heapOf nt → LE E nt x e.2
  /-- a recorded successor is not better than its predecessor -/
  sorted : ∀ k x, AList.lookup (some k) (s.succOf nt) = some x → LE E nt k x
  /-- the non-terminals of the alternatives have been initialised and queried once -/
  closed : ∀ F v w, (v, w) ∈ altsOf E nt F → ∀ a, a ∈ v → ∃ x, AList.lookup none (s.succOf a) = some x

/-- nothing was done for `nt` yet -/
def Uninit (s : St U π) (nt : UNT U) : Prop :=
  s.initS.contains nt = false ∧ s.heapOf nt = [] ∧ s.succOf nt = [] ∧ s.seenOf nt = []

/-- `__init_non_terminal__(nt)` is running and still scans the rules of `nt`: `nt` is in `_init`, its heap and its
    tables are empty (they are filled after the scan, when `max_priority[nt]` is set) -/
def Mid (s : St U π) (nt : UNT U) : Prop :=
  s.initS.contains nt = true ∧ s.heapOf nt = [] ∧ s.succOf nt = [] ∧ s.seenOf nt = []

/-- the argument position `j` of a popped program `F(args)` of `nt` has been treated by
    `__add_successors_to_heap__`: the program with the successor of the argument was added, or the
    non-terminal of the argument is exhausted -/
def SuccDone (s : St U π) (nt : UNT U) (F : Sym) (args : List Prog) (j : Nat) (aj : Prog) (sj : UNT U) : Prop :=
  (∃ q, AList.lookup (some aj) (s.succOf sj) = some q ∧ Tree.node F (args.set j q) ∈ s.seenOf nt) ∨
  (s.initS.contains sj = true ∧ s.heapOf sj = [] ∧ AList.lookup (some aj) (s.succOf sj) = none)

/-- `p` was pushed for `nt` and taken out of its heap (popped, or skipped as a rejected program) -/
def Proc (s : St U π) (nt : UNT U) (p : Prog) : Prop := p ∈ s.seenOf nt ∧ p ∉ s.heapProgs nt

theorem Proc.congr {s s' : St U π} {nt : UNT U} {p : Prog} (h1 : s'.seenOf nt = s.seenOf nt)
    (h2 : s'.heapOf nt = s.heapOf nt) : Proc s' nt p ↔ Proc s nt p := by
  rw [Proc, Proc, h1, St.heapProgs_congr h2]

/-- completeness invariant of an initialised non-terminal; `e`, `i`: the program whose successors are being added
    and the positions (`< i`) still to be treated -/
structure CInv (E : Env U π) (rank : UNT U → Nat) (s : St U π) (nt : UNT U) (e : Option Prog) (i : Nat) : Prop where
  keyed : ∀ p, p ∈ s.seenOf nt → ∃ v, AList.lookup (nt, p) s.keys = some v
  /-- the initial program of every alternative was pushed -/
  initial : ∀ F v w, (v, w) ∈ altsOf E nt F → ∃ kids, Tree.node F kids ∈ s.seenOf nt ∧ kids.length = v.length ∧
    ∀ (j : Nat) (aj : Prog) (sj : UNT U), kids[j]? = some aj → v[j]? = some sj →
      AList.lookup none (s.succOf sj) = some aj
  /-- what was ever pushed is in the heap, was popped, or was skipped as a rejected program -/
  cover : ∀ p, p ∈ s.seenOf nt → p ∈ s.heapProgs nt ∨ Popped s nt p ∨ E.filter p = false
  /-- every argument position of every program taken out of the heap has been treated -/
  succs : ∀ (F : Sym) (args : List Prog) (v : List (UNT U)), Proc s nt (Tree.node F args) →
    AList.lookup (nt, Tree.node F args) s.keys = some v →
    ∀ (j : Nat) (aj : Prog) (sj : UNT U), args[j]? = some aj → v[j]? = some sj → rank sj < rank nt →
      (e = some (Tree.node F args) → i ≤ j) → SuccDone s nt F args j aj sj

/-- fully initialised: the order and completeness invariants, the first query done -/
def Full (E : Env U π) (rank : UNT U → Nat) (s : St U π) (nt : UNT U) : Prop :=
  NTInv E s nt ∧ s.succOf nt ≠ [] ∧ CInv E rank s nt none 0

/-- while a call at rank `r` runs, the non-terminals of smaller rank are between calls: untouched or fully initialised -/
def Below (E : Env U π) (rank : UNT U → Nat) (r : Nat) (s : St U π) : Prop :=
  ∀ nt, rank nt < r → Uninit s nt ∨ Full E rank s nt

theorem of_init {s : St U π} {nt : UNT U} {X : Prop} (h : Uninit s nt ∨ X) (hi : s.initS.contains nt = true) : X :=
  h.resolve_left fun hu => by rw [hu.1] at hi; cases hi

theorem full_of_popped {E : Env U π} {rank : UNT U → Nat} {s : St U π} {nt : UNT U} (h : Uninit s nt ∨ Full E rank s nt)
    {k : Option Prog} {x : Prog} (hk : AList.lookup k (s.succOf nt) = some x) : Full E rank s nt :=
  h.resolve_left fun hu => by rw [hu.2.2.1] at hk; cases hk

theorem NTInv.transfer {E : Env U π} {s s' : St U π} {nt : UNT U} (h : NTInv E s nt) (hs : Same s s' nt)
    (hst : Stable s s') : NTInv E s' nt := by
  refine ⟨by rw [hs.init]; exact h.init, by rw [hs.succ]; exact h.chain, by rw [hs.succ]; exact h.keys_nodup, ?_, ?_, ?_, ?_, ?_⟩
  · obtain ⟨m, h1, h2⟩ := h.first
    refine ⟨m, by rw [hs.maxNT]; exact h1, ?_⟩
    rw [hs.succ, hs.heap]; exact h2
  · intro F args v hm hk i ai si hai hsi
    rw [hs.seen] at hm
    rw [hs.keys] at hk
    exact (h.args F args v hm hk i ai si hai hsi).mono hst
  · intro x hx e he
    rw [hs.heap] at he
    exact h.heap_le x ((Popped.congr hs.succ).mp hx) e he
  · intro k x hk
    rw [hs.succ] at hk
    exact h.sorted k x hk
  · intro F v w hm a ha
    obtain ⟨x, hx⟩ := h.closed F v w hm a ha
    exact ⟨x, hst _ _ _ hx⟩

theorem CInv.transfer {E : Env U π} {rank : UNT U → Nat} {s s' : St U π} {nt : UNT U} {e : Option Prog} {i : Nat}
    (h : CInv E rank s nt e i) (hs : Same s s' nt) (hst : Stable s s')
    (hk : ∀ sj, rank sj < rank nt → Kept s s' sj) : CInv E rank s' nt e i := by
  have hpop : ∀ x, Popped s' nt x ↔ Popped s nt x := fun x => Popped.congr hs.succ
  refine ⟨?_, ?_, ?_, ?_⟩
  · intro p hp
    rw [hs.seen] at hp
    rw [hs.keys]
    exact h.keyed p hp
  · intro F v w hm
    obtain ⟨kids, h1, h2, h3⟩ := h.initial F v w hm
    exact ⟨kids, by rw [hs.seen]; exact h1, h2, fun j aj sj a b => hst _ _ _ (h3 j aj sj a b)⟩
  · intro p hp
    rw [hs.seen] at hp
    rw [hpop, St.heapProgs_congr hs.heap]
    exact h.cover p hp
  · intro F args v hp hkey j aj sj haj hsj hr hex
    have hp : Proc s nt (Tree.node F args) := (Proc.congr hs.seen hs.heap).mp hp
    rw [hs.keys] at hkey
    rcases h.succs F args v hp hkey j aj sj haj hsj hr hex with ⟨q, h1, h2⟩ | ⟨h1, h2, h3⟩
    · exact Or.inl ⟨q, hst _ _ _ h1, by rw [hs.seen]; exact h2⟩
    · obtain ⟨a, b, c⟩ := hk sj hr h1 h2
      exact Or.inr ⟨a, b, by rw [c]; exact h3⟩

theorem Full.transfer {E : Env U π} {rank : UNT U → Nat} {s s' : St U π} {nt : UNT U} (h : Full E rank s nt)
    (hs : Same s s' nt) (hst : Stable s s') (hk : ∀ sj, rank sj < rank nt → Kept s s' sj) : Full E rank s' nt :=
  ⟨h.1.transfer hs hst, by rw [hs.succ]; exact h.2.1, h.2.2.transfer hs hst hk⟩

theorem Uninit.transfer {s s' : St U π} {nt : UNT U} (h : Uninit s nt) (hs : Same s s' nt) : Uninit s' nt := by
  obtain ⟨a, b, c, d⟩ := h
  exact ⟨by rw [hs.init]; exact a, by rw [hs.heap]; exact b, by rw [hs.succ]; exact c, by rw [hs.seen]; exact d⟩

theorem Mid.transfer {s s' : St U π} {nt : UNT U} (h : Mid s nt) (hs : Same s s' nt) : Mid s' nt := by
  obtain ⟨a, b, c, d⟩ := h
  exact ⟨by rw [hs.init]; exact a, by rw [hs.heap]; exact b, by rw [hs.succ]; exact c, by rw [hs.seen]; exact d⟩

theorem Below.only {E : Env U π} {rank : UNT U → Nat} {r : Nat} {s s' : St U π} {x : UNT U} (h : Below E rank r s)
    (ho : Only x s s') (hst : Stable s s') (hx : r ≤ rank x) : Below E rank r s' := by
  intro nt hnt
  have hne : nt ≠ x := by intro e; subst e; omega
  rcases h nt hnt with hu | hf
  · exact Or.inl (hu.transfer (ho nt hne))
  · exact Or.inr (hf.transfer (ho nt hne) hst
      (fun sj hsj => Kept.of_same (ho sj (by intro e; subst e; omega))))

theorem Below.frame {E : Env U π} {rank : UNT U → Nat} {r r0 : Nat} {s s' : St U π} {x : Option (UNT U)}
    (h : Below E rank r s) (hf : Frame rank r0 x s s') (hst : Stable s s') (hk : ∀ sj, Kept s s' sj) (hb : Below E rank r0 s')
    (hy : ∀ y, x = some y → Full E rank s' y) : Below E rank r s' := by
  intro nt hnt
  by_cases h1 : rank nt < r0
  · exact hb nt h1
  · by_cases h2 : some nt = x
    · exact Or.inr (hy nt h2.symm)
    · have hsame := hf nt (by omega) h2
      rcases h nt hnt with hu | hn
      · exact Or.inl (hu.transfer hsame)
      · exact Or.inr (hn.transfer hsame hst (fun sj _ => hk sj))

theorem Below.merge {E : Env U π} {rank : UNT U → Nat} {r r0 : Nat} {s s' : St U π} {y : UNT U} (h : Below E rank r s)
    (hf : Frame rank r0 (some y) s s') (hst : Stable s s') (hk : ∀ sj, Kept s s' sj) (hb : Below E rank r0 s')
    (hy : Full E rank s' y) : Below E rank r s' :=
  h.frame hf hst hk hb fun _ e => Option.some.inj e ▸ hy

theorem Below.mono {E : Env U π} {rank : UNT U → Nat} {r r' : Nat} {s : St U π} (h : Below E rank r s) (hr : r' ≤ r) :
    Below E rank r' s := fun nt hnt => h nt (by omega)

theorem Below.merge_none {E : Env U π} {rank : UNT U → Nat} {r r0 : Nat} {s s' : St U π} (h : Below E rank r s)
    (hf : Frame rank r0 none s s') (hst : Stable s s') (hk : ∀ sj, Kept s s' sj) (hb : Below E rank r0 s') :
    Below E rank r s' :=
  h.frame hf hst hk hb nofun

end PS.UHS
