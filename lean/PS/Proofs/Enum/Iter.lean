/- The driver shared by the six enumerators: every model has the same `take` ("call `next` until `k` programs were
   yielded or it stops") and, where histories are modelled, the same interleaving of `take` and `merge`.  Here they
   are over an arbitrary `next : σ → Option (σ × Option α)`, with the induction rules; a machine states
   `take E fuel = Iter.take (next E fuel)` and has no induction over its driver. -/
namespace PS.Iter
variable {σ α μ : Type}

def take (next : σ → Option (σ × Option α)) : Nat → σ → List α → Option (σ × List α × Bool)
  | 0, g, acc => some (g, acc, false)
  | k + 1, g, acc =>
    match next g with
    | none => none
    | some (g', none) => some (g', acc, true)
    | some (g', some p) => take next k g' (acc ++ [p])

/-- a model's own `take` is this one: it satisfies the defining equations -/
theorem take_unique {next : σ → Option (σ × Option α)} {f : Nat → σ → List α → Option (σ × List α × Bool)}
    (h0 : ∀ g acc, f 0 g acc = some (g, acc, false))
    (hfail : ∀ k g acc, next g = none → f (k + 1) g acc = none)
    (hstop : ∀ k g acc g', next g = some (g', none) → f (k + 1) g acc = some (g', acc, true))
    (hyield : ∀ k g acc g' p, next g = some (g', some p) → f (k + 1) g acc = f k g' (acc ++ [p])) :
    ∀ k g acc, f k g acc = take next k g acc
  | 0, g, acc => h0 g acc
  | k + 1, g, acc => by
    rw [take]
    cases hn : next g with
    | none => exact hfail k g acc hn
    | some r =>
      obtain ⟨g', _ | p⟩ := r
      · exact hstop k g acc g' hn
      · exact (hyield k g acc g' p hn).trans (take_unique h0 hfail hstop hyield k g' _)

/-- `I` relates the state to the programs yielded so far and is kept by a `next` that yields; `Q` is what it leaves
    where `take` stops: after `k` programs (flag `false`) or when `next` has no more (flag `true`; what `I` says of the
    running machine need not survive that last call). -/
theorem take_rule {next : σ → Option (σ × Option α)} {I : σ → List α → Prop} {Q : σ → List α → Bool → Prop}
    (hdone : ∀ g acc, I g acc → Q g acc false)
    (hstop : ∀ g acc g', I g acc → next g = some (g', none) → Q g' acc true)
    (hyield : ∀ g acc g' p, I g acc → next g = some (g', some p) → I g' (acc ++ [p])) :
    ∀ k g acc r, I g acc → take next k g acc = some r → Q r.1 r.2.1 r.2.2 := by
  intro k
  induction k with
  | zero => intro g acc r hi h; cases h; exact hdone g acc hi
  | succ k ih =>
    intro g acc r hi h
    simp only [take] at h
    split at h
    · cases h
    · next g' hn => cases h; exact hstop g acc g' hi hn
    · next g' p hn => exact ih g' _ r (hyield g acc g' p hi hn) h

theorem take_inv {next : σ → Option (σ × Option α)} {I : σ → List α → Prop}
    (hstep : ∀ g acc g' o, I g acc → next g = some (g', o) → I g' (acc ++ o.toList)) :
    ∀ k g acc r, I g acc → take next k g acc = some r → I r.1 r.2.1 :=
  take_rule (Q := fun g acc _ => I g acc) (fun _ _ h => h)
    (fun g acc g' hi hn => by simpa using hstep g acc g' none hi hn)
    (fun g acc g' p hi hn => hstep g acc g' (some p) hi hn)

/-- the shape in which heap search states what `next` keeps -/
theorem step_of_cases {I : σ → List α → Prop} {g' : σ} {acc : List α} {o : Option α}
    (h : (∀ p, o = some p → I g' (acc ++ [p])) ∧ (o = none → I g' acc)) : I g' (acc ++ o.toList) := by
  cases o with
  | none => simpa using h.2 rfl
  | some p => exact h.1 p rfl

theorem take_acc (next : σ → Option (σ × Option α)) : ∀ (k : Nat) (g : σ) (acc : List α),
    take next k g acc = (take next k g []).map fun r => (r.1, acc ++ r.2.1, r.2.2) := by
  intro k
  induction k with
  | zero => intro g acc; simp [take]
  | succ k ih =>
    intro g acc
    rw [take, take]
    cases hn : next g with
    | none => rfl
    | some r =>
      obtain ⟨g1, o⟩ := r
      cases o with
      | none => simp
      | some p =>
        simp only
        rw [ih g1 (acc ++ [p]), ih g1 ([] ++ [p])]
        cases take next k g1 [] with
        | none => rfl
        | some r2 => simp [List.append_assoc]

theorem take_length (next : σ → Option (σ × Option α)) : ∀ k g acc r, take next k g acc = some r →
    r.2.1.length ≤ acc.length + k ∧ (r.2.2 = false → r.2.1.length = acc.length + k) := by
  intro k
  induction k with
  | zero => intro g acc r h; cases h; exact ⟨Nat.le_refl _, fun _ => rfl⟩
  | succ k ih =>
    intro g acc r h
    simp only [take] at h
    split at h
    · cases h
    · cases h; exact ⟨by simp, by simp⟩
    · have := ih _ _ r h
      simp only [List.length_append, List.length_singleton] at this
      exact ⟨by omega, fun hb => by have := this.2 hb; omega⟩

/-- `next'` is `next` with more fuel -/
theorem take_mono {next next' : σ → Option (σ × Option α)} (hn : ∀ g r, next g = some r → next' g = some r) :
    ∀ k g acc r, take next k g acc = some r → take next' k g acc = some r := by
  intro k
  induction k with
  | zero => exact fun _ _ _ h => h
  | succ k ih =>
    intro g acc r h
    simp only [take] at h ⊢
    split at h
    · cases h
    · next hg => rw [hn g _ hg]; exact h
    · next hg => rw [hn g _ hg]; exact ih _ _ r h

theorem take_stops {next : σ → Option (σ × Option α)} {I : σ → List α → Prop} (m : σ → List α → Nat)
    (htotal : ∀ g acc, I g acc → ∃ r, next g = some r)
    (hyield : ∀ g acc g' p, I g acc → next g = some (g', some p) → I g' (acc ++ [p]))
    (hdecr : ∀ g acc g' p, I g acc → next g = some (g', some p) → m g' (acc ++ [p]) < m g acc) :
    ∀ g acc, I g acc → ∃ k r, take next k g acc = some r ∧ r.2.2 = true := by
  intro g acc
  generalize hd : m g acc = d
  induction d using Nat.strongRecOn generalizing g acc with
  | _ d ih =>
    intro hi
    obtain ⟨⟨g', o⟩, hn⟩ := htotal g acc hi
    cases o with
    | none => exact ⟨1, (g', acc, true), by simp [take, hn], rfl⟩
    | some p =>
      obtain ⟨k, r, hk, hr⟩ := ih _ (hd ▸ hdecr g acc g' p hi hn) g' (acc ++ [p]) rfl (hyield g acc g' p hi hn)
      exact ⟨k + 1, r, by simp [take, hn, hk], hr⟩

/-- the usual instance: `L` lists the language of an acyclic grammar -/
theorem take_stops_finite {next : σ → Option (σ × Option α)} {I : σ → List α → Prop} (L : List α)
    (htotal : ∀ g acc, I g acc → ∃ r, next g = some r)
    (hyield : ∀ g acc g' p, I g acc → next g = some (g', some p) → I g' (acc ++ [p]))
    (hfin : ∀ g acc, I g acc → acc.Nodup ∧ acc ⊆ L) :
    ∀ g acc, I g acc → ∃ k r, take next k g acc = some r ∧ r.2.2 = true :=
  take_stops (fun _ acc => L.length - acc.length) htotal hyield fun g acc g' p hi hn => by
    have h1 := hfin _ _ (hyield g acc g' p hi hn)
    have := h1.1.length_le_of_subset h1.2
    simp only [List.length_append, List.length_singleton] at this ⊢
    omega

/-- a history: `take k` = `k` calls of `next`, `merge m` = a call of `merge_program` between two of them -/
inductive Act (μ : Type) where
  | take (k : Nat)
  | merge (m : μ)

def run (next : σ → Option (σ × Option α)) (merge : σ → μ → σ) : List (Act μ) → σ → List α → Option (σ × List α)
  | [], g, out => some (g, out)
  | .merge m :: rest, g, out => run next merge rest (merge g m) out
  | .take k :: rest, g, out =>
    match take next k g [] with
    | none => none
    | some (g', ys, _) => run next merge rest g' (out ++ ys)

/-- `M` is a side condition on the arguments of the merges, assumed of those that occur in `acts` -/
theorem run_rule {next : σ → Option (σ × Option α)} {merge : σ → μ → σ} {I : σ → List α → Prop} (M : μ → Prop)
    (hstep : ∀ g acc g' o, I g acc → next g = some (g', o) → I g' (acc ++ o.toList))
    (hmerge : ∀ g m acc, M m → I g acc → I (merge g m) acc) :
    ∀ (acts : List (Act μ)) g out r, run next merge acts g out = some r → (∀ m, .merge m ∈ acts → M m) → I g out → I r.1 r.2
  | [], g, out, r, h, _, hg => by cases h; exact hg
  | .merge m :: rest, g, out, r, h, hM, hg =>
    run_rule M hstep hmerge rest _ out r h (fun m hm => hM m (List.mem_cons_of_mem _ hm))
      (hmerge g m out (hM m List.mem_cons_self) hg)
  | .take k :: rest, g, out, r, h, hM, hg => by
    rw [run] at h
    split at h
    · cases h
    · next g1 ys1 fin ht =>
      have ht2 : take next k g out = some (g1, out ++ ys1, fin) := by rw [take_acc, ht]; rfl
      exact run_rule M hstep hmerge rest g1 _ r h (fun m hm => hM m (List.mem_cons_of_mem _ hm))
        (take_inv hstep k g out _ hg ht2)

/-- pigeonhole: an output without repetition inside `L` is no longer than `L` -/
theorem take_fin_of_finite {next : σ → Option (σ × Option α)} (L : List α) {k : Nat} {g : σ} {acc : List α}
    {r : σ × List α × Bool} (h : take next k g acc = some r) (hnd : r.2.1.Nodup) (hsub : ∀ p ∈ r.2.1, p ∈ L)
    (hk : L.length < acc.length + k) : r.2.2 = true := by
  cases hf : r.2.2 with
  | true => rfl
  | false =>
    have hlen := (take_length next k g acc r h).2 hf
    have := hnd.length_le_of_subset fun p => hsub p
    omega

end PS.Iter
