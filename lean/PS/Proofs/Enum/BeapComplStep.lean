/- Completeness of beap search: the successor of a popped element, the chain step of the frontier.  A program that the
   popped element stands for through `BelowArgs`, without the element's combination being the program's own, has an
   argument more expensive than the cost the combination points to.  For that argument the next cost index exists and
   its cost does not exceed the argument's (`next_okm`), and the successor loop pushes the combination raised at that
   position (`succ_pushed`).  At the end: `EInvm`, `E4P`, `Keep4` across a write that leaves the tables they read. -/
import PS.Proofs.Enum.BeapComplRun
namespace PS.Beap
open PS PS.G PS.Heapq
set_option linter.unusedSectionVars false
variable {S : Type} [DecidableEq S]
variable {F : Prog → Bool}

theorem succ_pushed (nt : NT S Unit) (cost : Cost) (P : Sym) (comb : List Nat) (as : List (NT S Unit)) (s : St S) (i : Nat)
    (a : NT S Unit) (hi : as[i]? = some a) (hz : ∀ j, j < i → comb.getD j 0 = 0) (hlen : comb.getD i 0 + 1 < (s.clOf a).length) :
    ∃ el, el ∈ (succLoop nt cost P comb s 0 as).queueOf nt ∧ el.P = P ∧ el.comb = comb.set i (comb.getD i 0 + 1) := by
  have hil : i < as.length := (List.getElem?_eq_some_iff.mp hi).1
  have hmem : comb.set i (comb.getD i 0 + 1) ∈ succCombs comb 0 (as.map fun a => (s.clOf a).length) := by
    refine (mem_succCombs comb _ _ 0).mpr ⟨i, Nat.zero_le _, by simpa using hil, fun j _ hj => hz j hj, rfl, ?_⟩
    simp only [Nat.sub_zero, List.getD_eq_getElem?_getD, List.getElem?_map, hi, Option.map_some, Option.getD_some]
    simpa [List.getD_eq_getElem?_getD] using hlen
  rw [← succEls_comb cost P comb s as 0] at hmem
  obtain ⟨el, hel, hcomb⟩ := List.mem_map.mp hmem
  refine ⟨el, ?_, succEls_P cost P comb s as 0 el hel, hcomb⟩
  exact (succLoop_perm nt cost P comb as s 0).1.mem_iff.mpr (List.mem_append_left _ hel)

theorem next_okm (E : Env S) (s : St S) (hw : WInvm E F s) (A : NT S Unit) (u : Nat) (e : Cost) (k0 : Prog) (y : Rat)
    (he : (s.clOf A)[u]? = some e) (hcl : clean F k0 = true) (hy : costOf E k0 A = some y) (hlt : e.fin < y)
    (hen : Entered s A u) (hfr : u + 1 = (s.clOf A).length → FRm E F s A) :
    ∃ e', (s.clOf A)[u + 1]? = some e' ∧ e'.fin ≤ y := by
  have hu : u < (s.clOf A).length := (List.getElem?_eq_some_iff.mp he).1
  by_cases hl : u + 1 < (s.clOf A).length
  · refine ⟨(s.clOf A)[u + 1], List.getElem?_eq_getElem hl, ?_⟩
    have he' : (s.clOf A)[u + 1]? = some (s.clOf A)[u + 1] := List.getElem?_eq_getElem hl
    apply Classical.byContradiction
    intro hcon
    have hylt : y < ((s.clOf A)[u + 1]).fin := Rat.not_le.mp hcon
    obtain ⟨L, hlast⟩ := getLast_of_ne (List.ne_nil_of_length_pos (Nat.zero_lt_of_lt hu))
    have hle := le_last_of_pairwise _ (hw.o.mono A) L hlast _ (List.getElem_mem hl)
    -- the program is below the last cost, so in the completed region, at an index `j`: neither `j ≤ u` nor `u < j`
    obtain ⟨j, ej, g1, g2, _⟩ := hw.cr A k0 y L hcl hy hlast (Std.lt_of_lt_of_le hylt hle)
    by_cases hju : j ≤ u
    · have := mono_le _ (hw.o.mono A) j u ej e g1 he hju
      rw [g2] at this; exact absurd (Std.lt_of_lt_of_le hlt this) Rat.lt_irrefl
    · have := mono_le _ (hw.o.mono A) (u + 1) j _ ej he' g1 (by omega)
      rw [g2] at this; exact absurd (Std.lt_of_lt_of_le hylt this) Rat.lt_irrefl
  · exfalso
    have hl' : u + 1 = (s.clOf A).length := by omega
    have hlast := getLast_of_len _ u e he hl'
    obtain ⟨f1, f2⟩ := hfr hl'
    have hlen : (s.clOf A).length - 1 = u := by omega
    cases k0 with
    | node f kids =>
      obtain ⟨rl, hr⟩ := rule_of_cost E A f kids y hy
      rcases f1 f kids y e rl hcl hy hlast (Rat.le_of_lt hlt) hr with ⟨g1, _⟩ | ⟨el, g1, _, _⟩
      · rw [g1] at hlt; exact absurd hlt Rat.lt_irrefl
      · rw [f2 (by rw [hlen]; exact hen)] at g1; cases g1

/-- `next_okm` on the forms without suffix -/
theorem next_ok (E : Env S) (s : St S) (hw : WInv E s) (A : NT S Unit) (u : Nat) (e : Cost) (k0 : Prog) (y : Rat)
    (he : (s.clOf A)[u]? = some e) (hcl : clean E.filter k0 = true) (hy : costOf E k0 A = some y) (hlt : e.fin < y)
    (hen : Entered s A u) (hfr : u + 1 = (s.clOf A).length → FR E s A) :
    ∃ e', (s.clOf A)[u + 1]? = some e' ∧ e'.fin ≤ y :=
  next_okm E s (WInv.iff.mp hw) A u e k0 y he hcl hy hlt hen fun hl => (FR.iff.mp (hfr hl)).1

theorem cleanList_get (f : Prog → Bool) : ∀ (ks : List Prog) (i : Nat) (k : Prog), cleanList f ks = true → ks[i]? = some k →
    clean f k = true := fun ks i k hc h => by
  rw [(clean_eq_hg f).2] at hc; rw [(clean_eq_hg f).1]; exact HG.cleanList_get f ks i k hc h

theorem all2_mem_nil {α : Type} : ∀ (ks : List α) (ls : List (List α)), All2 (· ∈ ·) ks ls → [] ∈ ls → False
  | _, _, All2.nil, h => by cases h
  | _, _, All2.cons m r, h => by
    rcases List.mem_cons.mp h with h' | h'
    · rw [← h'] at m; cases m
    · exact all2_mem_nil _ _ r h'

theorem mem_zip_of_get {α β : Type} (as : List α) (bs : List β) (i : Nat) (a : α) (b : β) (h1 : as[i]? = some a)
    (h2 : bs[i]? = some b) : (a, b) ∈ as.zip bs :=
  List.mem_of_getElem? (List.getElem?_zip_eq_some.mpr ⟨h1, h2⟩)

/-- the chain step: the arguments of the popped combination `comb` were asked below `x`; a clean program that `comb`
    stands for without being its own combination is below a successor pushed by the successor loop -/
theorem succ_covers (E : Env S) {s : St S} (hw : WInvm E F s) (nt : NT S Unit) (cost : Cost) {f : Sym} {comb : List Nat}
    {kids : List Prog} {rl : List (Ty × S) × Unit} {k y x : Rat} (hcl : clean F (.node f kids) = true)
    (hy : costOf E (.node f kids) nt = some y) (hr : E.G.rule? nt f = some rl) (hb : BelowArgs E s rl.1 comb kids)
    (hne : ¬ EqArgs E s rl.1 comb kids) (hk : combCost s rl.1 comb = some k)
    (hlow : AskedBelow s (rl.1.map ntOf) comb x)
    (hent : ∀ a c, (a, c) ∈ (rl.1.map ntOf).zip comb → Entered s a c) (hfr : ∀ A, ¬ lastGe s A x → FRm E F s A) :
    ∃ el, el ∈ (succLoop nt cost f comb s 0 (rl.1.map ntOf)).queueOf nt ∧ el.P = f ∧ BelowArgs E s rl.1 el.comb kids := by
  obtain ⟨rl', _, xs, hr', _, hxs, _⟩ := costOf_inv hy
  obtain rfl : rl = rl' := Option.some.inj (hr.symm.trans hr')
  obtain ⟨i, a, k0, e, y0, hi, hz, hai, hki, hcle, hcy, hlt, hnext⟩ := below_step E s hw.e.lb rl.1 comb kids k xs hb hne hk hxs
  have hmemz : (ntOf a, comb.getD i 0) ∈ (rl.1.map ntOf).zip comb :=
    mem_zip_of_get _ _ i _ _ (by simp [hai]) (getElem?_getD' _ _ _ (by rw [combCost_length s _ _ _ hk]; exact hi))
  obtain ⟨e2, he2, he2l⟩ := hlow _ _ hmemz
  obtain rfl : e2 = e := Option.some.inj (he2.symm.trans hcle)
  obtain ⟨e', he', hle'⟩ := next_okm E s hw (ntOf a) _ e2 k0 y0 hcle (cleanList_get _ _ i k0 (clean_kids _ _ _ hcl) hki) hcy hlt
    (hent _ _ hmemz) fun hl' => hfr _ (not_lastGe_of_last s _ _ e2 x hcle hl' he2l)
  obtain ⟨el, m1, m2, m3⟩ := succ_pushed nt cost f comb (rl.1.map ntOf) s i (ntOf a) (by simp [hai]) hz
    (List.getElem?_eq_some_iff.mp he').1
  exact ⟨el, m1, m2, by rw [m3]; exact hnext e' he' hle'⟩

theorem EInvm.of_tables {E : Env S} {s s' : St S} (h : EInvm E F s) (hc : ∀ nt, s'.clOf nt = s.clOf nt)
    (hb : ∀ nt, s'.bankOf nt = s.bankOf nt) (he : ∀ nt, s'.emptiesOf nt = s.emptiesOf nt) (hd : s'.deleted = s.deleted) : EInvm E F s' := by
  have hba : ∀ nt ci, s'.bankAt nt ci = s.bankAt nt ci := fun nt => St.bankAt_congr (hb nt)
  refine { e2 := fun nt ci hh => ?_, d1 := fun q hq => h.d1 q (by rw [← hd]; exact hq), fle := h.fle, be := fun nt ci hh => ?_, lb := ?_ }
  · rw [hba]; exact h.e2 nt ci (by rw [← he]; exact hh)
  · rw [hc]; exact h.be nt ci ((Entered.congr (hb nt) (he nt) ci).mp hh)
  · intro nt c rest p x hcl hx; rw [hc] at hcl; exact h.lb nt c rest p x hcl hx


theorem E4P.of_tables {P : Prop} {s s' : St S} (h : E4P P s) (hc : ∀ nt, s'.clOf nt = s.clOf nt)
    (hb : ∀ nt, s'.bankOf nt = s.bankOf nt) (he : ∀ nt, s'.emptiesOf nt = s.emptiesOf nt) : E4P P s' := by
  intro hp nt ci hlt hlk
  rw [hc] at hlt; rw [hb] at hlk; rw [he]
  exact h hp nt ci hlt hlk

theorem e4p_of_local {P : Prop} (s s' : St S) (nt : NT S Unit) (ci : Nat) (h4 : E4P P s) (hother : ∀ S', S' ≠ nt → Same4 s s' S')
    (hcl : s'.clOf nt = s.clOf nt)
    (hem : ∀ ci', (s.emptiesOf nt).contains ci' = true → (s'.emptiesOf nt).contains ci' = true)
    (hlk : ∀ ci', ci' ≠ ci → AList.lookup ci' (s'.bankOf nt) = AList.lookup ci' (s.bankOf nt))
    (hci : ci + 1 = (s.clOf nt).length) : E4P P s' := by
  intro hp S' ci' hlt hlook
  by_cases hS : S' = nt
  · subst hS
    rw [hcl] at hlt
    have hne : ci' ≠ ci := by omega
    rw [hlk ci' hne] at hlook
    exact hem ci' (h4 hp S' ci' hlt hlook)
  · have a := hother S' hS
    rw [a.cl] at hlt; rw [a.bank] at hlook; rw [a.empties]
    exact h4 hp S' ci' hlt hlook

theorem keep4_of_other (x : Rat) (s s' : St S) (nt : NT S Unit) (h : ∀ S', S' ≠ nt → Same4 s s' S') (hn : ¬ lastGe s nt x) :
    Keep4 x s s' := by
  intro S' hl
  by_cases hS : S' = nt
  · subst hS; exact absurd hl hn
  · exact h S' hS

end PS.Beap
