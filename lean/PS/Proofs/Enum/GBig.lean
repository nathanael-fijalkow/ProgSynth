/- Every call of the heap-search machine keeps the state invariants (acyclic context-free grammar,
   any priority type and valuation satisfying `OrdLaw`, any threshold, with or without filter), and
   hence every state predicate that the three primitive table updates keep (`big_prim`). -/
import PS.Proofs.Enum.GCore
import PS.Proofs.Enum.HSQuiet
namespace PS.HG
open PS PS.G PS.HS
set_option linter.unusedSectionVars false
variable {S π : Type} [DecidableEq S]

theorem hinv_pushStep {E : Env S Unit π} {V : Val E} {rank} {Good} (L : OrdLaw E V rank Good) {s : St S Unit π} (hs : SInv E s)
    (hh : HInv E s) (F : Sym) (args : List Prog) (nt : NT S Unit) (i : Nat) (r : Option Prog)
    (hg : ∀ q, r = some q → gen E.G (.node F (args.set i q)) nt = true) : HInv E (pushStep E s F args nt i r) := by
  rcases pushStep_cases E s F args nt i r with hps | ⟨q, hq, -, -, hps⟩
  · rw [hps]; exact hh
  · rw [hps]
    intro nt'
    rcases heapOf_pushNew E s nt (.node F (args.set i q)) with e | ⟨c, v, hcp, _, e⟩
    · rw [e]; exact hh nt'
    · rw [e]
      split
      · obtain ⟨hd, hpr⟩ := V.spec _ _ _ (hg q hq) (computePrio_spec E _ hs.cache_ok nt _ (hg q hq) c v hcp).1
        exact Heapq.push_isHeap_on L.ltE _ _ (heap_good L hs nt) (hpr ▸ L.good _ _ hd) (hh nt)
      · exact hh nt'

theorem query_none_inv {E : Env S Unit π} {s s1 : St S Unit π} {nt : NT S Unit} {r0 : Option Prog}
    (h : Big E (.query nt none) s s1 r0) (hnone : AList.lookup none (s.succOf nt) = none)
    (hdel : s.deleted = [] ∨ s.heapOf nt = []) :
    (Heapq.pop (ltE E.ops) (s.heapOf nt) = none ∧ s1 = s) ∨
    (∃ e h', Heapq.pop (ltE E.ops) (s.heapOf nt) = some (e, h') ∧ r0 = some e.2) := by
  cases h with
  | query_direct _ hb =>
    cases hb with
    | lop_hit hl => rw [hnone] at hl; cases hl
    | lop_miss _ hp =>
      cases hp with
      | pop_empty hpe => exact Or.inl ⟨hpe, rfl⟩
      | pop_deleted hpd hd _ _ =>
        rcases hdel with hdel | hdel
        · rw [hdel] at hd; simp at hd
        · rw [hdel] at hpd; simp [Heapq.pop] at hpd
      | pop_take hpt _ _ => exact Or.inr ⟨_, _, hpt, rfl⟩
  | query_first hp _ _ _ => exact absurd rfl hp

def callNT : Call S Unit → NT S Unit
  | .query nt _ => nt
  | .lop nt _ => nt
  | .popLoop nt _ => nt
  | .addSucc _ nt => nt
  | .addLoop _ _ nt _ _ _ _ => nt

def FrameH (rank : NT S Unit → Nat) (c : Call S Unit) (s s' : St S Unit π) : Prop :=
  ∀ nt', rank (callNT c) < rank nt' → s'.heapOf nt' = s.heapOf nt' ∧ s'.seenOf nt' = s.seenOf nt'

/-- What `big_core` proves of a call `c` that runs from `s` to `s'` and returns `r`, by rule induction
    on `Big`. The invariants on return (`full`) do not go through the induction alone: a caller works
    for a non-terminal of higher rank than the one it queries, and to re-establish its own
    precondition and invariants after an inner call it needs to know what that call left alone
    (`frame`, `frameH`, `del`), what it only enlarged (`seen`, `stable`) and what it returned
    (`post`, `none_post`). -/
structure Core (E : Env S Unit π) (rank : NT S Unit → Nat) (H0 : NT S Unit → List (π × Prog)) (c : Call S Unit)
    (s s' : St S Unit π) (r : Option Prog) : Prop where
  full : Full E H0 s'
  /-- the successor tables of the non-terminals of higher rank are unchanged, and for `addSucc` and
      `addLoop` the table of their own non-terminal as well: after the query on an argument the
      caller finds its table, hence its `BelowVals`, as it was -/
  frame : OFrame rank c s s'
  frameH : FrameH rank c s s'
  /-- the program whose successors are being added stays in `seen` -/
  seen : SeenMono s s'
  /-- an argument that was popped for its non-terminal before the call is still an entry of its table after it -/
  stable : Stable s s'
  post : NPost c s' r
  none_post : NonePost c s' r
  /-- no call rejects a program: `deleted` is written outside the calls, by the yield loop and by `merge` -/
  del : s'.deleted = s.deleted

/-- `Core` over a valuation, without `seen` and `del`: they hold of every call whatever the invariants
    (`big_seenMono`, `big_deleted`) and are put in by `big_core` -/
structure CoreT (E : Env S Unit π) (V : Val E) (rank : NT S Unit → Nat) (H0 : NT S Unit → List (π × Prog))
    (c : Call S Unit) (s s' : St S Unit π) (r : Option Prog) : Prop where
  full : FullT E V H0 s'
  frame : OFrame rank c s s'
  frameH : FrameH rank c s s'
  stable : Stable s s'
  post : NPost c s' r
  none_post : NonePost c s' r

theorem SeenMono.trans {s s1 s2 : St S Unit π} (h1 : SeenMono s s1) (h2 : SeenMono s1 s2) : SeenMono s s2 :=
  fun nt p hp => h2 nt p (h1 nt p hp)

theorem pushStep_seenMono (E : Env S Unit π) (s : St S Unit π) (F : Sym) (args : List Prog) (nt : NT S Unit) (i : Nat)
    (r : Option Prog) : SeenMono s (pushStep E s F args nt i r) := by
  rcases pushStep_cases E s F args nt i r with e | ⟨_, -, -, -, e⟩ <;> rw [e]
  · exact fun _ _ h => h
  · exact fun _ _ hp => mem_seenOf_pushNew.mpr (Or.inl hp)

theorem big_seenMono (E : Env S Unit π) {c : Call S Unit} {s s' : St S Unit π} {r : Option Prog}
    (hb : Big E c s s' r) : SeenMono s s' :=
  Big.rel (R := SeenMono) (fun _ _ _ h => h) SeenMono.trans (fun _ _ _ h => h) (fun _ _ _ _ _ _ h => h)
    (pushStep_seenMono E) hb

/-! ### what a call hands on to the calls it makes -/

theorem opre_query_none (E : Env S Unit π) (V : Val E) (H0 : NT S Unit → List (π × Prog)) (nt : NT S Unit)
    (s : St S Unit π) : OPreT E V H0 (.query nt none) s := by
  intro x hx; cases hx

theorem opre_lop_direct {E : Env S Unit π} {V : Val E} {H0 : NT S Unit → List (π × Prog)} {s : St S Unit π}
    {nt : NT S Unit} {p : Option Prog} (h : p = none ∨ (AList.lookup none (s.succOf nt)).isSome = true)
    (hpre : OPreT E V H0 (.query nt p) s) : OPreT E V H0 (.lop nt p) s := by
  intro x hx
  rcases hpre x hx with hv | ⟨hempty, _⟩
  · exact Or.inl hv
  · rcases h with h | h
    · rw [h] at hx; cases hx
    · rw [hempty] at h; simp at h

/-- the table look-up that follows the first `query(S, None)`: the key is now in the table, since
    it was the first pop of the initial heap, or the heap is exhausted -/
theorem opre_lop_first {E : Env S Unit π} {V : Val E} {rank} {H0 : NT S Unit → List (π × Prog)} {s s1 : St S Unit π}
    {nt : NT S Unit} {p r0 : Option Prog} (hf : FullT E V H0 s)
    (h : (AList.lookup none (s.succOf nt)).isSome = false) (h0 : Big E (.query nt none) s s1 r0)
    (c0 : CoreT E V rank H0 (.query nt none) s s1 r0) (hpre : OPreT E V H0 (.query nt p) s) :
    OPreT E V H0 (.lop nt p) s1 := by
  have hnone : AList.lookup none (s.succOf nt) = none := Option.not_isSome_iff_eq_none.mp (by rw [h]; exact Bool.false_ne_true)
  intro x hx
  rcases hpre x hx with ⟨k, hk⟩ | ⟨hempty, hfp⟩
  · exact Or.inl ⟨k, c0.stable _ _ _ hk⟩
  · have hdel : s.deleted = [] ∨ s.heapOf nt = [] :=
      hf.del_ok.imp_right fun hd => Classical.byContradiction fun hh => hd nt hh hempty
    rcases query_none_inv h0 hnone hdel with ⟨hpe, heq⟩ | ⟨e, h', hpt, hr0⟩
    · right; rw [heq]; exact (Heapq.pop_none_iff _ _).mp hpe
    · left
      rw [hf.oinv.fresh nt hempty] at hpt
      exact ⟨none, hfp e h' hpt ▸ c0.post _ hr0⟩

theorem sub_skip {E : Env S Unit π} {V : Val E} {rank} {Good} (L : OrdLaw E V rank Good)
    {H0 : NT S Unit → List (π × Prog)}
    {s : St S Unit π} {nt : NT S Unit} {e : π × Prog} {h' : List (π × Prog)} (hf : FullT E V H0 s)
    (h : Heapq.pop (ltE E.ops) (s.heapOf nt) = some (e, h')) (hd : s.deleted.contains e.2 = true) :
    FullT E V H0 (s.setHeap nt h') ∧ gen E.G e.2 nt = true ∧ OPreT E V H0 (.addSucc e.2 nt) (s.setHeap nt h') := by
  obtain ⟨oa, hst, hnea⟩ := popSkip_order hf.oinv hf.del_ok nt e h' h hd
  obtain ⟨hm, hsub, _, _, hvals, hha⟩ := pop_facts L hf.sinv hf.hinv hf.oinv nt e h' h
  have hseen := hf.sinv.heap_seen _ _ hm
  exact ⟨⟨hf.sinv.setHeap_sub nt h' hsub, hf.ninv.popSkip nt e h' h, hha, oa, Or.inr hst⟩, hf.sinv.seen_gen _ _ hseen,
    hseen, hnea, hvals⟩

/-- The preconditions of the pop loop in the state `s1` that `__add_successors__` returns after the
    pop of a rejected program. They carry over from `s` because that call leaves the table of `nt`
    as it was (`hsucc`); the pop `h` is a hypothesis because it rules out the alternative
    `s.heapOf nt = []` of `OPre`, which need not survive the pushes made in between. -/
theorem sub_skip_next {E : Env S Unit π} {V : Val E} {H0 : NT S Unit → List (π × Prog)} {s s1 : St S Unit π}
    {nt : NT S Unit} {key : Option Prog} {e : π × Prog} {h' : List (π × Prog)}
    (h : Heapq.pop (ltE E.ops) (s.heapOf nt) = some (e, h')) (hnone : AList.lookup key (s.succOf nt) = none)
    (hpre : OPreT E V H0 (.popLoop nt key) s) (hsucc : s1.succOf nt = s.succOf nt) :
    AList.lookup key (s1.succOf nt) = none ∧ OPreT E V H0 (.popLoop nt key) s1 := by
  refine ⟨hsucc ▸ hnone, fun y hy => (hpre y hy).imp (fun hk => hsucc ▸ hk) fun he => ?_⟩
  rw [he] at h; cases h

theorem sub_take {E : Env S Unit π} {V : Val E} {rank} {Good} (L : OrdLaw E V rank Good)
    {H0 : NT S Unit → List (π × Prog)}
    {s : St S Unit π} {nt : NT S Unit} {key : Option Prog} {e : π × Prog} {h' : List (π × Prog)} (hf : FullT E V H0 s)
    (h : Heapq.pop (ltE E.ops) (s.heapOf nt) = some (e, h')) (hnone : AList.lookup key (s.succOf nt) = none)
    (hpre : OPreT E V H0 (.popLoop nt key) s) :
    FullT E V H0 (s.popTake nt key e h') ∧ gen E.G e.2 nt = true ∧
    OPreT E V H0 (.addSucc e.2 nt) (s.popTake nt key e h') ∧
    (∀ x, key = some x → ∃ k, AList.lookup k (s.succOf nt) = some x) := by
  obtain ⟨oa, hnea, hvals⟩ := popTake_order L hf.sinv hf.hinv hf.oinv nt key e h' h hpre hnone
  obtain ⟨hm, hsub, _, _, _, hha⟩ := pop_facts L hf.sinv hf.hinv hf.oinv nt e h' h
  have hseen := hf.sinv.heap_seen _ _ hm
  have h1 := (hf.sinv.setHeap_sub nt h' hsub).setSucc nt key e.2 hseen
  refine ⟨⟨h1.congr (fun _ => rfl) (fun _ => rfl) (fun _ => rfl) h1.cache_ok,
    (hf.ninv.popTake nt key e h' h hnone).1, fun nt' => hha nt', oa, popTake_delOK hf.del_ok nt key e h'⟩,
    hf.sinv.seen_gen _ _ hseen,
    ⟨hseen, hnea, hvals⟩, fun x hx => (hpre x hx).resolve_right fun he => ?_⟩
  rw [he] at hm; cases hm

theorem ne_of_rank_lt {rank : NT S Unit → Nat} {nt nt' : NT S Unit} (h : rank nt < rank nt') : nt' ≠ nt :=
  fun heq => Nat.lt_irrefl _ (heq ▸ h)

theorem opre_query_arg {E : Env S Unit π} {V : Val E} {H0 : NT S Unit → List (π × Prog)} {s : St S Unit π} {F : Sym}
    {args : List Prog} {nt s2 : NT S Unit} {i argsLen : Nat} {info : Info S} {ai : Prog}
    (hai : args[i]? = some ai) (hlt : i < argsLen) (hf : FullT E V H0 s)
    (hspre : SPre E (.addLoop F args nt i argsLen info s2))
    (hopre : OPreT E V H0 (.addLoop F args nt i argsLen info s2) s) : OPreT E V H0 (.query s2 (some ai)) s := by
  obtain ⟨ra, hr, _, _, hinfo⟩ := hspre
  obtain ⟨_, a, ha, hs2⟩ := hinfo hlt
  intro x hx; cases hx; rw [hs2]; exact hf.oinv.args nt F args ra hopre.1 hr i _ a hai ha

/-- What one iteration of the loop of `__add_successors__` gives, `s` being the state before the query on argument
    `i` and `s1` the state in which it returned `r`: the invariants after the push, what the iteration left alone,
    the precondition of the next iteration, and the situation in which the push was made. -/
structure LoopIter (E : Env S Unit π) (V : Val E) (rank : NT S Unit → Nat) (H0 : NT S Unit → List (π × Prog))
    (s s1 : St S Unit π) (F : Sym) (args : List Prog) (nt s2 : NT S Unit) (i : Nat) (ai : Prog) (r : Option Prog) :
    Prop where
  full : FullT E V H0 (pushStep E s1 F args nt i r)
  frame : ∀ nt', rank nt ≤ rank nt' → (pushStep E s1 F args nt i r).succOf nt' = s.succOf nt'
  frameH : ∀ nt', rank nt < rank nt' → (pushStep E s1 F args nt i r).heapOf nt' = s.heapOf nt' ∧
    (pushStep E s1 F args nt i r).seenOf nt' = s.seenOf nt'
  stable : Stable s (pushStep E s1 F args nt i r)
  gen_arg : gen E.G ai s2 = true
  next : ∀ i' argsLen info' s2', OPreT E V H0 (.addLoop F args nt i' argsLen info' s2') (pushStep E s1 F args nt i r)
  sit : ∃ ra a, PushSit E V s1 F args nt i r ra a ai ∧ s2 = argNT a ∧ rank s2 < rank nt

theorem loop_iter {E : Env S Unit π} {V : Val E} {rank} {Good} (L : OrdLaw E V rank Good)
    {H0 : NT S Unit → List (π × Prog)}
    {s s1 : St S Unit π} {F : Sym} {args : List Prog} {nt s2 : NT S Unit} {i argsLen : Nat}
    {info : Info S} {ai : Prog} {r : Option Prog}
    (hai : args[i]? = some ai) (hlt : i < argsLen)
    (hq : Big E (.query s2 (some ai)) s s1 r) (c1 : CoreT E V rank H0 (.query s2 (some ai)) s s1 r)
    (hf : FullT E V H0 s)
    (hspre : SPre E (.addLoop F args nt i argsLen info s2))
    (hopre : OPreT E V H0 (.addLoop F args nt i argsLen info s2) s) :
    LoopIter E V rank H0 s s1 F args nt s2 i ai r := by
  obtain ⟨ra, hr, hgl, hlen, hinfo⟩ := hspre
  obtain ⟨hinf, a, ha, hs2⟩ := hinfo hlt
  obtain ⟨hseen, hne, hdp, hbd⟩ := hopre
  obtain ⟨_, spost⟩ := big_sound E hq hf.sinv trivial
  have hrank : rank s2 < rank nt := by
    rw [hs2]; exact L.acyclic nt F ra hr a (List.mem_of_getElem? ha)
  have hgnp : ∀ q, r = some q → gen E.G (.node F (args.set i q)) nt = true := by
    intro q hq'
    rw [gen, hr]
    exact genList_set E.G args ra i q a hgl ha (by rw [← hs2]; exact spost q hq')
  have hsame : s1.succOf nt = s.succOf nt := c1.frame nt hrank
  have sit : PushSit E V s1 F args nt i r ra a ai :=
    ⟨hr, hgl, ha, hai, big_seenMono E hq _ _ hseen, by rw [hsame]; exact hne, ⟨hdp, fun k v hk => hbd k v (hsame ▸ hk)⟩,
      fun q hq' => ⟨by rw [← hs2]; exact c1.post q hq', by rw [← hs2]; exact spost q hq'⟩⟩
  obtain ⟨w1, w2, w3, _⟩ := pushStep_views E s1 F args nt i r
  have f3 : ∀ nt', rank nt ≤ rank nt' → (pushStep E s1 F args nt i r).succOf nt' = s.succOf nt' :=
    fun nt' hle => (w1 nt').trans (c1.frame nt' (Nat.lt_of_lt_of_le hrank hle))
  refine ⟨⟨c1.full.sinv.pushStep F args nt i r hgnp, c1.full.ninv.pushStep F args nt i r,
    hinv_pushStep L c1.full.sinv c1.full.hinv F args nt i r hgnp, pushStep_order L c1.full.sinv c1.full.oinv sit,
    pushStep_delOK E c1.full.del_ok F args nt i r sit.started⟩, f3, ?_, ?_,
    by rw [hs2]; exact genList_get E.G args ra i ai a hgl hai ha, ?_, ra, a, sit, hs2, hrank⟩
  · intro nt' hlt
    obtain ⟨a1, a2⟩ := w3 nt' (ne_of_rank_lt hlt)
    obtain ⟨b1, b2⟩ := c1.frameH nt' (Nat.lt_trans hrank hlt)
    exact ⟨a1.trans b1, a2.trans b2⟩
  · intro nt' k v hk
    rw [w1 nt']; exact c1.stable nt' k v hk
  · intro _ _ _ _
    have e := f3 nt (Nat.le_refl _)
    exact ⟨w2 _ _ (big_seenMono E hq _ _ hseen), by rw [e]; exact hne, hdp, fun k v hk => hbd k v (e ▸ hk)⟩

theorem big_coreT {E : Env S Unit π} {V : Val E} {rank} {Good} (L : OrdLaw E V rank Good)
    {H0 : NT S Unit → List (π × Prog)} {c : Call S Unit} {s s' : St S Unit π} {r : Option Prog} (hb : Big E c s s' r) :
    FullT E V H0 s → SPre E c → NPre c s → OPreT E V H0 c s → CoreT E V rank H0 c s s' r := by
  induction hb with
  | @query_direct s s' nt p r h hb ih =>
    intro hf _ _ hpre
    have c1 := ih hf trivial trivial (opre_lop_direct h hpre)
    exact ⟨c1.full, c1.frame, c1.frameH, c1.stable, c1.post, c1.none_post⟩
  | @query_first s s1 s' nt p r0 r hp h h0 hb ih0 ih =>
    intro hf _ _ hpre
    have c0 := ih0 hf trivial trivial (opre_query_none E V H0 nt s)
    have c1 := ih c0.full trivial trivial (opre_lop_first hf h h0 c0 hpre)
    exact ⟨c1.full, fun nt' hlt => (c1.frame nt' hlt).trans (c0.frame nt' hlt),
      fun nt' hlt => ⟨(c1.frameH nt' hlt).1.trans (c0.frameH nt' hlt).1, (c1.frameH nt' hlt).2.trans (c0.frameH nt' hlt).2⟩,
      c0.stable.trans c1.stable, c1.post, c1.none_post⟩
  | lop_hit h =>
    intro hf _ _ _
    exact ⟨hf, fun _ _ => rfl, fun _ _ => ⟨rfl, rfl⟩, Stable.refl _, (by intro q hq; cases hq; exact h), (by intro hr; cases hr)⟩
  | lop_miss h hb ih =>
    intro hf _ _ hpre
    have c1 := ih hf trivial h hpre
    exact ⟨c1.full, c1.frame, c1.frameH, c1.stable, c1.post, c1.none_post⟩
  | pop_empty h =>
    intro hf _ hnone _
    exact ⟨hf, fun _ _ => rfl, fun _ _ => ⟨rfl, rfl⟩, Stable.refl _, (by intro q hq; cases hq),
      fun _ => ⟨hnone, (Heapq.pop_none_iff _ _).mp h⟩⟩
  | @pop_deleted s s1 s' nt key e h' x r h hd ha hb iha ihb =>
    intro hf _ hnone hpre
    obtain ⟨hfa, hg, hopre⟩ := sub_skip L hf h hd
    have ca := iha hfa hg trivial hopre
    obtain ⟨hnone1, hpre1⟩ := sub_skip_next h hnone hpre (ca.frame nt (Nat.le_refl _))
    have cb := ihb ca.full trivial hnone1 hpre1
    refine ⟨cb.full, ?_, ?_, ca.stable.trans cb.stable, cb.post, cb.none_post⟩
    · intro nt' hlt
      exact (cb.frame nt' hlt).trans (ca.frame nt' (Nat.le_of_lt hlt))
    · intro nt' hlt
      obtain ⟨a1, a2⟩ := ca.frameH nt' hlt
      obtain ⟨b1, b2⟩ := cb.frameH nt' hlt
      exact ⟨b1.trans (a1.trans (heapOf_setHeap_ne s h' (ne_of_rank_lt hlt))), b2.trans a2⟩
  | @pop_take s s' nt key e h' x h hd ha iha =>
    intro hf _ hnone hpre
    obtain ⟨hfa, hg, hopre, _⟩ := sub_take L hf h hnone hpre
    have ca := iha hfa hg trivial hopre
    refine ⟨ca.full, ?_, ?_, (hf.ninv.popTake nt key e h' h hnone).2.trans ca.stable, ?_, (by intro hr; cases hr)⟩
    · intro nt' hlt
      exact (ca.frame nt' (Nat.le_of_lt hlt)).trans (popTake_succOf_ne s key e h' (ne_of_rank_lt hlt))
    · intro nt' hlt
      obtain ⟨a1, a2⟩ := ca.frameH nt' hlt
      exact ⟨a1.trans (heapOf_setHeap_ne s h' (ne_of_rank_lt hlt)), a2⟩
    · intro q hq
      cases hq
      exact ca.stable _ _ _ (lookup_popTake_self s nt key e h')
  | succ_leaf =>
    intro hf _ _ _
    exact ⟨hf, fun _ _ => rfl, fun _ _ => ⟨rfl, rfl⟩, Stable.refl _, trivial, trivial⟩
  | @succ_fun s s' F a as nt r rl x hd hr hb ih =>
    intro hf hspre _ hpre
    have c1 := ih hf (hspre.first hd hr) trivial hpre
    exact ⟨c1.full, c1.frame, c1.frameH, c1.stable, trivial, trivial⟩
  | loop_done h =>
    intro hf _ _ _
    exact ⟨hf, fun _ _ => rfl, fun _ _ => ⟨rfl, rfl⟩, Stable.refl _, trivial, trivial⟩
  | @loop_step s s1 s' F args nt i argsLen info s2 ai r r' x h hai hq hc hda hb ihq ihb =>
    intro hf hspre _ hpre
    have c1 := ihq hf trivial trivial (opre_query_arg hai h hf hspre hpre)
    have it := loop_iter L hai h hq c1 hf hspre hpre
    have c4 := ihb it.full (hspre.next hai hc hda) trivial (it.next _ _ _ _)
    exact ⟨c4.full, fun nt' hle => (c4.frame nt' hle).trans (it.frame nt' hle),
      fun nt' hlt => ⟨(c4.frameH nt' hlt).1.trans (it.frameH nt' hlt).1, (c4.frameH nt' hlt).2.trans (it.frameH nt' hlt).2⟩,
      it.stable.trans c4.stable, trivial, trivial⟩
  | @loop_last s s1 F args nt i argsLen info s2 ai r h hai hq hc ihq =>
    intro hf hspre _ hpre
    have c1 := ihq hf trivial trivial (opre_query_arg hai h hf hspre hpre)
    have it := loop_iter L hai h hq c1 hf hspre hpre
    exact ⟨it.full, it.frame, it.frameH, it.stable, trivial, trivial⟩

theorem big_core {E : Env S Unit π} {rank} {Good} (L : Law E rank Good) {H0 : NT S Unit → List (π × Prog)}
    {c : Call S Unit} {s s' : St S Unit π} {r : Option Prog} (hb : Big E c s s' r) :
    Full E H0 s → SPre E c → NPre c s → OPre E H0 c s → Core E rank H0 c s s' r := by
  intro hf h1 h2 h3
  have co := big_coreT (L.ordLaw (E.ops.ofRule 0)) hb (Full.iffT.mp hf) h1 h2 ((OPre.iffT hf.oinv.val_prio).mp h3)
  exact ⟨Full.iffT.mpr co.full, co.frame, co.frameH, big_seenMono E hb, co.stable, co.post, co.none_post, big_deleted hb⟩

/-! A state predicate preserved by the three primitive table updates (pop recorded as successor, pop of a deleted
program, push of one successor) is preserved by every call: `big_prim`. -/

def PopStep (E : Env S Unit π) (V : Val E) (H0 : NT S Unit → List (π × Prog)) (P : St S Unit π → Prop) : Prop :=
  ∀ (s : St S Unit π) (nt : NT S Unit) (key : Option Prog) (e : π × Prog) (h' : List (π × Prog)),
    FullT E V H0 s → P s → Heapq.pop (ltE E.ops) (s.heapOf nt) = some (e, h') → s.deleted.contains e.2 = false →
    (∀ x, key = some x → ∃ k, AList.lookup k (s.succOf nt) = some x) →
    AList.lookup key (s.succOf nt) = none → P (s.popTake nt key e h')

def SkipStep (E : Env S Unit π) (V : Val E) (H0 : NT S Unit → List (π × Prog)) (P : St S Unit π → Prop) : Prop :=
  ∀ (s : St S Unit π) (nt : NT S Unit) (e : π × Prog) (h' : List (π × Prog)),
    FullT E V H0 s → P s → Heapq.pop (ltE E.ops) (s.heapOf nt) = some (e, h') → s.deleted.contains e.2 = true →
    P (s.setHeap nt h')

def PushStep (E : Env S Unit π) (V : Val E) (H0 : NT S Unit → List (π × Prog)) (P : St S Unit π → Prop) : Prop :=
  ∀ (s1 : St S Unit π) (F : Sym) (args : List Prog) (nt : NT S Unit) (i : Nat) (r : Option Prog)
    (ra : List (Ty × S)) (a : Ty × S) (ai : Prog),
    FullT E V H0 s1 → P s1 → PushSit E V s1 F args nt i r ra a ai → P (pushStep E s1 F args nt i r)

theorem big_prim {E : Env S Unit π} {V : Val E} {rank} {Good} (L : OrdLaw E V rank Good)
    {H0 : NT S Unit → List (π × Prog)}
    (P : St S Unit π → Prop) (hpop : PopStep E V H0 P) (hskip : SkipStep E V H0 P) (hpush : PushStep E V H0 P)
    {c : Call S Unit} {s s' : St S Unit π} {r : Option Prog} (hb : Big E c s s' r) :
    FullT E V H0 s → SPre E c → NPre c s → OPreT E V H0 c s → P s → P s' := by
  induction hb with
  | @query_direct s s' nt p r h hb ih =>
    intro hf _ _ hpre hp
    exact ih hf trivial trivial (opre_lop_direct h hpre) hp
  | @query_first s s1 s' nt p r0 r hp h h0 hb ih0 ih =>
    intro hf _ _ hpre hP
    have hq0 := opre_query_none E V H0 nt s
    have c0 := big_coreT L h0 hf trivial trivial hq0
    exact ih c0.full trivial trivial (opre_lop_first hf h h0 c0 hpre) (ih0 hf trivial trivial hq0 hP)
  | lop_hit h => intro _ _ _ _ hp; exact hp
  | lop_miss h hb ih => intro hf _ _ hpre hp; exact ih hf trivial h hpre hp
  | pop_empty h => intro _ _ _ _ hp; exact hp
  | @pop_deleted s s1 s' nt key e h' x r h hd ha hb iha ihb =>
    intro hf _ hnone hpre hP
    obtain ⟨hfa, hg, hopre⟩ := sub_skip L hf h hd
    have ca := big_coreT L ha hfa hg trivial hopre
    obtain ⟨hnone1, hpre1⟩ := sub_skip_next h hnone hpre (ca.frame nt (Nat.le_refl _))
    exact ihb ca.full trivial hnone1 hpre1 (iha hfa hg trivial hopre (hskip s nt e h' hf hP h hd))
  | @pop_take s s' nt key e h' x h hd ha iha =>
    intro hf _ hnone hpre hP
    obtain ⟨hfa, hg, hopre, hkey⟩ := sub_take L hf h hnone hpre
    exact iha hfa hg trivial hopre (hpop s nt key e h' hf hP h hd hkey hnone)
  | succ_leaf => intro _ _ _ _ hp; exact hp
  | @succ_fun s s' F a as nt r rl x hd hr hb ih =>
    intro hf hspre _ hpre hP
    exact ih hf (hspre.first hd hr) trivial hpre hP
  | loop_done h => intro _ _ _ _ hp; exact hp
  | @loop_step s s1 s' F args nt i argsLen info s2 ai r r' x h hai hq hc hda hb ihq ihb =>
    intro hf hspre _ hpre hP
    have hqpre := opre_query_arg hai h hf hspre hpre
    have c1 := big_coreT L hq hf trivial trivial hqpre
    have it := loop_iter L hai h hq c1 hf hspre hpre
    obtain ⟨ra, a, sit, _⟩ := it.sit
    exact ihb it.full (hspre.next hai hc hda) trivial (it.next _ _ _ _)
      (hpush s1 F args nt i r ra a ai c1.full (ihq hf trivial trivial hqpre hP) sit)
  | @loop_last s s1 F args nt i argsLen info s2 ai r h hai hq hc ihq =>
    intro hf hspre _ hpre hP
    have hqpre := opre_query_arg hai h hf hspre hpre
    have c1 := big_coreT L hq hf trivial trivial hqpre
    obtain ⟨ra, a, sit, _⟩ := (loop_iter L hai h hq c1 hf hspre hpre).sit
    exact hpush s1 F args nt i r ra a ai c1.full (ihq hf trivial trivial hqpre hP) sit

theorem big_emptyStable (E : Env S Unit π) {c : Call S Unit} {s s' : St S Unit π} {r : Option Prog}
    (hb : Big E c s s' r) : ∀ nt', s.heapOf nt' = [] → ¬ c.addsAt nt' →
    s'.heapOf nt' = [] ∧ s'.succOf nt' = s.succOf nt' := big_emptyKeep E hb

end PS.HG
