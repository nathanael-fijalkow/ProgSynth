/- Heap search on unambiguous, acyclic grammars: best-first order of the yielded sequence — the
   k-way merge of the sorted enumerations of the start symbols through the start heap. -/
import PS.Proofs.Enum.UOrderBig
import PS.Proofs.Enum.UNodupRun
namespace PS.UHS
open PS PS.G
set_option linter.unusedSectionVars false
variable {U π : Type} [DecidableEq U]
variable {E : Env U π} {rank : UNT U → Nat} {Good : π → Prop}

/-- `OHyp` with what the start heap needs: `disj` and `starts_nodup` make an entry taken from the start heap new (no
    duplicates, through `RHyp.nhyp`), `adj_mono` and `good_adjust` carry the order of `heaps[start]` over to the keys of the
    start heap (`OG.pushNext`). Order, completeness and termination at the generator level all take it. -/
structure RHyp (E : Env U π) (rank : UNT U → Nat) (Good : π → Prop) : Prop where
  ohyp : OHyp E rank Good
  disj : SDisj E
  starts_nodup : (E.G.starts.map (·.1)).Nodup
  /-- `adjust_priority_for_start` is monotone -/
  adj_mono : ∀ a b nt w, startW E nt = some w → Good a → Good b → E.ops.lt a b = false →
    E.ops.lt (E.ops.adjust a w) (E.ops.adjust b w) = false
  good_adjust : ∀ a nt w, startW E nt = some w → Good a → Good (E.ops.adjust a w)

theorem RHyp.nhyp (R : RHyp E rank Good) : NHyp E :=
  ⟨R.ohyp.ghyp, R.disj, R.starts_nodup, Or.inr (noReent_of_acyclic E R.ohyp.ghyp rank R.ohyp.acyclic)⟩

theorem start_good (R : RHyp E rank Good) {s : St U π} (hs : SInv E s) : ∀ e, e ∈ s.startHeap → Good e.1 := by
  intro e he
  obtain ⟨w, pr, hw, hpr, hk⟩ := hs.start_ok e he
  rw [hk]
  exact R.good_adjust pr _ w hw (hasPrio_good R.ohyp _ _ _ hpr)

/-- `Below` without a bound on the rank: between two calls of the generator loop no `__init_non_terminal__` is running -/
def All (E : Env U π) (rank : UNT U → Nat) (s : St U π) : Prop := ∀ nt, Uninit s nt ∨ Full E rank s nt

theorem All.below {s : St U π} (h : All E rank s) (r : Nat) : Below E rank r s := fun nt _ => h nt

theorem All.same {s s' : St U π} (h : All E rank s) (hs : ∀ nt, Same s s' nt) (hst : Stable s s') : All E rank s' := by
  intro nt
  rcases h nt with hu | hf
  · exact Or.inl (hu.transfer (hs nt))
  · exact Or.inr (hf.transfer (hs nt) hst (fun sj _ => Kept.of_same (hs sj)))

theorem Same.outer (s : St U π) (h' : List (π × Prog × UNT U)) (d : List Prog) (c : AList (Prog × UNT U) π) (nt : UNT U) :
    Same s { s with startHeap := h', deleted := d, cache := c } nt :=
  ⟨rfl, rfl, rfl, rfl, rfl, fun _ => rfl, fun _ _ => rfl⟩

/-- the invariant of the generator loop for the order; `emE` = the entries `(key, program, start)` taken from the start
    heap, most recent first. To `GD` (its two fields are `ginv` and `del_em`) it adds: every non-terminal is untouched or
    `Full`; the keys of `emE` are sorted, no entry of the start heap beats one of them, and the start heap is a heap. -/
structure OG (E : Env U π) (rank : UNT U → Nat) (s : St U π) (emE : List (π × Prog × UNT U)) : Prop where
  base : Base E s
  ginv : GInv E s (emE.map (·.2))
  all : All E rank s
  heap_ge : ∀ e, e ∈ s.startHeap → ∀ x, x ∈ emE → E.ops.lt e.1 x.1 = false
  sorted : emE.Pairwise (fun x y => E.ops.lt x.1 y.1 = false)
  sheap : Heapq.IsHeap (ltS E.ops) s.startHeap
  em_key : ∀ x, x ∈ emE → ∃ w pr, startW E x.2.2 = some w ∧ HasPrio E x.2.1 x.2.2 pr ∧ x.1 = E.ops.adjust pr w
  /-- the rejected programs were handed over by the start heap -/
  del_em : ∀ q, q ∈ s.deleted → q ∈ emE.map (·.2.1)
  del_nodup : s.deleted.Nodup

theorem OG.queryPre {s : St U π} {emE : List (π × Prog × UNT U)} {nt : UNT U} {p : Option Prog} (h : OG E rank s emE)
    (hpp : ∀ k, p = some k → Popped s nt k) (hpn : p = none → emE = []) : OPre E rank (.query nt p) s := by
  refine ⟨h.all.below _, (h.all nt).imp id (fun hf => ⟨hf.1, hf.2.2⟩), hpp, ?_⟩
  intro hs0
  cases p with
  | some k0 =>
    obtain ⟨k', hk'⟩ := hpp k0 rfl
    rw [hs0] at hk'; cases hk'
  | none =>
    -- nothing was taken yet, so nothing was rejected
    apply List.eq_nil_iff_forall_not_mem.mpr
    intro q hq
    have := h.del_em q hq
    rw [hpn rfl] at this
    cases this

/-- `bound` is the key under which the program `p` was taken from the start heap (`hkb`); the entry pushed for `nt` does
    not beat it (second conjunct), hence beats nothing in `emE` (`hbound`). The conjuncts 3 to 5 (`Kept`, the start heap
    only grows, `nt` has an entry or is exhausted) serve the exhaustion invariant `OC` only. -/
theorem OG.pushNext (R : RHyp E rank Good) {fuel : Nat} {s s' : St U π} {emE : List (π × Prog × UNT U)}
    {nt : UNT U} {p : Option Prog} (h : OG E rank s emE) (hnt : nt ∉ s.startHeap.map (·.2.2))
    (hkey : p = (doneR (emE.map (·.2)) nt).head?) (hpp : ∀ k, p = some k → Popped s nt k)
    (hpn : p = none → emE = [])
    (bound : π) (hbound : ∀ x, x ∈ emE → E.ops.lt bound x.1 = false)
    (hkb : ∀ k w pr, p = some k → startW E nt = some w → HasPrio E k nt pr → bound = E.ops.adjust pr w)
    (hp : pushNext E fuel s nt p = some s') :
    OG E rank s' emE ∧ (∀ e, e ∈ s'.startHeap → e ∈ s.startHeap ∨ (e.2.2 = nt ∧ (p = none ∨ E.ops.lt e.1 bound = false))) ∧
    (∀ sj, Kept s s' sj) ∧ (∀ e, e ∈ s.startHeap → e ∈ s'.startHeap) ∧
    (nt ∈ s'.startHeap.map (·.2.2) ∨
      (s'.initS.contains nt = true ∧ s'.heapOf nt = [] ∧ AList.lookup p (s'.succOf nt) = none)) ∧
    s'.deleted = s.deleted := by
  have H := R.ohyp
  have hk := H.ghyp.kway
  obtain ⟨g', hsub⟩ := h.ginv.pushNext R.nhyp hnt hkey hp
  have hopre := h.queryPre hpp hpn
  obtain ⟨s1, r, hq, hr⟩ := pushNext_eq hp
  have hb := big_of_query E hq
  have a := big_after H hb h.base trivial trivial
  have hbase1 := a.base
  obtain ⟨a1, a2, a4, a5⟩ := big_order H hb h.base trivial trivial hopre
  have hsh := big_startHeap E hk hb
  have hdl := big_deleted E hb hk
  have hall1 : All E rank s1 := fun nt' =>
    (Below.merge (r := rank nt' + 1) (h.all.below _) a.frame a.stable (a.keptAll rfl) a1 a2) nt' (Nat.lt_succ_self _)
  rcases hr with ⟨rfl, rfl⟩ | ⟨q, s2, pr, w, rfl, hcp, hw, rfl⟩
  · exact ⟨⟨hbase1, g', hall1, fun e he => h.heap_ge e (hsh ▸ he), h.sorted, hsh ▸ h.sheap, h.em_key,
        by rw [hdl]; exact h.del_em, by rw [hdl]; exact h.del_nodup⟩,
      fun e he => Or.inl (hsh ▸ he), a.keptAll rfl, fun e he => by rw [hsh]; exact he,
      Or.inr ⟨by simpa using query_initS E hk hb, (a5 rfl).1, (a5 rfl).2⟩, hdl⟩
  · obtain ⟨hpr, _, _⟩ := hbase1.sinv.computePrio H.ghyp nt q (a.spost q rfl) s2 pr hcp
    -- `compute_priority` only wrote its memo table: the new state is `s1` with another memo table and start heap
    obtain ⟨c, rfl⟩ := computePrio_step E hcp
    have hperm := Heapq.push_perm (ltS E.ops) s1.startHeap (E.ops.adjust pr w, q, nt)
    have hmem : ∀ e, e ∈ Heapq.push (ltS E.ops) s1.startHeap (E.ops.adjust pr w, q, nt) →
        e = (E.ops.adjust pr w, q, nt) ∨ e ∈ s.startHeap :=
      fun e he => (List.mem_cons.mp (hperm.subset he)).imp id (fun h1 => hsh ▸ h1)
    -- the new entry is not better than the bound
    have hnewG : p = none ∨ (Good bound ∧ E.ops.lt (E.ops.adjust pr w) bound = false) := by
      cases p with
      | none => exact Or.inl rfl
      | some k =>
        right
        obtain ⟨prk, hprk⟩ := (hpp k rfl).der h.base.sinv
        rw [hkb k w prk rfl hw hprk]
        exact ⟨R.good_adjust _ _ _ hw (hasPrio_good H _ _ _ hprk),
          R.adj_mono pr prk nt w hw (hasPrio_good H _ _ _ hpr) (hasPrio_good H _ _ _ hprk)
            (a4 q rfl k rfl prk pr hprk hpr)⟩
    refine ⟨⟨⟨g'.sinv, g'.ninv, hbase1.hinv, hbase1.delF⟩, g', hall1.same (Same.outer s1 _ _ c) (Stable.of_succOf fun _ => rfl),
      ?_, h.sorted, ?_, h.em_key, hdl ▸ h.del_em, hdl ▸ h.del_nodup⟩, ?_,
      fun sj => (a.keptAll rfl sj).trans (Kept.of_same (Same.outer s1 _ _ c sj)), ?_, ?_, hdl⟩
    · intro e he x hx
      rcases hmem e he with rfl | hm
      · rcases hnewG with hn | ⟨hgb, hn⟩
        · -- first push for this start symbol: nothing was taken yet
          rw [hpn hn] at hx; cases hx
        · obtain ⟨w2, pr2, hw2, hpr2, he2⟩ := h.em_key x hx
          exact H.weak.ntrans (by rw [he2]; exact R.good_adjust _ _ _ hw2 (hasPrio_good H _ _ _ hpr2)) hgb
            (R.good_adjust _ _ _ hw (hasPrio_good H _ _ _ hpr)) (hbound x hx) hn
      · exact h.heap_ge e hm x hx
    · show Heapq.IsHeap _ (Heapq.push (ltS E.ops) s1.startHeap _)
      apply Heapq.push_isHeap_on (ltS_weakOrderOn H) _ _ _ (R.good_adjust _ _ _ hw (hasPrio_good H _ _ _ hpr))
      · rw [hsh]; exact h.sheap
      · rw [hsh]; exact start_good R h.base.sinv
    · intro e he
      rcases hmem e he with rfl | hm
      · exact Or.inr ⟨rfl, hnewG.imp id (fun h => h.2)⟩
      · exact Or.inl hm
    · intro e he
      exact hperm.symm.subset (List.mem_cons_of_mem _ (hsh ▸ he))
    · left
      exact List.mem_map.mpr ⟨(E.ops.adjust pr w, q, nt), hperm.symm.subset List.mem_cons_self, rfl⟩

theorem OG.pushNexts (R : RHyp E rank Good) {fuel : Nat} (l : List (UNT U)) {s s' : St U π}
    (h : OG E rank s []) (hnd : l.Nodup) (hdisj : ∀ nt, nt ∈ s.startHeap.map (·.2.2) → nt ∉ l)
    (hp : pushNexts E fuel l s = some s') : OG E rank s' [] := by
  refine (pushNexts_induct (fun l s => OG E rank s [] ∧ l.Nodup ∧ ∀ nt, nt ∈ s.startHeap.map (·.2.2) → nt ∉ l) ?_ l
    ⟨h, hnd, hdisj⟩ hp).1
  intro nt rest s s1 ⟨h, hnd, hdisj⟩ h1
  -- `p = none`: nothing was taken yet (`emE = []`), so `hbound` and `hkb` are vacuous and the new entry takes the
  -- `p = none` side of the second conjunct; `bound` is never read and any value of `π` will do
  obtain ⟨g1, hsub, _, _, _, _⟩ := h.pushNext R (fun hm => hdisj nt hm List.mem_cons_self) (by simp [doneR])
    (by intro k hk; cases hk) (fun _ => rfl) (E.ops.ofRule 0) (by intro x hx; cases hx)
    (by intro k w pr hk; cases hk) h1
  exact ⟨g1, (List.nodup_cons.mp hnd).2, startHeap_disj_step hnd hdisj fun e he => (hsub e he).imp id And.left⟩

theorem OG.popStart (R : RHyp E rank Good) {s : St U π} {emE : List (π × Prog × UNT U)} (h : OG E rank s emE)
    {pa : π} {q : Prog} {nt : UNT U} {h' : List (π × Prog × UNT U)}
    (hpop : Heapq.pop (ltS E.ops) s.startHeap = some ((pa, q, nt), h')) :
    OG E rank { s with startHeap := h' } ((pa, q, nt) :: emE) ∧ nt ∉ h'.map (·.2.2) ∧ Popped s nt q ∧
      (pa, q, nt) ∈ s.startHeap ∧ q ∉ s.deleted := by
  have H := R.ohyp
  obtain ⟨hm, hsub⟩ := mem_of_pop _ _ _ _ hpop
  obtain ⟨hsh', hmin⟩ := Heapq.pop_isHeap_on (ltS_weakOrderOn H) _ _ _ (start_good R h.base.sinv) h.sheap hpop
  obtain ⟨g0, hnt0, hfront⟩ := h.ginv.popStart R.disj hpop
  have hpq : Popped s nt q := ⟨_, hfront⟩
  have hqnew : q ∉ emE.map (·.2.1) := by
    have := g0.em_nodup
    simp only [List.map_cons, List.nodup_cons, List.map_map] at this
    intro hq
    apply this.1
    obtain ⟨x, hx, hxe⟩ := List.mem_map.mp hq
    exact List.mem_map.mpr ⟨x, hx, hxe⟩
  refine ⟨⟨⟨g0.sinv, g0.ninv, h.base.hinv, h.base.delF⟩, g0, ?_, ?_, ?_, hsh', ?_, ?_, h.del_nodup⟩, hnt0, hpq, hm,
    fun hd => hqnew (h.del_em q hd)⟩
  · exact h.all.same (Same.outer s _ _ _) (Stable.refl _)
  · intro e' he' x hx
    rcases List.mem_cons.mp hx with rfl | hx
    · exact hmin e' (hsub e' he')
    · exact h.heap_ge e' (hsub e' he') x hx
  · exact List.pairwise_cons.mpr ⟨fun x hx => h.heap_ge _ hm x hx, h.sorted⟩
  · intro x hx
    rcases List.mem_cons.mp hx with rfl | hx
    · exact h.base.sinv.start_ok _ hm
    · exact h.em_key x hx
  · intro q' hq'
    simp only [List.map_cons]
    exact List.mem_cons_of_mem _ (h.del_em q' hq')

/-- the conjuncts 2 to 4 are those of `OG.pushNext` that serve `OC` -/
theorem OG.turn (R : RHyp E rank Good) {fuel : Nat} {s s1 : St U π} {emE : List (π × Prog × UNT U)} (h : OG E rank s emE)
    {pa : π} {q : Prog} {nt : UNT U} {h' : List (π × Prog × UNT U)}
    (hpop : Heapq.pop (ltS E.ops) s.startHeap = some ((pa, q, nt), h'))
    (hpn : UHS.pushNext E fuel { s with startHeap := h' } nt (some q) = some s1) :
    OG E rank s1 ((pa, q, nt) :: emE) ∧ (∀ sj, Kept s s1 sj) ∧ (∀ e, e ∈ h' → e ∈ s1.startHeap) ∧
    (nt ∈ s1.startHeap.map (·.2.2) ∨
      (s1.initS.contains nt = true ∧ s1.heapOf nt = [] ∧ AList.lookup (some q) (s1.succOf nt) = none)) ∧
    s1.deleted.contains q = false ∧ (pa, q, nt) ∈ s.startHeap := by
  have H := R.ohyp
  obtain ⟨h0, hnt0, hpq, hm, _⟩ := h.popStart R hpop
  obtain ⟨g1, _, hkept, hmono, hres, _⟩ := h0.pushNext R hnt0 (by simp [doneR_cons_self]) (by intro k hk; cases hk; exact hpq)
    (by intro hk; cases hk) pa
    (by
      intro x hx
      rcases List.mem_cons.mp hx with rfl | hx
      · exact H.weak.irrefl (start_good R h.base.sinv _ hm)
      · exact h.heap_ge _ hm x hx)
    (by
      intro k w pr hk hw hpr
      cases hk
      obtain ⟨w', pr', hw', hpr', he⟩ := h.base.sinv.start_ok _ hm
      simp only at hw' hpr' he
      rw [hw] at hw'
      cases hw'
      rw [hasPrio_fun H _ _ _ _ hpr hpr']
      exact he) hpn
  exact ⟨g1, hkept, hmono, hres, (GD.turn R.nhyp ⟨h.ginv, h.del_em⟩ hpop hpn).2, hm⟩

/-- the `while len(self._start_heap) > 0` loop of `start_query` ends after one turn -/
theorem OG.kwayLoop (R : RHyp E rank Good) {fuel k : Nat} {s s' : St U π} {emE : List (π × Prog × UNT U)}
    {r : Option Prog} (h : OG E rank s emE) (hp : kwayLoop E fuel k s = some (s', r)) :
    (r = none ∧ OG E rank s' emE) ∨ (∃ e, r = some e.2.1 ∧ OG E rank s' (e :: emE)) := by
  rcases kwayLoop_eq hp with ⟨rfl, rfl, _⟩ | ⟨⟨pa, q, nt⟩, h', s1, hpop, hpn, hres⟩
  · exact Or.inl ⟨rfl, h⟩
  · obtain ⟨g1, _, _, _, hnd, _⟩ := h.turn R hpop hpn
    obtain ⟨rfl, rfl⟩ := hres hnd
    exact Or.inr ⟨_, rfl, g1⟩

theorem og_empty (E : Env U π) : OG E rank (St.empty E.G) [] :=
  have g := ginv_empty E
  ⟨⟨g.sinv, g.ninv, (hinv_empty E).1, by intro q hq; cases hq⟩, g,
    fun nt => Or.inl ⟨rfl, St.empty_heapOf _ nt, St.empty_succOf _ nt, St.empty_seenOf _ nt⟩,
    (by intro e he; cases he), List.Pairwise.nil, (hinv_empty E).2, (by intro x hx; cases hx), (by intro q hq; cases hq),
    List.nodup_nil⟩

theorem OG.startQuery (R : RHyp E rank Good) {fuel : Nat} {s s' : St U π} {emE : List (π × Prog × UNT U)}
    {r : Option Prog} (h : OG E rank s emE) (hp : startQuery E fuel s = some (s', r)) :
    (r = none ∧ OG E rank s' emE) ∨ (∃ e, r = some e.2.1 ∧ OG E rank s' (e :: emE)) := by
  obtain ⟨s1, ⟨hi0, h1⟩ | ⟨_, rfl⟩, hl⟩ := startQuery_kway R.ohyp.ghyp.kway hp
  · obtain ⟨hs0, he0⟩ := h.ginv.inited hi0
    have he0' : emE = [] := by simpa using he0
    subst he0'
    exact (h.pushNexts R _ R.starts_nodup (by rw [hs0]; intro nt hm; cases hm) h1).kwayLoop R hl
  · exact h.kwayLoop R hl

theorem OG.addDeleted (R : RHyp E rank Good) {s : St U π} {emE : List (π × Prog × UNT U)} {e : π × Prog × UNT U}
    (h : OG E rank s (e :: emE)) (hf : E.filter e.2.1 = false) : OG E rank (s.addDeleted e.2.1) (e :: emE) := by
  have hre : NoReent E := noReent_of_acyclic E R.ohyp.ghyp rank R.ohyp.acyclic
  have hg := h.ginv.addDeleted e.2.1 hre
  unfold St.addDeleted at hg ⊢
  split
  · exact h
  · rename_i hc
    simp only [hc, Bool.false_eq_true, if_false] at hg
    refine ⟨⟨hg.sinv, hg.ninv, h.base.hinv, ?_⟩, hg, ?_, h.heap_ge, h.sorted, h.sheap, h.em_key, ?_, ?_⟩
    · intro q hq
      rcases List.mem_append.mp hq with h1 | h1
      · exact h.base.delF q h1
      · simp only [List.mem_singleton] at h1; subst h1; exact hf
    · exact h.all.same (Same.outer s _ _ _) (Stable.refl _)
    · intro q hq
      rcases List.mem_append.mp hq with h1 | h1
      · exact h.del_em q h1
      · cases List.mem_singleton.mp h1; exact List.mem_cons_self
    · rw [List.nodup_append]
      refine ⟨h.del_nodup, List.pairwise_singleton _ _, ?_⟩
      intro a ha b hb hab
      cases List.mem_singleton.mp hb
      exact hc (List.contains_iff_mem.mpr (hab ▸ ha))

/-- the key of the order: the priority from the start symbol adjusted by its weight
    (heap search: `start weight × probability from the start symbol`) -/
def StartKey (E : Env U π) (p : Prog) (k : π) : Prop :=
  ∃ nt w pr, startW E nt = some w ∧ HasPrio E p nt pr ∧ k = E.ops.adjust pr w

theorem OG.startKey_eq (R : RHyp E rank Good) {s : St U π} {emE : List (π × Prog × UNT U)} (g : OG E rank s emE)
    {x : π × Prog × UNT U} (hx : x ∈ emE) {kx : π} (hk : StartKey E x.2.1 kx) : kx = x.1 := by
  obtain ⟨nt, w, pr, hw, hpr, rfl⟩ := hk
  obtain ⟨w2, pr2, hw2, hpr2, he2⟩ := g.em_key x hx
  have hnt : nt = x.2.2 := R.disj x.2.1 nt x.2.2 ⟨pr, hpr⟩ ⟨pr2, hpr2⟩ ⟨w, hw⟩ ⟨w2, hw2⟩
  subst hnt
  rw [hw] at hw2; cases hw2
  rw [he2, hasPrio_fun R.ohyp _ _ _ _ hpr hpr2]

theorem take_sorted (R : RHyp E rank Good) (fuel k : Nat) (s' : St U π) (out : List Prog) (b : Bool)
    (h : take E fuel k (St.empty E.G) [] = some (s', out, b)) :
    out.Pairwise (fun p q => ∀ kp kq, StartKey E p kp → StartKey E q kq → E.ops.lt kq kp = false) := by
  -- nothing is claimed at the stop (`Stop := True`; only `OC` says something there): `trivial` pads to the shape of `take_run`
  obtain ⟨emE, g, hout, _⟩ := take_run (J := OG E rank) (Stop := fun _ => True)
    (fun h hp => (h.startQuery R hp).imp (fun ⟨a, b⟩ => ⟨a, b, trivial⟩) id) (fun g hf => g.addDeleted R hf)
    k (og_empty E) rfl h
  rw [hout]
  unfold accepted
  rw [List.pairwise_reverse, List.pairwise_map]
  have hsub : (emE.filter (fun e => E.filter e.2.1)).Pairwise (fun x y => E.ops.lt x.1 y.1 = false) :=
    g.sorted.sublist List.filter_sublist
  refine hsub.imp_of_mem ?_
  intro x y hx hy hxy kp kq hp hq
  rw [g.startKey_eq R (List.mem_filter.mp hy).1 hp, g.startKey_eq R (List.mem_filter.mp hx).1 hq]
  exact hxy

end PS.UHS
