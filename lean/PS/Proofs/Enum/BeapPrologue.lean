/- What `_init_non_terminal_` and `_reevaluate_` do to the tables, whatever the grammar:
   * they write cost lists and queues only (`prologue_rest`);
   * finished non-terminals are left alone, and the cost computed for a rule is the sum of the first costs of its
     arguments in the state returned (`init_keep`);
   * a property of every queue (`W nt (queue of nt)`) and of every cost list (`C nt (cost list of nt)`) that the three
     kinds of write keep — a non-terminal is entered, the element of a rule is pushed, the first cost is set to the cost
     of the head; a queue is re-priced — holds afterwards (`init_each`, `reevaluate_each`, `prologue_each`). -/
import PS.Proofs.Enum.BeapRun
import PS.Proofs.AList
namespace PS.Beap
open PS PS.G PS.Heapq
set_option linter.unusedSectionVars false
variable {S : Type} [DecidableEq S]

theorem lookup_map_nil {κ ν ω : Type} [DecidableEq κ] (l : AList κ ν) (k : κ) :
    (AList.lookup k (l.map fun r => (r.1, ([] : List ω)))).getD [] = [] :=
  AList.getD_lookup_map_const l k []

namespace St
@[simp] theorem clOf_empty (G : TT S Unit) (nt : NT S Unit) : (St.empty G).clOf nt = [] := lookup_map_nil G.rules nt
@[simp] theorem queueOf_empty (G : TT S Unit) (nt : NT S Unit) : (St.empty G).queueOf nt = [] := lookup_map_nil G.rules nt
@[simp] theorem bankOf_empty (G : TT S Unit) (nt : NT S Unit) : (St.empty G).bankOf nt = [] := lookup_map_nil G.rules nt
@[simp] theorem emptiesOf_empty (G : TT S Unit) (nt : NT S Unit) : (St.empty G).emptiesOf nt = [] := lookup_map_nil G.rules nt
@[simp] theorem bankAt_empty (G : TT S Unit) (nt : NT S Unit) (ci : Nat) : (St.empty G).bankAt nt ci = [] := by
  simp [St.bankAt, AList.lookup]
end St

theorem rule_of_mem {G : TT S Unit} (hnd : ∀ nt rs, AList.lookup nt G.rules = some rs → (AList.keys rs).Nodup) {nt : NT S Unit}
    {rs : List (Sym × (List (Ty × S) × Unit))} (hrs : AList.lookup nt G.rules = some rs) {P : Sym} {rl : List (Ty × S) × Unit}
    (hm : (P, rl) ∈ rs) : G.rule? nt P = some rl := by
  unfold TT.rule?; rw [hrs]; exact AList.lookup_of_mem_nodup (hnd nt rs hrs) hm

/-! ### the fields the prologue does not touch -/

def SameRest (s s' : St S) : Prop := s'.bank = s.bank ∧ s'.empties = s.empties ∧ s'.deleted = s.deleted ∧ s'.failedByEmpties = s.failedByEmpties

theorem SameRest.refl (s : St S) : SameRest s s := ⟨rfl, rfl, rfl, rfl⟩
theorem SameRest.trans {a b c : St S} (h1 : SameRest a b) (h2 : SameRest b c) : SameRest a c :=
  ⟨h2.1.trans h1.1, h2.2.1.trans h1.2.1, h2.2.2.1.trans h1.2.2.1, h2.2.2.2.trans h1.2.2.2⟩
theorem SameRest.bankAt {s s' : St S} (h : SameRest s s') (nt : NT S Unit) (ci : Nat) : s'.bankAt nt ci = s.bankAt nt ci :=
  St.bankAt_congr (St.bankOf_congr h.1 nt) ci

theorem prologue_rest (E : Env S) (fuel : Nat) (s s' : St S) (h : prologue E fuel s = some s') : SameRest s s' := by
  obtain ⟨s1, hin, hre⟩ := prologue_cases h
  have hinit : ∀ n, Inits E n (fun s _ s' => SameRest s s') (fun s _ _ s' => SameRest s s') (fun s _ _ r => SameRest s r.1) := by
    apply init_induct E ?in_done ?in_run ?ir_nil ?ir_cons ?ia_nil ?ia_cons
    case in_done => intro _ s _ _ _ _; exact SameRest.refl s
    case in_run => intro _ _ _ _ _ _ _ _ _ _ ih _; exact ih
    case ir_nil => intro _ s _; exact SameRest.refl s
    case ir_cons => intro _ _ _ _ _ _ _ _ _ _ _ _ ihA _ ihR; exact SameRest.trans ihA ihR
    case ia_nil => intro _ s _; exact SameRest.refl s
    case ia_cons => intro _ _ _ _ _ _ _ _ _ _ ihN _ _ ihA; exact ihN.trans ihA
  exact reevaluate_induct E (I := SameRest s) (fun _ _ _ _ _ _ _ hs _ _ _ => hs) fuel s1 s' ((hinit fuel).nt hin) hre

/-! ### finished non-terminals are left alone -/

/-- initialised non-terminals (except possibly `ex`) keep their tables -/
def Keep (ex : Option (NT S Unit)) (s s' : St S) : Prop :=
  ∀ nt, some nt ≠ ex → s.clOf nt ≠ [] → s'.clOf nt = s.clOf nt ∧ s'.queueOf nt = s.queueOf nt

theorem Keep.refl (ex : Option (NT S Unit)) (s : St S) : Keep ex s s := fun _ _ _ => ⟨rfl, rfl⟩
theorem Keep.trans {ex : Option (NT S Unit)} {a b c : St S} (h1 : Keep ex a b) (h2 : Keep ex b c) : Keep ex a c := by
  intro nt hx hne
  obtain ⟨e1, e2⟩ := h1 nt hx hne
  obtain ⟨f1, f2⟩ := h2 nt hx (by rw [e1]; exact hne)
  exact ⟨f1.trans e1, f2.trans e2⟩
theorem Keep.weaken {ex : Option (NT S Unit)} {s s' : St S} (h : Keep none s s') : Keep ex s s' :=
  fun nt _ hne => h nt (by simp) hne

theorem keep_push (s : St S) (nt : NT S Unit) (x : HeapEl) : Keep (some nt) s (s.setQueue nt (Heapq.push ltE (s.queueOf nt) x)) :=
  fun y hy _ => ⟨rfl, by rw [St.queueOf_setQueue, if_neg fun (e : y = nt) => hy (by rw [e])]⟩

theorem keep_setCL (s : St S) (nt : NT S Unit) (cl : List Cost) : Keep (some nt) s (s.setCL nt cl) :=
  fun y hy _ => ⟨by rw [St.clOf_setCL, if_neg fun (e : y = nt) => hy (by rw [e])], rfl⟩

theorem Keep.of_nil {nt : NT S Unit} {s s' : St S} (h : Keep (some nt) s s') (hn : s.clOf nt = []) : Keep none s s' :=
  fun y _ hy => h y (fun e => hy (Option.some.inj e ▸ hn)) hy

def FreshQ (s : St S) : Prop := ∀ nt, s.clOf nt = [] → s.queueOf nt = []

theorem FreshQ.setCL {s : St S} (h : FreshQ s) (nt : NT S Unit) {cl : List Cost} (hne : cl ≠ []) : FreshQ (s.setCL nt cl) := by
  intro x hx
  rw [St.clOf_setCL] at hx
  split at hx
  · exact absurd hx hne
  · exact h x hx

theorem FreshQ.setQueue {s : St S} (h : FreshQ s) {nt : NT S Unit} (hne : s.clOf nt ≠ []) (q : List HeapEl) :
    FreshQ (s.setQueue nt q) := by
  intro x hx
  have hxe : x ≠ nt := fun he => hne (by rw [← he]; exact hx)
  rw [St.queueOf_setQueue, if_neg hxe]
  exact h x hx

theorem init_keep (E : Env S) : ∀ n, Inits E n
    (fun s nt s' => Keep none s s' ∧ s'.clOf nt ≠ [] ∧ (FreshQ s → FreshQ s'))
    (fun s nt _ s' => s.clOf nt ≠ [] → Keep (some nt) s s' ∧ s'.clOf nt = s.clOf nt ∧ (FreshQ s → FreshQ s'))
    (fun s as c r =>
      Keep none s r.1 ∧ (∀ a ∈ as, r.1.clOf (ntOf a) ≠ []) ∧ sumFirst r.1 as c = some r.2 ∧ (FreshQ s → FreshQ r.1)) := by
  refine init_induct E ?in_done ?in_run ?ir_nil ?ir_cons ?ia_nil ?ia_cons
  case in_done =>
    intro _ s nt cl hcl hlen
    exact ⟨Keep.refl _ _, fun he => by rw [St.clOf_of_lookup hcl] at he; rw [he] at hlen; exact Nat.lt_irrefl _ hlen, id⟩
  case in_run =>
    intro _ s nt rs s1 e q hcl _ _ ih _
    have hclof : s.clOf nt = [] := St.clOf_of_lookup hcl
    have hne0 : (s.setCL nt [Cost.big]).clOf nt ≠ [] := by rw [St.clOf_setCL, if_pos rfl]; exact List.cons_ne_nil _ _
    obtain ⟨k1, c1, f1⟩ := ih hne0
    have hne1 : (s1.clOf nt).set 0 e.cost ≠ [] := fun he =>
      hne0 (c1 ▸ List.length_eq_zero_iff.mp (by simpa using congrArg List.length he))
    exact ⟨(((keep_setCL s nt _).trans k1).trans (keep_setCL s1 nt _)).of_nil hclof,
      by rw [St.clOf_setCL, if_pos rfl]; exact hne1, fun hs => (f1 (hs.setCL nt (List.cons_ne_nil _ _))).setCL nt hne1⟩
  case ir_nil => intro _ s nt _; exact ⟨Keep.refl _ _, rfl, id⟩
  case ir_cons =>
    intro _ s nt P rl rest w s1 cost s' _ _ ihA _ ihR hne
    obtain ⟨k1, _, _, f1⟩ := ihA
    have hcl1 := (k1 nt (by simp) hne).1
    obtain ⟨k2, c2, f2⟩ := ihR (hcl1 ▸ hne)
    exact ⟨((Keep.weaken k1).trans (keep_push s1 nt _)).trans k2, c2.trans hcl1, fun hs => f2 ((f1 hs).setQueue (hcl1 ▸ hne) _)⟩
  case ia_nil => intro _ s c; exact ⟨Keep.refl _ _, fun a ha => (by cases ha), rfl, id⟩
  case ia_cons =>
    intro _ s a as c s1 c0 cl0 r _ ihN hcl _ ihA
    obtain ⟨k1, c1, f1⟩ := ihN
    obtain ⟨k2, c2, hsum, f2⟩ := ihA
    have hk := (k2 (ntOf a) (by simp) c1).1
    refine ⟨k1.trans k2, fun b hb => ?_, by simp only [sumFirst, hk, hcl]; exact hsum, fun hs => f2 (f1 hs)⟩
    rcases List.mem_cons.mp hb with rfl | hb'
    · exact hk ▸ c1
    · exact c2 b hb'

theorem freshQ_empty (G : TT S Unit) : FreshQ (St.empty G) := fun nt _ => St.queueOf_empty G nt

theorem prologue_freshQ (E : Env S) (fuel : Nat) (s s' : St S) (hs : FreshQ s) (h : prologue E fuel s = some s') : FreshQ s' := by
  obtain ⟨s1, hin, hre⟩ := prologue_cases h
  exact reevaluate_induct E (fun s nt _ e q' _ _ hs _ _ hcl =>
    (hs.setQueue (by rw [hcl]; exact List.cons_ne_nil _ _) _).setCL nt (List.cons_ne_nil _ _)) fuel s1 s'
    (((init_keep E fuel).nt hin).2.2 hs) hre

/-! ### a property of every queue and every cost list -/

structure Each (W : NT S Unit → List HeapEl → Prop) (C : NT S Unit → List Cost → Prop) (s : St S) : Prop where
  queue : ∀ nt, W nt (s.queueOf nt)
  costs : ∀ nt, C nt (s.clOf nt)

theorem Each.setQueue {W : NT S Unit → List HeapEl → Prop} {C : NT S Unit → List Cost → Prop} {s : St S} (h : Each W C s)
    (nt : NT S Unit) (q : List HeapEl) (hq : W nt q) : Each W C (s.setQueue nt q) := by
  refine ⟨fun nt' => ?_, h.costs⟩
  rw [St.queueOf_setQueue]
  split
  · next heq => subst heq; exact hq
  · exact h.queue nt'

theorem Each.setCL {W : NT S Unit → List HeapEl → Prop} {C : NT S Unit → List Cost → Prop} {s : St S} (h : Each W C s)
    (nt : NT S Unit) (cl : List Cost) (hc : C nt cl) : Each W C (s.setCL nt cl) := by
  refine ⟨h.queue, fun nt' => ?_⟩
  rw [St.clOf_setCL]
  split
  · next heq => subst heq; exact hc
  · exact h.costs nt'

theorem each_empty {W : NT S Unit → List HeapEl → Prop} {C : NT S Unit → List Cost → Prop} (G : TT S Unit) (hW : ∀ nt, W nt [])
    (hC : ∀ nt, C nt []) : Each W C (St.empty G) :=
  ⟨fun nt => St.queueOf_empty G nt ▸ hW nt, fun nt => St.clOf_empty G nt ▸ hC nt⟩

theorem forall_push {Q : HeapEl → Prop} {q : List HeapEl} {x : HeapEl} (h : ∀ el ∈ q, Q el) (hx : Q x) :
    ∀ el ∈ Heapq.push ltE q x, Q el := fun el he => by
  rcases (mem_push _ _ _ _).mp he with rfl | h'
  · exact hx
  · exact h el h'

theorem forall_repriced {E : Env S} {s : St S} {nt : NT S Unit} {q nq : List HeapEl} {e : HeapEl} {q' : List HeapEl}
    {Q Q' : HeapEl → Prop} (hnq : mapOpt (recost E s nt) q = some nq) (hh : heapify ltE nq = e :: q') (h : ∀ x ∈ q, Q x)
    (hre : ∀ x el, Q x → recost E s nt x = some el → Q' el) : ∀ el ∈ e :: q', Q' el := fun el he =>
  let ⟨x, hx, hf⟩ := (mem_repriced hnq hh).1 el he; hre x el (h x hx) hf

section each
variable (E : Env S) {W : NT S Unit → List HeapEl → Prop} {C : NT S Unit → List Cost → Prop}
  (enter : ∀ nt rs cl, AList.lookup nt E.G.rules = some rs → C nt cl → C nt [Cost.big])
  (push : ∀ s nt rs P rl w cost, Each W C s → AList.lookup nt E.G.rules = some rs → (P, rl) ∈ rs → ruleW E nt P = some w →
    sumFirst s rl.1 (Cost.ofRat w) = some cost →
    W nt (Heapq.push ltE (s.queueOf nt) ⟨cost, List.replicate rl.1.length 0, P⟩))
  (leave : ∀ nt e q cl, W nt (e :: q) → C nt cl → C nt (cl.set 0 e.cost))
  (reprice : ∀ s nt nq e q' c0 cl', Each W C s → mapOpt (recost E s nt) (s.queueOf nt) = some nq → heapify ltE nq = e :: q' →
    s.clOf nt = c0 :: cl' → W nt (e :: q') ∧ C nt (e.cost :: cl'))
include enter push leave

theorem init_each : ∀ n, Inits E n
    (fun s _ s' => Each W C s → Each W C s')
    (fun s nt rest s' => Each W C s → ∀ rs, AList.lookup nt E.G.rules = some rs → (∀ x ∈ rest, x ∈ rs) → Each W C s')
    (fun s _ _ r => Each W C s → Each W C r.1) := by
  refine init_induct E ?in_done ?in_run ?ir_nil ?ir_cons ?ia_nil ?ia_cons
  case in_done => intro _ s nt cl _ _ hs; exact hs
  case in_run =>
    intro _ s nt rs s1 e q _ hrs _ ih hq hs
    have hs1 := ih (hs.setCL nt _ (enter nt rs _ hrs (hs.costs nt))) rs hrs fun _ hx => hx
    exact hs1.setCL nt _ (leave nt e q _ (hq ▸ hs1.queue nt) (hs1.costs nt))
  case ir_nil => intro _ s nt hs _ _ _; exact hs
  case ir_cons =>
    intro n s nt P rl rest w s1 cost s' hw hia ihA _ ihR hs rs hrs hrest
    exact ihR ((ihA hs).setQueue nt _ (push s1 nt rs P rl w cost (ihA hs) hrs (hrest _ (List.mem_cons_self ..)) hw
      ((init_keep E n).args hia).2.2.1)) rs hrs fun x hm => hrest x (List.mem_cons_of_mem _ hm)
  case ia_nil => intro _ s c hs; exact hs
  case ia_cons => intro _ s a as c s1 c0 cl0 r _ ihN _ _ ihA hs; exact ihA (ihN hs)

-- `enter`, `push`, `leave` stay included: `reevaluate_each` takes them without reading them
include reprice

theorem reevaluate_each (fuel : Nat) (s s' : St S) (hs : Each W C s) (h : reevaluate E fuel s = some s') : Each W C s' := by
  refine reevaluate_induct E (fun s nt nq e q' c0 cl' hs hnq hh hcl => ?_) fuel s s' hs h
  obtain ⟨h1, h2⟩ := reprice s nt nq e q' c0 cl' hs hnq hh hcl
  exact (hs.setQueue nt _ h1).setCL nt _ h2

theorem prologue_each (fuel : Nat) (s s' : St S) (hs : Each W C s) (h : prologue E fuel s = some s') : Each W C s' := by
  obtain ⟨s1, hin, hre⟩ := prologue_cases h
  exact reevaluate_each E enter push leave reprice fuel s1 s' ((init_each E enter push leave fuel).nt hin hs) hre
end each

theorem reevaluate_ne (E : Env S) (fuel : Nat) (s s' : St S) (h : reevaluate E fuel s = some s') (nt : NT S Unit)
    (hne : s.clOf nt ≠ []) : s'.clOf nt ≠ [] :=
  (reevaluate_each E (W := fun _ _ => True) (C := fun nt cl => s.clOf nt ≠ [] → cl ≠ [])
    (fun _ _ _ _ _ _ => List.cons_ne_nil _ _) (fun _ _ _ _ _ _ _ _ _ _ _ _ => trivial)
    (fun _ _ _ cl _ hc h0 he => hc h0 (List.length_eq_zero_iff.mp (by simpa using congrArg List.length he)))
    (fun _ _ _ _ _ _ _ _ _ _ _ => ⟨trivial, fun _ => List.cons_ne_nil _ _⟩) fuel s s' ⟨fun _ => trivial, fun _ h => h⟩ h).costs nt hne

end PS.Beap
