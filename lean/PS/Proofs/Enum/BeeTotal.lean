/- Bee search, NO EXCEPTION: validity of the indices of queued / delayed combinations, and totality of `step`
   (every Python operation of one control-point-to-control-point stretch succeeds). -/
import PS.Proofs.Enum.BeeBelow
namespace PS.Bee
open PS PS.G PS.Heapq

variable {S : Type} [DecidableEq S]
set_option linter.unusedSectionVars false
set_option linter.unusedSimpArgs false

def QV (cl : List Int) : NT S Unit → HeapElem → Prop := fun _ e => ∀ (j v : Nat), e.combo[j]? = some v → v < cl.length
/-- every position but the checked one holds an index inside the cost list: `_add_combination_` tests the checked position
    only, and `_index_cost2real_cost_` reads them all.  Nothing for `chk = none` (the roots filed by `__init__`): then the
    test looks at every position. -/
def DV (cl : List Int) : NT S Unit → Delayed → Prop := fun _ d =>
  ∀ i, d.2.2 = some i → ∀ (j v : Nat), j ≠ i → d.1[j]? = some v → v < cl.length

def Closed (E : Env S) : Prop :=
  ∀ nt P args, ruleArgs E nt P = some args → ∀ a ∈ args, (a.1, (a.2, ())) ∈ AList.keys E.G.rules

theorem closed_of_check (E : Env S) (h : closedOK E = true) : Closed E := by
  intro nt P args ha a hm
  obtain ⟨rs, rl, hl, hr, rfl⟩ := ruleArgs_mem ha
  unfold closedOK at h
  simpa using List.all_eq_true.mp (List.all_eq_true.mp (List.all_eq_true.mp h _ hl) _ hr) _ hm

structure VSt (E : Env S) (s : St S) : Prop where
  qv : QAll (QV s.costList) s
  dv : DAll (DV s.costList) s
  bk : ∀ nt, nt ∈ AList.keys E.G.rules → (AList.lookup nt s.bank).isSome = true

theorem realCostLoop_total (cl : List Int) (idx : List Nat) :
    ∀ (k i : Nat) (out : Int), (∀ j, i ≤ j → j < i + k → ∃ v, idx[j]? = some v ∧ v < cl.length) →
      ∃ c, realCostLoop cl idx i k out = some c :=
  fun k i out h => ⟨_, (realCostLoop_iff cl idx k i out _).mpr ⟨h, rfl⟩⟩

theorem realCost_total (E : Env S) (hcosts : HasCosts E) (cl : List Int) (nt : NT S Unit) (P : Sym) (args : List (Ty × S))
    (ha : ruleArgs E nt P = some args) (idx : List Nat) (hlen : idx.length = args.length)
    (hv : ∀ (j v : Nat), idx[j]? = some v → v < cl.length) : ∃ c, realCost E cl nt P idx = some c := by
  obtain ⟨w, hw⟩ := hcosts nt P args ha
  rw [realCost_of_rule hw ha]
  apply realCostLoop_total
  intro j _ hj
  have hjl : j < idx.length := by omega
  exact ⟨_, List.getElem?_eq_getElem hjl, hv j _ (List.getElem?_eq_getElem hjl)⟩

theorem qv_of_not_delayed (cl : List Int) (nt : NT S Unit) (idx : List Nat) (P : Sym) (chk : Option Nat) (c : Int)
    (hd : DV cl nt (idx, P, chk)) (hn : needsDelay cl idx chk = some false) : QV cl nt ⟨c, idx, P⟩ := by
  intro j v hv
  cases chk with
  | some i =>
    -- the checked position by the test, the other ones by `hd`
    by_cases hji : j = i
    · subst hji
      exact needsDelay_false hn (fun _ e => (Option.some.inj e).symm) hv
    · exact hd i rfl j v hji hv
  | none => exact needsDelay_false hn (fun _ e => nomatch e) hv

theorem addCombination_total (E : Env S) (hcosts : HasCosts E) (s : St S) (nt : NT S Unit) (P : Sym) (idx : List Nat)
    (chk : Option Nat) (args : List (Ty × S)) (ha : ruleArgs E nt P = some args) (hlen : idx.length = args.length)
    (hchk : ∀ i, chk = some i → i < idx.length)
    (hv : ∀ i, chk = some i → ∀ (j v : Nat), j ≠ i → idx[j]? = some v → v < s.costList.length) :
    ∃ s', addCombination E s nt P idx chk = some s' := by
  unfold addCombination
  obtain ⟨b, hb⟩ := needsDelay_isSome (cl := s.costList) hchk
  rw [hb]
  cases b with
  | true => exact ⟨_, rfl⟩
  | false =>
    obtain ⟨c, hc⟩ := realCost_total E hcosts s.costList nt P args ha idx hlen
      (qv_of_not_delayed s.costList nt idx P chk 0 hv hb)
    rw [hc]
    exact ⟨_, rfl⟩

/-- a request `_add_combination_` does not raise on, given the cost list (the hypotheses of `addCombination_total`) -/
def ReqOK (E : Env S) (cl : List Int) (r : Req S) : Prop :=
  DWf E r.1 r.2 ∧ (∀ i, r.2.2.2 = some i → i < r.2.1.length) ∧ DV cl r.1 r.2

/-- `ReqOK` for the cost list at the start is enough: no `_add_combination_` changes it -/
theorem addAll_total (E : Env S) (hcosts : HasCosts E) : ∀ (reqs : List (Req S)) (s : St S),
    (∀ r ∈ reqs, ReqOK E s.costList r) → ∃ s', addAll E reqs s = some s'
  | [], s, _ => ⟨s, rfl⟩
  | (nt, idx, P, chk) :: rest, s, h => by
    obtain ⟨⟨args, ha, hlen⟩, hchk, hv⟩ := h _ List.mem_cons_self
    obtain ⟨s1, hs1⟩ := addCombination_total E hcosts s nt P idx chk args ha hlen hchk hv
    simp only [addAll, hs1]
    exact addAll_total E hcosts rest s1 fun r hr =>
      (addCombination_frame hs1).cl ▸ h r (List.mem_cons_of_mem _ hr)

theorem qv_append (cl : List Int) (x : Int) (nt : NT S Unit) (e : HeapElem) (h : QV cl nt e) : QV (cl ++ [x]) nt e := by
  intro j v hv; have := h j v hv; simp; omega

theorem dv_append (cl : List Int) (x : Int) (nt : NT S Unit) (d : Delayed) (h : DV cl nt d) : DV (cl ++ [x]) nt d := by
  intro i hi j v hj hv; have := h i hi j v hj hv; simp; omega

theorem step_valid (E : Env S) (g g' : Gen S) (out : Option Prog) (h : step E g = some (g', out)) (hv : VSt E g.st) :
    VSt E g'.st := by
  cases step_cases h with
  | done | init | stop _ | round _ _ _ | endRound | endPend => exact hv
  | leave _ => exact ⟨hv.qv, hv.dv, hv.bk⟩
  | @addCost st _ _ succ cost nt rest s1 ci hac =>
    have hac' := addCost_all E (QV (st.costList ++ [cost])) (DV (st.costList ++ [cost])) (DV (st.costList ++ [cost])) hac
      (fun nt idx P chk c hd hn _ => qv_of_not_delayed _ nt idx P chk c hd hn) (fun nt idx P chk hd _ => hd)
      (hv.qv.mono (qv_append _ cost)) (hv.dv.mono (dv_append _ cost))
    rcases hac'.cases with ⟨rfl, _⟩ | ⟨hcl, _, _, hq, hd⟩
    · exact ⟨hv.qv, hv.dv, hv.bk⟩
    · exact ⟨hcl ▸ hq, hcl ▸ hd, fun nt' hk => by rw [hac'.bank]; exact hv.bk nt' hk⟩
  | @pop st _ _ succ cost nt rest maxi ci top tl q' args s2 maxi' ph hq htop hpop hargs hsl hout =>
    have htv : QV st.costList nt top := hv.qv.of_queueOf (by rw [hq]; exact List.mem_cons_self)
    -- a successor differs from the popped combination at the checked position only
    have hD : ∀ i v, top.combo[i]? = some v → DV st.costList nt (top.combo.set i (v + 1), top.P, some i) := by
      intro i v _ i' hi' j w hj hw
      cases hi'
      rw [List.getElem?_set] at hw
      simp only [Ne.symm hj, if_false] at hw
      exact htv j w hw
    obtain ⟨hqd, hq2, hd2⟩ := succLoop_all E (QV st.costList) (DV st.costList) nt top.P top.combo st.costList
      (fun i v c hvi hn _ => qv_of_not_delayed _ nt _ top.P (some i) c (hD i v hvi) hn) (fun i v hvi _ => hD i v hvi)
      _ _ _ _ _ _ hsl rfl (hv.qv.pop hpop) hv.dv
    exact ⟨hqd.cl ▸ hq2, hqd.cl ▸ hd2, fun nt' hk => by rw [hqd.bank]; exact hv.bk nt' hk⟩
  | @offer st _ _ succ cost nt rest maxi ci p ps y _ =>
    obtain ⟨fq, fd, fc⟩ := addProgram_frame E st nt p ci
    refine ⟨fc ▸ fun a l hm => hv.qv a l (fq ▸ hm), fc ▸ fun a l hm => hv.dv a l (fd ▸ hm), fun nt' hk => ?_⟩
    show (AList.lookup nt' (addProgram E st nt p ci).1.bank).isSome = true
    rcases addProgram_cases E st nt p ci with ⟨_, h'⟩ | ⟨_, _, h'⟩ | ⟨_, _, h'⟩
    · rw [h']; exact hv.bk nt' hk
    · rw [h']; exact hv.bk nt' hk
    · -- the program is filed: the bank table gets the row of `nt` (again)
      rw [h']
      show (AList.lookup nt' (AList.insert nt _ st.bank)).isSome = true
      rw [AList.lookup_insert]
      split
      · rfl
      · exact hv.bk nt' hk

theorem succLoop_total (E : Env S) (hcosts : HasCosts E) (nt : NT S Unit) (P : Sym) (combo : List Nat) (args : List (Ty × S))
    (ha : ruleArgs E nt P = some args) (hlen : combo.length = args.length) (s : St S)
    (hval : ∀ (j v : Nat), combo[j]? = some v → v < s.costList.length) (maxi : Nat) :
    ∃ r, succLoop E nt P combo 0 combo.length s maxi = some r := by
  obtain ⟨s', hs'⟩ := addAll_total E hcosts (succReqs nt P combo.length [] combo) s fun r hr => by
    obtain ⟨i, v, hv, rfl⟩ := mem_succReqs nt P _ combo [] r hr
    have hi : i < combo.length := (List.getElem?_eq_some_iff.mp hv).1
    refine ⟨⟨args, ha, by simpa using hlen⟩, fun i' e => by cases e; simpa using hi, fun i' e j w hj hw => ?_⟩
    cases e
    simp only [List.nil_append, List.getElem?_set, Ne.symm hj, if_false] at hw
    exact hval j w hw
  obtain ⟨maxi', h⟩ := succLoop_some (combo := combo) (k := combo.length) (i := 0) maxi (by omega)
    (by simpa only [List.take_zero, List.drop_zero] using hs')
  exact ⟨_, h⟩

theorem argsPossibles_total (s : St S) (combo : List Nat) (args : List (Ty × S)) (i : Nat)
    (hb : ∀ a ∈ args, (AList.lookup (a.1, (a.2, ())) s.bank).isSome = true) (hlen : i + args.length ≤ combo.length) :
    ∃ r, argsPossibles s combo args i = some r := by
  fun_induction argsPossibles s combo args i with
  | case2 a rest i hl => simp [hl] at hb
  | case3 a rest i _ _ hc => rw [List.getElem?_eq_none_iff] at hc; rw [List.length_cons] at hlen; omega
  | case6 a rest i _ _ _ _ _ _ _ hrec ih =>
    obtain ⟨r, hr⟩ := ih (fun a ha => hb a (List.mem_cons_of_mem _ ha)) (by rw [List.length_cons] at hlen; omega)
    cases hrec.symm.trans hr
  | _ => exact ⟨_, rfl⟩

theorem addCost_total (E : Env S) (hcosts : HasCosts E) (s : St S) (cost : Int)
    (hd : ∀ nt l, (nt, l) ∈ s.delayed → ∀ d ∈ l, DWf E nt d ∧ (∀ i, d.2.2 = some i → i < d.1.length) ∧ DV s.costList nt d) :
    ∃ r, addCost E s cost = some r := by
  fun_cases addCost E s cost with
  | case1 | case3 => exact ⟨_, rfl⟩
  | case2 _ ht =>
    obtain ⟨s1, hs1⟩ := addAll_total E hcosts (tabReqs s.delayed) { s with costList := s.costList ++ [cost], delayed := [] }
      fun r hr => by
        obtain ⟨ds, hm, hdm⟩ := mem_tabReqs hr
        obtain ⟨h1, h2, h3⟩ := hd r.1 ds hm r.2 hdm
        exact ⟨h1, h2, dv_append _ _ r.1 r.2 h3⟩
    rw [triggerDelayed, triggerAll_eq, hs1] at ht; cases ht

theorem step_total (E : Env S) (hcosts : HasCosts E) (hclosed : Closed E) (g : Gen S) (hn : NSt E g.st) (hv : VSt E g.st)
    (hos : ∃ low, OSt E g.st low) : ∃ r, step E g = some r := by
  obtain ⟨low, hos⟩ := hos
  refine step_some (fun succ cost nt rest _ => addCost_total E hcosts _ cost fun nt' l hm d hd =>
    ⟨hn.wfd nt' l hm d hd, fun i hi => ?_, hv.dv nt' l hm d hd⟩) fun succ cost nt rest maxi ci top tl _ hq => ?_
  · -- a delayed combination with a checked position has that position
    obtain ⟨i', v, hx, _, hc⟩ := needsDelay_true (hos.d nt' l hm d hd).1
    cases hc i hi
    exact (List.getElem?_eq_some_iff.mp hx).1
  · cases hpop : Heapq.pop ltE (g.st.queueOf nt) with
    | none => rw [(Heapq.pop_none_iff ltE _).mp hpop] at hq; cases hq
    | some r =>
      obtain ⟨el, q'⟩ := r
      have hel : el ∈ g.st.queueOf nt := (Heapq.pop_perm ltE _ _ _ hpop).mem_iff.mpr List.mem_cons_self
      obtain ⟨l0, hl0, he0⟩ := queueOf_mem hel
      obtain ⟨args, hargs, hlen⟩ := hn.wfq _ _ hl0 _ he0
      obtain ⟨r, hsl⟩ := succLoop_total E hcosts nt el.P el.combo args hargs hlen (g.st.setQueue nt q')
        (hv.qv _ _ hl0 _ he0) maxi
      rw [hlen] at hsl
      obtain ⟨r2, hr2⟩ := argsPossibles_total r.1 el.combo args 0 (fun a ha => by
        rw [(succLoop_frame hsl).of_setQueue.bank]
        exact hv.bk _ (hclosed nt el.P args hargs a ha)) (by omega)
      exact ⟨el, q', args, r, r2, rfl, hargs, hsl, hr2⟩

end PS.Bee
