/- Bee search, what the proofs of every property need about the table transformers of the model
   (PS/Model/Enum/BeeSearch.lean): the real cost of a combination as a finite sum, `_add_combination_` as a write and the
   loops built from it as one loop `addAll` over a list of requests, the three outcomes of `_add_program_`, the
   specification `NextCheapest` of the fold of `_next_cheapest_`, and the lists `argsPossibles` hands to `product`. -/
import PS.Model.Enum.BeeSearch
import PS.Proofs.Enum.Heapq
import PS.Proofs.AList
import PS.Proofs.Grammar
import PS.Proofs.Product
namespace PS.Bee
open PS PS.G

variable {S : Type} [DecidableEq S]
set_option linter.unusedSectionVars false
set_option linter.unusedSimpArgs false

theorem ruleArgs_rule {E : Env S} {nt : NT S Unit} {P : Sym} {args : List (Ty × S)} (ha : ruleArgs E nt P = some args) :
    ∃ u, E.G.rule? nt P = some (args, u) := by
  unfold ruleArgs at ha
  cases hr : E.G.rule? nt P with
  | none => simp [hr] at ha
  | some rl => simp only [hr, Option.map_some, Option.some.injEq] at ha; exact ⟨rl.2, by rw [← ha]⟩

theorem ruleArgs_mem {E : Env S} {nt : NT S Unit} {P : Sym} {args : List (Ty × S)} (ha : ruleArgs E nt P = some args) :
    ∃ rs rl, (nt, rs) ∈ E.G.rules ∧ (P, rl) ∈ rs ∧ rl.1 = args := by
  obtain ⟨u, hr⟩ := ruleArgs_rule ha
  obtain ⟨rs, h1, h2⟩ := TT.rule?_mem hr
  exact ⟨rs, (args, u), h1, h2, rfl⟩

theorem ruleCost_eq_lookup₂ (E : Env S) (nt : NT S Unit) (P : Sym) : ruleCost E nt P = AList.lookup₂ E.W nt P := by
  unfold ruleCost AList.lookup₂
  cases AList.lookup nt E.W <;> rfl

theorem realCost_of_rule {E : Env S} {nt : NT S Unit} {P : Sym} {w : Int} {args : List (Ty × S)}
    (hw : ruleCost E nt P = some w) (ha : ruleArgs E nt P = some args) (cl : List Int) (idx : List Nat) :
    realCost E cl nt P idx = realCostLoop cl idx 0 args.length w := by
  rw [realCost, hw, ha]

theorem realCost_eq_some {E : Env S} {cl : List Int} {nt : NT S Unit} {P : Sym} {idx : List Nat} {c : Int} :
    realCost E cl nt P idx = some c ↔
      ∃ w args, ruleCost E nt P = some w ∧ ruleArgs E nt P = some args ∧ realCostLoop cl idx 0 args.length w = some c := by
  unfold realCost
  cases ruleCost E nt P <;> cases ruleArgs E nt P <;> simp

theorem realCost_eq_some_of_args {E : Env S} {cl : List Int} {nt : NT S Unit} {P : Sym} {idx : List Nat} {c : Int}
    {args : List (Ty × S)} (ha : ruleArgs E nt P = some args) :
    realCost E cl nt P idx = some c ↔ ∃ w, ruleCost E nt P = some w ∧ realCostLoop cl idx 0 args.length w = some c := by
  rw [realCost, ha]
  cases ruleCost E nt P <;> simp

/-! ### `_index_cost2real_cost_`: the real cost of a combination is a sum

The loop returns iff every lookup is defined, and then the accumulator plus the sum of the costs looked up
(`realCostLoop_iff`); what the invariants need of it (it survives an append to the cost list, is monotone in the indices,
bounds its summands) is then a fact about a finite sum, without another induction over the loop. -/

def rsum (f : Nat → Int) : Nat → Nat → Int
  | _, 0 => 0
  | i, k + 1 => f i + rsum f (i + 1) k

theorem rsum_le {f g : Nat → Int} : ∀ (k i : Nat), (∀ j, i ≤ j → j < i + k → f j ≤ g j) → rsum f i k ≤ rsum g i k
  | 0, _, _ => Int.le_refl _
  | k + 1, i, h =>
    Int.add_le_add (h i (Nat.le_refl _) (Nat.lt_add_of_pos_right (Nat.succ_pos k)))
      (rsum_le k (i + 1) fun j a b => h j (Nat.le_of_succ_le a) (Nat.add_right_comm i 1 k ▸ b))

theorem rsum_lt {f g : Nat → Int} : ∀ (k i : Nat), (∀ j, i ≤ j → j < i + k → f j ≤ g j) →
    (∃ p, i ≤ p ∧ p < i + k ∧ f p < g p) → rsum f i k < rsum g i k
  | 0, _, _, ⟨_, h1, h2, _⟩ => absurd h2 (Nat.not_lt.mpr h1)
  | k + 1, i, h, ⟨p, hp1, hp2, hp⟩ => by
    have hrest : ∀ j, i + 1 ≤ j → j < i + 1 + k → f j ≤ g j := fun j a b => h j (Nat.le_of_succ_le a) (Nat.add_right_comm i 1 k ▸ b)
    rcases Nat.eq_or_lt_of_le hp1 with e | e
    · subst e; exact Int.add_lt_add_of_lt_of_le hp (rsum_le k (i + 1) hrest)
    · exact Int.add_lt_add_of_le_of_lt (h i (Nat.le_refl _) (Nat.lt_add_of_pos_right (Nat.succ_pos k)))
        (rsum_lt k (i + 1) hrest ⟨p, e, Nat.add_right_comm i 1 k ▸ hp2, hp⟩)

theorem rsum_congr {f g : Nat → Int} (k i : Nat) (h : ∀ j, i ≤ j → j < i + k → f j = g j) : rsum f i k = rsum g i k :=
  Int.le_antisymm (rsum_le k i fun j a b => Int.le_of_eq (h j a b)) (rsum_le k i fun j a b => Int.le_of_eq (h j a b).symm)

theorem rsum_ge {f : Nat → Int} : ∀ (k i : Nat), (∀ j, i ≤ j → j < i + k → 0 ≤ f j) →
    0 ≤ rsum f i k ∧ ∀ p, i ≤ p → p < i + k → f p ≤ rsum f i k
  | 0, _, _ => ⟨Int.le_refl _, fun _ h1 h2 => absurd h2 (Nat.not_lt.mpr h1)⟩
  | k + 1, i, h => by
    have h0 := h i (Nat.le_refl _) (Nat.lt_add_of_pos_right (Nat.succ_pos k))
    obtain ⟨h1, h2⟩ := rsum_ge k (i + 1) fun j a b => h j (Nat.le_of_succ_le a) (Nat.add_right_comm i 1 k ▸ b)
    refine ⟨Int.add_nonneg h0 h1, fun p hp1 hp2 => ?_⟩
    rcases Nat.eq_or_lt_of_le hp1 with e | e
    · subst e; exact Int.le_add_of_nonneg_right h1
    · exact Int.le_trans (h2 p e (Nat.add_right_comm i 1 k ▸ hp2)) (Int.le_add_of_nonneg_left h0)

/-- the summand of position `j`; 0 where an index is missing, so it means something only beside the first conjunct of
    `realCostLoop_iff` (every lookup is defined) -/
def argCost (cl : List Int) (idx : List Nat) (j : Nat) : Int := cl.getD (idx.getD j 0) 0

theorem argCost_eq {cl : List Int} {idx : List Nat} {j v : Nat} {x : Int} (hv : idx[j]? = some v) (hx : cl[v]? = some x) :
    argCost cl idx j = x := by
  simp [argCost, List.getD, hv, hx]

theorem realCostLoop_iff (cl : List Int) (idx : List Nat) (k i : Nat) (out c : Int) :
    realCostLoop cl idx i k out = some c ↔
      (∀ j, i ≤ j → j < i + k → ∃ v, idx[j]? = some v ∧ v < cl.length) ∧ c = out + rsum (argCost cl idx) i k := by
  fun_induction realCostLoop cl idx i k out with
  | case1 i out =>
    simp only [Option.some.injEq, rsum]
    exact ⟨fun h => ⟨fun j a b => by omega, by omega⟩, fun h => by omega⟩
  | case2 i k out hv =>
    refine ⟨nofun, fun h => ?_⟩
    obtain ⟨v, h1, _⟩ := h.1 i (Nat.le_refl _) (by omega)
    rw [hv] at h1; cases h1
  | case3 i k out v hv hx =>
    refine ⟨nofun, fun h => ?_⟩
    obtain ⟨v', h1, h2⟩ := h.1 i (Nat.le_refl _) (by omega)
    rw [hv] at h1; cases h1
    rw [List.getElem?_eq_getElem h2] at hx; cases hx
  | case4 i k out v hv x hx ih =>
    rw [ih, rsum, argCost_eq hv hx, Int.add_assoc]
    constructor
    · rintro ⟨h1, h2⟩
      refine ⟨fun j a b => ?_, h2⟩
      by_cases e : j = i
      · subst e; exact ⟨v, hv, (List.getElem?_eq_some_iff.mp hx).1⟩
      · exact h1 j (by omega) (by omega)
    · rintro ⟨h1, h2⟩
      exact ⟨fun j a b => h1 j (by omega) (by omega), h2⟩

theorem argCost_rel {cl : List Int} {idx idx' : List Nat} {k i : Nat} {R : Int → Int → Prop}
    (hd : ∀ j, i ≤ j → j < i + k → ∃ v, idx[j]? = some v ∧ v < cl.length)
    (hd' : ∀ j, i ≤ j → j < i + k → ∃ v, idx'[j]? = some v ∧ v < cl.length)
    {j : Nat} (h1 : i ≤ j) (h2 : j < i + k)
    (hR : ∀ a b x y, idx[j]? = some a → idx'[j]? = some b → cl[a]? = some x → cl[b]? = some y → R x y) :
    R (argCost cl idx j) (argCost cl idx' j) := by
  obtain ⟨a, ha, hal⟩ := hd j h1 h2
  obtain ⟨b, hb, hbl⟩ := hd' j h1 h2
  rw [argCost_eq ha (List.getElem?_eq_getElem hal), argCost_eq hb (List.getElem?_eq_getElem hbl)]
  exact hR a b _ _ ha hb (List.getElem?_eq_getElem hal) (List.getElem?_eq_getElem hbl)

/-- `QAll`, `DAll` speak of every row of the table, not only of the row a lookup finds (that one: `QAll.of_queueOf`): the
    pending combinations are taken from every row (`allOf` in BeeFront says why), and the invariants have to reach them -/
def QAll (Q : NT S Unit → HeapElem → Prop) (s : St S) : Prop :=
  ∀ nt h, (nt, h) ∈ s.queued → ∀ e ∈ h, Q nt e

def DAll (D : NT S Unit → Delayed → Prop) (s : St S) : Prop :=
  ∀ nt ds, (nt, ds) ∈ s.delayed → ∀ d ∈ ds, D nt d

/-- `s'` differs from `s` in the queued / delayed tables only -/
structure QD (s s' : St S) : Prop where
  cl : s'.costList = s.costList
  bank : s'.bank = s.bank
  deleted : s'.deleted = s.deleted
  maxIndex : s'.maxIndex = s.maxIndex
  hasMerged : s'.hasMerged = s.hasMerged

theorem QD.refl (s : St S) : QD s s := ⟨rfl, rfl, rfl, rfl, rfl⟩
theorem QD.trans {a b c : St S} (h1 : QD a b) (h2 : QD b c) : QD a c :=
  ⟨h2.cl.trans h1.cl, h2.bank.trans h1.bank, h2.deleted.trans h1.deleted, h2.maxIndex.trans h1.maxIndex,
   h2.hasMerged.trans h1.hasMerged⟩

theorem QD.of_setQueue {s s' : St S} {nt : NT S Unit} {l : List HeapElem} (h : QD (s.setQueue nt l) s') : QD s s' :=
  ⟨h.cl, h.bank, h.deleted, h.maxIndex, h.hasMerged⟩

theorem St.queueOf_congr {s s' : St S} (h : s'.queued = s.queued) (nt : NT S Unit) : s'.queueOf nt = s.queueOf nt := by
  rw [St.queueOf, h]; rfl

theorem St.bankOf_congr {s s' : St S} (h : s'.bank = s.bank) (nt : NT S Unit) : s'.bankOf nt = s.bankOf nt := by
  rw [St.bankOf, h]; rfl

theorem St.queueOf_setQueue (s : St S) (nt : NT S Unit) (l : List HeapElem) (nt' : NT S Unit) :
    (s.setQueue nt l).queueOf nt' = if nt' = nt then l else s.queueOf nt' := by
  rw [St.queueOf, St.setQueue, AList.getD_lookup_insert]; rfl

theorem queueOf_mem {s : St S} {nt : NT S Unit} {e : HeapElem} (h : e ∈ s.queueOf nt) :
    ∃ l, (nt, l) ∈ s.queued ∧ e ∈ l := AList.mem_of_mem_getD_lookup h

theorem delayedOf_mem {s : St S} {nt : NT S Unit} {d : Delayed} (h : d ∈ s.delayedOf nt) :
    ∃ l, (nt, l) ∈ s.delayed ∧ d ∈ l := AList.mem_of_mem_getD_lookup h

theorem QAll.of_queueOf {Q : NT S Unit → HeapElem → Prop} {s : St S} (h : QAll Q s) {nt : NT S Unit} {e : HeapElem}
    (he : e ∈ s.queueOf nt) : Q nt e := by
  obtain ⟨l, hl, hel⟩ := queueOf_mem he
  exact h nt l hl e hel

theorem QAll.mono {Q Q' : NT S Unit → HeapElem → Prop} {s : St S} (h : QAll Q s) (hQ : ∀ nt e, Q nt e → Q' nt e) : QAll Q' s :=
  fun nt l hm e he => hQ nt e (h nt l hm e he)

theorem DAll.mono {D D' : NT S Unit → Delayed → Prop} {s : St S} (h : DAll D s) (hD : ∀ nt d, D nt d → D' nt d) : DAll D' s :=
  fun nt l hm d hd => hD nt d (h nt l hm d hd)

theorem QAll.setQueue {Q : NT S Unit → HeapElem → Prop} {s : St S} (h : QAll Q s) {nt : NT S Unit} {l : List HeapElem}
    (hl : ∀ e ∈ l, Q nt e) : QAll Q (s.setQueue nt l) := by
  intro nt' l' hm e he
  rcases AList.mem_insert hm with hm | hm
  · cases hm; exact hl e he
  · exact h _ _ hm _ he

theorem QAll.nil (Q : NT S Unit → HeapElem → Prop) : QAll Q ({} : St S) := fun _ _ h => nomatch h
theorem DAll.nil (D : NT S Unit → Delayed → Prop) : DAll D ({} : St S) := fun _ _ h => nomatch h

/-- `__init__` creates the (empty) rows of a non-terminal -/
theorem QAll.newRow {Q : NT S Unit → HeapElem → Prop} {s : St S} (h : QAll Q s) (nt : NT S Unit) :
    QAll Q { s with bank := AList.insert nt [] s.bank, queued := AList.insert nt [] s.queued } :=
  h.setQueue (nt := nt) fun _ he => nomatch he

theorem QAll.pop {Q : NT S Unit → HeapElem → Prop} {s : St S} (h : QAll Q s) {nt : NT S Unit} {top : HeapElem}
    {q' : List HeapElem} (hpop : Heapq.pop ltE (s.queueOf nt) = some (top, q')) : QAll Q (s.setQueue nt q') :=
  h.setQueue fun _ he => h.of_queueOf ((Heapq.pop_perm ltE _ _ _ hpop).mem_iff.mpr (List.mem_cons_of_mem _ he))

theorem mem_queueOf_push {s : St S} {nt nt' : NT S Unit} {x e : HeapElem} :
    e ∈ (s.setQueue nt (Heapq.push ltE (s.queueOf nt) x)).queueOf nt' ↔ (nt' = nt ∧ e = x) ∨ e ∈ s.queueOf nt' := by
  rw [St.queueOf_setQueue]
  split
  · rename_i hn; subst hn
    rw [(Heapq.push_perm ltE _ _).mem_iff, List.mem_cons]; simp
  · rename_i hn; simp [hn]

theorem DAll.addDelayed {D : NT S Unit → Delayed → Prop} {s : St S} (hd : DAll D s) {nt : NT S Unit} {x : Delayed}
    (hx : D nt x) : DAll D (s.addDelayed nt x) := by
  intro nt' l hm d hdm
  rcases AList.mem_insert hm with hm | hm
  · cases hm
    rcases List.mem_append.mp hdm with h1 | h1
    · obtain ⟨l0, hl0, hd0⟩ := delayedOf_mem h1
      exact hd _ _ hl0 _ hd0
    · cases List.mem_singleton.mp h1; exact hx
  · exact hd _ _ hm _ hdm

/-! ### the delay test of `_add_combination_`: only the checked position counts, if one is checked
  (`∀ j, chk = some j → j = i` says that position `i` counts) -/

theorem needsDelay_isSome {cl : List Int} {idx : List Nat} {chk : Option Nat} (h : ∀ i, chk = some i → i < idx.length) :
    ∃ b, needsDelay cl idx chk = some b := by
  cases chk with
  | some i =>
    have hi := h i rfl
    exact ⟨decide (idx[i] ≥ cl.length), by simp only [needsDelay, List.getElem?_eq_getElem hi]⟩
  | none => exact ⟨_, rfl⟩

theorem needsDelay_true {cl : List Int} {idx : List Nat} {chk : Option Nat} (h : needsDelay cl idx chk = some true) :
    ∃ i v, idx[i]? = some v ∧ cl.length ≤ v ∧ ∀ j, chk = some j → j = i := by
  cases chk with
  | some i =>
    simp only [needsDelay] at h
    cases hv : idx[i]? with
    | none => simp [hv] at h
    | some v =>
      simp only [hv, Option.some.injEq, decide_eq_true_eq] at h
      exact ⟨i, v, hv, h, fun j e => (Option.some.inj e).symm⟩
  | none =>
    simp only [needsDelay, Option.some.injEq, List.any_eq_true, decide_eq_true_eq] at h
    obtain ⟨v, hv, hge⟩ := h
    obtain ⟨i, hi, hiv⟩ := List.getElem_of_mem hv
    exact ⟨i, v, by rw [List.getElem?_eq_getElem hi, hiv], hge, fun j e => nomatch e⟩

theorem needsDelay_false {cl : List Int} {idx : List Nat} {chk : Option Nat} (h : needsDelay cl idx chk = some false)
    {i v : Nat} (hc : ∀ j, chk = some j → j = i) (hv : idx[i]? = some v) : v < cl.length := by
  cases chk with
  | some j =>
    cases hc j rfl
    simp only [needsDelay, hv, Option.some.injEq, decide_eq_false_iff_not] at h
    omega
  | none =>
    simp only [needsDelay, Option.some.injEq, List.any_eq_false, decide_eq_true_eq] at h
    have := h v (List.mem_of_getElem? hv)
    omega

theorem needsDelay_checked_lt {cl : List Int} {idx : List Nat} {i v : Nat} (hv : idx[i]? = some v) (hlt : v < cl.length) :
    needsDelay cl idx (some i) = some false := by
  simp only [needsDelay, hv, Option.some.injEq, decide_eq_false_iff_not]
  omega

theorem addCombination_eq {E : Env S} {s s' : St S} {nt : NT S Unit} {P : Sym} {idx : List Nat} {chk : Option Nat}
    (h : addCombination E s nt P idx chk = some s') :
    (needsDelay s.costList idx chk = some true ∧ s' = s.addDelayed nt (idx, P, chk)) ∨
    (needsDelay s.costList idx chk = some false ∧ ∃ c, realCost E s.costList nt P idx = some c ∧
      s' = s.setQueue nt (Heapq.push ltE (s.queueOf nt) ⟨c, idx, P⟩)) := by
  revert h
  fun_cases addCombination E s nt P idx chk with
  | case1 | case3 => nofun
  | case2 hn => rintro ⟨⟩; exact Or.inl ⟨hn, rfl⟩
  | case4 hn c hc => rintro ⟨⟩; exact Or.inr ⟨hn, c, hc, rfl⟩

theorem addCombination_frame {E : Env S} {s s' : St S} {nt : NT S Unit} {P : Sym} {idx : List Nat} {chk : Option Nat}
    (h : addCombination E s nt P idx chk = some s') : QD s s' := by
  rcases addCombination_eq h with ⟨_, rfl⟩ | ⟨_, _, _, rfl⟩ <;> exact ⟨rfl, rfl, rfl, rfl, rfl⟩

theorem addCombination_all (E : Env S) (Q : NT S Unit → HeapElem → Prop) (D : NT S Unit → Delayed → Prop)
    (s s' : St S) (nt : NT S Unit) (P : Sym) (idx : List Nat) (chk : Option Nat)
    (h : addCombination E s nt P idx chk = some s')
    (hQ : ∀ c, needsDelay s.costList idx chk = some false → realCost E s.costList nt P idx = some c →
      Q nt ⟨c, idx, P⟩)
    (hD : needsDelay s.costList idx chk = some true → D nt (idx, P, chk))
    (hq : QAll Q s) (hd : DAll D s) : QAll Q s' ∧ DAll D s' := by
  rcases addCombination_eq h with ⟨hn, rfl⟩ | ⟨hn, c, hc, rfl⟩
  · exact ⟨hq, hd.addDelayed (hD hn)⟩
  · refine ⟨hq.setQueue fun e he => ?_, hd⟩
    rcases List.mem_cons.mp ((Heapq.push_perm ltE _ _).mem_iff.mp he) with rfl | he
    · exact hQ c hn hc
    · exact hq.of_queueOf he

/-! ### the loops built from `_add_combination_` are one loop

The two loops of `_trigger_delayed_` and the successor loop each run `_add_combination_` over a list of requests that does
not depend on the tables (`tabReqs`, `succReqs`).  `addAll` is that loop; what it does to an invariant (`addAll_ind`), to the
pending combinations (`addAll_pend`, BeePend) and whether it raises (`addAll_total`, BeeTotal) is proved once, by induction
on the list. -/

/-- a call of `_add_combination_`: the non-terminal, then `(index_cost, P, changed_index)` -/
abbrev Req (S : Type) := NT S Unit × Delayed

def addAll (E : Env S) : List (Req S) → St S → Option (St S)
  | [], s => some s
  | (nt, idx, P, chk) :: rest, s =>
    match addCombination E s nt P idx chk with
    | none => none
    | some s1 => addAll E rest s1

theorem addAll_append (E : Env S) : ∀ (xs ys : List (Req S)) (s : St S),
    addAll E (xs ++ ys) s = (addAll E xs s).bind (addAll E ys)
  | [], _, _ => rfl
  | (nt, idx, P, chk) :: xs, ys, s => by
    simp only [List.cons_append, addAll]
    cases addCombination E s nt P idx chk with
    | none => rfl
    | some s1 => exact addAll_append E xs ys s1

theorem triggerElems_eq (E : Env S) (nt : NT S Unit) : ∀ (elems : List Delayed) (s : St S),
    triggerElems E nt elems s = addAll E (elems.map (nt, ·)) s
  | [], _ => rfl
  | (idx, P, chk) :: rest, s => by
    simp only [triggerElems, List.map_cons, addAll]
    cases addCombination E s nt P idx chk with
    | none => rfl
    | some s1 => exact triggerElems_eq E nt rest s1

def tabReqs (tab : AList (NT S Unit) (List Delayed)) : List (Req S) := tab.flatMap fun r => r.2.map (r.1, ·)

theorem mem_tabReqs {tab : AList (NT S Unit) (List Delayed)} {r : Req S} (h : r ∈ tabReqs tab) :
    ∃ ds, (r.1, ds) ∈ tab ∧ r.2 ∈ ds := by
  obtain ⟨⟨nt, l⟩, hm, hr⟩ := List.mem_flatMap.mp h
  obtain ⟨d, hd, rfl⟩ := List.mem_map.mp hr
  exact ⟨l, hm, hd⟩

theorem triggerAll_eq (E : Env S) : ∀ (tab : AList (NT S Unit) (List Delayed)) (s : St S),
    triggerAll E tab s = addAll E (tabReqs tab) s
  | [], _ => rfl
  | (nt, elems) :: rest, s => by
    simp only [triggerAll, tabReqs, List.flatMap_cons, addAll_append, triggerElems_eq]
    cases addAll E (elems.map (nt, ·)) s with
    | none => rfl
    | some s1 => exact triggerAll_eq E rest s1

/-- the requests of `k` rounds of the successor loop on `pre ++ suf` from position `pre.length` on: increment each position
    up to and including the first one whose index is already ≥ 1 (`PS.CD.succs`, with the position: `succReqs_combos` in
    BeePend) -/
def succReqs (nt : NT S Unit) (P : Sym) : Nat → List Nat → List Nat → List (Req S)
  | 0, _, _ => []
  | _, _, [] => []
  | k + 1, pre, x :: xs =>
    (nt, pre ++ (x + 1) :: xs, P, some pre.length) :: (if x ≥ 1 then [] else succReqs nt P k (pre ++ [x]) xs)

theorem mem_succReqs (nt : NT S Unit) (P : Sym) (k : Nat) (suf pre : List Nat) (r : Req S) (h : r ∈ succReqs nt P k pre suf) :
    ∃ i v, (pre ++ suf)[i]? = some v ∧ r = (nt, (pre ++ suf).set i (v + 1), P, some i) := by
  fun_induction succReqs nt P k pre suf with
  | case1 | case2 => cases h
  | case3 k pre x xs ih =>
    rcases List.mem_cons.mp h with rfl | h
    · exact ⟨pre.length, x, by simp, by simp⟩
    · split at h
      · cases h
      · obtain ⟨i, v, hv, rfl⟩ := ih h
        exact ⟨i, v, by simpa using hv, by simp⟩

/-- one round of the successor loop at position `i`, in the form `succLoop` runs it -/
theorem succReqs_step {combo : List Nat} {i v : Nat} (hv : combo[i]? = some v) (nt : NT S Unit) (P : Sym) (k : Nat) :
    succReqs nt P (k + 1) (combo.take i) (combo.drop i) =
      (nt, combo.set i (v + 1), P, some i) ::
        (if v ≥ 1 then [] else succReqs nt P k (combo.take (i + 1)) (combo.drop (i + 1))) := by
  obtain ⟨hi, rfl⟩ := List.getElem?_eq_some_iff.mp hv
  have e : combo.take i ++ (combo[i] + 1) :: combo.drop (i + 1) = combo.set i (combo[i] + 1) := by
    rw [List.set_eq_take_append_cons_drop]; simp [hi]
  rw [show combo.drop i = combo[i] :: combo.drop (i + 1) by simp, succReqs,
    show (combo.take i).length = i by simp; omega, e, show combo.take i ++ [combo[i]] = combo.take (i + 1) by simp]

theorem succLoop_addAll {E : Env S} {nt : NT S Unit} {P : Sym} {combo : List Nat} {k i : Nat} {s s' : St S} {maxi maxi' : Nat}
    (h : succLoop E nt P combo i k s maxi = some (s', maxi')) :
    addAll E (succReqs nt P k (combo.take i) (combo.drop i)) s = some s' := by
  fun_induction succLoop E nt P combo i k s maxi with
  | case1 => cases h; simp [succReqs, addAll]
  | case2 | case3 => cases h
  | case4 i k s maxi v hv s1 h1 maxi1 hb =>
    obtain ⟨rfl, -⟩ := Prod.mk.inj (Option.some.inj h)
    simp only [succReqs_step hv, addAll, h1, show v ≥ 1 by omega, if_true]
  | case5 i k s maxi v hv s1 h1 maxi1 hb ih =>
    simp only [succReqs_step hv, addAll, h1, show ¬ v ≥ 1 by omega, if_false]
    exact ih h

theorem succLoop_some {E : Env S} {nt : NT S Unit} {P : Sym} {combo : List Nat} {k i : Nat} {s s' : St S} (maxi : Nat)
    (hik : i + k ≤ combo.length) (h : addAll E (succReqs nt P k (combo.take i) (combo.drop i)) s = some s') :
    ∃ maxi', succLoop E nt P combo i k s maxi = some (s', maxi') := by
  fun_induction succLoop E nt P combo i k s maxi with
  | case1 => simp only [succReqs, addAll, Option.some.injEq] at h; exact ⟨_, by rw [h]⟩
  | case2 i k s maxi hv => rw [List.getElem?_eq_none_iff] at hv; omega
  | case3 i k s maxi v hv h1 => simp only [succReqs_step hv, addAll, h1] at h; cases h
  | case4 i k s maxi v hv s1 h1 maxi1 hb =>
    simp only [succReqs_step hv, addAll, h1, show v ≥ 1 by omega, if_true, Option.some.injEq] at h
    exact ⟨_, by rw [h]⟩
  | case5 i k s maxi v hv s1 h1 maxi1 hb ih =>
    simp only [succReqs_step hv, addAll, h1, show ¬ v ≥ 1 by omega, if_false] at h
    exact ih (by omega) h

section
variable {E : Env S} {I : St S → Prop}

theorem addAll_ind (reqs : List (Req S)) (s s' : St S) (h : addAll E reqs s = some s')
    (ha : ∀ nt idx P chk, (nt, idx, P, chk) ∈ reqs → ∀ s s', addCombination E s nt P idx chk = some s' → I s → I s')
    (hi : I s) : I s' := by
  fun_induction addAll E reqs s with
  | case1 s => cases h; exact hi
  | case2 => cases h
  | case3 nt idx P chk rest s s1 h1 ih =>
    exact ih h (fun nt idx P chk hm => ha nt idx P chk (List.mem_cons_of_mem _ hm))
      (ha nt idx P chk List.mem_cons_self s s1 h1 hi)

theorem addCost_cases {E : Env S} {s s' : St S} {cost : Int} {ci : Nat} (h : addCost E s cost = some (s', ci)) :
    ci = s'.costList.length - 1 ∧
    ((s' = s ∧ s.costList.getLast? = some cost) ∨
     (s.costList.getLast? ≠ some cost ∧
      addAll E (tabReqs s.delayed) { s with costList := s.costList ++ [cost], delayed := [] } = some s')) := by
  revert h
  fun_cases addCost E s cost with
  | case1 hc => rintro ⟨⟩; exact ⟨rfl, Or.inl ⟨rfl, hc.2⟩⟩
  | case2 => nofun
  | case3 hc s1 ht =>
    rintro ⟨⟩
    refine ⟨rfl, Or.inr ⟨fun hl => hc ⟨fun he => ?_, hl⟩, by rw [← triggerAll_eq]; exact ht⟩⟩
    rw [he] at hl; cases hl

theorem addCost_ind {s s' : St S} {cost : Int} {ci : Nat} (h : addCost E s cost = some (s', ci))
    (ha : ∀ nt ds idx P chk, (nt, ds) ∈ s.delayed → (idx, P, chk) ∈ ds → ∀ s s', addCombination E s nt P idx chk = some s' →
      I s → I s')
    (h0 : I s → I { s with costList := s.costList ++ [cost], delayed := [] }) (hi : I s) : I s' := by
  rcases (addCost_cases h).2 with ⟨rfl, _⟩ | ⟨_, hall⟩
  · exact hi
  · exact addAll_ind _ _ s' hall (fun nt idx P chk hm => by
      obtain ⟨ds, h1, h2⟩ := mem_tabReqs hm; exact ha nt ds idx P chk h1 h2) (h0 hi)

theorem succLoop_ind {nt : NT S Unit} {P : Sym} {combo : List Nat}
    (ha : ∀ i v, combo[i]? = some v → ∀ s s', addCombination E s nt P (combo.set i (v + 1)) (some i) = some s' → I s → I s')
    (k i : Nat) (s s' : St S) (maxi maxi' : Nat) (h : succLoop E nt P combo i k s maxi = some (s', maxi')) (hi : I s) : I s' :=
  addAll_ind _ s s' (succLoop_addAll h) (fun nt' idx P' chk hm => by
    obtain ⟨j, v, hv, e⟩ := mem_succReqs nt P k _ _ _ hm
    rw [List.take_append_drop] at hv e
    cases e; exact ha j v hv) hi

end

/-- one `_add_combination_` inside a loop that started in `s0`, for the relation the `_all` lemmas carry -/
theorem addCombination_all' (E : Env S) (Q : NT S Unit → HeapElem → Prop) (D : NT S Unit → Delayed → Prop)
    {s0 s s' : St S} {nt : NT S Unit} {P : Sym} {idx : List Nat} {chk : Option Nat}
    (h : addCombination E s nt P idx chk = some s')
    (hQ : ∀ c, needsDelay s0.costList idx chk = some false → realCost E s0.costList nt P idx = some c → Q nt ⟨c, idx, P⟩)
    (hD : needsDelay s0.costList idx chk = some true → D nt (idx, P, chk))
    (hi : QD s0 s ∧ QAll Q s ∧ DAll D s) : QD s0 s' ∧ QAll Q s' ∧ DAll D s' :=
  ⟨hi.1.trans (addCombination_frame h),
   addCombination_all E Q D s s' nt P idx chk h (hi.1.cl ▸ hQ) (hi.1.cl ▸ hD) hi.2.1 hi.2.2⟩

theorem addAll_all (E : Env S) (Q : NT S Unit → HeapElem → Prop) (D : NT S Unit → Delayed → Prop) (reqs : List (Req S))
    (s s' : St S) (h : addAll E reqs s = some s')
    (hQ : ∀ nt idx P chk c, (nt, idx, P, chk) ∈ reqs → needsDelay s.costList idx chk = some false →
      realCost E s.costList nt P idx = some c → Q nt ⟨c, idx, P⟩)
    (hD : ∀ nt idx P chk, (nt, idx, P, chk) ∈ reqs → needsDelay s.costList idx chk = some true → D nt (idx, P, chk))
    (hq : QAll Q s) (hd : DAll D s) : QD s s' ∧ QAll Q s' ∧ DAll D s' :=
  addAll_ind (I := fun x => QD s x ∧ QAll Q x ∧ DAll D x) reqs s s' h
    (fun nt idx P chk hm _ _ ha => addCombination_all' E Q D ha (hQ nt idx P chk · hm) (hD nt idx P chk hm))
    ⟨QD.refl s, hq, hd⟩

/-- what `_add_cost_` returns: the index `ci` of `cost` in the cost list; the tables as they were if `cost` was the last
    entry, else the list extended by it and the delayed combinations filed again (`Q`, `D`: what holds of the queues and of
    what stays delayed then) -/
structure AddCost (Q : NT S Unit → HeapElem → Prop) (D : NT S Unit → Delayed → Prop) (s s' : St S) (cost : Int) (ci : Nat) :
    Prop where
  idx : s'.costList[ci]? = some cost
  bank : s'.bank = s.bank
  deleted : s'.deleted = s.deleted
  maxIndex : s'.maxIndex = s.maxIndex
  hasMerged : s'.hasMerged = s.hasMerged
  cases : (s' = s ∧ s.costList.getLast? = some cost) ∨
    (s'.costList = s.costList ++ [cost] ∧ s.costList.getLast? ≠ some cost ∧ ci = s.costList.length ∧ QAll Q s' ∧ DAll D s')

/-- `D0`: what is known of the delayed combinations before the call -/
theorem addCost_all (E : Env S) (Q : NT S Unit → HeapElem → Prop) (D0 D : NT S Unit → Delayed → Prop)
    {s s' : St S} {cost : Int} {ci : Nat} (h : addCost E s cost = some (s', ci))
    (hQ : ∀ nt idx P chk c, D0 nt (idx, P, chk) → needsDelay (s.costList ++ [cost]) idx chk = some false →
      realCost E (s.costList ++ [cost]) nt P idx = some c → Q nt ⟨c, idx, P⟩)
    (hD : ∀ nt idx P chk, D0 nt (idx, P, chk) → needsDelay (s.costList ++ [cost]) idx chk = some true → D nt (idx, P, chk))
    (hq : QAll Q s) (hd : DAll D0 s) : AddCost Q D s s' cost ci := by
  obtain ⟨rfl, hc⟩ := addCost_cases h
  rcases hc with ⟨rfl, hl⟩ | ⟨hne, hall⟩
  · exact ⟨List.getLast?_eq_getElem? ▸ hl, rfl, rfl, rfl, rfl, Or.inl ⟨rfl, hl⟩⟩
  · have hD0 : ∀ {nt idx P chk}, (nt, idx, P, chk) ∈ tabReqs s.delayed → D0 nt (idx, P, chk) := fun hm => by
      obtain ⟨ds, h1, h2⟩ := mem_tabReqs hm; exact hd _ ds h1 _ h2
    obtain ⟨hqd, hq1, hd1⟩ := addAll_all E Q D _ _ s' hall (fun nt idx P chk c hm => hQ nt idx P chk c (hD0 hm))
      (fun nt idx P chk hm => hD nt idx P chk (hD0 hm)) hq (fun _ _ hm => nomatch hm)
    have hcl : s'.costList = s.costList ++ [cost] := hqd.cl
    exact ⟨by rw [hcl]; simp, hqd.bank, hqd.deleted, hqd.maxIndex, hqd.hasMerged,
      Or.inr ⟨hcl, hne, by rw [hcl]; simp, hq1, hd1⟩⟩

/-- `cl` stands beside `s.costList` so that a caller can state `hQ`, `hD` over the cost list of the state before the pop: the
    loop starts in `st.setQueue nt q'`, and `hcl` is `rfl` -/
theorem succLoop_all (E : Env S) (Q : NT S Unit → HeapElem → Prop) (D : NT S Unit → Delayed → Prop)
    (nt : NT S Unit) (P : Sym) (combo : List Nat) (cl : List Int)
    (hQ : ∀ i v c, combo[i]? = some v → needsDelay cl (combo.set i (v + 1)) (some i) = some false →
      realCost E cl nt P (combo.set i (v + 1)) = some c → Q nt ⟨c, combo.set i (v + 1), P⟩)
    (hD : ∀ i v, combo[i]? = some v → needsDelay cl (combo.set i (v + 1)) (some i) = some true →
      D nt (combo.set i (v + 1), P, some i))
    (k i : Nat) (s s' : St S) (maxi maxi' : Nat) (h : succLoop E nt P combo i k s maxi = some (s', maxi'))
    (hcl : s.costList = cl) (hq : QAll Q s) (hd : DAll D s) : QD s s' ∧ QAll Q s' ∧ DAll D s' :=
  succLoop_ind (I := fun x => QD s x ∧ QAll Q x ∧ DAll D x)
    (fun i v hv _ _ ha => addCombination_all' E Q D ha (hcl ▸ hQ i v · hv) (hcl ▸ hD i v hv)) k i s s' maxi maxi' h
    ⟨QD.refl s, hq, hd⟩

theorem addProgram_cases (E : Env S) (s : St S) (nt : NT S Unit) (p : Prog) (ci : Nat) :
    (s.deleted.contains p = true ∧ addProgram E s nt p ci = (s, false)) ∨
    (s.deleted.contains p = false ∧ E.filter p = false ∧
      addProgram E s nt p ci = ({ s with deleted := s.deleted ++ [p] }, false)) ∨
    (s.deleted.contains p = false ∧ E.filter p = true ∧
      addProgram E s nt p ci = ({ s with bank := AList.insert nt (bankAppend (s.bankOf nt) ci p) s.bank }, true)) := by
  unfold addProgram
  cases s.deleted.contains p
  · cases E.filter p
    · exact Or.inr (Or.inl ⟨rfl, rfl, rfl⟩)
    · exact Or.inr (Or.inr ⟨rfl, rfl, rfl⟩)
  · exact Or.inl ⟨rfl, rfl⟩

theorem addProgram_frame (E : Env S) (s : St S) (nt : NT S Unit) (p : Prog) (ci : Nat) :
    (addProgram E s nt p ci).1.queued = s.queued ∧ (addProgram E s nt p ci).1.delayed = s.delayed ∧
    (addProgram E s nt p ci).1.costList = s.costList := by
  rcases addProgram_cases E s nt p ci with ⟨_, h⟩ | ⟨_, _, h⟩ | ⟨_, _, h⟩ <;> rw [h] <;> exact ⟨rfl, rfl, rfl⟩

theorem succLoop_frame {E : Env S} {nt : NT S Unit} {P : Sym} {combo : List Nat} {k i : Nat} {s s' : St S} {maxi maxi' : Nat}
    (h : succLoop E nt P combo i k s maxi = some (s', maxi')) : QD s s' :=
  (succLoop_all E (fun _ _ => True) (fun _ _ => True) nt P combo s.costList (fun _ _ _ _ _ _ => trivial)
    (fun _ _ _ _ => trivial) k i s s' maxi maxi' h rfl (fun _ _ _ _ _ => trivial) (fun _ _ _ _ _ => trivial)).1

theorem addCost_frame {E : Env S} {s s' : St S} {cost : Int} {ci : Nat} (h : addCost E s cost = some (s', ci)) :
    AddCost (fun _ _ => True) (fun _ _ => True) s s' cost ci :=
  addCost_all E _ (fun _ _ => True) _ h (fun _ _ _ _ _ _ _ _ => trivial) (fun _ _ _ _ _ _ => trivial)
    (fun _ _ _ _ _ => trivial) (fun _ _ _ _ _ => trivial)

/-- what the fold of `_next_cheapest_` answers (`nts`, `r`) over the rows `tab` from the accumulators `cont`, `ch`:
    `r` is the least of `ch` and the root costs, `nts` keeps `cont` if `ch` is that least cost and collects every row whose
    root has it -/
structure NextCheapest (tab : AList (NT S Unit) (List HeapElem)) (cont : List (NT S Unit)) (ch : Option Int)
    (nts : List (NT S Unit)) (r : Option Int) : Prop where
  none : r = none → ch = none ∧ ∀ nt l, (nt, l) ∈ tab → l = []
  le_acc : ∀ c x, r = some c → ch = some x → c ≤ x
  le_root : ∀ c nt top tl, r = some c → (nt, top :: tl) ∈ tab → c ≤ top.cost
  attained : ∀ c, r = some c → ch = some c ∨ ∃ nt top tl, (nt, top :: tl) ∈ tab ∧ top.cost = c
  keeps : ∀ c, r = some c → ch = some c → ∀ nt ∈ cont, nt ∈ nts
  collects : ∀ c nt top tl, r = some c → (nt, top :: tl) ∈ tab → top.cost = c → nt ∈ nts
  nonempty : (ch.isSome = true → cont ≠ []) → r.isSome = true → nts ≠ []

/-- a non-empty row in front: the loop goes on with the least cost `y` so far and the non-terminals `cont'` having it -/
theorem NextCheapest.cons {nt0 : NT S Unit} {item : HeapElem} {tl0 : List HeapElem} {rest : AList (NT S Unit) (List HeapElem)}
    {cont cont' nts : List (NT S Unit)} {ch r : Option Int} {y : Int} (h : NextCheapest rest cont' (some y) nts r)
    (hy : y ≤ item.cost) (hch : ∀ x, ch = some x → y ≤ x) (hnt : item.cost = y → nt0 ∈ cont')
    (hcont : ch = some y → ∀ nt ∈ cont, nt ∈ cont') (hatt : item.cost = y ∨ ch = some y)
    (hne : (ch.isSome = true → cont ≠ []) → cont' ≠ []) :
    NextCheapest ((nt0, item :: tl0) :: rest) cont ch nts r where
  none hr := nomatch (h.none hr).1
  le_acc c x hr hx := Int.le_trans (h.le_acc c y hr rfl) (hch x hx)
  le_root c nt top tl hr hm := by
    rcases List.mem_cons.mp hm with hm | hm
    · cases hm; exact Int.le_trans (h.le_acc c y hr rfl) hy
    · exact h.le_root c nt top tl hr hm
  attained c hr := by
    rcases h.attained c hr with hc | ⟨nt, top, tl, hm, ht⟩
    · cases hc
      exact hatt.elim (fun e => Or.inr ⟨nt0, item, tl0, List.mem_cons_self, e⟩) Or.inl
    · exact Or.inr ⟨nt, top, tl, List.mem_cons_of_mem _ hm, ht⟩
  keeps c hr hc nt hnt' := by
    obtain rfl : y = c := Int.le_antisymm (hch c hc) (h.le_acc c y hr rfl)
    exact h.keeps y hr rfl nt (hcont hc nt hnt')
  collects c nt top tl hr hm ht := by
    rcases List.mem_cons.mp hm with hm | hm
    · cases hm
      obtain rfl : y = item.cost := Int.le_antisymm hy (ht ▸ h.le_acc c y hr rfl)
      exact h.keeps _ (ht ▸ hr) rfl nt0 (hnt rfl)
    · exact h.collects c nt top tl hr hm ht
  nonempty hc hr := h.nonempty (fun _ => hne hc) hr

theorem nextCheapestLoop_spec (tab : AList (NT S Unit) (List HeapElem)) : ∀ (cont : List (NT S Unit)) (ch : Option Int)
    (nts : List (NT S Unit)) (r : Option Int), nextCheapestLoop tab cont ch = (nts, r) → NextCheapest tab cont ch nts r := by
  intro cont ch nts r h
  fun_induction nextCheapestLoop tab cont ch with
  | case1 cont ch =>
    cases h
    exact ⟨fun hr => ⟨hr, fun _ _ hm => nomatch hm⟩, fun c x hr hx => by cases hr.symm.trans hx; exact Int.le_refl _,
      fun _ _ _ _ _ hm => (nomatch hm), fun c hr => Or.inl hr, fun _ _ _ _ h => h, fun _ _ _ _ _ hm => (nomatch hm),
      fun h hr => h hr⟩
  | case2 nt0 rest cont ch ih =>
    have h := ih h
    refine ⟨fun hr => ⟨(h.none hr).1, fun nt l hm => ?_⟩, h.le_acc, fun c nt top tl hr hm => ?_, fun c hr => ?_, h.keeps,
      fun c nt top tl hr hm => ?_, h.nonempty⟩
    · rcases List.mem_cons.mp hm with hm | hm
      · cases hm; rfl
      · exact (h.none hr).2 nt l hm
    · rcases List.mem_cons.mp hm with hm | hm
      · cases hm
      · exact h.le_root c nt top tl hr hm
    · exact (h.attained c hr).imp_right fun ⟨nt, top, tl, hm, ht⟩ => ⟨nt, top, tl, List.mem_cons_of_mem _ hm, ht⟩
    · rcases List.mem_cons.mp hm with hm | hm
      · cases hm
      · exact h.collects c nt top tl hr hm
  | case3 nt rest cont item tl ih =>
    exact (ih h).cons (Int.le_refl _) (fun _ hx => nomatch hx) (fun _ => List.mem_singleton_self _)
      (fun hx => nomatch hx) (Or.inl rfl) (fun _ => List.cons_ne_nil _ _)
  | case4 nt rest cont item tl x h1 h2 ih =>
    exact (ih h).cons (Int.le_refl _) (fun x' hx => by cases hx; omega)
      (fun _ => List.mem_singleton_self _) (fun hx => by cases hx; omega) (Or.inl rfl) (fun _ => List.cons_ne_nil _ _)
  | case5 nt rest cont item tl x h1 h2 ih =>
    exact (ih h).cons (by omega) (fun x' hx => by cases hx; omega)
      (fun _ => List.mem_append_right _ (List.mem_singleton_self _)) (fun _ nt hnt => List.mem_append_left _ hnt)
      (Or.inr rfl) (fun _ => by simp)
  | case6 nt rest cont item tl x h1 ih =>
    exact (ih h).cons (by omega) (fun x' hx => by cases hx; omega)
      (fun e => by omega) (fun _ nt hnt => hnt) (Or.inr rfl) (fun h => h rfl)

theorem nextCheapest_spec (s : St S) {nts : List (NT S Unit)} {r : Option Int} (h : nextCheapest s = (nts, r)) :
    NextCheapest s.queued [] none nts r :=
  nextCheapestLoop_spec s.queued [] none nts r h

/-! ### `argsPossibles`: the tuples banked at the indices of a combination -/

/-- `p` is in `_bank[nt][ci]` -/
def inBank (s : St S) (nt : NT S Unit) (ci : Nat) (p : Prog) : Prop :=
  ∃ ps, AList.lookup ci (s.bankOf nt) = some ps ∧ p ∈ ps

theorem inBank_of_bank_eq {s s' : St S} (hb : s'.bank = s.bank) (nt : NT S Unit) (ci : Nat) (p : Prog) :
    inBank s' nt ci p ↔ inBank s nt ci p := by
  rw [inBank, inBank, St.bankOf_congr hb]

theorem inBank_row {s : St S} {nt : NT S Unit} {b : AList Nat (List Prog)} (hl : AList.lookup nt s.bank = some b) (v : Nat)
    (k : Prog) : inBank s nt v k ↔ ∃ ps, AList.lookup v b = some ps ∧ k ∈ ps := by
  rw [inBank, St.bankOf, hl]; rfl

/-- `kids` has a program for each argument, the `j`-th banked for the `j`-th argument at index `combo[i + j]` -/
def PremAt (s : St S) (combo : List Nat) (i : Nat) (args : List (Ty × S)) (kids : List Prog) : Prop :=
  kids.length = args.length ∧
  ∀ (j : Nat) (a : Ty × S) (k : Prog) (v : Nat), args[j]? = some a → kids[j]? = some k → combo[i + j]? = some v →
    inBank s (a.1, (a.2, ())) v k

theorem premAt_nil {s : St S} {combo : List Nat} {i : Nat} {kids : List Prog} : PremAt s combo i [] kids ↔ kids = [] :=
  ⟨fun h => List.length_eq_zero_iff.mp h.1, fun h => h ▸ ⟨rfl, fun _ _ _ _ ha => nomatch ha⟩⟩

theorem premAt_cons {s : St S} {combo : List Nat} {i : Nat} {a : Ty × S} {rest : List (Ty × S)} {kids : List Prog} :
    PremAt s combo i (a :: rest) kids ↔
      ∃ k ks, kids = k :: ks ∧ (∀ v, combo[i]? = some v → inBank s (a.1, (a.2, ())) v k) ∧ PremAt s combo (i + 1) rest ks := by
  constructor
  · rintro ⟨hl, h⟩
    cases kids with
    | nil => cases hl
    | cons k ks =>
      refine ⟨k, ks, rfl, fun v hv => h 0 a k v rfl rfl hv, by simpa using hl, fun j a' k' v ha hk hv => ?_⟩
      exact h (j + 1) a' k' v ha hk (by rw [← hv]; congr 1; omega)
  · rintro ⟨k, ks, rfl, h0, hl, h⟩
    refine ⟨by simp [hl], fun j a' k' v ha hk hv => ?_⟩
    cases j with
    | zero => cases ha; cases hk; exact h0 v hv
    | succ j => exact h j a' k' v ha hk (by rw [← hv]; congr 1; omega)

theorem premAt_shift {s : St S} {v : Nat} {c : List Nat} {i : Nat} {args : List (Ty × S)} {kids : List Prog} :
    PremAt s (v :: c) (i + 1) args kids ↔ PremAt s c i args kids := by
  simp only [PremAt, Nat.add_right_comm i 1, List.getElem?_cons_succ]

/-- the `break` (`r = none`) loses nothing: then no tuple is banked at the combination's indices -/
theorem argsPossibles_mem (s : St S) (combo : List Nat) (args : List (Ty × S)) (i : Nat) (r : Option (List (List Prog)))
    (h : argsPossibles s combo args i = some r) (kids : List Prog) :
    (∃ aps, r = some aps ∧ kids ∈ product aps) ↔ PremAt s combo i args kids := by
  fun_induction argsPossibles s combo args i generalizing r kids with
  | case1 => cases h; simp [premAt_nil, product]
  | case2 | case3 | case6 => cases h
  | case4 a rest i b hl ci hc hci =>
    cases h
    refine ⟨fun ⟨_, h1, _⟩ => (nomatch h1), fun hp => ?_⟩
    obtain ⟨k, ks, _, hk, _⟩ := premAt_cons.mp hp
    obtain ⟨_, hps, _⟩ := (inBank_row hl ci k).mp (hk ci hc)
    cases hci.symm.trans hps
  | case5 a rest i b hl ci hc hci =>
    cases h
    refine ⟨fun ⟨_, h1, _⟩ => (nomatch h1), fun hp => ?_⟩
    obtain ⟨k, ks, _, hk, _⟩ := premAt_cons.mp hp
    obtain ⟨_, hps, hkin⟩ := (inBank_row hl ci k).mp (hk ci hc)
    cases hci.symm.trans hps; cases hkin
  | case7 a rest i b hl ci hc p ps hci hrec ih =>
    cases h
    refine ⟨fun ⟨_, h1, _⟩ => (nomatch h1), fun hp => ?_⟩
    obtain ⟨k, ks, _, _, hks⟩ := premAt_cons.mp hp
    obtain ⟨_, h1, _⟩ := (ih none hrec ks).mpr hks
    cases h1
  | case8 a rest i b hl ci hc p ps hci r' hrec ih =>
    cases h
    rw [premAt_cons]
    simp only [Option.some.injEq, exists_eq_left', mem_product_cons]
    constructor
    · rintro ⟨x, ks, rfl, hx, hks⟩
      refine ⟨x, ks, rfl, fun v hv => ?_, (ih _ hrec ks).mp ⟨r', rfl, hks⟩⟩
      cases hc.symm.trans hv
      exact (inBank_row hl _ x).mpr ⟨_, hci, hx⟩
    · rintro ⟨k, ks, rfl, hk, hks⟩
      obtain ⟨_, h1, h2⟩ := (ih _ hrec ks).mpr hks
      cases h1
      obtain ⟨_, hps, hkin⟩ := (inBank_row hl ci k).mp (hk ci hc)
      cases hci.symm.trans hps
      exact ⟨k, ks, rfl, hkin, h2⟩

theorem argsPossibles_prem (s : St S) (combo : List Nat) (args : List (Ty × S)) (i : Nat) (aps : List (List Prog))
    (h : argsPossibles s combo args i = some (some aps)) : ∀ kids ∈ product aps, PremAt s combo i args kids :=
  fun kids hk => (argsPossibles_mem s combo args i _ h kids).mp ⟨aps, rfl, hk⟩

theorem argsPossibles_banks (s : St S) (combo : List Nat) (args : List (Ty × S)) (i : Nat) (aps : List (List Prog))
    (h : argsPossibles s combo args i = some (some aps)) : ∀ l ∈ aps, ∃ nt ci, AList.lookup ci (s.bankOf nt) = some l := by
  fun_induction argsPossibles s combo args i generalizing aps with
  | case1 => cases h; exact fun _ hl => nomatch hl
  | case8 a rest i b hl ci hc p ps hci r hrec ih =>
    cases h
    intro l hlm
    rcases List.mem_cons.mp hlm with rfl | hlm
    · exact ⟨(a.1, (a.2, ())), ci, by simpa [St.bankOf, hl] using hci⟩
    · exact ih r hrec l hlm
  | _ => cases h

end PS.Bee
