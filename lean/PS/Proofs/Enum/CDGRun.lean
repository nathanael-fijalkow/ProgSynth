/- No duplicates over a whole run of the generator.  From a new enumerator, along `next` calls (no `merge_program`):
   every yielded program is new to the banks of the start symbol and enters them, so the yielded sequence has no
   duplicates and the banks stay duplicate-free and pairwise disjoint.  Between two calls the invariants of
   CDHeapInv.lean (`HInv`), CDGPoss.lean (`TInv2`) and CDGBanks.lean (`NInv`, `FrOK`) hold with nothing in limbo.
   Before the first call the banks are empty and the prologue does not touch them; what it has to establish is `TInv2`.
   After `__init__` every derivation queue is empty; `_init_derivation_` pushes the single index tuple (0,…,0) into a
   queue once, guarded by the cost list of `args`; `_reevaluate_` and `__compute_bounds__` pop everything and push it
   back.  So the state the prologue produces has derivation queues holding nothing or the single tuple (0,…,0)
   (`ZInv`), which with empty banks is `TInv2`. -/
import PS.Proofs.Enum.CDGMachine
namespace PS.CD

variable {α : Type}

/-! ## the invariant of a generator along `next` -/

/-- the frame of the prologue, which only writes queues and cost lists -/
def Bk (s s' : St α) : Prop := s'.bankNt = s.bankNt ∧ s'.bankDer = s.bankDer ∧ s'.deleted = s.deleted

theorem prologue_bk (E : Env α) (fuel : Nat) (s s' : St α) (h : prologue E fuel s = some s') : Bk s s' := by
  obtain ⟨s1, h1, h2⟩ := prologue_sound h
  obtain ⟨_, _, _, _, rfl⟩ := h1.eq
  obtain ⟨_, _, _, _, rfl⟩ := h2.eq
  exact ⟨rfl, rfl, rfl⟩

/-! ### the state a generator starts from -/

def BanksEmpty (s : St α) : Prop :=
  (∀ S b, AList.lookup S s.bankNt = some b → b = []) ∧ (∀ a b, AList.lookup a s.bankDer = some b → b = [])

theorem banksEmpty_of_bk {s s' : St α} (h : Bk s s') (he : BanksEmpty s) : BanksEmpty s' := by
  unfold BanksEmpty; rw [h.1, h.2.1]; exact he

theorem not_inBankAt_of_empty {s : St α} (h : BanksEmpty s) (S : NT) (c : Nat) (q : Prog) : ¬ InBankAt s S c q := by
  rintro ⟨b, l, hb, hl, _⟩
  rw [h.1 S b hb] at hl; simp at hl

theorem not_possAt_of_empty {s : St α} (h : BanksEmpty s) (a : List NT) (c : Nat) (ps : List Ref) : ¬ PossAt s.bankDer a c ps := by
  rintro ⟨b, l, hb, hl, _⟩
  rw [h.2 a b hb] at hl; simp at hl

theorem ninv_of_empty {E : Env α} {s : St α} (h : BanksEmpty s) : NInv E s noL := by
  refine ⟨⟨?_, ?_⟩, ?_, ?_, ?_, ?_⟩
  · intro S b ci l hb hl
    rw [h.1 S b hb] at hl; simp at hl
  · intro S ci cj p h1 _
    exact absurd h1 (not_inBankAt_of_empty h S ci p)
  · intro S hh d _ _ args w kids _ hin
    obtain ⟨c, hc⟩ := hin
    exact absurd hc (not_inBankAt_of_empty h S c _)
  · intro S P c0 hm
    simp [noL] at hm
  · intro S c q hq
    exact absurd hq (not_inBankAt_of_empty h S c q)
  · intro p _ S c hq
    exact absurd hq (not_inBankAt_of_empty h S c p)

/-- the hypothesis `hq` of `tinv2_of_small`, to be evaluated on a concrete state; the theorems on `next` do not go through
    it, they get `TInv2` from `prologue_tinv2` -/
def startB (s : St α) : Bool :=
  s.queueDer.all fun x => x.2.contents == [] || x.2.contents == [List.replicate x.1.length 0]

theorem frontInv_nil : FrontInv ⟨[], []⟩ := by
  refine ⟨by simp, ?_⟩
  intro t ht; simp at ht

theorem tinv2_of_small {E : Env α} {s : St α} (hS : SInv E s) (hE : BanksEmpty s)
    (hq : ∀ args q, AList.lookup args s.queueDer = some q → q.contents = [] ∨ q.contents = [List.replicate args.length 0]) :
    TInv2 s noT := by
  intro args
  have hP : PossD s.bankDer args [] :=
    ⟨fun b c l hb hl => by rw [hE.2 args b hb] at hl; simp at hl,
     fun c c' ps hp _ => absurd hp (not_possAt_of_empty hE args c ps),
     fun c ps hp => absurd hp (not_possAt_of_empty hE args c ps)⟩
  simp only [noT, List.append_nil]
  cases hl : AList.lookup args s.queueDer with
  | none => exact ⟨nofun, by simp [contentsOf, hl], [], by simpa only [contentsOf, hl] using frontInv_nil, hP⟩
  | some q =>
    rw [contentsOf_some hl]
    refine ⟨fun q' e => Option.some.inj e ▸ (hS.queues args q hl).1, (hS.queues args q hl).2, [], ?_, hP⟩
    rcases hq args q hl with h1 | h1
    · rw [h1]; exact frontInv_nil
    · rw [h1]; exact front_init _

theorem tinv2_of_start {E : Env α} {s : St α} (hS : SInv E s) (hE : BanksEmpty s) (hB : startB s = true) : TInv2 s noT := by
  refine tinv2_of_small hS hE fun args q hl => ?_
  simpa using List.all_eq_true.mp hB (args, q) (AList.lookup_some_mem hl)

/-- after the first `next`: between two `next` calls nothing is in limbo (no popped heap element waits to be pushed
    back, no popped index tuple waits to be expanded: `noLimbo`, `noT`, `noL`); the frame of a suspended `query` (phase
    `inQuery`), if any, belongs to the start symbol -/
def GS (E : Env α) (g : Gen α) : Prop :=
  HInv g.st noLimbo ∧ TInv2 g.st noT ∧ NInv E g.st noL ∧
    ∀ n fr, g.phase = .inQuery n fr → FrOK E g.st noL fr ∧ fr.S = E.G.start

/-- before the first `next` (phase `fresh`).  The last clause is a hypothesis here (`hst` in `gen_new_gi`);
    `prologue_tinv2` proves it for the generator of `Gen.new`. -/
def GF (E : Env α) (fuel : Nat) (g : Gen α) : Prop :=
  IInv g.st noLimbo ∧ SInv E g.st ∧ BanksEmpty g.st ∧
    ∀ s, prologue E fuel g.st = some s → SInv E s → BanksEmpty s → TInv2 s noT

/-- `next` leaves phase `fresh` for good (`next_not_fresh`), so `GF` is used once -/
def GI (E : Env α) (fuel : Nat) (g : Gen α) : Prop :=
  (g.phase = .fresh → GF E fuel g) ∧ (g.phase ≠ .fresh → GS E g)

theorem Loop.gs {E : Env α} {s : St α} {n : Nat} {fr? : Option (Frame α)} {failed : Bool} {g' : Gen α} {out : Option Prog}
    (h : Loop E s n fr? failed g' out) : HInv s noLimbo → TInv2 s noT → NInv E s noL →
    (∀ fr, fr? = some fr → FrOK E s noL fr ∧ fr.S = E.G.start) →
    GS E g' ∧ ∀ p, out = some p → ¬ InBank s E.G.start p ∧ InBank g'.st E.G.start p := by
  have start : ∀ {s n fr? s0 fr0}, Start E s n fr? s0 fr0 → HInv s noLimbo → TInv2 s noT → NInv E s noL →
      (∀ fr, fr? = some fr → FrOK E s noL fr ∧ fr.S = E.G.start) →
      HInv s0 noLimbo ∧ TInv2 s0 noT ∧ NInv E s0 noL ∧ BMono s s0 ∧ ∀ fr, fr0 = some fr → FrOK E s0 noL fr ∧ fr.S = E.G.start := by
    intro s n fr? s0 fr0 hs hH hT hN hF
    obtain ⟨f, rfl⟩ := hs.eq
    refine ⟨hinv_of_eq rfl hH, tinv2_of_eq rfl rfl hT, hN.same rfl rfl rfl rfl, BMono.of_eq rfl, ?_⟩
    rintro fr rfl
    rcases hs.frame with rfl | ⟨h1, _, h3⟩
    · exact ⟨frok_of_eq rfl rfl rfl (DSub.of_eq rfl) (hF fr rfl).1, (hF fr rfl).2⟩
    · exact ⟨frok_none h3, h1⟩
  induction h with
  | stop hs =>
    intro hH hT hN hF
    obtain ⟨a, b, c, _, _⟩ := start hs hH hT hN hF
    exact ⟨⟨a, b, c, fun n fr he => by simp at he⟩, fun p hp => by simp at hp⟩
  | skip hs _ ih =>
    intro hH hT hN hF
    obtain ⟨a, b, c, m, _⟩ := start hs hH hT hN hF
    obtain ⟨x, y⟩ := ih a b c (fun fr he => by simp at he)
    exact ⟨x, fun p hp => ⟨fun hin => (y p hp).1 (m.inBank hin), (y p hp).2⟩⟩
  | yield hs hr =>
    intro hH hT hN hF
    obtain ⟨a, b, c, m, d⟩ := start hs hH hT hN hF
    obtain ⟨r1, r2, r3, r4, r5⟩ := hr.ninv (L := noL) (Λ := noT) a (tinv2_iff.mp b) c (d _ rfl).1
    refine ⟨⟨hr.hinv a, hr.tinv2 b, r1, ?_⟩, ?_⟩
    · intro n' fr' he
      simp only [Phase.inQuery.injEq] at he
      rw [← he.2]; exact ⟨r2, r3.trans (d _ rfl).2⟩
    · intro p' hp'
      simp only [Option.some.injEq] at hp'
      rw [← hp', ← (d _ rfl).2]
      exact ⟨fun hin => r4 (m.inBank hin), r5⟩
  | ended hs hr =>
    intro hH hT hN hF
    obtain ⟨a, b, c, _, d⟩ := start hs hH hT hN hF
    exact ⟨⟨hr.hinv a, hr.tinv2 b, (hr.ninv (L := noL) (Λ := noT) a (tinv2_iff.mp b) c (d _ rfl).1).1, fun n fr he => by simp at he⟩,
      fun p hp => by simp at hp⟩
  | again hs hr _ ih =>
    intro hH hT hN hF
    obtain ⟨a, b, c, m, d⟩ := start hs hH hT hN hF
    obtain ⟨x, y⟩ := ih (hr.hinv a) (hr.tinv2 b) (hr.ninv (L := noL) (Λ := noT) a (tinv2_iff.mp b) c (d _ rfl).1).1 (fun fr he => by simp at he)
    exact ⟨x, fun p hp => ⟨fun hin => (y p hp).1 ((hr.grows bmono_grows) |>.inBank (m.inBank hin)), (y p hp).2⟩⟩

theorem next_gi (E : Env α) (hG : RowsNodup E.G) (fuel : Nat) (g g' : Gen α) (out : Option Prog)
    (h : next E fuel g = some (g', out)) (hg : GI E fuel g) :
    GI E fuel g' ∧ BMono g.st g'.st ∧ ∀ p, out = some p → ¬ InBank g.st E.G.start p ∧ InBank g'.st E.G.start p := by
  rcases next_loop h with ⟨_, rfl, rfl⟩ | ⟨s, n, fr?, failed, hl, hcase⟩
  · exact ⟨hg, BMono.refl _, fun p hp => by simp at hp⟩
  -- the loop starts from a started generator: after the prologue, which leaves the (empty) banks alone, or from `g` itself
  have pre : HInv s noLimbo ∧ TInv2 s noT ∧ NInv E s noL ∧ (∀ fr, fr? = some fr → FrOK E s noL fr ∧ fr.S = E.G.start) ∧
      BMono g.st s := by
    rcases hcase with ⟨hph, hp, rfl⟩ | ⟨rfl, hc⟩
    · obtain ⟨hI, hS, hE, hst⟩ := hg.1 hph
      have hbk := prologue_bk E fuel _ _ hp
      have hE' := banksEmpty_of_bk hbk hE
      exact ⟨prologue_hinv E hG fuel _ _ hp hI, hst s hp (prologue_sinv E fuel _ _ hp hS) hE', ninv_of_empty hE', by simp,
        BMono.of_eq hbk.1⟩
    · have hph : g.phase ≠ .fresh := by rcases hc with ⟨hph, _⟩ | ⟨fr, hph, _⟩ <;> rw [hph] <;> simp
      obtain ⟨hH, hT, hN, hF⟩ := hg.2 hph
      refine ⟨hH, hT, hN, ?_, BMono.refl _⟩
      rcases hc with ⟨_, rfl⟩ | ⟨fr, hph, rfl⟩
      · simp
      · intro fr' he; cases he; exact hF n fr hph
  obtain ⟨hH, hT, hN, hF, m⟩ := pre
  obtain ⟨a, c⟩ := hl.gs hH hT hN hF
  exact ⟨⟨fun he => absurd he (next_not_fresh h), fun _ => a⟩, m.trans (hl.grows bmono_grows),
    fun p hp => ⟨fun hin => (c p hp).1 (m.inBank hin), (c p hp).2⟩⟩

theorem gen_new_gi (E : Env α) (fuel : Nat) (g : Gen α) (h : Gen.new E = some g)
    (hst : ∀ s, prologue E fuel g.st = some s → SInv E s → BanksEmpty s → TInv2 s noT) : GI E fuel g :=
  have ⟨hi, hph⟩ := Gen.new_some h
  ⟨fun _ => ⟨init_iinv E _ hi, init_sinv E _ hi, ⟨(init_fresh hi).bankNt, (init_fresh hi).bankDer⟩, hst⟩, fun hne => absurd hph hne⟩

theorem take_gi (E : Env α) (hG : RowsNodup E.G) (fuel : Nat) : ∀ (k : Nat) (g : Gen α) (acc : List Prog) (g' : Gen α)
    (ys : List Prog) (fin : Bool), take E fuel k g acc = some (g', ys, fin) → GI E fuel g →
    acc.Nodup → (∀ p ∈ acc, InBank g.st E.G.start p) →
    GI E fuel g' ∧ ys.Nodup ∧ (∀ p ∈ ys, InBank g'.st E.G.start p) ∧ BMono g.st g'.st := by
  intro k g acc g' ys fin h hg hnd hin
  refine Iter.take_rule (I := fun g1 out => GI E fuel g1 ∧ out.Nodup ∧ (∀ p ∈ out, InBank g1.st E.G.start p) ∧ BMono g.st g1.st)
    (Q := fun g1 out _ => GI E fuel g1 ∧ out.Nodup ∧ (∀ p ∈ out, InBank g1.st E.G.start p) ∧ BMono g.st g1.st)
    (fun _ _ h => h) ?_ ?_ k g acc (g', ys, fin) ⟨hg, hnd, hin, BMono.refl _⟩ (take_eq E fuel k g acc ▸ h)
  · intro g1 out g2 ⟨h1, h2, h3, h4⟩ hn
    obtain ⟨a, b, _⟩ := next_gi E hG fuel g1 g2 none hn h1
    exact ⟨a, h2, fun p hp => b.inBank (h3 p hp), h4.trans b⟩
  · intro g1 out g2 p ⟨h1, h2, h3, h4⟩ hn
    obtain ⟨a, b, c⟩ := next_gi E hG fuel g1 g2 (some p) hn h1
    obtain ⟨c1, c2⟩ := c p rfl
    -- the yielded program was in no bank of the start symbol, those yielded before were
    refine ⟨a, List.nodup_append.mpr ⟨h2, by simp, fun x hx y hy e => ?_⟩,
      List.forall_mem_append.mpr ⟨fun q hq => b.inBank (h3 q hq), fun q hq => List.mem_singleton.mp hq ▸ c2⟩, h4.trans b⟩
    exact c1 (by rw [← List.mem_singleton.mp hy, ← e]; exact h3 x hx)

/-! ## the prologue of the first `next` establishes `TInv2` -/

def zeros (args : List NT) : List Nat := List.replicate args.length 0

/-- every derivation queue holds nothing, or the tuple (0,…,0) and then its cost list has been started; the argument
    tuples `Pd` whose `_init_derivation_` is running have a started cost list and an empty queue -/
def ZInv (s : St α) (Pd : List (List NT)) : Prop :=
  (∀ args q, AList.lookup args s.queueDer = some q → QWF q ∧
    (q.contents = [] ∨ (q.contents = [zeros args] ∧ args ∉ Pd ∧ ∃ cl, AList.lookup args s.costDer = some cl ∧ cl ≠ []))) ∧
  (∀ a ∈ Pd, ∃ cl, AList.lookup a s.costDer = some cl ∧ cl ≠ [])

theorem zinv_of_eq {s s' : St α} {Pd : List (List NT)} (h1 : s'.queueDer = s.queueDer) (h2 : s'.costDer = s.costDer)
    (h : ZInv s Pd) : ZInv s' Pd := by
  unfold ZInv; rw [h1, h2]; exact h

theorem zinv_setCostDer {s : St α} {Pd : List (List NT)} {args : List NT} {cl cl' : List α} (h : ZInv s Pd)
    (hcl : AList.lookup args s.costDer = some cl) (hne : cl ≠ [] → cl' ≠ []) (hPd : args ∈ Pd → cl' ≠ []) :
    ZInv (s.setCostDer args cl') Pd := by
  have key : ∀ a, (∃ c, AList.lookup a s.costDer = some c ∧ c ≠ []) → (a = args → cl' ≠ []) →
      ∃ c, AList.lookup a (s.setCostDer args cl').costDer = some c ∧ c ≠ [] := by
    intro a ⟨c, h1, h2⟩ h3
    by_cases he : a = args
    · exact ⟨cl', by rw [he]; exact AList.lookup_insert_self _ _ _, h3 he⟩
    · exact ⟨c, by rw [St.setCostDer, AList.lookup_insert_ne _ _ he]; exact h1, h2⟩
  refine ⟨fun a q hq => ⟨(h.1 a q hq).1, (h.1 a q hq).2.imp id fun ⟨c1, c2, c3⟩ => ⟨c1, c2, key a c3 fun he => ?_⟩⟩,
    fun a ha => key a (h.2 a ha) fun he => hPd (he ▸ ha)⟩
  obtain ⟨c, h1, h2⟩ := c3
  rw [he, hcl] at h1
  exact hne (Option.some.inj h1 ▸ h2)

/-- `_init_derivation_(args)` finds the cost list of `args` empty, hence its queue empty, and leaves the tuple (0,…,0) in
    it; while it runs, `args` is in `Pd`, which keeps nested calls for the same `args` from pushing again -/
theorem Init.zinv {E : Env α} {s s' : St α} {c : ICall α} (h : Init E s c s') : ∀ Pd, ZInv s Pd → ZInv s' Pd := by
  induction h with
  | known | done | noArgs | knownDer | argsNil => exact fun _ hs => hs
  | nt _ _ _ _ _ ih => exact fun Pd hs => zinv_of_eq rfl rfl (ih Pd (zinv_of_eq rfl rfl hs))
  | rule _ _ _ ih1 ih2 => exact fun Pd hs => ih2 Pd (zinv_of_eq rfl rfl (ih1 Pd hs))
  | first _ _ _ ih => exact ih
  | arg _ _ _ ih1 ih2 => exact fun Pd hs => ih2 Pd (ih1 Pd hs)
  | @der s args s2 cost q q1 q2 pk cl2 hcl _ hq hpush hupd _ hcl2 ih =>
    intro Pd hs
    have hnotPd : args ∉ Pd := fun hm => by
      obtain ⟨cl', h1, h2⟩ := hs.2 args hm
      rw [hcl] at h1; exact h2 (Option.some.inj h1).symm
    have hsa : ZInv (s.setCostDer args [E.A.big]) (args :: Pd) := by
      have h0 := zinv_setCostDer (cl' := [E.A.big]) hs hcl (fun h => absurd rfl h) (fun _ => by simp)
      refine ⟨fun a qa hqa => ⟨(h0.1 a qa hqa).1, (h0.1 a qa hqa).2.imp id fun ⟨c1, c2, c3⟩ => ⟨c1, ?_, c3⟩⟩, ?_⟩
      · intro a ha
        rcases List.mem_cons.mp ha with rfl | h1
        · exact ⟨[E.A.big], AList.lookup_insert_self _ _ _, by simp⟩
        · exact h0.2 a h1
      · -- a queue that holds (0,…,0) has a started cost list: it is not the queue of `args`
        intro hm
        rcases List.mem_cons.mp hm with rfl | hm
        · obtain ⟨_, _, cl', e1, e2⟩ := (hs.1 a qa hqa).2.resolve_left (by rw [c1]; simp)
          rw [hcl] at e1; exact e2 (Option.some.inj e1).symm
        · exact c2 hm
    have hs2 := ih _ hsa
    obtain ⟨hwf, hc⟩ := hs2.1 args q hq
    have hc0 : q.contents = [] := hc.resolve_right fun ⟨_, c2, _⟩ => c2 List.mem_cons_self
    obtain ⟨hwf1, _, hperm, _⟩ := qwf_push E.A q q1 _ E.asserts hwf hpush
    obtain ⟨hwf2, hc2⟩ := qwf_update E.A q1 q2 hwf1 hupd
    have hc1 : q2.contents = [zeros args] := by
      rw [hc0] at hperm
      rw [hc2]; exact List.perm_singleton.mp hperm
    obtain ⟨cl2', e1, e2⟩ := hs2.2 args List.mem_cons_self
    obtain rfl : cl2' = cl2 := Option.some.inj (e1.symm.trans hcl2)
    -- `args` leaves `Pd`, its queue holds (0,…,0) and its cost list is started
    have hs3 : ZInv (s2.setQueueDer args q2) Pd := by
      refine ⟨AList.forall_insert (fun a qa _ hqa => ?_) ⟨hwf2, Or.inr ⟨hc1, hnotPd, cl2', hcl2, e2⟩⟩,
        fun a ha => hs2.2 a (List.mem_cons_of_mem _ ha)⟩
      exact ⟨(hs2.1 a qa hqa).1, (hs2.1 a qa hqa).2.imp id fun ⟨c1, c2, c3⟩ => ⟨c1, fun hm => c2 (List.mem_cons_of_mem _ hm), c3⟩⟩
    exact zinv_setCostDer hs3 hcl2 (mt (List.set_eq_nil_iff 0 _).mp) (fun hm => absurd hm hnotPd)

/-- a requeued queue holds what it held: nothing, or the tuple (0,…,0) again -/
theorem Reeval.zinv {E : Env α} {s s' : St α} (h : Reeval E s s') : ZInv s [] → ZInv s' [] := by
  induction h with
  | refl => exact id
  | heap _ _ _ ih | costNt _ _ ih => exact fun hs => ih (zinv_of_eq rfl rfl hs)
  | costDer hcl hne _ ih => exact fun hs => ih (zinv_setCostDer hs hcl (fun _ => mt (List.set_eq_nil_iff 0 _).mp hne) nofun)
  | @queueDer s args q q2 _ hq hr _ ih =>
    intro hs
    obtain ⟨hwf, hc⟩ := hs.1 args q hq
    obtain ⟨hwf2, hp⟩ := hr hwf
    exact ih ⟨AList.forall_insert (fun a qa _ => hs.1 a qa)
      ⟨hwf2, hc.imp (fun h => (h ▸ hp).eq_nil) fun ⟨h1, h2⟩ => ⟨List.perm_singleton.mp (h1 ▸ hp), h2⟩⟩, nofun⟩

theorem prologue_zinv (E : Env α) (fuel : Nat) (s s' : St α) (h : prologue E fuel s = some s') (hs : ZInv s []) : ZInv s' [] := by
  obtain ⟨s1, h1, h2⟩ := prologue_sound h
  exact h2.zinv (h1.zinv [] hs)

theorem init_zinv (E : Env α) (s : St α) (h : St.init E = some s) : ZInv s [] :=
  ⟨fun a q hl => ⟨((init_fresh h).queueDer a q hl).1, Or.inl ((init_fresh h).queueDer a q hl).2⟩, nofun⟩

theorem tinv2_of_zinv {E : Env α} {s : St α} (hS : SInv E s) (hE : BanksEmpty s) (hZ : ZInv s []) : TInv2 s noT :=
  tinv2_of_small hS hE fun args q hl => (hZ.1 args q hl).2.imp id (·.1)

/-- the hypotheses `hS`, `hE` on the state produced (sound tables, empty banks) are those under which the last clause of
    `GF` asks for `TInv2`; `next_gi` derives them from `prologue_sinv` and `prologue_bk` -/
theorem prologue_tinv2 (E : Env α) (fuel : Nat) (g : Gen α) (hnew : Gen.new E = some g) (s : St α)
    (hp : prologue E fuel g.st = some s) (hS : SInv E s) (hE : BanksEmpty s) : TInv2 s noT :=
  tinv2_of_zinv hS hE (prologue_zinv E fuel _ _ hp (init_zinv E _ (Gen.new_some hnew).1))

theorem GI.ninv {E : Env α} {fuel : Nat} {g : Gen α} (h : GI E fuel g) : NInv E g.st noL := by
  by_cases hph : g.phase = .fresh
  · exact ninv_of_empty (h.1 hph).2.2.1
  · exact (h.2 hph).2.2.1

end PS.CD
