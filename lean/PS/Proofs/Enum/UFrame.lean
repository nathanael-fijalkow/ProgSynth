/- Heap search on unambiguous grammars, what a call may write: a call leaves `deleted` and the start heap alone, and
   `_init` only grows.  On an acyclic grammar a call at the non-terminal `S` only writes the tables of `S` and of
   non-terminals of smaller rank (no re-entrant `query`), which also gives `NoReent`, the hypothesis of the
   no-duplicates invariant with a filter (`noReent_of_acyclic`); and an exhausted non-terminal stays exhausted — once
   `heaps[S]` is empty (and `S` is initialised) no call writes `heaps[S]` or `succ[S]`, except the
   `__add_successors__` of `S` itself that is still running. -/
import PS.Proofs.Enum.UNodup
namespace PS.UHS
open PS PS.G

set_option linter.unusedSectionVars false
variable {U π : Type} [DecidableEq U]

/-- the fields that only the generator loop writes: `deleted`, the start heap -/
def St.outer (s : St U π) : List Prog × List (π × Prog × UNT U) := (s.deleted, s.startHeap)

theorem big_outer (E : Env U π) {c : Call U π} {s s' : St U π} {r : Res π}
    (hb : Big E c s s' r) (hk : E.kway = true) : s'.outer = s.outer := by
  refine Big.rel (R := fun s s' => s'.outer = s.outer) (fun _ => rfl) (fun h1 h2 => h2.trans h1) (fun _ => rfl)
    (fun _ _ _ _ => rfl) ?_ (fun _ _ => rfl) ?_ ?_ hb
  · intro s F args nt v i r s3 hp
    obtain ⟨_, _, _, _, rfl⟩ := pushStep_fields E hk hp
    rfl
  · intro s nt m l s3 hp
    obtain ⟨_, _, _, _, rfl⟩ := initPush_fields E hk hp
    rfl
  · intro s nt P args v s3 pr hc
    obtain ⟨c, rfl⟩ := computePrio_step E hc
    rfl

theorem big_deleted (E : Env U π) {c : Call U π} {s s' : St U π} {r : Res π}
    (hb : Big E c s s' r) (hk : E.kway = true) : s'.deleted = s.deleted :=
  congrArg Prod.fst (big_outer E hb hk)

theorem big_startHeap (E : Env U π) (hk : E.kway = true) {c : Call U π} {s s' : St U π} {r : Res π}
    (hb : Big E c s s' r) : s'.startHeap = s.startHeap :=
  congrArg Prod.snd (big_outer E hb hk)

theorem big_initS (E : Env U π) (hk : E.kway = true) {c : Call U π} {s s' : St U π} {r : Res π}
    (hb : Big E c s s' r) : ∀ x, x ∈ s.initS → x ∈ s'.initS := by
  refine Big.rel (R := fun s s' => ∀ x, x ∈ s.initS → x ∈ s'.initS) (fun _ _ h => h)
    (fun h1 h2 x hx => h2 x (h1 x hx)) (fun _ _ h => h) (fun _ _ _ _ _ h => h) ?_
    (fun s nt x hx => List.mem_append_left _ hx) ?_ ?_ hb
  · intro s F args nt v i r s3 hp
    obtain ⟨_, _, _, _, rfl⟩ := pushStep_fields E hk hp
    exact fun _ h => h
  · intro s nt m l s3 hp
    obtain ⟨_, _, _, _, rfl⟩ := initPush_fields E hk hp
    exact fun _ h => h
  · intro s nt P args v s3 pr hc
    obtain ⟨c, rfl⟩ := computePrio_step E hc
    exact fun _ h => h

theorem query_initS (E : Env U π) (hk : E.kway = true) {nt : UNT U} {p : Option Prog} {s s' : St U π} {r : Res π}
    (hb : Big E (.query nt p) s s' r) : nt ∈ s'.initS := by
  cases hb with
  | query_direct h hb => exact big_initS E hk hb nt (by simpa using h)
  | query_init h h0 hb =>
    apply big_initS E hk hb
    cases h0 with
    | init_skip h' => rw [h] at h'; cases h'
    | init_run h' hrs hr hp hq' =>
      apply big_initS E hk hq'
      obtain ⟨_, _, _, _, rfl⟩ := initPush_fields E hk hp
      exact big_initS E hk hr nt (by simp)

theorem pushNext_fields {E : Env U π} {fuel : Nat} {s s' : St U π} {nt : UNT U} {p : Option Prog}
    (hp : pushNext E fuel s nt p = some s') :
    ∃ s1 r c sh, query E fuel s nt p = some (s1, r) ∧ s' = { s1 with cache := c, startHeap := sh } := by
  obtain ⟨s1, r, hq, ⟨_, rfl⟩ | ⟨q, s2, pr, w, _, hcp, _, rfl⟩⟩ := pushNext_eq hp
  · exact ⟨_, r, _, _, hq, rfl⟩
  · obtain ⟨c, rfl⟩ := computePrio_step E hcp
    exact ⟨s1, r, c, _, hq, rfl⟩

theorem pushNext_deleted {E : Env U π} (hk : E.kway = true) {fuel : Nat} {s s' : St U π} {nt : UNT U} {p : Option Prog}
    (hp : pushNext E fuel s nt p = some s') : s'.deleted = s.deleted := by
  obtain ⟨s1, r, c, sh, hq, rfl⟩ := pushNext_fields hp
  exact (big_deleted E (big_of_query E hq) hk :)

theorem pushNext_initS {E : Env U π} (hk : E.kway = true) {fuel : Nat} {s s' : St U π} {nt : UNT U} {p : Option Prog}
    (hp : pushNext E fuel s nt p = some s') : ∀ x, x ∈ s.initS → x ∈ s'.initS := by
  obtain ⟨s1, r, c, sh, hq, rfl⟩ := pushNext_fields hp
  exact (big_initS E hk (big_of_query E hq) :)

def Acyclic (E : Env U π) (rank : UNT U → Nat) : Prop :=
  ∀ nt F v w, (v, w) ∈ altsOf E nt F → ∀ a ∈ v, rank a < rank nt

/-- `s` and `s'` hold the same for `nt` in every table that the invariants of one non-terminal (`NTInv`, `CInv`, `Uninit`)
    read at that non-terminal -/
structure Same (s s' : St U π) (nt : UNT U) : Prop where
  heap : s'.heapOf nt = s.heapOf nt
  succ : s'.succOf nt = s.succOf nt
  seen : s'.seenOf nt = s.seenOf nt
  init : s'.initS.contains nt = s.initS.contains nt
  maxNT : AList.lookup nt s'.maxNT = AList.lookup nt s.maxNT
  keys : ∀ p, AList.lookup (nt, p) s'.keys = AList.lookup (nt, p) s.keys
  maxRule : ∀ P v, AList.lookup (nt, P, v) s'.maxRule = AList.lookup (nt, P, v) s.maxRule

theorem Same.refl (s : St U π) (nt : UNT U) : Same s s nt := ⟨rfl, rfl, rfl, rfl, rfl, fun _ => rfl, fun _ _ => rfl⟩
theorem Same.trans {s s1 s2 : St U π} {nt : UNT U} (h1 : Same s s1 nt) (h2 : Same s1 s2 nt) : Same s s2 nt :=
  ⟨h2.heap.trans h1.heap, h2.succ.trans h1.succ, h2.seen.trans h1.seen, h2.init.trans h1.init,
   h2.maxNT.trans h1.maxNT, fun p => (h2.keys p).trans (h1.keys p), fun P v => (h2.maxRule P v).trans (h1.maxRule P v)⟩

def Only (x : UNT U) (s s' : St U π) : Prop := ∀ nt, nt ≠ x → Same s s' nt

/-- a non-terminal of rank at least `r` other than `x` finds its tables unchanged: what a call at `x` with `rank x = r`
    gives, the calls it makes being at non-terminals of smaller rank (`Frame.lift`) -/
def Frame (rank : UNT U → Nat) (r : Nat) (x : Option (UNT U)) (s s' : St U π) : Prop :=
  ∀ nt, r ≤ rank nt → some nt ≠ x → Same s s' nt

theorem Frame.refl (rank : UNT U → Nat) (r : Nat) (x : Option (UNT U)) (s : St U π) : Frame rank r x s s :=
  fun nt _ _ => Same.refl s nt
theorem Frame.trans {rank : UNT U → Nat} {r : Nat} {x : Option (UNT U)} {s s1 s2 : St U π}
    (h1 : Frame rank r x s s1) (h2 : Frame rank r x s1 s2) : Frame rank r x s s2 :=
  fun nt a b => (h1 nt a b).trans (h2 nt a b)
theorem Only.frame {rank : UNT U → Nat} {x : UNT U} {s s' : St U π} (h : Only x s s') (r : Nat) :
    Frame rank r (some x) s s' :=
  fun nt _ hne => h nt (fun e => hne (by rw [e]))
/-- a call at a non-terminal of smaller rank -/
theorem Frame.lift {rank : UNT U → Nat} {r r' : Nat} {y : UNT U} {x : Option (UNT U)} {s s' : St U π}
    (h : Frame rank r (some y) s s') (hr : r ≤ r') (hy : rank y < r') : Frame rank r' x s s' := by
  intro nt hnt _
  apply h nt (by omega)
  intro e
  cases e
  omega
theorem Frame.weaken {rank : UNT U → Nat} {r r' : Nat} {x : Option (UNT U)} {s s' : St U π}
    (h : Frame rank r none s s') (hr : r ≤ r') : Frame rank r' x s s' :=
  fun nt hnt _ => h nt (by omega) (by simp)

theorem lookup_insert_fst_ne {α β γ : Type} [DecidableEq α] [DecidableEq β] (a a' : α) (b b' : β) (v : γ)
    (l : AList (α × β) γ) (h : a' ≠ a) : AList.lookup (a', b') (AList.insert (a, b) v l) = AList.lookup (a', b') l :=
  AList.lookup_insert_ne v l (fun e => h (congrArg Prod.fst e))

theorem only_setHeap (s : St U π) (nt : UNT U) (h : List (π × Prog)) : Only nt s (s.setHeap nt h) := by
  intro nt' hne
  refine ⟨?_, rfl, rfl, rfl, rfl, fun _ => rfl, fun _ _ => rfl⟩
  rw [St.heapOf_setHeap, if_neg hne]
theorem only_setSucc (s : St U π) (nt : UNT U) (k : Option Prog) (v : Prog) : Only nt s (s.setSucc nt k v) := by
  intro nt' hne
  refine ⟨rfl, ?_, rfl, rfl, rfl, fun _ => rfl, fun _ _ => rfl⟩
  rw [St.succOf_setSucc, if_neg hne]
theorem only_setPred (s : St U π) (nt : UNT U) (k : Prog) (v : Option Prog) : Only nt s (s.setPred nt k v) :=
  fun _ _ => ⟨rfl, rfl, rfl, rfl, rfl, fun _ => rfl, fun _ _ => rfl⟩
theorem only_addSeen (s : St U π) (nt : UNT U) (p : Prog) : Only nt s (s.addSeen nt p) := by
  intro nt' hne
  refine ⟨rfl, rfl, ?_, rfl, rfl, fun _ => rfl, fun _ _ => rfl⟩
  rw [St.seenOf_addSeen, if_neg hne]
theorem only_setKey (s : St U π) (nt : UNT U) (p : Prog) (v : List (UNT U)) :
    Only nt s { s with keys := AList.insert (nt, p) v s.keys } := by
  intro nt' hne
  exact ⟨rfl, rfl, rfl, rfl, rfl, fun p' => lookup_insert_fst_ne _ _ _ _ _ _ hne, fun _ _ => rfl⟩
theorem only_setMaxRule (s : St U π) (nt : UNT U) (P : Sym) (v : List (UNT U)) (m : Prog) :
    Only nt s { s with maxRule := AList.insert (nt, P, v) m s.maxRule } := by
  intro nt' hne
  exact ⟨rfl, rfl, rfl, rfl, rfl, fun _ => rfl, fun P' v' => lookup_insert_fst_ne _ _ _ _ _ _ hne⟩
theorem only_setMaxNT (s : St U π) (nt : UNT U) (m : Prog) :
    Only nt s { s with maxNT := AList.insert nt m s.maxNT } := by
  intro nt' hne
  exact ⟨rfl, rfl, rfl, rfl, AList.lookup_insert_ne _ _ hne, fun _ => rfl, fun _ _ => rfl⟩
theorem only_addInit (s : St U π) (nt : UNT U) : Only nt s { s with initS := s.initS ++ [nt] } := by
  intro nt' hne
  refine ⟨rfl, rfl, rfl, ?_, rfl, fun _ => rfl, fun _ _ => rfl⟩
  show (s.initS ++ [nt]).contains nt' = s.initS.contains nt'
  rw [List.contains_eq_mem, List.contains_eq_mem]
  simp [hne]
theorem only_cacheStep {s s' : St U π} (h : CacheStep s s') (nt : UNT U) : Only nt s s' := by
  obtain ⟨c, rfl⟩ := h
  exact fun nt' _ => ⟨rfl, rfl, rfl, rfl, rfl, fun _ => rfl, fun _ _ => rfl⟩
theorem Only.trans {x : UNT U} {s s1 s2 : St U π} (h1 : Only x s s1) (h2 : Only x s1 s2) : Only x s s2 :=
  fun nt hne => (h1 nt hne).trans (h2 nt hne)
theorem Only.refl (x : UNT U) (s : St U π) : Only x s s := fun nt _ => Same.refl s nt

theorem only_popTake (s : St U π) (nt : UNT U) (key : Option Prog) (e : π × Prog) (h' : List (π × Prog)) :
    Only nt s (s.popTake nt key e h') :=
  ((only_setHeap s nt h').trans (only_setSucc _ nt key e.2)).trans (only_setPred _ nt e.2 key)

theorem only_altStep (E : Env U π) {s1 s3 : St U π} {nt : UNT U} {P : Sym} {v : List (UNT U)} {args : List Prog} {pr : π}
    (hc : computePrio E { s1 with keys := AList.insert (nt, .node P args) v s1.keys } nt (.node P args) = some (s3, pr)) :
    Only nt s1 { s3 with maxRule := AList.insert (nt, P, v) (.node P args) s3.maxRule } :=
  ((only_setKey s1 nt _ v).trans (only_cacheStep (computePrio_step E hc) nt)).trans (only_setMaxRule s3 nt P v _)

theorem only_pushBoth (E : Env U π) (hk : E.kway = true) (s : St U π) (nt : UNT U) (pr : π) (p : Prog) :
    Only nt s (pushBoth E s nt pr p) := by
  rw [pushBoth_kway E hk]
  split
  · exact only_setHeap s nt _
  · exact Only.refl nt s

theorem only_pushStep (E : Env U π) (hk : E.kway = true) {s s3 : St U π} {F args nt v i r}
    (hp : pushStep E s F args nt v i r = some s3) : Only nt s s3 := by
  rcases pushStep_eq hp with ⟨rfl, _⟩ | ⟨q, s2, pr, _, _, hcp, rfl⟩
  · exact Only.refl nt _
  · exact (((only_addSeen s nt _).trans (only_setKey _ nt _ v)).trans
      (only_cacheStep (computePrio_step E hcp) nt)).trans (only_pushBoth E hk _ nt pr _)

theorem only_initPush (E : Env U π) (hk : E.kway = true) (nt : UNT U) (l : List (Sym × List (UNT U))) (s s' : St U π)
    (hp : initPush E s nt l = some s') : Only nt s s' :=
  initPush_induct (I := Only nt s) (fun {s1 _ _ prog _ pr} h _ _ hcp _ =>
    ((h.trans (only_addSeen s1 nt prog)).trans (only_cacheStep (computePrio_step E hcp) nt)).trans
      (only_pushBoth E hk _ nt pr _)) l (Only.refl nt s) hp

/-- the `r` and `x` of the `Frame` of a call (`big_frame`): the non-terminal the call is at and its rank; `initArgs` is at
    none, and works below one more than the largest rank of its arguments -/
def Call.bound (rank : UNT U → Nat) : Call U π → Nat
  | .query nt _ => rank nt
  | .lop nt _ => rank nt
  | .popLoop nt _ => rank nt
  | .addSucc _ nt => rank nt
  | .addLoop _ _ nt _ _ => rank nt
  | .initNT nt => rank nt
  | .initRules nt _ _ => rank nt
  | .initAlts nt _ _ _ => rank nt
  | .initArgs v _ => (v.map (fun a => rank a + 1)).foldr max 0
def Call.site : Call U π → Option (UNT U)
  | .query nt _ => some nt
  | .lop nt _ => some nt
  | .popLoop nt _ => some nt
  | .addSucc _ nt => some nt
  | .addLoop _ _ nt _ _ => some nt
  | .initNT nt => some nt
  | .initRules nt _ _ => some nt
  | .initAlts nt _ _ _ => some nt
  | .initArgs _ _ => none

theorem bound_le_of_forall (rank : UNT U → Nat) (v : List (UNT U)) (r : Nat) (h : ∀ a ∈ v, rank a < r) :
    (v.map (fun a => rank a + 1)).foldr max 0 ≤ r := by
  induction v with
  | nil => simp
  | cons a v ih =>
    simp only [List.map_cons, List.foldr_cons]
    have h1 := h a List.mem_cons_self
    have h2 := ih (fun b hb => h b (List.mem_cons_of_mem _ hb))
    omega

theorem big_frame (E : Env U π) (H : GHyp E) (rank : UNT U → Nat) (hac : Acyclic E rank) {c : Call U π}
    {s s' : St U π} {r : Res π} (hb : Big E c s s' r) :
    SInv E s → SPre E c → Frame rank (c.bound rank) c.site s s' := by
  have hk := H.kway
  induction hb with
  | query_direct h hb ih => intro hi _; exact ih hi trivial
  | query_init h h0 hb ih0 ih =>
    intro hi _
    exact (ih0 hi trivial).trans (ih (big_sound E H h0 hi trivial).1 trivial)
  | lop_hit h => intro _ _; exact Frame.refl _ _ _ _
  | lop_miss h hb ih => intro hi _; exact ih hi trivial
  | pop_empty h => intro _ _; exact Frame.refl _ _ _ _
  | @pop_deleted s s1 s' nt key e h' x r h hd ha hb iha ihb =>
    intro hi _
    have h1 : SInv E (s.setHeap nt h') := hi.popDrop h
    exact (((only_setHeap s nt h').frame _).trans (iha h1 trivial)).trans
      (ihb (big_sound E H ha h1 trivial).1 trivial)
  | @pop_take s s' nt key e h' x h hd ha iha =>
    intro hi _
    exact ((only_popTake s nt key e h').frame _).trans (iha (hi.popTake h key) trivial)
  | succ_leaf => intro _ _; exact Frame.refl _ _ _ _
  | succ_fun hk' hb ih => intro hi _; exact ih hi (hi.keys_ok _ _ _ _ hk')
  | loop_done => intro _ _; exact Frame.refl _ _ _ _
  | @loop_step s s1 s3 s' F args nt v i ai si r x hai hsi hq hp hb ihq ihb =>
    intro hi hpre
    have hpre' : KeyOK E nt F args v := hpre
    obtain ⟨w, hw⟩ := hpre'.1
    have hrk : rank si < rank nt := hac nt F v w hw si (List.mem_of_getElem? hsi)
    obtain ⟨_, _, hstep⟩ := hi.loopStep H hpre' hsi hq hp
    have f1 : Frame rank (rank nt) (some nt) s s1 := (ihq hi trivial).lift (Nat.le_of_lt hrk) hrk
    exact (f1.trans ((only_pushStep E hk hp).frame _)).trans (ihb hstep hpre')
  | init_skip h => intro _ _; exact Frame.refl _ _ _ _
  | @init_run s s1 s3 s' nt rs b r h hrs hr hp hq ihr ihq =>
    intro hi _
    obtain ⟨h0, hpre1, _, _, h3⟩ := hi.initRun H hrs hr hp
    exact (((((only_addInit s nt).frame _).trans (ihr h0 hpre1)).trans ((only_setMaxNT s1 nt b.1).frame _)).trans
      ((only_initPush E hk nt _ _ _ hp).frame _)).trans (ihq h3 trivial)
  | rules_nil => intro _ _; exact Frame.refl _ _ _ _
  | @rules_cons s s1 s' nt P alts rest best best1 best' ha hb iha ihb =>
    intro hi hpre
    obtain ⟨hpreA, h1, hpreR⟩ := hi.rulesCons H hpre ha
    exact (iha hi hpreA).trans (ihb h1 hpreR)
  | alts_nil => intro _ _; exact Frame.refl _ _ _ _
  | @alts_leaf s s1 s3 nt P v w rest best arguments pr ha hc hv iha =>
    intro hi hpre
    have hm := hpre.1 _ List.mem_cons_self
    have f1 : Frame rank (rank nt) (some nt) s s1 :=
      (iha hi trivial).weaken (bound_le_of_forall rank v _ (hac nt P v w hm))
    exact f1.trans ((only_altStep E hc).frame _)
  | @alts_cons s s1 s3 s' nt P v w rest best arguments pr best' ha hc hv hb iha ihb =>
    intro hi hpre
    have hm := hpre.1 _ List.mem_cons_self
    obtain ⟨_, _, h2, hpreR⟩ := hi.altsCons H hpre ha hc
    have f1 : Frame rank (rank nt) (some nt) s s1 :=
      (iha hi trivial).weaken (bound_le_of_forall rank v _ (hac nt P v w hm))
    exact (f1.trans ((only_altStep E hc).frame _)).trans (ihb h2 hpreR)
  | args_nil => intro _ _; exact Frame.refl _ _ _ _
  | @args_cons s s1 s' si v acc m r0 l hi' hm hb ihi ihb =>
    intro hi _
    have h1 := (big_sound E H hi' hi trivial).1
    have f1 : Frame rank (Call.bound rank (.initArgs (si :: v) acc : Call U π)) none s s1 := by
      apply (ihi hi trivial).lift
      · show rank si ≤ max (rank si + 1) _; omega
      · show rank si < max (rank si + 1) _; omega
    have f2 : Frame rank (Call.bound rank (.initArgs (si :: v) acc : Call U π)) none s1 s' := by
      apply (ihb h1 trivial).weaken
      show _ ≤ max (rank si + 1) _
      exact Nat.le_max_right _ _
    exact f1.trans f2

/-- on an acyclic grammar the loop of `__add_successors_to_heap__` of `nt` only queries non-terminals of smaller rank,
    and those calls leave `nt` alone (`big_frame`) -/
theorem addLoop_rel (E : Env U π) (H : GHyp E) (rank : UNT U → Nat) (hac : Acyclic E rank) {nt : UNT U}
    (R : St U π → St U π → Prop) (hrefl : ∀ s, R s s) (htrans : ∀ {a b c}, R a b → R b c → R a c)
    (hsame : ∀ {s s1}, Same s s1 nt → R s s1)
    (hpush : ∀ {s s3 F args v i r}, pushStep E s F args nt v i r = some s3 → R s s3)
    {F : Sym} {args : List Prog} {v : List (UNT U)} {i : Nat} {s s' : St U π} {x : Res π}
    (hb : Big E (.addLoop F args nt v i) s s' x) (hi : SInv E s) (hko : KeyOK E nt F args v) : R s s' := by
  generalize hc : Call.addLoop F args nt v i = c at hb
  induction hb generalizing i with
  | loop_done => exact hrefl _
  | @loop_step s s1 s3 s' F' args' nt' v' i' ai si r x hai hsi hq hp hb ihq ihb =>
    cases hc
    obtain ⟨w, hw⟩ := hko.1
    have hrk : rank si < rank nt := hac nt F v w hw si (List.mem_of_getElem? hsi)
    obtain ⟨_, _, hstep⟩ := hi.loopStep H hko hsi hq hp
    have f1 := big_frame E H rank hac hq hi trivial nt (Nat.le_of_lt hrk)
      (by intro e; cases e; exact Nat.lt_irrefl _ hrk)
    exact htrans (htrans (hsame f1) (hpush hp)) (ihb hstep rfl)
  | _ => cases hc

theorem addSucc_succOf (E : Env U π) (H : GHyp E) (rank : UNT U → Nat) (hac : Acyclic E rank) {prog : Prog}
    {nt : UNT U} {s s' : St U π} {x : Res π} (hb : Big E (.addSucc prog nt) s s' x) (hi : SInv E s) :
    s'.succOf nt = s.succOf nt := by
  cases hb with
  | succ_leaf => rfl
  | @succ_fun _ _ F a as _ v x hk' hb' =>
    exact addLoop_rel E H rank hac (fun s s' => s'.succOf nt = s.succOf nt) (fun _ => rfl) (fun h1 h2 => h2.trans h1)
      (fun f => f.succ) (fun hp => by obtain ⟨_, _, _, _, rfl⟩ := pushStep_fields E H.kway hp; rfl) hb' hi
      (hi.keys_ok _ _ _ _ hk')

theorem noReent_of_acyclic (E : Env U π) (H : GHyp E) (rank : UNT U → Nat) (hac : Acyclic E rank) : NoReent E :=
  fun _ _ _ _ _ hi hb => addSucc_succOf E H rank hac hb hi

def acyclicB (G : UG U) (rank : UNT U → Nat) : Bool :=
  G.rules.all (fun r => r.2.all (fun a => a.2.all (fun x => x.1.all (fun y => decide (rank y < rank r.1)))))

theorem acyclic_of_check (E : Env U π) (rank : UNT U → Nat) (h : acyclicB E.G rank = true) : Acyclic E rank := by
  intro nt F v w hm a ha
  obtain ⟨rs, h1, al, h2, h3⟩ := altsOf_mem E nt F _ hm
  have r1 := List.all_eq_true.mp h (nt, rs) h1
  have r2 := List.all_eq_true.mp r1 (F, al) h2
  have r3 := List.all_eq_true.mp r2 (v, w) h3
  have r4 := List.all_eq_true.mp r3 a ha
  simpa using r4

/-! ### an exhausted non-terminal stays exhausted -/

/-- the non-terminal whose heap a call may push on without popping it first -/
def Call.inner : Call U π → Option (UNT U)
  | .addSucc _ nt => some nt
  | .addLoop _ _ nt _ _ => some nt
  | .initRules nt _ _ => some nt
  | .initAlts nt _ _ _ => some nt
  | _ => none

/-- an exhausted `si` stays exhausted, with the same successors. `initS.contains si` is asked because an uninitialised
    non-terminal also has an empty heap, which `__init_non_terminal__(si)` then fills (case `init_run` of
    `big_emptyKeep`). -/
def Kept (s s' : St U π) (si : UNT U) : Prop :=
  s.initS.contains si = true → s.heapOf si = [] →
    s'.initS.contains si = true ∧ s'.heapOf si = [] ∧ s'.succOf si = s.succOf si

theorem Kept.refl (s : St U π) (si : UNT U) : Kept s s si := fun a b => ⟨a, b, rfl⟩
theorem Kept.trans {s s1 s2 : St U π} {si : UNT U} (h1 : Kept s s1 si) (h2 : Kept s1 s2 si) : Kept s s2 si := by
  intro a b
  obtain ⟨a1, b1, c1⟩ := h1 a b
  obtain ⟨a2, b2, c2⟩ := h2 a1 b1
  exact ⟨a2, b2, c2.trans c1⟩
theorem Kept.of_same {s s' : St U π} {si : UNT U} (h : Same s s' si) : Kept s s' si :=
  fun a b => ⟨by rw [h.init]; exact a, by rw [h.heap]; exact b, h.succ⟩

theorem big_emptyKeep (E : Env U π) (hk : E.kway = true) {c : Call U π} {s s' : St U π} {r : Res π}
    (hb : Big E c s s' r) : ∀ si, c.inner ≠ some si → Kept s s' si := by
  induction hb with
  | query_direct h hb ih => intro si _; exact ih si (by simp [Call.inner])
  | query_init h h0 hb ih0 ih =>
    intro si _
    exact (ih0 si (by simp [Call.inner])).trans (ih si (by simp [Call.inner]))
  | lop_hit h => intro si _; exact Kept.refl _ _
  | lop_miss h hb ih => intro si _; exact ih si (by simp [Call.inner])
  | pop_empty h => intro si _; exact Kept.refl _ _
  | @pop_deleted s s1 s' nt key e h' x r h hd ha hb iha ihb =>
    intro si _ hc hh
    have hne : si ≠ nt := by
      intro e'; subst e'
      rw [hh] at h; simp [Heapq.pop] at h
    exact (((Kept.of_same (only_setHeap s nt h' si hne)).trans
      (iha si (by simp only [Call.inner]; intro e'; cases e'; exact hne rfl))).trans
      (ihb si (by simp [Call.inner]))) hc hh
  | @pop_take s s' nt key e h' x h hd ha iha =>
    intro si _ hc hh
    have hne : si ≠ nt := by
      intro e'; subst e'
      rw [hh] at h; simp [Heapq.pop] at h
    exact ((Kept.of_same (only_popTake s nt key e h' si hne)).trans
      (iha si (by simp only [Call.inner]; intro e'; cases e'; exact hne rfl))) hc hh
  | succ_leaf => intro si _; exact Kept.refl _ _
  | succ_fun hk' hb ih => intro si hsi; exact ih si hsi
  | loop_done => intro si _; exact Kept.refl _ _
  | @loop_step s s1 s3 s' F args nt v i ai sj r x hai hsi hq hp hb ihq ihb =>
    intro si hne
    have hne' : si ≠ nt := by intro e'; apply hne; simp [Call.inner, e']
    exact ((ihq si (by simp [Call.inner])).trans (Kept.of_same (only_pushStep E hk hp si hne'))).trans (ihb si hne)
  | init_skip h => intro si _; exact Kept.refl _ _
  | @init_run s s1 s3 s' nt rs b r h hrs hr hp hq ihr ihq =>
    intro si _ hc hh
    have hne : si ≠ nt := by intro e'; subst e'; rw [h] at hc; cases hc
    exact ((((Kept.of_same (only_addInit s nt si hne)).trans
      (ihr si (by simp only [Call.inner]; intro e'; cases e'; exact hne rfl))).trans
      (Kept.of_same (((only_setMaxNT s1 nt b.1).trans (only_initPush E hk nt _ _ _ hp)) si hne))).trans
      (ihq si (by simp [Call.inner]))) hc hh
  | rules_nil => intro si _; exact Kept.refl _ _
  | rules_cons ha hb iha ihb => intro si hne; exact (iha si hne).trans (ihb si hne)
  | alts_nil => intro si _; exact Kept.refl _ _
  | @alts_leaf s s1 s3 nt P v w rest best arguments pr ha hc hv iha =>
    intro si hne
    have hne' : si ≠ nt := by intro e'; apply hne; simp [Call.inner, e']
    exact (iha si (by simp [Call.inner])).trans (Kept.of_same (only_altStep E hc si hne'))
  | @alts_cons s s1 s3 s' nt P v w rest best arguments pr best' ha hc hv hb iha ihb =>
    intro si hne
    have hne' : si ≠ nt := by intro e'; apply hne; simp [Call.inner, e']
    exact ((iha si (by simp [Call.inner])).trans (Kept.of_same (only_altStep E hc si hne'))).trans (ihb si hne)
  | args_nil => intro si _; exact Kept.refl _ _
  | args_cons hi hm hb ihi ihb =>
    intro si _
    exact (ihi si (by simp [Call.inner])).trans (ihb si (by simp [Call.inner]))

end PS.UHS
