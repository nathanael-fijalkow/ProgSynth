/- Soundness of heap search on context-free grammars (`TT S Unit`) as a state invariant (`SInv`):
   every program of a heap / `seen` set / `succ` table of a non-terminal is derivable from it, and the priority stored
   with a heap element or in the memo table is the one the specification gives. That specification, `prioSpec`, with
   `CacheOK` and `computePrio_spec`, is what every later file of heap search states priorities with. -/
import PS.Model.Prob
import PS.Proofs.Grammar
import PS.Proofs.Enum.HSBig
import PS.Proofs.Enum.Tables
namespace PS.HS
open PS PS.G
set_option linter.unusedSectionVars false
variable {S π : Type} [DecidableEq S]

/-! ### `derive` / `derive_all` on a context-free grammar: the pending stack is popped -/

/-- what deriving a complete sub-program leaves: the stack loses its top, which is the next non-terminal -/
def DAdv (info : Info S) (r : Info S × NT S Unit) : Prop :=
  r.1 = info.tail ∧ ∀ b rest, info = b :: rest → r.2 = argNT b

theorem genList_nil_right (G : TT S Unit) (ks : List Prog) (h : genList G ks [] = true) : ks = [] := by
  cases ks with
  | nil => rfl
  | cons k ks => simp [genList] at h

mutual
  theorem deriveAll_gen (G : TT S Unit) :
      ∀ (t : Prog) (nt : NT S Unit) (info : Info S), gen G t nt = true →
        ∃ r, deriveAll G t info nt = some r ∧ DAdv info r
    | .node f kids, nt, info, hg => by
      rw [gen] at hg
      rw [deriveAll, derive]
      cases hr : G.rule? nt f with
      | none => simp [hr] at hg
      | some rl =>
        obtain ⟨args, st⟩ := rl
        simp only [hr] at hg ⊢
        cases args with
        | nil =>
          have hk := genList_nil_right G kids hg
          subst hk
          cases info with
          | nil =>
            refine ⟨([], (Ty.unknown, (nt.2.1, st))), by simp [deriveAllList, deriveWith], rfl, ?_⟩
            intro b rest h; cases h
          | cons b rest =>
            refine ⟨(rest, (b.1, (b.2, st))), by simp [deriveAllList, deriveWith], rfl, ?_⟩
            intro b' rest' h; cases h; rfl
        | cons a as =>
          have := deriveAllList_gen G kids a as info hg
          simpa [deriveWith, argNT] using this
  theorem deriveAllList_gen (G : TT S Unit) :
      ∀ (ks : List Prog) (a : Ty × S) (as : List (Ty × S)) (info : Info S),
        genList G ks (a :: as) = true →
        ∃ r, deriveAllList G ks (as ++ info) (argNT a) = some r ∧ DAdv info r
    | [], a, as, info, h => by simp [genList] at h
    | k :: ks, (t, s), as, info, h => by
      simp only [genList, Bool.and_eq_true] at h
      obtain ⟨r1, h1, ha1, ha2⟩ := deriveAll_gen G k (t, (s, ())) (as ++ info) h.1
      rw [deriveAllList]
      simp only [argNT, h1]
      cases as with
      | nil =>
        have hks := genList_nil_right G ks h.2
        subst hks
        exact ⟨r1, by simp [deriveAllList], ha1, ha2⟩
      | cons a' as' =>
        simp only [List.cons_append, List.tail_cons] at ha1
        have hn := ha2 a' (as' ++ info) rfl
        rw [ha1, hn]
        exact deriveAllList_gen G ks a' as' info h.2
end

theorem genList_length' (G : TT S Unit) (ks : List Prog) (args : List (Ty × S)) (h : genList G ks args = true) :
    ks.length = args.length := ((genList_iff G ks args).mp h).1

theorem genList_get (G : TT S Unit) (ks : List Prog) (args : List (Ty × S)) (i : Nat) (k : Prog) (a : Ty × S)
    (h : genList G ks args = true) (hk : ks[i]? = some k) (ha : args[i]? = some a) : gen G k (argNT a) = true :=
  ((genList_iff G ks args).mp h).2 i k a hk ha

theorem genList_set (G : TT S Unit) : ∀ (ks : List Prog) (args : List (Ty × S)) (i : Nat) (q : Prog) (a : Ty × S),
    genList G ks args = true → args[i]? = some a → gen G q (argNT a) = true →
    genList G (ks.set i q) args = true
  | [], _, _, _, _, h, _, _ => by simpa using h
  | _ :: _, [], _, _, _, h, _, _ => by simp [genList] at h
  | k0 :: ks, (t, s) :: as, 0, q, a, h, ha, hq => by
    simp only [genList, Bool.and_eq_true] at h
    simp only [List.getElem?_cons_zero, Option.some.injEq] at ha
    subst ha
    simp only [List.set_cons_zero, genList, Bool.and_eq_true]
    exact ⟨hq, h.2⟩
  | k0 :: ks, (t, s) :: as, i + 1, q, a, h, ha, hq => by
    simp only [genList, Bool.and_eq_true] at h
    simp only [List.getElem?_cons_succ] at ha
    simp only [List.set_cons_succ, genList, Bool.and_eq_true]
    exact ⟨h.1, genList_set G ks as i q a h.2 ha hq⟩

/-- where `derive_all` stands when, traversing the arguments of a rule with argument types `ra`, it is about to derive
    argument `n` -/
def AtArg (ra : List (Ty × S)) (n : Nat) (info : Info S) (cur : NT S Unit) : Prop :=
  info = ra.drop (n + 1) ∧ ∃ a, ra[n]? = some a ∧ cur = argNT a

theorem AtArg.first (nt : NT S Unit) {ra : List (Ty × S)} (h : 0 < ra.length) :
    AtArg ra 0 (deriveWith [] nt ra ()).1 (deriveWith [] nt ra ()).2 := by
  obtain _ | ⟨⟨t0, s0⟩, as0⟩ := ra
  · cases h
  · exact ⟨by simp [deriveWith], (t0, s0), rfl, by simp [deriveWith, argNT]⟩

theorem AtArg.next {G : TT S Unit} {ra : List (Ty × S)} {n : Nat} {info : Info S} {cur : NT S Unit} {m : Prog}
    {r : Info S × NT S Unit} (h : AtArg ra n info cur) (hg : gen G m cur = true)
    (hda : deriveAll G m info cur = some r) (hlt : n + 1 < ra.length) : AtArg ra (n + 1) r.1 r.2 := by
  obtain ⟨hinfo, -⟩ := h
  obtain ⟨r2, hr2, hadv1, hadv2⟩ := deriveAll_gen G m cur info hg
  rw [hda] at hr2
  cases hr2
  have hdrop : ra.drop (n + 1) = ra[n + 1] :: ra.drop (n + 1 + 1) := List.drop_eq_getElem_cons hlt
  exact ⟨by rw [hadv1, hinfo, hdrop]; rfl, ra[n + 1], List.getElem?_eq_getElem hlt, hadv2 _ _ (by rw [hinfo, hdrop])⟩

/-! ### the priority function (specification) and `compute_priority` -/

/- the priority function of the statements: the rule's priority combined, from left to right, with the
   priorities of the arguments at the non-terminals of the rule (heap search: the product of the
   rule probabilities, see `prioSpec_prob`; bucket search: the sum of the rule buckets) -/
mutual
  def prioSpec (E : Env S Unit π) : Prog → NT S Unit → Option π
    | .node F kids, nt =>
      match ruleW E nt F, E.G.rule? nt F with
      | some w, some (ra, _) => prioList E kids ra (E.ops.ofRule w)
      | _, _ => none
  def prioList (E : Env S Unit π) : List Prog → List (Ty × S) → π → Option π
    | [], [], acc => some acc
    | k :: ks, a :: as, acc =>
      match prioSpec E k (argNT a) with
      | none => none
      | some pk => prioList E ks as (E.ops.combine acc pk)
    | _, _, _ => none
end

def CacheOK (E : Env S Unit π) (c : AList (Prog × NT S Unit) π) : Prop :=
  ∀ p nt v, AList.lookup (p, nt) c = some v → prioSpec E p nt = some v

theorem CacheOK.insert {E : Env S Unit π} {c : AList (Prog × NT S Unit) π} (h : CacheOK E c)
    (p : Prog) (nt : NT S Unit) (v : π) (hv : prioSpec E p nt = some v) :
    CacheOK E (AList.insert (p, nt) v c) := by
  intro p' nt' v' hl
  rw [AList.lookup_insert] at hl
  split at hl
  · rename_i heq; cases hl; cases heq; exact hv
  · exact h p' nt' v' hl

theorem prioArgs_spec (E : Env S Unit π) (c : AList (Prog × NT S Unit) π) (hc : CacheOK E c) :
    ∀ (ks : List Prog) (a : Ty × S) (as : List (Ty × S)) (acc p : π),
      genList E.G ks (a :: as) = true → prioArgs E c ks as (argNT a) acc = some p →
      prioList E ks (a :: as) acc = some p
  | [], a, as, acc, p, hg, _ => by simp [genList] at hg
  | k :: rest, (t, s0), as, acc, p, hg, h => by
    simp only [genList, Bool.and_eq_true] at hg
    unfold prioArgs at h
    cases hl : AList.lookup (k, argNT (t, s0)) c with
    | none => simp [hl] at h
    | some pa =>
      simp only [hl] at h
      have hpa := hc k (argNT (t, s0)) pa hl
      rw [prioList, hpa]
      simp only
      cases as with
      | nil =>
        have hr := genList_nil_right E.G rest hg.2
        subst hr
        split at h
        · simp only [Option.some.injEq] at h; subst h; rfl
        · cases hda : deriveAll E.G k [] (argNT (t, s0)) with
          | none => simp [hda] at h
          | some r =>
            simp only [hda, prioArgs, Option.some.injEq] at h
            subst h; rfl
      | cons a' as' =>
        cases rest with
        | nil => simp [genList] at hg
        | cons k' rest' =>
          simp only [List.isEmpty_cons, Bool.false_and, Bool.false_eq_true, if_false] at h
          obtain ⟨r2, hr2, hadv1, hadv2⟩ := deriveAll_gen E.G k (argNT (t, s0)) (a' :: as') hg.1
          rw [hr2] at h
          simp only at h
          rw [hadv1, hadv2 a' as' rfl] at h
          exact prioArgs_spec E c hc (k' :: rest') a' as' _ p hg.2 h

theorem computePrio_spec (E : Env S Unit π) (c : AList (Prog × NT S Unit) π) (hc : CacheOK E c)
    (nt : NT S Unit) (prog : Prog) (hg : gen E.G prog nt = true) (c' : AList (Prog × NT S Unit) π) (v : π)
    (h : computePrio E c nt prog = some (c', v)) : prioSpec E prog nt = some v ∧ CacheOK E c' := by
  revert h
  fun_cases computePrio E c nt prog <;> intro h <;> cases h
  case case1 hp =>
    split at hp
    · exact ⟨hc _ _ _ hp, hc⟩
    · cases hp
  case case3 F w hw _ =>
    rw [gen] at hg
    have hv : prioSpec E (.node F []) nt = some (E.ops.ofRule w) := by
      rw [prioSpec, hw]
      cases hr : E.G.rule? nt F with
      | none => simp [hr] at hg
      | some rl =>
        obtain ⟨_ | _, u⟩ := rl
        · rfl
        · simp [hr, genList] at hg
    exact ⟨hv, hc.insert _ _ _ hv⟩
  case case6 F a as w r rl hr hd hw hlen _ hp =>
    obtain ⟨ra, u⟩ := rl
    rw [gen] at hg
    simp only [hr] at hg
    rw [derive, hr] at hd
    cases hd
    obtain _ | ⟨a0, as0⟩ := ra
    · simp [genList] at hg
    · have hdw : deriveWith ([] : Info S) nt (a0 :: as0) u = (as0, argNT a0) := by
        obtain ⟨t0, s0⟩ := a0
        simp [deriveWith, argNT]
      rw [hdw] at hp
      have hv : prioSpec E (.node F (a :: as)) nt = some v := by
        rw [prioSpec, hw, hr]
        exact prioArgs_spec E c hc (a :: as) a0 as0 _ v hg hp
      exact ⟨hv, hc.insert _ _ _ hv⟩

/-! ### the invariant -/

/-- soundness invariant: what is stored for a non-terminal is derivable from it -/
structure SInv (E : Env S Unit π) (s : St S Unit π) : Prop where
  seen_gen : ∀ nt p, p ∈ s.seenOf nt → gen E.G p nt = true
  heap_seen : ∀ nt e, e ∈ s.heapOf nt → e.2 ∈ s.seenOf nt
  succ_seen : ∀ nt k v, AList.lookup k (s.succOf nt) = some v → v ∈ s.seenOf nt
  cache_ok : CacheOK E s.cache
  heap_prio : ∀ nt e, e ∈ s.heapOf nt → prioSpec E e.2 nt = some e.1

theorem SInv.congr {E : Env S Unit π} {s s' : St S Unit π} (h : SInv E s)
    (h1 : ∀ nt, s'.seenOf nt = s.seenOf nt) (h2 : ∀ nt, s'.heapOf nt = s.heapOf nt)
    (h3 : ∀ nt, s'.succOf nt = s.succOf nt) (h4 : CacheOK E s'.cache) : SInv E s' :=
  ⟨fun nt p hp => h.seen_gen nt p (h1 nt ▸ hp),
   fun nt e he => h1 nt ▸ h.heap_seen nt e (h2 nt ▸ he),
   fun nt k v hk => h1 nt ▸ h.succ_seen nt k v (h3 nt ▸ hk), h4,
   fun nt e he => h.heap_prio nt e (h2 nt ▸ he)⟩

theorem SInv.setHeap_sub {E : Env S Unit π} {s : St S Unit π} (h : SInv E s) (nt : NT S Unit)
    (h' : List (π × Prog)) (hsub : ∀ e ∈ h', e ∈ s.heapOf nt) : SInv E (s.setHeap nt h') :=
  ⟨h.seen_gen, fun nt' e he => h.heap_seen nt' e (mem_heapOf_setHeap hsub he), h.succ_seen, h.cache_ok,
    fun nt' e he => h.heap_prio nt' e (mem_heapOf_setHeap hsub he)⟩

theorem SInv.setSucc {E : Env S Unit π} {s : St S Unit π} (h : SInv E s) (nt : NT S Unit)
    (k : Option Prog) (v : Prog) (hv : v ∈ s.seenOf nt) : SInv E (s.setSucc nt k v) := by
  refine ⟨h.seen_gen, h.heap_seen, ?_, h.cache_ok, h.heap_prio⟩
  intro nt' k' v' hk
  rcases Tables.lookup_link (fun nt' => St.succOf_setSucc s nt nt' k v) hk with ⟨rfl, -, rfl⟩ | ⟨-, hk⟩
  · exact hv
  · exact h.succ_seen nt' k' v' hk

theorem SInv.pushNew {E : Env S Unit π} {s : St S Unit π} (h : SInv E s) (nt : NT S Unit) (np : Prog)
    (hg : gen E.G np nt = true) : SInv E (pushNew E s nt np) := by
  refine ⟨fun nt' p hp => ?_, fun nt' e he => ?_, fun nt' k v hk => ?_, ?_, fun nt' e he => ?_⟩
  · rcases mem_seenOf_pushNew.mp hp with hp | ⟨rfl, rfl⟩
    · exact h.seen_gen nt' p hp
    · exact hg
  · rcases mem_heapOf_pushNew he with he | ⟨rfl, hnp, -⟩
    · exact mem_seenOf_pushNew.mpr (Or.inl (h.heap_seen nt' e he))
    · exact mem_seenOf_pushNew.mpr (Or.inr ⟨rfl, hnp⟩)
  · rw [succOf_pushNew] at hk
    exact mem_seenOf_pushNew.mpr (Or.inl (h.succ_seen nt' k v hk))
  · rcases cache_pushNew E s nt np with ⟨_, e⟩ | ⟨v, hcp⟩
    · rw [e]; exact h.cache_ok
    · exact (computePrio_spec E _ h.cache_ok nt np hg _ v hcp).2
  · rcases mem_heapOf_pushNew he with he | ⟨rfl, hnp, c, hcp, -⟩
    · exact h.heap_prio nt' e he
    · rw [hnp]; exact (computePrio_spec E _ h.cache_ok nt' np hg c e.1 hcp).1

theorem SInv.pushStep {E : Env S Unit π} {s : St S Unit π} (h : SInv E s) (F : Sym) (args : List Prog)
    (nt : NT S Unit) (i : Nat) (r : Option Prog)
    (hg : ∀ q, r = some q → gen E.G (.node F (args.set i q)) nt = true) :
    SInv E (pushStep E s F args nt i r) := by
  rcases pushStep_cases E s F args nt i r with e | ⟨q, hq, -, -, e⟩
  · rw [e]; exact h
  · rw [e]; exact h.pushNew nt _ (hg q hq)

def SPre (E : Env S Unit π) : Call S Unit → Prop
  | .addSucc prog nt => gen E.G prog nt = true
  | .addLoop F args nt i argsLen info s2 =>
    ∃ ra, E.G.rule? nt F = some (ra, ()) ∧ genList E.G args ra = true ∧ argsLen = ra.length ∧
      (i < argsLen → info = ra.drop (i + 1) ∧ ∃ a, ra[i]? = some a ∧ s2 = argNT a)
  | _ => True

theorem SPre.first {E : Env S Unit π} {F : Sym} {a : Prog} {as : List Prog} {nt : NT S Unit}
    {r : Info S × NT S Unit} {rl : List (Ty × S) × Unit} (hg : SPre E (.addSucc (.node F (a :: as)) nt))
    (hd : derive E.G [] nt F = some r) (hr : E.G.rule? nt F = some rl) :
    SPre E (.addLoop F (a :: as) nt 0 rl.1.length r.1 r.2) := by
  have hg' : gen E.G (.node F (a :: as)) nt = true := hg
  obtain ⟨ra, ⟨⟩⟩ := rl
  rw [gen, hr] at hg'
  rw [derive, hr] at hd
  cases hd
  refine ⟨ra, hr, hg', rfl, fun h => AtArg.first nt h⟩

/-- the loop moves on to the next argument whatever member of `s2` was derived at this one -/
theorem SPre.next_of_gen {E : Env S Unit π} {F : Sym} {args : List Prog} {nt s2 : NT S Unit} {i argsLen : Nat}
    {info : Info S} {ai : Prog} {r' : Info S × NT S Unit} (h : SPre E (.addLoop F args nt i argsLen info s2))
    (hg : gen E.G ai s2 = true) (hc : i + 1 < argsLen) (hda : deriveAll E.G ai info s2 = some r') :
    SPre E (.addLoop F args nt (i + 1) argsLen r'.1 r'.2) := by
  obtain ⟨ra, hr, hgl, hlen, hinfo⟩ := h
  have hat : AtArg ra i info s2 := hinfo (by omega)
  exact ⟨ra, hr, hgl, hlen, fun _ => hat.next hg hda (hlen ▸ hc)⟩

theorem SPre.next {E : Env S Unit π} {F : Sym} {args : List Prog} {nt s2 : NT S Unit} {i argsLen : Nat}
    {info : Info S} {ai : Prog} {r' : Info S × NT S Unit} (h : SPre E (.addLoop F args nt i argsLen info s2))
    (hai : args[i]? = some ai) (hc : i + 1 < argsLen) (hda : deriveAll E.G ai info s2 = some r') :
    SPre E (.addLoop F args nt (i + 1) argsLen r'.1 r'.2) := by
  obtain ⟨ra, -, hgl, -, hinfo⟩ := id h
  obtain ⟨-, a, ha, hs2⟩ := hinfo (by omega)
  exact h.next_of_gen (hs2 ▸ genList_get E.G args ra i ai a hgl hai ha) hc hda

def SPost (E : Env S Unit π) : Call S Unit → Option Prog → Prop
  | .query nt _, r => ∀ q, r = some q → gen E.G q nt = true
  | .lop nt _, r => ∀ q, r = some q → gen E.G q nt = true
  | .popLoop nt _, r => ∀ q, r = some q → gen E.G q nt = true
  | _, _ => True

theorem sinv_iter {E : Env S Unit π} {F : Sym} {args : List Prog} {nt s2 : NT S Unit} {i argsLen : Nat}
    {info : Info S} {ai : Prog} {s1 : St S Unit π} {r : Option Prog}
    (hpre : SPre E (.addLoop F args nt i argsLen info s2)) (h : i < argsLen)
    (hq : SInv E s1 ∧ SPost E (.query s2 (some ai)) r) : SInv E (pushStep E s1 F args nt i r) := by
  obtain ⟨ra, hr, hgl, -, hinfo⟩ := hpre
  obtain ⟨-, a, ha, hs2⟩ := hinfo h
  apply hq.1.pushStep
  intro q hq'
  rw [gen, hr]
  exact genList_set E.G args ra i q a hgl ha (hs2 ▸ hq.2 q hq')

theorem big_sound (E : Env S Unit π) {c : Call S Unit} {s s' : St S Unit π} {r : Option Prog}
    (hb : Big E c s s' r) : SInv E s → SPre E c → SInv E s' ∧ SPost E c r := by
  induction hb with
  | query_direct h hb ih => intro hi _; exact ih hi trivial
  | query_first hp h h0 hb ih0 ih =>
    intro hi _
    exact ih (ih0 hi trivial).1 trivial
  | lop_hit h =>
    intro hi _
    refine ⟨hi, ?_⟩
    intro q hq; cases hq
    exact hi.seen_gen _ _ (hi.succ_seen _ _ _ h)
  | lop_miss h hb ih => intro hi _; exact ih hi trivial
  | pop_empty h => intro hi _; exact ⟨hi, by intro q hq; cases hq⟩
  | pop_deleted h hd ha hb iha ihb =>
    intro hi _
    obtain ⟨hm, hsub⟩ := Heapq.mem_of_pop _ _ _ _ h
    have hg := hi.seen_gen _ _ (hi.heap_seen _ _ hm)
    exact ihb (iha (hi.setHeap_sub _ _ hsub) hg).1 trivial
  | @pop_take s s' nt key e h' x h hd ha iha =>
    intro hi _
    obtain ⟨hm, hsub⟩ := Heapq.mem_of_pop _ _ _ _ h
    have hseen := hi.heap_seen _ _ hm
    have hg := hi.seen_gen _ _ hseen
    have h1 := (hi.setHeap_sub nt h' hsub).setSucc nt key e.2 hseen
    refine ⟨(iha (h1.congr (fun _ => rfl) (fun _ => rfl) (fun _ => rfl) h1.cache_ok) hg).1, ?_⟩
    intro q hq; cases hq; exact hg
  | succ_leaf => intro hi _; exact ⟨hi, trivial⟩
  | @succ_fun s s' F a as nt r rl x hd hr hb ih =>
    intro hi hpre
    exact ⟨(ih hi (hpre.first hd hr)).1, trivial⟩
  | loop_done h => intro hi _; exact ⟨hi, trivial⟩
  | @loop_step s s1 s' F args nt i argsLen info s2 ai r r' x h hai hq hc hda hb ihq ihb =>
    intro hi hpre
    exact ⟨(ihb (sinv_iter hpre h (ihq hi trivial)) (hpre.next hai hc hda)).1, trivial⟩
  | @loop_last s s1 F args nt i argsLen info s2 ai r h hai hq hc ihq =>
    intro hi hpre
    exact ⟨sinv_iter hpre h (ihq hi trivial), trivial⟩

end PS.HS
