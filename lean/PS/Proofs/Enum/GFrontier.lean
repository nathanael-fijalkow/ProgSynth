/- The frontier invariant of heap search (acyclic context-free grammar, any priority type satisfying
   `Law`, threshold, filter): in a quiescent state, every member of the grammar all of whose
   sub-programs the filter accepts and whose priority passes the threshold was popped for its
   non-terminal, or the heap of the non-terminal holds an element at least as good (`frontier`).
   Consequences: prefix completeness (`not_better_than_popped`), completeness of an exhausted non-terminal
   (`exhausted_complete`). -/
import PS.Proofs.Enum.GI3
import PS.Proofs.Enum.Frontier
namespace PS.HG
open PS PS.G PS.HS
set_option linter.unusedSectionVars false
variable {S π : Type} [DecidableEq S]

def Closed (G : TT S Unit) : Prop :=
  ∀ nt F ra, G.rule? nt F = some (ra, ()) → ∀ a ∈ ra, (AList.lookup (argNT a) G.rules).isSome = true

/-- with a threshold: a program is not better than its arguments -/
def SubOK (E : Env S Unit π) : Prop :=
  E.ops.thr = none ∨ ∀ nt F ra args pF (i : Nat) ai a pa, E.G.rule? nt F = some (ra, ()) →
    prioSpec E (.node F args) nt = some pF → args[i]? = some ai → ra[i]? = some a →
    prioSpec E ai (argNT a) = some pa → E.ops.lt pF pa = false

mutual
  theorem prioSpec_total (E : Env S Unit π) (hw : WTotal E) :
      ∀ (p : Prog) (nt : NT S Unit), gen E.G p nt = true → (prioSpec E p nt).isSome = true
    | .node F kids, nt, hg => by
      rw [gen] at hg
      cases hr : E.G.rule? nt F with
      | none => simp [hr] at hg
      | some rl =>
        obtain ⟨ra, u⟩ := rl
        cases u
        simp only [hr] at hg
        have hws := hw nt F _ hr
        rw [prioSpec, hr]
        cases hwv : ruleW E nt F with
        | none => rw [hwv] at hws; cases hws
        | some w => exact prioListSpec_total E hw kids ra _ hg
  theorem prioListSpec_total (E : Env S Unit π) (hw : WTotal E) :
      ∀ (ks : List Prog) (ra : List (Ty × S)) (acc : π), genList E.G ks ra = true → (prioList E ks ra acc).isSome = true
    | [], [], _, _ => rfl
    | [], _ :: _, _, h => by simp [genList] at h
    | _ :: _, [], _, h => by simp [genList] at h
    | k :: ks, (t, s0) :: as, acc, h => by
      simp only [genList, Bool.and_eq_true] at h
      rw [prioList]
      have hs := prioSpec_total E hw k (argNT (t, s0)) h.1
      cases hk : prioSpec E k (argNT (t, s0)) with
      | none => rw [hk] at hs; cases hs
      | some pk => exact prioListSpec_total E hw ks as _ h.2
end

theorem prioSpec_some (E : Env S Unit π) (hw : WTotal E) {p : Prog} {nt : NT S Unit} (hg : gen E.G p nt = true) :
    ∃ v, prioSpec E p nt = some v := Option.isSome_iff_exists.mp (prioSpec_total E hw p nt hg)

/-- `as'` is pointwise at least as good as `ks` -/
def ArgsLe (E : Env S Unit π) (ra : List (Ty × S)) (as' ks : List Prog) : Prop :=
  ∀ (j : Nat) a x k px pk, ra[j]? = some a → as'[j]? = some x → ks[j]? = some k →
    prioSpec E x (argNT a) = some px → prioSpec E k (argNT a) = some pk → E.ops.lt pk px = false

/-- monotonicity in all the arguments at once: the arguments of `as'` are replaced by those of `ks` one position after
    the other; `cur` is the tuple when the first `n` positions have been replaced -/
theorem multi_mono {E : Env S Unit π} {rank} {Good} (L : Law E rank Good) (hw : WTotal E) (nt : NT S Unit) (F : Sym)
    (ra : List (Ty × S)) (as' ks : List Prog) (hr : E.G.rule? nt F = some (ra, ()))
    (hg1 : genList E.G as' ra = true) (hg2 : genList E.G ks ra = true) (hle : ArgsLe E ra as' ks)
    (pA pK : π) (hpA : prioSpec E (.node F as') nt = some pA) (hpK : prioSpec E (.node F ks) nt = some pK) :
    E.ops.lt pK pA = false := by
  have hlk := genList_length' E.G _ _ hg2
  have key : ∀ (d n : Nat), ks.length - n = d → ∀ (cur : List Prog) (pC : π), genList E.G cur ra = true →
      (∀ j, j < n → cur[j]? = ks[j]?) → ArgsLe E ra cur ks → prioSpec E (.node F cur) nt = some pC →
      E.ops.lt pK pC = false := by
    intro d
    induction d with
    | zero =>
      intro n hn cur pC hgc hag _ hpC
      have hlc := genList_length' E.G _ _ hgc
      have : cur = ks := List.ext_getElem? fun j => by
        by_cases hj : j < n
        · exact hag j hj
        · rw [List.getElem?_eq_none (by omega), List.getElem?_eq_none (by omega)]
      rw [this, hpK] at hpC
      cases hpC
      exact L.weak.irrefl (L.good _ _ _ hpK)
    | succ d ih =>
      intro n hn cur pC hgc hag hlec hpC
      have hlc := genList_length' E.G _ _ hgc
      -- in the context, so that the bounds of `ks[n]`, `cur[n]`, `ra[n]` are found at once
      have hnk : n < ks.length := by omega
      have hnc : n < cur.length := by omega
      have hnr : n < ra.length := by omega
      have hk : ks[n]? = some ks[n] := List.getElem?_eq_getElem hnk
      have hx : cur[n]? = some cur[n] := List.getElem?_eq_getElem hnc
      have ha : ra[n]? = some ra[n] := List.getElem?_eq_getElem hnr
      have hgk := genList_get E.G ks ra n _ _ hg2 hk ha
      have hgn : genList E.G (cur.set n ks[n]) ra = true := genList_set E.G _ ra n _ _ hgc ha hgk
      obtain ⟨pN, hpN⟩ := prioSpec_some E hw (p := .node F (cur.set n ks[n])) (nt := nt) (by rw [gen, hr]; exact hgn)
      obtain ⟨pk, hpk⟩ := prioSpec_some E hw hgk
      obtain ⟨px, hpx⟩ := prioSpec_some E hw (genList_get E.G cur ra n _ _ hgc hx ha)
      have hm := L.mono nt F ra cur n ks[n] cur[n] ra[n] pk px pC pN hr hgc ha hx hgk hpk hpx
        (hlec n _ _ _ px pk ha hx hk hpx hpk) hpC hpN
      refine L.weak.ntrans (L.good _ _ _ hpC) (L.good _ _ _ hpN) (L.good _ _ _ hpK) hm
        (ih (n + 1) (by omega) _ pN hgn (fun j hj => ?_) (fun j a x k px' pk' ha' hx' hk' hpx' hpk' => ?_) hpN)
      · rcases Nat.lt_succ_iff_lt_or_eq.mp hj with hj | rfl
        · rw [List.getElem?_set_ne (by omega)]; exact hag j hj
        · rw [List.getElem?_set_self hnc, hk]
      · rcases getElem?_set_cases hx' with ⟨rfl, rfl⟩ | ⟨_, hx'⟩
        · rw [hk] at hk'; cases hk'
          rw [hpx'] at hpk'; cases hpk'
          exact L.weak.irrefl (L.good _ _ _ hpx')
        · exact hlec j a x k px' pk' ha' hx' hk' hpx' hpk'
  exact key _ 0 rfl as' pA hg1 (fun j hj => absurd hj (Nat.not_lt_zero j)) hle hpA

/-- what holds of a state in which no call is running (between two `query(start, …)` of the yield loop), once every
    non-terminal with a non-empty heap has had its first query (`started`) -/
structure Quiet (E : Env S Unit π) (H0 : NT S Unit → List (π × Prog)) (s : St S Unit π) : Prop where
  full : Full E H0 s
  tinv : TInv E H0 s
  cinv : CInv E s
  i3 : I3 E s
  started : HeapStarted s
  init_seen : ∀ nt F ra, E.G.rule? nt F = some (ra, ()) →
    ∃ ms, Tree.node F ms ∈ s.seenOf nt ∧
      ∀ (i : Nat) a m, ra[i]? = some a → ms[i]? = some m → FP E H0 (argNT a) m
  del_rej : ∀ p ∈ s.deleted, E.filter p = false

inductive TupleDepth (s : St S Unit π) : List (Ty × S) → List Prog → Nat → Prop
  | nil : TupleDepth s [] [] 0
  | cons {a ra x args l n} : chainFrom (s.succOf (argNT a)) none (l ++ [x]) → TupleDepth s ra args n →
      TupleDepth s (a :: ra) (x :: args) (l.length + n)

theorem TupleDepth.length {s : St S Unit π} {ra : List (Ty × S)} {args : List Prog} {n : Nat}
    (h : TupleDepth s ra args n) : args.length = ra.length := by
  induction h with
  | nil => rfl
  | cons _ _ ih => simp [ih]

theorem TupleDepth.values {s : St S Unit π} {ra : List (Ty × S)} {args : List Prog} {n : Nat}
    (h : TupleDepth s ra args n) :
    ∀ (i : Nat) a ai, ra[i]? = some a → args[i]? = some ai → ∃ k, AList.lookup k (s.succOf (argNT a)) = some ai := by
  induction h with
  | nil => intro i a ai ha; simp at ha
  | @cons a ra x args l n hc ht ih =>
    intro i a' ai ha hai
    cases i with
    | zero =>
      simp only [List.getElem?_cons_zero, Option.some.injEq] at ha hai
      subst ha; subst hai
      rw [chainFrom_snoc] at hc
      exact ⟨_, hc.2⟩
    | succ i =>
      simp only [List.getElem?_cons_succ] at ha hai
      exact ih i a' ai ha hai

structure FrHyp (E : Env S Unit π) (rank : NT S Unit → Nat) (Good : π → Prop) : Prop where
  law : Law E rank Good
  wtotal : WTotal E
  subok : SubOK E

theorem pushOK_none (E : Env S Unit π) (h : E.ops.thr = none) (p : π) : pushOK E.ops p = true := by
  unfold pushOK; rw [h]

/-! The tables of a quiescent state satisfy the laws of `PS.Frontier.Quiet`. -/

/-- recorded in `succ[nt]` -/
def Rec (s : St S Unit π) (nt : NT S Unit) (x : Prog) : Prop := ∃ k, AList.lookup k (s.succOf nt) = some x

/-- `b` is not better than `a` (priorities of the specification) -/
def NB (E : Env S Unit π) (nt : NT S Unit) (a b : Prog) : Prop :=
  ∀ pa pb, prioSpec E a nt = some pa → prioSpec E b nt = some pb → E.ops.lt pb pa = false

theorem quiet_chain_sorted {E : Env S Unit π} {rank} {Good} (L : Law E rank Good) {H0} {s : St S Unit π}
    {full : List Prog} (Q : Quiet E H0 s) (nt : NT S Unit) (hch : chainFrom (s.succOf nt) none full) :
    full.Pairwise (NB E nt) := by
  refine (chain_sortedR (s.succOf nt) (NB E nt) ?_ ?_ full none hch).1
  · intro a b c ⟨k, hk⟩ hab hbc pa pc hpa hpc
    obtain ⟨pb, hpb⟩ := Option.isSome_iff_exists.mp (Q.full.oinv.val_prio _ k b hk)
    exact L.weak.ntrans (L.good _ _ _ hpa) (L.good _ _ _ hpb) (L.good _ _ _ hpc) (hab pa pb hpa hpb) (hbc pb pc hpb hpc)
  · intro k v hk pk pv hpk hpv
    exact Q.full.oinv.link _ k v pk pv hk hpk hpv

theorem exists_fullChain {E : Env S Unit π} {H0} {s : St S Unit π} (T : TInv E H0 s)
    (hinj : ∀ nt k k' v, AList.lookup k (s.succOf nt) = some v → AList.lookup k' (s.succOf nt) = some v → k = k')
    (nt : NT S Unit) : ∃ L, FullChain (s.succOf nt) L := by
  by_cases h0 : s.succOf nt = []
  · refine ⟨[], trivial, by rw [h0]; rfl, List.nodup_nil, fun x => ⟨?_, fun h => by cases h⟩⟩
    rintro ⟨k, hk⟩
    rw [h0] at hk; cases hk
  · obtain ⟨k, v, hk, htip⟩ := T.tip nt h0
    obtain ⟨l, hl, _⟩ := T.reach nt k v hk
    have hstop : AList.lookup (lastOr none (l ++ [v])) (s.succOf nt) = none := by rw [lastOr_snoc]; exact htip
    refine ⟨l ++ [v], hl, hstop,
      chainFrom_nodup _ (hinj nt) _ none hl (fun z _ h => by cases h), fun x => ⟨?_, ?_⟩⟩
    · rintro ⟨k', hk'⟩
      obtain ⟨l', hl', _⟩ := T.reach nt k' x hk'
      exact chain_prefix _ (l' ++ [x]) (l ++ [v]) none hl hl' hstop x (by simp)
    · exact chain_mem_value _ _ none hl x

/-- the tables of a state; `chainOf nt` is the whole chain of `succ[nt]` -/
def sysOf (E : Env S Unit π) (rank : NT S Unit → Nat) (s : St S Unit π) (chainOf : NT S Unit → List Prog) :
    Frontier.Sys (NT S Unit) where
  rank := rank
  Mem nt y := gen E.G y nt = true ∧ clean E.filter y = true ∧ ∃ pp, prioSpec E y nt = some pp ∧ pushOK E.ops pp = true
  le := NB E
  Alt nt F v := ∃ ra, E.G.rule? nt F = some (ra, ()) ∧ v = ra.map argNT
  popped := Rec s
  pos nt x := (chainOf nt).idxOf x
  len nt := (chainOf nt).length
  heap nt p := p ∈ s.heapProgs nt
  seen nt p := p ∈ s.seenOf nt

theorem getElem?_map_argNT {ra : List (Ty × S)} {j : Nat} {sj : NT S Unit} (h : (ra.map argNT)[j]? = some sj) :
    ∃ a, ra[j]? = some a ∧ sj = argNT a := by
  rw [List.getElem?_map] at h
  cases ha : ra[j]? with
  | none => rw [ha] at h; cases h
  | some a => rw [ha] at h; exact ⟨a, rfl, (Option.some.inj h).symm⟩

theorem quiet_sysOf {E : Env S Unit π} {rank} {Good} (H : FrHyp E rank Good) {H0} {s : St S Unit π} (Q : Quiet E H0 s)
    {chainOf : NT S Unit → List Prog} (C : ∀ nt, FullChain (s.succOf nt) (chainOf nt)) :
    Frontier.Quiet (sysOf E rank s chainOf) where
  mem_node := by
    rintro nt F b ⟨hg, hcl, pp, hpp, hok⟩
    rw [gen] at hg
    cases hr : E.G.rule? nt F with
    | none => simp [hr] at hg
    | some rl =>
      obtain ⟨ra, u⟩ := rl
      cases u
      simp only [hr] at hg
      have hclk : cleanList E.filter b = true := by
        simp only [clean, Bool.and_eq_true] at hcl; exact hcl.2
      refine ⟨ra.map argNT, ⟨ra, hr, rfl⟩, by rw [List.length_map]; exact genList_length' E.G b ra hg, ?_⟩
      intro j bj sj hbj hsj
      obtain ⟨a, ha, rfl⟩ := getElem?_map_argNT hsj
      have hgk := genList_get E.G b ra j bj a hg hbj ha
      obtain ⟨pk, hpk⟩ := prioSpec_some E H.wtotal hgk
      refine ⟨hgk, cleanList_get E.filter b j bj hclk hbj, pk, hpk, ?_⟩
      rcases H.subok with hn | hsub
      · exact pushOK_none E hn pk
      · exact H.law.pushOK_mono (H.law.good _ _ _ hpp) (H.law.good _ _ _ hpk)
          (hsub nt F ra b pp j bj a pk hr hpp hbj ha hpk) hok
  acyclic := by
    rintro nt F v ⟨ra, hr, rfl⟩ sj hsj
    obtain ⟨a, ha, rfl⟩ := List.mem_map.mp hsj
    exact H.law.acyclic nt F ra hr a ha
  le_trans := by
    intro nt x e y he h1 h2 px py hpx hpy
    obtain ⟨e0, he0, rfl⟩ := List.mem_map.mp he
    have hpe := Q.full.sinv.heap_prio nt e0 he0
    exact H.law.weak.ntrans (H.law.good _ _ _ hpx) (H.law.good _ _ _ hpe) (H.law.good _ _ _ hpy) (h1 px e0.1 hpx hpe)
      (h2 e0.1 py hpe hpy)
  le_pos := by
    intro nt x y hx hy h
    refine rel_of_idxOf_le (quiet_chain_sorted H.law Q nt (C nt).chain) (fun z _ pz pz' h1 h2 => ?_)
      (((C nt).mem x).mp hx) (((C nt).mem y).mp hy) h
    rw [h1] at h2; cases h2
    exact H.law.weak.irrefl (H.law.good _ _ _ h1)
  mono := by
    rintro nt F v a b ⟨ra, hr, rfl⟩ hla hpop hlb hmemb hp px py hpx hpy
    rw [List.length_map] at hla hlb
    have hg1 : genList E.G a ra = true := genList_of_pointwise _ _ _ hla fun j m a' hm ha' => by
      obtain ⟨k, hk⟩ := hpop j m (argNT a') hm (by rw [List.getElem?_map, ha']; rfl)
      exact Q.full.sinv.seen_gen _ _ (Q.full.sinv.succ_seen _ _ _ hk)
    have hg2 : genList E.G b ra = true := genList_of_pointwise _ _ _ hlb fun j m a' hm ha' =>
      (hmemb j m (argNT a') hm (by rw [List.getElem?_map, ha']; rfl)).1
    exact multi_mono H.law H.wtotal nt F ra a b hr hg1 hg2
      (fun j a' x k px' pk ha' hx hk hpx' hpk => hp j x k (argNT a') hx hk (by rw [List.getElem?_map, ha']; rfl) px' pk hpx' hpk)
      px py hpx hpy
  heap_le := by
    rintro nt x e ⟨k, hk⟩ he px py hpx hpy
    obtain ⟨e0, he0, rfl⟩ := List.mem_map.mp he
    have hpe := Q.full.sinv.heap_prio nt e0 he0
    rw [hpe] at hpy; cases hpy
    exact Q.full.oinv.below nt e0 he0 k x px hk hpx
  pos_inj := fun {nt x y} hx hy h => idxOf_inj _ x y (((C nt).mem x).mp hx) (((C nt).mem y).mp hy) h
  pos_lt := fun {nt x} hx => List.idxOf_lt_length_iff.mpr (((C nt).mem x).mp hx)
  initial := by
    rintro nt F v ⟨ra, hr, rfl⟩ hstart
    obtain ⟨ms, hseen, hfp⟩ := Q.init_seen nt F ra hr
    have hg := Q.full.sinv.seen_gen nt _ hseen
    rw [gen, hr] at hg
    refine ⟨ms, hseen, by rw [List.length_map]; exact genList_length' E.G ms ra hg, ?_⟩
    intro j aj sj haj hsj
    obtain ⟨a, ha, rfl⟩ := getElem?_map_argNT hsj
    -- the non-terminal of the argument has started: its sentinel entry is the first pop of its initial heap
    have hne : s.succOf (argNT a) ≠ [] := by
      obtain ⟨x, hx | hx⟩ := hstart (argNT a) (List.mem_map.mpr ⟨a, List.mem_of_getElem? ha, rfl⟩)
      · obtain ⟨k, hk⟩ := hx
        intro h0; rw [h0] at hk; cases hk
      · apply Q.started
        intro h0
        have hx' : x ∈ s.heapProgs (argNT a) := hx
        rw [St.heapProgs_of_heapOf h0] at hx'; cases hx'
    obtain ⟨v0, hl⟩ := Option.isSome_iff_exists.mp (Q.tinv.none_first _ hne)
    obtain ⟨e, h', hpop, he⟩ := Q.tinv.first_val _ v0 hl
    have : e.2 = aj := hfp j a aj ha haj e h' hpop
    rw [he] at this; subst this
    exact ⟨⟨none, hl⟩, (C _).idx_first hl⟩
  cover := by
    intro nt p hseen
    rcases Q.cinv.seen_cover nt p hseen with h | h | ⟨pq, hpq, hno⟩
    · exact Or.inl h
    · rcases h with hv | ⟨_, _, hdel, _⟩
      · exact Or.inr (Or.inl hv)
      · refine Or.inr (Or.inr ?_)
        rintro ⟨_, hcl, _⟩
        have := Q.del_rej _ hdel
        rw [clean_self E.filter _ hcl] at this; cases this
    · refine Or.inr (Or.inr ?_)
      rintro ⟨_, _, pp, hpp, hok⟩
      rw [hpq] at hpp; cases hpp
      rw [hok] at hno; cases hno
  succs := by
    rintro nt F v a ⟨ra, hr, rfl⟩ hla hpop hseen hnheap ⟨y, ⟨_, _, py, hpy, hoky⟩, hle⟩ j aj sj haj hsj
    obtain ⟨a', ha', rfl⟩ := getElem?_map_argNT hsj
    -- `F(a)` passes the threshold, since it is not worse than `y`
    have hgA := Q.full.sinv.seen_gen nt _ hseen
    obtain ⟨pA, hpA⟩ := prioSpec_some E H.wtotal hgA
    have hokA := H.law.pushOK_mono (H.law.good _ _ _ hpy) (H.law.good _ _ _ hpA) (hle pA py hpA hpy) hoky
    rcases Q.cinv.seen_cover nt _ hseen with h | hpopd | ⟨pq, hpq, hno⟩
    · exact absurd h hnheap
    · rcases Q.i3 nt _ hpopd F a ra rfl hr j a' aj (Nat.zero_le _) ha' haj with ⟨z, hz, hzs⟩ | ⟨hnone, hemp⟩
      · exact Or.inl ⟨z, ⟨_, hz⟩, (C _).idx_next (((C _).mem aj).mp (hpop j aj _ haj hsj)) hz, hzs⟩
      · refine Or.inr ⟨(C _).idx_last (((C _).mem aj).mp (hpop j aj _ haj hsj)) hnone, fun e he => ?_⟩
        have he' : e ∈ s.heapProgs (argNT a') := he
        rw [St.heapProgs_of_heapOf hemp] at he'; cases he'
    · rw [hpA] at hpq; cases hpq
      rw [hokA] at hno; cases hno

theorem frontier {E : Env S Unit π} {rank} {Good} (H : FrHyp E rank Good) {H0} {s : St S Unit π} (Q : Quiet E H0 s) :
    ∀ (r : Nat) (nt : NT S Unit), rank nt = r → ∀ (p : Prog) (pp : π), gen E.G p nt = true →
      clean E.filter p = true → prioSpec E p nt = some pp → pushOK E.ops pp = true →
      (∃ k, AList.lookup k (s.succOf nt) = some p) ∨ ∃ e ∈ s.heapOf nt, E.ops.lt pp e.1 = false := by
  intro r nt hr p pp hg hcl hpp hok
  obtain ⟨chainOf, C⟩ := Classical.axiomOfChoice (exists_fullChain Q.tinv Q.full.ninv.succ_inj)
  rcases Frontier.front _ (quiet_sysOf H Q C) r nt hr p ⟨hg, hcl, pp, hpp, hok⟩ with h | ⟨e, he, hle⟩
  · exact Or.inl h
  · obtain ⟨e0, he0, rfl⟩ := List.mem_map.mp he
    exact Or.inr ⟨e0, he0, hle e0.1 pp (Q.full.sinv.heap_prio nt e0 he0) hpp⟩

theorem not_better_than_popped {E : Env S Unit π} {rank} {Good} (H : FrHyp E rank Good) {H0} {s : St S Unit π}
    (Q : Quiet E H0 s) (nt : NT S Unit) (p : Prog) (pp : π) (hg : gen E.G p nt = true)
    (hcl : clean E.filter p = true) (hpp : prioSpec E p nt = some pp) (hok : pushOK E.ops pp = true)
    (hnot : ∀ k, AList.lookup k (s.succOf nt) ≠ some p) :
    ∀ k v pv, AList.lookup k (s.succOf nt) = some v → prioSpec E v nt = some pv → E.ops.lt pp pv = false := by
  intro k v pv hk hpv
  rcases frontier H Q _ nt rfl p pp hg hcl hpp hok with ⟨k', hk'⟩ | ⟨e, he, hle⟩
  · exact absurd hk' (hnot k')
  · have hb := Q.full.oinv.below nt e he k v pv hk hpv
    exact H.law.weak.ntrans (H.law.good _ _ _ hpv) (H.law.good _ _ _ (Q.full.sinv.heap_prio nt e he))
      (H.law.good _ _ _ hpp) hb hle

theorem exhausted_complete {E : Env S Unit π} {rank} {Good} (H : FrHyp E rank Good) {H0} {s : St S Unit π}
    (Q : Quiet E H0 s) (nt : NT S Unit) (hempty : s.heapOf nt = []) (p : Prog) (pp : π) (hg : gen E.G p nt = true)
    (hcl : clean E.filter p = true) (hpp : prioSpec E p nt = some pp) (hok : pushOK E.ops pp = true) :
    ∃ k, AList.lookup k (s.succOf nt) = some p := by
  rcases frontier H Q _ nt rfl p pp hg hcl hpp hok with hv | ⟨e, he, _⟩
  · exact hv
  · rw [hempty] at he; cases he

end PS.HG
