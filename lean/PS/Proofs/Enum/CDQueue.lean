/- The structural contract of the bucketed queue (PS/Model/Enum/CDQueue.lean), for EVERY arithmetic
   (hence for the IEEE doubles of the implementation): the counters agree with the content, `push`
   adds exactly the index tuples of its argument, `pop` removes exactly the CostTuple it returns,
   `peek` announces the next `pop`, `update` does not touch the content. -/
import PS.Model.Enum.CDQueue
namespace PS.CD
variable {α : Type}

/-- the counters of a cell agree with its content: a nested cell `[n, cells]` holds `n ≥ 2`
    CostTuples -/
inductive WFCell : Cell α → Prop
  | empty : WFCell .empty
  | leaf (ct : CT α) : WFCell (.leaf ct)
  | node (n : Nat) (sub : List (Cell α)) : (∀ c ∈ sub, WFCell c) → n = (tuplesList sub).length → 2 ≤ n →
      WFCell (.node n sub)

theorem tuplesList_nil : tuplesList ([] : List (Cell α)) = [] := by simp [tuplesList]
theorem tuplesList_cons (c : Cell α) (r : List (Cell α)) : tuplesList (c :: r) = c.tuples ++ tuplesList r := by
  simp [tuplesList]
theorem tuples_empty : (Cell.empty : Cell α).tuples = [] := by simp [Cell.tuples]
theorem tuples_leaf (ct : CT α) : (Cell.leaf ct).tuples = [ct] := by simp [Cell.tuples]
theorem tuples_node (n : Nat) (sub : List (Cell α)) : (Cell.node n sub).tuples = tuplesList sub := by
  simp [Cell.tuples]

theorem tuplesList_eq_flatMap : ∀ l : List (Cell α), tuplesList l = l.flatMap Cell.tuples
  | [] => tuplesList_nil
  | c :: r => by rw [tuplesList_cons, tuplesList_eq_flatMap r, List.flatMap_cons]

theorem tuplesList_append (a b : List (Cell α)) : tuplesList (a ++ b) = tuplesList a ++ tuplesList b := by
  simp only [tuplesList_eq_flatMap, List.flatMap_append]

theorem tuplesList_replicate_empty (k : Nat) : tuplesList (List.replicate k (Cell.empty : Cell α)) = [] := by
  simp [tuplesList_eq_flatMap, List.flatMap_replicate, tuples_empty]

theorem tuplesList_split {cells : List (Cell α)} {i : Nat} {c : Cell α} (h : cells[i]? = some c) (c' : Cell α) :
    ∃ A B, tuplesList cells = A ++ c.tuples ++ B ∧ tuplesList (cells.set i c') = A ++ c'.tuples ++ B := by
  induction cells generalizing i with
  | nil => simp at h
  | cons x xs ih =>
    cases i with
    | zero =>
      simp only [List.getElem?_cons_zero, Option.some.injEq] at h
      subst h
      exact ⟨[], tuplesList xs, by simp [tuplesList_cons], by simp [tuplesList_cons]⟩
    | succ j =>
      simp only [List.getElem?_cons_succ] at h
      obtain ⟨A, B, h1, h2⟩ := ih h
      exact ⟨x.tuples ++ A, B, by simp [tuplesList_cons, h1], by simp [tuplesList_cons, h2]⟩

theorem mem_tuplesList {l : List (Cell α)} {t : CT α} :
    t ∈ tuplesList l ↔ ∃ (j : Nat) (c : Cell α), l[j]? = some c ∧ t ∈ c.tuples := by
  rw [tuplesList_eq_flatMap, List.mem_flatMap]
  exact ⟨fun ⟨c, hc, ht⟩ => have ⟨j, hj⟩ := List.mem_iff_getElem?.mp hc; ⟨j, c, hj, ht⟩,
    fun ⟨_, c, hj, ht⟩ => ⟨c, List.mem_of_getElem? hj, ht⟩⟩

theorem wf_set {cells : List (Cell α)} (h : ∀ c ∈ cells, WFCell c) (i : Nat) {c' : Cell α} (hc : WFCell c') :
    ∀ c ∈ cells.set i c', WFCell c := by
  intro c hm
  rcases List.mem_or_eq_of_mem_set hm with h1 | h1
  · exact h c h1
  · subst h1; exact hc

theorem wf_replicate (k : Nat) : ∀ c ∈ List.replicate k (Cell.empty : Cell α), WFCell c := by
  intro c hc
  rw [List.mem_replicate] at hc
  rw [hc.2]; exact .empty

def contentsList (cells : List (Cell α)) : List (List Nat) := (tuplesList cells).flatMap (·.combs)

/-! ### `__push__` -/

/-- what `__push__` does to the list of stored CostTuples: it adds `e` (`added = true`), or it
    appends the index tuples of `e` to one stored CostTuple whose cost is kept (`added = false`) -/
def PushRel (Ar : Arith α) (e : CT α) (old new : List (CT α)) : Bool → Prop
  | true => new.Perm (e :: old)
  | false => ∃ A B val, old = A ++ val :: B ∧ new = A ++ { val with combs := val.combs ++ e.combs } :: B ∧
      Ar.lt (Ar.ofInt 1) (Ar.abs (Ar.sub val.cost e.cost)) = false

theorem pushRel_contents {Ar : Arith α} {e : CT α} {old new : List (CT α)} {added : Bool} (h : PushRel Ar e old new added) :
    (new.flatMap (·.combs)).Perm (old.flatMap (·.combs) ++ e.combs) := by
  cases added with
  | true =>
    have := List.Perm.flatMap_right (fun (c : CT α) => c.combs) h
    refine this.trans ?_
    simp only [List.flatMap_cons]
    exact List.perm_append_comm
  | false =>
    obtain ⟨A, B, val, h1, h2, _⟩ := h
    subst h1; subst h2
    simp only [List.flatMap_append, List.flatMap_cons, List.append_assoc]
    refine List.Perm.append_left _ ?_
    refine List.Perm.append_left _ ?_
    exact List.perm_append_comm

theorem pushRel_length {Ar : Arith α} {e : CT α} {old new : List (CT α)} {added : Bool} (h : PushRel Ar e old new added) :
    new.length = old.length + (if added then 1 else 0) := by
  cases added with
  | true => simpa using h.length_eq
  | false =>
    obtain ⟨A, B, val, h1, h2, _⟩ := h
    subst h1; subst h2; simp

theorem pushRel_lift {Ar : Arith α} {e : CT α} {A B old new : List (CT α)} {added : Bool} (h : PushRel Ar e old new added) :
    PushRel Ar e (A ++ old ++ B) (A ++ new ++ B) added := by
  cases added with
  | true =>
    have h1 : (A ++ new ++ B).Perm (A ++ (e :: old) ++ B) := (List.Perm.append_left A h).append_right B
    refine h1.trans ?_
    simp only [List.append_assoc, List.cons_append]
    exact List.perm_middle
  | false =>
    obtain ⟨A', B', val, h1, h2, h3⟩ := h
    subst h1; subst h2
    exact ⟨A ++ A', B' ++ B, val, by simp, by simp, h3⟩

theorem pushRel_set {Ar : Arith α} {e : CT α} {cells : List (Cell α)} {i : Nat} {c c' : Cell α} {added : Bool}
    (hget : cells[i]? = some c) (h : PushRel Ar e c.tuples c'.tuples added) :
    PushRel Ar e (tuplesList cells) (tuplesList (cells.set i c')) added := by
  obtain ⟨X, Y, hx, hy⟩ := tuplesList_split hget c'
  rw [hx, hy]; exact pushRel_lift h

theorem pushRel_nil {Ar : Arith α} {e : CT α} {new : List (CT α)} {added : Bool} (h : PushRel Ar e [] new added) :
    added = true ∧ new.Perm [e] := by
  cases added with
  | true => exact ⟨rfl, h⟩
  | false => obtain ⟨A, B, val, h1, _⟩ := h; simp at h1

/-- the bucket index `int(cost / maxi * k)` computed by `__push__`, in either form of the expression -/
def lbiOf (A : Arith α) (cost maxi : α) (k : Nat) : Int :=
  if A.mulFirst then A.trunc (A.div (A.mul cost (A.ofNat k)) maxi)
  else A.trunc (A.mul (A.div cost maxi) (A.ofNat k))

/-- `(lower_bound_index + translation) % self.k` -/
def slot (k : Nat) (lbi : Int) (tr : Nat) : Nat := ((lbi + (tr : Int)) % (k : Int)).toNat

/-- what one level of `__push__` does to the cell it selects: `cost` is relative to the array, `d` is where the
    cell starts (`lower_bound_index * unit`), `unit` its width; the calls are those on the sub-cells -/
inductive PushStep (A : Arith α) (k f : Nat) (e : CT α) (cost d unit : α) : Cell α → Cell α → Bool → Prop
  | empty : PushStep A k f e cost d unit .empty (.leaf e) true
  | split {val : CT α} {sub1 sub2 : List (Cell α)} {b1 b2 : Bool} :
      A.lt (A.ofInt 1) (A.abs (A.sub val.cost e.cost)) = true →
      pushCells A k f val (A.sub (A.sub (A.add cost val.cost) e.cost) d) unit (List.replicate k .empty) 0 = some (sub1, b1) →
      pushCells A k f e (A.sub cost d) unit sub1 0 = some (sub2, b2) →
      PushStep A k f e cost d unit (.leaf val) (.node 2 sub2) true
  | merge {val : CT α} : A.lt (A.ofInt 1) (A.abs (A.sub val.cost e.cost)) = false →
      PushStep A k f e cost d unit (.leaf val) (.leaf { val with combs := val.combs ++ e.combs }) false
  | node {n : Nat} {sub sub' : List (Cell α)} {added : Bool} :
      pushCells A k f e (A.sub cost d) unit sub 0 = some (sub', added) →
      PushStep A k f e cost d unit (.node n sub) (.node (if added then n + 1 else n) sub') added

/-- `__push__` read once: it rewrites the one cell the bucket index selects -/
theorem pushCells_succ {A : Arith α} {k f : Nat} {e : CT α} {cost maxi : α} {cells cells' : List (Cell α)} {tr : Nat}
    {added : Bool} (h : pushCells A k (f + 1) e cost maxi cells tr = some (cells', added)) :
    A.isZero maxi = false ∧ ∃ c c', cells[slot k (lbiOf A cost maxi k) tr]? = some c ∧
      cells' = cells.set (slot k (lbiOf A cost maxi k) tr) c' ∧
      PushStep A k f e cost (A.mul (A.ofInt (lbiOf A cost maxi k)) (A.div maxi (A.ofNat k))) (A.div maxi (A.ofNat k))
        c c' added := by
  rw [pushCells] at h
  -- `cases`/`by_cases` and `rw [if_…]` for the `if`s, here and in the files that import this one: `split at h` rewrites
  -- the whole of `h` by `simp`, which is slow where `h` is large
  cases hz : A.isZero maxi
  · rw [hz, if_neg Bool.false_ne_true] at h
    refine ⟨rfl, ?_⟩
    -- the index expression is folded back before the case analysis: it occurs in every branch
    change (match cells[slot k (lbiOf A cost maxi k) tr]? with
      | none => none
      | some .empty => _
      | some (.leaf val) => _
      | some (.node n sub) => _) = _ at h
    split at h
    · cases h
    · rename_i hget
      cases h
      exact ⟨_, _, hget, rfl, .empty⟩
    · rename_i val hget
      by_cases hfar : A.lt (A.ofInt 1) (A.abs (A.sub val.cost e.cost)) = true
      · rw [if_pos hfar] at h
        split at h
        · cases h
        · rename_i sub1 b1 h1
          split at h
          · cases h
          · rename_i sub2 b2 h2
            cases h
            exact ⟨_, _, hget, rfl, .split hfar h1 h2⟩
      · rw [if_neg hfar] at h
        cases h
        exact ⟨_, _, hget, rfl, .merge (Bool.not_eq_true _ ▸ hfar)⟩
    · rename_i n sub hget
      split at h
      · cases h
      · rename_i sub' added' h1
        cases h
        exact ⟨_, _, hget, rfl, .node h1⟩
  · rw [hz, if_pos rfl] at h; cases h

theorem pushCells_spec (A : Arith α) (k : Nat) :
    ∀ (f : Nat) (e : CT α) (cost maxi : α) (cells : List (Cell α)) (tr : Nat) (cells' : List (Cell α)) (added : Bool),
      pushCells A k f e cost maxi cells tr = some (cells', added) → (∀ c ∈ cells, WFCell c) →
      (∀ c ∈ cells', WFCell c) ∧ cells'.length = cells.length ∧
      PushRel A e (tuplesList cells) (tuplesList cells') added := by
  intro f
  induction f with
  | zero => intro e cost maxi cells tr cells' added h; simp [pushCells] at h
  | succ f ih =>
    intro e cost maxi cells tr cells' added h hwf
    obtain ⟨_, c, c', hget, rfl, hstep⟩ := pushCells_succ h
    suffices hc : WFCell c' ∧ PushRel A e c.tuples c'.tuples added from
      ⟨wf_set hwf _ hc.1, List.length_set, pushRel_set hget hc.2⟩
    cases hstep with
    | empty => exact ⟨.leaf e, List.Perm.refl _⟩
    | merge hnear => exact ⟨.leaf _, [], [], _, rfl, rfl, hnear⟩
    | @split val sub1 sub2 b1 b2 hfar h1 h2 =>
      -- the fresh sub-array receives `val`, then `e`, which is too far from `val` to be merged into it
      obtain ⟨w1, _, r1⟩ := ih _ _ _ _ _ _ _ h1 (wf_replicate k)
      obtain ⟨w2, _, r2⟩ := ih _ _ _ _ _ _ _ h2 w1
      rw [tuplesList_replicate_empty] at r1
      obtain ⟨rfl, p1⟩ := pushRel_nil r1
      have p2 : (tuplesList sub2).Perm [e, val] := by
        cases b2 with
        | true => exact (show (tuplesList sub2).Perm (e :: tuplesList sub1) from r2).trans (p1.cons e)
        | false =>
          obtain ⟨X, Y, v, hx, _, hv⟩ := r2
          have : v = val := by
            have := p1.mem_iff.mp (hx ▸ List.mem_append_right X List.mem_cons_self)
            simpa using this
          rw [this, hfar] at hv; cases hv
      exact ⟨.node 2 sub2 w2 (by simpa using p2.length_eq.symm) (Nat.le_refl 2), p2⟩
    | @node n sub sub' added h1 =>
      cases hwf _ (List.mem_of_getElem? hget) with
      | node _ _ hs hn h2 =>
        obtain ⟨w1, _, r1⟩ := ih _ _ _ _ _ _ _ h1 hs
        refine ⟨.node _ sub' w1 ?_ (by split <;> omega), r1⟩
        rw [pushRel_length r1, ← hn]; split <;> rfl

/-! ### `__peek__` / `__pop__` + `__cleanup__` -/

theorem head?_append_of_ne_nil {β : Type} {a b : List β} (h : a ≠ []) : (a ++ b).head? = a.head? := by
  cases a with
  | nil => exact absurd rfl h
  | cons x xs => rfl

theorem wf_no_tuples {c : Cell α} (hw : WFCell c) (h : c.tuples = []) : c = .empty := by
  cases hw with
  | empty => rfl
  | leaf ct => simp [tuples_leaf] at h
  | node n sub _ hn h2 => rw [tuples_node] at h; rw [h] at hn; simp at hn; omega

/-- structural induction over cells and lists of cells together: `__peek__` and `__pop__` go through the sub-cells of a
    nested cell, so a fact about them is a fact about cells and one about lists of cells, proved at once -/
theorem Cell.induct {P : Cell α → Prop} {PL : List (Cell α) → Prop} (empty : P .empty) (leaf : ∀ ct, P (.leaf ct))
    (node : ∀ n sub, PL sub → P (.node n sub)) (nil : PL []) (cons : ∀ c rest, P c → PL rest → PL (c :: rest)) :
    (∀ c, P c) ∧ ∀ l, PL l :=
  Cell.tuples.mutual_induct P PL empty leaf node nil cons

theorem first_spec : (∀ c : Cell α, WFCell c → firstCell c = c.tuples.head?) ∧
    ∀ l : List (Cell α), (∀ c ∈ l, WFCell c) → firstList l = (tuplesList l).head? := by
  refine Cell.induct ?_ ?_ ?_ ?_ ?_
  · intro _; simp [firstCell, tuples_empty]
  · intro ct _; simp [firstCell, tuples_leaf]
  · intro n sub ih hw
    cases hw with
    | node _ _ hs _ h2 => simp only [firstCell, show ¬ n ≤ 1 by omega, if_false, tuples_node]; exact ih hs
  · intro _; simp [firstList, tuplesList_nil]
  · intro c rest ihc ihr hw
    obtain ⟨hc, hr⟩ := List.forall_mem_cons.mp hw
    rw [tuplesList_cons]
    cases c with
    | empty => simp only [firstList, tuples_empty, List.nil_append]; exact ihr hr
    | leaf ct => simp [firstList, tuples_leaf]
    | node n sub =>
      rw [firstList, head?_append_of_ne_nil fun h0 => nomatch wf_no_tuples hc h0]
      exact ihc hc

/-! `__pop__` read once -/

theorem popCell_node {n : Nat} {sub : List (Cell α)} {p : CT α} {c' : Cell α} (h : popCell (.node n sub) = some (p, c')) :
    2 ≤ n ∧ ∃ sub', popList sub = some (p, sub') ∧
      ((n = 2 ∧ ∃ r, firstList sub' = some r ∧ c' = .leaf r) ∨ (n ≠ 2 ∧ c' = .node (n - 1) sub')) := by
  rw [popCell] at h
  by_cases hn : n ≤ 1
  · rw [if_pos hn] at h; cases h
  · rw [if_neg hn] at h
    refine ⟨by omega, ?_⟩
    split at h
    · cases h
    · rename_i p1 sub' hp
      by_cases h2 : n = 2
      · rw [if_pos h2] at h
        split at h
        · cases h
        · rename_i r hr; cases h; exact ⟨sub', hp, Or.inl ⟨h2, r, hr, rfl⟩⟩
      · rw [if_neg h2] at h; cases h; exact ⟨sub', hp, Or.inr ⟨h2, rfl⟩⟩

theorem popList_cons {c : Cell α} {rest : List (Cell α)} {p : CT α} {l' : List (Cell α)} (h : popList (c :: rest) = some (p, l')) :
    (c = .empty ∧ ∃ rest', popList rest = some (p, rest') ∧ l' = .empty :: rest') ∨
    (c ≠ .empty ∧ ∃ c', popCell c = some (p, c') ∧ l' = c' :: rest) := by
  cases c with
  | empty =>
    rw [popList] at h
    split at h
    · cases h
    · rename_i p1 rest' hp
      cases h
      exact Or.inl ⟨rfl, rest', hp, rfl⟩
  | leaf ct =>
    rw [popList] at h; cases h
    exact Or.inr ⟨nofun, .empty, rfl, rfl⟩
  | node n sub =>
    rw [popList] at h
    split at h
    · cases h
    · rename_i p1 c1 hp
      cases h
      exact Or.inr ⟨nofun, c1, hp, rfl⟩

theorem popCell_leaf {ct p : CT α} {c' : Cell α} (h : popCell (.leaf ct) = some (p, c')) : p = ct ∧ c' = .empty := by
  rw [popCell] at h; cases h; exact ⟨rfl, rfl⟩

theorem pop_spec : (∀ c : Cell α, WFCell c → ∀ p c', popCell c = some (p, c') → WFCell c' ∧ c.tuples = p :: c'.tuples) ∧
    ∀ l : List (Cell α), (∀ c ∈ l, WFCell c) → ∀ p l', popList l = some (p, l') →
      (∀ c ∈ l', WFCell c) ∧ tuplesList l = p :: tuplesList l' ∧ l'.length = l.length := by
  refine Cell.induct ?_ ?_ ?_ ?_ ?_
  · intro _ p c' h; simp [popCell] at h
  · intro ct _ p c' h
    obtain ⟨rfl, rfl⟩ := popCell_leaf h
    exact ⟨.empty, by simp [tuples_leaf, tuples_empty]⟩
  · intro n sub ih hw p c' h
    cases hw with
    | node _ _ hs hn h2 =>
      obtain ⟨_, sub', hp, hcase⟩ := popCell_node h
      obtain ⟨w1, t1, l1⟩ := ih hs p sub' hp
      have hlen := congrArg List.length t1
      simp only [List.length_cons] at hlen
      rcases hcase with ⟨rfl, r, hr, rfl⟩ | ⟨hn2, rfl⟩
      · -- two CostTuples: the one that stays is the only one of `sub'`
        rw [first_spec.2 sub' w1] at hr
        refine ⟨.leaf r, ?_⟩
        match hts : tuplesList sub', (Nat.succ.inj (hn.trans hlen)).symm, hr with
        | [x], _, hr => simp at hr; simp [tuples_node, tuples_leaf, t1, hts, hr]
      · exact ⟨.node _ _ w1 (by rw [hn, hlen]; rfl) (Nat.le_sub_one_of_lt (Nat.lt_of_le_of_ne h2 (Ne.symm hn2))),
          by simp [tuples_node, t1]⟩
  · intro _ p l' h; simp [popList] at h
  · intro c rest ihc ihr hw p l' h
    obtain ⟨hc, hr⟩ := List.forall_mem_cons.mp hw
    rw [tuplesList_cons]
    rcases popList_cons h with ⟨rfl, rest', hp, rfl⟩ | ⟨_, c', hp, rfl⟩
    · obtain ⟨w1, t1, l1⟩ := ihr hr p rest' hp
      exact ⟨List.forall_mem_cons.mpr ⟨.empty, w1⟩, by simp [tuplesList_cons, tuples_empty, t1], by simp [l1]⟩
    · obtain ⟨w1, t1⟩ := ihc hc p c' hp
      exact ⟨List.forall_mem_cons.mpr ⟨w1, hr⟩, by simp [tuplesList_cons, t1], by simp⟩

theorem popCell_spec (c : Cell α) (p : CT α) (c' : Cell α) (hw : WFCell c) (h : popCell c = some (p, c')) :
    WFCell c' ∧ c.tuples = p :: c'.tuples := pop_spec.1 c hw p c' h

theorem popCell_first (c : Cell α) (p : CT α) (c' : Cell α) (hw : WFCell c) (h : popCell c = some (p, c')) :
    firstCell c = some p := by
  rw [first_spec.1 c hw, (popCell_spec c p c' hw h).2]; rfl

theorem pop_total : (∀ c : Cell α, WFCell c → c.tuples ≠ [] → ∃ r, popCell c = some r) ∧
    ∀ l : List (Cell α), (∀ c ∈ l, WFCell c) → tuplesList l ≠ [] → ∃ r, popList l = some r := by
  refine Cell.induct ?_ ?_ ?_ ?_ ?_
  · intro _ hne; simp [tuples_empty] at hne
  · intro ct _ _; simp [popCell]
  · intro n sub ih hw _
    cases hw with
    | node _ _ hs hn h2 =>
      obtain ⟨⟨p1, sub'⟩, hp⟩ := ih hs fun h0 => by rw [h0] at hn; subst hn; exact Nat.not_succ_le_zero 1 h2
      obtain ⟨w1, t1, _⟩ := pop_spec.2 sub hs p1 sub' hp
      simp only [popCell, show ¬ n ≤ 1 by omega, if_false, hp]
      by_cases hn2 : n = 2
      · have hlen : (tuplesList sub').length = 1 := (Nat.succ.inj ((hn2 ▸ hn).trans (congrArg List.length t1))).symm
        simp only [hn2, if_true, first_spec.2 sub' w1]
        match hts : tuplesList sub', hlen with
        | [x], _ => simp
      · simp [hn2]
  · intro _ h; simp [tuplesList_nil] at h
  · intro c rest ihc ihr hw h
    obtain ⟨hc, hr⟩ := List.forall_mem_cons.mp hw
    cases c with
    | empty =>
      obtain ⟨⟨p, r'⟩, hp⟩ := ihr hr (by simpa [tuplesList_cons, tuples_empty] using h)
      simp [popList, hp]
    | leaf ct => simp [popList]
    | node n sub =>
      obtain ⟨⟨p, c'⟩, hp⟩ := ihc hc fun h0 => nomatch wf_no_tuples hc h0
      simp [popList, hp]

theorem popList_total : ∀ (l : List (Cell α)), (∀ c ∈ l, WFCell c) → tuplesList l ≠ [] → ∃ r, popList l = some r
  | l, hw, h => pop_total.2 l hw h

/-! ### the queue object -/

/-- the invariant of a `CDQueue` that holds for every arithmetic: it speaks of the counters and the shape of the cells, not
    of where a cost is placed (that is `QOrd`, CDOrder.lean, for exact rationals) -/
structure QWF (q : Q α) : Prop where
  cells : ∀ c ∈ q.cells, WFCell c
  count : q.nelements = q.tuples.length
  len : q.cells.length = q.k
  kpos : 0 < q.k

theorem QWF.contents_nil {q : Q α} (h : QWF q) (h0 : q.nelements = 0) : q.contents = [] := by
  rw [Q.contents, List.length_eq_zero_iff.mp (h.count.symm.trans h0)]; rfl

theorem qwf_new (A : Arith α) (maxi0 : Int) (k0 : Nat) (q : Q α) (h : Q.new A maxi0 k0 = some q) :
    QWF q ∧ q.tuples = [] ∧ q.contents = [] := by
  unfold Q.new at h
  split at h
  · simp at h
  · simp only [Option.some.injEq] at h
    subst h
    exact ⟨⟨wf_replicate _, by simp [Q.tuples, tuplesList_replicate_empty], by simp, by simp⟩,
      by simp [Q.tuples, tuplesList_replicate_empty], by simp [Q.contents, Q.tuples, tuplesList_replicate_empty]⟩

theorem qwf_clear (q : Q α) (h : QWF q) : QWF q.clear ∧ q.clear.tuples = [] ∧ q.clear.contents = [] := by
  refine ⟨⟨wf_replicate _, by simp [Q.clear, Q.tuples, tuplesList_replicate_empty], by simp [Q.clear], h.kpos⟩,
    by simp [Q.clear, Q.tuples, tuplesList_replicate_empty],
    by simp [Q.clear, Q.contents, Q.tuples, tuplesList_replicate_empty]⟩

theorem Q.anchor_cases (q : Q α) (c : α) :
    (∃ m, q.mini = some m ∧ q.anchor c = q) ∨
      q.mini = none ∧ q.anchor c = { q with mini := some c, start := some c, n := 0 } := by
  unfold Q.anchor
  cases hm : q.mini with
  | none => exact Or.inr ⟨rfl, rfl⟩
  | some m => exact Or.inl ⟨m, rfl, rfl⟩

/-- `push` read once: the queue is anchored at the cost of the element when it holds nothing, then `__push__` runs on
    the relative cost -/
theorem Q.push_succ {A : Arith α} {q q' : Q α} {e : CT α} {asserts : Bool} : q.push A e asserts = some q' →
    ∃ q1 mini cells added,
      (q.mini = some mini ∧ q1 = q ∨ q.mini = none ∧ mini = e.cost ∧
        q1 = { q with mini := some e.cost, start := some e.cost, n := 0 }) ∧
      pushCells A q.k pushFuel e (A.sub e.cost mini) q.maxi q.cells q.translation = some (cells, added) ∧
      q' = { q1 with cells := cells, nelements := if added then q.nelements + 1 else q.nelements } := by
  fun_cases Q.push A q e asserts <;> intro h
  · cases h
  · cases h
  · cases h
  · rename_i q1 m hm _ cells added hp
    cases h
    rcases Q.anchor_cases q e.cost with ⟨_, _, h1⟩ | ⟨hq, h1⟩
    · rw [show q1 = q from h1] at hm hp ⊢
      exact ⟨q, m, cells, added, Or.inl ⟨hm, rfl⟩, hp, rfl⟩
    · rw [show q1 = _ from h1] at hm hp ⊢
      exact ⟨_, m, cells, added, Or.inr ⟨hq, (Option.some.inj hm).symm, rfl⟩, hp, rfl⟩

theorem qwf_push (A : Arith α) (q q' : Q α) (e : CT α) (b : Bool) (hq : QWF q) (h : q.push A e b = some q') :
    QWF q' ∧ (∃ added, PushRel A e q.tuples q'.tuples added) ∧ q'.contents.Perm (q.contents ++ e.combs) ∧
      q'.k = q.k ∧ q'.maxi = q.maxi := by
  obtain ⟨q1, mini, cells, added, hcase, hp, rfl⟩ := Q.push_succ h
  obtain ⟨w, l, r⟩ := pushCells_spec A _ _ _ _ _ _ _ _ _ hp hq.cells
  have hf : q1.k = q.k ∧ q1.maxi = q.maxi := by
    rcases hcase with ⟨_, rfl⟩ | ⟨_, _, rfl⟩ <;> exact ⟨rfl, rfl⟩
  refine ⟨⟨w, ?_, by rw [show _ = cells.length from rfl, l, hq.len, show _ = q1.k from rfl, hf.1], hf.1 ▸ hq.kpos⟩,
    ⟨added, r⟩, pushRel_contents r, hf.1, hf.2⟩
  show (if added then q.nelements + 1 else q.nelements) = (tuplesList cells).length
  rw [pushRel_length r, hq.count]; cases added <;> rfl

theorem Q.pop_succ {q q' : Q α} {p : CT α} : q.pop = some (p, q') →
    ∃ c c', q.cells[q.translation]? = some c ∧ popCell c = some (p, c') ∧ q.nelements ≠ 0 ∧
      q' = { q with cells := q.cells.set q.translation c', nelements := q.nelements - 1 } := by
  fun_cases Q.pop q <;> intro h
  · cases h
  · cases h
  · cases h
  · rename_i c hget p1 c' hp hne
    cases h
    exact ⟨c, c', hget, hp, hne, rfl⟩

theorem qwf_pop (q q' : Q α) (p : CT α) (hq : QWF q) (h : q.pop = some (p, q')) :
    QWF q' ∧ q.tuples.Perm (p :: q'.tuples) ∧ q.contents.Perm (p.combs ++ q'.contents) ∧
      q'.nelements + 1 = q.nelements ∧ q.peek = some p ∧ q'.k = q.k ∧ q'.maxi = q.maxi := by
  obtain ⟨c, c', hget, hp, hne, rfl⟩ := Q.pop_succ h
  have hc := hq.cells c (List.mem_of_getElem? hget)
  obtain ⟨w1, t1⟩ := popCell_spec c p c' hc hp
  obtain ⟨X, Y, hx, hy⟩ := tuplesList_split hget c'
  have hperm : q.tuples.Perm (p :: tuplesList (q.cells.set q.translation c')) := by
    simp only [Q.tuples]
    rw [hx, hy, t1]
    simp only [List.append_assoc, List.cons_append]
    exact List.perm_middle
  refine ⟨⟨wf_set hq.cells _ w1, ?_, by simp [hq.len], hq.kpos⟩, hperm, ?_,
    Nat.sub_add_cancel (Nat.pos_of_ne_zero hne), ?_, rfl, rfl⟩
  · show q.nelements - 1 = (tuplesList (q.cells.set q.translation c')).length
    rw [hq.count, hperm.length_eq]; rfl
  · simpa [Q.contents, Q.tuples] using List.Perm.flatMap_right (fun (c : CT α) => c.combs) hperm
  · simp only [Q.peek, hget]
    exact popCell_first c p c' hc hp

/-- `update` read once: nothing to do on an empty queue; otherwise `translation` advances to the first cell whose
    counter is not 0, and the grid is re-anchored at the single element or `mini` recomputed from `start` -/
theorem Q.update_succ {A : Arith α} {q q' : Q α} : q.update A = some q' →
    q.nelements = 0 ∧ q' = q ∨
    ∃ tr n, q.nelements ≠ 0 ∧ advance q.cells q.k (q.k + 1) q.translation q.n = some (tr, n) ∧
      ((q.nelements = 1 ∧ ∃ ct, q.cells[tr]? = some (.leaf ct) ∧
          q' = { q with translation := tr, mini := some ct.cost, start := some ct.cost, n := 0 }) ∨
       (q.nelements ≠ 1 ∧ ∃ st, q.start = some st ∧
          q' = { q with translation := tr, n := n,
                        mini := some (A.add st (A.div (A.mul q.maxi (A.ofNat n)) (A.ofNat q.k))) })) := by
  fun_cases Q.update A q <;> intro h
  · rename_i h0; cases h; exact Or.inl ⟨h0, rfl⟩
  · cases h
  · rename_i h0 tr n hadv h1 ct hleaf
    cases h; exact Or.inr ⟨tr, n, h0, hadv, Or.inl ⟨h1, ct, hleaf, rfl⟩⟩
  · cases h
  · cases h
  · rename_i h0 tr n hadv h1 st hst
    cases h; exact Or.inr ⟨tr, n, h0, hadv, Or.inr ⟨h1, st, hst, rfl⟩⟩

theorem qwf_update (A : Arith α) (q q' : Q α) (hq : QWF q) (h : q.update A = some q') :
    QWF q' ∧ q'.contents = q.contents := by
  rcases Q.update_succ h with ⟨_, rfl⟩ | ⟨tr, n, _, _, ⟨_, ct, _, rfl⟩ | ⟨_, st, _, rfl⟩⟩
  · exact ⟨hq, rfl⟩
  all_goals exact ⟨⟨hq.cells, hq.count, hq.len, hq.kpos⟩, rfl⟩

end PS.CD
