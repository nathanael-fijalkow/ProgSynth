/- The minimal costs computed by `_init_non_terminal_` / `_reevaluate_` (beap_search.py:79-119).
   Upper bound (`MInv`): every cost stored in a cost list or a queue during the prologue is either still a
   placeholder (`inf > 0`) or the cost of an actual program derivable from its non-terminal.
   Lower bound: at a fixpoint of `_reevaluate_` (`Stable`), when every queue holds all the rules of its non-terminal
   (`AllRules`) and the first cost of a non-terminal is a minimum of its queue (`HeadMin`), the first cost of
   every initialised non-terminal is a lower bound of the cost of every program derivable from it; with `MInv`
   (it is the cost of an actual program unless it is a placeholder) it is the true minimum. -/
import PS.Proofs.Enum.BeapSound
namespace PS.Beap
open PS PS.G

set_option linter.unusedSectionVars false
variable {S : Type} [DecidableEq S]

/-! ## upper bound: a stored cost is a placeholder or the cost of a program -/

namespace Cost
@[simp] theorem add_inf (a b : Cost) : (a + b).inf = a.inf + b.inf := rfl
theorem add_fin (a b : Cost) (h : a.inf + b.inf = 0) : (a + b).fin = a.fin + b.fin := by
  show (if a.inf + b.inf = 0 then a.fin + b.fin else 0) = _
  simp [h]
@[simp] theorem ofRat_inf (r : Rat) : (ofRat r).inf = 0 := rfl
@[simp] theorem ofRat_fin (r : Rat) : (ofRat r).fin = r := rfl
end Cost

/-- the cost value `c` is either a placeholder or the cost of a program derivable from `nt` -/
def Att (E : Env S) (nt : NT S Unit) (c : Cost) : Prop :=
  0 ≤ c.inf ∧ (c.inf = 0 → ∃ t, gen E.G t nt = true ∧ costOf E t nt = some c.fin)

theorem att_node (E : Env S) {nt : NT S Unit} {P : Sym} {rl : List (Ty × S) × Unit} {w : Rat}
    (hr : E.G.rule? nt P = some rl) (hw : ruleW E nt P = some w) {c : Cost} (h0 : 0 ≤ c.inf)
    (h : c.inf = 0 → ∃ kids x, genList E.G kids rl.1 = true ∧ costOfList E kids rl.1 = some x ∧ c.fin = w + x) : Att E nt c := by
  refine ⟨h0, fun hz => ?_⟩
  obtain ⟨kids, x, g1, g2, g3⟩ := h hz
  refine ⟨.node P kids, by rw [gen_node E.G P kids nt rl hr]; exact g1, ?_⟩
  obtain ⟨args, u⟩ := rl
  simp only [costOf, hr, hw, g2, g3]

structure MInv (E : Env S) (s : St S) : Prop where
  cl : ∀ nt c rest, s.clOf nt = c :: rest → Att E nt c
  queue : ∀ nt el, el ∈ s.queueOf nt → Att E nt el.cost

theorem MInv.setQueue {E : Env S} {s : St S} (h : MInv E s) (nt : NT S Unit) (q : List HeapEl)
    (hq : ∀ el ∈ q, Att E nt el.cost) : MInv E (s.setQueue nt q) := by
  refine ⟨fun nt' c rest hc => h.cl nt' c rest (by simpa using hc), fun nt' el he => ?_⟩
  rw [St.queueOf_setQueue] at he
  split at he
  · next heq => subst heq; exact hq el he
  · exact h.queue nt' el he

theorem minv_empty (E : Env S) : MInv E (St.empty E.G) := by
  refine ⟨fun nt c rest hc => ?_, fun nt el he => ?_⟩
  · rw [St.clOf_empty] at hc; cases hc
  · rw [St.queueOf_empty] at he; cases he

/-- a sum of first costs started at `acc` is a placeholder, or `acc` is finite and the sum adds to it the cost of
    programs for the arguments -/
theorem sumFirst_att (E : Env S) (s : St S) (hcl : ∀ nt c rest, s.clOf nt = c :: rest → Att E nt c)
    (as : List (Ty × S)) (acc c : Cost) (h : sumFirst s as acc = some c) (ha : 0 ≤ acc.inf) :
    0 ≤ c.inf ∧ (c.inf = 0 → acc.inf = 0 ∧
      ∃ kids x, genList E.G kids as = true ∧ costOfList E kids as = some x ∧ c.fin = acc.fin + x) := by
  fun_induction sumFirst s as acc with
  | case1 => cases h; exact ⟨ha, fun hz => ⟨hz, [], 0, by simp [genList], by simp [costOfList], (Rat.add_zero _).symm⟩⟩
  | case2 => cases h
  | case3 a as acc c0 rest0 hc0 ih =>
    obtain ⟨h0, ht⟩ := hcl _ c0 rest0 hc0
    obtain ⟨g1, g2⟩ := ih h (Int.add_nonneg ha h0)
    refine ⟨g1, fun hz => ?_⟩
    obtain ⟨hinf, kids, x, k1, k2, k3⟩ := g2 hz
    simp only [Cost.add_inf] at hinf
    obtain ⟨t, t1, t2⟩ := ht (by omega)
    refine ⟨by omega, t :: kids, c0.fin + x, ?_, ?_, ?_⟩
    · obtain ⟨_, _⟩ := a; simp only [genList, Bool.and_eq_true]; exact ⟨t1, k1⟩
    · simp only [costOfList, t2, k2]
    · rw [k3, Cost.add_fin _ _ hinf, Rat.add_assoc]

theorem recost_att (E : Env S) (s : St S) (hs : MInv E s) (nt : NT S Unit) (el el' : HeapEl)
    (h : recost E s nt el = some el') : Att E nt el'.cost := by
  obtain ⟨w, rl, c, hw, hr, hc, rfl⟩ := recost_eq_some.mp h
  obtain ⟨g1, g2⟩ := sumFirst_att E s hs.cl rl.1 _ c hc (Int.le_refl 0)
  refine att_node E hr hw (by simpa using g1) fun hz => ?_
  simp only [Cost.add_inf, Cost.ofRat_inf, Int.zero_add] at hz
  obtain ⟨_, kids, x, k1, k2, k3⟩ := g2 hz
  exact ⟨kids, x, k1, k2, by rw [Cost.add_fin _ _ (by simp [hz]), k3]; simp [Rat.zero_add]⟩

/-- `MInv` in the form `init_each` and `prologue_each` take -/
theorem minv_each {E : Env S} {s : St S} : MInv E s ↔
    Each (fun nt q => ∀ el ∈ q, Att E nt el.cost) (fun nt cl => ∀ c rest, cl = c :: rest → Att E nt c) s :=
  ⟨fun h => ⟨h.queue, fun nt c rest hc => h.cl nt c rest hc⟩, fun h => ⟨fun nt c rest hc => h.costs nt c rest hc, h.queue⟩⟩

section
variable (E : Env S)
theorem minv_enter (nt : NT S Unit) (rs : List (Sym × (List (Ty × S) × Unit))) (cl : List Cost)
    (_ : AList.lookup nt E.G.rules = some rs) (_ : ∀ c rest, cl = c :: rest → Att E nt c) :
    ∀ c rest, [Cost.big] = c :: rest → Att E nt c := fun c rest hc => by
  cases hc; exact ⟨by decide, fun hz => by simp [Cost.big] at hz⟩

theorem minv_push (s : St S) (nt : NT S Unit) (P : Sym) (rl : List (Ty × S) × Unit) (w : Rat) (cost : Cost)
    (hs : MInv E s) (hr : E.G.rule? nt P = some rl) (hw : ruleW E nt P = some w) (hsum : sumFirst s rl.1 (Cost.ofRat w) = some cost) :
    ∀ el ∈ Heapq.push ltE (s.queueOf nt) ⟨cost, List.replicate rl.1.length 0, P⟩, Att E nt el.cost :=
  have ⟨g1, g2⟩ := sumFirst_att E s hs.cl rl.1 _ cost hsum (Int.le_refl 0)
  forall_push (hs.queue nt) (att_node E hr hw g1 fun hz => (g2 hz).2)

theorem minv_leave (nt : NT S Unit) (e : HeapEl) (q : List HeapEl) (cl : List Cost) (hq : ∀ el ∈ e :: q, Att E nt el.cost)
    (_ : ∀ c rest, cl = c :: rest → Att E nt c) : ∀ c rest, cl.set 0 e.cost = c :: rest → Att E nt c := fun c rest hc => by
  cases cl with
  | nil => cases hc
  | cons x xs => cases hc; exact hq e (List.mem_cons_self ..)

theorem minv_reprice (s : St S) (nt : NT S Unit) (nq : List HeapEl) (e : HeapEl) (q' : List HeapEl) (c0 : Cost) (cl' : List Cost)
    (hs : MInv E s) (hnq : mapOpt (recost E s nt) (s.queueOf nt) = some nq) (hh : heapify ltE nq = e :: q') (_ : s.clOf nt = c0 :: cl') :
    (∀ el ∈ e :: q', Att E nt el.cost) ∧ ∀ c rest, e.cost :: cl' = c :: rest → Att E nt c := by
  have hall := forall_repriced (Q' := fun el => Att E nt el.cost) hnq hh (hs.queue nt)
    fun x el _ hf => recost_att E s hs nt x el hf
  exact ⟨hall, fun c rest hc => by cases hc; exact hall e (List.mem_cons_self ..)⟩
end

theorem init_minv (E : Env S) (hnd : RowsNodup E.G) (n : Nat) : Inits E n
    (fun s _ s' => MInv E s → MInv E s')
    (fun s nt rest s' => MInv E s → ∀ rs, AList.lookup nt E.G.rules = some rs → (∀ x ∈ rest, x ∈ rs) → MInv E s')
    (fun s _ _ r => MInv E s → MInv E r.1) :=
  have h := init_each E (minv_enter E)
    (fun s nt _ P rl w c hs hrs hm => minv_push E s nt P rl w c (minv_each.mpr hs) (rule_of_mem hnd hrs hm)) (minv_leave E) n
  ⟨fun hi hs => minv_each.mpr (h.nt hi (minv_each.mp hs)),
    fun hi hs rs hrs hr => minv_each.mpr (h.rules hi (minv_each.mp hs) rs hrs hr),
    fun hi hs => minv_each.mpr (h.args hi (minv_each.mp hs))⟩

theorem prologue_minv (E : Env S) (hnd : RowsNodup E.G) (fuel : Nat) (s s' : St S) (hs : MInv E s)
    (h : prologue E fuel s = some s') : MInv E s' :=
  minv_each.mpr (prologue_each E (minv_enter E)
    (fun s nt _ P rl w c hs hrs hm => minv_push E s nt P rl w c (minv_each.mpr hs) (rule_of_mem hnd hrs hm)) (minv_leave E)
    (fun s nt nq e q' c0 cl' hs => minv_reprice E s nt nq e q' c0 cl' (minv_each.mpr hs)) fuel s s' (minv_each.mp hs) h)

/-! ## lower bound: at a fixpoint the first cost bounds every program from below -/

/-- `_cost_lists[S][0]` is not larger than the cost of any element of `_queues[S]` -/
def HeadMin (s : St S) : Prop :=
  ∀ nt c rest, s.clOf nt = c :: rest → ∀ el ∈ s.queueOf nt, Cost.lt el.cost c = false

/-- the queue of an initialised non-terminal holds an element for each of its rules -/
def AllRules (E : Env S) (s : St S) : Prop :=
  ∀ nt c rest, s.clOf nt = c :: rest → ∀ P rl, E.G.rule? nt P = some rl → ∃ el ∈ s.queueOf nt, el.P = P

/-- a fixpoint of `_reevaluate_`: recomputing the cost of a queued derivation from the current
    first costs changes nothing -/
def Stable (E : Env S) (s : St S) : Prop :=
  ∀ nt el, el ∈ s.queueOf nt → ∃ el', recost E s nt el = some el' ∧ el'.cost = el.cost

theorem rat_le_add_of_not_lt {c e w c' x : Rat} (h : ¬ e < c) (he : e = w + c') (hc : c' ≤ 0 + x) : c ≤ w + x := by grind
theorem rat_le_add_assoc_of_le {c a c0 y x : Rat} (h : c ≤ a + c0 + x) (hy : c0 ≤ y) : c ≤ a + (y + x) := by grind

mutual
  theorem lower_bound (E : Env S) (s : St S) (hm : MInv E s) (hh : HeadMin s) (ha : AllRules E s) (hst : Stable E s) :
      ∀ (t : Prog) (nt : NT S Unit) (k : Rat), costOf E t nt = some k →
        ∀ c rest, s.clOf nt = c :: rest → c.inf = 0 ∧ c.fin ≤ k
    | .node f kids, nt, k, hk, c, rest, hc => by
      obtain ⟨⟨args, u⟩, w, x, hr, hw, hx, rfl⟩ := costOf_inv hk
      obtain ⟨el, hel, hP⟩ := ha nt c rest hc f (args, u) hr
      obtain ⟨el', hre, hcost⟩ := hst nt el hel
      obtain ⟨w', rl', c', hw', hr', hc', rfl⟩ := recost_eq_some.mp hre
      rw [hP] at hw' hr'
      cases hw.symm.trans hw'
      cases hr.symm.trans hr'
      obtain ⟨l1, l2⟩ := lower_boundList E s hm hh ha hst kids args x hx (Cost.ofRat 0) c' hc' rfl
      have e1 : el.cost.inf = 0 := by rw [← hcost]; simp [l1]
      have e2 : el.cost.fin = w + c'.fin := by rw [← hcost, Cost.add_fin _ _ (by simp [l1])]; rfl
      have hlt := hh nt c rest hc el hel
      have hnn := (hm.cl nt c rest hc).1
      unfold Cost.lt at hlt
      simp only [Bool.or_eq_false_iff, Bool.and_eq_false_iff, decide_eq_false_iff_not] at hlt
      obtain ⟨h1, h2⟩ := hlt
      rw [e1] at h1 h2
      have hz : c.inf = 0 := by omega
      refine ⟨hz, ?_⟩
      rcases h2 with h2 | h2
      · exact absurd hz.symm h2
      · simp only [Cost.ofRat_fin] at l2
        exact rat_le_add_of_not_lt h2 e2 l2
  theorem lower_boundList (E : Env S) (s : St S) (hm : MInv E s) (hh : HeadMin s) (ha : AllRules E s) (hst : Stable E s) :
      ∀ (kids : List Prog) (args : List (Ty × S)) (x : Rat), costOfList E kids args = some x →
        ∀ acc c, sumFirst s args acc = some c → acc.inf = 0 → c.inf = 0 ∧ c.fin ≤ acc.fin + x
    | [], [], x, hx, acc, c, hs, hacc => by
      simp only [costOfList, Option.some.injEq] at hx
      simp only [sumFirst, Option.some.injEq] at hs
      subst hx; subst hs
      exact ⟨hacc, by rw [Rat.add_zero]; exact Rat.le_refl⟩
    | [], _ :: _, _, hx, _, _, _, _ => by simp [costOfList] at hx
    | _ :: _, [], _, hx, _, _, _, _ => by simp [costOfList] at hx
    | k1 :: ks, a :: as, x, hx, acc, c, hs, hacc => by
      obtain ⟨y, x', hy, hx', rfl⟩ := costOfList_cons_inv hx
      simp only [sumFirst] at hs
      split at hs
      · cases hs
      · next c0 rest0 hcl =>
        obtain ⟨b1, b2⟩ := lower_bound E s hm hh ha hst k1 (ntOf a) y hy c0 rest0 hcl
        have hinf : (acc + c0).inf = 0 := by simp [hacc, b1]
        obtain ⟨l1, l2⟩ := lower_boundList E s hm hh ha hst ks as x' hx' (acc + c0) c hs hinf
        refine ⟨l1, ?_⟩
        rw [Cost.add_fin _ _ (by simp [hacc, b1])] at l2
        exact rat_le_add_assoc_of_le l2 b2
end

/-- **the first cost of a non-terminal is its minimal cost**: it is a lower bound of the cost of every
    derivable program, it is not a placeholder as soon as a program exists, and it is the cost of a
    derivable program -/
theorem minCost_spec (E : Env S) (s : St S) (hm : MInv E s) (hh : HeadMin s) (ha : AllRules E s) (hst : Stable E s)
    (nt : NT S Unit) (c : Cost) (rest : List Cost) (hc : s.clOf nt = c :: rest) :
    (∀ t k, costOf E t nt = some k → c.inf = 0 ∧ c.fin ≤ k) ∧
    (c.inf = 0 → ∃ t, gen E.G t nt = true ∧ costOf E t nt = some c.fin) :=
  ⟨fun t k hk => lower_bound E s hm hh ha hst t nt k hk c rest hc, (hm.cl nt c rest hc).2⟩

/-! ### `Stable` holds when the `while changed` loop of `_reevaluate_` exits -/
theorem mapOpt_keys {α β γ : Type} (f : α → Option β) (g : β → γ) (g' : α → γ) (l : List α) (l' : List β)
    (h : mapOpt f l = some l') (hk : l'.map g = l.map g') : ∀ x ∈ l, ∃ y, f x = some y ∧ g y = g' x := by
  rw [mapOpt_eq_optAll, optAll_eq_some_iff_map] at h
  intro x hx
  obtain ⟨i, hi, rfl⟩ := List.getElem_of_mem hx
  have hi' : i < l'.length := by have := congrArg List.length h; simp only [List.length_map] at this; omega
  refine ⟨l'[i], ?_, ?_⟩
  · simpa [hi, hi'] using congrArg (·[i]?) h
  · simpa [hi, hi'] using congrArg (·[i]?) hk

theorem reevalPass_unchanged (E : Env S) (nts : List (NT S Unit)) (s : St S) (ch : Bool) (s' : St S)
    (h : reevalPass E nts s ch = some (s', false)) :
    ch = false ∧ s' = s ∧ ∀ nt ∈ nts, ∀ el ∈ s.queueOf nt, ∃ el', recost E s nt el = some el' ∧ el'.cost = el.cost := by
  fun_induction reevalPass E nts s ch with
  | case1 => cases h; exact ⟨rfl, rfl, nofun⟩
  | case2 => cases h
  | case3 _ _ _ _ _ _ _ _ _ _ _ _ _ ih => exact nomatch (ih h).1
  | case4 => cases h
  | case5 nt rest s ch nq hnq hkeys ih =>
    obtain ⟨g0, g1, g2⟩ := ih h
    refine ⟨g0, g1, fun nt' hnt' el hel => ?_⟩
    rcases List.mem_cons.mp hnt' with rfl | hin
    · obtain ⟨y, hy1, hy2⟩ := mapOpt_keys (recost E s nt') HeapEl.key HeapEl.key _ _ hnq (Decidable.not_not.mp hkeys) el hel
      exact ⟨y, hy1, congrArg Prod.fst hy2⟩
    · exact g2 nt' hin el hel

theorem reevalLoop_stable (E : Env S) (k : Nat) (s s' : St S) (h : reevalLoop E k s = some s') :
    ∀ nt ∈ AList.keys s'.queues, ∀ el ∈ s'.queueOf nt, ∃ el', recost E s' nt el = some el' ∧ el'.cost = el.cost := by
  fun_induction reevalLoop E k s with
  | case1 => cases h
  | case2 => cases h
  | case3 _ _ _ _ ih => exact ih h
  | case4 k s s1 hp =>
    cases h
    obtain ⟨_, rfl, g2⟩ := reevalPass_unchanged E _ _ _ _ hp
    exact g2

theorem queueOf_nil_of_not_mem (s : St S) (nt : NT S Unit) (h : nt ∉ AList.keys s.queues) : s.queueOf nt = [] :=
  AList.getD_lookup_of_not_mem [] h

theorem reevaluate_stable (E : Env S) (hrec : E.recursive = true) (fuel : Nat) (s s' : St S)
    (h : reevaluate E fuel s = some s') : Stable E s' := by
  rw [reevaluate, if_pos hrec] at h
  intro nt el hel
  by_cases hk : nt ∈ AList.keys s'.queues
  · exact reevalLoop_stable E fuel s s' h nt hk el hel
  · rw [queueOf_nil_of_not_mem s' nt hk] at hel; cases hel

/-- the state returned by the prologue is a fixpoint of `_reevaluate_` (whatever the fuel) -/
def StableAfter (E : Env S) : Prop := ∀ fuel s', prologue E fuel (St.empty E.G) = some s' → Stable E s'

theorem stableAfter_of_rec (E : Env S) (hrec : E.recursive = true) : StableAfter E := fun fuel _ h =>
  let ⟨_, _, h⟩ := prologue_cases h
  reevaluate_stable E hrec fuel _ _ h

end PS.Beap
