/- The model of heapq (PS/Model/Enum/Heapq.lean) re-establishes the heap invariant after `push` and after `pop`, and
   `pop` returns a minimum, for a strict weak order (`<` asymmetric, `not <` transitive); heapsort as a corollary.
   Tie-breaking: `heappush` replaces the root only by a STRICTLY smaller element, so one push moves the root as a
   left-to-right scan for the first minimum with a strict `<` (what `__compute_max_prio__` does) moves its candidate
   (`bestStep`).  The searches use this push by push, carried over to orders that are strict weak orders on a subset
   only (HeapMap.lean). -/
import PS.Proofs.Enum.Heapq
namespace PS.Heapq

variable {α : Type}

/-- what is needed of `<`: asymmetric, and `not <` transitive (a strict weak order; the
    induced `≤ := not >` is a total preorder) -/
structure WeakOrder (lt : α → α → Bool) : Prop where
  asymm : ∀ a b, lt a b = true → lt b a = false
  ntrans : ∀ a b c, lt b a = false → lt c b = false → lt c a = false

theorem WeakOrder.irrefl {lt : α → α → Bool} (w : WeakOrder lt) (a : α) : lt a a = false := by
  cases h : lt a a with
  | false => rfl
  | true => have := w.asymm a a h; rw [h] at this; cases this

/-- `h[i] ≤ h[j]` (vacuous out of range) -/
def LE (lt : α → α → Bool) (h : List α) (i j : Nat) : Prop :=
  ∀ a b, h[i]? = some a → h[j]? = some b → lt b a = false

/-- every parent at position `k` or later is ≤ its children; `k = 0` is the heap property, and
    `heapify` establishes it for `k = n/2 - 1, …, 0` in turn -/
def HeapFrom (lt : α → α → Bool) (h : List α) (k : Nat) : Prop :=
  ∀ i, 0 < i → k ≤ (i - 1) / 2 → LE lt h ((i - 1) / 2) i

theorem isHeap_iff (lt : α → α → Bool) (h : List α) : IsHeap lt h ↔ HeapFrom lt h 0 := by
  constructor
  · intro hh i hi _ a b ha hb
    obtain ⟨hil, rfl⟩ := List.getElem?_eq_some_iff.mp hb
    obtain ⟨hpl, rfl⟩ := List.getElem?_eq_some_iff.mp ha
    exact hh i hil hi
  · intro hh i hil hi
    exact hh i hi (Nat.zero_le _) _ _ (List.getElem?_eq_getElem (by omega)) (List.getElem?_eq_getElem hil)

theorem getElem?_swap (h : List α) (i j k : Nat) (hi : i < h.length) (hj : j < h.length) :
    (swap h i j)[k]? = if k = j then h[i]? else if k = i then h[j]? else h[k]? := by
  unfold swap
  rw [List.getElem?_eq_getElem hi, List.getElem?_eq_getElem hj]
  simp only [List.getElem?_set, List.length_set]
  by_cases h1 : k = j
  · subst h1; simp [hj]
  · by_cases h2 : k = i
    · subst h2; simp [h1, Ne.symm h1, hi]
    · simp [h1, h2, Ne.symm h1, Ne.symm h2]

theorem ltAt_true (lt : α → α → Bool) (h : List α) (i j : Nat) (ht : ltAt lt h i j = true) :
    ∃ a b, h[i]? = some a ∧ h[j]? = some b ∧ lt a b = true := by
  unfold ltAt at ht
  cases hi : h[i]? with
  | none => simp [hi] at ht
  | some a =>
    cases hj : h[j]? with
    | none => simp [hi, hj] at ht
    | some b => simp only [hi, hj] at ht; exact ⟨a, b, rfl, rfl, ht⟩

theorem ltAt_false (lt : α → α → Bool) (h : List α) (i j : Nat) (ht : ltAt lt h i j = false) :
    ∀ a b, h[i]? = some a → h[j]? = some b → lt a b = false := by
  intro a b hi hj
  unfold ltAt at ht
  simpa [hi, hj] using ht

theorem ltAt_le {lt : α → α → Bool} (w : WeakOrder lt) {h : List α} {i j : Nat} (ht : ltAt lt h i j = true) :
    LE lt h i j := by
  obtain ⟨x, y, hx, hy, hxy⟩ := ltAt_true lt h i j ht
  intro a b ha hb
  rw [hx] at ha; rw [hy] at hb; cases ha; cases hb
  exact w.asymm _ _ hxy

theorem ltAt_ge {lt : α → α → Bool} {h : List α} {i j : Nat} (ht : ltAt lt h i j = false) : LE lt h j i :=
  fun a b ha hb => ltAt_false lt h i j ht b a hb ha

theorem parent_lt {i : Nat} (hi : 0 < i) : (i - 1) / 2 < i := by omega

theorem LE.trans {lt : α → α → Bool} (w : WeakOrder lt) {h : List α} {i j k : Nat} (hj : j < h.length)
    (h1 : LE lt h i j) (h2 : LE lt h j k) : LE lt h i k := fun a c ha hc =>
  w.ntrans _ _ _ (h1 a _ ha (List.getElem?_eq_getElem hj)) (h2 _ c (List.getElem?_eq_getElem hj) hc)

theorem LE_swap (lt : α → α → Bool) {h : List α} {i j : Nat} (hi : i < h.length) (hj : j < h.length) (a b : Nat) :
    LE lt (swap h i j) a b ↔
      LE lt h (if a = j then i else if a = i then j else a) (if b = j then i else if b = i then j else b) := by
  simp only [LE, getElem?_swap h i j _ hi hj, apply_ite (fun k => h[k]?)]

/-- Invariant of the loop of `siftdown(heap, k, pos)`. The names are those of Python's `heapq`, where
    `_siftdown` moves the element at `pos` towards the root (index 0), not past index `k`, and
    `_siftup` (see `BuInv`) moves it towards the leaves. First part: every position whose parent has
    index at least `k` is ≥ its parent, except `pos`, whose element may be smaller than its parent.
    Second part: the children of `pos` are ≥ the parent of `pos`, so they stay in order when `pos` is
    swapped with its parent. -/
def SdInv (lt : α → α → Bool) (h : List α) (k pos : Nat) : Prop :=
  (∀ i, 0 < i → k ≤ (i - 1) / 2 → i ≠ pos → LE lt h ((i - 1) / 2) i) ∧
  (k < pos → ∀ c, 0 < c → (c - 1) / 2 = pos → LE lt h ((pos - 1) / 2) c)

/-- `hk`: when the parent of `pos` has index greater than `k`, the grandparent has index at least `k`; it holds
    because `pos` lies in the sub-tree rooted at `k` (and trivially for `k = 0`). -/
theorem SdInv.swap {lt : α → α → Bool} (w : WeakOrder lt) {h : List α} {k pos : Nat} (hinv : SdInv lt h k pos)
    (hkp : k < pos) (hpl : pos < h.length) (hk : k < (pos - 1) / 2 → k ≤ ((pos - 1) / 2 - 1) / 2)
    (hlt : LE lt h pos ((pos - 1) / 2)) : SdInv lt (swap h pos ((pos - 1) / 2)) k ((pos - 1) / 2) := by
  have hp := parent_lt (Nat.zero_lt_of_lt hkp)
  have hparl := Nat.lt_trans hp hpl
  have hsw := LE_swap lt hpl hparl
  refine ⟨fun i hi hg hne => (hsw _ _).mpr ?_, fun hp0 c hc hcp => (hsw _ _).mpr ?_⟩
  · have hip := parent_lt hi
    rw [if_neg hne]
    by_cases hi1 : i = pos
    · rw [if_pos hi1, hi1, if_pos rfl]
      exact hlt
    · rw [if_neg hi1]
      by_cases hi2 : (i - 1) / 2 = pos
      · -- a child of `pos`
        rw [hi2, if_neg (Nat.ne_of_gt hp), if_pos rfl]
        exact hinv.2 hkp i hi hi2
      · rw [if_neg hi2]
        by_cases hi3 : (i - 1) / 2 = (pos - 1) / 2
        · -- the sibling of `pos`
          rw [if_pos hi3]
          exact LE.trans w hparl hlt (hi3 ▸ hinv.1 i hi hg hi1)
        · rw [if_neg hi3]
          exact hinv.1 i hi hg hi1
  · have hpar0 := Nat.zero_lt_of_lt hp0
    have hpp := parent_lt hpar0
    rw [if_neg (Nat.ne_of_lt hpp), if_neg (Nat.ne_of_lt (Nat.lt_trans hpp hp))]
    have hgp := hinv.1 _ hpar0 (hk hp0) (Nat.ne_of_lt hp)
    have hcl := hcp ▸ parent_lt hc
    rw [if_neg (Nat.ne_of_gt hcl)]
    by_cases hc1 : c = pos
    · rw [if_pos hc1]; exact hgp
    · rw [if_neg hc1]
      exact LE.trans w hparl hgp (hcp ▸ hinv.1 c hc (hcp ▸ Nat.le_of_lt hp0) hc1)

theorem SdInv.heapFrom {lt : α → α → Bool} {h : List α} {k pos : Nat} (hinv : SdInv lt h k pos)
    (hle : k < pos → LE lt h ((pos - 1) / 2) pos) : HeapFrom lt h k := fun i hi hg =>
  if hip : i = pos then hip ▸ hle (hip ▸ Nat.lt_of_le_of_lt hg (parent_lt hi)) else hinv.1 i hi hg hip

/-- The loop `siftdown(heap, k, pos)` ends with the heap invariant from `k` on.  `D` is any set of positions at or
    after `k` that holds `pos` and the parent of each of its members beyond `k`: everything for `k = 0`, the sub-tree
    rooted at `k` in `heapify`. -/
theorem IsSiftdown.heapFrom {lt : α → α → Bool} (w : WeakOrder lt) {k : Nat} {f} (hf : IsSiftdown lt k f)
    {D : Nat → Prop} (hle : ∀ q, D q → k ≤ q) (hpar : ∀ q, D q → k < q → D ((q - 1) / 2)) :
    ∀ (fuel : Nat) (h : List α) (pos : Nat), pos ≤ fuel → pos < h.length → D pos → SdInv lt h k pos →
      HeapFrom lt (f fuel h pos) k := by
  intro fuel
  induction fuel with
  | zero =>
    intro h pos hfu _ _ hinv
    rw [hf.zero]
    exact hinv.heapFrom fun hkp => absurd hfu (Nat.not_le_of_gt (Nat.zero_lt_of_lt hkp))
  | succ n ih =>
    intro h pos hfu hpl hd hinv
    rw [hf.succ]
    split
    · exact hinv.heapFrom fun hkp => absurd ‹pos ≤ k› (Nat.not_le_of_gt hkp)
    · have hkp : k < pos := Nat.lt_of_not_le ‹_›
      have hp := parent_lt (Nat.zero_lt_of_lt hkp)
      have hdpar := hpar pos hd hkp
      split
      · exact ih _ _ (Nat.le_of_lt_succ (Nat.lt_of_lt_of_le hp hfu)) (by rw [swap_length]; exact Nat.lt_trans hp hpl)
          hdpar (hinv.swap w hkp hpl (fun hk => hle _ (hpar _ hdpar hk)) (ltAt_le w ‹_›))
      · exact hinv.heapFrom fun _ => ltAt_ge (Bool.eq_false_iff.mpr ‹_›)

theorem siftdown_isHeap {lt : α → α → Bool} (w : WeakOrder lt) (fuel : Nat) (h : List α) (pos : Nat)
    (hf : pos ≤ fuel) (hpl : pos < h.length) (hinv : SdInv lt h 0 pos) : IsHeap lt (siftdown lt fuel h pos) :=
  (isHeap_iff lt _).mpr ((isSiftdown_siftdown lt).heapFrom w (D := fun _ => True) (fun _ _ => Nat.zero_le _)
    (fun _ _ _ => trivial) fuel h pos hf hpl trivial hinv)

/-- Invariant of `bubble`, the first loop of `siftup(heap, k)`, which in Python's `heapq` moves the hole
    at `pos` towards the leaves (larger indices), the smaller child taking its place. First part:
    every position whose parent has index at least `k` is ≥ its parent, except `pos` and the children
    of `pos`: nothing is claimed of the element at `pos` against its parent or its children. Second part: the
    children of `pos` are ≥ the parent of `pos`, so the child that moves to `pos` is in order with it. -/
def BuInv (lt : α → α → Bool) (h : List α) (k pos : Nat) : Prop :=
  (∀ i, 0 < i → k ≤ (i - 1) / 2 → i ≠ pos → (i - 1) / 2 ≠ pos → LE lt h ((i - 1) / 2) i) ∧
  (k < pos → ∀ c, 0 < c → (c - 1) / 2 = pos → LE lt h ((pos - 1) / 2) c)

/-- the hole at `pos` moves to a child `c` that is not greater than its sibling (`hsib`) -/
theorem BuInv.swap {lt : α → α → Bool} {h : List α} {k pos c : Nat} (hinv : BuInv lt h k pos) (hkp : k ≤ pos)
    (hpl : pos < h.length) (hcl : c < h.length) (hc0 : 0 < c) (hcp : (c - 1) / 2 = pos)
    (hsib : ∀ s, 0 < s → (s - 1) / 2 = pos → s ≠ c → LE lt h c s) : BuInv lt (swap h c pos) k c := by
  have hsw := LE_swap lt hcl hpl
  have hpc : pos < c := hcp ▸ parent_lt hc0
  refine ⟨fun i hi hg hic hipc => (hsw _ _).mpr ?_, fun _ d hd hdc => (hsw _ _).mpr ?_⟩
  · have hip := parent_lt hi
    rw [if_neg hic, if_neg hipc]
    by_cases hi1 : i = pos
    · rw [if_pos hi1, if_neg (Nat.ne_of_lt (hi1 ▸ hip)), hi1]
      exact hinv.2 (hi1 ▸ Nat.lt_of_le_of_lt hg hip) c hc0 hcp
    · rw [if_neg hi1]
      by_cases hi2 : (i - 1) / 2 = pos
      · rw [if_pos hi2]; exact hsib i hi hi2 hic
      · rw [if_neg hi2]; exact hinv.1 i hi hg hi1 hi2
  · have hcd : c < d := hdc ▸ parent_lt hd
    rw [hcp, if_pos rfl, if_neg (Nat.ne_of_gt (Nat.lt_trans hpc hcd)), if_neg (Nat.ne_of_gt hcd)]
    exact hdc ▸ hinv.1 d hd (hdc ▸ Nat.le_of_lt (Nat.lt_of_le_of_lt hkp hpc))
      (Nat.ne_of_gt (Nat.lt_trans hpc hcd)) (hdc ▸ Nat.ne_of_gt hpc)

theorem child_cases {s pos : Nat} (hs : 0 < s) (hsp : (s - 1) / 2 = pos) : s = 2 * pos + 1 ∨ s = 2 * pos + 1 + 1 := by
  omega

theorem child_parent (pos : Nat) : (2 * pos + 1 - 1) / 2 = pos ∧ (2 * pos + 1 + 1 - 1) / 2 = pos := by
  omega

theorem bubble_spec {lt : α → α → Bool} (w : WeakOrder lt) (k : Nat) :
    ∀ (fuel : Nat) (h : List α) (pos : Nat), h.length ≤ fuel + pos → pos < h.length → k ≤ pos → BuInv lt h k pos →
      (bubble lt fuel h pos).2 < (bubble lt fuel h pos).1.length ∧
      SdInv lt (bubble lt fuel h pos).1 k (bubble lt fuel h pos).2 := by
  intro fuel
  induction fuel with
  | zero => intro h pos hf hpl _ _; omega
  | succ n ih =>
    intro h pos hf hpl hkp hinv
    rw [bubble]
    split
    · have hl : 2 * pos + 1 < h.length := by omega
      have hf' : h.length ≤ n + (2 * pos + 1) := by omega
      have hk1 : k ≤ 2 * pos + 1 := by omega
      obtain ⟨hp1, hp2⟩ := child_parent pos
      -- the smaller child goes up
      dsimp only
      split
      next hc =>
        refine ih _ _ (by rw [swap_length]; exact Nat.le_succ_of_le hf') (by rw [swap_length]; exact hc.1)
          (Nat.le_succ_of_le hk1) (hinv.swap hkp hpl hc.1 (Nat.succ_pos _) hp2 fun s hs hsp hsc => ?_)
        obtain rfl : s = 2 * pos + 1 := (child_cases hs hsp).resolve_right hsc
        exact ltAt_ge (Bool.eq_false_iff.mpr hc.2)
      next hc =>
        refine ih _ _ (by rw [swap_length]; exact hf') (by rw [swap_length]; exact hl) hk1
          (hinv.swap hkp hpl hl (Nat.succ_pos _) hp1 fun s hs hsp hsc => ?_)
        obtain rfl : s = 2 * pos + 1 + 1 := (child_cases hs hsp).resolve_left hsc
        intro a b ha hb
        have hsl := (List.getElem?_eq_some_iff.mp hb).1
        exact ltAt_le w (Decidable.not_not.mp fun hn => hc ⟨hsl, hn⟩) a b ha hb
    · -- `pos` has no child in the array
      refine ⟨hpl, fun i hi hg hip a b ha hb => ?_, hinv.2⟩
      have hil : i < h.length := (List.getElem?_eq_some_iff.mp hb).1
      exact hinv.1 i hi hg hip (by omega) a b ha hb

theorem isHeap_nil (lt : α → α → Bool) : IsHeap lt ([] : List α) := by
  intro i hi; simp at hi

theorem LE_append_left (lt : α → α → Bool) (h t : List α) {i j : Nat} (hi : i < h.length) (hj : j < h.length) :
    LE lt (h ++ t) i j ↔ LE lt h i j := by
  unfold LE
  rw [List.getElem?_append_left hi, List.getElem?_append_left hj]

theorem sdInv_push {lt : α → α → Bool} {h : List α} (hh : IsHeap lt h) (x : α) : SdInv lt (h ++ [x]) 0 h.length := by
  rw [isHeap_iff] at hh
  refine ⟨fun i hi hg hne a b ha hb => ?_, fun _ c hc hcp a b _ hb => ?_⟩
  · have hil : i < (h ++ [x]).length := (List.getElem?_eq_some_iff.mp hb).1
    have hil' : i < h.length := by simp only [List.length_append, List.length_singleton] at hil; omega
    exact (LE_append_left lt h [x] (Nat.lt_trans (parent_lt hi) hil') hil').mpr (hh i hi hg) a b ha hb
  · have hcl : c < (h ++ [x]).length := (List.getElem?_eq_some_iff.mp hb).1
    simp only [List.length_append, List.length_singleton] at hcl
    omega

theorem push_isHeap {lt : α → α → Bool} (w : WeakOrder lt) (h : List α) (x : α)
    (hh : IsHeap lt h) : IsHeap lt (push lt h x) :=
  siftdown_isHeap w _ _ _ (Nat.le_succ _) (by simp) (sdInv_push hh x)

theorem isHeap_prefix (lt : α → α → Bool) (h : List α) (x : α) (hh : IsHeap lt (h ++ [x])) :
    IsHeap lt h := by
  rw [isHeap_iff] at hh ⊢
  intro i hi hg a b ha hb
  have hil : i < h.length := (List.getElem?_eq_some_iff.mp hb).1
  exact (LE_append_left lt h [x] (Nat.lt_trans (parent_lt hi) hil) hil).mp (hh i hi hg) a b ha hb

theorem siftup_isHeap {lt : α → α → Bool} (w : WeakOrder lt) (top last : α) (rest : List α)
    (hh : IsHeap lt (top :: rest)) : IsHeap lt (siftup lt (last :: rest)) := by
  rw [isHeap_iff] at hh
  have hb := bubble_spec w 0 (last :: rest).length (last :: rest) 0 (Nat.le_refl _) (Nat.succ_pos _) (Nat.le_refl _) (by
    refine ⟨fun i hi hg _ hpar => ?_, fun h0 => absurd h0 (Nat.lt_irrefl 0)⟩
    -- away from the root the two arrays are the same
    have := hh i hi hg
    obtain ⟨j, hj⟩ := Nat.exists_eq_succ_of_ne_zero (Nat.ne_of_gt hi)
    obtain ⟨q, hq⟩ := Nat.exists_eq_succ_of_ne_zero hpar
    rw [hq, hj] at this ⊢
    exact this)
  exact siftdown_isHeap w _ _ _ (Nat.le_succ _) hb.1 hb.2

theorem head_min {lt : α → α → Bool} (w : WeakOrder lt) {x : α} {r : List α} (hh : IsHeap lt (x :: r)) :
    ∀ y ∈ x :: r, lt y x = false := fun y hy => by
  obtain ⟨i, hi, rfl⟩ := List.getElem_of_mem hy
  exact root_min lt w.ntrans w.irrefl _ hh i hi

theorem pop_isHeap {lt : α → α → Bool} (w : WeakOrder lt) (h : List α) (x : α) (h' : List α)
    (hh : IsHeap lt h) (hp : pop lt h = some (x, h')) :
    IsHeap lt h' ∧ ∀ y ∈ h, lt y x = false := by
  rcases pop_some lt h x h' hp with ⟨rfl, rfl⟩ | ⟨rest, last, rfl, rfl⟩
  · exact ⟨isHeap_nil lt, head_min w hh⟩
  · exact ⟨siftup_isHeap w x last rest (isHeap_prefix lt (x :: rest) last hh), head_min w hh⟩

/-! ### heapsort -/

def drain (lt : α → α → Bool) : Nat → List α → List α
  | 0, _ => []
  | n + 1, h =>
    match pop lt h with
    | none => []
    | some (x, h') => x :: drain lt n h'

def build (lt : α → α → Bool) (l : List α) : List α := l.foldl (push lt) []

theorem foldl_push_isHeap {lt : α → α → Bool} (w : WeakOrder lt) (l : List α) :
    ∀ h, IsHeap lt h → IsHeap lt (l.foldl (push lt) h) := by
  induction l with
  | nil => intro h hh; exact hh
  | cons x r ih => intro h hh; exact ih _ (push_isHeap w h x hh)

theorem foldl_push_perm (lt : α → α → Bool) (l : List α) :
    ∀ h, (l.foldl (push lt) h).Perm (l ++ h) := by
  induction l with
  | nil => intro h; exact List.Perm.refl _
  | cons x r ih =>
    intro h
    refine (ih _).trans ?_
    refine ((push_perm lt h x).append_left r).trans ?_
    exact (List.perm_middle (l₁ := r) (l₂ := h) (a := x))

theorem build_isHeap {lt : α → α → Bool} (w : WeakOrder lt) (l : List α) : IsHeap lt (build lt l) :=
  foldl_push_isHeap w l [] (isHeap_nil lt)

theorem build_perm (lt : α → α → Bool) (l : List α) : (build lt l).Perm l := by
  have := foldl_push_perm lt l []
  simpa [build] using this

theorem drain_sorted {lt : α → α → Bool} (w : WeakOrder lt) :
    ∀ (n : Nat) (h : List α), IsHeap lt h → h.length ≤ n →
      (drain lt n h).Perm h ∧ (drain lt n h).Pairwise (fun a b => lt b a = false) := by
  intro n
  induction n with
  | zero =>
    intro h _ hl
    have : h = [] := List.eq_nil_of_length_eq_zero (by omega)
    subst this
    exact ⟨List.Perm.refl _, List.Pairwise.nil⟩
  | succ n ih =>
    intro h hh hl
    unfold drain
    cases hp : pop lt h with
    | none =>
      have := (pop_none_iff lt h).mp hp
      subst this
      exact ⟨List.Perm.refl _, List.Pairwise.nil⟩
    | some r =>
      obtain ⟨x, h'⟩ := r
      have hperm := pop_perm lt h x h' hp
      obtain ⟨hh', hmin⟩ := pop_isHeap w h x h' hh hp
      have hl' : h'.length ≤ n := by
        have := hperm.length_eq
        simp only [List.length_cons] at this
        omega
      obtain ⟨ip, is⟩ := ih h' hh' hl'
      refine ⟨(List.Perm.cons x ip).trans hperm.symm, ?_⟩
      refine List.Pairwise.cons ?_ is
      intro y hy
      exact hmin y (hperm.symm.subset (List.mem_cons_of_mem _ (ip.subset hy)))

/-! ## tie-breaking: the root is the first minimum in push order -/

/-- one step of a left-to-right scan for the first minimum -/
def bestStep (lt : α → α → Bool) (b : Option α) (x : α) : Option α :=
  match b with
  | none => some x
  | some b => if lt x b then some x else some b

/-- `SdInv` orders every element of index smaller than `pos` with its parent -/
theorem sdInv_root_le {lt : α → α → Bool} (w : WeakOrder lt) (l : List α) (pos : Nat) (hinv : SdInv lt l 0 pos) :
    ∀ j, j < pos → LE lt l 0 j := by
  intro j
  induction j using Nat.strongRecOn with
  | _ j ih =>
    intro hj a b ha hb
    by_cases h0 : j = 0
    · subst h0; rw [ha] at hb; cases hb; exact w.irrefl _
    · have hj0 := Nat.pos_of_ne_zero h0
      have hpl := parent_lt hj0
      have hjl : j < l.length := (List.getElem?_eq_some_iff.mp hb).1
      exact LE.trans w (Nat.lt_trans hpl hjl) (ih _ hpl (Nat.lt_trans hpl hj))
        (hinv.1 j hj0 (Nat.zero_le _) (Nat.ne_of_lt hj)) a b ha hb

theorem siftdown_root {lt : α → α → Bool} (w : WeakOrder lt) :
    ∀ (fuel : Nat) (l : List α) (pos : Nat) (x r : α), pos ≤ fuel → SdInv lt l 0 pos →
      l[pos]? = some x → l[0]? = some r →
      (siftdown lt fuel l pos)[0]? = some (if pos = 0 then x else if lt x r then x else r) := by
  intro fuel
  induction fuel with
  | zero =>
    intro l pos x r hf _ hx _
    obtain rfl : pos = 0 := Nat.le_zero.mp hf
    exact hx
  | succ n ih =>
    intro l pos x r hf hinv hx hr
    rw [siftdown]
    split
    next hp => exact hp ▸ hx
    next hp =>
      have hpos : 0 < pos := Nat.pos_of_ne_zero hp
      have hpl : pos < l.length := (List.getElem?_eq_some_iff.mp hx).1
      have hpar := parent_lt hpos
      have hparl : (pos - 1) / 2 < l.length := Nat.lt_trans hpar hpl
      dsimp only
      split
      next hlt =>
        obtain ⟨x', y, hx', hy, hxy⟩ := ltAt_true lt l _ _ hlt
        obtain rfl : x = x' := Option.some.inj (hx.symm.trans hx')
        have hsw := fun k => getElem?_swap l pos ((pos - 1) / 2) k hpl hparl
        have hxp : (swap l pos ((pos - 1) / 2))[(pos - 1) / 2]? = some x := by rw [hsw, if_pos rfl]; exact hx
        have hinv' := hinv.swap w hpos hpl (fun _ => Nat.zero_le _) (ltAt_le w hlt)
        by_cases hpar0 : (pos - 1) / 2 = 0
        · -- the parent is the root: `x < r`
          rw [ih _ _ x x (Nat.le_of_lt_succ (Nat.lt_of_lt_of_le hpar hf)) hinv' hxp (hpar0 ▸ hxp), if_pos hpar0]
          obtain rfl : y = r := Option.some.inj (hy.symm.trans (hpar0 ▸ hr))
          rw [if_pos hxy]
        · have hr' : (swap l pos ((pos - 1) / 2))[0]? = some r := by
            rw [hsw, if_neg (Ne.symm hpar0), if_neg (Nat.ne_of_lt hpos)]; exact hr
          rw [ih _ _ x r (Nat.le_of_lt_succ (Nat.lt_of_lt_of_le hpar hf)) hinv' hxp hr', if_neg hpar0]
      next hlt =>
        -- `x` is not smaller than its parent, which is not smaller than the root
        have h1 := ltAt_ge (Bool.eq_false_iff.mpr hlt) _ x (List.getElem?_eq_getElem hparl) hx
        have h2 := sdInv_root_le w l pos hinv _ hpar r _ hr (List.getElem?_eq_getElem hparl)
        rw [hr, w.ntrans _ _ _ h2 h1]
        rfl

theorem push_head {lt : α → α → Bool} (w : WeakOrder lt) (h : List α) (x : α) (hh : IsHeap lt h) :
    (push lt h x).head? = bestStep lt h.head? x := by
  have hx : (h ++ [x])[h.length]? = some x := by simp
  rw [List.head?_eq_getElem?]
  cases h with
  | nil => exact siftdown_root w 1 [x] 0 x x (Nat.zero_le _) (sdInv_push hh x) rfl rfl
  | cons r rest =>
    rw [push, siftdown_root w _ _ _ x r (Nat.le_succ _) (sdInv_push hh x) hx rfl]
    rw [List.length_cons, if_neg (Nat.succ_ne_zero _)]
    exact apply_ite some _ _ _

theorem foldl_push_head {lt : α → α → Bool} (w : WeakOrder lt) (xs : List α) :
    ∀ h, IsHeap lt h → (xs.foldl (push lt) h).head? = xs.foldl (bestStep lt) h.head? := by
  induction xs with
  | nil => intro h _; rfl
  | cons x r ih =>
    intro h hh
    simp only [List.foldl_cons]
    rw [ih _ (push_isHeap w h x hh), push_head w h x hh]

theorem pop_head (lt : α → α → Bool) (h : List α) (e : α) (h' : List α) (hp : pop lt h = some (e, h')) :
    h.head? = some e := by
  rcases pop_some lt h e h' hp with ⟨rfl, _⟩ | ⟨_, _, rfl, _⟩ <;> rfl

end PS.Heapq
