/- Heap search on unambiguous, acyclic grammars, at the generator level.  Completeness: when the generator stops,
   every start symbol is exhausted and everything it popped was yielded, so every derivable program all of whose
   sub-programs the filter accepts is in the output (`take_complete`).  Prefix completeness, for every prefix of the
   enumeration, stopped or not: a member that is strictly better than a yielded program has been yielded
   (`take_prefix_complete`, from `prefixOK_all` and `exhausted_complete`). -/
import PS.Proofs.Enum.UComplete
import PS.Proofs.Enum.UBridge
namespace PS.UHS
open PS PS.G

set_option linter.unusedSectionVars false
variable {U π : Type} [DecidableEq U]
variable {E : Env U π} {rank : UNT U → Nat} {Good : π → Prop}

/-- the start symbol `nt` is exhausted and everything popped for it was taken by the generator -/
def Exh (s : St U π) (emE : List (π × Prog × UNT U)) (nt : UNT U) : Prop :=
  s.initS.contains nt = true ∧ s.heapOf nt = [] ∧ ∀ x, Popped s nt x → (x, nt) ∈ emE.map (·.2)

theorem Exh.keep {s s' : St U π} {emE emE' : List (π × Prog × UNT U)} {nt : UNT U} (h : Exh s emE nt)
    (hk : Kept s s' nt) (hsub : ∀ x, x ∈ emE → x ∈ emE') : Exh s' emE' nt := by
  obtain ⟨a, b, c⟩ := h
  obtain ⟨a', b', c'⟩ := hk a b
  refine ⟨a', b', ?_⟩
  intro x hx
  obtain ⟨y, hy, hye⟩ := List.mem_map.mp (c x ((Popped.congr c').mp hx))
  exact List.mem_map.mpr ⟨y, hsub y hy, hye⟩

theorem chainR_next (t : AList (Option Prog) Prog) (k : Option Prog) : ∀ d : List Prog, ChainR t d →
    (k = none ∨ ∃ y, k = some y ∧ y ∈ d) → d.head? = k ∨ ∃ z, z ∈ d ∧ AList.lookup k t = some z := by
  intro d
  induction d with
  | nil =>
    intro _ hk
    rcases hk with rfl | ⟨y, _, hy⟩
    · exact Or.inl rfl
    · cases hy
  | cons x rest ih =>
    intro h hk
    by_cases hx : k = some x
    · exact Or.inl hx.symm
    · have hk' : k = none ∨ ∃ y, k = some y ∧ y ∈ rest := hk.imp id fun ⟨y, e, hy⟩ =>
        ⟨y, e, (List.mem_cons.mp hy).resolve_left fun e' => hx (e' ▸ e)⟩
      rcases ih h.2 hk' with hd | ⟨z, hz, hl⟩
      · exact Or.inr ⟨x, List.mem_cons_self, hd ▸ h.1⟩
      · exact Or.inr ⟨z, List.mem_cons_of_mem _ hz, hl⟩

/-- `d`: the programs taken so far, most recent first; a popped program is in `d` or comes after its head on the
    successor chain of `nt` -/
theorem popped_done_or {s : St U π} {nt : UNT U} (hn : NTInv E s nt) {d : List Prog} (hC : ChainR (s.succOf nt) d)
    (Q : Prog → Prop) (h0 : ∀ x, AList.lookup d.head? (s.succOf nt) = some x → Q x)
    (hs : ∀ y z, Q y → AList.lookup (some y) (s.succOf nt) = some z → Q z) : ∀ x, Popped s nt x → x ∈ d ∨ Q x := by
  apply popped_induct hn (fun x => x ∈ d ∨ Q x)
  · intro x hx
    rcases chainR_next _ none d hC (Or.inl rfl) with hd | ⟨z, hz, hl⟩
    · exact Or.inr (h0 x (hd ▸ hx))
    · rw [hx] at hl; cases hl; exact Or.inl hz
  · rintro y z (hy | hy) hyz
    · rcases chainR_next _ (some y) d hC (Or.inr ⟨y, rfl, hy⟩) with hd | ⟨z', hz, hl⟩
      · exact Or.inr (h0 z (hd ▸ hyz))
      · rw [hyz] at hl; cases hl; exact Or.inl hz
    · exact Or.inr (hs y z hy hyz)

/-- the start symbol answered `None` to the query for the successor of the last program taken from it -/
theorem exh_of_none {s : St U π} {emE : List (π × Prog × UNT U)} {nt : UNT U} (h : OG E rank s emE)
    (hc : s.initS.contains nt = true) (hh : s.heapOf nt = [])
    (hl : AList.lookup ((doneR (emE.map (·.2)) nt).head?) (s.succOf nt) = none) : Exh s emE nt := by
  refine ⟨hc, hh, ?_⟩
  have hn : NTInv E s nt := (of_init (h.all nt) hc).1
  intro x hx
  rw [← mem_doneR]
  exact (popped_done_or hn (h.ginv.chain nt) (fun _ => False) (fun x hx => by rw [hl] at hx; cases hx)
    (fun _ _ hf _ => hf) x hx).resolve_right id

/-- the invariant of the generator loop with the exhaustion of the start symbols that have no entry in the start heap -/
structure OC (E : Env U π) (rank : UNT U → Nat) (s : St U π) (emE : List (π × Prog × UNT U)) : Prop where
  og : OG E rank s emE
  exh : s.initS ≠ [] → ∀ nt w, startW E nt = some w → nt ∉ s.startHeap.map (·.2.2) → Exh s emE nt

theorem oc_pushNexts (R : RHyp E rank Good) {fuel : Nat} : ∀ (l : List (UNT U)) {s s' : St U π},
    OG E rank s [] → l.Nodup → (∀ nt, nt ∈ s.startHeap.map (·.2.2) → nt ∉ l) →
    (∀ nt, nt ∉ l → nt ∈ E.G.starts.map (·.1) → nt ∉ s.startHeap.map (·.2.2) → Exh s [] nt) →
    pushNexts E fuel l s = some s' →
    OG E rank s' [] ∧ (∀ nt, nt ∈ E.G.starts.map (·.1) → nt ∉ s'.startHeap.map (·.2.2) → Exh s' [] nt) ∧
      (l ≠ [] → s'.initS ≠ []) := by
  intro l s s' h hnd hdisj hex hp
  -- when the symbols `rest` are still to come: those done have an entry in the start heap or are exhausted
  refine (pushNexts_induct (fun rest s1 => OG E rank s1 [] ∧ rest.Nodup ∧
      (∀ nt, nt ∈ s1.startHeap.map (·.2.2) → nt ∉ rest) ∧
      (∀ nt, nt ∉ rest → nt ∈ E.G.starts.map (·.1) → nt ∉ s1.startHeap.map (·.2.2) → Exh s1 [] nt) ∧
      (rest ≠ l → s1.initS ≠ [])) ?_ l ⟨h, hnd, hdisj, hex, fun hne => absurd rfl hne⟩ hp).elim
    fun r1 ⟨_, _, r2, r3⟩ => ⟨r1, fun nt hs hn => r2 nt (by simp) hs hn, fun hne => r3 (Ne.symm hne)⟩
  rintro nt rest s s1 ⟨h, hnd, hdisj, hex, _⟩ h1
  obtain ⟨g1, hsub, hkept, hmono, hres, _⟩ := h.pushNext R (fun hm => hdisj nt hm List.mem_cons_self) (by simp [doneR])
    (by intro k hk; cases hk) (fun _ => rfl) (E.ops.ofRule 0) (by intro x hx; cases hx)  -- `bound` is not read: see `OG.pushNexts`
    (by intro k w pr hk; cases hk) h1
  have hinit1 : s1.initS ≠ [] := by
    rcases hres with hm | ⟨hc, _, _⟩
    · obtain ⟨e, he, _⟩ := List.mem_map.mp hm
      intro h0
      have := (g1.ginv.inited h0).1
      rw [this] at he; cases he
    · intro h0; rw [h0] at hc; cases hc
  refine ⟨g1, (List.nodup_cons.mp hnd).2, startHeap_disj_step hnd hdisj fun e he => (hsub e he).imp id And.left, ?_,
    fun _ => hinit1⟩
  intro nt' hnr hs hnh
  by_cases hnn : nt' = nt
  · subst hnn
    rcases hres with hm | ⟨hc, hh, hl⟩
    · exact absurd hm hnh
    · exact exh_of_none g1 hc hh (by simpa [doneR] using hl)
  · have hnh0 : nt' ∉ s.startHeap.map (·.2.2) := by
      intro hm
      obtain ⟨e, he, hee⟩ := List.mem_map.mp hm
      exact hnh (List.mem_map.mpr ⟨e, hmono e he, hee⟩)
    exact (hex nt' (by simp [hnn, hnr]) hs hnh0).keep (hkept nt') (fun x hx => hx)

theorem kwayLoop_initS (R : RHyp E rank Good) {fuel : Nat} (k : Nat) {s s' : St U π} {r : Option Prog}
    (hp : UHS.kwayLoop E fuel k s = some (s', r)) (x : UNT U) (hx : x ∈ s.initS) : x ∈ s'.initS :=
  (kwayLoop_induct (fun s => x ∈ s.initS) (fun hx _ hpn => pushNext_initS R.ohyp.ghyp.kway hpn x hx) k hx hp).1

theorem OC.kwayLoop (R : RHyp E rank Good) {fuel k : Nat} {s s' : St U π} {emE : List (π × Prog × UNT U)}
    {r : Option Prog} (hc : OC E rank s emE) (hp : kwayLoop E fuel k s = some (s', r)) :
    (r = none ∧ OC E rank s' emE ∧ s'.startHeap = []) ∨ (∃ e, r = some e.2.1 ∧ OC E rank s' (e :: emE)) := by
  have h := hc.og
  rcases kwayLoop_eq hp with ⟨rfl, rfl, he⟩ | ⟨⟨pa, q, nt⟩, h', s1, hpop, hpn, hres⟩
  · exact Or.inl ⟨rfl, hc, he⟩
  · have hperm := Heapq.pop_perm _ _ _ _ hpop
    obtain ⟨g1, hkept, hmono, hres', hnd, hm⟩ := h.turn R hpop hpn
    obtain ⟨rfl, rfl⟩ := hres hnd
    refine Or.inr ⟨(pa, q, nt), rfl, g1, ?_⟩
    intro _ nt' w' hw' hnh
    have hinit0 : s.initS ≠ [] := by
      intro h0'
      have := (h.ginv.inited h0').1
      rw [this] at hm; cases hm
    by_cases hnn : nt' = nt
    · subst hnn
      rcases hres' with hm' | ⟨hc', hh, hl⟩
      · exact absurd hm' hnh
      · exact exh_of_none g1 hc' hh (by simpa [doneR_cons_self] using hl)
    · have hnh0 : nt' ∉ s.startHeap.map (·.2.2) := by
        intro hm'
        obtain ⟨e, he, hee⟩ := List.mem_map.mp hm'
        rcases List.mem_cons.mp (hperm.subset he) with rfl | he'
        · exact hnn hee.symm
        · exact hnh (List.mem_map.mpr ⟨e, hmono e he', hee⟩)
      exact (hc.exh hinit0 nt' w' hw' hnh0).keep (hkept nt') (fun x hx => List.mem_cons_of_mem _ hx)

theorem oc_empty (E : Env U π) : OC E rank (St.empty E.G) [] :=
  ⟨og_empty E, fun h => absurd rfl h⟩

theorem OC.startQuery (R : RHyp E rank Good) {fuel : Nat} {s s' : St U π} {emE : List (π × Prog × UNT U)}
    {r : Option Prog} (h : OC E rank s emE) (hp : startQuery E fuel s = some (s', r)) :
    (r = none ∧ OC E rank s' emE ∧ s'.startHeap = [] ∧ (E.G.starts ≠ [] → s'.initS ≠ [])) ∨
      (∃ e, r = some e.2.1 ∧ OC E rank s' (e :: emE)) := by
  obtain ⟨s1, h1, hl⟩ := startQuery_kway R.ohyp.ghyp.kway hp
  -- some start symbol is initialised before the merge loop, and `_init` only grows
  have stop : ∀ {s1 : St U π}, OC E rank s1 emE → UHS.kwayLoop E fuel fuel s1 = some (s', r) → (E.G.starts ≠ [] → s1.initS ≠ []) →
      (r = none ∧ OC E rank s' emE ∧ s'.startHeap = [] ∧ (E.G.starts ≠ [] → s'.initS ≠ [])) ∨
        (∃ e, r = some e.2.1 ∧ OC E rank s' (e :: emE)) := by
    intro s1 hc1 hl hin
    refine (hc1.kwayLoop R hl).imp (fun ⟨a, b, c⟩ => ⟨a, b, c, fun hne h0 => ?_⟩) id
    obtain ⟨x, hx⟩ := List.exists_mem_of_ne_nil _ (hin hne)
    have := kwayLoop_initS R fuel hl x hx
    rw [h0] at this; cases this
  rcases h1 with ⟨hi0, h1⟩ | ⟨hi0, rfl⟩
  · obtain ⟨hs0, he0⟩ := h.og.ginv.inited hi0
    have he0' : emE = [] := by simpa using he0
    subst he0'
    obtain ⟨g1, hex1, hin1⟩ := oc_pushNexts R _ h.og R.starts_nodup (by rw [hs0]; intro nt hm; cases hm)
      (by intro nt hn hs _; exact absurd hs hn) h1
    exact stop ⟨g1, fun _ nt w hw hn => hex1 nt ((startW_some_iff E nt).mp ⟨w, hw⟩) hn⟩ hl
      fun hne => hin1 (by simpa using hne)
  · exact stop h hl fun _ => hi0

theorem OC.addDeleted (R : RHyp E rank Good) {s : St U π} {emE : List (π × Prog × UNT U)} {e : π × Prog × UNT U}
    (h : OC E rank s (e :: emE)) (hf : E.filter e.2.1 = false) : OC E rank (s.addDeleted e.2.1) (e :: emE) := by
  refine ⟨h.og.addDeleted R hf, ?_⟩
  obtain ⟨d, hd⟩ := St.addDeleted_eq s e.2.1
  have hsame : ∀ nt, Same s (s.addDeleted e.2.1) nt := fun nt => hd ▸ Same.outer s _ d _ nt
  have hinit : (s.addDeleted e.2.1).initS = s.initS := by rw [hd]
  have hsh : (s.addDeleted e.2.1).startHeap = s.startHeap := by rw [hd]
  intro hi nt w hw hn
  rw [hinit] at hi
  rw [hsh] at hn
  exact (h.exh hi nt w hw hn).keep (Kept.of_same (hsame nt)) (fun x hx => hx)

theorem OC.next (R : RHyp E rank Good) {fuel : Nat} (k : Nat) {s s' : St U π} {emE : List (π × Prog × UNT U)}
    {r : Option Prog} (h : OC E rank s emE) (hp : next E fuel k s = some (s', r)) :
    ∃ new, RejAll E new ∧ ((r = none ∧ OC E rank s' (new ++ emE) ∧ s'.startHeap = [] ∧ (E.G.starts ≠ [] → s'.initS ≠ [])) ∨
      (∃ e, r = some e.2.1 ∧ E.filter e.2.1 = true ∧ OC E rank s' (e :: (new ++ emE)))) :=
  next_run (fun h hp => h.startQuery R hp) (fun g hf => g.addDeleted R hf) k h hp

theorem OC.take (R : RHyp E rank Good) {fuel : Nat} (k : Nat) {s s' : St U π} {emE : List (π × Prog × UNT U)}
    {acc out : List Prog} {b : Bool} (h : OC E rank s emE) (hacc : acc = accepted E emE)
    (hp : take E fuel k s acc = some (s', out, b)) : ∃ emE', OC E rank s' emE' ∧ out = accepted E emE' ∧
      (b = true → s'.startHeap = [] ∧ (E.G.starts ≠ [] → s'.initS ≠ [])) :=
  take_run (fun h hp => h.startQuery R hp) (fun g hf => g.addDeleted R hf) k h hacc hp

theorem take_complete (R : RHyp E rank Good) (fuel k : Nat) (s' : St U π) (out : List Prog)
    (h : take E fuel k (St.empty E.G) [] = some (s', out, true)) (p : Prog) (nt : UNT U) (w : Rat)
    (hw : startW E nt = some w) (hd : Der E p nt) (hcl : PS.HG.clean E.filter p = true) : p ∈ out := by
  obtain ⟨emE, hc, hout, hstop⟩ := (oc_empty E).take R k rfl h
  obtain ⟨hsh, hin⟩ := hstop rfl
  have hstarts : E.G.starts ≠ [] := by
    intro h0
    unfold startW at hw
    rw [h0] at hw; cases hw
  have hex := hc.exh (hin hstarts) nt w hw (by rw [hsh]; simp)
  have hfull : Full E rank s' nt := of_init (hc.og.all nt) hex.1
  have hp := exhausted_complete R.ohyp hc.og.base hc.og.all (rank nt) nt rfl hfull hex.2.1 p hd hcl
  obtain ⟨x, hx, hxe⟩ := List.mem_map.mp (hex.2.2 p hp)
  rw [hout]
  unfold accepted
  rw [List.mem_reverse]
  refine List.mem_map.mpr ⟨x, List.mem_filter.mpr ⟨hx, ?_⟩, by rw [hxe]⟩
  have : x.2.1 = p := by rw [hxe]
  rw [this]
  exact PS.HG.clean_self E.filter p hcl

theorem accepted_all (hnf : ∀ p, E.filter p = true) (emE : List (π × Prog × UNT U)) :
    accepted E emE = (emE.map (·.2.1)).reverse := by
  unfold accepted
  have : emE.filter (fun e => E.filter e.2.1) = emE := by
    rw [List.filter_eq_self]
    intro x _
    exact hnf _
  rw [this]

theorem take_prefix_complete (R : RHyp E rank Good) (fuel k : Nat) (s' : St U π)
    (out : List Prog) (b : Bool)
    (h : take E fuel k (St.empty E.G) [] = some (s', out, b)) (p q : Prog) (hq : q ∈ out) (kp kq : π)
    (hkp : StartKey E p kp) (hkq : StartKey E q kq) (hlt : E.ops.lt kp kq = true)
    (hcl : PS.HG.clean E.filter p = true) : p ∈ out := by
  have H := R.ohyp
  obtain ⟨emE, hc, hout, _⟩ := (oc_empty E).take R k rfl h
  have hog := hc.og
  rw [hout] at hq ⊢
  unfold accepted at hq ⊢
  rw [List.mem_reverse] at hq ⊢
  obtain ⟨xq, hxqf, hxqe⟩ := List.mem_map.mp hq
  have hxq : xq ∈ emE := (List.mem_filter.mp hxqf).1
  have hkq' : kq = xq.1 := hog.startKey_eq R hxq (hxqe ▸ hkq)
  obtain ⟨nt, w, prp, hw, hprp, hkpe⟩ := hkp
  apply Classical.byContradiction
  intro hnp
  have hinit : s'.initS ≠ [] := by
    intro h0
    have := (hog.ginv.inited h0).2
    have : emE = [] := by simpa using this
    rw [this] at hxq; cases hxq
  have hnotem : (p, nt) ∉ emE.map (·.2) := by
    intro hm
    obtain ⟨x, hx, hxe⟩ := List.mem_map.mp hm
    have hx1 : x.2.1 = p := by rw [hxe]
    exact hnp (List.mem_map.mpr ⟨x, List.mem_filter.mpr ⟨hx, by rw [hx1]; exact PS.HG.clean_self E.filter p hcl⟩, hx1⟩)
  by_cases hheap : nt ∈ s'.startHeap.map (·.2.2)
  · obtain ⟨f, hf, hfe⟩ := List.mem_map.mp hheap
    have hfull : Full E rank s' nt := full_of_popped (hog.all nt) (hfe ▸ hog.ginv.front f hf)
    have hfpop : Popped s' nt f.2.1 := by
      have := hog.ginv.front f hf
      rw [hfe] at this
      exact ⟨_, this⟩
    -- the front entry is not worse than the unemitted `p`
    have hlefp : LE E nt f.2.1 p := by
      by_cases hpp : Popped s' nt p
      · -- `p` is on the chain after the programs taken from `nt`
        have hfront := hog.ginv.front f hf
        rw [hfe] at hfront
        -- `Popped` goes along the chain with the order: `LE.trans` asks for a derivation of the middle program
        have key : ∀ x, Popped s' nt x → x ∈ doneR (emE.map (·.2)) nt ∨ (Popped s' nt x ∧ LE E nt f.2.1 x) := by
          apply popped_done_or hfull.1 (hog.ginv.chain nt)
          · intro x hx
            rw [hfront] at hx
            cases hx
            exact ⟨hfpop, LE.refl H nt _⟩
          · intro y z hy hyz
            exact ⟨⟨_, hyz⟩, LE.trans H (hy.1.der hog.base.sinv) hy.2 (hfull.1.sorted y z hyz)⟩
        rcases key p hpp with hin | ⟨_, hle⟩
        · exact absurd ((mem_doneR _ p nt).mp hin) hnotem
        · exact hle
      · exact prefixOK_all H hog.base hog.all (rank nt) nt rfl hfull f.2.1 p hfpop ⟨prp, hprp⟩ hcl hpp
    -- keys: kq ≤ key f ≤ kp
    obtain ⟨wf, prf, hwf, hprf, hfk⟩ := hog.base.sinv.start_ok f hf
    rw [hfe] at hwf hprf
    rw [hw] at hwf; cases hwf
    have h1 : E.ops.lt f.1 xq.1 = false := hog.heap_ge f hf xq hxq
    have h2 : E.ops.lt kp f.1 = false := by
      rw [hkpe, hfk]
      exact R.adj_mono prp prf nt w hw (hasPrio_good H _ _ _ hprp) (hasPrio_good H _ _ _ hprf) (hlefp prf prp hprf hprp)
    have hgq : Good xq.1 := by
      obtain ⟨w2, pr2, hw2, hpr2, he2⟩ := hog.em_key xq hxq
      rw [he2]; exact R.good_adjust _ _ _ hw2 (hasPrio_good H _ _ _ hpr2)
    have hgp : Good kp := by rw [hkpe]; exact R.good_adjust _ _ _ hw (hasPrio_good H _ _ _ hprp)
    have := H.weak.ntrans hgq (start_good R hog.base.sinv f hf) hgp h1 h2
    rw [← hkq', hlt] at this
    cases this
  · -- the start symbol is exhausted: everything derivable from it was popped and handed over
    have hex := hc.exh hinit nt w hw hheap
    have hfull : Full E rank s' nt := of_init (hog.all nt) hex.1
    have hpp := exhausted_complete H hog.base hog.all (rank nt) nt rfl hfull hex.2.1 p ⟨prp, hprp⟩ hcl
    exact hnotem (hex.2.2 p hpp)

theorem take_sound_genU (H : GHyp E) (d : UNT U) {fuel k : Nat} {s' : St U π} {out : List Prog} {b : Bool}
    (h : take E fuel k (St.empty E.G) [] = some (s', out, b)) : ∀ p ∈ out, PS.U.genU (E.G.toUCFG d) p = true :=
  fun p hp => (derStart_iff_genU E d p).mp (((sinv_empty E).take H k (by intro q hq; cases hq) h).2 p hp)

theorem take_complete_genU (R : RHyp E rank Good) (d : UNT U) (fuel k : Nat) (s' : St U π) (out : List Prog)
    (h : take E fuel k (St.empty E.G) [] = some (s', out, true)) (p : Prog)
    (hp : PS.U.genU (E.G.toUCFG d) p = true) (hcl : PS.HG.clean E.filter p = true) : p ∈ out := by
  obtain ⟨nt, w, hw, hd⟩ := (derStart_iff_genU E d p).mpr hp
  exact take_complete R fuel k s' out h p nt w hw hd hcl

end PS.UHS
