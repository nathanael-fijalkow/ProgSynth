/- No duplicates in beap search: the invariant `NI` (BeapNodup.lean) through `_query_list_` / `query`; after the
   prologue every queue holds each rule at most once, so the (rule, combination) pairs of a queue are pairwise distinct.
   Every program yielded by `next` is appended to `_bank[start][n]`, where it was not before, and programs yielded at
   different indices have different costs: the sequence produced by `take k` has no repetition.  `next_cost`,
   `next_order`, `next_nodup` are stated for a generator that is fresh as long as it has not started, so also after a
   `merge_program` before the first `next`. -/
import PS.Proofs.Enum.BeapNodup
import PS.Proofs.Enum.BeapAcyclic
import PS.Proofs.Enum.BeapOrderFinal
namespace PS.Beap
open PS PS.G PS.Heapq

set_option linter.unusedSectionVars false
variable {S : Type} [DecidableEq S]

theorem ProtG.refl (x : Rat) (s : St S) (pp : Ghost S) : ProtG x s s pp pp := fun _ _ => ⟨rfl, fun _ => rfl⟩

theorem ProtG.trans {x : Rat} {a b c : St S} {p1 p2 p3 : Ghost S} (hp : Prot x a b) (h1 : ProtG x a b p1 p2)
    (h2 : ProtG x b c p2 p3) : ProtG x a c p1 p3 := fun nt hl =>
  let ⟨e1, e2⟩ := h1 nt hl; let ⟨f1, f2⟩ := h2 nt (lastGe_of_same hl (hp nt hl).1); ⟨f1.trans e1, fun ci => (f2 ci).trans (e2 ci)⟩

theorem ProtG.mono {x y : Rat} {s s' : St S} {pp pp' : Ghost S} (hxy : y ≤ x) (h : ProtG y s s' pp pp') : ProtG x s s' pp pp' :=
  fun nt hl => h nt (hl.mono hxy)

def PossN (s : St S) (ps : List Prog) (ac : NT S Unit × Nat) : Prop := (∀ p ∈ ps, p ∈ s.bankAt ac.1 ac.2) ∧ ps.Nodup

theorem possN_nil (s : St S) (ac : NT S Unit × Nat) : PossN s [] ac := ⟨fun p hp => (by cases hp), List.nodup_nil⟩

theorem PossN.mono {s s' : St S} {ps : List Prog} {ac : NT S Unit × Nat} (h : PossN s ps ac) (hm : BankMono s s') : PossN s' ps ac :=
  ⟨fun p hp => hm _ _ _ (h.1 p hp), h.2⟩

theorem tuple_prov (s : St S) (a : List Prog) (poss : List (List Prog)) (zs : List (NT S Unit × Nat))
    (h1 : All2 (· ∈ ·) a poss) (h2 : All2 (PossN s) poss zs) :
    All2 (fun x (ac : NT S Unit × Nat) => x ∈ s.bankAt ac.1 ac.2) a zs :=
  All2.of_mem h1 (h2.mono fun _ _ h => h.1)

theorem all2_nodup {α β : Type} {R : List α → β → Prop} (hR : ∀ l b, R l b → l.Nodup) : ∀ (ls : List (List α)) (bs : List β),
    All2 R ls bs → ∀ l ∈ ls, l.Nodup
  | [], _, _, l, hl => by cases hl
  | _ :: _, _ :: _, h, l, hl => by
    cases h with
    | cons h1 h2 =>
      rcases List.mem_cons.mp hl with rfl | hl'
      · exact hR _ _ h1
      · exact all2_nodup hR _ _ h2 l hl'
  | _ :: _, [], h, _, _ => by cases h

theorem nodup_all (E : Env S) (hpos : PosW E) : ∀ n, Runs E n
    (fun s nt ci r => ∀ x pp, CInv E s → OI s → NI E s pp → (∀ e, (s.clOf nt)[ci]? = some e → e.fin < x) →
      ∃ pp', NI E r.1 pp' ∧ ProtG x s r.1 pp pp' ∧ PossN r.1 r.2.2 (nt, ci))
    (fun s nt ci s' => ∀ x c pp, CInv E s → OI s → NI E s pp → (s.clOf nt)[ci]? = some c → c.fin < x →
      ci + 1 = (s.clOf nt).length → ∃ pp', NI E s' pp' ∧ ProtG x s s' pp pp')
    (fun s nt fr s' => ∀ x pp, CInv E s → FrC E s nt fr → OI s → FrO s nt fr → NI E s pp →
      PendOK E s nt fr.ci fr.P fr.isFun fr.pending pp → fr.cost.fin < x →
      ∃ pp', NI E s' pp' ∧ ProtG x s s' pp pp')
    (fun s nt fr r => ∀ x pp, CInv E s → FrC E s nt fr → OI s → FrO s nt fr → NI E s pp →
      PendOK E s nt fr.ci fr.P fr.isFun fr.pending pp → fr.cost.fin < x →
      ∃ pp', NI E r.1 pp' ∧ ProtG x s r.1 pp pp' ∧
      ∀ p fr', r.2 = .yield p fr' → p ∉ s.bankAt nt fr.ci ∧ p ∈ r.1.bankAt nt fr.ci ∧
      PendOK E r.1 nt fr'.ci fr'.P fr'.isFun fr'.pending pp')
    (fun s as cs _ _ acc r => ∀ x pp done, CInv E s → OI s → NI E s pp →
      AskedBelow s as cs x → All2 (PossN s) acc done →
      ∃ pp', NI E r.1 pp' ∧ ProtG x s r.1 pp pp' ∧
      (r.2.2.1 = false → All2 (PossN r.1) r.2.2.2 (done ++ as.zip cs))) := by
  refine run_induct E ?ql_empty ?ql_beyond ?ql_bank ?ql_run_empty ?ql_run_bank ?rq_none ?rq_some ?dr_ret ?dr_yield
    ?rs_yield ?rs_ret ?rs_pop ?ar_nil ?ar_break ?ar_cons
  case ql_empty => intro _ s nt ci _ x pp _ _ hn _; exact ⟨pp, hn, ProtG.refl _ _ _, possN_nil _ _⟩
  case ql_beyond => intro _ s nt ci _ _ x pp _ _ hn _; exact ⟨pp, hn, ProtG.refl _ _ _, possN_nil _ _⟩
  case ql_bank =>
    intro _ s nt ci ps _ _ hps x pp _ _ hn _
    have hbk := St.bankAt_of_lookup hps
    exact ⟨pp, hn, ProtG.refl _ _ _, fun p hp => (by rw [hbk]; exact hp), hbk ▸ hn.k4 nt ci⟩
  case ql_run_empty =>
    intro n s nt ci s1 hemp hl _ hrq ih he1 x pp hc hs hn hb
    have hget := List.getElem?_eq_getElem hl
    by_cases hlast : ci + 1 = (s.clOf nt).length
    · obtain ⟨pp', q1, q3⟩ := ih x _ pp hc hs hn hget (hb _ hget) hlast
      exact ⟨pp', q1, q3, possN_nil _ _⟩
    · rw [(((order_runs E hpos n).rq hrq x _ hc hs hget (hb _ hget)).2 hlast).2] at he1
      exact absurd he1 hemp
  case ql_run_bank =>
    intro n s nt ci s1 ps _ hl hbank hrq ih _ hps x pp hc hs hn hb
    have hget := List.getElem?_eq_getElem hl
    by_cases hlast : ci + 1 = (s.clOf nt).length
    · obtain ⟨pp', q1, q3⟩ := ih x _ pp hc hs hn hget (hb _ hget) hlast
      have hbk := St.bankAt_of_lookup hps
      exact ⟨pp', q1, q3, fun p hp => (by rw [hbk]; exact hp), hbk ▸ q1.k4 nt ci⟩
    · rw [(((order_runs E hpos n).rq hrq x _ hc hs hget (hb _ hget)).2 hlast).1, hbank] at hps
      cases hps
  case rq_none => intro _ s nt ci hnone x c pp _ _ _ hget _ _; rw [hget] at hnone; cases hnone
  case rq_some =>
    intro _ s nt ci c' s' hc' _ ih x c pp hc hs hn hget hcx hl
    obtain rfl : c' = c := Option.some.inj (hc'.symm.trans hget)
    exact ih x pp hc ⟨hget, fun a ha => by cases ha⟩ hs ⟨hl, hget⟩ hn ⟨List.nodup_nil, Or.inl rfl⟩ hcx
  case dr_ret =>
    intro _ s nt fr s1 _ ih x pp hc hfc hs hfo hn hpd hx
    obtain ⟨pp', g1, g3, _⟩ := ih x pp hc hfc hs hfo hn hpd hx
    exact ⟨pp', g1, g3⟩
  case dr_yield =>
    intro n s nt fr s1 p fr1 s' hr ihR _ ihD x pp hc hfc hs hfo hn hpd hx
    obtain ⟨pp1, g1, g3, g4⟩ := ihR x pp hc hfc hs hfo hn hpd hx
    obtain ⟨c1, c3⟩ := (cost_all E n).rs hr hc hfc
    have c := c3 p fr1 rfl
    have o := (order_runs E hpos n).rs hr x hc hfc hs hfo hx
    obtain ⟨pp2, q1, q3⟩ := ihD x pp1 c1 c.fc o.oi (o.yield p fr1 rfl) g1 (g4 p fr1 rfl).2.2 (c.cost ▸ hx)
    exact ⟨pp2, q1, ProtG.trans o.prot g3 q3⟩
  case rs_yield =>
    intro _ s nt fr s1 p rest hem x pp _ _ _ hfo hn hpd hx
    obtain ⟨ne1, ne3, ne4⟩ := emit_ni E nt fr.ci fr.P fr.isFun pp fr.pending s _ hem hn hpd
    refine ⟨pp, ne1, fun nt' hl' => ⟨rfl, fun ci' => ne3 nt' ci' ?_⟩, fun p' fr' hy => by cases hy; exact ne4 p rest rfl⟩
    intro heq; cases heq; exact not_lastGe hfo.last hx hl'
  case rs_ret =>
    intro _ s nt fr s1 hem _ x pp _ _ _ hfo hn hpd hx
    obtain ⟨ne1, ne3, _⟩ := emit_ni E nt fr.ci fr.P fr.isFun pp fr.pending s _ hem hn hpd
    have q2 := fun nt' ci => epilogue_bankAt s1 nt nt' fr ci
    refine ⟨pp, ne1.of_eq (fun nt' => epilogue_queueOf s1 nt nt' fr) q2, fun nt' hl' => ⟨rfl, fun ci' => ?_⟩, fun _ _ hy => by cases hy⟩
    rw [q2]
    exact ne3 nt' ci' fun heq => by cases heq; exact not_lastGe hfo.last hx hl'
  case rs_pop =>
    intro n s nt fr s1 el q0 q' rl s3 ae af poss s' fr' r hem _ hcost hpop hrl hargs ihA hnext _ ihR x pp hc hfc hs hfo hn hpd hx
    have t := pop_turn E hpos hem hcost hpop hrl hargs hnext hc hfc hs hfo hx
      (fun hc2 hs2 hb => (order_runs E hpos n).al hargs fr.cost.fin hc2 hs2 hb)
    obtain ⟨w, k, hw, hk3, hfc'⟩ := t.price
    obtain ⟨hn1, ne3, _⟩ := emit_ni E nt fr.ci fr.P fr.isFun pp fr.pending s _ hem hn hpd
    have hlast1 : (s1.clOf nt).getLast? = some fr.cost := by rw [t.cl1]; exact hfo.last
    have hp01 : Prot x s s1 := Prot.of_eq t.cl1 t.q1
    have hg01 : ProtG x s s1 pp pp := fun nt' hl' =>
      ⟨rfl, fun ci' => ne3 nt' ci' fun heq => by cases heq; exact not_lastGe hfo.last hx hl'⟩
    -- the popped pair moves to the ghost table
    obtain ⟨hn2, hk0pp, _⟩ := pop_ni E s1 pp nt el q' hn1 hpop
    have hp12 : Prot x s1 (s1.setQueue nt q') := prot_setQueue x s1 nt q' fr.cost hlast1 hx
    have hg12 : ProtG x s1 (s1.setQueue nt q') pp (gset pp nt (key2 el :: pp nt)) := fun nt' hl' =>
      ⟨gset_other _ _ _ _ fun heq => not_lastGe hlast1 hx (heq ▸ hl'), fun _ => rfl⟩
    obtain ⟨pp3, hn3, hg23, hposs⟩ := ihA fr.cost.fin _ [] t.c2 t.o2 hn2 t.below All2.nil
    have hbm23 : BankMono (s1.setQueue nt q') s3 := ((run_bankMono E n).al hargs :)
    -- the tables of `nt` did not change during the argument loop
    have hprot_nt : lastGe (s1.setQueue nt q') nt fr.cost.fin := ⟨fr.cost, hlast1, Rat.le_refl⟩
    have hpp3 : pp3 nt = key2 el :: pp nt := by rw [(hg23 nt hprot_nt).1, gset_self]
    have hbank3 : ∀ ci', s3.bankAt nt ci' = s1.bankAt nt ci' := (hg23 nt hprot_nt).2
    have hg03 : ProtG x s s3 pp pp3 :=
      ProtG.trans (hp01.trans hp12) (ProtG.trans hp01 hg01 hg12) (hg23.mono (Rat.le_of_lt hx))
    have hlen : el.comb.length = rl.1.length := combCost_length s3 _ _ _ hk3
    have hkin : (el.P, el.comb) ∈ pp3 nt := by rw [hpp3]; exact List.mem_cons_self ..
    -- the successors of the popped combination are new: their only predecessor was still in the queue
    have hnew : ∀ t, Succ el.comb t → (el.P, t) ∉ (s3.queueOf nt).map key2 ++ pp3 nt := by
      intro t' hsucc hm
      rw [t.q3, hpp3] at hm
      have hm1 : (el.P, t') ∈ (s1.queueOf nt).map key2 ++ pp nt := by
        rcases List.mem_append.mp hm with h1 | h1
        · obtain ⟨e', he', hk'⟩ := List.mem_map.mp h1
          exact List.mem_append_left _ (List.mem_map.mpr ⟨e', (mem_of_pop _ _ _ _ hpop e').mpr (Or.inr he'), hk'⟩)
        · rcases List.mem_cons.mp h1 with h2 | h2
          · exact absurd (congrArg Prod.snd h2) (succ_ne _ _ hsucc)
          · exact List.mem_append_right _ h2
      rcases hn1.k2 nt el.P t' hm1 with hz | ⟨c, hc1', hc2'⟩
      · exact succ_not_zero _ _ hsucc hz
      · obtain rfl := succ_unique _ _ _ hc2' hsucc
        exact hk0pp hc1'
    obtain ⟨hn4, hbank4⟩ := succLoop_ni E s3 pp3 nt fr.cost el.P el.comb (rl.1.map ntOf) hn3 (by simp [hlen]) hkin hnew
    -- the recursive call: `Turn` says what `s'` and `fr'` are to the cost and order invariants
    have key : NI E s' pp3 → PendOK E s' nt fr.ci fr'.P fr'.isFun fr'.pending pp3 →
        ∃ pp', NI E r.1 pp' ∧ ProtG x s r.1 pp pp' ∧
          ∀ p fr'', r.2 = .yield p fr'' → p ∉ s.bankAt nt fr.ci ∧ p ∈ r.1.bankAt nt fr.ci ∧
            PendOK E r.1 nt fr''.ci fr''.P fr''.isFun fr''.pending pp' := by
      intro hn5 hpd5
      have hg05 : ProtG x s s' pp pp3 := ProtG.trans t.prot3 hg03 fun nt' _ => ⟨rfl, t.bank' nt'⟩
      have hbm05 : BankMono s s' := (((emit_star E nt fr.ci fr.P fr.isFun fr.pending s _ hem).lift BankMono.refl
        (fun _ _ _ => BankMono.trans) (fun _ _ => wr_bankMono)).trans hbm23).trans (BankMono.of_eq t.bank')
      obtain ⟨pp', g1, g3, g4⟩ := ihR x pp3 t.c' t.fc' t.o' t.fo' hn5 (by rw [t.ci]; exact hpd5) (t.cost ▸ hx)
      refine ⟨pp', g1, ProtG.trans (t.prot hfo hx) hg05 g3, fun p fr'' hy => ?_⟩
      obtain ⟨q1, q2, q3⟩ := g4 p fr'' hy
      rw [t.ci] at q1 q2
      exact ⟨fun hm => q1 (hbm05 _ _ _ hm), q2, q3⟩
    have hpend0 : ∀ (s0 : St S) (P0 : Sym) (b0 : Bool), PendOK E s0 nt fr.ci P0 b0 [] pp3 := fun _ _ _ => ⟨List.nodup_nil, Or.inl rfl⟩
    rcases hnext with ⟨_, rfl, rfl⟩ | ⟨_, _, rfl, rfl⟩ | ⟨haf, _, rfl, rfl⟩
    · exact key hn3 (hpend0 _ _ _)
    · exact key hn4 (hpend0 _ _ _)
    · have hposs' : All2 (PossN s3) poss ((rl.1.map ntOf).zip el.comb) := by simpa using hposs haf
      refine key (hn4.of_eq (by simp) (by simp))
        ⟨product_nodup poss (all2_nodup (fun l b (hr : PossN s3 l b) => hr.2) _ _ hposs'),
          Or.inr ⟨el.comb, rl, hkin, hrl, rfl, fun a ha => ?_⟩⟩
      have hprov5 : Prov _ rl.1 el.comb a :=
        Prov.mono ⟨tuple_prov s3 a poss _ ((mem_product poss a).mp ha) hposs', hlen⟩ (BankMono.of_eq t.bank')
      refine ⟨hprov5, fun hmem => ?_⟩
      -- a program already in the bank was built from an earlier pair
      rw [t.bank', hbank3] at hmem
      obtain ⟨P', comb', a', rl', q1, q2, q3, q4⟩ := hn1.k3 nt fr.ci _ hmem
      exact prog_differ E _ t.c' t.o' nt el.P P' rl rl' hrl q2 el.comb comb' a a' hprov5
        (q4.mono (hbm23.trans (BankMono.of_eq t.bank'))) (fun heq => by rw [← heq] at q1; exact hk0pp q1) q3
  case ar_nil =>
    intro _ s cs ae af acc x pp done _ _ hn _ hacc
    exact ⟨pp, hn, ProtG.refl _ _ _, fun _ => by simpa using hacc⟩
  case ar_break =>
    intro _ s a as c cs ae af acc s1 poss _ ih _ x pp done hc hs hn hb _
    obtain ⟨e0, he0, he0x⟩ := hb a c (by simp)
    obtain ⟨pp1, g1, g3, _⟩ := ih x pp hc hs hn fun e he => by rw [he0] at he; cases he; exact he0x
    exact ⟨pp1, g1, g3, fun hf => by cases hf⟩
  case ar_cons =>
    intro n s a as c cs ae af acc s1 one poss r hql ihQ _ _ ihA x pp done hc hs hn hb hacc
    obtain ⟨e0, he0, he0x⟩ := hb a c (by simp)
    have hbq : ∀ e, (s.clOf a)[c]? = some e → e.fin < x := fun e he => by rw [he0] at he; cases he; exact he0x
    obtain ⟨pp1, g1, g3, g4⟩ := ihQ x pp hc hs hn hbq
    have g2 : BankMono s s1 := ((run_bankMono E n).ql hql :)
    obtain ⟨c1, _⟩ := (cost_all E n).ql hql hc
    have c2 := (run_ext E n).ql hql
    obtain ⟨o1, o2⟩ := (order_runs E hpos n).ql hql x hc hs hbq
    obtain ⟨pp2, q1, q3, q4⟩ := ihA x pp1 (done ++ [(a, c)]) c1 o1 g1
      (c2.below fun a' c' hm => hb a' c' (by simp [hm]))
      ((hacc.mono fun _ _ hr => hr.mono g2).append (All2.cons g4 All2.nil))
    exact ⟨pp2, q1, ProtG.trans o2 g3 q3, fun hf => by simpa using q4 hf⟩

theorem Pro.ni {E : Env S} {s : St S} (hp : Pro E s) (hnd : RowsNodup E.G) : NI E s (fun _ => []) := by
  refine ⟨fun nt => ?_, fun nt P t hm => Or.inl ?_, fun nt ci p hm => (by rw [hp.bankAt] at hm; cases hm),
    fun nt ci => (by rw [hp.bankAt]; exact List.nodup_nil)⟩
  · simp only [List.append_nil]
    -- equal pairs have equal rules
    exact nodup_of_map (fun el => el.P) key2 (fun a b hab => by simp only [key2, Prod.mk.injEq] at hab; exact hab.1) _
      (hp.distinct hnd nt)
  · simp only [List.append_nil, List.mem_map] at hm
    obtain ⟨el, hel, hk⟩ := hm
    simp only [key2, Prod.mk.injEq] at hk
    obtain ⟨rfl, rfl⟩ := hk
    -- the combination of a queued element is all zeros
    intro j
    obtain ⟨rl, hr, _⟩ := hp.sound.queue nt el hel
    rw [hp.shape.zero nt el hel rl hr]
    simp [List.getD_eq_getElem?_getD, List.getElem?_replicate]
    split <;> rfl
where
  nodup_of_map {α β γ : Type} (f : α → β) (g : α → γ) (hfg : ∀ a b, g a = g b → f a = f b) : ∀ (l : List α), (l.map f).Nodup → (l.map g).Nodup
    | [], _ => List.nodup_nil
    | a :: as, h => by
      have hh : f a ∉ as.map f ∧ (as.map f).Nodup := List.nodup_cons.mp h
      simp only [List.map_cons]
      refine List.nodup_cons.mpr ⟨fun hm => ?_, nodup_of_map f g hfg as hh.2⟩
      simp only [List.mem_map] at hm
      obtain ⟨b, hb, he⟩ := hm
      exact hh.1 (List.mem_map.mpr ⟨b, hb, hfg b a he⟩)

theorem prologue_ni (E : Env S) (hnd : RowsNodup E.G) (fuel : Nat) (s0 s : St S) (hf : Fresh E s0)
    (h : prologue E fuel s0 = some s) : NI E s (fun _ => []) := by
  obtain ⟨t, _, hp, _, hq, hb⟩ := prologue_back E hnd fuel s0 s hf h
  exact (hp.ni hnd).of_eq hq hb

def GN (E : Env S) (g : Gen S) : Prop :=
  ∃ pp, NI E g.st pp ∧ ∀ fr, g.frame = some fr → PendOK E g.st E.G.start fr.ci fr.P fr.isFun fr.pending pp

theorem nextLoop_nodup (E : Env S) (hpos : PosW E) (fuel : Nat) (k : Nat) (s : St S) (n : Nat) (failed : Bool) (fro : Option Frame)
    (r : Gen S × Option Prog) (h : nextLoop E fuel k s n failed fro = some r) : ∀ (pp : Ghost S), CInv E s → OI s → NI E s pp →
    (∀ fr, fro = some fr → FrC E s E.G.start fr ∧ FrO s E.G.start fr ∧ fr.ci = n ∧ PendOK E s E.G.start fr.ci fr.P fr.isFun fr.pending pp) →
    (fro = none → n + 1 = (s.clOf E.G.start).length ∨ (s.clOf E.G.start).length ≤ n) →
    GN E r.1 ∧ BankMono s r.1.st ∧
    ∀ p, r.2 = some p → p ∈ r.1.st.bankAt E.G.start r.1.n ∧ p ∉ s.bankAt E.G.start r.1.n := by
  -- a `query` on the last index that returned: all invariants, and the next index is the last one or beyond
  have hret : ∀ s n fr s1 pp, CInv E s → OI s → NI E s pp → FrC E s E.G.start fr → FrO s E.G.start fr → fr.ci = n →
      PendOK E s E.G.start fr.ci fr.P fr.isFun fr.pending pp → resume E fuel s E.G.start fr = some (s1, .ret) →
      ∃ pp1, NI E s1 pp1 ∧ BankMono s s1 ∧ CInv E s1 ∧ OI s1 ∧
        (n + 1 + 1 = (s1.clOf E.G.start).length ∨ (s1.clOf E.G.start).length ≤ n + 1) := by
    intro s n fr s1 pp hc hs hn hfc hfo hci hpd hr
    -- the bound: anything above the cost of the query
    obtain ⟨pp1, g1, _, _⟩ := (nodup_all E hpos fuel).rs hr (fr.cost.fin + 1) pp hc hfc hs hfo hn hpd (rat_lt_succ _)
    exact ⟨pp1, g1, (run_bankMono E fuel).rs hr, resume_ret_last E hpos hc hs hfc hfo hci hr⟩
  apply nextLoop_induct E fuel ?nl_yield ?nl_stop ?nl_next ?nl_end ?nl_enter k s n failed fro r h
  case nl_yield =>
    intro s n failed fr s1 p fr1 hr pp hc hs hn hf _
    obtain ⟨hfc, hfo, hci, hpd⟩ := hf fr rfl
    obtain ⟨pp1, g1, _, g4⟩ := (nodup_all E hpos fuel).rs hr (fr.cost.fin + 1) pp hc hfc hs hfo hn hpd (rat_lt_succ _)
    have g2 := (run_bankMono E fuel).rs hr
    obtain ⟨q1, q2, q3⟩ := g4 p fr1 rfl
    exact ⟨⟨pp1, g1, fun fr' he => by cases he; exact q3⟩, g2, fun p' hp' => by cases hp'; exact ⟨hci ▸ q2, hci ▸ q1⟩⟩
  case nl_stop =>
    intro s n failed fr s1 hr _ pp hc hs hn hf _
    obtain ⟨hfc, hfo, hci, hpd⟩ := hf fr rfl
    obtain ⟨pp1, g1, g2, _⟩ := hret s n fr s1 pp hc hs hn hfc hfo hci hpd hr
    exact ⟨⟨pp1, g1, fun fr' he => (by cases he)⟩, g2, fun p' hp' => (by cases hp')⟩
  case nl_next =>
    intro s n failed fr s1 r hr ih pp hc hs hn hf _
    obtain ⟨hfc, hfo, hci, hpd⟩ := hf fr rfl
    obtain ⟨pp1, g1, g2, c1, o1, hlen⟩ := hret s n fr s1 pp hc hs hn hfc hfo hci hpd hr
    obtain ⟨q1, q2, q3⟩ := ih pp1 c1 o1 g1 (fun fr' he => by cases he) (fun _ => hlen)
    exact ⟨q1, g2.trans q2, fun p hp => ⟨(q3 p hp).1, fun hm => (q3 p hp).2 (g2 _ _ _ hm)⟩⟩
  case nl_end =>
    -- here and in `nl_enter` the state is `{ s with failedByEmpties := false }` (beap_search.py:127), hence the `of_eq`
    intro s n failed _ pp _ _ hn _ _
    exact ⟨⟨pp, NI.of_eq (s := s) (fun _ => rfl) (fun _ _ => rfl) hn, fun fr' he => (by cases he)⟩,
      BankMono.of_eq (fun _ _ => rfl), fun p' hp' => (by cases hp')⟩
  case nl_enter =>
    intro s n failed c r hget ih pp hc hs hn _ hnone
    have hlt : n < (s.clOf E.G.start).length := (List.getElem?_eq_some_iff.mp hget).1
    have hl : n + 1 = (s.clOf E.G.start).length := (hnone rfl).resolve_right (Nat.not_le.mpr hlt)
    exact ih pp (CInv.of_eq (s := s) (fun _ => rfl) (fun _ => rfl) (fun _ _ => rfl) hc)
      (OI.of_eq (s := s) (fun _ => rfl) (fun _ => rfl) hs) (NI.of_eq (s := s) (fun _ => rfl) (fun _ _ => rfl) hn)
      (fun fr' he => by cases he; exact ⟨⟨hget, fun a ha => by cases ha⟩, ⟨hl, hget⟩, rfl, List.nodup_nil, Or.inl rfl⟩)
      (fun he => by cases he)

theorem gn_of_fresh (E : Env S) (g : Gen S) (hfrm : g.frame = none) (hf : Fresh E g.st) : GN E g := by
  refine ⟨fun _ => [], ⟨fun nt => (by rw [hf.queueOf]; exact List.nodup_nil), fun nt P t hm => (by rw [hf.queueOf] at hm; cases hm),
    fun nt ci p hp => (by rw [hf.2] at hp; cases hp), fun nt ci => (by rw [hf.2]; exact List.nodup_nil)⟩, fun fr he => ?_⟩
  rw [hfrm] at he; cases he

theorem gn_new (E : Env S) : GN E (Gen.new E.G) := gn_of_fresh E _ rfl (fresh_empty E)

theorem next_nodup (E : Env S) (hnd : RowsNodup E.G) (hst : StableAfter E) (hprod : Productive E) (hpos : PosW E)
    (fuel : Nat) (g : Gen S) (r : Gen S × Option Prog) (hgc : GC E g) (hgo : GO E g) (hgn : GN E g)
    (hfresh : g.started = false → Fresh E g.st ∧ g.frame = none) (h : next E fuel g = some r) :
    GN E r.1 ∧ BankMono g.st r.1.st ∧
    ∀ p, r.2 = some p → p ∈ r.1.st.bankAt E.G.start r.1.n ∧ p ∉ g.st.bankAt E.G.start r.1.n := by
  rcases next_cases h with ⟨_, rfl⟩ | ⟨_, h⟩ | ⟨hns, s, hp, h⟩
  · exact ⟨hgn, BankMono.refl _, fun p hp => by cases hp⟩
  · obtain ⟨pp, hn, hpd⟩ := hgn
    exact nextLoop_nodup E hpos fuel _ _ _ _ _ _ h pp hgc.1 hgo.1 hn
      (fun fr he => ⟨(hgc.2 fr he).1, hgo.2.1 fr he, (hgc.2 fr he).2, hpd fr he⟩) hgo.2.2
  · have hf := (hfresh hns).1
    obtain ⟨hc, hlen⟩ := prologue_cinv E hnd hst hprod fuel _ s hf hp
    obtain ⟨q1, _, q3⟩ := nextLoop_nodup E hpos fuel _ _ _ _ _ _ h _ hc (prologue_oi E hnd hst hprod hpos fuel _ s hf hp)
      (prologue_ni E hnd fuel _ s hf hp) (fun fr he => by cases he) (fun _ => by omega)
    exact ⟨q1, fun nt ci p hp' => (by rw [hf.2] at hp'; cases hp'), fun p hp' => ⟨(q3 p hp').1, by rw [hf.2]; simp⟩⟩

def InBank (E : Env S) (s : St S) (p : Prog) (i : Nat) : Prop := YieldAt E s p i ∧ p ∈ s.bankAt E.G.start i

theorem take_nodup (E : Env S) (hnd : RowsNodup E.G) (hst : StableAfter E) (hprod : Productive E) (hpos : PosW E) (fuel : Nat) :
    ∀ (k : Nat) (g : Gen S) (acc : List Prog) (idx : List Nat) (r : Gen S × List Prog × Bool),
      GC E g → GO E g → GN E g → (g.started = false → Fresh E g.st ∧ g.frame = none) →
      All2 (InBank E g.st) acc idx → acc.Nodup → take E fuel k g acc = some r → r.2.1.Nodup := by
  intro k g acc idx r hgc hgo hgn hfresh hacc hndacc
  refine take_induct E fuel
    (I := fun g acc => GC E g ∧ GO E g ∧ GN E g ∧ (g.started = false → Fresh E g.st ∧ g.frame = none) ∧
      (∃ idx, All2 (InBank E g.st) acc idx) ∧ acc.Nodup)
    (Q := fun _ acc _ => acc.Nodup) (fun _ _ hi => hi.2.2.2.2.2) (fun _ _ _ hi _ => hi.2.2.2.2.2)
    (fun g acc g' p ⟨hgc, hgo, hgn, hfr, ⟨idx, hacc⟩, hndacc⟩ hn => ?_)
    k g acc r ⟨hgc, hgo, hgn, hfresh, ⟨idx, hacc⟩, hndacc⟩
  have nc := next_cost E hnd hst hprod fuel g _ hgc hfr hn
  have hgo' := next_order E hnd hst hprod hpos fuel g _ hgc hgo hfr hn
  obtain ⟨hgn', hbm, hyb⟩ := next_nodup E hnd hst hprod hpos fuel g _ hgc hgo hgn hfr hn
  have hst' : g'.started = true := (nc.yield p rfl).1
  have hya : YieldAt E g'.st p g'.n := (nc.yield p rfl).2
  obtain ⟨hin, hnotin⟩ := hyb p rfl
  have hacc' : All2 (InBank E g'.st) acc idx :=
    hacc.mono (fun _ _ hq => ⟨hq.1.ext nc.ext, hbm _ _ _ hq.2⟩)
  refine ⟨nc.gc, hgo', hgn', (fun hs => by rw [hst'] at hs; cases hs),
    ⟨idx ++ [g'.n], hacc'.append (All2.cons ⟨hya, hin⟩ All2.nil)⟩, ?_⟩
  rw [List.nodup_append]
  refine ⟨hndacc, List.pairwise_singleton _ _, fun q hq y hy' hqy => ?_⟩
  simp only [List.mem_singleton] at hy'; subst hy'; subst hqy
  obtain ⟨i, _, hqi⟩ := hacc.exists_right q hq
  obtain ⟨c1, a1, a2⟩ := hqi.1.ext nc.ext
  obtain ⟨c2, b1, b2⟩ := hya
  obtain rfl := idx_of_fin _ hgo'.1 E.G.start i g'.n c1 c2 a1 b1 (Option.some.inj (a2.symm.trans b2))
  exact hnotin hqi.2

/-- `next_cost`, `next_order`, `next_nodup` in one statement: `next` keeps the three generator invariants, also when
    `merge_program` was called before the first `next` -/
theorem next_all (E : Env S) (hnd : RowsNodup E.G) (hst : StableAfter E) (hprod : Productive E) (hpos : PosW E)
    (fuel : Nat) (g : Gen S) (r : Gen S × Option Prog) (hgc : GC E g) (hgo : GO E g) (hgn : GN E g)
    (hfresh : g.started = false → Fresh E g.st ∧ g.frame = none) (h : next E fuel g = some r) :
    GC E r.1 ∧ GO E r.1 ∧ GN E r.1 ∧ (g.started = true → g.n ≤ r.1.n) ∧
    (∀ p, r.2 = some p → r.1.started = true ∧ YieldAt E r.1.st p r.1.n) ∧ (r.1.started = true ∨ r.1 = g) :=
  have q := next_cost E hnd hst hprod fuel g r hgc hfresh h
  ⟨q.gc, next_order E hnd hst hprod hpos fuel g r hgc hgo hfresh h,
    (next_nodup E hnd hst hprod hpos fuel g r hgc hgo hgn hfresh h).1, q.mono, q.yield, q.started⟩

theorem merge_fresh (E : Env S) (g : Gen S) (other : Prog) (ok : NT S Unit → Bool) (hf : Fresh E g.st) : Fresh E (merge g other ok).st := by
  refine ⟨⟨?_, ?_⟩, fun nt ci => List.eq_nil_iff_forall_not_mem.mpr fun p hp => ?_⟩
  · unfold merge St.addDeleted; simp only; split <;> exact hf.1.1
  · unfold merge St.addDeleted; simp only; split <;> exact hf.1.2
  · have := merge_bankAt_subset g other ok nt ci p hp
    rw [hf.2 nt ci] at this; cases this

theorem merge_gn (E : Env S) (g : Gen S) (other : Prog) (ok : NT S Unit → Bool) (hfrm : g.frame = none)
    (hf : Fresh E g.st) : GN E (merge g other ok) := gn_of_fresh E _ hfrm (merge_fresh E g other ok hf)

end PS.Beap
