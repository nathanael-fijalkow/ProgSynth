/- Bee search, no duplicates (without merge declarations, any filter): the pending combinations of every rule form
   a frontier of the successor forest, every program of a bank was built from an expanded combination whose
   argument programs sit in the argument banks at the combination's indices, and a program occurs at most once
   in the bank of a non-terminal.  Hence a program is added to a bank at most once and yielded at most once.
   `step` keeps this invariant `GN` (`step_nodup`, by cases on `Step`), the banks only grow, and a yielded program
   was in no index of the start symbol's bank before the step and is in it afterwards, which is what makes the
   yielded sequence duplicate-free along a run (BeeNodupRun.lean). -/
import PS.Proofs.Enum.BeePend
import PS.Proofs.Enum.BeeSound
namespace PS.Bee
open PS PS.G

variable {S : Type} [DecidableEq S]
set_option linter.unusedSectionVars false
set_option linter.unusedSimpArgs false

/-- where a banked program comes from: an expanded combination of its rule, argument `i` in the bank of the
    argument's non-terminal at index `c[i]` -/
def Src (E : Env S) (s : St S) (nt : NT S Unit) (p : Prog) : Prop :=
  ∃ P kids args c, p = .node P kids ∧ ruleArgs E nt P = some args ∧ c.length = args.length ∧
    kids.length = args.length ∧ Done (pend s nt P) c ∧
    ∀ (i : Nat) (a : Ty × S) (k : Prog) (v : Nat), args[i]? = some a → kids[i]? = some k → c[i]? = some v →
      inBank s (a.1, (a.2, ())) v k

/-- with `=` where `QOk`/`DOk` (BeeOrder) have `≤`: the successor loop runs over `range(nargs)`, and `pop_expanded` needs it to
    visit exactly the positions of the popped combination, so that what it files is `PS.CD.succs` of it -/
def QWf (E : Env S) : NT S Unit → HeapElem → Prop := fun nt e =>
  ∃ args, ruleArgs E nt e.P = some args ∧ e.combo.length = args.length
def DWf (E : Env S) : NT S Unit → Delayed → Prop := fun nt d =>
  ∃ args, ruleArgs E nt d.2.1 = some args ∧ d.1.length = args.length

/-- `bankNd` makes the product of the argument lists duplicate-free; `bankU` lets the argument programs of a candidate
    determine the combination it is built from, so that by `src` and `front` a candidate of the combination just popped cannot
    be banked already (`step_nodup`, case `pop`) -/
structure NSt (E : Env S) (s : St S) : Prop where
  wfq : QAll (QWf E) s
  wfd : DAll (DWf E) s
  front : ∀ nt P, Frontier (pend s nt P)
  bankNd : ∀ nt ci ps, AList.lookup ci (s.bankOf nt) = some ps → ps.Nodup
  bankU : ∀ nt ci cj p, inBank s nt ci p → inBank s nt cj p → ci = cj
  src : ∀ nt ci p, inBank s nt ci p → Src E s nt p

theorem src_mono (E : Env S) {s s' : St S} (hin : ∀ nt ci p, inBank s nt ci p → inBank s' nt ci p)
    (hdone : ∀ nt P c, Done (pend s nt P) c → Done (pend s' nt P) c) {nt : NT S Unit} {p : Prog}
    (h : Src E s nt p) : Src E s' nt p := by
  obtain ⟨P, kids, args, c, h1, h2, h3, h4, h5, h6⟩ := h
  exact ⟨P, kids, args, c, h1, h2, h3, h4, hdone nt P c h5, fun i a k v ha hk hv => hin _ _ _ (h6 i a k v ha hk hv)⟩

theorem nst_mono (E : Env S) {s s' : St S} (hbank : s'.bank = s.bank) (hf : ∀ nt P, Frontier (pend s' nt P))
    (hdone : ∀ nt P c, Done (pend s nt P) c → Done (pend s' nt P) c) (hq : QAll (QWf E) s') (hd : DAll (DWf E) s')
    (h : NSt E s) : NSt E s' := by
  have hin := fun nt ci p => inBank_of_bank_eq hbank nt ci p
  refine ⟨hq, hd, hf, fun nt ci ps hl => ?_, fun nt ci cj p h1 h2 => h.bankU nt ci cj p ((hin _ _ _).mp h1) ((hin _ _ _).mp h2),
    fun nt ci p h1 => src_mono E (fun _ _ _ => (hin _ _ _).mpr) hdone (h.src nt ci p ((hin nt ci p).mp h1))⟩
  rw [St.bankOf_congr hbank] at hl; exact h.bankNd nt ci ps hl

theorem nst_frame (E : Env S) {s s' : St S} (hbank : s'.bank = s.bank)
    (hp : ∀ nt P, (pend s' nt P).Perm (pend s nt P)) (hq : QAll (QWf E) s') (hd : DAll (DWf E) s') (h : NSt E s) :
    NSt E s' :=
  nst_mono E hbank (fun nt P => (h.front nt P).perm (hp nt P)) (fun nt P _ hd => hd.perm (hp nt P)) hq hd h

theorem product_nodup {α : Type} : ∀ (aps : List (List α)), (∀ l ∈ aps, l.Nodup) → (product aps).Nodup :=
  PS.G.product_nodup

theorem argsPossibles_spec (s : St S) (combo : List Nat) :
    ∀ (args : List (Ty × S)) (i : Nat) (aps : List (List Prog)), argsPossibles s combo args i = some (some aps) →
      (∀ l ∈ aps, ∃ nt ci, AList.lookup ci (s.bankOf nt) = some l) ∧
      ∀ kids ∈ product aps, kids.length = args.length ∧
        ∀ (j : Nat) (a : Ty × S) (k : Prog) (v : Nat), args[j]? = some a → kids[j]? = some k → combo[i + j]? = some v →
          inBank s (a.1, (a.2, ())) v k :=
  fun args i aps h => ⟨argsPossibles_banks s combo args i aps h, argsPossibles_prem s combo args i aps h⟩

theorem bankOf_addProgram (E : Env S) (s : St S) (nt : NT S Unit) (p : Prog) (ci : Nat) :
    ((addProgram E s nt p ci).2 = false ∧ (addProgram E s nt p ci).1.bank = s.bank) ∨
    ((addProgram E s nt p ci).2 = true ∧
      (addProgram E s nt p ci).1.bankOf nt = bankAppend (s.bankOf nt) ci p ∧
      ∀ nt', nt' ≠ nt → (addProgram E s nt p ci).1.bankOf nt' = s.bankOf nt') := by
  rcases addProgram_cases E s nt p ci with ⟨_, h⟩ | ⟨_, _, h⟩ | ⟨_, _, h⟩ <;> rw [h]
  · exact Or.inl ⟨rfl, rfl⟩
  · exact Or.inl ⟨rfl, rfl⟩
  · refine Or.inr ⟨rfl, by simp [St.bankOf, AList.lookup_insert_self], fun nt' hne => ?_⟩
    simp only [St.bankOf]
    rw [AList.lookup_insert_ne _ _ hne]

theorem inBank_append (b : AList Nat (List Prog)) (ci cj : Nat) (p q : Prog) :
    (∃ ps, AList.lookup cj (bankAppend b ci p) = some ps ∧ q ∈ ps) ↔
      (∃ ps, AList.lookup cj b = some ps ∧ q ∈ ps) ∨ (cj = ci ∧ q = p) := by
  unfold bankAppend
  rw [AList.lookup_insert]
  by_cases hc : cj = ci
  · subst hc
    simp only [if_true, Option.some.injEq, exists_eq_left', List.mem_append, List.mem_singleton, true_and]
    cases hl : AList.lookup cj b with
    | none => simp
    | some l => simp
  · simp [hc]

theorem addProgram_inBank (E : Env S) (s : St S) (nt : NT S Unit) (p : Prog) (ci : Nat) (nt' : NT S Unit) (cj : Nat) (q : Prog) :
    inBank (addProgram E s nt p ci).1 nt' cj q ↔
      inBank s nt' cj q ∨ ((addProgram E s nt p ci).2 = true ∧ nt' = nt ∧ cj = ci ∧ q = p) := by
  rcases bankOf_addProgram E s nt p ci with ⟨hno, hb⟩ | ⟨hyes, hb1, hb2⟩
  · simp [inBank_of_bank_eq hb, hno]
  · unfold inBank
    by_cases hn : nt' = nt
    · subst hn; rw [hb1, inBank_append]; simp [hyes]
    · rw [hb2 nt' hn]; simp [hn]

theorem addProgram_pend (E : Env S) (s : St S) (nt : NT S Unit) (p : Prog) (ci : Nat) (nt' : NT S Unit) (P' : Sym) :
    pend (addProgram E s nt p ci).1 nt' P' = pend s nt' P' := by
  obtain ⟨fq, fd, _⟩ := addProgram_frame E s nt p ci
  exact pend_congr fq fd nt' P'

def PendOK (E : Env S) (s : St S) (nt : NT S Unit) (pending : List Prog) : Prop :=
  pending.Nodup ∧ ∀ p ∈ pending, (∀ cj, ¬ inBank s nt cj p) ∧ Src E s nt p

def PhaseN (E : Env S) (s : St S) : Phase S → Prop
  | .pend _ _ nt _ _ _ pending => PendOK E s nt pending
  | _ => True

structure GN (E : Env S) (g : Gen S) : Prop where
  st : NSt E g.st
  ph : PhaseN E g.st g.phase

theorem qwf_set (E : Env S) (nt : NT S Unit) (c : Int) (combo : List Nat) (P : Sym) (i v : Nat)
    (h : QWf E nt ⟨c, combo, P⟩) (c' : Int) : QWf E nt ⟨c', combo.set i v, P⟩ := by
  obtain ⟨args, h1, h2⟩ := h
  exact ⟨args, h1, by simpa using h2⟩

/-- the root `top` of the queue of `nt` is popped and its successors are filed (`s` to `s2`): its combination goes
    from pending to expanded, its successors become pending, nothing else moves -/
structure Expanded (E : Env S) (s s2 : St S) (nt : NT S Unit) (top : HeapElem) (args : List (Ty × S)) : Prop where
  bank : s2.bank = s.bank
  nst : NSt E s2
  mem : top.combo ∈ pend s nt top.P
  len : top.combo.length = args.length
  done_top : Done (pend s2 nt top.P) top.combo
  done_mono : ∀ nt' P' c, Done (pend s nt' P') c → Done (pend s2 nt' P') c
  done_conv : ∀ nt' P' c, Done (pend s2 nt' P') c → (nt' = nt ∧ P' = top.P ∧ c = top.combo) ∨ Done (pend s nt' P') c
  cov : ∀ nt' P' c, Cov (pend s nt' P') c → Cov (pend s2 nt' P') c
  pend_conv : ∀ nt' P' u, u ∈ pend s2 nt' P' → u ∈ pend s nt' P' ∨ (nt' = nt ∧ P' = top.P ∧ u ∈ CD.succs top.combo)

theorem pop_expanded (E : Env S) {s s2 : St S} {nt : NT S Unit} {top : HeapElem} {q' : List HeapElem}
    {args : List (Ty × S)} {maxi maxi' : Nat} (h : NSt E s)
    (hpop : Heapq.pop ltE (s.queueOf nt) = some (top, q')) (hargs : ruleArgs E nt top.P = some args)
    (hsl : succLoop E nt top.P top.combo 0 args.length (s.setQueue nt q') maxi = some (s2, maxi')) :
    Expanded E s s2 nt top args := by
  obtain ⟨args', ha', hlen⟩ := h.wfq.of_queueOf (Heapq.mem_of_pop ltE _ _ _ hpop).1
  cases hargs.symm.trans ha'
  obtain ⟨hqd, hq2, hd2⟩ := succLoop_all E (QWf E) (DWf E) nt top.P top.combo (s.setQueue nt q').costList
    (fun i v c _ _ _ => ⟨args, hargs, by simpa using hlen⟩) (fun i v _ _ => ⟨args, hargs, by simpa using hlen⟩)
    _ _ _ _ _ _ hsl rfl (h.wfq.pop hpop) h.wfd
  obtain ⟨F, hF0, h2, hother⟩ := pop_pend hpop (hlen ▸ hsl)
  have hfr := (h.front nt top.P).perm hF0.symm
  obtain ⟨e1, e2, e3⟩ := Frontier.expand top.combo (pend s2 nt top.P) hfr h2
  have hfront : ∀ nt' P', Frontier (pend s2 nt' P') := by
    intro nt' P'
    by_cases hc : nt' = nt ∧ P' = top.P
    · obtain ⟨rfl, rfl⟩ := hc; exact e1
    · exact (h.front nt' P').perm (hother nt' P' hc)
  have hdone : ∀ nt' P' c, Done (pend s nt' P') c → Done (pend s2 nt' P') c := by
    intro nt' P' c hd
    by_cases hc : nt' = nt ∧ P' = top.P
    · obtain ⟨rfl, rfl⟩ := hc; exact e3 c (hd.perm hF0.symm)
    · exact hd.perm (hother nt' P' hc)
  refine ⟨hqd.bank, nst_mono E hqd.of_setQueue.bank hfront hdone hq2 hd2 h, hF0.mem_iff.mpr List.mem_cons_self, hlen, e2, hdone, ?_, ?_, ?_⟩
  · intro nt' P' c hd
    by_cases hc : nt' = nt ∧ P' = top.P
    · obtain ⟨rfl, rfl⟩ := hc
      rcases Done.expand_conv top.combo (pend s2 nt' top.P) h2 hd with h3 | h3
      · exact Or.inl ⟨rfl, rfl, h3⟩
      · exact Or.inr (h3.perm hF0)
    · exact Or.inr (hd.perm (hother nt' P' hc).symm)
  · intro nt' P' c hd
    by_cases hc : nt' = nt ∧ P' = top.P
    · obtain ⟨rfl, rfl⟩ := hc
      exact Cov.expand top.combo (pend s2 nt' top.P) hfr h2 (hd.perm hF0.symm)
    · exact hd.perm (hother nt' P' hc)
  · intro nt' P' u hu
    by_cases hc : nt' = nt ∧ P' = top.P
    · obtain ⟨rfl, rfl⟩ := hc
      rcases List.mem_append.mp (h2.mem_iff.mp hu) with h3 | h3
      · exact Or.inr ⟨rfl, rfl, h3⟩
      · exact Or.inl (hF0.mem_iff.mpr (List.mem_cons_of_mem _ h3))
    · exact Or.inl ((hother nt' P' hc).mem_iff.mp hu)

theorem pop_expand (E : Env S) (s s2 : St S) (nt : NT S Unit) (top : HeapElem) (q' : List HeapElem)
    (args : List (Ty × S)) (maxi maxi' : Nat) (h : NSt E s)
    (hpop : Heapq.pop ltE (s.queueOf nt) = some (top, q')) (hargs : ruleArgs E nt top.P = some args)
    (hsl : succLoop E nt top.P top.combo 0 args.length (s.setQueue nt q') maxi = some (s2, maxi')) :
    s2.bank = s.bank ∧ QAll (QWf E) s2 ∧ DAll (DWf E) s2 ∧ (∀ nt' P', Frontier (pend s2 nt' P')) ∧
    (∀ nt' P' c, Done (pend s nt' P') c → Done (pend s2 nt' P') c) ∧ Done (pend s2 nt top.P) top.combo ∧
    top.combo ∈ pend s nt top.P ∧ top.combo.length = args.length ∧
    (∀ nt' P' c, Cov (pend s nt' P') c → Cov (pend s2 nt' P') c) ∧
    (∀ nt' P' c, Done (pend s2 nt' P') c → (nt' = nt ∧ P' = top.P ∧ c = top.combo) ∨ Done (pend s nt' P') c) ∧
    (∀ nt' P' u, u ∈ pend s2 nt' P' → u ∈ pend s nt' P' ∨ (nt' = nt ∧ P' = top.P ∧ u ∈ CD.succs top.combo)) :=
  have x := pop_expanded E h hpop hargs hsl
  ⟨x.bank, x.nst.wfq, x.nst.wfd, x.nst.front, x.done_mono, x.done_top, x.mem, x.len, x.cov, x.done_conv, x.pend_conv⟩

theorem addProgram_lookup (E : Env S) (s : St S) (nt : NT S Unit) (p : Prog) (ci : Nat) (nt' : NT S Unit) (cj : Nat) :
    AList.lookup cj ((addProgram E s nt p ci).1.bankOf nt') =
      if (addProgram E s nt p ci).2 = true ∧ nt' = nt ∧ cj = ci then some ((AList.lookup ci (s.bankOf nt)).getD [] ++ [p])
      else AList.lookup cj (s.bankOf nt') := by
  rcases addProgram_cases E s nt p ci with ⟨_, h⟩ | ⟨_, _, h⟩ | ⟨_, _, h⟩ <;> rw [h]
  · simp
  · simp [St.bankOf]
  · simp only [St.bankOf, AList.lookup_insert, true_and]
    by_cases hn : nt' = nt
    · subst hn; simp [bankAppend, AList.lookup_insert]
    · simp [hn]

/-- That a candidate is in no index of the bank of `nt` and differs from the other candidates is what keeps the bank lists
    duplicate-free and every program under one index. -/
theorem offer_nst (E : Env S) (s : St S) (nt : NT S Unit) (p : Prog) (ps : List Prog) (ci : Nat) (h : NSt E s)
    (hp : PendOK E s nt (p :: ps)) :
    NSt E (addProgram E s nt p ci).1 ∧
      (∀ nt' ci' q, inBank s nt' ci' q → inBank (addProgram E s nt p ci).1 nt' ci' q) ∧
      PendOK E (addProgram E s nt p ci).1 nt ps ∧
      ((addProgram E s nt p ci).2 = true → inBank (addProgram E s nt p ci).1 nt ci p) := by
  obtain ⟨hnd, hall⟩ := hp
  obtain ⟨hfresh, hsrcp⟩ := hall p List.mem_cons_self
  obtain ⟨hpps, hndps⟩ := List.nodup_cons.mp hnd
  obtain ⟨fq, fd, _⟩ := addProgram_frame E s nt p ci
  have hpend := addProgram_pend E s nt p ci
  have hin := addProgram_inBank E s nt p ci
  have hmono : ∀ nt' ci' q, inBank s nt' ci' q → inBank (addProgram E s nt p ci).1 nt' ci' q :=
    fun _ _ _ hh => (hin _ _ _).mpr (Or.inl hh)
  have hsrc : ∀ {nt' q}, Src E s nt' q → Src E (addProgram E s nt p ci).1 nt' q :=
    src_mono E hmono fun nt' P' c hd => by rw [hpend]; exact hd
  refine ⟨⟨fun a l hm => h.wfq a l (fq ▸ hm), fun a l hm => h.wfd a l (fd ▸ hm), fun a b => by rw [hpend]; exact h.front a b,
    ?_, ?_, ?_⟩, hmono, ⟨hndps, fun q hq => ?_⟩, fun ha => (hin _ _ _).mpr (Or.inr ⟨ha, rfl, rfl, rfl⟩)⟩
  · intro nt' cj l hl
    rw [addProgram_lookup] at hl
    split at hl
    · -- the list that got `p`: `p` was in no list of `nt`
      cases hl
      refine List.nodup_append.mpr ⟨?_, by simp, fun a ha b hb hab => ?_⟩
      · cases hlo : AList.lookup ci (s.bankOf nt) with
        | none => simp
        | some l0 => simpa using h.bankNd nt ci l0 hlo
      · cases List.mem_singleton.mp hb; subst hab
        cases hlo : AList.lookup ci (s.bankOf nt) with
        | none => simp [hlo] at ha
        | some l0 => exact hfresh ci ⟨l0, hlo, by simpa [hlo] using ha⟩
    · exact h.bankNd nt' cj l hl
  · intro nt' c1 c2 q h1 h2
    rcases (hin _ _ _).mp h1 with g1 | ⟨_, e1, e2, e3⟩ <;> rcases (hin _ _ _).mp h2 with g2 | ⟨_, f1, f2, f3⟩
    · exact h.bankU nt' c1 c2 q g1 g2
    · subst f1; subst f3; exact absurd g1 (hfresh c1)
    · subst e1; subst e3; exact absurd g2 (hfresh c2)
    · rw [e2, f2]
  · intro nt' cj q hq
    rcases (hin _ _ _).mp hq with hq | ⟨_, e1, _, e3⟩
    · exact hsrc (h.src nt' cj q hq)
    · subst e1; subst e3; exact hsrc hsrcp
  · obtain ⟨h1, h2⟩ := hall q (List.mem_cons_of_mem _ hq)
    refine ⟨fun cj hh => ?_, hsrc h2⟩
    rcases (hin _ _ _).mp hh with hh | ⟨_, _, _, e3⟩
    · exact h1 cj hh
    · subst e3; exact hpps hq

theorem gn_same_st (E : Env S) (g : Gen S) (ph : Phase S) (h : GN E g) (hp : PhaseN E g.st ph) (progs : Int) (failed : Nat) :
    GN E { g with progs := progs, failed := failed, phase := ph } := ⟨h.st, hp⟩

theorem step_nodup (E : Env S) (g g' : Gen S) (out : Option Prog) (h : step E g = some (g', out)) (hi : GN E g) :
    GN E g' ∧ (∀ nt ci p, inBank g.st nt ci p → inBank g'.st nt ci p) ∧
      ∀ p, out = some p → (∀ cj, ¬ inBank g.st E.G.start cj p) ∧ ∃ ci, inBank g'.st E.G.start ci p := by
  cases step_cases h with
  | done | init | stop _ | round _ _ _ | endRound | endPend => exact ⟨⟨hi.st, trivial⟩, fun _ _ _ h => h, nofun⟩
  | @leave st _ _ succ cost nt rest maxi ci _ =>
    exact ⟨⟨nst_frame E (s := st) rfl (fun _ _ => List.Perm.refl _) hi.st.wfq hi.st.wfd hi.st, trivial⟩,
      fun _ _ _ h => h, nofun⟩
  | @addCost st _ _ succ cost nt rest s1 ci hac =>
    have hac' := addCost_all E (QWf E) (DWf E) (DWf E) hac (fun nt idx P chk c hd _ _ => hd) (fun nt idx P chk hd _ => hd)
      hi.st.wfq hi.st.wfd
    have hbank := hac'.bank
    have hqd : QAll (QWf E) s1 ∧ DAll (DWf E) s1 := by
      rcases hac'.cases with ⟨rfl, _⟩ | ⟨_, _, _, hq, hd⟩
      · exact ⟨hi.st.wfq, hi.st.wfd⟩
      · exact ⟨hq, hd⟩
    exact ⟨⟨nst_frame E (s := st) hbank (fun nt P => addCost_pend E _ s1 cost ci hac nt P) hqd.1 hqd.2 hi.st, trivial⟩,
      fun nt' ci' p hin => (inBank_of_bank_eq (s := st) hbank nt' ci' p).mpr hin, nofun⟩
  | @pop st _ _ succ cost nt rest maxi ci top tl q' args s2 maxi' ph hq htop hpop hargs hsl hout =>
    have x := pop_expanded E hi.st hpop hargs hsl
    have hn2 := x.nst
    have hlen := x.len
    have hin : ∀ nt' ci' p, inBank st nt' ci' p ↔ inBank s2 nt' ci' p :=
      fun nt' ci' p => (inBank_of_bank_eq x.bank nt' ci' p).symm
    refine ⟨⟨hn2, ?_⟩, fun a b c hh => (hin a b c).mp hh, nofun⟩
    rcases hout with ⟨_, rfl⟩ | ⟨aps, haps, rfl⟩
    · trivial
    obtain ⟨hlists, hkids⟩ := argsPossibles_spec s2 top.combo args 0 aps haps
    show PendOK E s2 nt _
    constructor
    · have hpn : (product aps).Nodup := by
        apply product_nodup
        intro l hl
        obtain ⟨nt', ci', hlk⟩ := hlists l hl
        exact hn2.bankNd nt' ci' l hlk
      exact List.Pairwise.map (fun kids => Tree.node top.P kids)
        (fun a b (hab : a ≠ b) h => hab (by simpa using h)) hpn
    · intro p hp
      simp only [List.mem_map] at hp
      obtain ⟨kids, hk, rfl⟩ := hp
      obtain ⟨hklen, hkin⟩ := hkids kids hk
      have hsrc : Src E s2 nt (.node top.P kids) :=
        ⟨top.P, kids, args, top.combo, rfl, hargs, hlen, hklen, x.done_top,
          fun i a k v ha hkk hv => hkin i a k v ha hkk (by simpa using hv)⟩
      refine ⟨?_, hsrc⟩
      intro cj hcj
      -- a banked copy would come from an expanded combination equal to the one just popped
      have hold := hi.st.src nt cj _ ((hin _ _ _).mpr hcj)
      obtain ⟨P', kids', args', c', he, ha', hc'len, hk'len, hdone', hin'⟩ := hold
      cases he
      rw [hargs] at ha'; cases ha'
      -- a program is banked under one index only, so the programs of a tuple determine its combination
      have hceq : c' = top.combo := List.ext_getElem (by omega) fun j h1 h2 => by
        have hj : j < args.length := by omega
        have h3 : j < kids.length := by omega
        exact hi.st.bankU _ _ _ _
          (hin' j _ _ _ (List.getElem?_eq_getElem hj) (List.getElem?_eq_getElem h3) (List.getElem?_eq_getElem h1))
          ((hin _ _ _).mpr (hkin j _ _ _ (List.getElem?_eq_getElem hj) (List.getElem?_eq_getElem h3)
            (by rw [Nat.zero_add]; exact List.getElem?_eq_getElem h2)))
      subst hceq
      exact Done.not_mem (hi.st.front nt top.P) hdone' x.mem
  | @offer st _ _ succ cost nt rest maxi ci p ps y hy =>
    have hp : PendOK E st nt (p :: ps) := hi.ph
    obtain ⟨k1, k2, k3, k4⟩ := offer_nst E st nt p ps ci hi.st hp
    cases y with
    | false => exact ⟨⟨k1, k3⟩, k2, nofun⟩
    | true =>
      refine ⟨⟨k1, k3⟩, k2, ?_⟩
      intro q hq
      cases hq
      obtain ⟨ha, hnt⟩ : (addProgram E st nt p ci).2 = true ∧ nt = E.G.start := by simpa using hy.symm
      subst hnt
      exact ⟨(hp.2 p List.mem_cons_self).1, ci, k4 ha⟩

end PS.Bee
