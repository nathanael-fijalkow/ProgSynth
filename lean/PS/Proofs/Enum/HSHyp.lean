/- Heap search with probabilities (`π := Rat`, `prob`; acyclic context-free grammars): the hypothesis records and the
   state invariants that the property statements speak of, with the total `prob` where the generic development (`G*`)
   has the partial `prioSpec`. `valProb` is the probability as a valuation; the order invariant, `Full`, `TInv`,
   `InitHyp`, `entries` and `CompHyp` come with their translation to the generic side. -/
import PS.Proofs.Enum.HSProb
import PS.Proofs.Enum.HSGrammar
import PS.Proofs.Enum.GRun
import PS.Proofs.Enum.GLawOps
namespace PS.HS
open PS PS.G
set_option linter.unusedSectionVars false
variable {S : Type} [DecidableEq S]

/-! ### the order invariant (DESIGN B.2 (I1), (I4), (I5)) -/

structure OrdHyp (E : Env S Unit Rat) (rank : NT S Unit → Nat) : Prop where
  ops : ∃ t, E.ops = probOps t
  wnn : WNonneg E.W
  acyclic : ∀ nt F ra, E.G.rule? nt F = some (ra, ()) → ∀ a ∈ ra, rank (argNT a) < rank nt

/-- `x` is the first pop of the reference heap of `nt` (if it pops anything) -/
def FP (E : Env S Unit Rat) (H0 : NT S Unit → List (Rat × Prog)) (nt : NT S Unit) (x : Prog) : Prop :=
  ∀ e h', Heapq.pop (ltE E.ops) (H0 nt) = some (e, h') → e.2 = x

/-- **order invariant**; `H0` are the heaps built by `__init_heap__` (reference for the
    non-terminals whose enumeration has not started) -/
structure OInv (E : Env S Unit Rat) (H0 : NT S Unit → List (Rat × Prog)) (s : St S Unit Rat) : Prop where
  /-- (I4) no heap element is more probable than a program already popped for the non-terminal -/
  below : ∀ nt e, e ∈ s.heapOf nt → ∀ k v, AList.lookup k (s.succOf nt) = some v → e.1 ≤ prob E.G E.W v nt
  /-- (I4) a successor is not more probable than its predecessor -/
  link : ∀ nt k v, AList.lookup (some k) (s.succOf nt) = some v → prob E.G E.W v nt ≤ prob E.G E.W k nt
  /-- (I1) the arguments of every program ever pushed were popped for their non-terminals, or the
      enumeration of the non-terminal has not started and the argument is what it will pop first -/
  args : ∀ nt F args ra, Tree.node F args ∈ s.seenOf nt → E.G.rule? nt F = some (ra, ()) →
    ∀ (i : Nat) ai a, args[i]? = some ai → ra[i]? = some a →
      (∃ k, AList.lookup k (s.succOf (argNT a)) = some ai) ∨ (s.succOf (argNT a) = [] ∧ FP E H0 (argNT a) ai)
  fresh : ∀ nt, s.succOf nt = [] → s.heapOf nt = H0 nt

/-- precondition (I5, NoPremature): `query(S, x)` is called with `x = None` or `x` popped for `S`;
    `__add_successors__(y, S)` is called when no popped program of `S` is less probable than `y` -/
def OPre (E : Env S Unit Rat) (H0 : NT S Unit → List (Rat × Prog)) : Call S Unit → St S Unit Rat → Prop
  | .query nt p, s => ∀ x, p = some x →
      (∃ k, AList.lookup k (s.succOf nt) = some x) ∨ (s.succOf nt = [] ∧ FP E H0 nt x)
  | .lop nt p, s => ∀ x, p = some x → (∃ k, AList.lookup k (s.succOf nt) = some x) ∨ s.heapOf nt = []
  | .popLoop nt p, s => ∀ x, p = some x → (∃ k, AList.lookup k (s.succOf nt) = some x) ∨ s.heapOf nt = []
  | .addSucc prog nt, s => prog ∈ s.seenOf nt ∧ s.succOf nt ≠ [] ∧
      ∀ k v, AList.lookup k (s.succOf nt) = some v → prob E.G E.W prog nt ≤ prob E.G E.W v nt
  | .addLoop F args nt _ _ _ _, s => Tree.node F args ∈ s.seenOf nt ∧ s.succOf nt ≠ [] ∧
      ∀ k v, AList.lookup k (s.succOf nt) = some v → prob E.G E.W (.node F args) nt ≤ prob E.G E.W v nt

/-- heap search compares `-probability`: the order of the rationals, reversed -/
theorem probOps_weakOrder (t : Rat) : Heapq.WeakOrder (probOps t).lt := Heapq.strictTotal_rat.toWeakOrder.flip

theorem OrdHyp.weak {E : Env S Unit Rat} {rank} (H : OrdHyp E rank) : Heapq.WeakOrder E.ops.lt := by
  obtain ⟨t, ht⟩ := H.ops
  rw [ht]; exact probOps_weakOrder t

/-! ### the probability as a valuation (`HG.Val`) -/

theorem probLt_false_iff {E : Env S Unit Rat} {t : Rat} (hops : E.ops = probOps t) (a b : Rat) :
    E.ops.lt a b = false ↔ a ≤ b := by
  rw [hops]; simp only [probOps, decide_eq_false_iff_not, Rat.not_lt]

/-- the probability, which means something for every program -/
def valProb (E : Env S Unit Rat) (t : Rat) (hops : E.ops = probOps t) : HG.Val E where
  pr p nt := prob E.G E.W p nt
  Def _ _ := True
  spec p nt v hg h := ⟨trivial, (prioSpec_prob E t hops p nt v hg h).symm⟩

theorem OInv.iffT {E : Env S Unit Rat} {t : Rat} (hops : E.ops = probOps t) {H0 : NT S Unit → List (Rat × Prog)}
    {s : St S Unit Rat} : OInv E H0 s ↔ HG.OInvT E (valProb E t hops) H0 s :=
  ⟨fun h => ⟨fun nt e he k v hk _ => (probLt_false_iff hops _ _).mpr (h.below nt e he k v hk),
      fun nt k v hk _ _ => (probLt_false_iff hops _ _).mpr (h.link nt k v hk), fun _ _ _ _ => trivial, h.args, h.fresh⟩,
   fun h => ⟨fun nt e he k v hk => (probLt_false_iff hops _ _).mp (h.below nt e he k v hk trivial),
      fun nt k v hk => (probLt_false_iff hops _ _).mp (h.link nt k v hk trivial trivial), h.args, h.fresh⟩⟩

theorem belowVals_iffT {E : Env S Unit Rat} {t : Rat} (hops : E.ops = probOps t) {s : St S Unit Rat} {nt : NT S Unit}
    {prog : Prog} :
    (∀ k v, AList.lookup k (s.succOf nt) = some v → prob E.G E.W prog nt ≤ prob E.G E.W v nt) ↔
      HG.BelowValsT E (valProb E t hops) s nt prog :=
  ⟨fun h => ⟨trivial, fun k v hk => (probLt_false_iff hops _ _).mpr (h k v hk)⟩,
   fun h k v hk => (probLt_false_iff hops _ _).mp (h.2 k v hk)⟩

theorem OPre.iffT {E : Env S Unit Rat} {t : Rat} (hops : E.ops = probOps t) {H0 : NT S Unit → List (Rat × Prog)}
    {s : St S Unit Rat} : ∀ {c : Call S Unit}, OPre E H0 c s ↔ HG.OPreT E (valProb E t hops) H0 c s
  | .query _ _ | .lop _ _ | .popLoop _ _ => Iff.rfl
  | .addSucc _ _ | .addLoop _ _ _ _ _ _ _ => and_congr_right fun _ => and_congr_right fun _ => belowVals_iffT hops

/-- the order law holds for any threshold -/
theorem OrdHyp.ordLaw {E : Env S Unit Rat} {rank} (H : OrdHyp E rank) {t : Rat} (hops : E.ops = probOps t) :
    HG.OrdLaw E (valProb E t hops) rank (fun _ => True) := by
  refine ⟨?_, fun _ _ _ => trivial, H.acyclic, ?_⟩
  · rw [hops]; exact (probOps_weakOrder t).on _
  · intro nt F ra args i q ai a hr hgl ha hai hgq _ _ hle _ _
    exact (probLt_false_iff hops _ _).mpr
      (prob_set_le E.G E.W H.wnn nt F ra args i q ai a hr hgl ha hai hgq ((probLt_false_iff hops _ _).mp hle))

theorem fullT {E : Env S Unit Rat} {t : Rat} (hops : E.ops = probOps t) {H0 : NT S Unit → List (Rat × Prog)}
    {s : St S Unit Rat} (hs : SInv E s) (hn : NInv s) (hh : HInv E s) (ho : OInv E H0 s) :
    HG.FullT E (valProb E t hops) H0 s :=
  ⟨hs, hn.five, hh, (OInv.iffT hops).mp ho, Or.inl hn.no_deleted⟩

/-! ### (I3)

For every program `y = F(args)` popped for `S` and every argument position `i`, either `args[i]` has a successor
`z` for its non-terminal and `y[i := z]` was pushed for `S`, or `args[i]` has no successor and the heap of its
non-terminal is exhausted (DESIGN B.2 (I3)). -/

def Fact (s : St S Unit Rat) (nt : NT S Unit) (F : Sym) (args : List Prog) (i : Nat) (a : Ty × S) (ai : Prog) : Prop :=
  (∃ z, AList.lookup (some ai) (s.succOf (argNT a)) = some z ∧ Tree.node F (args.set i z) ∈ s.seenOf nt) ∨
  (AList.lookup (some ai) (s.succOf (argNT a)) = none ∧ s.heapOf (argNT a) = [])

def DoneFrom (E : Env S Unit Rat) (s : St S Unit Rat) (nt : NT S Unit) (y : Prog) (i0 : Nat) : Prop :=
  ∀ F args ra, y = .node F args → E.G.rule? nt F = some (ra, ()) →
    ∀ (i : Nat) a ai, i0 ≤ i → ra[i]? = some a → args[i]? = some ai → Fact s nt F args i a ai

def I3 (E : Env S Unit Rat) (s : St S Unit Rat) : Prop :=
  ∀ nt k y, AList.lookup k (s.succOf nt) = some y → DoneFrom E s nt y 0

structure Full (E : Env S Unit Rat) (H0 : NT S Unit → List (Rat × Prog)) (s : St S Unit Rat) : Prop where
  sinv : SInv E s
  ninv : NInv s
  hinv : HInv E s
  oinv : OInv E H0 s

theorem Full.iffT {E : Env S Unit Rat} {t : Rat} (hops : E.ops = probOps t) {H0 : NT S Unit → List (Rat × Prog)}
    {s : St S Unit Rat} : Full E H0 s ↔ HG.FullT E (valProb E t hops) H0 s ∧ s.deleted = [] :=
  ⟨fun h => ⟨fullT hops h.sinv h.ninv h.hinv h.oinv, h.ninv.no_deleted⟩,
   fun ⟨h, hd⟩ => ⟨h.sinv, h.ninv.ninv hd, h.hinv, (OInv.iffT hops).mpr h.oinv⟩⟩

/-- what a call leaves: every popped program is either one that was popped before the call or is
    completely dealt with; `__add_successors__` deals with its program -/
def I3Post (E : Env S Unit Rat) (c : Call S Unit) (s s' : St S Unit Rat) : Prop :=
  (∀ nt k v, AList.lookup k (s'.succOf nt) = some v →
    AList.lookup k (s.succOf nt) = some v ∨ DoneFrom E s' nt v 0) ∧
  (match c with
   | .addSucc prog nt => DoneFrom E s' nt prog 0
   | .addLoop F args nt i _ _ _ => DoneFrom E s' nt (.node F args) i
   | _ => True)

/-! ### the law of the priority operations (`HG.Law`) -/

theorem OrdHyp.law {E : Env S Unit Rat} {rank} (H : OrdHyp E rank) (hthr : E.ops.thr = none) :
    HG.Law E rank (fun v => 0 ≤ v) := by
  obtain ⟨t, ht⟩ := H.ops
  refine HG.law_of_monoOps (HG.monoOps_prob E t ht fun nt F w h => ?_) ?_ (fun t' h => ?_) H.acyclic
  · rw [← weight_of_ruleW E nt F w h]; exact H.wnn nt F
  · rw [ht]; exact (probOps_weakOrder t).on _
  · rw [hthr] at h; cases h

theorem prioSpec_member {E : Env S Unit Rat} {rank} (H : OrdHyp E rank) (hw : HG.WTotal E) {p : Prog}
    {nt : NT S Unit} (hg : gen E.G p nt = true) : prioSpec E p nt = some (prob E.G E.W p nt) := by
  obtain ⟨t, ht⟩ := H.ops
  have := HG.prioSpec_total E hw p nt hg
  cases h : prioSpec E p nt with
  | none => rw [h] at this; cases this
  | some v => rw [prioSpec_prob E t ht p nt v hg h]

/-! ### the successor tables -/

/-- Shape of the successor table of every non-terminal, whose values are the popped programs: a key other than the sentinel `none` is itself a value (`kv`), some value has no successor yet
    (`tip`), a non-empty table has the sentinel key (`none_first`) whose value is the first pop of the initial heap
    `H0` (`first_val`), and every value is reached from the sentinel by following the table (`reach`). -/
structure TInv (E : Env S Unit Rat) (H0 : NT S Unit → List (Rat × Prog)) (s : St S Unit Rat) : Prop where
  kv : ∀ nt x v, AList.lookup (some x) (s.succOf nt) = some v → ∃ k, AList.lookup k (s.succOf nt) = some x
  tip : ∀ nt, s.succOf nt ≠ [] →
    ∃ k v, AList.lookup k (s.succOf nt) = some v ∧ AList.lookup (some v) (s.succOf nt) = none
  none_first : ∀ nt, s.succOf nt ≠ [] → (AList.lookup none (s.succOf nt)).isSome = true
  reach : ∀ nt k v, AList.lookup k (s.succOf nt) = some v →
    ∃ l, chainFrom (s.succOf nt) none (l ++ [v]) ∧ lastOr none l = k
  first_val : ∀ nt v, AList.lookup none (s.succOf nt) = some v →
    ∃ e h', Heapq.pop (ltE E.ops) (H0 nt) = some (e, h') ∧ e.2 = v

theorem TInv.iffG {E : Env S Unit Rat} {H0 : NT S Unit → List (Rat × Prog)} {s : St S Unit Rat} :
    TInv E H0 s ↔ HG.TInv E H0 s :=
  ⟨fun h => ⟨h.kv, h.tip, h.none_first, h.reach, h.first_val⟩,
   fun h => ⟨h.kv, h.tip, h.none_first, h.reach, h.first_val⟩⟩

/-! ### the cover invariant

`compute_priority` never fails on the programs heap search builds (weights defined for every rule, arguments
memoised), so every program added to `hash_table_program[S]` is pushed: seen = heap ∪ popped (no threshold). -/

def WTotal (E : Env S Unit Rat) : Prop := ∀ nt F rl, E.G.rule? nt F = some rl → (ruleW E nt F).isSome = true

theorem computePrio_total (E : Env S Unit Rat) (hw : WTotal E) (c : AList (Prog × NT S Unit) Rat)
    (nt : NT S Unit) (F : Sym) (args : List Prog) (ra : List (Ty × S))
    (hr : E.G.rule? nt F = some (ra, ())) (hg : genList E.G args ra = true)
    (hc : ∀ (j : Nat) kj aj, args[j]? = some kj → ra[j]? = some aj → (AList.lookup (kj, argNT aj) c).isSome = true) :
    ∃ r, computePrio E c nt (.node F args) = some r :=
  HG.computePrio_total E hw c nt F args ra hr hg hc

structure CInv (s : St S Unit Rat) : Prop where
  seen_cover : ∀ nt p, p ∈ s.seenOf nt → p ∈ s.heapProgs nt ∨ ∃ k, AList.lookup k (s.succOf nt) = some p
  heap_cached : ∀ nt e, e ∈ s.heapOf nt → (AList.lookup (e.2, nt) s.cache).isSome = true
  val_cached : ∀ nt k v, AList.lookup k (s.succOf nt) = some v → (AList.lookup (v, nt) s.cache).isSome = true

structure CoverHyp (E : Env S Unit Rat) (H0 : NT S Unit → List (Rat × Prog)) : Prop where
  wtotal : WTotal E
  thr : E.ops.thr = none
  cached : E.ops.cached = true
  h0_nonempty : ∀ nt F ra, E.G.rule? nt F = some (ra, ()) → ∀ a ∈ ra, H0 (argNT a) ≠ []

/-! ### the quiescent state -/

/-- what holds between two top-level calls of a run in which nothing is rejected. It is the hypothesis of
    `exhausted_complete`; the run-level theorems keep `HG.Quiet` and do not pass through it. -/
structure Quiet (E : Env S Unit Rat) (H0 : NT S Unit → List (Rat × Prog)) (s : St S Unit Rat) : Prop where
  full : Full E H0 s
  tinv : TInv E H0 s
  cinv : CInv s
  i3 : I3 E s
  started : ∀ nt rs, AList.lookup nt E.G.rules = some rs → s.succOf nt ≠ []
  /-- the initial program of every rule was pushed: its arguments are the first pops -/
  init_seen : ∀ nt F ra, E.G.rule? nt F = some (ra, ()) →
    ∃ ms, Tree.node F ms ∈ s.seenOf nt ∧
      ∀ (i : Nat) a m, ra[i]? = some a → ms[i]? = some m → FP E H0 (argNT a) m

/-- the arguments are popped programs of their non-terminals, `n` = total distance from the sentinels -/
inductive TupleDepth (s : St S Unit Rat) : List (Ty × S) → List Prog → Nat → Prop
  | nil : TupleDepth s [] [] 0
  | cons {a ra x args l n} : chainFrom (s.succOf (argNT a)) none (l ++ [x]) → TupleDepth s ra args n →
      TupleDepth s (a :: ra) (x :: args) (l.length + n)

theorem TupleDepth.length {s : St S Unit Rat} {ra : List (Ty × S)} {args : List Prog} {n : Nat}
    (h : TupleDepth s ra args n) : args.length = ra.length := by
  induction h with
  | nil => rfl
  | cons _ _ ih => simp [ih]

def Closed (G : TT S Unit) : Prop :=
  ∀ nt F ra, G.rule? nt F = some (ra, ()) → ∀ a ∈ ra, (AList.lookup (argNT a) G.rules).isSome = true

/-! ### the max-priority tables -/

/-- the heap element `__init_heap__` pushes for rule `P` of `nt` -/
def entry (E : Env S Unit Rat) (s : St S Unit Rat) (nt : NT S Unit) (P : Sym) : Option (Rat × Prog) :=
  (AList.lookup (nt, P) s.maxRule).map (fun p => ((prioSpec E p nt).getD 0, p))

def entries (E : Env S Unit Rat) (s : St S Unit Rat) (nt : NT S Unit) (Ps : List Sym) : List (Rat × Prog) :=
  Ps.filterMap (entry E s nt)

abbrev MN (s : St S Unit Rat) (nt : NT S Unit) : Option Prog := AList.lookup nt s.maxNT
abbrev MR (s : St S Unit Rat) (nt : NT S Unit) (P : Sym) : Option Prog := AList.lookup (nt, P) s.maxRule

structure InitHyp (E : Env S Unit Rat) (rank : NT S Unit → Nat) : Prop where
  rows : RowsNodup E.G
  acyclic : ∀ nt F ra, E.G.rule? nt F = some (ra, ()) → ∀ a ∈ ra, rank (argNT a) < rank nt
  nonempty : ∀ nt rs, AList.lookup nt E.G.rules = some rs → rs ≠ []

structure KInv (E : Env S Unit Rat) (s : St S Unit Rat) : Prop where
  sync : ∀ nt F prog ra, MR s nt F = some prog → E.G.rule? nt F = some (ra, ()) →
    ∃ ms, prog = .node F ms ∧ ∀ (i : Nat) a m, ra[i]? = some a → ms[i]? = some m → MN s (argNT a) = some m
  best : ∀ nt rs m, AList.lookup nt E.G.rules = some rs → MN s nt = some m →
    (∀ P ∈ AList.keys rs, (MR s nt P).isSome = true) ∧
    ∃ pr, (entries E s nt (AList.keys rs)).foldl (Heapq.bestStep (ltE E.ops)) none = some (pr, m)
  prog_init : ∀ nt, nt ∈ s.initS → MN s nt = none
  owned : ∀ nt P prog, MR s nt P = some prog → (MN s nt).isSome = true ∨ nt ∈ s.initS

theorem InitHyp.toG {E : Env S Unit Rat} {rank : NT S Unit → Nat} (H : InitHyp E rank) : HG.InitHyp E rank :=
  ⟨H.rows, H.acyclic, H.nonempty⟩

/-- `entry` falls back on priority 0 where `HG.entry` has no element; under `HG.KInv.prio` that case does not arise -/
theorem entries_eq_G {E : Env S Unit Rat} {s : St S Unit Rat} (hk : HG.KInv E s) (nt : NT S Unit) (Ps : List Sym) :
    entries E s nt Ps = HG.entries E s nt Ps := by
  have he : ∀ P, entry E s nt P = HG.entry E s nt P := by
    intro P
    unfold entry HG.entry
    cases hm : AList.lookup (nt, P) s.maxRule with
    | none => rfl
    | some p =>
      have hp := hk.prio nt P p hm
      cases hv : prioSpec E p nt with
      | none => rw [hv] at hp; cases hp
      | some v => simp only [Option.map_some, Option.bind_some, hv, Option.getD_some]
  unfold entries HG.entries
  induction Ps with
  | nil => rfl
  | cons P r ih => rw [List.filterMap_cons, List.filterMap_cons, he, ih]

/-! ### the state built by `__init_heap__` -/

structure Base (E : Env S Unit Rat) (s : St S Unit Rat) : Prop where
  no_succ : ∀ nt, s.succOf nt = []
  args_first : ∀ nt F args ra, Tree.node F args ∈ s.seenOf nt → E.G.rule? nt F = some (ra, ()) →
    ∀ (i : Nat) ai a, args[i]? = some ai → ra[i]? = some a → FP E s.heapOf (argNT a) ai

theorem Base.oinv {E : Env S Unit Rat} {s : St S Unit Rat} (h : Base E s) : OInv E s.heapOf s := by
  refine ⟨?_, ?_, ?_, fun _ _ => rfl⟩
  · intro nt e _ k v hk; rw [h.no_succ] at hk; simp at hk
  · intro nt k v hk; rw [h.no_succ] at hk; simp at hk
  · intro nt F args ra hm hr i ai a hai ha
    exact Or.inr ⟨h.no_succ _, h.args_first nt F args ra hm hr i ai a hai ha⟩

def Started (E : Env S Unit Rat) (s : St S Unit Rat) : Prop :=
  ∀ nt rs, AList.lookup nt E.G.rules = some rs → s.succOf nt ≠ []

theorem Started.stable {E : Env S Unit Rat} {s s' : St S Unit Rat} (hs : Started E s) (hst : Stable s s') :
    Started E s' :=
  fun nt rs hl => hst.succ_ne_nil (hs nt rs hl)

structure CompHyp (E : Env S Unit Rat) (rank : NT S Unit → Nat) : Prop where
  ord : OrdHyp E rank
  init : InitHyp E rank
  thr : E.ops.thr = none
  keys : (AList.keys E.G.rules).Nodup
  wtotal : WTotal E
  closed : Closed E.G
  nofilter : ∀ p, E.filter p = true

theorem CompHyp.cached {E : Env S Unit Rat} {rank} (C : CompHyp E rank) : E.ops.cached = true := by
  obtain ⟨t, ht⟩ := C.ord.ops
  rw [ht]; rfl

/-- the priority of every program recorded in `max_priority` is in the memo table of `compute_priority`, where
    `compute_priority` of a program built from them looks up the priorities of its arguments (it raises
    KeyError, `none` in the model, if one is missing) -/
structure CachedM (s : St S Unit Rat) : Prop where
  mn : ∀ nt m, MN s nt = some m → (AList.lookup (m, nt) s.cache).isSome = true
  mr : ∀ nt P prog, MR s nt P = some prog → (AList.lookup (prog, nt) s.cache).isSome = true

structure TotHyp (E : Env S Unit Rat) (rank : NT S Unit → Nat) (A Rm : Nat) : Prop where
  init : InitHyp E rank
  wtotal : WTotal E
  closed : Closed E.G
  cached : E.ops.cached = true
  arity : ArityLe E.G A
  rows : ∀ nt rs, AList.lookup nt E.G.rules = some rs → rs.length ≤ Rm

def ChildTotal (E : Env S Unit Rat) (rank : NT S Unit → Nat) (H0 : NT S Unit → List (Rat × Prog)) (R B : Nat) : Prop :=
  ∀ nt, rank nt < R → ∀ n, B ≤ n → ∀ s p, Full E H0 s → OPre E H0 (.query nt p) s →
    ∃ res, query E n s nt p = some res

/-- what holds of the tables between two outer calls of `__init_non_terminal__` (`_init` is empty) -/
structure MaxSt (E : Env S Unit Rat) (s : St S Unit Rat) : Prop where
  kinv : KInv E s
  minv : MInv E s
  cached : CachedM s
  noinit : s.initS = []

/-! ### the run level -/

/-- nothing is rejected, so `__add_successors__` drops nothing whatever `E.dropDeleted` is -/
theorem CompHyp.allW {E : Env S Unit Rat} {rank} (C : CompHyp E rank) : HG.AllHypW E rank (fun v => 0 ≤ v) :=
  ⟨⟨C.ord.law C.thr, C.wtotal, Or.inr C.nofilter⟩, C.init.toG, C.keys, Or.inl C.thr⟩

end PS.HS
