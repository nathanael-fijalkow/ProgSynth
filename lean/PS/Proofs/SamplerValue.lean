/- C09, value samplers: `ListSampler`'s `[f() for _ in range(k)]` (`repeatM`) returns `k` values. -/
import PS.Model.Sampler
namespace PS.Sampler

theorem repeatM_length {σ β : Type} (f : σ → Option (β × σ)) (k : Nat) (s : σ) (bs : List β) (s' : σ)
    (h : repeatM f k s = some (bs, s')) : bs.length = k := by
  fun_induction repeatM f k s generalizing bs s' <;> cases h
  · rfl
  · next hr ih => rw [List.length_cons, ih _ _ hr]

theorem list_shape_aux (f : LDraws → Option (Val × LDraws)) (len : Nat) (d1 d' : LDraws) (v : Val)
    (h : (match PS.Sampler.repeatM f len d1 with
          | none => none
          | some (vs, d2) => some (Tree.node none vs, d2)) = some (v, d')) :
    ∃ vs, v = Tree.node none vs ∧ vs.length = len := by
  split at h; · cases h
  rename_i vs d2 hr
  cases h
  exact ⟨vs, rfl, repeatM_length f len d1 vs _ hr⟩

end PS.Sampler
