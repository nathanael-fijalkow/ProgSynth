/-
  C04, counting for unambiguous grammars (`ProbUGrammar.programs()` = `UCFG.programs()`), any number of start
  symbols.

  On a finite grammar (`boundedU`) the enumeration `langU G k nt` lists every term as many times as it has
  derivations from `nt` (`count_langU`).  In the enumeration from all start symbols (`langAll`) the number of
  occurrences of `t` is the number of (start symbol, derivation) pairs of `t`, so for an unambiguous grammar it is a
  duplicate-free list of exactly the language, over which the probabilities of the specification (start weight ×
  rule weights) sum to 1 (`probU_sum_one_starts`).
-/
import PS.Proofs.UMass
import PS.Proofs.UOps
import PS.Proofs.Ucfg
namespace PS.U.Cnt
open PS PS.G PS.U PS.U.Mass

variable {U : Type} [DecidableEq U]
set_option linter.unusedSectionVars false

theorem count_langU (G : UCFG U)
    (hr : ∀ nt rs, AList.lookup nt G.rules = some rs → (AList.keys rs).Nodup) :
    ∀ (k : Nat) (nt : UNT U) (t : Prog), boundedU G k nt = true →
      (langU G k nt).count t = (derivs G t nt).length := by
  intro k nt t hb
  rw [langU_eq_prods, Prods.count_lang_of_bounded _ k t nt (boundedU_prods G k nt hb), (length_derivs G hr).1]

def langAll (G : UCFG U) (k : Nat) : List Prog := G.starts.flatMap (fun s => langU G k s)

theorem count_langAll_depth (G : UCFG U)
    (hr : ∀ nt rs, AList.lookup nt G.rules = some rs → (AList.keys rs).Nodup) (k : Nat) (t : Prog) :
    (langAll G k).count t = if Tree.depth t ≤ k then (allDerivs G t).length else 0 := by
  unfold langAll
  rw [List.count_flatMap, length_allDerivs]
  have h : G.starts.map (List.count t ∘ fun s => langU G k s) =
      G.starts.map (fun s => if Tree.depth t ≤ k then (derivs G t s).length else 0) :=
    List.map_congr_left fun s _ => by
      simp only [Function.comp, langU_eq_prods, Prods.count_lang, (length_derivs G hr).1]
  rw [h]
  split
  · rfl
  · exact sum_eq_zero _ _ fun _ _ => rfl

theorem count_langAll (G : UCFG U)
    (hr : ∀ nt rs, AList.lookup nt G.rules = some rs → (AList.keys rs).Nodup) (k : Nat)
    (hb : ∀ s ∈ G.starts, boundedU G k s = true) (t : Prog) :
    (langAll G k).count t = (allDerivs G t).length := by
  unfold langAll
  rw [List.count_flatMap, length_allDerivs]
  congr 1
  apply List.map_congr_left
  intro s hs
  simp only [Function.comp]
  exact count_langU G hr k s t (hb s hs)

theorem mem_langAll (G : UCFG U)
    (hr : ∀ nt rs, AList.lookup nt G.rules = some rs → (AList.keys rs).Nodup) (k : Nat)
    (hb : ∀ s ∈ G.starts, boundedU G k s = true) (t : Prog) :
    t ∈ langAll G k ↔ genU G t = true := by
  rw [← List.count_pos_iff, count_langAll G hr k hb t, genU_iff_pos]

theorem mem_langAll_contains (G : UCFG U)
    (hr : ∀ nt rs, AList.lookup nt G.rules = some rs → (AList.keys rs).Nodup) (k : Nat)
    (hb : ∀ s ∈ G.starts, boundedU G k s = true) (t : Prog) :
    t ∈ langAll G k ↔ contains G t = true := by
  rw [mem_langAll G hr k hb t, contains_eq_genU]

theorem langAll_single {G : UCFG U} {s : UNT U} (hst : G.starts = [s]) (k : Nat) : langAll G k = langU G k s := by
  rw [langAll, hst, List.flatMap_cons, List.flatMap_nil, List.append_nil]

theorem programs_eq_length_langAll (G : UCFG U) (fuel n k : Nat) (h : programs G fuel = some n)
    (hb : ∀ s ∈ G.starts, boundedU G k s = true) : n = (langAll G k).length := by
  rw [Ops.programs_eq_length G fuel n k h hb, langAll, List.length_flatMap]

theorem langAll_nodup (G : UCFG U)
    (hr : ∀ nt rs, AList.lookup nt G.rules = some rs → (AList.keys rs).Nodup) (k : Nat)
    (hb : ∀ s ∈ G.starts, boundedU G k s = true) (hu : ∀ t, unambiguousOn G t = true) :
    (langAll G k).Nodup := by
  rw [List.nodup_iff_count]
  intro t
  rw [count_langAll G hr k hb t]
  exact of_decide_eq_true (hu t)

theorem probU_sum_one_starts (G : UCFG U) (tg : UTags U) (hn : NormalisedU G tg) (k : Nat)
    (hb : ∀ s ∈ G.starts, boundedU G k s = true)
    (hs : (G.starts.map (startWeight tg)).sum = 1) (hu : ∀ t, unambiguousOn G t = true) :
    ((langAll G k).map (fun t => probU G tg t)).sum = 1 := by
  unfold langAll
  rw [sum_flatMap_rat, ← spec_total_one G tg hn k hb hs]
  congr 1
  apply List.map_congr_left
  intro s hs'
  rw [← dersU_fst, List.map_map, massU, ← sum_map_mul_left]
  congr 1
  apply List.map_congr_left
  intro x hx
  exact probU_of_mem_dersU G tg hn s hs' k hu x hx

end PS.U.Cnt
