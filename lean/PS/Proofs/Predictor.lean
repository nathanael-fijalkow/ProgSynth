/-
  C19 (prediction layers): the model of PS/Model/Predictor.lean instantiated with the real numbers
  (`Real.exp`, `Real.log`).  The two layers tag one non-terminal by the same loops over variables
  and constants; these only set fresh keys and shift all values, so they are proved once over an
  interface (`TagStore`) that both tag tables implement, and the mass `Σ exp tag` of a non-terminal
  follows for both.  The rest lifts this from one entry to the grammar and shows that
  `reduce_derivations` is a fold over the derivation, which gives the consistency of
  `log_probability` with the converted grammar.
-/
import Mathlib.Analysis.SpecialFunctions.Log.Basic
import PS.Model.Predictor
import PS.Proofs.AList
import PS.Proofs.OptAll
import PS.Proofs.Tree
namespace PS.Predictor
open PS
set_option linter.unusedSectionVars false
set_option linter.unusedSimpArgs false

/-- the real numbers as number type of the model; `pos x` is the (classical) test `0 < x` -/
noncomputable instance instExpLogReal : ExpLog ℝ where
  ofNat := fun n => (n : ℝ)
  exp := Real.exp
  log := Real.log
  pos := fun x => @decide (0 < x) (Classical.propDecidable _)

@[simp] theorem ofNat_real (n : ℕ) : (ExpLog.ofNat n : ℝ) = (n : ℝ) := rfl
@[simp] theorem exp_real (x : ℝ) : (ExpLog.exp x : ℝ) = Real.exp x := rfl
@[simp] theorem log_real (x : ℝ) : (ExpLog.log x : ℝ) = Real.log x := rfl
@[simp] theorem pos_real (x : ℝ) : (ExpLog.pos x = true) ↔ 0 < x := by
  simp [ExpLog.pos]

theorem sumL_eq (l : List ℝ) : sumL l = l.sum := by
  unfold sumL
  rw [List.sum_eq_foldl]
  simp

section AL
variable {κ ν : Type} [DecidableEq κ]

theorem lookup_map_graph (f : κ → ν) (k : κ) (l : List κ) :
    AList.lookup k (l.map (fun a => (a, f a))) = if k ∈ l then some (f k) else none := by
  induction l with
  | nil => rfl
  | cons a r ih =>
    by_cases hk : a = k
    · simp [AList.lookup, hk]
    · simp [AList.lookup, hk, ih, Ne.symm hk]

theorem keys_map_key (f : κ → ν) (l : List κ) : AList.keys (l.map (fun a => (a, f a))) = l := by
  simp [AList.keys, Function.comp_def]

def wsum (g : κ → ν → ℝ) (d : AList κ ν) : ℝ := (d.map (fun e => g e.1 e.2)).sum

@[simp] theorem wsum_nil (g : κ → ν → ℝ) : wsum g ([] : AList κ ν) = 0 := rfl
@[simp] theorem wsum_cons (g : κ → ν → ℝ) (p : κ × ν) (d : AList κ ν) :
    wsum g (p :: d) = g p.1 p.2 + wsum g d := by simp [wsum]
theorem wsum_append (g : κ → ν → ℝ) (a b : AList κ ν) : wsum g (a ++ b) = wsum g a + wsum g b := by
  simp [wsum]

theorem wsum_insert (g : κ → ν → ℝ) (k : κ) (v : ν) (d : AList κ ν) :
    wsum g (AList.insert k v d) = wsum g d + g k v - ((AList.lookup k d).map (g k)).getD 0 := by
  fun_induction AList.insert k v d with
  | case1 => simp [AList.lookup]
  | case2 v' r => simp [AList.lookup]; ring
  | case3 k' v' r hk ih => simp [AList.lookup, hk, ih]; ring

theorem wsum_nonneg {g : κ → ν → ℝ} (hg : ∀ k v, 0 ≤ g k v) (d : AList κ ν) : 0 ≤ wsum g d :=
  List.sum_nonneg (by simp only [List.mem_map]; rintro _ ⟨e, _, rfl⟩; exact hg _ _)

theorem wsum_pos {g : κ → ν → ℝ} (hg : ∀ k v, 0 < g k v) {d : AList κ ν} (h : d ≠ []) : 0 < wsum g d := by
  cases d with
  | nil => exact absurd rfl h
  | cons p r => rw [wsum_cons]; linarith [hg p.1 p.2, wsum_nonneg (fun k v => (hg k v).le) r]

theorem wsum_map_scale {g : κ → ν → ℝ} {f : ν → ν} {c : ℝ} (h : ∀ k t, g k (f t) = c * g k t)
    (d : AList κ ν) : wsum g (d.map (fun z => (z.1, f z.2))) = c * wsum g d := by
  induction d with
  | nil => simp
  | cons p r ih => simp only [List.map_cons, wsum_cons, ih, h, mul_add]

theorem wsum_filter (g : κ → ν → ℝ) (sel : κ → Bool) (d : AList κ ν) :
    wsum g (d.filter (fun e => sel e.1)) = wsum (fun k t => if sel k then g k t else 0) d := by
  induction d with
  | nil => rfl
  | cons p r ih => by_cases hs : sel p.1 = true <;> simp [List.filter_cons, hs, ih]

end AL

/-! ### tag tables as finite maps

`tagNT` works on `AList DP ℝ` (one tag per rule), `tagNTU` on `AList DP (AList Alt ℝ)` (one tag per
alternative of a rule).  Both only set fresh keys, shift all values, and are measured by
`Σ exp tag`; that interface is `TagStore`, and the loops over variables and constants are proved
correct once, over it. -/
section Store

/-- The ordering trick (`total_variable_order`): so that no two variables of a non-terminal
    get the same probability (det_grammar_predictor.py:193-201), the probability written to the next
    one is lowered by `ε` = 1e-7 after each variable, `nvl = log(exp(nvl) - ε)`; variable number `k`
    thus loses `k·ε` and each constant `m·ε`, `m` the number of variables.  This is sound as long as
    the last value stays positive (`hypEps`; specification values `epsTerm`, PS/Model/Predictor.lean).
    `eff` is the decrement actually applied: `ε` with the option, 0 without. -/
def eff (tvo : Bool) (ε : ℝ) : ℝ := if tvo then ε else 0

def tri (n : ℕ) : ℝ := ((n * (n - 1) / 2 : ℕ) : ℝ)

theorem tri_succ (n : ℕ) : tri (n + 1) = tri n + n := by
  rw [tri, Nat.triangle_succ, Nat.cast_add, tri]

/-- `σ` as a map from keys `K` to tags; `rule k` is the grammar rule the key belongs to and
    `mass sel s` is `Σ exp tag` over the keys whose rule is selected -/
structure TagStore (σ K : Type) [DecidableEq K] where
  rule : K → DP
  get : σ → K → Option ℝ
  set : σ → K → ℝ → σ
  shift : σ → ℝ → σ
  mass : (DP → Bool) → σ → ℝ
  get_set : ∀ s k t k', get (set s k t) k' = if k' = k then some t else get s k'
  get_shift : ∀ s a k, get (shift s a) k = (get s k).map (· + a)
  mass_set : ∀ sel s k t, get s k = none →
    mass sel (set s k t) = mass sel s + if sel (rule k) then Real.exp t else 0
  mass_shift : ∀ sel s a, mass sel (shift s a) = Real.exp a * mass sel s
  mass_nonneg : ∀ sel s, 0 ≤ mass sel s

variable {σ K : Type} [DecidableEq K] (S : TagStore σ K)

/-- `for k in ks: s[k] = nvl; if total_variable_order: nvl = log(exp(nvl) - ε)` -/
noncomputable def assignSeq (tvo : Bool) (ε : ℝ) : List K → ℝ → σ → σ × ℝ
  | [], nvl, s => (s, nvl)
  | k :: r, nvl, s =>
    assignSeq tvo ε r (if tvo then ExpLog.log (ExpLog.exp nvl - ε) else nvl) (S.set s k nvl)

theorem assignSeq_append (tvo : Bool) (ε : ℝ) (l1 l2 : List K) (nvl : ℝ) (s : σ) :
    assignSeq S tvo ε (l1 ++ l2) nvl s
      = assignSeq S tvo ε l2 (assignSeq S tvo ε l1 nvl s).2 (assignSeq S tvo ε l1 nvl s).1 := by
  induction l1 generalizing nvl s with
  | nil => rfl
  | cons k r ih => exact ih _ _

theorem assignSeq_false (ε : ℝ) (ks : List K) (nvl : ℝ) (s : σ) :
    assignSeq S false ε ks nvl s = (ks.foldl (fun s k => S.set s k nvl) s, nvl) := by
  induction ks generalizing s with
  | nil => rfl
  | cons k r ih => exact ih _

theorem assignSeq_get_other (tvo : Bool) (ε : ℝ) (q : K) :
    ∀ (ks : List K) (nvl : ℝ) (s : σ), q ∉ ks → S.get (assignSeq S tvo ε ks nvl s).1 q = S.get s q
  | [], _, _, _ => rfl
  | k :: r, nvl, s, hq => by
    rw [List.mem_cons, not_or] at hq
    rw [assignSeq, assignSeq_get_other tvo ε q r _ _ hq.2, S.get_set, if_neg hq.1]

theorem next_nvl (tvo : Bool) {ε : ℝ} (hε : 0 ≤ ε) (nvl : ℝ) (n : ℕ)
    (h : ((n + 1 : ℕ) : ℝ) * eff tvo ε < Real.exp nvl) :
    Real.exp (if tvo then ExpLog.log (ExpLog.exp nvl - ε) else nvl) = Real.exp nvl - eff tvo ε
      ∧ (n : ℝ) * eff tvo ε < Real.exp nvl - eff tvo ε := by
  push_cast at h
  cases tvo with
  | false => simpa [eff] using h
  | true =>
    simp only [eff, if_true, log_real, exp_real] at h ⊢
    have : (0 : ℝ) ≤ n * ε := by positivity
    rw [Real.exp_log (by linarith)]
    exact ⟨rfl, by linarith⟩

theorem assignSeq_spec (tvo : Bool) {ε : ℝ} (hε : 0 ≤ ε) :
    ∀ (ks : List K) (nvl : ℝ) (s : σ), ks.Nodup → (ks.length : ℝ) * eff tvo ε < Real.exp nvl →
      Real.exp (assignSeq S tvo ε ks nvl s).2 = Real.exp nvl - ks.length * eff tvo ε
      ∧ (∀ j (hj : j < ks.length), ∃ tag, S.get (assignSeq S tvo ε ks nvl s).1 ks[j] = some tag
            ∧ Real.exp tag = Real.exp nvl - j * eff tvo ε)
      ∧ ∀ (sel : DP → Bool) (b : Bool), (∀ k ∈ ks, S.get s k = none) → (∀ k ∈ ks, sel (S.rule k) = b) →
          S.mass sel (assignSeq S tvo ε ks nvl s).1
            = S.mass sel s + if b then (ks.length : ℝ) * Real.exp nvl - eff tvo ε * tri ks.length else 0
  | [], nvl, s, _, _ => by simp [assignSeq, tri]
  | k :: r, nvl, s, hnd, hb => by
    obtain ⟨hk, hnd⟩ := List.nodup_cons.mp hnd
    obtain ⟨hnext, hb'⟩ := next_nvl tvo hε nvl r.length hb
    rw [← hnext] at hb'
    obtain ⟨i1, i2, i3⟩ := assignSeq_spec tvo hε r _ (S.set s k nvl) hnd hb'
    rw [assignSeq]
    refine ⟨by rw [i1, hnext, List.length_cons]; push_cast; ring, ?_, ?_⟩
    · intro j hj
      cases j with
      | zero => exact ⟨nvl, by rw [List.getElem_cons_zero, assignSeq_get_other S tvo ε k r _ _ hk,
          S.get_set, if_pos rfl], by rw [Nat.cast_zero, zero_mul, sub_zero]⟩
      | succ j =>
        obtain ⟨tag, a1, a2⟩ := i2 j (Nat.lt_of_succ_lt_succ hj)
        exact ⟨tag, a1, by rw [a2, hnext]; push_cast; ring⟩
    · intro sel b hfresh hsel
      have hfresh' : ∀ q ∈ r, S.get (S.set s k nvl) q = none := fun q hq => by
        rw [S.get_set, if_neg (fun h : q = k => hk (h ▸ hq))]; exact hfresh q (List.mem_cons_of_mem _ hq)
      rw [i3 sel b hfresh' (fun q hq => hsel q (List.mem_cons_of_mem _ hq)),
        S.mass_set sel s k nvl (hfresh k (List.mem_cons_self ..)), hsel k (List.mem_cons_self ..), hnext]
      cases b with
      | false => simp
      | true => simp only [if_true, List.length_cons, tri_succ]; push_cast; ring

theorem mass_shift_norm (s0 : σ) (hpos : 0 < S.mass (fun _ => true) s0) {c : ℝ} (hc : 0 < c)
    (sel : DP → Bool) (bp : Bool) (hsel : S.mass sel s0 = if bp then S.mass (fun _ => true) s0 else 0) :
    S.mass sel (S.shift s0 (Real.log (c / S.mass (fun _ => true) s0))) = if bp then c else 0 := by
  rw [S.mass_shift, hsel, Real.exp_log (div_pos hc hpos)]
  cases bp with
  | false => simp
  | true => simp only [if_true]; field_simp

/-- the branch of `tagNT` / `tagNTU` taken when variables or constants exist: the tags present (`s0`, the
    primitive rules) are shifted to total mass `1 - v`, the rest goes in equal parts to `vars` and `consts` -/
noncomputable def tagRest (v ε : ℝ) (tvo : Bool) (s0 : σ) (vars consts : List K) : σ :=
  let tot := S.mass (fun _ => true) s0
  let s1 := if 0 < tot then S.shift s0 (Real.log ((1 - v) / tot)) else s0
  let nvl := Real.log ((if 0 < tot then v else 1) / ((vars.length : ℝ) + consts.length))
  let r := assignSeq S tvo ε vars nvl s1
  (assignSeq S false ε consts r.2 r.1).1

theorem tagRest_get_other (v ε : ℝ) (tvo : Bool) (s0 : σ) (vars consts : List K) (q : K)
    (hq : q ∉ vars ++ consts) (hpos : 0 < S.mass (fun _ => true) s0) :
    S.get (tagRest S v ε tvo s0 vars consts) q
      = (S.get s0 q).map (· + Real.log ((1 - v) / S.mass (fun _ => true) s0)) := by
  rw [List.mem_append, not_or] at hq
  simp only [tagRest, hpos, if_true]
  rw [assignSeq_get_other S _ _ q _ _ _ hq.2, assignSeq_get_other S _ _ q _ _ _ hq.1, S.get_shift]

theorem assignBoth_spec (tvo : Bool) {ε : ℝ} (hε : 0 ≤ ε) (vars consts : List K) (hnd : (vars ++ consts).Nodup)
    {vp nvl : ℝ} (s : σ) (hmc : (0 : ℝ) < (vars.length : ℝ) + consts.length)
    (hq : Real.exp nvl = vp / ((vars.length : ℝ) + consts.length))
    (heps : (vars.length : ℝ) * eff tvo ε * (vars.length + consts.length) < vp) :
    (∀ j (hj : j < vars.length), ∃ tag,
        S.get (assignSeq S false ε consts (assignSeq S tvo ε vars nvl s).2 (assignSeq S tvo ε vars nvl s).1).1 vars[j]
          = some tag
        ∧ Real.exp tag = vp / ((vars.length : ℝ) + consts.length) - j * eff tvo ε)
    ∧ (∀ q ∈ consts, ∃ tag,
        S.get (assignSeq S false ε consts (assignSeq S tvo ε vars nvl s).2 (assignSeq S tvo ε vars nvl s).1).1 q
          = some tag
        ∧ Real.exp tag = vp / ((vars.length : ℝ) + consts.length) - vars.length * eff tvo ε)
    ∧ ∀ (sel : DP → Bool) (b : Bool), (∀ k ∈ vars ++ consts, S.get s k = none) →
        (∀ k ∈ vars ++ consts, sel (S.rule k) = b) →
        S.mass sel (assignSeq S false ε consts (assignSeq S tvo ε vars nvl s).2 (assignSeq S tvo ε vars nvl s).1).1
          = S.mass sel s
            + if b then vp - eff tvo ε * (tri vars.length + consts.length * vars.length) else 0 := by
  obtain ⟨hndV, hndC, hdisj⟩ := List.nodup_append.mp hnd
  obtain ⟨a1, a2, a3⟩ := assignSeq_spec S tvo hε vars nvl s hndV (by rw [hq, lt_div_iff₀ hmc]; exact heps)
  have a4 : ∀ k ∈ consts, S.get (assignSeq S tvo ε vars nvl s).1 k = S.get s k :=
    fun k hk => assignSeq_get_other S _ _ _ _ _ _ (fun h => hdisj _ h _ hk rfl)
  generalize assignSeq S tvo ε vars nvl s = r at a1 a2 a3 a4 ⊢
  obtain ⟨-, b2, b3⟩ := assignSeq_spec S false hε consts r.2 r.1 hndC (by simp [eff, Real.exp_pos])
  refine ⟨fun j hj => ?_, fun q hq' => ?_, fun sel b hfresh hselv => ?_⟩
  · rw [assignSeq_get_other S _ _ _ _ _ _ (fun h => hdisj _ (List.getElem_mem hj) _ h rfl), ← hq]
    exact a2 j hj
  · obtain ⟨j, hj, rfl⟩ := List.mem_iff_getElem.mp hq'
    obtain ⟨tag, c1, c2⟩ := b2 j hj
    exact ⟨tag, c1, by rw [c2, a1, hq]; simp [eff]⟩
  · rw [b3 sel b (fun k hk => ?_) (fun k hk => hselv k (List.mem_append_right _ hk)),
      a3 sel b (fun k hk => hfresh k (List.mem_append_left _ hk))
        (fun k hk => hselv k (List.mem_append_left _ hk)), a1]
    · have hq' : Real.exp nvl * ((vars.length : ℝ) + consts.length) = vp := by
        rw [hq, div_mul_cancel₀ _ (ne_of_gt hmc)]
      cases b with
      | false => simp
      | true => simp only [if_true, eff, Bool.false_eq_true, if_false]; linear_combination hq'
    · rw [a4 k hk]; exact hfresh k (List.mem_append_right _ hk)

/-- `if 0 < mass s0 then v else 1` is the share of variables and constants: `v` when the primitive
    part has mass, everything otherwise.  The selector is `bp` on the rules of the primitive part and
    `b` on those of the new keys. -/
theorem tagRest_spec {v ε : ℝ} (tvo : Bool) (s0 : σ) (vars consts : List K)
    (hv0 : 0 < v) (hv1 : v < 1) (hε : 0 ≤ ε) (hnd : (vars ++ consts).Nodup)
    (hmc : 0 < vars.length + consts.length)
    (heps : (vars.length : ℝ) * eff tvo ε * (vars.length + consts.length)
      < if 0 < S.mass (fun _ => true) s0 then v else 1) :
    (∀ j (hj : j < vars.length), ∃ tag, S.get (tagRest S v ε tvo s0 vars consts) vars[j] = some tag
        ∧ Real.exp tag = (if 0 < S.mass (fun _ => true) s0 then v else 1) / ((vars.length : ℝ) + consts.length)
            - j * eff tvo ε)
    ∧ (∀ q ∈ consts, ∃ tag, S.get (tagRest S v ε tvo s0 vars consts) q = some tag
        ∧ Real.exp tag = (if 0 < S.mass (fun _ => true) s0 then v else 1) / ((vars.length : ℝ) + consts.length)
            - vars.length * eff tvo ε)
    ∧ ∀ (sel : DP → Bool) (bp b : Bool), (∀ k ∈ vars ++ consts, S.get s0 k = none) →
        (S.mass sel s0 = if bp then S.mass (fun _ => true) s0 else 0) →
        (∀ k ∈ vars ++ consts, sel (S.rule k) = b) →
        S.mass sel (tagRest S v ε tvo s0 vars consts)
          = (if bp then 1 - (if 0 < S.mass (fun _ => true) s0 then v else 1) else 0)
            + (if b then (if 0 < S.mass (fun _ => true) s0 then v else 1)
                - eff tvo ε * (tri vars.length + consts.length * vars.length) else 0) := by
  have hvp : (0 : ℝ) < if 0 < S.mass (fun _ => true) s0 then v else 1 := by split <;> linarith
  have hmc' : (0 : ℝ) < (vars.length : ℝ) + consts.length := by exact_mod_cast hmc
  obtain ⟨c1, c2, c3⟩ := assignBoth_spec S tvo hε vars consts hnd
    (if 0 < S.mass (fun _ => true) s0 then S.shift s0 (Real.log ((1 - v) / S.mass (fun _ => true) s0)) else s0) hmc'
    (Real.exp_log (div_pos hvp hmc')) heps
  refine ⟨c1, c2, fun sel bp b hfresh hsel0 hselv => (c3 sel b (fun k hk => ?_) hselv).trans ?_⟩
  · split
    · rw [S.get_shift, hfresh k hk]; rfl
    · exact hfresh k hk
  · congr 1
    by_cases hp : 0 < S.mass (fun _ => true) s0
    · simp only [hp, if_true]
      exact mass_shift_norm S s0 hp (by linarith) sel bp hsel0
    · have h0 : S.mass (fun _ => true) s0 = 0 := le_antisymm (not_lt.mp hp) (S.mass_nonneg _ _)
      simp [hsel0, h0]

end Store

/-! ### the two layers as tag stores -/
section Det

noncomputable def mass (sel : DP → Bool) (d : AList DP ℝ) : ℝ :=
  wsum (fun P t => if sel P then Real.exp t else 0) d

@[reducible] noncomputable def detStore : TagStore (AList DP ℝ) DP where
  rule := id
  get d P := AList.lookup P d
  set d P t := AList.insert P t d
  shift d a := d.map (fun e => (e.1, e.2 + a))
  mass := mass
  get_set d P t Q := AList.lookup_insert P Q t d
  get_shift d a P := AList.lookup_map_val (fun _ t => t + a) P d
  mass_set sel d P t h := by unfold mass; rw [wsum_insert]; simp [h]
  mass_shift sel d a := by
    unfold mass
    exact wsum_map_scale (f := (· + a)) (fun P t => by split <;> simp [Real.exp_add, mul_comm]) d
  mass_nonneg sel d := wsum_nonneg (fun P t => by split <;> positivity) d

theorem assignVars_eq (tvo : Bool) (ε : ℝ) (vars : List DP) (nvl : ℝ) (T : AList DP ℝ) :
    assignVars tvo ε vars nvl T = assignSeq detStore tvo ε vars nvl T := by
  induction vars generalizing nvl T with
  | nil => rfl
  | cons P r ih => exact ih _ _

theorem assignConsts_eq (ε : ℝ) (cs : List DP) (nvl : ℝ) (T : AList DP ℝ) :
    assignConsts cs nvl T = (assignSeq detStore false ε cs nvl T).1 := by
  induction cs generalizing T with
  | nil => rfl
  | cons P r ih => exact ih _

theorem total_eq (prim : AList DP ℝ) :
    sumL (prim.map (fun e => (ExpLog.exp e.2 : ℝ))) = mass (fun _ => true) prim := by
  rw [sumL_eq]; simp [mass, wsum]

theorem nil_of_length_add {β γ : Type} {l : List β} {l' : List γ} (h : l.length + l'.length = 0) :
    l = [] ∧ l' = [] :=
  ⟨List.length_eq_zero_iff.mp (Nat.eq_zero_of_add_eq_zero_right h),
    List.length_eq_zero_iff.mp (Nat.eq_zero_of_add_eq_zero_left h)⟩

theorem isEmpty_or_eq_true {β γ : Type} {l : List β} {l' : List γ} (h : 0 < l.length + l'.length) :
    (!l.isEmpty || !l'.isEmpty) = true := by
  cases l with
  | cons _ _ => rfl
  | nil => cases l' with
    | cons _ _ => rfl
    | nil => cases h

theorem tagNT_eq_rest (v ε : ℝ) (tvo : Bool) (prim : AList DP ℝ) (vars consts : List DP)
    (h : 0 < vars.length + consts.length) :
    tagNT v ε tvo prim vars consts = tagRest detStore v ε tvo prim vars consts := by
  unfold tagNT tagRest
  simp only [isEmpty_or_eq_true h, if_true, total_eq, assignVars_eq, assignConsts_eq ε, pos_real, log_real, ofNat_real,
    Nat.cast_add]
  by_cases hp : 0 < mass (fun _ => true) prim <;> simp [hp, detStore]

theorem mass_of_sel (sel : DP → Bool) (bp : Bool) (prim : AList DP ℝ)
    (hsel : ∀ P ∈ AList.keys prim, sel P = bp) :
    mass sel prim = if bp then mass (fun _ => true) prim else 0 := by
  induction prim with
  | nil => cases bp <;> rfl
  | cons p r ih =>
    simp only [mass, wsum_cons, AList.keys, List.map_cons, List.mem_cons, forall_eq_or_imp] at ih hsel ⊢
    rw [ih hsel.2, hsel.1]
    cases bp <;> simp

theorem mass_true_pos {prim : AList DP ℝ} (h : prim ≠ []) : 0 < mass (fun _ => true) prim :=
  wsum_pos (fun _ _ => by simp [Real.exp_pos]) h

theorem tagNT_nil (v ε : ℝ) (tvo : Bool) {prim : AList DP ℝ} (hpos : 0 < mass (fun _ => true) prim) :
    tagNT v ε tvo prim [] [] = detStore.shift prim (Real.log (1 / mass (fun _ => true) prim)) := by
  simp only [tagNT, total_eq, List.isEmpty_nil, Bool.not_true, Bool.or_self, Bool.false_eq_true, if_false,
    (pos_real _).mpr hpos, if_true, log_real, ofNat_real, Nat.cast_one]

theorem tagNT_lookup_prim (v ε : ℝ) (tvo : Bool) (prim : AList DP ℝ) (vars consts : List DP)
    (hp : prim ≠ []) (P : DP) (hP : P ∉ vars ++ consts) :
    AList.lookup P (tagNT v ε tvo prim vars consts)
      = (AList.lookup P prim).map
          (· + Real.log ((if vars.length + consts.length = 0 then 1 else 1 - v) / mass (fun _ => true) prim)) := by
  have hpos := mass_true_pos hp
  by_cases h : vars.length + consts.length = 0
  · rw [if_pos h]
    obtain ⟨rfl, rfl⟩ := nil_of_length_add h
    rw [tagNT_nil v ε tvo hpos]
    exact detStore.get_shift prim _ P
  · rw [tagNT_eq_rest _ _ _ _ _ _ (Nat.pos_of_ne_zero h), if_neg h]
    exact tagRest_get_other detStore v ε tvo prim vars consts P hP hpos

end Det

section ULayer

abbrev TagsU := AList DP (AList Alt ℝ)

noncomputable def inner (d : AList Alt ℝ) : ℝ := wsum (fun _ t => Real.exp t) d

/-- the model's `massU` over the rules that `sel` selects (`massU_eq`: all of them); the `mass` of the
    U-layer's tag store -/
noncomputable def massU' (sel : DP → Bool) (T : TagsU) : ℝ :=
  wsum (fun P d => if sel P then inner d else 0) T

/-- `tags[S][P].get(k)` -/
def innerLookup (T : TagsU) (P : DP) (k : Alt) : Option ℝ :=
  AList.lookup k ((AList.lookup P T).getD [])

theorem inner_nonneg (d : AList Alt ℝ) : 0 ≤ inner d := wsum_nonneg (fun _ _ => Real.exp_nonneg _) d

theorem massU'_setInner (sel : DP → Bool) (T : TagsU) (P : DP) (k : Alt) (t : ℝ)
    (h : innerLookup T P k = none) :
    massU' sel (setInner T P k t) = massU' sel T + (if sel P then Real.exp t else 0) := by
  unfold innerLookup at h
  unfold massU' setInner
  rw [wsum_insert]
  have hin : inner (AList.insert k t ((AList.lookup P T).getD []))
      = inner ((AList.lookup P T).getD []) + Real.exp t := by
    unfold inner; rw [wsum_insert]; simp [h]
  rw [hin]
  cases AList.lookup P T <;> by_cases hs : sel P = true <;> simp [hs, inner, add_sub_assoc]

@[reducible] noncomputable def uStore : TagStore TagsU (DP × Alt) where
  rule := Prod.fst
  get T p := innerLookup T p.1 p.2
  set T p t := setInner T p.1 p.2 t
  shift := addAllU
  mass := massU'
  get_set T p t q := by
    unfold innerLookup setInner
    by_cases hP : q.1 = p.1
    · rw [hP, AList.lookup_insert_self, Option.getD_some, AList.lookup_insert]
      simp [Prod.ext_iff, hP]
    · rw [AList.lookup_insert_ne _ _ hP]; simp [Prod.ext_iff, hP]
  get_shift T a p := by
    unfold innerLookup addAllU
    rw [AList.lookup_map_val (fun _ (d : AList Alt ℝ) => d.map (fun z => (z.1, z.2 + a))) p.1 T]
    cases AList.lookup p.1 T with
    | none => rfl
    | some d => exact AList.lookup_map_val (fun _ t => t + a) p.2 d
  mass_set sel T p t h := massU'_setInner sel T p.1 p.2 t h
  mass_shift sel T a := by
    unfold massU' addAllU
    refine wsum_map_scale (f := fun (d : AList Alt ℝ) => d.map (fun z => (z.1, z.2 + a))) (fun P d => ?_) T
    have : inner (d.map (fun z => (z.1, z.2 + a))) = Real.exp a * inner d :=
      wsum_map_scale (f := (· + a)) (fun _ t => by rw [Real.exp_add, mul_comm]) d
    split <;> simp [this]
  mass_nonneg sel T := wsum_nonneg (fun P d => by split; exacts [inner_nonneg d, le_rfl]) T

/-- the two nested loops over the alternatives of a list of rules run over these (rule, alternative) pairs -/
def pairsOf (l : List (DP × List Alt)) : List (DP × Alt) := l.flatMap (fun p => p.2.map (fun k => (p.1, k)))

theorem assignVarsU_eq (tvo : Bool) (ε : ℝ) (vars : List (DP × List Alt)) (nvl : ℝ) (T : TagsU) :
    assignVarsU tvo ε vars nvl T = assignSeq uStore tvo ε (pairsOf vars) nvl T := by
  have halts : ∀ (P : DP) (alts : List Alt) (nvl : ℝ) (T : TagsU),
      assignAltsU tvo ε P alts nvl T = assignSeq uStore tvo ε (alts.map (fun k => (P, k))) nvl T := by
    intro P alts
    induction alts with
    | nil => intro _ _; rfl
    | cons k r ih => intro _ _; exact ih _ _
  induction vars generalizing nvl T with
  | nil => rfl
  | cons p r ih =>
    simp only [assignVarsU, pairsOf, List.flatMap_cons, assignSeq_append, ← halts]
    exact ih _ _

theorem assignConstsU_eq (ε : ℝ) (consts : List (DP × List Alt)) (nvl : ℝ) (T : TagsU) :
    assignConstsU consts nvl T = (assignSeq uStore false ε (pairsOf consts) nvl T).1 := by
  rw [assignSeq_false, pairsOf, List.foldl_flatMap]
  induction consts generalizing T with
  | nil => rfl
  | cons p r ih => rw [assignConstsU, List.foldl_cons, List.foldl_map]; exact ih _

theorem nAlts_eq (l : List (DP × List Alt)) : nAlts l = (pairsOf l).length := by
  unfold nAlts pairsOf
  rw [← List.sum_eq_foldl, List.length_flatMap]
  simp

theorem massU_eq (T : TagsU) : massU T = massU' (fun _ => true) T := by
  unfold massU massU' inner wsum
  rw [sumL_eq]
  congr 1
  apply List.map_congr_left
  intro e _
  rw [sumL_eq]; simp

theorem tagNTU_eq_rest (v ε : ℝ) (tvo : Bool) (tags0 : TagsU) (vars consts : List (DP × List Alt))
    (h : 0 < vars.length + consts.length) :
    tagNTU v ε tvo tags0 vars consts = tagRest uStore v ε tvo tags0 (pairsOf vars) (pairsOf consts) := by
  unfold tagNTU tagRest
  simp only [isEmpty_or_eq_true h, if_true, massU_eq, assignVarsU_eq, assignConstsU_eq ε, nAlts_eq, pos_real,
    log_real, ofNat_real, Nat.cast_add]
  by_cases hp : 0 < massU' (fun _ => true) tags0 <;> simp [hp, uStore]

end ULayer

/-! ### one entry of `tensor2logProbDet` -/
section EntryDet

/-- the entry of the slice `y` that the first loop reads for the rule `P` -/
noncomputable def yAt (sym : AList DP ℕ) (y : List ℝ) (P : DP) : ℝ :=
  match AList.lookup P sym with
  | some i => y.getD i 0
  | none => 0

theorem yAt_eq {sym : AList DP ℕ} {y : List ℝ} {P : DP} {i : ℕ} {t : ℝ}
    (hs : AList.lookup P sym = some i) (hy : y[i]? = some t) : yAt sym y P = t := by
  simp [yAt, hs, hy]

theorem kindIs_iff {k : Kind} {P : DP} : kindIs k P = true ↔ P.kind = k := decide_eq_true_iff

/-- what the first loop (det 162-166) builds: `tags[S][P] = y[symbol2index[P]]` for the primitive rules, in order -/
theorem primTags_eq (sym : AList DP Nat) (y : List ℝ) (ks : List DP) (T T' : AList DP ℝ)
    (h : primTags sym y ks T = some T') :
    T' = (ks.filter (kindIs .prim)).foldl (fun T P => AList.insert P (yAt sym y P) T) T
      ∧ ∀ P ∈ ks, P.kind = .prim → ∃ i, AList.lookup P sym = some i ∧ y[i]? = some (yAt sym y P) := by
  fun_induction primTags sym y ks T with
  | case1 T => cases h; simp
  | case2 | case3 => cases h
  | case4 P r T hk i hs t hy ih =>
    obtain ⟨i1, i2⟩ := ih h
    have hyat := yAt_eq hs hy
    exact ⟨by simp [i1, kindIs, hk, hyat], List.forall_mem_cons.mpr ⟨fun _ => ⟨i, hs, hyat ▸ hy⟩, i2⟩⟩
  | case5 P r T hk ih =>
    obtain ⟨i1, i2⟩ := ih h
    exact ⟨by simp [i1, kindIs, hk], List.forall_mem_cons.mpr ⟨fun h => absurd h hk, i2⟩⟩

theorem epsTerm_real (ε : ℝ) (tvo : Bool) (m c : ℕ) :
    epsTerm ε tvo m c = eff tvo ε * (tri m + c * m) := by
  cases tvo
  · exact Nat.cast_zero.trans (zero_mul _).symm
  · simp only [epsTerm, eff, tri, if_true, ofNat_real, Nat.cast_add, Nat.cast_mul]

theorem epsTerm_zero (ε : ℝ) (tvo : Bool) : epsTerm ε tvo 0 0 = 0 := by
  cases tvo <;> simp [epsTerm]

theorem specNorm_real (ε : ℝ) (tvo : Bool) (m c : ℕ) : specNorm ε tvo m c = 1 - epsTerm ε tvo m c := by
  simp [specNorm]

theorem specVarMass_real (v ε : ℝ) (tvo : Bool) (np m c : ℕ) :
    specVarMass v ε tvo (decide (0 < np)) m c = (if 0 < np then v else 1) - epsTerm ε tvo m c := by
  simp [specVarMass]

theorem hypEps_real {v ε : ℝ} {tvo hasPrim : Bool} {m c : ℕ} (hv0 : 0 < v) (hmc : 0 < m + c)
    (h : hypEps v ε tvo hasPrim m c = true) :
    (m : ℝ) * eff tvo ε * ((m : ℝ) + c) < (if hasPrim then v else 1) := by
  have hmc' : (0 : ℝ) < (m : ℝ) + c := by exact_mod_cast hmc
  cases tvo with
  | false => cases hasPrim <;> simp [eff, hv0]
  | true =>
    simp only [hypEps, Bool.not_true, Bool.false_or, pos_real, ofNat_real, Nat.cast_add, Nat.cast_one, sub_pos,
      lt_div_iff₀ hmc'] at h
    simpa [eff] using h

theorem nodup_filter_append {β γ : Type} (f : β → γ) (p q : β → Bool) {l : List β} (hnd : (l.map f).Nodup)
    (hpq : ∀ a, p a = true → q a = true → False) : ((l.filter p ++ l.filter q).map f).Nodup := by
  rw [List.map_append, List.nodup_append]
  refine ⟨hnd.sublist (List.filter_sublist.map f), hnd.sublist (List.filter_sublist.map f), ?_⟩
  simp only [List.mem_map, List.mem_filter]
  rintro _ ⟨a, ⟨ha, hpa⟩, rfl⟩ _ ⟨b, ⟨hb, hqb⟩, rfl⟩ hab
  rw [List.inj_on_of_nodup_map hnd ha hb hab] at hpa
  exact hpq b hpa hqb

theorem mass_map_pos_iff (l : List DP) (f : DP → ℝ) :
    0 < mass (fun _ => true) (l.map (fun P => (P, f P))) ↔ 0 < l.length := by
  cases l with
  | nil => simp [mass]
  | cons a r => simpa using mass_true_pos (List.cons_ne_nil _ _)

theorem posOf_eq {L : Layer} {S : NT} {P : DP} {key : Abs} {start length i : ℕ} {sym : AList DP ℕ}
    (h1 : AList.lookup S L.real2abs = some key) (h2 : AList.lookup key L.abs2index = some (start, length, sym))
    (hs : AList.lookup P sym = some i) : posOf L S P = some (start + i) := by
  simp [posOf, h1, h2, hs]

theorem tagEntryDet_some {L : Layer} {v ε : ℝ} {tvo : Bool} {x : List ℝ} {e : NT × AList DP (List NT)}
    {t : NT × AList DP ℝ} (h : tagEntryDet L v ε tvo x e = some t) (hnd : (AList.keys e.2).Nodup) :
    ∃ key start length sym, AList.lookup e.1 L.real2abs = some key
      ∧ AList.lookup key L.abs2index = some (start, length, sym)
      ∧ (∀ P ∈ AList.keys e.2, P.kind = .prim →
          ∃ i, AList.lookup P sym = some i ∧ (slice x start length)[i]? = some (yAt sym (slice x start length) P))
      ∧ t = (e.1, tagNT v ε tvo
          (((AList.keys e.2).filter (kindIs .prim)).map (fun P => (P, yAt sym (slice x start length) P)))
          ((AList.keys e.2).filter (kindIs .var)) ((AList.keys e.2).filter (kindIs .const))) := by
  revert h
  fun_cases tagEntryDet L v ε tvo x e with
  | case1 | case2 | case3 => intro h; cases h
  | case4 key h1 start length sym h2 y prim h3 =>
    rintro ⟨⟩
    obtain ⟨rfl, hy⟩ := primTags_eq sym _ _ [] prim h3
    rw [AList.foldl_insert_key _ (hnd.sublist List.filter_sublist)]
    exact ⟨key, start, length, sym, h1, h2, hy, rfl⟩

theorem varsConsts_fresh {ks : List DP} (hnd : ks.Nodup) (f : DP → ℝ) :
    (ks.filter (kindIs .var) ++ ks.filter (kindIs .const)).Nodup
    ∧ ∀ P ∈ ks.filter (kindIs .var) ++ ks.filter (kindIs .const),
        P.kind ≠ .prim ∧ AList.lookup P ((ks.filter (kindIs .prim)).map (fun P => (P, f P))) = none := by
  have h1 := nodup_filter_append id (kindIs .var) (kindIs .const) (by simpa using hnd)
    (fun a h1 h2 => by
      rw [kindIs_iff] at h1 h2; rw [h1] at h2; cases h2)
  refine ⟨by simpa using h1, fun P hP => ?_⟩
  have hk : P.kind ≠ .prim := by
    rcases List.mem_append.mp hP with h | h <;> simp [kindIs] at h <;> simp [h.2]
  exact ⟨hk, by simp [lookup_map_graph, kindIs, hk]⟩

theorem tagEntryDet_vars {L : Layer} {v ε : ℝ} {tvo : Bool} {x : List ℝ}
    {e : NT × AList DP (List NT)} {t : NT × AList DP ℝ}
    (h : tagEntryDet L v ε tvo x e = some t)
    (hv0 : 0 < v) (hv1 : v < 1) (hε : 0 ≤ ε) (hnd : (AList.keys e.2).Nodup)
    (hmc : 0 < countKind .var e.2 + countKind .const e.2)
    (hhyp : hypEps v ε tvo (decide (0 < countKind .prim e.2)) (countKind .var e.2) (countKind .const e.2) = true)
    (sel : DP → Bool) (bp b : Bool)
    (hselp : ∀ P : DP, P.kind = .prim → sel P = bp) (hselv : ∀ P : DP, P.kind ≠ .prim → sel P = b) :
    mass sel t.2 = (if bp then 1 - (if 0 < countKind .prim e.2 then v else 1) else 0)
      + (if b then (if 0 < countKind .prim e.2 then v else 1)
                    - epsTerm ε tvo (countKind .var e.2) (countKind .const e.2) else 0) := by
  obtain ⟨key, start, length, sym, -, -, -, rfl⟩ := tagEntryDet_some h hnd
  set prim := ((AList.keys e.2).filter (kindIs .prim)).map (fun P => (P, yAt sym (slice x start length) P))
  have hnp : 0 < mass (fun _ => true) prim ↔ 0 < countKind .prim e.2 := mass_map_pos_iff _ _
  have hsel0 : mass sel prim = if bp then mass (fun _ => true) prim else 0 :=
    mass_of_sel sel bp prim (fun P hP => hselp P (by
      rw [keys_map_key] at hP; exact kindIs_iff.mp (List.mem_filter.mp hP).2))
  obtain ⟨hnd', hfresh⟩ := varsConsts_fresh hnd (yAt sym (slice x start length))
  have heps := hypEps_real hv0 hmc hhyp
  simp only [decide_eq_true_eq, ← hnp] at heps
  have := (tagRest_spec detStore tvo prim _ _ hv0 hv1 hε hnd' hmc heps).2.2 sel bp b
    (fun P hP => (hfresh P hP).2) hsel0 (fun P hP => hselv P (hfresh P hP).1)
  rw [tagNT_eq_rest _ _ _ _ _ _ hmc, epsTerm_real]
  simp only [hnp] at this
  exact this

theorem tagEntryDet_novars {L : Layer} {v ε : ℝ} {tvo : Bool} {x : List ℝ}
    {e : NT × AList DP (List NT)} {t : NT × AList DP ℝ}
    (h : tagEntryDet L v ε tvo x e = some t) (hnd : (AList.keys e.2).Nodup)
    (hmc : countKind .var e.2 + countKind .const e.2 = 0) (hnp : 0 < countKind .prim e.2) :
    mass (fun _ => true) t.2 = 1 := by
  obtain ⟨key, start, length, sym, -, -, -, rfl⟩ := tagEntryDet_some h hnd
  have hpos := (mass_map_pos_iff _ (yAt sym (slice x start length))).mpr hnp
  obtain ⟨hv, hc⟩ := nil_of_length_add hmc
  rw [hv, hc, tagNT_nil v ε tvo hpos]
  exact (mass_shift_norm detStore _ hpos one_pos _ true (if_pos rfl).symm).trans (if_pos rfl)

/-- The entry the primitive rule `P` of `S` reads is the position `posOf L S P` that `encode` marks;
    its weight is the re-normalised softmax over the primitive rules derivable from `S`:
    `exp(tag) = c · exp(y_P) / Σ_Q exp(y_Q)`. -/
theorem tagEntryDet_prim {L : Layer} {v ε : ℝ} {tvo : Bool} {x : List ℝ}
    {e : NT × AList DP (List NT)} {t : NT × AList DP ℝ}
    (h : tagEntryDet L v ε tvo x e = some t) (hnd : (AList.keys e.2).Nodup) :
    ∃ key start length sym, AList.lookup e.1 L.real2abs = some key
      ∧ AList.lookup key L.abs2index = some (start, length, sym)
      ∧ ∀ P ∈ AList.keys e.2, P.kind = .prim →
        ∃ i, AList.lookup P sym = some i ∧ posOf L e.1 P = some (start + i)
          ∧ (slice x start length)[i]? = some (yAt sym (slice x start length) P)
          ∧ AList.lookup P t.2 = some (yAt sym (slice x start length) P + Real.log
              ((if countKind .var e.2 + countKind .const e.2 = 0 then 1 else 1 - v)
                / mass (fun _ => true) (((AList.keys e.2).filter (kindIs .prim)).map
                    (fun P => (P, yAt sym (slice x start length) P))))) := by
  obtain ⟨key, start, length, sym, h1, h2, hy, rfl⟩ := tagEntryDet_some h hnd
  refine ⟨key, start, length, sym, h1, h2, fun P hP hk => ?_⟩
  obtain ⟨i, hs, hyi⟩ := hy P hP hk
  have hmem : P ∈ (AList.keys e.2).filter (kindIs .prim) := by simp [hP, kindIs, hk]
  refine ⟨i, hs, posOf_eq h1 h2 hs, hyi, ?_⟩
  rw [tagNT_lookup_prim _ _ _ _ _ _ ((List.map_eq_nil_iff.not.mpr (List.ne_nil_of_mem hmem))) P
    (by simp [kindIs, hk]), lookup_map_graph, if_pos hmem]
  rfl

end EntryDet

/-! ### one entry of `tensor2logProbU` -/
section EntryU

/-- the tags that the first loop of the U-layer (u 187-196) gives to the alternatives of the rule `P` -/
noncomputable def altTags (sym : AList DP ℕ) (y : List ℝ) (P : DP) (alts : List Alt) : AList Alt ℝ :=
  if P.kind = .prim then alts.map (fun k => (k, yAt sym y P)) else []

/-- `for k in alts: tags[S][P][k] = t` after `tags[S][P] = d` -/
theorem foldl_setInner_insert (P : DP) (t : ℝ) (T : TagsU) :
    ∀ (alts : List Alt) (d : AList Alt ℝ),
      alts.foldl (fun T k => setInner T P k t) (AList.insert P d T)
        = AList.insert P (alts.foldl (fun d k => AList.insert k t d) d) T
  | [], _ => rfl
  | k :: r, d => by
    rw [List.foldl_cons, List.foldl_cons, ← foldl_setInner_insert P t T r]
    simp [setInner, AList.lookup_insert_self, AList.insert_insert]

theorem primTagsU_eq (sym : AList DP Nat) (y : List ℝ) (rows : List (DP × List Alt)) (T T' : TagsU)
    (halts : ∀ r ∈ rows, r.2.Nodup) (h : primTagsU sym y rows T = some T') :
    T' = rows.foldl (fun T r => AList.insert r.1 (altTags sym y r.1 r.2) T) T
      ∧ ∀ r ∈ rows, r.1.kind = .prim → r.2 ≠ [] →
          ∃ i, AList.lookup r.1 sym = some i ∧ y[i]? = some (yAt sym y r.1) := by
  fun_induction primTagsU sym y rows T with
  | case1 T => cases h; simp
  | case2 | case4 => cases h
  | case3 P r T0 T hk i hs ih =>
    obtain ⟨i1, i2⟩ := ih (fun r hr => halts r (List.mem_cons_of_mem _ hr)) h
    exact ⟨by rw [i1, List.foldl_cons]; simp [altTags, T], List.forall_mem_cons.mpr ⟨fun _ h => absurd rfl h, i2⟩⟩
  | case5 P r T0 T hk i hs k0 ks t hy ih =>
    rw [foldl_setInner_insert, AList.foldl_insert_key _ (halts _ (List.mem_cons_self ..))] at h ih
    obtain ⟨i1, i2⟩ := ih (fun r hr => halts r (List.mem_cons_of_mem _ hr)) h
    have hyat := yAt_eq hs hy
    exact ⟨by rw [i1, List.foldl_cons]; simp [altTags, hk, hyat],
      List.forall_mem_cons.mpr ⟨fun _ _ => ⟨i, hs, hyat ▸ hy⟩, i2⟩⟩
  | case6 P alts r T0 T hk ih =>
    obtain ⟨i1, i2⟩ := ih (fun r hr => halts r (List.mem_cons_of_mem _ hr)) h
    exact ⟨by rw [i1, List.foldl_cons]; simp [altTags, hk, T], List.forall_mem_cons.mpr ⟨fun h => absurd h hk, i2⟩⟩

theorem inner_map_const (alts : List Alt) (t : ℝ) :
    inner (alts.map (fun k => (k, t))) = alts.length * Real.exp t := by
  induction alts with
  | nil => simp [inner]
  | cons k r ih => simp only [inner, List.map_cons, wsum_cons, List.length_cons] at ih ⊢; rw [ih]; push_cast; ring

theorem massU'_rows (sym : AList DP ℕ) (y : List ℝ) (sel : DP → Bool) (rows : List (DP × List Alt)) :
    massU' sel (rows.map (fun r => (r.1, altTags sym y r.1 r.2)))
      = ((rows.filter (fun r => kindIs .prim r.1)).map
          (fun r => if sel r.1 then (r.2.length : ℝ) * Real.exp (yAt sym y r.1) else 0)).sum := by
  induction rows with
  | nil => rfl
  | cons r rest ih =>
    simp only [massU', List.map_cons, wsum_cons] at ih ⊢
    rw [ih]
    by_cases hk : r.1.kind = .prim <;>
      simp [List.filter_cons, kindIs, hk, altTags, inner_map_const, show inner [] = 0 from rfl]

theorem tagNTU_nil (v ε : ℝ) (tvo : Bool) (tags0 : TagsU) :
    tagNTU v ε tvo tags0 [] [] = addAllU tags0 (Real.log (1 / massU' (fun _ => true) tags0)) := by
  simp only [tagNTU, massU_eq, List.isEmpty_nil, Bool.not_true, Bool.or_self, Bool.false_eq_true, if_false,
    log_real, ofNat_real, Nat.cast_one]

theorem tagNTU_lookup_prim (v ε : ℝ) (tvo : Bool) (tags0 : TagsU) (vars consts : List (DP × List Alt))
    (hpos : 0 < massU' (fun _ => true) tags0) (q : DP × Alt) (hq : q ∉ pairsOf vars ++ pairsOf consts) :
    innerLookup (tagNTU v ε tvo tags0 vars consts) q.1 q.2
      = (innerLookup tags0 q.1 q.2).map
          (· + Real.log ((if vars.length + consts.length = 0 then 1 else 1 - v) / massU' (fun _ => true) tags0)) := by
  by_cases h : vars.length + consts.length = 0
  · rw [if_pos h]
    obtain ⟨rfl, rfl⟩ := nil_of_length_add h
    rw [tagNTU_nil]
    exact uStore.get_shift tags0 _ q
  · rw [tagNTU_eq_rest _ _ _ _ _ _ (Nat.pos_of_ne_zero h), if_neg h]
    exact tagRest_get_other uStore v ε tvo tags0 _ _ q hq hpos

theorem mem_pairsOf {l : List (DP × List Alt)} {p : DP × Alt} :
    p ∈ pairsOf l ↔ ∃ r ∈ l, p.1 = r.1 ∧ p.2 ∈ r.2 := by
  unfold pairsOf
  simp only [List.mem_flatMap, List.mem_map]
  constructor
  · rintro ⟨r, hr, k, hk, rfl⟩; exact ⟨r, hr, rfl, hk⟩
  · rintro ⟨r, hr, h1, h2⟩; exact ⟨r, hr, p.2, h2, by rw [← h1]⟩

theorem pairsOf_nodup (l : List (DP × List Alt)) (hk : (l.map (·.1)).Nodup) (ha : ∀ r ∈ l, r.2.Nodup) :
    (pairsOf l).Nodup :=
  AList.nodup_flatMap (List.Nodup.of_map _ hk) (fun r hr => (ha r hr).map fun a b hab => by simpa using hab)
    fun r hr r' hr' z hz hz' => by
      obtain ⟨k, _, rfl⟩ := List.mem_map.mp hz
      obtain ⟨k', _, e⟩ := List.mem_map.mp hz'
      exact List.inj_on_of_nodup_map hk hr hr' (congrArg Prod.fst e).symm

theorem nAlts_pos_iff (l : List (DP × List Alt)) : 0 < nAlts l ↔ ∃ r ∈ l, r.2 ≠ [] := by
  rw [nAlts_eq, List.length_pos_iff_exists_mem]
  constructor
  · rintro ⟨p, hp⟩
    obtain ⟨r, hr, _, h2⟩ := mem_pairsOf.mp hp
    exact ⟨r, hr, List.ne_nil_of_mem h2⟩
  · rintro ⟨r, hr, hne⟩
    obtain ⟨a, ha⟩ := List.exists_mem_of_ne_nil _ hne
    exact ⟨(r.1, a), mem_pairsOf.mpr ⟨r, hr, rfl, ha⟩⟩

theorem countAlts_pos_iff (k : Kind) (rows : AList DP (List Alt)) :
    0 < countAlts k rows ↔ ∃ r ∈ rows, r.1.kind = k ∧ r.2 ≠ [] := by
  simp only [countAlts, nAlts_pos_iff, List.mem_filter, kindIs, decide_eq_true_eq, and_assoc]

theorem countKind_eq {ρ : Type} (k : Kind) (rows : AList DP ρ) :
    countKind k rows = (rows.filter (fun p => kindIs k p.1)).length := by
  simp [countKind, AList.keys, List.filter_map, Function.comp_def]

theorem countKind_total {ρ : Type} (r : AList DP ρ) :
    countKind .prim r + countKind .var r + countKind .const r = r.length := by
  induction r with
  | nil => rfl
  | cons p r ih =>
    simp only [countKind, AList.keys, List.map_cons, List.filter_cons, List.length_cons] at ih ⊢
    rcases hk : p.1.kind <;>
      simp only [kindIs, hk, reduceCtorEq, decide_true, decide_false, if_true, if_false, List.length_cons,
        Bool.false_eq_true] <;> omega

theorem countAlts_eq_zero {k : Kind} {rows : AList DP (List Alt)} (h : countKind k rows = 0) :
    countAlts k rows = 0 := by
  rw [countKind_eq, List.length_eq_zero_iff] at h
  rw [countAlts, h]; rfl

theorem sum_len_pos_iff (w : DP → ℝ) (hw : ∀ P, 0 < w P) (l : List (DP × List Alt)) :
    0 < (l.map (fun r => (r.2.length : ℝ) * w r.1)).sum ↔ 0 < nAlts l := by
  rw [nAlts_pos_iff]
  constructor
  · intro h
    obtain ⟨r, hr, hpos⟩ := List.exists_lt_of_sum_lt (l := l) (fun _ => (0 : ℝ)) (fun r => (r.2.length : ℝ) * w r.1)
      (by rwa [List.map_const', List.sum_replicate, smul_zero])
    exact ⟨r, hr, fun hn => by rw [hn, List.length_nil, Nat.cast_zero, zero_mul] at hpos; exact lt_irrefl _ hpos⟩
  · rintro ⟨r, hr, hne⟩
    refine lt_of_lt_of_le (mul_pos (Nat.cast_pos.mpr (List.length_pos_iff.mpr hne)) (hw r.1))
      (List.single_le_sum (fun x hx => ?_) _ (List.mem_map.mpr ⟨r, hr, rfl⟩))
    obtain ⟨r', _, rfl⟩ := List.mem_map.mp hx
    exact mul_nonneg (Nat.cast_nonneg _) (hw _).le

theorem tagEntryU_some {L : Layer} {v ε : ℝ} {tvo : Bool} {x : List ℝ} {e : NT × AList DP (List Alt)}
    {t : NT × TagsU} (h : tagEntryU L v ε tvo x e = some t) (hnd : (AList.keys e.2).Nodup)
    (halts : ∀ r ∈ e.2, r.2.Nodup) :
    ∃ key start length sym, AList.lookup e.1 L.real2abs = some key
      ∧ AList.lookup key L.abs2index = some (start, length, sym)
      ∧ (∀ r ∈ e.2, r.1.kind = .prim → r.2 ≠ [] →
          ∃ i, AList.lookup r.1 sym = some i ∧ (slice x start length)[i]? = some (yAt sym (slice x start length) r.1))
      ∧ t = (e.1, tagNTU v ε tvo (e.2.map (fun r => (r.1, altTags sym (slice x start length) r.1 r.2)))
          (e.2.filter (fun p => kindIs .var p.1)) (e.2.filter (fun p => kindIs .const p.1))) := by
  revert h
  fun_cases tagEntryU L v ε tvo x e with
  | case1 | case2 | case3 => intro h; cases h
  | case4 key h1 start length sym h2 y tags0 h3 =>
    rintro ⟨⟩
    obtain ⟨rfl, hy⟩ := primTagsU_eq sym _ _ [] tags0 halts h3
    rw [AList.foldl_insert_eq_map (fun r : DP × List Alt => r.1) (fun r => altTags sym (slice x start length) r.1 r.2) hnd]
    exact ⟨key, start, length, sym, h1, h2, hy, rfl⟩

theorem varsConstsU_fresh {rows : AList DP (List Alt)} (hnd : (AList.keys rows).Nodup)
    (halts : ∀ r ∈ rows, r.2.Nodup) (sym : AList DP ℕ) (y : List ℝ) :
    (pairsOf (rows.filter (fun p => kindIs .var p.1)) ++ pairsOf (rows.filter (fun p => kindIs .const p.1))).Nodup
    ∧ ∀ p ∈ pairsOf (rows.filter (fun p => kindIs .var p.1)) ++ pairsOf (rows.filter (fun p => kindIs .const p.1)),
        p.1.kind ≠ .prim
        ∧ innerLookup (rows.map (fun r => (r.1, altTags sym y r.1 r.2))) p.1 p.2 = none := by
  have h1 := nodup_filter_append (·.1) (fun p : DP × List Alt => kindIs .var p.1) (fun p => kindIs .const p.1)
    (show (rows.map (·.1)).Nodup from hnd) (fun a h1 h2 => by
      rw [kindIs_iff] at h1 h2; rw [h1] at h2; cases h2)
  have h2 := pairsOf_nodup _ h1 (fun r hr => halts r (by
    rcases List.mem_append.mp hr with h | h <;> exact List.mem_of_mem_filter h))
  simp only [pairsOf, List.flatMap_append] at h2 ⊢
  refine ⟨h2, fun p hp => ?_⟩
  have hk : p.1.kind ≠ .prim := by
    rcases List.mem_append.mp hp with h | h <;> obtain ⟨r, hr, h1, _⟩ := mem_pairsOf.mp h <;>
      simp [kindIs] at hr <;> simp [h1, hr.2]
  refine ⟨hk, ?_⟩
  rw [innerLookup, AList.lookup_map_val (altTags sym y)]
  cases AList.lookup p.1 rows <;> simp [altTags, hk]

theorem altTags_mass (sym : AList DP ℕ) (y : List ℝ) (rows : AList DP (List Alt)) :
    (0 < massU' (fun _ => true) (rows.map (fun r => (r.1, altTags sym y r.1 r.2))) ↔ 0 < countAlts .prim rows)
    ∧ ∀ (sel : DP → Bool) (bp : Bool), (∀ P : DP, P.kind = .prim → sel P = bp) →
        massU' sel (rows.map (fun r => (r.1, altTags sym y r.1 r.2)))
          = if bp then massU' (fun _ => true) (rows.map (fun r => (r.1, altTags sym y r.1 r.2))) else 0 := by
  refine ⟨?_, fun sel bp hselp => ?_⟩
  · simp only [massU'_rows, if_true]
    exact sum_len_pos_iff (fun P => Real.exp (yAt sym y P)) (fun _ => Real.exp_pos _) _
  · rw [massU'_rows, massU'_rows, List.map_congr_left (fun r hr => by
      rw [hselp r.1 (kindIs_iff.mp (List.mem_filter.mp hr).2)])]
    cases bp <;> simp

theorem tagEntryU_vars {L : Layer} {v ε : ℝ} {tvo : Bool} {x : List ℝ}
    {e : NT × AList DP (List Alt)} {t : NT × TagsU}
    (h : tagEntryU L v ε tvo x e = some t)
    (hv0 : 0 < v) (hv1 : v < 1) (hε : 0 ≤ ε) (hnd : (AList.keys e.2).Nodup)
    (halts : ∀ r ∈ e.2, r.2.Nodup)
    (hmc : 0 < countAlts .var e.2 + countAlts .const e.2)
    (hhyp : hypEps v ε tvo (decide (0 < countAlts .prim e.2)) (countAlts .var e.2) (countAlts .const e.2) = true) :
    (∀ j (hj : j < (pairsOf (e.2.filter (fun p => kindIs .var p.1))).length), ∃ tag,
        innerLookup t.2 (pairsOf (e.2.filter (fun p => kindIs .var p.1)))[j].1
          (pairsOf (e.2.filter (fun p => kindIs .var p.1)))[j].2 = some tag
        ∧ Real.exp tag = (if 0 < countAlts .prim e.2 then v else 1)
              / ((countAlts .var e.2 : ℝ) + countAlts .const e.2) - j * eff tvo ε)
    ∧ (∀ q ∈ pairsOf (e.2.filter (fun p => kindIs .const p.1)), ∃ tag,
        innerLookup t.2 q.1 q.2 = some tag
        ∧ Real.exp tag = (if 0 < countAlts .prim e.2 then v else 1)
              / ((countAlts .var e.2 : ℝ) + countAlts .const e.2) - (countAlts .var e.2 : ℝ) * eff tvo ε)
    ∧ ∀ (sel : DP → Bool) (bp b : Bool),
        (∀ P : DP, P.kind = .prim → sel P = bp) → (∀ P : DP, P.kind ≠ .prim → sel P = b) →
        massU' sel t.2 = (if bp then 1 - (if 0 < countAlts .prim e.2 then v else 1) else 0)
          + (if b then (if 0 < countAlts .prim e.2 then v else 1)
                        - epsTerm ε tvo (countAlts .var e.2) (countAlts .const e.2) else 0) := by
  obtain ⟨key, start, length, sym, -, -, -, rfl⟩ := tagEntryU_some h hnd halts
  obtain ⟨hnp, hsel0⟩ := altTags_mass sym (slice x start length) e.2
  obtain ⟨hnd', hfresh⟩ := varsConstsU_fresh hnd halts sym (slice x start length)
  have heps := hypEps_real hv0 hmc hhyp
  simp only [decide_eq_true_eq, ← hnp] at heps
  simp only [countAlts, nAlts_eq] at heps hmc
  have hmc' : 0 < (e.2.filter (fun p => kindIs .var p.1)).length + (e.2.filter (fun p => kindIs .const p.1)).length :=
    Nat.pos_of_ne_zero fun hc => by
      obtain ⟨h1, h2⟩ := nil_of_length_add hc
      rw [h1, h2] at hmc; cases hmc
  obtain ⟨c1, c2, c3⟩ := tagRest_spec uStore tvo _ _ _ hv0 hv1 hε hnd' hmc heps
  simp only [hnp, countAlts, nAlts_eq] at c1 c2 c3
  simp only [tagNTU_eq_rest _ _ _ _ _ _ hmc', epsTerm_real, countAlts, nAlts_eq]
  exact ⟨c1, c2, fun sel bp b hselp hselv => c3 sel bp b (fun p hp => (hfresh p hp).2) (hsel0 sel bp hselp)
    (fun p hp => hselv p.1 (hfresh p hp).1)⟩

theorem tagEntryU_novars {L : Layer} {v ε : ℝ} {tvo : Bool} {x : List ℝ}
    {e : NT × AList DP (List Alt)} {t : NT × TagsU}
    (h : tagEntryU L v ε tvo x e = some t) (hnd : (AList.keys e.2).Nodup) (halts : ∀ r ∈ e.2, r.2.Nodup)
    (hmc : countKind .var e.2 + countKind .const e.2 = 0) (hnp : 0 < countAlts .prim e.2) :
    massU' (fun _ => true) t.2 = 1 := by
  obtain ⟨key, start, length, sym, -, -, -, rfl⟩ := tagEntryU_some h hnd halts
  rw [countKind_eq, countKind_eq] at hmc
  obtain ⟨hv, hc⟩ := nil_of_length_add hmc
  rw [hv, hc, tagNTU_nil]
  exact (mass_shift_norm uStore _ ((altTags_mass sym _ e.2).1.mpr hnp) one_pos _ true (if_pos rfl).symm).trans
    (if_pos rfl)

end EntryU

/-! ### from one non-terminal to the grammar -/
section Grammar

theorem allSomeL_eq_optAll {β γ : Type} (f : β → Option γ) (l : List β) : allSomeL f l = optAll f l := by
  induction l with
  | nil => rfl
  | cons x xs ih => rw [allSomeL, optAll, ih]; cases f x <;> cases optAll f xs <;> rfl

theorem allSomeL_eq_some {β γ : Type} {f : β → Option γ} {l : List β} {r : List γ} :
    allSomeL f l = some r ↔ List.Forall₂ (fun a b => f a = some b) l r := by
  rw [allSomeL_eq_optAll, optAll_eq_some_iff_map, ← List.forall₂_eq_eq_eq, List.forall₂_map_left_iff,
    List.forall₂_map_right_iff]

theorem allSomeL_forall₂ {β γ : Type} {f : β → Option γ} {l : List β} {r : List γ} (h : allSomeL f l = some r) :
    List.Forall₂ (fun a b => a ∈ l ∧ f a = some b) l r :=
  (List.forall₂_and_left l r).mpr ⟨fun _ ha => ha, allSomeL_eq_some.mp h⟩

theorem allSomeL_rel {β γ δ : Type} (f : β → Option γ) (g : β → Option δ) (h : γ → δ)
    (hfg : ∀ x y, f x = some y → g x = some (h y)) (l : List β) (r : List γ) (hr : allSomeL f l = some r) :
    allSomeL g l = some (r.map h) :=
  allSomeL_eq_some.mpr (List.forall₂_map_right_iff.mpr ((allSomeL_eq_some.mp hr).imp hfg))

theorem forall₂_mem_right {β γ : Type} {R : β → γ → Prop} {l : List β} {r : List γ} (h : List.Forall₂ R l r) :
    ∀ y ∈ r, ∃ x ∈ l, R x y := by
  induction h with
  | nil => intro y hy; cases hy
  | cons hab _ ih =>
    rintro y (_ | ⟨_, hy⟩)
    · exact ⟨_, List.mem_cons_self .., hab⟩
    · obtain ⟨x, hx, hr⟩ := ih y hy
      exact ⟨x, List.mem_cons_of_mem _ hx, hr⟩

theorem forall₂_mem_left {β γ : Type} {R : β → γ → Prop} {l : List β} {r : List γ} (h : List.Forall₂ R l r) :
    ∀ x ∈ l, ∃ y ∈ r, R x y :=
  forall₂_mem_right (List.Forall₂.flip (R := fun y x => R x y) h)

theorem wfRules_mem {ρ : Type} {rules : AList NT (AList DP ρ)} (h : wfRules rules = true) :
    ∀ e ∈ rules, (AList.keys e.2).Nodup := fun e he =>
  of_decide_eq_true (List.all_eq_true.mp h e he)

theorem wfAlts_mem {rules : AList NT (AList DP (List Alt))} (h : wfAlts rules = true) :
    ∀ e ∈ rules, ∀ r ∈ e.2, r.2.Nodup := fun e he r hr =>
  of_decide_eq_true (List.all_eq_true.mp (List.all_eq_true.mp h e he) r hr)

noncomputable def expSum (d : AList DP ℝ) : ℝ := sumL (d.map (fun e => (ExpLog.exp e.2 : ℝ)))

theorem expSum_eq_mass (d : AList DP ℝ) : expSum d = mass (fun _ => true) d := total_eq d

theorem expSum_filter_eq_mass (sel : DP → Bool) (d : AList DP ℝ) :
    expSum (d.filter (fun e => sel e.1)) = mass sel d := by
  rw [expSum_eq_mass, mass, wsum_filter]
  simp only [if_true, mass]

theorem massU_filter_eq (sel : DP → Bool) (T : TagsU) :
    massU (T.filter (fun e => sel e.1)) = massU' sel T := by
  rw [massU_eq, massU', wsum_filter]
  simp only [if_true, massU']

/-- the three selectors of the property theorems: all rules, the non-primitive ones, the primitive ones -/
theorem mass_by_kind {M : (DP → Bool) → ℝ} {vp eps : ℝ}
    (hM : ∀ (sel : DP → Bool) (bp b : Bool), (∀ P : DP, P.kind = .prim → sel P = bp) →
      (∀ P : DP, P.kind ≠ .prim → sel P = b) →
      M sel = (if bp then 1 - vp else 0) + (if b then vp - eps else 0)) :
    M (fun _ => true) = 1 - eps ∧ M (fun P => decide (P.kind ≠ .prim)) = vp - eps
      ∧ M (fun P => decide (P.kind = .prim)) = 1 - vp :=
  ⟨by rw [hM _ true true (fun _ _ => rfl) (fun _ _ => rfl)]; simp,
    by rw [hM _ false true (by simp) (by simp)]; simp, by rw [hM _ true false (by simp) (by simp)]; simp⟩

end Grammar

/-! ### derivations: `reduce_derivations` is a fold over the derivation -/
section Deriv

theorem foldlO_eq_foldlM {β γ : Type} (f : β → γ → Option β) (b : β) (l : List γ) :
    foldlO f b l = l.foldlM f b := by
  induction l generalizing b with
  | nil => rfl
  | cons x xs ih => rw [foldlO, List.foldlM_cons]; cases f b x <;> simp [ih]

theorem foldlO_append {β γ : Type} (f : β → γ → Option β) (b : β) (l1 l2 : List γ) :
    foldlO f b (l1 ++ l2) = (foldlO f b l1).bind (fun b' => foldlO f b' l2) := by
  simp only [foldlO_eq_foldlM, List.foldlM_append, Option.bind_eq_bind]

/-- result of `reduceDet` expressed with the derivation -/
def viaDeriv {β : Type} (f : β → NT → DP → Option β) (v : β)
    (d : Option (List (NT × DP) × List NT × NT)) : Option (β × List NT × NT) :=
  match d with
  | none => none
  | some (l, info, next) =>
    match foldlO (fun b (sp : NT × DP) => f b sp.1 sp.2) v l with
    | none => none
    | some b => some (b, info, next)

theorem viaDeriv_eq_some {β : Type} {f : β → NT → DP → Option β} {v : β}
    {d : Option (List (NT × DP) × List NT × NT)} {r : β × List NT × NT} (h : viaDeriv f v d = some r) :
    ∃ l, d = some (l, r.2) ∧ foldlO (fun b (sp : NT × DP) => f b sp.1 sp.2) v l = some r.1 := by
  revert h
  fun_cases viaDeriv f v d with
  | case1 | case2 => intro h; cases h
  | case3 l info next b hb => rintro ⟨⟩; exact ⟨l, rfl, hb⟩

/- both functions run over the tree in the same order; what differs is when the reducer is applied, so
   each case is settled by looking at the outcome of the derivation of the arguments and of the reducer -/
theorem reduceDet_eq_both {β : Type} (rules : AList NT (AList DP (List NT))) (f : β → NT → DP → Option β) :
    (∀ (t : Prog) (v : β) (start : NT) (info : List NT),
      reduceDet rules f t v start info = viaDeriv f v (derivDet rules t start info)) ∧
    ∀ (args : List Prog) (v : β) (info : List NT) (next : NT),
      reduceDetArgs rules f args v info next = viaDeriv f v (derivDetArgs rules args info next) := by
  refine Tree.ind₂ (fun P args ih v start info => ?_)
    (fun v info next => by simp [reduceDetArgs, derivDetArgs, viaDeriv, foldlO])
    (fun a as ih1 ih2 v info next => ?_)
  · simp only [reduceDet, derivDet, ih]
    cases hd : deriveDet rules info start P with
    | none => rfl
    | some r =>
      cases hda : derivDetArgs rules args r.1 r.2 <;> cases hf : f v start P <;>
        simp [viaDeriv, foldlO, hf, hda]
  · simp only [reduceDetArgs, derivDetArgs, ih1, ih2]
    cases hd : derivDet rules a next info with
    | none => rfl
    | some r =>
      cases hda : derivDetArgs rules as r.2.1 r.2.2 <;>
        cases hf : foldlO (fun b (sp : NT × DP) => f b sp.1 sp.2) v r.1 <;>
        simp [viaDeriv, foldlO_append, hf, hda]

theorem reduceDet_eq {β : Type} (rules : AList NT (AList DP (List NT))) (f : β → NT → DP → Option β)
    (t : Prog) (v : β) (start : NT) (info : List NT) :
    reduceDet rules f t v start info = viaDeriv f v (derivDet rules t start info) :=
  (reduceDet_eq_both rules f).1 t v start info

theorem reduceDetArgs_eq {β : Type} (rules : AList NT (AList DP (List NT))) (f : β → NT → DP → Option β) :
      ∀ (args : List Prog) (v : β) (info : List NT) (next : NT),
        reduceDetArgs rules f args v info next = viaDeriv f v (derivDetArgs rules args info next) :=
  (reduceDet_eq_both rules f).2

end Deriv

/-! ### consistency of `log_probability` with the converted grammar -/
section Consistent

theorem foldlO_sim {β β' γ : Type} (φ : β → β') (f : β → γ → Option β) (g : β' → γ → Option β')
    (h : ∀ a x r, f a x = some r → g (φ a) x = some (φ r)) (l : List γ) (a r : β) (hr : foldlO f a l = some r) :
    foldlO g (φ a) l = some (φ r) := by
  fun_induction foldlO f a l with
  | case1 b => cases hr; rfl
  | case2 => cases hr
  | case3 b x xs b' hf ih => rw [foldlO, h b x b' hf]; exact ih hr

theorem tagDet_toProb (tags : AList NT (AList DP ℝ)) (S : NT) (P : DP) :
    tagDet (toProbDet tags) S P = (tagDet tags S P).map Real.exp := by
  unfold tagDet toProbDet
  rw [AList.lookup_map_val (fun _ (d : AList DP ℝ) => d.map (fun z => (z.1, (ExpLog.exp z.2 : ℝ)))) S tags]
  cases AList.lookup S tags with
  | none => rfl
  | some d => exact AList.lookup_map_val (fun _ t => (ExpLog.exp t : ℝ)) P d

theorem consistent_det (rules : AList NT (AList DP (List NT))) (start : NT) (tags : AList NT (AList DP ℝ))
    (t : Prog) (lp : ℝ) (h : logProbabilityDet rules start tags t = some lp) :
    derivWeightDet rules start (toProbDet tags) t = some (Real.exp lp) := by
  unfold logProbabilityDet at h
  rw [reduceDet_eq] at h
  split at h; · cases h
  rename_i r hr
  cases h
  obtain ⟨l, hd, hf⟩ := viaDeriv_eq_some hr
  unfold derivWeightDet
  rw [hd]
  have := foldlO_sim Real.exp _ (fun cur (sp : NT × DP) => mulTagDet (toProbDet tags) cur sp.1 sp.2)
    (fun a sp r hr => by
      simp only [addTagDet, mulTagDet, tagDet_toProb] at hr ⊢
      cases ht : tagDet tags sp.1 sp.2 with
      | none => simp [ht] at hr
      | some w => simp only [ht, Option.map_some, Option.some.injEq] at hr ⊢; rw [← hr, Real.exp_add]) l _ _ hf
  simpa using this

end Consistent

section Encode

theorem indicator_length (n : ℕ) (ps : List ℕ) : (indicator n ps).length = n := by
  simp [indicator]

theorem indicator_nil (n : ℕ) : indicator n [] = List.replicate n 0 := by
  apply List.ext_getElem
  · simp [indicator]
  · intro i h1 h2; simp [indicator]

theorem setOne_indicator (n : ℕ) (ps : List ℕ) (i : ℕ) (out : List ℕ)
    (h : setOne (indicator n ps) i = some out) : out = indicator n (ps ++ [i]) ∧ i < n := by
  unfold setOne at h
  rw [indicator_length] at h
  split at h
  · rename_i hi
    cases h
    refine ⟨List.ext_getElem (by simp [indicator]) fun j h1 h2 => ?_, hi⟩
    simp only [indicator, List.getElem_set, List.getElem_map, List.getElem_range, List.mem_append,
      List.mem_singleton]
    by_cases hij : i = j <;> simp [hij, eq_comm]
  · cases h

theorem encode_fold (L : Layer) (n : ℕ) :
    ∀ (l : List (NT × DP)) (ps : List ℕ) (out : List ℕ),
      foldlO (fun o (sp : NT × DP) => encStep L o sp.1 sp.2) (indicator n ps) l = some out →
      out = indicator n (ps ++ positionsOf L l) ∧ ∀ i ∈ positionsOf L l, i < n
  | [], ps, out, h => by cases h; simp [positionsOf]
  | sp :: rest, ps, out, h => by
    simp only [foldlO] at h
    by_cases hk : sp.2.kind = .prim
    · simp only [encStep, hk, if_true] at h
      cases hp : posOf L sp.1 sp.2 with
      | none => simp [hp] at h
      | some i =>
        cases hs : setOne (indicator n ps) i with
        | none => simp [hp, hs] at h
        | some o1 =>
          simp only [hp, hs] at h
          obtain ⟨rfl, hi⟩ := setOne_indicator n ps i o1 hs
          obtain ⟨r1, r2⟩ := encode_fold L n rest _ _ h
          rw [show positionsOf L (sp :: rest) = i :: positionsOf L rest by simp [positionsOf, hk, hp]]
          exact ⟨by rw [r1]; simp, List.forall_mem_cons.mpr ⟨hi, r2⟩⟩
    · simp only [encStep, hk, if_false] at h
      rw [show positionsOf L (sp :: rest) = positionsOf L rest by simp [positionsOf, hk]]
      exact encode_fold L n rest _ _ h

theorem encode_det (L : Layer) (rules : AList NT (AList DP (List NT))) (start : NT) (t : Prog)
    (out : List ℕ) (h : encodeDet L rules start t = some out) :
    ∃ d i n, derivDet rules t start [] = some (d, i, n)
      ∧ out = indicator L.outputSize (positionsOf L d)
      ∧ ∀ p ∈ positionsOf L d, p < L.outputSize := by
  unfold encodeDet at h
  rw [reduceDet_eq, ← indicator_nil] at h
  split at h; · cases h
  rename_i r hr
  cases h
  obtain ⟨l, hd, hf⟩ := viaDeriv_eq_some hr
  obtain ⟨r1, r2⟩ := encode_fold L L.outputSize l [] _ hf
  exact ⟨l, _, _, hd, by simpa using r1, r2⟩

end Encode

section UGrammar

theorem tensor2logProbU_some {L : Layer} {v ε : ℝ} {tvo : Bool} {rules : AList NT (AList DP (List Alt))}
    {starts : List NT} {x : List ℝ} {tags : AList NT TagsU} {st : AList NT ℝ}
    (h : tensor2logProbU L v ε tvo rules starts x = some (tags, st)) :
    allSomeL (tagEntryU L v ε tvo (normalize L.abs2index x)) rules = some tags
      ∧ startTagsU L starts (normalize L.abs2index x) = some st := by
  unfold tensor2logProbU at h
  dsimp only at h
  split at h
  · rename_i t s ht hs
    cases h
    exact ⟨ht, hs⟩
  · cases h

/-- start tags: `z + log(1 / Σ exp z)` sums to one -/
theorem startTags_norm (L : Layer) (starts : List NT) (x : List ℝ) (st : AList NT ℝ)
    (h : startTagsU L starts x = some st) (hne : st ≠ []) :
    sumL (st.map (fun e => (ExpLog.exp e.2 : ℝ))) = 1 := by
  unfold startTagsU at h
  simp only [] at h
  split at h
  · simp at h
  · rename_i d _
    simp only [Option.some.injEq] at h
    subst h
    have hd : d ≠ [] := by intro hd; subst hd; simp at hne
    have hpos : 0 < wsum (fun (_ : NT) t => Real.exp t) d := wsum_pos (fun _ _ => Real.exp_pos _) hd
    have e1 : ∀ d' : AList NT ℝ, sumL (d'.map (fun e => (ExpLog.exp e.2 : ℝ))) = wsum (fun _ t => Real.exp t) d' :=
      fun d' => by rw [sumL_eq]; simp [wsum]
    rw [e1, e1, wsum_map_scale (f := (· + _)) (fun _ t => by rw [Real.exp_add, mul_comm]), log_real, ofNat_real,
      Nat.cast_one, Real.exp_log (by positivity)]
    field_simp

theorem tagU_exp (tags : AList NT TagsU) (st : StepU) :
    tagU (expTagsU tags) st = (tagU tags st).map Real.exp := by
  unfold tagU expTagsU
  rw [AList.lookup_map_val (fun _ (d : TagsU) => d.map (fun dd => (dd.1, dd.2.map (fun z => (z.1, (ExpLog.exp z.2 : ℝ)))))) st.S tags]
  cases AList.lookup st.S tags with
  | none => rfl
  | some d =>
    simp only [Option.map_some]
    rw [AList.lookup_map_val (fun _ (a : AList Alt ℝ) => a.map (fun z => (z.1, (ExpLog.exp z.2 : ℝ)))) st.P d]
    cases AList.lookup st.P d with
    | none => rfl
    | some a => exact AList.lookup_map_val (fun _ t => (ExpLog.exp t : ℝ)) st.v a

theorem fold_add_mul_U (tags : AList NT TagsU) :
    ∀ (l : List StepU) (a r : ℝ), foldlO (addTagU tags) a l = some r →
      foldlO (mulTagU (expTagsU tags)) (Real.exp a) l = some (Real.exp r) :=
  foldlO_sim Real.exp _ _ (fun a st r hr => by
    simp only [addTagU, mulTagU, tagU_exp] at hr ⊢
    cases ht : tagU tags st with
    | none => simp [ht] at hr
    | some w => simp only [ht, Option.map_some, Option.some.injEq] at hr ⊢; rw [← hr, Real.exp_add])

/-- `exp(log_probability t)` is what `ProbUGrammar.probability` (as implemented: rule weights
    only) returns on the exponentiated tags -/
theorem consistent_u (rules : AList NT (AList DP (List Alt))) (starts : List NT)
    (tags : AList NT TagsU) (t : Prog) (lp : ℝ)
    (h : logProbabilityU rules starts tags t = some lp) :
    probabilityU rules starts (expTagsU tags) t = Real.exp lp := by
  unfold logProbabilityU at h
  unfold probabilityU
  split at h
  · simp at h
  · rename_i rs hrs
    have hstep : ∀ (S0 : NT) (r : List ℝ), reduceU rules (addTagU tags) (ExpLog.ofNat 0) t S0 = some r →
        reduceU rules (mulTagU (expTagsU tags)) (ExpLog.ofNat 1) t S0 = some (r.map Real.exp) := by
      intro S0 r hr
      unfold reduceU at hr ⊢
      refine allSomeL_rel _ _ Real.exp ?_ _ _ hr
      intro d y hd
      simpa using fold_add_mul_U tags d _ _ hd
    rw [allSomeL_rel _ _ (List.map Real.exp) hstep starts rs hrs]
    simp only []
    rw [← List.map_flatten, List.head?_map, h]
    rfl

/-- relation to the full distribution: including the start weight, the derivation found has
    probability `exp(start tag S0) · exp(log_probability t)` -/
theorem consistent_u_start (rules : AList NT (AList DP (List Alt))) (starts : List NT)
    (tags : AList NT TagsU) (st : AList NT ℝ) (t : Prog) (lp : ℝ)
    (h : logProbabilityU rules starts tags t = some lp) :
    ∃ S0 ∈ starts, ∃ d ∈ altsU rules t S0 [], ∀ s, AList.lookup S0 st = some s →
      derivWeightU (expTagsU tags) (expStartU st) S0 d = some (Real.exp s * Real.exp lp) := by
  unfold logProbabilityU at h
  split at h
  · simp at h
  · rename_i rs hrs
    have hmem : lp ∈ rs.flatten := List.mem_of_mem_head? (by rw [h]; simp)
    obtain ⟨r, hr, hlp⟩ := List.mem_flatten.mp hmem
    obtain ⟨S0, hS0, -, hf⟩ := forall₂_mem_right (allSomeL_forall₂ hrs) r hr
    refine ⟨S0, hS0, ?_⟩
    unfold reduceU at hf
    obtain ⟨d, hd, -, hfd⟩ := forall₂_mem_right (allSomeL_forall₂ hf) lp hlp
    refine ⟨d, hd, ?_⟩
    intro s hs
    unfold derivWeightU expStartU
    rw [AList.lookup_map_val (fun _ t => (ExpLog.exp t : ℝ)) S0 st, hs]
    -- the start weight is a constant factor of the product
    have h2 := foldlO_sim (Real.exp s * ·) _ (mulTagU (expTagsU tags)) (fun a st r hr => by
      simp only [mulTagU] at hr ⊢
      cases ht : tagU (expTagsU tags) st <;> simp_all [mul_assoc]) d _ _ (fold_add_mul_U tags d _ _ hfd)
    simpa using h2

theorem foldlO_map {β γ δ : Type} (f : β → δ → Option β) (g : γ → δ) (b : β) (l : List γ) :
    foldlO (fun b x => f b (g x)) b l = foldlO f b (l.map g) := by
  simp only [foldlO_eq_foldlM, List.foldlM_map]

def allStepsU (rules : AList NT (AList DP (List Alt))) (starts : List NT) (t : Prog) : List (NT × DP) :=
  ((starts.map (fun S0 => (altsU rules t S0 []).flatten)).flatten).map (fun st => (st.S, st.P))

theorem encode_u (L : Layer) (rules : AList NT (AList DP (List Alt))) (starts : List NT) (t : Prog)
    (out : List ℕ) (h : encodeU L rules starts t = some out) :
    out = indicator L.outputSize (positionsOf L (allStepsU rules starts t))
      ∧ ∀ p ∈ positionsOf L (allStepsU rules starts t), p < L.outputSize := by
  unfold encodeU at h
  rw [← indicator_nil] at h
  have h' : foldlO (fun o (sp : NT × DP) => encStep L o sp.1 sp.2) (indicator L.outputSize [])
      (allStepsU rules starts t) = some out := by
    unfold allStepsU
    rw [← foldlO_map (fun o (sp : NT × DP) => encStep L o sp.1 sp.2) (fun st : StepU => (st.S, st.P))]
    exact h
  obtain ⟨r1, r2⟩ := encode_fold L L.outputSize _ [] _ h'
  exact ⟨by simpa using r1, r2⟩

end UGrammar

end PS.Predictor
